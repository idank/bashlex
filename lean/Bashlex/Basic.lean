/-
  Basic types shared by the whole model of bashlex.

  Conventions (see DESIGN.md §4.1):
  * strings are `List Char` (`Str`) with Python slicing semantics;
  * Python behaviour outside the documented contract (TypeError, IndexError, ...) is an
    explicit outcome `Exn.foreign`, never hidden by a totalised accessor;
  * loops are structural recursion on fuel; running out of fuel is the outcome `Exn.outOfFuel`.
  This file imports nothing outside core Lean.
-/
namespace Bashlex

abbrev Str := List Char
abbrev Span := Nat × Nat

/-! ## Python-like string helpers -/
namespace Str

/-- `s[a:b]` with `0 ≤ a`, Python clamping. -/
def slice (s : Str) (a b : Nat) : Str := (s.take b).drop a
/-- `s[a:]` -/
def sliceFrom (s : Str) (a : Nat) : Str := s.drop a
/-- `s[i]` for `0 ≤ i`, `none` when Python would raise IndexError. -/
def at? (s : Str) (i : Nat) : Option Char := s[i]?
/-- `s[-1]` -/
def last? (s : Str) : Option Char := s.getLast?

/-- `s.find(c, start)`: index of the first `c` at or after `start`. -/
def findFrom (s : Str) (c : Char) (start : Nat) : Option Nat :=
  go (s.drop start) start
where
  go : Str → Nat → Option Nat
    | [], _ => none
    | x :: xs, i => if x == c then some i else go xs (i + 1)

def ofString (s : String) : Str := s.toList
def toString (s : Str) : String := String.ofList s

end Str

/-! ## character classes (exact on ASCII; non-ASCII is outside the correspondence domain) -/
def isDigit (c : Char) : Bool := '0' ≤ c && c ≤ '9'
def isLowerAscii (c : Char) : Bool := 'a' ≤ c && c ≤ 'z'
def isUpperAscii (c : Char) : Bool := 'A' ≤ c && c ≤ 'Z'
def isAlpha (c : Char) : Bool := isLowerAscii c || isUpperAscii c
def isAlnum (c : Char) : Bool := isAlpha c || isDigit c

/-- `sh_syntaxtab` classes, as set up by the `_addsyntax` calls of tokenizer.py.
    (`Gen/Lex.lean` re-derives these from the live table and a `decide` checks agreement.) -/
structure SynClass where
  dquote : Bool := false
  metac : Bool := false
  quote : Bool := false
  exp : Bool := false
  brk : Bool := false
  deriving DecidableEq, Repr, Inhabited

def synClass (c : Char) : SynClass :=
  { dquote := c == '\\' || c == '`' || c == '$' || c == '"' || c == '\n'
    metac := c == '(' || c == ')' || c == '<' || c == '>' || c == ';' || c == '&' || c == '|'
    quote := c == '"' || c == '`' || c == '\''
    exp := c == '$' || c == '<' || c == '>'
    brk := c == '(' || c == ')' || c == '<' || c == '>' || c == ';' || c == '&' || c == '|'
            || c == ' ' || c == '\t' || c == '\n' }

def shellblank (c : Char) : Bool := c == ' ' || c == '\t'

/-! ## token types (tokenizer.tokentype) -/
inductive TokType where
  | IF | THEN | ELSE | ELIF | FI | CASE | ESAC | FOR | SELECT | WHILE | UNTIL | DO | DONE
  | FUNCTION | COPROC | COND_START | COND_END | IN | BANG | TIME | TIMEOPT | TIMEIGN
  | WORD | ASSIGNMENT_WORD | REDIR_WORD | NUMBER | ARITH_CMD | ARITH_FOR_EXPRS | COND_CMD
  | AND_AND | OR_OR | GREATER_GREATER | LESS_LESS | LESS_AND | LESS_LESS_LESS | GREATER_AND
  | SEMI_SEMI | SEMI_AND | SEMI_SEMI_AND | LESS_LESS_MINUS | AND_GREATER | AND_GREATER_GREATER
  | LESS_GREATER | GREATER_BAR | BAR_AND | LEFT_CURLY | RIGHT_CURLY | EOF | LEFT_PAREN
  | RIGHT_PAREN | BAR | SEMICOLON | DASH | NEWLINE | LESS | GREATER | AMPERSAND
  deriving DecidableEq, Repr, Inhabited

namespace TokType

def all : List TokType :=
  [IF, THEN, ELSE, ELIF, FI, CASE, ESAC, FOR, SELECT, WHILE, UNTIL, DO, DONE,
   FUNCTION, COPROC, COND_START, COND_END, IN, BANG, TIME, TIMEOPT, TIMEIGN,
   WORD, ASSIGNMENT_WORD, REDIR_WORD, NUMBER, ARITH_CMD, ARITH_FOR_EXPRS, COND_CMD,
   AND_AND, OR_OR, GREATER_GREATER, LESS_LESS, LESS_AND, LESS_LESS_LESS, GREATER_AND,
   SEMI_SEMI, SEMI_AND, SEMI_SEMI_AND, LESS_LESS_MINUS, AND_GREATER, AND_GREATER_GREATER,
   LESS_GREATER, GREATER_BAR, BAR_AND, LEFT_CURLY, RIGHT_CURLY, EOF, LEFT_PAREN,
   RIGHT_PAREN, BAR, SEMICOLON, DASH, NEWLINE, LESS, GREATER, AMPERSAND]

def name : TokType → String
  | IF => "IF" | THEN => "THEN" | ELSE => "ELSE" | ELIF => "ELIF" | FI => "FI" | CASE => "CASE"
  | ESAC => "ESAC" | FOR => "FOR" | SELECT => "SELECT" | WHILE => "WHILE" | UNTIL => "UNTIL"
  | DO => "DO" | DONE => "DONE" | FUNCTION => "FUNCTION" | COPROC => "COPROC"
  | COND_START => "COND_START" | COND_END => "COND_END" | IN => "IN" | BANG => "BANG"
  | TIME => "TIME" | TIMEOPT => "TIMEOPT" | TIMEIGN => "TIMEIGN" | WORD => "WORD"
  | ASSIGNMENT_WORD => "ASSIGNMENT_WORD" | REDIR_WORD => "REDIR_WORD" | NUMBER => "NUMBER"
  | ARITH_CMD => "ARITH_CMD" | ARITH_FOR_EXPRS => "ARITH_FOR_EXPRS" | COND_CMD => "COND_CMD"
  | AND_AND => "AND_AND" | OR_OR => "OR_OR" | GREATER_GREATER => "GREATER_GREATER"
  | LESS_LESS => "LESS_LESS" | LESS_AND => "LESS_AND" | LESS_LESS_LESS => "LESS_LESS_LESS"
  | GREATER_AND => "GREATER_AND" | SEMI_SEMI => "SEMI_SEMI" | SEMI_AND => "SEMI_AND"
  | SEMI_SEMI_AND => "SEMI_SEMI_AND" | LESS_LESS_MINUS => "LESS_LESS_MINUS"
  | AND_GREATER => "AND_GREATER" | AND_GREATER_GREATER => "AND_GREATER_GREATER"
  | LESS_GREATER => "LESS_GREATER" | GREATER_BAR => "GREATER_BAR" | BAR_AND => "BAR_AND"
  | LEFT_CURLY => "LEFT_CURLY" | RIGHT_CURLY => "RIGHT_CURLY" | EOF => "EOF"
  | LEFT_PAREN => "LEFT_PAREN" | RIGHT_PAREN => "RIGHT_PAREN" | BAR => "BAR"
  | SEMICOLON => "SEMICOLON" | DASH => "DASH" | NEWLINE => "NEWLINE" | LESS => "LESS"
  | GREATER => "GREATER" | AMPERSAND => "AMPERSAND"

/-- the string value of the enum member, for the members whose value is a string
    (these are the members `_readtoken` returns bare; `token()` uses `.value` as token value) -/
def strValue : TokType → Option String
  | BANG => some "!" | AND_AND => some "&&" | OR_OR => some "||" | GREATER_GREATER => some ">>"
  | LESS_LESS => some "<<" | LESS_AND => some "<&" | LESS_LESS_LESS => some "<<<"
  | GREATER_AND => some ">&" | SEMI_SEMI => some ";;" | SEMI_AND => some ";&"
  | SEMI_SEMI_AND => some ";;&" | LESS_LESS_MINUS => some "<<-" | AND_GREATER => some "&>"
  | AND_GREATER_GREATER => some "&>>" | LESS_GREATER => some "<>" | GREATER_BAR => some ">|"
  | BAR_AND => some "|&" | EOF => some "$end" | LEFT_PAREN => some "(" | RIGHT_PAREN => some ")"
  | BAR => some "|" | SEMICOLON => some ";" | DASH => some "-" | NEWLINE => some "\n"
  | LESS => some "<" | GREATER => some ">" | AMPERSAND => some "&"
  | _ => none

/-- `tokentype(c)` for a one-character string (enum lookup by value); `none` = ValueError -/
def ofChar (c : Char) : Option TokType :=
  match c with
  | '!' => some BANG | '(' => some LEFT_PAREN | ')' => some RIGHT_PAREN | '|' => some BAR
  | ';' => some SEMICOLON | '-' => some DASH | '\n' => some NEWLINE | '<' => some LESS
  | '>' => some GREATER | '&' => some AMPERSAND
  | _ => none

/-- the name the LR engine sees (`token.type`): `$end` for EOF -/
def yaccName (t : TokType) : String := if t = EOF then "$end" else t.name

end TokType

/-- `tokenizer._reserved` (token types part) -/
def reservedTypes : List TokType :=
  [.AND_AND, .BANG, .BAR_AND, .DO, .DONE, .ELIF, .ELSE, .ESAC, .FI, .IF, .OR_OR, .SEMI_SEMI,
   .SEMI_AND, .SEMI_SEMI_AND, .THEN, .TIME, .TIMEOPT, .TIMEIGN, .COPROC, .UNTIL, .WHILE]
/-- `tokenizer._reserved` (the characters added by the loop) -/
def reservedChars : List Char := ['\n', ';', '(', ')', '|', '&', '{', '}']

/-- `valid_reserved_first_command` -/
def reservedFirstCommand : List (String × TokType) :=
  [("if", .IF), ("then", .THEN), ("else", .ELSE), ("elif", .ELIF), ("fi", .FI), ("case", .CASE),
   ("esac", .ESAC), ("for", .FOR), ("select", .SELECT), ("while", .WHILE), ("until", .UNTIL),
   ("do", .DO), ("done", .DONE), ("in", .IN), ("function", .FUNCTION), ("time", .TIME),
   ("{", .LEFT_CURLY), ("}", .RIGHT_CURLY), ("!", .BANG), ("[[", .COND_START),
   ("]]", .COND_END), ("coproc", .COPROC)]

/-! ## flags -/
inductive WordFlag where
  | HASDOLLAR | QUOTED | ASSIGNMENT | NOSPLIT | NOGLOB | COMPASSIGN | ITILDE
  | DQUOTE | NOPROCSUB | NOTILDE | NOCOMSUB | ASSIGNRHS | TILDEEXP
  deriving DecidableEq, Repr, Inhabited

def WordFlag.name : WordFlag → String
  | .HASDOLLAR => "HASDOLLAR" | .QUOTED => "QUOTED" | .ASSIGNMENT => "ASSIGNMENT"
  | .NOSPLIT => "NOSPLIT" | .NOGLOB => "NOGLOB" | .COMPASSIGN => "COMPASSIGN"
  | .ITILDE => "ITILDE" | .DQUOTE => "DQUOTE" | .NOPROCSUB => "NOPROCSUB"
  | .NOTILDE => "NOTILDE" | .NOCOMSUB => "NOCOMSUB" | .ASSIGNRHS => "ASSIGNRHS"
  | .TILDEEXP => "TILDEEXP"

/-- a set of word flags (kept duplicate-free by `addFlag`) -/
abbrev WordFlags := List WordFlag
def addFlag (fs : WordFlags) (f : WordFlag) : WordFlags := if fs.contains f then fs else fs ++ [f]

/-- `state.parserstate()`: the flags of `flags.parser` the code reads or writes -/
structure PState where
  casepat : Bool := false
  allowopnbrc : Bool := false
  dblparen : Bool := false
  subshell : Bool := false
  cmdsubst : Bool := false
  casestmt : Bool := false
  condcmd : Bool := false
  condexpr : Bool := false
  compassign : Bool := false
  assignok : Bool := false
  eoftoken : Bool := false
  regexp : Bool := false
  redirlist : Bool := false
  deriving DecidableEq, Repr, Inhabited

/-! ## tokens -/
inductive TVal where
  | none | str (s : Str) | int (n : Nat)
  deriving DecidableEq, Repr, Inhabited

structure Token where
  ttype : Option TokType := none
  value : TVal := .none
  pos : Option Span := none
  flags : WordFlags := []
  deriving DecidableEq, Repr, Inhabited

namespace Token
/-- `token(None, None)` -/
def null : Token := {}
/-- `bool(token)` -/
def truthy (t : Token) : Bool := !(t.ttype.isNone && t.value == .none)
def lexpos (t : Token) : Nat := (t.pos.getD (0, 0)).1
def endlexpos (t : Token) : Nat := (t.pos.getD (0, 0)).2
def valueStr (t : Token) : Str := match t.value with | .str s => s | _ => []
def is (t : Token) (ty : TokType) : Bool := t.ttype == some ty
end Token

/-! ## AST -/
inductive RedirIn where
  | none | num (n : Nat) | str (s : Str)
  deriving DecidableEq, Repr, Inhabited

/-- One constructor per node kind (typed fields: attribute-set conformance is a fact of the type).
    `hid`: a `<<` redirect is a mutable object while its parser runs (`makeheredoc` rewrites
    `.pos` and `.heredoc` after the node sits in the tree); while `hid = some i` its current
    `pos`/`heredoc` live in the parser's redirect store under `i`. -/
inductive Node where
  | operator (pos : Span) (op : Str)
  | reservedword (pos : Span) (word : Str)
  | pipe (pos : Span) (pipe : Str)
  | list (pos : Span) (parts : List Node)
  | pipeline (pos : Span) (parts : List Node)
  | compound (pos : Span) (list : List Node) (redirects : List Node)
  | ifN (pos : Span) (parts : List Node)
  | forN (pos : Span) (parts : List Node)
  | whileN (pos : Span) (parts : List Node)
  | untilN (pos : Span) (parts : List Node)
  | caseN (pos : Span) (parts : List Node)
  | pattern (pos : Span) (parts : List Node)
  | command (pos : Span) (parts : List Node)
  | function (pos : Span) (nameIdx : Nat) (bodyIdx : Nat) (parts : List Node)
  | redirect (pos : Span) (input : RedirIn) (type : Str) (outNode : Option Node)
      (outAlt : RedirIn) (heredoc : Option Node) (hid : Option Nat)
  | word (pos : Span) (word : Str) (parts : List Node)
  | assignment (pos : Span) (word : Str) (parts : List Node)
  | parameter (pos : Span) (value : Str)
  | tilde (pos : Span) (value : Str)
  | heredoc (pos : Span) (value : Str)
  | commandsubstitution (pos : Span) (command : Node)
  | processsubstitution (pos : Span) (command : Node)
  | unimplemented (pos : Span) (parts : List Node)
  deriving Repr, Inhabited

namespace Node

def kind : Node → String
  | operator .. => "operator" | reservedword .. => "reservedword" | pipe .. => "pipe"
  | list .. => "list" | pipeline .. => "pipeline" | compound .. => "compound"
  | ifN .. => "if" | forN .. => "for" | whileN .. => "while" | untilN .. => "until"
  | caseN .. => "case" | pattern .. => "pattern" | command .. => "command"
  | function .. => "function" | redirect .. => "redirect" | word .. => "word"
  | assignment .. => "assignment" | parameter .. => "parameter" | tilde .. => "tilde"
  | heredoc .. => "heredoc" | commandsubstitution .. => "commandsubstitution"
  | processsubstitution .. => "processsubstitution" | unimplemented .. => "unimplemented"

/-- the `pos` attribute as stored in the node (for a pending here-document redirect the current
    value is in the store, see `Local.store`) -/
def pos : Node → Span
  | operator p _ | reservedword p _ | pipe p _ | list p _ | pipeline p _ | compound p _ _
  | ifN p _ | forN p _ | whileN p _ | untilN p _ | caseN p _ | pattern p _ | command p _
  | function p _ _ _ | redirect p _ _ _ _ _ _ | word p _ _ | assignment p _ _ | parameter p _
  | tilde p _ | heredoc p _ | commandsubstitution p _ | processsubstitution p _
  | unimplemented p _ => p

def setPos (n : Node) (q : Span) : Node :=
  match n with
  | operator _ a => operator q a | reservedword _ a => reservedword q a | pipe _ a => pipe q a
  | list _ a => list q a | pipeline _ a => pipeline q a | compound _ a b => compound q a b
  | ifN _ a => ifN q a | forN _ a => forN q a | whileN _ a => whileN q a | untilN _ a => untilN q a
  | caseN _ a => caseN q a | pattern _ a => pattern q a | command _ a => command q a
  | function _ a b c => function q a b c
  | redirect _ a b c d e f => redirect q a b c d e f
  | word _ a b => word q a b | assignment _ a b => assignment q a b | parameter _ a => parameter q a
  | tilde _ a => tilde q a | heredoc _ a => heredoc q a
  | commandsubstitution _ a => commandsubstitution q a
  | processsubstitution _ a => processsubstitution q a | unimplemented _ a => unimplemented q a

end Node

/-! ## exceptions and outcomes -/
inductive Exn where
  /-- `errors.ParsingError(message, s, position)` (including `MatchedPairError`) -/
  | parsing (msg : String) (src : Str) (pos : Int)
  | notImplemented (what : String)
  /-- any other Python exception: type name and the bashlex function raising it -/
  | foreign (ty : String) (site : String)
  | outOfFuel (site : String)
  deriving DecidableEq, Repr, Inhabited

/-- `ParsingError.__init__` asserts `position <= len(s)`; a failing assert is an AssertionError -/
def mkParsingError (msg : String) (src : Str) (pos : Int) : Exn :=
  if pos ≤ (src.length : Int) then .parsing msg src pos
  else .foreign "AssertionError" "ParsingError.__init__"

end Bashlex
