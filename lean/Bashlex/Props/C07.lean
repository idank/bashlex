/-
  C07 — "substitutions are parsed compositionally and only where the shell expands", model level.

  The statements are about ONE WORD TOKEN `tok` (value `v = tok.valueStr`, position
  `k = tok.lexpos`) and an ARBITRARY nested parser `np` (the parameter of `expandword`), of which
  only `NPSpec R np` is assumed: every node `np body dolparen` returns is an `R`-answer for
  `(body, dolparen)`.  That makes them compositional by construction; `R := RNested d` is the
  instance for the real parser (`parserRun (d+1)` runs with `np = nestedOf d`).

  ## Results (all for every token, every state of the parser object, every environment)

  * `sat_expandwordinternal` (`C07/Word.lean`): the parts `_expandwordinternal` returns are those
    of a scan trace `Reach` over `v` — heads, and what was emitted at each head — shifted by `k`.
    At an *opener* head (`opener v q i fl`: `$(`, `<(`/`>(` when the word does not start with a
    double quote, a backquote not followed by a backquote) a substitution node is emitted whose
    command is an `R`-answer; every other head is the pure function `plainStep`.
  * **`C07_word`** (compositional core + spans + order): `expandword np tok` returns
    `word (k, kend) _ parts` with `PartsOK`:
      - every substitution part is a `SubstNode`:
        `$(`/`<(`/`>(` at offset `i`: `np` was called on `v.drop (i+2)` with `dolparen = true`,
        returned `n`; the part is `commandsubstitution|processsubstitution
        (k+i, k+i+2+dolEnd(…)+1) (n.shift (k+i+2))`;
        backquote at `i`, closing at `x` = first backquote after `i`: `np` was called on
        `v[i+1:x]` with `dolparen = false`, returned `n`; the part is
        `commandsubstitution (k+i, k+x+1) (n.shift (k+i+1))`;
        i.e. "the command subtree equals the nested parser's answer on the enclosed text,
        shifted to its offset";
      - every other part is a parameter or tilde node;
      - the parts are ordered and disjoint, non-empty, inside the word's span.
  * **`C07_exact`**: in a trace, a substitution node is emitted at a head **iff** the head is an
    opener (flags: the token's, or `[ITILDE]` after a `~`); `Reach.sorted`: heads increase, a part
    emitted at a head spans from the head to the next head.
  * **`Reach.opener_accounted`** (completeness, `C07/Cover.lean`): after a full scan every opener
    occurrence `j` of the word either carries a substitution node starting at `j`, or was skipped
    by an earlier head for one of four reasons (`Skipped`): it follows a scanned backslash; it lies
    inside the span of an earlier part (a substitution body — the nested parser's business — or
    `${…}`); it is the second of a bare pair of backquotes; it was swallowed by a tilde-prefix
    scan.  `Reach.cover`: every position is a head or skipped so.  `opener_dollar_iff`,
    `opener_backquote_iff`, `opener_proc_iff`: `opener` spelled out textually.
  * **`C07_protected`**: a wholly single-quoted word, and a word in which
    every `$`, backquote, `<`, `>`, `~` follows a backslash the scan stands on (`escOK`), has
    `parts = []` — for EVERY `np` (it is not consulted).  Local form:
    `Reach.escaped_not_head` — the character after a scanned backslash is never a head.
  * spans: `dollar_span_tight` (the nested node ends at the `)`: the span runs from the opener
    through that `)`), `dollar_span_loose` (D27/D9: otherwise the end is the nested node's end
    moved back over newlines, plus one — the `)` is NOT covered), `stringextract_first`
    (backquotes: the span ends after the first backquote, even an escaped one).
  * **`C07_nested`**: the instance `R = RNested d` for the real nested parser `nestedOf d`
    (`parserRun_succ`: that is the parser `parserRun (d+1)` hands to its actions);
    `RNested d body dolparen n` := `n` is what `parserRun d` returned on `Tape.ofInput body` from
    the state `nestedStart outer body dolparen` of a fresh parser object (`npspec_nested`).
    NOT proved: that such a nested run equals the stand-alone `parse body` (different tape
    location, inherited last tokens and parser-state flags, `)` as end-of-input token for
    `$(`/`<(`/`>(`, where moreover the nested parser is handed the whole rest of the word).
  * **`C07_partial`** / `C07_partial_single` / `C07_partial_subst` (trees, all inputs, all
    options, UNCONDITIONAL): in every tree `parse` / `parsesingle` returns, every word or
    assignment node — at top level and inside substitution commands at any depth — has parts
    `PartsOK (RNested d) tok.valueStr (qOf tok) …` for some nesting level `d < 64` and some token
    `tok` that the tokenizer delivered (`Delivered tok`: every `P` with `Sat nextToken P` holds
    of it — `Delivered.sat`), the node sitting at `tok`'s span moved by some `j`; so every
    substitution node of the tree is a `SubstNode`: its command is the result of a nested parser
    run on the enclosed text of `tok.valueStr`, shifted to its offset.  Proof: `C07/Prov*.lean` — every
    semantic action preserves "all word-like nodes are good" (one lemma per action function,
    found by a small walker tactic; word nodes are created only by `_expandword`, except the
    part-less delimiter word of a here-document redirect and the assignment node copied from a
    word), `LR.run_sound` for the engine, `G_resolve`, induction on the nesting budget
    (`parserRun_G`), the loop of `parse` (`parse_G`).  The token is existentially quantified:
    tying its value to the source text (`tok.valueStr` = the word's text with line continuations
    removed, D10) is a statement about the tokenizer (C04/C11) that can be transported through
    `Delivered.sat`; it is not proved here.
  * `C07/Witness.lean`: kernel-evaluated witnesses of every exclusion below.

  ## What is NOT claimed, with witnesses (all checked with `#eval` on the model, in the scratch
     file reproduced at the end of this comment, and on the Python implementation)

  * D6 — single quotes protect only a wholly quoted word: `x'$(a)'` → word parts
    `[commandsubstitution (2,6)]`.  The rule `opener` has no quote state at all; its double-quote
    twin: `a"<(b)"` → `[processsubstitution (2,6)]` (bash: no process substitution inside double
    quotes) while `"a"<(b)` → `[]` (recorded as D6-leading-dquote); only the FIRST character of
    the word (`q`) switches process substitution off.
  * D27 — `$(a )` → span `(0,4)` of 5 characters; D9 — `$(a\nb)` → span `(0,4)`, command `a`
    only: `dolEnd` (`dollar_span_loose`).  "Every command of the enclosed text present" holds
    exactly when the nested node's end is the offset of the `)` (`dollar_span_tight`).
  * D8 (`$(a && b)` → ParsingError "unexpected token ')'"), D24, D34/D35: these are facts about
    the nested parser's ANSWERS (`R`), resp. about the tokenizer; the word-level theorem holds
    regardless.  D10: offsets are offsets into the token value `v` (continuations removed).
  * a tilde prefix swallows what follows: `~$(a)"x"` → parts `[]` (`plainStep`, tilde branch:
    the cursor jumps to the end of the tilde scan; recorded under D6-unrec);
    `${x:-$(a)}` → `[parameter (0,10)]`: nothing inside `${…}` is expanded (`paramPlain`).
  * backquotes: `` `a\`b` `` → the body is `a\` (first backquote closes: `stringextract_first`),
    ParsingError "unexpected EOF".

  Scratch (`lake env lean`): `show1 s` = for every word node of `(parse s {}).1`, its `word` and
  the (kind, pos, command kind/pos) of its parts:
    x'$(a)'      [("x$(a)", [("commandsubstitution", (2, 6), some ("command", 4, 5))]), ("a", [])]
    a"<(b)"      [("a<(b)", [("processsubstitution", (2, 6), some ("command", 4, 5))]), ("b", [])]
    "a"<(b)      [("a<(b)", [])]
    $(a )        [("$(a )", [("commandsubstitution", (0, 4), some ("command", 2, 3))]), ("a", [])]
    $(a\nb)      [("$(a\nb)", [("commandsubstitution", (0, 4), some ("command", 2, 3))]), ("a", [])]
    ~$(a)"x"     [("~$(a)x", [])]
    ${x:-$(a)}   [("${x:-$(a)}", [("parameter", (0, 10), none)])]
    `a\`b`       Exn.parsing "unexpected EOF" ['a', '\\'] 2
    a\$(b)       Exn.parsing "unexpected token 'b'" … 4      (tokenizer: `(` is a metacharacter)
    '$(a)'       [("$(a)", [])]
    a\`b\`       [("a`b`", [])]
    $(a && b)    Exn.parsing "unexpected token ')'" ['a',' ','&','&',' ','b',')'] 6
    x$(a)y`b`<(c)  [("x$(a)y`b`<(c)", [("commandsubstitution", (1, 5), …), ("commandsubstitution",
                   (6, 9), …), ("processsubstitution", (9, 13), …)]), …]
-/
import Bashlex.Props.C07.Tree
import Bashlex.Props.C07.Witness

namespace Bashlex.C07
open Bashlex Bashlex.M

/-- **C07 (model level), `parse`** — all inputs, all options: every word or assignment node of
    every returned tree, at any depth, was built from a token `tok` the tokenizer delivered, sits
    at that token's span moved by some `j`, and has parts `PartsOK` with respect to the token's
    value and the real nested parser of some level: substitution parts are `SubstNode`s
    (command = nested parser's result on the enclosed text of `tok.valueStr`, shifted to its
    offset; span from the opener to `dolEnd` / the first closing backquote), the other parts are
    parameter / tilde nodes, the parts are ordered, disjoint and inside the node's span -/
theorem C07_partial (s : Str) (o : Opts) (parts : List Node) (h : (parse s o).1 = .parts parts) :
    ∀ n ∈ parts, ∀ w ∈ n.preorder, ∀ k kend expanded ps,
      (w = .word (k, kend) expanded ps ∨ w = .assignment (k, kend) expanded ps) →
      ∃ d tok j, d < maxDepth ∧ Delivered tok ∧ k = tok.lexpos + j ∧ kend = tok.endlexpos + j ∧
        PartsOK (RNested d) tok.valueStr (qOf tok) k kend ps := by
  intro n hn
  exact (parse_G s o parts h n hn).word

/-- the same for `parsesingle` -/
theorem C07_partial_single (s : Str) (o : Opts) (n : Node)
    (h : (parsesingle s o).1 = .single (some n)) :
    ∀ w ∈ n.preorder, ∀ k kend expanded ps,
      (w = .word (k, kend) expanded ps ∨ w = .assignment (k, kend) expanded ps) →
      ∃ d tok j, d < maxDepth ∧ Delivered tok ∧ k = tok.lexpos + j ∧ kend = tok.endlexpos + j ∧
        PartsOK (RNested d) tok.valueStr (qOf tok) k kend ps :=
  (parsesingle_G s o n h).word

/-- **every substitution node of every returned tree** that sits in a word or assignment is the
    shifted result of a nested parser run on the enclosed text of a delivered token's value -/
theorem C07_partial_subst (s : Str) (o : Opts) (parts : List Node)
    (h : (parse s o).1 = .parts parts) :
    ∀ n ∈ parts, ∀ w ∈ n.preorder, ∀ k kend expanded ps,
      (w = .word (k, kend) expanded ps ∨ w = .assignment (k, kend) expanded ps) →
      ∀ p ∈ ps, isSubstitution p = true →
        ∃ d tok, d < maxDepth ∧ Delivered tok ∧ SubstNode (RNested d) tok.valueStr (qOf tok) k p := by
  intro n hn w hw k kend expanded ps hshape p hp hs
  obtain ⟨d, tok, j, hd, ht, _, _, hok⟩ := C07_partial s o parts h n hn w hw k kend expanded ps hshape
  exact ⟨d, tok, hd, ht, hok.subst p hp hs⟩

end Bashlex.C07

#print axioms Bashlex.C07.sat_expandwordinternal
#print axioms Bashlex.C07.C07_word
#print axioms Bashlex.C07.C07_exact
#print axioms Bashlex.C07.C07_exact'
#print axioms Bashlex.C07.Reach.sorted
#print axioms Bashlex.C07.Reach.opener_accounted
#print axioms Bashlex.C07.Reach.escaped_not_head
#print axioms Bashlex.C07.C07_protected
#print axioms Bashlex.C07.C07_protected_internal
#print axioms Bashlex.C07.dollar_span_tight
#print axioms Bashlex.C07.dollar_span_loose
#print axioms Bashlex.C07.stringextract_first
#print axioms Bashlex.C07.C07_nested
#print axioms Bashlex.C07.parserRun_G
#print axioms Bashlex.C07.C07_partial
#print axioms Bashlex.C07.C07_partial_single
#print axioms Bashlex.C07.C07_partial_subst
#print axioms Bashlex.C07.witness_D6
#print axioms Bashlex.C07.witness_D27
