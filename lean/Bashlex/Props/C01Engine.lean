/-
  C01 / C09: termination of the LR engine loop (`LRParser.parse`).

  RESULT.  `C01_engine_terminates_conditional`: under C03's hypothesis `RootEnds` (the only one),
  for every input with `16·(|s|+1) < 2^30` and all options, neither `parse` nor `parsesingle`
  raises `outOfFuel "LRParser.parse"` — every engine loop (top-level and nested parsers) performs
  at most `16·(|s|+1) + 1` iterations.  `C01_partial_noLRFuel_conditional`: C01's discipline without that
  marker.  Unconditional: `engine_terminates` / `engine_terminates_ord` (every token source, all
  actions, from a budget), `seq_terminates_list` (every terminal sequence: no infinite chain of
  reductions in the tables), `next_budget`, `act_exn`.

  Files
    Gen/Rank.lean                   certificate (per-state weights and ranks), written by
                                    `tools/lrrank.py` from the live tables; UNTRUSTED
    Props/C01Engine/Potential.lean  `Raw.rankCheck` (boolean check of the certificate),
                                    `pot_reduce` (a checked reduction strictly decreases the
                                    potential `Σ weight(state) + rank(top)`), `pot_shift`
    Props/C01Engine/Real.lean       `real_rankCheck` (kernel evaluation on the regenerated
                                    tables), `realK_val : realK = 16 ∧ realRk 0 = 0`, `realBound`
    Props/C01Engine/Engine.lean     `HooksBudget`, `moves_budget`, `run_budget` (over `SatS.loop_ghost`),
                                    **`engine_terminates`** (state invariant with a ghost budget)
    Props/C01Engine/EngineOrd.lean  `HooksOrdT`, **`engine_terminates_ord`** (relational invariant,
                                    = `run_sound_ord` + termination)
    Props/C01Engine/Synthetic.lean  `real_engine_terminates`, `seq_terminates(_list)`
    Props/C01Engine/TokCursor.lean  the budget law of the real tokenizer from C03's `TI`:
                                    `next_budget`, `gather_budget`, `TIb`, `tokAct_TIb`, `next_TIb`
    Props/C01Engine/RealOrd.lean    `C03.spans_hooks_core`, `BudFam`, `real_hooksOrdB_fam`,
                                    `real_run_terminates_rootEnds`
    Props/C01Engine/ActExn.lean     `act_exn` (the walk of `ActWalk.lean`): an action raises the
                                    marker only if the nested parser does on a SHORTER string
    Props/C01Engine/RealLift.lean   token values on the stack fit the line (`SIv`, `lhs_not_tok`),
                                    `real_hooksOrdB_v`, `parserRun_noLRFuel_rootEnds` (+`TokValLen`)
    Props/C01Engine/GoodFam.lean    `TokValLen` discharged from `C04.tokText` via C11's `Good`:
                                    **`parserRun_noLRFuel_rootEnds'`**
    Props/C01Engine/Validate.lean   (not imported here) cross-check by evaluation of the
                                    budget law and of `16·n + 1` on 9642 inputs
    Props/C01Engine.lean            (this file) the entry points; also
                                    `C01_engine_terminates_budget_conditional` from the abstract
                                    hypothesis `TokBudget` (it does not need `RootEnds`).
-/
import Bashlex.Props.C01Engine.Engine
import Bashlex.Props.C01Engine.Real
import Bashlex.Props.C01Engine.Synthetic
import Bashlex.Props.C01Engine.GoodFam
import Bashlex.Props.C01

namespace Bashlex.C01E
open Bashlex Bashlex.M Bashlex.LR Bashlex.C03 Bashlex.C01
-- see `Proofs/ParserLift.lean`
attribute [local irreducible] M.run runParser parse parsesingle split

/-! ## the real tables -/

/-! ## the exception that is excluded (`NoLRFuel`, `Props/C01Engine/ActExn.lean`) -/

theorem noLRFuel_term {x : Exn} (h : TermExn NoLRFuel x) : NoLRFuel x := by
  rcases h with h | h
  · exact h
  · rw [h]; intro h'; cases h'

/-! ## the hypothesis on the token source and the semantic actions -/

/-- what a token costs: nothing for EOF (the `$end` terminal), one unit otherwise -/
def tokCost' (t : Token) : Nat := if t.ttype = some .EOF then 0 else 1

theorem tokCost_sym (t : Token) : tokCost realTables (symOfTok t) = tokCost' t := by
  have hend : realTables.endTok = 0 := rfl
  unfold tokCost tokCost'
  rw [hend]
  by_cases h : t.ttype = some .EOF
  · rw [if_pos ((symOfTok_eq_zeroT t).mpr h), if_pos h]
  · rw [if_neg (fun h' => h ((symOfTok_eq_zeroT t).mp h')), if_neg h]

/-- **the hypothesis** (NOT proved here).  `J len n l e`: "the parser object runs over an input
    of length `len` and its tokenizer can deliver at most `n` more tokens other than EOF".
    * `next`: `token()` pays one unit for every token other than EOF, and raises anything but the
      engine's fuel marker;
    * `act`: a semantic action (word expansion, `gatherheredocuments` of `p_simple_list`, queueing
      a here-document, parser-state flags) does not raise the budget, PROVIDED the nested parser
      it is given keeps `J` and does not raise the fuel marker on strings SHORTER than `len`
      (this is how "the text of a substitution is shorter than the input" enters);
    * `frame`: `J` does not depend on the parser-state flags and on the `touched` set of the
      environment (a nested run changes nothing else of its caller, `C16.nestedEnv_thm`);
    * `init`: a fresh parser object over `s` has budget `|s| + 2`.
    Why a hypothesis: a token is non-empty and starts at or after the end of the previous one
    (`C03.tokSpans`, `C05.TG.tokGaps_next`), so `J len n l e := ∃ f, TI len f l e ∧ len + 1 - f ≤ n`
    is the candidate; but `TI` (with the frontier `f` explicit) is carried through the semantic
    actions only together with the whole span invariant of C03 (`spans_hooks`, where `f` is
    existentially hidden and nested parsers need `RootEnds`), and the cursor-only candidate
    `|line| - cursor ≤ n` is FALSE for `gatherheredocuments` at the end of the line without the
    queue invariant (`_getc(); _ungetc(None)` moves the cursor BACK: D32). -/
structure TokBudget (J : Nat → Nat → Local → Env → Prop) : Prop where
  next : ∀ len n, SatS nextToken (J len n)
    (fun t l e => ∃ n', n' + tokCost' t ≤ n ∧ J len n' l e) NoLRFuel
  act : ∀ len n (np : NestedParse) (f : String) (args : List SVal),
    (∀ s b m, s.length < len → SatS (np s b) (J len m) (fun _ l e => J len m l e) NoLRFuel) →
    SatS (action np f args) (J len n) (fun _ l e => ∃ n', n' ≤ n ∧ J len n' l e) NoLRFuel
  frame : ∀ len n l e ps e', J len n l e → Env.EqModStore e e' → J len n { l with ps := ps } e'
  init : ∀ s l e, InitState s l e → J s.length (s.length + 2) l e

/-! ## the hooks of the real parser -/

theorem hooks_budget {J : Nat → Nat → Local → Env → Prop} (hT : TokBudget J) (len : Nat)
    (np : NestedParse)
    (hnp : ∀ s b m, s.length < len →
      SatS (np s b) (J len m) (fun _ l e => J len m l e) NoLRFuel) :
    HooksBudget realTables (lrHooks np) (J len) NoLRFuel := by
  refine ⟨?_, ?_, ?_⟩
  · intro n
    show SatS (nextToken >>= fun t => pure (symOfTok t, SVal.tok t)) _ _ _
    refine SatS.bind (hT.next len n) (fun t => SatS.pure ?_)
    rintro l e ⟨n', hn, hj⟩
    exact ⟨n', by rw [tokCost_sym]; exact hn, hj⟩
  · intro p args n
    exact hT.act len n np _ args hnp
  · exact fun la _ => satS_onError
      (fun _ _ _ => by unfold mkParsingError; split <;> (intro h; cases h)) (by intro h; cases h) la

/-! ## one parser run, every nesting depth -/

/-- **no parser run (top-level or nested, any nesting fuel) over an input `s` with
    `16·(|s|+2) < 2^30` raises `outOfFuel "LRParser.parse"`** -/
theorem parserRun_noLRFuel {J : Nat → Nat → Local → Env → Prop} (hT : TokBudget J) :
    ∀ d s, 16 * (s.length + 2) < 1073741824 →
      SatS (parserRun d) (InitState s) (fun _ _ _ => True) NoLRFuel := by
  intro d
  induction d using parserRun_ind with
  | zero => intro s _; exact SatS.raise (noLRFuel_site (by decide))
  | succ d ih =>
    intro s hs
    -- the nested parser: keeps `J`, no fuel marker on shorter strings
    have hnp : ∀ s' b m, s'.length < s.length →
        SatS (npOf (parserRun d) s' b) (J s.length m) (fun _ l e => J s.length m l e)
          NoLRFuel := by
      intro s' b m hlt
      exact satS_exn (C16.npOf_frame (hT.frame _ _) d s' b)
        (SatS.to_sat (SatS.npOf_result (ih s' (by omega)) (initState_nested · s' b)))
    have hH := hooks_budget hT s.length (npOf (parserRun d)) hnp
    exact SatS.level ((real_engine_terminates hH 1073741824 (s.length + 2) hs).weaken
        (hT.init s) (fun _ _ _ h => h) fun _ h => noLRFuel_term h)
      (fun _ _ _ _ _ _ _ => trivial) (fun _ _ _ _ => trivial)

/-! ## the entry points -/

/-- what no parser run over a short input raises (`K·(|s|+c) < 2^30` with the constants of the run
    theorem at hand), neither `parse` nor `parsesingle` do -/
theorem entry_E {E : Exn → Prop} {short : Str → Prop} (hrun : ∀ s, short s →
      SatS (parserRun maxDepth) (InitState s) (fun _ _ _ => True) E)
    (s : Str) (o : Opts) (hs : ∀ i, short (s.drop i)) :
    (∀ x, (parse s o).1 = .exn x → E x) ∧ (∀ x, (parsesingle s o).1 = .exn x → E x) :=
  have h : ∀ i t x, (runParser (s.drop i) o t).1 = .error x → E x := fun i _ _ =>
    runParser_sat_error (hrun _ (hs i)) ⟨rfl, rfl, rfl, rfl, Or.inr ⟨rfl, rfl⟩⟩
  ⟨fun _ => parse_error_of h, fun x hx => h 0 [] x (parsesingle_error hx)⟩

theorem short_drop {c : Nat} (s : Str) (hs : 16 * (s.length + c) < 1073741824) (i : Nat) :
    16 * ((s.drop i).length + c) < 1073741824 := by
  have : (s.drop i).length ≤ s.length := by simp
  omega

/-- **C01, termination of the LR engine (conditional on `TokBudget`)**: on inputs with
    `16·(|s|+2) < 2^30` (|s| < 67 108 862 characters) neither `parse` nor `parsesingle` raises
    `outOfFuel "LRParser.parse"`, for all options — the engine loop of every parser run,
    top-level and nested, terminates within its fuel. -/
theorem C01_engine_terminates_budget_conditional {J : Nat → Nat → Local → Env → Prop}
    (hT : TokBudget J) (s : Str) (o : Opts) (hs : 16 * (s.length + 2) < 1073741824) :
    (∀ x, (parse s o).1 = .exn x → x ≠ .outOfFuel "LRParser.parse") ∧
    (∀ x, (parsesingle s o).1 = .exn x → x ≠ .outOfFuel "LRParser.parse") :=
  entry_E (short := fun s => 16 * (s.length + 2) < 1073741824)
    (fun s hs => parserRun_noLRFuel hT _ s hs) s o (short_drop s hs)

theorem short_drop_rb (s : Str) (hs : realBound (s.length + 1) < 1073741824) (i : Nat) :
    realBound ((s.drop i).length + 1) < 1073741824 := by
  have : (s.drop i).length ≤ s.length := by simp
  exact Nat.lt_of_le_of_lt (realBound_mono (by omega)) hs

/-- **C01, termination of the LR engine, for the real tokenizer and the real semantic actions**
    (constants of the checked certificate): under C03's hypothesis `RootEnds` (the only
    hypothesis), on inputs with `realBound (|s|+1) < 2^30` neither `parse` nor `parsesingle` raises
    `outOfFuel "LRParser.parse"`, for all options. -/
theorem C01_engine_terminates_gen_conditional (hR : RootEnds) (s : Str) (o : Opts)
    (hs : realBound (s.length + 1) < 1073741824) :
    (∀ x, (parse s o).1 = .exn x → x ≠ .outOfFuel "LRParser.parse") ∧
    (∀ x, (parsesingle s o).1 = .exn x → x ≠ .outOfFuel "LRParser.parse") :=
  entry_E (short := fun s => realBound (s.length + 1) < 1073741824)
    (fun s hs => parserRun_noLRFuel_rootEnds' hR _ s hs) s o (short_drop_rb s hs)

/-- **C01, termination of the LR engine, for the real tokenizer and the real semantic actions**:
    under C03's hypothesis `RootEnds` (the only hypothesis), on inputs with `16·(|s|+1) < 2^30`
    (|s| ≤ 67 108 862 characters) neither `parse` nor `parsesingle` raises
    `outOfFuel "LRParser.parse"`, for all options: the engine loop of every parser run, top-level
    and nested, performs at most `16·(|s|+1) + 1` iterations. -/
theorem C01_engine_terminates_conditional (hR : RootEnds) (s : Str) (o : Opts)
    (hs : 16 * (s.length + 1) < 1073741824) :
    (∀ x, (parse s o).1 = .exn x → x ≠ .outOfFuel "LRParser.parse") ∧
    (∀ x, (parsesingle s o).1 = .exn x → x ≠ .outOfFuel "LRParser.parse") :=
  C01_engine_terminates_gen_conditional hR s o (by rw [realBound_val]; exact hs)

/-- one top-level parser run -/
theorem C01_engine_terminates_run_conditional (hR : RootEnds) (s : Str) (o : Opts) (t : List Char) (x : Exn)
    (hs : 16 * (s.length + 1) < 1073741824) (h : (runParser s o t).1 = .error x) :
    x ≠ .outOfFuel "LRParser.parse" :=
  runParser_sat_error (parserRun_noLRFuel_rootEnds' hR _ s (by rw [realBound_val]; exact hs))
    ⟨rfl, rfl, rfl, rfl, Or.inr ⟨rfl, rfl⟩⟩ h

/-- **C01 without the engine's fuel marker** (under `RootEnds`, input below 2^26 characters):
    `parse` returns a list of nodes or raises a disciplined exception other than
    `outOfFuel "LRParser.parse"` -/
theorem C01_partial_noLRFuel_conditional (hR : RootEnds) (s : Str) (o : Opts)
    (hs : 16 * (s.length + 1) < 1073741824) :
    match (parse s o).1 with
    | .parts _ => True
    | .exn x => C01.Disciplined x ∧ x ≠ .outOfFuel "LRParser.parse"
    | _ => False :=
  parse_cases fun x hx =>
    ⟨parse_cases_exn (C01.C01_partial s o) hx, (C01_engine_terminates_conditional hR s o hs).1 x hx⟩

end Bashlex.C01E

#print axioms Bashlex.LR.real_rankCheck
#print axioms Bashlex.LR.pot_reduce
#print axioms Bashlex.LR.moves_budget
#print axioms Bashlex.LR.engine_terminates
#print axioms Bashlex.LR.engine_terminates_measure
#print axioms Bashlex.C01E.real_engine_terminates
#print axioms Bashlex.C01E.seq_terminates
#print axioms Bashlex.C01E.seq_terminates_list
#print axioms Bashlex.C01E.parserRun_noLRFuel
#print axioms Bashlex.C01E.C01_engine_terminates_budget_conditional
#print axioms Bashlex.C01E.act_exn
#print axioms Bashlex.C01E.next_budget
#print axioms Bashlex.LR.engine_terminates_ord
#print axioms Bashlex.C01E.real_run_terminates_rootEnds
#print axioms Bashlex.C01E.parserRun_noLRFuel_rootEnds
#print axioms Bashlex.C01E.parserRun_noLRFuel_rootEnds'
#print axioms Bashlex.C01E.C01_engine_terminates_conditional
#print axioms Bashlex.C01E.C01_engine_terminates_gen_conditional
#print axioms Bashlex.C01E.C01_engine_terminates_run_conditional
#print axioms Bashlex.C01E.C01_partial_noLRFuel_conditional
