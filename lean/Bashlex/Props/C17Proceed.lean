/-
  Property C17 at model level: **`C17_proceed_only_NI`**.  For all inputs and options with
  `proceed = false`: if `parse` (`parsesingle`) does not end in a `NotImplementedError`, then
  switching `proceedonerror` on changes nothing (same outcome, same syntax-table growth).
  `PI` and its closure, tokenizer, word expansion and actions are in `Props/C17Proceed/Walk.lean`
  (`PI.closed`, `pi_nextToken`, `pi_action`); here: the LR engine for arbitrary proceed-insensitive
  hooks, `parserRun` at every nesting depth (`Reads.parserRun`), `runParser`, the loop of `parse`,
  the entry points.  Kernel-checked examples:
  `Props/C17Proceed/Examples.lean`.
-/
import Bashlex.Props.C17Proceed.Walk
import Bashlex.LR.RealTables
import Bashlex.Proofs.ClosedExpand

namespace Bashlex.C17
open Bashlex Bashlex.M Bashlex.LR
-- see `Proofs/ParserLift.lean`
attribute [local irreducible] M.run runParser parse parsesingle split

/-! ## the LR engine -/

section engine
variable {V : Type} {T : Tables} {H : Hooks V}
  (hnext : PI H.next) (hact : ∀ p args, PI (H.act p args)) (herr : ∀ la, PI (H.onError la))
include hact in
theorem pi_doReduce (c : Cfg V) (p : Nat) : PI (doReduce T H c p) := by
  unfold doReduce
  split
  · exact PI.foreign _ _
  split
  · exact PI.foreign _ _
  refine PI.bind (hact _ _) fun r => ?_
  split
  split
  · exact PI.foreign _ _
  · split <;> exact PI.pure _

include hnext hact herr in
theorem pi_step (c : Cfg V) : PI (step T H c) := by
  have hr := pi_doReduce (T := T) hact
  unfold step; simp only []
  split
  · exact hr _ _
  refine PI.bind ?_ fun la => ?_
  · split
    · exact PI.pure _
    · exact hnext
  split
  · exact PI.pure _
  split
  · exact PI.bind (herr _) fun _ => PI.foreign _ _
  · split <;> exact PI.pure _
  · exact hr _ _
  · split <;> exact PI.pure _

include hnext hact herr in
theorem pi_run (fuel : Nat) : PI (LR.run T H fuel) :=
  (PI.closed walkSite).loop (PI.raise _) (pi_step hnext hact herr) _ _
end engine

/-! ## one parser run -/

theorem pi_pError (t : Token) : PI (pError t) := by
  unfold pError
  refine PI.bind (wk_tapeSource (PI.closed tokSite)) fun src => ?_
  split <;> exact PI.raise _

/-- the nested parser replaces the whole parser object and restores it afterwards -/
theorem pi_npOf {rec : M (Option Node)} (ih : PI rec) (s : Str) (b : Bool) :
    PI (C03.npOf rec s b) :=
  PI.bind PI.get fun _ => PI.bind (PI.set _) fun _ => PI.bind ih fun _ => PI.bind PI.get fun _ =>
    PI.bind (PI.set _) fun _ => PI.pure _

theorem pi_parserRun : ∀ d, PI (parserRun d) :=
  (PI.closed walkSite).toReads.parserRun (fun _ => pi_npOf) (PI.raise _) fun np hnp =>
    pi_run (H := lrHooks np) (PI.bind pi_nextToken fun _ => PI.pure _)
      (fun _ _ => pi_action hnp _ _)
      (fun ⟨_, v⟩ => by
        show PI (match v with
          | .tok t => pError t
          | _ => M.foreign "AssertionError" "p_error")
        split
        · exact pi_pError _
        · exact PI.foreign _ _) _

/-! ## the entry points -/

def isNI : Except Exn (Option Node) → Prop
  | .error (.notImplemented _) => True
  | _ => False

theorem not_isNI {r : Except Exn (Option Node)} (h : ∀ w, r ≠ .error (.notImplemented w)) :
    ¬ isNI r := by
  intro hni
  cases r with
  | ok v => exact hni
  | error x =>
    cases x with
    | notImplemented w => exact h w rfl
    | parsing a b c => exact hni
    | foreign a b => exact hni
    | outOfFuel a => exact hni

/-- one top-level run: unless it ends in a `NotImplementedError`, the option is irrelevant -/
theorem runParser_proceed (s : Str) (o : Opts) (t : List Char) (ho : o.proceed = false)
    (h : ¬ isNI (runParser s o t).1) :
    runParser s { o with proceed := true } t = runParser s o t := by
  rw [runParser_eq s o t] at h ⊢
  have hpi := pi_parserRun maxDepth { limit := o.limit } (runParserEnv s o t) ho
  rcases hr : (parserRun maxDepth).run { limit := o.limit } (runParserEnv s o t) with ⟨r, e1⟩
  rw [hr] at hpi h
  rcases hpi.2 with ⟨w, hw⟩ | h2
  · exfalso; apply h
    simp only [] at hw
    rw [hw]; exact True.intro
  · have h3 : (parserRun maxDepth).run { limit := o.limit }
        (runParserEnv s { o with proceed := true } t) = (r, setP e1) := h2
    rw [runParser_eq, h3]
    rfl

theorem parseLoop_proceed (s : Str) (o : Opts) (ho : o.proceed = false) :
    ∀ (fuel index : Nat) (parts : List Node) (t : List Char),
      (∀ w, (parseLoop s o fuel index parts t).1 ≠ .error (.notImplemented w)) →
      parseLoop s { o with proceed := true } fuel index parts t = parseLoop s o fuel index parts t := by
  intro fuel
  induction fuel with
  | zero => intro index parts t _; rfl
  | succ fuel ih =>
    intro index parts t h
    unfold parseLoop at h ⊢
    split
    · rename_i hidx
      rw [if_pos hidx] at h
      rw [runParser_proceed (s.drop index) o t ho (not_isNI fun w hw => h w (by
        rcases hr : runParser (s.drop index) o t with ⟨r, u⟩
        rw [hr] at hw; cases hw; rfl))]
      rcases hr : runParser (s.drop index) o t with ⟨r, u⟩
      rw [hr] at h
      cases r with
      | error x => rfl
      | ok v =>
        cases v with
        | none => rfl
        | some part =>
          simp only [] at h ⊢
          exact ih _ _ _ h
    · rfl

/-- **C17 (model level)**: with `proceedonerror = False`, unless `parse` raises
    `NotImplementedError`, `parse` with `proceedonerror = True` is the same (outcome and growth of
    the syntax table); and the same for `parsesingle`.  (So the option changes an outcome only by
    replacing a `NotImplementedError`; what it is replaced by is the `unimplemented` node of
    `handleNotImplemented`, or D18's `AssertionError`.) -/
theorem C17_proceed_only_NI (s : Str) (o : Opts) (ho : o.proceed = false) :
    ((∀ w, (parse s o).1 ≠ .exn (.notImplemented w)) →
      parse s { o with proceed := true } = parse s o) ∧
    ((∀ w, (parsesingle s o).1 ≠ .exn (.notImplemented w)) →
      parsesingle s { o with proceed := true } = parsesingle s o) := by
  constructor
  · intro h
    unfold parse at h ⊢
    rw [runParser_proceed s o [] ho (not_isNI fun w hw => h w (by
      rcases hr : runParser s o [] with ⟨r, u⟩
      rw [hr] at hw; cases hw; rfl))]
    rcases hr : runParser s o [] with ⟨r, u⟩
    rw [hr] at h
    cases r with
    | error x => rfl
    | ok v =>
      cases v with
      | none => rfl
      | some first =>
        simp only [] at h ⊢
        have hl : ∀ w, (parseLoop s o (s.length + 1) (max (nextIndex first) 1) [first] u).1 ≠
            .error (.notImplemented w) := by
          intro w hw
          apply h w
          rcases hl : parseLoop s o (s.length + 1) (max (nextIndex first) 1) [first] u with ⟨r2, t2⟩
          rw [hl] at hw
          simp only [] at hw
          rw [hw]
        rw [parseLoop_proceed s o ho _ _ _ _ hl]
  · intro h
    unfold parsesingle at h ⊢
    rw [runParser_proceed s o [] ho (not_isNI fun w hw => h w (by
      rcases hr : runParser s o [] with ⟨r, u⟩
      rw [hr] at hw; cases hw; rfl))]

end Bashlex.C17

#print axioms Bashlex.C17.pi_parserRun
#print axioms Bashlex.C17.C17_proceed_only_NI
