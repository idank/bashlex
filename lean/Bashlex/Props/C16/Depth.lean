/-
  C16: induction over the nesting depth.  At every depth, the parser with
  `expansionlimit = k` returns the pruned result of the (instrumented) unlimited parser; the
  parser with `expansionlimit = -1` (one level below the cut) returns a tree with the same
  skeleton, leaves the same flags behind and consumes the same input.
-/
import Bashlex.Props.C16.Keeps

namespace Bashlex.C16
open Bashlex Bashlex.Spec Bashlex.Node Bashlex.M Bashlex.LR
set_option linter.unusedSimpArgs false
attribute [local instance] stdEnvRel

/-! ## facts about the state relation -/

theorem St.of_pres {j : Int} {b : Bool} {l₁ l₁' l₂ : Local} (h : St j b l₁ l₂) (hp : Pres l₁ l₁') :
    St j b l₁' l₂ := by
  obtain ⟨h1, h2, h3, h4⟩ := h
  obtain ⟨p1, p2, p3⟩ := hp
  refine ⟨p1.symm.trans h1, p2 ▸ h2, h3, ?_⟩
  cases b
  · simp only [Bool.false_eq_true, if_false] at h4 ⊢
    rw [← (core_fields p1).2.2.2.2.1]; exact h4
  · simp only [if_true] at h4 ⊢
    exact ⟨p3 h4.1, h4.2⟩

theorem core_nestedInit {o₁ o₂ : Local} (h : core o₁ = core o₂) (s : Str) (d : Bool) :
    core (nestedInit o₁ s d) = core (nestedInit o₂ s d) := by
  obtain ⟨_, _, _, _, _, _, hps, h8, h9, h10⟩ := core_fields h
  have hp : ∀ o : Local, coreP (nestedInit o s d).ps = coreP o.ps := by
    intro o; unfold nestedInit; cases d <;> rfl
  have : ∀ o : Local, core (nestedInit o s d) =
      { tape := some (Tape.ofInput s), opts := some (true, false), lastReadToken := o.lastReadToken,
        tokenBeforeThat := o.tokenBeforeThat, twoTokensAgo := o.twoTokensAgo, ps := coreP o.ps,
        eofToken := if d then some rparenEofToken else none, limit := none } := by
    intro o
    show ({ nestedInit o s d with limit := none, ps := coreP (nestedInit o s d).ps } : Local) = _
    rw [hp]; rfl
  rw [this, this, hps, h8, h9, h10]

theorem St.nested {j : Int} {b : Bool} {o₁ o₂ : Local} (h : St j b o₁ o₂) (s : Str) (d : Bool) :
    St (j - 1) (d || b) (nestedInit o₁ s d) (nestedInit o₂ s d) := by
  obtain ⟨h1, h2, h3, h4⟩ := h
  refine ⟨core_nestedInit h1 s d, ?_, ?_, ?_⟩
  · show o₁.limit.map (· - 1) = none
    rw [h2]; rfl
  · show o₂.limit.map (· - 1) = some (j - 1)
    rw [h3]; rfl
  · cases d
    · cases b
      · simp only [Bool.or_false, Bool.false_eq_true, if_false]; rfl
      · simp only [Bool.or_true, if_true] at h4 ⊢
        exact h4
    · simp only [Bool.true_or, if_true]
      exact ⟨rfl, rfl⟩

theorem St.restore {j j' : Int} {b b' : Bool} {o₁ o₂ i₁ i₂ : Local} (ho : St j b o₁ o₂)
    (hi : St j' b' i₁ i₂) (hb : b = true → b' = true) :
    St j b { o₁ with ps := i₁.ps } { o₂ with ps := i₂.ps } := by
  obtain ⟨h1, h2, h3, h4⟩ := ho
  obtain ⟨k1, _, _, k4⟩ := hi
  have hps := (core_fields k1).2.2.2.2.2.2.1
  refine ⟨?_, h2, h3, ?_⟩
  · show ({ core o₁ with ps := coreP i₁.ps } : Local) = { core o₂ with ps := coreP i₂.ps }
    rw [h1, hps]
  · cases b
    · simp only [Bool.false_eq_true, if_false] at h4 ⊢
      exact h4
    · simp only [if_true]
      rw [hb rfl] at k4
      simpa using k4

/-- the nested parsers of the two runs, above the cut -/
theorem rel_np_St {j : Int} {b : Bool} {N : Node → Node → Prop} {rec₁ rec₂ : M (Option Node)}
    (hrec : ∀ b', Rel (St (j - 1) b') (St (j - 1) b') rec₁ rec₂ (ORel N)) :
    NPR (St j b) N (npI false rec₁) (C03.npOf rec₂) :=
  rel_npI false (S' := fun d => St (j - 1) (d || b)) (fun s d h => h.nested s d)
    (fun _ ho hi => ho.restore hi (by intro hb; simp [hb])) fun _ => hrec _

/-! ## the two relations between nested results -/

theorem nok_prune (k : Nat) : NOK (fun a b => b = pruneLimit k a) where
  pos h := by rw [h, pos_pruneLimit]
  bound h P ha := by rw [h]; exact prune_all P _ k ha
  shift h n := by rw [h, prune_shift]

theorem nok_skel : NOK Skel where
  pos h := NR.pos h
  bound h := skel_bound h
  shift h := skel_shift h

/-! ## words -/

theorem expandwordWith_skip (np : NestedParse) (tok : Token) :
    expandwordWith np tok (some (-1)) =
      pure (.word (tok.lexpos, tok.endlexpos) tok.valueStr []) := by
  unfold expandwordWith
  simp

/-- one level below the cut: the unlimited run expands (and is checked to leave the flags
    alone), the limited run returns the token as it is -/
theorem rel_expandword_skip (hF : FrameHyp) (b : Bool) (j : Int) (depth : Nat) (np₂ : NestedParse)
    (tok : Token) :
    Rel (St (-1) b) (St (-1) b) (expandword (npI true (parserRunI j depth)) tok) (expandword np₂ tok)
      (WR eraseAll eraseVal) := by
  intro l₁ l₂ e₁ e₂ hl he w l₁' e₁' hr
  obtain ⟨hp, hq, v, ps, rfl⟩ := keeps_expandword (npI_keeps hF j depth) tok l₁ e₁ w l₁' e₁' hl.2.1 hr
  refine ⟨.word (tok.lexpos, tok.endlexpos) tok.valueStr [], l₂, e₂, ?_, ?_, hl.of_pres hp,
    hq.symm.trans he⟩
  · rw [expandword_eq, run_bind, run_get]
    simp only []
    rw [hl.2.2.1, expandwordWith_skip, run_pure]
  · exact ⟨_, _, _, _, _, rfl, rfl, rfl⟩

theorem rel_expandword_cut {b : Bool} {k : Nat} {N : Node → Node → Prop} (hN : NOK N)
    {np₁ np₂ : NestedParse} (hnp : NPR (St k b) N np₁ np₂)
    (hfin : ∀ ps₁ ps₂, Forall2 (PartR N) ps₁ ps₂ → filt (some (k : Int)) ps₂ = pruneParts k ps₁)
    (tok : Token) :
    Rel (St k b) (St k b) (expandword np₁ tok) (expandword np₂ tok) (WR (prunef k) idf) := by
  rw [expandword_eq, expandword_eq]
  refine Rel.bind Rel.get ?_
  intro l₁ l₂ hl
  rw [hl.2.1, hl.2.2.1]
  refine rel_expandwordWith hN hnp tok _ _ _ ?_ ?_ ?_
  · have : ((k : Int) == -1) = false := by
      rw [beq_eq_false_iff_ne]; omega
    simp [this]
  · exact ⟨_, _, _, _, _, rfl, rfl, by simp [prunef, idf, pruneParts]⟩
  · intro ps₁ ps₂ w h
    refine ⟨_, _, _, _, _, rfl, rfl, ?_⟩
    rw [hfin ps₁ ps₂ h]
    simp [prunef, idf, filt]

/-! ## the induction -/

theorem orel_prune {k : Nat} {r₁ r₂ : Option Node} (h : ORel (NR (prunef k) idf) r₁ r₂) :
    ORel (fun a b => b = pruneLimit k a) r₁ r₂ := by
  cases r₁ <;> cases r₂ <;> simp only [ORel] at h ⊢ <;> first | exact h | skip
  unfold NR at h
  rw [mapW_id] at h
  rw [pruneLimit_eq, h]

/-- **one parser run at every depth** -/
theorem parserRunI_rel (hF : FrameHyp) : ∀ d : Nat,
    (∀ b, Rel (St (-1) b) (St (-1) b) (parserRunI (-1) d) (parserRun d) (ORel Skel)) ∧
    (∀ (k : Nat) b, Rel (St k b) (St k b) (parserRunI k d) (parserRun d)
      (ORel fun a b => b = pruneLimit k a)) := by
  intro d
  induction d using parserRun_ind with
  | zero => exact ⟨fun _ => Rel.raise_left, fun _ _ => Rel.raise_left⟩
  | succ d ih =>
    refine ⟨?_, ?_⟩
    · intro b
      show Rel _ _ (level (npI true (parserRunI (-1 - 1) d))) _ _
      exact rel_level (St.sok hF (-1) b) (f := eraseAll) (g := eraseVal) (fun _ _ => rfl)
        (rel_expandword_skip hF b _ d _)
    · intro k b
      have hd : decide ((k : Int) ≤ -1) = false := by
        rw [decide_eq_false_iff_not]; omega
      show Rel _ _ (level (npI (decide ((k : Int) ≤ -1)) (parserRunI ((k : Int) - 1) d))) _ _
      rw [hd]
      refine (rel_level (St.sok hF k b) (f := prunef k) (g := idf)
        (by intro sp v; simp [prunef, idf, pruneParts]) ?_).conseq (fun _ _ => orel_prune)
      cases k with
      | zero =>
        refine rel_expandword_cut (N := Skel) nok_skel (rel_np_St ?_) ?_
        · intro b'
          have := ih.1 b'
          simpa using this
        · intro ps₁ ps₂ h
          simp only [filt, Int.natCast_zero, beq_self_eq_true, if_true]
          exact parts_prune_zero h
      | succ k' =>
        refine rel_expandword_cut (N := fun a b => b = pruneLimit k' a) (nok_prune k')
          (rel_np_St ?_) ?_
        · intro b'
          have := ih.2 k' b'
          have hk : ((k' + 1 : Nat) : Int) - 1 = (k' : Int) := by omega
          rw [hk]
          exact this
        · intro ps₁ ps₂ h
          have : (((k' + 1 : Nat) : Int) == 0) = false := by
            rw [beq_eq_false_iff_ne]; omega
          simp only [filt, Option.some_beq_some, this, Bool.false_eq_true, if_false]
          exact parts_prune_succ k' h

end Bashlex.C16
