/-
  C16: the semantic actions are natural in the word results.  If the arguments of an
  action in the two runs have the same images under the word maps `f` / `g`, and `expandword`
  delivers words with the same images, then so does the action; the accept flag is the same.

  This is `ActParam` for the relation `wordRel` (spans and tokens equal, nodes with the same image)
  and the judgement `Rel S S`.
-/
import Bashlex.Props.C16.Word
import Bashlex.Model.Actions
import Bashlex.Proofs.ActParam.All

namespace Bashlex.C16
open Bashlex Bashlex.Spec Bashlex.Node Bashlex.M Bashlex.LR
set_option linter.unusedSectionVars false
set_option linter.unusedSimpArgs false

/-- `p_inputunit`'s effect on the state -/
def iu (l : Local) : Local :=
  if l.ps.cmdsubst then { l with ps := { l.ps with eoftoken := true } } else l

/-- the state part of `p_simple_list`'s accept condition -/
def accCond (l : Local) : Bool :=
  l.ps.cmdsubst &&
    (match l.eofToken with
     | some e => decide ({ l.currentToken with pos := none } = e)
     | none => false)

variable [EnvRel]

/-- what the actions and the engine need of the relation between the local states -/
structure SOK (S : Local → Local → Prop) : Prop where
  store : ∀ {l₁ l₂}, S l₁ l₂ → l₁.store = l₂.store
  opts : ∀ {l₁ l₂}, S l₁ l₂ → l₁.opts = l₂.opts
  tape : ∀ {l₁ l₂}, S l₁ l₂ → l₁.tape = l₂.tape
  heredoc : ∀ {l₁ l₂} (c : RedirCell) (k : Bool), S l₁ l₂ →
    S { l₁ with store := l₁.store ++ [c], redirstack := l₁.redirstack ++ [(l₁.store.length, k)] }
      { l₂ with store := l₂.store ++ [c], redirstack := l₂.redirstack ++ [(l₂.store.length, k)] }
  inputunit : ∀ {l₁ l₂}, S l₁ l₂ → S (iu l₁) (iu l₂)
  accept : ∀ {l₁ l₂}, S l₁ l₂ → accCond l₁ = accCond l₂
  next : Rel S S nextToken nextToken Eq
  gather : Rel S S gatherheredocuments gatherheredocuments (fun _ _ => True)
  optProceed : Rel S S optProceed optProceed Eq

abbrev ArgsR (f g : WF) := Forall2 (SR f g)

/-- relation between the results of an action -/
def ResR (f g : WF) (r₁ r₂ : SVal × Bool) : Prop := SR f g r₁.1 r₂.1 ∧ r₁.2 = r₂.2

section
variable {f g : WF} {S : Local → Local → Prop} {np₁ np₂ : NestedParse} {a₁ a₂ : List SVal}

/-! ### positions -/

def nodePosK (k : Span × Option Nat) : M Span := do
  match k.2 with
  | some id =>
    match (← get).store[id]? with
    | some c => pure c.pos
    | none => pure k.1
  | none => pure k.1

theorem nodePos_eq (n : Node) : nodePos n = nodePosK (posKey n) := by
  cases n with
  | redirect p i t o oa h hid => cases hid <;> rfl
  | _ => rfl

theorem rel_nodePosK (hS : SOK S) (k : Span × Option Nat) :
    Rel S S (nodePosK k) (nodePosK k) Eq := by
  unfold nodePosK
  cases k.2 with
  | none => exact Rel.pure rfl
  | some id =>
    simp only []
    refine Rel.bind Rel.get ?_
    intro l₁ l₂ hl
    rw [hS.store hl]
    cases l₂.store[id]? with
    | none => exact Rel.pure rfl
    | some c => exact Rel.pure rfl

theorem rel_nodePos (hS : SOK S) {a b : Node} (h : NR f g a b) :
    Rel S S (nodePos a) (nodePos b) Eq := by
  rw [nodePos_eq, nodePos_eq, h.posKey]
  exact rel_nodePosK hS _

theorem rel_handleAssert (b : Bool) :
    Rel S S (handleAssert b) (handleAssert b) (fun _ _ => True) := by
  unfold handleAssert
  cases b
  · exact Rel.foreign_left
  · exact Rel.pure trivial

/-- two WORD nodes with the same span whose images under the two word maps agree: `NR` for words,
    in the form that survives the word being turned into an assignment (`WR.assignment`) -/
def WR (f g : WF) (w₁ w₂ : Node) : Prop :=
  ∃ sp v₁ ps₁ v₂ ps₂, w₁ = .word sp v₁ ps₁ ∧ w₂ = .word sp v₂ ps₂ ∧ f.word sp v₁ ps₁ = g.word sp v₂ ps₂

theorem WR.nr {w₁ w₂ : Node} (h : WR f g w₁ w₂) : NR f g w₁ w₂ := by
  obtain ⟨sp, v₁, ps₁, v₂, ps₂, rfl, rfl, h⟩ := h
  simp only [NR, mapW]; rw [h]

theorem WR.assignment {w₁ w₂ : Node} (h : WR f g w₁ w₂) :
    ∃ sp v₁ ps₁ v₂ ps₂, w₁ = .word sp v₁ ps₁ ∧ w₂ = .word sp v₂ ps₂ ∧
      NR f g (.assignment sp v₁ ps₁) (.assignment sp v₂ ps₂) := by
  obtain ⟨sp, v₁, ps₁, v₂, ps₂, rfl, rfl, h⟩ := h
  refine ⟨sp, v₁, ps₁, v₂, ps₂, rfl, rfl, ?_⟩
  simp only [NR, mapW]; rw [h]

/-- the two word maps agree on words without parts (here-document delimiters) -/
def WOK (f g : WF) : Prop := ∀ sp v, f.word sp v [] = g.word sp v []

theorem iuThen_run {α : Type} (K : M α) (l : Local) (e : Env) :
    (ActParam.iuThen K).run l e = K.run (iu l) e := by
  unfold iu
  cases h : l.ps.cmdsubst
  · show Q.run (ActParam.iuThen K l) e = Q.run (K _) e
    unfold ActParam.iuThen
    simp [h, bind, StateT.bind, get, getThe, MonadStateOf.get, StateT.get, ExceptT.bind, ExceptT.mk,
      ExceptT.bindCont, pure, StateT.pure, ExceptT.pure, Q.bind, Q.run]
  · show Q.run (ActParam.iuThen K l) e = Q.run (K _) e
    unfold ActParam.iuThen
    simp [h, bind, StateT.bind, get, getThe, MonadStateOf.get, StateT.get, ExceptT.bind, ExceptT.mk,
      ExceptT.bindCont, pure, StateT.pure, ExceptT.pure, Q.bind, Q.run, modify, modifyGet,
      MonadStateOf.modifyGet, StateT.modifyGet]

theorem rel_iuThen {α β : Type} {R : α → β → Prop} (hS : SOK S) {K₁ : M α} {K₂ : M β}
    (hK : Rel S S K₁ K₂ R) : Rel S S (ActParam.iuThen K₁) (ActParam.iuThen K₂) R := by
  intro l₁ l₂ e₁ e₂ hl he a₁ l₁' e₁' hr
  rw [iuThen_run] at hr
  obtain ⟨a₂, l₂', e₂', h2, h3, h4, h5⟩ := hK _ _ _ _ (hS.inputunit hl) he _ _ _ hr
  exact ⟨a₂, l₂', e₂', by rw [iuThen_run]; exact h2, h3, h4, h5⟩

theorem nr_redirect {p i t oa h hid} {o o' : Option Node}
    (ho : mapWO f o = mapWO g o') :
    NR f g (.redirect p i t o oa h hid) (.redirect p i t o' oa h hid) := by
  simp only [NR, mapW]; rw [ho]

/-! ## the instance of `ActParam`: spans and tokens equal, nodes with the same image under the
    word maps -/

section inst
open ActParam

omit [EnvRel] in
theorem lr_iff {l l' : List Node} : Forall2 (NR f g) l l' ↔ LR f g l l' := by
  constructor
  · intro h
    induction h with
    | nil => exact LR.nil
    | cons h1 _ ih => exact LR.cons h1 ih
  · intro h
    induction l generalizing l' with
    | nil => rw [LR.nil_inv h]; exact .nil
    | cons a l ih =>
      obtain ⟨b, t, rfl, hab, ht⟩ := LR.cons_inv h
      exact .cons hab (ih ht)

omit [EnvRel] in
/-- a constructor with one list of children -/
theorem nr_parts (c : Span → List Node → Node) (hc : ∀ (h : WF) p l, mapW h (c p l) = c p (mapWL h l))
    {p : Span} {l l' : List Node} (hl : Forall2 (NR f g) l l') : NR f g (c p l) (c p l') := by
  unfold NR; rw [hc, hc, lr_iff.1 hl]

def wordRel (f g : WF) (hfg : WOK f g) : ValRel where
  Sp := Eq
  T := Eq
  N := NR f g
  W := WR f g
  P := fun _ => True
  pair := by rintro p _ q _ rfl rfl; rfl
  tValue := by rintro t _ rfl; rfl
  tType := by rintro t _ rfl; rfl
  tSpan := by rintro t _ rfl _; rfl
  wN := WR.nr
  wAssign := by
    intro p s ps b h
    obtain ⟨sp, v₁, ps₁, v₂, ps₂, h1, rfl, hn⟩ := WR.assignment h
    cases h1
    exact ⟨_, _, _, rfl, hn⟩
  operator := by rintro p _ s rfl; rfl
  reserved := by rintro p _ s rfl; rfl
  pipe := by rintro p _ s rfl; rfl
  wordLeaf := by rintro p _ s rfl; simp only [NR, mapW]; rw [hfg]
  redirect := by
    rintro p _ i t o o' oa hid rfl ho
    refine nr_redirect ?_
    cases o <;> cases o' <;> first | exact ho.elim | rfl | exact congrArg some ho
  command := by rintro p _ l l' rfl hl; exact nr_parts .command (fun _ _ _ => rfl) hl
  compound := by
    rintro p _ l l' r r' rfl hl hr
    simp only [NR, mapW]; rw [lr_iff.1 hl, lr_iff.1 hr]
  whileN := by rintro p _ l l' rfl hl; exact nr_parts .whileN (fun _ _ _ => rfl) hl
  untilN := by rintro p _ l l' rfl hl; exact nr_parts .untilN (fun _ _ _ => rfl) hl
  forN := by rintro p _ l l' rfl hl; exact nr_parts .forN (fun _ _ _ => rfl) hl
  caseN := by rintro p _ l l' rfl hl; exact nr_parts .caseN (fun _ _ _ => rfl) hl
  ifN := by rintro p _ l l' rfl hl; exact nr_parts .ifN (fun _ _ _ => rfl) hl
  unimplemented := by
    rintro p _ l l' rfl hl; exact nr_parts .unimplemented (fun _ _ _ => rfl) hl
  function := by
    rintro p _ l l' a b rfl hl; exact nr_parts (.function · a b ·) (fun _ _ _ => rfl) hl
  pattern := by rintro p _ l l' rfl hl; exact nr_parts .pattern (fun _ _ _ => rfl) hl
  list := by rintro p _ l l' rfl hl; exact nr_parts .list (fun _ _ _ => rfl) hl
  pipeline := by rintro p _ l l' rfl hl; exact nr_parts .pipeline (fun _ _ _ => rfl) hl
  compoundInv := by
    intro p l r b h
    obtain ⟨l', r', rfl, hl, hr⟩ := NR.compound_inv h
    exact ⟨p, l', r', rfl, rfl, lr_iff.2 hl, lr_iff.2 hr⟩
  pipelineInv := by
    intro p l b h
    obtain ⟨l', rfl, hl⟩ := NR.pipeline_inv h
    exact ⟨p, l', rfl, lr_iff.2 hl⟩
  reservedInv := fun h => ⟨_, NR.reservedword_inv h⟩
  operatorInv := by
    intro p o b h
    cases b <;> simp [NR, mapW] at h
    obtain ⟨rfl, rfl⟩ := h
    exact ⟨_, rfl, rfl⟩
  isCompound := fun h => (NR.isCompound h).symm
  isPipeline := by
    intro a b h
    have e : ∀ (k : WF) n, ActParam.isPipeline (mapW k n) = ActParam.isPipeline n := by
      intro k n; cases n <;> rfl
    rw [← e g b, ← e f a, h]
  isReserved := by
    intro a b h
    have e : ∀ (k : WF) n, ActParam.isReserved (mapW k n) = ActParam.isReserved n := by
      intro k n; cases n <;> rfl
    rw [← e g b, ← e f a, h]
  isOperator := by
    intro a b h
    have e : ∀ (k : WF) n, ActParam.isOperator (mapW k n) = ActParam.isOperator n := by
      intro k n; cases n <;> rfl
    rw [← e g b, ← e f a, h]
  isWord := by
    intro a b h
    have e : ∀ (k : WF) n, ActParam.isWord (mapW k n) = ActParam.isWord n := by
      intro k n; cases n <;> rfl
    rw [← e g b, ← e f a, h]

def wordLogic (hS : SOK S) (hfg : WOK f g) : ActLogic (wordRel f g hfg) where
  J := fun m₁ m₂ V => Rel S S m₁ m₂ V
  pure := Rel.pure
  bind := Rel.bind
  raise := fun _ => Rel.raise_left
  nodePos := fun h => rel_nodePos hS h
  assertLt := by rintro p _ q _ rfl rfl; exact rel_handleAssert _
  optProceed := hS.optProceed
  inputunit := fun hK => rel_iuThen hS hK
  accept := by
    intro b
    refine Rel.bind Rel.get fun l₁ l₂ hl => Rel.pure ?_
    have := hS.accept hl
    unfold accCond at this
    rw [Bool.and_assoc, Bool.and_assoc]
    exact congrArg (b && ·) this
  push := by
    rintro p _ d k rfl
    refine Rel.bind Rel.get fun l₁ l₂ hl => ?_
    refine Rel.bind (Rel.set (hS.heredoc _ _ hl)) fun _ _ _ => ?_
    rw [hS.store hl]
    exact Rel.pure rfl

theorem wordRel_S {hfg : WOK f g} {v v' : SVal} : (wordRel f g hfg).S v v' ↔ SR f g v v' := by
  cases v <;> cases v' <;> first | exact Iff.rfl | exact lr_iff

theorem wordRel_args {hfg : WOK f g} (h : ArgsR f g a₁ a₂) :
    ActParam.ArgsR (wordRel f g hfg) a₁ a₂ := by
  induction h with
  | nil => exact .nil
  | cons h1 _ ih => exact .cons (wordRel_S.2 h1) ih

theorem wordRel_res {hfg : WOK f g} {r₁ r₂ : SVal × Bool} (h : (wordRel f g hfg).Res r₁ r₂) :
    ResR f g r₁ r₂ :=
  ⟨wordRel_S.1 h.1, h.2.symm⟩

end inst

/-- **every action function is natural in the word results** -/
theorem rel_action (hS : SOK S) (hfg : WOK f g)
    (hW : ∀ tok, Rel S S (expandword np₁ tok) (expandword np₂ tok) (WR f g))
    (h : ArgsR f g a₁ a₂) (fname : String) :
    Rel S S (action np₁ fname a₁) (action np₂ fname a₂) (ResR f g) :=
  (ActParam.action_all (wordLogic hS hfg) (by rintro t _ rfl _; exact hW t) hS.gather (wordRel_args h)
    (fun _ _ _ _ => trivial) rfl fname).conseq fun _ _ => wordRel_res

end
end Bashlex.C16
