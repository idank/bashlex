/-
  C16: the two instances of the tokenizer frame (`Props/C16/Frame.lean`), and with them
  the frame hypotheses `FrameHyp` of `Props/C16/Run.lean` as theorems.
-/
import Bashlex.Props.C16.Frame
import Bashlex.Props.C16.Depth

namespace Bashlex.C16
open Bashlex Bashlex.M
set_option linter.unusedSectionVars false
set_option linter.unusedSimpArgs false

/-! ## instance A: unlimited run versus limited run, standard relation between the environments -/

/-- the side condition of `St j b` -/
def Pjb (j : Int) (b : Bool) (s₁ s₂ : Side) : Prop :=
  s₁.limit = none ∧ s₂.limit = some j ∧
    (if b then s₁.cmdsubst = true ∧ s₂.cmdsubst = true else s₁.eofToken = none)

theorem St_iff_SF (j : Int) (b : Bool) (l₁ l₂ : Local) : St j b l₁ l₂ ↔ SF (Pjb j b) l₁ l₂ := Iff.rfl

section A
attribute [local instance] stdEnvRel

theorem Fr_ask_std {S : Local → Local → Prop} (q : Query) : Fr S (M.ask q) = True :=
  eq_true (Rel.ask q)

instance primsA (j : Int) (b : Bool) : Prims (Pjb j b) where
  getc rqn := by
    have hask := @Fr_ask_std (SF (Pjb j b))
    unfold getc Fr
    rel2
  ungetc c := by
    have hask := @Fr_ask_std (SF (Pjb j b))
    unfold ungetc Fr
    rel2
  curIdx := by
    have hask := @Fr_ask_std (SF (Pjb j b))
    unfold curIdx Fr
    rel2
  bumpIdx := by
    have hask := @Fr_ask_std (SF (Pjb j b))
    unfold bumpIdx Fr
    rel2
  tapeSource := by
    have hask := @Fr_ask_std (SF (Pjb j b))
    unfold tapeSource Fr
    rel2
  tapeLine := by
    have hask := @Fr_ask_std (SF (Pjb j b))
    unfold tapeLine Fr
    rel2
  tapeAdded := by
    have hask := @Fr_ask_std (SF (Pjb j b))
    unfold tapeAdded Fr
    rel2
  optStrict := by
    have hask := @Fr_ask_std (SF (Pjb j b))
    unfold optStrict Fr
    rel2
  syn c := by
    unfold syn
    exact Rel.ask _

end A

/-- the tokenizer entry points neither read nor write what the two runs disagree on -/
theorem frame_next (j : Int) (b : Bool) :
    @Rel stdEnvRel _ _ (St j b) (St j b) nextToken nextToken Eq :=
  @Fr_nextToken stdEnvRel (Pjb j b) (primsA j b)

theorem frame_gather (j : Int) (b : Bool) :
    @Rel stdEnvRel _ _ (St j b) (St j b) gatherheredocuments gatherheredocuments (fun _ _ => True) :=
  (@Rel.conseq stdEnvRel _ _ _ _ _ _ _ _
    (of_eq_true (@Fr_gatherheredocuments stdEnvRel (Pjb j b) (primsA j b))) (fun _ _ _ => trivial))

/-! ## instance B: a parser over its own tape, environments pinned to a reference -/

/-- both environments stay equal, up to the store, to the reference `e₀` -/
@[reducible] def pinEnvRel (e₀ : Env) : EnvRel := ⟨fun e₁ e₂ => EnvR e₁ e₀ ∧ EnvR e₂ e₀⟩

/-- same side; own tape, fixed options -/
def Pown (s₁ s₂ : Side) : Prop := s₁ = s₂ ∧ s₁.ownTape = true ∧ s₁.ownOpts = true

theorem own_tw {l₁ l₂ : Local} (h : SF Pown l₁ l₂) :
    ∃ t z, l₂ = tw l₁.limit l₁.ps.cmdsubst t z l₁ := by
  obtain ⟨hc, hs, _, _⟩ := h
  refine ⟨l₂.ps.eoftoken, l₂.ps.casestmt, ?_⟩
  have h1 : l₁.limit = l₂.limit := congrArg Side.limit hs
  have h2 : l₁.ps.cmdsubst = l₂.ps.cmdsubst := congrArg Side.cmdsubst hs
  rw [h1, h2]
  exact eq_tw_of_core hc

theorem envR_answer_syn (e : Env) (c : Char) : EnvR (e.answer (.syntab c)).2 e := by
  simp only [Env.answer]
  split <;> exact ⟨rfl, rfl, rfl⟩

section B
variable (e₀ : Env)

theorem rel_ask_syn_pin {S : Local → Local → Prop} (c : Char) :
    @Rel (pinEnvRel e₀) _ _ S S (M.ask (.syntab c)) (M.ask (.syntab c)) Eq := by
  intro l₁ l₂ e₁ e₂ hS hE a₁ l₁' e₁' hr
  have h1 : ∀ (l : Local) (e : Env), (M.ask (.syntab c)).run l e =
      (.ok ((e.answer (.syntab c)).1, l), (e.answer (.syntab c)).2) := fun l e => rfl
  rw [h1] at hr
  cases hr
  refine ⟨_, _, _, h1 _ _, rfl, hS, ?_, ?_⟩
  · exact (envR_answer_syn e₁ c).trans hE.1
  · exact (envR_answer_syn e₂ c).trans hE.2

theorem own_tape_none {l : Local} {α : Prop} (hT : (side l).ownTape = true) (h : l.tape = none) : α := by
  simp [side, h] at hT

theorem own_opts_none {l : Local} {α : Prop} (hO : (side l).ownOpts = true) (h : l.opts = none) : α := by
  simp [side, h] at hO

/-- opening of every primitive: read the state, write run 2's value as `tw … l₁` -/
macro "own_get" : tactic => `(tactic| (
  refine Rel.bind Rel.get ?_
  intro l₁ l₂ hl
  obtain ⟨t, z, h⟩ := own_tw hl
  subst h
  obtain ⟨_, _, hT, hO⟩ := hl
  dsimp only [tw]))

theorem primsB : @Prims (pinEnvRel e₀) Pown := by
  letI : EnvRel := pinEnvRel e₀
  refine { getc := ?_, ungetc := ?_, curIdx := ?_, bumpIdx := ?_, tapeSource := ?_, tapeLine := ?_,
           tapeAdded := ?_, optStrict := ?_, syn := ?_ }
  · intro rqn
    unfold getc Fr
    own_get
    rename_i l₁ _ _ _ _ hT hO
    cases h1 : l₁.eolLookahead with
    | some c => exact Rel.bindEqS (Rel.setU ⟨rfl, rfl, hT, hO⟩) (fun _ => Rel.pure rfl)
    | none =>
      simp only []
      cases h2 : l₁.tape with
      | none => exact own_tape_none hT h2
      | some tp =>
        simp only []
        cases tp.getc rqn (tp.line.length + 1) with
        | error u => exact Rel.foreign_left
        | ok v =>
          obtain ⟨c, t'⟩ := v
          exact Rel.bindEqS (Rel.setU ⟨rfl, rfl, rfl, hO⟩) (fun _ => Rel.pure rfl)
  · intro c
    unfold ungetc Fr
    own_get
    rename_i l₁ _ _ _ _ hT hO
    cases h2 : l₁.tape with
    | none => exact own_tape_none hT h2
    | some tp =>
      simp only []
      split
      · exact Rel.setU ⟨rfl, rfl, rfl, hO⟩
      · exact Rel.setU ⟨rfl, rfl, by simp [side, h2], hO⟩
  · unfold curIdx Fr
    own_get
    rename_i l₁ _ _ _ _ hT hO
    cases h2 : l₁.tape with
    | none => exact own_tape_none hT h2
    | some tp => exact Rel.pure rfl
  · unfold bumpIdx Fr
    own_get
    rename_i l₁ _ _ _ _ hT hO
    cases h2 : l₁.tape with
    | none => exact own_tape_none hT h2
    | some tp => exact Rel.setU ⟨rfl, rfl, rfl, hO⟩
  · unfold tapeSource Fr
    own_get
    rename_i l₁ _ _ _ _ hT hO
    cases h2 : l₁.tape with
    | none => exact own_tape_none hT h2
    | some tp => exact Rel.pure rfl
  · unfold tapeLine Fr
    own_get
    rename_i l₁ _ _ _ _ hT hO
    cases h2 : l₁.tape with
    | none => exact own_tape_none hT h2
    | some tp => exact Rel.pure rfl
  · unfold tapeAdded Fr
    own_get
    rename_i l₁ _ _ _ _ hT hO
    cases h2 : l₁.tape with
    | none => exact own_tape_none hT h2
    | some tp => exact Rel.pure rfl
  · unfold optStrict Fr
    own_get
    rename_i l₁ _ _ _ _ hT hO
    cases h2 : l₁.opts with
    | none => exact own_opts_none hO h2
    | some v => exact Rel.pure rfl
  · intro c
    unfold syn
    exact rel_ask_syn_pin e₀ c

theorem side_iu (l : Local) : side (iu l) = side l := by
  unfold iu; split <;> rfl

theorem sf_nested {o₁ o₂ : Local} (h : SF Pown o₁ o₂) (s : Str) (d : Bool) :
    SF Pown (nestedInit o₁ s d) (nestedInit o₂ s d) := by
  obtain ⟨hc, hs, hT, hO⟩ := h
  refine ⟨core_nestedInit hc s d, ?_, rfl, rfl⟩
  have h1 : o₁.limit = o₂.limit := congrArg Side.limit hs
  have h2 : o₁.ps.cmdsubst = o₂.ps.cmdsubst := congrArg Side.cmdsubst hs
  show (⟨o₁.limit.map (· - 1), (nestedInit o₁ s d).ps.cmdsubst, _, _, _⟩ : Side) =
    ⟨o₂.limit.map (· - 1), (nestedInit o₂ s d).ps.cmdsubst, _, _, _⟩
  have h3 : (nestedInit o₁ s d).ps.cmdsubst = (nestedInit o₂ s d).ps.cmdsubst := by
    unfold nestedInit; cases d <;> simp [h2]
  rw [h1, h3]
  rfl

theorem sf_restore {o₁ o₂ i₁ i₂ : Local} (ho : SF Pown o₁ o₂) (hi : SF Pown i₁ i₂) :
    SF Pown { o₁ with ps := i₁.ps } { o₂ with ps := i₂.ps } := by
  obtain ⟨hc, hs, hT, hO⟩ := ho
  obtain ⟨kc, ks, _, _⟩ := hi
  have hps := (core_fields kc).2.2.2.2.2.2.1
  refine ⟨?_, ?_, hT, hO⟩
  · show ({ core o₁ with ps := coreP i₁.ps } : Local) = { core o₂ with ps := coreP i₂.ps }
    rw [hc, hps]
  · have h1 : o₁.limit = o₂.limit := congrArg Side.limit hs
    have h2 : i₁.ps.cmdsubst = i₂.ps.cmdsubst := congrArg Side.cmdsubst ks
    have h3 : o₁.eofToken = o₂.eofToken := congrArg Side.eofToken hs
    have h4 : o₁.tape.isSome = o₂.tape.isSome := congrArg Side.ownTape hs
    have h5 : o₁.opts.isSome = o₂.opts.isSome := congrArg Side.ownOpts hs
    show (⟨o₁.limit, i₁.ps.cmdsubst, o₁.eofToken, o₁.tape.isSome, o₁.opts.isSome⟩ : Side) =
      ⟨o₂.limit, i₂.ps.cmdsubst, o₂.eofToken, o₂.tape.isSome, o₂.opts.isSome⟩
    rw [h1, h2, h3, h4, h5]

theorem sokB : @SOK (pinEnvRel e₀) (SF Pown) := by
  letI : EnvRel := pinEnvRel e₀
  haveI := primsB e₀
  refine { store := ?_, opts := ?_, tape := ?_, heredoc := ?_, inputunit := ?_, accept := ?_,
           next := Fr_nextToken, gather := ?_, optProceed := ?_ }
  · intro l₁ l₂ h; exact (core_fields h.1).2.2.1
  · intro l₁ l₂ h; exact (core_fields h.1).2.1
  · intro l₁ l₂ h; exact (core_fields h.1).1
  · intro l₁ l₂ c k h
    exact h.upd (updH c k) rfl rfl rfl rfl
  · intro l₁ l₂ h
    refine ⟨by rw [core_iu, core_iu]; exact h.1, ?_⟩
    rw [side_iu, side_iu]; exact h.2
  · intro l₁ l₂ h
    obtain ⟨hc, hs, _, _⟩ := h
    obtain ⟨_, _, _, _, he, hcur, _⟩ := core_fields hc
    have h2 : l₁.ps.cmdsubst = l₂.ps.cmdsubst := congrArg Side.cmdsubst hs
    unfold accCond
    rw [h2, he, hcur]
  · exact (of_eq_true Fr_gatherheredocuments).conseq (fun _ _ _ => trivial)
  · unfold optProceed
    refine Rel.bind Rel.get ?_
    intro l₁ l₂ hl
    rw [(core_fields hl.1).2.1]
    cases h2 : l₂.opts with
    | none =>
      have : l₁.opts = none := by rw [(core_fields hl.1).2.1]; exact h2
      exact own_opts_none hl.2.2.2 this
    | some v => exact Rel.pure rfl

/-- a parser over its own tape with fixed options, run twice from states that agree on the core
    and on the side, in environments that agree with `e₀` up to the store: same result, and both
    final environments still agree with `e₀` -/
theorem parserRun_own : ∀ d : Nat,
    @Rel (pinEnvRel e₀) _ _ (SF Pown) (SF Pown) (parserRun d) (parserRun d) Eq := by
  letI : EnvRel := pinEnvRel e₀
  intro d
  induction d using parserRun_ind with
  | zero => exact Rel.raise_left
  | succ d ih =>
    have hnp : NPR (SF Pown) Eq (C03.npOf (parserRun d)) (C03.npOf (parserRun d)) := by
      intro string dolparen
      unfold C03.npOf
      refine Rel.bind Rel.get ?_
      intro o₁ o₂ ho
      refine Rel.bind (Rel.set (S' := SF Pown) (sf_nested ho string dolparen)) ?_
      intro _ _ _
      refine Rel.bind ih ?_
      rintro r _ rfl
      refine Rel.bind Rel.get ?_
      intro i₁ i₂ hi
      refine Rel.bind (Rel.set (S' := SF Pown) (sf_restore ho hi)) ?_
      intro _ _ _
      exact Rel.pure (orel_eq rfl)
    have hW : ∀ tok, Rel (SF Pown) (SF Pown) (expandword (C03.npOf (parserRun d)) tok)
        (expandword (C03.npOf (parserRun d)) tok) (WR idf idf) := by
      intro tok
      rw [expandword_eq]
      refine Rel.bind Rel.get ?_
      intro l₁ l₂ hl
      have h1 : l₁.limit = l₂.limit := congrArg Side.limit hl.2.1
      rw [h1]
      refine rel_expandwordWith nok_eq hnp tok _ _ _ rfl ?_ ?_
      · exact ⟨_, _, _, _, _, rfl, rfl, rfl⟩
      · intro ps₁ ps₂ w h
        have : ps₁ = ps₂ := forall2_eq (forall2_mono (fun _ _ => partR_eq) h)
        subst this
        exact ⟨_, _, _, _, _, rfl, rfl, rfl⟩
    exact (rel_level (sokB e₀) (f := idf) (g := idf) (fun _ _ => rfl) hW).conseq
      (fun _ _ h => orel_idf h)

end B

/-- **a parser that runs over its own tape with fixed options leaves the caller's tape alone** -/
theorem nestedEnv_thm (d : Nat) (l : Local) (e : Env) (r : Option Node) (l' : Local) (e' : Env)
    (hT : l.tape.isSome = true) (hO : l.opts.isSome = true)
    (hr : (parserRun d).run l e = (.ok (r, l'), e')) : EnvR e e' := by
  obtain ⟨_, _, _, _, _, _, hE⟩ := parserRun_own e d l l e e ⟨rfl, rfl, hT, hO⟩
    ⟨EnvR.refl e, EnvR.refl e⟩ r l' e' hr
  exact hE.1.symm

/-- **the nested parser of `parserRun` leaves its caller alone**: it keeps every predicate of the
    caller's state that ignores the parser-state flags and the part of the environment a run on a
    tape of its own changes -/
theorem npOf_frame {P : Local → Env → Prop}
    (hP : ∀ l e ps e', P l e → EnvR e e' → P { l with ps := ps } e')
    (d : Nat) (s : Str) (b : Bool) : SatS (C03.npOf (parserRun d) s b) P (fun _ => P) := by
  intro l e hp
  rw [C03.npOf_run]
  rcases hr : M.run (parserRun d) (nestedInit l s b) e with ⟨r, e'⟩
  cases r with
  | error x => trivial
  | ok v => exact hP l e v.2.ps e' hp (nestedEnv_thm d _ e v.1 v.2 e' rfl rfl hr)

/-- **the frame hypotheses hold** -/
theorem frameHyp : FrameHyp where
  next := frame_next
  gather := frame_gather
  nestedEnv := nestedEnv_thm

end Bashlex.C16
