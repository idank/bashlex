/-
  C16: the hypothesis (E2) `heredocStable` of `C16_partial` discharged from span
  containment.

  Claim: for every part `p` returned by the unlimited `parse`, pruning the substitution nodes below
  depth `k` does not change `nextIndex p = max p.pos.2 (max of the here-document ends in p)`.

  `pruneLimit` removes substitution nodes *in the parts of words* (and what is below them) and
  nothing else (`prune_children_sup`: below a node that is not a word every child survives,
  pruned or as it is); in particular it never touches the `heredoc` slot of a redirect.  So a
  here-document body that disappears lies below a word `w` of the tree (inside the WORD's span,
  not inside the substitution's span, see (F1)).  Two facts bound it:

  (F1) `WEnd w`: every node below a word ends at or before the word's end.  This is what the visitor
       of `_expandwordinternal` asserts at run time (`foreign "AssertionError" "visitnode"`), so it
       holds of every word node of every returned tree, at every depth, UNCONDITIONALLY
       (`parse_wend`; proved with the generic provenance walk of `C07/Prov*.lean`).  It is NOT a
       consequence of `C03.Strict`: in `a $(cat <<E⏎x⏎E⏎) b` the tree is
       `word (2,17) [commandsubstitution (2,12) (command (4,11) [word (4,7), redirect (8,15)
       [word (10,11), heredoc (12,15)]])]` -- the body (12,15) sticks out of its redirect's
       command AND of the substitution node (D11 inside a substitution); only the word contains it.
  (F2) the word itself ends at or before `p.pos.2`, or at or before the end of a here-document body
       that survives pruning: by `C03.Strict` (child inside parent, `LocOK.kin`), except below a
       redirect extended over its body (`+heredoc`), where the delimiter word ends before the body
       starts (`LocOK.ord`) and the body survives.  `Strict` says nothing about the nodes above a
       D19 pipeline (`+emptydesc`, only with `proceedonerror`: `time -p a`); hence the extra
       condition `noD19 parts` (decidable).  No input violating `heredocStable` is known with or
       without it: the condition is a limit of the proof (C03's invariant forgets the ENDS of
       tainted nodes too, although D19 only corrupts starts), not a recorded defect.
  (C12) the `heredoc` slot of a redirect holds a `heredoc` node (`C12_only_pipelines`).

  Results: `parse_wend` (F1), `nextIndex_prune` (the tree lemma), `heredocStable_of_spans` and
  `C16_partial'` (under C03's hypothesis `RootEnds`), and `heredocStable_checked`,
  `C16_total_checked` (NO hypothesis: `RootEnds` replaced by the decidable per-input condition
  `C03.rootEndsChecked` of `Props/C03/RootEnds.lean`).
-/
import Bashlex.Props.C16
import Bashlex.Props.C03Total
import Bashlex.Props.C03.RootEnds
import Bashlex.Props.C07
import Bashlex.Props.C12
import Bashlex.Props.C13.Shift
import Bashlex.Proofs.ParseG
import Bashlex.Proofs.NodeTree

namespace Bashlex.C16
open Bashlex Bashlex.Spec Bashlex.Node Bashlex.M

/-! ## lists of children -/

theorem childIndL {P : Node → Prop} (h : ∀ n, (∀ c, c ∈ n.children → P c) → P n) :
    (l : List Node) → ∀ c, c ∈ l → P c :=
  fun _ c _ => children_induction h c

/-! ## `nextIndex` as a least upper bound -/

/-- every here-document body of the tree ends at or before `B` -/
def HBound (B : Nat) (n : Node) : Prop := ∀ m ∈ n.preorder, isHeredoc m = true → m.pos.2 ≤ B

theorem HBound.child {B : Nat} {n c : Node} (h : HBound B n) (hc : c ∈ n.children) : HBound B c :=
  fun m hm hh => h m (mem_preorder_child hc hm) hh

theorem heredocEnd?_eq_some {m : Node} {e : Nat} :
    Node.heredocEnd? m = some e ↔ isHeredoc m = true ∧ m.pos.2 = e := by
  cases m <;> simp [Node.heredocEnd?, isHeredoc, Node.pos]

theorem foldl_max_le {B : Nat} : ∀ (es : List Nat) (e : Nat),
    es.foldl max e ≤ B ↔ e ≤ B ∧ ∀ x ∈ es, x ≤ B
  | [], e => by simp
  | x :: xs, e => by
    rw [List.foldl_cons, foldl_max_le xs (max e x)]
    simp only [List.mem_cons, forall_eq_or_imp]
    constructor
    · rintro ⟨h1, h2⟩; exact ⟨by omega, by omega, h2⟩
    · rintro ⟨h1, h2, h3⟩; exact ⟨by omega, h3⟩

theorem hbound_iff_ends {B : Nat} {n : Node} :
    HBound B n ↔ ∀ e ∈ n.preorder.filterMap Node.heredocEnd?, e ≤ B := by
  constructor
  · intro h e he
    obtain ⟨m, hm, hme⟩ := List.mem_filterMap.mp he
    obtain ⟨h1, h2⟩ := heredocEnd?_eq_some.mp hme
    rw [← h2]; exact h m hm h1
  · intro h m hm hh
    exact h m.pos.2 (List.mem_filterMap.mpr ⟨m, hm, heredocEnd?_eq_some.mpr ⟨hh, rfl⟩⟩)

/-- `nextIndex n` is the least bound of the root's end and of all here-document ends -/
theorem nextIndex_le_iff {B : Nat} {n : Node} : nextIndex n ≤ B ↔ n.pos.2 ≤ B ∧ HBound B n := by
  unfold nextIndex
  rw [Node.lastHeredocEnd_eq, hbound_iff_ends]
  cases h : n.preorder.filterMap Node.heredocEnd? with
  | nil => simp
  | cons e es =>
    simp only []
    rw [Nat.max_le, foldl_max_le]
    simp only [List.mem_cons, forall_eq_or_imp]

theorem nextIndex_root (n : Node) : n.pos.2 ≤ nextIndex n :=
  (nextIndex_le_iff.mp (Nat.le_refl _)).1

theorem nextIndex_hbound (n : Node) : HBound (nextIndex n) n :=
  (nextIndex_le_iff.mp (Nat.le_refl _)).2

/-! ## what pruning keeps -/

theorem prune_heredoc {n : Node} (k : Nat) (h : isHeredoc n = true) : pruneLimit k n = n := by
  cases n <;> simp [isHeredoc] at h
  simp [pruneLimit]

/-- the here-document bodies of the pruned tree are bodies of the tree -/
theorem hbound_prune {B : Nat} (n : Node) (hn : HBound B n) (k : Nat) : HBound B (pruneLimit k n) := by
  intro m hm hh
  obtain ⟨m', hm', hp, hk⟩ := mem_preorder_prune n k m hm
  rw [hp]; exact hn m' hm' (hk ▸ hh)

/-- below a node that is not a word, every child survives pruning, itself pruned or as it is -/
theorem prune_children_sup (k : Nat) (n c : Node) (hw : C07.isWordLike n = false)
    (hc : c ∈ n.children) :
    c ∈ (pruneLimit k n).children ∨ ∃ k', pruneLimit k' c ∈ (pruneLimit k n).children := by
  rw [pruneLimit_eq, mapW_eq, children_mapW1]
  have sub : ∀ c0, c ∈ [c0] →
      c ∈ [(prunef k).sub c0] ∨ ∃ k', pruneLimit k' c ∈ [(prunef k).sub c0] := by
    intro c0 h
    cases List.mem_singleton.mp h
    rcases prunef_sub k c with h | ⟨k', h⟩
    · exact Or.inl (List.mem_singleton.mpr h.symm)
    · exact Or.inr ⟨k', List.mem_singleton.mpr h.symm⟩
  split
  · cases hw
  · cases hw
  · exact sub _ hc
  · exact sub _ hc
  · simp only [children, List.mem_append, Option.mem_toList, Option.map_eq_some_iff] at hc ⊢
    rcases hc with rfl | rfl
    · exact Or.inr ⟨k, Or.inl ⟨c, rfl, (pruneLimit_eq k c).symm⟩⟩
    · exact Or.inl (Or.inr rfl)
  · exact Or.inr ⟨k, List.mem_map.mpr ⟨c, hc, (pruneLimit_eq k c).symm⟩⟩

/-! ## the tree lemma -/

/-- (F1) every node below the word ends at or before the word's end -/
def WEnd (w : Node) : Prop := ∀ m ∈ w.preorder, m.pos.2 ≤ w.pos.2

/-- the `heredoc` slot of a redirect -/
def heredocSlot : Node → Option Node
  | .redirect _ _ _ _ _ h _ => h
  | _ => none

/-- what is needed of every node: C03's local clauses, (F1) for words, (C12) for redirects -/
structure GoodN (len : Nat) (m : Node) : Prop where
  nodeS : C03.NodeS len m
  wend : C07.isWordLike m = true → WEnd m
  slot : ∀ b, heredocSlot m = some b → isHeredoc b = true

def GoodT (len : Nat) (n : Node) : Prop := ∀ m ∈ n.preorder, GoodN len m

theorem GoodT.child {len : Nat} {n c : Node} (h : GoodT len n) (hc : c ∈ n.children) : GoodT len c :=
  fun m hm => h m (mem_preorder_child hc hm)

/-- how far a node may reach to the right as far as its parent can tell: a here-document body and
    a redirect extended over one are exempt from containment -/
def endCap (n : Node) : Nat :=
  if isHeredoc n || isRedirectWithHeredoc n then 0 else n.pos.2

theorem endCap_le (n : Node) : endCap n ≤ n.pos.2 := by
  unfold endCap; split
  · exact Nat.zero_le _
  · exact Nat.le_refl _

theorem endCap_child {len : Nat} {n c : Node} (h : C03.LocOK len n) (hc : c ∈ n.children) :
    endCap c ≤ n.pos.2 := by
  unfold endCap
  cases hh : isHeredoc c with
  | true => simp
  | false =>
    cases hr : isRedirectWithHeredoc c with
    | true => simp
    | false =>
      simp only [Bool.or_self, Bool.false_eq_true, if_false]
      rcases (h.kin c hc hh).2 with h2 | h2
      · exact h2
      · rw [hr] at h2; cases h2

theorem locOK_of_parent {len : Nat} {n c : Node} (h : C03.NodeS len n)
    (ht : C03.tainted n = false) (hc : c ∈ n.children) : C03.LocOK len n := by
  rcases h with h | h | h
  · rw [h] at ht; cases ht
  · exact h
  · exfalso
    have := h.1
    cases n <;> simp [C03.isRW] at this
    simp [children] at hc

/-- **the tree lemma**: in an untainted fine tree, a here-document body ends at or before the
    root's end (`endCap`), or at or before the end of a body that survives pruning -/
theorem heredoc_bound {len : Nat} : ∀ (n : Node), GoodT len n → C03.tainted n = false →
    ∀ k B, HBound B (pruneLimit k n) →
      ∀ h ∈ n.preorder, isHeredoc h = true → h.pos.2 ≤ max (endCap n) B := by
  refine children_induction (P := fun n => GoodT len n → C03.tainted n = false →
    ∀ k B, HBound B (pruneLimit k n) →
      ∀ h ∈ n.preorder, isHeredoc h = true → h.pos.2 ≤ max (endCap n) B) ?_
  intro n ih hg ht k B hB h hh hhd
  have hgn := hg n (Node.self_mem_preorder n)
  cases hw : C07.isWordLike n with
  | true =>
    -- (F1): everything below a word ends inside the word
    have h1 := hgn.wend hw h hh
    have h2 : endCap n = n.pos.2 := by
      cases n <;> simp [C07.isWordLike] at hw <;> simp [endCap, isHeredoc, isRedirectWithHeredoc]
    rw [h2]; omega
  | false =>
    rcases mem_preorder_iff.mp hh with rfl | ⟨c, hc, hhc⟩
    · -- the node is itself a body: it is kept
      rw [prune_heredoc k hhd] at hB
      have := hB h (Node.self_mem_preorder h) hhd
      omega
    · have hloc := locOK_of_parent hgn.nodeS ht hc
      have htc : C03.tainted c = false := C03.untainted_child hc ht
      -- the bound through the child
      have hchild : h.pos.2 ≤ max (endCap c) B := by
        rcases prune_children_sup k n c hw hc with hk | ⟨k', hk⟩
        · -- the child is kept as it is
          have := (hB.child hk) h hhc hhd
          omega
        · exact ih c hc (hg.child hc) htc k' B (hB.child hk) h hhc hhd
      cases hr : isRedirectWithHeredoc n with
      | false =>
        have hcap : endCap n = n.pos.2 := by
          have hnh : isHeredoc n = false := by
            cases n <;> simp [isHeredoc] <;> simp [children] at hc
          simp [endCap, hnh, hr]
        have := endCap_child hloc hc
        rw [hcap]; omega
      | true =>
        -- a redirect extended over its body `b`: the body is kept, the target ends before it
        cases n with
        | redirect p i t o oa hd hid =>
          cases hd with
          | none => simp [isRedirectWithHeredoc] at hr
          | some b =>
            have hb : isHeredoc b = true := hgn.slot b rfl
            have hbk : b ∈ (pruneLimit k (.redirect p i t o oa (some b) hid)).children := by
              simp [pruneLimit, children]
            have hbB : b.pos.2 ≤ B := (hB.child hbk) b (Node.self_mem_preorder b) hb
            simp only [children, List.mem_append, Option.mem_toList, Option.toList_some,
              List.mem_singleton] at hc
            rcases hc with hc | hc
            · subst hc
              have hord := hloc.ord
              simp only [children, Option.toList_some, List.singleton_append, ordered,
                Bool.and_true, decide_eq_true_eq] at hord
              have hne := hloc.kne b (by simp [children])
              have := endCap_le c
              omega
            · subst hc
              have : endCap c = 0 := by simp [endCap, hb]
              omega
        | _ => simp [isRedirectWithHeredoc] at hr

/-- **pruning keeps the restart index** of an untainted fine tree -/
theorem nextIndex_prune {len : Nat} {n : Node} (hg : GoodT len n) (ht : C03.tainted n = false)
    (k : Nat) : nextIndex (pruneLimit k n) = nextIndex n := by
  apply Nat.le_antisymm
  · rw [nextIndex_le_iff, pos_pruneLimit]
    exact ⟨nextIndex_root n, hbound_prune n (nextIndex_hbound n) k⟩
  · rw [nextIndex_le_iff]
    have hr : n.pos.2 ≤ nextIndex (pruneLimit k n) := by
      have := nextIndex_root (pruneLimit k n)
      rwa [pos_pruneLimit] at this
    refine ⟨hr, ?_⟩
    intro h hh hhd
    have := heredoc_bound n hg ht k _ (nextIndex_hbound (pruneLimit k n)) h hh hhd
    have := endCap_le n
    omega

/-! ## (F1) for every word of every returned tree -/

section wend
open Bashlex.C07

theorem wend_shift (w : Node) (j : Nat) (h : WEnd w) : WEnd (Node.shift j w) := by
  intro m hm
  rw [Node.shift, Node.preorder_mapPos_eq] at hm
  obtain ⟨m0, hm0, rfl⟩ := List.mem_map.mp hm
  have := h m0 hm0
  rw [Node.pos_mapPos, Node.pos_shift]
  show m0.pos.2 + j ≤ w.pos.2 + j
  omega

/-- a word node whose parts all end inside it -/
theorem wend_word {p : Span} {e : Str} {parts : List Node}
    (h : ∀ c ∈ parts, ∀ m ∈ c.preorder, m.pos.2 ≤ p.2) : WEnd (.word p e parts) := by
  intro m hm
  rcases mem_preorder_iff.mp hm with rfl | ⟨c, hc, hmc⟩
  · exact Nat.le_refl _
  · exact h c (by simpa [children] using hc) m hmc

theorem ctx_wend {d : Nat} (ih : Sat (parserRun d) (fun r => ∀ n, r = some n → G WEnd n)) :
    Ctx WEnd (fun _ => True) (nestedOf d) := by
  refine ⟨?_, ?_, ?_⟩
  · intro tok _
    refine (sat_expandword (npspec_nested d) tok).weaken ?_ (fun _ h => h)
    rintro w ⟨expanded, parts, rfl, hp⟩
    rw [G_word]
    have hok : PartsOK (RNested d) tok.valueStr (qOf tok) tok.lexpos tok.endlexpos parts := by
      rcases hp with rfl | ⟨full, hfull, rfl | rfl⟩
      · exact PartsOK.nil
      · exact partsOK_of_wordSpec hfull
      · exact (partsOK_of_wordSpec hfull).filter _
    refine ⟨wend_word ?_, GL_parts_gen (fun _ j h => G_shift wend_shift h j) ih hok⟩
    -- the visitor's assertion: every node of every part ends inside the token
    rcases hp with rfl | ⟨full, hfull, hpf⟩
    · intro c hc; cases hc
    · have hfullfit : ∀ c ∈ full, ∀ m ∈ c.preorder, m.pos.2 ≤ tok.endlexpos := by
        rcases hfull with ⟨_, rfl⟩ | ⟨fl, tr, _, hfits, rfl⟩
        · intro c hc; cases hc
        · intro c hc m hm
          obtain ⟨p0, hp0, rfl⟩ := List.mem_map.mp hc
          rw [Node.shift, Node.preorder_mapPos_eq] at hm
          obtain ⟨m0, hm0, rfl⟩ := List.mem_map.mp hm
          rw [Node.pos_mapPos]
          exact hfits p0 hp0 m0 hm0
      rcases hpf with rfl | rfl
      · exact hfullfit
      · intro c hc; exact hfullfit c (List.mem_filter.mp hc).1
  · intro p s ps h m hm
    rcases mem_preorder_iff.mp hm with rfl | ⟨c, hc, hmc⟩
    · exact Nat.le_refl _
    · exact h m (mem_preorder_child (n := .word p s ps) (by simpa [children] using hc) hmc)
  · intro tok _
    exact wend_word (by intro c hc; cases hc)

/-- every parser run, at every nesting budget: all words of the returned tree are `WEnd` -/
theorem parserRun_wend : ∀ d, Sat (parserRun d) (fun r => ∀ n, r = some n → G WEnd n) := by
  intro d
  induction d with
  | zero => exact Sat.raise trivial
  | succ d ih =>
    exact sat_parserRun_of_ctx (T := fun _ => True)
      ((Sat.trivial _).weaken (fun _ _ => trivial) (fun _ h => h)) (ctx_wend ih)

theorem runParser_wend {s : Str} {o : Opts} {t : List Char} {n : Node}
    (h : (runParser s o t).1 = .ok (some n)) : G WEnd n :=
  runParser_sat_ok (SatS.of_sat (parserRun_wend _) fun _ _ => True) trivial h n rfl

/-- **(F1)** for `parse` (all inputs, all options, no hypothesis): in every returned tree, every
    node below a word or assignment node -- at any depth -- ends at or before that node's end -/
theorem parse_wend (s : Str) (o : Opts) (parts : List Node)
    (h : (parse s o).1 = .parts parts) : ∀ n ∈ parts, G WEnd n :=
  parse_parts (G WEnd) s o (fun _ _ _ _ hp => G_shift wend_shift (runParser_wend hp) _) parts h

end wend

/-! ## (E2) discharged -/

/-- the extra condition: no returned part sits above a D19 pipeline (`time -p a` with
    `proceedonerror`; C03's `+emptydesc`) -/
def noD19 (parts : List Node) : Bool := parts.all fun p => !containsD19 p

/-- (C12) the `heredoc` slot of a conformant redirect holds a `heredoc` node -/
theorem slot_of_localOK {m : Node} (h : C12.LocalOK m) (b : Node) (hb : heredocSlot m = some b) :
    isHeredoc b = true := by
  cases m with
  | redirect p i t out oa hd hid => exact ((C12.localOK_redirect_iff.mp h).2.2.2.1 b hb).1
  | _ => cases hb

/-- every returned part is a good tree, given that its spans are strictly nested (C03) -/
theorem parse_good_of_strict (s : Str) (o : Opts) (parts : List Node)
    (h : (parse s o).1 = .parts parts) (hstrict : ∀ n, n ∈ parts → C03.Strict s.length n) :
    ∀ n ∈ parts, GoodT s.length n := fun n hn m hm =>
  ⟨hstrict n hn m hm, fun hw => parse_wend s o parts h n hn m hm hw,
    slot_of_localOK (C12.parse_treeOK C12.sat_nextToken s o parts h n hn m hm)⟩

/-- (E2) for good trees that do not sit above a D19 pipeline -/
theorem heredocStable_of_good {len : Nat} (k : Nat) (parts : List Node)
    (hg : ∀ n ∈ parts, GoodT len n) (hD : noD19 parts = true) : heredocStable k parts = true := by
  unfold heredocStable
  rw [List.all_eq_true]
  intro p hp
  have ht : C03.tainted p = false := by
    have := List.all_eq_true.mp hD p hp
    simpa [C03.tainted] using this
  rw [beq_iff_eq]
  exact nextIndex_prune (hg p hp) ht k

/-- every returned part is a good tree -/
theorem parse_good (hR : C03.RootEnds) (s : Str) (o : Opts) (parts : List Node)
    (h : (parse s o).1 = .parts parts) : ∀ n ∈ parts, GoodT s.length n :=
  parse_good_of_strict s o parts h (C03.parse_strict C03.tokSpans hR s o parts h)

/-- **(E2) holds** of what the unlimited `parse` returns, under `RootEnds` (through C03's span
    theorem), for parts that do not sit above a D19 pipeline -/
theorem heredocStable_of_spans (hR : C03.RootEnds) (s : Str) (o : Opts) (k : Nat)
    (parts : List Node) (h : (parse s o).1 = .parts parts) (hD : noD19 parts = true) :
    heredocStable k parts = true :=
  heredocStable_of_good k parts (parse_good hR s o parts h) hD

/-- **C16 (model level) without (E2)**: for every input, all options and every `k`, whenever the
    unlimited parse succeeds -- and (E1) no nested parse skipped by the limited run changes the
    shared flags, and no part sits above a D19 pipeline -- the parse with `expansionlimit = k`
    succeeds and returns the unlimited result with every substitution node nested deeper than `k`
    removed.  The only hypothesis is C03's `RootEnds`. -/
theorem C16_partial' (hR : C03.RootEnds) (s : Str) (o : Opts) (k : Nat) (parts : List Node) :
    o.limit = none → (parse s o).1 = .parts parts → flagsNeutral k s o = true →
    noD19 parts = true →
    (parse s { o with limit := some (k : Int) }).1 = .parts (Spec.pruneLimitL k parts) := by
  intro ho hp hn hD
  exact C16_partial s o k parts ho hp hn (heredocStable_of_spans hR s o k parts hp hD)

/-! ## the same without `RootEnds`: the per-input condition of `C03/RootEnds.lean` -/

/-- every returned part is a good tree, under the decidable per-input condition
    `C03.rootEndsChecked` instead of the hypothesis `RootEnds` -/
theorem parse_good_checked (s : Str) (o : Opts) (parts : List Node)
    (hc : C03.rootEndsChecked s o = true) (h : (parse s o).1 = .parts parts) :
    ∀ n ∈ parts, GoodT s.length n :=
  parse_good_of_strict s o parts h (C03.parse_strict_checked s o parts hc h)

/-- **(E2) holds**, no hypothesis: two decidable per-input conditions -/
theorem heredocStable_checked (s : Str) (o : Opts) (k : Nat) (parts : List Node)
    (hc : C03.rootEndsChecked s o = true) (h : (parse s o).1 = .parts parts)
    (hD : noD19 parts = true) : heredocStable k parts = true :=
  heredocStable_of_good k parts (parse_good_checked s o parts hc h) hD

/-- **C16 (model level), no hypothesis left**: for every input, all options and every `k`, whenever
    the unlimited parse succeeds -- and the three decidable per-input conditions hold: (E1)
    `flagsNeutral`, no part above a D19 pipeline, the checked parse goes through
    (`C03.rootEndsChecked`) -- the parse with `expansionlimit = k` succeeds and returns the
    unlimited result with every substitution node nested deeper than `k` removed. -/
theorem C16_total_checked (s : Str) (o : Opts) (k : Nat) (parts : List Node) :
    o.limit = none → (parse s o).1 = .parts parts → flagsNeutral k s o = true →
    noD19 parts = true → C03.rootEndsChecked s o = true →
    (parse s { o with limit := some (k : Int) }).1 = .parts (Spec.pruneLimitL k parts) := by
  intro ho hp hn hD hc
  exact C16_partial s o k parts ho hp hn (heredocStable_checked s o k parts hc hp hD)

end Bashlex.C16

#print axioms Bashlex.C16.heredocStable_checked
#print axioms Bashlex.C16.C16_total_checked
#print axioms Bashlex.C16.parse_wend
#print axioms Bashlex.C16.nextIndex_prune
#print axioms Bashlex.C16.heredocStable_of_spans
#print axioms Bashlex.C16.C16_partial'
