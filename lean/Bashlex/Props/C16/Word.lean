/-
  C16: word expansion in two runs whose nested parsers are related (`NPR`):
  `rel_expandwordinternal`; `expandwordWith` (`expandword` with the nested parser as a parameter,
  `expandword_eq`) and `rel_expandwordWith`.
-/
import Bashlex.Props.C16.Rel
import Bashlex.Props.C16.MapW
import Bashlex.Model.Subst

namespace Bashlex.C16
open Bashlex Bashlex.Spec Bashlex.Node Bashlex.M Bashlex.LR
set_option linter.unusedSectionVars false
set_option linter.unusedSimpArgs false

variable [EnvRel]

/-- what the word level needs of the relation between the results of the nested parsers -/
structure NOK (N : Node → Node → Prop) : Prop where
  pos : ∀ {a b}, N a b → a.pos = b.pos
  bound : ∀ {a b}, N a b → ∀ P : Span → Bool,
    (a.preorder.all fun m => P m.pos) = true → (b.preorder.all fun m => P m.pos) = true
  shift : ∀ {a b}, N a b → ∀ k, N (a.shift k) (b.shift k)

def ORel (N : Node → Node → Prop) : Option Node → Option Node → Prop
  | none, none => True
  | some a, some b => N a b
  | _, _ => False

/-- the nested parsers of the two runs are related -/
def NPR (S : Local → Local → Prop) (N : Node → Node → Prop) (np₁ np₂ : NestedParse) : Prop :=
  ∀ s d, Rel S S (np₁ s d) (np₂ s d) (ORel N)

/-- parts of a word before filtering: substitutions carry related commands, everything else is
    identical -/
def PartR (N : Node → Node → Prop) (a b : Node) : Prop :=
  match a with
  | .commandsubstitution p c => ∃ c', b = .commandsubstitution p c' ∧ N c c'
  | .processsubstitution p c => ∃ c', b = .processsubstitution p c' ∧ N c c'
  | m => b = m

variable {S : Local → Local → Prop} {N : Node → Node → Prop}

theorem rel_adjustpositions (hN : NOK N) {a b : Node} (h : N a b) (base lim : Nat) :
    Rel S S (adjustpositions a base lim) (adjustpositions b base lim) N := by
  unfold adjustpositions
  by_cases hc : (a.preorder.all fun m => decide (m.pos.2 + base ≤ lim)) = true
  · have hc' := hN.bound h (fun p => decide (p.2 + base ≤ lim)) hc
    rw [if_pos hc, if_pos hc']; exact Rel.pure (hN.shift h base)
  · rw [if_neg hc]; exact Rel.foreign_left

theorem rel_recursiveparse (hN : NOK N) {np₁ np₂ : NestedParse} (hnp : NPR S N np₁ np₂)
    (base : Str) (sindex : Nat) (d : Bool) :
    Rel S S (recursiveparse np₁ base sindex d) (recursiveparse np₂ base sindex d)
      (fun r₁ r₂ => N r₁.1 r₂.1 ∧ r₁.2 = r₂.2) := by
  unfold recursiveparse
  refine Rel.bind (hnp _ _) ?_
  intro r₁ r₂ hr
  cases r₁ with
  | none => exact Rel.foreign_left
  | some a =>
    cases r₂ with
    | none => exact hr.elim
    | some b =>
      simp only []
      refine Rel.bind (rel_adjustpositions hN hr _ _) ?_
      intro a' b' h'
      exact Rel.pure ⟨h', by rw [hN.pos hr]⟩

theorem rel_parsedolparen (hN : NOK N) {np₁ np₂ : NestedParse} (hnp : NPR S N np₁ np₂)
    (base : Str) (sindex : Nat) :
    Rel S S (parsedolparen np₁ base sindex) (parsedolparen np₂ base sindex)
      (fun r₁ r₂ => N r₁.1 r₂.1 ∧ r₁.2 = r₂.2) := by
  unfold parsedolparen
  simp only []
  refine Rel.bind (rel_recursiveparse hN hnp _ _ _) ?_
  rintro ⟨a, e₁⟩ ⟨b, e₂⟩ ⟨h1, h2⟩
  simp only [] at h1 h2 ⊢
  subst h2
  cases (List.drop sindex base)[e₁]? with
  | none => exact Rel.foreign_left
  | some c => exact Rel.pure ⟨h1, rfl⟩

def OPartR (N : Node → Node → Prop) : Option Node → Option Node → Prop
  | none, none => True
  | some a, some b => PartR N a b
  | _, _ => False

theorem rel_paramexpand (hN : NOK N) {np₁ np₂ : NestedParse} (hnp : NPR S N np₁ np₂)
    (string : Str) (sindex : Nat) :
    Rel S S (paramexpand np₁ string sindex) (paramexpand np₂ string sindex)
      (fun r₁ r₂ => OPartR N r₁.1 r₂.1 ∧ r₁.2 = r₂.2) := by
  unfold paramexpand
  simp only []
  have hparam : ∀ (p : Span) (v : Str) (k : Nat),
      Rel S S (pure (some (Node.parameter p v), k) : M (Option Node × Nat))
        (pure (some (Node.parameter p v), k) : M (Option Node × Nat))
        (fun r₁ r₂ => OPartR N r₁.1 r₂.1 ∧ r₁.2 = r₂.2) := by
    intro p v k
    exact Rel.pure ⟨rfl, rfl⟩
  cases hc : string[sindex + 1]? with
  | none => exact hparam _ _ _
  | some c =>
    simp only []
    refine Rel.ite' (fun _ => hparam _ _ _) (fun _ => ?_)
    refine Rel.ite' (fun _ => ?_) (fun _ => ?_)
    · cases Str.findFrom string '}' (sindex + 1 + 1) with
      | none => exact Rel.pure ⟨trivial, rfl⟩
      | some z => exact hparam _ _ _
    refine Rel.ite' (fun _ => ?_) (fun _ => ?_)
    · cases string[sindex + 1 + 1]? with
      | none => exact Rel.foreign_left
      | some d =>
        simp only []
        refine Rel.ite' (fun _ => Rel.raise_left) (fun _ => ?_)
        refine Rel.bind (rel_parsedolparen hN hnp _ _) ?_
        rintro ⟨a, e₁⟩ ⟨b, e₂⟩ ⟨h1, h2⟩
        simp only [] at h1 h2 ⊢
        subst h2
        exact Rel.pure ⟨⟨b, rfl, h1⟩, rfl⟩
    refine Rel.ite' (fun _ => Rel.raise_left) (fun _ => hparam _ _ _)

/-! ### the expansion loop -/

def StR (N : Node → Node → Prop) (s t : ExpSt) : Prop :=
  s.istring = t.istring ∧ s.sindex = t.sindex ∧ s.flags = t.flags ∧ Forall2 (PartR N) s.parts t.parts

def FinR (N : Node → Node → Prop) (a b : List Node × Str × Bool) : Prop :=
  Forall2 (PartR N) a.1 b.1 ∧ a.2 = b.2

abbrev StepR (N : Node → Node → Prop) : ExpSt ⊕ (List Node × Str × Bool) →
    ExpSt ⊕ (List Node × Str × Bool) → Prop := SumR (StR N) (FinR N)

theorem rel_expandStep (hN : NOK N) {np₁ np₂ : NestedParse} (hnp : NPR S N np₁ np₂)
    (tok : Token) (string : Str) (qd : Bool) (st₁ st₂ : ExpSt) (hst : StR N st₁ st₂) :
    Rel S S (expandStep np₁ tok string qd st₁) (expandStep np₂ tok string qd st₂) (StepR N) := by
  obtain ⟨is, ps₁, si, fl⟩ := st₁
  obtain ⟨is', ps₂, si', fl'⟩ := st₂
  obtain ⟨h1, h2, h3, hps⟩ := hst
  simp only [] at h1 h2 h3 hps
  subst h1 h2 h3
  unfold expandStep
  simp only []
  have same : ∀ (is' : Str) (si' : Nat) (fl' : WordFlags),
      Rel S S (pure (Sum.inl { istring := is', parts := ps₁, sindex := si', flags := fl' }) :
          M (ExpSt ⊕ (List Node × Str × Bool)))
        (pure (Sum.inl { istring := is', parts := ps₂, sindex := si', flags := fl' })) (StepR N) :=
    fun _ _ _ => Rel.pure ⟨rfl, rfl, rfl, hps⟩
  have snoc : ∀ (a b : Node) (is' : Str) (si' : Nat) (fl' : WordFlags), PartR N a b →
      Rel S S (pure (Sum.inl { istring := is', parts := ps₁ ++ [a], sindex := si', flags := fl' }) :
          M (ExpSt ⊕ (List Node × Str × Bool)))
        (pure (Sum.inl { istring := is', parts := ps₂ ++ [b], sindex := si', flags := fl' })) (StepR N) :=
    fun _ _ _ _ _ h => Rel.pure ⟨rfl, rfl, rfl, forall2_snoc hps h⟩
  refine Rel.ite' (fun _ => Rel.pure ⟨hps, rfl⟩) (fun _ => ?_)
  cases hc : string[si]? with
  | none => exact Rel.foreign_left
  | some c =>
  simp only []
  refine Rel.ite' (fun _ => Rel.ite' (fun _ => same _ _ _) (fun _ => ?_)) (fun _ => ?_)
  · refine Rel.bind (rel_parsedolparen hN hnp _ _) ?_
    rintro ⟨a, e₁⟩ ⟨b, e₂⟩ ⟨h1, h2⟩
    simp only [] at h1 h2 ⊢
    subst h2
    exact snoc _ _ _ _ _ ⟨b, rfl, h1⟩
  refine Rel.ite' (fun _ => Rel.ite' (fun _ => same _ _ _) (fun _ => ?_)) (fun _ => ?_)
  · refine Rel.pure ?_
    show StR N _ _
    refine ⟨rfl, rfl, rfl, ?_⟩
    simp only []
    split
    · exact forall2_snoc hps rfl
    · exact hps
  refine Rel.ite' (fun _ => ?_) (fun _ => ?_)
  · refine Rel.bind (rel_paramexpand hN hnp _ _) ?_
    rintro ⟨a, e₁⟩ ⟨b, e₂⟩ ⟨h1, h2⟩
    simp only [] at h1 h2 ⊢
    subst h2
    refine Rel.pure ?_
    show StR N _ _
    refine ⟨rfl, rfl, rfl, ?_⟩
    simp only []
    cases a with
    | none =>
      cases b with
      | none => exact hps
      | some b => exact h1.elim
    | some a =>
      cases b with
      | none => exact h1.elim
      | some b => exact forall2_snoc hps h1
  refine Rel.ite' (fun _ => Rel.ite' (fun _ => same _ _ _) (fun _ => ?_)) (fun _ => ?_)
  · cases stringextract string (si + 1) '`' with
    | none => exact Rel.noRet (NoRet.bind_right (fun _ => NoRet.raise))
    | some x =>
      simp only []
      refine Rel.bind (rel_recursiveparse hN hnp _ _ _) ?_
      rintro ⟨a, e₁⟩ ⟨b, e₂⟩ ⟨h1, h2⟩
      simp only [] at h1 h2 ⊢
      refine Rel.bind (rel_adjustpositions hN h1 _ _) ?_
      intro a' b' h'
      exact snoc _ _ _ _ _ ⟨b', rfl, h'⟩
  refine Rel.ite' (fun _ => same _ _ _) (fun _ => ?_)
  refine Rel.ite' (fun _ => same _ _ _) (fun _ => ?_)
  refine Rel.ite' (fun _ => Rel.ite' (fun _ => Rel.pure ⟨.nil, rfl⟩) (fun _ => Rel.ite' (fun _ => same _ _ _)
    (fun _ => same _ _ _))) (fun _ => same _ _ _)

/-! ### after the loop -/

theorem partR_bound (hN : NOK N) {a b : Node} (h : PartR N a b) (P : Span → Bool)
    (ha : (a.preorder.all fun m => P m.pos) = true) : (b.preorder.all fun m => P m.pos) = true := by
  cases a with
  | commandsubstitution p c =>
    obtain ⟨c', rfl, hc⟩ := h
    simp only [preorder, List.all_cons, Bool.and_eq_true] at ha ⊢
    exact ⟨ha.1, hN.bound hc P ha.2⟩
  | processsubstitution p c =>
    obtain ⟨c', rfl, hc⟩ := h
    simp only [preorder, List.all_cons, Bool.and_eq_true] at ha ⊢
    exact ⟨ha.1, hN.bound hc P ha.2⟩
  | _ => cases h; exact ha

theorem partR_shift (hN : NOK N) {a b : Node} (h : PartR N a b) (k : Nat) :
    PartR N (a.shift k) (b.shift k) := by
  cases a with
  | commandsubstitution p c =>
    obtain ⟨c', rfl, hc⟩ := h
    exact ⟨_, rfl, hN.shift hc k⟩
  | processsubstitution p c =>
    obtain ⟨c', rfl, hc⟩ := h
    exact ⟨_, rfl, hN.shift hc k⟩
  | _ => cases h; simp [PartR, Node.shift, mapPos]

theorem forall2_isEmpty {α β} {R : α → β → Prop} {l₁ : List α} {l₂ : List β}
    (h : Forall2 R l₁ l₂) : l₁.isEmpty = l₂.isEmpty := by
  cases h <;> rfl

theorem forall2_map {α β α' β'} {R : α → β → Prop} {R' : α' → β' → Prop} {f : α → α'} {g : β → β'}
    (hfg : ∀ a b, R a b → R' (f a) (g b)) {l₁ : List α} {l₂ : List β}
    (h : Forall2 R l₁ l₂) : Forall2 R' (l₁.map f) (l₂.map g) := by
  induction h with
  | nil => exact .nil
  | cons h1 _ ih => exact .cons (hfg _ _ h1) ih

theorem forall2_all {α β} {R : α → β → Prop} {p : α → Bool} {q : β → Bool}
    (hpq : ∀ a b, R a b → p a = true → q b = true) {l₁ : List α} {l₂ : List β}
    (h : Forall2 R l₁ l₂) (hp : l₁.all p = true) : l₂.all q = true := by
  induction h with
  | nil => rfl
  | cons h1 _ ih =>
    simp only [List.all_cons, Bool.and_eq_true] at hp ⊢
    exact ⟨hpq _ _ h1 hp.1, ih hp.2⟩

theorem rel_expandwordinternal (hN : NOK N) {np₁ np₂ : NestedParse} (hnp : NPR S N np₁ np₂)
    (tok : Token) (qd : Bool) :
    Rel S S (expandwordinternal np₁ tok qd) (expandwordinternal np₂ tok qd)
      (fun r₁ r₂ => Forall2 (PartR N) r₁.1 r₂.1 ∧ r₁.2 = r₂.2) := by
  unfold expandwordinternal
  simp only []
  refine Rel.bind (Rel.loop (I := StR N) (R := FinR N)
    (fun s t hst => rel_expandStep hN hnp tok _ qd s t hst) _ _ _ ⟨rfl, rfl, rfl, .nil⟩) ?_
  rintro ⟨ps₁, is₁, early₁⟩ ⟨ps₂, is₂, early₂⟩ ⟨hps, h2⟩
  simp only [] at hps h2 ⊢
  cases h2
  rw [forall2_isEmpty hps]
  refine Rel.ite' (fun _ => Rel.pure ⟨hps, rfl⟩) (fun _ => ?_)
  by_cases hok : (ps₁.all fun p => p.preorder.all fun m => decide (m.pos.2 + tok.lexpos ≤ tok.endlexpos)) = true
  · have hok' : (ps₂.all fun p => p.preorder.all fun m => decide (m.pos.2 + tok.lexpos ≤ tok.endlexpos)) = true :=
      forall2_all (p := fun p => p.preorder.all fun m => decide (m.pos.2 + tok.lexpos ≤ tok.endlexpos))
        (q := fun p => p.preorder.all fun m => decide (m.pos.2 + tok.lexpos ≤ tok.endlexpos))
        (fun a b hab ha => partR_bound hN hab (fun p => decide (p.2 + tok.lexpos ≤ tok.endlexpos)) ha)
        hps hok
    simp only [hok, hok', Bool.not_true, Bool.false_eq_true, if_false]
    exact Rel.pure ⟨forall2_map (f := fun x => shift tok.lexpos x) (g := fun x => shift tok.lexpos x)
      (fun a b h => partR_shift hN h tok.lexpos) hps, rfl⟩
  · simp only [hok, Bool.not_false, if_true, Bool.not_eq_true] 
    exact Rel.noRet (NoRet.bind_left NoRet.foreign)

/-! ### `expandword` -/

/-- `expandword` after the limit has been read -/
def expandwordWith (np : NestedParse) (tok : Token) (limit : Option Int) : M Node := do
  if limit == some (-1) then
    return .word (tok.lexpos, tok.endlexpos) tok.valueStr []
  let quoted := tok.flags.contains .QUOTED
  let doublequoted ←
    if quoted then
      match tok.valueStr.head? with
      | none => M.foreign "IndexError" "_expandword"
      | some c => pure (c == '"')
    else pure false
  let (parts, expanded) ← expandwordinternal np tok doublequoted
  let parts := if limit == some 0 then parts.filter (fun n => !isSubstitution n) else parts
  return .word (tok.lexpos, tok.endlexpos) expanded parts

theorem expandword_eq (np : NestedParse) (tok : Token) :
    expandword np tok = (do let l ← get; expandwordWith np tok l.limit) := rfl

def filt (x : Option Int) (ps : List Node) : List Node :=
  if x == some 0 then ps.filter (fun n => !isSubstitution n) else ps

theorem rel_expandwordWith (hN : NOK N) {np₁ np₂ : NestedParse} (hnp : NPR S N np₁ np₂)
    (tok : Token) (x₁ x₂ : Option Int) (W : Node → Node → Prop)
    (hskip : (x₁ == some (-1)) = (x₂ == some (-1)))
    (hraw : W (.word (tok.lexpos, tok.endlexpos) tok.valueStr [])
      (.word (tok.lexpos, tok.endlexpos) tok.valueStr []))
    (hfin : ∀ ps₁ ps₂ w, Forall2 (PartR N) ps₁ ps₂ →
      W (.word (tok.lexpos, tok.endlexpos) w (filt x₁ ps₁))
        (.word (tok.lexpos, tok.endlexpos) w (filt x₂ ps₂))) :
    Rel S S (expandwordWith np₁ tok x₁) (expandwordWith np₂ tok x₂) W := by
  unfold expandwordWith
  simp only []
  rw [← hskip]
  refine Rel.ite' (fun _ => Rel.pure hraw) (fun _ => ?_)
  have hfin' : ∀ qd, Rel S S
      (do let x ← expandwordinternal np₁ tok qd
          pure (word (tok.lexpos, tok.endlexpos) x.snd
            (if (x₁ == some 0) = true then List.filter (fun n => !isSubstitution n) x.fst else x.fst)) : M Node)
      (do let x ← expandwordinternal np₂ tok qd
          pure (word (tok.lexpos, tok.endlexpos) x.snd
            (if (x₂ == some 0) = true then List.filter (fun n => !isSubstitution n) x.fst else x.fst)) : M Node)
      W := by
    intro qd
    refine Rel.bind (rel_expandwordinternal hN hnp tok qd) ?_
    rintro ⟨ps₁, w₁⟩ ⟨ps₂, w₂⟩ ⟨h1, h2⟩
    simp only [] at h1 h2 ⊢
    subst h2
    exact Rel.pure (hfin ps₁ ps₂ w₁ h1)
  refine Rel.ite' (fun _ => ?_) (fun _ => ?_)
  · cases tok.valueStr.head? with
    | none => exact Rel.noRet (NoRet.bind_left NoRet.foreign)
    | some c => exact Rel.bind (Rel.pure (R := Eq) rfl) (fun a b hab => by subst hab; exact hfin' _)
  · exact Rel.bind (Rel.pure (R := Eq) rfl) (fun a b hab => by subst hab; exact hfin' _)

/-- with depth left, the nested results pruned one level less give the pruned parts -/
theorem parts_prune_succ (k : Nat) : ∀ {ps₁ ps₂ : List Node},
    Forall2 (PartR fun a b => b = pruneLimit k a) ps₁ ps₂ → ps₂ = pruneParts (k + 1) ps₁ := by
  intro ps₁ ps₂ h
  induction h with
  | nil => simp [pruneParts]
  | @cons a b l₁ l₂ hab _ ih =>
    subst ih
    cases a with
    | commandsubstitution p c =>
      obtain ⟨c', rfl, rfl⟩ := hab
      simp [pruneParts, pruneLimit]
    | processsubstitution p c =>
      obtain ⟨c', rfl, rfl⟩ := hab
      simp [pruneParts, pruneLimit]
    | _ => cases hab; simp [pruneParts]

/-- without depth left, the substitutions are filtered out whatever their commands are -/
theorem parts_prune_zero : ∀ {ps₁ ps₂ : List Node},
    Forall2 (PartR N) ps₁ ps₂ → ps₂.filter (fun n => !isSubstitution n) = pruneParts 0 ps₁ := by
  intro ps₁ ps₂ h
  induction h with
  | nil => simp [pruneParts]
  | @cons a b l₁ l₂ hab _ ih =>
    rw [List.filter_cons, ih]
    cases a with
    | commandsubstitution p c =>
      obtain ⟨c', rfl, _⟩ := hab
      simp [pruneParts, isSubstitution]
    | processsubstitution p c =>
      obtain ⟨c', rfl, _⟩ := hab
      simp [pruneParts, isSubstitution]
    | _ => cases hab; simp [pruneParts, isSubstitution]

end Bashlex.C16
