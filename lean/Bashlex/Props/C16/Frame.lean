/-
  C16: the tokenizer neither reads nor writes what the two runs may disagree on.

  `SF P l₁ l₂`: the states agree on `core` (everything but `limit`, `ps.cmdsubst`, `ps.eoftoken`,
  `ps.casestmt`) and their "sides" are related by `P`.  `Fr S m`: the program `m`,
  run twice from `S`-related states, returns the same result and `S`-related states.

  The walk through `Model/Tokenizer.lean` is generic in `P` and in the relation between the
  environments (`EnvRel`); it needs the frame property of the nine tape / option / table primitives
  of `Model/Monad.lean` only (`Prims`).  `Fr S` is a predicate on one program (the diagonal of
  `Rel`), closed under `pure`, `bind` and `raise`: the functions that never look at the parser
  object are instances of the generic walk (`Fr.builds`, `Fr.scan`; `Proofs/ClosedTok.lean`).  A
  function that reads the state meets two different values (`get` is not closed): these are
  walked here, two-sided (`rel2`).  Two instances (`FrameInst.lean`):
    * `St j b` with the standard environment relation  →  `FrameHyp.next`, `FrameHyp.gather`;
    * "own tape, fixed options", environments pinned to a reference  →  `FrameHyp.nestedEnv`.
-/
import Bashlex.Props.C16.Run
import Bashlex.Props.C16.FrAttr
import Bashlex.Proofs.ClosedTok

namespace Bashlex.C16
open Bashlex Bashlex.M
set_option linter.unusedSectionVars false
set_option linter.unusedVariables false

/-- what `P` may say of the two states beyond `core l₁ = core l₂`.  Of the four fields outside
    `core`: `limit` and `ps.cmdsubst` (`ps.eoftoken` and `ps.casestmt` stay unconstrained).  And
    three things inside `core`, equal in both runs, whose VALUE an instance needs: the end-of-input
    token, and whether tape and options live in the state or in the environment. -/
structure Side where
  limit : Option Int
  cmdsubst : Bool
  eofToken : Option Token
  ownTape : Bool
  ownOpts : Bool

def side (l : Local) : Side := ⟨l.limit, l.ps.cmdsubst, l.eofToken, l.tape.isSome, l.opts.isSome⟩

def SF (P : Side → Side → Prop) (l₁ l₂ : Local) : Prop := core l₁ = core l₂ ∧ P (side l₁) (side l₂)

/-- closure under every update whose effect on the core depends on the core only and which
    leaves the side alone -/
theorem SF.upd {P : Side → Side → Prop} {l₁ l₂ : Local} (h : SF P l₁ l₂) (U : Local → Local)
    (h1 : core (U l₁) = core (U (core l₁))) (h2 : core (U l₂) = core (U (core l₂)))
    (s1 : side (U l₁) = side l₁) (s2 : side (U l₂) = side l₂) : SF P (U l₁) (U l₂) := by
  refine ⟨?_, ?_⟩
  · rw [h1, h2, h.1]
  · rw [s1, s2]; exact h.2

/-- run 2's state is run 1's state with four fields overwritten -/
def tw (x : Option Int) (c t z : Bool) (l : Local) : Local :=
  { l with limit := x, ps := { l.ps with cmdsubst := c, eoftoken := t, casestmt := z } }

theorem eq_tw_of_core {l₁ l₂ : Local} (h : core l₁ = core l₂) :
    l₂ = tw l₂.limit l₂.ps.cmdsubst l₂.ps.eoftoken l₂.ps.casestmt l₁ := by
  obtain ⟨tp, op, eol, tta, tbt, lrt, ct, ps, obc, en, ds, pos, eof, rs, st, lim⟩ := l₁
  obtain ⟨tp', op', eol', tta', tbt', lrt', ct', ps', obc', en', ds', pos', eof', rs', st', lim'⟩ := l₂
  obtain ⟨a1, a2, a3, a4, a5, a6, a7, a8, a9, a10, a11, a12, a13⟩ := ps
  obtain ⟨b1, b2, b3, b4, b5, b6, b7, b8, b9, b10, b11, b12, b13⟩ := ps'
  simp only [core, coreP, Local.mk.injEq, PState.mk.injEq] at h
  simp only [tw, Local.mk.injEq, PState.mk.injEq]
  simp_all

theorem SF.tw {P : Side → Side → Prop} {l₁ l₂ : Local} (h : SF P l₁ l₂) :
    ∃ x c t z, l₂ = C16.tw x c t z l₁ := ⟨_, _, _, _, eq_tw_of_core h.1⟩

section
variable [EnvRel] {S : Local → Local → Prop} {α β : Type}

/-- `m` respects the frame -/
def Fr (S : Local → Local → Prop) (m : M α) : Prop := Rel S S m m Eq

@[fr] theorem Fr_pure (a : α) : Fr S (pure a : M α) = True := eq_true (Rel.pure rfl)
@[fr] theorem Fr_raise (x : Exn) : Fr S (M.raise x : M α) = True := eq_true Rel.raise_left
@[fr] theorem Fr_foreign (a b : String) : Fr S (M.foreign a b : M α) = True :=
  eq_true Rel.foreign_left
@[fr] theorem Fr_ite (c : Prop) [Decidable c] (a b : M α) :
    Fr S (if c then a else b) = (if c then Fr S a else Fr S b) := by
  split <;> rfl

theorem Fr.bind {m : M α} {f : α → M β} (hm : Fr S m) (hf : ∀ a, Fr S (f a)) : Fr S (m >>= f) :=
  Rel.bind hm (fun a b hab => by subst hab; exact hf a)

@[fr] theorem Fr_bind (m : M α) (f : α → M β) (hm : Fr S m) (hf : ∀ a, Fr S (f a)) :
    Fr S (m >>= f) = True := eq_true (Fr.bind hm hf)

theorem Fr.loop {σ : Type} {site : String} {body : σ → M (σ ⊕ α)} (h : ∀ s, Fr S (body s))
    (fuel : Nat) (s : σ) : Fr S (M.loop site body fuel s) := by
  refine Rel.loop (I := Eq) (R := Eq) ?_ fuel s s rfl
  rintro s _ rfl
  refine (h s).conseq ?_
  rintro a _ rfl
  cases a <;> exact rfl

@[fr] theorem Fr_loop {σ : Type} (site : String) (body : σ → M (σ ⊕ α)) (fuel : Nat) (s : σ)
    (h : ∀ s, Fr S (body s)) : Fr S (M.loop site body fuel s) = True := eq_true (Fr.loop h fuel s)

end

/-! ## the primitives of `Model/Monad.lean` -/

section walk
variable [EnvRel]

/-- the frame property of the primitives that touch the tape, the options or the table -/
class Prims (P : Side → Side → Prop) : Prop where
  getc : ∀ rqn, Fr (SF P) (getc rqn)
  ungetc : ∀ c, Fr (SF P) (ungetc c)
  curIdx : Fr (SF P) curIdx
  bumpIdx : Fr (SF P) bumpIdx
  tapeSource : Fr (SF P) tapeSource
  tapeLine : Fr (SF P) tapeLine
  tapeAdded : Fr (SF P) tapeAdded
  optStrict : Fr (SF P) optStrict
  syn : ∀ c, Fr (SF P) (syn c)

variable {P : Side → Side → Prop} [Prims P]

@[fr] theorem Fr_getc (rqn : Bool) : Fr (SF P) (getc rqn) = True := eq_true (Prims.getc rqn)
@[fr] theorem Fr_ungetc (c : Option Char) : Fr (SF P) (ungetc c) = True := eq_true (Prims.ungetc c)
@[fr] theorem Fr_curIdx : Fr (SF P) curIdx = True := eq_true Prims.curIdx
@[fr] theorem Fr_bumpIdx : Fr (SF P) bumpIdx = True := eq_true Prims.bumpIdx
@[fr] theorem Fr_tapeSource : Fr (SF P) tapeSource = True := eq_true Prims.tapeSource
@[fr] theorem Fr_tapeLine : Fr (SF P) tapeLine = True := eq_true Prims.tapeLine
@[fr] theorem Fr_tapeAdded : Fr (SF P) tapeAdded = True := eq_true Prims.tapeAdded
@[fr] theorem Fr_optStrict : Fr (SF P) optStrict = True := eq_true Prims.optStrict
@[fr] theorem Fr_syn (c : Char) : Fr (SF P) (syn c) = True := eq_true (Prims.syn c)

omit [Prims P] in
/-- `modify` by an update that respects the core and leaves the side alone -/
theorem Fr.modify (U : Local → Local) (h1 : ∀ l, core (U l) = core (U (core l)))
    (hs : ∀ l, side (U l) = side l) : Fr (SF P) (modify U : M Unit) :=
  (Rel.modify (fun l₁ l₂ h => h.upd U (h1 _) (h1 _) (hs _) (hs _))).conseq (fun _ _ _ => rfl)

/-- the diagonal of the two-run relation is closed under what the scanners are built from -/
theorem Fr.builds : Builds tokSite (fun {α} (m : M α) => Fr (SF P) m) where
  pure _ := Rel.pure rfl
  bind := Fr.bind
  raise _ := Rel.raise_left
  syn := Prims.syn
  curIdx := Prims.curIdx
  tapeSource := Prims.tapeSource
  tapeLine := Prims.tapeLine
  tapeAdded := Prims.tapeAdded

theorem Fr.tape : TapeAtoms (fun {α} (m : M α) => Fr (SF P) m) :=
  ⟨Prims.getc, Prims.ungetc, Prims.bumpIdx⟩

@[fr] theorem Fr_shellmeta (c : Char) : Fr (SF P) (shellmeta c) = True :=
  eq_true (wk_shellmeta Fr.builds c)
@[fr] theorem Fr_peekc (rqn : Bool) : Fr (SF P) (peekc rqn) = True :=
  eq_true (wk_peekc Fr.builds Fr.tape rqn)

@[fr] theorem Fr_recordpos (rel : Nat) : Fr (SF P) (recordpos rel) = True := by
  refine eq_true ?_
  unfold recordpos
  refine Fr.bind Prims.curIdx (fun i => ?_)
  exact Fr.modify _ (fun _ => rfl) (fun _ => rfl)

@[fr] theorem Fr_loopFuel : Fr (SF P) loopFuel = True := eq_true (wk_loopFuel Fr.builds)

@[fr] theorem Fr_readline (b : Bool) : Fr (SF P) (readline b) = True :=
  eq_true (wk_readline Fr.builds Fr.tape b)

/-! ## the delimiter stack -/

omit [Prims P] in
theorem Fr.get_bind {k : Local → M α}
    (h : ∀ l₁ l₂, SF P l₁ l₂ → Rel (SF P) (SF P) (k l₁) (k l₂) Eq) :
    Fr (SF P) (MonadState.get >>= k) := Rel.bind Rel.get h

omit [Prims P] in
theorem Rel.setU {a b : Local} (h : SF P a b) :
    Rel (SF P) (SF P) (MonadStateOf.set a : M Unit) (MonadStateOf.set b : M Unit) Eq :=
  (Rel.set h).conseq (fun _ _ _ => rfl)

theorem Fr_popDelimiter : Fr (SF P) popDelimiter := by
  unfold popDelimiter
  refine Fr.get_bind ?_
  intro l₁ l₂ hl
  obtain ⟨x, c, t, z, rfl⟩ := hl.tw
  dsimp only [tw]
  refine Rel.ite' (fun _ => Rel.noRet (NoRet.bind_left NoRet.foreign)) (fun _ => ?_)
  exact Rel.setU ⟨rfl, hl.2⟩

theorem Fr_currentDelimiter : Fr (SF P) currentDelimiter := by
  unfold currentDelimiter
  refine Fr.get_bind ?_
  intro l₁ l₂ hl
  obtain ⟨x, c, t, z, rfl⟩ := hl.tw
  exact Rel.pure rfl

/-! ## `_parse_matched_pair`, `_parse_comsub`, the loop of `_readtokenword` -/

/-- what the generic walk of the scanners asks: no raise site is excluded -/
theorem Fr.scan : ScanWorld (fun {α} (m : M α) => Fr (SF P) m) where
  tape := Fr.tape
  delim := ⟨fun _ => Fr.modify _ (fun _ => rfl) (fun _ => rfl), Fr_popDelimiter⟩
  current := Fr_currentDelimiter
  sites := Sites.of_foreign fun _ _ => Rel.foreign_left

/-! ## functions that read or write the state directly -/

omit [Prims P] in
theorem Rel.bindEq {S S' S'' : Local → Local → Prop} {m₁ m₂ : M α} {f g : α → M β}
    {R : β → β → Prop} (hm : Rel S S' m₁ m₂ Eq) (hf : ∀ a, Rel S' S'' (f a) (g a) R) :
    Rel S S'' (m₁ >>= f) (m₂ >>= g) R :=
  Rel.bind hm (fun a b h => by subst h; exact hf a)

omit [Prims P] in
theorem Rel.bindEqS {S : Local → Local → Prop} {m₁ m₂ : M α} {f g : α → M β}
    {R : β → β → Prop} (hm : Rel S S m₁ m₂ Eq) (hf : ∀ a, Rel S S (f a) (g a) R) :
    Rel S S (m₁ >>= f) (m₂ >>= g) R := Rel.bindEq hm hf

omit [Prims P] in
theorem Rel.loopS {σ : Type} {S : Local → Local → Prop} {site : String} {body : σ → M (σ ⊕ α)}
    (h : ∀ s, Rel S S (body s) (body s) Eq) (fuel : Nat) (s : σ) :
    Rel S S (M.loop site body fuel s) (M.loop site body fuel s) Eq := Fr.loop h fuel s

/-- read the state: run 2's value is run 1's with four fields overwritten; after `dsimp` the two
    programs differ in the arguments of `set` only -/
macro "fr_get" : tactic => `(tactic| (
  refine Rel.bind Rel.get ?_
  intro l₁ l₂ hl
  obtain ⟨x, c, t, z, h⟩ := SF.tw hl
  subst h
  have hP := hl.2
  dsimp only [tw]))

open Lean Elab Tactic Meta in
/-- succeed iff the first program of the goal `Rel S S' m₁ m₂ R` has head constant `n` -/
elab "prog_head " n:ident : tactic => do
  let g := (← instantiateMVars (← getMainTarget)).cleanupAnnotations
  let args := g.getAppArgs
  unless g.getAppFn.isConstOf ``Rel && args.size == 8 do throwError "not a Rel goal"
  let m₁ := args[5]!.cleanupAnnotations
  let c ← realizeGlobalConstNoOverloadWithInfo n
  unless m₁.getAppFn.isConstOf c do throwError "head mismatch"

open Lean Elab Tactic Meta in
/-- succeed iff the first program is `m >>= f` and `m` has head constant `n` -/
elab "bind_head " n:ident : tactic => do
  let g := (← instantiateMVars (← getMainTarget)).cleanupAnnotations
  let args := g.getAppArgs
  unless g.getAppFn.isConstOf ``Rel && args.size == 8 do throwError "not a Rel goal"
  let m₁ := args[5]!.cleanupAnnotations
  unless m₁.getAppFn.isConstOf ``Bind.bind && m₁.getAppNumArgs == 6 do throwError "not a bind"
  let m := m₁.getAppArgs[4]!.cleanupAnnotations
  let c ← realizeGlobalConstNoOverloadWithInfo n
  unless m.getAppFn.isConstOf c do throwError "head mismatch"

open Lean Elab Tactic Meta in
/-- instantiate the `have`s at the head of the two programs (and nothing below) -/
elab "zeta_head" : tactic => do
  let g := (← instantiateMVars (← getMainTarget)).cleanupAnnotations
  let args := g.getAppArgs
  unless g.getAppFn.isConstOf ``Rel && args.size == 8 do throwError "not a Rel goal"
  let strip (e : Expr) : Expr :=
    match e.cleanupAnnotations with
    | .letE _ _ v b _ => (b.instantiate1 v).headBeta
    | e' => e'.headBeta
  let m₁ := args[5]!.cleanupAnnotations
  unless m₁.isLet || m₁.isHeadBetaTarget do throwError "no let or beta-redex at the head"
  let args := (args.set! 5 (strip args[5]!)).set! 6 (strip args[6]!)
  let g' := mkAppN g.getAppFn args
  let mv ← (← getMainGoal).change g'
  replaceMainGoal [mv]

/-- one step of the two-sided walk -/
macro "rel2s" : tactic => `(tactic| (first
  | (prog_head Pure.pure; exact Rel.pure rfl)
  | (prog_head M.raise; exact Rel.raise_left)
  | (prog_head M.foreign; exact Rel.foreign_left)
  | (prog_head MonadStateOf.set; exact Rel.setU ⟨rfl, by assumption⟩)
  | (prog_head modify; refine Fr.modify _ ?_ ?_ <;> (intro _; rfl))
  | (prog_head ite; refine Rel.ite' (fun _ => ?_) (fun _ => ?_))
  | (bind_head M.foreign; exact Rel.noRet (NoRet.bind_left NoRet.foreign))
  | (bind_head M.raise; exact Rel.noRet (NoRet.bind_left NoRet.raise))
  | (bind_head MonadStateOf.set
     refine Rel.bind (Rel.setU ?_) ?_
     (exact ⟨rfl, by assumption⟩)
     (rintro _ _ _))
  | (bind_head modify
     refine Rel.bindEq (Fr.modify _ ?_ ?_) (fun _ => ?_)
     (intro _; rfl)
     (intro _; rfl))
  | (bind_head MonadState.get; fr_get)
  | (prog_head Bind.bind; refine Rel.bindEqS ?_ (fun _ => ?_))
  | (prog_head M.loop; refine Rel.loopS (fun _ => ?_) _ _)
  | zeta_head
  | split
  | (show Fr (SF _) _
     simp (config := { maxDischargeDepth := 40 }) only [fr, ite_self, forall_const, implies_true, *]
     done)))

/-- two-sided walk: dispatch on the head of the first program -/
macro "rel2" : tactic => `(tactic| repeat' rel2s)

/-! ## tokens -/

@[fr] theorem Fr_createtoken (ty : TokType) (v : TVal) (fl : WordFlags) :
    Fr (SF P) (createtoken ty v fl) = True := by
  refine eq_true ?_
  unfold createtoken Fr
  rel2

@[fr] theorem Fr_isAssignment (v : Str) : Fr (SF P) (isAssignment v) = True :=
  eq_true (wk_isAssignment Fr.builds Rel.foreign_left v)
@[fr] theorem Fr_specialcasetokens (v : Str) : Fr (SF P) (specialcasetokens v) = True := by
  refine eq_true ?_
  unfold specialcasetokens Fr
  rel2

@[fr] theorem Fr_fwEnd (fn : Bool) (tok : Token) : Fr (SF P) (fwEnd fn tok) = True := by
  refine eq_true ?_
  unfold fwEnd Fr
  rel2

@[fr] theorem Fr_fwWord (st : RWState) (tok : Token) : Fr (SF P) (fwWord st tok) = True := by
  refine eq_true ?_
  unfold fwWord Fr
  rel2

@[fr] theorem Fr_finishWord (st : RWState) : Fr (SF P) (finishWord st) = True := by
  refine eq_true ?_
  rw [finishWord_eq]
  unfold fwHead Fr
  rel2

@[fr] theorem Fr_readtokenword (c : Char) : Fr (SF P) (readtokenword c) = True :=
  eq_true (wk_readtokenword Fr.builds (Fr.scan.readtokenwordStep Fr.builds)
    (fun st => of_eq_true (Fr_finishWord st)) c)

@[fr] theorem Fr_discardUntil (c : Char) : Fr (SF P) (discardUntil c) = True :=
  eq_true (wk_discardUntil Fr.builds Fr.tape c)

@[fr] theorem Fr_tokentypeOfChar (c : Char) : Fr (SF P) (tokentypeOfChar c) = True :=
  eq_true (Fr.scan.tokentypeOfChar Fr.builds c)

/-! ## here-documents -/

@[fr] theorem Fr_makeheredoc (id : Nat) (k : Bool) : Fr (SF P) (makeheredoc id k) = True := by
  refine eq_true ?_
  unfold makeheredoc Fr
  rel2

@[fr] theorem Fr_gatherheredocuments : Fr (SF P) gatherheredocuments = True := by
  refine eq_true ?_
  unfold gatherheredocuments Fr
  rel2

/-! ## `_readtoken`, `token` -/

@[fr] theorem Fr_readtokenMeta (ch : Char) : Fr (SF P) (readtokenMeta ch) = True := by
  refine eq_true ?_
  unfold readtokenMeta Fr
  rel2

@[fr] theorem Fr_readtoken : Fr (SF P) readtoken = True := by
  refine eq_true ?_
  unfold readtoken Fr
  rel2

theorem Fr_nextToken : Fr (SF P) nextToken := by
  unfold nextToken Fr
  rel2

end walk

end Bashlex.C16
