/-
  C16: one parser run at every nesting depth, in the unlimited (instrumented) run and in
  the run with `expansionlimit`: the state relation `St j b`, the instrumented parser
  `parserRunI`, and `parserRunI_plain` (it agrees with `parserRun` whenever it returns).
-/
import Bashlex.Props.C16.Actions
import Bashlex.Props.C16.Engine
import Bashlex.Props.C16.Tree
import Bashlex.Proofs.ParserLift

namespace Bashlex.C16
open Bashlex Bashlex.Spec Bashlex.Node Bashlex.M Bashlex.LR
set_option linter.unusedSimpArgs false

/-! ## the relation between the local states of the two runs -/

/-- erase the three flags no tokenizer function reads (`eoftoken` is only ever reset, `casestmt`
    only ever written) -/
def coreP (p : PState) : PState :=
  { p with cmdsubst := false, eoftoken := false, casestmt := false }

/-- what the two runs agree on: everything but `limit`, `ps.cmdsubst`, `ps.eoftoken`,
    `ps.casestmt` -/
def core (l : Local) : Local := { l with limit := none, ps := coreP l.ps }

/-- `St j b`: run 1 is unlimited, run 2 has `expansionlimit = j`; the states agree on `core`;
    `b = true`: a `$(…)` parser or a parser nested in one (CMDSUBST set in both runs);
    `b = false`: no end-of-input token (top level, back-quote parsers outside any `$(…)`) -/
def St (j : Int) (b : Bool) (l₁ l₂ : Local) : Prop :=
  core l₁ = core l₂ ∧ l₁.limit = none ∧ l₂.limit = some j ∧
    (if b then l₁.ps.cmdsubst = true ∧ l₂.ps.cmdsubst = true else l₁.eofToken = none)

section stdA
attribute [local instance] stdEnvRel

/-- the frame facts on the tokenizer (proved: `frameHyp`, `Props/C16/FrameInst.lean`) -/
structure FrameHyp : Prop where
  /-- `nextToken` neither reads nor writes `limit`, `ps.cmdsubst`; it only resets `ps.eoftoken` -/
  next : ∀ j b, Rel (St j b) (St j b) nextToken nextToken Eq
  gather : ∀ j b, Rel (St j b) (St j b) gatherheredocuments gatherheredocuments (fun _ _ => True)
  /-- a parser that runs over its own tape with fixed options leaves the caller's tape alone -/
  nestedEnv : ∀ d l e r l' e', l.tape.isSome = true → l.opts.isSome = true →
    (parserRun d).run l e = (.ok (r, l'), e') → EnvR e e'

theorem core_fields {l₁ l₂ : Local} (h : core l₁ = core l₂) :
    l₁.tape = l₂.tape ∧ l₁.opts = l₂.opts ∧ l₁.store = l₂.store ∧ l₁.redirstack = l₂.redirstack ∧
    l₁.eofToken = l₂.eofToken ∧ l₁.currentToken = l₂.currentToken ∧ coreP l₁.ps = coreP l₂.ps ∧
    l₁.lastReadToken = l₂.lastReadToken ∧ l₁.tokenBeforeThat = l₂.tokenBeforeThat ∧
    l₁.twoTokensAgo = l₂.twoTokensAgo := by
  have h1 : (core l₁).tape = (core l₂).tape := by rw [h]
  have h2 : (core l₁).opts = (core l₂).opts := by rw [h]
  have h3 : (core l₁).store = (core l₂).store := by rw [h]
  have h4 : (core l₁).redirstack = (core l₂).redirstack := by rw [h]
  have h5 : (core l₁).eofToken = (core l₂).eofToken := by rw [h]
  have h6 : (core l₁).currentToken = (core l₂).currentToken := by rw [h]
  have h7 : (core l₁).ps = (core l₂).ps := by rw [h]
  have h8 : (core l₁).lastReadToken = (core l₂).lastReadToken := by rw [h]
  have h9 : (core l₁).tokenBeforeThat = (core l₂).tokenBeforeThat := by rw [h]
  have h10 : (core l₁).twoTokensAgo = (core l₂).twoTokensAgo := by rw [h]
  exact ⟨h1, h2, h3, h4, h5, h6, h7, h8, h9, h10⟩

/-- `p_redirection_heredoc`'s effect on the state -/
def updH (c : RedirCell) (k : Bool) (l : Local) : Local :=
  { l with store := l.store ++ [c], redirstack := l.redirstack ++ [(l.store.length, k)] }

theorem core_updH (c : RedirCell) (k : Bool) (l : Local) : core (updH c k l) = updH c k (core l) := rfl

theorem core_iu (l : Local) : core (iu l) = core l := by
  unfold iu
  split <;> rfl

theorem rel_optProceed_std {S : Local → Local → Prop}
    (hopts : ∀ {l₁ l₂}, S l₁ l₂ → l₁.opts = l₂.opts) : Rel S S optProceed optProceed Eq := by
  unfold optProceed
  refine Rel.bind Rel.get ?_
  intro l₁ l₂ hl
  rw [hopts hl]
  cases l₂.opts with
  | none => exact Rel.ask _
  | some v => exact Rel.pure rfl

theorem St.sok (hF : FrameHyp) (j : Int) (b : Bool) : SOK (St j b) where
  store h := (core_fields h.1).2.2.1
  opts h := (core_fields h.1).2.1
  tape h := (core_fields h.1).1
  heredoc c k h := by
    obtain ⟨h1, h2, h3, h4⟩ := h
    show St j b (updH c k _) (updH c k _)
    refine ⟨?_, h2, h3, h4⟩
    rw [core_updH, core_updH, h1]
  inputunit h := by
    obtain ⟨h1, h2, h3, h4⟩ := h
    refine ⟨by rw [core_iu, core_iu, h1], ?_, ?_, ?_⟩
    · unfold iu; split <;> exact h2
    · unfold iu; split <;> exact h3
    · cases b
      · simp only [Bool.false_eq_true, if_false] at h4 ⊢
        unfold iu; split <;> exact h4
      · simp only [if_true] at h4 ⊢
        refine ⟨?_, ?_⟩
        · unfold iu; split <;> exact h4.1
        · unfold iu; split <;> exact h4.2
  accept h := by
    obtain ⟨h1, h2, h3, h4⟩ := h
    obtain ⟨_, _, _, _, he, hc, _⟩ := core_fields h1
    unfold accCond
    cases b
    · simp only [Bool.false_eq_true, if_false] at h4
      rw [← he, h4]; simp
    · simp only [if_true] at h4
      rw [h4.1, h4.2, he, hc]
  next := hF.next j b
  gather := hF.gather j b
  optProceed := rel_optProceed_std (fun h => (core_fields h.1).2.1)

theorem sok_eq : SOK (Eq : Local → Local → Prop) where
  store h := by rw [h]
  opts h := by rw [h]
  tape h := by rw [h]
  heredoc c k h := by rw [h]
  inputunit h := by rw [h]
  accept h := by rw [h]
  next := Rel.same _
  gather := (Rel.same _).conseq (fun _ _ _ => trivial)
  optProceed := Rel.same _

end stdA

/-! ## one parser run, generic in the nested parser -/

theorem parserRun_succ (d : Nat) : parserRun (d + 1) = level (C03.npOf (parserRun d)) := rfl

/-- the shared parser-state flags after a nested parse are the flags before it, up to the two
    flags the tokenizer does not read; CMDSUBST is not lost -/
def flagsKept (o i : PState) : Bool := coreP i == coreP o && (!o.cmdsubst || i.cmdsubst)

/-- the nested parser with a run-time check: when `chk`, a nested parse that changes the shared
    flags raises `FlagLeak` -/
def npI (chk : Bool) (rec : M (Option Node)) : NestedParse := fun string dolparen => do
  let outer ← get
  set (nestedInit outer string dolparen)
  let r ← rec
  let inner ← get
  if chk && !flagsKept outer.ps inner.ps then M.foreign "FlagLeak" "nested parse below the limit"
  set { outer with ps := inner.ps }
  pure r

/-- **the instrumented unlimited parser**: `parserRun`, except that every nested parse started
    by a parser whose counterpart in the limited run has `expansionlimit = -1` (or is itself
    skipped) is checked to leave the shared flags alone.  `j` is the limit of the counterpart. -/
def parserRunI : Int → Nat → M (Option Node)
  | _, 0 => M.raise (.outOfFuel "nesting")
  | j, depth + 1 => level (npI (decide (j ≤ -1)) (parserRunI (j - 1) depth))

theorem npOf_eq_npI (rec : M (Option Node)) : C03.npOf rec = npI false rec := rfl

section gen
variable [EnvRel]

theorem hooksR {S : Local → Local → Prop} (hS : SOK S) {f g : WF} (hfg : WOK f g)
    {np₁ np₂ : NestedParse}
    (hW : ∀ tok, Rel S S (expandword np₁ tok) (expandword np₂ tok) (WR f g)) :
    HooksR S (SR f g) (lrHooks np₁) (lrHooks np₂) where
  next := by
    show Rel S S (nextToken >>= fun t => pure (symOfTok t, SVal.tok t))
      (nextToken >>= fun t => pure (symOfTok t, SVal.tok t)) _
    refine Rel.bind hS.next ?_
    rintro t _ rfl
    exact Rel.pure ⟨rfl, rfl⟩
  act p args₁ args₂ h := rel_action hS hfg hW h _
  isNl v₁ v₂ h := by
    cases v₁ <;> cases v₂ <;> simp only [SR] at h <;> first | exact h.elim | rfl | skip
    subst h; rfl

theorem rel_level {S : Local → Local → Prop} (hS : SOK S) {f g : WF} (hfg : WOK f g)
    {np₁ np₂ : NestedParse}
    (hW : ∀ tok, Rel S S (expandword np₁ tok) (expandword np₂ tok) (WR f g)) :
    Rel S S (level np₁) (level np₂) (ORel (NR f g)) := by
  unfold level
  refine Rel.bind (rel_run _ (hooksR hS hfg hW) _) ?_
  intro r₁ r₂ hr
  refine Rel.bind Rel.get ?_
  intro l₁ l₂ hl
  rw [hS.store hl]
  cases r₁ with
  | blank n c =>
    cases r₂ with
    | blank n' c' => exact Rel.pure trivial
    | accepted v' t' c' b' => exact hr.elim
  | accepted v t c b =>
    cases r₂ with
    | blank n' c' => exact hr.elim
    | accepted v' t' c' b' =>
      obtain ⟨hv, _, _, _⟩ := hr
      cases v <;> cases v' <;> simp only [SR] at hv <;>
        first
          | exact hv.elim
          | exact Rel.pure trivial
          | skip
      refine Rel.pure ?_
      show NR f g _ _
      unfold NR at *
      rw [mapW_resolve, mapW_resolve, hv]

end gen

section stdB
attribute [local instance] stdEnvRel

/-! ## the instrumented run agrees with the plain run whenever it returns -/

theorem nok_eq : NOK (Eq : Node → Node → Prop) where
  pos h := by rw [h]
  bound h P ha := by rw [← h]; exact ha
  shift h k := by rw [h]

theorem partR_eq {a b : Node} (h : PartR Eq a b) : a = b := by
  cases a with
  | commandsubstitution p c => obtain ⟨c', rfl, rfl⟩ := h; rfl
  | processsubstitution p c => obtain ⟨c', rfl, rfl⟩ := h; rfl
  | _ => exact h.symm

theorem forall2_eq {α} {l₁ l₂ : List α} (h : Forall2 Eq l₁ l₂) : l₁ = l₂ := by
  induction h with
  | nil => rfl
  | cons h1 _ ih => rw [h1, ih]

theorem forall2_mono {α β} {R R' : α → β → Prop} (hRR : ∀ a b, R a b → R' a b)
    {l₁ : List α} {l₂ : List β} (h : Forall2 R l₁ l₂) : Forall2 R' l₁ l₂ :=
  LR.forall2_imp hRR h

theorem orel_eq {r₁ r₂ : Option Node} (h : r₁ = r₂) : ORel Eq r₁ r₂ := by
  subst h; cases r₁ <;> simp [ORel]

theorem orel_idf {r₁ r₂ : Option Node} (h : ORel (NR idf idf) r₁ r₂) : r₁ = r₂ := by
  cases r₁ <;> cases r₂ <;> simp only [ORel] at h <;> first | rfl | exact h.elim | skip
  unfold NR at h
  rw [mapW_id, mapW_id] at h
  rw [h]

theorem rel_expandword_eq {np₁ np₂ : NestedParse} (hnp : NPR Eq Eq np₁ np₂) (tok : Token) :
    Rel Eq Eq (expandword np₁ tok) (expandword np₂ tok) (WR idf idf) := by
  rw [expandword_eq, expandword_eq]
  refine Rel.bind Rel.get ?_
  rintro l _ rfl
  refine rel_expandwordWith nok_eq hnp tok _ _ _ rfl ?_ ?_
  · exact ⟨_, _, _, _, _, rfl, rfl, rfl⟩
  · intro ps₁ ps₂ w h
    have : ps₁ = ps₂ := forall2_eq (forall2_mono (fun _ _ => partR_eq) h)
    subst this
    exact ⟨_, _, _, _, _, rfl, rfl, rfl⟩

/-- the nested parser in two runs: the fresh states are related (`S'`, which may depend on the
    kind of substitution), the inner runs are, and writing the inner flags back restores `S` -/
theorem rel_npI {S : Local → Local → Prop} {S' : Bool → Local → Local → Prop}
    {N : Node → Node → Prop} {rec₁ rec₂ : M (Option Node)} (chk : Bool)
    (hin : ∀ {o₁ o₂ : Local} (s : Str) (d : Bool), S o₁ o₂ →
      S' d (nestedInit o₁ s d) (nestedInit o₂ s d))
    (hout : ∀ {o₁ o₂ i₁ i₂ : Local} (d : Bool), S o₁ o₂ → S' d i₁ i₂ →
      S { o₁ with ps := i₁.ps } { o₂ with ps := i₂.ps })
    (hrec : ∀ d, Rel (S' d) (S' d) rec₁ rec₂ (ORel N)) :
    NPR S N (npI chk rec₁) (C03.npOf rec₂) := by
  rw [npOf_eq_npI]
  intro string dolparen
  unfold npI
  refine Rel.bind Rel.get fun o₁ o₂ ho => ?_
  refine Rel.bind (Rel.set (S' := S' dolparen) (hin string dolparen ho)) fun _ _ _ => ?_
  refine Rel.bind (hrec _) fun r₁ r₂ hr => ?_
  refine Rel.bind Rel.get fun i₁ i₂ hi => ?_
  by_cases hc : (chk && !flagsKept o₁.ps i₁.ps) = true
  · simp only [hc, if_true]
    exact Rel.noRet (NoRet.bind_left NoRet.foreign)
  · simp only [hc, Bool.false_and, Bool.false_eq_true, if_false, pure_bind]
    exact Rel.bind (Rel.set (S' := S) (hout dolparen ho hi)) fun _ _ _ => Rel.pure hr

theorem rel_np_eq {rec₁ rec₂ : M (Option Node)} (hrec : Rel Eq Eq rec₁ rec₂ Eq) (chk : Bool) :
    NPR Eq Eq (npI chk rec₁) (C03.npOf rec₂) :=
  rel_npI chk (S' := fun _ => Eq) (by rintro _ _ _ _ rfl; rfl) (by rintro _ _ _ _ _ rfl rfl; rfl)
    fun _ => hrec.conseq fun _ _ => orel_eq

theorem parserRunI_plain : ∀ (d : Nat) (j : Int), Rel Eq Eq (parserRunI j d) (parserRun d) Eq := by
  intro d
  induction d using parserRun_ind with
  | zero => intro j; exact Rel.raise_left
  | succ d ih =>
    intro j
    refine (rel_level sok_eq (f := idf) (g := idf) (fun _ _ => rfl)
      (rel_expandword_eq (rel_np_eq (ih (j - 1)) _))).conseq ?_
    intro a b h
    exact orel_idf h

end stdB

end Bashlex.C16
