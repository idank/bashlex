/-
  C16: a relational ("two-run") program logic for the model monad `M`.

  `Rel S S' m₁ m₂ R`: started in local states related by `S` and in environments that agree up
  to the shared `sh_syntaxtab` store, *if run 1 returns normally* then run 2 returns normally,
  the results are related by `R`, the final states by `S'` and the final environments again agree
  up to the store.  Nothing is claimed when run 1 raises (the limited run does strictly less
  nested parsing than the unlimited run, so this is the right direction for C16).
-/
import Bashlex.Proofs.Hoare
import Bashlex.Proofs.QCongr
import Bashlex.LR.Sound

namespace Bashlex.C16
open Bashlex Bashlex.M Bashlex.LR

abbrev EnvR := Env.EqModStore

theorem EnvR.refl (e : Env) : EnvR e e := Env.EqModStore.refl e
theorem EnvR.symm {e e' : Env} (h : EnvR e e') : EnvR e' e := ⟨h.1.symm, h.2.1.symm, h.2.2.symm⟩
theorem EnvR.trans {a b c : Env} (h : EnvR a b) (h' : EnvR b c) : EnvR a c :=
  ⟨h.1.trans h'.1, h.2.1.trans h'.2.1, h.2.2.trans h'.2.2⟩

/-- the relation between the environments of the two runs (a parameter of the logic: the
    standard one is `EnvR`, "equal up to the shared store"; `Props/C16/Frame.lean` uses a second
    one to show that a parser over its own tape leaves the caller's tape alone) -/
class EnvRel where
  E : Env → Env → Prop

def Rel [er : EnvRel] {α β : Type} (S S' : Local → Local → Prop) (m₁ : M α) (m₂ : M β)
    (R : α → β → Prop) : Prop :=
  ∀ l₁ l₂ e₁ e₂, S l₁ l₂ → er.E e₁ e₂ →
    ∀ a₁ l₁' e₁', m₁.run l₁ e₁ = (.ok (a₁, l₁'), e₁') →
      ∃ a₂ l₂' e₂', m₂.run l₂ e₂ = (.ok (a₂, l₂'), e₂') ∧ R a₁ a₂ ∧ S' l₁' l₂' ∧ er.E e₁' e₂'

/-- the standard relation between the environments: equal up to the shared store -/
@[reducible] def stdEnvRel : EnvRel := ⟨EnvR⟩

section noret
variable {α β : Type}
/-- run 1 never returns normally -/
def NoRet (m : M α) : Prop := ∀ l e a l' e', m.run l e ≠ (.ok (a, l'), e')

theorem NoRet.raise {x : Exn} : NoRet (M.raise x : M α) := by
  intro l e a l' e' h; rw [run_raise] at h; cases h

theorem NoRet.foreign {a b : String} : NoRet (M.foreign a b : M α) := NoRet.raise

theorem NoRet.bind_right {m : M α} {f : α → M β} (h : ∀ a, NoRet (f a)) : NoRet (m >>= f) := by
  intro l e b l' e' hr
  rw [run_bind] at hr
  rcases h1 : m.run l e with ⟨r, e1⟩
  rw [h1] at hr
  cases r with
  | error x => cases hr
  | ok v => obtain ⟨a, l1⟩ := v; exact h a _ _ _ _ _ hr

theorem NoRet.bind_left {m : M α} {f : α → M β} (h : NoRet m) : NoRet (m >>= f) := by
  intro l e b l' e' hr
  rw [run_bind] at hr
  rcases h1 : m.run l e with ⟨r, e1⟩
  rw [h1] at hr
  cases r with
  | error x => cases hr
  | ok v => obtain ⟨a, l1⟩ := v; exact h _ _ _ _ _ h1

end noret

section generic
variable [EnvRel]
variable {α β γ δ : Type} {S S' S'' : Local → Local → Prop}

theorem Rel.pure {R : α → β → Prop} {a : α} {b : β} (h : R a b) :
    Rel S S (Pure.pure a : M α) (Pure.pure b : M β) R := by
  intro l₁ l₂ e₁ e₂ hS hE a₁ l₁' e₁' hr
  rw [run_pure] at hr
  cases hr
  exact ⟨b, l₂, e₂, run_pure _ _ _, h, hS, hE⟩

theorem Rel.bind {m₁ : M α} {m₂ : M β} {f : α → M γ} {g : β → M δ} {P : α → β → Prop}
    {R : γ → δ → Prop} (hm : Rel S S' m₁ m₂ P) (hf : ∀ a b, P a b → Rel S' S'' (f a) (g b) R) :
    Rel S S'' (m₁ >>= f) (m₂ >>= g) R := by
  intro l₁ l₂ e₁ e₂ hS hE c l₁'' e₁'' hr
  rw [run_bind] at hr
  rcases h1 : m₁.run l₁ e₁ with ⟨r, e₁'⟩
  rw [h1] at hr
  cases r with
  | error x => cases hr
  | ok v =>
    obtain ⟨a, l₁'⟩ := v
    simp only [] at hr
    obtain ⟨b, l₂', e₂', h2, hP, hS', hE'⟩ := hm l₁ l₂ e₁ e₂ hS hE a l₁' e₁' h1
    obtain ⟨d, l₂'', e₂'', h3, hR, hS'', hE''⟩ := hf a b hP l₁' l₂' e₁' e₂' hS' hE' c l₁'' e₁'' hr
    refine ⟨d, l₂'', e₂'', ?_, hR, hS'', hE''⟩
    rw [run_bind, h2]
    exact h3

theorem Rel.conseq {m₁ : M α} {m₂ : M β} {R R' : α → β → Prop} (h : Rel S S' m₁ m₂ R)
    (hR : ∀ a b, R a b → R' a b) : Rel S S' m₁ m₂ R' := by
  intro l₁ l₂ e₁ e₂ hS hE a₁ l₁' e₁' hr
  obtain ⟨a₂, l₂', e₂', h2, h3, h4, h5⟩ := h l₁ l₂ e₁ e₂ hS hE a₁ l₁' e₁' hr
  exact ⟨a₂, l₂', e₂', h2, hR _ _ h3, h4, h5⟩

theorem Rel.noRet {m₁ : M α} {m₂ : M β} {R : α → β → Prop} (h : NoRet m₁) : Rel S S' m₁ m₂ R := by
  intro l₁ l₂ e₁ e₂ hS hE a₁ l₁' e₁' hr
  exact absurd hr (h _ _ _ _ _)

theorem Rel.raise_left {m₂ : M β} {R : α → β → Prop} {x : Exn} :
    Rel S S' (M.raise x : M α) m₂ R := Rel.noRet NoRet.raise

theorem Rel.foreign_left {m₂ : M β} {R : α → β → Prop} {a b : String} :
    Rel S S' (M.foreign a b : M α) m₂ R := Rel.noRet NoRet.foreign

theorem Rel.ite {c₁ c₂ : Prop} [Decidable c₁] [Decidable c₂] {a₁ b₁ : M α} {a₂ b₂ : M β}
    {R : α → β → Prop} (hc : c₁ ↔ c₂) (ha : c₁ → Rel S S' a₁ a₂ R) (hb : ¬ c₁ → Rel S S' b₁ b₂ R) :
    Rel S S' (if c₁ then a₁ else b₁) (if c₂ then a₂ else b₂) R := by
  by_cases h : c₁
  · rw [if_pos h, if_pos (hc.mp h)]; exact ha h
  · rw [if_neg h, if_neg (fun h' => h (hc.mpr h'))]; exact hb h

/-- same condition on both sides -/
theorem Rel.ite' {c : Prop} [Decidable c] {a₁ b₁ : M α} {a₂ b₂ : M β}
    {R : α → β → Prop} (ha : c → Rel S S' a₁ a₂ R) (hb : ¬ c → Rel S S' b₁ b₂ R) :
    Rel S S' (if c then a₁ else b₁) (if c then a₂ else b₂) R :=
  Rel.ite Iff.rfl ha hb

theorem Rel.get : Rel S S (MonadState.get : M Local) (MonadState.get : M Local) S := by
  intro l₁ l₂ e₁ e₂ hS hE a₁ l₁' e₁' hr
  have : (MonadState.get : M Local).run l₁ e₁ = (.ok (l₁, l₁), e₁) := rfl
  rw [this] at hr; cases hr
  exact ⟨l₂, l₂, e₂, rfl, hS, hS, hE⟩

theorem Rel.set {l₁ l₂ : Local} (h : S' l₁ l₂) :
    Rel S S' (MonadStateOf.set l₁ : M Unit) (MonadStateOf.set l₂ : M Unit) (fun _ _ => True) := by
  intro k₁ k₂ e₁ e₂ hS hE a₁ l₁' e₁' hr
  have : (MonadStateOf.set l₁ : M Unit).run k₁ e₁ = (.ok ((), l₁), e₁) := rfl
  rw [this] at hr; cases hr
  exact ⟨(), l₂, e₂, rfl, trivial, h, hE⟩

theorem Rel.modify {f g : Local → Local} (h : ∀ l₁ l₂, S l₁ l₂ → S' (f l₁) (g l₂)) :
    Rel S S' (_root_.modify f : M Unit) (_root_.modify g : M Unit) (fun _ _ => True) := by
  intro k₁ k₂ e₁ e₂ hS hE a₁ l₁' e₁' hr
  have : (_root_.modify f : M Unit).run k₁ e₁ = (.ok ((), f k₁), e₁) := rfl
  rw [this] at hr; cases hr
  exact ⟨(), g k₂, e₂, rfl, trivial, h _ _ hS, hE⟩

def SumR {σ τ : Type} (I : σ → τ → Prop) (R : α → β → Prop) : σ ⊕ α → τ ⊕ β → Prop
  | .inl s, .inl t => I s t
  | .inr a, .inr b => R a b
  | _, _ => False

def ForInR {σ τ : Type} (I : σ → τ → Prop) : ForInStep σ → ForInStep τ → Prop
  | .yield s, .yield t => I s t
  | .done s, .done t => I s t
  | _, _ => False

theorem Rel.loop {σ τ : Type} {site : String} {body₁ : σ → M (σ ⊕ α)} {body₂ : τ → M (τ ⊕ β)}
    {I : σ → τ → Prop} {R : α → β → Prop}
    (hbody : ∀ s t, I s t → Rel S S (body₁ s) (body₂ t) (SumR I R)) :
    ∀ fuel s t, I s t → Rel S S (M.loop site body₁ fuel s) (M.loop site body₂ fuel t) R := by
  intro fuel
  induction fuel with
  | zero => intro s t _; exact Rel.raise_left
  | succ n ih =>
    intro s t hst
    show Rel S S (body₁ s >>= _) (body₂ t >>= _) R
    refine Rel.bind (hbody s t hst) ?_
    intro r₁ r₂ hr
    cases r₁ with
    | inl s' =>
      cases r₂ with
      | inl t' => exact ih s' t' hr
      | inr b => exact hr.elim
    | inr a =>
      cases r₂ with
      | inl t' => exact hr.elim
      | inr b => exact Rel.pure hr

/-- `for x in l do …` over two lists of the same length with pointwise related elements -/
theorem Rel.forIn_list {ι κ σ τ : Type} {f : ι → σ → M (ForInStep σ)} {g : κ → τ → M (ForInStep τ)}
    {A : ι → κ → Prop} {I : σ → τ → Prop}
    (hstep : ∀ a b s t, A a b → I s t → Rel S S (f a s) (g b t) (ForInR I)) :
    ∀ (l₁ : List ι) (l₂ : List κ), Forall2 A l₁ l₂ → ∀ s t, I s t →
      Rel S S (forIn l₁ s f) (forIn l₂ t g) I := by
  intro l₁ l₂ h
  induction h with
  | nil => intro s t hst; rw [List.forIn_nil, List.forIn_nil]; exact Rel.pure hst
  | cons hab _ ih =>
    intro s t hst
    rw [List.forIn_cons, List.forIn_cons]
    refine Rel.bind (hstep _ _ s t hab hst) ?_
    intro r₁ r₂ hr
    cases r₁ with
    | done s' =>
      cases r₂ with
      | done t' => exact Rel.pure hr
      | yield t' => exact hr.elim
    | yield s' =>
      cases r₂ with
      | done t' => exact hr.elim
      | yield t' => exact ih s' t' hr

end generic

section std
attribute [local instance] stdEnvRel
variable {α β : Type} {S : Local → Local → Prop}

/-- a query to the environment: same answer up to the store -/
theorem Rel.ask (q : Query) : Rel S S (M.ask q) (M.ask q) Eq := by
  intro l₁ l₂ e₁ e₂ hS hE a₁ l₁' e₁' hr
  have h1 : ∀ (l : Local) (e : Env), (M.ask q).run l e = (.ok ((e.answer q).1, l), (e.answer q).2) := by
    intro l e; rfl
  rw [h1] at hr; cases hr
  obtain ⟨ha, he⟩ := Env.answer_eqModStore hE q
  exact ⟨_, _, _, h1 _ _, ha, hS, he⟩

/-- the same program, run twice from the same local state -/
theorem Rel.same (m : M α) : Rel Eq Eq m m Eq := by
  intro l₁ l₂ e₁ e₂ hS hE a₁ l₁' e₁' hr
  cases hS
  obtain ⟨h1, h2, _⟩ := Q.run_eqModStore (m l₁) hE
  have hr' : Q.run (m l₁) e₁ = (.ok (a₁, l₁'), e₁') := hr
  rw [hr'] at h1 h2
  refine ⟨a₁, l₁', (Q.run (m l₁) e₂).2, ?_, rfl, rfl, h2⟩
  show Q.run (m l₁) e₂ = _
  rw [Prod.ext_iff]; exact ⟨h1.symm, rfl⟩

end std

end Bashlex.C16

