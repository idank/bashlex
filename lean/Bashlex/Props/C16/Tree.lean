/-
  C16: the tree facts the word level needs of the two relations between nested results
  (`pruneLimit k` above the cut, "same skeleton" one level below it): spans of the related tree
  are spans of the original tree, and both relations are stable under shifting.
-/
import Bashlex.Props.C16.MapW
import Bashlex.Proofs.NodeTree

namespace Bashlex.C16
open Bashlex Bashlex.Spec Bashlex.Node
set_option linter.unusedSimpArgs false

/-! ## word maps and `mapPos` commute -/

/-- both are layers of themselves, and on one layer they commute when `f` does -/
theorem mapW_mapPos (f : WF) (φ : Span → Span)
    (hw : ∀ p w ps, f.word (φ p) w (mapPosL φ ps) = ((f.word p w ps).1, mapPosL φ (f.word p w ps).2))
    (hs : ∀ c, f.sub (mapPos φ c) = mapPos φ (f.sub c)) (n : Node) :
    mapW f (mapPos φ n) = mapPos φ (mapW f n) := by
  induction n using children_induction with
  | hP n ih =>
    rw [mapW_eq, mapW_eq f n, mapPos_eq φ n, mapPos_eq]
    simp only [mapPosL_eq] at hw
    cases n <;> simp_all [mapW1, map1, children, or_imp, forall_and]
    case redirect _ _ _ o _ _ _ => cases o <;> simp_all

theorem mapWL_mapPos (f : WF) (φ : Span → Span)
    (hw : ∀ p w ps, f.word (φ p) w (mapPosL φ ps) = ((f.word p w ps).1, mapPosL φ (f.word p w ps).2))
    (hs : ∀ c, f.sub (mapPos φ c) = mapPos φ (f.sub c)) :
    (l : List Node) → mapWL f (mapPosL φ l) = mapPosL φ (mapWL f l) := by
  intro l; simp [mapWL_eq, mapPosL_eq, mapW_mapPos f φ hw hs]

theorem mapWO_mapPos (f : WF) (φ : Span → Span)
    (hw : ∀ p w ps, f.word (φ p) w (mapPosL φ ps) = ((f.word p w ps).1, mapPosL φ (f.word p w ps).2))
    (hs : ∀ c, f.sub (mapPos φ c) = mapPos φ (f.sub c)) :
    (o : Option Node) → mapWO f (mapPosO φ o) = mapPosO φ (mapWO f o) := by
  intro o; cases o <;> simp [mapWO, mapPosO, mapW_mapPos f φ hw hs]

theorem mapPosL_append (φ : Span → Span) (a b : List Node) :
    mapPosL φ (a ++ b) = mapPosL φ a ++ mapPosL φ b := by
  simp [mapPosL_eq]

theorem pruneParts_mapPos_of_sub (φ : Span → Span) (k : Nat)
    (hk : ∀ c, (prunef k).sub (mapPos φ c) = mapPos φ ((prunef k).sub c)) (ps : List Node) :
    pruneParts k (mapPosL φ ps) = mapPosL φ (pruneParts k ps) := by
  induction ps with
  | nil => rfl
  | cons a ps ih =>
    cases a <;> simp only [pruneParts, mapPosL, mapPos, mapPosL_append, ih] <;>
      (split <;> simp [pruneLimit, mapPosL, mapPos]; exact hk _)

/-- `pruneLimit k` is the word map `prunef k`, whose two components commute with `mapPos` by
    the statement one level down -/
theorem prune_mapPos (φ : Span → Span) (n : Node) (k : Nat) :
    pruneLimit k (mapPos φ n) = mapPos φ (pruneLimit k n) := by
  have key : ∀ k, (∀ c, (prunef k).sub (mapPos φ c) = mapPos φ ((prunef k).sub c)) →
      ∀ n, pruneLimit k (mapPos φ n) = mapPos φ (pruneLimit k n) := by
    intro k hk n
    rw [pruneLimit_eq, pruneLimit_eq]
    exact mapW_mapPos (prunef k) φ
      (fun p w ps => by simp only [prunef, pruneParts_mapPos_of_sub φ k hk]) hk n
  induction k generalizing n with
  | zero => exact key 0 (fun _ => rfl) n
  | succ k ih => exact key (k + 1) (fun c => ih c) n

theorem prunef_sub_mapPos (φ : Span → Span) (k : Nat) (c : Node) :
    (prunef k).sub (mapPos φ c) = mapPos φ ((prunef k).sub c) := by
  cases k with
  | zero => rfl
  | succ k => exact prune_mapPos φ c k

theorem pruneL_mapPos (φ : Span → Span) :
    (l : List Node) → (k : Nat) → pruneLimitL k (mapPosL φ l) = mapPosL φ (pruneLimitL k l) := by
  intro l k; simp [pruneLimitL_map, mapPosL_eq, prune_mapPos]

theorem pruneO_mapPos (φ : Span → Span) :
    (o : Option Node) → (k : Nat) → pruneLimitO k (mapPosO φ o) = mapPosO φ (pruneLimitO k o) := by
  intro o k; cases o <;> simp [pruneLimitO, mapPosO, prune_mapPos]

theorem pruneParts_mapPos (φ : Span → Span) :
    (l : List Node) → (k : Nat) → pruneParts k (mapPosL φ l) = mapPosL φ (pruneParts k l) :=
  fun l k => pruneParts_mapPos_of_sub φ k (prunef_sub_mapPos φ k) l

theorem prune_shift (k b : Nat) (n : Node) : pruneLimit k (n.shift b) = (pruneLimit k n).shift b :=
  prune_mapPos _ n k

/-! ## spans of the pruned tree are spans of the tree -/

theorem mem_pruneParts {k : Nat} {x : Node} : ∀ {ps : List Node}, x ∈ pruneParts k ps →
    ∃ c, c ∈ ps ∧ (x = c ∨ x = pruneLimit k c)
  | [], h => by simp [pruneParts] at h
  | n :: ns, h => by
    unfold pruneParts at h
    rcases List.mem_append.mp h with h | h
    · refine ⟨n, List.mem_cons_self, ?_⟩
      cases n <;> simp only [] at h <;>
        first
          | (simp only [List.mem_singleton] at h; exact Or.inl h)
          | (split at h
             · cases h
             · simp only [List.mem_singleton] at h; exact Or.inr h)
    · obtain ⟨c, hc, hx⟩ := mem_pruneParts h
      exact ⟨c, List.mem_cons_of_mem _ hc, hx⟩

theorem prunef_sub (k : Nat) (c : Node) :
    (prunef k).sub c = c ∨ ∃ k', (prunef k).sub c = pruneLimit k' c := by
  cases k
  · exact Or.inl rfl
  · exact Or.inr ⟨_, rfl⟩

/-- every child of the pruned tree is a child of the tree, possibly pruned (at some depth) -/
theorem prune_children_sub (k : Nat) (n x : Node) (hx : x ∈ (pruneLimit k n).children) :
    ∃ c, c ∈ n.children ∧ (x = c ∨ ∃ k', x = pruneLimit k' c) := by
  rw [pruneLimit_eq, mapW_eq, children_mapW1] at hx
  have word : ∀ ps, x ∈ pruneParts k ps → ∃ c, c ∈ ps ∧ (x = c ∨ ∃ k', x = pruneLimit k' c) :=
    fun ps h => (mem_pruneParts h).imp fun c hc => ⟨hc.1, hc.2.imp_right fun h => ⟨k, h⟩⟩
  have sub : ∀ c, x ∈ [(prunef k).sub c] → ∃ c', c' ∈ [c] ∧ (x = c' ∨ ∃ k', x = pruneLimit k' c') :=
    fun c h => ⟨c, List.mem_singleton.mpr rfl, List.mem_singleton.mp h ▸ prunef_sub k c⟩
  split at hx
  · exact word _ hx
  · exact word _ hx
  · exact sub _ hx
  · exact sub _ hx
  · simp only [children, List.mem_append, Option.mem_toList, Option.map_eq_some_iff] at hx ⊢
    rcases hx with ⟨c, rfl, rfl⟩ | rfl
    · exact ⟨c, Or.inl rfl, Or.inr ⟨k, (pruneLimit_eq k c).symm⟩⟩
    · exact ⟨x, Or.inr rfl, Or.inl rfl⟩
  · obtain ⟨c, hc, rfl⟩ := List.mem_map.mp hx
    exact ⟨c, hc, Or.inr ⟨k, (pruneLimit_eq k c).symm⟩⟩

/-- every node of the pruned tree has the span of a node of the tree, and is a here-document
    body iff that node is -/
theorem mem_preorder_prune : ∀ (n : Node) (k : Nat) (m : Node), m ∈ (pruneLimit k n).preorder →
    ∃ m', m' ∈ n.preorder ∧ m.pos = m'.pos ∧ isHeredoc m = isHeredoc m' := by
  refine children_induction (P := fun n => ∀ (k : Nat) (m : Node), m ∈ (pruneLimit k n).preorder →
    ∃ m', m' ∈ n.preorder ∧ m.pos = m'.pos ∧ isHeredoc m = isHeredoc m') ?_
  intro n ih k m hm
  rcases mem_preorder_iff.mp hm with rfl | ⟨x, hx, hmx⟩
  · refine ⟨n, Node.self_mem_preorder n, pos_pruneLimit k n, ?_⟩
    cases n <;> cases k <;> simp [pruneLimit, isHeredoc]
  · obtain ⟨c, hc, hxc⟩ := prune_children_sub k n x hx
    rcases hxc with rfl | ⟨k', rfl⟩
    · exact ⟨m, mem_preorder_child hc hmx, rfl, rfl⟩
    · obtain ⟨m', hm', h⟩ := ih c hc k' m hmx
      exact ⟨m', mem_preorder_child hc hm', h⟩

theorem all_preorder_iff (P : Span → Bool) (n : Node) :
    (n.preorder.all fun m => P m.pos) = true ↔
      P n.pos = true ∧ ∀ c ∈ n.children, (c.preorder.all fun m => P m.pos) = true := by
  simp only [List.all_eq_true]; exact forall_preorder_iff

theorem all_preorderL_iff (P : Span → Bool) (l : List Node) :
    ((preorderL l).all fun m => P m.pos) = true ↔
      ∀ c ∈ l, (c.preorder.all fun m => P m.pos) = true := by
  simp only [List.all_eq_true, mem_preorderL]
  exact ⟨fun h c hc m hm => h m ⟨c, hc, hm⟩, fun h m ⟨c, hc, hm⟩ => h c hc m hm⟩

theorem prune_all (P : Span → Bool) (n : Node) (k : Nat)
    (h : (n.preorder.all fun m => P m.pos) = true) :
    ((pruneLimit k n).preorder.all fun m => P m.pos) = true := by
  rw [List.all_eq_true] at h ⊢
  intro m hm
  obtain ⟨m', hm', hp, _⟩ := mem_preorder_prune n k m hm
  rw [hp]; exact h m' hm'

theorem pruneL_all (P : Span → Bool) :
    (l : List Node) → (k : Nat) → ((preorderL l).all fun m => P m.pos) = true →
      ((preorderL (pruneLimitL k l)).all fun m => P m.pos) = true := by
  intro l k h
  rw [all_preorderL_iff] at h ⊢
  rw [pruneLimitL_map]
  intro x hx
  obtain ⟨c, hc, rfl⟩ := List.mem_map.mp hx
  exact prune_all P c k (h c hc)

theorem pruneO_all (P : Span → Bool) :
    (o : Option Node) → (k : Nat) → ((preorderO o).all fun m => P m.pos) = true →
      ((preorderO (pruneLimitO k o)).all fun m => P m.pos) = true := by
  intro o k h
  cases o with
  | none => exact h
  | some n => exact prune_all P n k h

theorem pruneParts_all (P : Span → Bool) :
    (l : List Node) → (k : Nat) → ((preorderL l).all fun m => P m.pos) = true →
      ((preorderL (pruneParts k l)).all fun m => P m.pos) = true := by
  intro l k h
  rw [all_preorderL_iff] at h ⊢
  intro x hx
  obtain ⟨c, hc, rfl | rfl⟩ := mem_pruneParts hx
  · exact h _ hc
  · exact prune_all P c k (h c hc)

/-! ## word maps in general -/

/- spans of the image are spans of the tree, when this holds of the rewritten word parts -/
theorem mapW_all (f : WF) (P : Span → Bool)
    (hw : ∀ p w ps, ((preorderL ps).all fun m => P m.pos) = true →
      ((preorderL (f.word p w ps).2).all fun m => P m.pos) = true)
    (hs : ∀ c, ((preorder c).all fun m => P m.pos) = true →
      ((preorder (f.sub c)).all fun m => P m.pos) = true) :
    (n : Node) → (n.preorder.all fun m => P m.pos) = true →
      ((mapW f n).preorder.all fun m => P m.pos) = true := by
  intro n
  induction n using children_induction with
  | hP n ih =>
    rw [all_preorder_iff P n, all_preorder_iff P (mapW f n), pos_mapW]
    refine fun ⟨h1, hk⟩ => ⟨h1, ?_⟩
    rw [mapW_eq, children_mapW1]
    split
    · exact (all_preorderL_iff P _).mp (hw _ _ _ ((all_preorderL_iff P _).mpr hk))
    · exact (all_preorderL_iff P _).mp (hw _ _ _ ((all_preorderL_iff P _).mpr hk))
    · exact fun c hc => by cases List.mem_singleton.mp hc; exact hs _ (hk _ List.mem_cons_self)
    · exact fun c hc => by cases List.mem_singleton.mp hc; exact hs _ (hk _ List.mem_cons_self)
    · rename_i p i t o oa hd hid
      intro c hc
      simp only [children, List.mem_append, Option.mem_toList, Option.map_eq_some_iff] at hc
      rcases hc with ⟨c0, rfl, rfl⟩ | rfl
      · exact ih c0 (by simp [children]) (hk c0 (by simp [children]))
      · exact hk c (by simp [children])
    · intro c hc
      obtain ⟨c0, hc0, rfl⟩ := List.mem_map.mp hc
      exact ih c0 hc0 (hk c0 hc0)

theorem mapWL_all (f : WF) (P : Span → Bool)
    (hw : ∀ p w ps, ((preorderL ps).all fun m => P m.pos) = true →
      ((preorderL (f.word p w ps).2).all fun m => P m.pos) = true)
    (hs : ∀ c, ((preorder c).all fun m => P m.pos) = true →
      ((preorder (f.sub c)).all fun m => P m.pos) = true) :
    (l : List Node) → ((preorderL l).all fun m => P m.pos) = true →
      ((preorderL (mapWL f l)).all fun m => P m.pos) = true := by
  intro l h
  rw [all_preorderL_iff] at h ⊢
  rw [mapWL_eq]
  intro x hx
  obtain ⟨c, hc, rfl⟩ := List.mem_map.mp hx
  exact mapW_all f P hw hs c (h c hc)

theorem mapWO_all (f : WF) (P : Span → Bool)
    (hw : ∀ p w ps, ((preorderL ps).all fun m => P m.pos) = true →
      ((preorderL (f.word p w ps).2).all fun m => P m.pos) = true)
    (hs : ∀ c, ((preorder c).all fun m => P m.pos) = true →
      ((preorder (f.sub c)).all fun m => P m.pos) = true) :
    (o : Option Node) → ((preorderO o).all fun m => P m.pos) = true →
      ((preorderO (mapWO f o)).all fun m => P m.pos) = true := by
  intro o h
  cases o with
  | none => exact h
  | some n => exact mapW_all f P hw hs n h

/- … and conversely when the word parts are not made smaller -/
theorem mapW_all_back (f : WF) (P : Span → Bool)
    (hw : ∀ p w ps, ((preorderL (f.word p w ps).2).all fun m => P m.pos) = true →
      ((preorderL ps).all fun m => P m.pos) = true)
    (hs : ∀ c, ((preorder (f.sub c)).all fun m => P m.pos) = true →
      ((preorder c).all fun m => P m.pos) = true) :
    (n : Node) → ((mapW f n).preorder.all fun m => P m.pos) = true →
      (n.preorder.all fun m => P m.pos) = true := by
  intro n
  induction n using children_induction with
  | hP n ih =>
    rw [all_preorder_iff P n, all_preorder_iff P (mapW f n), pos_mapW]
    refine fun ⟨h1, hk⟩ => ⟨h1, ?_⟩
    rw [mapW_eq, children_mapW1] at hk
    split at hk
    · exact (all_preorderL_iff P _).mp (hw _ _ _ ((all_preorderL_iff P _).mpr hk))
    · exact (all_preorderL_iff P _).mp (hw _ _ _ ((all_preorderL_iff P _).mpr hk))
    · exact fun c hc => by cases List.mem_singleton.mp hc; exact hs _ (hk _ List.mem_cons_self)
    · exact fun c hc => by cases List.mem_singleton.mp hc; exact hs _ (hk _ List.mem_cons_self)
    · rename_i p i t o oa hd hid
      intro c hc
      simp only [children, List.mem_append, Option.mem_toList] at hc
      rcases hc with rfl | rfl
      · exact ih c (by simp [children]) (hk _ (by simp [children]))
      · exact hk c (by simp [children])
    · exact fun c hc => ih c hc (hk _ (List.mem_map_of_mem hc))

theorem mapWL_all_back (f : WF) (P : Span → Bool)
    (hw : ∀ p w ps, ((preorderL (f.word p w ps).2).all fun m => P m.pos) = true →
      ((preorderL ps).all fun m => P m.pos) = true)
    (hs : ∀ c, ((preorder (f.sub c)).all fun m => P m.pos) = true →
      ((preorder c).all fun m => P m.pos) = true) :
    (l : List Node) → ((preorderL (mapWL f l)).all fun m => P m.pos) = true →
      ((preorderL l).all fun m => P m.pos) = true := by
  intro l h
  rw [all_preorderL_iff] at h ⊢
  rw [mapWL_eq] at h
  exact fun c hc => mapW_all_back f P hw hs c (h _ (List.mem_map_of_mem hc))

theorem mapWO_all_back (f : WF) (P : Span → Bool)
    (hw : ∀ p w ps, ((preorderL (f.word p w ps).2).all fun m => P m.pos) = true →
      ((preorderL ps).all fun m => P m.pos) = true)
    (hs : ∀ c, ((preorder (f.sub c)).all fun m => P m.pos) = true →
      ((preorder c).all fun m => P m.pos) = true) :
    (o : Option Node) → ((preorderO (mapWO f o)).all fun m => P m.pos) = true →
      ((preorderO o).all fun m => P m.pos) = true := by
  intro o h
  cases o with
  | none => exact h
  | some n => exact mapW_all_back f P hw hs n h

/-! ## the skeleton relation (one level below the cut) -/

/-- forget the value and the parts of every word -/
def eraseAll : WF := ⟨fun _ _ _ => ([], []), id⟩
/-- forget the value of every word, keep its parts -/
def eraseVal : WF := ⟨fun _ _ ps => ([], ps), id⟩

/-- `Skel a b`: `b` is `a` with every word replaced by a word without parts (and some value) -/
abbrev Skel : Node → Node → Prop := NR eraseAll eraseVal

theorem skel_bound {a b : Node} (h : Skel a b) (P : Span → Bool)
    (ha : (a.preorder.all fun m => P m.pos) = true) : (b.preorder.all fun m => P m.pos) = true := by
  refine mapW_all_back eraseVal P (fun _ _ _ h => h) (fun _ h => h) b ?_
  rw [← h]
  exact mapW_all eraseAll P (fun _ _ _ _ => rfl) (fun _ h => h) a ha

theorem skel_shift {a b : Node} (h : Skel a b) (k : Nat) : Skel (a.shift k) (b.shift k) := by
  unfold Skel NR Node.shift at *
  rw [mapW_mapPos eraseAll _ (fun _ _ _ => rfl) (fun _ => rfl),
    mapW_mapPos eraseVal _ (fun _ _ _ => rfl) (fun _ => rfl), h]

end Bashlex.C16
