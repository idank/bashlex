/-
  C16: the LR engine in two runs.  Control depends on the terminal numbers only; with the
  same tokens, related semantic values and equal accept flags the two runs proceed in lock step.
-/
import Bashlex.Props.C16.Rel
import Bashlex.LR.Engine

namespace Bashlex.C16
open Bashlex Bashlex.M Bashlex.LR
set_option linter.unusedSectionVars false

variable [EnvRel] {V : Type} {VR : V → V → Prop} {S : Local → Local → Prop}

/-- related stack entries: same state, same ghost tree, related payloads -/
def ER (VR : V → V → Prop) (e₁ e₂ : Entry V) : Prop :=
  e₁.state = e₂.state ∧ e₁.tree = e₂.tree ∧ VR e₁.val e₂.val

def LaR (VR : V → V → Prop) : Option (Nat × V) → Option (Nat × V) → Prop
  | none, none => True
  | some a, some b => a.1 = b.1 ∧ VR a.2 b.2
  | _, _ => False

def CfgR (VR : V → V → Prop) (c₁ c₂ : Cfg V) : Prop :=
  Forall2 (ER VR) c₁.stack c₂.stack ∧ LaR VR c₁.la c₂.la ∧ c₁.nlShifted = c₂.nlShifted ∧
    c₁.consumed = c₂.consumed

def ResRel (VR : V → V → Prop) : Res V → Res V → Prop
  | .accepted v t c b, .accepted v' t' c' b' => VR v v' ∧ t = t' ∧ c = c' ∧ b = b'
  | .blank n c, .blank n' c' => n = n' ∧ c = c'
  | _, _ => False

/-- related hooks -/
structure HooksR (S : Local → Local → Prop) (VR : V → V → Prop) (H₁ H₂ : Hooks V) : Prop where
  next : Rel S S H₁.next H₂.next (fun a b => a.1 = b.1 ∧ VR a.2 b.2)
  act : ∀ p args₁ args₂, Forall2 VR args₁ args₂ →
    Rel S S (H₁.act p args₁) (H₂.act p args₂) (fun r₁ r₂ => VR r₁.1 r₂.1 ∧ r₁.2 = r₂.2)
  isNl : ∀ v₁ v₂, VR v₁ v₂ → H₁.isNl v₁ = H₂.isNl v₂

theorem topState_eq {s₁ s₂ : Stack V} (h : Forall2 (ER VR) s₁ s₂) : topState s₁ = topState s₂ := by
  cases h with
  | nil => rfl
  | cons h1 _ => exact h1.1

theorem forall2_append' {α β} {R : α → β → Prop} {l₁ l₁' : List α} {l₂ l₂' : List β}
    (h : Forall2 R l₁ l₂) (h' : Forall2 R l₁' l₂') : Forall2 R (l₁ ++ l₁') (l₂ ++ l₂') := by
  induction h with
  | nil => exact h'
  | cons h1 _ ih => exact .cons h1 ih

theorem popN_rel : ∀ (n : Nat) {s₁ s₂ : Stack V}, Forall2 (ER VR) s₁ s₂ →
    match popN n s₁, popN n s₂ with
    | none, none => True
    | some (es₁, r₁), some (es₂, r₂) => Forall2 (ER VR) es₁ es₂ ∧ Forall2 (ER VR) r₁ r₂
    | _, _ => False := by
  intro n
  induction n with
  | zero => intro s₁ s₂ h; exact ⟨.nil, h⟩
  | succ k ih =>
    intro s₁ s₂ h
    cases h with
    | nil => trivial
    | @cons e₁ e₂ r₁ r₂ he hr =>
      have := ih hr
      simp only [popN]
      revert this
      cases popN k r₁ <;> cases popN k r₂ <;> simp only [Option.map] <;> intro this
      · trivial
      · exact this
      · exact this
      · exact ⟨forall2_append' this.1 (.cons he .nil), this.2⟩

theorem forall2_map_val {es₁ es₂ : List (Entry V)} (h : Forall2 (ER VR) es₁ es₂) :
    Forall2 VR (es₁.map (·.val)) (es₂.map (·.val)) := by
  induction h with
  | nil => exact .nil
  | cons h1 _ ih => exact .cons h1.2.2 ih

theorem map_tree_eq {es₁ es₂ : List (Entry V)} (h : Forall2 (ER VR) es₁ es₂) :
    es₁.map (·.tree) = es₂.map (·.tree) := by
  induction h with
  | nil => rfl
  | cons h1 _ ih => simp [h1.2.1, ih]

theorem forall2_all_isNl {H₁ H₂ : Hooks V} (hH : HooksR S VR H₁ H₂) {s₁ s₂ : Stack V}
    (h : Forall2 (ER VR) s₁ s₂) :
    s₁.all (fun e => H₁.isNl e.val) = s₂.all (fun e => H₂.isNl e.val) := by
  induction h with
  | nil => rfl
  | cons h1 _ ih => simp [List.all_cons, hH.isNl _ _ h1.2.2, ih]

theorem rel_doReduce (T : Tables) {H₁ H₂ : Hooks V} (hH : HooksR S VR H₁ H₂) {c₁ c₂ : Cfg V}
    (hc : CfgR VR c₁ c₂) (p : Nat) :
    Rel S S (doReduce T H₁ c₁ p) (doReduce T H₂ c₂ p) (SumR (CfgR VR) (ResRel VR)) := by
  unfold doReduce
  cases T.prods[p]? with
  | none => exact Rel.foreign_left
  | some pr =>
    obtain ⟨lhs, rhs⟩ := pr
    simp only []
    have hp := popN_rel (VR := VR) rhs.length hc.1
    revert hp
    cases popN rhs.length c₁.stack <;> cases popN rhs.length c₂.stack <;> simp only [] <;> intro hp
    · exact Rel.foreign_left
    · exact Rel.foreign_left
    · exact hp.elim
    · rename_i x₁ x₂
      obtain ⟨es₁, r₁⟩ := x₁
      obtain ⟨es₂, r₂⟩ := x₂
      simp only [] at hp ⊢
      refine Rel.bind (hH.act p _ _ (forall2_map_val hp.1)) ?_
      rintro ⟨v₁, a₁⟩ ⟨v₂, a₂⟩ ⟨hv, ha⟩
      simp only [] at hv ha ⊢
      subst ha
      rw [topState_eq hp.2, map_tree_eq hp.1]
      cases T.goto (topState r₂) lhs with
      | none => exact Rel.foreign_left
      | some t =>
        simp only []
        refine Rel.ite' (fun _ => Rel.pure ?_) (fun _ => Rel.pure ?_)
        · exact ⟨hv, rfl, hc.2.2.2, rfl⟩
        · exact ⟨.cons ⟨rfl, rfl, hv⟩ hp.2, hc.2.1, hc.2.2.1, hc.2.2.2⟩

theorem rel_step (T : Tables) {H₁ H₂ : Hooks V} (hH : HooksR S VR H₁ H₂) {c₁ c₂ : Cfg V}
    (hc : CfgR VR c₁ c₂) :
    Rel S S (step T H₁ c₁) (step T H₂ c₂) (SumR (CfgR VR) (ResRel VR)) := by
  unfold step
  simp only []
  rw [topState_eq hc.1]
  cases T.dflt (topState c₂.stack) with
  | some p => exact rel_doReduce T hH hc p
  | none =>
    simp only []
    refine Rel.bind (S' := S) (P := fun a b => a.1 = b.1 ∧ VR a.2 b.2) ?_ ?_
    · have hla := hc.2.1
      revert hla
      cases c₁.la <;> cases c₂.la <;> simp only [LaR] <;> intro hla
      · exact hH.next
      · exact hla.elim
      · exact hla.elim
      · exact Rel.pure hla
    · rintro ⟨s₁, v₁⟩ ⟨s₂, v₂⟩ ⟨hs, hv⟩
      simp only [] at hs hv ⊢
      subst hs
      rw [forall2_all_isNl hH hc.1, hc.2.2.1, hc.2.2.2]
      refine Rel.ite' (fun _ => Rel.pure ⟨rfl, rfl⟩) (fun _ => ?_)
      cases T.action (topState c₂.stack) s₁ with
      | none => exact Rel.noRet (NoRet.bind_right (fun _ => NoRet.foreign))
      | some a =>
        cases a with
        | shift t =>
          simp only []
          refine Rel.ite' (fun _ => Rel.pure ?_) (fun _ => Rel.pure ?_)
          · exact ⟨hc.1, trivial, rfl, rfl⟩
          · exact ⟨.cons ⟨rfl, rfl, hv⟩ hc.1, trivial, rfl, rfl⟩
        | reduce p =>
          refine rel_doReduce T hH ?_ p
          unfold CfgR
          refine ⟨hc.1, ?_, ?_, ?_⟩
          · simp only [LaR, true_and]; exact hv
          · first | rfl | exact hc.2.2.1
          · first | rfl | exact hc.2.2.2
        | accept =>
          simp only []
          have hst := hc.1
          revert hst
          cases c₁.stack <;> cases c₂.stack <;> intro hst
          · exact Rel.pure ⟨rfl, rfl⟩
          · cases hst
          · cases hst
          · cases hst with
            | cons he _ => exact Rel.pure ⟨he.2.2, he.2.1, rfl, rfl⟩

theorem rel_run (T : Tables) {H₁ H₂ : Hooks V} (hH : HooksR S VR H₁ H₂) (fuel : Nat) :
    Rel S S (LR.run T H₁ fuel) (LR.run T H₂ fuel) (ResRel VR) := by
  unfold LR.run
  exact Rel.loop (I := CfgR VR) (fun c₁ c₂ hc => rel_step T hH hc) fuel _ _
    ⟨.nil, trivial, rfl, rfl⟩

end Bashlex.C16
