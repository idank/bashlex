/-
  C16: programs that leave the local state (up to the flags no tokenizer function reads)
  and the environment (up to the shared store) alone.  Used one level below the cut, where the
  limited run does not expand words at all while the unlimited run does.
-/
import Bashlex.Props.C16.Run
import Bashlex.Proofs.ClosedExpand

namespace Bashlex.C16
open Bashlex Bashlex.Spec Bashlex.Node Bashlex.M Bashlex.LR
attribute [local instance] stdEnvRel

/-- the local state after is the state before, up to CMDSUBST (which may get set) and EOFTOKEN -/
def Pres (l l' : Local) : Prop :=
  core l = core l' ∧ l.limit = l'.limit ∧ (l.ps.cmdsubst = true → l'.ps.cmdsubst = true)

theorem Pres.refl (l : Local) : Pres l l := ⟨rfl, rfl, id⟩
theorem Pres.trans {a b c : Local} (h : Pres a b) (h' : Pres b c) : Pres a c :=
  ⟨h.1.trans h'.1, h.2.1.trans h'.2.1, fun x => h'.2.2 (h.2.2 x)⟩

/-- started in an unlimited parser, a normal return of `m` keeps state and environment and
    satisfies `P` -/
def Keeps {α : Type} (m : M α) (P : α → Prop) : Prop :=
  ∀ l e a l' e', l.limit = none → m.run l e = (.ok (a, l'), e') → Pres l l' ∧ EnvR e e' ∧ P a

variable {α β : Type}

theorem Keeps.pure {P : α → Prop} {a : α} (h : P a) : Keeps (Pure.pure a : M α) P := by
  intro l e a' l' e' _ hr
  rw [run_pure] at hr; cases hr
  exact ⟨Pres.refl _, EnvR.refl _, h⟩

theorem Keeps.noRet {m : M α} {P : α → Prop} (h : NoRet m) : Keeps m P := by
  intro l e a l' e' _ hr
  exact absurd hr (h _ _ _ _ _)

theorem Keeps.bind {m : M α} {f : α → M β} {P : α → Prop} {Q : β → Prop}
    (hm : Keeps m P) (hf : ∀ a, P a → Keeps (f a) Q) : Keeps (m >>= f) Q := by
  intro l e b l'' e'' hl hr
  rw [run_bind] at hr
  rcases h1 : m.run l e with ⟨r, e'⟩
  rw [h1] at hr
  cases r with
  | error x => cases hr
  | ok v =>
    obtain ⟨a, l'⟩ := v
    simp only [] at hr
    obtain ⟨p1, q1, pa⟩ := hm l e a l' e' hl h1
    obtain ⟨p2, q2, pb⟩ := hf a pa l' e' b l'' e'' (by rw [← p1.2.1]; exact hl) hr
    exact ⟨p1.trans p2, q1.trans q2, pb⟩

theorem Keeps.weaken {m : M α} {P Q : α → Prop} (h : Keeps m P) (hPQ : ∀ a, P a → Q a) :
    Keeps m Q := by
  intro l e a l' e' hl hr
  obtain ⟨p, q, pa⟩ := h l e a l' e' hl hr
  exact ⟨p, q, hPQ a pa⟩

theorem Keeps.get_bind {f : Local → M β} {Q : β → Prop}
    (hf : ∀ l, l.limit = none → Keeps (f l) Q) : Keeps (MonadState.get >>= f) Q := by
  intro l e b l' e' hl hr
  rw [run_bind] at hr
  have : (MonadState.get : M Local).run l e = (.ok (l, l), e) := rfl
  rw [this] at hr
  exact hf l hl l e b l' e' hl hr

theorem Keeps.ite {c : Prop} [Decidable c] {a b : M α} {P : α → Prop}
    (ha : c → Keeps a P) (hb : ¬ c → Keeps b P) : Keeps (if c then a else b) P := by
  split
  · exact ha ‹_›
  · exact hb ‹_›

/-! ### word expansion over a nested parser that keeps everything -/

def NPKeeps (np : NestedParse) : Prop := ∀ s d, Keeps (np s d) (fun _ => True)

/-- a program that returns without touching the state, and the environment up to the store -/
theorem Keeps.reader {α : Type} {m : M α}
    (h : ∀ l e a l' e', m.run l e = (.ok (a, l'), e') → l' = l ∧ EnvR e e') :
    Keeps m (fun _ => True) := by
  intro l e a l' e' _ hr
  obtain ⟨rfl, he⟩ := h l e a l' e' hr
  exact ⟨Pres.refl _, he, trivial⟩

theorem Keeps.builds : Builds walkSite (fun {α} (m : M α) => Keeps m (fun _ => True)) where
  pure _ := Keeps.pure trivial
  bind hm hf := Keeps.bind hm (fun a _ => hf a)
  raise _ := Keeps.noRet NoRet.raise
  syn c := Keeps.reader fun l e a l' e' hr => by
    have : (syn c).run l e = (.ok (synClass c, l),
        if e.touched.contains c then e else { e with touched := e.touched ++ [c] }) := rfl
    rw [this] at hr; cases hr
    refine ⟨rfl, ?_⟩
    split
    · exact EnvR.refl _
    · exact ⟨rfl, rfl, rfl⟩
  curIdx := Keeps.reader fun l e a l' e' hr => by
    cases l with | mk tape => cases tape <;> (cases hr; exact ⟨rfl, EnvR.refl _⟩)
  tapeSource := Keeps.reader fun l e a l' e' hr => by
    cases l with | mk tape => cases tape <;> (cases hr; exact ⟨rfl, EnvR.refl _⟩)
  tapeLine := Keeps.reader fun l e a l' e' hr => by
    cases l with | mk tape => cases tape <;> (cases hr; exact ⟨rfl, EnvR.refl _⟩)
  tapeAdded := Keeps.reader fun l e a l' e' hr => by
    cases l with | mk tape => cases tape <;> (cases hr; exact ⟨rfl, EnvR.refl _⟩)

/-- the expansion below `expandword` never looks at the parser object: the walk of
    `Proofs/ClosedExpand.lean` -/
theorem keeps_expandwordinternal {np : NestedParse} (hnp : NPKeeps np) (tok : Token) (qd : Bool) :
    Keeps (expandwordinternal np tok qd) (fun _ => True) :=
  wk_expandwordinternal Keeps.builds hnp (Keeps.noRet NoRet.foreign) tok qd

/-- the unlimited `expandword` over such a nested parser -/
theorem keeps_expandword {np : NestedParse} (hnp : NPKeeps np) (tok : Token) :
    Keeps (expandword np tok)
      (fun w => ∃ v ps, w = .word (tok.lexpos, tok.endlexpos) v ps) := by
  rw [expandword_eq]
  refine Keeps.get_bind ?_
  intro l hl
  rw [hl]
  unfold expandwordWith
  simp only []
  have hfin : ∀ qd, Keeps (do
      let x ← expandwordinternal np tok qd
      Pure.pure (word (tok.lexpos, tok.endlexpos) x.snd
        (if ((none : Option Int) == some 0) = true then List.filter (fun n => !isSubstitution n) x.fst
         else x.fst)) : M Node)
      (fun w => ∃ v ps, w = .word (tok.lexpos, tok.endlexpos) v ps) := by
    intro qd
    exact Keeps.bind (keeps_expandwordinternal hnp tok qd) (fun r _ => Keeps.pure ⟨_, _, rfl⟩)
  refine Keeps.ite (fun h => by simp at h) (fun _ => ?_)
  refine Keeps.ite (fun _ => ?_) (fun _ => ?_)
  · split
    · exact Keeps.noRet (NoRet.bind_left NoRet.foreign)
    · exact Keeps.bind (Keeps.pure (P := fun _ => True) trivial) (fun _ _ => hfin _)
  · exact Keeps.bind (Keeps.pure (P := fun _ => True) trivial) (fun _ _ => hfin _)

/-! ### the checked nested parser keeps everything -/

theorem run_get (l : Local) (e : Env) : (MonadState.get : M Local).run l e = (.ok (l, l), e) := rfl

theorem npI_run_inv {chk : Bool} {rec : M (Option Node)} {s : Str} {d : Bool} {l l' : Local}
    {e e' : Env} {r : Option Node} (h : (npI chk rec s d).run l e = (.ok (r, l'), e')) :
    ∃ inner, rec.run (nestedInit l s d) e = (.ok (r, inner), e') ∧
      (chk = true → flagsKept l.ps inner.ps = true) ∧ l' = { l with ps := inner.ps } := by
  unfold npI at h
  rw [run_bind, run_get] at h
  simp only [] at h
  rw [run_bind, run_set] at h
  simp only [] at h
  rw [run_bind] at h
  rcases h1 : rec.run (nestedInit l s d) e with ⟨x, e1⟩
  rw [h1] at h
  cases x with
  | error x => cases h
  | ok v =>
    obtain ⟨r1, inner⟩ := v
    simp only [] at h
    rw [run_bind, run_get] at h
    simp only [] at h
    by_cases hc : (chk && !flagsKept l.ps inner.ps) = true
    · rw [if_pos hc, run_bind] at h
      have : (M.foreign "FlagLeak" "nested parse below the limit" : M PUnit).run inner e1 =
        (.error (.foreign "FlagLeak" "nested parse below the limit"), e1) := rfl
      rw [this] at h
      cases h
    · rw [if_neg hc, run_bind, run_set] at h
      simp only [] at h
      rw [run_pure] at h
      cases h
      refine ⟨inner, rfl, ?_, rfl⟩
      intro hchk
      subst hchk
      simpa using hc

theorem pres_of_flagsKept {l : Local} {p : PState} (h : flagsKept l.ps p = true) :
    Pres l { l with ps := p } := by
  unfold flagsKept at h
  simp only [Bool.and_eq_true, beq_iff_eq, Bool.or_eq_true, Bool.not_eq_true'] at h
  refine ⟨?_, rfl, ?_⟩
  · show core l = { core l with ps := coreP p }
    rw [h.1]
    rfl
  · intro hc
    rcases h.2 with h2 | h2
    · rw [hc] at h2; cases h2
    · exact h2

/-- with the check on, the nested parser keeps state and environment -/
theorem npI_keeps (hF : FrameHyp) (j : Int) (depth : Nat) : NPKeeps (npI true (parserRunI j depth)) := by
  intro s d l e r l' e' hl hr
  obtain ⟨inner, h1, h2, rfl⟩ := npI_run_inv hr
  refine ⟨pres_of_flagsKept (h2 rfl), ?_, trivial⟩
  obtain ⟨r2, l2, e2, h3, _, _, h4⟩ :=
    parserRunI_plain depth j _ _ e e rfl (EnvR.refl e) _ _ _ h1
  have := hF.nestedEnv depth _ e r2 l2 e2 rfl rfl h3
  exact this.trans h4.symm

end Bashlex.C16
