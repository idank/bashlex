/-
  C16: word maps.  `mapW f` rewrites the value and the parts of every `word` /
  `assignment` node reachable without entering a word, and the command of a bare substitution
  node; everything else (kinds, spans, operators, redirect fields, here-documents) is kept.
  `pruneLimit k` is such a map; so is the "skeleton" comparison used one level below the cut.
  Two results are related when `mapW f a = mapW g b`.
  `mapW f` is the only function that is one layer `mapW1 f` of itself (`mapW_unique`), so that a
  function is a word map, or two maps commute, is checked on one layer, kind by kind.
-/
import Bashlex.Spec.Rel
import Bashlex.Props.C12.Tree

namespace Bashlex.C16
open Bashlex Bashlex.Spec Bashlex.Node

structure WF where
  word : Span → Str → List Node → Str × List Node
  sub : Node → Node

mutual
def mapW (f : WF) : Node → Node
  | .list p ps => .list p (mapWL f ps)
  | .pipeline p ps => .pipeline p (mapWL f ps)
  | .compound p l r => .compound p (mapWL f l) (mapWL f r)
  | .ifN p ps => .ifN p (mapWL f ps)
  | .forN p ps => .forN p (mapWL f ps)
  | .whileN p ps => .whileN p (mapWL f ps)
  | .untilN p ps => .untilN p (mapWL f ps)
  | .caseN p ps => .caseN p (mapWL f ps)
  | .pattern p ps => .pattern p (mapWL f ps)
  | .command p ps => .command p (mapWL f ps)
  | .unimplemented p ps => .unimplemented p (mapWL f ps)
  | .function p a b ps => .function p a b (mapWL f ps)
  | .redirect p i t o oa h hid => .redirect p i t (mapWO f o) oa h hid
  | .word p w ps => .word p (f.word p w ps).1 (f.word p w ps).2
  | .assignment p w ps => .assignment p (f.word p w ps).1 (f.word p w ps).2
  | .commandsubstitution p c => .commandsubstitution p (f.sub c)
  | .processsubstitution p c => .processsubstitution p (f.sub c)
  | .operator p o => .operator p o
  | .reservedword p w => .reservedword p w
  | .pipe p w => .pipe p w
  | .parameter p v => .parameter p v
  | .tilde p v => .tilde p v
  | .heredoc p v => .heredoc p v
def mapWL (f : WF) : List Node → List Node
  | [] => []
  | n :: ns => mapW f n :: mapWL f ns
def mapWO (f : WF) : Option Node → Option Node
  | none => none
  | some n => some (mapW f n)
end

theorem mapWL_eq (f : WF) (l : List Node) : mapWL f l = l.map (mapW f) := by
  induction l with
  | nil => simp [mapWL]
  | cons a as ih => simp [mapWL, ih]

theorem mapWO_eq (f : WF) (o : Option Node) : mapWO f o = o.map (mapW f) := by
  cases o <;> simp [mapWO]

@[simp] theorem mapWL_nil (f : WF) : mapWL f [] = [] := rfl
@[simp] theorem mapWL_cons (f : WF) (a : Node) (l : List Node) :
    mapWL f (a :: l) = mapW f a :: mapWL f l := rfl
@[simp] theorem mapWL_append (f : WF) (l r : List Node) :
    mapWL f (l ++ r) = mapWL f l ++ mapWL f r := by simp [mapWL_eq]
@[simp] theorem mapWL_length (f : WF) (l : List Node) : (mapWL f l).length = l.length := by
  simp [mapWL_eq]

@[simp] theorem pos_mapW (f : WF) (n : Node) : (mapW f n).pos = n.pos := by
  cases n <;> simp [mapW, Node.pos]

/-- the identity as a word map -/
def idf : WF := ⟨fun _ w ps => (w, ps), id⟩

/-! ## one layer of a word map -/

/-- one layer: words and bare substitutions through `f`, the output of a redirect and the
    children of every other kind through `r` (the body of a here-document is kept) -/
def mapW1 (f : WF) (r : Node → Node) : Node → Node
  | .word p w ps => .word p (f.word p w ps).1 (f.word p w ps).2
  | .assignment p w ps => .assignment p (f.word p w ps).1 (f.word p w ps).2
  | .commandsubstitution p c => .commandsubstitution p (f.sub c)
  | .processsubstitution p c => .processsubstitution p (f.sub c)
  | .redirect p i t o oa h hid => .redirect p i t (o.map r) oa h hid
  | n => map1 (fun p => p) r n

theorem mapW_eq (f : WF) (n : Node) : mapW f n = mapW1 f (mapW f) n := by
  cases n <;> simp [mapW, mapW1, map1, mapWL_eq, mapWO_eq]

theorem children_mapW1 (f : WF) (r : Node → Node) (n : Node) :
    (mapW1 f r n).children =
      match n with
      | .word p w ps | .assignment p w ps => (f.word p w ps).2
      | .commandsubstitution _ c | .processsubstitution _ c => [f.sub c]
      | .redirect _ _ _ o _ h _ => (o.map r).toList ++ h.toList
      | n => n.children.map r := by
  cases n <;> first | rfl | exact (List.map_append ..).symm

/-- a layer looks at `r` on the children only -/
theorem mapW1_congr {f : WF} {r s : Node → Node} {n : Node} (h : ∀ c ∈ n.children, r c = s c) :
    mapW1 f r n = mapW1 f s n := by
  cases n with
  | word _ _ _ | assignment _ _ _ | commandsubstitution _ _ | processsubstitution _ _ => rfl
  | redirect p i t o oa hd hid => cases o <;> simp_all [mapW1, children]
  | _ => exact map1_congr (φ := fun p => p) (ψ := fun p => p) rfl h

/-- `mapW f` is the only function that is one layer of itself: what is a word map is decided
    kind by kind, without a recursion over the tree -/
theorem mapW_unique {f : WF} {F : Node → Node} (hF : ∀ n, F n = mapW1 f F n) (n : Node) :
    F n = mapW f n := by
  induction n using children_induction with
  | hP n ih => rw [hF, mapW_eq]; exact mapW1_congr ih

theorem mapW_id (n : Node) : mapW idf n = n :=
  (mapW_unique (F := fun n => n) (fun n => by cases n <;> simp [mapW1, map1, idf]) n).symm

theorem mapWL_id : (l : List Node) → mapWL idf l = l := by
  intro l; rw [mapWL_eq]; exact (List.map_congr_left fun n _ => mapW_id n).trans (List.map_id' l)

theorem mapWO_id : (o : Option Node) → mapWO idf o = o := by
  intro o; cases o <;> simp [mapWO, mapW_id]

/-! ## `pruneLimit` is a word map -/

def prunef (k : Nat) : WF :=
  ⟨fun _ w ps => (w, pruneParts k ps),
   fun c => match k with | 0 => c | k' + 1 => pruneLimit k' c⟩

theorem pruneLimitL_map (k : Nat) (l : List Node) : pruneLimitL k l = l.map (pruneLimit k) := by
  induction l with
  | nil => simp [pruneLimitL]
  | cons a as ih => simp [pruneLimitL, ih]

theorem pruneLimitO_map (k : Nat) (o : Option Node) : pruneLimitO k o = o.map (pruneLimit k) := by
  cases o <;> rfl

theorem pruneLimit_eq (k : Nat) (n : Node) : pruneLimit k n = mapW (prunef k) n :=
  mapW_unique (F := pruneLimit k) (fun n => by
    cases n <;> try cases k
    all_goals simp [pruneLimit, mapW1, map1, prunef, pruneLimitL_map, pruneLimitO_map]) n

theorem pruneLimitL_eq (k : Nat) : (l : List Node) → pruneLimitL k l = mapWL (prunef k) l := by
  intro l; rw [pruneLimitL_map, mapWL_eq]; exact List.map_congr_left fun n _ => pruneLimit_eq k n

theorem pruneLimitO_eq (k : Nat) : (o : Option Node) → pruneLimitO k o = mapWO (prunef k) o := by
  intro o; cases o <;> simp [pruneLimitO, mapWO, pruneLimit_eq]

@[simp] theorem pos_pruneLimit (k : Nat) (n : Node) : (pruneLimit k n).pos = n.pos := by
  rw [pruneLimit_eq]; exact pos_mapW _ _

/-! ## `resolve` commutes with every word map -/

theorem mapW_of_descends (f : WF) {n : Node} (h : C03.descends n = true) :
    mapW f n = map1 (fun p => p) (mapW f) n := by
  rw [mapW_eq]; cases n <;> first | rfl | cases h

theorem descends_mapW (f : WF) (n : Node) : C03.descends (mapW f n) = C03.descends n := by
  cases n <;> rfl

theorem kind_mapW (f : WF) (n : Node) : (mapW f n).kind = n.kind := by cases n <;> rfl

/-- where `resolve` descends both maps are layers of themselves; a redirect keeps its output and
    its pending body is no word; every other node `resolve` leaves alone -/
theorem mapW_resolve (f : WF) (st : List RedirCell) (n : Node) :
    mapW f (resolve st n) = resolve st (mapW f n) := by
  refine resolve_induction (R := fun n n' => mapW f n' = resolve st (mapW f n)) ?_ ?_ ?_ n
  · intro n hd ih
    have hd' := fun φ r => (descends_map1 φ r n).trans hd
    rw [mapW_of_descends f (hd' ..), map1_map1, mapW_of_descends f hd, resolve_of_descends (hd' ..),
      map1_map1]
    exact map1_congr rfl ih
  · intro p i t o oa h hid
    cases hid with
    | none => simp [resolve, mapW]
    | some id => simp only [resolve, mapW]; cases st[id]? <;> simp [mapW]
  · intro n hd hr
    rw [resolve_of_leaf ((descends_mapW f n).trans hd) (by rwa [kind_mapW])]

theorem mapWL_resolve (f : WF) (st : List RedirCell) :
    (l : List Node) → mapWL f (resolveL st l) = resolveL st (mapWL f l) := by
  intro l; simp [mapWL_eq, resolveL_eq, mapW_resolve]

end Bashlex.C16

namespace Bashlex.C16
open Bashlex Bashlex.Spec Bashlex.Node

/-! ## the relation between the results of the two runs -/

/-- two nodes with the same image -/
def NR (f g : WF) (a b : Node) : Prop := mapW f a = mapW g b
def LR (f g : WF) (l l' : List Node) : Prop := mapWL f l = mapWL g l'

theorem NR.pos {f g : WF} {a b : Node} (h : NR f g a b) : a.pos = b.pos := by
  have := congrArg Node.pos h
  simpa using this

theorem LR.length {f g : WF} {l l' : List Node} (h : LR f g l l') : l.length = l'.length := by
  have := congrArg List.length h
  simpa using this

theorem LR.nil {f g : WF} : LR f g [] [] := rfl
theorem LR.cons {f g : WF} {a b l l'} (h : NR f g a b) (hl : LR f g l l') :
    LR f g (a :: l) (b :: l') := by
  unfold LR NR at *; simp [h, hl]
theorem LR.append {f g : WF} {l l' r r'} (h : LR f g l l') (hr : LR f g r r') :
    LR f g (l ++ r) (l' ++ r') := by
  unfold LR at *; simp [h, hr]
theorem LR.single {f g : WF} {a b} (h : NR f g a b) : LR f g [a] [b] := LR.cons h LR.nil

theorem LR.cons_inv {f g : WF} {a l l'} (h : LR f g (a :: l) l') :
    ∃ b r, l' = b :: r ∧ NR f g a b ∧ LR f g l r := by
  cases l' with
  | nil => simp [LR] at h
  | cons b r =>
    simp only [LR, mapWL_cons, List.cons.injEq] at h
    exact ⟨b, r, rfl, h.1, h.2⟩

theorem LR.nil_inv {f g : WF} {l'} (h : LR f g [] l') : l' = [] := by
  cases l' with
  | nil => rfl
  | cons b r => simp [LR] at h

theorem LR.head? {f g : WF} {l l'} (h : LR f g l l') :
    match l.head?, l'.head? with
    | none, none => True
    | some a, some b => NR f g a b
    | _, _ => False := by
  cases l with
  | nil => cases LR.nil_inv h; trivial
  | cons a r => obtain ⟨b, r', rfl, h1, _⟩ := LR.cons_inv h; exact h1

theorem LR.getLast? {f g : WF} : ∀ {l l'}, LR f g l l' →
    match l.getLast?, l'.getLast? with
    | none, none => True
    | some a, some b => NR f g a b
    | _, _ => False := by
  intro l
  induction l with
  | nil => intro l' h; cases LR.nil_inv h; trivial
  | cons a r ih =>
    intro l' h
    obtain ⟨b, r', rfl, h1, h2⟩ := LR.cons_inv h
    cases r with
    | nil => cases LR.nil_inv h2; simpa using h1
    | cons a2 r2 =>
      obtain ⟨b2, r2', rfl, _, _⟩ := LR.cons_inv h2
      have := ih h2
      simpa [List.getLast?_cons_cons] using this

/-! ### inversion -/

theorem NR.compound_inv {f g : WF} {p l r b} (h : NR f g (.compound p l r) b) :
    ∃ l' r', b = .compound p l' r' ∧ LR f g l l' ∧ LR f g r r' := by
  cases b <;> simp [NR, mapW] at h
  obtain ⟨rfl, h1, h2⟩ := h
  exact ⟨_, _, rfl, h1, h2⟩

theorem NR.pipeline_inv {f g : WF} {p l b} (h : NR f g (.pipeline p l) b) :
    ∃ l', b = .pipeline p l' ∧ LR f g l l' := by
  cases b <;> simp [NR, mapW] at h
  obtain ⟨rfl, h1⟩ := h
  exact ⟨_, rfl, h1⟩

theorem NR.reservedword_inv {f g : WF} {p w b} (h : NR f g (.reservedword p w) b) :
    b = .reservedword p w := by
  cases b <;> simp [NR, mapW] at h
  obtain ⟨rfl, rfl⟩ := h; rfl

theorem NR.word_inv {f g : WF} {p w ps b} (h : NR f g (.word p w ps) b) :
    ∃ w' ps', b = .word p w' ps' ∧ f.word p w ps = g.word p w' ps' := by
  cases b <;> simp [NR, mapW] at h
  obtain ⟨rfl, h1, h2⟩ := h
  exact ⟨_, _, rfl, Prod.ext h1 h2⟩

def isWordN (n : Node) : Bool := match n with | .word .. => true | _ => false
def isPipelineN (n : Node) : Bool := match n with | .pipeline .. => true | _ => false
def isReservedN (n : Node) : Bool := match n with | .reservedword .. => true | _ => false

@[simp] theorem isWordN_mapW (f : WF) (n : Node) : isWordN (mapW f n) = isWordN n := by
  cases n <;> rfl
@[simp] theorem isCompound_mapW (f : WF) (n : Node) : isCompound (mapW f n) = isCompound n := by
  cases n <;> rfl
@[simp] theorem isPipelineN_mapW (f : WF) (n : Node) : isPipelineN (mapW f n) = isPipelineN n := by
  cases n <;> rfl
@[simp] theorem isReservedN_mapW (f : WF) (n : Node) : isReservedN (mapW f n) = isReservedN n := by
  cases n <;> rfl

theorem NR.isWordN {f g : WF} {a b} (h : NR f g a b) : isWordN a = isWordN b := by
  have := congrArg C16.isWordN h; simpa using this
theorem NR.isCompound {f g : WF} {a b} (h : NR f g a b) : isCompound a = isCompound b := by
  have := congrArg Bashlex.isCompound h; simpa using this
theorem NR.isPipelineN {f g : WF} {a b} (h : NR f g a b) : isPipelineN a = isPipelineN b := by
  have := congrArg C16.isPipelineN h; simpa using this
theorem NR.isReservedN {f g : WF} {a b} (h : NR f g a b) : isReservedN a = isReservedN b := by
  have := congrArg C16.isReservedN h; simpa using this

/-- the pending-here-document id and the stored span: all `nodePos` looks at -/
def posKey (n : Node) : Span × Option Nat :=
  match n with
  | .redirect p _ _ _ _ _ hid => (p, hid)
  | m => (m.pos, none)

@[simp] theorem posKey_mapW (f : WF) (n : Node) : posKey (mapW f n) = posKey n := by
  cases n <;> simp [posKey, mapW, Node.pos]

theorem NR.posKey {f g : WF} {a b} (h : NR f g a b) : posKey a = posKey b := by
  have := congrArg C16.posKey h; simpa using this

theorem LR.findIdx {f g : WF} {P : Node → Bool} (hP : ∀ f n, P (mapW f n) = P n) :
    ∀ {l l'}, LR f g l l' → l.findIdx? P = l'.findIdx? P := by
  intro l l' h
  have h1 : ∀ (f : WF) (l : List Node), (mapWL f l).findIdx? P = l.findIdx? P := by
    intro f l
    induction l with
    | nil => rfl
    | cons a r ih => simp [List.findIdx?_cons, hP, ih]
  rw [← h1 f l, ← h1 g l', h]

/-! ### semantic values -/

def SR (f g : WF) : SVal → SVal → Prop
  | .none, .none => True
  | .tok t, .tok t' => t = t'
  | .node a, .node b => NR f g a b
  | .nodes l, .nodes l' => LR f g l l'
  | _, _ => False

theorem SR.lexspan {f g : WF} {a b : SVal} (h : SR f g a b) : a.lexspan = b.lexspan := by
  cases a <;> cases b <;> simp [SR] at h <;> simp [SVal.lexspan, h]

end Bashlex.C16

