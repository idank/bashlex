/-
  C17: `proceedonerror=True` changes the outcome only where the run with `proceedonerror=False`
  raises `NotImplementedError`.

  The option is read in ONE place of the model: `handleNotImplemented` (`Model/Actions.lean`), and
  with the answer `False` the very next thing is `raise NotImplementedError`, which aborts the
  top-level run (nested parsers carry `opts := some (true, false)` and never ask the
  environment).  `PI m` ("proceed-insensitive"): started with `proceed = false`, the run of `m`
  ends in a `NotImplementedError`, or the run with `proceed = true` is THE SAME run (same result,
  same final state, same environment up to the option).  `PI` is closed under the monad
  operations, every write of the parser object, every raise and every environment query but
  `optProceed` (`PI.closed`), so the walks of `Proofs/Closed*.lean` through the tokenizer, word
  expansion and the action functions apply to it: `pi_nextToken`, `pi_expandword`, `pi_action`;
  the LR engine and `parserRun` (`pi_step`, `pi_run`, `pi_parserRun`) are in
  `Props/C17Proceed.lean`; `handleNotImplemented` is the one place treated by hand
  (`PI.optProceed_bind`).
  No exclusion for D18 is needed: its
  `AssertionError` (`select x in a; do b; done`) arises with `proceed = true` only, where the run
  with `proceed = false` raises `NotImplementedError`.
-/
import Bashlex.Proofs.HoareS
import Bashlex.Proofs.QCongr
import Bashlex.Model.Parse
import Bashlex.Proofs.ClosedTok
import Bashlex.Proofs.ClosedExpand
import Bashlex.Proofs.ClosedActions

namespace Bashlex.C17
open Bashlex Bashlex.M

/-- the environment with the option switched on -/
def setP (e : Env) : Env := { e with proceed := true }

/-- the run ended in a `NotImplementedError` -/
def NIres {β : Type} (r : Except Exn β) : Prop := ∃ w, r = .error (.notImplemented w)

/-- proceed-insensitive unless `NotImplementedError` -/
def PI {α : Type} (m : M α) : Prop :=
  ∀ l e, e.proceed = false →
    (m.run l e).2.proceed = false ∧
    (NIres (m.run l e).1 ∨ m.run l (setP e) = ((m.run l e).1, setP (m.run l e).2))

variable {α β γ : Type}

theorem PI.pure (a : α) : PI (Pure.pure a : M α) := by
  intro l e he; rw [run_pure]; exact ⟨he, Or.inr rfl⟩

theorem PI.raise (x : Exn) : PI (M.raise x : M α) := by
  intro l e he; rw [run_raise]; exact ⟨he, Or.inr rfl⟩

theorem PI.foreign (a b : String) : PI (M.foreign a b : M α) := PI.raise _

theorem PI.bind {m : M α} {f : α → M β} (hm : PI m) (hf : ∀ a, PI (f a)) : PI (m >>= f) := by
  intro l e he
  obtain ⟨h1, h2⟩ := hm l e he
  rw [run_bind, run_bind]
  rcases hr : m.run l e with ⟨r, e1⟩
  rw [hr] at h1 h2
  cases r with
  | error x =>
    simp only []
    refine ⟨h1, ?_⟩
    rcases h2 with ⟨w, hw⟩ | h2
    · left; cases hw; exact ⟨w, rfl⟩
    · right; rw [h2]
  | ok v =>
    obtain ⟨a, l'⟩ := v
    simp only []
    have h3 := hf a l' e1 h1
    refine ⟨h3.1, ?_⟩
    rcases h2 with ⟨w, hw⟩ | h2
    · cases hw
    · rw [h2]; exact h3.2

theorem PI.get : PI (get : M Local) := by
  intro l e he; rw [run_get]; exact ⟨he, Or.inr rfl⟩

theorem PI.set (l0 : Local) : PI (set l0 : M Unit) := by
  intro l e he; rw [run_set]; exact ⟨he, Or.inr rfl⟩

theorem PI.modify (f : Local → Local) : PI (modify f : M Unit) := by
  intro l e he; rw [run_modify]; exact ⟨he, Or.inr rfl⟩

/-- every query but the option itself -/
theorem PI.ask (q : Query) (hq : q ≠ .optProceed) : PI (M.ask q) := by
  intro l e he
  rw [run_ask, run_ask]
  refine ⟨(e.answer_frame q).2.1.trans he, Or.inr ?_⟩
  have := proceedField.answer_set true e q hq
  show (Except.ok (((proceedField.set true e).answer q).1, l), ((proceedField.set true e).answer q).2) = _
  rw [this.1, this.2]; rfl

/-- **the one place where the option is read**: with the answer `False` the continuation raises
    `NotImplementedError` -/
theorem PI.optProceed_bind {k : Bool → M α} (hk : ∀ b, PI (k b))
    (hNI : ∀ l e, NIres ((k false).run l e).1) : PI (optProceed >>= k) := by
  intro l e he
  rw [run_bind, run_bind]
  unfold optProceed
  rw [run_bind, run_bind, run_get, run_get]
  simp only []
  cases hl : l.opts with
  | some p =>
    obtain ⟨s, pr⟩ := p
    simp only [run_pure]
    exact hk pr l e he
  | none =>
    have h1 : (e.answer .optProceed) = (false, e) := by
      show (e.proceed, e) = _; rw [he]
    have h2 : ((setP e).answer .optProceed) = (true, setP e) := rfl
    rw [run_ask, run_ask, h1, h2]
    simp only []
    exact ⟨(hk false l e he).1, Or.inl (hNI l e)⟩

/-- `PI` is closed under everything the parser's code is built from but the query of the option;
    it holds of every raise, so for every list of raise sites -/
theorem PI.closed (site : Exn → Bool) :
    Closed site (fun {α} (m : M α) => PI m) (fun {α} _ (m : M α) => PI m) where
  pure a := PI.pure a
  bind hm hf := PI.bind hm hf
  get_bind h := PI.bind PI.get h
  forget h := h
  raise _ := PI.raise _
  ask {q} h := PI.ask q (by rintro rfl; cases h)
  modify _ := PI.modify _
  set_bind _ hk := PI.bind (PI.set _) (fun _ => hk)
  bindA hm hk := PI.bind hm hk
  ask_bind {_ _ q _} h hk := PI.bind (PI.ask q (by rintro rfl; cases h)) hk

theorem PI.map {m : M α} {f : α → β} (h : PI m) : PI (f <$> m) := (PI.closed walkSite).map h

theorem pi_tapeAdded : PI tapeAdded := wk_tapeAdded (PI.closed walkSite)

/-! ### the tokenizer -/

theorem pi_optStrict : PI optStrict := by
  unfold optStrict
  refine PI.bind PI.get fun l => ?_
  split
  · exact PI.ask _ nofun
  · exact PI.pure _

/-- `PI` allows every write -/
theorem piTape : TapeAtoms (fun {α} (m : M α) => PI m) :=
  .of_writes (PI.closed tokSite) (PI.foreign _ _) (fun _ => PI.set _) (fun _ => PI.set _)

/-- the other option is read here -/
theorem pi_gatherheredocuments : PI gatherheredocuments :=
  wk_gatherheredocuments (PI.closed _) piTape (PI.raise _) pi_optStrict
    (wk_makeheredoc (PI.closed _) piTape (fun _ _ => PI.set _) (PI.foreign _ _))
    (fun _ => PI.modify _)

/-- what the walk of the tokenizer asks beyond closure -/
theorem PI.world : TokWorld (fun {α} (m : M α) => PI m) where
  tape := piTape
  current := wk_currentDelimiter (PI.closed tokSite)
  delim := .of_writes (PI.closed tokSite) (PI.foreign _ _) (fun _ => PI.modify _) (fun _ => PI.set _)
  sites := .of_foreign PI.foreign
  pos := .of_writes (PI.closed tokSite) (PI.foreign _ _) (PI.foreign _ _) (fun _ => PI.modify _)
    (fun _ => PI.set _)
  isAssignment := wk_isAssignment (PI.closed _).builds (PI.foreign _ _)
  gather := pi_gatherheredocuments

theorem pi_nextToken : PI nextToken := PI.world.nextToken (PI.closed _)

/-! ### word expansion and actions, given the nested parser -/

section
variable {np : NestedParse} (hnp : ∀ s b, PI (np s b))
include hnp

theorem pi_expandword (tok : Token) : PI (expandword np tok) :=
  wk_expandword (PI.closed _) hnp (PI.foreign _ _) tok

theorem pi_handleNotImplemented (args : List SVal) (ty : String) :
    PI (handleNotImplemented ⟨np, args⟩ ty) := by
  have C := PI.closed walkSite
  unfold handleNotImplemented
  refine PI.optProceed_bind (fun b => ?_) (fun l e => ?_)
  · exact C.ite
      (fun _ => C.bind (rd_makeparts C.toReads (fun t _ => pi_expandword hnp t)) fun _ =>
        C.bind (rd_partsspan C.toReads (fun _ => PI.foreign _ _) _) fun _ => C.pure _)
      (fun _ => PI.raise _)
  · simp only [Bool.false_eq_true, if_false]
    exact ⟨ty, by rw [run_raise]⟩

/-- the actions: the walk of `Proofs/ClosedActions.lean`; the option is read in
    `handleNotImplemented` only -/
theorem pi_action (fname : String) (args : List SVal) : PI (action np fname args) :=
  rd_action (PI.closed walkSite).toReads (fun _ => PI.foreign _ _)
    (fun t _ => pi_expandword hnp t) (pi_handleNotImplemented hnp args) fname
    (fun _ => PI.modify _) (fun _ => pi_gatherheredocuments)
    (fun _ => fun _ _ _ hk => PI.bind (PI.set _) fun _ => hk)

end

end Bashlex.C17
