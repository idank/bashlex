/-
  C01 tight 2 (state-agnostic): no value of a delivered token ends in `$(`.
  The loop of `_readtokenword` (restated in `Props/C04/TTWord.lean`) appends: a character that is
  no break character (so not `(`), an escaped character right after its backslash, `$$`, or what a
  scanner returned (which ends in its closing character, `T2Scan.lean`).
-/
import Bashlex.Props.C01.T2Scan
import Bashlex.Props.C03.RE.WWord
import Bashlex.Props.C01.Tokens
import Bashlex.Proofs.TokForms

namespace Bashlex.C01.T2
open Bashlex Bashlex.M Bashlex.C04 Bashlex.C04.TTP Bashlex.C04.WB Bashlex.C03.RE

/-- does not end in `$(` -/
def NoDP (s : Str) : Prop := s.getLast? = some '(' → s.dropLast.getLast? ≠ some '$'

theorem nodp_nil : NoDP [] := by intro h; cases h

theorem nodp_of_lp {s : Str} (h : LP s) : NoDP s := by
  obtain ⟨c, h1, h2⟩ := h
  intro hl
  rw [h1] at hl
  simp only [Option.some.injEq] at hl
  exact absurd hl h2

theorem nodp_snoc_ne (s : Str) {c : Char} (h : c ≠ '(') : NoDP (s ++ [c]) := nodp_of_lp (lp_snoc s h)

theorem nodp_snoc_bs {s : Str} (h : s.getLast? = some '\\') (c : Char) : NoDP (s ++ [c]) := by
  intro _
  rw [List.dropLast_concat, h]
  decide

/-- the invariant of the loop -/
def WI (st : RWState) : Prop :=
  NoDP st.tokenword ∧ (st.passNext = true → st.tokenword.getLast? = some '\\')

def WStep (r : RWState ⊕ RWState) : Prop :=
  match r with
  | .inl s => WI s
  | .inr s => NoDP s.tokenword

theorem quote_ne_paren {c : Char} (h : (synClass c).quote = true) : c ≠ '(' := by
  simp only [synClass, Bool.or_eq_true, beq_iff_eq] at h
  rcases h with (rfl | rfl) | rfl <;> decide

/-! ## the closures -/

theorem sat_hsq (st : RWState) (c : Char) (hq : (synClass c).quote = true) :
    Sat (handleshellquote st c) (fun st' => LP st'.tokenword ∧ st'.passNext = st.passNext) := by
  unfold handleshellquote
  refine Sat.bind_any (fun _ => Sat.bind_any (fun fuel => ?_))
  refine Sat.bind (lp_pmp fuel _ (quote_ne_paren hq)) (fun ttok ht => ?_)
  refine Sat.bind_any (fun _ => Sat.pure ⟨?_, rfl⟩)
  show LP (st.tokenword ++ [c] ++ ttok)
  exact lp_append _ ht

theorem sat_hse (st : RWState) (c : Char) (cd : Option Char) :
    Sat (handleshellexp st c cd)
      (fun x => (x.2 = true → x.1 = st) ∧
        (x.2 = false → LP x.1.tokenword ∧ x.1.passNext = st.passNext)) := by
  unfold handleshellexp
  refine Sat.bind_any (fun peek => ?_)
  refine Sat.ite (fun h1 => ?_) (fun h1 => ?_)
  · -- `$(`, `${`, `$[`: what the scanner returned is appended (`fin` is the join point after it)
    extract_lets -underBinder +onlyGivenNames fin
    have hfin : ∀ ttok, LP ttok → Sat (fin ttok) (fun x => (x.2 = true → x.1 = st) ∧
        (x.2 = false → LP x.1.tokenword ∧ x.1.passNext = st.passNext)) :=
      fun ttok ht => Sat.pure ⟨fun h => (by cases h), fun _ => ⟨lp_append _ ht, rfl⟩⟩
    clear_value fin
    refine Sat.ite (fun _ => ?_) (fun _ => Sat.ite (fun _ => ?_) (fun _ => ?_))
    · exact Sat.bind_any (fun fuel => Sat.bind (lp_pmp fuel _ (show '}' ≠ '(' by decide)) hfin)
    · exact Sat.bind_any (fun _ => Sat.bind_any (fun fuel =>
        Sat.bind (lp_pcs fuel _ (show ')' ≠ '(' by decide)) (fun t ht =>
          Sat.bind_any (fun _ => Sat.bind (Sat.pure (P := LP) ht) hfin))))
    · exact Sat.bind_any (fun fuel => Sat.bind (lp_pmp fuel _ (show ']' ≠ '(' by decide)) hfin)
  · refine Sat.ite (fun h2 => ?_) (fun h2 => ?_)
    · have hp : peek.getD '"' ≠ '(' := by
        cases peek with
        | none => decide
        | some p =>
          intro hp
          have : p = '(' := hp
          subst this
          simp at h2
      refine Sat.bind_any (fun _ => Sat.bind_any (fun fuel => ?_))
      refine Sat.bind (lp_pmp fuel _ hp) (fun ttok ht => ?_)
      refine Sat.bind_any (fun _ => Sat.pure ⟨fun h => (by cases h), fun _ => ⟨?_, rfl⟩⟩)
      show LP (st.tokenword ++ [c, peek.getD '"'] ++ ttok)
      exact lp_append _ ht
    · refine Sat.ite (fun h3 => ?_) (fun h3 => ?_)
      · refine Sat.pure ⟨fun h => (by cases h), fun _ => ⟨?_, rfl⟩⟩
        show LP (st.tokenword ++ ['$', '$'])
        exact lp_append _ ⟨'$', rfl, by decide⟩
      · exact Sat.bind_any (fun _ => Sat.pure ⟨fun _ => rfl, fun h => (by cases h)⟩)

/-! ## one iteration -/

theorem sat_tail (st : RWState) (h : WI st) : Sat (rwTail st) WStep := by
  unfold rwTail
  exact Sat.bind_any (fun _ => Sat.bind_any (fun nc => Sat.pure h))

theorem sat_break_true (st : RWState) (c : Char) (h : WI st) : Sat (rwBreak st c true) WStep := by
  rw [rwBreak_true]; exact sat_tail st h

theorem brk_paren : (synClass '(').brk = true := by decide

theorem sat_break_false (st : RWState) (c : Char) (h : WI st) (hpn : st.passNext = false) :
    Sat (rwBreak st c false) WStep := by
  unfold rwBreak
  simp only [Bool.not_false, if_true]
  refine Sat.bind (sat_shellbreak c) (fun b hb => ?_)
  subst hb
  refine Sat.ite (fun hbrk => ?_) (fun hbrk => ?_)
  · exact Sat.bind_any (fun _ => Sat.pure h.1)
  · have hbrk' : (synClass c).brk = false := by simpa using hbrk
    refine sat_tail (handleescapedchar st c) ⟨?_, fun hp => ?_⟩
    · show NoDP (st.tokenword ++ [c])
      refine nodp_snoc_ne _ ?_
      intro hc; subst hc
      rw [brk_paren] at hbrk'; cases hbrk'
    · have : (handleescapedchar st c).passNext = st.passNext := rfl
      rw [this, hpn] at hp; cases hp

/-- **one iteration of the loop of `_readtokenword`** keeps `WI` -/
theorem sat_step (st : RWState) (h : WI st) : Sat (readtokenwordStep st) WStep := by
  rw [readtokenwordStep_eq]
  cases hc : st.c with
  | none => exact Sat.pure h.1
  | some c0 =>
    simp only []
    by_cases hp : st.passNext = true
    · rw [if_pos hp]
      refine sat_tail _ ⟨?_, fun hh => by cases hh⟩
      show NoDP (st.tokenword ++ [c0])
      exact nodp_snoc_bs (h.2 hp) c0
    · rw [if_neg hp]
      have hpf : st.passNext = false := by
        cases hh : st.passNext with
        | true => exact absurd hh hp
        | false => rfl
      refine Sat.bind_any (fun cd => ?_)
      refine Sat.ite (fun hbs => ?_) (fun hbs => ?_)
      · have hc0 : c0 = '\\' := by simpa using hbs
        subst hc0
        refine Sat.bind_any (fun peek => ?_)
        refine Sat.ite (fun _ => sat_break_true st _ h) (fun _ => ?_)
        refine Sat.bind_any (fun _ => Sat.bind_any (fun cond => ?_))
        refine Sat.ite (fun _ => ?_) (fun _ => ?_)
        · refine sat_break_true _ _ ⟨?_, fun _ => ?_⟩
          · show NoDP (st.tokenword ++ ['\\'])
            exact nodp_snoc_ne _ (by decide)
          · show (st.tokenword ++ ['\\']).getLast? = some '\\'
            simp
        · exact sat_break_false st '\\' h hpf
      · refine Sat.bind (sat_shellquote c0) (fun b hb => ?_)
        subst hb
        refine Sat.ite (fun hq => ?_) (fun hq => ?_)
        · refine Sat.bind (sat_hsq st c0 hq) (fun st' hst' => ?_)
          exact sat_break_true st' c0 ⟨nodp_of_lp hst'.1, fun hh => by rw [hst'.2, hpf] at hh; cases hh⟩
        · refine Sat.bind (sat_shellexp c0) (fun b hb => ?_)
          subst hb
          refine Sat.ite (fun hx => ?_) (fun hx => ?_)
          · refine Sat.bind (sat_hse st c0 cd) (fun x hx' => ?_)
            obtain ⟨st', r⟩ := x
            cases r with
            | false =>
              show Sat (rwBreak st' c0 (!false)) _
              rw [Bool.not_false]
              have := hx'.2 rfl
              exact sat_break_true st' c0
                ⟨nodp_of_lp this.1, fun hh => by rw [this.2, hpf] at hh; cases hh⟩
            | true =>
              show Sat (rwBreak st' c0 (!true)) _
              rw [Bool.not_true]
              have : st' = st := hx'.1 rfl
              subst this
              exact sat_break_false st' c0 h hpf
          · exact sat_break_false st c0 h hpf

/-! ## tokens -/

/-- the value of the token does not end in `$(` -/
def TP (t : Token) : Prop := NoDP t.valueStr

theorem sat_createtoken_tp {ty : TokType} {v : TVal} {fl : WordFlags} (hv : ∀ s, v = .str s → NoDP s) :
    Sat (createtoken ty v fl) TP := by
  refine C01.sat_createtoken3.weaken (fun t ht => ?_) (fun _ h => h)
  unfold TP Token.valueStr
  rw [ht.2.1]
  cases v with
  | str s => exact hv s rfl
  | int n => exact nodp_nil
  | none => exact nodp_nil

macro "tp_walk" : tactic => `(tactic| repeat' (first
  | with_reducible refine Sat.ite (fun _ => ?_) (fun _ => ?_)
  | with_reducible exact Sat.foreign trivial
  | with_reducible exact Sat.raise trivial
  | with_reducible refine Sat.bind (sat_createtoken_tp ?_) (fun _ _ => ?_)
  | with_reducible refine sat_createtoken_tp ?_
  | with_reducible refine Sat.bind_any (fun _ => ?_)
  | with_reducible refine Sat.pure ?_
  | (show Sat _ _ _; split)))

theorem sat_fwWord_tp (st : RWState) (tok : Token) (h : TP tok) : Sat (fwWord st tok) TP := by
  have hT : ∀ l asg, TP (fwToken st l asg tok) := fun l asg => by
    unfold TP Token.valueStr
    rw [Shape.fwToken_value]
    exact h
  unfold fwWord fwEnd
  tp_walk
  all_goals exact hT _ _

theorem sat_finishWord_tp (st : RWState) (h : NoDP st.tokenword) : Sat (finishWord st) TP := by
  rw [finishWord_eq]
  unfold fwHead
  simp only []
  tp_walk
  all_goals first
    | exact sat_fwWord_tp st _ (by assumption)
    | (intro s hs; cases hs; first | exact h | done)

theorem sat_readtokenword_tp (c : Char) : Sat (readtokenword c) TP := by
  unfold readtokenword
  refine Sat.bind_any (fun fuel => ?_)
  refine Sat.bind (P := fun st => NoDP st.tokenword) ?_ (fun st hst => sat_finishWord_tp st hst)
  refine Sat.loop (I := WI) (R := fun (st : RWState) => NoDP st.tokenword) trivial (fun st hI => ?_) fuel _
    ⟨nodp_nil, fun (h : false = true) => by cases h⟩
  refine (sat_step st hI).weaken (fun r hr => ?_) (fun _ h => h)
  cases r with
  | inl s => exact hr
  | inr s => exact hr

theorem tp_bare (ty : TokType) : ∀ s, ty.enumValue = .str s → NoDP s := by
  intro s hs
  cases ty <;> simp [TokType.enumValue, TokType.strValueChars] at hs <;> subst hs <;>
    (unfold NoDP; decide)

/-- **no value of a delivered token ends in `$(`** (every state, every environment) -/
theorem sat_nextToken_tp : Sat nextToken TP :=
  Shape.sat_nextToken_of
    (Shape.sat_readtoken_of (show NoDP [] from nodp_nil) C12.sat_tokentypeOfChar
      C12.sat_readtokenMeta sat_readtokenword_tp)
    (fun ty _ => sat_createtoken_tp (tp_bare ty))

end Bashlex.C01.T2

#print axioms Bashlex.C01.T2.sat_nextToken_tp
