/-
  C01 tight: two raise sites that depend on the STATE of the tokenizer but are excluded
  locally, i.e. whatever state `token()` is entered in:
    AssertionError|_createtoken   `_createtoken` pops two positions; `token()` records two
                                  (`recordpos 1` in `_readtoken`, `recordpos` before each
                                  `_createtoken`) and nothing in between touches the list;
    IndexError|_pop_delimiter     every `_pop_delimiter` follows a `_push_delimiter` with a
                                  balanced scan in between.
  State-aware logic `HT` of `Props/C11/Hoare.lean` with the invariant
  `PD n d` = "at least `n` recorded positions, delimiter stack = `d`"; the exception predicate `E2`
  excludes just the two sites, the rest comes from `t1_nextToken` (`sat_andE`).

  Keeping `PD n d`, for all `n` and `d`, is a closed predicate (`PSat.closed`, by `HT.closed`): of
  a function that only keeps it this is known from the walk of `Proofs/ClosedTok.lean`.  What moves
  from one `PD` to another is walked here, forward, each callee fixing the assertion that holds
  after it (`ht_step`): the four functions that write the two lists, and in `TightStateTok.lean`
  those that call them.
-/
import Bashlex.Props.C11.Hoare
import Bashlex.Props.C11.Tactic
import Bashlex.Props.C01.TightWord
import Bashlex.Proofs.ClosedTok

namespace Bashlex.C01
open Bashlex Bashlex.M Bashlex.C10 Bashlex.C11

/-- at least `n` recorded positions, delimiter stack `d` -/
def PD (n : Nat) (d : List Char) (l : Local) (_ : Env) : Prop :=
  n ≤ l.positions.length ∧ l.dstack = d

/-- everything but the two sites -/
def E2 (x : Exn) : Prop :=
  x ≠ .foreign "AssertionError" "_createtoken" ∧ x ≠ .foreign "IndexError" "_pop_delimiter"

theorem e2_parsing {m s p} : E2 (.parsing m s p) := ⟨(fun h => by cases h), (fun h => by cases h)⟩
theorem e2_fuel {s} : E2 (.outOfFuel s) := ⟨(fun h => by cases h), (fun h => by cases h)⟩
theorem e2_foreign {a b : String}
    (h : ((a == "AssertionError" && b == "_createtoken") ||
          (a == "IndexError" && b == "_pop_delimiter")) = false) : E2 (.foreign a b) := by
  constructor <;> (intro hx; cases hx; simp at h)
theorem e2_mkParsingError {m s p} : E2 (mkParsingError m s p) := by
  unfold mkParsingError
  split
  · exact e2_parsing
  · exact e2_foreign rfl

theorem e2_of_tokSite {x : Exn} (h : tokSite x = true) : E2 x := by
  cases x with
  | parsing m s p => exact e2_parsing
  | notImplemented s => cases h
  | outOfFuel s => exact e2_fuel
  | foreign a b =>
    simp only [tokSite, Bool.and_eq_true, beq_iff_eq] at h
    obtain ⟨rfl, rfl⟩ := h
    exact e2_foreign rfl

macro "e2" : tactic => `(tactic| first
  | exact e2_fuel
  | exact e2_foreign rfl
  | exact e2_mkParsingError
  | exact e2_parsing)

/-- preserves `PD n d` -/
abbrev PSat {α : Type} (n : Nat) (d : List Char) (m : M α) : Prop :=
  HT (PD n d) m (fun _ => PD n d) E2

theorem pd_foreign {α : Type} {a b : String}
    (h : ((a == "AssertionError" && b == "_createtoken") ||
          (a == "IndexError" && b == "_pop_delimiter")) = false) (n : Nat) (d : List Char) :
    PSat n d (M.foreign a b : M α) := HT.foreign (e2_foreign h)

/-- the callees met by the walks below (extended after each lemma): closes `HT (PD n d) m ?Q E2` -/
syntax "pd_atom" : tactic
macro_rules | `(tactic| pd_atom) => `(tactic| assumption)
set_option hygiene false in
macro_rules | `(tactic| pd_atom) => `(tactic| exact hpmp _ _ _)
set_option hygiene false in
macro_rules | `(tactic| pd_atom) => `(tactic| exact hpcs _ _ _)
set_option hygiene false in
macro_rules | `(tactic| pd_atom) => `(tactic| exact hd _ _ _ _ _)

theorem ht_loopI {σ α : Type} {I : Local → Env → Prop} {E : Exn → Prop} {site : String}
    {body : σ → M (σ ⊕ α)} (hfuel : E (.outOfFuel site))
    (hbody : ∀ s, HT I (body s) (fun _ => I) E) (fuel : Nat) (s : σ) :
    HT I (M.loop site body fuel s) (fun _ => I) E :=
  HT.loop (I := fun _ => I) hfuel (fun s => HT.post (hbody s) (fun r l e h => by cases r <;> exact h))
    fuel s

theorem htq_modify_bind {β : Type} {I : Local → Env → Prop} {E : Exn → Prop} {f : Local → Local}
    {k : Unit → M β} {Q : β → Local → Env → Prop} (h : ∀ l e, I l e → I (f l) e)
    (hk : HT I (k ()) Q E) : HT I (modify f >>= k) Q E :=
  HT.bind (Q := fun _ => I) (HT.modify h) (fun _ => hk)

theorem htq_set {I : Local → Env → Prop} {E : Exn → Prop} {l0 l1 : Local}
    {Q : Unit → Local → Env → Prop} (h : ∀ e, I l0 e → Q () l1 e) :
    HTQAt I l0 (MonadStateOf.set l1 : M Unit) Q E :=
  HT.set_at h

theorem ht_raise_bind {α β : Type} {P : Local → Env → Prop} {E : Exn → Prop} {x : Exn}
    {k : α → M β} {Q : β → Local → Env → Prop} (h : E x) : HT P ((M.raise x : M α) >>= k) Q E :=
  HT.raise_bind h
theorem ht_foreign_bind {α β : Type} {P : Local → Env → Prop} {E : Exn → Prop} {a b : String}
    {k : α → M β} {Q : β → Local → Env → Prop} (h : E (.foreign a b)) :
    HT P ((M.foreign a b : M α) >>= k) Q E := ht_raise_bind h

theorem ht_pure_bind {α β : Type} {P : Local → Env → Prop} {E : Exn → Prop} {a : α}
    {k : α → M β} {Q : β → Local → Env → Prop} (h : HT P (k a) Q E) :
    HT P ((Pure.pure a : M α) >>= k) Q E := HT.pure_bind h

theorem ht_ite_bind {α β : Type} {P : Local → Env → Prop} {E : Exn → Prop} {c : Prop} [Decidable c]
    {a b : M α} {k : α → M β} {Q : β → Local → Env → Prop}
    (ha : c → HT P (a >>= k) Q E) (hb : ¬ c → HT P (b >>= k) Q E) :
    HT P ((if c then a else b) >>= k) Q E := HT.ite_bind ha hb

theorem ht_bind_assoc {α β γ : Type} {P : Local → Env → Prop} {E : Exn → Prop} {m : M α}
    {f : α → M β} {k : β → M γ} {Q : γ → Local → Env → Prop}
    (h : HT P (m >>= fun a => f a >>= k) Q E) : HT P ((m >>= f) >>= k) Q E := by
  rw [bind_assoc]; exact h

theorem ht_loopI_bind {σ α β : Type} {I : Local → Env → Prop} {E : Exn → Prop} {site : String}
    {body : σ → M (σ ⊕ α)} {fuel : Nat} {s : σ} {k : α → M β} {Q : β → Local → Env → Prop}
    (hfuel : E (.outOfFuel site)) (hbody : ∀ s, HT I (body s) (fun _ => I) E)
    (hk : ∀ a, HT I (k a) Q E) : HT I (M.loop site body fuel s >>= k) Q E :=
  HT.bind (ht_loopI hfuel hbody fuel s) hk

/-- `PD` does not look at the environment -/
theorem PD.answer {n : Nat} {d : List Char} (l : Local) (e : Env) (q : Query) (h : PD n d l e) :
    PD n d l (e.answer q).2 := h

theorem PD.of_stable {n : Nat} {d : List Char} {l0 l1 : Local} {e : Env}
    (h : l1.stable = l0.stable) (hp : PD n d l0 e) : PD n d l1 e := by
  simp only [Local.stable, Prod.mk.injEq] at h
  obtain ⟨_, _, _, h4, h5, _⟩ := h
  exact ⟨by rw [h5]; exact hp.1, by rw [h4]; exact hp.2⟩

/-- keeping every `PD n d` is closed: the walked code writes the positions and the delimiter stack
    only inside `recordpos`, `_createtoken`, `_push_delimiter`, `_pop_delimiter`.  All `n` and `d`
    at once, since a scanner is entered again below a pushed delimiter. -/
theorem PSat.closed :
    Closed tokSite (fun {α} (m : M α) => ∀ n d, PSat n d m)
      (fun {α} l0 (m : M α) => ∀ n d, HTQAt (PD n d) l0 m (fun _ => PD n d) E2) :=
  Closed.all fun _ => Closed.all fun _ =>
    HT.closed PD.of_stable PD.answer (fun _ => e2_of_tokSite)

set_option hygiene false in
/-- One step of the forward walk through a program, goal `HT I prog Q E` with `I` kept by every
    statement.  The structural rules and the rules for `get`/`modify`/`set`/raise first, then the callees
    (the list of callees is long: it is tried only where nothing else applies).  `atom` closes a known callee, `exn`
    shows that a raised exception is in `E`, `ask` is the logic's rule for `M.ask q >>= k`, and
    `frame` closes `I (f l) e` from `h : I l e` after a `modify`/`set`. -/
macro "ht_step" "(" atom:tactic "," exn:tactic "," ask:tactic "," frame:tactic ")" : tactic =>
  `(tactic| first
  | with_reducible exact HT.pure (fun _ _ h => h)
  | with_reducible refine HT.ite (fun _ => ?_) (fun _ => ?_)
  | with_reducible refine HTQAt.ite (fun _ => ?_) (fun _ => ?_)
  | with_reducible refine HTQAt.ite_bind (fun _ => ?_) (fun _ => ?_)
  | with_reducible refine ht_pure_bind ?_
  | with_reducible refine ht_bind_assoc ?_
  | with_reducible refine ht_ite_bind (fun _ => ?_) (fun _ => ?_)
  | with_reducible refine HT.get_bind (fun _ => ?_)
  | ((with_reducible refine htq_modify_bind ?_ ?_); focus (intro _ _ h; $frame:tactic))
  | ((with_reducible refine HT.modify ?_); (intro _ _ h; $frame:tactic))
  | ((with_reducible refine HTQAt.set_bind ?_ ?_); focus (intro _ h; $frame:tactic))
  | ((with_reducible refine htq_set ?_); (intro _ h; $frame:tactic))
  | ((with_reducible refine HTQAt.foreign_bind ?_); $exn:tactic)
  | ((with_reducible refine HTQAt.foreign ?_); $exn:tactic)
  | with_reducible refine HTQAt.pure_bind ?_
  | with_reducible $ask:tactic
  | ((with_reducible apply HT.bind); (focus (with_reducible $atom:tactic)); intro _)
  | with_reducible $atom:tactic
  | with_reducible exact HT.pure (fun _ _ h => h.2)
  | split_head
  | with_reducible refine HTQAt.ofHT ?_
  | ((with_reducible refine ht_foreign_bind ?_); $exn:tactic)
  | ((with_reducible refine ht_raise_bind ?_); $exn:tactic)
  | ((with_reducible refine HT.raise ?_); $exn:tactic)
  | ((with_reducible refine HT.foreign ?_); $exn:tactic)
  | ((with_reducible refine ht_loopI_bind ?_ (fun _ => ?_) (fun _ => ?_)); focus $exn:tactic)
  | ((with_reducible refine ht_loopI ?_ (fun _ => ?_) _ _); focus $exn:tactic))

theorem pd_ask (q : Query) (n : Nat) (d : List Char) : PSat n d (M.ask q) := HT.ask PD.answer q
macro_rules | `(tactic| pd_atom) => `(tactic| exact pd_ask _ _ _)

set_option hygiene false in
macro "pd_step" : tactic =>
  `(tactic| ht_step (pd_atom, e2, refine HTQAt.ask_bind PD.answer (fun _ => ?_), exact h))

macro "pd_walk" : tactic => `(tactic| repeat' pd_step)

/-! ### tape access -/

/-- `PD` does not read the tape -/
theorem PSat.tape : TapeAtoms (fun {α} (m : M α) => ∀ n d, PSat n d m) :=
  .of_writes PSat.closed (fun n d => pd_foreign rfl n d) (fun _ _ _ => htq_set fun _ h => h)
    (fun _ _ _ => htq_set fun _ h => h)

theorem pd_getc (rqn : Bool) (n : Nat) (d : List Char) : PSat n d (getc rqn) :=
  PSat.tape.getc rqn n d
macro_rules | `(tactic| pd_atom) => `(tactic| exact pd_getc _ _ _)

theorem pd_ungetc (c : Option Char) (n : Nat) (d : List Char) : PSat n d (ungetc c) :=
  PSat.tape.ungetc c n d
macro_rules | `(tactic| pd_atom) => `(tactic| exact pd_ungetc _ _ _)

theorem pd_bumpIdx (n : Nat) (d : List Char) : PSat n d bumpIdx := PSat.tape.bumpIdx n d

theorem pd_curIdx (n : Nat) (d : List Char) : PSat n d curIdx := wk_curIdx PSat.closed n d
theorem pd_tapeLine (n : Nat) (d : List Char) : PSat n d tapeLine := wk_tapeLine PSat.closed n d
theorem pd_tapeAdded (n : Nat) (d : List Char) : PSat n d tapeAdded := wk_tapeAdded PSat.closed n d
theorem pd_optStrict (n : Nat) (d : List Char) : PSat n d optStrict := by
  unfold optStrict; (try simp only []); pd_walk
theorem pd_optProceed (n : Nat) (d : List Char) : PSat n d optProceed := by
  unfold optProceed; (try simp only []); pd_walk
theorem pd_syn (c : Char) (n : Nat) (d : List Char) : PSat n d (syn c) := pd_ask _ _ _

theorem pd_shellmeta (c : Char) (n : Nat) (d : List Char) : PSat n d (shellmeta c) :=
  wk_shellmeta PSat.closed.builds c n d
theorem pd_shellquote (c : Char) (n : Nat) (d : List Char) : PSat n d (shellquote c) :=
  wk_shellquote PSat.closed.builds c n d
theorem pd_shellexp (c : Char) (n : Nat) (d : List Char) : PSat n d (shellexp c) :=
  wk_shellexp PSat.closed.builds c n d
theorem pd_shellbreak (c : Char) (n : Nat) (d : List Char) : PSat n d (shellbreak c) :=
  wk_shellbreak PSat.closed.builds c n d
macro_rules | `(tactic| pd_atom) => `(tactic| exact pd_shellmeta _ _ _)
macro_rules | `(tactic| pd_atom) => `(tactic| exact pd_shellquote _ _ _)

theorem pd_peekc (rqn : Bool) (n : Nat) (d : List Char) : PSat n d (peekc rqn) :=
  wk_peekc PSat.closed.builds PSat.tape rqn n d

theorem pd_matchedPairError {α : Type} (c : Char) (n : Nat) (d : List Char) :
    PSat n d (matchedPairError c : M α) :=
  wk_matchedPairError PSat.closed.builds c n d

theorem pd_loopFuel (n : Nat) (d : List Char) : PSat n d loopFuel := HT.pure (fun _ _ h => h)
theorem pd_depthFuel (n : Nat) (d : List Char) : PSat n d depthFuel := HT.pure (fun _ _ h => h)
macro_rules | `(tactic| pd_atom) => `(tactic| exact pd_loopFuel _ _)
macro_rules | `(tactic| pd_atom) => `(tactic| exact pd_depthFuel _ _)

/-! ### the two lists -/

theorem pd_recordpos (rel : Nat) (n : Nat) (d : List Char) :
    HT (PD n d) (recordpos rel) (fun _ => PD (n + 1) d) E2 := by
  unfold recordpos
  refine HT.bind (pd_curIdx n d) (fun i => ?_)
  refine HT.modify (fun l e h => ⟨?_, h.2⟩)
  show n + 1 ≤ (l.positions ++ [i - rel]).length
  have := h.1
  simp only [List.length_append, List.length_cons, List.length_nil]; omega

theorem pd_createtoken (ty : TokType) (v : TVal) (fl : WordFlags) (n : Nat) (d : List Char) :
    HT (PD (n + 1 + 1) d) (createtoken ty v fl) (fun _ => PD n d) E2 := by
  unfold createtoken; (try simp only [])
  refine HT.get_bind (fun l0 => ?_)
  refine HTQAt.ite (fun hlt => ?_) (fun _ => ?_)
  · intro l e ⟨hl, h⟩
    subst hl
    have := h.1
    omega
  · refine HT.bind (Q := fun _ => PD n d) ?_ (fun _ => ?_)
    · refine HT.set ?_
      rintro l e ⟨rfl, h⟩
      refine ⟨?_, h.2⟩
      show n ≤ l.positions.dropLast.dropLast.length
      have := h.1
      simp only [List.length_dropLast]
      omega
    · refine HT.ite (fun _ => ?_) (fun _ => HT.pure (fun _ _ h => h))
      exact HT.bind (Q := fun _ _ _ => False) (HT.foreign (by e2)) (fun _ => HT.pre_false)

theorem pd_push (c : Char) (n : Nat) (d : List Char) :
    HT (PD n d) (pushDelimiter c) (fun _ => PD n (d ++ [c])) E2 := by
  unfold pushDelimiter
  refine HT.modify (fun l e h => ⟨h.1, ?_⟩)
  show l.dstack ++ [c] = d ++ [c]
  rw [h.2]

theorem pd_pop (c : Char) (n : Nat) (d : List Char) :
    HT (PD n (d ++ [c])) popDelimiter (fun _ => PD n d) E2 := by
  intro l e ⟨h1, h2⟩
  unfold popDelimiter
  simp only [M.run_bind, C10.run_get, h2]
  have hne : (d ++ [c]).isEmpty = false := by simp
  simp only [hne, Bool.false_eq_true, if_false, C10.run_set]
  exact ⟨h1, by simp⟩

theorem pd_currentDelimiter (n : Nat) (d : List Char) : PSat n d currentDelimiter :=
  wk_currentDelimiter PSat.closed n d
macro_rules | `(tactic| pd_atom) => `(tactic| exact pd_recordpos _ _ _)
macro_rules | `(tactic| pd_atom) => `(tactic| exact pd_createtoken _ _ _ _ _)
macro_rules | `(tactic| pd_atom) => `(tactic| exact pd_push _ _ _)
macro_rules | `(tactic| pd_atom) => `(tactic| exact pd_pop _ _ _)

end Bashlex.C01
