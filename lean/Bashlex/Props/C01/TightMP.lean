/-
  C01 tight: `_parse_matched_pair` and `_parse_comsub` with the discipline `TokExn1`.
-/
import Bashlex.Props.C01.TightTok
import Bashlex.Proofs.TokForms

namespace Bashlex.C01
open Bashlex Bashlex.M Bashlex.C04.TTP

theorem t1_handledollarword {pmp : MPParams → M Str} {pcs : CSParams → M Str}
    (hpmp : ∀ P, MPOK P → TSat1 (pmp P)) (hpcs : ∀ P, CSOK P → TSat1 (pcs P)) (P : MPParams)
    (rdquote : Bool) (c : Char) (hc : isDolOpen c = true) (hne : P.opn ≠ c) :
    TSat1 (handledollarword pmp pcs P rdquote c) := by
  unfold handledollarword; (try simp only [])
  refine Sat.ite (fun h => absurd (by simpa using h) hne) (fun _ => ?_)
  refine Sat.ite (fun _ => hpcs _ (fun h => absurd h (by decide))) (fun h1 => ?_)
  refine Sat.ite (fun _ => hpmp _ ⟨(fun h => by cases h), rfl, (fun h => absurd (show '{' = '}' from h) (by decide))⟩) (fun h2 => ?_)
  refine Sat.ite (fun _ => hpmp _ ⟨(fun h => by cases h), rfl, (fun h => absurd (show '[' = ']' from h) (by decide))⟩) (fun h3 => ?_)
  exfalso
  simp only [isDolOpen, Bool.or_eq_true] at hc
  rcases hc with (hc | hc) | hc
  · exact h1 hc
  · exact h2 hc
  · exact h3 hc

theorem t1_mpPost {pmp : MPParams → M Str} {pcs : CSParams → M Str}
    (hpmp : ∀ P, MPOK P → TSat1 (pmp P)) (hpcs : ∀ P, CSOK P → TSat1 (pcs P)) (P : MPParams)
    (hP : MPOK P) (rdquote : Bool) (st : MPState) (c : Char) :
    TSat1 (mpPost pmp pcs P rdquote st c) := by
  have hd := t1_handledollarword hpmp hpcs
  unfold mpPost; (try simp only [])
  refine Sat.ite (fun hoc => ?_) (fun hoc => ?_)
  · have hne : P.opn ≠ P.close := by simpa using hoc
    refine Sat.bind (sat1_shellquote c) (fun b hb => ?_)
    refine Sat.ite (fun hq => ?_) (fun _ => ?_)
    · have hq' : (synClass c).quote = true := by rw [← hb]; exact hq
      refine sat_bindE (t1_pushDelimiter c) (fun _ => ?_)
      refine sat_bindE (hpmp _ ⟨(fun h => absurd ((hP.pc h).2.1.trans (hP.pc h).2.2.symm) hne), rfl, (fun _ => ?_)⟩) (fun _ => ?_)
      · simp only [synClass, Bool.or_eq_true, beq_iff_eq] at hq'
        rcases hq' with (rfl | rfl) | rfl <;> rfl
      · t1_walk
    · refine Sat.ite (fun h => ?_) (fun _ => Sat.pure True.intro)
      rw [hP.arr] at h; simp at h
  · have hoc' : P.opn = P.close := by simpa using hoc
    refine Sat.ite (fun h => ?_) (fun _ => ?_)
    · have hq : P.opn = '"' := by
        simp only [Bool.and_eq_true, beq_iff_eq] at h; exact h.1
      refine sat_bindE (hpmp _ ⟨(fun h => ?_), rfl, (fun _ => rfl)⟩) (fun _ => ?_)
      · have := (hP.pc h).2.1; rw [hq] at this; exact absurd this (by decide)
      · t1_walk
    · refine Sat.ite (fun h => ?_) (fun _ => Sat.pure True.intro)
      have hdo : isDolOpen c = true := by
        simp only [Bool.and_eq_true] at h; exact h.2
      have hne : P.opn ≠ c := by
        intro heq
        have := hP.oc hoc'
        rw [heq, hdo] at this; cases this
      have := hd P rdquote c hdo hne
      t1_walk

/-! ### `_parse_comsub`: the invariant of the loop state -/

/-- inside a here-document `lexfirstind` has been set (so `ret[tind]` is `ret[n]` with
    `0 ≤ n < len(ret)`: no `IndexError`); inside a word `lexwlen` is bound (no
    `UnboundLocalError`) -/
def CSInv (st : CSState) : Prop :=
  (st.insideheredoc = true → 0 ≤ st.lexfirstind) ∧ (st.insideword = true → st.lexwlen.isSome = true)

theorem skipTabs_some (sd : Bool) (ret : Str) : ∀ (f : Nat) (t : Int), 0 ≤ t →
    ∃ r, skipTabs sd ret f t = some r := by
  intro f
  induction f with
  | zero => intro t _; exact ⟨t, rfl⟩
  | succ f ih =>
    intro t ht
    unfold skipTabs
    split
    · rename_i hc
      simp only [Bool.and_eq_true, decide_eq_true_eq] at hc
      have hlt : t.toNat < ret.length := by omega
      have : pyAtInt? ret t = some ret[t.toNat] := by
        unfold pyAtInt?
        rw [if_pos ht]
        exact List.getElem?_eq_getElem hlt
      rw [this]
      simp only []
      split
      · exact ih (t + 1) (by omega)
      · exact ⟨t, rfl⟩
    · exact ⟨t, rfl⟩

theorem t1_csDelimMatches (st : CSState) (h : 0 ≤ st.lexfirstind) : TSat1 (csDelimMatches st) := by
  unfold csDelimMatches
  obtain ⟨r, hr⟩ := skipTabs_some st.stripdoc st.ret (st.ret.length + 2) st.lexfirstind h
  rw [hr]
  exact Sat.pure True.intro

def StepA : Step CSState → Prop
  | .cont s => CSInv s
  | .done _ => True
  | .next s _ => CSInv s ∧ s.insideheredoc = false

/-- result of `csB` on `c`: the character is unchanged; a here-document may have been entered,
    on a newline only; a `#` is inside a word -/
def StepB (c : Char) : Step CSState → Prop
  | .cont s => CSInv s
  | .done _ => True
  | .next s c' => CSInv s ∧ c' = c ∧ (s.insideheredoc = true → c = '\n') ∧
      (c = '#' → s.insideword = true)

def StepC : Step CSState → Prop
  | .cont s => CSInv s
  | .done _ => True
  | .next s _ => CSInv s

/-- close a leaf: the invariant at a literal state, with the guards of the path in the context -/
macro "cs_leaf" : tactic => `(tactic| first
  | (exfalso; exact absurd rfl (by assumption))
  | (simp_all [StepA, StepB, StepC, CSInv, csEndHeredoc]; done)
  | (simp_all [StepA, StepB, StepC, CSInv, csEndHeredoc, synClass]; done)
  | (simp_all [StepA, StepB, StepC, CSInv, csEndHeredoc]; omega)
  | (simp_all [StepA, StepB, StepC, CSInv, csEndHeredoc, synClass]; omega)
  | omega
  | (intro hc; subst hc; simp_all [synClass]; done))

macro_rules | `(tactic| t1_bindv) => `(tactic| refine sat_bindE (t1_csDelimMatches _ ?_) (fun _ => ?_))

theorem sat1_csA3 (st : CSState) (c : Char) (hst : CSInv st) : Sat (csA3 st c) StepA TokExn1 := by
  unfold csA3; (try simp only [])
  t1_walkP
  all_goals cs_leaf

theorem sat1_csA2 (P : CSParams) (st : CSState) (c : Char) (hst : CSInv st) :
    Sat (csA2 P st c) StepA TokExn1 := by
  unfold csA2; (try simp only [])
  repeat' (first
    | with_reducible refine sat1_csA3 _ _ ?_
    | t1_stepP)
  all_goals cs_leaf

theorem sat1_csArest (P : CSParams) (st : CSState) (c : Char) (hst : CSInv st) :
    Sat (csArest P st c) StepA TokExn1 := by
  unfold csArest; (try simp only [])
  repeat' (first
    | with_reducible refine sat1_csA2 _ _ _ ?_
    | t1_stepP)
  all_goals cs_leaf

theorem sat1_csA (P : CSParams) (st : CSState) (hst : CSInv st) : Sat (csA P st) StepA TokExn1 := by
  rw [csA_eq]
  refine sat_bindE (t1_getc _) (fun c0 => ?_)
  simp only []
  split
  · exact sat_bindE (t1_matchedPairError _) (fun c => sat1_csArest P st c hst)
  · rw [pure_bind]; exact sat1_csArest P st _ hst

/-- a raise site that is excluded: the path to it is contradictory -/
theorem sat_foreign_false {α : Type} {a b : String} {P : α → Prop} {E : Exn → Prop} (h : False) :
    Sat (M.foreign a b : M α) P E := h.elim
theorem sat_foreign_bind_false {α β : Type} {a b : String} {k : α → M β} {P : β → Prop}
    {E : Exn → Prop} (h : False) : Sat ((M.foreign a b : M α) >>= k) P E := h.elim

/-- the walk with post-condition, excluded raise sites left as `False` -/
macro "t1_walkX" : tactic => `(tactic| repeat' (first
  | t1_stepP
  | with_reducible refine sat_foreign_false ?_
  | with_reducible refine sat_foreign_bind_false ?_))

theorem sat1_csBpeek (b : Bool) (st : CSState) (c : Char) (hst : CSInv st)
    (h1 : st.insideheredoc = true → c = '\n') (h2 : c = '#' → st.insideword = true) :
    Sat (csBpeek b st c) (StepB c) TokExn1 := by
  unfold csBpeek; (try simp only [])
  t1_walkP
  all_goals cs_leaf

/-- the blank test and the here-document delimiter: `insideword`, `lexwlen` stay -/
theorem sat1_csBmid (b : Bool) (st : CSState) (c : Char) (hst : CSInv st)
    (hh : st.insideheredoc = false) (hw : c = '#' → st.insideword = true) :
    Sat (csBmid b st c) (StepB c) TokExn1 := by
  unfold csBmid; (try simp only [])
  repeat' (first
    | with_reducible refine sat1_csBpeek _ _ _ ?_ ?_ ?_
    | t1_stepP)
  all_goals first
    | exact hw
    | exact hst
    | exact ⟨fun h => absurd (hh ▸ h) (by decide), hst.2⟩
    | cs_leaf

/-- the word bookkeeping: `insideheredoc`, `lexfirstind` stay; `#` is not a break character -/
theorem sat1_csB (b : Bool) (st : CSState) (c : Char) (hst : CSInv st)
    (hh : st.insideheredoc = false) : Sat (csB b st c) (StepB c) TokExn1 := by
  rw [csB_eq]
  unfold csBhead; (try simp only [])
  repeat' (first
    | with_reducible refine sat1_csBmid _ _ _ ?_ ?_ ?_
    | t1_stepP
    | with_reducible refine sat_foreign_false ?_
    | with_reducible refine sat_foreign_bind_false ?_)
  all_goals cs_leaf

theorem sat1_csCtail (P : CSParams) (b : Bool) (st : CSState) (c : Char) (hst : CSInv st)
    (h1 : st.insideheredoc = true → c = '\n') (h2 : c = '#' → st.insideword = true) :
    Sat (csCtail P b st c) StepC TokExn1 := by
  unfold csCtail; (try simp only [])
  t1_walkX
  all_goals first | exact hst | cs_leaf

/-- the head of `csC` changes `reservedwordok`, `insidecase`, `lexrwlen` only: the hypotheses pass
    to the tail as they are -/
theorem sat1_csC (P : CSParams) (b : Bool) (st : CSState) (c : Char) (hst : CSInv st)
    (h1 : st.insideheredoc = true → c = '\n') (h2 : c = '#' → st.insideword = true) :
    Sat (csC P b st c) StepC TokExn1 := by
  rw [csC_eq]
  unfold csChead; (try simp only [])
  repeat' (first
    | with_reducible refine sat1_csCtail _ _ _ _ ?_ ?_ ?_
    | t1_stepP)
  all_goals first | exact hst | exact h1 | exact h2

theorem sat1_csD (P : CSParams) (st : CSState) (c : Char) (hst : CSInv st) :
    Sat (csD P st c) StepC TokExn1 := by
  unfold csD; (try simp only [])
  t1_walkP
  all_goals cs_leaf

theorem sat1_csPre (P : CSParams) (b : Bool) (st : CSState) (hst : CSInv st) :
    Sat (csPre P b st) StepC TokExn1 := by
  unfold csPre
  refine Sat.bind (sat1_csA P st hst) (fun r hr => ?_)
  cases r with
  | cont s => exact Sat.pure hr
  | done r => exact Sat.pure True.intro
  | next s c =>
    refine Sat.bind (sat1_csB b s c hr.1 hr.2) (fun r hr => ?_)
    cases r with
    | cont s => exact Sat.pure hr
    | done r => exact Sat.pure True.intro
    | next s c' =>
      obtain ⟨a1, rfl, a3, a4⟩ := hr
      refine Sat.bind (sat1_csC P b s c' a1 a3 a4) (fun r hr => ?_)
      cases r with
      | cont s => exact Sat.pure hr
      | done r => exact Sat.pure True.intro
      | next s c => exact sat1_csD P s c hr

theorem sat1_csPost {pmp : MPParams → M Str} {pcs : CSParams → M Str}
    (hpmp : ∀ P, MPOK P → TSat1 (pmp P)) (hpcs : ∀ P, CSOK P → TSat1 (pcs P)) (P : CSParams)
    (st : CSState) (c : Char) (hst : CSInv st) : Sat (csPost pmp pcs P st c) CSInv TokExn1 := by
  unfold csPost; (try simp only [])
  refine Sat.bind (sat1_shellquote c) (fun b hb => ?_)
  refine Sat.ite (fun hq => ?_) (fun _ => ?_)
  · have hq' : (synClass c).quote = true := by rw [← hb]; exact hq
    refine sat_bindE (t1_pushDelimiter c) (fun _ => ?_)
    refine sat_bindE (hpmp _ ⟨(fun h => by cases h), rfl, (fun _ => ?_)⟩) (fun _ => ?_)
    · simp only [synClass, Bool.or_eq_true, beq_iff_eq] at hq'
      rcases hq' with (rfl | rfl) | rfl <;> rfl
    · exact sat_bindE t1_popDelimiter (fun _ => Sat.pure hst)
  · repeat' (first
      | with_reducible refine Sat.ite (fun _ => ?_) (fun _ => ?_)
      | with_reducible refine sat_bindE (hpcs _ ?_) (fun _ => ?_)
      | with_reducible refine sat_bindE (hpmp _ ?_) (fun _ => ?_)
      | exact Sat.pure hst)
    all_goals first
      | exact (fun h => absurd h (by decide))
      | exact ⟨(fun h => by cases h), rfl, (fun h => absurd h (by decide))⟩

/-- the two mutually recursive scanners, by induction on the depth fuel -/
theorem t1_pmp_pcs : ∀ fuel, (∀ P, MPOK P → TSat1 (parseMatchedPair fuel P)) ∧
    (∀ P, CSOK P → TSat1 (parseComsub fuel P)) := by
  intro fuel
  induction fuel with
  | zero =>
    refine ⟨fun P _ => ?_, fun P _ => ?_⟩
    · unfold parseMatchedPair; t1_walk
    · unfold parseComsub; t1_walk
  | succ fuel ih =>
    obtain ⟨hpmp, hpcs⟩ := ih
    refine ⟨fun P hP => ?_, fun P hP => ?_⟩
    · unfold parseMatchedPair; (try simp only [])
      refine sat_bindE (t1_mpInit P hP) (fun x => ?_)
      refine sat_bindE t1_loopFuel (fun lf => ?_)
      refine sat_loopT (by tokexn1) (fun st => ?_) _ _
      have hpost := t1_mpPost hpmp hpcs P hP
      refine Sat.ite (fun _ => Sat.pure True.intro) (fun _ => ?_)
      refine sat_bindE (t1_mpPre _ _ _) (fun r => ?_)
      split
      · exact Sat.pure True.intro
      · exact Sat.pure True.intro
      · exact sat_bindE (hpost _ _ _) (fun _ => Sat.pure True.intro)
    · unfold parseComsub; (try simp only [])
      refine sat_bindE (t1_getc _) (fun peek => ?_)
      refine sat_bindE (t1_ungetc _) (fun _ => ?_)
      refine Sat.ite (fun _ => ?_) (fun _ => ?_)
      · exact hpmp _ ⟨(fun h => by cases h), rfl, hP⟩
      · refine sat_bindE t1_loopFuel (fun lf => ?_)
        refine Sat.loop (I := CSInv) (by tokexn1) (fun st hst => ?_) _ _ ⟨(fun h => by cases h), (fun h => by cases h)⟩
        refine Sat.ite (fun _ => Sat.pure True.intro) (fun _ => ?_)
        refine Sat.bind (sat1_csPre P _ st hst) (fun r hr => ?_)
        cases r with
        | cont s => exact Sat.pure hr
        | done r => exact Sat.pure True.intro
        | next s c =>
          exact Sat.bind (sat1_csPost hpmp hpcs P s c hr) (fun s' hs' => Sat.pure hs')

theorem t1_parseMatchedPair (fuel : Nat) (P : MPParams) (hP : MPOK P) : TSat1 (parseMatchedPair fuel P) :=
  (t1_pmp_pcs fuel).1 P hP
theorem t1_parseComsub (fuel : Nat) (P : CSParams) (hP : CSOK P) : TSat1 (parseComsub fuel P) :=
  (t1_pmp_pcs fuel).2 P hP

end Bashlex.C01
