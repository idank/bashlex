/-
  C01 tight 2: `IndexError|_extractcommandsubst` never escapes -- the value invariant `VT`
  (tokens on the LR stack do not end in `$(`) through the LR engine (`C11.run_ok`), the nested
  parsers of every depth and the entry points.
-/
import Bashlex.Props.C01.T2Act
import Bashlex.Props.C01.TightLvlParse

namespace Bashlex.C01
open Bashlex Bashlex.M Bashlex.C10 Bashlex.C11 Bashlex.LR Bashlex.C01.T2
-- see `Proofs/ParserLift.lean`
attribute [local irreducible] M.run runParser parse parsesingle split

theorem h9_sat_post {α : Type} {m : M α} {P : α → Prop} (h : Sat m P E9) :
    HT TI9 m (fun a l e => P a ∧ TI9 l e) E9 := by
  intro l e _
  have := h l e
  revert this
  rcases m.run l e with ⟨r, e'⟩
  cases r with
  | ok v => exact fun h => ⟨h, True.intro⟩
  | error x => exact fun h => h

/-- `token()`: the value does not end in `$(`, and the site is not raised -/
theorem sat9_nextToken : Sat nextToken TP E9 :=
  sat_conj sat_nextToken_tp (t1_nextToken.weaken (fun _ h => h) (fun _ h => tokExn1_e9 h))

theorem e9_site {ty site : String} (h1 : site ≠ "_extractcommandsubst") : E9 (.foreign ty site) := by
  intro h; injection h with _ h; exact h1 h

section
variable {np : NestedParse}

theorem hooks9 (hnp : NP9 np) : HooksOK TI9 (lrHooks np) VT E9 := by
  refine ⟨?_, ?_, ?_, ?_, ?_⟩
  · show SatI TI9 (nextToken >>= fun t => pure (symOfTok t, SVal.tok t)) _ _
    refine HT.bind (h9_sat_post sat9_nextToken) (fun t => HT.pre_pure (fun ht => ?_))
    refine HT.pure (fun l e h => ⟨?_, h⟩)
    intro t' ht'
    cases ht'
    exact ht
  · intro p args hargs
    refine HT.weaken (HT.and_sat (h9_action hnp (Gen.prodFuncs.getD p "") args hargs)
      (vt_action np (Gen.prodFuncs.getD p "") args hargs)) (fun _ _ h => h) (fun _ _ _ h => h)
      (fun _ h => h.2)
  · exact fun la _ => satS_onError (fun _ _ _ => e9_mkParsingError) (e9_foreign rfl) la
  · intro ty
    exact ⟨e9_site (by decide), e9_site (by decide)⟩
  · exact e9_fuel

theorem np9_npOf {inner : M (Option Node)} (hin : HSat9 inner) : NP9 (C03.npOf inner) :=
  fun _ _ => SatS.npOf fun _ _ _ => HT.pre hin fun _ _ _ => trivial

end

/-- every nesting depth -/
theorem parserRun9 : ∀ d, HSat9 (parserRun d) :=
  parserRun_ind (J := fun _ m => HSat9 m) (HT.raise e9_fuel) fun _ ih =>
    (level_ok (hooks9 (np9_npOf ih))).post fun _ _ _ h => h.2

theorem runParser_e9 {s : Str} {o : Opts} {t : List Char} {x : Exn}
    (h : (runParser s o t).1 = .error x) : E9 x :=
  runParser_sat_error (parserRun9 _) trivial h

/-- **`parse` never raises `IndexError|_extractcommandsubst`** -/
theorem parse_e9 (s : Str) (o : Opts) {x : Exn} (h : (parse s o).1 = .exn x) : E9 x :=
  parse_error_of (fun _ _ _ => runParser_e9) h

theorem parsesingle_e9 (s : Str) (o : Opts) {x : Exn} (h : (parsesingle s o).1 = .exn x) : E9 x :=
  runParser_e9 (parsesingle_error h)

theorem splitM9 (s : Str) : HSat9 (splitM s) :=
  splitM_sat (T := TP) s (h9_sat noExn_tapeLine.sat) (h9_sat noExn_tapeAdded.sat)
    (h9_sat_post sat9_nextToken)
    (fun t dq ht => h9_expandwordinternal (np9_npOf (parserRun9 _)) t dq ht)
    (fun _ _ _ _ => e9_foreign rfl) e9_fuel

theorem split_e9 (s : Str) {x : Exn} (h : (split s).1 = .exn x) : E9 x :=
  split_sat_error (splitM9 s) trivial h

end Bashlex.C01
