/-
  C01 tight 2 (state-agnostic): what `_parse_matched_pair` / `_parse_comsub` return is not
  empty and does not end in `(`: `Ends` of `Props/C03/RE/WScan.lean`, `WScan2.lean` at the
  characters other than `(`.
-/
import Bashlex.Props.C03.RE.WScan2

namespace Bashlex.C01.T2
open Bashlex Bashlex.M Bashlex.C03.RE

/-- not empty, and the last character is not `(` -/
def LP (r : Str) : Prop := ∃ c, r.getLast? = some c ∧ c ≠ '('

theorem lp_snoc (a : Str) {c : Char} (hc : c ≠ '(') : LP (a ++ [c]) :=
  ends_snoc (G := (· ≠ '(')) a hc

theorem lp_append (a : Str) {b : Str} (hb : LP b) : LP (a ++ b) :=
  ends_append (G := (· ≠ '(')) a hb

theorem lp_matchedPairError {α : Type} (c : Char) {Q : α → Prop} :
    Sat (matchedPairError c : M α) Q :=
  sat_matchedPairError c

theorem lp_csDelimMatches (st : CSState) {Q : Bool → Prop} (h : ∀ b, Q b) :
    Sat (csDelimMatches st) Q :=
  sat_csDelimMatches st h

/-- **`_parse_matched_pair`** returns a non-empty string that does not end in `(` -/
theorem lp_pmp (fuel : Nat) (P : MPParams) (hc : P.close ≠ '(') :
    Sat (parseMatchedPair fuel P) LP :=
  ends_pmp (G := (· ≠ '(')) fuel P hc

/-- **`_parse_comsub`** returns a non-empty string that does not end in `(` -/
theorem lp_pcs : ∀ (fuel : Nat) (P : CSParams), P.close ≠ '(' → Sat (parseComsub fuel P) LP :=
  ends_pcs (G := (· ≠ '(')) (by decide) (by decide) (by decide)

end Bashlex.C01.T2

#print axioms Bashlex.C01.T2.lp_pcs
