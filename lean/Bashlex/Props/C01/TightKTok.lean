/-
  C01 tight: the tokenizer, word expansion and the semantic actions with the invariant `KI R`
  (see `TightK.lean`), raising only `E3`: the walk of `TightInv.lean` at the frame `kFrame R`, and
  what it assumes (here-documents first).  Above the tokenizer the tape's line is kept; the only
  writer of `redirstack` / the redirect store there (`p_redirection_heredoc`) pushes the id of the
  cell it appends.
-/
import Bashlex.Props.C01.TightK
import Bashlex.Model.Actions

namespace Bashlex.C01
open Bashlex Bashlex.M Bashlex.C10 Bashlex.C11

/-! ### here-documents -/

/-- a line returned by `readline` ends in a newline -/
def RLOK (r : Option Str) : Prop := ∀ s, r = some s → s.getLast? = some '\n'

theorem sat_readline_nl (b : Bool) : Sat (readline b) RLOK TokExn1 := by
  unfold readline; (try simp only [])
  refine sat_bindE t1_loopFuel (fun fuel => ?_)
  refine Sat.loop (I := fun _ => True) (R := RLOK) (by tokexn1) (fun st _ => ?_) _ _ True.intro
  t1_walkP
  all_goals first
    | exact True.intro
    | (intro s hs; cases hs; done)
    | (intro s hs; cases hs; simp_all; done)

theorem kTape (R : List (Nat × Bool)) : TapeAtoms (KI R) E3 :=
  ⟨fun rqn => k_getc rqn R, fun c => k_ungetc c R, k_bumpIdx R⟩

theorem k_readline (b : Bool) (R : List (Nat × Bool)) : KSat R (readline b) :=
  i_readline (kFrame R) (kTape R) b

theorem kr_readline (b : Bool) (R : List (Nat × Bool)) :
    HT (KI R) (readline b) (fun r l e => RLOK r ∧ KI R l e) E3 :=
  HT.exn (HT.and_sat (k_readline b R) (sat_readline_nl b)) (fun _ h => h.2)

theorem strTruthy_some {o : Option Str} (h : strTruthy o = true) : ∃ s, o = some s ∧ s ≠ [] := by
  cases o with
  | none => cases h
  | some s =>
    cases s with
    | nil => cases h
    | cons c cs => exact ⟨_, rfl, by simp⟩

theorem stripLeadingTabs_some : ∀ s : Str, s.getLast? = some '\n' → stripLeadingTabs s ≠ none := by
  intro s
  induction s with
  | nil => intro h; cases h
  | cons c cs ih =>
    intro h
    unfold stripLeadingTabs
    split
    · rename_i hc
      have hc' : c = '\t' := by simpa using hc
      cases cs with
      | nil => simp [hc'] at h
      | cons d ds =>
        refine ih ?_
        rw [List.getLast?_cons_cons] at h
        exact h
    · intro hn; cases hn

theorem dropLast_index {f d : Str} (hne : f ≠ []) (h : pyDropLastN f 1 = d) : f[d.length]? ≠ none := by
  have hl : d.length = f.length - 1 := by
    rw [← h]; unfold pyDropLastN; simp
  have hpos : 0 < f.length := List.length_pos_iff.mpr hne
  intro hn
  have := List.getElem?_eq_none_iff.mp hn
  omega

/-- the loop state of `makeheredoc`: a non-empty `fullline` ends in a newline -/
def HDOK (st : HDState) : Prop := ∀ s, st.fullline = some s → s ≠ [] → s.getLast? = some '\n'

theorem hd_strip_false {st : HDState} (hst : HDOK st) (ht : ¬(!strTruthy st.fullline) = true)
    (h : stripLeadingTabs (st.fullline.getD []) = none) : False := by
  obtain ⟨s, h1, h2⟩ := strTruthy_some (o := st.fullline) (by simpa using ht)
  rw [h1] at h
  exact stripLeadingTabs_some s (hst s h1 h2) h

theorem hd_index_false {f d : Str} (hne : ¬List.isEmpty f = true) (heq : (pyDropLastN f 1 == d) = true)
    (h : f[d.length]? = none) : False := by
  have hne' : f ≠ [] := by
    intro hf; apply hne; rw [hf]; rfl
  exact dropLast_index hne' (by simpa using heq) h

theorem ht_foreign_bind_false {α β : Type} {P : Local → Env → Prop} {E : Exn → Prop} {a b : String}
    {k : α → M β} {Q : β → Local → Env → Prop} (h : False) :
    HT P ((M.foreign a b : M α) >>= k) Q E := h.elim

theorem KI.setStore {R l e} (h : KI R l e) (id : Nat) (c : RedirCell) :
    KI R { l with store := l.store.set id c } e := by
  unfold KI StoreOK at h ⊢
  simp only [List.length_set]
  exact h

theorem k_makeheredoc (id : Nat) (kill : Bool) (R : List (Nat × Bool)) (hR : ∃ k, (id, k) ∈ R) :
    KSat R (makeheredoc id kill) := by
  unfold makeheredoc; (try simp only [])
  refine HT.get_bind (fun l0 => ?_)
  cases hs : l0.store[id]? with
  | none =>
    intro l e ⟨hl, hk⟩
    exfalso
    subst hl
    obtain ⟨k, hk'⟩ := hR
    have h1 := hk.2.2 _ hk'
    have h2 := List.getElem?_eq_none_iff.mp hs
    simp only [] at h1
    omega
  | some cell =>
    simp only [pure_bind]
    refine HTQAt.ofHT ?_
    have F := kFrame R
    refine HT.bind (i_curIdx F) (fun startpos => ?_)
    refine HT.bind (kr_readline false R) (fun first => HT.pre_pure (fun hfirst => ?_))
    refine HT.bind (i_loopFuel F) (fun fuel => ?_)
    refine HT.bind (Q := fun _ => KI R) ?_ (fun fin => ?_)
    · refine HT.pre (HT.loop (I := fun st l e => HDOK st ∧ KI R l e) (by e3) (fun st => ?_) fuel _)
        (fun l e h => ⟨fun s hs _ => hfirst s hs, h⟩)
      refine HT.pre_pure (fun hst => ?_)
      repeat' (first
        | with_reducible refine HT.ite (fun _ => ?_) (fun _ => ?_)
        | split_head
        | with_reducible refine ht_foreign_bind_false ?_
        | with_reducible refine HT.bind (kr_readline false R) (fun _ => HT.pre_pure (fun _ => ?_))
        | exact HT.pure (fun _ _ h => h)
        | refine HT.pure (fun _ _ h => ⟨?_, h⟩))
      all_goals first
        | exact hd_strip_false hst (by assumption) (by assumption)
        | exact hd_index_false (by assumption) (by assumption) (by assumption)
        | (intro s hs _; exact (by assumption : RLOK _) s hs)
        | (intro s hs hne; cases hs; simp_all; done)
    · have C := F.closed
      repeat' (first
        | ((with_reducible refine htq_set ?_); (intro _ h; exact KI.setStore h _ _))
        | wk_step)

theorem KI.mono {R R' l e} (h : KI R l e) (hR : ∀ p, p ∈ R' → p ∈ R) : KI R' l e :=
  ⟨h.1, h.2.1, fun p hp => h.2.2 p (hR p hp)⟩

theorem KI.setRedir {R l e} (h : KI R l e) {rest : List (Nat × Bool)} (hr : ∀ p, p ∈ rest → p ∈ R) :
    KI R { l with redirstack := rest } e :=
  ⟨h.1, fun p hp => h.2.2 p (hr p hp), h.2.2⟩

/-- the hypothesis `Ctx.gather` of `C01.hooks_ok` on `gatherheredocuments` with the invariant -/
theorem k_gatherheredocuments (R : List (Nat × Bool)) : KSat R gatherheredocuments := by
  unfold gatherheredocuments; (try simp only [])
  have hmk := fun id kill R' (h : ∃ k, (id, k) ∈ R') => k_makeheredoc id kill R' h
  refine HT.get_bind (fun l00 => HTQAt.ofHT ?_)
  refine ht_loopI (by e3) (fun _ => ?_) _ _
  refine HT.get_bind (fun l0 => ?_)
  split_head
  · exact HTQAt.ofHT (HT.pure (fun _ _ h => h))
  · rename_i id kill rest heq
    have hmem : ∃ k, (id, k) ∈ ((id, kill) :: rest ++ R) := ⟨kill, by simp⟩
    refine HT.weaken (P := KI ((id, kill) :: rest ++ R)) (Q := fun _ => KI ((id, kill) :: rest ++ R)) ?_
      (fun l e h => ?_) (fun _ l e h => h.mono (fun p hp => List.mem_append_right _ hp)) (fun _ h => h)
    · have F := kFrame ((id, kill) :: rest ++ R)
      have C := F.closed
      have At := kTape ((id, kill) :: rest ++ R)
      have h₁ := i_optStrict F
      have h₂ := i_peekc F At
      repeat' (first
        | ((with_reducible refine htq_modify_bind ?_ ?_);
           focus (intro l e h; exact KI.setRedir h (fun p hp => List.mem_append_left _ (List.mem_cons_of_mem _ hp))))
        | ((with_reducible apply HT.bind); (focus (exact hmk _ _ _ hmem)); intro _)
        | wk_step)
    · obtain ⟨rfl, hk⟩ := h
      refine ⟨hk.1, hk.2.1, fun p hp => ?_⟩
      rcases List.mem_append.mp hp with h1 | h1
      · exact hk.2.1 p (heq ▸ h1)
      · exact hk.2.2 p h1

end Bashlex.C01

namespace Bashlex.C01
open Bashlex Bashlex.M Bashlex.C10 Bashlex.C11

theorem kTok (R : List (Nat × Bool)) : TokAtoms (KI R) E3 :=
  ⟨e3_foreign rfl, e3_foreign rfl, e3_foreign rfl, e3_foreign rfl, k_gatherheredocuments R⟩

/-- the hypothesis `hTok` of `C01.hooks_ok` on the token source with the invariant -/
theorem k_nextToken (R : List (Nat × Bool)) : KSat R nextToken :=
  i_nextToken (kFrame R) (kTape R) (kTok R)

end Bashlex.C01

namespace Bashlex.C01
open Bashlex Bashlex.M Bashlex.C10 Bashlex.C11

/-- the nested parser keeps the invariant of its caller -/
abbrev NPK (np : NestedParse) : Prop := ∀ s b R, KSat R (np s b)

theorem KI.pushRedir {R l e} (h : KI R l e) (cell : RedirCell) (kill : Bool) :
    KI R { l with store := l.store ++ [cell], redirstack := l.redirstack ++ [(l.store.length, kill)] } e := by
  refine ⟨h.1, fun p hp => ?_, fun p hp => ?_⟩
  · show p.1 < (l.store ++ [cell]).length
    rw [List.length_append]
    rcases List.mem_append.mp hp with h1 | h1
    · have := h.2.1 p h1; omega
    · rw [List.mem_singleton.mp h1]; simp
  · show p.1 < (l.store ++ [cell]).length
    rw [List.length_append]
    have := h.2.2 p hp; omega

variable {np : NestedParse}

theorem k_expandwordinternal (hnp : NPK np) (tok : Token) (qd : Bool) (R : List (Nat × Bool)) :
    KSat R (expandwordinternal np tok qd) :=
  i_expandwordinternal (kFrame R) (fun s b => hnp s b R) (e3_foreign rfl) tok qd

/-- **every semantic action** keeps the invariant and raises nothing excluded by `E3` -/
theorem k_action (hnp : NPK np) (fname : String) (args : List SVal) (R : List (Nat × Bool)) :
    KSat R (action np fname args) :=
  i_action (kFrame R) (fun s b => hnp s b R) (e3_foreign rfl) (k_gatherheredocuments R)
    (fun h cell kill => KI.pushRedir h cell kill) fname args

end Bashlex.C01
