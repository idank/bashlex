/-
  C01 tight: `token()` from every state the parser reaches (C11's invariant `Good4` with
  the flags off), and the lifting through the LR engine, the nested parsers and the entry points:
  `AssertionError|token.__init__` and `IndexError|_is_assignment` never escape.
-/
import Bashlex.Props.C01.TightLvlRead
import Bashlex.Props.C01.TightFl
import Bashlex.Props.C11Total

namespace Bashlex.C01
open Bashlex Bashlex.M Bashlex.C10 Bashlex.C11 Bashlex.C03.Tok Bashlex.LR
-- see `Proofs/ParserLift.lean`
attribute [local irreducible] M.run runParser parse parsesingle split

/-- the cursor was moved past the end (non-strict here-document skip): nothing can be read -/
def DeadT (l : Local) (e : Env) : Prop :=
  l.eolLookahead = none ∧ (tapeOf l e).line.length < (tapeOf l e).idx

theorem getc_dead (rqn : Bool) : HT DeadT (getc rqn) (fun c l e => c = none ∧ DeadT l e) F8 := by
  intro l e ⟨h1, h2⟩
  rw [C10.run_getc rqn l e h1]
  have : (tapeOf l e).getc rqn ((tapeOf l e).line.length + 1) = .ok (none, tapeOf l e) := by
    unfold Tape.getc
    rw [if_neg (by omega)]
  rw [this]
  simp only []
  rw [putL_self, putE_self]
  exact ⟨trivial, h1, h2⟩

/-- `token()` in a dead state returns the EOF token -/
theorem next8_dead : HT DeadT nextToken (fun _ => TrueI) F8 := by
  unfold nextToken
  simp only []
  refine HT.bind (Q := fun _ => DeadT) (HT.modify (fun l e h => h)) (fun _ => ?_)
  refine HT.bind (Q := fun r _ _ => ∃ t, r = Sum.inr t) ?_ (fun r => HT.pre (P := fun _ _ => (∃ t, r = Sum.inr t) ∧ True) (HT.pre_pure (fun hr => ?_)) (fun _ _ h => ⟨h, True.intro⟩))
  · unfold readtoken
    simp only []
    refine HT.bind (Q := fun _ => DeadT) (HT.pure (fun _ _ h => h)) (fun fuel => ?_)
    refine HT.bind (getc_dead true) (fun c0 => HT.pre_pure (fun hc0 => ?_))
    subst hc0
    refine HT.bind (Q := fun c l e => c = none ∧ DeadT l e) ?_ (fun c1 => HT.pre_pure (fun hc1 => ?_))
    · refine HT.pre (HT.loop (I := fun c l e => c = none ∧ DeadT l e) f8_fuel (fun c => ?_) fuel none)
        (fun l e h => ⟨rfl, h⟩)
      refine HT.pre_pure (fun hc => ?_)
      subst hc
      exact HT.pure (fun _ _ h => ⟨rfl, h⟩)
    · subst hc1
      exact HT.pure (fun _ _ _ => ⟨_, rfl⟩)
  · cases r with
    | inl ty => obtain ⟨t, ht⟩ := hr; cases ht
    | inr t =>
      simp only [pure_bind]
      refine HT.bind (Q := fun _ _ _ => True) (HT.modify (fun _ _ _ => True.intro)) (fun _ => ?_)
      exact HT.bind (Q := fun _ _ _ => True) (HT.modify (fun _ _ h => h)) (fun _ => HT.pure (fun _ _ _ => True.intro))

theorem ofInput_last (s : Str) (h : (Tape.ofInput s).line ≠ []) :
    (Tape.ofInput s).line[(Tape.ofInput s).line.length - 1]? = some '\n' := by
  rw [← List.getLast?_eq_getElem?]
  cases hc : (Tape.ofInput s).line.getLast? with
  | none => exact absurd (List.getLast?_eq_none_iff.1 hc) h
  | some c => rw [Tape.ofInput_getLast? s hc]

/-- **`token()` from every state the parser reaches** -/
theorem next8_good {g : Ghost} (hg : WFG g) :
    HT (fun l e => Good4 g l e ∧ Fl l e) nextToken (fun _ => TrueI) F8 := by
  intro l e ⟨hG, hF⟩
  obtain ⟨⟨hb, hla, hidx, hps⟩, hslot⟩ := hG
  have hnl : g.line ≠ [] → g.line[g.line.length - 1]? = some '\n' := by
    obtain ⟨s, h1, h2⟩ := hg
    rw [h1]; exact ofInput_last s
  by_cases hle : (tapeOf l e).idx ≤ g.line.length
  · have hP0 : P0 g.line l.store l.redirstack l e :=
      ⟨⟨hb.2.1, hle, hslot, hps, rfl, rfl, Nat.zero_le _⟩, hF⟩
    exact next8 hnl l e hP0
  · exact next8_dead l e ⟨hslot, by rw [hb.2.1]; omega⟩

/-! ## through the engine and the nested parsers -/

/-- the invariant of the parser object -/
def I8 (g : Ghost) (l : Local) (e : Env) : Prop := Good4 g l e ∧ Fl l e

theorem f8_site {ty site : String} (h1 : site ≠ "token.__init__") (h2 : site ≠ "_is_assignment") :
    F8 (.foreign ty site) := by
  constructor
  · intro h; injection h with _ h; exact h1 h
  · intro h; injection h with _ h; exact h2 h

section
variable {g : Ghost} {N : Exn → Prop} {np : NestedParse}

theorem hooks8 (hg : WFG g) (hnp : NPOK g N np) (hk : ∀ s b, C10.KeepsEol (np s b)) (hnpF : NPF np) :
    HooksOK (I8 g) (lrHooks np) (VI g) (fun x => EN g N x ∧ F8 x) := by
  have h4 := hooks_ok4 hg hnp hk
  refine ⟨?_, fun p args hargs => ?_, fun la hv => ?_, fun ty => ?_, h4.fuel, f8_fuel⟩
  · have a2 : HT Fl (lrHooks np).next (fun _ => Fl) ETrue :=
      HT.bind (m := nextToken) fl_nextToken (fun t => HT.pure (fun _ _ h => h))
    have a3 : HT (I8 g) (lrHooks np).next (fun _ => TrueI) F8 :=
      HT.bind (m := nextToken) (next8_good hg) (fun t => HT.pure (fun _ _ h => h))
    exact (ht_both h4.next (ht_both a2 a3)).weaken (fun _ _ h => ⟨h.1, h.2, h⟩)
      (fun _ _ _ h => ⟨h.1.1, h.1.2, h.2.1⟩) (fun _ h => ⟨h.1, h.2.2⟩)
  · exact (ht_both (h4.act p args hargs) (g_action hnpF (Gen.prodFuncs.getD p "") args)).post
      fun _ _ _ h => ⟨h.1.1, h.1.2, h.2⟩
  · exact (ht_both (h4.onError la hv) (satS_onError (P := Fl) (Q := fun _ _ _ => True)
      (fun _ _ _ => f8_mkParsingError) (f8_foreign rfl) la)).post fun _ _ _ h => h.1
  · exact ⟨⟨(h4.foreign ty).1, f8_site (by decide) (by decide)⟩,
      ⟨(h4.foreign ty).2, f8_site (by decide) (by decide)⟩⟩

theorem fl_nestedInit (l : Local) (s : Str) (b : Bool) (e : Env) (h : Fl l e) :
    Fl (C16.nestedInit l s b) e := by
  unfold Fl C16.nestedInit at *
  cases b <;> exact h

/-- the nested parser, seen from its caller: flags stay off, the two sites do not raise -/
theorem npf_npOf {inner : M (Option Node)}
    (hin : ∀ g', WFG g' → HT (I8 g') inner (fun _ l e => Fl l e) F8) : NPF (C03.npOf inner) := by
  intro s b
  refine SatS.npOf fun l e hF => SatS.pre (hin (nestedGhost s e) ⟨s, rfl, rfl⟩) ?_
  rintro _ _ ⟨h1, h2⟩
  rw [h1, h2]
  exact ⟨⟨good_nested l s b e, rfl⟩, fl_nestedInit l s b e hF⟩

end

/-- **every nesting depth** -/
theorem parserRun8 : ∀ d g, WFG g → HT (I8 g) (parserRun d) (fun _ l e => Fl l e) F8 :=
  parserRun_ind (J := fun _ m => ∀ g, WFG g → HT (I8 g) m (fun _ l e => Fl l e) F8)
    (fun _ _ => HT.raise f8_fuel)
    fun d ih g hg => HT.weaken
      (level_ok (hooks8 hg (npOf_ok4 (parserRun_good4 d) g) (keepsEol_npOf _) (npf_npOf ih)))
      (fun _ _ h => h) (fun _ _ _ h => h.2.2) (fun _ h => h.2)

theorem i8_top (s : Str) (o : Opts) (t : List Char) :
    I8 (topGhost s o) { limit := o.limit } (runParserEnv s o t) :=
  ⟨⟨good_top s o t, rfl⟩, ⟨rfl, rfl⟩⟩

theorem runParser_f8 {s : Str} {o : Opts} {t : List Char} {x : Exn}
    (h : (runParser s o t).1 = .error x) : F8 x :=
  runParser_sat_error (parserRun8 _ _ (topGhost_wf s o)) (i8_top s o t) h

/-- **`parse` never raises `AssertionError|token.__init__` or `IndexError|_is_assignment`** -/
theorem parse_f8 (s : Str) (o : Opts) {x : Exn} (h : (parse s o).1 = .exn x) : F8 x :=
  parse_error_of (fun _ _ _ => runParser_f8) h

theorem parsesingle_f8 (s : Str) (o : Opts) {x : Exn} (h : (parsesingle s o).1 = .exn x) : F8 x :=
  runParser_f8 (parsesingle_error h)

/-- `token()` from every state the parser reaches: all that is known of it -/
theorem next8_all {g : Ghost} (hg : WFG g) :
    HT (I8 g) nextToken (fun t l e => C11.TokOK g t ∧ I8 g l e) F8 :=
  (ht_both (next8_good hg) (ht_both (nextToken_good4 hg) fl_nextToken)).weaken
    (fun _ _ h => ⟨h, h⟩) (fun _ _ _ h => ⟨h.2.1.1, h.2.1.2, h.2.2⟩) (fun _ h => h.1)

/-- `split`: the token loop over `token()` and `_expandwordinternal` -/
theorem splitM8 (s : Str) (g : Ghost) (hg : WFG g) :
    HT (I8 g) (splitM s) (fun _ _ _ => True) F8 :=
  HT.post (splitM_sat (T := C11.TokOK g) s
      (sati_tapeLine.post fun _ _ _ h => h.2)
      (sati_tapeAdded.post fun _ _ _ h => h.2) (next8_all hg)
      (fun t dq ht => (ht_both
          (expandwordinternal_good4 (npOf_ok4 (parserRun_good4 _) g) (keepsEol_npOf _) t
            ht.2 dq)
          (C01.g_expandwordinternal (npf_npOf (parserRun8 _)) t dq)).weaken
        (fun _ _ h => h) (fun _ _ _ h => ⟨h.1.2, h.2⟩) (fun _ h => h.2))
      (fun _ _ _ _ => f8_foreign rfl) f8_fuel)
    fun _ _ _ _ => trivial

theorem split_f8 (s : Str) {x : Exn} (h : (split s).1 = .exn x) : F8 x :=
  split_sat_error (splitM8 s _ (topGhost_wf s {})) (i8_top s {} []) h

end Bashlex.C01
