/-
  C01: two more facts about the tokens the real tokenizer delivers (next to `C12.TokWF`):
  a token of type WHILE / UNTIL spells `while` / `until` (`p_shell_command` dispatches on the
  spelling), and a QUOTED token is not empty (`_expandword` reads `value[0]`).
  The tokens `finishWord` builds are read off `Shape.FWShape`.
-/
import Bashlex.Props.C12.Tokens
import Bashlex.Props.C01.Expand

namespace Bashlex.C01
open Bashlex Bashlex.M Bashlex.C12

def KwOK (t : Token) : Prop :=
  (t.ttype = some .WHILE → t.value = .str ['w', 'h', 'i', 'l', 'e']) ∧
  (t.ttype = some .UNTIL → t.value = .str ['u', 'n', 't', 'i', 'l'])

/-- the token facts of C01 -/
def TF (t : Token) : Prop := KwOK t ∧ TokQ t

def notKw (ty : TokType) : Bool := !(ty == .WHILE || ty == .UNTIL)

theorem tf_plain {t : Token} {ty : TokType} (h1 : t.ttype = some ty) (hty : notKw ty = true)
    (hf : t.flags = []) : TF t := by
  refine ⟨⟨fun h => ?_, fun h => ?_⟩, fun h => ?_⟩
  · rw [h1] at h; cases h; cases hty
  · rw [h1] at h; cases h; cases hty
  · rw [hf] at h; cases h

theorem tf_word {t : Token} {tw : Str}
    (h1 : t.ttype = some .WORD ∨ t.ttype = some .ASSIGNMENT_WORD) (h2 : t.value = .str tw)
    (h3 : tw ≠ []) : TF t := by
  refine ⟨⟨fun h => ?_, fun h => ?_⟩, fun _ => ?_⟩
  · rcases h1 with h1 | h1 <;> (rw [h1] at h; cases h)
  · rcases h1 with h1 | h1 <;> (rw [h1] at h; cases h)
  · simpa [Token.valueStr, h2] using h3

theorem sat_createtoken3 {ty : TokType} {v : TVal} {flags : WordFlags} :
    Sat (createtoken ty v flags) (fun t => t.ttype = some ty ∧ t.value = v ∧ t.flags = flags) :=
  Shape.sat_createtoken

theorem sat_createtoken_plain {ty : TokType} {v : TVal} (hty : notKw ty = true) :
    Sat (createtoken ty v []) TF :=
  sat_createtoken3.weaken (fun _ h => tf_plain h.1 hty h.2.2) (fun _ h => h)

theorem notKw_special : ∀ p ∈ Shape.specialTokens, notKw p.1 = true := by decide

theorem lookup_kw {s : Str} {ty : TokType}
    (h : List.lookup s reservedFirstCommandChars = some ty) :
    (ty = .WHILE → s = ['w', 'h', 'i', 'l', 'e']) ∧ (ty = .UNTIL → s = ['u', 'n', 't', 'i', 'l']) := by
  have hmem := mem_of_lookup h
  have hall : ∀ kv, kv ∈ reservedFirstCommandChars →
      (kv.2 = .WHILE → kv.1 = ['w', 'h', 'i', 'l', 'e']) ∧
      (kv.2 = .UNTIL → kv.1 = ['u', 'n', 't', 'i', 'l']) := by
    decide
  exact hall _ hmem

/-- a reserved word from the table is spelt as the table says -/
theorem tf_lookup {t : Token} {s : Str} {ty : TokType}
    (h : List.lookup s reservedFirstCommandChars = some ty) (h1 : t.ttype = some ty)
    (h2 : t.value = .str s) (h3 : t.flags = []) : TF t := by
  have hk := lookup_kw h
  refine ⟨⟨fun hw => ?_, fun hw => ?_⟩, fun hq => ?_⟩
  · rw [h1] at hw; cases hw; rw [h2, hk.1 rfl]
  · rw [h1] at hw; cases hw; rw [h2, hk.2 rfl]
  · rw [h3] at hq; cases hq

/-- each of the three kinds of token `finishWord` builds has the facts: a NUMBER and an answer of
    `_specialcasetokens` are not `while` / `until` and carry no flags, a reserved word is spelt as
    in the table, a word is not empty -/
theorem tf_of_shape {st : RWState} {t : Token} (h : Shape.FWShape st t) : TF t := by
  rcases h with ⟨-, h1, -, hf⟩ | ⟨ty, hty, h1, h2, hf⟩ | ⟨hne, l, asg, t0, h1, h2, -, rfl⟩
  · exact tf_plain h1 rfl hf
  · rcases hty with hty | ⟨hty, -, -⟩
    · exact tf_plain h1 (notKw_special _ hty) hf
    · exact tf_lookup hty h1 h2 hf
  · refine tf_word (tw := st.tokenword) ?_ (by rw [Shape.fwToken_value, h2]) hne
    rcases Shape.fwToken_ttype st l asg t0 with h | h
    · exact Or.inl (h.trans h1)
    · exact Or.inr h

theorem sat_finishWord_tf (st : RWState) : Sat (finishWord st) TF :=
  (Shape.sat_finishWord st).weaken (fun _ h => tf_of_shape h) (fun _ h => h)

theorem sat_readtokenword_tf (c : Char) : Sat (readtokenword c) TF := by
  unfold readtokenword
  exact Sat.bind_any (fun _ => Sat.bind_any (fun st => sat_finishWord_tf st))

theorem notKw_of_bare {ty : TokType} (h : bareOK ty = true) : notKw ty = true := by
  cases ty <;> first | rfl | (exfalso; revert h; decide)

theorem sat_nextToken_tf : Sat nextToken TF :=
  Shape.sat_nextToken_of
    (Shape.sat_readtoken_of (tf_plain (ty := .EOF) rfl rfl rfl) sat_tokentypeOfChar sat_readtokenMeta
      sat_readtokenword_tf)
    (fun _ h => sat_createtoken_plain (notKw_of_bare h))

/-- everything C01 and C12 know about a delivered token -/
def TokOK (t : Token) : Prop := TokWF t ∧ TF t

theorem sat_nextToken_ok : Sat nextToken TokOK := Sat.and sat_nextToken sat_nextToken_tf

end Bashlex.C01
