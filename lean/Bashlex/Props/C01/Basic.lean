/-
  C01 ("disciplined totality"): the exception discipline `Allowed`, the explicit lists of
  known foreign exceptions and of loops covered only by fuel, and a few more Hoare rules.
-/
import Bashlex.Proofs.PError

namespace Bashlex.M

/-- the loop rule with a variant, kept as a GHOST index of the invariant: if every iteration
    lowers the index, fuel above the index is never used up (the marker need not be in `E`) -/
theorem SatS.loop_ghost {σ α : Type} {site : String} {body : σ → M (σ ⊕ α)}
    {I : σ → Nat → Local → Env → Prop} {R : α → Local → Env → Prop} {E : Exn → Prop}
    (hbody : ∀ s n, SatS (body s) (I s n)
      (fun r l e => Sum.elim (fun s' => ∃ n', n' < n ∧ I s' n' l e) (fun a => R a l e) r) E) :
    ∀ fuel s n, n < fuel → SatS (M.loop site body fuel s) (I s n) R E := by
  intro fuel
  induction fuel with
  | zero => intro s n h; exact absurd h (Nat.not_lt_zero _)
  | succ k ih =>
    intro s n hn
    show SatS (body s >>= _) _ R E
    refine SatS.bind (hbody s n) ?_
    intro r
    cases r with
    | inl s' =>
      refine SatS.exists_pre (fun n' => SatS.assume (fun hn' => ?_))
      exact ih s' n' (by omega)
    | inr a => exact SatS.pure (fun _ _ h => h)

/-- the same with the variant as a measure `μ` of loop state and parser state -/
theorem SatS.loop_variant {σ α : Type} {site : String} {body : σ → M (σ ⊕ α)}
    {I : σ → Local → Env → Prop} {μ : σ → Local → Env → Nat}
    {R : α → Local → Env → Prop} {E : Exn → Prop}
    (hbody : ∀ s n, SatS (body s) (fun l e => I s l e ∧ μ s l e = n)
      (fun r l e => Sum.elim (fun s' => I s' l e ∧ μ s' l e < n) (fun a => R a l e) r) E) :
    ∀ fuel s, SatS (M.loop site body fuel s) (fun l e => I s l e ∧ μ s l e < fuel) R E :=
  fun fuel s => SatS.intro_state fun l0 e0 h0 =>
    (SatS.loop_ghost (I := fun s n l e => I s l e ∧ μ s l e = n)
      (fun s n => (hbody s n).post fun r l e h => by
        cases r with
        | inl s' => exact ⟨μ s' l e, h.2, h.1, rfl⟩
        | inr a => exact h) fuel s (μ s l0 e0) h0.2).pre
      (by rintro l e ⟨rfl, rfl⟩; exact ⟨h0.1, rfl⟩)

end Bashlex.M

namespace Bashlex.C01
open Bashlex Bashlex.M

/-- Foreign (out-of-contract) exceptions raised above the tokenizer that the model reproduces
    (witness inputs are `#eval`-checked in `Props/C01/Witness.lean`) or that could not be excluded
    at this level (they depend on positional facts about tokens; no witness found by fuzzing). -/
def knownForeign : List Exn :=
  [ -- D24: a substitution without a command; witness "` `"
    .foreign "AttributeError" "_recursiveparse",
    -- D18: `select x in a; do b; done` with `proceedonerror=True`
    .foreign "AssertionError" "handleAssert",
    -- D35: witness `$("")""$($#$(\n"")`
    .foreign "IndexError" "_parsedolparen",
    -- not excluded, no witness found (need span bounds of nested parses / of tokens):
    .foreign "AssertionError" "visitnode",
    .foreign "AssertionError" "ParsingError.__init__",
    -- not excluded, no witness found (need: no word token ends in `$(` / in an odd backslash):
    .foreign "IndexError" "_extractcommandsubst",
    .foreign "IndexError" "_expandwordinternal" ]

/-- loops above the tokenizer whose termination is covered only by their fuel -/
def fuelSites : List String := ["LRParser.parse", "nesting"]

/-- the exception discipline: `T` = what the tokenizer itself may raise -/
def Allowed (T : Exn → Prop) (x : Exn) : Prop :=
  T x ∨ (∃ m s p, x = .parsing m s p) ∨ (∃ w, x = .notImplemented w) ∨ x ∈ knownForeign ∨
  (∃ site, x = .outOfFuel site ∧ site ∈ fuelSites)

variable {T : Exn → Prop}

theorem allowed_tok {x : Exn} (h : T x) : Allowed T x := Or.inl h
theorem allowed_parsing {m s p} : Allowed T (.parsing m s p) := Or.inr (Or.inl ⟨m, s, p, rfl⟩)
theorem allowed_ni {w} : Allowed T (.notImplemented w) := Or.inr (Or.inr (Or.inl ⟨w, rfl⟩))
theorem allowed_known {x : Exn} (h : x ∈ knownForeign) : Allowed T x := Or.inr (Or.inr (Or.inr (Or.inl h)))
theorem allowed_fuel {site : String} (h : site ∈ fuelSites) : Allowed T (.outOfFuel site) :=
  Or.inr (Or.inr (Or.inr (Or.inr ⟨site, rfl, h⟩)))

theorem known_recursiveparse : Allowed T (.foreign "AttributeError" "_recursiveparse") :=
  allowed_known (.head _)
theorem known_handleAssert : Allowed T (.foreign "AssertionError" "handleAssert") :=
  allowed_known (.tail _ (.head _))
theorem known_parsedolparen : Allowed T (.foreign "IndexError" "_parsedolparen") :=
  allowed_known (.tail _ (.tail _ (.head _)))
theorem known_visitnode : Allowed T (.foreign "AssertionError" "visitnode") :=
  allowed_known (.tail _ (.tail _ (.tail _ (.head _))))
theorem known_peinit : Allowed T (.foreign "AssertionError" "ParsingError.__init__") :=
  allowed_known (.tail _ (.tail _ (.tail _ (.tail _ (.head _)))))
theorem known_extract : Allowed T (.foreign "IndexError" "_extractcommandsubst") :=
  allowed_known (.tail _ (.tail _ (.tail _ (.tail _ (.tail _ (.head _))))))
theorem known_expint : Allowed T (.foreign "IndexError" "_expandwordinternal") :=
  allowed_known (.tail _ (.tail _ (.tail _ (.tail _ (.tail _ (.tail _ (.head _)))))))

theorem allowed_mkParsingError {m s p} : Allowed T (mkParsingError m s p) := by
  unfold mkParsingError
  split
  · exact allowed_parsing
  · exact known_peinit

/-! ### more Hoare rules -/

/-- the post-condition from one proof, the exception discipline from another -/
theorem sat_conj {α : Type} {m : M α} {P : α → Prop} {E F : Exn → Prop}
    (h1 : Sat m P F) (h2 : Sat m (fun _ => True) E) : Sat m P E :=
  SatS.to_sat (((SatS.of_sat h1 _).both (SatS.of_sat h2 _)).weaken (fun _ _ h => h)
    (fun _ _ _ h => h.1) (fun _ h => h.2))

/-- bind when only the exceptions of the first computation matter -/
theorem sat_bindE {α β : Type} {m : M α} {f : α → M β} {R : β → Prop} {E : Exn → Prop}
    (hm : Sat m (fun _ => True) E) (hf : ∀ a, Sat (f a) R E) : Sat (m >>= f) R E :=
  Sat.bind hm (fun a _ => hf a)

/-- a computation that cannot raise -/
def NoExn {α : Type} (m : M α) : Prop := ∀ E : Exn → Prop, Sat m (fun _ => True) E

theorem noExn_iff_satS {α : Type} {m : M α} :
    NoExn m ↔ ∀ E, SatS m (fun _ _ => True) (fun _ _ _ => True) E :=
  ⟨fun h E => sat_iff_satS.1 (h E), fun h E => sat_iff_satS.2 (h E)⟩

theorem noExn_liftQ {α : Type} (q : Q α) : NoExn (M.liftQ q) := by
  intro E l e
  have : (M.liftQ q).run l e = (.ok ((Q.run q e).1, l), (Q.run q e).2) := by
    show Q.run (Q.bind q _) e = _
    rw [Q.run_bind]; rfl
  rw [this]; exact True.intro

theorem noExn_ask (q : Query) : NoExn (M.ask q) := noExn_liftQ _
theorem noExn_get : NoExn (get : M Local) := fun _ => Sat.get (fun _ => True.intro)
theorem noExn_set (l : Local) : NoExn (set l : M Unit) := fun _ => Sat.set True.intro
theorem noExn_modify (f : Local → Local) : NoExn (modify f : M Unit) := fun _ => Sat.modify True.intro
theorem noExn_pure {α : Type} (a : α) : NoExn (pure a : M α) := fun _ => Sat.pure True.intro

theorem noExn_bind {α β : Type} {m : M α} {f : α → M β} (hm : NoExn m) (hf : ∀ a, NoExn (f a)) :
    NoExn (m >>= f) := fun E => sat_bindE (hm E) (fun a => hf a E)

theorem NoExn.sat {α : Type} {m : M α} (h : NoExn m) {E : Exn → Prop} :
    Sat m (fun _ => True) E := h E

/-- bind after a computation that cannot raise -/
theorem sat_bindN {α β : Type} {m : M α} {f : α → M β} {R : β → Prop} {E : Exn → Prop}
    (hm : NoExn m) (hf : ∀ a, Sat (f a) R E) : Sat (m >>= f) R E :=
  sat_bindE (hm E) hf

theorem noExn_optProceed : NoExn optProceed := by
  unfold optProceed
  refine noExn_bind noExn_get (fun l => ?_)
  split
  · exact noExn_ask _
  · exact noExn_pure _

theorem noExn_optStrict : NoExn optStrict := by
  unfold optStrict
  refine noExn_bind noExn_get (fun l => ?_)
  split
  · exact noExn_ask _
  · exact noExn_pure _

theorem noExn_tapeSource : NoExn tapeSource := by
  unfold tapeSource
  refine noExn_bind noExn_get (fun l => ?_)
  split
  · exact noExn_ask _
  · exact noExn_pure _

theorem noExn_tapeLine : NoExn tapeLine := by
  unfold tapeLine
  refine noExn_bind noExn_get (fun l => ?_)
  split
  · exact noExn_ask _
  · exact noExn_pure _

theorem noExn_tapeAdded : NoExn tapeAdded := by
  unfold tapeAdded
  refine noExn_bind noExn_get (fun l => ?_)
  split
  · exact noExn_ask _
  · exact noExn_pure _

theorem noExn_curIdx : NoExn curIdx := by
  unfold curIdx
  refine noExn_bind noExn_get (fun l => ?_)
  split
  · exact noExn_ask _
  · exact noExn_pure _

theorem noExn_nodePos (n : Node) : NoExn (nodePos n) := by
  unfold nodePos
  split
  · refine noExn_bind noExn_get (fun l => ?_)
    split <;> exact noExn_pure _
  · exact noExn_pure _

/-- a loop whose body strictly decreases a measure bounded by the fuel never runs out of fuel -/
theorem sat_loop_measure {σ α : Type} {site : String} {body : σ → M (σ ⊕ α)} {I : σ → Prop}
    {R : α → Prop} {E : Exn → Prop} (μ : σ → Nat)
    (hbody : ∀ s, I s → Sat (body s) (Sum.elim (fun s' => I s' ∧ μ s' < μ s) R) E) :
    ∀ fuel s, I s → μ s < fuel → Sat (M.loop site body fuel s) R E := fun fuel s hs hlt =>
  SatS.to_sat <| (SatS.loop_ghost (I := fun s n _ _ => I s ∧ μ s = n) (R := fun a _ _ => R a)
    (fun s n => SatS.intro_state fun _ _ h => ((SatS.of_sat (hbody s h.1) _).post fun r _ _ hr => by
      cases r with
      | inl s' => exact ⟨μ s', h.2 ▸ hr.2, hr.1, rfl⟩
      | inr a => exact hr)) fuel s (μ s) hlt).pre fun _ _ _ => ⟨hs, rfl⟩

end Bashlex.C01
