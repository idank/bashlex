/-
  C01 tight 2: word expansion and the semantic actions never raise
  `IndexError|_extractcommandsubst`, provided the tokens they expand do not end in `$(` (`TP`).
  Word expansion by the walk of `TightFl.lean` (trivial state invariant `TI9`, exceptions `E9`)
  with the pre-condition added at `_paramexpand` and `_expandword`; the actions by the walk of
  `Proofs/ClosedActions.lean`, which expands only tokens that are among the arguments.
  State-agnostic: a semantic action never returns a token that was not among its arguments
  (`nt_action`) -- so the value invariant `VT` of the LR stack is kept (`vt_action`).
-/
import Bashlex.Props.C01.TightFl
import Bashlex.Props.C01.T2Word

namespace Bashlex.C01
open Bashlex Bashlex.M Bashlex.C10 Bashlex.C11 Bashlex.C01.T2

/-- no constraint on the state -/
def TI9 (_ : Local) (_ : Env) : Prop := True

/-- not `IndexError|_extractcommandsubst` -/
def E9 (x : Exn) : Prop := x ≠ .foreign "IndexError" "_extractcommandsubst"

theorem e9_parsing {m s p} : E9 (.parsing m s p) := fun h => by cases h
theorem e9_fuel {s} : E9 (.outOfFuel s) := fun h => by cases h
theorem e9_ni {s} : E9 (.notImplemented s) := fun h => by cases h
theorem e9_foreign {a b : String} (h : (a == "IndexError" && b == "_extractcommandsubst") = false) :
    E9 (.foreign a b) := by
  intro hx; cases hx; simp at h
theorem e9_mkParsingError {m s p} : E9 (mkParsingError m s p) := by
  unfold mkParsingError
  split
  · exact e9_parsing
  · exact e9_foreign rfl

theorem tokExn1_e9 {x : Exn} (h : TokExn1 x) : E9 x := by
  rcases h with ⟨m, s, p, rfl⟩ | h | ⟨site, rfl, _⟩
  · exact e9_parsing
  · simp only [tokForeign1, List.mem_cons, List.mem_nil_iff, or_false] at h
    rcases h with rfl | rfl | rfl | rfl | rfl | rfl | rfl <;> exact e9_foreign rfl
  · exact e9_fuel

abbrev HSat9 {α : Type} (m : M α) : Prop := HT TI9 m (fun _ => TI9) E9

theorem h9Frame : Frame TI9 E9 where
  key := fun _ _ _ => True.intro
  answer := fun _ _ => True.intro
  parsing := fun _ _ _ => e9_parsing
  fuel := fun _ => e9_fuel
  ni := fun _ => e9_ni
  foreign := fun a b h => by
    intro hx; cases hx; simp [stateSite] at h

theorem h9_ask (q : Query) : HSat9 (M.ask q) := i_ask h9Frame q

theorem hh9_ask_bind {β : Type} {l0 : Local} {q : Query}
    {k : Answer q → M β} {Q : β → Local → Env → Prop}
    (h : ∀ a, HTQAt TI9 l0 (k a) Q E9) : HTQAt TI9 l0 (M.ask q >>= k) Q E9 :=
  i_ask_bind h9Frame h

theorem h9_sat {α : Type} {m : M α} (h : Sat m (fun _ => True) E9) : HSat9 m := by
  intro l e _
  have := h l e
  revert this
  rcases m.run l e with ⟨r, e'⟩
  cases r with
  | ok v => exact fun _ => True.intro
  | error x => exact fun h => h

theorem h9_tapeSource : HSat9 tapeSource := i_tapeSource h9Frame
theorem h9_curIdx : HSat9 curIdx := i_curIdx h9Frame
theorem h9_gatherheredocuments : HSat9 gatherheredocuments :=
  h9_sat (t1_gatherheredocuments.weaken (fun _ h => h) (fun _ h => tokExn1_e9 h))

/-- the nested parser keeps the invariant of its caller -/
abbrev NP9 (np : NestedParse) : Prop := ∀ s b, HSat9 (np s b)

/-- the callees that exclude the site of `_paramexpand` by a fact about a token's value (extended
    after each lemma); the fact is among the hypotheses the walk has collected -/
syntax "h9_atom" : tactic

set_option hygiene false in
/-- the generic walk at `h9Frame.closed` (named `C`), the value-dependent callees first -/
macro "h9_walk" : tactic => `(tactic| repeat' (first | with_reducible h9_atom | wk_step))

variable {np : NestedParse}

theorem nodp_false {s : Str} {i : Nat} (h0 : s[i]? = some '$') (h1 : s[i + 1]? = some '(')
    (h2 : s[i + 1 + 1]? = none) (h : NoDP s) : False := by
  have hl1 : i + 1 < s.length := (List.getElem?_eq_some_iff.mp h1).1
  have hl2 : s.length ≤ i + 1 + 1 := List.getElem?_eq_none_iff.mp h2
  have hlen : s.length = i + 2 := by omega
  have hlast : s.getLast? = some '(' := by
    rw [List.getLast?_eq_getElem?, hlen]; exact h1
  have hd : s.dropLast.getLast? = some '$' := by
    have e1 : s.dropLast.length = i + 1 := by rw [List.length_dropLast, hlen]; rfl
    rw [List.getLast?_eq_getElem?, e1]
    show s.dropLast[i]? = some '$'
    rw [List.getElem?_dropLast, if_pos (by omega)]
    exact h0
  exact h hlast hd

theorem ht9_foreign_false {α : Type} {P : Local → Env → Prop} {Q : α → Local → Env → Prop}
    {a b : String} (h : False) : HT P (M.foreign a b : M α) Q E9 := h.elim

theorem h9_paramexpand (hnp : NP9 np) (s : Str) (i : Nat) (hs : NoDP s)
    (hd : ∃ c, s[i]? = some c ∧ (c == '$' && decide (s.length > 1)) = true) :
    HSat9 (paramexpand np s i) := by
  have C := h9Frame.closed
  have h₁ := hnp
  have h₂ := wk_parsedolparen C.builds hnp
  have hd' : s[i]? = some '$' := by
    obtain ⟨c, h1, h2⟩ := hd
    rw [Bool.and_eq_true] at h2
    rw [h1, eq_of_beq h2.1]
  unfold paramexpand; (try simp only [])
  repeat' (first
    | with_reducible refine ht9_foreign_false ?_
    | wk_step)
  rename_i _ c hc _ _ hpar _ hnone
  have : c = '(' := eq_of_beq hpar
  subst this
  exact nodp_false hd' hc hnone hs
set_option hygiene false in
macro_rules | `(tactic| h9_atom) => `(tactic| (refine h9_paramexpand hnp _ _ ?_ ?_ <;>
    first | assumption | exact ⟨_, by assumption, by assumption⟩))

theorem h9_expandStep (hnp : NP9 np) (tok : Token) (s : Str) (qd : Bool) (st : ExpSt)
    (hs : NoDP s) : HSat9 (expandStep np tok s qd st) := by
  have C := h9Frame.closed
  have h₁ := hnp
  have h₂ := wk_parsedolparen C.builds hnp
  have h₃ := wk_adjustpositions C.builds
  have h₄ := wk_recursiveparse C.builds hnp
  unfold expandStep; (try simp only []); h9_walk
set_option hygiene false in
macro_rules | `(tactic| h9_atom) => `(tactic| (refine h9_expandStep hnp _ _ _ _ ?_ <;> assumption))

theorem h9_expandwordinternal (hnp : NP9 np) (tok : Token) (qd : Bool) (htp : TP tok) :
    HSat9 (expandwordinternal np tok qd) := by
  have C := h9Frame.closed
  have hs : NoDP tok.valueStr := htp
  unfold expandwordinternal; (try simp only []); h9_walk
set_option hygiene false in
macro_rules | `(tactic| h9_atom) => `(tactic| (refine h9_expandwordinternal hnp _ _ ?_ <;> assumption))

theorem h9_expandword (hnp : NP9 np) (tok : Token) (htp : TP tok) :
    HSat9 (expandword np tok) := by
  have C := h9Frame.closed
  unfold expandword; (try simp only []); h9_walk

/-! ### the semantic actions -/

/-- the value invariant of the LR stack: tokens do not end in `$(` -/
def VT (v : SVal) : Prop := ∀ t, v = .tok t → TP t
abbrev ArgsT (args : List SVal) : Prop := ∀ a, a ∈ args → VT a

theorem vt_slice {args : List SVal} (h : ArgsT args) (np : NestedParse) (i : Nat) :
    VT (PCtx.slice ⟨np, args⟩ i) := fun t ht => h _ (nt_slice np i t ht) t rfl

/-- **every semantic action**: no `IndexError|_extractcommandsubst`, given tokens not ending in `$(`:
    the walk of `Proofs/ClosedActions.lean`; the tokens it expands are among the arguments -/
theorem h9_action (hnp : NP9 np) (fname : String) (args : List SVal) (hargs : ArgsT args) :
    HSat9 (action np fname args) :=
  have hF : ∀ {α : Type} {a b : String}, actionSite a b = true → HSat9 (M.foreign a b : M α) :=
    fun h => HT.foreign (h9Frame.foreign _ _ (stateSite_of_actionSite h))
  have hW := fun t (ht : SVal.tok t ∈ args) => h9_expandword hnp t (hargs _ ht t rfl)
  rd_action ISat.reads hF hW
    (rd_handleNotImplemented ISat.reads hF hW (i_optProceed h9Frame) (fun _ => HT.raise e9_ni)) fname
    (fun _ => HT.modify (fun _ _ h => h)) (fun _ => h9_gatherheredocuments)
    (fun _ => fun _ _ _ hk => HTQAt.set_bind (fun _ h => h) hk)

end Bashlex.C01

namespace Bashlex.C01
open Bashlex Bashlex.M Bashlex.C01.T2

theorem vt_action (np : NestedParse) (fname : String) (args : List SVal) (hargs : ArgsT args) :
    Sat (action np fname args) (fun r => VT r.1) :=
  (nt_action np fname).weaken (fun _ h t ht => hargs _ (h t ht) t rfl) (fun _ h => h)

end Bashlex.C01
