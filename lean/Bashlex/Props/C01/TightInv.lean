/-
  Frames: every invariant `I` of the parser's state that reads only fields the code outside the
  atoms does not write, with every set `E` of allowed exceptions that contains what this code
  raises by itself, makes "keeps `I` and raises only `E`" a closed predicate (`Frame.closed`), so
  that tape access, tokenizer and word expansion keep `I` by the generic walk
  (`Proofs/ClosedTok.lean`, `Proofs/ClosedExpand.lean`); the semantic actions follow below.

  `frameKey` lists the fields such an invariant may read: the tape, the pending here-document redirects
  with their store, the two flags nothing sets.  What touches them is not walked but assumed:
  `_getc`/`_ungetc`/the cursor bump (`TapeAtoms`), `gatherheredocuments`, the nested parser, the one
  `set` of `p_redirection_heredoc` (`hpush`).  Likewise the raise sites whose exclusion
  needs a fact about the state (`stateSite`) are hypotheses that the site is allowed: `TokAtoms` for
  those inside `_createtoken`, `_is_assignment`, `_pop_delimiter`, `hx` for `_paramexpand`, which
  raises unless the word's value is known.
  Instances: `KI R` with `E3` (`TightK.lean`), `Fl` with `ETrue` and with `F8` (`TightFl.lean`),
  `RS r` (`TightFuel.lean`), `TI9` with `E9` (`T2Act.lean`).  Where an instance walks a function by
  hand (it moves from one invariant to another, or a callee depends on a value: `k_makeheredoc`,
  `k_gatherheredocuments`, `h9_paramexpand` ..) it uses the same step `wk_step` with
  `have C := F.closed` in the context, its own rules in front.
-/
import Bashlex.Props.C01.TightStateTok
import Bashlex.Proofs.ClosedTok
import Bashlex.Proofs.ClosedExpand
import Bashlex.Proofs.ClosedActions

namespace Bashlex.C01
open Bashlex Bashlex.M Bashlex.C10 Bashlex.C11
set_option linter.unusedSectionVars false

/-- what an invariant carried through the walk may read of the local state -/
def frameKey (l : Local) : Option Tape × List (Nat × Bool) × List RedirCell × Bool × Bool :=
  (l.tape, l.redirstack, l.store, l.ps.regexp, l.ps.dblparen)

/-- the raise sites that are excluded only by facts about the state -/
def stateSite (a b : String) : Bool :=
  (a == "IndexError" && b == "_getc") || (a == "IndexError" && b == "makeheredoc") ||
  (a == "AssertionError" && b == "_createtoken") || (a == "IndexError" && b == "_pop_delimiter") ||
  (a == "AssertionError" && b == "token.__init__") || (a == "IndexError" && b == "_is_assignment") ||
  (a == "IndexError" && b == "_extractcommandsubst")

structure Frame (I : Local → Env → Prop) (E : Exn → Prop) : Prop where
  /-- `I` reads the local state through `key` only -/
  key : ∀ {l e}, I l e → ∀ l', frameKey l' = frameKey l → I l' e
  /-- no answer of the environment breaks `I` -/
  answer : ∀ {l e}, I l e → ∀ q, I l (e.answer q).2
  parsing : ∀ m s p, E (.parsing m s p)
  fuel : ∀ s, E (.outOfFuel s)
  ni : ∀ s, E (.notImplemented s)
  foreign : ∀ a b, stateSite a b = false → E (.foreign a b)

/-- `m` keeps `I` and raises only `E` -/
abbrev ISat {α : Type} (I : Local → Env → Prop) (E : Exn → Prop) (m : M α) : Prop :=
  HT I m (fun _ => I) E

/-- the functions that move the tape -/
abbrev TapeAtoms (I : Local → Env → Prop) (E : Exn → Prop) : Prop :=
  _root_.Bashlex.TapeAtoms (fun {α} (m : M α) => ISat I E m)

/-- what the tokenizer's walk asks besides the tape functions: the sites of `stateSite` inside
    `_createtoken`, `_is_assignment` and `_pop_delimiter` (their writes, to the recorded positions
    and the delimiter stack, are read by no frame) and the here-document reader -/
structure TokAtoms (I : Local → Env → Prop) (E : Exn → Prop) : Prop where
  createtoken : E (.foreign "AssertionError" "_createtoken")
  tokenInit : E (.foreign "AssertionError" "token.__init__")
  isAssignment : E (.foreign "IndexError" "_is_assignment")
  popDelimiter : E (.foreign "IndexError" "_pop_delimiter")
  gather : ISat I E gatherheredocuments

/-- the nested parser keeps the invariant of its caller -/
abbrev NPI (I : Local → Env → Prop) (E : Exn → Prop) (np : NestedParse) : Prop :=
  ∀ s b, ISat I E (np s b)

variable {I : Local → Env → Prop} {E : Exn → Prop}

theorem i_ask (F : Frame I E) (q : Query) : ISat I E (M.ask q) :=
  HT.ask (I := I) (fun _ _ q h => F.answer h q) q

theorem i_ask_bind (F : Frame I E) {β : Type} {l0 : Local} {q : Query}
    {k : Answer q → M β} {Q : β → Local → Env → Prop}
    (h : ∀ a, HTQAt I l0 (k a) Q E) : HTQAt I l0 (M.ask q >>= k) Q E :=
  HTQAt.ask_bind (I := I) (fun _ _ q h => F.answer h q) h

theorem ht_forIn {γ β : Type} {I : Local → Env → Prop} {E : Exn → Prop}
    {f : γ → β → M (ForInStep β)} (h : ∀ a b, HT I (f a b) (fun _ => I) E) :
    ∀ (l : List γ) (b : β), HT I (forIn l b f) (fun _ => I) E :=
  Binds.forIn (X := fun {α} (m : M α) => HT I m (fun _ => I) E)
    ⟨fun _ => HT.pure (fun _ _ h => h), fun hm hf => HT.bind hm hf⟩ h

/-! ### a frame makes a closed predicate -/

theorem frameKey_of_stable {l0 l1 : Local} (h : l1.stable = l0.stable) : frameKey l1 = frameKey l0 := by
  simp only [Local.stable, Prod.mk.injEq] at h
  obtain ⟨h1, _, _, _, _, _, h7, h8, _, h10, h11, _⟩ := h
  simp only [frameKey, h1, h7, h8, h10, h11]

theorem stateSite_of_walkSite {a b : String} (h : walkSite (.foreign a b) = true) :
    stateSite a b = false := by
  simp only [walkSite, tokSite, expandSite, Bool.or_eq_true, Bool.and_eq_true, beq_iff_eq,
    List.contains_cons, List.contains_nil, Bool.or_false, Prod.mk.injEq] at h
  rcases h with ⟨rfl, rfl⟩ | ⟨rfl, rfl⟩ | ⟨rfl, rfl⟩ | ⟨rfl, rfl⟩ | ⟨rfl, rfl⟩ | ⟨rfl, rfl⟩ <;> rfl

/-- "keeps `I` and raises only `E`" is closed, for a frame `(I, E)` -/
theorem Frame.closed (F : Frame I E) :
    Closed walkSite (fun {α} (m : M α) => ISat I E m)
      (fun {α} l0 (m : M α) => HTQAt I l0 m (fun _ => I) E) :=
  HT.closed (I := I) (fun h hi => F.key hi _ (frameKey_of_stable h)) (fun _ _ q h => F.answer h q)
    fun x h => by
      cases x with
      | parsing m s p => exact F.parsing _ _ _
      | notImplemented s => exact F.ni _
      | outOfFuel s => exact F.fuel _
      | foreign a b => exact F.foreign _ _ (stateSite_of_walkSite h)

/-! ### reading the tape and the options -/

section
variable (F : Frame I E)
include F

theorem i_curIdx : ISat I E curIdx := wk_curIdx F.closed
theorem i_tapeSource : ISat I E tapeSource := wk_tapeSource F.closed
theorem i_tapeLine : ISat I E tapeLine := wk_tapeLine F.closed
theorem i_tapeAdded : ISat I E tapeAdded := wk_tapeAdded F.closed
/- the two options are not `plain` queries: by the rules -/
theorem i_optStrict : ISat I E optStrict := by
  unfold optStrict
  refine HT.get_bind fun l => HTQAt.ofHT ?_
  split
  · exact i_ask F _
  · exact HT.pure (fun _ _ h => h)
theorem i_optProceed : ISat I E optProceed := by
  unfold optProceed
  refine HT.get_bind fun l => HTQAt.ofHT ?_
  split
  · exact i_ask F _
  · exact HT.pure (fun _ _ h => h)

/-- the recorded positions are in `Local.stable`, but no frame reads them -/
theorem i_recordpos (rel : Nat) : ISat I E (recordpos rel) :=
  HT.bind (i_curIdx F) fun _ => HT.modify fun _ _ h => F.key h _ rfl

theorem i_loopFuel : ISat I E loopFuel := HT.pure (fun _ _ h => h)

end

section
variable (F : Frame I E)
include F

variable {np : NestedParse}

/-! ### word expansion -/

theorem i_expandwordinternal (hnp : NPI I E np) (hx : E (.foreign "IndexError" "_extractcommandsubst"))
    (tok : Token) (qd : Bool) :
    ISat I E (expandwordinternal np tok qd) :=
  wk_expandwordinternal F.closed.builds hnp (HT.foreign hx) tok qd

theorem i_expandword (hnp : NPI I E np) (hx : E (.foreign "IndexError" "_extractcommandsubst"))
    (tok : Token) :
    ISat I E (expandword np tok) :=
  wk_expandword F.closed hnp (HT.foreign hx) tok

/-! ### the semantic actions -/

omit F in
theorem stateSite_of_actionSite {a b : String} (h : actionSite a b = true) : stateSite a b = false := by
  simp only [actionSite, Bool.or_eq_true, Bool.and_eq_true, beq_iff_eq, List.contains_cons,
    List.contains_nil, Bool.or_false] at h
  rcases h with (((rfl | rfl) | rfl) | ⟨rfl, h⟩) | ⟨rfl, h⟩
  · rfl
  · rfl
  · rfl
  · rcases h with rfl | rfl | rfl | rfl | rfl | rfl <;> rfl
  · rcases h with rfl | rfl | rfl <;> rfl

omit F in
/-- keeping `I` and raising within `E` is closed under `pure`, `bind` and reading the state -/
theorem ISat.reads :
    Reads (fun {α} (m : M α) => ISat I E m) (fun {α} l0 (m : M α) => HTQAt I l0 m (fun _ => I) E) :=
  ⟨⟨fun _ => HT.pure (fun _ _ h => h), HT.bind⟩, HT.get_bind, HTQAt.ofHT⟩

/-- **every semantic action** keeps `I` and raises only `E`, given that the nested parser and
    `gatherheredocuments` do: the walk of `Proofs/ClosedActions.lean` -/
theorem i_action (hnp : NPI I E np) (hx : E (.foreign "IndexError" "_extractcommandsubst"))
    (hg : ISat I E gatherheredocuments)
    (hpush : ∀ {l e}, I l e → ∀ (cell : RedirCell) (kill : Bool),
      I { l with store := l.store ++ [cell], redirstack := l.redirstack ++ [(l.store.length, kill)] } e)
    (fname : String) (args : List SVal) :
    ISat I E (action np fname args) :=
  have hF : ∀ {α : Type} {a b : String}, actionSite a b = true → ISat I E (M.foreign a b : M α) :=
    fun h => HT.foreign (F.foreign _ _ (stateSite_of_actionSite h))
  have hW := fun t (_ : SVal.tok t ∈ args) => i_expandword F hnp hx t
  rd_action ISat.reads hF hW
    (rd_handleNotImplemented ISat.reads hF hW (i_optProceed F) (fun _ => HT.raise (F.ni _))) fname
    (fun _ => HT.modify (fun _ _ h => F.key h _ rfl)) (fun _ => hg)
    (fun _ => fun _ _ _ hk => HTQAt.set_bind (fun _ h => hpush h _ _) hk)

end

/-! ### the tokenizer -/

section
variable (F : Frame I E) (A : TapeAtoms I E)
include F A

theorem i_peekc (rqn : Bool) : ISat I E (peekc rqn) := wk_peekc F.closed.tok.builds A rqn

theorem i_readline (b : Bool) : ISat I E (readline b) := wk_readline F.closed.tok.builds A b

variable (T : TokAtoms I E)
include T

/-- what the tokenizer's walk asks of a predicate, for a frame -/
theorem Frame.world : TokWorld (fun {α} (m : M α) => ISat I E m) where
  tape := A
  pos := .of_writes F.closed (HT.foreign T.createtoken) (HT.foreign T.tokenInit)
    (fun _ => HT.modify fun _ _ h => F.key h _ rfl) (fun _ => htq_set fun _ h => F.key h _ rfl)
  delim := .of_writes F.closed (HT.foreign T.popDelimiter)
    (fun _ => HT.modify fun _ _ h => F.key h _ rfl) (fun _ => htq_set fun _ h => F.key h _ rfl)
  current := wk_currentDelimiter F.closed
  sites := ⟨HT.foreign (F.foreign _ _ rfl), HT.foreign (F.foreign _ _ rfl),
    HT.foreign (F.foreign _ _ rfl), HT.foreign (F.foreign _ _ rfl), HT.foreign (F.foreign _ _ rfl),
    HT.foreign (F.foreign _ _ rfl), HT.foreign (F.foreign _ _ rfl)⟩
  isAssignment := wk_isAssignment F.closed.tok.builds (HT.foreign T.isAssignment)
  gather := T.gather

/-- the hypothesis `hTok` of `C01.hooks_ok` on the token source with the invariant -/
theorem i_nextToken : ISat I E nextToken := (F.world A T).nextToken F.closed.tok

end

end Bashlex.C01
