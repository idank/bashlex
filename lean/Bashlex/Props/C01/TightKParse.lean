/-
  C01 tight: the invariant `KI` through the LR engine (`C11.run_ok`, generic in the state
  invariant), the nested parsers (every nesting depth) and the entry points.
-/
import Bashlex.Props.C01.TightKTok
import Bashlex.Props.C11.Engine
import Bashlex.Props.C11.Parse

namespace Bashlex.C01
open Bashlex Bashlex.M Bashlex.C10 Bashlex.C11 Bashlex.LR
set_option linter.unusedSimpArgs false

variable {np : NestedParse}

/-- no query changes the line of the environment's tape -/
theorem Q_run_line {α : Type} (q : Q α) : ∀ e : Env, (Q.run q e).2.tape.line = e.tape.line := by
  induction q with
  | pure a => intro e; rfl
  | ask q k ih =>
    intro e
    simp only [Q.run]
    exact (ih _ _).trans (answer_line e q)

theorem run_line {α : Type} (m : M α) (l : Local) (e : Env) :
    (M.run m l e).2.tape.line = e.tape.line := Q_run_line (m l) e

-- see `Proofs/ParserLift.lean`
attribute [local irreducible] M.run runParser parse parsesingle split

theorem lineOK_ofInput (s : Str) : LineOK (Tape.ofInput s).line :=
  fun h => absurd (Tape.ofInput_getLast? s h) (by decide)

theorem e3_site {ty site : String} (h1 : site ≠ "_getc") (h2 : site ≠ "makeheredoc") :
    E3 (.foreign ty site) := by
  constructor
  · intro h; injection h with _ h; exact h1 h
  · intro h; injection h with _ h; exact h2 h

theorem k_hooks (hnp : NPK np) : HooksOK (KI []) (lrHooks np) (fun _ => True) E3 := by
  refine ⟨?_, ?_, ?_, ?_, ?_⟩
  · show SatI (KI []) (nextToken >>= fun t => pure (symOfTok t, SVal.tok t)) _ _
    exact HT.bind (k_nextToken []) (fun t => HT.pure (fun l e h => ⟨True.intro, h⟩))
  · intro p args _
    exact HT.post (k_action hnp _ args []) (fun _ _ _ h => ⟨True.intro, h⟩)
  · exact fun la _ => satS_onError (fun _ _ _ => e3_mkParsingError) (e3_foreign rfl) la
  · intro ty
    exact ⟨e3_site (by decide) (by decide), e3_site (by decide) (by decide)⟩
  · exact e3_fuel

theorem k_npOf {inner : M (Option Node)} (hin : KSat [] inner) : NPK (C03.npOf inner) := by
  intro s b R l e hk
  rw [C03.npOf_run]
  have hline := run_line inner (C16.nestedInit l s b) e
  have h := hin (C16.nestedInit l s b) e
    ⟨lineOK_ofInput s, (fun p hp => by cases hp), (fun p hp => by cases hp)⟩
  rcases hr : M.run inner (C16.nestedInit l s b) e with ⟨r, e'⟩
  rw [hr] at h hline
  cases r with
  | error x => exact h
  | ok v =>
    obtain ⟨r, l'⟩ := v
    refine ⟨?_, hk.2.1, hk.2.2⟩
    have h1 := hk.1
    unfold tapeOf at h1 ⊢
    simp only [] at hline
    cases hl : l.tape with
    | some t => rw [hl] at h1; simpa [hl] using h1
    | none => rw [hl] at h1; simp only [hl] at h1 ⊢; rw [hline]; exact h1

/-- every nesting depth -/
theorem k_parserRun : ∀ d, KSat [] (parserRun d) :=
  parserRun_ind (J := fun _ m => KSat [] m) (HT.raise e3_fuel) fun _ ih =>
    (level_ok (k_hooks (k_npOf ih))).post fun _ _ _ h => h.2

theorem ki_start (s : Str) (l : Local) (e : Env) (ht : l.tape = none) (hr : l.redirstack = [])
    (he : e.tape = Tape.ofInput s) : KI [] l e := by
  refine ⟨?_, fun p hp => ?_, fun p hp => by cases hp⟩
  · unfold tapeOf; rw [ht, he]; exact lineOK_ofInput s
  · rw [hr] at hp; cases hp

theorem runParser_e3 {s : Str} {o : Opts} {t : List Char} {x : Exn}
    (h : (runParser s o t).1 = .error x) : E3 x :=
  runParser_sat_error (k_parserRun _) (ki_start s _ _ rfl rfl rfl) h

/-- **`parse` never raises `IndexError|_getc` or `IndexError|makeheredoc`** -/
theorem parse_e3 (s : Str) (o : Opts) {x : Exn} (h : (parse s o).1 = .exn x) : E3 x :=
  parse_error_of (fun _ _ _ => runParser_e3) h

theorem parsesingle_e3 (s : Str) (o : Opts) {x : Exn} (h : (parsesingle s o).1 = .exn x) : E3 x :=
  runParser_e3 (parsesingle_error h)

theorem k_splitM (s : Str) : KSat [] (splitM s) :=
  splitM_sat (T := fun _ => True) s (i_tapeLine (kFrame [])) (i_tapeAdded (kFrame []))
    ((k_nextToken []).post fun _ _ _ h => ⟨trivial, h⟩)
    (fun t dq _ => k_expandwordinternal (k_npOf (k_parserRun _)) t dq [])
    (fun _ _ _ _ => e3_foreign rfl) e3_fuel

theorem split_e3 (s : Str) {x : Exn} (h : (split s).1 = .exn x) : E3 x :=
  split_sat_error (k_splitM s) (ki_start s _ _ rfl rfl rfl) h

end Bashlex.C01
