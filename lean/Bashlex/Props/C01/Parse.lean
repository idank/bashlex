/-
  C01: from the hooks of the LR engine to `parserRun` (every nesting depth), `runParser`,
  the loop of `parse` (which never runs out of its fuel), `parse` and `parsesingle`.
  The tokenizer enters through two hypotheses only: what `nextToken` and `gatherheredocuments`
  may raise (`T`).
-/
import Bashlex.Props.C01.Actions
import Bashlex.LR.Real
import Bashlex.Proofs.ParserLift
import Bashlex.Proofs.ParseG

namespace Bashlex.C01
open Bashlex Bashlex.M Bashlex.LR Bashlex.C12
-- see `Proofs/ParserLift.lean`
attribute [local irreducible] M.run runParser parse parsesingle split

variable {T : Exn → Prop}

/-! ### the grammar side -/

/-- a production without action function (the augmented start `S' → inputunit`) is never reduced:
    its left-hand side has no goto entry at all -/
def startCheck : Bool :=
  (List.zip Gen.prodFuncs Gen.prodTable).all fun (f, (lhs, _)) =>
    f != "" || Gen.gotoRows.all (fun row => row.all (fun e => e / 4096 != lhs))

theorem start_ok : startCheck = true := by decide +kernel

theorem no_goto_of_unnamed {lhs : Nat} {rhs : List Nat}
    (hmem : ("", (lhs, rhs)) ∈ List.zip Gen.prodFuncs Gen.prodTable) (s t : Nat) :
    realTables.goto s lhs ≠ some t := by
  intro hg
  have hall := start_ok
  unfold startCheck at hall
  have h1 := List.all_eq_true.mp hall _ hmem
  simp only [bne_self_eq_false, Bool.false_or] at h1
  obtain ⟨e, he, hk, _⟩ := Raw.goto_mem (R := realRaw) hg
  have hrow : realRaw.gotoRow s ∈ Gen.gotoRows := by
    unfold Raw.gotoRow at he ⊢
    show Gen.gotoRows.getD s [] ∈ Gen.gotoRows
    by_cases hlt : s < Gen.gotoRows.length
    · simp [List.getD_eq_getElem?_getD, List.getElem?_eq_getElem hlt]
    · have : Gen.gotoRows.getD s [] = [] := by
        simp [List.getD_eq_getElem?_getD, List.getElem?_eq_none (Nat.le_of_not_lt hlt)]
      change e ∈ Gen.gotoRows.getD s [] at he
      rw [this] at he; cases he
  have h2 := List.all_eq_true.mp (List.all_eq_true.mp h1 _ hrow) e he
  simp [hk] at h2

/-- what is known of a look-ahead: it is a token -/
def IsTokLA (la : Nat × SVal) : Prop := ∃ t, la.2 = .tok t

/-- the hooks of the real parser: shapes are respected and only allowed exceptions escape -/
theorem hooks_ok {np : NestedParse} (hTok : Sat nextToken (fun _ => True) T) (hC : Ctx T np) :
    HooksRaise' realTables (· ∈ realRaw.reach) (lrHooks np) SVI IsTokLA (Allowed T) := by
  refine ⟨?_, ?_, ?_⟩
  · show Sat (nextToken >>= fun t => pure (symOfTok t, SVal.tok t)) _ _
    have hT : Sat nextToken TF (Allowed T) :=
      sat_conj sat_nextToken_tf (hTok.weaken (fun _ h => h) (fun _ h => allowed_tok h))
    refine Sat.bind hT (fun t ht => Sat.pure ⟨?_, t, rfl⟩)
    show HasSh (shOfSymbol (symOfTok t)) (.tok t)
    unfold symOfTok
    cases hty : t.ttype with
    | none => simp only []; rw [err_shape]; exact ⟨t, rfl, hty, ht⟩
    | some ty => simp only []; rw [tok_shapes]; exact ⟨t, rfl, hty, ht⟩
  · intro p lhs rhs args hp hgoto hargs
    have hmem := prod_mem hp
    have := forall_prods shape_ok hp
    simp only [Bool.or_eq_true, beq_iff_eq] at this
    show Sat (action np (Gen.prodFuncs.getD p "") args) _ _
    rcases this with he | hab
    · exfalso
      rw [he] at hmem
      obtain ⟨s, t, _, hst⟩ := hgoto
      exact no_goto_of_unnamed hmem s t hst
    · exact sat_action hC hab (forall2_map_left hargs)
  · rintro ⟨sym, v⟩ ⟨t, ht⟩
    simp only at ht
    subst ht
    exact SatS.to_sat (satS_pError (fun _ _ _ => allowed_mkParsingError) t)

/-! ### one parser run, at every nesting depth -/

/-- **exception discipline of one parser run**, at every nesting depth: besides what the
    tokenizer raises, only `ParsingError`, `NotImplementedError`, the known foreign exceptions,
    and running out of the engine's fuel or of the nesting depth -/
theorem parserRun_exn (hTok : Sat nextToken (fun _ => True) T)
    (hGather : Sat gatherheredocuments (fun _ => True) T) :
    ∀ d, Sat (parserRun d) (fun _ => True) (Allowed T) :=
  Sat.parserRun (allowed_fuel (.tail _ (.head _))) fun d ih => by
    have hC : Ctx T (C03.npOf (parserRun d)) :=
      ⟨fun t ht => sat_expandword (fun _ _ => Sat.npOf ih) t ht,
        hGather.weaken (fun _ h => h) (fun _ h => allowed_tok h)⟩
    refine Sat.level ((run_sound' real_WF _ (hooks_ok hTok hC) _).weaken (fun _ _ => trivial) ?_)
      (fun _ _ _ _ _ _ => trivial) (fun _ _ => trivial)
    rintro x (hx | rfl)
    · exact hx
    · exact allowed_fuel (.head _)

/-! ### the entry points -/

theorem runParser_exn (hTok : Sat nextToken (fun _ => True) T)
    (hGather : Sat gatherheredocuments (fun _ => True) T) {s : Str} {o : Opts} {t : List Char}
    {x : Exn} (h : (runParser s o t).1 = .error x) : Allowed T x :=
  runParser_sat_error (SatS.of_sat (parserRun_exn hTok hGather _) fun _ _ => True) trivial h

/-- **the loop of `parse` never runs out of its fuel** (the index strictly increases), and its
    exceptions are those of the parser runs -/
theorem parseLoop_exn (hTok : Sat nextToken (fun _ => True) T)
    (hGather : Sat gatherheredocuments (fun _ => True) T) (s : Str) (o : Opts) :
    ∀ (fuel index : Nat) (parts : List Node) (touched : List Char),
      s.length + 1 - index < fuel →
      ∀ x, (parseLoop s o fuel index parts touched).1 = .error x → Allowed T x := by
  intro fuel index parts touched hlt x h
  rcases parseLoop_error s o fuel index parts touched x h with ⟨_, hf⟩ | ⟨_, _, _, _, h⟩
  · omega
  · exact runParser_exn hTok hGather h

/-- the exception discipline, as a predicate on outcomes of `parse` -/
def ParseOK (T : Exn → Prop) : Outcome → Prop
  | .parts _ => True
  | .exn x => Allowed T x
  | _ => False

/-- the exception discipline, as a predicate on outcomes of `parsesingle` -/
def SingleOK (T : Exn → Prop) : Outcome → Prop
  | .single _ => True
  | .exn x => Allowed T x
  | _ => False

/-! ### no non-node value in place of a tree -/

/-- `parse` returns a list of (typed) nodes or an exception — never strings, never a single node -/
theorem parse_shape (s : Str) (o : Opts) :
    (∃ l, (parse s o).1 = .parts l) ∨ (∃ x, (parse s o).1 = .exn x) := by
  unfold parse
  rcases runParser s o [] with ⟨r, t⟩
  cases r with
  | error e => exact Or.inr ⟨e, rfl⟩
  | ok v =>
    cases v with
    | none => exact Or.inl ⟨[], rfl⟩
    | some first =>
      simp only []
      rcases parseLoop s o (s.length + 1) (max (nextIndex first) 1) [first] t with ⟨r2, t2⟩
      cases r2 with
      | error e => exact Or.inr ⟨e, rfl⟩
      | ok ps => exact Or.inl ⟨ps, rfl⟩

/-- `parsesingle` returns a node, `None`, or an exception -/
theorem parsesingle_shape (s : Str) (o : Opts) :
    (∃ n, (parsesingle s o).1 = .single n) ∨ (∃ x, (parsesingle s o).1 = .exn x) := by
  unfold parsesingle
  rcases runParser s o [] with ⟨r, t⟩
  cases r with
  | error e => exact Or.inr ⟨e, rfl⟩
  | ok v => exact Or.inl ⟨v, rfl⟩

/-- `split` returns strings or an exception -/
theorem split_shape (s : Str) :
    (∃ l, (split s).1 = .strs l) ∨ (∃ x, (split s).1 = .exn x) := by
  unfold split
  simp only []
  rcases (splitM s).run {} { tape := Tape.ofInput s } with ⟨r, e'⟩
  cases r with
  | error e => exact Or.inr ⟨e, rfl⟩
  | ok v => exact Or.inl ⟨v.1, rfl⟩

/-! A discipline `D` of the exceptions of an entry point, in the form the theorems about the entry
    points are stated in, and back. -/

theorem parse_cases {D : Exn → Prop} {s : Str} {o : Opts}
    (h : ∀ x, (parse s o).1 = .exn x → D x) :
    match (parse s o).1 with
    | .parts _ => True
    | .exn x => D x
    | _ => False := by
  rcases parse_shape s o with ⟨l, hl⟩ | ⟨x, hx⟩
  · rw [hl]; trivial
  · rw [hx]; exact h x hx

theorem parsesingle_cases {D : Exn → Prop} {s : Str} {o : Opts}
    (h : ∀ x, (parsesingle s o).1 = .exn x → D x) :
    match (parsesingle s o).1 with
    | .single _ => True
    | .exn x => D x
    | _ => False := by
  rcases parsesingle_shape s o with ⟨l, hl⟩ | ⟨x, hx⟩
  · rw [hl]; trivial
  · rw [hx]; exact h x hx

theorem split_cases {D : Exn → Prop} {s : Str} (h : ∀ x, (split s).1 = .exn x → D x) :
    match (split s).1 with
    | .strs _ => True
    | .exn x => D x
    | _ => False := by
  rcases split_shape s with ⟨l, hl⟩ | ⟨x, hx⟩
  · rw [hl]; trivial
  · rw [hx]; exact h x hx

theorem parse_cases_exn {D : Exn → Prop} {s : Str} {o : Opts}
    (h : match (parse s o).1 with
      | .parts _ => True
      | .exn x => D x
      | _ => False) {x : Exn} (hx : (parse s o).1 = .exn x) : D x := by
  rw [hx] at h; exact h

theorem parsesingle_cases_exn {D : Exn → Prop} {s : Str} {o : Opts}
    (h : match (parsesingle s o).1 with
      | .single _ => True
      | .exn x => D x
      | _ => False) {x : Exn} (hx : (parsesingle s o).1 = .exn x) : D x := by
  rw [hx] at h; exact h

theorem split_cases_exn {D : Exn → Prop} {s : Str}
    (h : match (split s).1 with
      | .strs _ => True
      | .exn x => D x
      | _ => False) {x : Exn} (hx : (split s).1 = .exn x) : D x := by
  rw [hx] at h; exact h

theorem parse_ok (hTok : Sat nextToken (fun _ => True) T)
    (hGather : Sat gatherheredocuments (fun _ => True) T) (s : Str) (o : Opts) :
    ParseOK T (parse s o).1 := by
  rcases parse_shape s o with ⟨l, hl⟩ | ⟨x, hx⟩
  · rw [hl]; trivial
  · rw [hx]; exact parse_error_of (fun _ _ _ => runParser_exn hTok hGather) hx

theorem parsesingle_ok (hTok : Sat nextToken (fun _ => True) T)
    (hGather : Sat gatherheredocuments (fun _ => True) T) (s : Str) (o : Opts) :
    SingleOK T (parsesingle s o).1 := by
  rcases parsesingle_shape s o with ⟨l, hl⟩ | ⟨x, hx⟩
  · rw [hl]; trivial
  · rw [hx]; exact runParser_exn hTok hGather (parsesingle_error hx)

/-- `parse` returns the empty list only if the first parser run returned no node (the input
    holds no command): the loop only appends to the first part -/
theorem parse_nil (s : Str) (o : Opts) (h : (parse s o).1 = .parts []) :
    (runParser s o []).1 = .ok none := by
  rw [parse_eq_G] at h
  unfold parseG at h
  rcases hr : runParser s o [] with ⟨r, t⟩
  simp only [hr] at h
  rcases r with e | _ | first
  · cases h
  · rfl
  · exfalso
    simp only [] at h
    rcases hl : parseLoopG (runParser · o ·) s (s.length + 1) (max (nextIndex first) 1) [first] t
      with ⟨r2, t2⟩
    rw [hl] at h
    cases r2 with
    | error e => cases h
    | ok ps =>
      cases h
      obtain ⟨rest, hm, _⟩ := parseLoopG_chain (R := fun _ _ => True) (N := fun _ => True)
        (fun _ _ _ _ _ => trivial) (fun _ _ _ => trivial) _ _ _ _ [] (by rw [hl])
      cases hm

/-- … and then the first parser run of `parsesingle` returns `None` as well -/
theorem parse_nil_single (s : Str) (o : Opts) (h : (parse s o).1 = .parts []) :
    (parsesingle s o).1 = .single none := by
  have := parse_nil s o h
  unfold parsesingle
  rcases hr : runParser s o [] with ⟨r, t⟩
  rw [hr] at this
  simp only [] at this
  subst this
  rfl

/-! ### `split` -/

/-- the exception discipline of `split`: its own loop (over the tokens) is covered by fuel only -/
def AllowedSplit (T : Exn → Prop) (x : Exn) : Prop := Allowed T x ∨ x = .outOfFuel "split"

/-- the index error of `value[0]` is not raised: the value of a QUOTED token is not empty -/
theorem tf_head {E : Exn → Prop} (t : Token) (ht : TF t) (hq : t.flags.contains .QUOTED)
    (h : t.valueStr.head? = none) : E (.foreign "IndexError" "split") :=
  absurd (List.head?_eq_none_iff.mp h) (ht.2 hq)

theorem splitM_exn (hTok : Sat nextToken (fun _ => True) T)
    (hGather : Sat gatherheredocuments (fun _ => True) T) (s : Str) :
    Sat (splitM s) (fun _ => True) (AllowedSplit T) := by
  have hnp : NPE T (C03.npOf (parserRun maxDepth)) :=
    fun _ _ => Sat.npOf (parserRun_exn hTok hGather _)
  have hT : Sat nextToken TF (AllowedSplit T) :=
    sat_conj sat_nextToken_tf (hTok.weaken (fun _ h => h) (fun _ h => Or.inl (allowed_tok h)))
  refine SatS.to_sat (splitM_sat (I := fun _ _ => True) (T := TF) s
    (SatS.of_sat noExn_tapeLine.sat _) (SatS.of_sat noExn_tapeAdded.sat _)
    ((SatS.of_sat hT _).post fun _ _ _ h => ⟨h, trivial⟩)
    (fun t dq _ => SatS.of_sat ((sat_expandwordinternal hnp t dq).weaken (fun _ h => h)
      (fun _ h => Or.inl h)) _)
    tf_head (Or.inr rfl))

/-- the exception discipline, as a predicate on outcomes of `split` -/
def SplitOK (T : Exn → Prop) : Outcome → Prop
  | .strs _ => True
  | .exn x => AllowedSplit T x
  | _ => False

theorem split_ok (hTok : Sat nextToken (fun _ => True) T)
    (hGather : Sat gatherheredocuments (fun _ => True) T) (s : Str) : SplitOK T (split s).1 := by
  rcases split_shape s with ⟨l, hl⟩ | ⟨x, hx⟩
  · rw [hl]; trivial
  · rw [hx]
    exact split_sat_error (SatS.of_sat (splitM_exn hTok hGather s) fun _ _ => True) trivial hx

end Bashlex.C01
