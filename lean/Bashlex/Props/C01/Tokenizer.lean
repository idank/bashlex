/-
  C01: what the tokenizer itself may raise (`TokExn`): a `ParsingError`, one of an explicit
  list of foreign exceptions (its own raise sites, not analysed for reachability here), or the
  out-of-fuel marker of one of its loops.
  The tokenizer raises only `E`, from any state, for every set `E` of exceptions that contains
  its raise sites: "raises only `E`" is a closed predicate (`sat_closed`, `Proofs/Closed.lean`), and
  what the generic walk asks beyond closure holds because nothing is claimed of the state
  (`satTape` .. `sat_gatherheredocuments`, each under the sites its function contains).
  For `E := TokExn`: `tok_nextToken`, `tok_gatherheredocuments`.
-/
import Bashlex.Props.C01.Basic
import Bashlex.Model.Tokenizer
import Bashlex.Proofs.Closed
import Bashlex.Proofs.ClosedTok

namespace Bashlex.C01
open Bashlex Bashlex.M

/-- the raise sites of the tokenizer (tokenizer.py, heredoc.py) for exceptions outside the
    contract; their reachability is not analysed at this level -/
def tokForeign : List Exn :=
  [ .foreign "IndexError" "_getc",
    .foreign "IndexError" "makeheredoc",
    .foreign "IndexError" "_pop_delimiter",
    .foreign "TypeError" "_parse_matched_pair",
    .foreign "UnboundLocalError" "handledollarword",
    .foreign "AssertionError" "handledollarword",
    .foreign "IndexError" "_parse_comsub",
    .foreign "UnboundLocalError" "_parse_comsub",
    .foreign "AssertionError" "_createtoken",
    .foreign "AssertionError" "token.__init__",
    .foreign "IndexError" "_is_assignment",
    .foreign "TypeError" "_readtokenword",
    .foreign "ValueError" "_readtoken",
    .foreign "AssertionError" "ParsingError.__init__" ]

/-- the loops of the tokenizer, covered by the 2^30 fuel (2^20 for the nesting of
    `_parse_matched_pair` / `_parse_comsub`) -/
def tokFuel : List String :=
  ["readline", "makeheredoc", "gatherheredocuments", "_parse_matched_pair", "_parse_comsub",
   "_readtokenword", "_discard_until", "_readtoken"]

/-- what the tokenizer may raise -/
def TokExn (x : Exn) : Prop :=
  (∃ m s p, x = .parsing m s p) ∨ x ∈ tokForeign ∨ (∃ site, x = .outOfFuel site ∧ site ∈ tokFuel)

theorem tokExn_mkParsingError {m s p} : TokExn (mkParsingError m s p) := by
  unfold mkParsingError
  split
  · exact Or.inl ⟨_, _, _, rfl⟩
  · exact Or.inr (Or.inl (by simp [tokForeign]))

/-- a fuel loop with nothing to remember -/
theorem sat_loopT {σ α : Type} {site : String} {body : σ → M (σ ⊕ α)} {E : Exn → Prop}
    (hfuel : E (.outOfFuel site)) (hbody : ∀ s, Sat (body s) (fun _ => True) E) (fuel : Nat) (s : σ) :
    Sat (M.loop site body fuel s) (fun _ => True) E :=
  Sat.loop (I := fun _ => True) (R := fun _ => True) hfuel
    (fun s _ => (hbody s).weaken (fun r _ => by cases r <;> exact True.intro) (fun _ h => h)) fuel s
    True.intro

abbrev TSat {α : Type} (m : M α) : Prop := Sat m (fun _ => True) TokExn

theorem tokExn_of_tokSite {x : Exn} (h : tokSite x = true) : TokExn x := by
  cases x with
  | parsing m s p => exact Or.inl ⟨_, _, _, rfl⟩
  | notImplemented s => cases h
  | outOfFuel s =>
    refine Or.inr (Or.inr ⟨_, rfl, ?_⟩)
    simp only [tokSite, List.contains_cons, List.contains_nil, Bool.or_false, Bool.or_eq_true,
      beq_iff_eq] at h
    rcases h with rfl | rfl | rfl | rfl | rfl | rfl | rfl <;> simp [tokFuel]
  | foreign a b =>
    simp only [tokSite, Bool.and_eq_true, beq_iff_eq] at h
    obtain ⟨rfl, rfl⟩ := h
    exact Or.inr (Or.inl (by simp [tokForeign]))

end Bashlex.C01

namespace Bashlex.C01
open Bashlex Bashlex.M

variable {E : Exn → Prop}

/-- "raises only `E`" in the form the generic walk takes -/
abbrev ESat (E : Exn → Prop) {α : Type} (m : M α) : Prop := Sat m (fun _ => True) E

theorem sat_closed {site : Exn → Bool} (hE : ∀ x, site x = true → E x) :
    Closed site (fun {α} (m : M α) => ESat E m) (fun {α} _ (m : M α) => ESat E m) where
  pure _ := Sat.pure True.intro
  bind hm hf := sat_bindE hm hf
  get_bind h := sat_bindE (NoExn.sat noExn_get) h
  forget h := h
  raise h := Sat.raise (hE _ h)
  ask _ := NoExn.sat (noExn_ask _)
  modify _ := NoExn.sat (noExn_modify _)
  set_bind _ hk := sat_bindE (NoExn.sat (noExn_set _)) (fun _ => hk)
  bindA hm hk := sat_bindE hm hk
  ask_bind _ hk := sat_bindE (NoExn.sat (noExn_ask _)) hk

/-! ### the functions that write `Local.stable`: nothing is claimed of the state, so every write
is allowed, and each bundle asks for the sites inside its functions only -/

theorem satTape (hx : E (.foreign "IndexError" "_getc")) :
    TapeAtoms (fun {α} (m : M α) => ESat E m) :=
  .of_writes (sat_closed (site := fun _ => false) (fun _ => nofun)) (Sat.foreign hx)
    (fun _ => NoExn.sat (noExn_set _)) (fun _ => NoExn.sat (noExn_set _))

theorem satPos (hx : E (.foreign "AssertionError" "_createtoken"))
    (hx' : E (.foreign "AssertionError" "token.__init__")) :
    PosAtoms (fun {α} (m : M α) => ESat E m) :=
  .of_writes (sat_closed (site := fun _ => false) (fun _ => nofun)) (Sat.foreign hx)
    (Sat.foreign hx') (fun _ => NoExn.sat (noExn_modify _)) (fun _ => NoExn.sat (noExn_set _))

/-- `recordpos` alone, where a site of `_createtoken` is excluded -/
theorem sat_recordpos (rel : Nat) : ESat E (recordpos rel) :=
  sat_bindE (NoExn.sat noExn_curIdx) fun _ => NoExn.sat (noExn_modify _)

theorem satDelim (hx : E (.foreign "IndexError" "_pop_delimiter")) :
    DelimAtoms (fun {α} (m : M α) => ESat E m) :=
  .of_writes (sat_closed (site := fun _ => false) (fun _ => nofun)) (Sat.foreign hx)
    (fun _ => NoExn.sat (noExn_modify _)) (fun _ => NoExn.sat (noExn_set _))

section
variable (hE : ∀ x, tokSite x = true → E x) (hg : E (.foreign "IndexError" "_getc"))
include hE hg

theorem sat_makeheredoc (hx : E (.foreign "IndexError" "makeheredoc")) (id : Nat) (kill : Bool) :
    ESat E (makeheredoc id kill) :=
  wk_makeheredoc (sat_closed hE) (satTape hg) (fun _ _ => NoExn.sat (noExn_set _)) (Sat.foreign hx)
    id kill

theorem sat_gatherheredocuments (hx : E (.foreign "IndexError" "makeheredoc"))
    (hx' : E (.outOfFuel "gatherheredocuments")) : ESat E gatherheredocuments :=
  wk_gatherheredocuments (sat_closed hE) (satTape hg) (Sat.raise hx') (NoExn.sat noExn_optStrict)
    (sat_makeheredoc hE hg hx) (fun _ => NoExn.sat (noExn_modify _))

end

/-! ### `E := TokExn` -/

theorem tokExn_foreign {a b : String} (h : Exn.foreign a b ∈ tokForeign) : TokExn (.foreign a b) :=
  Or.inr (Or.inl h)

theorem tok_foreign {α : Type} {a b : String} (h : Exn.foreign a b ∈ tokForeign) :
    TSat (M.foreign a b : M α) :=
  Sat.foreign (tokExn_foreign h)

theorem tokWorld : TokWorld (fun {α} (m : M α) => TSat m) where
  tape := satTape (tokExn_foreign (by simp [tokForeign]))
  pos := satPos (tokExn_foreign (by simp [tokForeign])) (tokExn_foreign (by simp [tokForeign]))
  delim := satDelim (tokExn_foreign (by simp [tokForeign]))
  current := wk_currentDelimiter (sat_closed fun _ => tokExn_of_tokSite)
  sites := ⟨tok_foreign (by simp [tokForeign]), tok_foreign (by simp [tokForeign]),
    tok_foreign (by simp [tokForeign]), tok_foreign (by simp [tokForeign]),
    tok_foreign (by simp [tokForeign]), tok_foreign (by simp [tokForeign]),
    tok_foreign (by simp [tokForeign])⟩
  isAssignment := wk_isAssignment (sat_closed fun _ => tokExn_of_tokSite).builds
    (tok_foreign (by simp [tokForeign]))
  gather := sat_gatherheredocuments (fun _ => tokExn_of_tokSite)
    (tokExn_foreign (by simp [tokForeign])) (tokExn_foreign (by simp [tokForeign]))
    (Or.inr (Or.inr ⟨_, rfl, by simp [tokFuel]⟩))

/-- the hypothesis `Ctx.gather` of `C01.hooks_ok` on `gatherheredocuments`: it raises only
    `TokExn` -/
theorem tok_gatherheredocuments : TSat gatherheredocuments := tokWorld.gather

/-- the hypothesis `hTok` of `C01.hooks_ok` on the token source: `token()` raises only
    `TokExn` -/
theorem tok_nextToken : TSat nextToken :=
  tokWorld.nextToken (sat_closed fun _ => tokExn_of_tokSite)

end Bashlex.C01
