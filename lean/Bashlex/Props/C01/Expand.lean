/-
  C01: word expansion (`subst.py`).  Exception discipline under a disciplined nested
  parser, and progress: every iteration of the loop of `_expandwordinternal` that continues
  strictly advances the cursor, so the loop never runs out of its fuel.
-/
import Bashlex.Props.C01.Basic

namespace Bashlex.C01
open Bashlex Bashlex.M
set_option linter.unusedSimpArgs false

variable {T : Exn → Prop}

/-- the nested parser raises only allowed exceptions -/
def NPE (T : Exn → Prop) (np : NestedParse) : Prop :=
  ∀ s b, Sat (np s b) (fun _ => True) (Allowed T)

/-! ### the pure scanners -/

theorem backOverNewlines_le (s : Str) : ∀ n, backOverNewlines s n ≤ n := by
  intro n
  induction n with
  | zero => simp [backOverNewlines]
  | succ n ih =>
    unfold backOverNewlines
    split
    · omega
    · omega

theorem scanName_ge (s : Str) : ∀ fuel z, z ≤ scanName s fuel z := by
  intro fuel
  induction fuel with
  | zero => intro z; simp [scanName]
  | succ f ih =>
    intro z
    unfold scanName
    split
    · omega
    · split
      · omega
      · have := ih (z + 1); omega

theorem scanName_le (s : Str) : ∀ fuel z, z ≤ s.length → scanName s fuel z ≤ s.length := by
  intro fuel
  induction fuel with
  | zero => intro z h; simpa [scanName] using h
  | succ f ih =>
    intro z h
    unfold scanName
    split
    · exact h
    · rename_i c hc
      have hz : z < s.length := (List.getElem?_eq_some_iff.mp hc).1
      split
      · exact h
      · exact ih (z + 1) hz

theorem tildeScan_ge (s : Str) (b : Bool) : ∀ fuel i, i ≤ (tildeScan s b fuel i).1 := by
  intro fuel
  induction fuel with
  | zero => intro i; simp [tildeScan]
  | succ f ih =>
    intro i
    unfold tildeScan
    split
    · simp
    · split
      · simp
      · split
        · simp
        · split
          · simp
          · have := ih (i + 1); omega

theorem tildeScan_le (s : Str) (b : Bool) : ∀ fuel i, i ≤ s.length → (tildeScan s b fuel i).1 ≤ s.length := by
  intro fuel
  induction fuel with
  | zero => intro i h; simpa [tildeScan] using h
  | succ f ih =>
    intro i h
    unfold tildeScan
    split
    · simpa using h
    · rename_i c hc
      have hz : i < s.length := (List.getElem?_eq_some_iff.mp hc).1
      split
      · simpa using h
      · split
        · simpa using h
        · split
          · simpa using h
          · exact ih (i + 1) hz

/-- standing on a `~`, the tilde scan advances -/
theorem tildeScan_tilde (s : Str) (b : Bool) (f i : Nat) (h : s[i]? = some '~') :
    i < (tildeScan s b (f + 1) i).1 := by
  unfold tildeScan
  simp only [h]
  have h1 : ('~' == '/') = false := by decide
  have h2 : ('~' == '\\' || '~' == '\'' || '~' == '"') = false := by decide
  have h3 : (b && '~' == ':') = false := by simp
  simp only [h1, h2, h3, Bool.false_eq_true, if_false]
  have := tildeScan_ge s b f (i + 1)
  omega

theorem findFrom_go_spec (c : Char) : ∀ (l : Str) (i k : Nat), Str.findFrom.go c l i = some k →
    i ≤ k ∧ k < i + l.length := by
  intro l
  induction l with
  | nil => intro i k h; simp [Str.findFrom.go] at h
  | cons x xs ih =>
    intro i k h
    simp only [Str.findFrom.go] at h
    split at h
    · cases h; simp
    · have := ih (i + 1) k h
      simp only [List.length_cons]; omega

theorem findFrom_spec {s : Str} {c : Char} {start k : Nat} (h : Str.findFrom s c start = some k) :
    start ≤ k ∧ k < s.length := by
  unfold Str.findFrom at h
  have := findFrom_go_spec c _ _ _ h
  simp only [List.length_drop] at this
  by_cases hs : start ≤ s.length
  · omega
  · have hd : s.drop start = [] := List.drop_eq_nil_of_le (by omega)
    rw [hd] at h; simp [Str.findFrom.go] at h

theorem stringextract_go_spec (s : Str) (ch : Char) : ∀ fuel i k,
    stringextract.go s ch fuel i = some k → i ≤ k ∧ k < s.length := by
  intro fuel
  induction fuel with
  | zero => intro i k h; simp [stringextract.go] at h
  | succ f ih =>
    intro i k h
    unfold stringextract.go at h
    split at h
    · cases h
    · rename_i c hc
      have hi : i < s.length := (List.getElem?_eq_some_iff.mp hc).1
      split at h
      · split at h
        · have := ih _ _ h; omega
        · cases h
      · split at h
        · cases h; exact ⟨Nat.le_refl _, hi⟩
        · have := ih _ _ h; omega

theorem stringextract_spec {s : Str} {ch : Char} {i k : Nat} (h : stringextract s i ch = some k) :
    i ≤ k ∧ k < s.length :=
  stringextract_go_spec s ch _ _ _ h

/-! ### exception discipline and cursor bounds -/

theorem sat_adjustpositions (n : Node) (base lim : Nat) :
    Sat (adjustpositions n base lim) (fun _ => True) (Allowed T) := by
  unfold adjustpositions
  split
  · exact Sat.pure trivial
  · exact Sat.foreign known_visitnode

theorem sat_recursiveparse {np : NestedParse} (hnp : NPE T np) (base : Str) (sindex : Nat) (b : Bool) :
    Sat (recursiveparse np base sindex b) (fun _ => True) (Allowed T) := by
  unfold recursiveparse
  refine sat_bindE (hnp _ _) (fun r => ?_)
  split
  · exact Sat.foreign known_recursiveparse
  · simp only []
    exact sat_bindE (sat_adjustpositions _ _ _) (fun _ => Sat.pure trivial)

/-- `_parsedolparen` returns a cursor inside the string, at or after its start -/
theorem sat_parsedolparen {np : NestedParse} (hnp : NPE T np) (base : Str) (sindex : Nat) :
    Sat (parsedolparen np base sindex) (fun r => sindex ≤ r.2 ∧ r.2 < base.length) (Allowed T) := by
  unfold parsedolparen
  simp only []
  refine sat_bindE (sat_recursiveparse hnp _ _ _) (fun r => ?_)
  obtain ⟨node, endp⟩ := r
  simp only []
  split
  · exact Sat.foreign known_parsedolparen
  · rename_i c hc
    have hlt : endp < (base.drop sindex).length := (List.getElem?_eq_some_iff.mp hc).1
    simp only [List.length_drop] at hlt
    refine Sat.pure ?_
    simp only []
    split
    · have := backOverNewlines_le (base.drop sindex) endp
      omega
    · omega

/-- `_paramexpand` on a cursor inside the string returns a cursor strictly further, at most at
    the end of the string -/
theorem sat_paramexpand {np : NestedParse} (hnp : NPE T np) (string : Str) (sindex : Nat)
    (hs : sindex < string.length) :
    Sat (paramexpand np string sindex) (fun r => sindex < r.2 ∧ r.2 ≤ string.length) (Allowed T) := by
  unfold paramexpand
  simp only []
  split
  · -- the `$` is the last character
    refine Sat.pure ?_
    simp only []
    have h1 := scanName_ge string (string.length + 1) (sindex + 1)
    have h2 := scanName_le string (string.length + 1) (sindex + 1) hs
    omega
  · rename_i c hc
    have hz : sindex + 1 < string.length := (List.getElem?_eq_some_iff.mp hc).1
    split
    · refine Sat.pure ?_
      simp only [hz, if_true]; omega
    · split
      · split
        · exact Sat.pure (by simp only []; omega)
        · rename_i z hz'
          have := findFrom_spec hz'
          refine Sat.pure ?_
          simp only []
          split <;> omega
      · split
        · split
          · exact Sat.foreign known_extract
          · split
            · exact Sat.raise allowed_ni
            · refine Sat.bind (sat_parsedolparen hnp _ _) (fun r hr => Sat.pure ?_)
              simp only []
              omega
        · split
          · exact Sat.raise allowed_ni
          · refine Sat.pure ?_
            simp only []
            have h1 := scanName_ge string (string.length + 1) (sindex + 1)
            have h2 := scanName_le string (string.length + 1) (sindex + 1) (by omega)
            omega

/-- what one iteration of the loop of `_expandwordinternal` guarantees when it continues -/
def Progress (string : Str) (st : ExpSt) : ExpSt ⊕ (List Node × Str × Bool) → Prop :=
  Sum.elim (fun st' => st.sindex < st'.sindex ∧ st'.sindex ≤ string.length + 1) (fun _ => True)

/-- **expand_progress**: every iteration of the loop of `_expandwordinternal` that continues
    strictly advances the cursor `sindex`, and leaves it at most one past the end of the string
    (the only branch that can overshoot is the backslash branch, `sindex += 2` on a final
    backslash; the next iteration then fails with `IndexError`). -/
theorem expand_progress {np : NestedParse} (hnp : NPE T np) (tok : Token) (string : Str) (qd : Bool)
    (st : ExpSt) :
    Sat (expandStep np tok string qd st) (Progress string st) (Allowed T) := by
  unfold expandStep
  simp only []
  refine Sat.ite (fun _ => Sat.pure trivial) (fun _ => ?_)
  split
  · exact Sat.foreign known_expint
  rename_i c hc
  have hs : st.sindex < string.length := (List.getElem?_eq_some_iff.mp hc).1
  have adv1 : ∀ {k}, k = st.sindex + 1 → st.sindex < k ∧ k ≤ string.length + 1 := by
    intro k hk; omega
  refine Sat.ite (fun _ => Sat.ite (fun _ => Sat.pure (adv1 rfl)) (fun _ => ?_)) (fun _ => ?_)
  · refine Sat.bind (sat_parsedolparen hnp _ _) (fun r hr => Sat.pure ?_)
    show st.sindex < r.2 + 1 ∧ r.2 + 1 ≤ string.length + 1
    omega
  refine Sat.ite (fun hct => Sat.ite (fun _ => Sat.pure (adv1 rfl)) (fun _ => Sat.pure ?_)) (fun _ => ?_)
  · have hc' : string[st.sindex]? = some '~' := by
      have : c = '~' := by simpa using hct
      rw [← this]; exact hc
    show st.sindex < (tildeScan string _ (string.length + 1) st.sindex).1 ∧
      (tildeScan string _ (string.length + 1) st.sindex).1 ≤ string.length + 1
    have h1 := tildeScan_tilde string
      (st.flags.contains .ASSIGNRHS || st.flags.contains .ASSIGNMENT || st.flags.contains .TILDEEXP)
      string.length st.sindex hc'
    have h2 := tildeScan_le string
      (st.flags.contains .ASSIGNRHS || st.flags.contains .ASSIGNMENT || st.flags.contains .TILDEEXP)
      (string.length + 1) st.sindex (by omega)
    omega
  refine Sat.ite (fun _ => ?_) (fun _ => ?_)
  · refine Sat.bind (sat_paramexpand hnp _ _ hs) (fun r hr => Sat.pure ?_)
    show st.sindex < r.2 ∧ r.2 ≤ string.length + 1
    omega
  refine Sat.ite (fun _ => Sat.ite (fun hbq => Sat.pure ?_) (fun _ => ?_)) (fun _ => ?_)
  · show st.sindex < st.sindex + 1 + 1 ∧ st.sindex + 1 + 1 ≤ string.length + 1
    have : st.sindex + 1 < string.length := by
      rcases Nat.lt_or_ge (st.sindex + 1) string.length with h | h
      · exact h
      · have : string[st.sindex + 1]? = none := List.getElem?_eq_none h
        rw [this] at hbq; simp at hbq
    omega
  · split
    · exact sat_bindN noExn_tapeSource (fun _ => Sat.raise allowed_mkParsingError)
    · rename_i x hx
      have := stringextract_spec hx
      refine sat_bindE (sat_recursiveparse hnp _ _ _) (fun r => ?_)
      refine sat_bindE (sat_adjustpositions _ _ _) (fun cmd => Sat.pure ?_)
      show st.sindex < x + 1 ∧ x + 1 ≤ string.length + 1
      omega
  refine Sat.ite (fun _ => Sat.pure ?_) (fun _ => ?_)
  · show st.sindex < st.sindex + 2 ∧ st.sindex + 2 ≤ string.length + 1
    omega
  refine Sat.ite (fun _ => Sat.pure (adv1 rfl)) (fun _ => ?_)
  exact Sat.ite (fun _ => Sat.ite (fun _ => Sat.pure trivial) (fun _ => Sat.ite (fun _ => Sat.pure (adv1 rfl))
    (fun _ => Sat.pure (adv1 rfl)))) (fun _ => Sat.pure (adv1 rfl))

/-- **fuel adequacy of `_expandwordinternal`**: `Allowed` has no `outOfFuel "_expandwordinternal"`
    disjunct (`fuelSites`), so this says the loop never runs out of its `2·len + 4` fuel -/
theorem sat_expandwordinternal {np : NestedParse} (hnp : NPE T np) (tok : Token) (qd : Bool) :
    Sat (expandwordinternal np tok qd) (fun _ => True) (Allowed T) := by
  unfold expandwordinternal
  simp only []
  refine sat_bindE (sat_loop_measure (I := fun st => st.sindex ≤ tok.valueStr.length + 1)
    (R := fun _ => True) (μ := fun st => tok.valueStr.length + 2 - st.sindex) ?_ _ _ ?_ ?_) ?_
  · intro st hst
    refine (expand_progress hnp tok tok.valueStr qd st).weaken ?_ (fun _ h => h)
    intro r hr
    cases r with
    | inl st' =>
      simp only [Progress, Sum.elim_inl] at hr ⊢
      omega
    | inr _ => trivial
  · show (0 : Nat) ≤ _; omega
  · show tok.valueStr.length + 2 - 0 < _; omega
  · rintro ⟨parts, istring, early⟩
    simp only []
    refine Sat.ite (fun _ => Sat.pure trivial) (fun _ => Sat.ite (fun _ => ?_) (fun _ => Sat.pure trivial))
    exact sat_bindE (Sat.foreign known_visitnode) (fun _ => Sat.pure trivial)

/-- the fact about a token `_expandword` relies on: a QUOTED token is not empty -/
def TokQ (t : Token) : Prop := t.flags.contains .QUOTED = true → t.valueStr ≠ []

theorem sat_expandword {np : NestedParse} (hnp : NPE T np) (tok : Token) (hq : TokQ tok) :
    Sat (expandword np tok) (fun _ => True) (Allowed T) := by
  unfold expandword
  simp only []
  refine sat_bindN noExn_get (fun l => ?_)
  have hfin : ∀ qd, Sat (do
      let x ← expandwordinternal np tok qd
      pure (Node.word (tok.lexpos, tok.endlexpos) x.snd
        (if (l.limit == some 0) = true then List.filter (fun n => !isSubstitution n) x.fst
         else x.fst)) : M Node) (fun _ => True) (Allowed T) :=
    fun qd => sat_bindE (sat_expandwordinternal hnp tok qd) (fun _ => Sat.pure trivial)
  refine Sat.ite (fun _ => Sat.pure trivial) (fun _ => ?_)
  refine Sat.ite (fun hquoted => ?_) (fun _ => sat_bindN (noExn_pure _) (fun _ => hfin _))
  split
  · rename_i hnone
    exfalso
    apply hq hquoted
    cases hv : tok.valueStr with
    | nil => rfl
    | cons a as => rw [hv] at hnone; cases hnone
  · exact sat_bindN (noExn_pure _) (fun _ => hfin _)

end Bashlex.C01
