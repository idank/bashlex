/-
  C01 tight: why the two raise sites left in `tokForeignTight` cannot be excluded in the
  state-agnostic logic `Sat` (which quantifies over ALL local states and environments): kernel-
  evaluated runs of `token()` from states that no run of `parse` was found to reach.
    * `AssertionError|token.__init__`: with the parser-state flag `regexp` set (no function of the
      model ever sets it; neither `dblparen`), `_readtoken` enters `_readtokenword` on a break
      character, which is pushed back at once: the token would be empty (`lexpos = endlexpos`).
    * `IndexError|_is_assignment`: with a backslash in the `_eol_ungetc_lookahead` slot and the
      cursor on a newline, `_readtokenword` drops the pair and stops on the next break character
      with an empty `tokenword`: `value[0]` fails.
  For the runs of `parse` / `parsesingle` / `split` both are excluded in `TightLvl*.lean`, from "the
  flags are never set", "the slot is empty when `token()` is entered" (C11's `Good4`) and exact cursor
  facts (`_getc(True)` never returns a backslash that a newline follows; a word consumes at least one
  character; the cursor never falls below the start of the token being read).
-/
import Bashlex.Proofs.HoareS
import Bashlex.Model.Tokenizer

namespace Bashlex.C01
open Bashlex Bashlex.M

/-- the exception a computation raises from a given state (`none` if it returns) -/
def exnOfM {α : Type} (m : M α) (l : Local) (e : Env) : Option Exn :=
  match (m.run l e).1 with
  | .error x => some x
  | .ok _ => none

theorem sat_exnOfM {α : Type} {m : M α} {E : Exn → Prop} (h : Sat m (fun _ => True) E)
    {l : Local} {e : Env} {x : Exn} (hx : exnOfM m l e = some x) : E x := by
  have h1 := h l e
  unfold exnOfM at hx
  rcases hr : m.run l e with ⟨r, e'⟩
  rw [hr] at h1 hx
  cases r with
  | ok v => cases hx
  | error y => simp only [Option.some.injEq] at hx; rw [← hx]; exact h1

/-- `regexp` set, input `;` -/
theorem state_witness_tokeninit :
    exnOfM nextToken { ps := { regexp := true } } { tape := Tape.ofInput [';'] } =
      some (.foreign "AssertionError" "token.__init__") := by decide +kernel

/-- a backslash in the look-ahead slot, the cursor at the start of `\n;\n` -/
theorem state_witness_isassignment :
    exnOfM nextToken { eolLookahead := some '\\' } { tape := { line := ['\n', ';', '\n'] } } =
      some (.foreign "IndexError" "_is_assignment") := by decide +kernel

/-- hence the state-agnostic statements are false -/
theorem sat_tokeninit_false :
    ¬ Sat nextToken (fun _ => True) (fun x => x ≠ .foreign "AssertionError" "token.__init__") :=
  fun h => sat_exnOfM h state_witness_tokeninit rfl

theorem sat_isassignment_false :
    ¬ Sat nextToken (fun _ => True) (fun x => x ≠ .foreign "IndexError" "_is_assignment") :=
  fun h => sat_exnOfM h state_witness_isassignment rfl

/-! The two sites excluded with the parser-level invariant `KI` (`Props/C01/TightK*.lean`) are
    not excluded state-agnostically either: -/

/-- a line that ends in a backslash (`tokenizer.__init__` never builds one) -/
theorem state_witness_getc :
    exnOfM nextToken {} { tape := { line := ['\\'] } } = some (.foreign "IndexError" "_getc") := by
  decide +kernel

/-- a pending here-document whose id is not in the store -/
theorem state_witness_makeheredoc :
    exnOfM gatherheredocuments { redirstack := [(0, false)] } { tape := Tape.ofInput ['a'] } =
      some (.foreign "IndexError" "makeheredoc") := by decide +kernel

end Bashlex.C01
