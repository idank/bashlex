/-
  C01: the scanners of `subst.py` that are structurally recursive on fuel get enough of
  it: their results do not depend on the fuel once it covers the rest of the string (and the
  fuel the model passes, `len + 1`, always does).
-/
import Bashlex.Model.Subst

namespace Bashlex.C01
open Bashlex

theorem scanName_fuel (s : Str) : ∀ f1 f2 z, s.length < z + f1 → s.length < z + f2 →
    scanName s f1 z = scanName s f2 z := by
  intro f1
  induction f1 with
  | zero =>
    intro f2 z h1 _
    have hz : s[z]? = none := List.getElem?_eq_none (by omega)
    cases f2 with
    | zero => rfl
    | succ f2 => simp [scanName, hz]
  | succ f1 ih =>
    intro f2 z h1 h2
    cases f2 with
    | zero =>
      have hz : s[z]? = none := List.getElem?_eq_none (by omega)
      simp [scanName, hz]
    | succ f2 =>
      unfold scanName
      split
      · rfl
      · split
        · rfl
        · exact ih f2 (z + 1) (by omega) (by omega)

/-- more fuel than the model passes changes nothing -/
theorem scanName_adequate (s : Str) (z k : Nat) :
    scanName s (s.length + 1 + k) z = scanName s (s.length + 1) z :=
  scanName_fuel s _ _ z (by omega) (by omega)

theorem tildeScan_fuel (s : Str) (b : Bool) : ∀ f1 f2 i, s.length < i + f1 → s.length < i + f2 →
    tildeScan s b f1 i = tildeScan s b f2 i := by
  intro f1
  induction f1 with
  | zero =>
    intro f2 i h1 _
    have hz : s[i]? = none := List.getElem?_eq_none (by omega)
    cases f2 with
    | zero => rfl
    | succ f2 => simp [tildeScan, hz]
  | succ f1 ih =>
    intro f2 i h1 h2
    cases f2 with
    | zero =>
      have hz : s[i]? = none := List.getElem?_eq_none (by omega)
      simp [tildeScan, hz]
    | succ f2 =>
      unfold tildeScan
      split
      · rfl
      · split
        · rfl
        · split
          · rfl
          · split
            · rfl
            · exact ih f2 (i + 1) (by omega) (by omega)

theorem tildeScan_adequate (s : Str) (b : Bool) (i k : Nat) :
    tildeScan s b (s.length + 1 + k) i = tildeScan s b (s.length + 1) i :=
  tildeScan_fuel s b _ _ i (by omega) (by omega)

theorem stringextract_go_fuel (s : Str) (ch : Char) : ∀ f1 f2 i, s.length < i + f1 → s.length < i + f2 →
    stringextract.go s ch f1 i = stringextract.go s ch f2 i := by
  intro f1
  induction f1 with
  | zero =>
    intro f2 i h1 _
    have hz : s[i]? = none := List.getElem?_eq_none (by omega)
    cases f2 with
    | zero => rfl
    | succ f2 => simp [stringextract.go, hz]
  | succ f1 ih =>
    intro f2 i h1 h2
    cases f2 with
    | zero =>
      have hz : s[i]? = none := List.getElem?_eq_none (by omega)
      simp [stringextract.go, hz]
    | succ f2 =>
      unfold stringextract.go
      split
      · rfl
      · split
        · split
          · exact ih f2 (i + 1) (by omega) (by omega)
          · rfl
        · split
          · rfl
          · exact ih f2 (i + 1) (by omega) (by omega)

/-- `_stringextract` with more fuel than `len + 1` returns the same index -/
theorem stringextract_adequate (s : Str) (ch : Char) (i k : Nat) :
    stringextract.go s ch (s.length + 1 + k) i = stringextract s i ch :=
  stringextract_go_fuel s ch _ _ i (by omega) (by omega)

end Bashlex.C01
