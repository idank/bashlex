/-
  C01 tight: the smaller exception discipline `TokExn1` of the tokenizer and the walks.

  `TokExn1` = `TokExn` without the seven raise sites that are excluded by facts about the
  PARAMETERS and the LOOP STATES of the tokenizer's functions (no fact about the parser state or
  the tape is needed, so the state-agnostic logic `Sat` carries them):
    TypeError|_parse_matched_pair, UnboundLocalError|handledollarword,
    AssertionError|handledollarword, IndexError|_parse_comsub, UnboundLocalError|_parse_comsub,
    TypeError|_readtokenword, ValueError|_readtoken.
  The remaining sites depend on the state (tape, delimiter stack, recorded positions, redirect
  store): `TightState*.lean` (two of them, still for all states), `TightK*.lean` (two, with an
  invariant of the parser object), `TightWitness.lean` (the last two), see `Props/C01Tight.lean`.

  Then the walk through `Model/Tokenizer.lean` with the discipline `TokExn1`.  Functions without an excluded raise site are walked as in
  `Tokenizer.lean`; the others get a pre-condition on their parameters or an invariant of their
  loop state.
-/
import Bashlex.Props.C01.Tokenizer

namespace Bashlex.C01
open Bashlex Bashlex.M

/-- the raise sites of the tokenizer that remain after the state-agnostic walk (all depend on the
    state of the parser object; four more are excluded in `TightState*.lean`, `TightK*.lean`) -/
def tokForeign1 : List Exn :=
  [ .foreign "IndexError" "_getc",
    .foreign "IndexError" "makeheredoc",
    .foreign "IndexError" "_pop_delimiter",
    .foreign "AssertionError" "_createtoken",
    .foreign "AssertionError" "token.__init__",
    .foreign "IndexError" "_is_assignment",
    .foreign "AssertionError" "ParsingError.__init__" ]

/-- what the tokenizer may raise, tightened -/
def TokExn1 (x : Exn) : Prop :=
  (∃ m s p, x = .parsing m s p) ∨ x ∈ tokForeign1 ∨ (∃ site, x = .outOfFuel site ∧ site ∈ tokFuel)

theorem tokExn1_tokExn {x : Exn} (h : TokExn1 x) : TokExn x := by
  rcases h with h | h | h
  · exact Or.inl h
  · refine Or.inr (Or.inl ?_)
    simp only [tokForeign1, List.mem_cons, List.mem_nil_iff, or_false] at h
    rcases h with rfl | rfl | rfl | rfl | rfl | rfl | rfl <;> simp [tokForeign]
  · exact Or.inr (Or.inr h)

theorem tokExn1_mkParsingError {m s p} : TokExn1 (mkParsingError m s p) := by
  unfold mkParsingError
  split
  · exact Or.inl ⟨_, _, _, rfl⟩
  · exact Or.inr (Or.inl (by simp [tokForeign1]))

/-- discharge `TokExn1 x` for a literal `x` -/
macro "tokexn1" : tactic => `(tactic| first
  | exact tokExn1_mkParsingError
  | (refine Or.inr (Or.inl ?_); simp [tokForeign1]; done)
  | (refine Or.inr (Or.inr ⟨_, rfl, ?_⟩); simp [tokFuel]; done))

abbrev TSat1 {α : Type} (m : M α) : Prop := Sat m (fun _ => True) TokExn1

/-- known callees, post-condition `True` (extended after each lemma) -/
syntax "t1_atom" : tactic
macro_rules | `(tactic| t1_atom) => `(tactic| assumption)
macro_rules | `(tactic| t1_atom) => `(tactic| exact NoExn.sat noExn_get)
macro_rules | `(tactic| t1_atom) => `(tactic| exact NoExn.sat (noExn_set _))
macro_rules | `(tactic| t1_atom) => `(tactic| exact NoExn.sat (noExn_modify _))
macro_rules | `(tactic| t1_atom) => `(tactic| exact NoExn.sat (noExn_ask _))
macro_rules | `(tactic| t1_atom) => `(tactic| exact NoExn.sat noExn_curIdx)
macro_rules | `(tactic| t1_atom) => `(tactic| exact NoExn.sat noExn_tapeSource)
macro_rules | `(tactic| t1_atom) => `(tactic| exact NoExn.sat noExn_tapeLine)
macro_rules | `(tactic| t1_atom) => `(tactic| exact NoExn.sat noExn_tapeAdded)
macro_rules | `(tactic| t1_atom) => `(tactic| exact NoExn.sat noExn_optStrict)
macro_rules | `(tactic| t1_atom) => `(tactic| exact NoExn.sat noExn_optProceed)
macro_rules | `(tactic| t1_atom) => `(tactic| exact NoExn.sat (noExn_pure _))

/-- walk through a program: post-condition `True`, exceptions `TokExn1` -/
macro "t1_walk" : tactic => `(tactic| repeat' (first
  | with_reducible exact Sat.pure True.intro
  | with_reducible refine Sat.ite (fun _ => ?_) (fun _ => ?_)
  | with_reducible t1_atom
  | with_reducible refine sat_bindE ?_ (fun _ => ?_)
  | ((with_reducible refine Sat.raise ?_); tokexn1)
  | ((with_reducible refine Sat.foreign ?_); tokexn1)
  | ((with_reducible refine sat_loopT ?_ (fun _ => ?_) _ _); focus tokexn1)
  | split))

/-- `bind` after a known callee whose result matters (extended per lemma): the fact about the
    result is the last hypothesis of the remaining goal -/
syntax "t1_bindv" : tactic

/-- the same walk with a post-condition: a compound first component of a `bind` is entered with
    the continuation as its post-condition (`Sat.bind'`), so the leaves are the post-condition at
    the returned value, with every test on the path in the context -/
macro "t1_stepP" : tactic => `(tactic| first
  | with_reducible refine Sat.pure ?_
  | with_reducible refine Sat.ite (fun _ => ?_) (fun _ => ?_)
  | with_reducible t1_bindv
  | ((with_reducible refine sat_bindE ?_ (fun _ => ?_)); focus (with_reducible t1_atom))
  | ((with_reducible refine Sat.raise ?_); tokexn1)
  | ((with_reducible refine Sat.foreign ?_); tokexn1)
  | with_reducible refine Sat.bind' ?_
  | split)

macro "t1_walkP" : tactic => `(tactic| repeat' t1_stepP)

theorem tokExn1_foreign {a b : String} (h : Exn.foreign a b ∈ tokForeign1) : TokExn1 (.foreign a b) :=
  Or.inr (Or.inl h)

theorem tokExn1_of_tokSite {x : Exn} (h : tokSite x = true) : TokExn1 x := by
  cases x with
  | parsing m s p => exact Or.inl ⟨_, _, _, rfl⟩
  | notImplemented s => cases h
  | outOfFuel s =>
    refine Or.inr (Or.inr ⟨_, rfl, ?_⟩)
    simp only [tokSite, List.contains_cons, List.contains_nil, Bool.or_false, Bool.or_eq_true,
      beq_iff_eq] at h
    rcases h with rfl | rfl | rfl | rfl | rfl | rfl | rfl <;> simp [tokFuel]
  | foreign a b =>
    simp only [tokSite, Bool.and_eq_true, beq_iff_eq] at h
    obtain ⟨rfl, rfl⟩ := h
    exact tokExn1_foreign (by simp [tokForeign1])

/-- "raises only `TokExn1`" is closed (`sat_closed`): the functions without an excluded site come
    from the generic walk -/
theorem t1Closed : Closed tokSite (fun {α} (m : M α) => TSat1 m) (fun {α} _ (m : M α) => TSat1 m) :=
  sat_closed fun _ => tokExn1_of_tokSite

/-! ### tape access, syntax classes -/

theorem t1Tape : TapeAtoms (fun {α} (m : M α) => TSat1 m) :=
  satTape (tokExn1_foreign (by simp [tokForeign1]))

theorem t1_getc (rqn : Bool) : TSat1 (getc rqn) := t1Tape.getc rqn
macro_rules | `(tactic| t1_atom) => `(tactic| exact t1_getc _)

theorem t1_ungetc (c : Option Char) : TSat1 (ungetc c) := t1Tape.ungetc c
macro_rules | `(tactic| t1_atom) => `(tactic| exact t1_ungetc _)

theorem t1_syn (c : Char) : TSat1 (syn c) := NoExn.sat (noExn_ask _)
macro_rules | `(tactic| t1_atom) => `(tactic| exact t1_syn _)

/-- the answer of a syntax-class query is `synClass c`, in every environment -/
theorem sat1_syn (c : Char) : Sat (syn c) (fun r => r = synClass c) TokExn1 := by
  refine sat_conj (F := fun _ => True) ?_ (t1_syn c)
  intro l e
  show match (M.liftQ (Q.query (.syntab c))).run l e with
    | (.ok (a, _), _) => a = synClass c | (.error x, _) => True
  have : (M.liftQ (Q.query (.syntab c))).run l e =
      (.ok ((Q.run (Q.query (.syntab c)) e).1, l), (Q.run (Q.query (.syntab c)) e).2) := by
    show Q.run (Q.bind (Q.query (.syntab c)) _) e = _
    rw [Q.run_bind]; rfl
  rw [this]
  rfl

theorem sat1_shellmeta (c : Char) : Sat (shellmeta c) (fun r => r = (synClass c).metac) TokExn1 := by
  unfold shellmeta
  exact Sat.bind (sat1_syn c) (fun r hr => Sat.pure (by rw [hr]))
theorem sat1_shellquote (c : Char) : Sat (shellquote c) (fun r => r = (synClass c).quote) TokExn1 := by
  unfold shellquote
  exact Sat.bind (sat1_syn c) (fun r hr => Sat.pure (by rw [hr]))
theorem sat1_shellexp (c : Char) : Sat (shellexp c) (fun r => r = (synClass c).exp) TokExn1 := by
  unfold shellexp
  exact Sat.bind (sat1_syn c) (fun r hr => Sat.pure (by rw [hr]))
theorem sat1_shellbreak (c : Char) : Sat (shellbreak c) (fun r => r = (synClass c).brk) TokExn1 := by
  unfold shellbreak
  exact Sat.bind (sat1_syn c) (fun r hr => Sat.pure (by rw [hr]))

theorem t1_shellmeta (c : Char) : TSat1 (shellmeta c) := (sat1_shellmeta c).weaken (fun _ _ => True.intro) (fun _ h => h)
theorem t1_shellquote (c : Char) : TSat1 (shellquote c) := (sat1_shellquote c).weaken (fun _ _ => True.intro) (fun _ h => h)
theorem t1_shellexp (c : Char) : TSat1 (shellexp c) := (sat1_shellexp c).weaken (fun _ _ => True.intro) (fun _ h => h)
theorem t1_shellbreak (c : Char) : TSat1 (shellbreak c) := (sat1_shellbreak c).weaken (fun _ _ => True.intro) (fun _ h => h)
macro_rules | `(tactic| t1_atom) => `(tactic| exact t1_shellmeta _)
macro_rules | `(tactic| t1_atom) => `(tactic| exact t1_shellquote _)
macro_rules | `(tactic| t1_atom) => `(tactic| exact t1_shellexp _)
macro_rules | `(tactic| t1_atom) => `(tactic| exact t1_shellbreak _)
macro_rules | `(tactic| t1_bindv) => `(tactic| refine Sat.bind (sat1_shellmeta _) (fun _ _ => ?_))
macro_rules | `(tactic| t1_bindv) => `(tactic| refine Sat.bind (sat1_shellquote _) (fun _ _ => ?_))
macro_rules | `(tactic| t1_bindv) => `(tactic| refine Sat.bind (sat1_shellexp _) (fun _ _ => ?_))
macro_rules | `(tactic| t1_bindv) => `(tactic| refine Sat.bind (sat1_shellbreak _) (fun _ _ => ?_))

theorem t1_recordpos (rel : Nat) : TSat1 (recordpos rel) :=
  sat_recordpos rel
macro_rules | `(tactic| t1_atom) => `(tactic| exact t1_recordpos _)

theorem t1_matchedPairError {α : Type} (c : Char) : TSat1 (matchedPairError c : M α) :=
  wk_matchedPairError t1Closed.builds c
macro_rules | `(tactic| t1_atom) => `(tactic| exact t1_matchedPairError _)

theorem t1_loopFuel : TSat1 loopFuel := Sat.pure True.intro
theorem t1_depthFuel : TSat1 depthFuel := Sat.pure True.intro
macro_rules | `(tactic| t1_atom) => `(tactic| exact t1_loopFuel)
macro_rules | `(tactic| t1_atom) => `(tactic| exact t1_depthFuel)

/-! ### here-documents (the three `IndexError|makeheredoc` sites stay: one of them depends on the
    redirect store) -/

/-- the hypothesis `Ctx.gather` of `C01.hooks_ok` on `gatherheredocuments`: it raises only
    `TokExn1` -/
theorem t1_gatherheredocuments : TSat1 gatherheredocuments :=
  sat_gatherheredocuments (fun _ => tokExn1_of_tokSite) (tokExn1_foreign (by simp [tokForeign1]))
    (tokExn1_foreign (by simp [tokForeign1])) (Or.inr (Or.inr ⟨_, rfl, by simp [tokFuel]⟩))
macro_rules | `(tactic| t1_atom) => `(tactic| exact t1_gatherheredocuments)

/-! ### delimiter stack -/

theorem t1_pushDelimiter (c : Char) : TSat1 (pushDelimiter c) :=
  (satDelim (tokExn1_foreign (by simp [tokForeign1]))).push c
theorem t1_popDelimiter : TSat1 popDelimiter :=
  (satDelim (tokExn1_foreign (by simp [tokForeign1]))).pop
theorem t1_currentDelimiter : TSat1 currentDelimiter := wk_currentDelimiter t1Closed
macro_rules | `(tactic| t1_atom) => `(tactic| exact t1_pushDelimiter _)
macro_rules | `(tactic| t1_atom) => `(tactic| exact t1_popDelimiter)
macro_rules | `(tactic| t1_atom) => `(tactic| exact t1_currentDelimiter)

/-! ### `_parse_matched_pair`: the parameter invariant -/

/-- what every call of `_parse_matched_pair` satisfies: `parsingcommand` is passed only by the
    backquote call of `handleshellquote` (so `doublequotes` is a string there: no `TypeError`),
    `arraysub` is never passed, and `open == close` only for quote characters -/
structure MPOK (P : MPParams) : Prop where
  pc : P.parsingcommand = true → P.doublequotes.isSome = true ∧ P.opn = '`' ∧ P.close = '`'
  arr : P.arraysub = false
  oc : P.opn = P.close → isDolOpen P.opn = false

/-- what every call of `_parse_comsub` satisfies -/
def CSOK (P : CSParams) : Prop := P.opn = P.close → isDolOpen P.opn = false

theorem t1_mpInit (P : MPParams) (hP : MPOK P) : TSat1 (mpInit P) := by
  unfold mpInit; (try simp only [])
  refine Sat.ite (fun h => ?_) (fun _ => ?_)
  · have := (hP.pc h).1
    split
    · rename_i hd; rw [hd] at this; cases this
    · t1_walk
  · t1_walk

theorem t1_mpPre (P : MPParams) (lfc : Bool) (st : MPState) : TSat1 (mpPre P lfc st) :=
  wk_mpPre t1Closed.builds t1Tape P lfc st
macro_rules | `(tactic| t1_atom) => `(tactic| exact t1_mpPre _ _ _)

end Bashlex.C01
