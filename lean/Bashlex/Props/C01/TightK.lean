/-
  C01 tight: two raise sites that depend on an invariant of the whole parser object:
    IndexError|_getc         the look-ahead for backslash-newline reads `line[idx+1]`: the line
                             `tokenizer.__init__` builds never ends in a backslash (`LineOK`);
    IndexError|makeheredoc   (three sub-sites) the ids on `redirstack` index the redirect store
                             (`StoreOK`); a line returned by `readline` ends in a newline, so the
                             tab-stripping loop stops and `fullline[len(redirword)]` exists.
  Invariant `KI R` (`R`: ids known to be in the store), exception predicate `E3`; logic `HT` of
  `Props/C11/Hoare.lean`.
-/
import Bashlex.Props.C01.TightInv
import Bashlex.Props.C11.Inv
import Bashlex.Props.C11.Prims

namespace Bashlex.C01
open Bashlex Bashlex.M Bashlex.C10 Bashlex.C11

/-- the line does not end in a backslash -/
def LineOK (L : Str) : Prop := L.getLast? ≠ some '\\'

/-- the pending here-document redirects are in the store -/
def StoreOK (l : Local) : Prop := ∀ p, p ∈ l.redirstack → p.1 < l.store.length

def KI (R : List (Nat × Bool)) (l : Local) (e : Env) : Prop :=
  LineOK (tapeOf l e).line ∧ StoreOK l ∧ ∀ p, p ∈ R → p.1 < l.store.length

/-- everything but the two sites -/
def E3 (x : Exn) : Prop :=
  x ≠ .foreign "IndexError" "_getc" ∧ x ≠ .foreign "IndexError" "makeheredoc"

theorem e3_parsing {m s p} : E3 (.parsing m s p) := ⟨(fun h => by cases h), (fun h => by cases h)⟩
theorem e3_fuel {s} : E3 (.outOfFuel s) := ⟨(fun h => by cases h), (fun h => by cases h)⟩
theorem e3_ni {s} : E3 (.notImplemented s) := ⟨(fun h => by cases h), (fun h => by cases h)⟩
theorem e3_foreign {a b : String}
    (h : ((a == "IndexError" && b == "_getc") || (a == "IndexError" && b == "makeheredoc")) = false) :
    E3 (.foreign a b) := by
  constructor <;> (intro hx; cases hx; simp at h)
theorem e3_mkParsingError {m s p} : E3 (mkParsingError m s p) := by
  unfold mkParsingError
  split
  · exact e3_parsing
  · exact e3_foreign rfl

macro "e3" : tactic => `(tactic| first
  | exact e3_fuel
  | exact e3_foreign rfl
  | exact e3_mkParsingError
  | exact e3_parsing
  | exact e3_ni)

abbrev KSat {α : Type} (R : List (Nat × Bool)) (m : M α) : Prop := HT (KI R) m (fun _ => KI R) E3

/-! ### the tape keeps its line -/

theorem getc_error (rqn : Bool) : ∀ (fuel : Nat) (t : Tape), t.getc rqn fuel = .error () →
    t.line.getLast? = some '\\' := by
  intro fuel
  induction fuel with
  | zero => intro t h; simp [Tape.getc] at h
  | succ fuel ih =>
    intro t h
    unfold Tape.getc at h
    split at h
    · rename_i hlt
      split at h
      · cases h
      · rename_i c0 hc
        simp only [] at h
        split at h
        · rename_i hbs
          split at h
          · rename_i hn
            have hc0 : c0 = '\\' := by
              simp only [Bool.and_eq_true, beq_iff_eq] at hbs; exact hbs.1
            have hlen : t.line.length ≤ t.idx + 1 := List.getElem?_eq_none_iff.mp hn
            have : t.line.length - 1 = t.idx := by omega
            rw [List.getLast?_eq_getElem?, this, hc, hc0]
          · split at h
            · exact ih { line := t.line, idx := t.idx + 1 + 1, added := t.added } h
            · cases h
        · cases h
    · cases h

theorem answer_line (e : Env) (q : Query) : (e.answer q).2.tape.line = e.tape.line := by
  cases q with
  | getc rqn =>
    simp only [Env.answer]
    split
    · rename_i c t hg
      exact (getc_spec rqn _ _ _ _ hg).1
    · rfl
  | ungetc =>
    simp only [Env.answer]
    rcases ungetc_cases e.tape with h | h <;> rw [h]
  | syntab c => simp only [Env.answer]; split <;> rfl
  | _ => rfl

theorem tapeOf_line_answer (l : Local) (e : Env) (q : Query) :
    (tapeOf l (e.answer q).2).line = (tapeOf l e).line := by
  unfold tapeOf
  split
  · rfl
  · exact answer_line e q

theorem KI.put {R l e} (h : KI R l e) {t' : Tape} (h1 : t'.line = (tapeOf l e).line) :
    KI R (putL l t') (putE l e t') := by
  unfold KI StoreOK at h ⊢
  rw [tapeOf_put, putL_redirstack, putL_store, h1]
  exact h

theorem hk_ask_bind {β : Type} {R : List (Nat × Bool)} {l0 : Local} {q : Query}
    {k : Answer q → M β} {Q : β → Local → Env → Prop}
    (h : ∀ a, HTQAt (KI R) l0 (k a) Q E3) : HTQAt (KI R) l0 (M.ask q >>= k) Q E3 := by
  intro l e ⟨hl, hp⟩
  rw [M.run_bind, C10.run_ask]
  exact h _ l _ ⟨hl, ⟨by rw [tapeOf_line_answer]; exact hp.1, hp.2⟩⟩

/-! ### tape access -/

theorem k_getc (rqn : Bool) (R : List (Nat × Bool)) : KSat R (getc rqn) := by
  intro l e hk
  cases hl : l.eolLookahead with
  | some c =>
    rw [run_getc_some rqn l e c hl]
    exact hk
  | none =>
    rw [C10.run_getc rqn l e hl]
    cases hg : (tapeOf l e).getc rqn ((tapeOf l e).line.length + 1) with
    | error u => exact absurd (getc_error rqn _ _ hg) hk.1
    | ok v =>
      obtain ⟨c, t'⟩ := v
      exact hk.put (getc_spec rqn _ _ _ _ hg).1

theorem k_ungetc (c : Option Char) (R : List (Nat × Bool)) : KSat R (ungetc c) := by
  intro l e hk
  rw [C10.run_ungetc]
  rcases ungetc_cases (tapeOf l e) with h | h <;> rw [h]
  · exact hk.put rfl
  · exact hk

theorem k_bumpIdx (R : List (Nat × Bool)) : KSat R bumpIdx := by
  intro l e hk
  rw [C10.run_bumpIdx]
  exact hk.put rfl

/-- `KI R` reads the tape, `redirstack` and the store only; `E3` excludes two sites, both inside
    functions the walk assumes -/
theorem kFrame (R : List (Nat × Bool)) : Frame (KI R) E3 where
  key := fun {l e} h l' hk => by
    simp only [frameKey, Prod.mk.injEq] at hk
    obtain ⟨h1, h2, h3, -, -⟩ := hk
    unfold KI StoreOK tapeOf at h ⊢
    rw [h1, h2, h3]
    exact h
  answer := fun {l e} h q => ⟨by rw [tapeOf_line_answer]; exact h.1, h.2⟩
  parsing := fun _ _ _ => e3_parsing
  fuel := fun _ => e3_fuel
  ni := fun _ => e3_ni
  foreign := fun a b h => by
    constructor <;> (intro hx; cases hx; simp [stateSite] at h)

end Bashlex.C01
