/-
  C01 tight: the parser-state flags `regexp` and `dblparen` are never set -- the invariant
  `Fl` is a frame of the walk of `TightInv.lean` (it reads the two flags, which are in `frameKey`).
  Nothing in the tokenizer sets them: the walk at `flFrame`, with what it assumes (the here-document
  reader by the generic walk too: its writes to store and queue leave the flags alone).  Word
  expansion and the semantic actions neither set them nor raise `token.__init__` /
  `_is_assignment`: the walk at the frame `gFrame` (invariant `Fl`, exceptions `F8`).
-/
import Bashlex.Props.C01.TightFuel
import Bashlex.Props.C01.TightLvl
import Bashlex.Props.C01.TightKTok

namespace Bashlex.C01
open Bashlex Bashlex.M Bashlex.C10 Bashlex.C11

def Fl (l : Local) (_ : Env) : Prop := l.ps.regexp = false ∧ l.ps.dblparen = false

abbrev FlSat {α : Type} (m : M α) : Prop := HT Fl m (fun _ => Fl) ETrue

theorem Fl.key {l : Local} {e : Env} (h : Fl l e) (l' : Local) (hk : frameKey l' = frameKey l) : Fl l' e := by
  simp only [frameKey, Prod.mk.injEq] at hk
  obtain ⟨-, -, -, h4, h5⟩ := hk
  exact ⟨h4.trans h.1, h5.trans h.2⟩

theorem flFrame : Frame Fl ETrue where
  key := Fl.key
  answer := fun h _ => h
  parsing := fun _ _ _ => True.intro
  fuel := fun _ => True.intro
  ni := fun _ => True.intro
  foreign := fun _ _ _ => True.intro

theorem fl_ask (q : Query) : FlSat (M.ask q) := i_ask flFrame q

/-- the flags are not the tape -/
theorem flTape : TapeAtoms Fl ETrue :=
  .of_writes flFrame.closed (HT.foreign True.intro) (fun _ => htq_set fun _ h => h)
    (fun _ => htq_set fun _ h => h)

theorem fl_getc (rqn : Bool) : FlSat (getc rqn) := flTape.getc rqn
theorem fl_ungetc (c : Option Char) : FlSat (ungetc c) := flTape.ungetc c
theorem fl_bumpIdx : FlSat bumpIdx := flTape.bumpIdx

theorem fl_curIdx : FlSat curIdx := i_curIdx flFrame
theorem fl_tapeLine : FlSat tapeLine := i_tapeLine flFrame
theorem fl_optStrict : FlSat optStrict := i_optStrict flFrame
theorem fl_peekc (rqn : Bool) : FlSat (peekc rqn) := i_peekc flFrame flTape rqn
theorem fl_loopFuel : FlSat loopFuel := i_loopFuel flFrame
theorem fl_readline (b : Bool) : FlSat (readline b) := i_readline flFrame flTape b
theorem fl_recordpos (rel : Nat) : FlSat (recordpos rel) := i_recordpos flFrame rel
end Bashlex.C01

namespace Bashlex.C01
open Bashlex Bashlex.M Bashlex.C10 Bashlex.C11

theorem fl_makeheredoc (id : Nat) (kill : Bool) : FlSat (makeheredoc id kill) :=
  wk_makeheredoc flFrame.closed.tok flTape (fun _ _ => htq_set (fun _ h => h))
    (HT.foreign True.intro) id kill

theorem fl_gatherheredocuments : FlSat gatherheredocuments :=
  wk_gatherheredocuments flFrame.closed.tok flTape (HT.raise True.intro) fl_optStrict fl_makeheredoc
    (fun _ => HT.modify (fun _ _ h => h))

theorem fl_tapeSource : FlSat tapeSource := i_tapeSource flFrame
theorem fl_tapeAdded : FlSat tapeAdded := i_tapeAdded flFrame
theorem fl_optProceed : FlSat optProceed := i_optProceed flFrame

theorem flTok : TokAtoms Fl ETrue :=
  ⟨True.intro, True.intro, True.intro, True.intro, fl_gatherheredocuments⟩

/-- `token()` never sets `regexp` / `dblparen` -/
theorem fl_nextToken : FlSat nextToken := i_nextToken flFrame flTape flTok

end Bashlex.C01

namespace Bashlex.C01
open Bashlex Bashlex.M Bashlex.C10 Bashlex.C11

abbrev GSat {α : Type} (m : M α) : Prop := HT Fl m (fun _ => Fl) F8

theorem gFrame : Frame Fl F8 where
  key := Fl.key
  answer := fun h _ => h
  parsing := fun _ _ _ => f8_parsing
  fuel := fun _ => f8_fuel
  ni := fun _ => f8_ni
  foreign := fun a b h => by
    constructor <;> (intro hx; cases hx; simp [stateSite] at h)

theorem g_ask (q : Query) : GSat (M.ask q) := i_ask gFrame q

theorem hg_ask_bind {β : Type} {l0 : Local} {q : Query}
    {k : Answer q → M β} {Q : β → Local → Env → Prop}
    (h : ∀ a, HTQAt Fl l0 (k a) Q F8) : HTQAt Fl l0 (M.ask q >>= k) Q F8 :=
  i_ask_bind gFrame h

theorem g_of {α : Type} {m : M α} (h1 : FlSat m) (h2 : F8Sat m) : GSat m :=
  lift8 (HT.exn h1 (fun _ _ => True.intro)) h2

theorem g_tapeSource : GSat tapeSource := i_tapeSource gFrame
theorem g_curIdx : GSat curIdx := i_curIdx gFrame
theorem g_gatherheredocuments : GSat gatherheredocuments := g_of fl_gatherheredocuments f8_gatherheredocuments

/-- the nested parser keeps the invariant of its caller -/
abbrev NPF (np : NestedParse) : Prop := ∀ s b, GSat (np s b)

variable {np : NestedParse}

theorem g_expandwordinternal (hnp : NPF np) (tok : Token) (qd : Bool) :
    GSat (expandwordinternal np tok qd) :=
  i_expandwordinternal gFrame hnp (f8_foreign rfl) tok qd

/-- **every semantic action** keeps `Fl` and raises nothing excluded by `F8` -/
theorem g_action (hnp : NPF np) (fname : String) (args : List SVal) :
    GSat (action np fname args) :=
  i_action gFrame hnp (f8_foreign rfl) g_gatherheredocuments (fun h _ _ => h) fname args

end Bashlex.C01
