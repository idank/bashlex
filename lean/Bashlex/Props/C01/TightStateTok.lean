/-
  C01 tight: the tokenizer keeps every `PD n d` (see `TightState.lean`).
  Below `_readtokenword` by the walk for closed predicates, except the four functions that push a
  delimiter, scan, and pop it again: between the two the stack is another one.  Then
  `_readtokenword`, `_readtoken`, `token()`: `token()` records two positions before it pops two,
  from whatever state it is entered in.
-/
import Bashlex.Props.C01.TightState

namespace Bashlex.C01
open Bashlex Bashlex.M Bashlex.C10 Bashlex.C11

/-! ### here-documents -/

/-- the redirect store and the queue are not read by `PD` -/
theorem pd_gatherheredocuments (n : Nat) (d : List Char) : PSat n d gatherheredocuments :=
  wk_gatherheredocuments PSat.closed PSat.tape (fun _ _ => HT.raise e2_fuel) pd_optStrict
    (wk_makeheredoc PSat.closed PSat.tape (fun _ _ _ _ => htq_set (fun _ h => h)) (pd_foreign rfl))
    (fun _ _ _ => HT.modify (fun _ _ h => h)) n d
macro_rules | `(tactic| pd_atom) => `(tactic| exact pd_gatherheredocuments _ _)

/-! ### `_parse_matched_pair`, `_parse_comsub` -/

theorem pd_mpPost {pmp : MPParams → M Str} {pcs : CSParams → M Str}
    (hpmp : ∀ P n d, PSat n d (pmp P)) (hpcs : ∀ P n d, PSat n d (pcs P)) (P : MPParams)
    (rdquote : Bool) (st : MPState) (c : Char) (n : Nat) (d : List Char) :
    PSat n d (mpPost pmp pcs P rdquote st c) := by
  have hd := wk_handledollarword PSat.closed.builds (pd_foreign rfl) (pd_foreign rfl) hpmp hpcs
  unfold mpPost; (try simp only []); pd_walk

theorem pd_csPost {pmp : MPParams → M Str} {pcs : CSParams → M Str}
    (hpmp : ∀ P n d, PSat n d (pmp P)) (hpcs : ∀ P n d, PSat n d (pcs P)) (P : CSParams)
    (st : CSState) (c : Char) (n : Nat) (d : List Char) : PSat n d (csPost pmp pcs P st c) := by
  unfold csPost; (try simp only []); pd_walk

theorem pd_pmp_pcs (fuel : Nat) : (∀ P n d, PSat n d (parseMatchedPair fuel P)) ∧
    (∀ P n d, PSat n d (parseComsub fuel P)) :=
  wk_pmp_pcs PSat.closed.builds PSat.tape (wk_mpInit PSat.closed.builds (pd_foreign rfl))
    (fun hpmp hpcs => pd_mpPost hpmp hpcs)
    (wk_csPre PSat.closed.builds
      (wk_csA PSat.closed.builds PSat.tape (wk_csDelimMatches PSat.closed.builds (pd_foreign rfl)))
      (wk_csB PSat.closed.builds PSat.tape (pd_foreign rfl))
      (wk_csC PSat.closed.builds PSat.tape (pd_foreign rfl)))
    (fun hpmp hpcs => pd_csPost hpmp hpcs) fuel

theorem pd_parseMatchedPair (fuel : Nat) (P : MPParams) (n : Nat) (d : List Char) :
    PSat n d (parseMatchedPair fuel P) := (pd_pmp_pcs fuel).1 P n d
theorem pd_parseComsub (fuel : Nat) (P : CSParams) (n : Nat) (d : List Char) :
    PSat n d (parseComsub fuel P) := (pd_pmp_pcs fuel).2 P n d
macro_rules | `(tactic| pd_atom) => `(tactic| exact pd_parseMatchedPair _ _ _ _)
macro_rules | `(tactic| pd_atom) => `(tactic| exact pd_parseComsub _ _ _ _)

/-! ### words -/

theorem pd_isAssignment (s : Str) (n : Nat) (d : List Char) : PSat n d (isAssignment s) :=
  wk_isAssignment PSat.closed.builds (pd_foreign rfl) s n d

theorem pd_specialcasetokens (s : Str) (n : Nat) (d : List Char) : PSat n d (specialcasetokens s) :=
  wk_specialcasetokens PSat.closed s n d
macro_rules | `(tactic| pd_atom) => `(tactic| exact pd_specialcasetokens _ _ _)

theorem pd_handleshellquote (st : RWState) (c : Char) (n : Nat) (d : List Char) :
    PSat n d (handleshellquote st c) := by
  unfold handleshellquote; (try simp only []); pd_walk

theorem pd_handleshellexp (st : RWState) (c : Char) (cd : Option Char) (n : Nat) (d : List Char) :
    PSat n d (handleshellexp st c cd) := by
  unfold handleshellexp; (try simp only []); pd_walk

theorem pd_readtokenwordStep (st : RWState) (n : Nat) (d : List Char) : PSat n d (readtokenwordStep st) :=
  wk_readtokenwordStep PSat.closed.builds PSat.tape pd_handleshellquote pd_handleshellexp
    pd_currentDelimiter st n d
macro_rules | `(tactic| pd_atom) => `(tactic| exact pd_readtokenwordStep _ _ _)

theorem pd_discardUntil (c : Char) (n : Nat) (d : List Char) : PSat n d (discardUntil c) :=
  wk_discardUntil PSat.closed.builds PSat.tape c n d
macro_rules | `(tactic| pd_atom) => `(tactic| exact pd_discardUntil _ _ _)

theorem pd_tokentypeOfChar (c : Char) (n : Nat) (d : List Char) : PSat n d (tokentypeOfChar c) :=
  wk_tokentypeOfChar PSat.closed.builds (pd_foreign rfl) c n d
macro_rules | `(tactic| pd_atom) => `(tactic| exact pd_tokentypeOfChar _ _ _)

theorem pd_readtokenMeta (c : Char) (n : Nat) (d : List Char) : PSat n d (readtokenMeta c) :=
  wk_readtokenMeta PSat.closed PSat.tape c (pd_tokentypeOfChar c) n d
macro_rules | `(tactic| pd_atom) => `(tactic| exact pd_readtokenMeta _ _ _)

end Bashlex.C01

namespace Bashlex.C01
open Bashlex Bashlex.M Bashlex.C10 Bashlex.C11

theorem pd_fwWord (st : RWState) (tok : Token) (n : Nat) (d : List Char) :
    PSat n d (fwWord st tok) :=
  wk_fwWord PSat.closed (pd_foreign rfl) pd_isAssignment st tok n d
macro_rules | `(tactic| pd_atom) => `(tactic| exact pd_fwWord _ _ _ _)

/-- `recordpos`, then exactly one `_createtoken` on every path -/
theorem pd_finishWord (st : RWState) (n : Nat) (d : List Char) :
    HT (PD (n + 1) d) (finishWord st) (fun _ => PD n d) E2 := by
  rw [finishWord_eq]; unfold fwHead; (try simp only []); pd_walk
macro_rules | `(tactic| pd_atom) => `(tactic| exact pd_finishWord _ _ _)

theorem pd_readtokenword (c : Char) (n : Nat) (d : List Char) :
    HT (PD (n + 1) d) (readtokenword c) (fun _ => PD n d) E2 := by
  unfold readtokenword; (try simp only []); pd_walk
macro_rules | `(tactic| pd_atom) => `(tactic| exact pd_readtokenword _ _ _)

/-- a bare token type is returned with its start position on the stack -/
def ReadPD (n : Nat) (d : List Char) (r : TokType ⊕ Token) : Local → Env → Prop :=
  match r with
  | .inl _ => PD (n + 1) d
  | .inr _ => PD n d

theorem pd_readtokenFrom (c : Char) (n : Nat) (d : List Char) :
    HT (PD n d) (readtokenFrom c) (ReadPD n d) E2 := by
  unfold readtokenFrom; (try simp only []); pd_walk
  all_goals exact HT.pure (fun _ _ h => h)
macro_rules | `(tactic| pd_atom) => `(tactic| exact pd_readtokenFrom _ _ _)

theorem pd_readtoken (n : Nat) (d : List Char) : HT (PD n d) readtoken (ReadPD n d) E2 := by
  rw [readtoken_cut]; (try simp only []); pd_walk
  all_goals exact HT.pure (fun _ _ h => h)

/-- **`token()`**, entered with any number of recorded positions and any delimiter stack -/
theorem pd_nextToken (n : Nat) (d : List Char) : PSat n d nextToken := by
  unfold nextToken; (try simp only [])
  refine htq_modify_bind (fun _ _ h => h) ?_
  refine HT.bind (pd_readtoken n d) (fun r => ?_)
  cases r with
  | inl ty =>
    show HT (PD (n + 1) d) _ _ _
    pd_walk
  | inr t =>
    show HT (PD n d) _ _ _
    pd_walk
    all_goals (rename_i h _; cases h)

/-- what keeps every `PD n d` raises only `E2`, from any state: every state satisfies a `PD 0 d` -/
theorem PSat.sat {α : Type} {m : M α} (h : ∀ n d, PSat n d m) : Sat m (fun _ => True) E2 := by
  intro l e
  have h := h 0 l.dstack l e ⟨Nat.zero_le _, rfl⟩
  revert h
  rcases m.run l e with ⟨r, e'⟩
  cases r with
  | ok v => exact fun _ => True.intro
  | error x => exact fun h => h

/-- **`token()` and `gatherheredocuments` never raise `AssertionError|_createtoken` or
    `IndexError|_pop_delimiter`**, in the state-agnostic form (all states, all environments) -/
theorem sat2_nextToken : Sat nextToken (fun _ => True) E2 := PSat.sat pd_nextToken

theorem sat2_gatherheredocuments : Sat gatherheredocuments (fun _ => True) E2 :=
  PSat.sat pd_gatherheredocuments

/-- what the tokenizer may raise, tightened further: four foreign sites are left -/
def TokExn2 (x : Exn) : Prop := TokExn1 x ∧ E2 x

/-- two exception disciplines of the same computation hold together -/
theorem sat_andE {α : Type} {m : M α} {P : α → Prop} {E F : Exn → Prop}
    (h1 : Sat m P E) (h2 : Sat m P F) : Sat m P (fun x => E x ∧ F x) := by
  intro l e
  have a1 := h1 l e
  have a2 := h2 l e
  rcases hr : m.run l e with ⟨r, e'⟩
  rw [hr] at a1 a2
  cases r with
  | ok v => exact a1
  | error x => exact ⟨a1, a2⟩

/-- the hypothesis `hTok` of `C01.hooks_ok` on the token source, tightened -/
theorem t2_nextToken : Sat nextToken (fun _ => True) TokExn2 := sat_andE t1_nextToken sat2_nextToken
/-- the hypothesis `Ctx.gather` of `C01.hooks_ok` on `gatherheredocuments`, tightened -/
theorem t2_gatherheredocuments : Sat gatherheredocuments (fun _ => True) TokExn2 :=
  sat_andE t1_gatherheredocuments sat2_gatherheredocuments

end Bashlex.C01
