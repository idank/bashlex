/-
  C01 tight: `_readtoken` and `token()` from a state with an empty look-ahead slot and the
  flags `regexp` / `dblparen` off: neither `token.__init__` nor `_is_assignment` raises.
-/
import Bashlex.Props.C01.TightLvlWord
import Bashlex.Props.C01.TightFl
import Bashlex.Props.C01.TightMo

namespace Bashlex.C01
open Bashlex Bashlex.M Bashlex.C10 Bashlex.C11 Bashlex.C03.Tok Bashlex.C04.TTP Bashlex.C05.TG
set_option linter.unusedSectionVars false

/-! ## `_readtoken`'s meta-character block -/

section
variable {L : Str} {sr : List RedirCell} {rk : List (Nat × Bool)} {ps : List Nat} {a : Nat}

/-- what `readtokenMeta c` leaves, entered right after `c` was read at position `a`: the cursor
    beyond `a`; if it returns `none`, `c` is `<` or `>` and the cursor is exactly on a `(` -/
def MetaQ (L : Str) (sr : List RedirCell) (rk : List (Nat × Bool)) (a : Nat) (c : Char)
    (r : Option TokType) (l : Local) (e : Env) : Prop :=
  W L sr rk [a] (a + 1) l e ∧
  (r = none → (c = '<' ∨ c = '>') ∧ ∃ i, a + 1 ≤ i ∧ TpS L sr rk [a] i l e ∧ L[i]? = some '(')

/-- the exact cursor from C04's walk of the operators, store and queue from C03's level walk -/
theorem meta8 {c : Char} (hnl : NL L) (hc : L[a]? = some c) (hne : c ≠ '\n') :
    HT (TpS L sr rk [a] (a + 1)) (readtokenMeta c) (MetaQ L sr rk a c) F8 := by
  have h1 : HT (TpS L sr rk [a] (a + 1)) (readtokenMeta c) (C04.TTP.MetaQ L a c) ET :=
    HT.pre (readtokenMeta_tt hnl hc hne) (fun _ _ h => h.1)
  have h2 := HT.pre (w_readtokenMeta (L := L) (sr := sr) (rk := rk) (ps := [a]) (k := a + 1)
    (by have := hnl a c hc hne; omega) c) (fun l e h => W.iff_tps.mpr ⟨a + 1, Nat.le_refl _, h⟩)
  refine HT.post (lift8 (ht_and h1 h2) (f8_readtokenMeta c)) ?_
  rintro r l e ⟨⟨j, htp, hr⟩, _, hw⟩
  refine ⟨hw, fun hn => ?_⟩
  subst hn
  exact ⟨hr.1, j, hr.2.1, ⟨htp, hw.2.2.2.2.1, hw.2.2.2.2.2.1⟩, hr.2.2.2⟩

/-! ## `_readtoken` -/

/-- the state `token()` is entered in -/
def P0 (L : Str) (sr : List RedirCell) (rk : List (Nat × Bool)) (l : Local) (e : Env) : Prop :=
  W L sr rk [] 0 l e ∧ Fl l e

/-- the character in hand was read at `cursor - 1`; a backslash in hand is not followed by a newline -/
def CharAt (L : Str) (c : Option Char) (l : Local) (e : Env) : Prop :=
  ∀ ch, c = some ch → 1 ≤ (tapeOf l e).idx ∧ L[(tapeOf l e).idx - 1]? = some ch ∧
    (ch = '\\' → L[(tapeOf l e).idx]? ≠ some '\n')

theorem getcC : HT (P0 L sr rk) (getc true) (fun c l e => P0 L sr rk l e ∧ CharAt L c l e) F8 := by
  intro l e ⟨hw, hf⟩
  obtain ⟨i, _, ht⟩ := W.iff_tps.mp hw
  have h1 := getc_x true l e ht
  have h2 := fl_getc true l e hf
  have h3 := f8_getc true l e
  rcases hr : (getc true).run l e with ⟨r, e'⟩
  rw [hr] at h1 h2 h3
  cases r with
  | error x => exact h3
  | ok v =>
    obtain ⟨c, l'⟩ := v
    obtain ⟨j, ⟨hg, hbs⟩, ht'⟩ := h1
    refine ⟨⟨W.iff_tps.mpr ⟨j, Nat.zero_le _, ht'⟩, h2⟩, fun ch hch => ?_⟩
    obtain ⟨g1, g2, _⟩ := hg.char ch hch
    rw [ht'.1.2.1]
    exact ⟨by omega, g2, fun hb => hbs rfl (by rw [hch, hb])⟩

/-- what `_readtoken` returns: a bare type with the start on the stack and the cursor beyond it,
    or a token -/
def RdQ (r : TokType ⊕ Token) (l : Local) (e : Env) : Prop :=
  match r with
  | .inl _ => ∃ a, Mo a l e
  | .inr _ => True

theorem nlTail {a : Nat} {f : Local → Local} (hf : ∀ l e, Mo a l e → Mo a (f l) e) (c : Char) :
    HT (Mo a) (do
      gatherheredocuments
      modify f
      let t ← tokentypeOfChar c
      pure (Sum.inl t) : M (TokType ⊕ Token)) RdQ F8 := by
  refine HT.bind (lift8 (HT.exn (mo_gatherheredocuments a) (fun _ _ => True.intro)) f8_gatherheredocuments)
    (fun _ => ?_)
  refine HT.bind (Q := fun _ => Mo a) (HT.modify hf) (fun _ => ?_)
  refine HT.bind (Q := fun _ => Mo a) ?_ (fun t => HT.pure (fun l e h => ⟨a, h⟩))
  unfold tokentypeOfChar
  split
  · exact HT.pure (fun _ _ h => h)
  · exact HT.foreign (f8_foreign rfl)

/-- exact cursor, recorded start, flags off -/
def WF (L : Str) (sr : List RedirCell) (rk : List (Nat × Bool)) (a i : Nat) (l : Local) (e : Env) : Prop :=
  TpS L sr rk [a] i l e ∧ Fl l e

instance {i : Nat} : EnvStable (WF L sr rk a i) :=
  ⟨fun l e e' h h1 h2 => ⟨EnvStable.env l e e' h.1 h1 h2, h.2⟩⟩

theorem sm_val {I : Local → Env → Prop} [EnvStable I] (c : Char) :
    HT I (shellmeta c) (fun r l e => r = (synClass c).metac ∧ I l e) F8 := by
  unfold shellmeta
  refine HT.bind (w8 (syn_val c) (NoExn.sat (noExn_ask _))) (fun r => HT.pre_pure (fun hr => ?_))
  exact HT.pure (fun l e h => ⟨by rw [hr], h⟩)

theorem mo_of_w {i : Nat} {l : Local} {e : Env} (h : W L sr rk [a] i l e) (hi : a + 1 ≤ i) : Mo a l e := by
  obtain ⟨a1, a2, a3, a4, a5, a6, a7⟩ := h
  exact ⟨a4, a3, by omega⟩

/-- `_readtoken` after `recordpos 1`, on a character that is neither a blank nor a newline -/
theorem afterRec8 (hnl : L[L.length - 1]? = some '\n') (ch : Char) (hch : L[a]? = some ch)
    (hne : ch ≠ '\n') (hbl : shellblank ch = false)
    (hbs : ch = '\\' → L[a + 1]? ≠ some '\n') :
    HT (WF L sr rk a (a + 1)) (do
      let l0 ← get
      if l0.ps.regexp = true then do
          let t ← readtokenword ch
          pure (Sum.inr t)
        else do
          let m ← shellmeta ch
          let l1 ← get
          if (m && !l1.ps.dblparen) = true then do
              let r ← readtokenMeta ch
              match r with
                | some t => pure (Sum.inl t)
                | none => do
                  let l ← get
                  if (ch == '-' && (l.lastReadToken.is TokType.LESS_AND || l.lastReadToken.is TokType.GREATER_AND)) = true then do
                      let t ← tokentypeOfChar ch
                      pure (Sum.inl t)
                    else do
                      let t ← readtokenword ch
                      pure (Sum.inr t)
            else do
              let l ← get
              if (ch == '-' && (l.lastReadToken.is TokType.LESS_AND || l.lastReadToken.is TokType.GREATER_AND)) = true then do
                  let t ← tokentypeOfChar ch
                  pure (Sum.inl t)
                else do
                  let t ← readtokenword ch
                  pure (Sum.inr t) : M (TokType ⊕ Token)) RdQ F8 := by
  have hNL : NL L := C03.nl_of_getLast fun c hc => by
    rw [List.getLast?_eq_getElem?, hnl] at hc; exact (Option.some.inj hc).symm
  have hlen : a + 2 ≤ L.length := hNL a ch hch hne
  refine HT.get_bind (fun l0 => ?_)
  intro l e ⟨hl, hp⟩
  subst hl
  have hr : l.ps.regexp = false := hp.2.1
  simp only [hr, Bool.false_eq_true, if_false]
  refine (?key : HT (WF L sr rk a (a + 1)) _ RdQ F8) l e hp
  refine HT.bind (sm_val (I := WF L sr rk a (a + 1)) ch) (fun m => HT.pre_pure (fun hm => ?_))
  refine HT.get_bind (fun l1 => ?_)
  intro l e ⟨hl, hp⟩
  subst hl
  have hd : l.ps.dblparen = false := hp.2.2
  simp only [hd, Bool.not_false, Bool.and_true]
  refine (?key2 : HT (WF L sr rk a (a + 1)) _ RdQ F8) l e hp
  -- the tail shared by the last two branches
  have dashOrWord : ∀ {i : Nat}, a + 1 ≤ i →
      ((synClass ch).brk = false ∨ ch = '<' ∨ ch = '>') →
      (ch = '\\' → L[i]? ≠ some '\n') → ((ch = '<' ∨ ch = '>') → L[i]? = some '(') →
      HT (TpS L sr rk [a] i) (do
        let l ← get
        if (ch == '-' && (l.lastReadToken.is TokType.LESS_AND || l.lastReadToken.is TokType.GREATER_AND)) = true then do
            let t ← tokentypeOfChar ch
            pure (Sum.inl t)
          else do
            let t ← readtokenword ch
            pure (Sum.inr t) : M (TokType ⊕ Token)) RdQ F8 := by
    intro i hi hws hbs' hlt
    refine HT.get_bind (fun l => HTQAt.ofHT ?_)
    refine HT.ite (fun _ => ?_) (fun _ => ?_)
    · refine HT.bind (Q := fun _ => TpS L sr rk [a] i) ?_
        (fun t => HT.pure (fun l e h => ⟨a, mo_of_w (W.iff_tps.mpr ⟨i, Nat.le_refl _, h⟩) hi⟩))
      unfold tokentypeOfChar
      split
      · exact HT.pure (fun _ _ h => h)
      · exact HT.foreign (f8_foreign rfl)
    · exact HT.bind (readtokenword8 hlen hnl hi ch hws hbs' hlt) (fun t => HT.pure (fun _ _ _ => True.intro))
  refine HT.ite (fun hm1 => ?_) (fun hm1 => ?_)
  · -- a meta character
    refine HT.bind (HT.pre (meta8 hNL hch hne) (fun l e h => h.1)) (fun r => ?_)
    cases r with
    | some t => exact HT.pure (fun l e h => ⟨a, mo_of_w h.1 (Nat.le_refl _)⟩)
    | none =>
      simp only []
      intro l e hq
      obtain ⟨hc, i, hi, hwx, hpar⟩ := hq.2 rfl
      exact dashOrWord hi (Or.inr hc) (fun h => by rcases hc with h' | h' <;> (rw [h'] at h; cases h))
        (fun _ => hpar) l e hwx
  · -- not a meta character: not a break character either
    have hmf : (synClass ch).metac = false := by
      rw [← hm]
      cases hmm : m with
      | true => exact absurd hmm hm1
      | false => rfl
    have hnb : (synClass ch).brk = false := by
      simp only [synClass, Bool.or_eq_false_iff, beq_eq_false_iff_ne, ne_eq] at hmf ⊢
      simp only [shellblank, Bool.or_eq_false_iff, beq_eq_false_iff_ne, ne_eq] at hbl
      obtain ⟨⟨⟨⟨⟨⟨m1, m2⟩, m3⟩, m4⟩, m5⟩, m6⟩, m7⟩ := hmf
      exact ⟨⟨⟨⟨⟨⟨⟨⟨⟨m1, m2⟩, m3⟩, m4⟩, m5⟩, m6⟩, m7⟩, hbl.1⟩, hbl.2⟩, hne⟩
    refine HT.pre (dashOrWord (Nat.le_refl _) (Or.inl hnb) hbs
      (fun h => by rcases h with h | h <;> (rw [h] at hmf; cases hmf))) (fun l e h => h.1)

theorem readtoken8 (hnl : L ≠ [] → L[L.length - 1]? = some '\n') :
    HT (P0 L sr rk) readtoken RdQ F8 := by
  unfold readtoken
  simp only []
  refine HT.bind (Q := fun _ => P0 L sr rk) (HT.pure (fun _ _ h => h)) (fun fuel => ?_)
  refine HT.bind getcC (fun c0 => ?_)
  refine HT.bind (Q := fun c l e => (∀ ch, c = some ch → shellblank ch = false) ∧
      (P0 L sr rk l e ∧ CharAt L c l e)) ?_ (fun c1 => ?_)
  · refine HT.loop (I := fun c l e => P0 L sr rk l e ∧ CharAt L c l e) f8_fuel (fun c => ?_) fuel c0
    cases c with
    | none => exact HT.pure (fun _ _ h => ⟨(fun ch hc => by cases hc), h⟩)
    | some ch =>
      refine HT.ite (fun _ => ?_) (fun hb => HT.pure (fun _ _ h => ⟨fun ch' hc => ?_, h⟩))
      · refine HT.bind (HT.pre getcC (fun l e h => h.1)) (fun c' => HT.pure (fun _ _ h => h))
      · cases hc
        cases hbb : shellblank ch with
        | true => exact absurd hbb hb
        | false => rfl
  refine HT.pre_pure (fun hblank => ?_)
  cases c1 with
  | none => exact HT.pure (fun _ _ _ => True.intro)
  | some ch =>
    simp only [pure_bind]
    have hbl := hblank ch rfl
    refine HT.ite (fun hsharp => ?_) (fun hsharp => ?_)
    · -- a comment
      have hc : ch = '#' := by simpa using hsharp
      subst hc
      suffices key : 1 < L.length → HT (W L sr rk [] 1) _ RdQ F8 by
        intro l e ⟨⟨hw, hf⟩, hca⟩
        obtain ⟨h1, h2, h3⟩ := hca '#' rfl
        have hw1 : W L sr rk [] 1 l e := by
          obtain ⟨a1, a2, a3, a4, a5, a6, a7⟩ := hw
          exact ⟨a1, a2, a3, a4, a5, a6, h1⟩
        have hne : L ≠ [] := by
          intro hl; rw [hl] at h2; simp at h2
        have hlast := hnl hne
        have hlt : (tapeOf l e).idx - 1 < L.length := (List.getElem?_eq_some_iff.mp h2).1
        have hk : 1 < L.length := by
          by_cases heq : (tapeOf l e).idx - 1 = L.length - 1
          · rw [heq, hlast] at h2; simp at h2
          · omega
        exact key hk l e hw1
      intro hk
      refine HT.bind (w8 (w_discardUntil hk '\n') (f8_discardUntil _)) (fun _ => HT.pre_pure (fun _ => ?_))
      refine HT.bind (w8 (getc_keep false) (f8_getc _)) (fun _ => HT.pre_pure (fun _ => ?_))
      refine HT.bind (Q := fun _ l e => ∃ a, Mo a l e) ?_ (fun _ => HT.pre_exists (fun a => ?_))
      · intro l e hw
        rw [C11.run_recordpos]
        obtain ⟨a1, a2, a3, a4, a5, a6, a7⟩ := hw
        refine ⟨(tapeOf l e).idx - 1, ?_, a3, ?_⟩
        · show l.positions ++ _ = _; rw [a4]; rfl
        · show (tapeOf l e).idx - 1 + 1 ≤ (tapeOf l e).idx; omega
      · refine HT.ite (fun _ => ?_) (fun h => absurd rfl h)
        refine nlTail ?_ '\n'
        exact fun l e h => h
    · -- any other character
      suffices key : ∀ a, L[a]? = some ch → (ch = '\\' → L[a + 1]? ≠ some '\n') →
          HT (WF L sr rk a (a + 1)) _ RdQ F8 by
        intro l e ⟨⟨hw, hf⟩, hca⟩
        obtain ⟨h1, h2, h3⟩ := hca ch rfl
        rw [M.run_bind, C11.run_recordpos]
        have hidx : (tapeOf l e).idx - 1 + 1 = (tapeOf l e).idx := by omega
        obtain ⟨a1, a2, a3, a4, a5, a6, a7⟩ := hw
        refine key ((tapeOf l e).idx - 1) h2 (by rw [hidx]; exact h3) _ e
          ⟨⟨⟨a1, hidx.symm, by omega, a3, ?_⟩, a5, a6⟩, hf⟩
        show l.positions ++ _ = _; rw [a4]; rfl
      intro a hch hbs
      have hne0 : L ≠ [] := by
        intro hl; rw [hl] at hch; simp at hch
      refine HT.ite (fun _ => ?_) (fun hnn => ?_)
      · refine HT.pre (nlTail ?_ ch) (fun l e h => mo_of_w (W.iff_tps.mpr ⟨a + 1, Nat.le_refl _, h.1⟩) (Nat.le_refl _))
        exact fun l e h => h
      · have hne : ch ≠ '\n' := by
          intro h; apply hnn; rw [h]; rfl
        exact afterRec8 (hnl hne0) ch hch hne hbl hbs

/-- **`token()`** from a state with the cursor inside the line, an empty look-ahead slot, no
    recorded position and the flags off -/
theorem next8 (hnl : L ≠ [] → L[L.length - 1]? = some '\n') :
    HT (P0 L sr rk) nextToken (fun _ => TrueI) F8 := by
  unfold nextToken
  simp only []
  refine HT.bind (Q := fun _ => P0 L sr rk) (HT.modify (fun l e h => h)) (fun _ => ?_)
  refine HT.bind (readtoken8 hnl) (fun r => ?_)
  cases r with
  | inl ty =>
    refine HT.pre_exists (fun a => ?_)
    simp only []
    refine HT.bind (Q := fun _ => Pos2 a) ?_ (fun _ => ?_)
    · intro l e ⟨h1, h2, h3⟩
      rw [C11.run_recordpos]
      refine ⟨(tapeOf l e).idx, by omega, ?_⟩
      show l.positions ++ _ = _
      rw [h1]; rfl
    refine HT.bind (p_createtoken _ _ _ a) (fun cur => ?_)
    refine HT.bind (Q := fun _ => TrueI) (HT.modify (fun _ _ h => h)) (fun _ => ?_)
    exact HT.bind (Q := fun _ => TrueI) (HT.modify (fun _ _ h => h)) (fun _ => HT.pure (fun _ _ h => h))
  | inr t =>
    simp only [pure_bind]
    refine HT.bind (Q := fun _ => TrueI) (HT.modify (fun _ _ _ => True.intro)) (fun _ => ?_)
    exact HT.bind (Q := fun _ => TrueI) (HT.modify (fun _ _ h => h)) (fun _ => HT.pure (fun _ _ h => h))

end

end Bashlex.C01
