/-
  C01 tight (termination, one loop): `gatherheredocuments` never runs out of fuel.
  Its fuel is `len(redirstack) + 1`, every iteration pops one entry and `makeheredoc` does not
  touch `redirstack` (the walk of `TightInv.lean` with the invariant `RS r` = "redirstack = r").  Holds from every
  state, so the fact is state-agnostic (`Sat`).
-/
import Bashlex.Props.C01.TightKParse

namespace Bashlex.C01
open Bashlex Bashlex.M Bashlex.C10 Bashlex.C11

def RS (r : List (Nat × Bool)) (l : Local) (_ : Env) : Prop := l.redirstack = r

/-- no constraint on exceptions in the frame walk -/
def ETrue (_ : Exn) : Prop := True

abbrev RSat {α : Type} (r : List (Nat × Bool)) (m : M α) : Prop := HT (RS r) m (fun _ => RS r) ETrue

/-- `RS r` reads `redirstack` only -/
theorem rsFrame (r : List (Nat × Bool)) : Frame (RS r) ETrue where
  key := fun {l e} h l' hk => by
    simp only [frameKey, Prod.mk.injEq] at hk
    exact hk.2.1.trans h
  answer := fun h _ => h
  parsing := fun _ _ _ => True.intro
  fuel := fun _ => True.intro
  ni := fun _ => True.intro
  foreign := fun _ _ _ => True.intro

theorem rsTape (r : List (Nat × Bool)) : TapeAtoms (RS r) ETrue :=
  .of_writes (rsFrame r).closed (HT.foreign True.intro) (fun _ => htq_set fun _ h => h)
    (fun _ => htq_set fun _ h => h)

/-- `makeheredoc` does not touch `redirstack` -/
theorem rs_makeheredoc (id : Nat) (kill : Bool) (r : List (Nat × Bool)) : RSat r (makeheredoc id kill) :=
  wk_makeheredoc (rsFrame r).closed.tok (rsTape r) (fun _ _ => htq_set (fun _ h => h))
    (HT.foreign True.intro) id kill

/-! ## the exception predicate `FG` -/

/-- not the out-of-fuel marker of `gatherheredocuments` -/
def FG (x : Exn) : Prop := x ≠ .outOfFuel "gatherheredocuments"

abbrev FSat {α : Type} (m : M α) : Prop := Sat m (fun _ => True) FG

theorem fg_foreign {a b : String} : FG (.foreign a b) := fun h => by cases h

theorem fg_of_tokSite {x : Exn} (h : tokSite x = true) : FG x := by
  intro hx; subst hx; cases h

/-- "never the marker of `gatherheredocuments`" is closed (`sat_closed`) -/
theorem fClosed : Closed tokSite (fun {α} (m : M α) => FSat m) (fun {α} _ (m : M α) => FSat m) :=
  sat_closed fun _ => fg_of_tokSite

theorem f_bumpIdx : FSat bumpIdx := (satTape fg_foreign).bumpIdx
theorem f_peekc (rqn : Bool) : FSat (peekc rqn) := wk_peekc fClosed.builds (satTape fg_foreign) rqn
theorem f_makeheredoc (id : Nat) (kill : Bool) : FSat (makeheredoc id kill) :=
  sat_makeheredoc (fun _ => fg_of_tokSite) fg_foreign fg_foreign id kill

theorem frs {α : Type} {m : M α} {r : List (Nat × Bool)} (h1 : RSat r m) (h2 : FSat m) :
    HT (RS r) m (fun _ => RS r) FG :=
  HT.weaken (HT.and_sat h1 h2) (fun _ _ h => h) (fun _ _ _ h => h.2) (fun _ h => h.1)

/-- the hypothesis `Ctx.gather` of `C01.hooks_ok` on `gatherheredocuments`: it never runs out of
    its `len(redirstack) + 1` fuel -/
theorem f_gatherheredocuments : FSat gatherheredocuments := by
  intro l e
  have key : ∀ r, HT (RS r) gatherheredocuments (fun _ _ _ => True) FG := by
    intro r
    unfold gatherheredocuments; (try simp only [])
    refine HT.get_bind (fun l00 => ?_)
    intro l1 e1 ⟨hl, hrs⟩
    subst hl
    have hrs' : l1.redirstack = r := hrs
    have hlen : r.length < l1.redirstack.length + 1 := by rw [hrs']; exact Nat.lt_succ_self _
    -- the variant: the length of `redirstack`
    refine SatS.loop_ghost (I := fun _ n l e => ∃ r, r.length = n ∧ RS r l e)
      (fun _ _ => SatS.exists_pre fun r => SatS.assume fun hn => hn ▸ ?_) _ () r.length hlen l1 e1
      ⟨r, rfl, hrs⟩
    refine SatS.post (Q := fun x l e => match x with
      | .inl _ => ∃ r', r'.length < r.length ∧ RS r' l e
      | .inr _ => True) ?_ (fun x _ _ h => by
        cases x with
        | inl _ => obtain ⟨r', h1, h2⟩ := h; exact ⟨_, h1, r', rfl, h2⟩
        | inr _ => exact h)
    refine HT.get_bind (fun l0 => ?_)
    split_head
    · exact HTQAt.ofHT (HT.pure (fun _ _ _ => True.intro))
    · rename_i id kill rest heq
      refine HT.pre (P := fun l e => r = (id, kill) :: rest ∧ RS ((id, kill) :: rest) l e)
        (HT.pre_pure (fun hr => ?_))
        (fun l e h => by obtain ⟨rfl, h⟩ := h; exact ⟨(show l.redirstack = r from h).symm.trans heq, heq⟩)
      subst hr
      have tail : ∀ (f : Local → Local), (∀ l, (f l).redirstack = rest) →
          HT (RS ((id, kill) :: rest)) (do
            modify f
            makeheredoc id kill
            pure (Sum.inl ()) : M (Unit ⊕ Unit))
            (fun x l e => match x with
              | .inl _ => ∃ r', r'.length < ((id, kill) :: rest).length ∧ RS r' l e
              | .inr _ => True) FG := by
        intro f hf
        refine HT.bind (Q := fun _ => RS rest) (HT.modify (fun l e _ => hf l)) (fun _ => ?_)
        refine HT.bind (frs (rs_makeheredoc id kill rest) (f_makeheredoc id kill)) (fun _ => ?_)
        exact HT.pure (fun l e h => ⟨rest, by simp, h⟩)
      refine HT.bind (frs (i_peekc (rsFrame _) (rsTape _) _) (f_peekc _)) (fun p => ?_)
      refine HT.ite (fun _ => ?_) (fun _ => tail _ (fun _ => rfl))
      refine HT.bind (frs (i_optStrict (rsFrame _)) (NoExn.sat noExn_optStrict)) (fun b => ?_)
      refine HT.ite (fun _ => ?_) (fun _ => tail _ (fun _ => rfl))
      exact HT.bind (frs (rsTape _).bumpIdx f_bumpIdx) (fun _ => HT.pure (fun _ _ _ => True.intro))
  have h := key l.redirstack l e rfl
  revert h
  rcases gatherheredocuments.run l e with ⟨r, e'⟩
  cases r with
  | ok v => exact fun _ => True.intro
  | error x => exact fun h => h
/-- what the tokenizer's walk asks, with the fact about `gatherheredocuments` in the place of its
    fuel marker -/
theorem fWorld : TokWorld (fun {α} (m : M α) => FSat m) where
  tape := satTape fg_foreign
  delim := satDelim fg_foreign
  current := wk_currentDelimiter fClosed
  sites := Sites.of_foreign fun _ _ => Sat.foreign fg_foreign
  pos := satPos fg_foreign fg_foreign
  isAssignment := wk_isAssignment fClosed.builds (Sat.foreign fg_foreign)
  gather := f_gatherheredocuments

/-- the hypothesis `hTok` of `C01.hooks_ok` on the token source: `token()` never raises the
    marker of `gatherheredocuments` -/
theorem f_nextToken : FSat nextToken := fWorld.nextToken fClosed

end Bashlex.C01
