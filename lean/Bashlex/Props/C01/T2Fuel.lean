/-
  C01 tight 2 (termination, partial): a potential `Phi` = characters left on the tape (+1 for a
  character in the look-ahead slot); one `_getc` that returns a character lowers it.  Two loops of
  the tokenizer, stated at the level of the tokenizer's state (NOT lifted to `parse`): `_discard_until`
  and `readline(False)` never run out of fuel when `Phi + 2 < 2^30`.
-/
import Bashlex.Props.C01.TightLvl

namespace Bashlex.C01
open Bashlex Bashlex.M Bashlex.C10 Bashlex.C11 Bashlex.C03.Tok

/-- what is left to read -/
def Phi (l : Local) (e : Env) : Nat :=
  ((tapeOf l e).line.length - (tapeOf l e).idx) + (if l.eolLookahead.isSome then 1 else 0)

/-- `SatS.loop_variant` without invariant and post-condition -/
theorem ht_loop_mu {σ α : Type} {site : String} {body : σ → M (σ ⊕ α)} {E : Exn → Prop}
    (μ : σ → Local → Env → Nat)
    (hbody : ∀ s n, HT (fun l e => μ s l e = n) (body s)
      (fun r l e => match r with | .inl s' => μ s' l e < n | .inr _ => True) E) :
    ∀ fuel s, HT (fun l e => μ s l e < fuel) (M.loop site body fuel s) (fun _ _ _ => True) E :=
  fun fuel s => (SatS.loop_variant (I := fun _ _ _ => True) (R := fun _ _ _ => True)
    (fun s n => (hbody s n).weaken (fun _ _ h => h.2)
      (fun r _ _ h => by cases r <;> first | exact ⟨trivial, h⟩ | exact h) (fun _ h => h))
    fuel s).pre fun _ _ h => ⟨trivial, h⟩

/-- one `_getc`: the potential does not grow, and falls when a character is returned -/
theorem getc_phi (rqn : Bool) {E : Exn → Prop} (hE : E (.foreign "IndexError" "_getc")) (n : Nat) :
    HT (fun l e => Phi l e = n) (getc rqn)
      (fun c l e => Phi l e + (if c.isSome then 1 else 0) ≤ n) E := by
  intro l e hn
  cases hl : l.eolLookahead with
  | some c =>
    rw [run_getc_some rqn l e c hl]
    unfold Phi at hn ⊢
    rw [hl] at hn
    simp only [Option.isSome_some, if_true, Option.isSome_none, Bool.false_eq_true, if_false] at hn ⊢
    show (tapeOf l e).line.length - (tapeOf l e).idx + 0 + 1 ≤ n
    omega
  | none =>
    rw [C10.run_getc rqn l e hl]
    cases hgc : (tapeOf l e).getc rqn ((tapeOf l e).line.length + 1) with
    | error u => cases u; exact hE
    | ok v =>
      obtain ⟨c, t'⟩ := v
      obtain ⟨b1, b2, b3, b4, b5, b6⟩ := getc_spec rqn _ _ _ _ hgc
      obtain ⟨m1, m2⟩ := tape_getc_mono rqn _ _ _ _ hgc
      simp only []
      unfold Phi at hn ⊢
      rw [tapeOf_put, putL_eol, hl, b1]
      rw [hl] at hn
      simp only [Option.isSome_none, Bool.false_eq_true, if_false, Nat.add_zero] at hn ⊢
      cases c with
      | none => simp only [Option.isSome_none, Bool.false_eq_true, if_false, Nat.add_zero]; omega
      | some ch =>
        have := b5 rfl
        have := (m2 ch rfl).1
        simp only [Option.isSome_some, if_true]
        omega

/-- not the out-of-fuel marker of `site` -/
def NF (site : String) (x : Exn) : Prop := x ≠ .outOfFuel site

theorem nf_getc (site : String) : NF site (.foreign "IndexError" "_getc") := fun h => by cases h

theorem ungetc_any {E : Exn → Prop} (c : Option Char) :
    HT (fun _ _ => True) (ungetc c) (fun _ _ _ => True) E := by
  intro l e _
  rw [C10.run_ungetc]
  rcases ungetc_cases (tapeOf l e) with h | h <;> rw [h] <;> exact True.intro

/-- the potential after one `_getc`, from a bound on the potential before -/
theorem getc_budget (rqn : Bool) (site : String) (k F : Nat) :
    HT (fun l e => Phi l e + k < F) (getc rqn)
      (fun c l e => Phi l e + (if c.isSome then 1 else 0) + k < F) (NF site) := by
  intro l e h
  have := getc_phi rqn (nf_getc site) (Phi l e) l e rfl
  revert this
  rcases (getc rqn).run l e with ⟨r, e'⟩
  cases r with
  | error x => exact fun h => h
  | ok v => obtain ⟨c, l'⟩ := v; intro hh; simp only [] at hh ⊢; omega

/-- **`_discard_until`** never runs out of fuel (`Phi + 2 < 2^30`) -/
theorem discardUntil_nofuel (ch : Char) :
    HT (fun l e => Phi l e + 2 < 1073741824) (discardUntil ch) (fun _ _ _ => True)
      (NF "_discard_until") := by
  unfold discardUntil
  simp only [loopFuel, pure_bind]
  refine HT.bind (getc_budget false "_discard_until" 2 1073741824) (fun c0 => ?_)
  refine HT.bind (Q := fun _ _ _ => True) ?_ (fun c => ?_)
  · refine HT.pre (ht_loop_mu (μ := fun (c : Option Char) l e => Phi l e + (if c.isSome then 1 else 0))
      (fun c n => ?_) 1073741824 c0) (fun l e h => by omega)
    cases c with
    | none => exact HT.pure (fun _ _ _ => True.intro)
    | some x =>
      simp only []
      refine HT.ite (fun _ => ?_) (fun _ => HT.pure (fun _ _ _ => True.intro))
      intro l e hn
      have hn' : Phi l e = n - 1 := by
        simp only [Option.isSome_some, if_true] at hn; omega
      have hpos : 0 < n := by
        simp only [Option.isSome_some, if_true] at hn; omega
      have := getc_phi false (nf_getc "_discard_until") (n - 1) l e hn'
      rw [M.run_bind]
      revert this
      rcases (getc false).run l e with ⟨r, e'⟩
      cases r with
      | error x => exact fun h => h
      | ok v =>
        obtain ⟨c', l'⟩ := v
        intro hh
        show Phi l' e' + (if c'.isSome then 1 else 0) < n
        simp only [] at hh
        omega
  · refine HT.ite (fun _ => ?_) (fun _ => HT.pure (fun _ _ _ => True.intro))
    exact HT.pre (ungetc_any c) (fun _ _ _ => True.intro)

/-- **`readline(False)`** (the only call: `makeheredoc`) never runs out of fuel (`Phi + 1 < 2^30`) -/
theorem readline_nofuel :
    HT (fun l e => Phi l e + 1 < 1073741824) (readline false) (fun _ _ _ => True) (NF "readline") := by
  unfold readline
  simp only [loopFuel, pure_bind, Bool.and_false, Bool.false_eq_true, if_false]
  refine HT.pre (ht_loop_mu (μ := fun (_ : RLState) l e => Phi l e) (fun st n => ?_) 1073741824 {})
    (fun l e h => by omega)
  refine HT.bind (getc_phi true (nf_getc "readline") n) (fun c0 => ?_)
  repeat' (first
    | with_reducible refine HT.ite (fun _ => ?_) (fun _ => ?_)
    | with_reducible refine ht_pure_bind ?_)
  all_goals first
    | exact HT.pure (fun _ _ _ => True.intro)
    | (refine HT.pure (fun l e h => ?_)
       show Phi l e < n
       rename_i hnn
       cases c0 with
       | none => exact absurd rfl hnn
       | some c => simp only [Option.isSome_some, if_true] at h; omega)

/-- **the blank-skipping loop of `_readtoken`** never runs out of fuel -/
theorem readtoken_loop_nofuel (c0 : Option Char) (F : Nat) :
    HT (fun l e => Phi l e + (if c0.isSome then 1 else 0) < F)
      (M.loop "_readtoken" (fun (c : Option Char) => do
        match c with
        | some ch => if shellblank ch then return .inl (← getc true) else return .inr c
        | none => return .inr c) F c0) (fun _ _ _ => True) (NF "_readtoken") := by
  refine ht_loop_mu (μ := fun (c : Option Char) l e => Phi l e + (if c.isSome then 1 else 0))
    (fun c n => ?_) F c0
  cases c with
  | none => exact HT.pure (fun _ _ _ => True.intro)
  | some x =>
    simp only []
    refine HT.ite (fun _ => ?_) (fun _ => HT.pure (fun _ _ _ => True.intro))
    intro l e hn
    have hn' : Phi l e = n - 1 := by
      simp only [Option.isSome_some, if_true] at hn; omega
    have hpos : 0 < n := by
      simp only [Option.isSome_some, if_true] at hn; omega
    have := getc_phi true (nf_getc "_readtoken") (n - 1) l e hn'
    rw [M.run_bind]
    revert this
    rcases (getc true).run l e with ⟨r, e'⟩
    cases r with
    | error x => exact fun h => h
    | ok v =>
      obtain ⟨c', l'⟩ := v
      intro hh
      show Phi l' e' + (if c'.isSome then 1 else 0) < n
      simp only [] at hh
      omega

end Bashlex.C01

#print axioms Bashlex.C01.discardUntil_nofuel
#print axioms Bashlex.C01.readline_nofuel
#print axioms Bashlex.C01.readtoken_loop_nofuel
