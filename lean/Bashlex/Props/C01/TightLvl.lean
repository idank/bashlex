/-
  C01 tight: the exception predicate `F8` (neither `AssertionError|token.__init__` nor
  `IndexError|_is_assignment`) holds, from any state, of every function of the tokenizer that does
  not contain one of the two sites: the generic walk at `sat_closed` (`Tokenizer.lean`);
  `_createtoken`, `_is_assignment`, `finishWord`, `_readtokenword`, `_readtoken`, `token()`
  are treated below and in `TightLvl*.lean`.
  Then one `_getc` from the exact cursor (C04's `GetcR` of `Props/C04/TTGetc.lean`, whose exact-cursor
  invariant `TpS` the files `TightLvl*.lean` use wherever the level `W` of C03 is not enough), and the
  part of `_readtokenword` after `# got_token` (`finishWord`): with a non-empty `tokenword` and
  the cursor beyond the recorded start, neither `token.__init__` nor `_is_assignment` raises.
-/
import Bashlex.Props.C01.Tokenizer
import Bashlex.Props.C03.TokRead
import Bashlex.Props.C01.TightState
import Bashlex.Props.C04.TTGetc

namespace Bashlex.C01
open Bashlex Bashlex.M

def F8 (x : Exn) : Prop :=
  x ≠ .foreign "AssertionError" "token.__init__" ∧ x ≠ .foreign "IndexError" "_is_assignment"

theorem f8_parsing {m s p} : F8 (.parsing m s p) := ⟨(fun h => by cases h), (fun h => by cases h)⟩
theorem f8_fuel {s} : F8 (.outOfFuel s) := ⟨(fun h => by cases h), (fun h => by cases h)⟩
theorem f8_ni {s} : F8 (.notImplemented s) := ⟨(fun h => by cases h), (fun h => by cases h)⟩
theorem f8_foreign {a b : String}
    (h : ((a == "AssertionError" && b == "token.__init__") ||
          (a == "IndexError" && b == "_is_assignment")) = false) : F8 (.foreign a b) := by
  constructor <;> (intro hx; cases hx; simp at h)
theorem f8_mkParsingError {m s p} : F8 (mkParsingError m s p) := by
  unfold mkParsingError
  split
  · exact f8_parsing
  · exact f8_foreign rfl

macro "f8exn" : tactic => `(tactic| first
  | exact f8_fuel
  | exact f8_foreign rfl
  | exact f8_mkParsingError
  | exact f8_parsing
  | exact f8_ni)

abbrev F8Sat {α : Type} (m : M α) : Prop := Sat m (fun _ => True) F8

theorem f8_of_tokSite {x : Exn} (h : tokSite x = true) : F8 x := by
  cases x with
  | parsing m s p => exact f8_parsing
  | notImplemented s => exact f8_ni
  | outOfFuel s => exact f8_fuel
  | foreign a b =>
    simp only [tokSite, Bool.and_eq_true, beq_iff_eq] at h
    obtain ⟨rfl, rfl⟩ := h
    exact f8_foreign rfl

/-- "raises neither of the two" is closed (`sat_closed`) -/
theorem f8Closed : Closed tokSite (fun {α} (m : M α) => F8Sat m) (fun {α} _ (m : M α) => F8Sat m) :=
  sat_closed fun _ => f8_of_tokSite

theorem f8_getc (rqn : Bool) : F8Sat (getc rqn) := (satTape (f8_foreign rfl)).getc rqn
theorem f8_ungetc (c : Option Char) : F8Sat (ungetc c) := (satTape (f8_foreign rfl)).ungetc c
theorem f8_pushDelimiter (c : Char) : F8Sat (pushDelimiter c) := (satDelim (f8_foreign rfl)).push c
theorem f8_popDelimiter : F8Sat popDelimiter := (satDelim (f8_foreign rfl)).pop
theorem f8_recordpos (rel : Nat) : F8Sat (recordpos rel) := sat_recordpos rel
theorem f8_depthFuel : F8Sat depthFuel := Sat.pure True.intro

/-- what the walk of the scanners asks: every site of theirs is allowed -/
theorem f8Scan : ScanWorld (fun {α} (m : M α) => F8Sat m) where
  tape := satTape (f8_foreign rfl)
  delim := satDelim (f8_foreign rfl)
  current := wk_currentDelimiter f8Closed
  sites := ⟨Sat.foreign (f8_foreign rfl), Sat.foreign (f8_foreign rfl), Sat.foreign (f8_foreign rfl),
    Sat.foreign (f8_foreign rfl), Sat.foreign (f8_foreign rfl), Sat.foreign (f8_foreign rfl),
    Sat.foreign (f8_foreign rfl)⟩

theorem f8_gatherheredocuments : F8Sat gatherheredocuments :=
  sat_gatherheredocuments (fun _ => f8_of_tokSite) (f8_foreign rfl) (f8_foreign rfl) f8_fuel

theorem f8_parseComsub (fuel : Nat) (P : CSParams) : F8Sat (parseComsub fuel P) :=
  f8Scan.parseComsub f8Closed.builds fuel P

theorem f8_specialcasetokens (s : Str) : F8Sat (specialcasetokens s) :=
  wk_specialcasetokens f8Closed s

theorem f8_handleshellquote (st : RWState) (c : Char) : F8Sat (handleshellquote st c) :=
  f8Scan.handleshellquote f8Closed.builds st c

theorem f8_handleshellexp (st : RWState) (c : Char) (cd : Option Char) :
    F8Sat (handleshellexp st c cd) :=
  f8Scan.handleshellexp f8Closed.builds st c cd

theorem f8_readtokenwordStep (st : RWState) : F8Sat (readtokenwordStep st) :=
  f8Scan.readtokenwordStep f8Closed.builds st

theorem f8_discardUntil (c : Char) : F8Sat (discardUntil c) :=
  wk_discardUntil f8Closed.builds f8Scan.tape c

theorem f8_readtokenMeta (c : Char) : F8Sat (readtokenMeta c) :=
  f8Scan.readtokenMeta f8Closed c

end Bashlex.C01

namespace Bashlex.C01
open Bashlex Bashlex.M Bashlex.C10 Bashlex.C11 Bashlex.C03.Tok Bashlex.C04.TTP Bashlex.C05.TG

/-- an `ET`-triple of a computation that contains none of the two sites -/
theorem lift8 {α : Type} {P : Local → Env → Prop} {Q : α → Local → Env → Prop} {m : M α}
    (h : HT P m Q ET) (hs : F8Sat m) : HT P m Q F8 :=
  HT.weaken (HT.and_sat h hs) (fun _ _ h => h) (fun _ _ _ h => h.2) (fun _ h => h.1)

/-! ## one `_getc` from the exact cursor -/

section
variable {L : Str} {sr : List RedirCell} {rk : List (Nat × Bool)} {ps : List Nat} {i : Nat}

/-- C04's relation between the cursors before and after one `_getc`, and what it leaves out: a
    backslash that is delivered is not followed by a newline (the pair would have been skipped) -/
theorem getc_x (rqn : Bool) :
    HT (TpS L sr rk ps i) (getc rqn)
      (fun c l e => ∃ j, (GetcR rqn L i j c ∧ (rqn = true → c = some '\\' → L[j]? ≠ some '\n')) ∧
        TpS L sr rk ps j l e) ET := by
  intro l e h
  obtain ⟨a1, a2, a3, a4, _⟩ := h.1
  rw [run_getc rqn l e a4]
  cases hgc : (tapeOf l e).getc rqn ((tapeOf l e).line.length + 1) with
  | error u => cases u; exact True.intro
  | ok v =>
    obtain ⟨c, t'⟩ := v
    obtain ⟨b1, hg⟩ := tape_getc_R rqn _ _ _ _ hgc (by rw [a1, a2]; exact a3) (by omega)
    have hbs := (tape_getc_rel rqn _ _ _ _ hgc).2.2.2.2.1
    rw [a1, a2] at hg
    rw [a1] at hbs
    exact ⟨t'.idx, ⟨hg, fun hr hc => (hbs '\\' hc).2.2.2.2 hr rfl⟩, h.put (b1.trans a1) rfl hg.le'⟩

end

/-! ## `finishWord` -/

/-- two positions on the stack, in order -/
def Pos2 (a : Nat) (l : Local) (_ : Env) : Prop := ∃ b, a < b ∧ l.positions = [a, b]
/-- no constraint -/
def TrueI (_ : Local) (_ : Env) : Prop := True

theorem Pos2.answer {a : Nat} (l : Local) (e : Env) (q : Query) (h : Pos2 a l e) :
    Pos2 a l (e.answer q).2 := h
theorem TrueI.answer (l : Local) (e : Env) (q : Query) (h : TrueI l e) : TrueI l (e.answer q).2 := h

syntax "p_atom" : tactic
macro_rules | `(tactic| p_atom) => `(tactic| assumption)

theorem p_ask_pos (q : Query) (a : Nat) : HT (Pos2 a) (M.ask q) (fun _ => Pos2 a) F8 :=
  HT.ask Pos2.answer q
theorem p_ask_true (q : Query) : HT TrueI (M.ask q) (fun _ => TrueI) F8 :=
  HT.ask TrueI.answer q
macro_rules | `(tactic| p_atom) => `(tactic| exact p_ask_pos _ _)
macro_rules | `(tactic| p_atom) => `(tactic| exact p_ask_true _)

theorem hp_ask_bind_pos {β : Type} {a : Nat} {l0 : Local} {q : Query}
    {k : Answer q → M β} {Q : β → Local → Env → Prop}
    (h : ∀ x, HTQAt (Pos2 a) l0 (k x) Q F8) : HTQAt (Pos2 a) l0 (M.ask q >>= k) Q F8 :=
  HTQAt.ask_bind Pos2.answer h
theorem hp_ask_bind_true {β : Type} {l0 : Local} {q : Query}
    {k : Answer q → M β} {Q : β → Local → Env → Prop}
    (h : ∀ x, HTQAt TrueI l0 (k x) Q F8) : HTQAt TrueI l0 (M.ask q >>= k) Q F8 :=
  HTQAt.ask_bind TrueI.answer h

set_option hygiene false in
macro "p_step" : tactic => `(tactic| ht_step (
  (first | exact HT.pure (fun _ _ _ => True.intro) | p_atom), f8exn,
  (first | refine hp_ask_bind_pos (fun _ => ?_) | refine hp_ask_bind_true (fun _ => ?_)), exact h))

macro "p_walk" : tactic => `(tactic| repeat' p_step)

theorem p_createtoken (ty : TokType) (v : TVal) (fl : WordFlags) (a : Nat) :
    HT (Pos2 a) (createtoken ty v fl) (fun _ => TrueI) F8 := by
  intro l e ⟨b, hab, hp⟩
  rw [run_createtoken ty v fl l e a b hp, if_pos hab]
  exact True.intro
macro_rules | `(tactic| p_atom) => `(tactic| exact p_createtoken _ _ _ _)

theorem p_isAssignment (tw : Str) (htw : tw ≠ []) : HT TrueI (isAssignment tw) (fun _ => TrueI) F8 := by
  unfold isAssignment
  cases tw with
  | nil => exact absurd rfl htw
  | cons c cs => simp only []; p_walk

theorem Pos2.of_stable {a : Nat} {l0 l1 : Local} {e : Env} (h : l1.stable = l0.stable)
    (hp : Pos2 a l0 e) : Pos2 a l1 e := by
  simp only [Local.stable, Prod.mk.injEq] at h
  obtain ⟨_, _, _, _, h5, _⟩ := h
  obtain ⟨b, hab, hb⟩ := hp
  exact ⟨b, hab, by rw [h5]; exact hb⟩

theorem p_specialcasetokens (s : Str) (a : Nat) :
    HT (Pos2 a) (specialcasetokens s) (fun _ => Pos2 a) F8 :=
  wk_specialcasetokens (HT.closed (I := Pos2 a) Pos2.of_stable Pos2.answer (fun _ => f8_of_tokSite)) s
macro_rules | `(tactic| p_atom) => `(tactic| exact p_specialcasetokens _ _)

theorem p_fwEnd (fn : Bool) (tok : Token) : HT TrueI (fwEnd fn tok) (fun _ => TrueI) F8 :=
  wk_fwEnd (HT.closed (I := TrueI) (fun _ h => h) TrueI.answer (fun _ => f8_of_tokSite)) fn tok
macro_rules | `(tactic| p_atom) => `(tactic| exact p_fwEnd _ _)

theorem p_fwWord (st : RWState) (htw : st.tokenword ≠ []) (tok : Token) :
    HT TrueI (fwWord st tok) (fun _ => TrueI) F8 := by
  have hia := p_isAssignment st.tokenword htw
  unfold fwWord; (try simp only []); p_walk

/-- **`finishWord`** with the cursor beyond the recorded start and a non-empty `tokenword` -/
theorem p_finishWordBody (st : RWState) (a : Nat) (htw : st.tokenword ≠ []) :
    HT (fun l e => l.positions = [a] ∧ a < (tapeOf l e).idx) (finishWord st)
      (fun _ => TrueI) F8 := by
  have hw := p_fwWord st htw
  rw [finishWord_eq]
  unfold fwHead
  refine HT.bind (Q := fun _ => Pos2 a) ?_ (fun _ => ?_)
  · intro l e ⟨hp, hb⟩
    rw [C11.run_recordpos]
    refine ⟨(tapeOf l e).idx, hb, ?_⟩
    show l.positions ++ _ = _
    rw [hp]; rfl
  · (try simp only []); p_walk
    all_goals exact hw _

end Bashlex.C01
