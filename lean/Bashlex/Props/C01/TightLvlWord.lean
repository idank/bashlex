/-
  C01 tight: the loop of `_readtokenword` with the cursor kept BEYOND the token's start
  and `tokenword` non-empty after the first iteration.  `a` = recorded start (position of the first
  character), so the cursor is `≥ a + 1` after every iteration and `≥ a + 2` while a character read
  after the first one is in hand.  Uses the level lemmas of `Props/C03/Tok*.lean` (generic in the
  level) for the scanners, the restatement `readtokenwordStep_eq` of `Props/C04/TTWord.lean`.
-/
import Bashlex.Props.C01.TightLvl
import Bashlex.Props.C04.TTWord

namespace Bashlex.C01
open Bashlex Bashlex.M Bashlex.C10 Bashlex.C11 Bashlex.C03.Tok Bashlex.C04.TTP Bashlex.C05.TG
set_option linter.unusedSectionVars false

section
variable {L : Str} {sr : List RedirCell} {rk : List (Nat × Bool)} {ps : List Nat} {k : Nat}

/-- a level triple with exceptions in `F8` -/
theorem w8 {α : Type} {I J : Local → Env → Prop} {m : M α} {φ : α → Prop} (h : SatW I J m φ)
    (hs : F8Sat m) : HT I m (fun a l e => φ a ∧ J l e) F8 := lift8 h hs

/-- a state-agnostic fact about the result joins a triple -/
theorem val8 {α : Type} {I : Local → Env → Prop} {Q : α → Local → Env → Prop} {m : M α} {ψ : α → Prop}
    (h : HT I m Q F8) (hv : Sat m ψ) : HT I m (fun a l e => ψ a ∧ Q a l e) F8 :=
  HT.weaken (HT.and_sat h hv) (fun _ _ h => h) (fun _ _ _ h => h) (fun _ h => h.2)

/-! ### values of the syntax-class tests, any environment-stable invariant -/

variable {I : Local → Env → Prop} [EnvStable I]

theorem sq_val (c : Char) : HT I (shellquote c) (fun r l e => r = (synClass c).quote ∧ I l e) F8 := by
  unfold shellquote
  refine HT.bind (w8 (syn_val c) (NoExn.sat (noExn_ask _))) (fun r => HT.pre_pure (fun hr => ?_))
  exact HT.pure (fun l e h => ⟨by rw [hr], h⟩)
theorem sx_val (c : Char) : HT I (shellexp c) (fun r l e => r = (synClass c).exp ∧ I l e) F8 := by
  unfold shellexp
  refine HT.bind (w8 (syn_val c) (NoExn.sat (noExn_ask _))) (fun r => HT.pre_pure (fun hr => ?_))
  exact HT.pure (fun l e h => ⟨by rw [hr], h⟩)
theorem sb_val (c : Char) : HT I (shellbreak c) (fun r l e => r = (synClass c).brk ∧ I l e) F8 := by
  unfold shellbreak
  refine HT.bind (w8 (syn_val c) (NoExn.sat (noExn_ask _))) (fun r => HT.pre_pure (fun hr => ?_))
  exact HT.pure (fun l e h => ⟨by rw [hr], h⟩)

theorem cd8 : HT I currentDelimiter (fun _ l e => I l e) F8 := by
  unfold currentDelimiter
  intro l e h
  simp only [M.run_bind, C10.run_get, M.run_pure]
  exact h

theorem rwCond8 (cd peek : Option Char) : HT I (rwCond cd peek) (fun _ l e => I l e) F8 := by
  unfold rwCond
  refine HT.ite (fun _ => HT.pure (fun _ _ h => h)) (fun _ => ?_)
  refine HT.ite (fun _ => ?_) (fun _ => HT.pure (fun _ _ h => h))
  split
  · exact HT.pure (fun _ _ h => h)
  · refine HT.bind (w8 (syn_val _) (NoExn.sat (noExn_ask _))) (fun r => HT.pre_pure (fun _ => ?_))
    exact HT.pure (fun _ _ h => h)

end

/-! ### what the closures append -/

theorem sat_hsq_ne (st : RWState) (c : Char) :
    Sat (handleshellquote st c) (fun r => r.tokenword ≠ []) := by
  unfold handleshellquote
  refine Sat.bind_any (fun _ => Sat.bind_any (fun _ => Sat.bind_any (fun ttok =>
    Sat.bind_any (fun _ => Sat.pure ?_))))
  simp

theorem sat_hse_ne (st : RWState) (c : Char) (cd : Option Char) :
    Sat (handleshellexp st c cd)
      (fun x => (x.2 = true → x.1 = st) ∧ (x.2 = false → x.1.tokenword ≠ [])) := by
  unfold handleshellexp
  simp only []
  repeat' (first
    | with_reducible refine Sat.ite (fun _ => ?_) (fun _ => ?_)
    | with_reducible refine Sat.bind_any (fun _ => ?_)
    | with_reducible refine Sat.pure ?_)
  all_goals (refine ⟨fun h1 => ?_, fun h2 => ?_⟩)
  all_goals first
    | rfl
    | (cases h1; done)
    | (cases h2; done)
    | (simp; done)

/-! ### the loop -/

section
variable {L : Str} {sr : List RedirCell} {rk : List (Nat × Bool)} {a : Nat}

/-- after the first iteration: the cursor is beyond the start, `tokenword` is not empty, and a
    character in hand was read at `cursor - 1 ≥ a + 1` -/
def Later (L : Str) (sr : List RedirCell) (rk : List (Nat × Bool)) (a : Nat) (st : RWState)
    (l : Local) (e : Env) : Prop :=
  W L sr rk [a] (a + 1) l e ∧ st.tokenword ≠ [] ∧
  ∀ ch, st.c = some ch → a + 2 ≤ (tapeOf l e).idx ∧ L[(tapeOf l e).idx - 1]? = some ch

/-- the loop is left: cursor beyond the start, `tokenword` not empty -/
def ExitW (L : Str) (sr : List RedirCell) (rk : List (Nat × Bool)) (a : Nat) (st : RWState)
    (l : Local) (e : Env) : Prop :=
  W L sr rk [a] (a + 1) l e ∧ st.tokenword ≠ []

def StepPost (L : Str) (sr : List RedirCell) (rk : List (Nat × Bool)) (a : Nat)
    (r : RWState ⊕ RWState) (l : Local) (e : Env) : Prop :=
  match r with
  | .inl s => Later L sr rk a s l e
  | .inr s => ExitW L sr rk a s l e

theorem tail8 (st : RWState) (htw : st.tokenword ≠ []) :
    HT (W L sr rk [a] (a + 1)) (rwTail st) (StepPost L sr rk a) F8 := by
  unfold rwTail
  refine HT.bind (cd8 (I := W L sr rk [a] (a + 1))) (fun cd => ?_)
  refine HT.bind (lift8 (getc_w _) (f8_getc _)) (fun nc => ?_)
  refine HT.pure (fun l e h => ?_)
  exact ⟨h.1, htw, fun ch hch => h.2.1 ch hch⟩

theorem break8 (st : RWState) (c : Char) (g : Bool) (hgn : g = true → st.tokenword ≠ [])
    (hbk : g = false → (synClass c).brk = true → st.tokenword ≠ []) :
    HT (fun l e => W L sr rk [a] (a + 1) l e ∧
          (g = false → (synClass c).brk = true → a + 2 ≤ (tapeOf l e).idx))
      (rwBreak st c g) (StepPost L sr rk a) F8 := by
  unfold rwBreak
  cases g with
  | true =>
    simp only [Bool.not_true, Bool.false_eq_true, if_false]
    exact HT.pre (tail8 st (hgn rfl)) (fun l e h => h.1)
  | false =>
    simp only [Bool.not_false, if_true]
    intro l e ⟨hw, hc⟩
    by_cases hb : (synClass c).brk = true
    · -- a break character: pushed back
      have h2 : a + 2 ≤ (tapeOf l e).idx := by simpa [hb] using hc
      have hw2 : W L sr rk [a] (a + 1 + 1) l e := by
        obtain ⟨a1, a2, a3, a4, a5, a6, a7⟩ := hw
        exact ⟨a1, a2, a3, a4, a5, a6, by omega⟩
      have key : HT (W L sr rk [a] (a + 1 + 1)) (do
          if ← shellbreak c then
            ungetc (some c)
            return .inr { st with c := some c }
          else rwTail (handleescapedchar st c) : M (RWState ⊕ RWState)) (StepPost L sr rk a) F8 := by
        refine HT.bind (sb_val (I := W L sr rk [a] (a + 1 + 1)) c) (fun r => HT.pre_pure (fun hr => ?_))
        rw [hr, hb]
        simp only [if_true]
        refine HT.bind (w8 (ungetc_down (some c)) (f8_ungetc _)) (fun _ => HT.pre_pure (fun _ => ?_))
        exact HT.pure (fun l e h => ⟨h, hbk rfl hb⟩)
      exact key l e hw2
    · have hb' : (synClass c).brk = false := by
        cases h : (synClass c).brk with
        | true => exact absurd h hb
        | false => rfl
      have key : HT (W L sr rk [a] (a + 1)) (do
          if ← shellbreak c then
            ungetc (some c)
            return .inr { st with c := some c }
          else rwTail (handleescapedchar st c) : M (RWState ⊕ RWState)) (StepPost L sr rk a) F8 := by
        refine HT.bind (sb_val (I := W L sr rk [a] (a + 1)) c) (fun r => HT.pre_pure (fun hr => ?_))
        rw [hr, hb']
        simp only [Bool.false_eq_true, if_false]
        exact tail8 _ (by simp [handleescapedchar])
      exact key l e hw

/-- `rwBreak` entered at level `a + 2` -/
theorem break8' (st : RWState) (c : Char) (g : Bool) (hgn : g = true → st.tokenword ≠ [])
    (hbk : g = false → (synClass c).brk = true → st.tokenword ≠ []) :
    HT (W L sr rk [a] (a + 2)) (rwBreak st c g) (StepPost L sr rk a) F8 :=
  HT.pre (break8 st c g hgn hbk) (fun l e h => ⟨h.mono (by omega), fun _ _ => h.2.2.2.2.2.2⟩)

/-- `rwBreak` when nothing is pushed back -/
theorem break8nb (st : RWState) (c : Char) (g : Bool) (hgn : g = true → st.tokenword ≠ [])
    (hnb : g = false → (synClass c).brk = false) :
    HT (W L sr rk [a] (a + 1)) (rwBreak st c g) (StepPost L sr rk a) F8 :=
  HT.pre (break8 st c g hgn (fun hg hb => by rw [hnb hg] at hb; cases hb))
    (fun l e h => ⟨h, fun hg hb => by rw [hnb hg] at hb; cases hb⟩)

/-- **one iteration after the first** -/
theorem step8 (hlen : a + 2 ≤ L.length) (hnl : L[L.length - 1]? = some '\n') (st : RWState) :
    HT (Later L sr rk a st) (readtokenwordStep st) (StepPost L sr rk a) F8 := by
  rw [readtokenwordStep_eq]
  cases hc : st.c with
  | none =>
    simp only []
    exact HT.pure (fun l e h => ⟨h.1, h.2.1⟩)
  | some ch =>
    simp only []
    suffices key : st.tokenword ≠ [] → (ch ≠ '\n' → a + 2 < L.length) →
        HT (W L sr rk [a] (a + 2)) _ (StepPost L sr rk a) F8 by
      intro l e hL
      obtain ⟨hw, htw, hch⟩ := hL
      obtain ⟨hidx, hat⟩ := hch ch hc
      have hw2 : W L sr rk [a] (a + 2) l e := by
        obtain ⟨a1, a2, a3, a4, a5, a6, a7⟩ := hw
        exact ⟨a1, a2, a3, a4, a5, a6, hidx⟩
      have hroom : ch ≠ '\n' → a + 2 < L.length := by
        intro hne
        have hle : (tapeOf l e).idx ≤ L.length := hw.2.1
        have hlt : (tapeOf l e).idx - 1 < L.length := (List.getElem?_eq_some_iff.mp hat).1
        by_cases heq : (tapeOf l e).idx - 1 = L.length - 1
        · rw [heq, hnl] at hat
          simp only [Option.some.injEq] at hat
          exact absurd hat.symm hne
        · omega
      exact key htw hroom l e hw2
    intro htw hroom
    refine HT.ite (fun _ => ?_) (fun _ => ?_)
    · -- the character after a backslash
      exact HT.pre (tail8 _ (by simp [handleescapedchar])) (fun l e h => h.mono (by omega))
    refine HT.bind (cd8 (I := W L sr rk [a] (a + 2))) (fun cd => ?_)
    refine HT.ite (fun hbs => ?_) (fun hbs => ?_)
    · -- backslash
      have hch : ch = '\\' := by simpa using hbs
      refine HT.bind (w8 (getc_keep false) (f8_getc _)) (fun peek => HT.pre_pure (fun _ => ?_))
      refine HT.ite (fun _ => ?_) (fun _ => ?_)
      · exact HT.pre (break8' st '\n' true (fun _ => htw) (fun h => by cases h)) (fun l e h => h)
      refine HT.bind (w8 (ungetc_down peek) (f8_ungetc _)) (fun _ => HT.pre_pure (fun _ => ?_))
      refine HT.bind (rwCond8 (I := W L sr rk [a] (a + 1)) cd peek) (fun cond => ?_)
      refine HT.ite (fun _ => ?_) (fun _ => ?_)
      · exact break8nb _ ch true (fun _ => by simp [handleescapedchar]) (fun h => by cases h)
      · exact break8nb st ch false (fun h => by cases h) (fun _ => by rw [hch]; rfl)
    refine HT.bind (sq_val (I := W L sr rk [a] (a + 2)) ch) (fun q => HT.pre_pure (fun hq => ?_))
    refine HT.ite (fun hq1 => ?_) (fun hq1 => ?_)
    · -- a quote
      have hk : a + 1 < L.length := by omega
      refine HT.pre (P := W L sr rk [a] (a + 1)) ?_ (fun l e h => h.mono (by omega))
      refine HT.bind (val8 (w8 (w_handleshellquote hk st ch) (f8_handleshellquote st ch))
        (sat_hsq_ne st ch)) (fun st' => HT.pre_pure (fun hst' => ?_))
      refine HT.weaken (break8nb st' ch true (fun _ => hst') (fun h => by cases h))
        (fun l e h => h.2) (fun _ _ _ h => h) (fun _ h => h)
    refine HT.bind (sx_val (I := W L sr rk [a] (a + 2)) ch) (fun x => HT.pre_pure (fun hx => ?_))
    refine HT.ite (fun hx1 => ?_) (fun hx1 => ?_)
    · -- `$`, `<`, `>`
      have hexp : (synClass ch).exp = true := by rw [← hx]; exact hx1
      have hne : ch ≠ '\n' := by
        intro h; rw [h] at hexp; exact absurd hexp (by decide)
      have hk : a + 2 < L.length := hroom hne
      refine HT.bind (val8 (w8 (w_handleshellexp hk st ch cd) (f8_handleshellexp st ch cd))
        (sat_hse_ne st ch cd)) (fun r => HT.pre_pure (fun hr => ?_))
      refine HT.weaken (break8' r.1 ch (!r.2) ?_ ?_) (fun l e h => h.2) (fun _ _ _ h => h) (fun _ h => h)
      · intro hg
        have : r.2 = false := by simpa using hg
        exact hr.2 this
      · intro hg _
        have : r.2 = true := by simpa using hg
        rw [hr.1 this]; exact htw
    · exact break8' st ch false (fun h => by cases h) (fun _ _ => htw)

/-! ### the first iteration -/

/-- `handleshellexp` on `<` / `>` with `(` under the cursor: a process substitution is read -/
theorem hse_paren {i : Nat} (hi : a + 1 ≤ i) (hlen : a + 2 ≤ L.length) (hp : L[i]? = some '(')
    (st : RWState) (c : Char) (cd : Option Char) :
    HT (TpS L sr rk [a] i) (handleshellexp st c cd)
      (fun r l e => (r.2 = false ∧ r.1.tokenword ≠ []) ∧ W L sr rk [a] (a + 1) l e) F8 := by
  unfold handleshellexp
  refine HT.bind (lift8 (getc_x true) (f8_getc _)) (fun peek => ?_)
  suffices key : peek = some '(' → HT (W L sr rk [a] (a + 1)) _
      (fun (r : RWState × Bool) l e => (r.2 = false ∧ r.1.tokenword ≠ []) ∧ W L sr rk [a] (a + 1) l e) F8 by
    intro l e ⟨j, hg, ht⟩
    have := hg.1.le
    exact key (hg.1.exact hp (Or.inl (by decide))).1 l e (W.iff_tps.mpr ⟨j, by omega, ht⟩)
  intro hpk
  subst hpk
  have hk : a + 1 < L.length := by omega
  refine HT.ite (fun _ => ?_) (fun h => absurd (by simp) h)
  simp only []
  refine HT.ite (fun h => absurd h (by decide)) (fun _ => ?_)
  refine HT.ite (fun _ => ?_) (fun h => absurd (by rfl) h)
  refine HT.bind (w8 (w_pushDelimiter _) (f8_pushDelimiter _)) (fun _ => HT.pre_pure (fun _ => ?_))
  refine HT.bind (w8 w_depthFuel f8_depthFuel) (fun fuel => HT.pre_pure (fun _ => ?_))
  refine HT.bind (w8 (w_parseComsub hk fuel _) (f8_parseComsub fuel _)) (fun t => HT.pre_pure (fun _ => ?_))
  refine HT.bind (w8 w_popDelimiter f8_popDelimiter) (fun _ => HT.pre_pure (fun _ => ?_))
  simp only [pure_bind]
  exact HT.pure (fun l e h => ⟨⟨rfl, by simp⟩, h⟩)

/-- the state before the first iteration: the first character `c0` in hand, nothing appended,
    the cursor exactly at `i` -/
def First (L : Str) (sr : List RedirCell) (rk : List (Nat × Bool)) (a i : Nat) (c0 : Char)
    (st : RWState) (l : Local) (e : Env) : Prop :=
  (st.c = some c0 ∧ st.tokenword = [] ∧ st.passNext = false) ∧ TpS L sr rk [a] i l e

/-- **the first iteration**: something is appended and the cursor stays beyond the start -/
theorem first8 {i : Nat} (hlen : a + 2 ≤ L.length) (hi : a + 1 ≤ i) (c0 : Char)
    (hws : (synClass c0).brk = false ∨ c0 = '<' ∨ c0 = '>')
    (hbs : c0 = '\\' → L[i]? ≠ some '\n')
    (hlt : (c0 = '<' ∨ c0 = '>') → L[i]? = some '(') (st : RWState) :
    HT (First L sr rk a i c0 st) (readtokenwordStep st) (StepPost L sr rk a) F8 := by
  rw [readtokenwordStep_eq]
  refine HT.pre_pure (fun hst => ?_)
  obtain ⟨hc, htw, hpn⟩ := hst
  rw [hc]
  simp only []
  have hk : a + 1 < L.length := by omega
  refine HT.ite (fun h => absurd h (by rw [hpn]; simp)) (fun _ => ?_)
  refine HT.bind (cd8 (I := TpS L sr rk [a] i)) (fun cd => ?_)
  refine HT.ite (fun hb => ?_) (fun hb => ?_)
  · -- a backslash that no newline follows
    have hc0 : c0 = '\\' := by simpa using hb
    have hnn := hbs hc0
    refine HT.bind (lift8 (getc_x false) (f8_getc _)) (fun peek => ?_)
    suffices key : peek ≠ some '\n' → HT (W L sr rk [a] (a + 1 + 1)) _ (StepPost L sr rk a) F8 by
      intro l e ⟨j, ⟨hg, _⟩, ht⟩
      have g3 := hg.raw rfl
      have hpk : peek ≠ some '\n' := by
        intro hp
        obtain ⟨g1, g2, _⟩ := hg.char '\n' hp
        have : j - 1 = i := by omega
        rw [this] at g2
        exact hnn g2
      refine key hpk l e (W.iff_tps.mpr ⟨j, ?_, ht⟩)
      cases hp : peek with
      | none => have := (hg.atEnd hp).1; omega
      | some ch => have := (hg.char ch hp).1; omega
    intro hpk
    refine HT.ite (fun h => absurd (by simpa using h) hpk) (fun _ => ?_)
    refine HT.bind (w8 (ungetc_down peek) (f8_ungetc _)) (fun _ => HT.pre_pure (fun _ => ?_))
    refine HT.bind (rwCond8 (I := W L sr rk [a] (a + 1)) cd peek) (fun cond => ?_)
    refine HT.ite (fun _ => ?_) (fun _ => ?_)
    · exact break8nb _ c0 true (fun _ => by simp [handleescapedchar]) (fun h => by cases h)
    · exact break8nb st c0 false (fun h => by cases h) (fun _ => by rw [hc0]; rfl)
  have hne : c0 ≠ '\\' := by
    intro h; apply hb; rw [h]; rfl
  refine HT.bind (sq_val (I := TpS L sr rk [a] i) c0) (fun q => HT.pre_pure (fun hq => ?_))
  refine HT.ite (fun hq1 => ?_) (fun hq1 => ?_)
  · -- a quote
    refine HT.pre (P := W L sr rk [a] (a + 1)) ?_ (fun l e h => W.iff_tps.mpr ⟨i, hi, h⟩)
    refine HT.bind (val8 (w8 (w_handleshellquote hk st c0) (f8_handleshellquote st c0))
      (sat_hsq_ne st c0)) (fun st' => HT.pre_pure (fun hst' => ?_))
    exact HT.weaken (break8nb st' c0 true (fun _ => hst') (fun h => by cases h))
      (fun l e h => h.2) (fun _ _ _ h => h) (fun _ h => h)
  refine HT.bind (sx_val (I := TpS L sr rk [a] i) c0) (fun x => HT.pre_pure (fun hx => ?_))
  refine HT.ite (fun hx1 => ?_) (fun hx1 => ?_)
  · have hexp : (synClass c0).exp = true := by rw [← hx]; exact hx1
    rcases exp_cases hexp with h | h
    · -- `$`
      refine HT.pre (P := W L sr rk [a] (a + 1)) ?_ (fun l e h => W.iff_tps.mpr ⟨i, hi, h⟩)
      refine HT.bind (val8 (w8 (w_handleshellexp hk st c0 cd) (f8_handleshellexp st c0 cd))
        (sat_hse_ne st c0 cd)) (fun r => HT.pre_pure (fun hr => ?_))
      refine HT.weaken (break8nb r.1 c0 (!r.2) ?_ (fun _ => by rw [h]; rfl))
        (fun l e h => h.2) (fun _ _ _ h => h) (fun _ h => h)
      intro hg
      have : r.2 = false := by simpa using hg
      exact hr.2 this
    · -- `<(` or `>(`
      refine HT.bind (hse_paren hi hlen (hlt h) st c0 cd) (fun r => HT.pre_pure (fun hr => ?_))
      refine break8nb r.1 c0 (!r.2) (fun _ => hr.2) (fun hg => ?_)
      rw [hr.1] at hg; cases hg
  · -- a plain character: not a break character
    have hexp : (synClass c0).exp = false := by
      rw [← hx]
      cases hxx : x with
      | true => exact absurd hxx hx1
      | false => rfl
    have hnb : (synClass c0).brk = false := by
      rcases hws with h | h | h
      · exact h
      · rw [h] at hexp; cases hexp
      · rw [h] at hexp; cases hexp
    exact HT.pre (break8nb st c0 false (fun h => by cases h) (fun _ => hnb)) (fun l e h => W.iff_tps.mpr ⟨i, hi, h⟩)

/-- the invariant of the loop -/
def LoopI (L : Str) (sr : List RedirCell) (rk : List (Nat × Bool)) (a i : Nat) (c0 : Char)
    (st : RWState) (l : Local) (e : Env) : Prop :=
  First L sr rk a i c0 st l e ∨ Later L sr rk a st l e

/-- **`_readtokenword(c0)`**, entered with `c0` read at position `a`, the start recorded and the
    cursor at `i ≥ a + 1`: neither `token.__init__` nor `_is_assignment` raises -/
theorem readtokenword8 {i : Nat} (hlen : a + 2 ≤ L.length) (hnl : L[L.length - 1]? = some '\n')
    (hi : a + 1 ≤ i) (c0 : Char)
    (hws : (synClass c0).brk = false ∨ c0 = '<' ∨ c0 = '>')
    (hbs : c0 = '\\' → L[i]? ≠ some '\n')
    (hlt : (c0 = '<' ∨ c0 = '>') → L[i]? = some '(') :
    HT (TpS L sr rk [a] i) (readtokenword c0) (fun _ => TrueI) F8 := by
  unfold readtokenword
  refine HT.bind (Q := fun _ => TpS L sr rk [a] i) (HT.pure (fun _ _ h => h)) (fun fuel => ?_)
  refine HT.bind (Q := fun st l e => ExitW L sr rk a st l e) ?_ (fun st => ?_)
  · refine HT.pre (HT.loop (I := LoopI L sr rk a i c0) f8_fuel (fun s => ?_) fuel _)
      (fun l e h => Or.inl ⟨⟨rfl, rfl, rfl⟩, h⟩)
    have h1 := first8 (sr := sr) (rk := rk) hlen hi c0 hws hbs hlt s
    have h2 := step8 (sr := sr) (rk := rk) hlen hnl s
    have hstep : HT (LoopI L sr rk a i c0 s) (readtokenwordStep s) (StepPost L sr rk a) F8 := by
      intro l e h
      rcases h with h | h
      · exact h1 l e h
      · exact h2 l e h
    refine HT.post hstep (fun r l e h => ?_)
    cases r with
    | inl s' => exact Or.inr h
    | inr s' => exact h
  · refine HT.pre (P := fun l e => st.tokenword ≠ [] ∧ (l.positions = [a] ∧ a < (tapeOf l e).idx))
      (HT.pre_pure (fun htw => p_finishWordBody st a htw)) (fun l e h => ?_)
    obtain ⟨⟨a1, a2, a3, a4, a5, a6, a7⟩, htw⟩ := h
    exact ⟨htw, a4, by omega⟩

end

end Bashlex.C01
