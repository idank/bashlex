/-
  C01 tight: tokens (`_readtokenword`, `_readtoken`, `token()`) with the discipline
  `TokExn1`.
-/
import Bashlex.Props.C01.TightMP

namespace Bashlex.C01
open Bashlex Bashlex.M

macro_rules | `(tactic| t1_bindv) => `(tactic| refine sat_bindE (t1_parseMatchedPair _ _ ?_) (fun _ => ?_))
macro_rules | `(tactic| t1_bindv) => `(tactic| refine sat_bindE (t1_parseComsub _ _ ?_) (fun _ => ?_))

theorem t1_createtoken (ty : TokType) (v : TVal) (flags : WordFlags) : TSat1 (createtoken ty v flags) :=
  (satPos (tokExn1_foreign (by simp [tokForeign1]))
    (tokExn1_foreign (by simp [tokForeign1]))).createtoken ty v flags
macro_rules | `(tactic| t1_atom) => `(tactic| exact t1_createtoken _ _ _)

theorem t1_isAssignment (s : Str) : TSat1 (isAssignment s) :=
  wk_isAssignment t1Closed.builds (Sat.foreign (tokExn1_foreign (by simp [tokForeign1]))) s
macro_rules | `(tactic| t1_atom) => `(tactic| exact t1_isAssignment _)

theorem quote_notDolOpen {c : Char} (h : (synClass c).quote = true) : isDolOpen c = false := by
  simp only [synClass, Bool.or_eq_true, beq_iff_eq] at h
  rcases h with (rfl | rfl) | rfl <;> rfl

/-- `d['compound_assignment']` is never set -/
theorem sat1_handleshellquote (st : RWState) (c : Char) (hq : (synClass c).quote = true) :
    Sat (handleshellquote st c) (fun r => r.compoundAssignment = st.compoundAssignment) TokExn1 := by
  unfold handleshellquote; (try simp only [])
  t1_walkP
  all_goals first
    | rfl
    | (refine ⟨fun h => ⟨rfl, ?_⟩, rfl, fun _ => quote_notDolOpen hq⟩
       have : c = '`' := by simpa using h
       exact ⟨this, this⟩)

theorem sat1_handleshellexp (st : RWState) (c : Char) (cd : Option Char) :
    Sat (handleshellexp st c cd) (fun r => r.1.compoundAssignment = st.compoundAssignment) TokExn1 := by
  unfold handleshellexp; (try simp only [])
  t1_walkP
  all_goals first
    | rfl
    | exact (fun h => by simp at h)
    | (refine ⟨(fun h => by cases h), rfl, fun hoc => ?_⟩
       rename_i p h3 h2 u n
       simp only [Bool.and_eq_true, Bool.or_eq_true, beq_iff_eq] at h2
       rcases h2 with ⟨_, h | h⟩ <;> (subst h; rfl))
    | exact ⟨(fun h => by cases h), rfl, (fun h => by simp at h)⟩

macro_rules | `(tactic| t1_bindv) => `(tactic| refine Sat.bind (sat1_handleshellquote _ _ ?_) (fun _ _ => ?_))
macro_rules | `(tactic| t1_bindv) => `(tactic| refine Sat.bind (sat1_handleshellexp _ _ _) (fun _ _ => ?_))

theorem sat1_readtokenwordStep (st : RWState) (hst : st.compoundAssignment = false) :
    Sat (readtokenwordStep st)
      (Sum.elim (fun s => s.compoundAssignment = false) (fun s => s.compoundAssignment = false))
      TokExn1 := by
  unfold readtokenwordStep; (try simp only [])
  t1_walkP
  all_goals first
    | exact hst
    | (simp_all [handleescapedchar]; done)

theorem t1_fwEnd (fn : Bool) (tok : Token) : TSat1 (fwEnd fn tok) :=
  wk_fwEnd t1Closed fn tok
macro_rules | `(tactic| t1_atom) => `(tactic| exact t1_fwEnd _ _)

/-- `d['compound_assignment']` is never set: no `TypeError|_readtokenword` -/
theorem t1_fwWord (st : RWState) (hst : st.compoundAssignment = false) (tok : Token) :
    TSat1 (fwWord st tok) := by
  unfold fwWord; simp only [hst, Bool.false_eq_true, if_false]; t1_walk

theorem t1_finishWord (st : RWState) (hst : st.compoundAssignment = false) : TSat1 (finishWord st) :=
  wk_finishWord t1Closed ⟨t1_recordpos, t1_createtoken⟩ st (t1_fwWord st hst)

theorem t1_readtokenword (c : Char) : TSat1 (readtokenword c) := by
  unfold readtokenword; (try simp only [])
  refine sat_bindE t1_loopFuel (fun fuel => ?_)
  refine Sat.bind (P := fun s => s.compoundAssignment = false) ?_ (fun s hs => t1_finishWord s hs)
  refine Sat.loop (I := fun s => s.compoundAssignment = false) (by tokexn1)
    (fun s hs => sat1_readtokenwordStep s hs) _ _ rfl
macro_rules | `(tactic| t1_atom) => `(tactic| exact t1_readtokenword _)

theorem t1_discardUntil (c : Char) : TSat1 (discardUntil c) :=
  wk_discardUntil t1Closed.builds t1Tape c
macro_rules | `(tactic| t1_atom) => `(tactic| exact t1_discardUntil _)

/-- `tokentype(character)` is called on `! ( ) | ; - newline < > &` only: no `ValueError` -/
theorem t1_tokentypeOfChar (c : Char) (h : (TokType.ofChar c).isSome = true) :
    TSat1 (tokentypeOfChar c) := by
  unfold tokentypeOfChar
  split
  · exact Sat.pure True.intro
  · rename_i hn; rw [hn] at h; cases h

theorem meta_ofChar {c : Char} (h : (synClass c).metac = true) : (TokType.ofChar c).isSome = true := by
  simp only [synClass, Bool.or_eq_true, beq_iff_eq] at h
  rcases h with (((((rfl | rfl) | rfl) | rfl) | rfl) | rfl) | rfl <;> rfl

theorem t1_readtokenMeta (c : Char) (h : (synClass c).metac = true) : TSat1 (readtokenMeta c) :=
  wk_readtokenMeta t1Closed t1Tape c (t1_tokentypeOfChar c (meta_ofChar h))

macro_rules | `(tactic| t1_bindv) => `(tactic| refine sat_bindE (t1_tokentypeOfChar _ ?_) (fun _ => ?_))
macro_rules | `(tactic| t1_bindv) => `(tactic| refine sat_bindE (t1_readtokenMeta _ ?_) (fun _ => ?_))

theorem t1_readtoken : TSat1 readtoken := by
  unfold readtoken; (try simp only [])
  repeat' (first
    | ((with_reducible refine sat_bindE (sat_loopT ?_ (fun _ => ?_) _ _) (fun _ => ?_)); focus tokexn1)
    | t1_stepP)
  all_goals first
    | trivial
    | rfl
    | (simp_all; done)
    | (simp_all [TokType.ofChar]; done)
macro_rules | `(tactic| t1_atom) => `(tactic| exact t1_readtoken)

/-- the hypothesis `hTok` of `C01.hooks_ok` on the token source: `nextToken` raises only
    `TokExn1` -/
theorem t1_nextToken : TSat1 nextToken :=
  wk_nextToken t1Closed ⟨t1_recordpos, t1_createtoken⟩ t1_readtoken

end Bashlex.C01
