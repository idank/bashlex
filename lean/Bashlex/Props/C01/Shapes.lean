/-
  C01: *shapes* of semantic values — a coarsening of the sorts of `Props/C12/Sorts.lean`
  that keeps exactly what the exception discipline of the semantic actions needs (token / node /
  non-empty list / nothing, the token type, and the token facts `TF`) — and the abstract checker
  `shAction`, whose grammar obligation the kernel decides on the generated tables.
-/
import Bashlex.Props.C12.Grammar
import Bashlex.Props.C01.Tokens

namespace Bashlex.C01
open Bashlex Bashlex.C12

inductive Sh where
  | none
  | tok (ty : Option TokType)
  | node
  | optNode
  /-- a non-empty list of nodes -/
  | nodes
  /-- a list of nodes -/
  | nodes0
  deriving DecidableEq, Repr

def HasSh : Sh → SVal → Prop
  | .none, v => v = .none
  | .tok ty, v => ∃ t, v = .tok t ∧ t.ttype = ty ∧ TF t
  | .node, v => ∃ n, v = .node n
  | .optNode, v => v = .none ∨ ∃ n, v = .node n
  | .nodes, v => ∃ l, v = .nodes l ∧ l ≠ []
  | .nodes0, v => ∃ l, v = .nodes l

def shOfSrt : Srt → Sh
  | .none => .none
  | .tok ty => .tok ty
  | .node _ => .node
  | .optNode _ => .optNode
  | .nodes .ifparts => .nodes0
  | .nodes _ => .nodes

/-- shapes of grammar symbols: through the sorts, i.e. by symbol *name* -/
def shOfSymbol (sym : Nat) : Sh := shOfSrt (sortOfSymbol sym)

/-- actions built on `_makeparts`: the first right-hand-side symbol is a terminal, so the list
    of parts is not empty -/
def shParts (shapes : List Sh) : Option Sh :=
  match shapes with
  | .tok (some _) :: _ => some .node
  | _ => none

def shJoin : List Sh → Option Sh
  | [.node] => some .nodes
  | .nodes :: .tok (some _) :: rest => if rest.getLast? == some .nodes then some .nodes else none
  | _ => none

def shGroup : List Sh → Option Sh
  | [.tok (some _), .node, .tok (some _)] => some .node
  | _ => none

def shAction (fname : String) (shapes : List Sh) : Option Sh :=
  match fname with
  | "p_inputunit" => some .optNode
  | "p_word_list" =>
    match shapes with
    | [.tok (some _)] => some .nodes
    | [.nodes, .tok (some _)] => some .nodes
    | _ => none
  | "p_redirection_heredoc" =>
    match shapes with
    | [.tok (some _), .tok (some _)] => some .node
    | [.tok (some _), .tok (some _), .tok (some _)] => some .node
    | _ => none
  | "p_redirection" =>
    match shapes with
    | [.tok (some _), .tok (some _)] => some .node
    | [.tok (some _), .tok (some _), .tok (some _)] => some .node
    | _ => none
  | "p_simple_command_element" =>
    match shapes with
    | [.node] => some .nodes
    | [.tok (some _)] => some .nodes
    | _ => none
  | "p_redirection_list" =>
    match shapes with
    | [.node] => some .nodes
    | [.nodes, .node] => some .nodes
    | _ => none
  | "p_simple_command" =>
    match shapes with
    | [.nodes] => some .nodes
    | [.nodes, .nodes] => some .nodes
    | _ => none
  | "p_command" =>
    match shapes with
    | [.node] => some .node
    | [.node, .nodes] => some .node
    | [.nodes] => some .node
    | _ => none
  | "p_shell_command" =>
    match shapes with
    | [.node] => some .node
    | .tok (some ty) :: _ :: _ => if ty == .WHILE || ty == .UNTIL then some .node else none
    | _ => none
  | "p_for_command" => shParts shapes
  | "p_arith_for_command" => shParts shapes
  | "p_select_command" => shParts shapes
  | "p_case_command" => shParts shapes
  | "p_function_def" => shParts shapes
  | "p_function_body" =>
    match shapes with
    | [.node] => some .node
    | [.node, .nodes] => some .node
    | _ => none
  | "p_subshell" => shGroup shapes
  | "p_group_command" => shGroup shapes
  | "p_coproc" => shParts shapes
  | "p_if_command" => shParts shapes
  | "p_arith_command" => shParts shapes
  | "p_cond_command" => shParts shapes
  | "p_elif_clause" => some .nodes0
  | "p_case_clause" =>
    match shapes with
    | [.node] => some .nodes
    | [.nodes, .node] => some .nodes
    | _ => none
  | "p_pattern_list" =>
    match shapes with
    | [_, .nodes, .tok (some _), _] => some .node
    | [_, .tok (some _), .nodes, .tok (some _), _] => some .node
    | _ => none
  | "p_case_clause_sequence" =>
    match shapes with
    | [.node, .tok (some _)] => some .nodes
    | [.nodes, .node, .tok (some _)] => some .nodes
    | _ => none
  | "p_pattern" =>
    match shapes with
    | [.tok (some _)] => some .nodes
    | [.nodes, .tok (some _), .tok (some _)] => some .nodes
    | _ => none
  | "p_list" =>
    match shapes with
    | [_, s] => some s
    | _ => none
  | "p_compound_list" =>
    match shapes with
    | [s] => some s
    | [_, .nodes] => some .node
    | _ => none
  | "p_list0" =>
    match shapes with
    | .nodes :: .tok (some _) :: _ => some .node
    | _ => none
  | "p_list1" => shJoin shapes
  | "p_simple_list_terminator" => some .none
  | "p_list_terminator" => some .optNode
  | "p_newline_list" => some .none
  | "p_simple_list" =>
    match shapes with
    | [.nodes] => some .node
    | [.nodes, .tok (some _)] => some .node
    | _ => none
  | "p_simple_list1" => shJoin shapes
  | "p_pipeline_command" =>
    match shapes with
    | [.nodes] => some .node
    | [_, .node] => some .node
    | [_, .optNode] => some .node
    | [_, .none] => some .node
    | _ => none
  | "p_pipeline" => shJoin shapes
  | "p_timespec" => shParts shapes
  | "p_empty" => some .none
  | _ => none

/-- the grammar obligation: every production's action, on values of the shapes of its right-hand
    side, yields a value of the shape of its left-hand side -/
def shapeCheck : Bool :=
  (List.zip Gen.prodFuncs Gen.prodTable).all fun (f, (lhs, rhs)) =>
    f == "" || shAction f (rhs.map shOfSymbol) == some (shOfSymbol lhs)

theorem shape_ok : shapeCheck = true := by decide +kernel

def SVI (sym : Nat) (v : SVal) : Prop := HasSh (shOfSymbol sym) v

theorem tok_shapes (ty : TokType) : shOfSymbol ty.sym = .tok (some ty) := by
  unfold shOfSymbol; rw [tok_sorts]; rfl

theorem err_shape : shOfSymbol 1 = .tok none := by
  unfold shOfSymbol; rw [err_sort]; rfl

end Bashlex.C01
