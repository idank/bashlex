/-
  C01: exception discipline of the semantic actions.  `shAction_sound`: on arguments of
  the shapes the grammar guarantees, an action returns a value of the shape of its left-hand side,
  accepts only if it is one of the accepting actions, and raises only `Allowed` exceptions — in
  particular none of the `AttributeError` / `TypeError` / `IndexError` branches of `p.slice`,
  `_partsspan`, `p_simple_list`, `p_shell_command`, … is reachable.
-/
import Bashlex.Props.C01.Shapes
import Bashlex.Props.C12.Actions
import Bashlex.Proofs.ActionEqns
import Bashlex.Proofs.ActionHelpers

namespace Bashlex.C01
open Bashlex Bashlex.M Bashlex.LR Bashlex.C12
set_option linter.unusedSimpArgs false

variable {T : Exn → Prop}

/-- what the actions need from their surroundings -/
structure Ctx (T : Exn → Prop) (np : NestedParse) : Prop where
  word : ∀ t, TokQ t → Sat (expandword np t) (fun _ => True) (Allowed T)
  gather : Sat gatherheredocuments (fun _ => True) (Allowed T)

/-- post-condition of a non-accepting action of result shape `σ` -/
def PostN (σ : Sh) (r : SVal × Bool) : Prop := HasSh σ r.1 ∧ r.2 = false

theorem sat_of_noExn {α : Type} {m : M α} {P : α → Prop} {E : Exn → Prop} (h : NoExn m)
    (hp : ∀ a, P a) : Sat m P E :=
  (h E).weaken (fun a _ => hp a) (fun _ h => h)

theorem noExn_partsspan {parts : List Node} (h : parts ≠ []) : NoExn (partsspan parts) := by
  cases parts with
  | nil => exact absurd rfl h
  | cons a l =>
    unfold partsspan
    have hl : (a :: l).getLast? = some ((a :: l).getLast (by simp)) := List.getLast?_eq_some_getLast _
    simp only [List.head?_cons, hl]
    exact noExn_bind (noExn_nodePos _) (fun _ => noExn_bind (noExn_nodePos _) (fun _ => noExn_pure _))

theorem sat_handleAssert (b : Bool) : Sat (handleAssert b) (fun _ => True) (Allowed T) := by
  unfold handleAssert
  split
  · exact Sat.pure trivial
  · exact Sat.foreign known_handleAssert

theorem noExn_mkCompound1 {inner : Span → List Node → Node} {parts : List Node} (h : parts ≠ []) :
    NoExn (mkCompound1 inner parts) := by
  unfold mkCompound1
  exact noExn_bind (noExn_partsspan h) (fun _ => noExn_pure _)

theorem sat_mkCompound1 {inner : Span → List Node → Node} {parts : List Node} (h : parts ≠ []) :
    Sat (mkCompound1 inner parts) (HasSh .node) (Allowed T) := by
  unfold mkCompound1
  exact sat_bindN (noExn_partsspan h) (fun _ => Sat.pure ⟨_, rfl⟩)

/-! ### the simplest actions -/

theorem sh_empty {np args} : Sat (actionCore np "p_empty" args) (PostN .none) (Allowed T) := by
  rw [actionCore_p_empty]
  exact Sat.pure ⟨rfl, rfl⟩

theorem sh_newline_list {np args} : Sat (actionCore np "p_newline_list" args) (PostN .none) (Allowed T) := by
  rw [actionCore_p_newline_list]
  exact Sat.pure ⟨rfl, rfl⟩

theorem sh_simple_list_terminator {np args} :
    Sat (actionCore np "p_simple_list_terminator" args) (PostN .none) (Allowed T) := by
  rw [actionCore_p_simple_list_terminator]
  exact Sat.pure ⟨rfl, rfl⟩

theorem sh_list_terminator {np args} :
    Sat (actionCore np "p_list_terminator" args) (PostN .optNode) (Allowed T) := by
  rw [actionCore_p_list_terminator]
  split
  · split
    · exact Sat.pure ⟨Or.inr ⟨_, rfl⟩, rfl⟩
    · exact Sat.pure ⟨Or.inl rfl, rfl⟩
  · exact Sat.pure ⟨Or.inl rfl, rfl⟩

theorem sh_inputunit {np args} :
    Sat (actionCore np "p_inputunit" args) (fun r => HasSh .optNode r.1) (Allowed T) := by
  rw [actionCore_p_inputunit]; simp only []
  refine sat_bindN noExn_get (fun l => ?_)
  have hm : Sat (match PCtx.slice ⟨np, args⟩ 1 with
      | .node n => (pure (SVal.node n, true) : M (SVal × Bool))
      | _ => pure (SVal.none, false)) (fun r => HasSh .optNode r.1) (Allowed T) := by
    split
    · exact Sat.pure (Or.inr ⟨_, rfl⟩)
    · exact Sat.pure (Or.inl rfl)
  split
  · exact sat_bindN (noExn_modify _) (fun _ => hm)
  · exact hm

theorem sh_word_list {np shapes args σ} (hC : Ctx T np) (h : shAction "p_word_list" shapes = some σ)
    (ha : Forall2 HasSh shapes args) : Sat (actionCore np "p_word_list" args) (PostN σ) (Allowed T) := by
  unfold shAction at h; simp only [] at h
  split at h
  · cases h
    obtain ⟨a, rfl, ⟨t, rfl, -, ht⟩⟩ := forall2_1 ha
    rw [actionCore_p_word_list]
    simp [PCtx.len, PCtx.tokAt, PCtx.slice]
    exact Sat.map ((hC.word t ht.2).weaken (fun w _ => ⟨⟨_, rfl, by simp⟩, rfl⟩) (fun _ h => h))
  · cases h
    obtain ⟨a, b, rfl, ⟨l, rfl, hl⟩, ⟨t, rfl, -, ht⟩⟩ := forall2_2 ha
    rw [actionCore_p_word_list]
    simp [PCtx.len, PCtx.tokAt, PCtx.slice, PCtx.nodesAt]
    exact Sat.map ((hC.word t ht.2).weaken (fun w _ => ⟨⟨_, rfl, by simp⟩, rfl⟩) (fun _ h => h))
  · cases h

theorem sh_redirection_list {np shapes args σ} (h : shAction "p_redirection_list" shapes = some σ)
    (ha : Forall2 HasSh shapes args) :
    Sat (actionCore np "p_redirection_list" args) (PostN σ) (Allowed T) := by
  unfold shAction at h; simp only [] at h
  split at h
  · cases h
    obtain ⟨a, rfl, ⟨n, rfl⟩⟩ := forall2_1 ha
    rw [actionCore_p_redirection_list]
    simp [PCtx.len, PCtx.nodeAt, PCtx.slice]
    exact Sat.pure ⟨⟨_, rfl, by simp⟩, rfl⟩
  · cases h
    obtain ⟨a, b, rfl, ⟨l, rfl, hl⟩, ⟨n, rfl⟩⟩ := forall2_2 ha
    rw [actionCore_p_redirection_list]
    simp [PCtx.len, PCtx.nodeAt, PCtx.slice, PCtx.nodesAt]
    exact Sat.pure ⟨⟨_, rfl, by simp⟩, rfl⟩
  · cases h

theorem sh_simple_command {np shapes args σ} (h : shAction "p_simple_command" shapes = some σ)
    (ha : Forall2 HasSh shapes args) :
    Sat (actionCore np "p_simple_command" args) (PostN σ) (Allowed T) := by
  unfold shAction at h; simp only [] at h
  split at h
  · cases h
    obtain ⟨a, rfl, ⟨l, rfl, hl⟩⟩ := forall2_1 ha
    rw [actionCore_p_simple_command]
    simp [PCtx.len, PCtx.slice]
    exact Sat.pure ⟨⟨_, rfl, hl⟩, rfl⟩
  · cases h
    obtain ⟨a, b, rfl, ⟨l, rfl, hl⟩, ⟨r, rfl, hr⟩⟩ := forall2_2 ha
    rw [actionCore_p_simple_command]
    simp [PCtx.len, PCtx.slice, PCtx.nodesAt]
    exact Sat.pure ⟨⟨_, rfl, by simp [hl]⟩, rfl⟩
  · cases h

theorem sh_redirection_heredoc {np shapes args σ}
    (h : shAction "p_redirection_heredoc" shapes = some σ) (ha : Forall2 HasSh shapes args) :
    Sat (actionCore np "p_redirection_heredoc" args) (PostN σ) (Allowed T) := by
  unfold shAction at h; simp only [] at h
  split at h
  · cases h
    obtain ⟨a, b, rfl, ⟨t, rfl, -, -⟩, ⟨w, rfl, -, -⟩⟩ := forall2_2 ha
    rw [actionCore_p_redirection_heredoc]
    simp [PCtx.len, PCtx.tokAt, PCtx.slice, PCtx.strAt]
    exact sat_bindN noExn_get (fun l => Sat.map (sat_of_noExn (noExn_set _) (fun _ => ⟨⟨_, rfl⟩, rfl⟩)))
  · cases h
    obtain ⟨a, b, c, rfl, ⟨ti, rfl, -, -⟩, ⟨t, rfl, -, -⟩, ⟨w, rfl, -, -⟩⟩ := forall2_3 ha
    rw [actionCore_p_redirection_heredoc]
    simp [PCtx.len, PCtx.tokAt, PCtx.slice, PCtx.strAt]
    exact sat_bindN noExn_get (fun l => Sat.map (sat_of_noExn (noExn_set _) (fun _ => ⟨⟨_, rfl⟩, rfl⟩)))
  · cases h

theorem sh_redirection {np shapes args σ} (hC : Ctx T np)
    (h : shAction "p_redirection" shapes = some σ) (ha : Forall2 HasSh shapes args) :
    Sat (actionCore np "p_redirection" args) (PostN σ) (Allowed T) := by
  unfold shAction at h; simp only [] at h
  split at h
  · cases h
    obtain ⟨a, b, rfl, ⟨t, rfl, -, -⟩, ⟨o, rfl, -, ho⟩⟩ := forall2_2 ha
    rw [actionCore_p_redirection]
    simp [PCtx.len, PCtx.tokAt, PCtx.slice, PCtx.strAt]
    split
    · exact Sat.map ((hC.word o ho.2).weaken (fun w _ => ⟨⟨_, rfl⟩, rfl⟩) (fun _ h => h))
    · exact Sat.pure ⟨⟨_, rfl⟩, rfl⟩
  · cases h
    obtain ⟨a, b, c, rfl, ⟨ti, rfl, -, -⟩, ⟨t, rfl, -, -⟩, ⟨o, rfl, -, ho⟩⟩ := forall2_3 ha
    rw [actionCore_p_redirection]
    simp [PCtx.len, PCtx.tokAt, PCtx.slice, PCtx.strAt]
    split
    · exact Sat.map ((hC.word o ho.2).weaken (fun w _ => ⟨⟨_, rfl⟩, rfl⟩) (fun _ h => h))
    · exact Sat.pure ⟨⟨_, rfl⟩, rfl⟩
  · cases h

theorem sh_simple_command_element {np shapes args σ} (hC : Ctx T np)
    (h : shAction "p_simple_command_element" shapes = some σ) (ha : Forall2 HasSh shapes args) :
    Sat (actionCore np "p_simple_command_element" args) (PostN σ) (Allowed T) := by
  unfold shAction at h; simp only [] at h
  split at h
  · cases h
    obtain ⟨a, rfl, ⟨n, rfl⟩⟩ := forall2_1 ha
    rw [actionCore_p_simple_command_element]
    simp [PCtx.len, PCtx.slice]
    exact Sat.pure ⟨⟨_, rfl, by simp⟩, rfl⟩
  · cases h
    obtain ⟨a, rfl, ⟨t, rfl, -, ht⟩⟩ := forall2_1 ha
    rw [actionCore_p_simple_command_element]
    simp [PCtx.len, PCtx.slice, PCtx.tokAt]
    refine sat_bindE (hC.word t ht.2) (fun w => ?_)
    split
    · split
      · exact Sat.pure ⟨⟨_, rfl, by simp⟩, rfl⟩
      · exact Sat.pure ⟨⟨_, rfl, by simp⟩, rfl⟩
    · exact Sat.pure ⟨⟨_, rfl, by simp⟩, rfl⟩
  · cases h

theorem sat_addRedirects {n : Node} {reds : List Node} (hr : reds ≠ []) :
    Sat (addRedirects n reds) (fun _ => True) (Allowed T) :=
  (keeps_addRedirects_eq (N := fun _ _ => True) (fun _ _ _ last _ _ => (noExn_nodePos last _).keeps)
    known_handleAssert (Or.inl hr)).to_sat.weaken (fun _ _ => trivial) (fun _ h => h)

theorem sh_command {np shapes args σ} (h : shAction "p_command" shapes = some σ)
    (ha : Forall2 HasSh shapes args) : Sat (actionCore np "p_command" args) (PostN σ) (Allowed T) := by
  unfold shAction at h; simp only [] at h
  split at h
  · cases h
    obtain ⟨a, rfl, ⟨n, rfl⟩⟩ := forall2_1 ha
    rw [actionCore_p_command]
    simp [PCtx.len, PCtx.slice]
    exact Sat.pure ⟨⟨_, rfl⟩, rfl⟩
  · cases h
    obtain ⟨a, b, rfl, ⟨n, rfl⟩, ⟨l, rfl, hl⟩⟩ := forall2_2 ha
    rw [actionCore_p_command]
    simp [PCtx.len, PCtx.slice, PCtx.nodesAt]
    exact Sat.map ((sat_addRedirects hl).weaken (fun r _ => ⟨⟨_, rfl⟩, rfl⟩) (fun _ h => h))
  · cases h
    obtain ⟨a, rfl, ⟨l, rfl, hl⟩⟩ := forall2_1 ha
    rw [actionCore_p_command]
    simp [PCtx.len, PCtx.slice, PCtx.nodesAt]
    exact Sat.map (sat_of_noExn (noExn_partsspan hl) (fun _ => ⟨⟨_, rfl⟩, rfl⟩))
  · cases h

theorem sh_function_body {np shapes args σ} (h : shAction "p_function_body" shapes = some σ)
    (ha : Forall2 HasSh shapes args) :
    Sat (actionCore np "p_function_body" args) (PostN σ) (Allowed T) := by
  unfold shAction at h; simp only [] at h
  split at h
  · cases h
    obtain ⟨a, rfl, ⟨n, rfl⟩⟩ := forall2_1 ha
    rw [actionCore_p_function_body]
    simp [PCtx.len, PCtx.slice, PCtx.nodeAt]
    exact Sat.map ((sat_handleAssert _).weaken (fun _ _ => ⟨⟨_, rfl⟩, rfl⟩) (fun _ h => h))
  · cases h
    obtain ⟨a, b, rfl, ⟨n, rfl⟩, ⟨l, rfl, hl⟩⟩ := forall2_2 ha
    rw [actionCore_p_function_body]
    simp [PCtx.len, PCtx.slice, PCtx.nodesAt, PCtx.nodeAt]
    refine sat_bindE (sat_handleAssert _) (fun _ => ?_)
    exact Sat.map ((sat_addRedirects hl).weaken (fun r _ => ⟨⟨_, rfl⟩, rfl⟩) (fun _ h => h))
  · cases h

theorem shGroup_inv {shapes args σ} (h : shGroup shapes = some σ) (ha : Forall2 HasSh shapes args) :
    σ = .node ∧ ∃ tl n tr, args = [.tok tl, .node n, .tok tr] := by
  unfold shGroup at h
  split at h
  · cases h
    obtain ⟨a, b, c, rfl, ⟨tl, rfl, -, -⟩, ⟨n, rfl⟩, ⟨tr, rfl, -, -⟩⟩ := forall2_3 ha
    exact ⟨rfl, tl, n, tr, rfl⟩
  · cases h

theorem sh_subshell {np shapes args σ} (h : shAction "p_subshell" shapes = some σ)
    (ha : Forall2 HasSh shapes args) : Sat (actionCore np "p_subshell" args) (PostN σ) (Allowed T) := by
  unfold shAction at h; simp only [] at h
  obtain ⟨rfl, tl, n, tr, rfl⟩ := shGroup_inv h ha
  rw [actionCore_p_subshell]
  simp [PCtx.len, PCtx.slice, PCtx.nodeAt, reservedAt, PCtx.strAt, PCtx.tokAt]
  exact Sat.map (sat_of_noExn (noExn_partsspan (by simp)) (fun _ => ⟨⟨_, rfl⟩, rfl⟩))

theorem sh_group_command {np shapes args σ} (h : shAction "p_group_command" shapes = some σ)
    (ha : Forall2 HasSh shapes args) :
    Sat (actionCore np "p_group_command" args) (PostN σ) (Allowed T) := by
  unfold shAction at h; simp only [] at h
  obtain ⟨rfl, tl, n, tr, rfl⟩ := shGroup_inv h ha
  rw [actionCore_p_group_command]
  simp [PCtx.len, PCtx.slice, PCtx.nodeAt, reservedAt, PCtx.strAt, PCtx.tokAt]
  exact Sat.map (sat_of_noExn (noExn_partsspan (by simp)) (fun _ => ⟨⟨_, rfl⟩, rfl⟩))

theorem sh_case_clause {np shapes args σ} (h : shAction "p_case_clause" shapes = some σ)
    (ha : Forall2 HasSh shapes args) :
    Sat (actionCore np "p_case_clause" args) (PostN σ) (Allowed T) := by
  unfold shAction at h; simp only [] at h
  split at h
  · cases h
    obtain ⟨a, rfl, ⟨n, rfl⟩⟩ := forall2_1 ha
    rw [actionCore_p_case_clause]
    simp [PCtx.len, PCtx.nodeAt, PCtx.slice]
    exact Sat.pure ⟨⟨_, rfl, by simp⟩, rfl⟩
  · cases h
    obtain ⟨a, b, rfl, ⟨l, rfl, hl⟩, ⟨n, rfl⟩⟩ := forall2_2 ha
    rw [actionCore_p_case_clause]
    simp [PCtx.len, PCtx.nodeAt, PCtx.slice, PCtx.nodesAt]
    exact Sat.pure ⟨⟨_, rfl, by simp⟩, rfl⟩
  · cases h

theorem sh_case_clause_sequence {np shapes args σ}
    (h : shAction "p_case_clause_sequence" shapes = some σ) (ha : Forall2 HasSh shapes args) :
    Sat (actionCore np "p_case_clause_sequence" args) (PostN σ) (Allowed T) := by
  unfold shAction at h; simp only [] at h
  split at h
  · cases h
    obtain ⟨a, b, rfl, ⟨n, rfl⟩, ⟨t, rfl, -, -⟩⟩ := forall2_2 ha
    rw [actionCore_p_case_clause_sequence]
    simp [PCtx.len, PCtx.nodeAt, PCtx.slice, reservedAt, PCtx.strAt, PCtx.tokAt]
    exact Sat.pure ⟨⟨_, rfl, by simp⟩, rfl⟩
  · cases h
    obtain ⟨a, b, c, rfl, ⟨l, rfl, hl⟩, ⟨n, rfl⟩, ⟨t, rfl, -, -⟩⟩ := forall2_3 ha
    rw [actionCore_p_case_clause_sequence]
    simp [PCtx.len, PCtx.nodeAt, PCtx.slice, reservedAt, PCtx.strAt, PCtx.tokAt, PCtx.nodesAt]
    exact Sat.pure ⟨⟨_, rfl, by simp⟩, rfl⟩
  · cases h

theorem sh_pattern {np shapes args σ} (hC : Ctx T np) (h : shAction "p_pattern" shapes = some σ)
    (ha : Forall2 HasSh shapes args) : Sat (actionCore np "p_pattern" args) (PostN σ) (Allowed T) := by
  unfold shAction at h; simp only [] at h
  split at h
  · cases h
    obtain ⟨a, rfl, ⟨t, rfl, -, ht⟩⟩ := forall2_1 ha
    rw [actionCore_p_pattern]
    simp [PCtx.len, PCtx.tokAt, PCtx.slice]
    exact Sat.map ((hC.word t ht.2).weaken (fun w _ => ⟨⟨_, rfl, by simp⟩, rfl⟩) (fun _ h => h))
  · cases h
    obtain ⟨a, b, c, rfl, ⟨l, rfl, hl⟩, ⟨tb, rfl, -, -⟩, ⟨t, rfl, -, ht⟩⟩ := forall2_3 ha
    rw [actionCore_p_pattern]
    simp [PCtx.len, PCtx.tokAt, PCtx.slice, PCtx.nodesAt, reservedAt, PCtx.strAt]
    exact Sat.map ((hC.word t ht.2).weaken (fun w _ => ⟨⟨_, rfl, by simp⟩, rfl⟩) (fun _ h => h))
  · cases h

theorem sh_list {np shapes args σ} (h : shAction "p_list" shapes = some σ)
    (ha : Forall2 HasSh shapes args) : Sat (actionCore np "p_list" args) (PostN σ) (Allowed T) := by
  unfold shAction at h; simp only [] at h
  split at h
  · cases h
    obtain ⟨a, b, rfl, -, hb⟩ := forall2_2 ha
    rw [actionCore_p_list]
    simp [PCtx.slice]
    exact Sat.pure ⟨hb, rfl⟩
  · cases h

theorem sh_pattern_list {np shapes args σ} (h : shAction "p_pattern_list" shapes = some σ)
    (ha : Forall2 HasSh shapes args) :
    Sat (actionCore np "p_pattern_list" args) (PostN σ) (Allowed T) := by
  unfold shAction at h; simp only [] at h
  split at h
  · cases h
    obtain ⟨x, a, r, b, rfl, -, ⟨pat, rfl, hpat⟩, ⟨tr, rfl, -, -⟩, -⟩ := forall2_4 ha
    rw [actionCore_p_pattern_list]
    simp [PCtx.len, PCtx.slice, PCtx.nodesAt, reservedAt, PCtx.strAt, PCtx.tokAt]
    refine sat_bindN (noExn_partsspan hpat) (fun sp => ?_)
    split
    · exact Sat.map (sat_of_noExn (noExn_partsspan (by simp)) (fun _ => ⟨⟨_, rfl⟩, rfl⟩))
    · exact Sat.map (sat_of_noExn (noExn_partsspan (by simp)) (fun _ => ⟨⟨_, rfl⟩, rfl⟩))
  · cases h
    obtain ⟨x, l, a, r, b, rfl, -, ⟨tl, rfl, -, -⟩, ⟨pat, rfl, hpat⟩, ⟨tr, rfl, -, -⟩, -⟩ := forall2_5 ha
    rw [actionCore_p_pattern_list]
    simp [PCtx.len, PCtx.slice, PCtx.nodesAt, reservedAt, PCtx.strAt, PCtx.tokAt]
    refine sat_bindN (noExn_partsspan hpat) (fun sp => ?_)
    split
    · exact Sat.map (sat_of_noExn (noExn_partsspan (by simp)) (fun _ => ⟨⟨_, rfl⟩, rfl⟩))
    · exact Sat.map (sat_of_noExn (noExn_partsspan (by simp)) (fun _ => ⟨⟨_, rfl⟩, rfl⟩))
  · cases h

theorem ne_of_length_gt {α} {l : List α} (h : l.length > 1) : l ≠ [] := by
  intro hl; subst hl; simp at h

theorem sh_compound_list {np shapes args σ} (h : shAction "p_compound_list" shapes = some σ)
    (ha : Forall2 HasSh shapes args) :
    Sat (actionCore np "p_compound_list" args) (PostN σ) (Allowed T) := by
  unfold shAction at h; simp only [] at h
  split at h
  · cases h
    obtain ⟨a, rfl, hn⟩ := forall2_1 ha
    rw [actionCore_p_compound_list]
    simp [PCtx.len, PCtx.slice]
    exact Sat.pure ⟨hn, rfl⟩
  · cases h
    obtain ⟨a, b, rfl, -, ⟨l, rfl, hl⟩⟩ := forall2_2 ha
    rw [actionCore_p_compound_list]
    simp [PCtx.len, PCtx.slice, PCtx.nodesAt]
    split
    · rename_i hlen
      exact Sat.map (sat_of_noExn (noExn_partsspan (ne_of_length_gt hlen)) (fun _ => ⟨⟨_, rfl⟩, rfl⟩))
    · split
      · exact Sat.pure ⟨⟨_, rfl⟩, rfl⟩
      · rename_i hnone
        exfalso
        cases l with
        | nil => exact hl rfl
        | cons x xs => simp at hnone
  · cases h

theorem sh_list0 {np shapes args σ} (h : shAction "p_list0" shapes = some σ)
    (ha : Forall2 HasSh shapes args) : Sat (actionCore np "p_list0" args) (PostN σ) (Allowed T) := by
  unfold shAction at h; simp only [] at h
  split at h
  · cases h
    obtain ⟨a, as, rfl, ⟨l, rfl, hl⟩, ha2⟩ := forall2_cons ha
    obtain ⟨b, bs, rfl, ⟨t, rfl, -, -⟩, ha3⟩ := forall2_cons ha2
    rw [actionCore_p_list0]
    simp [PCtx.len, PCtx.slice, PCtx.nodesAt, operatorAt, PCtx.strAt, PCtx.tokAt]
    split
    · exact Sat.map (sat_of_noExn (noExn_partsspan (by simp)) (fun _ => ⟨⟨_, rfl⟩, rfl⟩))
    · split
      · exact Sat.pure ⟨⟨_, rfl⟩, rfl⟩
      · rename_i hnone
        exfalso
        cases l with
        | nil => exact hl rfl
        | cons x xs => simp at hnone
  · cases h

theorem sat_joinLists {np : NestedParse} {shapes : List Sh} {args : List SVal} {σ : Sh}
    {mk : Span → Str → Node} {site : String}
    (h : shJoin shapes = some σ) (ha : Forall2 HasSh shapes args) :
    Sat (joinLists ⟨np, args⟩ mk site) (HasSh σ) (Allowed T) := by
  unfold shJoin at h
  split at h
  · cases h
    obtain ⟨a, rfl, ⟨n, rfl⟩⟩ := forall2_1 ha
    rw [joinLists_single]
    exact Sat.pure ⟨_, rfl, by simp⟩
  · split at h
    · rename_i hlast
      cases h
      simp only [beq_iff_eq] at hlast
      obtain ⟨a, as, rfl, ⟨l, rfl, hl⟩, ha2⟩ := forall2_cons ha
      obtain ⟨b, bs, rfl, ⟨t, rfl, -, -⟩, ha3⟩ := forall2_cons ha2
      obtain ⟨v, hv, ⟨r, rfl, hr⟩⟩ := forall2_getLast ha3 _ hlast
      obtain ⟨mid, rfl⟩ := List.getLast?_eq_some_iff.mp hv
      rw [joinLists_join]
      exact Sat.pure ⟨_, rfl, by simp⟩
    · cases h
  · cases h

theorem sh_list1 {np shapes args σ} (h : shAction "p_list1" shapes = some σ)
    (ha : Forall2 HasSh shapes args) : Sat (actionCore np "p_list1" args) (PostN σ) (Allowed T) := by
  unfold shAction at h; simp only [] at h
  rw [actionCore_p_list1]
  exact Sat.bind (sat_joinLists h ha) (fun v hv => Sat.pure ⟨hv, rfl⟩)

theorem sh_simple_list1 {np shapes args σ} (h : shAction "p_simple_list1" shapes = some σ)
    (ha : Forall2 HasSh shapes args) :
    Sat (actionCore np "p_simple_list1" args) (PostN σ) (Allowed T) := by
  unfold shAction at h; simp only [] at h
  rw [actionCore_p_simple_list1]
  exact Sat.bind (sat_joinLists h ha) (fun v hv => Sat.pure ⟨hv, rfl⟩)

theorem sh_pipeline {np shapes args σ} (h : shAction "p_pipeline" shapes = some σ)
    (ha : Forall2 HasSh shapes args) : Sat (actionCore np "p_pipeline" args) (PostN σ) (Allowed T) := by
  unfold shAction at h; simp only [] at h
  rw [actionCore_p_pipeline]
  exact Sat.bind (sat_joinLists h ha) (fun v hv => Sat.pure ⟨hv, rfl⟩)

theorem sat_fin {σ : Sh} {v : SVal} (hv : HasSh σ v) {f : Local → Bool} :
    Sat ((fun a => (v, f a)) <$> (get : M Local)) (fun r => HasSh σ r.1) (Allowed T) :=
  Sat.map (sat_of_noExn noExn_get (fun _ => hv))

theorem sh_simple_list {np shapes args σ} (hC : Ctx T np)
    (h : shAction "p_simple_list" shapes = some σ) (ha : Forall2 HasSh shapes args) :
    Sat (actionCore np "p_simple_list" args) (fun r => HasSh σ r.1) (Allowed T) := by
  unfold shAction at h; simp only [] at h
  split at h
  · cases h
    obtain ⟨a, rfl, ⟨l, rfl, hl⟩⟩ := forall2_1 ha
    rw [actionCore_p_simple_list]
    simp [PCtx.len, PCtx.slice, PCtx.nodesAt]
    refine sat_bindE hC.gather (fun _ => ?_)
    split
    · rename_i hlen
      exact sat_bindN (noExn_partsspan (ne_of_length_gt hlen)) (fun _ => sat_fin (σ := .node) ⟨_, rfl⟩)
    · rename_i hlen
      split
      · exact sat_fin (σ := .node) ⟨_, rfl⟩
      · rename_i hnot
        exfalso
        cases l with
        | nil => exact hl rfl
        | cons x xs =>
          cases xs with
          | nil => exact hnot x rfl
          | cons y ys => simp at hlen
  · cases h
    obtain ⟨a, b, rfl, ⟨l, rfl, hl⟩, ⟨t, rfl, -, -⟩⟩ := forall2_2 ha
    rw [actionCore_p_simple_list]
    simp [PCtx.len, PCtx.slice, PCtx.nodesAt, operatorAt, PCtx.strAt, PCtx.tokAt]
    refine sat_bindE hC.gather (fun _ => ?_)
    exact sat_bindN (noExn_partsspan (by simp)) (fun _ => sat_fin (σ := .node) ⟨_, rfl⟩)
  · cases h

theorem optNode_inv {s : Sh} {b : SVal} (hs : s = .node ∨ s = .optNode ∨ s = .none) (hb : HasSh s b) :
    b = .none ∨ ∃ n, b = .node n := by
  rcases hs with rfl | rfl | rfl
  · exact Or.inr hb
  · exact hb
  · exact Or.inl hb

theorem sat_bang {np : NestedParse} {x b : SVal} (hb : b = .none ∨ ∃ n, b = .node n) :
    Sat (actionCore np "p_pipeline_command" [x, b]) (PostN .node) (Allowed T) := by
  rw [actionCore_p_pipeline_command]
  simp [PCtx.len, PCtx.slice]
  rcases hb with rfl | ⟨n, rfl⟩
  · simp only []
    exact Sat.pure ⟨⟨_, rfl⟩, rfl⟩
  · split
    · rename_i heq; cases heq
    · split
      · exact Sat.map (sat_of_noExn (noExn_nodePos _) (fun _ => ⟨⟨_, rfl⟩, rfl⟩))
      · rename_i hnone
        simp at hnone
    · exact Sat.map (sat_of_noExn (noExn_nodePos _) (fun _ => ⟨⟨_, rfl⟩, rfl⟩))
    · rename_i h1 h2 h3
      exact absurd rfl (h3 n)

theorem sh_pipeline_command {np shapes args σ} (h : shAction "p_pipeline_command" shapes = some σ)
    (ha : Forall2 HasSh shapes args) :
    Sat (actionCore np "p_pipeline_command" args) (PostN σ) (Allowed T) := by
  unfold shAction at h; simp only [] at h
  split at h
  · cases h
    obtain ⟨a, rfl, ⟨l, rfl, hl⟩⟩ := forall2_1 ha
    rw [actionCore_p_pipeline_command]
    simp [PCtx.len, PCtx.slice, PCtx.nodesAt]
    split
    · exact Sat.pure ⟨⟨_, rfl⟩, rfl⟩
    · split
      · exact sat_bindN (noExn_nodePos _) (fun _ =>
          Sat.map (sat_of_noExn (noExn_nodePos _) (fun _ => ⟨⟨_, rfl⟩, rfl⟩)))
      · rename_i hnone
        exfalso
        cases l with
        | nil => exact hl rfl
        | cons x xs =>
          exact hnone x ((x :: xs).getLast (by simp)) rfl (List.getLast?_eq_some_getLast _)
  · cases h
    obtain ⟨x, b, rfl, -, hb⟩ := forall2_2 ha
    exact sat_bang (optNode_inv (Or.inl rfl) hb)
  · cases h
    obtain ⟨x, b, rfl, -, hb⟩ := forall2_2 ha
    exact sat_bang (optNode_inv (Or.inr (Or.inl rfl)) hb)
  · cases h
    obtain ⟨x, b, rfl, -, hb⟩ := forall2_2 ha
    exact sat_bang (optNode_inv (Or.inr (Or.inr rfl)) hb)
  · cases h

/-! ### `_makeparts` and the actions built on it -/

def ArgsOK (args : List SVal) : Prop := ∀ t, SVal.tok t ∈ args → TF t

theorem argsOK_of_forall2 {shapes : List Sh} {args : List SVal} (ha : Forall2 HasSh shapes args) :
    ArgsOK args := by
  induction ha with
  | nil => intro t ht; cases ht
  | @cons σ a ss as h1 _ ih =>
    intro t ht
    rcases List.mem_cons.mp ht with ht | ht
    · subst ht
      cases σ with
      | tok ty => obtain ⟨t', h, _, htf⟩ := h1; cases h; exact htf
      | none => cases h1
      | node => obtain ⟨_, h⟩ := h1; cases h
      | optNode => rcases h1 with h | ⟨_, h⟩ <;> cases h
      | nodes => obtain ⟨_, h, _⟩ := h1; cases h
      | nodes0 => obtain ⟨_, h⟩ := h1; cases h
    · exact ih t ht

/-- what `_makeparts` returns when the right-hand side starts with a terminal -/
def HeadOK (t : Token) (parts : List Node) : Prop :=
  parts ≠ [] ∧ (t.is .WORD = false →
    parts.head? = some (.reservedword (t.lexpos, t.endlexpos) (tvalStr t.value)))

theorem sat_makeparts {np : NestedParse} (hC : Ctx T np) (args : List SVal) (hargs : ArgsOK args) :
    Sat (makeparts ⟨np, args⟩) (fun parts => ∀ t rest, args = .tok t :: rest → HeadOK t parts)
      (Allowed T) := by
  refine (keeps_makeparts_chunks (W := fun _ _ => True)
    fun t ht _ => (hC.word t (hargs t ht).2).keeps).to_sat.weaken ?_ (fun _ h => h)
  rintro _ ⟨chunks, rfl, hc⟩ t rest rfl
  cases hc with
  | cons h1 _ =>
    simp only [ChunkOf] at h1
    split at h1
    · rename_i hw
      obtain ⟨w, rfl, -⟩ := h1
      exact ⟨by simp, fun hf => by rw [hw] at hf; cases hf⟩
    · subst h1
      exact ⟨by simp, fun _ => rfl⟩

theorem shParts_inv {shapes args σ} (h : shParts shapes = some σ) (ha : Forall2 HasSh shapes args) :
    σ = .node ∧ ∃ t rest, args = .tok t :: rest := by
  unfold shParts at h
  split at h
  · cases h
    obtain ⟨a, as, rfl, ⟨t, rfl, -, -⟩, -⟩ := forall2_cons ha
    exact ⟨rfl, t, as, rfl⟩
  · cases h

/-- `_makeparts` on a right-hand side starting with a terminal: a non-empty list -/
theorem sat_makeparts_ne {np : NestedParse} (hC : Ctx T np) {shapes args σ}
    (h : shParts shapes = some σ) (ha : Forall2 HasSh shapes args) :
    Sat (makeparts ⟨np, args⟩) (fun parts => parts ≠ []) (Allowed T) := by
  obtain ⟨_, t, rest, hargs⟩ := shParts_inv h ha
  exact (sat_makeparts hC args (argsOK_of_forall2 ha)).weaken (fun parts hp => (hp t rest hargs).1)
    (fun _ h => h)

theorem sat_handleNotImplemented {np shapes args σ ty} (hC : Ctx T np)
    (h : shParts shapes = some σ) (ha : Forall2 HasSh shapes args) :
    Sat (handleNotImplemented ⟨np, args⟩ ty) (HasSh σ) (Allowed T) := by
  obtain ⟨rfl, _⟩ := shParts_inv h ha
  unfold handleNotImplemented
  refine sat_bindN noExn_optProceed (fun b => ?_)
  split
  · refine Sat.bind (sat_makeparts_ne hC h ha) (fun parts hne => ?_)
    exact sat_bindN (noExn_partsspan hne) (fun _ => Sat.pure ⟨_, rfl⟩)
  · exact Sat.raise allowed_ni

theorem sh_arith_for_command {np shapes args σ} (hC : Ctx T np)
    (h : shAction "p_arith_for_command" shapes = some σ) (ha : Forall2 HasSh shapes args) :
    Sat (actionCore np "p_arith_for_command" args) (PostN σ) (Allowed T) := by
  unfold shAction at h; simp only [] at h
  rw [actionCore_p_arith_for_command]
  exact Sat.bind (sat_handleNotImplemented hC h ha) (fun v hv => Sat.pure ⟨hv, rfl⟩)

theorem sh_select_command {np shapes args σ} (hC : Ctx T np)
    (h : shAction "p_select_command" shapes = some σ) (ha : Forall2 HasSh shapes args) :
    Sat (actionCore np "p_select_command" args) (PostN σ) (Allowed T) := by
  unfold shAction at h; simp only [] at h
  rw [actionCore_p_select_command]
  exact Sat.bind (sat_handleNotImplemented hC h ha) (fun v hv => Sat.pure ⟨hv, rfl⟩)

theorem sh_coproc {np shapes args σ} (hC : Ctx T np)
    (h : shAction "p_coproc" shapes = some σ) (ha : Forall2 HasSh shapes args) :
    Sat (actionCore np "p_coproc" args) (PostN σ) (Allowed T) := by
  unfold shAction at h; simp only [] at h
  rw [actionCore_p_coproc]
  exact Sat.bind (sat_handleNotImplemented hC h ha) (fun v hv => Sat.pure ⟨hv, rfl⟩)

theorem sh_arith_command {np shapes args σ} (hC : Ctx T np)
    (h : shAction "p_arith_command" shapes = some σ) (ha : Forall2 HasSh shapes args) :
    Sat (actionCore np "p_arith_command" args) (PostN σ) (Allowed T) := by
  unfold shAction at h; simp only [] at h
  rw [actionCore_p_arith_command]
  exact Sat.bind (sat_handleNotImplemented hC h ha) (fun v hv => Sat.pure ⟨hv, rfl⟩)

theorem sh_cond_command {np shapes args σ} (hC : Ctx T np)
    (h : shAction "p_cond_command" shapes = some σ) (ha : Forall2 HasSh shapes args) :
    Sat (actionCore np "p_cond_command" args) (PostN σ) (Allowed T) := by
  unfold shAction at h; simp only [] at h
  rw [actionCore_p_cond_command]
  exact Sat.bind (sat_handleNotImplemented hC h ha) (fun v hv => Sat.pure ⟨hv, rfl⟩)

theorem sh_timespec {np shapes args σ} (hC : Ctx T np)
    (h : shAction "p_timespec" shapes = some σ) (ha : Forall2 HasSh shapes args) :
    Sat (actionCore np "p_timespec" args) (PostN σ) (Allowed T) := by
  unfold shAction at h; simp only [] at h
  rw [actionCore_p_timespec]
  exact Sat.bind (sat_handleNotImplemented hC h ha) (fun v hv => Sat.pure ⟨hv, rfl⟩)

theorem sh_if_command {np shapes args σ} (hC : Ctx T np)
    (h : shAction "p_if_command" shapes = some σ) (ha : Forall2 HasSh shapes args) :
    Sat (actionCore np "p_if_command" args) (PostN σ) (Allowed T) := by
  unfold shAction at h; simp only [] at h
  obtain ⟨rfl, _⟩ := shParts_inv h ha
  rw [actionCore_p_if_command]
  refine Sat.bind (sat_makeparts_ne hC h ha) (fun parts hne => ?_)
  exact Sat.bind (sat_mkCompound1 hne) (fun v hv => Sat.pure ⟨hv, rfl⟩)

theorem sh_case_command {np shapes args σ} (hC : Ctx T np)
    (h : shAction "p_case_command" shapes = some σ) (ha : Forall2 HasSh shapes args) :
    Sat (actionCore np "p_case_command" args) (PostN σ) (Allowed T) := by
  unfold shAction at h; simp only [] at h
  obtain ⟨rfl, _⟩ := shParts_inv h ha
  rw [actionCore_p_case_command]
  refine Sat.bind (sat_makeparts_ne hC h ha) (fun parts hne => ?_)
  exact Sat.bind (sat_mkCompound1 hne) (fun v hv => Sat.pure ⟨hv, rfl⟩)

theorem fix_ne {l : List Node} (h : l ≠ []) : actionCore.fix l ≠ [] := fun e =>
  h (List.eq_nil_of_length_eq_zero (by rw [forall2_length (fix_rel l), e]; rfl))

theorem sh_for_command {np shapes args σ} (hC : Ctx T np)
    (h : shAction "p_for_command" shapes = some σ) (ha : Forall2 HasSh shapes args) :
    Sat (actionCore np "p_for_command" args) (PostN σ) (Allowed T) := by
  unfold shAction at h; simp only [] at h
  obtain ⟨rfl, _⟩ := shParts_inv h ha
  rw [actionCore_p_for_command]
  refine Sat.bind (sat_makeparts_ne hC h ha) (fun parts hne => ?_)
  exact Sat.bind (sat_mkCompound1 (fix_ne hne)) (fun v hv => Sat.pure ⟨hv, rfl⟩)

theorem sh_function_def {np shapes args σ} (hC : Ctx T np)
    (h : shAction "p_function_def" shapes = some σ) (ha : Forall2 HasSh shapes args) :
    Sat (actionCore np "p_function_def" args) (PostN σ) (Allowed T) := by
  unfold shAction at h; simp only [] at h
  obtain ⟨rfl, _⟩ := shParts_inv h ha
  rw [actionCore_p_function_def]; simp only []
  refine Sat.bind (sat_makeparts_ne hC h ha) (fun parts hne => ?_)
  split
  · rename_i hemp
    exfalso
    cases parts with
    | nil => exact hne rfl
    | cons x xs => simp at hemp
  · exact sat_bindN (noExn_partsspan hne) (fun sp => Sat.pure ⟨⟨_, rfl⟩, rfl⟩)

theorem sh_elif_clause {np args} :
    Sat (actionCore np "p_elif_clause" args) (PostN .nodes0) (Allowed T) := by
  rw [actionCore_elif]
  exact Sat.pure ⟨⟨_, rfl⟩, rfl⟩

theorem sh_shell_command {np shapes args σ} (hC : Ctx T np)
    (h : shAction "p_shell_command" shapes = some σ) (ha : Forall2 HasSh shapes args) :
    Sat (actionCore np "p_shell_command" args) (PostN σ) (Allowed T) := by
  unfold shAction at h; simp only [] at h
  split at h
  · cases h
    obtain ⟨a, rfl, ⟨n, rfl⟩⟩ := forall2_1 ha
    rw [actionCore_p_shell_command]
    simp [PCtx.len, PCtx.slice, PCtx.nodeAt]
    exact Sat.map ((sat_handleAssert _).weaken (fun _ _ => ⟨⟨_, rfl⟩, rfl⟩) (fun _ h => h))
  · split at h
    · rename_i ty s2 srest hty
      cases h
      have hargs := argsOK_of_forall2 ha
      obtain ⟨a, as, rfl, ⟨t, rfl, htt, htf⟩, ha2⟩ := forall2_cons ha
      obtain ⟨b, bs, rfl, -, -⟩ := forall2_cons ha2
      have hlen : ¬ (PCtx.len ⟨np, SVal.tok t :: b :: bs⟩ == 2) = true := by simp [PCtx.len]
      have hnw : t.is .WORD = false := by
        simp only [Bool.or_eq_true, beq_iff_eq] at hty
        rcases hty with rfl | rfl <;> simp [Token.is, htt]
      have hval : tvalStr t.value = ['w', 'h', 'i', 'l', 'e'] ∨ tvalStr t.value = ['u', 'n', 't', 'i', 'l'] := by
        simp only [Bool.or_eq_true, beq_iff_eq] at hty
        rcases hty with rfl | rfl
        · left; rw [htf.1.1 htt]; rfl
        · right; rw [htf.1.2 htt]; rfl
      rw [actionCore_p_shell_command]
      simp only [hlen, Bool.false_eq_true, if_false]
      refine Sat.bind (sat_makeparts hC _ hargs) (fun parts hp => ?_)
      obtain ⟨hne, hhead⟩ := hp t _ rfl
      have hh := hhead hnw
      split
      · rename_i pos w hw
        rw [hh] at hw
        cases hw
        refine sat_bindN (noExn_partsspan hne) (fun sp => ?_)
        split
        · exact Sat.pure ⟨⟨_, rfl⟩, rfl⟩
        · split
          · exact Sat.pure ⟨⟨_, rfl⟩, rfl⟩
          · rename_i h1 h2
            exfalso
            rcases hval with hv | hv
            · rw [hv] at h1; exact h1 (by decide)
            · rw [hv] at h2; exact h2 (by decide)
      · rename_i hnot
        exact absurd hh (hnot _ _)
    · cases h
  · cases h

/-! ### the dispatcher -/

/-- post-condition of an action of result shape `σ` -/
def Post (fname : String) (σ : Sh) (r : SVal × Bool) : Prop :=
  HasSh σ r.1 ∧ (r.2 = true → acceptingActions.contains fname = true)

theorem post_of_postN {fname : String} {σ : Sh} {m : M (SVal × Bool)}
    (h : Sat m (PostN σ) (Allowed T)) : Sat m (Post fname σ) (Allowed T) :=
  h.weaken (fun r hr => ⟨hr.1, fun h2 => by rw [hr.2] at h2; cases h2⟩) (fun _ h => h)

/-- **soundness of the shape checker**: an action applied to arguments of the shapes the grammar
    guarantees returns a value of the shape of the left-hand side, raises YaccAccept only if it
    is `p_inputunit` / `p_simple_list`, and raises only allowed exceptions -/
theorem shAction_sound {np : NestedParse} {fname : String} {shapes : List Sh} {args : List SVal}
    {σ : Sh} (hC : Ctx T np) (h : shAction fname shapes = some σ)
    (ha : Forall2 HasSh shapes args) : Sat (actionCore np fname args) (Post fname σ) (Allowed T) := by
  unfold shAction at h
  split at h
  · cases h; exact sh_inputunit.weaken (fun r hr => ⟨hr, fun _ => by decide⟩) (fun _ h => h)
  · exact post_of_postN (sh_word_list hC h ha)
  · exact post_of_postN (sh_redirection_heredoc h ha)
  · exact post_of_postN (sh_redirection hC h ha)
  · exact post_of_postN (sh_simple_command_element hC h ha)
  · exact post_of_postN (sh_redirection_list h ha)
  · exact post_of_postN (sh_simple_command h ha)
  · exact post_of_postN (sh_command h ha)
  · exact post_of_postN (sh_shell_command hC h ha)
  · exact post_of_postN (sh_for_command hC h ha)
  · exact post_of_postN (sh_arith_for_command hC h ha)
  · exact post_of_postN (sh_select_command hC h ha)
  · exact post_of_postN (sh_case_command hC h ha)
  · exact post_of_postN (sh_function_def hC h ha)
  · exact post_of_postN (sh_function_body h ha)
  · exact post_of_postN (sh_subshell h ha)
  · exact post_of_postN (sh_group_command h ha)
  · exact post_of_postN (sh_coproc hC h ha)
  · exact post_of_postN (sh_if_command hC h ha)
  · exact post_of_postN (sh_arith_command hC h ha)
  · exact post_of_postN (sh_cond_command hC h ha)
  · cases h; exact post_of_postN sh_elif_clause
  · exact post_of_postN (sh_case_clause h ha)
  · exact post_of_postN (sh_pattern_list h ha)
  · exact post_of_postN (sh_case_clause_sequence h ha)
  · exact post_of_postN (sh_pattern hC h ha)
  · exact post_of_postN (sh_list h ha)
  · exact post_of_postN (sh_compound_list h ha)
  · exact post_of_postN (sh_list0 h ha)
  · exact post_of_postN (sh_list1 h ha)
  · cases h; exact post_of_postN sh_simple_list_terminator
  · cases h; exact post_of_postN sh_list_terminator
  · cases h; exact post_of_postN sh_newline_list
  · exact (sh_simple_list hC h ha).weaken (fun r hr => ⟨hr, fun _ => by decide⟩) (fun _ h => h)
  · exact post_of_postN (sh_simple_list1 h ha)
  · exact post_of_postN (sh_pipeline_command h ha)
  · exact post_of_postN (sh_pipeline h ha)
  · exact post_of_postN (sh_timespec hC h ha)
  · cases h; exact post_of_postN sh_empty
  · cases h

/-- `action` = `actionCore` + an assertion that is dead: it never raises its `NotModelled` marker -/
theorem sat_action {np : NestedParse} {fname : String} {shapes : List Sh} {args : List SVal}
    {σ : Sh} (hC : Ctx T np) (h : shAction fname shapes = some σ)
    (ha : Forall2 HasSh shapes args) :
    Sat (action np fname args) (fun r => HasSh σ r.1) (Allowed T) := by
  unfold action
  refine Sat.bind (shAction_sound hC h ha) (fun r hr => ?_)
  split
  · rename_i hbad
    exfalso
    simp only [Bool.and_eq_true, Bool.not_eq_true'] at hbad
    rw [hr.2 hbad.1] at hbad
    exact absurd hbad.2 (by simp)
  · exact Sat.pure hr.1

end Bashlex.C01
