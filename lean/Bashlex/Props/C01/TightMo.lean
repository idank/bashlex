/-
  C01 tight: `gatherheredocuments` never moves the cursor back (invariant `Mo a`: the
  recorded start `a` is on the stack, the look-ahead slot is empty, the cursor is beyond `a`).
-/
import Bashlex.Props.C01.TightLvl
import Bashlex.Props.C01.TightFuel

namespace Bashlex.C01
open Bashlex Bashlex.M Bashlex.C10 Bashlex.C11 Bashlex.C03.Tok
set_option linter.unusedSimpArgs false

def Mo (a : Nat) (l : Local) (e : Env) : Prop :=
  l.positions = [a] ∧ l.eolLookahead = none ∧ a + 1 ≤ (tapeOf l e).idx

abbrev MoSat {α : Type} (a : Nat) (m : M α) : Prop := HT (Mo a) m (fun _ => Mo a) ETrue

theorem tapeOf_answer_idx (l : Local) (e : Env) (q : Query) (h : q ≠ .bump) (h1 : ∀ r, q ≠ .getc r)
    (h2 : q ≠ .ungetc) : tapeOf l (e.answer q).2 = tapeOf l e := by
  unfold tapeOf
  split
  · rfl
  · cases q with
    | getc r => exact absurd rfl (h1 r)
    | ungetc => exact absurd rfl h2
    | bump => exact absurd rfl h
    | syntab c => simp only [Env.answer]; split <;> rfl
    | _ => rfl

syntax "mo_atom" : tactic
macro_rules | `(tactic| mo_atom) => `(tactic| assumption)

set_option hygiene false in
macro "mo_step" : tactic => `(tactic| ht_step (mo_atom, exact True.intro, fail, exact h))

macro "mo_walk" : tactic => `(tactic| repeat' mo_step)


theorem mo_getc (rqn : Bool) (a : Nat) : MoSat a (getc rqn) := by
  intro l e ⟨h1, h2, h3⟩
  rw [C10.run_getc rqn l e h2]
  cases hgc : (tapeOf l e).getc rqn ((tapeOf l e).line.length + 1) with
  | error u => cases u; exact True.intro
  | ok v =>
    obtain ⟨c, t'⟩ := v
    obtain ⟨m1, m2⟩ := tape_getc_mono rqn _ _ _ _ hgc
    simp only []
    refine ⟨?_, ?_, ?_⟩
    · rw [C11.putL_positions]; exact h1
    · rw [putL_eol]; exact h2
    · rw [tapeOf_put]; omega
macro_rules | `(tactic| mo_atom) => `(tactic| exact mo_getc _ _)

theorem mo_bumpIdx (a : Nat) : MoSat a bumpIdx := by
  intro l e ⟨h1, h2, h3⟩
  rw [C10.run_bumpIdx]
  refine ⟨?_, ?_, ?_⟩
  · rw [C11.putL_positions]; exact h1
  · rw [putL_eol]; exact h2
  · rw [tapeOf_put]; simp only []; omega
macro_rules | `(tactic| mo_atom) => `(tactic| exact mo_bumpIdx _)

theorem mo_peekc (rqn : Bool) (a : Nat) : MoSat a (peekc rqn) := by
  intro l e ⟨h1, h2, h3⟩
  unfold peekc
  simp only [M.run_bind]
  rw [C10.run_getc rqn l e h2]
  cases hgc : (tapeOf l e).getc rqn ((tapeOf l e).line.length + 1) with
  | error u => cases u; exact True.intro
  | ok v =>
    obtain ⟨c, t'⟩ := v
    obtain ⟨m1, m2⟩ := tape_getc_mono rqn _ _ _ _ hgc
    obtain ⟨b1, b2, b3, b4, b5, b6⟩ := getc_spec rqn _ _ _ _ hgc
    simp only []
    cases c with
    | none =>
      simp only [Option.isSome_none, Bool.false_eq_true, if_false, M.run_bind, M.run_pure]
      refine ⟨?_, ?_, ?_⟩
      · rw [C11.putL_positions]; exact h1
      · rw [putL_eol]; exact h2
      · rw [tapeOf_put]; omega
    | some ch =>
      obtain ⟨n1, n2⟩ := m2 ch rfl
      have hlt : t'.idx - 1 < (tapeOf l e).line.length := (List.getElem?_eq_some_iff.mp n2).1
      simp only [Option.isSome_some, if_true, M.run_bind]
      rw [C10.run_ungetc, tapeOf_put]
      have hu : t'.ungetc = (true, { t' with idx := t'.idx - 1 }) := by
        unfold Tape.ungetc
        rw [if_pos]
        rw [b1]
        have hne : (tapeOf l e).line ≠ [] := by
          intro hl; rw [hl] at hlt; simp at hlt
        simp only [Bool.and_eq_true, Bool.not_eq_true', List.isEmpty_eq_false_iff, ne_eq, bne_iff_ne,
          decide_eq_true_eq]
        exact ⟨⟨hne, by omega⟩, by omega⟩
      rw [hu]
      simp only [M.run_pure]
      refine ⟨?_, ?_, ?_⟩
      · rw [C11.putL_positions, C11.putL_positions]; exact h1
      · rw [putL_eol, putL_eol]; exact h2
      · rw [putL_putL, putE_putE, tapeOf_put]; simp only []; omega
macro_rules | `(tactic| mo_atom) => `(tactic| exact mo_peekc _ _)

theorem mo_curIdx (a : Nat) : MoSat a curIdx := by
  intro l e h; rw [C10.run_curIdx]; exact h
theorem mo_tapeLine (a : Nat) : MoSat a tapeLine := by
  intro l e h; rw [C10.run_tapeLine]; exact h
theorem mo_optStrict (a : Nat) : MoSat a optStrict := by
  intro l e h; rw [C10.run_optStrict]; exact h
macro_rules | `(tactic| mo_atom) => `(tactic| exact mo_curIdx _)
macro_rules | `(tactic| mo_atom) => `(tactic| exact mo_tapeLine _)
macro_rules | `(tactic| mo_atom) => `(tactic| exact mo_optStrict _)

theorem mo_loopFuel (a : Nat) : MoSat a loopFuel := HT.pure (fun _ _ h => h)
macro_rules | `(tactic| mo_atom) => `(tactic| exact mo_loopFuel _)

theorem mo_readline_false (a : Nat) : MoSat a (readline false) := by
  unfold readline; simp only [Bool.and_false, Bool.false_eq_true, if_false]; mo_walk
macro_rules | `(tactic| mo_atom) => `(tactic| exact mo_readline_false _)

theorem mo_makeheredoc (id : Nat) (kill : Bool) (a : Nat) : MoSat a (makeheredoc id kill) := by
  unfold makeheredoc; (try simp only []); mo_walk
macro_rules | `(tactic| mo_atom) => `(tactic| exact mo_makeheredoc _ _ _)

/-- **`gatherheredocuments` never moves the cursor back** -/
theorem mo_gatherheredocuments (a : Nat) : MoSat a gatherheredocuments := by
  unfold gatherheredocuments; (try simp only []); mo_walk

end Bashlex.C01
