/-
  ActGen, helpers: `_partsspan` only reads the state (the redirect store), so evaluating it twice
  is evaluating it once — the translated `p_if_command`/`p_case_command` call it twice, as the
  Python does (`pos=_partsspan(parts)` in the inner and in the outer `ast.node`), the hand model once.
-/
import Bashlex.Props.ActGen.Eval

namespace Bashlex.ActGen
open Bashlex Bashlex.Gen
set_option linter.unusedSimpArgs false

/-- the `pos` of a node in a given parser state -/
def posOf (s : Local) (n : Node) : Span :=
  match n with
  | .redirect p _ _ _ _ _ (some id) => match s.store[id]? with | some c => c.pos | none => p
  | _ => n.pos

theorem nodePos_eq (n : Node) : nodePos n = (do let s ← get; pure (posOf s n)) := by
  apply StateT.ext; intro s
  cases n <;> simp [nodePos, posOf]
  case redirect p i t o oa h hid =>
    cases hid <;> simp
    split <;> simp [*]

theorem raise_bind {α β : Type} (e : Exn) (k : α → M β) : (M.raise e >>= k) = M.raise e := rfl

/-- `_partsspan` twice is `_partsspan` once -/
theorem partsspan_dup {β : Type} (ps : List Node) (k : Span → Span → M β) :
    (partsspan ps >>= fun x => partsspan ps >>= fun y => k x y) = (partsspan ps >>= fun x => k x x) := by
  unfold partsspan
  cases h1 : ps.head? <;> cases h2 : ps.getLast? <;> simp [M.foreign, raise_bind]
  simp only [nodePos_eq]
  apply StateT.ext; intro s
  simp

theorem partsspan_dup' {β : Type} (ps : List Node) (g : Span → Span → β) :
    (partsspan ps >>= fun x => g x <$> partsspan ps) = (fun x => g x x) <$> partsspan ps := by
  have h := partsspan_dup ps (fun x y => (pure (g x y) : M β))
  simp only [map_eq_pure_bind]
  exact h


theorem raise_map {α β : Type} (e : Exn) (g : α → β) : g <$> (M.raise e : M α) = M.raise e := by
  rw [map_eq_pure_bind, raise_bind]

/-! ### a slot is a token or it is not (rewriting lemmas; `rw` also rewrites the instances of `ite`) -/

theorem tok_or_not (v : SVal) : (∃ t, v = .tok t) ∨ (∀ t, v ≠ .tok t) := by cases v <;> simp

theorem tokAt_tok {p : PCtx} {i : Nat} {t : Token} (h : p.slice i = .tok t) : p.tokAt i = pure t := by
  simp [PCtx.tokAt, h]

theorem tokAt_not {p : PCtx} {i : Nat} (h : ∀ t, p.slice i ≠ .tok t) :
    p.tokAt i = M.foreign "AttributeError" "p.slice" := by
  unfold PCtx.tokAt
  split
  · exact absurd ‹_› (h _)
  · rfl

theorem strAt_tok {p : PCtx} {i : Nat} {t : Token} (h : p.slice i = .tok t) :
    p.strAt i = pure t.valueStr := by
  simp [PCtx.strAt, tokAt_tok h]

theorem strAt_not {p : PCtx} {i : Nat} (h : ∀ t, p.slice i ≠ .tok t) :
    p.strAt i = M.foreign "AttributeError" "p.slice" := by
  simp [PCtx.strAt, tokAt_not h, M.foreign, raise_bind, raise_map]

theorem isTok_tok {p : PCtx} {i : Nat} {t : Token} (h : p.slice i = .tok t) (ty : TokType) :
    p.isTok i ty = t.is ty := by
  simp [PCtx.isTok, h]

theorem isTok_not {p : PCtx} {i : Nat} (h : ∀ t, p.slice i ≠ .tok t) (ty : TokType) :
    p.isTok i ty = false := by
  unfold PCtx.isTok
  split
  · exact absurd ‹_› (h _)
  · rfl

/- The equations of the interpreter's functions are generated here, once: a `simp only [exec,
   mkNode, …]` in a later module would otherwise generate those of `exec` and `mkNode` (one per
   statement form and node kind) again in every proof that runs the interpreter. -/
attribute [simp] evalProg evalCond execs exec evalList evalNodes evalNode mkNode evalStr evalSpan
  evalListAttr

end Bashlex.ActGen
