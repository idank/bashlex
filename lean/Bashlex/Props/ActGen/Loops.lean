/-
  ActGen, the loops: `for i in range(1, len(p))` filling a list (`AStmt.collect`; the helper `_makeparts`
  itself is translated: `makeparts_gen`), `p_elif_clause`, `p_for_command`, `p_function_def`, and the state-touching
  actions `p_inputunit`, `p_simple_list`, `p_pipeline_command`, `p_redirection_heredoc`.  All for all slices, except
  `p_redirection_heredoc`: the hand model's test of `p.slice[len(p)-2].ttype` is total (`PCtx.isTok`), Python's raises
  on a non-token: equal when that slot is a token.
-/
import Bashlex.Props.ActGen.Agree
namespace Bashlex.ActGen
open Bashlex Bashlex.Gen
set_option linter.unusedSimpArgs false

/-- the body of the loop of the hand-written `makeparts` -/
def makepartsBody (np : NestedParse) (a : SVal) (parts : List Node) : M (ForInStep (List Node)) :=
  match a with
  | .node n => pure (.yield (parts ++ [n]))
  | .nodes l => pure (.yield (parts ++ l))
  | .tok t =>
    if t.is .WORD then do pure (.yield (parts ++ [← expandword np t]))
    else pure (.yield (parts ++ [.reservedword (t.lexpos, t.endlexpos) (tvalStr t.value)]))
  | .none => pure (.yield parts)

theorem makeparts_body (p : PCtx) : makeparts p = (forIn p.args [] (makepartsBody p.np) >>= pure) := by
  unfold makeparts
  rfl

theorem step_makeparts (np : NestedParse) (a : SVal) (acc : List Node) :
    (do let c ← contrib np fn_makeparts a; pure (ForInStep.yield (acc ++ c))) = makepartsBody np a acc := by
  cases a <;> simp [contrib, fn_makeparts, findArmC, testHolds, SVal.isNode, tokTypeOf_WORD, leafKind,
    SVal.lexspan, makepartsBody]
  rename_i t
  cases t.is TokType.WORD <;> simp

theorem collect_forIn (np : NestedParse) (arms : List (List ATest × AElem))
    (body : SVal → List Node → M (ForInStep (List Node)))
    (hstep : ∀ a acc, (do let c ← contrib np arms a; pure (ForInStep.yield (acc ++ c))) = body a acc) :
    ∀ (args : List SVal) (acc : List Node), collectFrom np arms acc args = forIn args acc body
  | [], acc => by simp [collectFrom]
  | a :: as, acc => by
    rw [collectFrom, List.forIn_cons, ← hstep]
    simp only [bind_assoc, pure_bind]
    congr 1; funext c
    exact collect_forIn np arms body hstep as _

/-- **the helper `_makeparts` by translation** -/
theorem makeparts_gen (p : PCtx) : collectFrom p.np fn_makeparts [] p.args = makeparts p := by
  rw [makeparts_body, collect_forIn p.np fn_makeparts _ (step_makeparts p.np)]
  simp
/-- the body of the loop of the hand-written `p_elif_clause` -/
def elifBody (a : SVal) (parts : List Node) : M (ForInStep (List Node)) :=
  match a with
  | .node n => pure (.yield (parts ++ [n]))
  | .nodes l => pure (.yield (parts ++ l))
  | .tok t => pure (.yield (parts ++ [.reservedword (t.lexpos, t.endlexpos) (tvalStr t.value)]))
  | .none => pure (.yield (parts ++ [.reservedword (0, 0) "None".toList]))

theorem step_elif (np : NestedParse) (arms) (h : arms = [([ATest.isNode], AElem.nodeArg), ([.isList], .listArg), ([], .leaf "reservedword" "word")])
    (a : SVal) (acc : List Node) :
    (do let c ← contrib np arms a; pure (ForInStep.yield (acc ++ c))) = elifBody a acc := by
  subst h
  cases a <;> simp [contrib, findArmC, testHolds, SVal.isNode, leafKind, SVal.lexspan, elifBody]

theorem actgen_p_elif_clause (np : NestedParse) (args : List SVal) :
    evalAct np "p_elif_clause" act_p_elif_clause args = actionCore np "p_elif_clause" args := by
  rw [actionCore_p_elif_clause]; unfold act_p_elif_clause; actgen_eval
  rw [collect_forIn np _ elifBody (step_elif np _ rfl)]
  congr 1

theorem replaceFirst_fix (l : List Node) :
    replaceFirstL (fun n => n.kind == "operator" && nodeStrAttr n "op" == some [';'])
      (fun n => Node.reservedword n.pos [';']) l = actionCore.fix l := by
  induction l with
  | nil => simp [replaceFirstL, actionCore.fix]
  | cons n rest ih =>
    simp only [replaceFirstL, ih]
    cases n <;> simp [actionCore.fix, Node.kind, nodeStrAttr, Node.pos]

theorem actgen_p_for_command (np : NestedParse) (args : List SVal) :
    evalAct np "p_for_command" act_p_for_command args = actionCore np "p_for_command" args := by
  rw [actionCore_p_for_command]; unfold act_p_for_command; actgen_eval
  simp only [replaceFirst_fix, partsspan_dup']

theorem kind_word : (fun n : Node => n.kind == "word") =
    (fun n => match n with | .word .. => true | _ => false) := by
  funext n; cases n <;> simp [Node.kind]

theorem actgen_p_function_def (np : NestedParse) (args : List SVal) :
    evalAct np "p_function_def" act_p_function_def args = actionCore np "p_function_def" args := by
  rw [actionCore_p_function_def]; unfold act_p_function_def; actgen_eval
  simp [getIdx, idxVal, List.lookup]
  congr 1; funext parts
  by_cases h : parts = []
  · simp [h, M.foreign, raise_bind]
  · simp [h, List.lookup, kind_word]
    rfl
theorem actgen_p_inputunit (np : NestedParse) (args : List SVal) :
    evalAct np "p_inputunit" act_p_inputunit args = actionCore np "p_inputunit" args := by
  rw [actionCore_p_inputunit]; unfold act_p_inputunit; actgen_eval
  congr 1; funext s
  generalize PCtx.slice { np := np, args := args } 1 = x
  cases x <;> cases s.ps.cmdsubst <;> simp [SVal.isNode, List.lookup]
theorem nodes_or_not (v : SVal) : (∃ l, v = .nodes l) ∨ (∀ l, v ≠ .nodes l) := by cases v <;> simp

theorem nodesAt_nodes {p : PCtx} {i : Nat} {l : List Node} (h : p.slice i = .nodes l) (site : String) :
    p.nodesAt i site = pure l := by
  simp [PCtx.nodesAt, h]

theorem nodesAt_not {p : PCtx} {i : Nat} (h : ∀ l, p.slice i ≠ .nodes l) (site : String) :
    p.nodesAt i site = M.foreign "TypeError" site := by
  unfold PCtx.nodesAt
  split
  · exact absurd ‹_› (h _)
  · rfl

/-- the tail of `p_simple_list`: `if len(p) == 2 and CMDSUBST and at the eof token: p.accept()` -/
theorem accept_tail (n : Nat) (v : SVal) (F : Local → Bool) :
    (do let b ← (if n = 2 then (do let a ← (get : M Local); if a.ps.cmdsubst = true then F <$> (get : M Local) else pure false)
                  else pure false)
        if b = true then pure (v, true) else pure (v, false)) =
      (fun a => (v, n == 2 && a.ps.cmdsubst && F a)) <$> (get : M Local) := by
  apply StateT.ext; intro s
  by_cases h : n = 2
  · cases hc : s.ps.cmdsubst <;> simp [h, hc]
    cases F s <;> simp
  · have hb : (n == 2) = false := beq_eq_false_iff_ne.2 h
    cases hc : s.ps.cmdsubst <;> simp [h, hc, hb]

theorem actgen_p_simple_list (np : NestedParse) (args : List SVal) :
    evalAct np "p_simple_list" act_p_simple_list args = actionCore np "p_simple_list" args := by
  rw [actionCore_p_simple_list]; unfold act_p_simple_list; actgen_eval
  -- the statements below are phrased for the normal form of the full simp set
  simp
  congr 1; funext u
  rcases nodes_or_not (PCtx.slice { np := np, args := args } 1) with ⟨l, hl⟩ | hn
  · simp only [nodesAt_nodes hl, pure_bind, map_pure]
    by_cases h3 : PCtx.len { np := np, args := args } = 3
    · simp only [h3, if_true, true_or, pure_bind, accept_tail]
      rfl
    · simp only [h3, if_false, false_or, pure_bind]
      by_cases h1 : 1 < l.length
      · simp only [h1, decide_true, if_true, accept_tail]
        rfl
      · simp only [h1, decide_false, if_false]
        rcases l with _ | ⟨n, _ | ⟨m, rest⟩⟩
        · simp [M.foreign, raise_bind]
        · simp only [List.length_singleton, if_true, pure_bind, List.head?_cons, List.lookup, Option.isSome_none,
            Bool.false_eq_true, if_false, accept_tail]
          rfl
        · simp [M.foreign, raise_bind]
  · simp only [nodesAt_not hn]
    by_cases h3 : PCtx.len { np := np, args := args } = 3 <;> simp [h3, M.foreign, raise_bind, raise_map]
theorem nodePos_reservedword (p : Span) (w : Str) : nodePos (.reservedword p w) = pure p := rfl

theorem actgen_p_pipeline_command (np : NestedParse) (args : List SVal) :
    evalAct np "p_pipeline_command" act_p_pipeline_command args = actionCore np "p_pipeline_command" args := by
  rw [actionCore_p_pipeline_command]; unfold act_p_pipeline_command; actgen_eval
  by_cases h2 : PCtx.len { np := np, args := args } = 2
  · simp only [h2, if_true]
    rcases nodes_or_not (PCtx.slice { np := np, args := args } 1) with ⟨l, hl⟩ | hn
    · simp only [nodesAt_nodes hl, pure_bind]
      rcases l with _ | ⟨n, _ | ⟨m, rest⟩⟩ <;> simp [M.foreign, raise_map]
      cases (m :: rest).getLast? <;> simp [raise_map]
    · simp [nodesAt_not hn, M.foreign, raise_bind]
  · simp only [h2, if_false]
    cases hx : PCtx.slice { np := np, args := args } 2 with
    | none => simp [nodePos_reservedword, Node.pos]
    | tok t => simp [PCtx.nodeAt, hx, M.foreign, raise_bind]
    | nodes l => simp [PCtx.nodeAt, hx, M.foreign, raise_bind]
    | node n =>
      simp only [PCtx.nodeAt, hx, pure_bind]
      cases n <;> simp [Node.kind, nodePos_reservedword, Node.pos, List.lookup]
      rename_i pos parts
      cases (Node.reservedword (PCtx.lexspan { np := np, args := args } 1) ['!'] :: parts).getLast? <;>
        simp [M.foreign, raise_map, List.lookup, nodePos_reservedword]
theorem tokTypeOf_LESS_LESS : tokTypeOf "LESS_LESS" = some .LESS_LESS := by decide

theorem actgen_p_redirection_heredoc (np : NestedParse) (args : List SVal)
    (h : isTokV (slot args (args.length - 1)) = true) :
    evalAct np "p_redirection_heredoc" act_p_redirection_heredoc args =
      actionCore np "p_redirection_heredoc" args := by
  rw [actionCore_p_redirection_heredoc]; unfold act_p_redirection_heredoc; actgen_eval
  simp only [tokTypeOf_LESS_LESS, evalInput, evalOutput, redirInOf, List.lookup, PCtx.len, Nat.add_sub_cancel]
  have hidx : args.length + 1 - 2 = args.length - 1 := by omega
  simp only [hidx]
  obtain ⟨t2, ht2⟩ : ∃ t, PCtx.slice { np := np, args := args } (args.length - 1) = .tok t := by
    rw [slice_eq]; cases hs : slot args (args.length - 1) <;> simp [hs, isTokV] at h ⊢
  rw [tokAt_tok ht2, isTok_tok ht2]
  rcases tok_or_not (PCtx.slice { np := np, args := args } args.length) with ⟨w, hw⟩ | hn
  · rw [strAt_tok hw, tokAt_tok hw, PCtx.lexspan_tok hw]
    by_cases h3 : args.length + 1 = 3
    · simp only [h3, if_true, beq_self_eq_true]
      cases hb : t2.is TokType.LESS_LESS <;>
      simp only [hb, List.lookup, bind_pure_comp, bind_map_left, BEq.rfl, map_pure, pure_bind, map_bind,
        Functor.map_map, Bool.false_eq_true, ↓reduceIte, Option.getD_some, String.reduceBEq, Option.isSome_none,
        Bool.not_false, Bool.not_true]
    · simp only [h3, if_false]
      cases hb : t2.is TokType.LESS_LESS <;>
      simp only [hb, List.lookup, bind_pure_comp, bind_map_left, BEq.rfl, map_pure, pure_bind, map_bind,
        Functor.map_map, Bool.false_eq_true, ↓reduceIte, Option.getD_some, String.reduceBEq, Option.isSome_none,
        Bool.not_false, Bool.not_true] <;> rfl
  · rw [strAt_not hn, tokAt_not hn]
    by_cases h3 : args.length + 1 = 3 <;>
      simp only [h3, ↓reduceIte, M.foreign, bind_pure_comp, BEq.rfl, map_pure, pure_bind, map_bind,
        Functor.map_map, List.lookup_cons_self, Option.getD_some, bind_map_left, raise_bind]
end Bashlex.ActGen
