/-
  ActGen: for every translated action function, the interpreter on the generated term IS the
  corresponding arm of the hand-written `actionCore` — an equation between computations of the model
  monad (same queries, same state changes, same results, same exceptions) for ALL stack slices, except
  for ten functions (nine here, `p_redirection_heredoc` in `Loops.lean`) where the two sides differ only on ill-typed or ill-sized slices (which the LR
  engine never builds: C12 `parserRun_ok`) and only in WHICH foreign exception is raised.  Each of
  those is stated with its explicit, decidable condition (`sliceOK` in `All.lean`):
    `p_list1`, `p_simple_list1`, `p_pipeline`: the Python builds the operator node from `p[2]` before it
      touches `p[len(p)-1]`; the hand model (`joinLists`) coerces `p[len(p)-1]` first.  Equal unless BOTH
      are ill-typed (`p[2]` no token and `p[len(p)-1]` no list).
    `p_subshell`, `p_group_command`: the hand model names the failure site of a non-node `p[2]`
      `_partsspan`, the interpreter names it after the action.  Equal when `p[2]` is a node.
    `p_pattern_list`: the same for the pattern list (`p[2]`, resp. `p[3]`), which the hand model also
      coerces before `p[2]`'s token value is read.  Equal when it is a list.
    `p_redirection`: for `len(p) != 3` the Python reads `p[3]`, the hand model `p[len(p)-1]`: equal for
      the two lengths the grammar has (3 and 4); on a non-token operand both raise the same AttributeError.
    `p_function_body`: the hand model's `addRedirects` names the IndexError of an EMPTY redirect list
      after the site `p_command` whoever calls it.  Equal unless `p[2]` is the empty list.
    `p_command`: the hand model coerces `p[2]` before it asserts `kind == 'compound'` (Python: after),
      and names the site of a non-list `p[1]` `_partsspan`.  Equal when `p[1]` is a node (and `p[2]` a
      list if `len(p) == 3`) or a list.
  Two facts about `_partsspan` carry the cases where the Python calls it twice and the hand model
  once, or the hand model calls it before an assert fails: it only reads the state
  (`partsspan_dup`, `partsspan_discard`).
-/
import Bashlex.Props.ActGen.Readers
import Bashlex.Proofs.ActionEqns

namespace Bashlex.ActGen
open Bashlex Bashlex.Gen
set_option linter.unusedSimpArgs false

/-- `p[i]` as the model sees it (`PCtx.slice`) -/
def slot (args : List SVal) (i : Nat) : SVal := args.getD (i - 1) .none
def isTokV : SVal → Bool | .tok _ => true | _ => false
def isNodesV : SVal → Bool | .nodes _ => true | _ => false

theorem slice_eq (np : NestedParse) (args : List SVal) (i : Nat) :
    PCtx.slice { np := np, args := args } i = slot args i := rfl

/-- run the interpreter on the concrete term (the other side is the arm of `actionCore`, put there
    by its equation `actionCore_p_x`) and normalise both sides with the monad laws.  The simp set
    is explicit: the default one also tries its lemmas about implications on the motive of every
    `match` of the interpreter. -/
macro "actgen_eval" : tactic => `(tactic|
  (simp only [evalAct, evalProg, evalCond, execs, exec, evalList, evalNodes, evalNode, getList, getNode,
     mkNode, leafKind, partsKind, evalStr, evalSpan, evalListAttr, reservedAt, operatorAt, joinLists,
     mkCompound1, List.lookup, bind_pure_comp, bind_pure, bind_map_left, bind_assoc, pure_bind, map_bind,
     map_pure, Functor.map_map, BEq.rfl, beq_iff_eq, Option.getD_some, Option.isSome_none,
     String.reduceAppend, String.reduceBEq, String.reduceEq, String.reduceToList, ↓reduceIte, and_self,
     List.contains_eq_mem, List.mem_cons, List.not_mem_nil, or_false, Bool.decide_or, Bool.or_eq_true,
     decide_eq_true_eq, ↓Char.isValue, Option.getD_none, List.append_assoc, List.cons_append,
     List.nil_append]))

theorem actgen_p_word_list (np : NestedParse) (args : List SVal) :
    evalAct np "p_word_list" act_p_word_list args = actionCore np "p_word_list" args := by
  rw [actionCore_p_word_list]; unfold act_p_word_list; actgen_eval

theorem actgen_p_redirection_list (np : NestedParse) (args : List SVal) :
    evalAct np "p_redirection_list" act_p_redirection_list args = actionCore np "p_redirection_list" args := by
  rw [actionCore_p_redirection_list]; unfold act_p_redirection_list; actgen_eval

theorem actgen_p_simple_command (np : NestedParse) (args : List SVal) :
    evalAct np "p_simple_command" act_p_simple_command args = actionCore np "p_simple_command" args := by
  rw [actionCore_p_simple_command]; unfold act_p_simple_command; actgen_eval

theorem actgen_p_case_clause (np : NestedParse) (args : List SVal) :
    evalAct np "p_case_clause" act_p_case_clause args = actionCore np "p_case_clause" args := by
  rw [actionCore_p_case_clause]; unfold act_p_case_clause; actgen_eval

theorem actgen_p_case_clause_sequence (np : NestedParse) (args : List SVal) :
    evalAct np "p_case_clause_sequence" act_p_case_clause_sequence args = actionCore np "p_case_clause_sequence" args := by
  rw [actionCore_p_case_clause_sequence]; unfold act_p_case_clause_sequence; actgen_eval

theorem actgen_p_pattern (np : NestedParse) (args : List SVal) :
    evalAct np "p_pattern" act_p_pattern args = actionCore np "p_pattern" args := by
  rw [actionCore_p_pattern]; unfold act_p_pattern; actgen_eval

theorem actgen_p_list (np : NestedParse) (args : List SVal) :
    evalAct np "p_list" act_p_list args = actionCore np "p_list" args := by
  rw [actionCore_p_list]; unfold act_p_list; actgen_eval

theorem actgen_p_simple_list_terminator (np : NestedParse) (args : List SVal) :
    evalAct np "p_simple_list_terminator" act_p_simple_list_terminator args = actionCore np "p_simple_list_terminator" args := by
  rw [actionCore_p_simple_list_terminator]; unfold act_p_simple_list_terminator; actgen_eval

theorem actgen_p_newline_list (np : NestedParse) (args : List SVal) :
    evalAct np "p_newline_list" act_p_newline_list args = actionCore np "p_newline_list" args := by
  rw [actionCore_p_newline_list]; unfold act_p_newline_list; actgen_eval

theorem actgen_p_empty (np : NestedParse) (args : List SVal) :
    evalAct np "p_empty" act_p_empty args = actionCore np "p_empty" args := by
  rw [actionCore_p_empty]; unfold act_p_empty; actgen_eval

theorem actgen_p_arith_for_command (np : NestedParse) (args : List SVal) :
    evalAct np "p_arith_for_command" act_p_arith_for_command args = actionCore np "p_arith_for_command" args := by
  rw [actionCore_p_arith_for_command]; unfold act_p_arith_for_command; actgen_eval

theorem actgen_p_select_command (np : NestedParse) (args : List SVal) :
    evalAct np "p_select_command" act_p_select_command args = actionCore np "p_select_command" args := by
  rw [actionCore_p_select_command]; unfold act_p_select_command; actgen_eval

theorem actgen_p_coproc (np : NestedParse) (args : List SVal) :
    evalAct np "p_coproc" act_p_coproc args = actionCore np "p_coproc" args := by
  rw [actionCore_p_coproc]; unfold act_p_coproc; actgen_eval

theorem actgen_p_arith_command (np : NestedParse) (args : List SVal) :
    evalAct np "p_arith_command" act_p_arith_command args = actionCore np "p_arith_command" args := by
  rw [actionCore_p_arith_command]; unfold act_p_arith_command; actgen_eval

theorem actgen_p_cond_command (np : NestedParse) (args : List SVal) :
    evalAct np "p_cond_command" act_p_cond_command args = actionCore np "p_cond_command" args := by
  rw [actionCore_p_cond_command]; unfold act_p_cond_command; actgen_eval

theorem actgen_p_timespec (np : NestedParse) (args : List SVal) :
    evalAct np "p_timespec" act_p_timespec args = actionCore np "p_timespec" args := by
  rw [actionCore_p_timespec]; unfold act_p_timespec; actgen_eval

theorem actgen_p_if_command (np : NestedParse) (args : List SVal) :
    evalAct np "p_if_command" act_p_if_command args = actionCore np "p_if_command" args := by
  rw [actionCore_p_if_command]; unfold act_p_if_command; actgen_eval
  simp only [partsspan_dup']

theorem actgen_p_case_command (np : NestedParse) (args : List SVal) :
    evalAct np "p_case_command" act_p_case_command args = actionCore np "p_case_command" args := by
  rw [actionCore_p_case_command]; unfold act_p_case_command; actgen_eval
  simp only [partsspan_dup']

theorem actgen_p_list1 (np : NestedParse) (args : List SVal)
    (h : isTokV (slot args 2) = true ∨ isNodesV (slot args args.length) = true) :
    evalAct np "p_list1" act_p_list1 args = actionCore np "p_list1" args := by
  rw [actionCore_p_list1]; unfold act_p_list1; actgen_eval
  split
  · simp
  · simp only [PCtx.strAt, PCtx.tokAt, PCtx.nodesAt, slice_eq, PCtx.len, Nat.add_sub_cancel]
    cases hi : slot args 2 <;> cases hj : slot args args.length <;>
      simp [hi, hj, isTokV, isNodesV, M.foreign, raise_bind] at h ⊢

theorem actgen_p_simple_list1 (np : NestedParse) (args : List SVal)
    (h : isTokV (slot args 2) = true ∨ isNodesV (slot args args.length) = true) :
    evalAct np "p_simple_list1" act_p_simple_list1 args = actionCore np "p_simple_list1" args := by
  rw [actionCore_p_simple_list1]; unfold act_p_simple_list1; actgen_eval
  split
  · simp
  · simp only [PCtx.strAt, PCtx.tokAt, PCtx.nodesAt, slice_eq, PCtx.len, Nat.add_sub_cancel]
    cases hi : slot args 2 <;> cases hj : slot args args.length <;>
      simp [hi, hj, isTokV, isNodesV, M.foreign, raise_bind] at h ⊢

theorem actgen_p_pipeline (np : NestedParse) (args : List SVal)
    (h : isTokV (slot args 2) = true ∨ isNodesV (slot args args.length) = true) :
    evalAct np "p_pipeline" act_p_pipeline args = actionCore np "p_pipeline" args := by
  rw [actionCore_p_pipeline]; unfold act_p_pipeline; actgen_eval
  split
  · simp
  · simp only [PCtx.strAt, PCtx.tokAt, PCtx.nodesAt, slice_eq, PCtx.len, Nat.add_sub_cancel]
    cases hi : slot args 2 <;> cases hj : slot args args.length <;>
      simp [hi, hj, isTokV, isNodesV, M.foreign, raise_bind] at h ⊢

theorem actgen_p_subshell (np : NestedParse) (args : List SVal) (h : (slot args 2).isNode = true) :
    evalAct np "p_subshell" act_p_subshell args = actionCore np "p_subshell" args := by
  rw [actionCore_p_subshell]; unfold act_p_subshell; actgen_eval
  simp only [PCtx.nodeAt, slice_eq]
  cases hi : slot args 2 <;> simp [hi, SVal.isNode] at h ⊢

theorem actgen_p_group_command (np : NestedParse) (args : List SVal) (h : (slot args 2).isNode = true) :
    evalAct np "p_group_command" act_p_group_command args = actionCore np "p_group_command" args := by
  rw [actionCore_p_group_command]; unfold act_p_group_command; actgen_eval
  simp only [PCtx.nodeAt, slice_eq]
  cases hi : slot args 2 <;> simp [hi, SVal.isNode] at h ⊢

theorem tokTypeOf_NEWLINE : tokTypeOf "NEWLINE" = some .NEWLINE := by decide

theorem actgen_p_list_terminator (np : NestedParse) (args : List SVal) :
    evalAct np "p_list_terminator" act_p_list_terminator args = actionCore np "p_list_terminator" args := by
  rw [actionCore_p_list_terminator]; unfold act_p_list_terminator; actgen_eval
  split <;> simp_all

theorem actgen_p_compound_list (np : NestedParse) (args : List SVal) :
    evalAct np "p_compound_list" act_p_compound_list args = actionCore np "p_compound_list" args := by
  rw [actionCore_p_compound_list]; unfold act_p_compound_list; actgen_eval
  split
  · rfl
  · congr 1; funext a
    split
    · rfl
    · cases a.head? <;> simp [M.foreign, raise_map]

theorem actgen_p_list0 (np : NestedParse) (args : List SVal) :
    evalAct np "p_list0" act_p_list0 args = actionCore np "p_list0" args := by
  rw [actionCore_p_list0]; unfold act_p_list0; actgen_eval
  simp only [tokTypeOf_NEWLINE]
  congr 1; funext a
  by_cases h : 1 < a.length <;> simp [h]
  rcases tok_or_not (PCtx.slice { np := np, args := args } 2) with ⟨t, ht⟩ | hn
  · rw [tokAt_tok ht, strAt_tok ht, isTok_tok ht]
    cases hb : t.is TokType.NEWLINE <;> cases a.head? <;> simp [hb, M.foreign, raise_map]
  · rw [tokAt_not hn, strAt_not hn, isTok_not hn]
    simp [M.foreign, raise_bind]

theorem actgen_p_pattern_list (np : NestedParse) (args : List SVal)
    (h : isNodesV (slot args (if args.length + 1 = 5 then 2 else 3)) = true) :
    evalAct np "p_pattern_list" act_p_pattern_list args = actionCore np "p_pattern_list" args := by
  rw [actionCore_p_pattern_list]; unfold act_p_pattern_list; actgen_eval
  simp only [PCtx.len] at *
  by_cases h5 : args.length + 1 = 5
  · simp only [h5, if_true] at h ⊢
    simp only [PCtx.nodesAt, PCtx.nodeAt]
    generalize PCtx.slice { np := np, args := args } 4 = x4
    rw [slice_eq]
    cases h2 : slot args 2 <;> simp [h2, isNodesV] at h ⊢
    cases x4 <;> simp [SVal.isNode]
  · simp only [h5, if_false] at h ⊢
    simp only [PCtx.nodesAt, PCtx.nodeAt]
    generalize PCtx.slice { np := np, args := args } 5 = x5
    rw [slice_eq]
    cases h3 : slot args 3 <;> simp [h3, isNodesV] at h ⊢
    cases x5 <;> simp [SVal.isNode]

theorem tokTypeOf_WORD : tokTypeOf "WORD" = some .WORD := by decide

theorem actgen_p_redirection (np : NestedParse) (args : List SVal)
    (h : args.length = 2 ∨ args.length = 3) :
    evalAct np "p_redirection" act_p_redirection args = actionCore np "p_redirection" args := by
  rw [actionCore_p_redirection]; unfold act_p_redirection; actgen_eval
  simp only [tokTypeOf_WORD, evalInput, evalOutput, redirInOf, List.lookup, PCtx.len, Nat.add_sub_cancel]
  rcases h with hl | hl
  · simp only [hl, if_true]
    rcases tok_or_not (PCtx.slice { np := np, args := args } 2) with ⟨t, ht⟩ | hn
    · rw [tokAt_tok ht, ht]
      cases hb : t.is TokType.WORD <;> simp [hb] <;> rfl
    · rw [tokAt_not hn]
      simp [M.foreign, raise_bind]
  · simp only [hl, show ¬ (3 + 1 = 3) by omega, if_false]
    rcases tok_or_not (PCtx.slice { np := np, args := args } 3) with ⟨t, ht⟩ | hn
    · rw [tokAt_tok ht, ht]
      cases hb : t.is TokType.WORD <;> simp [hb] <;> rfl
    · rw [tokAt_not hn]
      simp [M.foreign, raise_bind]
theorem tokTypeOf_ASSIGNMENT_WORD : tokTypeOf "ASSIGNMENT_WORD" = some .ASSIGNMENT_WORD := by decide

theorem actgen_p_simple_command_element (np : NestedParse) (args : List SVal) :
    evalAct np "p_simple_command_element" act_p_simple_command_element args =
      actionCore np "p_simple_command_element" args := by
  rw [actionCore_p_simple_command_element]; unfold act_p_simple_command_element; actgen_eval
  simp only [tokTypeOf_ASSIGNMENT_WORD, PCtx.nodeAt]
  generalize hx : PCtx.slice { np := np, args := args } 1 = x
  cases x <;> simp [SVal.isNode]
  all_goals
    rcases tok_or_not (PCtx.slice { np := np, args := args } 1) with ⟨t, ht⟩ | hn
    · rw [tokAt_tok ht]
      simp only [pure_bind]
      congr 1; funext w
      split
      · cases w <;> simp [List.lookup]
      · rfl
    · rw [tokAt_not hn]
      simp [M.foreign, raise_bind]
theorem kind_compound (n : Node) : (n.kind == "compound") = isCompound n := by
  cases n <;> simp [Node.kind, isCompound]

theorem actgen_p_function_body (np : NestedParse) (args : List SVal) (h : slot args 2 ≠ .nodes []) :
    evalAct np "p_function_body" act_p_function_body args = actionCore np "p_function_body" args := by
  rw [actionCore_p_function_body]; unfold act_p_function_body; actgen_eval
  simp only [kind_compound, addRedirects, PCtx.nodeAt]
  generalize PCtx.slice { np := np, args := args } 1 = x
  cases x <;> simp [M.foreign, raise_bind]
  rename_i n
  cases n <;> simp [isCompound, handleAssert, M.foreign, raise_bind, raise_map]
  rename_i pos li r
  split
  · simp only [PCtx.nodesAt, slice_eq]
    cases h2 : slot args 2 <;> simp [h2, M.foreign, raise_bind] at h ⊢
    rename_i l
    cases hl : l.getLast? with
    | none => exact absurd (List.getLast?_eq_none_iff.1 hl) h
    | some last =>
      simp [hl, List.lookup]
  · rfl

/-- `p_command`: slot 1 is a node (and then, for `len(p) == 3`, slot 2 is a list) or slot 1 is a list -/
def commandOK (args : List SVal) : Bool :=
  ((slot args 1).isNode && (args.length + 1 != 3 || isNodesV (slot args 2))) || isNodesV (slot args 1)

theorem actgen_p_command (np : NestedParse) (args : List SVal) (h : commandOK args = true) :
    evalAct np "p_command" act_p_command args = actionCore np "p_command" args := by
  rw [actionCore_p_command]; unfold act_p_command; actgen_eval
  simp only [kind_compound, addRedirects, PCtx.nodeAt, PCtx.nodesAt, PCtx.len, slice_eq, commandOK] at h ⊢
  cases h1 : slot args 1 <;> simp [h1, SVal.isNode, isNodesV, M.foreign, raise_bind] at h ⊢
  rename_i n
  by_cases hl : args.length = 2 <;> simp [hl] at h ⊢
  cases h2 : slot args 2 <;> simp [h2] at h ⊢
  rename_i l
  cases n <;> simp [isCompound, handleAssert, M.foreign, raise_bind, raise_map]
  rename_i pos li r
  cases l.getLast?.or r.getLast? <;> simp [raise_map, List.lookup]
theorem ofList_eq_iff (w : List Char) (s : String) : String.ofList w = s ↔ w = s.toList := by
  constructor
  · intro h; subst h; simp
  · intro h; subst h; simp

theorem while_chars : "while".toList = ['w', 'h', 'i', 'l', 'e'] := by decide
theorem until_chars : "until".toList = ['u', 'n', 't', 'i', 'l'] := by decide
theorem ofList_while : String.ofList ['w', 'h', 'i', 'l', 'e'] = "while" := by decide
theorem ofList_until : String.ofList ['u', 'n', 't', 'i', 'l'] = "until" := by decide

/-- `_partsspan` of a non-empty list cannot fail and changes nothing: it can be dropped -/
theorem partsspan_discard {β : Type} (ps : List Node) (a : Node) (h : ps.head? = some a) (m : M β) :
    (partsspan ps >>= fun _ => m) = m := by
  unfold partsspan
  have hl : ∃ b, ps.getLast? = some b := by
    cases hb : ps.getLast? with
    | none => rw [List.getLast?_eq_none_iff] at hb; subst hb; simp at h
    | some b => exact ⟨b, rfl⟩
  obtain ⟨b, hb⟩ := hl
  simp only [h, hb, nodePos_eq]
  apply StateT.ext; intro s
  simp

theorem actgen_p_shell_command (np : NestedParse) (args : List SVal) :
    evalAct np "p_shell_command" act_p_shell_command args = actionCore np "p_shell_command" args := by
  rw [actionCore_p_shell_command]; unfold act_p_shell_command
  -- the two word literals as lists of characters first: otherwise they are decoded again in
  -- every comparison of the instances of `w = "while".toList`
  simp only [while_chars, until_chars]
  actgen_eval
  simp only [kind_compound, getStr, strVal, List.lookup]
  by_cases h2 : PCtx.len { np := np, args := args } = 2
  · simp only [h2, if_true]
  · simp only [h2, if_false]
    congr 1; funext parts
    cases hh : parts.head? with
    | none => simp only [M.foreign, String.reduceAppend, raise_bind]
    | some n =>
      cases n <;> simp only [M.foreign, String.reduceAppend, raise_bind, pure_bind, List.lookup_cons_self,
        ↓Char.isValue]
      rename_i pos w
      by_cases hw : w = ['w', 'h', 'i', 'l', 'e']
      · subst hw
        simp only [or_false, Token.valueStr, ↓Char.isValue, String.ofList_cons, String.reduceSingleton, String.ofList_nil,
          String.append_empty, String.reduceAppend, String.reduceEq, ↓reduceIte, handleAssert, isCompound, map_pure,
          bind_pure_comp, pure_bind, List.lookup, BEq.rfl, String.reduceBEq, bind_map_left, Option.isSome_none,
          partsspan_dup']
      · by_cases hu : w = ['u', 'n', 't', 'i', 'l']
        · subst hu
          simp only [or_true, List.cons.injEq, Char.reduceEq, and_true, and_self,
            Token.valueStr, ↓Char.isValue, String.ofList_cons, String.reduceSingleton, String.ofList_nil,
          String.append_empty, String.reduceAppend, String.reduceEq, ↓reduceIte, handleAssert, isCompound, map_pure,
          bind_pure_comp, pure_bind, List.lookup, BEq.rfl, String.reduceBEq, bind_map_left, Option.isSome_none,
          partsspan_dup']
        · have h1 : String.ofList w ≠ "while" := by rw [Ne, ofList_eq_iff, while_chars]; exact hw
          have h2 : String.ofList w ≠ "until" := by rw [Ne, ofList_eq_iff, until_chars]; exact hu
          simp only [Token.valueStr, h1, h2, or_self, ↓reduceIte, raise_bind, ↓Char.isValue, hw, hu]
          exact (partsspan_discard parts _ hh _).symm
end Bashlex.ActGen
