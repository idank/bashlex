/-
  C13 — top-level commands are parsed independently; spans are absolute offsets.
  C17 — `parsesingle` is the first element of `parse` (entry-point part).
  Model level, all inputs, all options.

  ## Results

  * Span algebra (`C13/Shift.lean`): `Node.shift_shift`, `Node.shift_zero`, `Node.preorder_mapPos_eq`,
    `Node.lastHeredocEnd_shift`, `nextIndex_shift`.
  * Entry points (`C13/Single.lean`): `parsesingle_eq`, `parsesingle_eq_head`, `parsesingle_exn_iff`,
    `parse_exn_of_parsesingle_exn`, `parsesingle_of_parse_exn`, `parse_nil_iff`.
  * The loop (`C13/Loop.lean`): the loop of `parse` as a fuel-free relation `Loop`, functional and
    total; `parseLoop_eq` (fuel adequacy: any fuel `> len(s) + 1 - index`), `parse_unfold`,
    `parse_eq_loop`.
  * Independence (`C13/Indep.lean`, `C13/NoEOF.lean`, and below):

    **`C13_independence`** (unconditional given locality).  Let `A` end in a newline or `R` start
    with one.  If `parse A` returns `psA` and every node-returning parser run of `parse A` was
    *local* (`parseLocal`: it never asked for `source` / the whole line / `_added_newline` and
    never examined a tape cell beyond the end of its own tape — it did not run into the end of
    input), then `parse (A ++ R)` returns `psA` followed by the parts a **fresh** call
    `parse ((A ++ R).drop j)` returns, shifted by `j`, where `j = parseStop A` is the index at
    which the loop of `parse A` stopped (`nextIndex` of `A`'s last part); if that fresh call
    raises, `parse (A ++ R)` raises the same exception.  So the only thing that flows from a
    top-level command to the next is the restart index.  `C13_first_part` is the instance for
    the first parser run alone (hypotheses `h1`, `h2` of the theorem); `C13_first_part_noEOF`
    has the simpler locality condition `runNoEOF` ("never told end of input",
    `runLocal_of_noEOF` of `C13/NoEOF.lean`).

    **`C13_partial`**, `C13_partial_exn` (no further hypothesis): if moreover the loop of
    `parse A` stopped exactly at the end of `A` and `R` parses on its own, then
    `parse (A ++ R) = psA ++ psR.map (shift (len A))`; if `parse R` raises, `parse (A ++ R)`
    raises the same exception.

    **`C13_partial_conditional`**: with `R = sep ++ B`, to replace the fresh `parse` on
    `(A ++ sep).drop j ++ B` by `parse B` one needs `BlankSkip`: the *first* parser run on
    `blank ++ B` returns the first run on `B`, shifted.  This translation property of one
    parser run is a hypothesis here.  With it:
    `parse (A ++ sep ++ B) = psA ++ psB.map (shift (len A + len sep))`
    (`C13_partial_conditional_newline`: the instance where `sep` starts with a newline).
    `BlankSkip` is proved for `proceedonerror = false` and a separator of blanks and newlines in
    `Props/C14.lean` (`blankSkip_run`, `BlankSkip_conditional`, `C13_partial_blank`); with
    `proceedonerror` it is false (D19, below).

  ## Why each hypothesis is there (all witnesses checked with `#eval` on the model; the first
     three also on the Python implementation)

  * `parseLocal A o` (locality).  Two classes of accepted inputs are not local, and for both the
    conclusion of C13 really fails (model and Python implementation):
    (i) a missing here-document in non-strict mode: `A = "a <<E"`, `o.strict = false`, `B = "b"`:
    `parse A = [command (0,5) …]`, `parse B = [b]`, but `parse "a <<E\nb"` raises `ParsingError
    "here-document at line 0 delimited by end-of-file (wanted 'E')"` (the run on `A` has
    `maxCell = 7 > 6 = len(tape)`: it saw the end of input);
    (ii) a trailing backslash, in every mode: `A = "a;\\"`, `B = "b"`:
    `parse A = [list (0,3) [a, operator (1,3) ";"]]`, `parse B = [b]`, but
    `parse "a;\\\nb" = [list (0,5) [a, operator (1,4) ";", command (4,5) b]]` — one part: the
    backslash and the separator's newline form a line continuation.
    Evidence that there is no third class (`#eval` on the model): on 1146 pairs from the test
    corpus (661 with both sides accepted) locality failed only for `a <<E`, `a <<-b`, `a <<EOF`
    (non-strict), and for these the conclusion fails; on 26645 short strings (all strings of
    length ≤ 3 over 24 critical characters plus token combinations), each run under two of the
    four strict/proceed combinations, 12547 runs returned a node, 528 of them were not local:
    456 of class (i), 72 of class (ii), none else.  In all these runs `runLocal = runNoEOF`.
  * `Joinable A R`: `A = "a"`, `R = "b"`: `parse "ab" = [command [word "ab"]]`.
  * `BlankSkip` (`run`): `A = "b"`, `sep = "\n"`, `B = "time a"`, `o.proceed = true` — a real
    violation of C13 (defect D19-proceed: with `proceedonerror` the unsupported `time` prefix
    becomes a `reservedword "!"` node with the *constant* span `(0,0)`, relative to whatever
    string the parser run was given):
    `parse B = [pipeline (0,6) [reservedword (0,0) "!", command (5,6) [word "a"]]]`, but
    `parse "b\ntime a" = [b, pipeline (1,8) [reservedword (1,1) "!", command (7,8) …]]` where C13
    demands `pipeline (2,8) [reservedword (2,2) "!", command (7,8) …]`: the span of the second
    part depends on where the previous part ended.  Likewise `B = "time\n\n"`:
    `parse B = [pipeline (0,0) [reservedword (0,0) "!"], command (1,4) [word "ime"]]` but
    `parse "a\ntime\n\n" = [a, pipeline (1,1) …, pipeline (2,2) …, command (3,6) [word "ime"]]`.
    `blankSkipB "\n" "time a" {proceed := true} = false`.  On the test corpus (3610 checks, all
    four strict/proceed combinations, five blank prefixes) `BlankSkip` failed 6 times, and on
    the 26645 short strings (14597 checks; each string under two of the four combinations, two
    prefixes) 13 times — every failure an input containing `time` with `proceedonerror`.
  * `BlankSkip` (`pos`): logically needed (`parse` resumes at `max(end, 1)` after the first part
    but at `max(end, index + 1)` later, so a first part of `B` with `nextIndex = 0` would be
    returned twice behind a non-empty prefix); the only parts with `nextIndex = 0` known are the
    `time` nodes above, for which `run` already fails.
  * `parseStop A o ≤ len(A ++ sep)`: needed to split `(A ++ sep ++ B).drop j`; no input
    violating it is known (it would need a span reaching beyond the input; a C03-type fact).

  ## Observation
  * When a later parser run raises, the `ParsingError` carries the *suffix* as its source and a
    position relative to that suffix (`parse "a\n)"` raises
    `ParsingError("unexpected token ')'", "\n)", 1)`): error positions are not absolute offsets,
    unlike the spans of the nodes.
-/
import Bashlex.Props.C13.Single
import Bashlex.Props.C13.Indep
import Bashlex.Props.C13.NoEOF

namespace Bashlex.C13
open Bashlex

/-- **C13, independence.**  `A` ends in a newline or `R` starts with one; `parse A` returns `psA`
    and all its node-returning parser runs are local.  Then `parse (A ++ R)` is `psA` followed by
    the result of a fresh `parse` on the rest of the input from the index `parseStop A o` where
    the loop of `parse A` stopped, with spans shifted by that index (`glue`; an exception of the
    fresh `parse` is the exception of `parse (A ++ R)`). -/
theorem C13_independence (A R : Str) (o : Opts) (psA : List Node) (hj : Joinable A R)
    (hA : (parse A o).1 = .parts psA) (hloc : parseLocal A o = true) :
    (parse (A ++ R) o).1 =
      glue psA (parseStop A o) (parse ((A ++ R).drop (parseStop A o)) o).1 := by
  obtain ⟨w, hw, rfl⟩ := walk_of_parse hA
  have hs := walk_seg A o _ _ _ _ hw
  have e1 : parseStop A o = w.stop := by unfold parseStop; rw [hw]
  have e2 : w.loc = true := by unfold parseLocal at hloc; rw [hw] at hloc; exact hloc
  rw [e1]
  rw [e2] at hs
  exact indep_core hj hs

/-- **C13 for the first command alone**: if the first parser run on `A`
    returns the node `a` and is local, then `parse (A ++ R)` returns `a` followed by the result of
    a fresh `parse` on the input from `max (nextIndex a) 1`, shifted. -/
theorem C13_first_part (A R : Str) (o : Opts) (a : Node) (t1 : List Char) (hj : Joinable A R)
    (h1 : runParser A o [] = (.ok (some a), t1)) (h2 : runLocal A o [] = true) :
    (parse (A ++ R) o).1 =
      glue [a] (max (nextIndex a) 1) (parse ((A ++ R).drop (max (nextIndex a) 1)) o).1 := by
  have hA : A ≠ [] := by
    intro e
    rw [e, runParser_nil] at h1
    cases h1
  have hs : Seg true A o 0 [] [a.shift 0] (max (nextIndex (a.shift 0)) (0 + 1)) t1 :=
    .cons (List.length_pos_iff.2 hA) (by rw [List.drop_zero]; exact h1)
      (fun _ => by rw [List.drop_zero]; exact h2) .nil
  rw [Node.shift_zero, Nat.zero_add] at hs
  exact indep_core hj hs

/-- `C13_first_part` with the simpler locality condition: the run on `A` was never told
    "end of input" (`runNoEOF`, see `C13/NoEOF.lean`) -/
theorem C13_first_part_noEOF (A R : Str) (o : Opts) (a : Node) (t1 : List Char) (hj : Joinable A R)
    (h1 : runParser A o [] = (.ok (some a), t1)) (h2 : runNoEOF A o [] = true) :
    (parse (A ++ R) o).1 =
      glue [a] (max (nextIndex a) 1) (parse ((A ++ R).drop (max (nextIndex a) 1)) o).1 :=
  C13_first_part A R o a t1 hj h1 (runLocal_of_noEOF h2)

/-- **C13, exact form (unconditional).**  If moreover the loop of `parse A` stopped exactly at
    the end of `A` (`A`'s last command ends where `A` ends: no trailing blanks, comment or
    newline), then for every `R` that starts with a newline and parses on its own — the
    separator and the second command, `R = sep ++ B`, taken together —
    `parse (A ++ R) = parse A ++ shift (len A) (parse R)`. -/
theorem C13_partial (A R : Str) (o : Opts) (psA psR : List Node) (hj : Joinable A R)
    (hA : (parse A o).1 = .parts psA) (hR : (parse R o).1 = .parts psR)
    (hloc : parseLocal A o = true) (hstop : parseStop A o = A.length) :
    (parse (A ++ R) o).1 = .parts (psA ++ psR.map (Node.shift A.length)) := by
  have h := C13_independence A R o psA hj hA hloc
  rw [hstop, List.drop_left, hR] at h
  exact h

/-- … and if `parse R` raises, `parse (A ++ R)` raises the same exception -/
theorem C13_partial_exn (A R : Str) (o : Opts) (psA : List Node) (e : Exn) (hj : Joinable A R)
    (hA : (parse A o).1 = .parts psA) (hR : (parse R o).1 = .exn e)
    (hloc : parseLocal A o = true) (hstop : parseStop A o = A.length) :
    (parse (A ++ R) o).1 = .exn e := by
  have h := C13_independence A R o psA hj hA hloc
  rw [hstop, List.drop_left, hR] at h
  exact h

/-- **C13, conditional on `BlankSkip`.**  `parse A = psA`, `parse B = psB`, `A`'s runs are local,
    `A` ends in a newline or `sep ++ B` starts with one (e.g. `sep` starts with a newline), the
    loop of `parse A` stopped inside `A ++ sep`, and the first parser run on the remaining blank
    text followed by `B` is the shifted first run on `B`.  Then
    `parse (A ++ sep ++ B) = parse A ++ shift (len A + len sep) (parse B)`. -/
theorem C13_partial_conditional (A sep B : Str) (o : Opts) (psA psB : List Node)
    (hj : Joinable A (sep ++ B))
    (hA : (parse A o).1 = .parts psA) (hB : (parse B o).1 = .parts psB)
    (hloc : parseLocal A o = true)
    (hstop : parseStop A o ≤ (A ++ sep).length)
    (hE : BlankSkip ((A ++ sep).drop (parseStop A o)) B o) :
    (parse (A ++ sep ++ B) o).1 =
      .parts (psA ++ psB.map (Node.shift (A.length + sep.length))) := by
  have h := C13_independence A (sep ++ B) o psA hj hA hloc
  rw [List.append_assoc, h]
  have hd : (A ++ (sep ++ B)).drop (parseStop A o) = (A ++ sep).drop (parseStop A o) ++ B := by
    rw [← List.append_assoc]
    exact List.drop_append_of_le_length hstop
  rw [hd, parse_blankSkip hE, hB]
  simp only [glue, List.nil_append]
  rw [Node.map_shift_shift, List.length_drop]
  have : (A ++ sep).length - parseStop A o + parseStop A o = A.length + sep.length := by
    rw [List.length_append] at hstop ⊢
    omega
  rw [this]

/-- the separator of the property statement: a newline followed by anything (`sep = '\n' :: _`)
    always makes `A` joinable -/
theorem C13_partial_conditional_newline (A sep' B : Str) (o : Opts) (psA psB : List Node)
    (hA : (parse A o).1 = .parts psA) (hB : (parse B o).1 = .parts psB)
    (hloc : parseLocal A o = true)
    (hstop : parseStop A o ≤ (A ++ '\n' :: sep').length)
    (hE : BlankSkip ((A ++ '\n' :: sep').drop (parseStop A o)) B o) :
    (parse (A ++ '\n' :: sep' ++ B) o).1 =
      .parts (psA ++ psB.map (Node.shift (A.length + (sep'.length + 1)))) := by
  have := C13_partial_conditional A ('\n' :: sep') B o psA psB (joinable_cons A _) hA hB hloc
    hstop hE
  rw [List.length_cons] at this
  exact this

/-! ## Non-vacuity: the hypotheses hold on concrete inputs (kernel evaluation) -/

/-- boolean check of `(parse …).1 = .parts ps` -/
def partsB : Outcome → List Node → Bool
  | .parts ps, qs => Node.beqL ps qs
  | _, _ => false

theorem parts_of_check {x : Outcome} {qs : List Node} (h : partsB x qs = true) : x = .parts qs := by
  cases x <;> simp [partsB] at h
  rw [Node.eq_of_beqL _ _ h]

def partsOf : Outcome → List Node
  | .parts ps => ps
  | _ => []

def isParts : Outcome → Bool
  | .parts _ => true
  | _ => false

theorem parts_of_isParts {x : Outcome} (h : isParts x = true) : x = .parts (partsOf x) := by
  cases x <;> simp [isParts] at h
  rfl

namespace Examples

/-- `a b` -/
def A1 : Str := ['a', ' ', 'b']
/-- `c | d` -/
def B1 : Str := ['c', ' ', '|', ' ', 'd']
def psA1 : List Node := [.command (0, 3) [.word (0, 1) ['a'] [], .word (2, 3) ['b'] []]]
def psB1 : List Node :=
  [.pipeline (0, 5) [.command (0, 1) [.word (0, 1) ['c'] []], .pipe (2, 3) ['|'],
    .command (4, 5) [.word (4, 5) ['d'] []]]]

/-- everything the examples need of `parse A1`, in one evaluation (the kernel shares the run) -/
theorem run1 : partsB (parse A1 {}).1 psA1 = true ∧ parseLocal A1 {} = true ∧
    parseStop A1 {} = A1.length ∧
    blankSkipB ((A1 ++ ['\n']).drop (parseStop A1 {})) B1 {} = true ∧ runNoEOF A1 {} [] = true := by
  decide +kernel

theorem hA1 : (parse A1 {}).1 = .parts psA1 := parts_of_check run1.1
theorem hB1 : (parse B1 {}).1 = .parts psB1 := parts_of_check (by decide +kernel)
theorem hloc1 : parseLocal A1 {} = true := run1.2.1
theorem hstop1' : parseStop A1 {} = A1.length := run1.2.2.1
theorem hstop1 : parseStop A1 {} ≤ (A1 ++ ['\n']).length := by rw [hstop1']; decide
theorem hE1 : BlankSkip ((A1 ++ ['\n']).drop (parseStop A1 {})) B1 {} :=
  blankSkip_of_check run1.2.2.2.1

/-- `parse "a b\nc | d"` from `parse "a b"` and `parse "c | d"`, by the theorem -/
theorem ex1 : (parse (A1 ++ ['\n'] ++ B1) {}).1 = .parts (psA1 ++ psB1.map (Node.shift 4)) :=
  C13_partial_conditional A1 ['\n'] B1 {} psA1 psB1 (by decide) hA1 hB1 hloc1 hstop1 hE1

/-- `\nc | d`: the separator and the second command together -/
def R1 : Str := '\n' :: B1
theorem hR1 : (parse R1 {}).1 = .parts (psB1.map (Node.shift 1)) :=
  parts_of_check (by decide +kernel)

/-- the unconditional exact form on `a b` and `\nc | d` -/
theorem ex4 : (parse (A1 ++ R1) {}).1 =
    .parts (psA1 ++ (psB1.map (Node.shift 1)).map (Node.shift 3)) :=
  C13_partial A1 R1 {} psA1 _ (by decide) hA1 hR1 hloc1 hstop1'

/-- the first run on `a b` was never told "end of input" -/
theorem noEOF1 : runNoEOF A1 {} [] = true := run1.2.2.2.2

/-- a here-document in `A`: `a <<E⏎x⏎E`, separator: newline, blank line, comment line -/
def A2 : Str := ['a', ' ', '<', '<', 'E', '\n', 'x', '\n', 'E']
def sep2 : Str := ['\n', ' ', '\n', '#', 'c', '\n']

theorem run2 : isParts (parse A2 {}).1 = true ∧ parseLocal A2 {} = true ∧ parseStop A2 {} = 9 ∧
    blankSkipB ((A2 ++ sep2).drop (parseStop A2 {})) B1 {} = true := by
  decide +kernel

theorem hA2 : (parse A2 {}).1 = .parts (partsOf (parse A2 {}).1) := parts_of_isParts run2.1
theorem hloc2 : parseLocal A2 {} = true := run2.2.1
theorem hstop2 : parseStop A2 {} ≤ (A2 ++ sep2).length := by rw [run2.2.2.1]; decide
theorem hE2 : BlankSkip ((A2 ++ sep2).drop (parseStop A2 {})) B1 {} :=
  blankSkip_of_check run2.2.2.2

theorem ex2 : (parse (A2 ++ sep2 ++ B1) {}).1 =
    .parts (partsOf (parse A2 {}).1 ++ psB1.map (Node.shift 15)) :=
  C13_partial_conditional A2 sep2 B1 {} _ psB1 (by decide) hA2 hB1 hloc2 hstop2 hE2

/-- the part of `A2` does hold a here-document whose end (9) is the restart index -/
theorem ex2_stop : parseStop A2 {} = 9 := run2.2.2.1

/-- two commands in `A`: `a⏎b #c⏎` (ends in a newline: joinable with anything, here `R = B1`
    directly); the loop of `parse A` stops at 3, before the comment -/
def A3 : Str := ['a', '\n', 'b', ' ', '#', 'c', '\n']

theorem run3 : isParts (parse A3 {}).1 = true ∧ parseLocal A3 {} = true ∧
    (partsOf (parse A3 {}).1).length = 2 ∧ parseStop A3 {} = 3 := by
  decide +kernel

theorem hA3 : (parse A3 {}).1 = .parts (partsOf (parse A3 {}).1) := parts_of_isParts run3.1
theorem hloc3 : parseLocal A3 {} = true := run3.2.1

/-- unconditional: `parse (A3 ++ B1)` is `parse A3` followed by a fresh `parse` of ` #c⏎c | d` -/
theorem ex3 : (parse (A3 ++ B1) {}).1 =
    glue (partsOf (parse A3 {}).1) (parseStop A3 {})
      (parse ((A3 ++ B1).drop (parseStop A3 {})) {}).1 :=
  C13_independence A3 B1 {} _ (by decide) hA3 hloc3

theorem ex3_parts : (partsOf (parse A3 {}).1).length = 2 ∧ parseStop A3 {} = 3 := run3.2.2

/-- the locality hypothesis fails for the witness `a <<E` in non-strict mode -/
theorem nonlocal_witness :
    parseLocal ['a', ' ', '<', '<', 'E'] { strict := false } = false := by decide +kernel

/-- … and the conclusion of C13 fails for it: `parse "a <<E"` and `parse "b"` succeed,
    `parse "a <<E\nb"` raises -/
theorem nonlocal_witness_fails :
    isParts (parse ['a', ' ', '<', '<', 'E'] { strict := false }).1 = true ∧
    isParts (parse ['b'] { strict := false }).1 = true ∧
    isParts (parse ['a', ' ', '<', '<', 'E', '\n', 'b'] { strict := false }).1 = false := by
  decide +kernel

/-- the second non-local class: a trailing backslash, `a;\\` (strict mode) -/
theorem backslash_witness : parseLocal ['a', ';', '\\'] {} = false := by decide +kernel

/-- … `parse "a;\\"` returns one part and `parse "a;\\⏎b"` returns one part, not two -/
theorem backslash_witness_fails :
    (partsOf (parse ['a', ';', '\\'] {}).1).length = 1 ∧
    (partsOf (parse ['b'] {}).1).length = 1 ∧
    (partsOf (parse ['a', ';', '\\', '\n', 'b'] {}).1).length = 1 := by decide +kernel

/-- `BlankSkip` fails for `B = "time\n\n"` with `proceedonerror` -/
theorem blankSkip_witness :
    blankSkipB ['\n'] ['t', 'i', 'm', 'e', '\n', '\n'] { proceed := true } = false := by
  decide +kernel

end Examples

end Bashlex.C13

/-! ## Axioms -/
#print axioms Bashlex.Node.shift_shift
#print axioms Bashlex.Node.lastHeredocEnd_shift
#print axioms Bashlex.nextIndex_shift
#print axioms Bashlex.C13.parsesingle_eq
#print axioms Bashlex.C13.parsesingle_eq_head
#print axioms Bashlex.C13.parsesingle_exn_iff
#print axioms Bashlex.C13.parse_exn_of_parsesingle_exn
#print axioms Bashlex.C13.parsesingle_of_parse_exn
#print axioms Bashlex.C13.parse_nil_iff
#print axioms Bashlex.C13.Loop.det
#print axioms Bashlex.C13.Loop.total
#print axioms Bashlex.C13.parseLoop_eq
#print axioms Bashlex.C13.parseLoop_fuel_irrelevant
#print axioms Bashlex.C13.parse_unfold
#print axioms Bashlex.C13.parse_eq_loop'
#print axioms Bashlex.C13.ofInput_prefix
#print axioms Bashlex.C13.runParser_append
#print axioms Bashlex.C13.Seg.transfer
#print axioms Bashlex.C13.Loop.of_drop
#print axioms Bashlex.C13.indep_core
#print axioms Bashlex.C13.parse_blankSkip
#print axioms Bashlex.C13.C13_independence
#print axioms Bashlex.C13.C13_first_part
#print axioms Bashlex.C13.C13_partial
#print axioms Bashlex.C13.C13_partial_exn
#print axioms Bashlex.C13.C13_partial_conditional
#print axioms Bashlex.C13.C13_partial_conditional_newline
#print axioms Bashlex.C13.Examples.ex1
#print axioms Bashlex.C13.Examples.ex2
#print axioms Bashlex.C13.Examples.ex3
#print axioms Bashlex.C13.Examples.ex4
#print axioms Bashlex.C13.runLocal_of_noEOF
#print axioms Bashlex.C13.C13_first_part_noEOF
