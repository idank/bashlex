/-
  Property C06 for `split` (model level), and "expansions are kept verbatim".

    C06/STok, SFinish, SNext   the real tokenizer around a word: equations on the runs of the
                     syntax-table queries and of the end of `_readtokenword`, a *total* statement
                     for the part after `# got_token` whatever the parser-state flags and the token
                     history are (`run_finishWord`: no exception, invariant kept, the token spans
                     the word), blank skipping, the final NEWLINE token
    C06/SWords       `wordsOf` (maximal runs of non-blanks), the plain characters
    C06/SSplit       the body of the loop of `split`; the fuel `len(line) + 4` is adequate
    C06/SQSpec       `shlexSplit_chunks`: `shlex.split` = quote removal of every raw chunk (`shOK`)
    C06/SQTok, SQTok2, SQWord, SQLoop, SQNext   the tokenizer on a chunk with backslash escapes,
                     '…' and "…": `_parse_matched_pair` (both quote kinds), `_readtokenword`,
                     `token()`: a token over exactly the chunk, QUOTED iff it holds quoting
    C06/SQSplit, SQChunks, SQParse   the loop of `split` over chunks, `rawChunks`, a decidable
                     parser for the input class, balanced / K8 / K9 from the shape
    C06/SVerb        `C06_verbatim`

  Exclusions (all decidable; witnesses at the end of this file, kernel-checked):
    plain class   CR (white space for shlex only), `#` (comment), metacharacters, newline: necessary;
                  `~ $` backquote: limits of the proof (`expandwordinternal_plain` needs `noExp`)
    quoted class  K1…K5 (`Spec.splitFeatures`), K8 line continuation, K9 = D33 final backslash,
                  `shOK` (inside "…" shlex keeps a backslash before `$`).
    both          `s.length + 3 ≤ 2^30`: the fuel of the model's tokenizer loops (Python has none)
-/
import Bashlex.Props.C06.SSplit
import Bashlex.Props.C06.SQParse
import Bashlex.Props.C06.SVerb

namespace Bashlex.C06S
open Bashlex Bashlex.M Bashlex.C10 Bashlex.C14 Bashlex.C06 Bashlex.Spec

theorem split_nil : (split []).1 = .strs [] := by rfl

theorem invT_init : InvT ({} : Local) :=
  ⟨rfl, rfl, rfl, rfl, rfl, rfl, rfl, ⟨rfl, rfl⟩⟩

/-! ## inputs with quotes and backslashes -/

theorem ofInput_nonl (s : Str) (hne : s ≠ []) (hnl : s.getLast? ≠ some '\n') :
    Tape.ofInput s = { line := s ++ ['\n'], added := true } := by
  cases hg : s.getLast? with
  | none => exact absurd (List.getLast?_eq_none_iff.1 hg) hne
  | some c => exact Tape.ofInput_of_ne hg fun h => hnl (h ▸ hg)

theorem split_run_quoted (s : Str) (cs : List (Str × Bool)) (h : QInputL s cs)
    (hgood : ∀ tq ∈ cs, chunkGood tq = true) (hnl : s.getLast? ≠ some '\n')
    (hlen : s.length + 3 ≤ 1073741824) (hne : s ≠ []) :
    ∃ l' e', M.run (splitM s) {} { tape := Tape.ofInput s } =
      (.ok (cs.map (fun tq => quoteRemove (fun _ => false) tq.1), l'), e') := by
  rw [ofInput_nonl s hne hnl, splitM_eq, M.run_bind, run_tapeLine]
  simp only []
  rw [M.run_bind, C11.run_tapeAdded]
  simp only [tapeOf]
  obtain ⟨l', e', h⟩ := run_split_qloop s hlen s cs h [] 0 [] {}
    { tape := { line := s ++ ['\n'], added := true } } ((s ++ ['\n']).length + 4)
    (by simp) (by simp) (by simp) invT_init rfl rfl (by simp) hgood
  exact ⟨l', e', by simpa using h⟩

theorem qinput_nil {cs : List (Str × Bool)} (h : QInputL [] cs) : cs = [] := by
  generalize hs : ([] : Str) = s at h
  cases h with
  | nil => rfl
  | blank => cases hs
  | chunk t q r cs ht hne =>
    have : t = [] := by
      have := congrArg List.length hs; simp at this; exact List.eq_nil_of_length_eq_zero (by omega)
    exact absurd this hne

/-- **C06_split_quoted**: an input that is a blank-separated sequence of chunks made of plain
    characters, backslash-character pairs, '…' and "…" strings (`QInputL s cs`), every chunk
    satisfying the hypotheses of `C06_plain` (`PlainOK`: K1…K5, K8, K9, no expansion character);
    `shlex` and quote removal agreeing on the input (`shOK`); no final newline; shorter than the
    fuel of the model's loops.  Then `split` yields the quote removal of every chunk, and so does
    POSIX `shlex.split`. -/
theorem C06_split_quoted (s : Str) (cs : List (Str × Bool)) (h : QInputL s cs)
    (hgood : ∀ tq ∈ cs, chunkGood tq = true) (hsh : shOK 0 s = true)
    (hnl : s.getLast? ≠ some '\n') (hlen : s.length + 3 ≤ 1073741824) :
    (split s).1 = .strs (cs.map (fun tq => quoteRemove (fun _ => false) tq.1)) ∧
    shlexSplit s = some (cs.map (fun tq => quoteRemove (fun _ => false) tq.1)) := by
  constructor
  · by_cases hne : s = []
    · subst hne
      rw [qinput_nil h]
      exact split_nil
    · obtain ⟨l', e', hrun⟩ := split_run_quoted s cs h hgood hnl hlen hne
      unfold split
      simp only []
      have : (splitM s).run {} { tape := Tape.ofInput s } =
          M.run (splitM s) {} { tape := Tape.ofInput s } := rfl
      rw [this, hrun]
  · rw [shlexSplit_chunks s hsh, rawChunks_input s cs h, List.map_map]
    rfl

/-- `split` and `shlex.split` agree on such inputs -/
theorem C06_split_eq_shlex (s : Str) (cs : List (Str × Bool)) (h : QInputL s cs)
    (hgood : ∀ tq ∈ cs, chunkGood tq = true) (hsh : shOK 0 s = true)
    (hnl : s.getLast? ≠ some '\n') (hlen : s.length + 3 ≤ 1073741824) :
    ∃ ws, (split s).1 = .strs ws ∧ shlexSplit s = some ws :=
  ⟨_, C06_split_quoted s cs h hgood hsh hnl hlen⟩

/-! ## plain inputs: the case in which every chunk is a word of plain characters -/

theorem featGo_plainW (V : Nat → Bool) (sd : Bool) : ∀ (w : Str) (fuel i : Nat) (f : QFeat),
    (∀ x ∈ w, plainCh x = true) → featGo V sd fuel 0 i w f = f
  | _, 0, _, _, _ => by rw [featGo]
  | [], _ + 1, _, _, _ => by simp [featGo]
  | c :: w, fuel + 1, i, f, h => by
    obtain ⟨_, _, _, _, f5, f6, f7, f8, _⟩ := plainCh_facts (h c (by simp))
    rw [featGo.eq_def]
    simp only [beq_eq_false_iff_ne.2 f5, beq_eq_false_iff_ne.2 f6, beq_eq_false_iff_ne.2 f7,
      beq_eq_false_iff_ne.2 f8, if_false, Bool.false_and, Bool.false_eq_true]
    exact featGo_plainW V sd w fuel (i + 1) f fun x hx => h x (by simp [hx])

theorem plainOK_plainW (w : Str) (h : ∀ x ∈ w, plainCh x = true) : PlainOK w = true := by
  obtain ⟨hb, h8, h9⟩ := items_shape (items_plainW w h)
  have hk : noK (quoteFeatures w) = true := by
    have hh : (w.head? == some '\'') = false ∧ (w.head? == some '"') = false := by
      cases w with
      | nil => exact ⟨rfl, rfl⟩
      | cons c w =>
        obtain ⟨_, _, _, _, _, f6, f7, _⟩ := plainCh_facts (h c (by simp))
        simp [f6, f7]
    simp only [quoteFeatures, hh.1, hh.2, Bool.false_and, Bool.false_eq_true, if_false,
      featGo_plainW _ _ w _ _ _ h]
    rfl
  simp only [PlainOK, plain_noExp w h, hb, hk, h8, h9]
  rfl

theorem plain_mem {s : Str} (hs : plainInput s = true) {c : Char} (hc : c ∈ s) :
    plainCh c = true ∨ shellblank c = true := by
  have := List.all_eq_true.1 hs c hc
  rw [plainC_eq] at this
  exact Bool.or_eq_true_iff.1 this

theorem qinput_plain : ∀ (n : Nat) (s : Str), s.length ≤ n → plainInput s = true →
    ∃ cs, QInputL s cs ∧ (∀ tq ∈ cs, chunkGood tq = true) ∧
      cs.map (fun tq => quoteRemove (fun _ => false) tq.1) = wordsOf s
  | _, [], _, _ => ⟨[], .nil, by simp, rfl⟩
  | n + 1, c :: r, hn, hs => by
    have hr : plainInput r = true := by
      simp only [plainInput, List.all_cons, Bool.and_eq_true] at hs; exact hs.2
    rcases plain_mem hs (c := c) (by simp) with hc | hc
    · obtain ⟨w, r3, hr2, hw, hr3⟩ := spanP plainCh r
      have hcw : ∀ x ∈ c :: w, plainCh x = true := by
        intro x hx
        rcases List.mem_cons.1 hx with rfl | hx
        · exact hc
        · exact hw x hx
      have hbnd : r3 = [] ∨ ∃ b r', r3 = b :: r' ∧ shellblank b = true := by
        rcases hr3 with rfl | ⟨y, r3', rfl, hy⟩
        · exact Or.inl rfl
        · refine Or.inr ⟨y, r3', rfl, ?_⟩
          rcases plain_mem hr (c := y) (by rw [hr2]; simp) with h | h
          · rw [hy] at h; cases h
          · exact h
      have hr3p : plainInput r3 = true := by
        rw [hr2] at hr
        simp only [plainInput, List.all_append, Bool.and_eq_true] at hr; exact hr.2
      obtain ⟨cs, h1, h2, h3⟩ := qinput_plain n r3
        (by have := congrArg List.length hr2; simp at this hn; omega) hr3p
      refine ⟨(c :: w, false) :: cs, ?_, ?_, ?_⟩
      · have := QInputL.chunk (c :: w) false r3 cs (items_plainW _ hcw) (by simp) hbnd h1
        rw [hr2]; exact this
      · intro tq htq
        rcases List.mem_cons.1 htq with rfl | htq
        · exact plainOK_plainW _ hcw
        · exact h2 tq htq
      · rw [List.map_cons, h3, quoteRemove_eq_qr, qr_plain _ hcw, hr2]
        exact (wordsOf_word (c :: w) r3 (fun x hx => plain_nonblank (hcw x hx)) (by simp) hbnd).symm
    · obtain ⟨cs, h1, h2, h3⟩ := qinput_plain n r (by simp at hn; omega) hr
      refine ⟨cs, .blank c r cs hc h1, h2, ?_⟩
      rw [h3]
      exact (wordsOf_blanks [c] r (by simp [hc])).symm

theorem shOK_plain : ∀ (s : Str), plainInput s = true → shOK 0 s = true
  | [], _ => rfl
  | c :: r, hs => by
    have hr : plainInput r = true := by
      simp only [plainInput, List.all_cons, Bool.and_eq_true] at hs; exact hs.2
    have : c ≠ '\n' ∧ c ≠ '\r' ∧ c ≠ '\\' ∧ c ≠ '\'' ∧ c ≠ '"' := by
      rcases plain_mem hs (c := c) (by simp) with h | h
      · obtain ⟨_, _, f3, f4, f5, f6, f7, _⟩ := plainCh_facts h
        exact ⟨f3, f4, f5, f6, f7⟩
      · simp only [shellblank, Bool.or_eq_true, beq_iff_eq] at h
        rcases h with rfl | rfl <;> decide
    obtain ⟨a1, a2, a3, a4, a5⟩ := this
    rw [shOK.eq_def]
    simp only [beq_eq_false_iff_ne.2 a1, beq_eq_false_iff_ne.2 a2, beq_eq_false_iff_ne.2 a3,
      beq_eq_false_iff_ne.2 a4, beq_eq_false_iff_ne.2 a5, Bool.or_self, Bool.false_eq_true, if_false]
    exact shOK_plain r hr

theorem nonl_plain (s : Str) (hs : plainInput s = true) : s.getLast? ≠ some '\n' := by
  intro h
  rcases plain_mem hs (List.mem_of_getLast? h) with h | h
  · exact absurd rfl (plainCh_facts h).2.2.1
  · cases h

/-- **C06_split_plain**: on an input made of plain characters (no blank, newline, CR, backslash,
    quote, `$`, backquote, `~`, `#`, metacharacter), blanks and tabs — shorter than the fuel of
    the model's loops — `split` returns the words of the input, and so does POSIX `shlex.split`. -/
theorem C06_split_plain (s : Str) (hs : plainInput s = true) (hlen : s.length + 3 ≤ 1073741824) :
    (split s).1 = .strs (wordsOf s) ∧ shlexSplit s = some (wordsOf s) := by
  obtain ⟨cs, h1, h2, h3⟩ := qinput_plain _ s (Nat.le_refl _) hs
  rw [← h3]
  exact C06_split_quoted s cs h1 h2 (shOK_plain s hs) (nonl_plain s hs) hlen

/-- the loop of `split` (fuel `len(line) + 4`) does not run out of fuel on such inputs, nor does
    any tokenizer loop: `outOfFuel` (and every other exception of `C01_partial_split`) is excluded -/
theorem split_terminates_plain (s : Str) (hs : plainInput s = true)
    (hlen : s.length + 3 ≤ 1073741824) : ∀ x, (split s).1 ≠ .exn x := by
  intro x h
  rw [(C06_split_plain s hs hlen).1] at h
  cases h

theorem C06_split_eq_shlex_plain (s : Str) (hs : plainInput s = true)
    (hlen : s.length + 3 ≤ 1073741824) :
    ∃ ws, (split s).1 = .strs ws ∧ shlexSplit s = some ws :=
  ⟨wordsOf s, C06_split_plain s hs hlen⟩

theorem shlexSplit_plain (s : Str) (h : plainInput s = true) : shlexSplit s = some (wordsOf s) := by
  obtain ⟨cs, h1, _, h3⟩ := qinput_plain _ s (Nat.le_refl _) h
  rw [shlexSplit_chunks s (shOK_plain s h), rawChunks_input s cs h1, List.map_map, ← h3]
  rfl

/-- the loop of `split` on the rest `r` of a plain input -/
theorem run_split_loop (s : Str) (hs : plainInput s = true) (hlen : s.length + 3 ≤ 1073741824) :
    ∀ (n : Nat) (r : Str) (i : Nat) (acc : List Str) (l : Local) (e : Env) (fuel : Nat),
      r.length ≤ n → i ≤ s.length → s.drop i = r → InvT l → e.tape.line = s ++ ['\n'] →
      e.tape.idx = i → r.length + 2 ≤ fuel →
      ∃ l' e', M.run (M.loop "split" (splitBody s (s ++ ['\n']) true) fuel acc) l e =
        (.ok (acc ++ wordsOf r, l'), e') := by
  intro n r i acc l e fuel _ hi hr hinv hline hidx hfuel
  have hpr : plainInput r = true := by
    rw [← hr]
    exact List.all_eq_true.2 fun c hc => List.all_eq_true.1 hs c (List.mem_of_mem_drop hc)
  obtain ⟨cs, h1, h2, h3⟩ := qinput_plain _ r (Nat.le_refl _) hpr
  rw [← h3]
  exact run_split_qloop s hlen r cs h1 [] i acc l e fuel (fun _ hx => by cases hx)
    (by have := congrArg List.length hr; simp at this ⊢; omega) (by simpa using hr) hinv hline hidx
    (by simpa using hfuel) h2

/-- all hypotheses of `C06_split_quoted` but the fuel bound, as one decidable predicate -/
def splitOK (s : Str) : Bool :=
  match parseInput s with
  | some cs => cs.all chunkGood && shOK 0 s && (s.getLast? != some '\n')
  | none => false

/-- **C06_split_quoted_dec**: the decidable form.  `parseInput` computes the chunks. -/
theorem C06_split_quoted_dec (s : Str) (h : splitOK s = true) (hlen : s.length + 3 ≤ 1073741824) :
    ∃ ws, (split s).1 = .strs ws ∧ shlexSplit s = some ws ∧
      ws = (rawChunks s).map (quoteRemove (fun _ => false)) := by
  unfold splitOK at h
  cases hp : parseInput s with
  | none => rw [hp] at h; cases h
  | some cs =>
    rw [hp] at h
    simp only [Bool.and_eq_true, bne_iff_ne, ne_eq] at h
    obtain ⟨⟨h1, h2⟩, h3⟩ := h
    have hq := parseInput_sound s cs hp
    obtain ⟨a, b⟩ := C06_split_quoted s cs hq (fun tq htq => List.all_eq_true.1 h1 tq htq) h2 h3 hlen
    refine ⟨_, a, b, ?_⟩
    rw [rawChunks_input s cs hq, List.map_map]
    rfl

/-- no exception (in particular no `outOfFuel "split"`) on such inputs -/
theorem split_terminates_quoted (s : Str) (h : splitOK s = true)
    (hlen : s.length + 3 ≤ 1073741824) : ∀ x, (split s).1 ≠ .exn x := by
  obtain ⟨ws, a, _⟩ := C06_split_quoted_dec s h hlen
  intro x hx
  rw [a] at hx
  cases hx

/-! ## link to `Spec.splitFeatures` (the feature union the executable check of C06 tags with) -/

def orF (f g : QFeat) : QFeat :=
  { k1 := f.k1 || g.k1, k2 := f.k2 || g.k2, k3 := f.k3 || g.k3, k4 := f.k4 || g.k4,
    k5 := f.k5 || g.k5, k6 := f.k6 || g.k6, k7 := f.k7 || g.k7 }

theorem noK_orF {f g : QFeat} (h : noK (orF f g) = true) : noK f = true ∧ noK g = true := by
  simp only [noK, orF, Bool.and_eq_true, Bool.not_eq_true', Bool.or_eq_false_iff] at h ⊢
  obtain ⟨⟨⟨⟨⟨a1, a2⟩, ⟨b1, b2⟩⟩, ⟨c1, c2⟩⟩, ⟨d1, d2⟩⟩, ⟨e1, e2⟩⟩ := h
  exact ⟨⟨⟨⟨⟨a1, b1⟩, c1⟩, d1⟩, e1⟩, ⟨⟨⟨⟨a2, b2⟩, c2⟩, d2⟩, e2⟩⟩

theorem noK_foldl : ∀ (l : List Str) (f : QFeat),
    noK (l.foldl (fun f ch => orF f (quoteFeatures ch)) f) = true →
    noK f = true ∧ ∀ t ∈ l, noK (quoteFeatures t) = true
  | [], f, h => ⟨h, fun t ht => by cases ht⟩
  | c :: l, f, h => by
    obtain ⟨h1, h2⟩ := noK_foldl l (orF f (quoteFeatures c)) h
    obtain ⟨h3, h4⟩ := noK_orF h1
    refine ⟨h3, fun t ht => ?_⟩
    rcases List.mem_cons.1 ht with rfl | ht
    · exact h4
    · exact h2 t ht

/-- if the feature union `Spec.splitFeatures s` shows none of K1…K5, no raw chunk of `s` does -/
theorem noK_splitFeatures (s : Str) (h : noK (splitFeatures s) = true) :
    ∀ t ∈ rawChunks s, noK (quoteFeatures t) = true :=
  (noK_foldl (rawChunks s) {} h).2

theorem qinput_items {s : Str} {cs : List (Str × Bool)} (h : QInputL s cs) :
    ∀ tq ∈ cs, Items tq.1 tq.2 := by
  induction h with
  | nil => intro tq h; cases h
  | blank b r cs hb _ ih => exact ih
  | chunk t q r cs ht hne hr _ ih =>
    intro tq h
    rcases List.mem_cons.1 h with rfl | h
    · exact ht
    · exact ih tq h

/-- the hypotheses in the form of the property's executable check: the input parses into chunks
    (`parseInput`), no chunk holds an expansion character, the feature union `Spec.splitFeatures s` shows none of K1…K5, `shlex` and quote
    removal agree (`shOK`), no final newline.  (Balanced quotes, K8 and K9/D33 — no line
    continuation, no final backslash — follow from the shape: `items_shape`.) -/
def splitOK2 (s : Str) : Bool :=
  match parseInput s with
  | some cs => cs.all (fun tq => noExp tq.1) && noK (splitFeatures s) &&
      shOK 0 s && (s.getLast? != some '\n')
  | none => false

theorem splitOK_of_splitOK2 (s : Str) (h : splitOK2 s = true) : splitOK s = true := by
  unfold splitOK2 at h
  unfold splitOK
  cases hp : parseInput s with
  | none => rw [hp] at h; cases h
  | some cs =>
    rw [hp] at h
    simp only [Bool.and_eq_true] at h ⊢
    obtain ⟨⟨⟨h1, h2⟩, h3⟩, h4⟩ := h
    refine ⟨⟨?_, h3⟩, h4⟩
    have hq := parseInput_sound s cs hp
    rw [List.all_eq_true]
    intro tq htq
    have a : noExp tq.1 = true := List.all_eq_true.1 h1 tq htq
    obtain ⟨hb, h8, h9⟩ := items_shape (qinput_items hq tq htq)
    have hk := noK_splitFeatures s h2 tq.1 (by rw [rawChunks_input s cs hq]; exact List.mem_map_of_mem htq)
    simp only [chunkGood, PlainOK, Bool.and_eq_true, Bool.not_eq_true']
    exact ⟨⟨⟨⟨a, hb⟩, hk⟩, h8⟩, h9⟩

/-- **C06_split_quoted_features**: `split s = shlex.split s` under `splitOK2` -/
theorem C06_split_quoted_features (s : Str) (h : splitOK2 s = true)
    (hlen : s.length + 3 ≤ 1073741824) :
    ∃ ws, (split s).1 = .strs ws ∧ shlexSplit s = some ws ∧
      ws = (rawChunks s).map (quoteRemove (fun _ => false)) :=
  C06_split_quoted_dec s (splitOK_of_splitOK2 s h) hlen

/-! ## non-vacuity and necessity of the exclusions (kernel-checked)

  `both s` = (what `split` yields, what POSIX `shlex.split` yields).                          -/

def strsOf (s : Str) : Option (List Str) :=
  match (split s).1 with
  | .strs l => some l
  | _ => none

def both (s : String) : Option (List String) × Option (List String) :=
  ((strsOf s.toList).map (·.map String.ofList), (shlexSplit s.toList).map (·.map String.ofList))

-- the hypotheses are satisfiable by non-trivial inputs, and the conclusion is what one expects
example : splitOK "a\\ b  'c d' \"e f\" g\\'h '' x\"y\\\"z\"w".toList = true := by decide +kernel
example : both "a\\ b  'c d' \"e f\" g\\'h '' x\"y\\\"z\"w" =
    (some ["a b", "c d", "e f", "g'h", "", "xy\"zw"], some ["a b", "c d", "e f", "g'h", "", "xy\"zw"]) := by
  decide +kernel
example : splitOK2 "'if' \"in\" a=b x='1' '='".toList = true := by decide +kernel
example : splitOK2 "a\\ b  'c d' \"e f\" g\\'h '' x\"y\\\"z\"w".toList = true := by decide +kernel
example : plainInput "if for x in {a,b} ! [[ a=b 12 = time function f { }".toList = true := by decide +kernel
example : both " if for x in {a,b} ! [[ a=b 12 = time function f { }" =
    (some ["if", "for", "x", "in", "{a,b}", "!", "[[", "a=b", "12", "=", "time", "function", "f", "{", "}"],
     some ["if", "for", "x", "in", "{a,b}", "!", "[[", "a=b", "12", "=", "time", "function", "f", "{", "}"]) := by
  decide +kernel

-- plain class (goal 1): carriage return, `#`, metacharacters, newline are necessary exclusions
example : both "a\rb" = (some ["a\rb"], some ["a", "b"]) := by decide +kernel
example : both "a #b" = (some ["a"], some ["a", "#b"]) := by decide +kernel
example : both "a|b" = (some ["a", "|", "b"], some ["a|b"]) := by decide +kernel
example : both "a\nb" = (some ["a", "\n", "b"], some ["a", "b"]) := by decide +kernel
-- (`~`, `$`, backquote are excluded because `expandwordinternal_plain` needs `noExp`; on
--  `~a $b` the two still agree: the exclusion is a limit of the proof, not of the implementation)
example : both "~a $b" = (some ["~a", "$b"], some ["~a", "$b"]) := by decide +kernel

-- quoted class (goal 2):
-- the defect found here (a quoted assignment in command position was yielded as its raw source
-- slice, `a='b'` for `a='b'`) is REPAIRED: `split` hands ASSIGNMENT_WORD tokens to the expander too.
-- Quoted assignment words in command position are covered by `C06_split_quoted*`:
example : splitOK2 "a='b' c".toList = true ∧ splitOK2 "a=\\b".toList = true ∧
    splitOK2 "x=\"b c\" d".toList = true ∧ splitOK2 "x a='b'".toList = true := by decide +kernel
example : both "a='b' c" = (some ["a=b", "c"], some ["a=b", "c"]) := by decide +kernel
example : both "a=\\b" = (some ["a=b"], some ["a=b"]) := by decide +kernel
example : both "x=\"b c\" d" = (some ["x=b c", "d"], some ["x=b c", "d"]) := by decide +kernel
example : both "x a='b'" = (some ["x", "a=b"], some ["x", "a=b"]) := by decide +kernel
-- plain assignments are covered by `C06_split_plain` (`=` and `+` are plain characters)
example : plainInput "a=b c+=d".toList = true := by decide +kernel
example : both "a=b c+=d" = (some ["a=b", "c+=d"], some ["a=b", "c+=d"]) := by decide +kernel
-- outside the class (a metacharacter): `a+=('x') b`
example : both "a+=('x') b" = (some ["a+=", "(", "x", ")", "b"], some ["a+=(x)", "b"]) := by decide +kernel
-- D33 / K9: final backslash (`shlex`: ValueError, No escaped character)
example : both "a\\" = (some ["a"], none) := by decide +kernel
-- K1 … K5 at the level of `split`
example : both "'a'b'c'" = (some ["a'b'c"], some ["abc"]) := by decide +kernel
example : both "a'b\\c'" = (some ["abc"], some ["ab\\c"]) := by decide +kernel
example : both "\"a\"'b'" = (some ["a'b'"], some ["ab"]) := by decide +kernel
example : both "a\"'\"" = (some ["a"], some ["a'"]) := by decide +kernel
example : both "\"\\a\"" = (some ["a"], some ["\\a"]) := by decide +kernel
-- K8: a line continuation (`shlex` keeps the newline)
example : both "a\\\nb" = (some ["ab"], some ["a\nb"]) := by decide +kernel
-- `shOK`: inside "…" `shlex` keeps a backslash before `$`, the shell (and bashlex) drop it
example : shlexSplit "\"\\$\"".toList = some ["\\$".toList] ∧
    quoteRemove (fun _ => false) "\"\\$\"".toList = "$".toList := by decide +kernel

end Bashlex.C06S

#print axioms Bashlex.C06S.C06_split_plain
#print axioms Bashlex.C06S.split_terminates_plain
#print axioms Bashlex.C06S.shlexSplit_chunks
#print axioms Bashlex.C06S.C06_split_quoted
#print axioms Bashlex.C06S.C06_split_quoted_dec
#print axioms Bashlex.C06S.split_terminates_quoted
#print axioms Bashlex.C06S.C06_split_quoted_features
#print axioms Bashlex.C06S.C06_verbatim
#print axioms Bashlex.C06S.C06_verbatim_word
