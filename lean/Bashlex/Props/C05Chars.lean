/-
  Property C05, the CHARACTER-LEVEL half, at model level, for the real tokenizer, without
  hypothesis on the token source:
  "… Every character outside all leaf spans is a blank, a newline, a comment or a line
   continuation …"

  `C05_chars_checked`: under the decidable per-input condition `C03.rootEndsChecked s o` (as in
  `Props/C05Checked.lean`) and `|s| + 1 < 2^30` (the model's loop fuel, see
  `Props/C05/TokGapsProof.lean`), every part `parse s o` returns is a parser run's tree `n` moved by
  `k`; `L0 = s[k:]` plus the newline `tokenizer.__init__` appends is the line that run's tokenizer
  reads, and there are: the tokens `ts` the run consumed, at most one look-ahead token `la`, a
  cursor `B` and the run's redirect store `st`, such that
    * every consumed token is a dropped NEWLINE, a `time` token (D19) or lies inside a leaf of `n`
      (`C05_total_tokens_in_leaves_checked`);
    * `B` is at or behind the end of every delivered token (cut at the end of the line), and at
      the end of the line if the look-ahead is the EOF token: the statement is about the whole
      text the run's tokenizer has read;
    * **every position `p < B` of `L0`** lies inside a leaf span of `n`, or is layout
      (`PosLay L0 p`, spelled out per character by `posLay_charLay`: blank, tab, newline, the
      backslash of a backslash-newline pair, or inside a comment `#…` up to its newline), or
      -- the exclusions, all explicit --
        - lies inside a consumed `time` / `-p` / `--` token (D19: with a `time` prefix the parser
          drops these tokens from the tree; witness `time a`:
          `#eval Spec.coverOK "time a".toList …` reports `gap-not-layout`),
        - lies inside the look-ahead token (read, not consumed: it is the first token of the
          next part's run -- the loop of `parse` restarts at `max (nextIndex part) (index+1)` and
          the text up to the next part is the next run's leading `Skip` / dropped NEWLINEs),
        - lies inside a here-document body the tokenizer gathered (recorded in the redirect
          store `st`).  Bodies attached to redirect nodes of the tree are leaves
          (`Spec.leaves` of a redirect); that EVERY cell of the store belongs to a redirect of
          the returned tree -- a conservation fact about the semantic actions, not about the
          tokenizer -- is not part of this statement: it is `C05_chars_total`
          (`Props/C05Final.lean`), of which this theorem is the weakening `CharsTotal.charsOK`.
          By evaluation (`reportBodies`, `TGValidate.lean`) every body of the store lies inside
          a leaf of the returned tree on all 1234 inputs tried, D19 inputs included.
  No exclusion is needed for D31 / D32 (`a<\⏎ b`, `a;\`): the characters `_ungetc` could not give
  back lie INSIDE the span of the token before (C04's residues), not between tokens; none for D11
  (a here-document inside a compound command: the body is gathered one line late AND parsed as
  commands -- the leaves overlap, `leaf-overlap+heredoc-body` in `Spec.coverOK`; overlapping
  leaves leave no character uncovered).
  The statement does not go through `Spec.coverOK`'s `Array.qsort`: it is about positions.
  Link to the specification: `skip_isLayout`: what one call of `token()` skips is layout in the
  sense of `Spec.isLayout` (the predicate `Spec.gapsOK` applies to the gaps); the algebra that
  would glue the segments of a gap (skipped runs, dropped NEWLINE tokens, gathered regions) into
  one `isLayout` text, and `Array.qsort`, are not done.
-/
import Bashlex.Props.C05Final

namespace Bashlex.C05
open Bashlex Bashlex.Spec Bashlex.Node Bashlex.M Bashlex.LR Bashlex.C12 Bashlex.C03
  Bashlex.C03.Tok Bashlex.C10 Bashlex.C11 Bashlex.C05.TG

theorem CharsTotal.charsOK {s0 : Str} {n : Node} (h : CharsTotal s0 n) :
    CharsOK (Tape.ofInput s0).line n := by
  obtain ⟨ts, la, B, st, hla, _, hs, _, hin, hcur, heof, hpos, _⟩ := h
  exact ⟨ts, la, B, st, hla, hs, hin, hcur, heof, fun p h1 h2 =>
    (hpos p h1 h2).imp id (Or.imp id (Or.imp id Or.inl))⟩

/-- **C05, character level (model level), `parse`, for the real tokenizer, without hypothesis on
    the token source** (see the header) -/
theorem C05_chars_checked (s : Str) (o : Opts) (parts : List Node)
    (hlen : s.length + 1 < 1073741824)
    (hc : C03.rootEndsChecked s o = true) (h : (parse s o).1 = .parts parts) :
    ∀ part ∈ parts, ∃ k n, k ≤ s.length ∧ part = n.shift k ∧
      Spec.leaves part = (Spec.leaves n).map (shL k) ∧
      CharsOK (Tape.ofInput (s.drop k)).line n := by
  intro part hp
  obtain ⟨k, n, hk, hn, hl, ht⟩ := C05_chars_total s o parts hlen hc h part hp
  exact ⟨k, n, hk, hn, hl, ht.charsOK⟩

end Bashlex.C05

#print axioms Bashlex.C05.C05_chars_checked
#print axioms Bashlex.C05.C05_chain_checked
