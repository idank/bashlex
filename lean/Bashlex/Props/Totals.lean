/-
  The total theorems of C03 / C04 / C05 / C16 with the hypothesis `RootEnds` DISCHARGED
  (`Props/C03/RootEndsProof.lean`: **`rootEnds : RootEnds`**, no hypotheses):

  * the `_conditional` theorems (hypothesis `RootEnds`) become theorems without hypothesis;
  * the `_checked` theorems lose the per-input condition `rootEndsChecked s o`
    (`rootEndsChecked_of_rootEnds`).
-/
import Bashlex.Props.C03.RootEndsProof
import Bashlex.Props.C03.RootEnds
import Bashlex.Props.C05Checked
import Bashlex.Props.C05Token
import Bashlex.Props.C05Chars
import Bashlex.Props.C16.Stable
import Bashlex.Props.C04Words

namespace Bashlex.Totals
open Bashlex

/-- the per-input check of `Props/C03/RootEnds.lean` never fires -/
theorem rootEndsChecked_all (s : Str) (o : Opts) (parts : List Node)
    (h : (parse s o).1 = .parts parts) : C03.rootEndsChecked s o = true :=
  C03.rootEndsChecked_of_rootEnds C03.rootEnds s o parts h

/-- **C03** (all inputs, all options): every signature `Spec.spansWF` raises on a tree of `parse`
    is known (`+heredoc`, `+emptydesc`, `empty-span:reservedword`) -/
theorem C03_total (s : Str) (o : Opts) (parts : List Node)
    (h : (parse s o).1 = .parts parts) :
    ∀ n ∈ parts, ∀ v ∈ Spec.spansWF s.length n, C03.C03_known v = true :=
  C03.C03_total_conditional C03.rootEnds s o parts h

theorem C03_total_single (s : Str) (o : Opts) (n : Node)
    (h : (parsesingle s o).1 = .single (some n)) :
    ∀ v ∈ Spec.spansWF s.length n, C03.C03_known v = true :=
  C03.C03_total_single_conditional C03.rootEnds s o n h

/-- **C05**, token level -/
theorem C05_total (s : Str) (o : Opts) (parts : List Node)
    (h : (parse s o).1 = .parts parts) : C05.PartsFrom C05.TLog s 0 parts :=
  C05.C05_total_conditional C03.rootEnds s o parts h

theorem C05_total_single (s : Str) (o : Opts) (n : Node)
    (h : (parsesingle s o).1 = .single (some n)) : C05.RunOK C05.TLog s n :=
  C05.C05_total_single_conditional C03.rootEnds s o n h

/-- **C05**, character level (`C05_chars_checked` without the per-input condition) -/
theorem C05_chars_total (s : Str) (o : Opts) (parts : List Node)
    (hlen : s.length + 1 < 1073741824) (h : (parse s o).1 = .parts parts) :
    ∀ part ∈ parts, ∃ k n, k ≤ s.length ∧ part = n.shift k ∧
      Spec.leaves part = (Spec.leaves n).map (C05.shL k) ∧
      C05.CharsOK (Tape.ofInput (s.drop k)).line n :=
  C05.C05_chars_checked s o parts hlen (rootEndsChecked_all s o parts h) h

/-- **C04**: every signature of `Spec.textOK` is a recorded defect or falls under `Unlinked'` -/
theorem C04_total (s : Str) (o : Opts) (parts : List Node)
    (h : (parse s o).1 = .parts parts) :
    ∀ n ∈ parts, ∀ v ∈ Spec.textOK s n, C04.C04_known v = true ∨ C04.Unlinked' s n v :=
  C04.C04_total_conditional' C03.rootEnds s o parts h

/-- **C16** (`C16_total_checked` without the per-input condition `rootEndsChecked`): the
    conditions left are `flagsNeutral` and `noD19`, both decidable -/
theorem C16_total (s : Str) (o : Opts) (k : Nat) (parts : List Node) :
    o.limit = none → (parse s o).1 = .parts parts → C16.flagsNeutral k s o = true →
    C16.noD19 parts = true →
    (parse s { o with limit := some (k : Int) }).1 = .parts (Spec.pruneLimitL k parts) :=
  fun ho hp hn hD =>
    C16.C16_total_checked s o k parts ho hp hn hD (rootEndsChecked_all s o parts hp)

end Bashlex.Totals

#print axioms Bashlex.C03.rootEnds
#print axioms Bashlex.Totals.C03_total
#print axioms Bashlex.Totals.C03_total_single
#print axioms Bashlex.Totals.C05_total
#print axioms Bashlex.Totals.C05_chars_total
#print axioms Bashlex.Totals.C04_total
#print axioms Bashlex.Totals.C16_total
