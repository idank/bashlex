/-
  C07: completeness of the scan.  Every position of the word is a scan head, or is
  skipped for one of four reasons (`Skipped`): it follows a backslash head; it is the second of a
  bare pair of backquotes; it lies inside the span of a part emitted earlier (the body of a
  substitution — the nested parser's business — or the inside of `${…}` / a `$name`); or it was
  swallowed by a tilde-prefix scan.  Hence (`Reach.opener_accounted`) an opener occurrence either
  carries a substitution node or is skipped for one of these reasons.
  Also: `opener` spelled out textually (`opener_dollar_iff`, `opener_backquote_iff`,
  `opener_proc_iff`), and `Visit.piece_part`: at a head that emits a part the scan appends the
  text under the part's span to the expanded word.
-/
import Bashlex.Props.C07.Protected

namespace Bashlex.C07
open Bashlex Bashlex.M

variable {R : Str → Bool → Node → Prop} {v : Str} {q : Bool} {fl0 : WordFlags}

/-! ### `opener`, textually -/

/-- what an opener at `i` says of the text, of `q` and of the flags -/
theorem opener_some {i : Nat} {fl : WordFlags} {k : SubKind} (h : opener v q i fl = some k) :
    (k = .dollar ∧ v[i]? = some '$' ∧ v[i + 1]? = some '(') ∨
    (k = .backquote ∧ v[i]? = some '`' ∧ v[i + 1]? ≠ some '`') ∨
    (k = .proc ∧ (v[i]? = some '<' ∨ v[i]? = some '>') ∧ v[i + 1]? = some '(' ∧ q = false ∧
      fl.contains .DQUOTE = false ∧ fl.contains .NOPROCSUB = false) := by
  unfold opener at h
  split at h
  · cases h
  rename_i c hc
  split at h
  · rename_i hlt
    split at h
    · cases h
    · rename_i hcond
      cases h
      simp only [Bool.or_eq_true, not_or, Bool.not_eq_true, bne_eq_false_iff_eq] at hcond
      obtain ⟨⟨⟨a, b⟩, c'⟩, d⟩ := hcond
      refine Or.inr (Or.inr ⟨rfl, ?_, a, b, c', d⟩)
      simp only [Bool.or_eq_true, beq_iff_eq] at hlt
      rcases hlt with rfl | rfl
      · exact Or.inl hc
      · exact Or.inr hc
  split at h
  · cases h
  split at h
  · rename_i hd
    split at h
    · rename_i hp
      cases h
      simp only [Bool.and_eq_true, beq_iff_eq] at hd
      exact Or.inl ⟨rfl, by rw [hc, hd.1], by simpa using hp⟩
    · cases h
  split at h
  · rename_i hb
    split at h
    · cases h
    · rename_i hne
      cases h
      have : c = '`' := by simpa using hb
      exact Or.inr (Or.inl ⟨rfl, by rw [hc, this], by simpa using hne⟩)
  · cases h

/-- a head that emits a part stands on an expansion character: the scan copies the text the part
    covers -/
theorem Visit.piece_part {i : Nat} {fl : WordFlags} {n : Node} {i' : Nat} {fl' : WordFlags}
    (h : Visit R v q i fl (some n) i' fl') : piece v q i i' = Str.slice v n.pos.1 n.pos.2 := by
  rw [(Visit.spec h).2.2.2 n rfl]
  have hop : ∀ {k}, opener v q i fl = some k → piece v q i i' = Str.slice v i i' := by
    intro k ho
    rcases opener_some ho with ⟨_, hc, _⟩ | ⟨_, hc, _⟩ | ⟨_, hc | hc, _⟩ <;>
      exact piece_exp hc (by decide) i'
  generalize hout : some n = out at h
  cases h with
  | procsub ho _ => exact hop ho
  | comsub ho _ _ => exact hop ho
  | backquote ho _ _ _ _ => exact hop ho
  | plain hp =>
    cases plainStep_cases hp with
    | angle | tildeOff | bqPair | backslash | other => cases hout
    | tilde hc a => exact piece_exp hc (by decide) _
    | param hc _ => exact piece_exp hc (by decide) _

theorem opener_dollar_iff {i : Nat} {fl : WordFlags} :
    opener v q i fl = some .dollar ↔ v[i]? = some '$' ∧ v[i + 1]? = some '(' := by
  constructor
  · intro h
    rcases opener_some h with ⟨hk, a⟩ | ⟨hk, a⟩ | ⟨hk, a⟩ <;> cases hk
    exact a
  · rintro ⟨h1, h2⟩
    have hlen : 1 < v.length := by
      have := (List.getElem?_eq_some_iff.mp h2).1; omega
    unfold opener
    rw [h1]
    simp [h2, hlen]

theorem opener_backquote_iff {i : Nat} {fl : WordFlags} :
    opener v q i fl = some .backquote ↔ v[i]? = some '`' ∧ v[i + 1]? ≠ some '`' := by
  constructor
  · intro h
    rcases opener_some h with ⟨hk, a⟩ | ⟨hk, a⟩ | ⟨hk, a⟩ <;> cases hk
    exact a
  · rintro ⟨h1, h2⟩
    unfold opener
    rw [h1]
    simp [h2]

theorem opener_proc_iff {i : Nat} {fl : WordFlags} :
    opener v q i fl = some .proc ↔
      (v[i]? = some '<' ∨ v[i]? = some '>') ∧ v[i + 1]? = some '(' ∧ q = false ∧
      fl.contains .DQUOTE = false ∧ fl.contains .NOPROCSUB = false := by
  constructor
  · intro h
    rcases opener_some h with ⟨hk, a⟩ | ⟨hk, a⟩ | ⟨hk, a⟩ <;> cases hk
    exact a
  · rintro ⟨h1, h2, h3, h4, h5⟩
    have h4' : WordFlag.DQUOTE ∉ fl := by simpa using h4
    have h5' : WordFlag.NOPROCSUB ∉ fl := by simpa using h5
    unfold opener
    rcases h1 with h1 | h1 <;> · rw [h1]; simp [h2, h3, h4', h5']

/-- the flags matter to `opener` only through DQUOTE and NOPROCSUB (which the tokenizer never
    sets) -/
theorem opener_flags {i : Nat} {fl : WordFlags}
    (h1 : fl.contains .DQUOTE = false) (h2 : fl.contains .NOPROCSUB = false) :
    opener v q i fl = opener v q i [] := by
  unfold opener
  simp only [h1, h2, List.contains_nil, Bool.or_false]

/-! ### where the cursor goes -/

theorem paramPlain_next {i : Nat} {out : Option Node} {j : Nat}
    (h : paramPlain v i = some (out, j)) : j = i + 1 ∨ ∃ p, out = some p := by
  unfold paramPlain at h
  split at h
  · simp only [Option.some.injEq, Prod.mk.injEq] at h
    exact Or.inr ⟨_, h.1.symm⟩
  · split at h
    · simp only [Option.some.injEq, Prod.mk.injEq] at h
      exact Or.inr ⟨_, h.1.symm⟩
    · split at h
      · split at h
        · simp only [Option.some.injEq, Prod.mk.injEq] at h
          exact Or.inl h.2.symm
        · simp only [Option.some.injEq, Prod.mk.injEq] at h
          exact Or.inr ⟨_, h.1.symm⟩
      · split at h
        · cases h
        · split at h
          · cases h
          · simp only [Option.some.injEq, Prod.mk.injEq] at h
            exact Or.inr ⟨_, h.1.symm⟩

/-- why a position `j` after a head `h` (which emitted `out`) is not itself a head -/
inductive Skipped (v : Str) (h : Nat) (out : Option Node) (j : Nat) : Prop
  /-- protected by a backslash -/
  | escaped (h1 : v[h]? = some '\\') (h2 : j = h + 1)
  /-- the second of a bare pair of backquotes -/
  | barePair (h1 : v[h]? = some '`') (h2 : v[h + 1]? = some '`') (h3 : j = h + 1)
  /-- inside the span of the part emitted at `h` (substitution body, `${…}`, `$name`, tilde prefix) -/
  | inPart (p : Node) (h1 : out = some p) (h2 : j < p.pos.2)
  /-- swallowed by a tilde-prefix scan that did not yield a tilde node (it met a quote character) -/
  | tilde (h1 : v[h]? = some '~')

theorem plainStep_next {i : Nat} {fl : WordFlags} {out : Option Node} {i' : Nat} {fl' : WordFlags}
    (h : plainStep v q i fl = some (out, i', fl')) :
    i' = i + 1 ∨ (v[i]? = some '\\' ∧ i' = i + 2) ∨
    (v[i]? = some '`' ∧ v[i + 1]? = some '`' ∧ i' = i + 2) ∨ (∃ p, out = some p) ∨
    v[i]? = some '~' := by
  cases plainStep_cases h with
  | angle | tildeOff | other => exact .inl rfl
  | tilde hc => exact .inr (.inr (.inr (.inr hc)))
  | param _ hp =>
    rcases paramPlain_next hp with h1 | h1
    · exact .inl h1
    · exact .inr (.inr (.inr (.inl h1)))
  | bqPair hc h1 => exact .inr (.inr (.inl ⟨hc, h1, rfl⟩))
  | backslash hc => exact .inr (.inl ⟨hc, rfl⟩)

theorem Visit.next {i : Nat} {fl : WordFlags} {out : Option Node} {i' : Nat} {fl' : WordFlags}
    (h : Visit R v q i fl out i' fl') :
    i' = i + 1 ∨ (v[i]? = some '\\' ∧ i' = i + 2) ∨
    (v[i]? = some '`' ∧ v[i + 1]? = some '`' ∧ i' = i + 2) ∨ (∃ p, out = some p) ∨
    v[i]? = some '~' := by
  cases h with
  | procsub _ _ => exact Or.inr (Or.inr (Or.inr (Or.inl ⟨_, rfl⟩)))
  | comsub _ _ _ => exact Or.inr (Or.inr (Or.inr (Or.inl ⟨_, rfl⟩)))
  | backquote _ _ _ _ _ => exact Or.inr (Or.inr (Or.inr (Or.inl ⟨_, rfl⟩)))
  | plain h => exact plainStep_next h

/-- **coverage**: every position before the cursor is a head of the trace, or is skipped by an
    earlier head for one of the four reasons -/
theorem Reach.cover {i : Nat} {fl : WordFlags} {tr : List (Nat × Option Node)}
    (h : Reach R v q fl0 i fl tr) :
    ∀ j, j < i → ∃ e ∈ tr, e.1 = j ∨ (e.1 < j ∧ Skipped v e.1 e.2 j) := by
  induction h with
  | start => intro j hj; cases hj
  | step hr hv ih =>
    rename_i i fl tr out i' fl'
    intro j hj
    by_cases hji : j < i
    · obtain ⟨e, he, h⟩ := ih j hji
      exact ⟨e, List.mem_append_left _ he, h⟩
    · refine ⟨(i, out), List.mem_append_right _ (List.mem_singleton.mpr rfl), ?_⟩
      by_cases hje : i = j
      · exact Or.inl hje
      · refine Or.inr ⟨by simp only []; omega, ?_⟩
        have hpos := hv.spec.2.2.2
        rcases hv.next with h1 | ⟨h1, h2⟩ | ⟨h1, h2, h3⟩ | ⟨p, hp⟩ | h1
        · omega
        · exact Skipped.escaped h1 (by omega)
        · exact Skipped.barePair h1 h2 (by omega)
        · refine Skipped.inPart p hp ?_
          rw [hpos p hp]; exact hj
        · exact Skipped.tilde h1

/-- **completeness**: after a full scan, an opener occurrence at `j` either carries a substitution
    node starting at `j`, or `j` was skipped by an earlier head (escaped by a backslash; inside an
    earlier part — a substitution body, `${…}`; second of a bare pair of backquotes; swallowed by a
    tilde prefix).  (`q`/flags: as in `C07_exact'`; quote STATE plays no role — D6.) -/
theorem Reach.opener_accounted {fl : WordFlags} {tr : List (Nat × Option Node)}
    (h : Reach R v q fl0 v.length fl tr)
    (h1 : fl0.contains .DQUOTE = false) (h2 : fl0.contains .NOPROCSUB = false)
    {j : Nat} (hj : (opener v q j []).isSome = true) :
    (∃ p, (j, some p) ∈ tr ∧ isSubstitution p = true) ∨
    ∃ e ∈ tr, e.1 < j ∧ Skipped v e.1 e.2 j := by
  have hjl : j < v.length := by
    unfold opener at hj
    split at hj
    · cases hj
    · rename_i c hc; exact (List.getElem?_eq_some_iff.mp hc).1
  obtain ⟨e, he, hcase⟩ := h.cover j hjl
  rcases hcase with rfl | hs
  · left
    obtain ⟨fle, i', fl', hfle, hv, _⟩ := h.mem.2 e he
    have hop : opener v q e.1 fle = opener v q e.1 [] := by
      rcases hfle with rfl | rfl
      · exact opener_flags h1 h2
      · exact opener_flags (fl := [.ITILDE]) (by decide) (by decide)
    obtain ⟨p, hp, hsub⟩ := hv.subst_iff.1.mpr (by rw [hop]; exact hj)
    refine ⟨p, ?_, hsub⟩
    rw [← hp]; exact he
  · exact Or.inr ⟨e, he, hs⟩

end Bashlex.C07
