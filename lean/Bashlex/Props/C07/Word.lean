/-
  C07: the loop of `_expandwordinternal`, the final shift by the word's position, and
  `parser._expandword` — for an arbitrary nested parser with `NPK P R` (`k_*`), and statelessly
  with `NPSpec R` (`sat_*`).  The `V` statements say parts and expanded word; `WordSpec` and
  `WordNodeSpec` are what they say of the parts alone.
-/
import Bashlex.Props.C07.Step

namespace Bashlex.C07
open Bashlex Bashlex.M

variable {P : Local → Env → Prop} {R : Str → Bool → Node → Prop} {np : NestedParse}

/-- loop invariant: the state is the end of a trace, parts and expanded word those of the trace -/
def Inv (R : Str → Bool → Node → Prop) (v : Str) (q : Bool) (fl0 : WordFlags) (st : ExpSt) : Prop :=
  ∃ tr, Reach R v q fl0 st.sindex st.flags tr ∧ st.parts = partsOf tr ∧
    st.istring = valOf v q tr st.sindex

theorem k_loop (hnp : NPK P R np) (tok : Token) (v : Str) (q : Bool) (fl0 : WordFlags)
    (fuel : Nat) :
    Keeps P (M.loop "_expandwordinternal" (expandStep np tok v q) fuel { flags := fl0 })
      (fun r => Scanned R v q fl0 r.1 r.2.1 ∧ (r.2.2 = true → r.1 = [])) := by
  refine Keeps.loop (I := Inv R v q fl0) trivial ?_ fuel _ ⟨[], Reach.start, rfl, rfl⟩
  intro st hst
  refine (k_expandStep hnp tok v q st).weaken ?_
  intro r hr
  obtain ⟨tr, hreach, hparts, hstr⟩ := hst
  cases r with
  | inl st' =>
    obtain ⟨out, hv, hp, hval⟩ := hr
    refine ⟨tr ++ [(st.sindex, out)], Reach.step hreach hv, ?_, ?_⟩
    · rw [hp, hparts, partsOf_snoc]
    · rw [valOf_snoc, ← hstr]; exact hval
  | inr res =>
    rcases hr with ⟨h1, h2, h3, h4⟩ | ⟨h1, h2, h3, h4⟩
    · exact ⟨Or.inr ⟨st.flags, tr, h1 ▸ hreach, by rw [h2, hparts], by rw [h3, hstr, h1]⟩,
        fun h => by rw [h4] at h; cases h⟩
    · exact ⟨Or.inl ⟨h1, h2, h3⟩, fun _ => h2⟩

/-- **the word-level theorem**: parts and expanded word `_expandwordinternal` returns are those of
    a scan trace over the token value, every nested answer an `R`-answer, the parts shifted by the
    token's position -/
theorem k_expandwordinternalV (hnp : NPK P R np) (tok : Token) (q : Bool) :
    Keeps P (expandwordinternal np tok q)
      (WordSpecV R tok.valueStr q tok.flags tok.lexpos tok.endlexpos) := by
  unfold expandwordinternal
  simp only []
  refine Keeps.bind (k_loop hnp tok _ q tok.flags _) ?_
  rintro ⟨parts, istring, early⟩ ⟨hsc, hearly⟩
  simp only [] at hsc hearly ⊢
  refine Keeps.ite (fun hemp => Keeps.pure ?_) (fun hne => ?_)
  · have : parts = [] := by
      rcases Bool.or_eq_true_iff.1 hemp with h | h
      · exact hearly h
      · simpa using h
    subst this
    exact ⟨[], hsc, fun p hp => (nomatch hp), rfl⟩
  · refine Keeps.ite (fun hnok => ?_) (fun hok => Keeps.pure ⟨parts, hsc, ?_, rfl⟩)
    · exact Keeps.bind (Φ := fun _ => False) (Keeps.foreign trivial) (fun _ h => h.elim)
    · simp only [Bool.not_eq_true, Bool.not_eq_false'] at hok
      intro p hp m hm
      have := List.all_eq_true.mp (List.all_eq_true.mp hok p hp) m hm
      simpa using this

theorem k_expandwordinternal (hnp : NPK P R np) (tok : Token) (q : Bool) :
    Keeps P (expandwordinternal np tok q)
      (fun r => WordSpec R tok.valueStr q tok.flags tok.lexpos tok.endlexpos r.1) :=
  (k_expandwordinternalV hnp tok q).weaken (fun _ h => h.parts)

/-- `qdoublequotes` as `_expandword` computes it -/
def qOf (tok : Token) : Bool := tok.flags.contains .QUOTED && tok.valueStr.head? == some '"'

/-- the word node `_expandword` returns for a token: the raw token (expansion limit -1), or
    expanded word and parts of `_expandwordinternal`, the substitutions filtered out when the
    limit is 0 -/
def WordNodeSpecV (R : Str → Bool → Node → Prop) (tok : Token) (w : Node) : Prop :=
  w = .word (tok.lexpos, tok.endlexpos) tok.valueStr [] ∨
  ∃ r, WordSpecV R tok.valueStr (qOf tok) tok.flags tok.lexpos tok.endlexpos r ∧
    (w = .word (tok.lexpos, tok.endlexpos) r.2 r.1 ∨
     w = .word (tok.lexpos, tok.endlexpos) r.2 (r.1.filter (fun n => !isSubstitution n)))

/-- the same, of the parts only -/
def WordNodeSpec (R : Str → Bool → Node → Prop) (tok : Token) (w : Node) : Prop :=
  ∃ expanded parts, w = .word (tok.lexpos, tok.endlexpos) expanded parts ∧
    (parts = [] ∨
     ∃ full, WordSpec R tok.valueStr (qOf tok) tok.flags tok.lexpos tok.endlexpos full ∧
       (parts = full ∨ parts = full.filter (fun n => !isSubstitution n)))

theorem WordNodeSpecV.forget {tok : Token} {w : Node} (h : WordNodeSpecV R tok w) :
    WordNodeSpec R tok w := by
  rcases h with rfl | ⟨r, hr, rfl | rfl⟩
  · exact ⟨_, _, rfl, Or.inl rfl⟩
  · exact ⟨_, _, rfl, Or.inr ⟨r.1, hr.parts, Or.inl rfl⟩⟩
  · exact ⟨_, _, rfl, Or.inr ⟨r.1, hr.parts, Or.inr rfl⟩⟩

theorem k_expandwordV (hnp : NPK P R np) (tok : Token) :
    Keeps P (expandword np tok) (WordNodeSpecV R tok) := by
  unfold expandword
  simp only []
  refine Keeps.bind Keeps.get (fun l _ => ?_)
  have hfin : ∀ qd, qd = qOf tok → Keeps P (do
      let x ← expandwordinternal np tok qd
      pure (Node.word (tok.lexpos, tok.endlexpos) x.snd
        (if (l.limit == some 0) = true then List.filter (fun n => !isSubstitution n) x.fst
         else x.fst)) : M Node) (WordNodeSpecV R tok) := by
    intro qd hqd
    subst hqd
    refine Keeps.bind (k_expandwordinternalV hnp tok _) (fun r hr => Keeps.pure (Or.inr ⟨r, hr, ?_⟩))
    split
    · exact Or.inr rfl
    · exact Or.inl rfl
  refine Keeps.ite (fun _ => Keeps.pure (Or.inl rfl)) (fun _ => ?_)
  refine Keeps.ite (fun hq => ?_) (fun hq => ?_)
  · split
    · exact Keeps.bind (Φ := fun _ => False) (Keeps.foreign trivial) (fun _ h => h.elim)
    · rename_i c hc
      refine Keeps.bind (Φ := fun b => b = qOf tok) (Keeps.pure ?_) (fun b hb => hfin b hb)
      rw [qOf, hq, hc]; simp
  · refine Keeps.bind (Φ := fun b => b = qOf tok) (Keeps.pure ?_) (fun b hb => hfin b hb)
    simp only [Bool.not_eq_true] at hq
    rw [qOf, hq]; simp

theorem k_expandword (hnp : NPK P R np) (tok : Token) :
    Keeps P (expandword np tok) (WordNodeSpec R tok) :=
  (k_expandwordV hnp tok).weaken (fun _ h => h.forget)

theorem sat_expandwordinternal (hnp : NPSpec R np) (tok : Token) (q : Bool) :
    Sat (expandwordinternal np tok q)
      (fun r => WordSpec R tok.valueStr q tok.flags tok.lexpos tok.endlexpos r.1) :=
  sat_of_keeps (k_expandwordinternal hnp.npk tok q)

theorem sat_expandword (hnp : NPSpec R np) (tok : Token) :
    Sat (expandword np tok) (WordNodeSpec R tok) :=
  sat_of_keeps (k_expandword hnp.npk tok)

/-- whatever the nested parser does, `_expandword` returns a word node at the token's span -/
theorem sat_expandword_at (np : NestedParse) (tok : Token) :
    Sat (expandword np tok) (fun w => ∃ v ps, w = .word (tok.lexpos, tok.endlexpos) v ps) :=
  (sat_expandword (npspec_true np) tok).weaken (fun _ ⟨v, ps, h, _⟩ => ⟨v, ps, h⟩) (fun _ h => h)

theorem sat_expandword_pos (np : NestedParse) (tok : Token) :
    Sat (expandword np tok) (fun w => w.pos = (tok.lexpos, tok.endlexpos)) :=
  (sat_expandword_at np tok).weaken (fun _ ⟨_, _, h⟩ => h ▸ rfl) (fun _ h => h)

end Bashlex.C07
