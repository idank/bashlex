/-
  C07: the parts of the word node built from one token (`PartsOK`, `C07_word`),
  exactness (`C07_exact`), protected text (`C07_protected`), the real nested parser (`C07_nested`).
  See `Props/C07.lean` for the overview.
-/
import Bashlex.Props.C07.Nested
import Bashlex.Props.C07.Cover
import Bashlex.Props.C12.Tree

namespace Bashlex.C07
open Bashlex Bashlex.M

variable {R : Str → Bool → Node → Prop} {np : NestedParse}

/-! ### substitution nodes in absolute offsets -/

theorem shift_comsub (k a b : Nat) (c : Node) :
    Node.shift k (.commandsubstitution (a, b) c) = .commandsubstitution (a + k, b + k) (c.shift k) := by
  simp [Node.shift, Node.mapPos]

theorem shift_procsub (k a b : Nat) (c : Node) :
    Node.shift k (.processsubstitution (a, b) c) = .processsubstitution (a + k, b + k) (c.shift k) := by
  simp [Node.shift, Node.mapPos]

theorem isParamOrTilde_shift (k : Nat) (p : Node) : isParamOrTilde (p.shift k) = isParamOrTilde p := by
  cases p <;> simp [Node.shift, Node.mapPos, isParamOrTilde]

/-- **the substitution node of a word at absolute position `k`** (`v` the token value):
    kind, span, and the command = the nested parser's `R`-answer on the enclosed text, shifted
    to the absolute offset of that text -/
inductive SubstNode (R : Str → Bool → Node → Prop) (v : Str) (q : Bool) (k : Nat) : Node → Prop
  | dollar {i : Nat} {fl : WordFlags} {n : Node} (ho : opener v q i fl = some .dollar)
      (hR : R (v.drop (i + 2)) true n) (hfit : Fits n (i + 2) v.length)
      (hlt : i + 2 + n.pos.2 < v.length) :
      SubstNode R v q k (.commandsubstitution
        (i + k, i + 2 + dolEnd (v.drop (i + 2)) n.pos.2 + 1 + k) (n.shift (i + 2 + k)))
  | proc {i : Nat} {fl : WordFlags} {n : Node} (ho : opener v q i fl = some .proc)
      (hR : R (v.drop (i + 2)) true n) (hfit : Fits n (i + 2) v.length)
      (hlt : i + 2 + n.pos.2 < v.length) :
      SubstNode R v q k (.processsubstitution
        (i + k, i + 2 + dolEnd (v.drop (i + 2)) n.pos.2 + 1 + k) (n.shift (i + 2 + k)))
  | backquote {i : Nat} {fl : WordFlags} {x : Nat} {n : Node}
      (ho : opener v q i fl = some .backquote) (hx : stringextract v (i + 1) '`' = some x)
      (hR : R (Str.slice v (i + 1) x) false n) (hfit0 : Fits n 0 (x - (i + 1))) :
      SubstNode R v q k (.commandsubstitution (i + k, x + 1 + k) (n.shift (i + 1 + k)))

theorem SubstNode0.shift {v : Str} {q : Bool} {i : Nat} {p : Node} (h : SubstNode0 R v q i p)
    (k : Nat) : SubstNode R v q k (p.shift k) := by
  cases h with
  | dollar ho hR hfit hlt =>
    rw [shift_comsub, Node.shift_shift]; exact SubstNode.dollar ho hR hfit hlt
  | proc ho hR hfit hlt =>
    rw [shift_procsub, Node.shift_shift]; exact SubstNode.proc ho hR hfit hlt
  | backquote ho hx hR hfit0 =>
    rw [shift_comsub, Node.shift_shift]; exact SubstNode.backquote ho hx hR hfit0

/-- a substitution node moved with its word stays the substitution node of that word -/
theorem SubstNode.shift {v : Str} {q : Bool} {k : Nat} {p : Node} (h : SubstNode R v q k p)
    (j : Nat) : SubstNode R v q (k + j) (p.shift j) := by
  cases h with
  | dollar ho hR hfit hlt =>
    rw [shift_comsub, Node.shift_shift]
    have := SubstNode.dollar (k := k + j) ho hR hfit hlt
    simpa [Nat.add_assoc] using this
  | proc ho hR hfit hlt =>
    rw [shift_procsub, Node.shift_shift]
    have := SubstNode.proc (k := k + j) ho hR hfit hlt
    simpa [Nat.add_assoc] using this
  | backquote ho hx hR hfit0 =>
    rw [shift_comsub, Node.shift_shift]
    have := SubstNode.backquote (k := k + j) ho hx hR hfit0
    simpa [Nat.add_assoc] using this

/-! ### spans of `$(…)`, `<(…)`, `>(…)` -/

/-- the nested node ends at the closing parenthesis: the substitution spans from its opener
    through that parenthesis, and the enclosed text `v[i+2 : i+2+n.pos.2]` is covered by `n` -/
theorem dollar_span_tight {v : Str} {i : Nat} {n : Node} (h : v[i + 2 + n.pos.2]? = some ')') :
    i + 2 + dolEnd (v.drop (i + 2)) n.pos.2 + 1 = i + 2 + n.pos.2 + 1 := by
  rw [dolEnd_tight (by rw [List.getElem?_drop]; exact h)]

/-- D27 / D9: the nested node ends before the closing parenthesis (witnesses `$(a )`,
    `$(a\nb)`): the span ends one past the nested node's end moved back over newlines; the
    closing parenthesis is outside the span and is scanned as a plain character -/
theorem dollar_span_loose {v : Str} {i : Nat} {n : Node} (h : v[i + 2 + n.pos.2]? ≠ some ')') :
    i + 2 + dolEnd (v.drop (i + 2)) n.pos.2 + 1 =
      i + 2 + backOverNewlines (v.drop (i + 2)) n.pos.2 + 1 ∧
    backOverNewlines (v.drop (i + 2)) n.pos.2 ≤ n.pos.2 := by
  rw [dolEnd_loose (by rw [List.getElem?_drop]; exact h)]
  exact ⟨rfl, C01.backOverNewlines_le _ _⟩

/-! ### the parts of a word -/

/-- what C07 says about the parts of one word node (token value `v`, span `(k, kend)`) -/
structure PartsOK (R : Str → Bool → Node → Prop) (v : Str) (q : Bool) (k kend : Nat)
    (parts : List Node) : Prop where
  /-- compositional core -/
  subst : ∀ p ∈ parts, isSubstitution p = true → SubstNode R v q k p
  other : ∀ p ∈ parts, isSubstitution p = false → isParamOrTilde p = true
  /-- in scan order, pairwise disjoint -/
  ordered : parts.Pairwise (fun a b => a.pos.2 ≤ b.pos.1)
  inside : ∀ p ∈ parts, k ≤ p.pos.1 ∧ p.pos.1 < p.pos.2 ∧ p.pos.2 ≤ kend

theorem PartsOK.nil {v : Str} {q : Bool} {k kend : Nat} : PartsOK R v q k kend [] :=
  ⟨fun _ h => absurd h List.not_mem_nil, fun _ h => absurd h List.not_mem_nil, List.Pairwise.nil,
   fun _ h => absurd h List.not_mem_nil⟩

theorem PartsOK.filter {v : Str} {q : Bool} {k kend : Nat} {parts : List Node}
    (h : PartsOK R v q k kend parts) (f : Node → Bool) : PartsOK R v q k kend (parts.filter f) :=
  ⟨fun p hp => h.subst p (List.mem_filter.mp hp).1, fun p hp => h.other p (List.mem_filter.mp hp).1,
   h.ordered.sublist List.filter_sublist, fun p hp => h.inside p (List.mem_filter.mp hp).1⟩

theorem partsOK_of_wordSpec {v : Str} {q : Bool} {fl0 : WordFlags} {k kend : Nat}
    {parts : List Node} (h : WordSpec R v q fl0 k kend parts) : PartsOK R v q k kend parts := by
  rcases h with ⟨_, rfl⟩ | ⟨fl, tr, hr, hfits, rfl⟩
  · exact PartsOK.nil
  have key : ∀ p0 ∈ partsOf tr, ∃ i fle i' fl', Visit R v q i fle (some p0) i' fl' := by
    intro p0 hp0
    obtain ⟨i, hi⟩ := mem_partsOf hp0
    obtain ⟨fle, i', fl', _, hv, _⟩ := hr.mem.2 _ hi
    exact ⟨i, fle, i', fl', hv⟩
  refine ⟨?_, ?_, ?_, ?_⟩
  · intro p hp hs
    obtain ⟨p0, hp0, rfl⟩ := List.mem_map.mp hp
    rw [isSubstitution_shift] at hs
    obtain ⟨i, fle, i', fl', hv⟩ := key p0 hp0
    exact (hv.substNode hs).shift k
  · intro p hp hs
    obtain ⟨p0, hp0, rfl⟩ := List.mem_map.mp hp
    rw [isSubstitution_shift] at hs
    rw [isParamOrTilde_shift]
    obtain ⟨i, fle, i', fl', hv⟩ := key p0 hp0
    exact hv.subst_iff.2 p0 rfl hs
  · rw [List.pairwise_map]
    have hs := hr.sorted
    have h1 : tr.Pairwise (fun a b => ∀ p ∈ a.2, ∀ p' ∈ b.2, p.pos.2 ≤ p'.pos.1) := by
      refine List.Pairwise.imp_of_mem ?_ hs.1
      intro a b ha hb hab p hp p' hp'
      have h2 := (hs.2 b hb).2 p' (Option.mem_def.mp hp')
      have h3 := hab.2 p (Option.mem_def.mp hp)
      omega
    have h2 := List.Pairwise.filterMap (f := fun e : Nat × Option Node => e.2)
      (S := fun p p' : Node => p.pos.2 ≤ p'.pos.1) (fun a a' h b hb b' hb' => h b hb b' hb') h1
    refine h2.imp ?_
    intro a b hab
    rw [Node.pos_shift, Node.pos_shift]
    simp only []
    omega
  · intro p hp
    obtain ⟨p0, hp0, rfl⟩ := List.mem_map.mp hp
    obtain ⟨i, fle, i', fl', hv⟩ := key p0 hp0
    have hpos := hv.spec.2.2.2 p0 rfl
    have hlt := hv.spec.2.1
    have hfit := hfits p0 hp0 p0 (Node.self_mem_preorder p0)
    rw [Node.pos_shift, hpos]
    rw [hpos] at hfit
    simp only [] at hfit ⊢
    omega

/-- **C07, word level**: for every nested parser with `NPSpec R`, every token: the word node
    `_expandword` returns has parts `PartsOK` — each substitution part is the nested parser's
    answer on the enclosed text, shifted to its offset (`SubstNode`), all other parts are
    parameter / tilde nodes, the parts are ordered, disjoint and inside the word.
    (With `expansionlimit` 0 the substitution parts are filtered out, with -1 there are none.) -/
theorem C07_word (hnp : NPSpec R np) (tok : Token) :
    Sat (expandword np tok) (fun w => ∃ expanded parts,
      w = .word (tok.lexpos, tok.endlexpos) expanded parts ∧
      PartsOK R tok.valueStr (qOf tok) tok.lexpos tok.endlexpos parts) := by
  refine (sat_expandword hnp tok).weaken ?_ (fun _ h => h)
  rintro w ⟨expanded, parts, rfl, h⟩
  refine ⟨expanded, parts, rfl, ?_⟩
  rcases h with rfl | ⟨full, hfull, rfl | rfl⟩
  · exact PartsOK.nil
  · exact partsOK_of_wordSpec hfull
  · exact (partsOK_of_wordSpec hfull).filter _

/-! ### exactness: substitution nodes exactly at the opener heads -/

/-- **C07, where**: in a scan trace, a substitution node is emitted at a head iff the head is an
    opener under the flags in force there (the token's flags, or `[ITILDE]` once a `~` was passed
    that did not start a tilde prefix) -/
theorem C07_exact {v : Str} {q : Bool} {fl0 fl : WordFlags} {i : Nat} {tr : List (Nat × Option Node)}
    (h : Reach R v q fl0 i fl tr) :
    ∀ e ∈ tr, ∃ fle, (fle = fl0 ∨ fle = [.ITILDE]) ∧
      ((∃ p, e.2 = some p ∧ isSubstitution p = true) ↔ (opener v q e.1 fle).isSome = true) := by
  intro e he
  obtain ⟨fle, i', fl', hfle, hv, _⟩ := h.mem.2 e he
  exact ⟨fle, hfle, hv.subst_iff.1⟩

/-- `C07_exact` for a token without the flags DQUOTE / NOPROCSUB: the rule is a function of the
    word's text, the head, and `q` alone -/
theorem C07_exact' {v : Str} {q : Bool} {fl0 fl : WordFlags} {i : Nat} {tr : List (Nat × Option Node)}
    (h : Reach R v q fl0 i fl tr)
    (h1 : fl0.contains .DQUOTE = false) (h2 : fl0.contains .NOPROCSUB = false) :
    ∀ e ∈ tr, ((∃ p, e.2 = some p ∧ isSubstitution p = true) ↔ (opener v q e.1 []).isSome = true) := by
  intro e he
  obtain ⟨fle, hfle, hiff⟩ := C07_exact h e he
  rcases hfle with rfl | rfl
  · rw [← opener_flags h1 h2]; exact hiff
  · rw [← opener_flags (fl := [.ITILDE]) (by decide) (by decide)]; exact hiff

/-! ### protected text -/

/-- **C07, protected text** (`protected_no_parts`): a wholly single-quoted word, and a word in
    which every `$`, backquote, `<`, `>`, `~` is escaped by a backslash, has no parts at all —
    no substitution, parameter or tilde node — whatever the nested parser is.
    Single quotes inside a partly quoted word do NOT protect (D6, witness `x'$(a)'`). -/
theorem C07_protected (np : NestedParse) (tok : Token)
    (h : wholeSQ tok.valueStr = true ∨ escOK tok.valueStr = true) :
    Sat (expandword np tok) (fun w => ∃ expanded,
      w = .word (tok.lexpos, tok.endlexpos) expanded []) := by
  refine (sat_expandword (npspec_true np) tok).weaken ?_ (fun _ h => h)
  rintro w ⟨expanded, parts, rfl, hp⟩
  refine ⟨expanded, ?_⟩
  have hfull : ∀ full, WordSpec (fun _ _ _ => True) tok.valueStr (qOf tok) tok.flags tok.lexpos
      tok.endlexpos full → full = [] := by
    intro full hf
    rcases h with h | h
    · exact wordSpec_wholeSQ h hf
    · exact wordSpec_escaped h hf
  rcases hp with rfl | ⟨full, hf, rfl | rfl⟩
  · rfl
  · rw [hfull _ hf]
  · rw [hfull _ hf]; rfl

/-- the same for `_expandwordinternal` (used by `split`) -/
theorem C07_protected_internal (np : NestedParse) (tok : Token) (q : Bool)
    (h : wholeSQ tok.valueStr = true ∨ escOK tok.valueStr = true) :
    Sat (expandwordinternal np tok q) (fun r => r.1 = []) := by
  refine (sat_expandwordinternal (npspec_true np) tok q).weaken ?_ (fun _ h => h)
  intro r hr
  rcases h with h | h
  · exact wordSpec_wholeSQ h hr
  · exact wordSpec_escaped h hr

/-! ### the real nested parser -/

/-- **C07 for the parser the real actions use**: in `parserRun (d+1)` (see `parserRun_succ`)
    every word node is built by `expandword (nestedOf d) tok`; each of its substitution parts
    holds the result of `parserRun d` on the enclosed text from the state `nestedStart`, shifted
    to the absolute offset of that text -/
theorem C07_nested (d : Nat) (tok : Token) :
    Sat (expandword (nestedOf d) tok) (fun w => ∃ expanded parts,
      w = .word (tok.lexpos, tok.endlexpos) expanded parts ∧
      PartsOK (RNested d) tok.valueStr (qOf tok) tok.lexpos tok.endlexpos parts) :=
  C07_word (npspec_nested d) tok


/-! ### moving a word with its parts -/

theorem PartsOK.shift {v : Str} {q : Bool} {k kend : Nat} {parts : List Node}
    (h : PartsOK R v q k kend parts) (j : Nat) :
    PartsOK R v q (k + j) (kend + j) (parts.map (Node.shift j)) := by
  refine ⟨?_, ?_, ?_, ?_⟩
  · intro p hp hs
    obtain ⟨p0, hp0, rfl⟩ := List.mem_map.mp hp
    rw [isSubstitution_shift] at hs
    exact (h.subst p0 hp0 hs).shift j
  · intro p hp hs
    obtain ⟨p0, hp0, rfl⟩ := List.mem_map.mp hp
    rw [isSubstitution_shift] at hs
    rw [isParamOrTilde_shift]
    exact h.other p0 hp0 hs
  · rw [List.pairwise_map]
    refine h.ordered.imp ?_
    intro a b hab
    rw [Node.pos_shift, Node.pos_shift]
    simp only []
    omega
  · intro p hp
    obtain ⟨p0, hp0, rfl⟩ := List.mem_map.mp hp
    have := h.inside p0 hp0
    rw [Node.pos_shift]
    simp only []
    omega

theorem shift_word (j k kend : Nat) (e : Str) (parts : List Node) :
    Node.shift j (.word (k, kend) e parts) = .word (k + j, kend + j) e (parts.map (Node.shift j)) := by
  simp [Node.shift, Node.mapPos, Node.mapPosL_eq_map]

theorem shift_assignment (j k kend : Nat) (e : Str) (parts : List Node) :
    Node.shift j (.assignment (k, kend) e parts) =
      .assignment (k + j, kend + j) e (parts.map (Node.shift j)) := by
  simp [Node.shift, Node.mapPos, Node.mapPosL_eq_map]

end Bashlex.C07
