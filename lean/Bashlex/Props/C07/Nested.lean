/-
  C07: the real nested parser.  `parserRun (d+1)` runs the LR engine with the nested parser
  `nestedOf d`: a fresh parser object over `Tape.ofInput body` (strict, not `proceedonerror`),
  inheriting the three last tokens, the parser-state flags (plus CMDSUBST, EOFTOKEN and the
  end-of-input token `)` when called from `_parsedolparen`) and the expansion limit minus one, on
  which `parserRun d` runs.  `RNested d body dolparen n` says exactly that: `n` is what
  `parserRun d` returned from such a start state.
-/
import Bashlex.Props.C07.Protected
import Bashlex.Props.C10.Tape
import Bashlex.Proofs.ParserLift

namespace Bashlex.C07
open Bashlex Bashlex.M

/-- the state of the fresh parser object `_recursiveparse` builds from the outer one -/
def nestedStart (outer : Local) (body : Str) (dolparen : Bool) : Local :=
  { tape := some (Tape.ofInput body), opts := some (true, false)
    lastReadToken := outer.lastReadToken, tokenBeforeThat := outer.tokenBeforeThat
    twoTokensAgo := outer.twoTokensAgo
    ps := if dolparen then { outer.ps with cmdsubst := true, eoftoken := true } else outer.ps
    eofToken := if dolparen then some rparenEofToken else none
    limit := outer.limit.map (· - 1) }

/-- the nested parser of `parserRun (d + 1)` -/
def nestedOf (d : Nat) : NestedParse := fun string dolparen => do
  let outer ← get
  set (nestedStart outer string dolparen)
  let r ← parserRun d
  let inner ← get
  set { outer with ps := inner.ps }
  pure r

/-- `parserRun (d + 1)` is the LR engine over the real tables with `nestedOf d` as nested parser -/
theorem parserRun_succ (d : Nat) :
    parserRun (d + 1) = (do
      let res ← LR.run LR.realTables (lrHooks (nestedOf d)) 1073741824
      let store := (← get).store
      match res with
      | .accepted (.node n) _ _ _ => pure (some (resolve store n))
      | _ => pure none) := rfl

/-- `n` is the result of a parser run of nesting budget `d` over `body`, started as
    `_recursiveparse` starts it from some outer parser object, in some environment -/
def RNested (d : Nat) (body : Str) (dolparen : Bool) (n : Node) : Prop :=
  ∃ outer e l' e', (parserRun d).run (nestedStart outer body dolparen) e = (.ok (some n, l'), e')

theorem npspec_nested (d : Nat) : NPSpec (RNested d) (nestedOf d) := fun body dp =>
  SatS.to_sat (SatS.npOf (rec := parserRun d) fun l e _ l0 e0 h0 => by
    obtain ⟨rfl, rfl⟩ := h0
    rcases h : (parserRun d).run (C16.nestedInit l body dp) e0 with ⟨r, e2⟩
    cases r with
    | error x => trivial
    | ok a => exact fun n hn => ⟨l, e0, a.2, e2, h.trans (by rw [← hn])⟩)

end Bashlex.C07
