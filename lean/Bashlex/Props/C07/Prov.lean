/-
  C07: the semantic actions preserve "every word-like node of the value is good".

  `W` is any predicate on word / assignment nodes with: `expandword np tok` returns trees all of
  whose word-like nodes are `W`; `W` passes from a word node to the assignment node built from
  it; a word node without parts is `W` (here-document delimiters).  Then every semantic action
  maps values whose word-like nodes are `W` to such a value (`sat_actionCore` at
  the end of this file, `sat_action` in `Tree.lean`; first `G` / `GL` / `GV`, `Ctx`).  Nothing else is
  needed of the grammar or the tables: the invariant is the same for every grammar symbol.

  The judgement is the instance `ofWord W` of C04's (`C04/Prov.lean`: all textual nodes, two
  traversals): `G_ofWord`, `ctx_ofWord`.  The walk through the actions is C04's; the helpers
  below are its helpers read at `ofWord W`.
  What an action builds from its tokens (`C04.Leaves`) is, for word-like nodes, only the words
  `_expandword` returns — for all arguments, whatever their types.
-/
import Bashlex.Props.C04.Prov
import Bashlex.Props.C04.ProvActions

namespace Bashlex.C07
open Bashlex Bashlex.M Bashlex.Node

/-- the nodes that carry expansion parts -/
def isWordLike : Node → Bool
  | .word .. | .assignment .. => true
  | _ => false

section
variable (W : Node → Prop)

/-- every word-like node of the tree is `W` -/
def G (n : Node) : Prop := ∀ w ∈ n.preorder, isWordLike w = true → W w
def GL (l : List Node) : Prop := ∀ n ∈ l, G W n
/-- the invariant of a semantic value: nodes are good trees, tokens satisfy `T` -/
def GV (T : Token → Prop) : SVal → Prop
  | .node n => G W n
  | .nodes l => GL W l
  | .tok t => T t
  | .none => True
end

variable {W : Node → Prop} {T : Token → Prop}

theorem G_iff {n : Node} : G W n ↔ (isWordLike n = true → W n) ∧ GL W n.children :=
  Node.forall_preorder_iff

@[simp] theorem GL_nil : GL W [] := fun _ h => absurd h List.not_mem_nil
@[simp] theorem GL_cons {n : Node} {l : List Node} : GL W (n :: l) ↔ G W n ∧ GL W l := by
  simp [GL]
@[simp] theorem GL_append {a b : List Node} : GL W (a ++ b) ↔ GL W a ∧ GL W b := by
  simp only [GL, List.mem_append]
  exact ⟨fun h => ⟨fun n hn => h n (Or.inl hn), fun n hn => h n (Or.inr hn)⟩,
    fun h n hn => hn.elim (h.1 n) (h.2 n)⟩


@[simp] theorem G_operator {p a} : G W (.operator p a) := by rw [G_iff]; simp [isWordLike, children]
@[simp] theorem G_reservedword {p a} : G W (.reservedword p a) := by rw [G_iff]; simp [isWordLike, children]
@[simp] theorem G_pipe {p a} : G W (.pipe p a) := by rw [G_iff]; simp [isWordLike, children]
@[simp] theorem G_parameter {p a} : G W (.parameter p a) := by rw [G_iff]; simp [isWordLike, children]
@[simp] theorem G_tilde {p a} : G W (.tilde p a) := by rw [G_iff]; simp [isWordLike, children]
@[simp] theorem G_heredoc {p a} : G W (.heredoc p a) := by rw [G_iff]; simp [isWordLike, children]
@[simp] theorem G_list {p ps} : G W (.list p ps) ↔ GL W ps := by rw [G_iff]; simp [isWordLike, children]
@[simp] theorem G_pipeline {p ps} : G W (.pipeline p ps) ↔ GL W ps := by rw [G_iff]; simp [isWordLike, children]
@[simp] theorem G_ifN {p ps} : G W (.ifN p ps) ↔ GL W ps := by rw [G_iff]; simp [isWordLike, children]
@[simp] theorem G_forN {p ps} : G W (.forN p ps) ↔ GL W ps := by rw [G_iff]; simp [isWordLike, children]
@[simp] theorem G_whileN {p ps} : G W (.whileN p ps) ↔ GL W ps := by rw [G_iff]; simp [isWordLike, children]
@[simp] theorem G_untilN {p ps} : G W (.untilN p ps) ↔ GL W ps := by rw [G_iff]; simp [isWordLike, children]
@[simp] theorem G_caseN {p ps} : G W (.caseN p ps) ↔ GL W ps := by rw [G_iff]; simp [isWordLike, children]
@[simp] theorem G_pattern {p ps} : G W (.pattern p ps) ↔ GL W ps := by rw [G_iff]; simp [isWordLike, children]
@[simp] theorem G_command {p ps} : G W (.command p ps) ↔ GL W ps := by rw [G_iff]; simp [isWordLike, children]
@[simp] theorem G_unimplemented {p ps} : G W (.unimplemented p ps) ↔ GL W ps := by
  rw [G_iff]; simp [isWordLike, children]
@[simp] theorem G_function {p a b ps} : G W (.function p a b ps) ↔ GL W ps := by
  rw [G_iff]; simp [isWordLike, children]
@[simp] theorem G_compound {p l r} : G W (.compound p l r) ↔ GL W l ∧ GL W r := by
  rw [G_iff]; simp [isWordLike, children]
@[simp] theorem G_redirect {p i t o oa h hid} :
    G W (.redirect p i t o oa h hid) ↔ GL W o.toList ∧ GL W h.toList := by
  rw [G_iff]; simp [isWordLike, children]
@[simp] theorem G_commandsubstitution {p c} : G W (.commandsubstitution p c) ↔ G W c := by
  rw [G_iff]; simp [isWordLike, children]
@[simp] theorem G_processsubstitution {p c} : G W (.processsubstitution p c) ↔ G W c := by
  rw [G_iff]; simp [isWordLike, children]
theorem G_word {p s ps} : G W (.word p s ps) ↔ W (.word p s ps) ∧ GL W ps := by
  rw [G_iff]; simp [isWordLike, children]
theorem G_assignment {p s ps} : G W (.assignment p s ps) ↔ W (.assignment p s ps) ∧ GL W ps := by
  rw [G_iff]; simp [isWordLike, children]

@[simp] theorem GV_none : GV W T .none := trivial
@[simp] theorem GV_tok {t} : GV W T (.tok t) ↔ T t := Iff.rfl
@[simp] theorem GV_node {n} : GV W T (.node n) ↔ G W n := Iff.rfl
@[simp] theorem GV_nodes {l} : GV W T (.nodes l) ↔ GL W l := Iff.rfl

/-- what the walk needs of `W` and of the nested parser -/
structure Ctx (W : Node → Prop) (T : Token → Prop) (np : NestedParse) : Prop where
  /-- words are built from tokens satisfying `T` only -/
  word : ∀ tok, T tok → Sat (expandword np tok) (G W)
  asg : ∀ p s ps, W (.word p s ps) → W (.assignment p s ps)
  /-- the delimiter word of a here-document redirect -/
  bare : ∀ tok, T tok → W (.word (tok.lexpos, tok.endlexpos) tok.valueStr [])

variable {np : NestedParse} {args : List SVal}

/-! ## C07's judgement as an instance of C04's -/

/-- the pre-order, and a predicate that speaks of word-like nodes only -/
def ofWord (W : Node → Prop) : C04.Pred := ⟨true, fun m => isWordLike m = true → W m⟩

theorem textual_of_wordLike {m : Node} (h : isWordLike m = true) : C04.isTextual m = true := by
  cases m <;> first | rfl | cases h

theorem G_ofWord {n : Node} : C04.G (ofWord W) n ↔ G W n :=
  ⟨fun h m hm hw => h m hm (textual_of_wordLike hw) hw, fun h m hm _ hw => h m hm hw⟩

theorem GL_ofWord {l : List Node} : C04.GL (ofWord W) l ↔ GL W l :=
  ⟨fun h n hn => G_ofWord.mp (h n hn), fun h n hn => G_ofWord.mpr (h n hn)⟩

theorem GV_ofWord {v : SVal} : C04.GV (ofWord W) T v ↔ GV W T v := by
  cases v <;> first | exact G_ofWord | exact GL_ofWord | exact Iff.rfl

theorem ofArgs (ha : ∀ a ∈ args, GV W T a) : ∀ a ∈ args, C04.GV (ofWord W) T a :=
  fun a h => GV_ofWord.mpr (ha a h)

theorem wordTok_ofWord (hC : Ctx W T np) {t : Token} (ht : T t) : C04.WordTok (ofWord W) np t :=
  (hC.word t ht).weaken (fun _ h => G_ofWord.mpr h) (fun _ h => h)

/-- C07's closure conditions give C04's: the clauses about reserved words, operators, pipes and
    redirects are vacuous -/
theorem ctx_ofWord (hC : Ctx W T np) : C04.Ctx (ofWord W) T np where
  word _ hT _ := wordTok_ofWord hC hT
  asg p s ps h _ := hC.asg p s ps (h rfl)
  bare tok hT _ _ := hC.bare tok hT
  res _ _ _ _ _ := ⟨nofun, nofun, nofun⟩
  semi _ _ _ := nofun
  d19 := nofun
  redir _ _ _ _ _ _ _ _ _ _ _ _ _ _ _ := nofun

/-! ## C04's helpers of the walk, read at `ofWord W` -/

theorem slice_ok (ha : ∀ a ∈ args, GV W T a) (i : Nat) : GV W T (PCtx.slice ⟨np, args⟩ i) :=
  GV_ofWord.mp (C04.slice_ok (ofArgs ha) i)

theorem GV_of_slice (ha : ∀ a ∈ args, GV W T a) {i : Nat} {v : SVal}
    (h : PCtx.slice ⟨np, args⟩ i = v) : GV W T v := h ▸ slice_ok ha i

theorem sat_nodeAt (ha : ∀ a ∈ args, GV W T a) (i : Nat) (site : String) :
    Sat (PCtx.nodeAt ⟨np, args⟩ i site) (G W) :=
  (C04.sat_nodeAt (ofArgs ha) i site).weaken (fun _ => G_ofWord.mp) (fun _ h => h)

theorem sat_nodesAt (ha : ∀ a ∈ args, GV W T a) (i : Nat) (site : String) :
    Sat (PCtx.nodesAt ⟨np, args⟩ i site) (GL W) :=
  (C04.sat_nodesAt (ofArgs ha) i site).weaken (fun _ => GL_ofWord.mp) (fun _ h => h)

theorem sat_tokAt (ha : ∀ a ∈ args, GV W T a) (i : Nat) :
    Sat (PCtx.tokAt ⟨np, args⟩ i) T :=
  C04.sat_tokAt (ofArgs ha) i

theorem sat_reservedAt (p : PCtx) (i : Nat) : Sat (reservedAt p i) (G W) := by
  unfold reservedAt
  exact Sat.bind_any (fun _ => Sat.pure G_reservedword)

theorem sat_operatorAt (p : PCtx) (i : Nat) : Sat (operatorAt p i) (G W) := by
  unfold operatorAt
  exact Sat.bind_any (fun _ => Sat.pure G_operator)

theorem partTok_ofWord (hC : Ctx W T np) {t : Token} (ht : T t) : C04.PartTok (ofWord W) np t :=
  ⟨fun _ => wordTok_ofWord hC ht, fun _ => nofun⟩

theorem sat_makeparts (hC : Ctx W T np) (ha : ∀ a ∈ args, GV W T a) :
    Sat (makeparts ⟨np, args⟩) (GL W) :=
  (C04.sat_makepartsOf (ofArgs ha) fun t h => partTok_ofWord hC (ha _ h)).weaken
    (fun _ => GL_ofWord.mp) (fun _ h => h)

theorem sat_addRedirects {n : Node} {reds : List Node} (hn : G W n) (hr : GL W reds) :
    Sat (addRedirects n reds) (G W) :=
  (C04.sat_addRedirects (G_ofWord.mpr hn) (GL_ofWord.mpr hr)).weaken (fun _ => G_ofWord.mp)
    (fun _ h => h)

theorem sat_mkCompound1 {inner : Span → List Node → Node} {parts : List Node}
    (hi : ∀ sp, G W (inner sp parts)) : Sat (mkCompound1 inner parts) (GV W T) :=
  (C04.sat_mkCompound1 (T := T) fun sp => G_ofWord.mpr (hi sp)).weaken (fun _ => GV_ofWord.mp)
    (fun _ h => h)

theorem sat_joinLists (ha : ∀ a ∈ args, GV W T a) {mk : Span → Str → Node} (site : String)
    (hmk : ∀ sp s, G W (mk sp s)) : Sat (joinLists ⟨np, args⟩ mk site) (GV W T) :=
  (C04.sat_joinLists (ofArgs ha) (fun _ _ => G_ofWord.mpr (hmk _ _)) site).weaken
    (fun _ => GV_ofWord.mp) (fun _ h => h)

theorem sat_handleNotImplemented (hC : Ctx W T np) (ha : ∀ a ∈ args, GV W T a) (ty : String) :
    Sat (handleNotImplemented ⟨np, args⟩ ty) (GV W T) :=
  (C04.sat_handleNotImplementedOf (ofArgs ha) (fun t h => partTok_ofWord hC (ha _ h)) ty).weaken
    (fun _ => GV_ofWord.mp) (fun _ h => h)

theorem G_asg_of_word (hC : Ctx W T np) {p s ps} (h : G W (.word p s ps)) : G W (.assignment p s ps) := by
  rw [G_word] at h
  rw [G_assignment]
  exact ⟨hC.asg p s ps h.1, h.2⟩

theorem G_bare (hC : Ctx W T np) {tok : Token} (ht : T tok) :
    G W (.word (tok.lexpos, tok.endlexpos) tok.valueStr []) := by
  rw [G_word]; exact ⟨hC.bare tok ht, GL_nil⟩

theorem G_of_head? {l : List Node} {n : Node} (hl : GL W l) (h : l.head? = some n) : G W n :=
  hl n (List.mem_of_head? h)

/-- the post-condition of an action -/
abbrev Post (W : Node → Prop) (T : Token → Prop) (r : SVal × Bool) : Prop := GV W T r.1

end Bashlex.C07

namespace Bashlex.C07
open Bashlex Bashlex.M Bashlex.Node

variable {W : Node → Prop} {T : Token → Prop} {np : NestedParse} {args : List SVal}

/-- every leaf clause is vacuous; a redirect node is not word-like, its output word is the word of
    its last token (without parts for a here-document) -/
theorem leaves_ofWord (hC : Ctx W T np) (ha : ∀ a ∈ args, GV W T a) {f : String} :
    C04.Leaves (ofWord W) T np f args where
  words _ _ t ht := wordTok_ofWord hC (GV_of_slice ha ht)
  res _ _ _ _ := ⟨nofun, nofun, nofun⟩
  parts _ _ t hmem := partTok_ofWord hC (ha _ hmem)
  elif _ _ _ := ⟨fun _ => nofun, fun _ _ => nofun⟩
  bang _ := nofun
  semi _ _ _ _ := nofun
  redir _ := by
    unfold actionCore; simp only []
    refine (C04.sat_tokAt (ofArgs ha) _).bind fun otok ho => ?_
    simp only [pure_bind]
    refine Sat.ite (fun _ => (wordTok_ofWord hC ho).bind fun w hw => ?_) (fun _ => ?_)
    · exact Sat.ite
        (fun _ => Sat.bind_any fun _ =>
          Sat.pure (C04.G_redirect.mpr ⟨nofun, C04.GL_one hw, C04.GL_nil⟩))
        (fun _ => Sat.bind_any fun _ => Sat.bind_any fun _ =>
          Sat.pure (C04.G_redirect.mpr ⟨nofun, C04.GL_one hw, C04.GL_nil⟩))
    · exact Sat.ite
        (fun _ => Sat.bind_any fun _ =>
          Sat.pure (C04.G_redirect.mpr ⟨nofun, C04.GL_nil, C04.GL_nil⟩))
        (fun _ => Sat.bind_any fun _ => Sat.bind_any fun _ =>
          Sat.pure (C04.G_redirect.mpr ⟨nofun, C04.GL_nil, C04.GL_nil⟩))
  heredoc _ := by
    unfold actionCore; simp only []
    refine (C04.sat_tokAt (ofArgs ha) _).bind fun wtok hw => ?_
    have hout : ∀ p i t id, C04.G (ofWord W) (.redirect p i t
        (some (.word (wtok.lexpos, wtok.endlexpos) wtok.valueStr [])) .none none id) :=
      fun _ _ _ _ => C04.G_redirect.mpr ⟨nofun, C04.GL_one (G_ofWord.mpr (G_bare hC hw)), C04.GL_nil⟩
    simp only [pure_bind]
    refine Sat.ite (fun _ => ?_) (fun _ => Sat.bind_any fun _ => ?_) <;>
      exact Sat.bind_any fun _ => Sat.bind_any fun _ => Sat.bind_any fun _ => Sat.pure (hout _ _ _ _)

/-- **every semantic action** (and the `NotModelled` default) returns a value whose word-like nodes
    are all `W` -/
theorem sat_actionCore (hC : Ctx W T np) (ha : ∀ a ∈ args, GV W T a) (fname : String) :
    Sat (actionCore np fname args) (Post W T) :=
  ((leaves_ofWord hC ha).sat_actionCore (ctx_ofWord hC) (ofArgs ha)).weaken
    (fun _ => GV_ofWord.mp) (fun _ h => h)

end Bashlex.C07
