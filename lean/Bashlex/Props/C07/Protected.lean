/-
  C07: protected text yields no substitution, parameter or tilde node.

  * `wordSpec_wholeSQ`: a wholly single-quoted word has no parts (that is all the protection
    single quotes give: D6).
  * `Reach.escaped_not_head`: the character after a backslash at which the scan stands is never a
    scan head, so no part starts there (local form, any word).
  * `wordSpec_escaped`: a word in which every `$`, backquote, `<`, `>`, `~` is preceded by such a
    backslash (`escOK`) has no parts.
  None of these needs anything of the nested parser (it is not called).
-/
import Bashlex.Props.C07.Trace

namespace Bashlex.C07
open Bashlex Bashlex.M

variable {R : Str → Bool → Node → Prop} {v : Str} {q : Bool} {fl0 : WordFlags}

/-! ### wholly single-quoted words -/

theorem wholeSQ_no_visit (hw : wholeSQ v = true) {fl : WordFlags} {out : Option Node} {i' : Nat}
    {fl' : WordFlags} : ¬ Visit R v q 0 fl out i' fl' := by
  simp only [wholeSQ, C06.wholeSQ, Bool.and_eq_true, beq_iff_eq] at hw
  have hc : v[0]? = some '\'' := by rw [← List.head?_eq_getElem?]; exact hw.1
  have ho : opener v q 0 fl = none := by
    unfold opener; rw [hc]; simp
  have hp : plainStep v q 0 fl = none := by
    unfold plainStep; rw [hc]; simp [hw.2]
  intro h
  cases h with
  | procsub h1 _ => rw [ho] at h1; cases h1
  | comsub h1 _ _ => rw [ho] at h1; cases h1
  | backquote h1 _ _ _ _ => rw [ho] at h1; cases h1
  | plain h1 => rw [hp] at h1; cases h1

theorem Reach.of_no_first {i : Nat} {fl : WordFlags} {tr : List (Nat × Option Node)}
    (h : Reach R v q fl0 i fl tr)
    (hno : ∀ out i' fl', ¬ Visit R v q 0 fl0 out i' fl') : tr = [] ∧ i = 0 ∧ fl = fl0 := by
  induction h with
  | start => exact ⟨rfl, rfl, rfl⟩
  | step hr hv ih =>
    obtain ⟨_, rfl, rfl⟩ := ih
    exact absurd hv (hno _ _ _)

/-- **single quotes**: a wholly single-quoted word has no parts -/
theorem wordSpec_wholeSQ {k kend : Nat} {parts : List Node} (hw : wholeSQ v = true)
    (h : WordSpec R v q fl0 k kend parts) : parts = [] := by
  rcases h with ⟨_, h⟩ | ⟨fl, tr, hr, _, hp⟩
  · exact h
  · have := (hr.of_no_first (fun _ _ _ => wholeSQ_no_visit hw)).1
    rw [hp, this]; rfl

/-! ### backslashes -/

theorem opener_backslash {i : Nat} (fl : WordFlags) (h : v[i]? = some '\\') : opener v q i fl = none := by
  unfold opener; rw [h]; simp

theorem plainStep_backslash {i : Nat} (fl : WordFlags) (h : v[i]? = some '\\') :
    plainStep v q i fl = some (none, i + 2, fl) := by
  unfold plainStep; rw [h]; simp

/-- standing on a backslash the scan emits nothing and skips the next character -/
theorem Visit.backslash {i : Nat} {fl : WordFlags} {out : Option Node} {i' : Nat} {fl' : WordFlags}
    (hv : Visit R v q i fl out i' fl') (h : v[i]? = some '\\') : out = none ∧ i' = i + 2 := by
  cases hv with
  | procsub h1 _ => rw [opener_backslash fl h] at h1; cases h1
  | comsub h1 _ _ => rw [opener_backslash fl h] at h1; cases h1
  | backquote h1 _ _ _ _ => rw [opener_backslash fl h] at h1; cases h1
  | plain h1 =>
    rw [plainStep_backslash fl h] at h1
    simp only [Option.some.injEq, Prod.mk.injEq] at h1
    exact ⟨h1.1.symm, h1.2.1.symm⟩

theorem Reach.skip_escaped {i : Nat} {fl : WordFlags} {tr : List (Nat × Option Node)}
    (h : Reach R v q fl0 i fl tr) :
    ∀ e ∈ tr, v[e.1]? = some '\\' → e.2 = none ∧ e.1 + 2 ≤ i := by
  induction h with
  | start => intro e he; cases he
  | step hr hv ih =>
    intro e he hb
    rcases List.mem_append.mp he with he | he
    · have := ih e he hb
      have := hv.spec.2.1
      exact ⟨‹_ ∧ _›.1, by omega⟩
    · simp only [List.mem_singleton] at he
      subst he
      have := hv.backslash hb
      exact ⟨this.1, by omega⟩

/-- **backslash, local form**: the character after a backslash on which the scan stands is never
    a scan head — whatever it is (`$`, backquote, `<`, `>`, `~`), no part starts there -/
theorem Reach.escaped_not_head {i : Nat} {fl : WordFlags} {tr : List (Nat × Option Node)}
    (h : Reach R v q fl0 i fl tr) {hd : Nat} {out : Option Node} (he : (hd, out) ∈ tr)
    (hb : v[hd]? = some '\\') : out = none ∧ ∀ out', (hd + 1, out') ∉ tr := by
  refine ⟨(h.skip_escaped _ he hb).1, ?_⟩
  intro out' he'
  -- look at the trace when `hd + 1` was visited
  induction h with
  | start => cases he
  | step hr hv ih =>
    rename_i i fl tr o i' fl'
    rcases List.mem_append.mp he' with h1 | h1
    · rcases List.mem_append.mp he with h2 | h2
      · exact ih h2 h1
      · simp only [List.mem_singleton, Prod.mk.injEq] at h2
        have := (hr.sorted.2 _ h1).1
        simp only [] at this
        omega
    · simp only [List.mem_singleton, Prod.mk.injEq] at h1
      rcases List.mem_append.mp he with h2 | h2
      · have := (hr.skip_escaped _ h2 hb).2
        simp only [] at this
        omega
      · simp only [List.mem_singleton, Prod.mk.injEq] at h2
        omega

/-- every expansion character is escaped by a backslash the scan stands on
    (`esc` = the previous character was such a backslash) -/
def escGo : Bool → Str → Bool
  | _, [] => true
  | true, _ :: r => escGo false r
  | false, c :: r => if c == '\\' then escGo true r else !C06.isExpChar c && escGo false r

/-- **decidable form**: all of `$`, backquote, `<`, `>`, `~` in the word are backslash-escaped -/
def escOK (v : Str) : Bool := escGo false v

theorem drop_cons_of_getElem? {i : Nat} {c : Char} (h : v[i]? = some c) :
    v.drop i = c :: v.drop (i + 1) := by
  obtain ⟨hi, hc⟩ := List.getElem?_eq_some_iff.mp h
  rw [List.drop_eq_getElem_cons hi, hc]

theorem Reach.escaped {i : Nat} {fl : WordFlags} {tr : List (Nat × Option Node)}
    (h : Reach R v q fl0 i fl tr) (hv : escOK v = true) :
    partsOf tr = [] ∧ escGo false (v.drop i) = true := by
  induction h with
  | start => exact ⟨rfl, hv⟩
  | step hr hvis ih =>
    rename_i i fl tr out i' fl'
    obtain ⟨hparts, hesc⟩ := ih
    have hi := hvis.spec.1
    obtain ⟨c, hc⟩ : ∃ c, v[i]? = some c := ⟨v[i], List.getElem?_eq_getElem hi⟩
    rw [drop_cons_of_getElem? hc] at hesc
    rw [partsOf_snoc, hparts]
    by_cases hb : c = '\\'
    · subst hb
      obtain ⟨rfl, rfl⟩ := hvis.backslash hc
      refine ⟨rfl, ?_⟩
      simp only [escGo, beq_self_eq_true, if_true] at hesc
      by_cases hi1 : i + 1 < v.length
      · have hc1 : v[i + 1]? = some v[i + 1] := List.getElem?_eq_getElem hi1
        rw [drop_cons_of_getElem? hc1] at hesc
        simpa [escGo] using hesc
      · rw [List.drop_eq_nil_of_le (by omega)]; rfl
    · have hbeq : (c == '\\') = false := by simpa using hb
      simp only [escGo, hbeq, Bool.false_eq_true, if_false, Bool.and_eq_true, Bool.not_eq_true'] at hesc
      obtain ⟨hexp, hrest⟩ := hesc
      simp only [C06.isExpChar, Bool.or_eq_false_iff, beq_eq_false_iff_ne, ne_eq] at hexp
      obtain ⟨⟨⟨⟨e1, e2⟩, e3⟩, e4⟩, e5⟩ := hexp
      have ho : opener v q i fl = none := by
        unfold opener; rw [hc]; simp [e1, e2, e3, e4, e5]
      cases hvis with
      | procsub h1 _ => rw [ho] at h1; cases h1
      | comsub h1 _ _ => rw [ho] at h1; cases h1
      | backquote h1 _ _ _ _ => rw [ho] at h1; cases h1
      | plain h1 =>
        unfold plainStep at h1
        rw [hc] at h1
        simp [e1, e2, e3, e4, e5, hb] at h1
        obtain ⟨_, rfl, rfl, rfl⟩ := h1
        exact ⟨rfl, hrest⟩

/-- **backslash, whole-word form**: a word all of whose expansion characters are escaped has no
    parts -/
theorem wordSpec_escaped {k kend : Nat} {parts : List Node} (hv : escOK v = true)
    (h : WordSpec R v q fl0 k kend parts) : parts = [] := by
  rcases h with ⟨_, h⟩ | ⟨fl, tr, hr, _, hp⟩
  · exact h
  · rw [hp, (hr.escaped hv).1]; rfl

end Bashlex.C07
