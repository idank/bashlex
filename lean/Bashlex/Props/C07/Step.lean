/-
  C07: one iteration of the loop of `_expandwordinternal`, for an arbitrary nested parser
  with `NPK P R` (the walk keeps any state predicate `P` the nested parser keeps; `sat_expandStep`
  is the stateless case): the helpers (`_adjustpositions`, `_recursiveparse`, `_parsedolparen`,
  `_paramexpand`) and `expandStep` against the relation `Visit`, with what the iteration appends
  to the expanded word (`piece`).
-/
import Bashlex.Props.C07.Spec
import Bashlex.Props.C01.Expand
import Bashlex.Props.C13.Shift
import Bashlex.Props.C04.TTDel

namespace Bashlex.C07
open Bashlex Bashlex.M
set_option linter.unusedSimpArgs false

/-- the source of the tape is read without touching state or environment -/
theorem _root_.Bashlex.M.Keeps.tapeSource {P : Local → Env → Prop} {E : Exn → Prop} :
    Keeps P Bashlex.tapeSource (fun _ => True) E := by
  unfold Bashlex.tapeSource
  refine Keeps.bind Keeps.get (fun l _ => ?_)
  split
  · intro l e hp; rw [run_ask]; exact ⟨hp, trivial⟩
  · exact Keeps.pure trivial

variable {P : Local → Env → Prop} {R : Str → Bool → Node → Prop} {np : NestedParse}

theorem k_adjustpositions (n : Node) (base lim : Nat) :
    Keeps P (adjustpositions n base lim) (fun r => Fits n base lim ∧ r = n.shift base) := by
  unfold adjustpositions
  split
  · rename_i h
    refine Keeps.pure ⟨?_, rfl⟩
    intro m hm
    have := List.all_eq_true.mp h m hm
    simpa using this
  · exact Keeps.foreign trivial

theorem k_recursiveparse (hnp : NPK P R np) (base : Str) (sindex : Nat) (dp : Bool) :
    Keeps P (recursiveparse np base sindex dp) (fun r => ∃ n, R (base.drop sindex) dp n ∧
      Fits n sindex base.length ∧ r = (n.shift sindex, n.pos.2)) := by
  unfold recursiveparse
  refine Keeps.bind (hnp _ _) (fun r hr => ?_)
  split
  · exact Keeps.foreign trivial
  · rename_i node
    simp only []
    refine Keeps.bind (k_adjustpositions _ _ _) (fun n' hn' => Keeps.pure ?_)
    exact ⟨node, hr node rfl, hn'.1, by rw [hn'.2]⟩

theorem dolEnd_of {body : Str} {endp : Nat} {c : Char} (h : body[endp]? = some c) :
    (if (c != ')') = true then backOverNewlines body endp else endp) = dolEnd body endp := by
  unfold dolEnd
  rw [h]
  by_cases hc : c = ')'
  · subst hc; simp
  · have : ¬ (some c = some ')') := by intro h'; exact hc (Option.some.inj h')
    simp [hc, this]

theorem k_parsedolparen (hnp : NPK P R np) (v : Str) (s : Nat) :
    Keeps P (parsedolparen np v s) (fun r => DolParen R v s r.1 r.2) := by
  unfold parsedolparen
  simp only []
  refine Keeps.bind (k_recursiveparse hnp _ _ _) (fun r hr => ?_)
  obtain ⟨n, hR, hfit, rfl⟩ := hr
  simp only []
  split
  · exact Keeps.foreign trivial
  · rename_i c hc
    have hlt : n.pos.2 < (v.drop s).length := (List.getElem?_eq_some_iff.mp hc).1
    simp only [List.length_drop] at hlt
    refine Keeps.pure ?_
    show DolParen R v s (n.shift s) (s + _)
    rw [dolEnd_of hc]
    exact DolParen.mk n hR hfit (by omega)

/-- what `_paramexpand` returns at a `$` -/
def ParamSpec (R : Str → Bool → Node → Prop) (v : Str) (i : Nat) (r : Option Node × Nat) : Prop :=
  paramPlain v i = some r ∨
  (v[i + 1]? = some '(' ∧ v[i + 2]? ≠ some '(' ∧
    ∃ node e, DolParen R v (i + 2) node e ∧ r = (some (.commandsubstitution (i, e + 1) node), e + 1))

theorem k_paramexpand (hnp : NPK P R np) (v : Str) (i : Nat) :
    Keeps P (paramexpand np v i) (ParamSpec R v i) := by
  unfold paramexpand
  simp only []
  split
  · rename_i hc
    refine Keeps.pure (Or.inl ?_)
    simp only [paramPlain, hc]
  · rename_i c hc
    have hz : i + 1 < v.length := (List.getElem?_eq_some_iff.mp hc).1
    split
    · rename_i hsp
      refine Keeps.pure (Or.inl ?_)
      simp only [paramPlain, hc, hsp, if_true, hz]
    · rename_i hsp
      split
      · rename_i hbr
        split
        · rename_i hf
          refine Keeps.pure (Or.inl ?_)
          simp only [paramPlain, hc, hsp, hbr, if_true, hf]
          simp
        · rename_i z hf
          have hzl := (C01.findFrom_spec hf).2
          refine Keeps.pure (Or.inl ?_)
          simp only [paramPlain, hc, hsp, hbr, if_true, hf, hzl]
          simp
      · rename_i hbr
        split
        · rename_i hpar
          have hc' : v[i + 1]? = some '(' := by
            have : c = '(' := by simpa using hpar
            rw [← this]; exact hc
          split
          · exact Keeps.foreign trivial
          · rename_i d hd
            split
            · exact Keeps.raise trivial
            · rename_i hdd
              refine Keeps.bind (k_parsedolparen hnp _ _) (fun r hr => Keeps.pure (Or.inr ⟨hc', ?_, ?_⟩))
              · rw [hd]; intro h; have := Option.some.inj h; simp [this] at hdd
              · refine ⟨r.1, r.2, hr, ?_⟩
                show (some (Node.commandsubstitution (i + 1 + 1 - 2, r.2 + 1) r.1), r.2 + 1) = _
                have : i + 1 + 1 - 2 = i := by omega
                rw [this]
        · rename_i hpar
          split
          · exact Keeps.raise trivial
          · rename_i hsq
            refine Keeps.pure (Or.inl ?_)
            simp only [paramPlain, hc, hsp, hbr, hpar, hsq, if_false, Bool.false_eq_true]

theorem slice_two {v : Str} {i : Nat} {c d : Char} (h : v[i]? = some c) (h' : v[i + 1]? = some d) :
    Str.slice v i (i + 2) = [c, d] := by
  rw [C04.slice_cons v h (by omega), C04.slice_one v h']

/-- what one iteration of the loop of `_expandwordinternal` does to cursor, flags, parts and
    expanded word -/
def StepSpec (R : Str → Bool → Node → Prop) (v : Str) (q : Bool) (st : ExpSt) :
    ExpSt ⊕ (List Node × Str × Bool) → Prop
  | .inl st' => ∃ out, Visit R v q st.sindex st.flags out st'.sindex st'.flags ∧
      st'.parts = st.parts ++ out.toList ∧ st'.istring = st.istring ++ piece v q st.sindex st'.sindex
  | .inr r => (st.sindex = v.length ∧ r.1 = st.parts ∧ r.2.1 = st.istring ∧ r.2.2 = false) ∨
      (wholeSQ v = true ∧ r.1 = [] ∧ r.2.1 = (v.drop 1).dropLast ∧ r.2.2 = true)

theorem k_expandStep (hnp : NPK P R np) (tok : Token) (v : Str) (q : Bool) (st : ExpSt) :
    Keeps P (expandStep np tok v q st) (StepSpec R v q st) := by
  unfold expandStep
  simp only []
  refine Keeps.ite (fun hend => Keeps.pure (Or.inl ⟨by simpa using hend, rfl, rfl, rfl⟩)) (fun _ => ?_)
  split
  · exact Keeps.foreign trivial
  rename_i c hc
  -- a plain iteration
  have plain : ∀ (st' : ExpSt) (out : Option Node),
      plainStep v q st.sindex st.flags = some (out, st'.sindex, st'.flags) →
      st'.parts = st.parts ++ out.toList →
      st'.istring = st.istring ++ piece v q st.sindex st'.sindex → StepSpec R v q st (.inl st') :=
    fun st' out h hp hv => ⟨out, Visit.plain h, hp, hv⟩
  -- the expanded word: the text covered at an expansion character, else the character itself
  have cov : ∀ i', (c == '<' || c == '>' || c == '~' || c == '$' || c == '`') = true →
      st.istring ++ Str.slice v st.sindex i' = st.istring ++ piece v q st.sindex i' := fun i' h => by
    simp only [piece, hc, h, if_true]
  have one : (c == '<' || c == '>' || c == '~' || c == '$' || c == '`') = true ∨
      ((c == '\\') = false ∧ (c == '"') = false ∧ (c == '\'' && !q) = false) →
      st.istring ++ [c] = st.istring ++ piece v q st.sindex (st.sindex + 1) := by
    intro h
    simp only [piece, hc]
    rcases h with h | ⟨h1, h2, h3⟩
    · rw [if_pos h, C04.slice_one v hc]
    · split
      · rw [C04.slice_one v hc]
      · simp only [h1, h2, h3, Bool.false_eq_true, if_false]
  refine Keeps.ite (fun hlt => Keeps.ite (fun hcond => Keeps.pure ?_) (fun hcond => ?_)) (fun hlt => ?_)
  · refine plain _ none ?_ (by simp) (one (Or.inl (by simp only [hlt, Bool.true_or])))
    simp only [plainStep, hc, hlt, hcond, if_true]
  · refine Keeps.bind (k_parsedolparen hnp _ _) (fun r hr => Keeps.pure ?_)
    have ho : opener v q st.sindex st.flags = some .proc := by
      simp only [opener, hc, hlt, hcond, if_true, if_false, Bool.false_eq_true]
    have h2 : st.sindex + 2 - 2 = st.sindex := by omega
    refine ⟨some (.processsubstitution (st.sindex, r.2 + 1) r.1), ?_, ?_, ?_⟩
    · exact Visit.procsub ho hr
    · show st.parts ++ [Node.processsubstitution (st.sindex + 2 - 2, r.2 + 1) r.1] = _
      rw [h2]; rfl
    · show st.istring ++ Str.slice v (st.sindex + 2 - 2) (r.2 + 1) = _
      rw [h2]; exact cov _ (by simp only [hlt, Bool.true_or])
  simp only [Bool.not_eq_true] at hlt
  refine Keeps.ite (fun hct => Keeps.ite (fun hcond => Keeps.pure ?_) (fun hcond => Keeps.pure ?_)) (fun hct => ?_)
  · refine plain _ none ?_ (by simp) (one (Or.inl (by simp only [hct, Bool.true_or, Bool.or_true])))
    simp only [plainStep, hc, hlt, hct, hcond, if_true, if_false, Bool.false_eq_true]
  · simp only [Bool.not_eq_true] at hcond
    have hps : plainStep v q st.sindex st.flags =
        (let r := tildeScan v (st.flags.contains .ASSIGNRHS || st.flags.contains .ASSIGNMENT ||
            st.flags.contains .TILDEEXP) (v.length + 1) st.sindex
         some (if decide (r.1 > st.sindex) && r.2 then
            some (.tilde (st.sindex, r.1) (Str.slice v st.sindex r.1)) else none, r.1, st.flags)) := by
      simp only [plainStep, hc, hlt, hct, hcond, if_true, if_false, Bool.false_eq_true]
    generalize tildeScan v (st.flags.contains .ASSIGNRHS || st.flags.contains .ASSIGNMENT ||
            st.flags.contains .TILDEEXP) (v.length + 1) st.sindex = r at hps ⊢
    simp only [] at hps
    refine plain _ _ hps ?_ (cov _ (by simp only [hct, Bool.true_or, Bool.or_true]))
    simp only []
    split <;> simp
  simp only [Bool.not_eq_true] at hct
  refine Keeps.ite (fun hd => ?_) (fun hd => ?_)
  · have hdx : (c == '<' || c == '>' || c == '~' || c == '$' || c == '`') = true := by
      simp only [Bool.and_eq_true] at hd; simp only [hd.1, Bool.true_or, Bool.or_true]
    refine Keeps.bind (k_paramexpand hnp _ _) (fun r hr => Keeps.pure ?_)
    rcases hr with hp | ⟨hp1, hp2, node, e, hdp, rfl⟩
    · refine plain _ r.1 ?_ ?_ (cov _ hdx)
      · simp only [plainStep, hc, hlt, hct, hd, if_true, if_false, Bool.false_eq_true, hp, Option.map_some]
      · cases r.1 <;> simp
    · have ho : opener v q st.sindex st.flags = some .dollar := by
        simp only [opener, hc, hlt, hct, hd, hp1, if_true, if_false, Bool.false_eq_true, beq_self_eq_true]
      exact ⟨_, Visit.comsub ho hp2 hdp, rfl, cov _ hdx⟩
  refine Keeps.ite (fun hbq => Keeps.ite (fun hbb => Keeps.pure ?_) (fun hbb => ?_)) (fun hbq => ?_)
  · refine plain _ none ?_ (by simp) ?_
    · simp only [plainStep, hc, hlt, hct, hd, hbq, hbb, if_true, if_false, Bool.false_eq_true]
    · show st.istring ++ ['`', '`'] = _
      rw [← slice_two (hc.trans (by simpa using hbq)) (by simpa using hbb)]
      exact cov _ (by simp only [hbq, Bool.or_true])
  · split
    · exact Keeps.bind Keeps.tapeSource (fun _ _ => Keeps.raise trivial)
    · rename_i x hx
      refine Keeps.bind (k_recursiveparse hnp _ _ _) (fun r hr => ?_)
      obtain ⟨n, hR, hfit0, rfl⟩ := hr
      simp only [Node.shift_zero]
      refine Keeps.bind (k_adjustpositions _ _ _) (fun cmd hcmd => Keeps.pure ?_)
      obtain ⟨hfit, rfl⟩ := hcmd
      have ho : opener v q st.sindex st.flags = some .backquote := by
        simp only [opener, hc, hlt, hct, hd, hbq, hbb, if_true, if_false, Bool.false_eq_true]
      have hR' : R (Str.slice v (st.sindex + 1) x) false n := by simpa using hR
      exact ⟨_, Visit.backquote ho hx hR' hfit0 hfit, rfl, cov _ (by simp only [hbq, Bool.or_true])⟩
  simp only [Bool.not_eq_true] at hbq
  -- past the expansion characters: `$` only as the whole word
  have other : (c == '\\') = false → (c == '"') = false → (c == '\'' && !q) = false →
      st.istring ++ [c] = st.istring ++ piece v q st.sindex (st.sindex + 1) := fun h1 h2 h3 => by
    cases h : (c == '$')
    · exact one (Or.inr ⟨h1, h2, h3⟩)
    · exact one (Or.inl (by simp only [h, Bool.true_or, Bool.or_true]))
  have noexp : ∀ {d : Char}, (c == d) = true → d ≠ '$' →
      (c == '<' || c == '>' || c == '~' || c == '$' || c == '`') = false := by
    intro d hcd hne
    have e1 : c = d := by simpa using hcd
    have : (c == '$') = false := by rw [e1]; simpa using hne
    simp only [hlt, hct, this, hbq, Bool.or_self]
  refine Keeps.ite (fun hbs => Keeps.pure ?_) (fun hbs => ?_)
  · refine plain _ none ?_ (by simp) ?_
    · simp only [plainStep, hc, hlt, hct, hd, hbq, hbs, if_true, if_false, Bool.false_eq_true]
    · show st.istring ++ Str.slice v (st.sindex + 1) (st.sindex + 2) = _
      simp only [piece, hc, noexp hbs (by decide), hbs, Bool.false_eq_true, if_false, if_true]
  simp only [Bool.not_eq_true] at hbs
  refine Keeps.ite (fun hdq => Keeps.pure ?_) (fun hdq => ?_)
  · refine plain _ none ?_ (by simp) ?_
    · have hsq : (c == '\'') = false := by
        have : c = '"' := by simpa using hdq
        subst this; decide
      simp only [plainStep, hc, hlt, hct, hd, hbq, hbs, hsq, if_true, if_false, Bool.false_eq_true,
        Bool.false_and]
    · show st.istring = _
      simp only [piece, hc, noexp hdq (by decide), hbs, hdq, Bool.false_eq_true, if_false, if_true,
        List.append_nil]
  simp only [Bool.not_eq_true] at hdq
  refine Keeps.ite (fun hsq => Keeps.ite (fun hw => Keeps.pure ?_) (fun hw => ?_)) (fun hsq => Keeps.pure ?_)
  · refine Or.inr ⟨?_, rfl, rfl, rfl⟩
    simp only [Bool.and_eq_true, beq_iff_eq] at hw
    have hc0 : v[0]? = some '\'' := by
      have : c = '\'' := by simpa using hsq
      rw [← this, ← hw.1]; exact hc
    simp only [wholeSQ, Bool.and_eq_true, beq_iff_eq]
    exact ⟨by rw [List.head?_eq_getElem?]; exact hc0, hw.2⟩
  · have hps : plainStep v q st.sindex st.flags = some (none, st.sindex + 1, st.flags) := by
      have hw' : (c == '\'' && st.sindex == 0 && v.getLast? == some '\'') = false := by
        simp only [Bool.and_assoc]
        simpa [hsq] using hw
      simp only [plainStep, hc, hlt, hct, hd, hbq, hbs, hw', if_true, if_false, Bool.false_eq_true]
    refine Keeps.ite (fun hq => Keeps.pure (plain _ none hps (by simp) ?_))
      (fun hq => Keeps.pure (plain _ none hps (by simp) ?_))
    · show st.istring = _
      have : (c == '\'' && !q) = true := by simp only [hsq, hq, Bool.and_self]
      simp only [piece, hc, noexp hsq (by decide), hbs, hdq, this, Bool.false_eq_true, if_false,
        if_true, List.append_nil]
    · simp only [Bool.not_eq_true, Bool.not_eq_false'] at hq
      exact other hbs hdq (by simp only [hq, Bool.not_true, Bool.and_false])
  · simp only [Bool.not_eq_true] at hsq
    refine plain _ none ?_ (by simp) (other hbs hdq (by simp only [hsq, Bool.false_and]))
    simp only [plainStep, hc, hlt, hct, hd, hbq, hbs, hsq, if_true, if_false, Bool.false_eq_true,
      Bool.false_and]

theorem sat_expandStep (hnp : NPSpec R np) (tok : Token) (v : Str) (q : Bool) (st : ExpSt) :
    Sat (expandStep np tok v q st) (StepSpec R v q st) :=
  sat_of_keeps (k_expandStep hnp.npk tok v q st)

end Bashlex.C07
