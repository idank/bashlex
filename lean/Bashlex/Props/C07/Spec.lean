/-
  C07: the specification vocabulary.

  The statement is about ONE word token (value `v`, position `k = tok.lexpos`) and an ARBITRARY
  nested parser `np`, of which only `NPSpec R np` is assumed: whatever node `np body dolparen`
  returns satisfies `R body dolparen` (`NPK P R np`: from the states satisfying `P`, which it keeps;
  `NPSpec` is the case `P := True`).  The scan of `_expandwordinternal` over `v` is described by
  a relation `Reach`: a trace of *scan heads* (cursor positions at which the loop stands), each
  with the part emitted there.  At a head that is an *opener* (`opener v q i fl ≠ none`) the scan
  emits a substitution node built from an `R`-answer on a piece of `v`; at every other head the
  scan is the pure function `plainStep` (parameter and tilde nodes, quote characters, escapes).
  The expanded word is a function of the trace (`valOf`): between two consecutive heads the scan
  appends `piece`, which depends on the character at the head and on the next cursor only.

  Where a substitution ends is NOT a function of `v`: for `$(`, `<(`, `>(` the nested parser is
  handed the whole rest of the word `v.drop (i+2)` and the end is computed from the span of the
  node it returns (`dolEnd`, defects D27/D9 live there); only for backquotes is the body delimited
  first (`stringextract`: the first backquote, escaped or not).
-/
import Bashlex.Model.Subst
import Bashlex.Proofs.HoareS
import Bashlex.Props.C06.Strip

namespace Bashlex.C07
open Bashlex Bashlex.M

/-- what is assumed of the nested parser: every node it returns on `body` (in any state of the
    parser object, any environment) is an `R`-answer for `body`; nothing is assumed about the
    exceptions it raises or about its effect on the state -/
def NPSpec (R : Str → Bool → Node → Prop) (np : NestedParse) : Prop :=
  ∀ body dp, Sat (np body dp) (fun r => ∀ n, r = some n → R body dp n)

theorem npspec_true (np : NestedParse) : NPSpec (fun _ _ _ => True) np :=
  fun body dp => (Sat.trivial (np body dp)).weaken (fun _ _ _ _ => trivial) (fun _ h => h)

/-- the same of a nested parser that is only known to behave from the states satisfying `P`,
    and keeps `P` -/
def NPK (P : Local → Env → Prop) (R : Str → Bool → Node → Prop) (np : NestedParse) : Prop :=
  ∀ body dp, Keeps P (np body dp) (fun r => ∀ n, r = some n → R body dp n)

theorem NPSpec.npk {R : Str → Bool → Node → Prop} {np : NestedParse} (h : NPSpec R np) :
    NPK (fun _ _ => True) R np :=
  fun body dp => SatS.post (SatS.of_sat (h body dp) _) (fun _ _ _ h => ⟨trivial, h⟩)

/-- what holds from every state with nothing to keep holds statelessly -/
theorem sat_of_keeps {α : Type} {m : M α} {Φ : α → Prop}
    (h : Keeps (fun _ _ => True) m Φ) : Sat m Φ :=
  SatS.to_sat (SatS.post h (fun _ _ _ h => h.2))

/-- every span of `n`, moved by `base`, ends within `lim` (the assertion of `_adjustpositions`) -/
def Fits (n : Node) (base lim : Nat) : Prop := ∀ m ∈ n.preorder, m.pos.2 + base ≤ lim

/-- the end offset `_parsedolparen` computes from the end `endp` of the nested parser's node,
    relative to the start of the body: `endp` itself if the body has its `)` there, otherwise
    (D27: blanks before `)`, D9: further lines) `endp` moved back over newlines -/
def dolEnd (body : Str) (endp : Nat) : Nat :=
  if body[endp]? = some ')' then endp else backOverNewlines body endp

/-- `_parsedolparen np v s` returned `(node, e)`: the node is an `R`-answer on the rest of the
    word from `s`, shifted by `s`; `e` is the offset the scan takes for the closing parenthesis -/
inductive DolParen (R : Str → Bool → Node → Prop) (v : Str) (s : Nat) : Node → Nat → Prop
  | mk (n : Node) (hR : R (v.drop s) true n) (hfit : Fits n s v.length)
      (hlt : s + n.pos.2 < v.length) :
      DolParen R v s (n.shift s) (s + dolEnd (v.drop s) n.pos.2)

inductive SubKind where
  | dollar      -- `$(`
  | proc        -- `<(` or `>(`
  | backquote
  deriving DecidableEq, Repr

/-- **the rule of the implementation for "the shell expands here"**, at a scan head `i` with the
    word's current flags `fl`; `q` = the token is QUOTED and starts with a double quote.
    There is no quote *state*: that is D6 (`x'$(a)'`) and its double-quote twin
    (`a"<(b)"` gets a process substitution, `"a"<(b)` gets none). -/
def opener (v : Str) (q : Bool) (i : Nat) (fl : WordFlags) : Option SubKind :=
  match v[i]? with
  | none => none
  | some c =>
    if c == '<' || c == '>' then
      if v[i + 1]? != some '(' || q || fl.contains .DQUOTE || fl.contains .NOPROCSUB then none
      else some .proc
    else if c == '~' then none
    else if c == '$' && v.length > 1 then
      if v[i + 1]? == some '(' then some .dollar else none
    else if c == '`' then
      if v[i + 1]? == some '`' then none else some .backquote
    else none

/-- the pure part of `_paramexpand` (everything but `$(` and the unimplemented `$[`):
    the parameter node, if any, and the next cursor -/
def paramPlain (v : Str) (i : Nat) : Option (Option Node × Nat) :=
  match v[i + 1]? with
  | none =>
    let z := scanName v (v.length + 1) (i + 1)
    some (some (.parameter (i, z) ((v.take z).drop (i + 1))), z)
  | some c =>
    if "0123456789$#?-!*@".toList.contains c then some (some (.parameter (i, i + 2) [c]), i + 2)
    else if c == '{' then
      match Str.findFrom v '}' (i + 2) with
      | none => some (none, i + 1)
      | some z => some (some (.parameter (i, z + 1) (Str.slice v (i + 2) z)), z + 1)
    else if c == '(' then none
    else if c == '[' then none
    else
      let z := scanName v (v.length + 1) (i + 1)
      some (some (.parameter (i, z) ((v.take z).drop (i + 1))), z)

/-- one iteration of the scan at a head that is not an opener: emitted part, next cursor, flags.
    `none`: the head is an opener, or the iteration leaves the loop / raises -/
def plainStep (v : Str) (q : Bool) (i : Nat) (fl : WordFlags) :
    Option (Option Node × Nat × WordFlags) :=
  match v[i]? with
  | none => none
  | some c =>
    if c == '<' || c == '>' then
      if v[i + 1]? != some '(' || q || fl.contains .DQUOTE || fl.contains .NOPROCSUB then
        some (none, i + 1, fl)
      else none
    else if c == '~' then
      if fl.contains .NOTILDE || fl.contains .DQUOTE || (decide (i > 0) && !fl.contains .NOTILDE) || q then
        some (none, i + 1, [.ITILDE])
      else
        let r := tildeScan v (fl.contains .ASSIGNRHS || fl.contains .ASSIGNMENT || fl.contains .TILDEEXP)
          (v.length + 1) i
        some (if decide (r.1 > i) && r.2 then some (.tilde (i, r.1) (Str.slice v i r.1)) else none, r.1, fl)
    else if c == '$' && v.length > 1 then
      (paramPlain v i).map fun r => (r.1, r.2, fl)
    else if c == '`' then
      if v[i + 1]? == some '`' then some (none, i + 2, fl) else none
    else if c == '\\' then some (none, i + 2, fl)
    else if c == '\'' && i == 0 && v.getLast? == some '\'' then none
    else some (none, i + 1, fl)

/-- one iteration of the scan that continues: at head `i` with flags `fl` it emits `out` and
    moves to `i'` with flags `fl'` -/
inductive Visit (R : Str → Bool → Node → Prop) (v : Str) (q : Bool) :
    Nat → WordFlags → Option Node → Nat → WordFlags → Prop
  /-- `<(…)`, `>(…)` -/
  | procsub {i : Nat} {fl : WordFlags} {node : Node} {e : Nat}
      (ho : opener v q i fl = some .proc) (h : DolParen R v (i + 2) node e) :
      Visit R v q i fl (some (.processsubstitution (i, e + 1) node)) (e + 1) fl
  /-- `$(…)` -/
  | comsub {i : Nat} {fl : WordFlags} {node : Node} {e : Nat}
      (ho : opener v q i fl = some .dollar) (hna : v[i + 2]? ≠ some '(')
      (h : DolParen R v (i + 2) node e) :
      Visit R v q i fl (some (.commandsubstitution (i, e + 1) node)) (e + 1) fl
  /-- backquotes: the body is `v[i+1:x]`, `x` the first backquote after `i` -/
  | backquote {i : Nat} {fl : WordFlags} {x : Nat} {n : Node}
      (ho : opener v q i fl = some .backquote) (hx : stringextract v (i + 1) '`' = some x)
      (hR : R (Str.slice v (i + 1) x) false n)
      (hfit0 : Fits n 0 (Str.slice v (i + 1) x).length) (hfit : Fits n (i + 1) v.length) :
      Visit R v q i fl (some (.commandsubstitution (i, x + 1) (n.shift (i + 1)))) (x + 1) fl
  /-- every other head: no nested parse -/
  | plain {i : Nat} {fl : WordFlags} {out : Option Node} {i' : Nat} {fl' : WordFlags}
      (h : plainStep v q i fl = some (out, i', fl')) : Visit R v q i fl out i' fl'

/-- the trace of the scan: `Reach … i fl tr` = starting at cursor 0 with flags `fl0` the loop
    stands at cursor `i` with flags `fl`, having visited the heads `tr.map (·.1)` in this order
    and emitted there `tr.map (·.2)` -/
inductive Reach (R : Str → Bool → Node → Prop) (v : Str) (q : Bool) (fl0 : WordFlags) :
    Nat → WordFlags → List (Nat × Option Node) → Prop
  | start : Reach R v q fl0 0 fl0 []
  | step {i : Nat} {fl : WordFlags} {tr : List (Nat × Option Node)} {out : Option Node} {i' : Nat}
      {fl' : WordFlags} (h : Reach R v q fl0 i fl tr) (hv : Visit R v q i fl out i' fl') :
      Reach R v q fl0 i' fl' (tr ++ [(i, out)])

/-- the parts a trace emitted, in order -/
def partsOf (tr : List (Nat × Option Node)) : List Node := tr.filterMap (·.2)

theorem partsOf_append (a b : List (Nat × Option Node)) : partsOf (a ++ b) = partsOf a ++ partsOf b := by
  simp [partsOf, List.filterMap_append]

theorem partsOf_snoc (tr : List (Nat × Option Node)) (i : Nat) (out : Option Node) :
    partsOf (tr ++ [(i, out)]) = partsOf tr ++ out.toList := by
  rw [partsOf_append]
  cases out <;> simp [partsOf]

/-- what the iteration at head `i` that moves the cursor to `i'` appends to the expanded word:
    at an expansion character the source text it covered (substitution or not), after a
    backslash the next character, nothing for a quote (a `'` is kept when `q`), else the
    character itself -/
def piece (v : Str) (q : Bool) (i i' : Nat) : Str :=
  match v[i]? with
  | none => []
  | some c =>
    if c == '<' || c == '>' || c == '~' || c == '$' || c == '`' then Str.slice v i i'
    else if c == '\\' then Str.slice v (i + 1) (i + 2)
    else if c == '"' then []
    else if c == '\'' && !q then []
    else [c]

theorem piece_exp {v : Str} {q : Bool} {i : Nat} {c : Char} (hc : v[i]? = some c)
    (h : (c == '<' || c == '>' || c == '~' || c == '$' || c == '`') = true) (i' : Nat) :
    piece v q i i' = Str.slice v i i' := by
  simp only [piece, hc, h, if_true]

theorem piece_bs {v : Str} {i : Nat} (hc : v[i]? = some '\\') (q : Bool) (i' : Nat) :
    piece v q i i' = Str.slice v (i + 1) (i + 2) := by
  simp only [piece, hc]; rfl

theorem piece_dq {v : Str} {i : Nat} (hc : v[i]? = some '"') (q : Bool) (i' : Nat) :
    piece v q i i' = [] := by
  simp only [piece, hc]; rfl

theorem piece_sq {v : Str} {i : Nat} (hc : v[i]? = some '\'') (q : Bool) (i' : Nat) :
    piece v q i i' = if q then ['\''] else [] := by
  simp only [piece, hc]; cases q <;> rfl

theorem piece_ch {v : Str} {i : Nat} {c : Char} (hc : v[i]? = some c)
    (h : (c == '<' || c == '>' || c == '~' || c == '$' || c == '`') = false) (h1 : c ≠ '\\')
    (h2 : c ≠ '"') (h3 : c ≠ '\'') (q : Bool) (i' : Nat) : piece v q i i' = [c] := by
  simp [piece, hc, h, h1, h2, h3]

/-- the expanded word of a trace after which the scan stands at `iend` -/
def valOf (v : Str) (q : Bool) : List (Nat × Option Node) → Nat → Str
  | [], _ => []
  | [(i, _)], iend => piece v q i iend
  | (i, _) :: (j, o) :: tr, iend => piece v q i j ++ valOf v q ((j, o) :: tr) iend

theorem valOf_snoc (v : Str) (q : Bool) (i : Nat) (out : Option Node) (i' : Nat) :
    ∀ tr, valOf v q (tr ++ [(i, out)]) i' = valOf v q tr i ++ piece v q i i'
  | [] => by simp [valOf]
  | [(j, o)] => by simp [valOf]
  | (j, o) :: (j', o') :: tr => by
    have := valOf_snoc v q i out i' ((j', o') :: tr)
    simp only [List.cons_append] at this
    simp only [List.cons_append, valOf, this, List.append_assoc]

export Bashlex.C06 (wholeSQ)

/-- what the loop of `_expandwordinternal` over `v` returns: the inside of a wholly single-quoted
    word and no parts, or parts and expanded word of a trace that ran to the end of `v` -/
def Scanned (R : Str → Bool → Node → Prop) (v : Str) (q : Bool) (fl0 : WordFlags)
    (parts : List Node) (val : Str) : Prop :=
  (wholeSQ v = true ∧ parts = [] ∧ val = (v.drop 1).dropLast) ∨
  ∃ fl tr, Reach R v q fl0 v.length fl tr ∧ parts = partsOf tr ∧ val = valOf v q tr v.length

/-- the result of `_expandwordinternal` on the token value `v` at position `k` (word ending at
    `kend`): a wholly single-quoted word has no parts; otherwise the scan ran to the end of `v`
    and the parts are those of its trace, shifted by `k` -/
def WordSpec (R : Str → Bool → Node → Prop) (v : Str) (q : Bool) (fl0 : WordFlags) (k kend : Nat)
    (parts : List Node) : Prop :=
  (wholeSQ v = true ∧ parts = []) ∨
  ∃ fl tr, Reach R v q fl0 v.length fl tr ∧ (∀ p ∈ partsOf tr, Fits p k kend) ∧
    parts = (partsOf tr).map (Node.shift k)

/-- `WordSpec` with the expanded word: `r` = (parts, expanded word) -/
def WordSpecV (R : Str → Bool → Node → Prop) (v : Str) (q : Bool) (fl0 : WordFlags) (k kend : Nat)
    (r : List Node × Str) : Prop :=
  ∃ parts, Scanned R v q fl0 parts r.2 ∧ (∀ p ∈ parts, Fits p k kend) ∧ r.1 = parts.map (Node.shift k)

theorem WordSpecV.parts {R : Str → Bool → Node → Prop} {v : Str} {q : Bool} {fl0 : WordFlags}
    {k kend : Nat} {r : List Node × Str} (h : WordSpecV R v q fl0 k kend r) :
    WordSpec R v q fl0 k kend r.1 := by
  obtain ⟨parts, hs, hfit, hr⟩ := h
  rcases hs with ⟨hw, rfl, _⟩ | ⟨fl, tr, hreach, rfl, _⟩
  · exact Or.inl ⟨hw, hr⟩
  · exact Or.inr ⟨fl, tr, hreach, hfit, hr⟩

end Bashlex.C07
