/-
  Property C01 ("disciplined totality"), tightened: `C01_partial_tight`, `C01_partial_single_tight`,
  `C01_partial_split_tight` -- `C01_partial` with smaller lists, for every input and all options.

  `Props/C01.lean` lists 14 raise sites of the tokenizer as "not analysed for reachability"
  (`tokForeign`).  ALL FOURTEEN are excluded here (`tokForeignTight = []`):
    (1) seven from facts about the PARAMETERS and LOOP STATES of the tokenizer's functions alone
        (state-agnostic logic `Sat`; `t1_nextToken`, `t1_gatherheredocuments`;
        `Props/C01/TightTok.lean`, `TightMP.lean`, `TightWord.lean`):
          TypeError|_parse_matched_pair        `parsingcommand` is passed only with a string `doublequotes` (`MPOK.pc`)
          UnboundLocalError|handledollarword   `open == close` only for quote characters, `arraysub` is never passed
          AssertionError|handledollarword      the callers test `c in '({['`
          IndexError|_parse_comsub             inside a here-document `lexfirstind ≥ 0` (`CSInv`)
          UnboundLocalError|_parse_comsub      inside a word `lexwlen` is bound, and `#` does not break a word
          TypeError|_readtokenword             `d['compound_assignment']` is never set
          ValueError|_readtoken                `tokentype(c)` is called on newline, `-` and meta characters only
    (2) two that depend on the state but are excluded LOCALLY, from whatever state `token()` is entered in
        (state-aware logic `HT` of C11, invariant `PD n d`; `sat2_nextToken`; `TightState*.lean`):
          AssertionError|_createtoken          two positions are recorded before two are popped
          IndexError|_pop_delimiter            every pop follows a push with a balanced scan in between
    (3) two with an invariant of the whole parser object (`KI`: the line never ends in a backslash, the ids
        on `redirstack` are in the redirect store), carried through the tokenizer, word expansion, ALL
        semantic actions, the LR engine (`C11.run_ok`), the nested parsers at every depth and the entry
        points (`k_parserRun`, `parse_e3`, `parsesingle_e3`, `split_e3`; `TightK*.lean`):
          IndexError|_getc                     the look-ahead `line[idx+1]` after a backslash
          IndexError|makeheredoc               three sub-sites (store lookup; tab stripping; `fullline[len(word)]`)
    (4) two with C11's invariant `Good4` (line of `tokenizer.__init__`, cursor inside the line or dead, empty
        look-ahead slot) and "the flags `regexp` / `dblparen` are off" (nothing sets them: `Fl`, frame walk
        through tokenizer, expansion, actions), exact facts about `_getc` (`GX`), the level lemmas of
        `Props/C03/Tok*.lean` at the level of the token's start (`TightLvl*.lean`, `TightFl.lean`,
        `TightMo.lean`; `readtokenword8`, `next8_good`, `parserRun8`, `parse_f8`, `parsesingle_f8`, `split_f8`):
          AssertionError|token.__init__        the cursor at the end of a token is beyond its recorded start
          IndexError|_is_assignment            `tokenword` is not empty: the first iteration of `_readtokenword`
                                               appends something (a `\` in hand is not followed by a newline; `<` / `>`
                                               reach `_readtokenword` only with `(` under the cursor)
        Neither holds state-agnostically: kernel-checked state witnesses in `TightWitness.lean`.
    (5) AssertionError|ParsingError.__init__ by `C11.C11_parse`, `C11.C11_parsesingle` and, for `split`,
        `C11.C11_split` (`Props/C11Total.lean`: the same pieces as for `parse`).
  Termination: the loop of `gatherheredocuments` never runs out of fuel (`f_gatherheredocuments`,
  `TightFuel.lean`); the other seven loops of the tokenizer stay in `tokFuelTight` (they need a bound on the
  length of the tape and cursor measures).
  `knownForeignTight` = `knownForeign` without `ParsingError.__init__`: three recorded defects (witnesses in
  `Props/C01/Witness.lean`) and `visitnode`, `_extractcommandsubst`, `_expandwordinternal` (need facts about
  token VALUES: no value ends in `$(` or in an odd number of backslashes, and span bounds; not done).
-/
import Bashlex.Props.C01
import Bashlex.Props.C01.TightFuel
import Bashlex.Props.C11Total
import Bashlex.Props.C01.TightWitness
import Bashlex.Props.C01.TightLvlParse

namespace Bashlex.C01
open Bashlex Bashlex.M
-- see `Proofs/ParserLift.lean`
attribute [local irreducible] M.run runParser parse parsesingle split

/-- foreign exceptions above the tokenizer: `knownForeign` without `AssertionError|ParsingError.__init__` -/
def knownForeignTight : List Exn :=
  [ .foreign "AttributeError" "_recursiveparse",     -- D24, witness "` `"
    .foreign "AssertionError" "handleAssert",        -- D18
    .foreign "IndexError" "_parsedolparen",          -- D35
    .foreign "AssertionError" "visitnode",           -- not excluded, no witness
    .foreign "IndexError" "_extractcommandsubst",    -- not excluded, no witness
    .foreign "IndexError" "_expandwordinternal" ]    -- not excluded, no witness

/-- the raise sites of the tokenizer that are left: NONE -- all 14 entries of `tokForeign` are excluded -/
def tokForeignTight : List Exn := []

/-- the loops of the tokenizer still covered by the 2^30 fuel only (`gatherheredocuments` is not
    among them any more: `f_gatherheredocuments`) -/
def tokFuelTight : List String :=
  ["readline", "makeheredoc", "_parse_matched_pair", "_parse_comsub", "_readtokenword",
   "_discard_until", "_readtoken"]

/-- what `token()` and `gatherheredocuments` may raise, all exclusions together -/
def TokExn3 (x : Exn) : Prop := TokExn2 x ∧ FG x

theorem t3_nextToken : Sat nextToken (fun _ => True) TokExn3 := sat_andE t2_nextToken f_nextToken
theorem t3_gatherheredocuments : Sat gatherheredocuments (fun _ => True) TokExn3 :=
  sat_andE t2_gatherheredocuments f_gatherheredocuments

/-- the tightened discipline -/
def Tight (x : Exn) : Prop :=
  (∃ m s p, x = .parsing m s p) ∨ (∃ w, x = .notImplemented w) ∨
  x ∈ knownForeignTight ∨ x ∈ tokForeignTight ∨
  (∃ site, x = .outOfFuel site ∧ (site ∈ fuelSites ∨ site ∈ tokFuelTight))

theorem tight_of_allowed {x : Exn} (h : Allowed TokExn3 x) (h3 : E3 x) (h8 : F8 x)
    (hne : x ≠ .foreign "AssertionError" "ParsingError.__init__") : Tight x := by
  rcases h with ⟨⟨h | h | ⟨site, rfl, h⟩, h2⟩, hf⟩ | h | h | h | ⟨site, rfl, h⟩
  · exact Or.inl h
  · refine Or.inr (Or.inr (Or.inr (Or.inl ?_)))
    simp only [tokForeign1, List.mem_cons, List.mem_nil_iff, or_false] at h
    rcases h with rfl | rfl | rfl | rfl | rfl | rfl | rfl
    all_goals first
      | exact absurd rfl hne
      | exact absurd rfl h2.1
      | exact absurd rfl h2.2
      | exact absurd rfl h3.1
      | exact absurd rfl h3.2
      | exact absurd rfl h8.1
      | exact absurd rfl h8.2
  · refine Or.inr (Or.inr (Or.inr (Or.inr ⟨site, rfl, Or.inr ?_⟩)))
    simp only [tokFuel, List.mem_cons, List.mem_nil_iff, or_false] at h
    rcases h with rfl | rfl | rfl | rfl | rfl | rfl | rfl | rfl
    all_goals first | exact absurd rfl hf | simp [tokFuelTight]
  · exact Or.inl h
  · exact Or.inr (Or.inl h)
  · refine Or.inr (Or.inr (Or.inl ?_))
    simp only [knownForeign, List.mem_cons, List.mem_nil_iff, or_false] at h
    rcases h with rfl | rfl | rfl | rfl | rfl | rfl | rfl
    all_goals first | exact absurd rfl hne | simp [knownForeignTight]
  · exact Or.inr (Or.inr (Or.inr (Or.inr ⟨site, rfl, Or.inl h⟩)))

/-- the tightened discipline is included in the old one -/
theorem tight_disciplined {x : Exn} (h : Tight x) : Disciplined x := by
  rw [disciplined_iff]
  rcases h with h | h | h | h | h
  · exact Or.inl h
  · exact Or.inr (Or.inl h)
  · refine Or.inr (Or.inr (Or.inl ?_))
    simp only [knownForeignTight, List.mem_cons, List.mem_nil_iff, or_false] at h
    rcases h with rfl | rfl | rfl | rfl | rfl | rfl <;> simp [knownForeign]
  · simp [tokForeignTight] at h
  · obtain ⟨site, rfl, h | h⟩ := h
    · exact Or.inr (Or.inr (Or.inr (Or.inr ⟨site, rfl, Or.inl h⟩)))
    · refine Or.inr (Or.inr (Or.inr (Or.inr ⟨site, rfl, Or.inr ?_⟩)))
      simp only [tokFuelTight, List.mem_cons, List.mem_nil_iff, or_false] at h
      rcases h with rfl | rfl | rfl | rfl | rfl | rfl | rfl <;> simp [tokFuel]

/-- every exception escaping one parser run, at every nesting depth -/
theorem C01_parserRun_tight (d : Nat) : Sat (parserRun d) (fun _ => True) (Allowed TokExn3) :=
  parserRun_exn t3_nextToken t3_gatherheredocuments d

/-- **C01 tight, `parse`**: for every input and all options, `parse` returns a list of nodes or
    raises an exception in `Tight` -/
theorem C01_partial_tight (s : Str) (o : Opts) :
    match (parse s o).1 with
    | .parts _ => True
    | .exn x => Tight x
    | _ => False :=
  parse_cases fun _ hx => tight_of_allowed
    (parse_error_of (fun _ _ _ => runParser_exn t3_nextToken t3_gatherheredocuments) hx)
    (parse_e3 s o hx) (parse_f8 s o hx) (C11.C11_parse s o hx).1

/-- **C01 tight, `parsesingle`** -/
theorem C01_partial_single_tight (s : Str) (o : Opts) :
    match (parsesingle s o).1 with
    | .single _ => True
    | .exn x => Tight x
    | _ => False :=
  parsesingle_cases fun _ hx => tight_of_allowed
    (runParser_exn t3_nextToken t3_gatherheredocuments (parsesingle_error hx))
    (parsesingle_e3 s o hx) (parsesingle_f8 s o hx) (C11.C11_parsesingle s o hx).1

/-- **C01 tight, `split`**: strings, or an exception in `Tight`, or the out-of-fuel marker of its
    token loop -/
theorem C01_partial_split_tight (s : Str) :
    match (split s).1 with
    | .strs _ => True
    | .exn x => Tight x ∨ x = .outOfFuel "split"
    | _ => False :=
  split_cases fun _ hx =>
    (split_sat_error (SatS.of_sat (splitM_exn t3_nextToken t3_gatherheredocuments s) fun _ _ => True)
      trivial hx).imp_left
      fun h => tight_of_allowed h (split_e3 s hx) (split_f8 s hx) (C11.C11_split s hx).1

end Bashlex.C01

#print axioms Bashlex.C01.t1_nextToken
#print axioms Bashlex.C01.t1_gatherheredocuments
#print axioms Bashlex.C01.t2_nextToken
#print axioms Bashlex.C01.t2_gatherheredocuments
#print axioms Bashlex.C01.f_gatherheredocuments
#print axioms Bashlex.C01.t3_nextToken
#print axioms Bashlex.C01.k_parserRun
#print axioms Bashlex.C01.parse_e3
#print axioms Bashlex.C01.split_e3
#print axioms Bashlex.C01.readtokenword8
#print axioms Bashlex.C01.next8_good
#print axioms Bashlex.C01.parserRun8
#print axioms Bashlex.C01.parse_f8
#print axioms Bashlex.C01.split_f8
#print axioms Bashlex.C11.C11_split
#print axioms Bashlex.C01.sat2_nextToken
#print axioms Bashlex.C01.sat_tokeninit_false
#print axioms Bashlex.C01.sat_isassignment_false
#print axioms Bashlex.C01.C01_parserRun_tight
#print axioms Bashlex.C01.C01_partial_tight
#print axioms Bashlex.C01.C01_partial_single_tight
#print axioms Bashlex.C01.C01_partial_split_tight
