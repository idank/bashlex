/-
  C01, the `nesting` marker: the exception walk of `Props/C01Engine/ActWalk.lean` with the measure
  "number of opener characters" (`ops`: backquote, `$`, `<`, `>`):
  `act_exn : Sat (action np f args) ⊤ (AE (argsBound args) np)` — a semantic action raises
  `outOfFuel "nesting"` only if the nested parser does, on a string holding FEWER opener characters
  than one of the token values among its arguments (the opener the scan stands on is dropped).
-/
import Bashlex.Props.C01Engine.ActWalk

namespace Bashlex.C01E.Nest
open Bashlex Bashlex.M Bashlex.C01

/-- a character that can open a substitution: backquote, `$`, `<`, `>` -/
def isOp (c : Char) : Bool := c == '`' || c == '$' || c == '<' || c == '>'

/-- the number of such characters -/
def ops (s : Str) : Nat := s.countP isOp

theorem ops_append (a b : Str) : ops (a ++ b) = ops a + ops b := List.countP_append

theorem ops_take_drop (s : Str) (k : Nat) : ops (s.take k) + ops (s.drop k) = ops s := by
  rw [← ops_append, List.take_append_drop]

theorem ops_drop_le (s : Str) (k : Nat) : ops (s.drop k) ≤ ops s := by
  have := ops_take_drop s k; omega

theorem ops_take_le (s : Str) (k : Nat) : ops (s.take k) ≤ ops s := by
  have := ops_take_drop s k; omega

theorem ops_slice_le (s : Str) (a b : Nat) : ops (Str.slice s a b) ≤ ops (s.drop a) := by
  unfold Str.slice
  rw [List.drop_take]
  exact ops_take_le _ _

/-- dropping a prefix that holds an opener character lowers the count -/
theorem ops_drop_lt {s : Str} {i k : Nat} {c : Char} (hc : s[i]? = some c) (hop : isOp c = true)
    (hik : i < k) : ops (s.drop k) < ops s := by
  have h1 := ops_take_drop s k
  have hmem : c ∈ s.take k := by
    have hi : i < s.length := (List.getElem?_eq_some_iff.mp hc).1
    have h2 : (s.take k)[i]? = some c := by
      rw [List.getElem?_take_of_lt hik]; exact hc
    exact List.mem_of_getElem? h2
  have : 0 < ops (s.take k) := List.countP_pos_iff.mpr ⟨c, hmem, hop⟩
  omega

/-- anything but the marker of the nesting depth -/
def NoLRFuel (x : Exn) : Prop := x ≠ .outOfFuel "nesting"

theorem noLRFuel_site {site : String} (h : site ≠ "nesting") :
    NoLRFuel (.outOfFuel site) := fun h' => h (Exn.outOfFuel.inj h')

theorem noLRFuel_tokExn {x : Exn} (h : TokExn x) : NoLRFuel x := by
  rcases h with ⟨m, s, p, rfl⟩ | h | ⟨site, rfl, h⟩
  · intro h'; cases h'
  · intro h'; subst h'; simp [tokForeign] at h
  · refine noLRFuel_site ?_
    intro h'; subst h'; simp [tokFuel] at h

/-- an exception some call of the nested parser on a string SHORTER than `B` raises -/
def NpExn (B : Nat) (np : NestedParse) (x : Exn) : Prop :=
  ∃ s b l e e', ops s < B ∧ (np s b).run l e = (.error x, e')

/-- not the marker, or raised by the nested parser on a string shorter than `B` -/
def AE (B : Nat) (np : NestedParse) (x : Exn) : Prop := NoLRFuel x ∨ NpExn B np x

theorem AE.mono {B B' : Nat} {np : NestedParse} {x : Exn} (h : AE B np x) (hB : B ≤ B') :
    AE B' np x := by
  rcases h with h | ⟨s, b, l, e, e', h1, h2⟩
  · exact Or.inl h
  · exact Or.inr ⟨s, b, l, e, e', by omega, h2⟩

abbrev ASat (B : Nat) (np : NestedParse) {α : Type} (m : M α) : Prop :=
  Sat m (fun _ => True) (AE B np)

variable {np : NestedParse} {B : Nat}

theorem nestOK (np : NestedParse) (B : Nat) : NestOK np ops B (AE B np) where
  np s b h l e := by
    rcases hr : (np s b).run l e with ⟨r, e'⟩
    cases r with
    | ok v => exact True.intro
    | error x => exact Or.inr ⟨s, b, l, e, e', h, hr⟩
  tok x h := Or.inl (noLRFuel_tokExn h)
  notFuel x h := Or.inl (h _)
  loop := Or.inl (noLRFuel_site (by decide))
  slice_le := ops_slice_le
  drop_lt {s i k c} hc hop hik := by
    refine ops_drop_lt hc ?_ hik
    simp only [List.mem_cons, List.not_mem_nil, or_false] at hop
    rcases hop with rfl | rfl | rfl | rfl <;> rfl

theorem ae_mkParsingError {m s p} : AE B np (mkParsingError m s p) :=
  walk_parsingError (nestOK np B)

theorem asat_of_tok {α : Type} {m : M α} (h : TSat m) : ASat B np m :=
  walk_of_tok (nestOK np B) h

theorem asat_map {α β : Type} {m : M α} {f : α → β} (h : ASat B np m) : ASat B np (f <$> m) :=
  Sat.map h

theorem asat_expandwordinternal (tok : Token) (qd : Bool) :
    ASat (ops tok.valueStr) np (expandwordinternal np tok qd) :=
  walk_expandwordinternal (nestOK np _) tok qd (Nat.le_refl _)

/-- the largest opener count of a token value among the arguments -/
def argsBound : List SVal → Nat
  | [] => 0
  | .tok t :: rest => max (ops t.valueStr) (argsBound rest)
  | _ :: rest => argsBound rest

theorem argsBound_mem {t : Token} : ∀ {args : List SVal}, SVal.tok t ∈ args →
    ops t.valueStr ≤ argsBound args
  | [], h => by cases h
  | a :: rest, h => by
    rcases List.mem_cons.mp h with h | h
    · subst h; simp only [argsBound]; exact Nat.le_max_left _ _
    · have := argsBound_mem h
      cases a <;> simp only [argsBound] <;> omega

/-- **every action function raises the marker of the nesting depth only if the nested parser does,
    on a string holding fewer opener characters than one of the token values among its arguments** -/
theorem act_exn (fname : String) (args : List SVal) :
    ASat (argsBound args) np (action np fname args) :=
  walk_action (nestOK np _) fname (fun _ h => argsBound_mem h)

end Bashlex.C01E.Nest
