/-
  C01, the `nesting` marker: lift to `parserRun`, `runParser`, `parse`, `parsesingle`.

  Every token on the LR stack has a value with at most `ops line` opener characters
  (`C04.tokText`: the value is the spanned text with line continuations deleted), a semantic action
  passes to the nested parser a string with FEWER opener characters than a token value among its
  arguments (`Nest.act_exn`), so by induction on the nesting fuel:
  **`parserRun_noNest`**: `ops s < d → parserRun d` over `s` does not raise `outOfFuel "nesting"`.
-/
import Bashlex.Props.C01Loops.NestExn
import Bashlex.Props.C01Engine
import Bashlex.Props.C03.RootEndsProof

namespace Bashlex.C01E.Nest
open Bashlex Bashlex.Spec Bashlex.Node Bashlex.M Bashlex.LR Bashlex.C12 Bashlex.C03 Bashlex.C10
  Bashlex.C01
-- see `Proofs/ParserLift.lean`
attribute [local irreducible] M.run runParser parse parsesingle split
set_option linter.unusedSimpArgs false

/-! ## opener characters of a token value -/

theorem ops_cons (c : Char) (s : Str) : ops (c :: s) = ops s + (if isOp c then 1 else 0) := by
  unfold ops
  rw [List.countP_cons]

theorem del_ops_le {s w : Str} (h : C04.Del s w) : ops w ≤ ops s := by
  induction h with
  | nil => exact Nat.le_refl _
  | keep c _ ih => rw [ops_cons, ops_cons]; omega
  | skip _ ih =>
    rw [ops_cons, ops_cons]
    have h1 : isOp '\\' = false := by decide
    have h2 : isOp '\n' = false := by decide
    rw [h1, h2]; simpa using ih

/-- **the value of a delivered token has no more opener characters than the line** -/
theorem tt_ops {line : Str} {t : Token} (h : C04.TT line t) : ops t.valueStr ≤ ops line := by
  cases hv : t.value with
  | none => simp [Token.valueStr, hv, ops]
  | int k => simp [Token.valueStr, hv, ops]
  | str v =>
    have hvs : t.valueStr = v := by simp [Token.valueStr, hv]
    rw [hvs]
    obtain ⟨a, e, _, _, _, _, _, _, _, hcase⟩ := h.str hv
    rcases hcase with ⟨_, _, _, r, _, hrel⟩ | hnl
    · have hd : C04.Del (Str.slice line a e) (v ++ r) := C04.Del.of_delB _ _ hrel
      have h1 := del_ops_le hd
      rw [ops_append] at h1
      have h2 := ops_slice_le line a e
      have h3 := ops_drop_le line a
      omega
    · unfold C04.nlOver at hnl
      simp only [Bool.and_eq_true, beq_iff_eq] at hnl
      rw [hnl.1.2]
      have : ops ['\n'] = 0 := by decide
      omega

theorem ops_ofInput (s : Str) : ops (Tape.ofInput s).line = ops s := by
  rcases Tape.ofInput_line s with h | h <;> rw [h]
  rw [ops_append]
  have : ops ['\n'] = 0 := by decide
  omega

/-! ## token values on the stack -/

/-- the stack invariant: C03's (for the tokenizer invariant `TIg g n`), plus "token values have at
    most `Bd` opener characters" -/
def SIo (g : C11.Ghost) (Bd len n : Nat) (vs : List (Nat × SVal)) (la : Option (Nat × SVal))
    (l : Local) (e : Env) : Prop :=
  SI (TIg g n) len vs la l e ∧ TokBound ops Bd vs la

/-- the look-ahead delivered from a state of the family has a value with few opener characters -/
theorem next_ops (g : C11.Ghost) (hg : C11.WFG g) {len n : Nat} {np : NestedParse}
    (vs : List (Nat × SVal)) :
    SatS (lrHooks np).next (SI (TIg g n) len vs none)
      (fun la _ _ => ∀ t, la.2 = .tok t → ops t.valueStr ≤ ops g.line) := by
  refine SatS.intro_state ?_
  rintro l0 e0 ⟨⟨_, F, _, _, hti, _⟩, _⟩
  show SatS (nextToken >>= fun t => pure (symOfTok t, SVal.tok t)) _ _
  have hT := satS_of_HT (C04.tokText.next g hg)
  refine SatS.bind (hT.pre (by rintro l e ⟨rfl, rfl⟩; exact ⟨hti.2, ti_eol hti.1.1⟩))
    (fun t => SatS.pure ?_)
  rintro l e ⟨htt, _⟩ t' ht'
  cases ht'
  exact tt_ops htt

/-- `token()` keeps every member of the family (no index shift; no bound on the input length:
    the budget part of `TIb` is conditional on it) -/
theorem next_TIg_fixed (g : C11.Ghost) (n len F : Nat) (st : List RedirCell) :
    SatS nextToken (fun l e => TIg g n len F l e ∧ l.store = st)
      (fun t l e => ∃ a b, F ≤ a ∧ TokAt len t a b ∧ TIg g n len b l e ∧
        StoreStep len F false st l.store) := by
  by_cases hlen : len + 1 < 1073741824
  · refine ((budFam_TIg g len hlen).next n F st).post ?_
    rintro t l e ⟨a, b, h1, h2, ⟨n', hn', h3⟩, h4⟩
    exact ⟨a, b, h1, h2, (budFam_TIg g len hlen).mono n n' b l e h3 (by omega), h4⟩
  · have hA := tokSpans.next len F st
    have hB : SatS nextToken (C11.Good g [])
        (fun t l e => C11.TF g t ∧ C11.Good g [] l e) :=
      satS_of_HT (C11.nextToken_good (g := g))
    refine (SatS.and (hA.pre (P' := fun l e => TIg g n len F l e ∧ l.store = st)
      (fun l e h => ⟨h.1.1.1, h.2⟩)) (hB.pre (fun l e h => h.1.2))).post ?_
    rintro t l e ⟨⟨a, b, h1, h2, h3, h4⟩, _, hg⟩
    exact ⟨a, b, h1, h2, ⟨⟨h3, fun h => absurd h hlen⟩, hg⟩, h4⟩

theorem hooksOrd_TIg (g : C11.Ghost) (n len d : Nat) :
    HooksOrd realTables (lrHooks (npOf (parserRun d))) (SI (TIg g n) len) (Fin len)
      (fun _ => True) :=
  spans_hooks_core (fun F st => next_TIg_fixed g n len F st) (tokAct_TIg g n) (npok_npOf d)
    (wordContract_act _ (npSpans_fam (tokAct_TIg g n) rootEnds d) len)

/-- **the hooks of the real parser keep `SIo`, and raise `outOfFuel "nesting"` only if the nested
    parser does on a string with fewer opener characters than the line** -/
theorem real_hooksOrd_o (g : C11.Ghost) (hg : C11.WFG g) (d len n : Nat) :
    HooksOrd realTables (lrHooks (npOf (parserRun d))) (SIo g (ops g.line) len n) (Fin len)
      (AE (ops g.line) (npOf (parserRun d))) :=
  hooksOrd_tokBound (hooksOrd_TIg g n len d) (fun _ _ _ _ h => h.2.1) (next_ops g hg)
    (nestOK _ _)

/-- **`outOfFuel "nesting"` needs as many opener characters as the nesting fuel**: a parser run
    with nesting fuel `d` over an input with fewer than `d` opener characters (backquote, `$`,
    `<`, `>`) does not raise it -/
theorem parserRun_noNest :
    ∀ d s, ops s < d →
      SatS (parserRun d) (InitState s) (fun _ _ _ => True) NoLRFuel := by
  intro d
  induction d using parserRun_ind with
  | zero => intro s h; exact absurd h (Nat.not_lt_zero _)
  | succ d ih =>
    intro s hs
    refine SatS.intro_state (fun l0 e0 hinit0 => ?_)
    let g := initGhost s l0 e0
    have hgl : ops g.line = ops s := ops_ofInput s
    have hrun := run_sound_ord real_WF _
      (real_hooksOrd_o g (initGhost_wf s l0 e0) d s.length (s.length + 1)) 1073741824
    refine SatS.level (hrun.weaken ?_ (fun _ _ _ h => h) ?_) (fun _ _ _ _ _ _ _ => trivial)
      (fun _ _ _ _ => trivial)
    · rintro l e ⟨rfl, rfl⟩
      refine ⟨⟨⟨0, 0, Nat.le_refl 0, Nat.le_refl 0,
        ⟨⟨tokSpans.init s l e hinit0, fun _ => rem_init hinit0⟩, good_init hinit0⟩, ?_⟩, ?_, ?_⟩,
        ?_, ?_⟩ <;> (intro x hx; cases hx)
    · rintro x ((hx | ⟨s', _, _, _, _, hlt, hr⟩) | hx | hx)
      · exact hx
      · exact npOf_exn_init (ih s' (by omega)) hr
      · rw [hx]; exact noLRFuel_site (by decide)
      · rw [hx]; intro h; cases h

end Bashlex.C01E.Nest
