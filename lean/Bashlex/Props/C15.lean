/-
  C15: the visitor reaches every node once, in pre-order, siblings in list order, brackets every
  node with enter/leave, and skips exactly the subtree below a pruned node; the span helpers
  built on it touch every node.  All statements are for *every* tree of the typed AST and every
  prune predicate (structural induction), so "never fails with an unknown kind" is totality of
  `visit` plus the `Kinds` obligations on the regenerated source data.
-/
import Bashlex.Model.Visitor
import Bashlex.Gen.Kinds
import Bashlex.Proofs.NodeTree

namespace Bashlex.Props
open Bashlex

def enters : List Ev → List Node
  | [] => []
  | .enter n :: r => n :: enters r
  | _ :: r => enters r

theorem enters_append (a b : List Ev) : enters (a ++ b) = enters a ++ enters b := by
  induction a with
  | nil => rfl
  | cons e a ih => cases e <;> simp [enters, ih]

mutual
/-- specification: the nodes a traversal reaches when the children of pruned nodes are skipped
    (defined from `Node.children`-order, independently of the dispatch in `visit`) -/
def reached (prune : Node → Bool) : Node → List Node
  | n@(.operator ..) | n@(.reservedword ..) | n@(.pipe ..) | n@(.parameter ..) | n@(.tilde ..)
  | n@(.heredoc ..) => [n]
  | n@(.list _ ps) | n@(.pipeline _ ps) | n@(.ifN _ ps) | n@(.forN _ ps) | n@(.whileN _ ps)
  | n@(.untilN _ ps) | n@(.caseN _ ps) | n@(.pattern _ ps) | n@(.command _ ps)
  | n@(.unimplemented _ ps) | n@(.function _ _ _ ps) | n@(.word _ _ ps) | n@(.assignment _ _ ps) =>
    n :: (if prune n then [] else reachedL prune ps)
  | n@(.compound _ l r) => n :: (if prune n then [] else reachedL prune l ++ reachedL prune r)
  | n@(.redirect _ _ _ o _ h _) => n :: (if prune n then [] else reachedO prune o ++ reachedO prune h)
  | n@(.commandsubstitution _ c) | n@(.processsubstitution _ c) =>
    n :: (if prune n then [] else reached prune c)
def reachedL (prune : Node → Bool) : List Node → List Node
  | [] => []
  | n :: ns => reached prune n ++ reachedL prune ns
def reachedO (prune : Node → Bool) : Option Node → List Node
  | none => []
  | some n => reached prune n
end

theorem visitL_eq (prune : Node → Bool) (l : List Node) : visitL prune l = l.flatMap (visit prune) := by
  induction l with
  | nil => rfl
  | cons a l ih => simp [visitL, ih]

theorem visitO_eq (prune : Node → Bool) (o : Option Node) :
    visitO prune o = o.toList.flatMap (visit prune) := by
  cases o <;> simp [visitO]

/-- what `visit` does at any node: enter, the callback, the children unless pruned, leave -/
theorem visit_eq (prune : Node → Bool) (n : Node) : ∃ fs, visit prune n =
    .enter n :: .call n fs :: (if prune n then [] else n.children.flatMap (visit prune)) ++ [.leave n] := by
  cases n <;>
    (apply Exists.intro
     simp only [visit, Node.children, visitL_eq, visitO_eq, List.flatMap_append, List.flatMap_nil,
       List.flatMap_cons, List.append_nil, ite_self]
     rfl)

theorem reachedL_eq (prune : Node → Bool) (l : List Node) : reachedL prune l = l.flatMap (reached prune) := by
  induction l with
  | nil => rfl
  | cons a l ih => simp [reachedL, ih]

theorem reachedO_eq (prune : Node → Bool) (o : Option Node) :
    reachedO prune o = o.toList.flatMap (reached prune) := by
  cases o <;> simp [reachedO]

theorem reached_eq (prune : Node → Bool) (n : Node) :
    reached prune n = n :: if prune n then [] else n.children.flatMap (reached prune) := by
  cases n <;> rw [reached] <;> split <;> simp [Node.children, reachedL_eq, reachedO_eq]

theorem enters_flatMap {α} (f : α → List Ev) (l : List α) :
    enters (l.flatMap f) = l.flatMap fun a => enters (f a) := by
  induction l with
  | nil => rfl
  | cons a l ih => simp [enters_append, ih]

/-- **every node is entered exactly once, parents before children, siblings in list order, and
    exactly the subtree below a pruned node is skipped** -/
theorem enters_visit (prune : Node → Bool) (n : Node) : enters (visit prune n) = reached prune n := by
  induction n using Node.children_induction with
  | hP n ih =>
    obtain ⟨fs, h⟩ := visit_eq prune n
    rw [h, reached_eq]
    split <;> simp [enters, enters_append, enters_flatMap, Node.flatMap_congr ih]

theorem enters_visitL (prune : Node → Bool) : ∀ l, enters (visitL prune l) = reachedL prune l := by
  intro l; rw [visitL_eq, reachedL_eq, enters_flatMap]; exact Node.flatMap_congr fun n _ => enters_visit prune n

theorem enters_visitO (prune : Node → Bool) : ∀ o, enters (visitO prune o) = reachedO prune o := by
  intro o; cases o <;> simp [visitO, reachedO, enters, enters_visit]

/-- without pruning the nodes reached are all nodes, in pre-order -/
theorem reached_noprune : ∀ n : Node, reached (fun _ => false) n = n.preorder := by
  intro n
  induction n using Node.children_induction with
  | hP n ih => rw [reached_eq, Node.preorder_eq, if_neg (by simp), Node.flatMap_congr ih]

/-- nesting depth after a list of events, `none` if a leave has no matching enter -/
def depthAfter : List Ev → Nat → Option Nat
  | [], d => some d
  | .enter _ :: r, d => depthAfter r (d + 1)
  | .call _ _ :: r, d => depthAfter r d
  | .leave _ :: r, d => match d with | 0 => none | d' + 1 => depthAfter r d'

theorem depthAfter_append (a b : List Ev) (d : Nat) :
    depthAfter (a ++ b) d = (depthAfter a d).bind (depthAfter b) := by
  induction a generalizing d with
  | nil => rfl
  | cons e a ih =>
    cases e with
    | enter n => simp [depthAfter, ih]
    | call n f => simp [depthAfter, ih]
    | leave n => cases d <;> simp [depthAfter, ih]

theorem reachedL_noprune : ∀ l : List Node, reachedL (fun _ => false) l = Node.preorderL l := by
  intro l; rw [reachedL_eq, Node.preorderL_eq]; exact Node.flatMap_congr fun n _ => reached_noprune n

theorem reachedO_noprune : ∀ o : Option Node, reachedO (fun _ => false) o = Node.preorderO o := by
  intro o; cases o <;> simp [reachedO, Node.preorderO, reached_noprune]

theorem depthAfter_flatMap {α} (f : α → List Ev) (l : List α)
    (h : ∀ a ∈ l, ∀ d, depthAfter (f a) d = some d) (d : Nat) : depthAfter (l.flatMap f) d = some d := by
  induction l with
  | nil => rfl
  | cons a l ih =>
    rw [List.flatMap_cons, depthAfter_append, h a List.mem_cons_self]
    exact ih fun b hb => h b (List.mem_cons_of_mem _ hb)

/-- **enter/leave events bracket every node**: the trace of a node is balanced -/
theorem visit_balanced (prune : Node → Bool) (n : Node) : ∀ d : Nat, depthAfter (visit prune n) d = some d := by
  induction n using Node.children_induction with
  | hP n ih =>
    intro d
    obtain ⟨fs, h⟩ := visit_eq prune n
    rw [h]
    simp only [depthAfter, depthAfter_append]
    split <;> simp [depthAfter, depthAfter_flatMap _ _ ih]

theorem visitL_balanced (prune : Node → Bool) : ∀ (l : List Node), ∀ d : Nat, depthAfter (visitL prune l) d = some d := by
  intro l d; rw [visitL_eq]; exact depthAfter_flatMap _ _ (fun n _ => visit_balanced prune n) d

theorem visitO_balanced (prune : Node → Bool) : ∀ (o : Option Node), ∀ d : Nat, depthAfter (visitO prune o) d = some d := by
  intro o d; cases o <;> simp [visitO, depthAfter, visit_balanced]

/-- **the span helpers touch every node**: mapping spans (posshifter, _adjustpositions) rewrites
    the span of every node of the pre-order exactly once and changes nothing else's position in
    the traversal -/
theorem preorder_mapPos (f : Span → Span) : ∀ n : Node,
    (n.mapPos f).preorder.map Node.pos = n.preorder.map (fun m => f m.pos) := by
  intro n
  rw [Node.preorder_mapPos_eq, List.map_map]
  exact List.map_congr_left fun m _ => Node.pos_mapPos f m

theorem preorderL_mapPos (f : Span → Span) : ∀ l : List Node,
    (Node.preorderL (Node.mapPosL f l)).map Node.pos = (Node.preorderL l).map (fun m => f m.pos) := by
  intro l
  rw [Node.preorderL_mapPos_eq, List.map_map]
  exact List.map_congr_left fun m _ => Node.pos_mapPos f m

theorem preorderO_mapPos (f : Span → Span) : ∀ o : Option Node,
    (Node.preorderO (Node.mapPosO f o)).map Node.pos = (Node.preorderO o).map (fun m => f m.pos) := by
  intro o
  rw [Node.preorderO_mapPos_eq, List.map_map]
  exact List.map_congr_left fun m _ => Node.pos_mapPos f m

/-! ### obligations on data regenerated from the source -/

/-- kinds of the model's AST -/
def modelKinds : List String :=
  ["operator", "list", "reservedword", "pipe", "pipeline", "compound", "if", "for", "while", "until",
   "case", "pattern", "command", "function", "redirect", "word", "assignment", "parameter", "tilde",
   "heredoc", "commandsubstitution", "processsubstitution", "unimplemented"]

/-- every kind constructed anywhere in the sources is dispatched by `nodevisitor.visit`, every
    dispatched kind has a `visit<kind>` callback, and the model's AST has exactly the dispatched
    kinds -/
theorem kinds_covered :
    Gen.constructedKinds.all (fun k => Gen.dispatchKinds.contains k) = true ∧
    Gen.dispatchKinds.all (fun k => Gen.callbackKinds.contains k) = true ∧
    Gen.dispatchKinds.all (fun k => modelKinds.contains k) = true ∧
    modelKinds.all (fun k => Gen.dispatchKinds.contains k) = true := by decide

/-- **C15** -/
theorem C15 (prune : Node → Bool) (n : Node) :
    enters (visit prune n) = reached prune n ∧
    enters (visit (fun _ => false) n) = n.preorder ∧
    (∀ d, depthAfter (visit prune n) d = some d) :=
  ⟨enters_visit prune n, by rw [enters_visit, reached_noprune], visit_balanced prune n⟩

end Bashlex.Props
