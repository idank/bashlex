/-
  Property C05, `Spec.coverOK`, follow-up to `Props/C05Cover.lean`: the condition `rootsAtLeaves`
  ("every part ends where its last leaf ends") DERIVED, for parts whose LAST SPINE -- the chain
  root, last child, last child of that, … down to a leaf -- consists of `list` / `pipeline` /
  `command` nodes only (`spineOK`, decidable on the result; true of every part that does not
  END in a compound command, a function definition or a here-document).

  Source: C03's span invariant (`TopOK` of every run, in `C05_final`): `LocOK.fl` says that a
  `list` / `pipeline` / `command` node ends where its last child ends (unless that child is a
  redirect carrying a here-document body).  C03 has no such clause for `compound`, `if`, `for`,
  `while`, `case`, `function` nodes (nor has `Spec.spansWF`), which is why the spine is
  restricted; for those the fact needs the pass of `Props/C03/RE` with a predicate indexed by the
  token log (RE proves the fixed text predicate `EG` only) -- NOT done.

  `rootsAtLeaves_of_spine`, `C05_coverOK_spine_nil`: `Spec.coverOK s parts = []` under `SortOK`,
  `plainLeaves`, `spineOK`.
  `Array.qsort`: neither core Lean 4.33 nor Mathlib has lemmas about it (grep: only uses in
  tactics); `SortOK` stays a decidable per-input condition.
-/
import Bashlex.Props.C05Cover

namespace Bashlex.C05
open Bashlex Bashlex.Spec Bashlex.Node Bashlex.C03

/-- the last spine of `n` runs through `list` / `pipeline` / `command` nodes down to a node that
    is a leaf of `Spec.leaves` at its own span (fuel: the depth) -/
def lastSpine : Nat → Node → Bool
  | 0, _ => false
  | f + 1, n =>
    match n with
    | .command _ ps | .pipeline _ ps | .list _ ps =>
      (match ps.getLast? with
       | some c => lastSpine f c
       | none => false)
    | .word .. | .assignment .. | .operator .. | .reservedword .. | .pipe .. => true
    | .redirect _ _ _ _ _ none _ => true
    | _ => false

theorem leavesL_append : ∀ (a b : List Node), leavesL (a ++ b) = leavesL a ++ leavesL b
  | [], b => by simp [leavesL]
  | n :: a, b => by simp [leavesL, leavesL_append a b, List.append_assoc]

theorem leavesL_single (c : Node) : leavesL [c] = leaves c := by simp [leavesL]

/-- a redirect that carries a body has a flagged leaf -/
theorem flagged_of_heredoc {c : Node} (h : isRedirectWithHeredoc c = true) :
    ∃ x ∈ leaves c, x.2 = true := by
  cases c with
  | redirect p i t o oa hd hid =>
    cases hd with
    | none => simp [isRedirectWithHeredoc] at h
    | some b =>
      simp only [leaves]
      split
      · exact ⟨(p, true), by simp, rfl⟩
      · exact ⟨(b.pos, true), by simp, rfl⟩
  | _ => simp [isRedirectWithHeredoc] at h

/-- one step down the spine -/
theorem spine_step {len : Nat} {n c : Node} {ps : List Node} (hch : n.children = ps)
    (hlv : leaves n = leavesL ps) (hsp : spansItsParts n = true) (hrw : isRW n = false)
    (hs : Strict len n) (ht : tainted n = false) (hfl : ∀ x ∈ leaves n, x.2 = false)
    (hlast : ps.getLast? = some c)
    (ih : Strict len c → tainted c = false → (∀ x ∈ leaves c, x.2 = false) →
      ∃ x, (leaves c).getLast? = some x ∧ x.1.2 = c.pos.2) :
    ∃ x, (leaves n).getLast? = some x ∧ x.1.2 = n.pos.2 := by
  have hcm : c ∈ n.children := by rw [hch]; exact List.mem_of_getLast? hlast
  obtain ⟨hn, hkids⟩ := strict_iff.mp hs
  have hps : ps = ps.dropLast ++ [c] := by
    have hne : ps ≠ [] := by intro h0; rw [h0] at hlast; cases hlast
    have h1 := List.dropLast_concat_getLast hne
    have h2 : ps.getLast hne = c := by
      have := List.getLast?_eq_some_getLast hne
      rw [hlast] at this
      exact (Option.some.inj this).symm
    rw [h2] at h1
    exact h1.symm
  have hlc : ∀ x ∈ leaves c, x ∈ leaves n := by
    intro x hx
    rw [hlv, hps, leavesL_append, leavesL_single]
    exact List.mem_append_right _ hx
  obtain ⟨x, hx1, hx2⟩ := ih (hkids c hcm) (untainted_child hcm ht) (fun x hx => hfl x (hlc x hx))
  refine ⟨x, ?_, ?_⟩
  · rw [hlv, hps, leavesL_append, leavesL_single, List.getLast?_append, hx1]
    rfl
  · rw [hx2]
    rcases hn with h | h | h
    · rw [h] at ht; cases ht
    · obtain ⟨a, b, _, hb, _, hend⟩ := h.fl hsp
      rw [hch, hlast] at hb
      cases hb
      rcases hend with hend | hend
      · exact hend.symm
      · obtain ⟨y, hy, hyt⟩ := flagged_of_heredoc hend
        rw [hfl y (hlc y hy)] at hyt
        cases hyt
    · rw [hrw] at h; cases h.1

/-- **a node with a simple last spine ends where its last leaf ends** -/
theorem spine_end {len : Nat} : ∀ (f : Nat) (n : Node), Strict len n → tainted n = false →
    (∀ x ∈ leaves n, x.2 = false) → lastSpine f n = true →
    ∃ x, (leaves n).getLast? = some x ∧ x.1.2 = n.pos.2
  | 0, _, _, _, _, h => by simp [lastSpine] at h
  | f + 1, n, hs, ht, hfl, h => by
    cases n with
    | command p ps =>
      simp only [lastSpine] at h
      cases hl : ps.getLast? with
      | none => rw [hl] at h; cases h
      | some c =>
        rw [hl] at h
        exact spine_step (ps := ps) rfl (by simp [leaves]) rfl rfl hs ht hfl hl
          (fun a b c' => spine_end f c a b c' h)
    | pipeline p ps =>
      simp only [lastSpine] at h
      cases hl : ps.getLast? with
      | none => rw [hl] at h; cases h
      | some c =>
        rw [hl] at h
        exact spine_step (ps := ps) rfl (by simp [leaves]) rfl rfl hs ht hfl hl
          (fun a b c' => spine_end f c a b c' h)
    | list p ps =>
      simp only [lastSpine] at h
      cases hl : ps.getLast? with
      | none => rw [hl] at h; cases h
      | some c =>
        rw [hl] at h
        exact spine_step (ps := ps) rfl (by simp [leaves]) rfl rfl hs ht hfl hl
          (fun a b c' => spine_end f c a b c' h)
    | word p w ps => exact ⟨(p, false), by simp [leaves], rfl⟩
    | assignment p w ps => exact ⟨(p, false), by simp [leaves], rfl⟩
    | operator p w => exact ⟨(p, false), by simp [leaves], rfl⟩
    | reservedword p w => exact ⟨(p, false), by simp [leaves], rfl⟩
    | pipe p w => exact ⟨(p, false), by simp [leaves], rfl⟩
    | redirect p i t o oa hd hid =>
      cases hd with
      | none => exact ⟨(p, false), by simp [leaves], rfl⟩
      | some b => simp [lastSpine] at h
    | _ => simp [lastSpine] at h

/-- the decidable condition on the result: no D19 below the part, no here-document below it, a
    simple last spine -/
def spineOK (parts : List Node) : Bool :=
  parts.all fun p => !containsD19 p && p.lastHeredocEnd.isNone && lastSpine (p.preorder.length) p

/-- **`rootsAtLeaves` derived** (from C03's span invariant) -/
theorem rootsAtLeaves_of_spine {s : Str} : ∀ {i : Nat} {parts : List Node}, PartsFinal s i parts →
    plainLeaves s parts = true → spineOK parts = true → rootsAtLeaves parts = true := by
  intro i parts h
  induction h with
  | done i _ => intro _ _; rfl
  | stop i _ => intro _ _; rfl
  | @cons i n rest hi htop _ _ ih =>
    intro hpl hsp
    unfold plainLeaves at hpl
    rw [leavesL_cons, List.all_append, Bool.and_eq_true] at hpl
    unfold spineOK at hsp
    rw [List.all_cons, Bool.and_eq_true] at hsp
    obtain ⟨hsp1, hsp2⟩ := hsp
    simp only [Bool.and_eq_true, Bool.not_eq_true', Option.isNone_iff_eq_none] at hsp1
    obtain ⟨⟨hd19, hhd⟩, hspine⟩ := hsp1
    have hstrict : Strict s.length (n.shift i) :=
      strict_shift_top htop.strict (by rw [List.length_drop]; omega)
    have hfl : ∀ x ∈ leaves (n.shift i), x.2 = false := by
      intro x hx
      have hb := List.all_eq_true.mp hpl.1 x hx
      rw [Bool.and_eq_true, Bool.and_eq_true] at hb
      simpa using hb.1.1
    obtain ⟨x, hx1, hx2⟩ := spine_end _ _ hstrict hd19 hfl hspine
    unfold rootsAtLeaves
    rw [List.all_cons, Bool.and_eq_true]
    refine ⟨?_, ih (by unfold plainLeaves; exact hpl.2) (by unfold spineOK; exact hsp2)⟩
    rw [hx1]
    simp only [beq_iff_eq]
    unfold nextIndex
    rw [hhd]
    exact hx2.symm

/-- **C05, `Spec.coverOK s parts = []`** for results without here-document bodies and D19 whose
    parts have a simple last spine: conditions `SortOK`, `plainLeaves`, `spineOK`, all decidable
    on the result; `rootsAtLeaves` is derived -/
theorem C05_coverOK_spine_nil (s : Str) (o : Opts) (parts : List Node)
    (hlen : s.length + 1 < 1073741824) (h : (parse s o).1 = .parts parts)
    (hsort : SortOK (leavesL parts)) (hpl : plainLeaves s parts = true)
    (hsp : spineOK parts = true) : coverOK s parts = [] := by
  have hpf := C05_final s o parts hlen (Totals.rootEndsChecked_all s o parts h) h
  exact C05_coverOK_plain_nil s o parts hlen h hsort hpl (rootsAtLeaves_of_spine hpf hpl hsp)

end Bashlex.C05

#print axioms Bashlex.C05.rootsAtLeaves_of_spine
#print axioms Bashlex.C05.C05_coverOK_spine_nil
