/-
  C03: span well-formedness as predicates on trees.

    `C03_known`   the known signatures (decidable): one exact string and two marked families
    `LocOK`       the local clauses of `Spec.localSpanViol` as a proposition, relaxed exactly where
                  a redirect extended over its here-document body may stick out (`+heredoc`)
    `NodeS`       a node is fine: it sits above a D19 pipeline (`tainted`, all its clauses are
                  marked `+emptydesc`), or `LocOK`, or it is a reserved word (only
                  `empty-span:reservedword` can be raised for it)
    `Strict`      every node of a tree is `NodeS`;  `strict_known`: then every signature of
                  `Spec.spansWF` is known
-/
import Bashlex.Spec.Tree
import Bashlex.Model.Parse
import Bashlex.Props.C12.Tree
import Bashlex.Proofs.NodeResolve

namespace Bashlex.C03
open Bashlex Bashlex.Spec Bashlex.Node
set_option linter.unusedSimpArgs false

/-! ## known signatures -/

/-- does the character list `p` occur in `l` -/
def infixB (p : List Char) : List Char → Bool
  | [] => p.isEmpty
  | c :: cs => p.isPrefixOf (c :: cs) || infixB p cs

/-- the known signatures of `Spec.spansWF` (each with a witness, checked in
    `Props/C03/Witness.lean`):
    * `empty-span:reservedword`: `time -p a` with `proceedonerror`: the `!`/`time` reserved word of
      a pipeline built from a `timespec` sits at span (0,0) (D19);
    * every signature marked `+emptydesc`: clauses of the ancestors of such a pipeline
      (`b; time -p a` with `proceedonerror`);
    * every signature marked `+heredoc`: a redirect extended over its here-document body sticks
      out of its parent, whose span was computed before the body was gathered (D11):
      `a <<E\nx\nE\n` → `child-outside-parent:redirect+heredoc:command`,
      `span-not-first-to-last:command:redirect+heredoc`;
      `{ a; } <<E\nx\nE\n` → `child-outside-parent:redirect+heredoc:compound`. -/
def emptyRW : String := "empty-span:" ++ "reservedword"

def C03_known (v : String) : Bool :=
  v == emptyRW || infixB "+heredoc".toList v.toList ||
    infixB "+emptydesc".toList v.toList

theorem infixB_append_left (p : List Char) : ∀ (a b : List Char), infixB p b = true →
    infixB p (a ++ b) = true := by
  intro a
  induction a with
  | nil => intro b h; exact h
  | cons c cs ih =>
    intro b h
    show infixB p (c :: (cs ++ b)) = true
    simp only [infixB, Bool.or_eq_true]
    exact Or.inr (ih b h)

theorem infixB_prefix (p b : List Char) : infixB p (p ++ b) = true := by
  cases hp : p ++ b with
  | nil =>
    have : p = [] := by
      cases p with
      | nil => rfl
      | cons _ _ => simp at hp
    simp [infixB, this]
  | cons c cs =>
    simp only [infixB, Bool.or_eq_true]
    left
    rw [← hp]
    exact List.isPrefixOf_iff_prefix.mpr (List.prefix_append p b)

theorem infixB_mid (p a b : List Char) : infixB p (a ++ p ++ b) = true := by
  rw [List.append_assoc]
  exact infixB_append_left p a _ (infixB_prefix p b)

/-- a string with the mark somewhere inside -/
theorem known_heredoc (a b : String) : C03_known (a ++ "+heredoc" ++ b) = true := by
  unfold C03_known
  have : infixB "+heredoc".toList (a ++ "+heredoc" ++ b).toList = true := by
    rw [String.toList_append, String.toList_append]
    exact infixB_mid _ _ _
  rw [this, Bool.or_true, Bool.true_or]

theorem known_emptydesc (a b : String) : C03_known (a ++ "+emptydesc" ++ b) = true := by
  unfold C03_known
  have : infixB "+emptydesc".toList (a ++ "+emptydesc" ++ b).toList = true := by
    rw [String.toList_append, String.toList_append]
    exact infixB_mid _ _ _
  rw [this, Bool.or_true]

/-! ## taint: sitting above a D19 pipeline -/

/-- the D19 shape: a pipeline with a reserved word of empty span among its parts -/
def emptyRWb : Node → Bool
  | .reservedword p _ => decide (p.2 ≤ p.1)
  | _ => false

def isD19 : Node → Bool
  | .pipeline _ ps => ps.any emptyRWb
  | _ => false

def tainted (n : Node) : Bool := containsD19 n

theorem tainted_eq (n : Node) : tainted n = n.preorder.any isD19 := by
  unfold tainted containsD19
  congr 1

theorem tainted_iff (n : Node) :
    tainted n = true ↔ isD19 n = true ∨ ∃ c, c ∈ n.children ∧ tainted c = true := by
  simp only [tainted_eq, List.any_eq_true]
  exact Node.exists_preorder_iff

theorem tainted_of_child {n c : Node} (hc : c ∈ n.children) (h : tainted c = true) :
    tainted n = true :=
  (tainted_iff n).mpr (Or.inr ⟨c, hc, h⟩)

theorem untainted_child {n c : Node} (hc : c ∈ n.children) (h : tainted n = false) :
    tainted c = false := by
  cases hct : tainted c with
  | false => rfl
  | true => rw [tainted_of_child hc hct] at h; cases h

/-! ## local clauses -/

def isRW : Node → Bool | .reservedword .. => true | _ => false

/-- the clauses of `Spec.localSpanViol`, relaxed where a redirect carrying a here-document body
    may stick out to the right of its parent (signatures marked `+heredoc`) -/
structure LocOK (len : Nat) (n : Node) : Prop where
  ne : n.pos.1 < n.pos.2
  rng : n.pos.2 ≤ len
  kne : ∀ c ∈ n.children, c.pos.1 < c.pos.2
  kin : ∀ c ∈ n.children, isHeredoc c = false →
    n.pos.1 ≤ c.pos.1 ∧ (c.pos.2 ≤ n.pos.2 ∨ isRedirectWithHeredoc c = true)
  ord : ordered n.children = true
  fl : spansItsParts n = true → ∃ a b, n.children.head? = some a ∧ n.children.getLast? = some b ∧
    n.pos.1 = a.pos.1 ∧ (n.pos.2 = b.pos.2 ∨ isRedirectWithHeredoc b = true)
  /-- no child (here-document bodies included) starts before its parent -/
  kst : ∀ c ∈ n.children, n.pos.1 ≤ c.pos.1

/-- a node is fine -/
def NodeS (len : Nat) (m : Node) : Prop :=
  tainted m = true ∨ LocOK len m ∨ (isRW m = true ∧ m.pos.2 ≤ len)

/-- every node of the tree is fine -/
def Strict (len : Nat) (n : Node) : Prop := ∀ m ∈ n.preorder, NodeS len m

theorem known_heredoc' (a1 a2 b : String) : C03_known (a1 ++ (a2 ++ ("+heredoc" ++ b))) = true := by
  have := known_heredoc (a1 ++ a2) b
  simpa only [String.append_assoc] using this

theorem known_heredoc'' (a1 a2 a3 a4 b : String) :
    C03_known (a1 ++ (a2 ++ (a3 ++ (a4 ++ ("+heredoc" ++ b))))) = true := by
  have := known_heredoc (a1 ++ a2 ++ a3 ++ a4) b
  simpa only [String.append_assoc] using this

theorem toString_str (s : String) : toString s = s := rfl

theorem locOK_known {len : Nat} {m : Node} (h : LocOK len m) :
    ∀ v ∈ localSpanViol len m, C03_known v = true := by
  intro v hv
  unfold localSpanViol at hv
  simp only [List.mem_append, List.mem_filterMap, toString_str] at hv
  rcases hv with (hv | hv) | (hv | hv) | hv
  · rw [if_pos h.ne] at hv; cases hv
  · rw [if_pos h.rng] at hv; cases hv
  · obtain ⟨a, ha, hv⟩ := hv
    cases hh : isHeredoc a with
    | true => rw [hh] at hv; simp at hv
    | false =>
      rw [hh] at hv
      simp only [Bool.false_eq_true, if_false] at hv
      obtain ⟨h1, h2⟩ := h.kin a ha hh
      by_cases hs : spanIn a.pos m.pos = true
      · rw [if_pos hs] at hv; cases hv
      · rw [if_neg hs] at hv
        rcases h2 with h2 | h2
        · exfalso; apply hs
          simp [spanIn, h1, h2]
        · rw [h2] at hv
          simp only [if_true, Option.some.injEq] at hv
          rw [← hv]
          simp only [String.append_assoc]
          exact known_heredoc' _ _ _
  · rw [if_pos h.ord] at hv; cases hv
  · by_cases hsp : spansItsParts m = true
    · rw [if_pos hsp] at hv
      obtain ⟨a, b, ha, hb, h1, h2⟩ := h.fl hsp
      rw [ha, hb] at hv
      simp only at hv
      rcases h2 with h2 | h2
      · have : (m.pos == (a.pos.1, b.pos.2)) = true := by
          rw [beq_iff_eq]
          exact Prod.ext h1 h2
        rw [if_pos this] at hv; cases hv
      · split at hv
        · cases hv
        · simp only [h2, if_true, List.mem_singleton] at hv
          rw [hv]
          simp only [String.append_assoc]
          exact known_heredoc'' _ _ _ _ _
    · rw [if_neg hsp] at hv; cases hv

theorem lsv_rw (len : Nat) (p : Span) (w : Str) : localSpanViol len (.reservedword p w) =
    (if p.1 < p.2 then [] else ["empty-span:" ++ "reservedword"]) ++
    (if p.2 ≤ len then [] else ["span-out-of-range:" ++ "reservedword"]) ++ [] := rfl

theorem rw_known {len : Nat} {m : Node} (h1 : isRW m = true) (h2 : m.pos.2 ≤ len) :
    ∀ v ∈ localSpanViol len m, v = emptyRW := by
  intro v hv
  cases m with
  | reservedword p w =>
    rw [lsv_rw] at hv
    have h2' : p.2 ≤ len := h2
    rw [if_pos h2', List.append_nil, List.append_nil] at hv
    split at hv
    · cases hv
    · rw [List.mem_singleton] at hv; rw [hv]; rfl
  | _ => simp [isRW] at h1

theorem nodeS_known {len : Nat} {m : Node} (h : NodeS len m) :
    ∀ v ∈ localSpanViol len m,
      C03_known (v ++ (if containsD19 m then "+emptydesc" else "") ++ "") = true := by
  intro v hv
  rcases h with h | h | h
  · have : containsD19 m = true := h
    rw [this]
    simp only [if_true]
    exact known_emptydesc _ _
  · by_cases ht : containsD19 m = true
    · rw [ht]; simp only [if_true]; exact known_emptydesc _ _
    · simp only [ht, Bool.false_eq_true, if_false, String.append_empty]
      exact locOK_known h v hv
  · by_cases ht : containsD19 m = true
    · rw [ht]; simp only [if_true]; exact known_emptydesc _ _
    · simp only [ht, Bool.false_eq_true, if_false, String.append_empty]
      rw [rw_known h.1 h.2 v hv]
      simp [C03_known]

/-- **the link to the executable specification**: in a `Strict` tree, every signature raised by
    `Spec.spansWF` is known -/
theorem strict_known {len : Nat} {n : Node} (h : Strict len n) :
    ∀ v ∈ spansWF len n, C03_known v = true := by
  intro v hv
  unfold spansWF at hv
  obtain ⟨l, hl, hvl⟩ := List.mem_flatten.mp hv
  obtain ⟨m, hm, rfl⟩ := List.mem_map.mp hl
  obtain ⟨v0, hv0, rfl⟩ := List.mem_map.mp hvl
  simp only [Bool.false_eq_true, if_false]
  exact nodeS_known (h m hm) v0 hv0

/-! ## recursive characterisations -/

theorem strict_iff {len : Nat} {n : Node} :
    Strict len n ↔ NodeS len n ∧ ∀ c, c ∈ n.children → Strict len c :=
  Node.forall_preorder_iff

/-- every node of the tree ends at or before `g` -/
def EndsBy (g : Nat) (n : Node) : Prop := ∀ m ∈ n.preorder, m.pos.2 ≤ g

theorem endsBy_iff {g : Nat} {n : Node} :
    EndsBy g n ↔ n.pos.2 ≤ g ∧ ∀ c, c ∈ n.children → EndsBy g c :=
  Node.forall_preorder_iff

theorem EndsBy.mono {g g' : Nat} {n : Node} (h : EndsBy g n) (hg : g ≤ g') : EndsBy g' n :=
  fun m hm => Nat.le_trans (h m hm) hg

theorem EndsBy.root {g : Nat} {n : Node} (h : EndsBy g n) : n.pos.2 ≤ g := (endsBy_iff.mp h).1

/-! ## positions under `mapPos` -/

theorem pos_mapPos (f : Span → Span) (n : Node) : (mapPos f n).pos = f n.pos :=
  Node.pos_mapPos f n

theorem kind_mapPos (f : Span → Span) (n : Node) : (mapPos f n).kind = n.kind :=
  Node.kind_mapPos f n

theorem isHeredoc_mapPos (f : Span → Span) (n : Node) : isHeredoc (mapPos f n) = isHeredoc n := by
  cases n <;> simp [mapPos, isHeredoc]

theorem isRWH_mapPos (f : Span → Span) (n : Node) :
    isRedirectWithHeredoc (mapPos f n) = isRedirectWithHeredoc n := by
  cases n <;> simp [mapPos, isRedirectWithHeredoc]
  case redirect p i t o oa h hid => cases h <;> simp [Node.mapPosO_eq, isRedirectWithHeredoc]

theorem spansItsParts_mapPos (f : Span → Span) (n : Node) :
    spansItsParts (mapPos f n) = spansItsParts n := by
  cases n <;> simp [mapPos, spansItsParts]

theorem isRW_mapPos (f : Span → Span) (n : Node) : isRW (mapPos f n) = isRW n := by
  cases n <;> simp [mapPos, isRW]

/-- the shift of `posshifter` / `_adjustpositions` -/
def sh (k : Nat) (p : Span) : Span := (p.1 + k, p.2 + k)

theorem shift_eq (k : Nat) (n : Node) : n.shift k = mapPos (sh k) n := rfl

theorem isD19_sh (k : Nat) (n : Node) : isD19 (mapPos (sh k) n) = isD19 n := by
  cases n <;> simp [mapPos, isD19]
  case pipeline p ps =>
    rw [Node.mapPosL_eq, List.any_map]
    congr 1
    funext q
    cases q <;> simp [mapPos, sh, emptyRWb]

theorem tainted_sh (k : Nat) (n : Node) : tainted (mapPos (sh k) n) = tainted n := by
  rw [tainted_eq, tainted_eq, Node.preorder_mapPos_eq, List.any_map]
  congr 1
  funext m
  exact isD19_sh k m

theorem ordered_sh (k : Nat) : ∀ l : List Node, ordered (l.map (mapPos (sh k))) = ordered l
  | [] => rfl
  | [a] => rfl
  | a :: b :: rest => by
    have ih := ordered_sh k (b :: rest)
    simp only [List.map_cons] at ih ⊢
    simp only [ordered, pos_mapPos, sh, ih]
    congr 1
    simp

theorem locOK_sh {len len' k : Nat} {m : Node} (h : LocOK len m) (hr : m.pos.2 + k ≤ len') :
    LocOK len' (mapPos (sh k) m) := by
  refine ⟨?_, ?_, ?_, ?_, ?_, ?_, ?_⟩
  · rw [pos_mapPos]; simp only [sh]; have := h.ne; omega
  · rw [pos_mapPos]; exact hr
  · intro c hc
    rw [children_mapPos] at hc
    obtain ⟨c0, hc0, rfl⟩ := List.mem_map.mp hc
    rw [pos_mapPos]; simp only [sh]; have := h.kne c0 hc0; omega
  · intro c hc hh
    rw [children_mapPos] at hc
    obtain ⟨c0, hc0, rfl⟩ := List.mem_map.mp hc
    rw [isHeredoc_mapPos] at hh
    obtain ⟨h1, h2⟩ := h.kin c0 hc0 hh
    rw [pos_mapPos, pos_mapPos, isRWH_mapPos]
    simp only [sh]
    refine ⟨by omega, ?_⟩
    rcases h2 with h2 | h2
    · left; omega
    · right; exact h2
  · rw [children_mapPos, ordered_sh]; exact h.ord
  · intro hsp
    rw [spansItsParts_mapPos] at hsp
    obtain ⟨a, b, ha, hb, h1, h2⟩ := h.fl hsp
    refine ⟨mapPos (sh k) a, mapPos (sh k) b, ?_, ?_, ?_, ?_⟩
    · rw [children_mapPos, List.head?_map, ha]; rfl
    · rw [children_mapPos, List.getLast?_map, hb]; rfl
    · rw [pos_mapPos, pos_mapPos]; simp only [sh]; omega
    · rw [pos_mapPos, pos_mapPos, isRWH_mapPos]; simp only [sh]
      rcases h2 with h2 | h2
      · left; omega
      · right; exact h2
  · intro c hc
    rw [children_mapPos] at hc
    obtain ⟨c0, hc0, rfl⟩ := List.mem_map.mp hc
    rw [pos_mapPos, pos_mapPos]; simp only [sh]
    have := h.kst c0 hc0
    omega

theorem isRW_untainted {m : Node} (h : isRW m = true) : tainted m = false := by
  cases m <;> simp [isRW] at h
  rfl

theorem nodeS_sh {len len' k : Nat} {m : Node} (h : NodeS len m)
    (hr : tainted m = false → m.pos.2 + k ≤ len') : NodeS len' (mapPos (sh k) m) := by
  rcases h with h | h | h
  · left; rw [tainted_sh]; exact h
  · cases ht : tainted m with
    | true => left; rw [tainted_sh]; exact ht
    | false => right; left; exact locOK_sh h (hr ht)
  · right; right
    refine ⟨by rw [isRW_mapPos]; exact h.1, ?_⟩
    rw [pos_mapPos]
    exact hr (isRW_untainted h.1)

theorem strict_sh {len len' k : Nat} {n : Node} (h : Strict len n)
    (hr : ∀ m ∈ n.preorder, tainted m = false → m.pos.2 + k ≤ len') :
    Strict len' (n.shift k) := by
  intro m hm
  rw [shift_eq, Node.preorder_mapPos_eq] at hm
  obtain ⟨m0, hm0, rfl⟩ := List.mem_map.mp hm
  exact nodeS_sh (h m0 hm0) (hr m0 hm0)

theorem NodeS.rng {len : Nat} {m : Node} (h : NodeS len m) (ht : tainted m = false) :
    m.pos.2 ≤ len := by
  rcases h with h | h | h
  · rw [h] at ht; cases ht
  · exact h.rng
  · exact h.2

/-- the top-level `posshifter`: a part found in `s.drop index` and shifted by `index` -/
theorem strict_shift_top {len len' k : Nat} {n : Node} (h : Strict len n) (hl : len + k ≤ len') :
    Strict len' (n.shift k) :=
  strict_sh h (fun m hm ht => by have := (h m hm).rng ht; omega)

theorem endsBy_shift {g k : Nat} {n : Node} (h : EndsBy g n) : EndsBy (g + k) (n.shift k) := by
  intro m hm
  rw [shift_eq, Node.preorder_mapPos_eq] at hm
  obtain ⟨m0, hm0, rfl⟩ := List.mem_map.mp hm
  rw [pos_mapPos]
  simp only [sh]
  have := h m0 hm0
  omega

/-! ## `resolve`: the final positions of pending here-document redirects -/

def pendOf : Node → Option (Nat × Span)
  | .redirect p _ _ _ _ _ (some id) => some (id, p)
  | _ => none

/-- the body `makeheredoc` attached lies after the redirect's original span and is in range -/
def BodyOK (len : Nat) (p : Span) (h : Option (Span × Str)) : Prop :=
  ∀ x y v, h = some ((x, y), v) → p.2 ≤ x ∧ x < y ∧ y ≤ len

/-- the store cell of a pending redirect created at span `p`, in a tree whose nodes all end at or
    before `g`: the position is unchanged, or the body was attached and the span was extended
    to the right -- which happens only to a redirect ending at `g` or later -/
def DoneCell (len g : Nat) (p : Span) (c : RedirCell) : Prop :=
  BodyOK len p c.heredoc ∧
  (c.pos = p ∨ (c.heredoc.isSome = true ∧ c.pos.1 = p.1 ∧ p.2 ≤ c.pos.2 ∧ c.pos.2 ≤ len ∧ g ≤ p.2))

/-- the shape `p_redirection_heredoc` gives a pending redirect: no body yet, a plain target -/
def pendShape : Node → Prop
  | .redirect _ _ _ o _ h (some _) =>
    h = none ∧ ∀ w, o = some w → isHeredoc w = false ∧ isRedirectWithHeredoc w = false
  | _ => True

def DoneN (len g : Nat) (st : List RedirCell) (m : Node) : Prop :=
  ∀ id p, pendOf m = some (id, p) →
    pendShape m ∧ ∀ c, st[id]? = some c → DoneCell len g p c

def Done (len g : Nat) (st : List RedirCell) (n : Node) : Prop := ∀ m ∈ n.preorder, DoneN len g st m

theorem done_iff {len g : Nat} {st : List RedirCell} {n : Node} :
    Done len g st n ↔ DoneN len g st n ∧ ∀ c, c ∈ n.children → Done len g st c :=
  Node.forall_preorder_iff

/-- how `resolve` may change what a parent sees of a child -/
structure Ext (len g : Nat) (c c' : Node) : Prop where
  s : c'.pos.1 = c.pos.1
  e : c.pos.2 ≤ c'.pos.2
  hd : isHeredoc c' = isHeredoc c
  rwh : isRedirectWithHeredoc c = true → isRedirectWithHeredoc c' = true
  ext : c.pos.2 < c'.pos.2 → isRedirectWithHeredoc c' = true ∧ g ≤ c.pos.2 ∧ c'.pos.2 ≤ len

theorem Ext.refl' {len g : Nat} {c c' : Node} (hp : c'.pos = c.pos) (hd : isHeredoc c' = isHeredoc c)
    (hr : isRedirectWithHeredoc c' = isRedirectWithHeredoc c) : Ext len g c c' :=
  ⟨by rw [hp], by rw [hp]; exact Nat.le_refl _, hd, by rw [hr]; exact id,
   by rw [hp]; intro h; exact absurd h (Nat.lt_irrefl _)⟩

theorem ext_resolve {len g : Nat} {st : List RedirCell} {m : Node} (h : DoneN len g st m) :
    Ext len g m (resolve st m) := by
  cases m with
  | redirect p i t o oa hd hid =>
    cases hid with
    | none => exact Ext.refl' (by simp [resolve]) (by simp [resolve]) (by simp [resolve])
    | some id =>
      obtain ⟨hsh, h2⟩ := h id p rfl
      have h1 : isRedirectWithHeredoc (.redirect p i t o oa hd (some id)) = false := by
        rw [hsh.1]; rfl
      simp only [resolve]
      cases hs : st[id]? with
      | none =>
        refine Ext.refl' rfl rfl ?_
        cases hd <;> rfl
      | some c =>
        simp only
        obtain ⟨hb, hc⟩ := h2 c hs
        rcases hc with hc | ⟨hsome, hc1, hc2, hc3, hc4⟩
        · refine ⟨by simp [Node.pos, hc], by simp [Node.pos, hc], rfl, ?_, ?_⟩
          · intro hx; rw [h1] at hx; cases hx
          · intro hx; simp [Node.pos, hc] at hx
        · refine ⟨hc1, hc2, rfl, ?_, ?_⟩
          · intro hx; rw [h1] at hx; cases hx
          · intro _
            refine ⟨?_, hc4, hc3⟩
            cases hh : c.heredoc with
            | none => rw [hh] at hsome; cases hsome
            | some b => simp [isRedirectWithHeredoc]
  | _ => exact Ext.refl' (by simp [resolve, Node.pos]) (by simp [resolve, isHeredoc])
          (by simp [resolve, isRedirectWithHeredoc])

theorem ordered_ext {len g : Nat} {r : Node → Node} : ∀ (l : List Node), ordered l = true →
    (∀ c ∈ l, c.pos.1 < c.pos.2) → (∀ c ∈ l, c.pos.2 ≤ g) → (∀ c ∈ l, Ext len g c (r c)) →
    ordered (l.map r) = true
  | [], _, _, _, _ => rfl
  | [a], _, _, _, _ => rfl
  | a :: b :: rest, ho, hne, hg, he => by
    simp only [ordered, Bool.and_eq_true, decide_eq_true_eq] at ho
    have ih := ordered_ext (b :: rest) ho.2 (fun c hc => hne c (List.mem_cons_of_mem _ hc))
      (fun c hc => hg c (List.mem_cons_of_mem _ hc)) (fun c hc => he c (List.mem_cons_of_mem _ hc))
    simp only [List.map_cons] at ih ⊢
    simp only [ordered, Bool.and_eq_true, decide_eq_true_eq]
    refine ⟨?_, ih⟩
    have ea := he a List.mem_cons_self
    have eb := he b (List.mem_cons_of_mem _ List.mem_cons_self)
    rw [eb.s]
    by_cases hx : a.pos.2 < (r a).pos.2
    · obtain ⟨_, h2, _⟩ := ea.ext hx
      have := hne b (List.mem_cons_of_mem _ List.mem_cons_self)
      have := hg b (List.mem_cons_of_mem _ List.mem_cons_self)
      omega
    · have := ea.e; omega

theorem locOK_ext {len g : Nat} {r : Node → Node} {P P' : Node} (h : LocOK len P)
    (hp : P'.pos = P.pos) (hsp : spansItsParts P' = spansItsParts P)
    (hch : P'.children = P.children.map r)
    (he : ∀ c ∈ P.children, Ext len g c (r c) ∧ c.pos.2 ≤ g) : LocOK len P' := by
  refine ⟨by rw [hp]; exact h.ne, by rw [hp]; exact h.rng, ?_, ?_, ?_, ?_, ?_⟩
  · intro c hc
    rw [hch] at hc
    obtain ⟨c0, hc0, rfl⟩ := List.mem_map.mp hc
    have e := (he c0 hc0).1
    have := h.kne c0 hc0
    rw [e.s]; have := e.e; omega
  · intro c hc hh
    rw [hch] at hc
    obtain ⟨c0, hc0, rfl⟩ := List.mem_map.mp hc
    have e := (he c0 hc0).1
    rw [e.hd] at hh
    obtain ⟨h1, h2⟩ := h.kin c0 hc0 hh
    rw [hp, e.s]
    refine ⟨h1, ?_⟩
    by_cases hx : c0.pos.2 < (r c0).pos.2
    · exact Or.inr (e.ext hx).1
    · rcases h2 with h2 | h2
      · left; have := e.e; omega
      · exact Or.inr (e.rwh h2)
  · rw [hch]
    exact ordered_ext _ h.ord h.kne (fun c hc => (he c hc).2) (fun c hc => (he c hc).1)
  · intro hs
    rw [hsp] at hs
    obtain ⟨a, b, ha, hb, h1, h2⟩ := h.fl hs
    have hma : a ∈ P.children := List.mem_of_mem_head? ha
    have hmb : b ∈ P.children := List.mem_of_getLast? hb
    have ea := (he a hma).1
    have eb := (he b hmb).1
    refine ⟨r a, r b, by rw [hch, List.head?_map, ha]; rfl, by rw [hch, List.getLast?_map, hb]; rfl,
      by rw [hp, ea.s]; exact h1, ?_⟩
    rw [hp]
    by_cases hx : b.pos.2 < (r b).pos.2
    · exact Or.inr (eb.ext hx).1
    · rcases h2 with h2 | h2
      · left; have := eb.e; omega
      · exact Or.inr (eb.rwh h2)
  · intro c hc
    rw [hch] at hc
    obtain ⟨c0, hc0, rfl⟩ := List.mem_map.mp hc
    rw [hp, ((he c0 hc0).1).s]
    exact h.kst c0 hc0

theorem emptyRWb_resolve (st : List RedirCell) (q : Node) : emptyRWb (resolve st q) = emptyRWb q := by
  cases q with
  | redirect p i t o oa h hid =>
    cases hid with
    | none => simp [resolve, emptyRWb]
    | some id => simp only [resolve]; cases st[id]? <;> simp [emptyRWb]
  | _ => simp [resolve, emptyRWb]

theorem isD19_resolve (st : List RedirCell) (n : Node) : isD19 (resolve st n) = isD19 n := by
  cases n with
  | pipeline p ps =>
    simp only [resolve, isD19, resolveL_eq, List.any_map]
    congr 1
    funext q
    exact emptyRWb_resolve st q
  | redirect p i t o oa h hid =>
    cases hid with
    | none => simp [resolve, isD19]
    | some id => simp only [resolve]; cases st[id]? <;> simp [isD19]
  | _ => simp [resolve, isD19]

theorem strict_heredoc_leaf {len x y : Nat} {v : Str} (h1 : x < y) (h2 : y ≤ len) :
    Strict len (.heredoc (x, y) v) := by
  rw [strict_iff]
  refine ⟨Or.inr (Or.inl ⟨h1, h2, ?_, ?_, rfl, ?_, ?_⟩), ?_⟩
  · intro c hc; simp [children] at hc
  · intro c hc; simp [children] at hc
  · intro h; simp [spansItsParts] at h
  · intro c hc; simp [children] at hc
  · intro c hc; simp [children] at hc

theorem tainted_resolve {len g : Nat} (st : List RedirCell) :
    (n : Node) → Done len g st n → tainted n = true → tainted (resolve st n) = true := by
  refine resolve_induction
    (R := fun n n' => Done len g st n → tainted n = true → tainted n' = true) ?_ ?_ ?_
  · intro n hdesc ih hd h
    rw [← resolve_of_descends hdesc, tainted_iff] at *
    rcases h with h | ⟨c, hc, ht⟩
    · left; rw [isD19_resolve]; exact h
    · rw [resolve_of_descends hdesc, Node.children_map1]
      exact Or.inr ⟨_, List.mem_map_of_mem hc, ih c hc ((done_iff.mp hd).2 c hc) ht⟩
  · intro p i t o oa hh hid hd h
    rw [tainted_iff] at h ⊢
    rw [done_iff] at hd
    rcases h with h | ⟨c, hc, ht⟩
    · simp [isD19] at h
    · right
      refine ⟨c, ?_, ht⟩
      cases hid with
      | none => simpa [resolve] using hc
      | some id =>
        have hsh := (hd.1 id p rfl).1
        simp only [pendShape] at hsh
        simp only [resolve]
        simp only [children, List.mem_append, Option.mem_toList, hsh.1] at hc
        rcases hc with hc | hc
        · cases hs : st[id]? <;> simp [children, hc]
        · cases hc
  · intro n _ _ _ h; exact h

theorem taintedL_resolve {len g : Nat} (st : List RedirCell) :
    (l : List Node) → (∀ c, c ∈ l → Done len g st c) → (∃ c, c ∈ l ∧ tainted c = true) →
    ∃ c, c ∈ resolveL st l ∧ tainted c = true := by
  intro l hd ⟨c, hc, ht⟩
  exact ⟨resolve st c, by rw [resolveL_eq]; exact List.mem_map_of_mem hc,
    tainted_resolve st c (hd c hc) ht⟩

theorem locOK_parent_resolve {len g : Nat} {st : List RedirCell} {P : Node}
    (hl : LocOK len P) (he : EndsBy g P) (hd : Done len g st P)
    (hp : (resolve st P).pos = P.pos) (hsp : spansItsParts (resolve st P) = spansItsParts P)
    (hch : (resolve st P).children = P.children.map (resolve st)) : LocOK len (resolve st P) := by
  refine locOK_ext (g := g) (r := resolve st) hl hp hsp hch ?_
  intro c hc
  exact ⟨ext_resolve (((done_iff.mp hd).2 c hc) c (Node.self_mem_preorder c)),
    ((endsBy_iff.mp he).2 c hc).root⟩

/-- **resolving keeps a tree fine**: a redirect whose span `makeheredoc` extended is the last
    child of its parent (nothing in the tree ends after `g`, and only redirects ending at `g` or
    later are extended), so only the clauses marked `+heredoc` can break -/
theorem strict_resolve {len g : Nat} (st : List RedirCell) :
    (n : Node) → Strict len n → EndsBy g n → Done len g st n → Strict len (resolve st n) := by
  refine resolve_induction
    (R := fun n n' => Strict len n → EndsBy g n → Done len g st n → Strict len n') ?_ ?_ ?_
  · intro n hdesc ih hs he hd
    have hs' := strict_iff.mp hs
    have hr := resolve_of_descends (st := st) hdesc
    rw [← hr, strict_iff]
    refine ⟨?_, ?_⟩
    · rcases hs'.1 with ht | hl | hrw
      · exact Or.inl (tainted_resolve st _ hd ht)
      · exact Or.inr (Or.inl (locOK_parent_resolve hl he hd (by rw [hr, Node.pos_map1])
          (by rw [hr]; cases n <;> rfl) (by rw [hr, Node.children_map1])))
      · cases n <;> simp [isRW] at hrw; simp [descends] at hdesc
    · rw [hr, Node.children_map1]
      intro c hc
      obtain ⟨c0, hc0, rfl⟩ := List.mem_map.mp hc
      exact ih c0 hc0 (hs'.2 c0 hc0) ((endsBy_iff.mp he).2 c0 hc0) ((done_iff.mp hd).2 c0 hc0)
  · intro p i t o oa hh hid hs he hd
    cases hid with
    | none => simpa [resolve] using hs
    | some id =>
      have hs' := strict_iff.mp hs
      have hd' := done_iff.mp hd
      obtain ⟨hsh, hcell⟩ := hd'.1 id p rfl
      simp only [pendShape] at hsh
      obtain ⟨rfl, hout⟩ := hsh
      simp only [resolve]
      cases hst : st[id]? with
      | none =>
        simp only
        rw [strict_iff]
        refine ⟨?_, fun c hc => hs'.2 c (by simpa [children] using hc)⟩
        rcases hs'.1 with ht | hl | hr
        · left
          rw [tainted_iff] at ht ⊢
          rcases ht with ht | ht
          · simp [isD19] at ht
          · exact Or.inr (by simpa [children] using ht)
        · exact Or.inr (Or.inl ⟨hl.ne, hl.rng, hl.kne, hl.kin, hl.ord, hl.fl, hl.kst⟩)
        · simp [isRW] at hr
      | some c =>
        simp only
        obtain ⟨hb, hc⟩ := hcell c hst
        rw [strict_iff]
        refine ⟨?_, ?_⟩
        · rcases hs'.1 with ht | hl | hr
          · left
            rw [tainted_iff] at ht ⊢
            rcases ht with ht | ⟨k, hk, hkt⟩
            · simp [isD19] at ht
            · refine Or.inr ⟨k, ?_, hkt⟩
              simp only [children, Option.toList_none, List.append_nil] at hk
              simp [children, hk]
          · right; left
            have hne := hl.ne
            have hrng := hl.rng
            simp only [Node.pos] at hne hrng
            have hpos : c.pos.1 = p.1 ∧ p.2 ≤ c.pos.2 ∧ c.pos.2 ≤ len := by
              rcases hc with hc | ⟨_, h1, h2, h3, _⟩
              · rw [hc]; exact ⟨rfl, Nat.le_refl _, hrng⟩
              · exact ⟨h1, h2, h3⟩
            refine ⟨?_, ?_, ?_, ?_, ?_, ?_, ?_⟩
            · simp only [Node.pos]; omega
            · simp only [Node.pos]; exact hpos.2.2
            · intro k hk
              simp only [children, List.mem_append, Option.mem_toList] at hk
              rcases hk with hk | hk
              · exact hl.kne k (by simp [children, hk])
              · cases hb' : c.heredoc with
                | none => simp [hb'] at hk
                | some b =>
                  obtain ⟨⟨x, y⟩, v⟩ := b
                  simp only [hb', Option.map_some, Option.some.injEq] at hk
                  subst hk
                  exact (hb x y v hb').2.1
            · intro k hk hkh
              simp only [children, List.mem_append, Option.mem_toList] at hk
              rcases hk with hk | hk
              · obtain ⟨h1, h2⟩ := hl.kin k (by simp [children, hk]) hkh
                simp only [Node.pos] at h1 h2 ⊢
                refine ⟨by omega, ?_⟩
                rcases h2 with h2 | h2
                · left; omega
                · exact Or.inr h2
              · cases hb' : c.heredoc with
                | none => simp [hb'] at hk
                | some b =>
                  simp only [hb', Option.map_some, Option.some.injEq] at hk
                  subst hk
                  simp [isHeredoc] at hkh
            · simp only [children]
              cases ho : o with
              | none => cases c.heredoc <;> rfl
              | some w =>
                cases hb' : c.heredoc with
                | none => rfl
                | some b =>
                  obtain ⟨⟨x, y⟩, v⟩ := b
                  obtain ⟨hw1, hw2⟩ := hout w ho
                  obtain ⟨_, h2⟩ := hl.kin w (by simp [children, ho]) hw1
                  rw [hw2] at h2
                  have h2' : w.pos.2 ≤ p.2 := by
                    rcases h2 with h2 | h2
                    · exact h2
                    · cases h2
                  have := (hb x y v hb').1
                  show (decide (w.pos.2 ≤ x) && true) = true
                  simp only [Bool.and_true, decide_eq_true_eq]
                  omega
            · intro h; simp [spansItsParts] at h
            · intro k hk
              simp only [children, List.mem_append, Option.mem_toList] at hk
              show c.pos.1 ≤ k.pos.1
              rcases hk with hk | hk
              · have := hl.kst k (by simp [children, hk])
                have h' : p.1 ≤ k.pos.1 := this
                omega
              · cases hb' : c.heredoc with
                | none => simp [hb'] at hk
                | some b =>
                  obtain ⟨⟨x, y⟩, v⟩ := b
                  simp only [hb', Option.map_some, Option.some.injEq] at hk
                  subst hk
                  have := (hb x y v hb').1
                  show c.pos.1 ≤ x
                  omega
          · simp [isRW] at hr
        · intro k hk
          simp only [children, List.mem_append, Option.mem_toList] at hk
          rcases hk with hk | hk
          · exact hs'.2 k (by simp [children, hk])
          · cases hb' : c.heredoc with
            | none => simp [hb'] at hk
            | some b =>
              obtain ⟨⟨x, y⟩, v⟩ := b
              simp only [hb', Option.map_some, Option.some.injEq] at hk
              subst hk
              obtain ⟨_, h2, h3⟩ := hb x y v hb'
              exact strict_heredoc_leaf h2 h3
  · intro n _ _ hs _ _; exact hs

theorem strictL_resolve {len g : Nat} (st : List RedirCell) :
    (l : List Node) → (∀ c, c ∈ l → Strict len c ∧ EndsBy g c ∧ Done len g st c) →
    ∀ c, c ∈ resolveL st l → Strict len c := by
  intro l h c hc
  rw [resolveL_eq] at hc
  obtain ⟨c0, hc0, rfl⟩ := List.mem_map.mp hc
  exact strict_resolve st c0 (h c0 hc0).1 (h c0 hc0).2.1 (h c0 hc0).2.2

end Bashlex.C03
