/-
  C03, token source: the automatic walk `w_walk` through a program of the model monad
  with the invariant `W` at two levels of the cursor's lower bound: `W … k` ("low", the level a
  function is entered and left at) and `W … (k+1)` ("high", after a `_getc`).  `_ungetc` is only
  accepted at the high level: every `_ungetc` must be preceded, on every path, by a `_getc` with
  no other `_ungetc` in between -- the walk fails otherwise.
  (Same construction as `live_walk` of `Props/C11/Walk.lean`.)
-/
import Lean.Elab.Tactic
import Bashlex.Props.C03.TokInv
import Bashlex.Model.Tokenizer

namespace Bashlex.C03.Tok
open Bashlex Bashlex.M Bashlex.C10 Bashlex.C11

/-- where the program stands among the arguments of a triple `SatW`, `AtW` or `HT` -/
def progIdx? (fn : Lean.Expr) : Option Nat :=
  if fn.isConstOf ``SatW then some 3
  else if fn.isConstOf ``AtW then some 4
  else if fn.isConstOf ``HT then some 2
  else none

open Lean Elab Tactic Meta in
/-- split the `match` at the head of the program of a triple (or at the head of the first
    component of its top-level bind) -/
elab "split_headW" : tactic => do
  let goal ← getMainGoal
  let tgt ← whnfR (← instantiateMVars (← goal.getType))
  let args := tgt.getAppArgs
  let some idx := progIdx? tgt.getAppFn | throwError "split_headW: not a triple"
  let prog := args[idx]!
  let head := if prog.isAppOfArity ``Bind.bind 6 then prog.getAppArgs[4]! else prog
  if (← isMatcherApp head) then
    let gs ← Split.splitMatch goal head
    replaceMainGoal gs
  else throwError "split_headW: the head is not a match"

/-- side goals of a call of a join point: the facts about its arguments (extended later) -/
syntax "jp_side" : tactic
macro_rules | `(tactic| jp_side) => `(tactic| assumption)

open Lean Elab Tactic Meta in
/-- the facts a join point may assume of its arguments: if the context has a local definition
    `jpInv : Token → Prop := P`, every argument `x : Token` comes with `P x` -/
def jpArgFacts (xs : Array Expr) : MetaM (Array Expr) := do
  match (← getLCtx).findFromUserName? `jpInv with
  | some d =>
    match d.value? with
    | some P =>
      let mut hs := #[]
      for x in xs do
        if (← inferType x).isConstOf ``Token then hs := hs.push (mkApp P x).headBeta
      pure hs
    | none => pure #[]
  | none => pure #[]

open Lean Elab Tactic Meta in
/-- the program of a triple starts with a join point `have jp := v; b`: prove the triple for the
    join point once (first goal), then continue with `jp` abstract and the triple for every call
    of it as a hypothesis (second goal).  The join point may be called under another precondition
    than the one it is defined under (after an `_ungetc`, after a `set`): `jp_step low` states its
    triple as `SatW J J` for the postcondition `J` of a goal `SatW I J` or `AtW I J l0`, which
    serves every call (`SatW.drop1`, `AtW.ofSatW`), and fails if there is no function to state it
    for; the plain form states it with the goal's own precondition. -/
elab "jp_step" low:(&" low")? : tactic => do
  let goal ← getMainGoal
  goal.withContext do
    -- (`whnfR`: the goal may be stated with the abbreviation `WSat`; applying a rule to it instead
    -- would make the unifier substitute the join point at all its calls)
    let tgt ← whnfR (← instantiateMVars (← goal.getType))
    let fn := tgt.getAppFn
    let args := tgt.getAppArgs
    let some idx := progIdx? fn | throwError "jp_step: not a triple"
    let prog := args[idx]!
    -- the triple of a call of the join point
    if low.isSome && fn.isConstOf ``HT then throwError "jp_step low: not a `SatW` or `AtW` triple"
    let triple (call : Expr) : Expr :=
      if low.isSome then mkAppN (mkConst ``SatW) #[args[0]!, args[2]!, args[2]!, call, args[idx + 1]!]
      else mkAppN fn (args.set! idx call)
    match prog with
    | .letE n t v b _ =>
      if t.isForall then
        let keyTy ← forallTelescope t fun xs _ => do
          let hs ← jpArgFacts xs
          let body ← hs.foldrM (fun h acc => mkArrow h acc) (triple (mkAppN v xs).headBeta)
          mkForallFVars xs body
        let keyGoal ← mkFreshExprSyntheticOpaqueMVar keyTy
        let mainTy ← withLocalDeclD n t fun jp => do
          let hyTy ← forallTelescope t fun xs _ => do
            let hs ← jpArgFacts xs
            let body ← hs.foldrM (fun h acc => mkArrow h acc) (triple (mkAppN jp xs))
            mkForallFVars xs body
          withLocalDeclD `hjp hyTy fun hjp => do
            mkForallFVars #[jp, hjp] (mkAppN fn (args.set! idx (b.instantiate1 jp)))
        let mainGoal ← mkFreshExprSyntheticOpaqueMVar mainTy
        goal.assign (mkApp2 mainGoal v keyGoal)
        let (_, k) ← keyGoal.mvarId!.intros
        let (_, m) ← mainGoal.mvarId!.intros
        replaceMainGoal [k, m]
      else if low.isSome then throwError "jp_step low: not a function"
      else
        -- a plain value: substitute it
        let g ← goal.replaceTargetDefEq (mkAppN fn (args.set! idx (b.instantiate1 v)))
        replaceMainGoal [g]
    | .app .. =>
      if low.isSome then throwError "jp_step low: not a join point"
      let prog' := prog.headBeta
      if prog' == prog then throwError "jp_step: nothing to do"
      let g ← goal.replaceTargetDefEq (mkAppN fn (args.set! idx prog'))
      replaceMainGoal [g]
    | _ => throwError "jp_step: the program is not a `have`"

open Lean Elab Tactic Meta in
/-- close the goal by applying a hypothesis (a triple for a join point or a callee); facts about
    the arguments are discharged by `jp_side` -/
elab "use_hyp" : tactic => do
  let goal ← getMainGoal
  goal.withContext do
    let tgt ← instantiateMVars (← goal.getType)
    let fn := tgt.getAppFn
    let args := tgt.getAppArgs
    let some idx := progIdx? fn | throwError "use_hyp: not a triple"
    let head := args[idx]!.getAppFn
    unless head.isFVar do throwError "use_hyp: the program is not a call of a local function"
    for ldecl in (← getLCtx).decls.toList.reverse.filterMap id do
      if ldecl.isImplementationDetail then continue
      let ty ← instantiateMVars ldecl.type
      let concl := ty.getForallBody
      let cargs := concl.getAppArgs
      let some cidx := progIdx? concl.getAppFn | continue
      if cidx ≥ cargs.size then continue
      unless cargs[cidx]!.getAppFn == head do continue
      let s ← saveState
      try
        let gs ← goal.apply ldecl.toExpr
        let mut ok := true
        for g in gs do
          let r ← Lean.Elab.Tactic.run g (Lean.Elab.Tactic.withoutRecover (withTransparency .default (do evalTactic (← `(tactic| jp_side)))))
          unless r.isEmpty do ok := false
        if ok then
          replaceMainGoal []
          return
        else s.restore
      catch _ => s.restore
    throwError "use_hyp: no hypothesis applies"

/-- monotone in the level: the function keeps every lower bound `k < len(line)` of the cursor -/
abbrev WSat {α : Type} (L : Str) (sr : List RedirCell) (rk : List (Nat × Bool)) (ps : List Nat)
    (k : Nat) (m : M α) : Prop :=
  SatW (W L sr rk ps k) (W L sr rk ps k) m (fun _ => True)

/-- `W j → W k` for `k ≤ j` -/
macro "wmono" : tactic => `(tactic| (intro _ _ h; exact W.mono h (by omega)))

/-- drop from the high level to the low level -/
theorem SatW.drop1 {α : Type} {L : Str} {sr : List RedirCell} {rk : List (Nat × Bool)}
    {ps : List Nat} {k : Nat} {m : M α} {φ : α → Prop}
    (h : SatW (W L sr rk ps k) (W L sr rk ps k) m φ) :
    SatW (W L sr rk ps (k + 1)) (W L sr rk ps k) m φ :=
  SatW.pre h (fun _ _ h => h.mono (Nat.le_succ k))

theorem AtW.drop1 {α : Type} {L : Str} {sr : List RedirCell} {rk : List (Nat × Bool)}
    {ps : List Nat} {k : Nat} {l0 : Local} {m : M α} {φ : α → Prop}
    (h : AtW (W L sr rk ps k) (W L sr rk ps k) l0 m φ) :
    AtW (W L sr rk ps (k + 1)) (W L sr rk ps k) l0 m φ :=
  HT.pre h (fun _ _ h => ⟨h.1, h.2.mono (Nat.le_succ k)⟩)

/-- bind after a computation that keeps the current level -/
theorem SatW.bindSame {α β : Type} {I J : Local → Env → Prop} {m : M α} {f : α → M β}
    {ρ : β → Prop} (hm : SatW I I m (fun _ => True)) (hf : ∀ a, SatW I J (f a) ρ) :
    SatW I J (m >>= f) ρ := SatW.bindE hm hf

/-- known callees (extended after each lemma) -/
syntax "w_atom" : tactic
macro_rules | `(tactic| w_atom) => `(tactic| assumption)
set_option hygiene false in
macro_rules | `(tactic| w_atom) => `(tactic| exact hpmp _)
set_option hygiene false in
macro_rules | `(tactic| w_atom) => `(tactic| exact hpcs _)
set_option hygiene false in
macro_rules | `(tactic| w_atom) => `(tactic| exact hd _ _ _)
set_option hygiene false in
macro_rules | `(tactic| w_atom) => `(tactic| exact hpost _ _ _ _)
set_option hygiene false in
macro_rules | `(tactic| w_atom) => `(tactic| exact hcpost _ _ _)
macro_rules | `(tactic| w_atom) => `(tactic| exact getc_keep _)
macro_rules | `(tactic| w_atom) => `(tactic| exact w_curIdx)
macro_rules | `(tactic| w_atom) => `(tactic| exact w_tapeSource)
macro_rules | `(tactic| w_atom) => `(tactic| exact w_tapeLine)
macro_rules | `(tactic| w_atom) => `(tactic| exact w_tapeAdded)
macro_rules | `(tactic| w_atom) => `(tactic| exact w_optStrict)
macro_rules | `(tactic| w_atom) => `(tactic| exact w_optProceed)
macro_rules | `(tactic| w_atom) => `(tactic| exact w_syn _)
macro_rules | `(tactic| w_atom) => `(tactic| exact w_mpe _)
macro_rules | `(tactic| w_atom) => `(tactic| exact w_mpe_bind _)

theorem w_loopFuel {I : Local → Env → Prop} : SatW I I loopFuel (fun _ => True) :=
  SatW.pure (fun _ _ h => h) True.intro
theorem w_depthFuel {I : Local → Env → Prop} : SatW I I depthFuel (fun _ => True) :=
  SatW.pure (fun _ _ h => h) True.intro
macro_rules | `(tactic| w_atom) => `(tactic| exact w_loopFuel)
macro_rules | `(tactic| w_atom) => `(tactic| exact w_depthFuel)

/-- walk through a program: invariant `W` -/
syntax "w_walk" : tactic

/-- one step of the walk -/
macro "w_step" : tactic => `(tactic| first
  | (jp_step low; focus (w_walk; done))
  | jp_step
  | ((with_reducible refine SatW.pure ?_ True.intro); wmono)
  | ((with_reducible refine AtW.pure ?_ True.intro); wmono)
  | with_reducible refine SatW.ite (fun _ => ?_) (fun _ => ?_)
  | with_reducible refine AtW.ite (fun _ => ?_) (fun _ => ?_)
  | with_reducible refine AtW.ite_bind (fun _ => ?_) (fun _ => ?_)
  | with_reducible w_atom
  | with_reducible use_hyp
  | ((with_reducible refine SatW.drop1 ?_); with_reducible use_hyp)
  -- `_getc` at the low level: the continuation runs at the high level
  | with_reducible refine SatW.bindE (getc_up _ (by omega)) (fun _ => ?_)
  -- `_ungetc` at the high level: back to the low level
  | with_reducible refine SatW.bindE (ungetc_down _) (fun _ => ?_)
  | with_reducible exact ungetc_down _
  | with_reducible refine SatW.get_bind (fun _ => ?_)
  | ((with_reducible refine SatW.modifyT ?_); (intro _ _ h; first | exact h | exact W.mono h (by omega)))
  | ((with_reducible refine AtW.set_bind ?_ ?_); focus (intro _ h; exact h))
  | ((with_reducible refine AtW.setT ?_); (intro _ h; first | exact h | exact W.mono h (by omega)))
  | with_reducible exact AtW.foreign_bind
  | with_reducible exact AtW.foreign
  | with_reducible refine AtW.pure_bind ?_
  | split_headW
  | with_reducible refine AtW.ofSatW ?_
  | with_reducible exact SatW.raise
  | with_reducible exact SatW.foreign
  -- a known callee at the current level
  | ((with_reducible refine SatW.bindSame ?_ (fun _ => ?_)); focus (with_reducible w_atom; done))
  -- a known callee after dropping to the low level
  | ((with_reducible refine SatW.drop1 ?_); (with_reducible refine SatW.bindSame ?_ (fun _ => ?_));
     focus (with_reducible w_atom; done))
  | with_reducible refine SatW.loopT (fun _ => ?_) _ _
  | ((with_reducible refine SatW.drop1 ?_); with_reducible refine SatW.loopT (fun _ => ?_) _ _)
  | with_reducible refine SatW.bindSame ?_ (fun _ => ?_))

macro_rules | `(tactic| w_walk) => `(tactic| repeat' w_step)

end Bashlex.C03.Tok
