/-
  C03, token source: the invariant `W` of the tokenizer's state while one token is read
  (the line, the cursor inside the line with a LOWER BOUND `k`, an empty `_eol_ungetc_lookahead`
  slot, the position stack, the redirect store and queue), a two-invariant form `SatW I J` of the
  state-aware Hoare logic of `Props/C11/Hoare.lean` (invariant `I` before, `J` after), and the
  triples of the tape primitives.

  The cursor discipline (this is where the defects D31 / D32 live):
    * `_getc` never moves the cursor back; it moves it forward by at least one when it returns a
      character (by THREE or more when it skips `\<newline>` pairs), and leaves it at or beyond
      the end of the line when it returns `None`;
    * `_ungetc` moves the cursor back by exactly ONE (whatever `_getc` did before -- D31), also
      for `_ungetc(None)` at the end of the line (D32);
    * hence from `W k` with `k < len(line)`: `_getc` gives `W (k+1)` WHATEVER it returns, and
      `_ungetc` takes `W (k+1)` to `W k`.  The side condition `k < len(line)` is essential: at
      `k = len(line)` (cursor at the end) `_getc(); _ungetc(None)` moves the cursor from
      `len(line)` to `len(line) - 1` (D32), so "a `_getc`/`_ungetc` pair never moves the cursor
      back" is FALSE without it.

  Witnesses (checked with `#eval`, cursor after `do let c ← getc; ungetc c` from cursor `i`):
    * D32  line `ab⏎`, i = 3 (the end):  `_getc` gives `None` at 3, `_ungetc(None)` leaves 2;
    * D31  line `a\⏎b⏎`, i = 1:  `_getc` gives `b` at 4 (it skipped the pair), `_ungetc` leaves 3
           -- right for this pair, but a SECOND `_ungetc` (of the character read before) then
           lands inside the skipped pair: the tokens of `a<\⏎ b` are WORD (0,3) `a<\`,
           NEWLINE (3,4), WORD (5,6): the redirection operator is swallowed by the word;
           `a<\⏎` at the end of the input gives WORD (0,2) `a<` and EOF; `a;\` gives
           SEMICOLON (1,3).
  Formulations that FAIL: "the cursor after a token is the cursor before it plus the length of
  the token's text" (D31), "`_getc(); _ungetc(c)` restores the cursor" (D31: +2), "… never moves
  the cursor back" (D32 at the end of the line), "the cursor never passes below the end of the
  previous `_getc`" (D32).  What HOLDS and suffices for ordered spans: token starts are recorded
  right after a `_getc` that returned a character (start = cursor - 1 ≥ previous end, because the
  slot is empty and `_getc` moves forward), ends are the cursor, and `start < end` is asserted by
  `token.__init__`; the slot stays empty because no `_ungetc(c)` happens at cursor 0 or beyond
  the end (`W` at the two levels).
-/
import Bashlex.Props.C11.Tokens
import Bashlex.Props.C04.TTGetc

namespace Bashlex.C03.Tok
open Bashlex Bashlex.M Bashlex.C10 Bashlex.C11
set_option linter.unusedVariables false

/-- the tokenizer's state while a token is read: line `L`, cursor inside the line and at or after
    `k`, empty look-ahead slot, position stack `ps`, redirect store `sr`, queue `rk` -/
def W (L : Str) (sr : List RedirCell) (rk : List (Nat × Bool)) (ps : List Nat) (k : Nat)
    (l : Local) (e : Env) : Prop :=
  (tapeOf l e).line = L ∧ (tapeOf l e).idx ≤ L.length ∧ l.eolLookahead = none ∧
  l.positions = ps ∧ l.store = sr ∧ l.redirstack = rk ∧ k ≤ (tapeOf l e).idx

section
variable {L : Str} {sr : List RedirCell} {rk : List (Nat × Bool)} {ps : List Nat} {k : Nat}

theorem W.mono {j : Nat} {l : Local} {e : Env} (h : W L sr rk ps k l e) (hj : j ≤ k) :
    W L sr rk ps j l e := by
  obtain ⟨a1, a2, a3, a4, a5, a6, a7⟩ := h
  exact ⟨a1, a2, a3, a4, a5, a6, by omega⟩

theorem W.raise {j : Nat} {l : Local} {e : Env} (h : W L sr rk ps k l e)
    (hj : j ≤ (tapeOf l e).idx) : W L sr rk ps j l e := by
  obtain ⟨a1, a2, a3, a4, a5, a6, a7⟩ := h
  exact ⟨a1, a2, a3, a4, a5, a6, hj⟩

theorem W.env {l : Local} {e e' : Env} (h : W L sr rk ps k l e) (h1 : e'.tape = e.tape) :
    W L sr rk ps k l e' := by
  unfold W at h ⊢
  rw [tapeOf_env h1]; exact h

instance : EnvStable (W L sr rk ps k) := ⟨fun _ _ _ h h1 _ => h.env h1⟩

/-- the cursor is a lower bound of itself -/
theorem W.self {l : Local} {e : Env} (h : W L sr rk ps k l e) :
    W L sr rk ps (tapeOf l e).idx l e := by
  obtain ⟨a1, a2, a3, a4, a5, a6, a7⟩ := h
  exact ⟨a1, a2, a3, a4, a5, a6, Nat.le_refl _⟩

theorem W.pos_le {l : Local} {e : Env} (h : W L sr rk ps k l e) : k ≤ L.length := by
  obtain ⟨a1, a2, a3, a4, a5, a6, a7⟩ := h
  omega

end

/-! ## the two-invariant form of the logic -/

/-- from `I`: a normal return satisfies `φ` and leaves `J` -/
def SatW {α : Type} (I J : Local → Env → Prop) (m : M α) (φ : α → Prop) : Prop :=
  HT I m (fun a l e => φ a ∧ J l e) ET

/-- the same, knowing that the local state is `l0` -/
def AtW {α : Type} (I J : Local → Env → Prop) (l0 : Local) (m : M α) (φ : α → Prop) : Prop :=
  HT (fun l e => l = l0 ∧ I l e) m (fun a l e => φ a ∧ J l e) ET

theorem SatW_iff_satS {α : Type} {I J : Local → Env → Prop} {m : M α} {φ : α → Prop} :
    SatW I J m φ ↔ SatS m I (fun a l e => φ a ∧ J l e) := Iff.rfl

theorem AtW_iff_satS {α : Type} {I J : Local → Env → Prop} {l0 : Local} {m : M α} {φ : α → Prop} :
    AtW I J l0 m φ ↔ SatS m (fun l e => l = l0 ∧ I l e) (fun a l e => φ a ∧ J l e) := Iff.rfl

namespace SatW
variable {α β : Type} {I I' J : Local → Env → Prop} {φ ψ : α → Prop}

theorem pure {a : α} (hIJ : ∀ l e, I l e → J l e) (h : φ a) : SatW I J (Pure.pure a : M α) φ :=
  HT.pure (fun l e hi => ⟨h, hIJ l e hi⟩)

theorem raise {x : Exn} : SatW I J (M.raise x : M α) φ := HT.raise True.intro
theorem foreign {a b : String} : SatW I J (M.foreign a b : M α) φ := HT.raise True.intro

theorem bind {m : M α} {f : α → M β} {ρ : β → Prop} (hm : SatW I I' m φ)
    (hf : ∀ a, φ a → SatW I' J (f a) ρ) : SatW I J (m >>= f) ρ :=
  HT.bind hm (fun a => HT.pre_pure (fun ha => hf a ha))

theorem bindE {m : M α} {f : α → M β} {ρ : β → Prop} (hm : SatW I I' m (fun _ => True))
    (hf : ∀ a, SatW I' J (f a) ρ) : SatW I J (m >>= f) ρ :=
  bind hm (fun a _ => hf a)

theorem weaken {m : M α} (hm : SatW I J m φ) (h : ∀ a, φ a → ψ a) : SatW I J m ψ :=
  HT.post hm (fun a _ _ ha => ⟨h a ha.1, ha.2⟩)

theorem triv {m : M α} (hm : SatW I J m φ) : SatW I J m (fun _ => True) :=
  hm.weaken (fun _ _ => True.intro)

theorem pre {m : M α} (hm : SatW I J m φ) (h : ∀ l e, I' l e → I l e) : SatW I' J m φ :=
  HT.pre hm h

theorem post {J' : Local → Env → Prop} {m : M α} (hm : SatW I J m φ)
    (h : ∀ l e, J l e → J' l e) : SatW I J' m φ :=
  HT.post hm (fun a l e ha => ⟨ha.1, h l e ha.2⟩)

theorem ite {c : Prop} [Decidable c] {a b : M α} (ha : c → SatW I J a φ) (hb : ¬ c → SatW I J b φ) :
    SatW I J (if c then a else b) φ := HT.ite ha hb

theorem loop {σ : Type} {site : String} {body : σ → M (σ ⊕ α)} (K : σ → Prop)
    (hbody : ∀ s, K s → SatW I I (body s) (Sum.elim K φ)) :
    ∀ fuel s, K s → SatW I I (M.loop site body fuel s) φ := SatS.loop_keep K True.intro hbody

theorem loopT {σ : Type} {site : String} {body : σ → M (σ ⊕ α)}
    (hbody : ∀ s, SatW I I (body s) (fun _ => True)) (fuel : Nat) (s : σ) :
    SatW I I (M.loop site body fuel s) (fun _ => True) :=
  loop (K := fun _ => True)
    (fun s _ => (hbody s).weaken (fun r _ => by cases r <;> exact True.intro)) fuel s True.intro

theorem modifyT {f : Local → Local} (h : ∀ l e, I l e → J (f l) e) :
    SatW I J (_root_.modify f : M Unit) (fun _ => True) :=
  HT.modify (fun l e hi => ⟨True.intro, h l e hi⟩)

theorem get_bind {f : Local → M β} {ρ : β → Prop} (h : ∀ l0, AtW I J l0 (f l0) ρ) :
    SatW I J ((MonadState.get : M Local) >>= f) ρ := HT.get_bind h

/-- a computation that leaves the state alone -/
theorem reader {m : M α} (h : ∀ l e, ∃ a, M.run m l e = (.ok (a, l), e)) :
    SatW I I m (fun _ => True) := by
  intro l e hi
  obtain ⟨a, ha⟩ := h l e
  rw [ha]; exact ⟨True.intro, hi⟩

end SatW

namespace AtW
variable {α β : Type} {I J : Local → Env → Prop} {φ : α → Prop} {l0 : Local}

theorem pure {a : α} (hIJ : ∀ l e, I l e → J l e) (h : φ a) : AtW I J l0 (Pure.pure a : M α) φ :=
  HT.pure (fun l e hi => ⟨h, hIJ l e hi.2⟩)

theorem raise {x : Exn} : AtW I J l0 (M.raise x : M α) φ := HT.raise True.intro
theorem foreign {a b : String} : AtW I J l0 (M.foreign a b : M α) φ := HT.raise True.intro

theorem ite {c : Prop} [Decidable c] {a b : M α} (ha : c → AtW I J l0 a φ)
    (hb : ¬ c → AtW I J l0 b φ) : AtW I J l0 (if c then a else b) φ := HT.ite ha hb

theorem ofSatW {m : M α} (h : SatW I J m φ) : AtW I J l0 m φ := HT.pre h (fun _ _ hp => hp.2)

theorem set_bind {l1 : Local} {k : Unit → M β} {ρ : β → Prop} (h : ∀ e, I l0 e → I l1 e)
    (hk : SatW I J (k ()) ρ) : AtW I J l0 ((MonadStateOf.set l1 : M Unit) >>= k) ρ :=
  HT.set_bind h hk

theorem setT {l1 : Local} (h : ∀ e, I l0 e → J l1 e) :
    AtW I J l0 (MonadStateOf.set l1 : M Unit) (fun _ => True) :=
  HT.set_at (fun e hi => ⟨True.intro, h e hi⟩)

theorem ite_bind {c : Prop} [Decidable c] {a b : M α} {k : α → M β} {ρ : β → Prop}
    (ha : c → AtW I J l0 (a >>= k) ρ) (hb : ¬ c → AtW I J l0 (b >>= k) ρ) :
    AtW I J l0 ((if c then a else b) >>= k) ρ := HT.ite_bind ha hb

theorem foreign_bind {a b : String} {k : α → M β} {ρ : β → Prop} :
    AtW I J l0 ((M.foreign a b : M α) >>= k) ρ := HT.raise_bind True.intro

theorem pure_bind {a : α} {k : α → M β} {ρ : β → Prop} (h : AtW I J l0 (k a) ρ) :
    AtW I J l0 ((Pure.pure a : M α) >>= k) ρ := HT.pure_bind h

end AtW

/-! ## `Tape.getc` never moves back -/

theorem tape_getc_mono (rqn : Bool) : ∀ (fuel : Nat) (t : Tape) (c : Option Char) (t' : Tape),
    t.getc rqn fuel = .ok (c, t') →
      t.idx ≤ t'.idx ∧ ∀ ch, c = some ch → t.idx + 1 ≤ t'.idx ∧ t.line[t'.idx - 1]? = some ch := by
  intro fuel t c t' h
  obtain ⟨_, _, a3, _, a5, _⟩ := tape_getc_rel rqn fuel t c t' h
  exact ⟨a3, fun ch hch => ⟨(a5 ch hch).1, (a5 ch hch).2.1⟩⟩

section
variable {L : Str} {sr : List RedirCell} {rk : List (Nat × Bool)} {ps : List Nat} {k : Nat}

theorem W.put {l : Local} {e : Env} (h : W L sr rk ps k l e) {t' : Tape} {j : Nat}
    (h1 : t'.line = (tapeOf l e).line) (h2 : t'.idx ≤ L.length) (h3 : j ≤ t'.idx) :
    W L sr rk ps j (putL l t') (putE l e t') := by
  obtain ⟨a1, a2, a3, a4, a5, a6, a7⟩ := h
  unfold W
  rw [tapeOf_put, putL_eol, C11.putL_positions, putL_store, putL_redirstack]
  exact ⟨h1.trans a1, h2, a3, a4, a5, a6, h3⟩

/-- `W` is the exact-cursor invariant `TpS` with the cursor forgotten down to a lower bound -/
theorem W.iff_tps {l : Local} {e : Env} :
    W L sr rk ps k l e ↔ ∃ i, k ≤ i ∧ C05.TG.TpS L sr rk ps i l e := by
  constructor
  · rintro ⟨a1, a2, a3, a4, a5, a6, a7⟩
    exact ⟨_, a7, ⟨a1, rfl, a2, a3, a4⟩, a5, a6⟩
  · rintro ⟨i, hk, ⟨a1, a2, a3, a4, a5⟩, a6, a7⟩
    exact ⟨a1, by omega, a4, a5, a6, a7, by omega⟩

/-- a triple from every exact cursor at or after `k` is a triple from `W k` -/
theorem HT.of_w {α : Type} {m : M α} {Q : α → Local → Env → Prop}
    (h : ∀ i, k ≤ i → HT (C05.TG.TpS L sr rk ps i) m Q ET) : HT (W L sr rk ps k) m Q ET :=
  HT.pre (HT.pre_exists (fun i => HT.pre_pure (fun hk => h i hk))) (fun _ _ h => W.iff_tps.mp h)

/-- `_getc` with everything known about its result -/
theorem getc_w (rqn : Bool) :
    HT (W L sr rk ps k) (getc rqn)
      (fun c l e => W L sr rk ps k l e ∧
        (∀ ch, c = some ch → k + 1 ≤ (tapeOf l e).idx ∧ L[(tapeOf l e).idx - 1]? = some ch) ∧
        (c = none → L.length ≤ (tapeOf l e).idx)) ET :=
  HT.of_w (fun i hk => HT.post (C05.TG.getc_tps rqn) (fun c l e ⟨j, ⟨hg, _⟩, ht⟩ => by
    have hj : (tapeOf l e).idx = j := ht.1.2.1
    rw [hj]
    refine ⟨W.iff_tps.mpr ⟨j, Nat.le_trans hk hg.le, ht⟩, fun ch hch => ?_, fun hn => ?_⟩
    · obtain ⟨g1, g2, _⟩ := hg.char ch hch
      exact ⟨by omega, g2⟩
    · exact Nat.le_of_eq (hg.atEnd hn).1.symm))

/-- `_getc` keeps every lower bound -/
theorem getc_keep (rqn : Bool) :
    SatW (W L sr rk ps k) (W L sr rk ps k) (getc rqn) (fun _ => True) :=
  HT.post (getc_w rqn) (fun _ _ _ h => ⟨True.intro, h.1⟩)

/-- `_getc` below the end of the line raises the lower bound, whatever it returns -/
theorem getc_up (rqn : Bool) (hk : k + 1 ≤ L.length) :
    SatW (W L sr rk ps k) (W L sr rk ps (k + 1)) (getc rqn) (fun _ => True) := by
  refine HT.post (getc_w rqn) (fun c l e h => ⟨True.intro, h.1.self.mono ?_⟩)
  cases c with
  | none => have := h.2.2 rfl; omega
  | some ch => exact (h.2.1 ch rfl).1

/-- `_ungetc` above the lower bound moves the cursor back by one -/
theorem ungetc_down (c : Option Char) :
    SatW (W L sr rk ps (k + 1)) (W L sr rk ps k) (ungetc c) (fun _ => True) :=
  HT.of_w (fun i hi => HT.post (C05.TG.ungetc_tps c (by omega))
    (fun _ _ _ h => ⟨True.intro, W.iff_tps.mpr ⟨i - 1, by omega, h⟩⟩))

end

/-! ## accessors (any invariant) -/

section
variable {I : Local → Env → Prop}

theorem w_curIdx : SatW I I curIdx (fun _ => True) := SatW.reader (fun l e => ⟨_, run_curIdx l e⟩)
theorem w_tapeSource : SatW I I tapeSource (fun _ => True) :=
  SatW.reader (fun l e => ⟨_, run_tapeSource l e⟩)
theorem w_tapeLine : SatW I I tapeLine (fun _ => True) :=
  SatW.reader (fun l e => ⟨_, run_tapeLine l e⟩)
theorem w_tapeAdded : SatW I I tapeAdded (fun _ => True) :=
  SatW.reader (fun l e => ⟨_, run_tapeAdded l e⟩)
theorem w_optStrict : SatW I I optStrict (fun _ => True) :=
  SatW.reader (fun l e => ⟨_, run_optStrict l e⟩)
theorem w_optProceed : SatW I I optProceed (fun _ => True) := SatW.reader run_optProceed

theorem w_syn [EnvStable I] (c : Char) : SatW I I (syn c) (fun _ => True) := by
  intro l e hi
  obtain ⟨e', hr, h1, h2⟩ := run_syn c l e
  rw [hr]; exact ⟨True.intro, EnvStable.env l e e' hi h1 h2⟩

/-- `syn` with its value -/
theorem syn_val [EnvStable I] (c : Char) : SatW I I (syn c) (fun r => r = synClass c) := by
  intro l e hi
  obtain ⟨e', hr, h1, h2⟩ := run_syn c l e
  rw [hr]; exact ⟨rfl, EnvStable.env l e e' hi h1 h2⟩

/-- `MatchedPairError` always raises -/
theorem w_mpe {α : Type} {J : Local → Env → Prop} {φ : α → Prop} (close : Char) :
    SatW I J (matchedPairError close : M α) φ := by
  intro l e _
  have hrun : ∃ x, M.run (matchedPairError close : M α) l e = (.error x, e) := by
    unfold matchedPairError
    simp only [M.run_bind, run_tapeSource, run_curIdx, M.run_raise]
    exact ⟨_, rfl⟩
  obtain ⟨x, hx⟩ := hrun
  rw [hx]; exact True.intro

theorem w_mpe_bind {α β : Type} {J : Local → Env → Prop} {ρ : β → Prop} (close : Char)
    {k : α → M β} : SatW I J ((matchedPairError close : M α) >>= k) ρ := by
  refine HT.bind (Q := fun _ _ _ => False) ?_ (fun _ => HT.pre_false)
  intro l e _
  have hrun : ∃ x, M.run (matchedPairError close : M α) l e = (.error x, e) := by
    unfold matchedPairError
    simp only [M.run_bind, run_tapeSource, run_curIdx, M.run_raise]
    exact ⟨_, rfl⟩
  obtain ⟨x, hx⟩ := hrun
  rw [hx]; exact True.intro

end

end Bashlex.C03.Tok
