/-
  C03: the hypothesis on the token source (`TokSpans`), semantic values occupying
  intervals along the LR stack (`ValIn`, `Seg`), and the relation between the values on the stack
  and the redirect store (`Fresh`, `EntryOK`).
-/
import Bashlex.Props.C03.Chain
import Bashlex.Proofs.HoareS
import Bashlex.Proofs.ParserLift

namespace Bashlex.C03
open Bashlex Bashlex.Spec Bashlex.Node Bashlex.M
set_option linter.unusedVariables false

/-! ## the token source -/

/-- a WORD token is not empty (the delimiter of a here-document is the value of a WORD token; an
    empty delimiter would give an empty body span) -/
def WNE (t : Token) : Prop := t.ttype = some .WORD → t.valueStr ≠ []

/-- the (ghost) span `(a, b)` of a delivered token: non-empty; it is the token's recorded position
    unless the token is EOF (whose `pos` and value are `None`); it starts within the input.
    (Nothing is assumed about where a token *ends*: the NEWLINE the tokenizer appends ends at
    `len + 1`, and so does a word that swallowed a final backslash -- `a\` gives WORD (0,3) for
    `len = 2`.  That every token reaching a tree ends within the input follows from the
    look-ahead at the reduction, see `la_range`.) -/
def TokAt (len : Nat) (t : Token) (a b : Nat) : Prop :=
  a < b ∧ ((t.ttype = some .EOF ∧ t.value = .none) ∨ (t.pos = some (a, b) ∧ a ≤ len ∧ WNE t))

/-- how the tokenizer may change a cell of the redirect store (`makeheredoc`): it attaches the
    body once -- a non-empty span after the redirect, within the input -- and, when called from
    `p_simple_list` (`ext`), may extend the redirect's span to the right, which it does only for a
    redirect ending right before the tokenizer's frontier `f` -/
def CellStep (len f : Nat) (ext : Bool) (c c' : RedirCell) : Prop :=
  c' = c ∨ (c.heredoc = none ∧ ∃ x y v, c'.heredoc = some ((x, y), v) ∧
    c.pos.2 ≤ x ∧ x < y ∧ y ≤ len ∧
    (c'.pos = c.pos ∨ (ext = true ∧ c'.pos.1 = c.pos.1 ∧ c.pos.2 ≤ c'.pos.2 ∧ c'.pos.2 ≤ len ∧
      f ≤ c.pos.2 + 1)))

def StoreStep (len f : Nat) (ext : Bool) (st st' : List RedirCell) : Prop :=
  st'.length = st.length ∧
  ∀ (i : Nat) (c c' : RedirCell), st[i]? = some c → st'[i]? = some c' → CellStep len f ext c c'

theorem parserRun_succ (d : Nat) : parserRun (d + 1) = (do
    let res ← LR.run LR.realTables (lrHooks (npOf (parserRun d))) 1073741824
    let store := (← get).store
    match res with
    | .accepted (.node n) _ _ _ => pure (some (resolve store n))
    | _ => pure none) := rfl

/-- the state a parser object starts in, over the input `s` -/
def InitState (s : Str) (l : Local) (e : Env) : Prop :=
  l.store = [] ∧ l.redirstack = [] ∧ l.eolLookahead = none ∧ l.positions = [] ∧
  (l.tape = some (Tape.ofInput s) ∨ (l.tape = none ∧ e.tape = Tape.ofInput s))

theorem initState_nested (l : Local) (s : Str) (b : Bool) (e : Env) :
    InitState s (C16.nestedInit l s b) e :=
  ⟨rfl, rfl, rfl, rfl, Or.inl rfl⟩

/-- an exception of the nested parser over `rec` is one that `rec` raises from a fresh parser
    object -/
theorem npOf_exn_init {rec : M (Option Node)} {E : Exn → Prop} {s : Str} {b : Bool} {l : Local}
    {e e' : Env} {x : Exn} (hrec : SatS rec (InitState s) (fun _ _ _ => True) E)
    (hr : (npOf rec s b).run l e = (.error x, e')) : E x := by
  have h := hrec _ _ (initState_nested l s b e)
  rw [npOf_error hr] at h
  exact h

/-- **the hypothesis on the token source**, for every parser run (top-level and nested).
    `TI len f l e` is a ghost invariant of the tokenizer's state ("the parser object runs over an
    input of length `len`, and every token delivered so far ends at or before the frontier `f`").
    * `next`: `token()` delivers a token at or after the frontier (spans increasing, disjoint,
      non-empty, starting within the input), moves the frontier to its end, and never changes
      the `pos` of a redirect in the store (it may attach here-document bodies);
    * `gather`: `gatherheredocuments` called from `p_simple_list` attaches bodies and may extend
      redirects ending right before the frontier;
    * `queue`, `ps`: the parser's own writes to the parser object (queueing a here-document
      redirect that ends before the frontier, with a non-empty delimiter; parser-state flags)
      keep the invariant;
    * `nested`: a nested parser run leaves the outer tokenizer alone;
    * `init`: a fresh parser object satisfies it. -/
structure TokSpans (TI : Nat → Nat → Local → Env → Prop) : Prop where
  next : ∀ len f st, SatS nextToken (fun l e => TI len f l e ∧ l.store = st)
    (fun t l e => ∃ a b, f ≤ a ∧ TokAt len t a b ∧ TI len b l e ∧ StoreStep len f false st l.store)
  gather : ∀ len f st, SatS gatherheredocuments (fun l e => TI len f l e ∧ l.store = st)
    (fun _ l e => TI len f l e ∧ StoreStep len f true st l.store)
  queue : ∀ len f l e (cell : RedirCell) (kill : Bool), TI len f l e → cell.pos.2 < f →
    cell.heredoc = none → cell.delim ≠ [] →
    TI len f { l with store := l.store ++ [cell],
                      redirstack := l.redirstack ++ [(l.store.length, kill)] } e
  ps : ∀ len f l e (ps : PState), TI len f l e → TI len f { l with ps := ps } e
  nested : ∀ d len f st s b, SatS (npOf (parserRun d) s b)
    (fun l e => TI len f l e ∧ l.store = st) (fun _ l e => TI len f l e ∧ l.store = st)
  init : ∀ s l e, InitState s l e → TI s.length 0 l e

/-- the part of `TokSpans` the semantic actions (and word expansion) use: everything but `next`
    and `init`.  (Separated so that the action lemmas can be instantiated with a tokenizer
    invariant that also pins a ghost token log, which `next` extends: `Props/C05`.) -/
structure TokAct (TI : Nat → Nat → Local → Env → Prop) : Prop where
  gather : ∀ len f st, SatS gatherheredocuments (fun l e => TI len f l e ∧ l.store = st)
    (fun _ l e => TI len f l e ∧ StoreStep len f true st l.store)
  queue : ∀ len f l e (cell : RedirCell) (kill : Bool), TI len f l e → cell.pos.2 < f →
    cell.heredoc = none → cell.delim ≠ [] →
    TI len f { l with store := l.store ++ [cell],
                      redirstack := l.redirstack ++ [(l.store.length, kill)] } e
  ps : ∀ len f l e (ps : PState), TI len f l e → TI len f { l with ps := ps } e
  nested : ∀ d len f st s b, SatS (npOf (parserRun d) s b)
    (fun l e => TI len f l e ∧ l.store = st) (fun _ l e => TI len f l e ∧ l.store = st)

theorem TokSpans.act {TI : Nat → Nat → Local → Env → Prop} (h : TokSpans TI) : TokAct TI :=
  ⟨h.gather, h.queue, h.ps, h.nested⟩

/-- the state predicate the semantic actions maintain: tokenizer invariant at frontier `F`, and a
    known store -/
def StP (TI : Nat → Nat → Local → Env → Prop) (len F : Nat) (st : List RedirCell) :
    Local → Env → Prop :=
  fun l e => TI len F l e ∧ l.store = st

/-! ## semantic values along the stack -/

def nlSym : Nat := TokType.NEWLINE.sym
def eofSym : Nat := TokType.EOF.sym

theorem eofSym_eq : eofSym = 0 := rfl

/-- a token on the stack (entered under the grammar symbol `sym`) occupying `[f, g]` -/
def TokIn (len f sym : Nat) (t : Token) (g : Nat) : Prop :=
  f ≤ g ∧ ((sym = eofSym ∧ t.value = .none) ∨
    ∃ a b, t.pos = some (a, b) ∧ f ≤ a ∧ a < b ∧ b ≤ g ∧ WNE t)

def ValIn (len f : Nat) (x : Nat × SVal) (g : Nat) : Prop :=
  match x.2 with
  | .none => f ≤ g
  | .tok t => TokIn len f x.1 t g
  | .node n => NodeIn len f n g
  | .nodes l => l ≠ [] ∧ ListIn len f l g

theorem ValIn.le {len f g : Nat} {x : Nat × SVal} (h : ValIn len f x g) : f ≤ g := by
  obtain ⟨s, v⟩ := x
  cases v with
  | none => exact h
  | tok t => exact h.1
  | node n => exact NodeIn.le h
  | nodes l => exact ListIn.le h.2

theorem ValIn.mono {len f f' g g' : Nat} {x : Nat × SVal} (h : ValIn len f x g) (hf : f' ≤ f)
    (hg : g ≤ g') : ValIn len f' x g' := by
  obtain ⟨s, v⟩ := x
  cases v with
  | none => have : f ≤ g := h; show f' ≤ g'; omega
  | tok t =>
    obtain ⟨h1, h2⟩ := h
    refine ⟨by omega, ?_⟩
    rcases h2 with h2 | ⟨a, b, hp, ha, hab, hb, hw⟩
    · exact Or.inl h2
    · exact Or.inr ⟨a, b, hp, by omega, hab, by omega, hw⟩
  | node n => exact NodeIn.mono h hf hg
  | nodes l => exact ⟨h.1, ListIn.mono h.2 hf hg⟩

/-- the values of `xs` occupy consecutive intervals between `f` and `g` -/
def Seg (len : Nat) : Nat → List (Nat × SVal) → Nat → Prop
  | f, [], g => f ≤ g
  | f, x :: xs, g => ∃ m, ValIn len f x m ∧ Seg len m xs g

theorem Seg.le {len : Nat} : ∀ {xs : List (Nat × SVal)} {f g : Nat}, Seg len f xs g → f ≤ g
  | [], _, _, h => h
  | x :: xs, f, g, h => by
    obtain ⟨m, h1, h2⟩ := h
    have := h1.le
    have := Seg.le h2
    omega

theorem Seg.mono {len : Nat} : ∀ {xs : List (Nat × SVal)} {f f' g g' : Nat}, Seg len f xs g →
    f' ≤ f → g ≤ g' → Seg len f' xs g'
  | [], f, f', g, g', h, hf, hg => by
    have : f ≤ g := h
    show f' ≤ g'
    omega
  | x :: xs, f, f', g, g', h, hf, hg => by
    obtain ⟨m, h1, h2⟩ := h
    exact ⟨m, h1.mono hf (Nat.le_refl _), Seg.mono h2 (Nat.le_refl _) hg⟩

theorem Seg.append {len : Nat} : ∀ {a b : List (Nat × SVal)} {f m g : Nat}, Seg len f a m →
    Seg len m b g → Seg len f (a ++ b) g
  | [], b, f, m, g, ha, hb => by
    have : f ≤ m := ha
    exact Seg.mono hb this (Nat.le_refl _)
  | x :: xs, b, f, m, g, ha, hb => by
    obtain ⟨k, h1, h2⟩ := ha
    exact ⟨k, h1, Seg.append h2 hb⟩

theorem Seg.split {len : Nat} : ∀ {a b : List (Nat × SVal)} {f g : Nat}, Seg len f (a ++ b) g →
    ∃ m, Seg len f a m ∧ Seg len m b g
  | [], b, f, g, h => ⟨f, Nat.le_refl f, h⟩
  | x :: xs, b, f, g, h => by
    obtain ⟨k, h1, h2⟩ := h
    obtain ⟨m, h3, h4⟩ := Seg.split h2
    exact ⟨m, ⟨k, h1, h3⟩, h4⟩

theorem seg_single {len f g : Nat} {x : Nat × SVal} : Seg len f [x] g ↔ ValIn len f x g := by
  constructor
  · rintro ⟨m, h1, h2⟩
    have : m ≤ g := h2
    exact h1.mono (Nat.le_refl _) this
  · intro h
    exact ⟨g, h, Nat.le_refl g⟩

/-! ## values and the redirect store -/

def svNodes : SVal → List Node
  | .node n => [n]
  | .nodes l => l
  | _ => []

/-- the store cell of a pending redirect still holds the position the node was created with -/
def FreshN (len : Nat) (st : List RedirCell) (m : Node) : Prop :=
  ∀ id p, pendOf m = some (id, p) → ∃ c, st[id]? = some c ∧ c.pos = p ∧ BodyOK len p c.heredoc

def FreshT (len : Nat) (st : List RedirCell) (n : Node) : Prop := ∀ m ∈ n.preorder, FreshN len st m

def Fresh (len : Nat) (st : List RedirCell) (v : SVal) : Prop := ∀ n ∈ svNodes v, FreshT len st n

theorem freshT_iff {len : Nat} {st : List RedirCell} {n : Node} :
    FreshT len st n ↔ FreshN len st n ∧ ∀ c, c ∈ n.children → FreshT len st c :=
  Node.forall_preorder_iff

theorem freshT_mk {len : Nat} {st : List RedirCell} {n : Node} (h : pendOf n = none)
    (hc : ∀ c, c ∈ n.children → FreshT len st c) : FreshT len st n :=
  freshT_iff.mpr ⟨(by intro id p hp; rw [h] at hp; cases hp), hc⟩

/-- the current position of a node (`nodePos`) as a function of the store -/
def posIn (st : List RedirCell) : Node → Span
  | .redirect p _ _ _ _ _ (some id) => match st[id]? with | some c => c.pos | none => p
  | n => n.pos

theorem posIn_fresh {len : Nat} {st : List RedirCell} {n : Node} (h : FreshT len st n) :
    posIn st n = n.pos := by
  have h0 := h n (Node.self_mem_preorder n)
  cases n with
  | redirect p i t o oa hd hid =>
    cases hid with
    | none => rfl
    | some id =>
      obtain ⟨c, hc, hp, _⟩ := h0 id p rfl
      simp [posIn, hc, hp, Node.pos]
  | _ => rfl

theorem doneN_of_fresh {len g : Nat} {st : List RedirCell} {m : Node} (h : FreshN len st m)
    (hs : pendShape m) : DoneN len g st m := by
  intro id p hp
  obtain ⟨c, hc, hpos, hb⟩ := h id p hp
  refine ⟨hs, ?_⟩
  intro c' hc'
  rw [hc] at hc'
  cases hc'
  exact ⟨hb, Or.inl hpos⟩

theorem done_of_fresh {len g : Nat} {st : List RedirCell} {n : Node} (h : FreshT len st n)
    (hs : PendAll n) : Done len g st n :=
  fun m hm => doneN_of_fresh (h m hm) (hs m hm)

/-- a step of the tokenizer that does not extend redirects keeps values fresh -/
theorem freshN_step {len f : Nat} {st st' : List RedirCell} {m : Node}
    (hs : StoreStep len f false st st') (h : FreshN len st m) : FreshN len st' m := by
  intro id p hp
  obtain ⟨c, hc, hpos, hb⟩ := h id p hp
  have hlt : id < st'.length := by
    rw [hs.1]
    exact (List.getElem?_eq_some_iff.mp hc).1
  obtain ⟨c', hc'⟩ : ∃ c', st'[id]? = some c' := ⟨st'[id], List.getElem?_eq_getElem hlt⟩
  refine ⟨c', hc', ?_⟩
  rcases hs.2 id c c' hc hc' with rfl | ⟨hn, x, y, v, hh, h1, h2, h3, h4⟩
  · exact ⟨hpos, hb⟩
  · rcases h4 with h4 | h4
    · refine ⟨by rw [h4]; exact hpos, ?_⟩
      intro x' y' v' hx
      rw [hh] at hx
      cases hx
      rw [← hpos]
      exact ⟨h1, h2, h3⟩
    · cases h4.1

theorem fresh_step {len f : Nat} {st st' : List RedirCell} {v : SVal}
    (hs : StoreStep len f false st st') (h : Fresh len st v) : Fresh len st' v :=
  fun n hn m hm => freshN_step hs (h n hn m hm)

theorem freshN_append {len : Nat} {st : List RedirCell} {cell : RedirCell} {m : Node}
    (h : FreshN len st m) : FreshN len (st ++ [cell]) m := by
  intro id p hp
  obtain ⟨c, hc, hpos, hb⟩ := h id p hp
  refine ⟨c, ?_, hpos, hb⟩
  have hlt := (List.getElem?_eq_some_iff.mp hc).1
  rw [List.getElem?_append_left hlt]
  exact hc

theorem fresh_append {len : Nat} {st : List RedirCell} {cell : RedirCell} {v : SVal}
    (h : Fresh len st v) : Fresh len (st ++ [cell]) v :=
  fun n hn m hm => freshN_append (h n hn m hm)

/-- the `gatherheredocuments` of `p_simple_list`: fresh values become done values, for every `g`
    below the frontier -/
theorem doneN_gather {len f g : Nat} {st st' : List RedirCell} {m : Node}
    (hs : StoreStep len f true st st') (hg : g < f) (h : FreshN len st m) (hsh : pendShape m) :
    DoneN len g st' m := by
  intro id p hp
  obtain ⟨c, hc, hpos, hb⟩ := h id p hp
  refine ⟨hsh, ?_⟩
  intro c' hc'
  rcases hs.2 id c c' hc hc' with rfl | ⟨hn, x, y, v, hh, h1, h2, h3, h4⟩
  · exact ⟨hb, Or.inl hpos⟩
  · have hbody : BodyOK len p c'.heredoc := by
      intro x' y' v' hx
      rw [hh] at hx
      cases hx
      rw [← hpos]
      exact ⟨h1, h2, h3⟩
    refine ⟨hbody, ?_⟩
    rcases h4 with h4 | ⟨_, e1, e2, e3, e4⟩
    · left; rw [h4]; exact hpos
    · right
      rw [hpos] at e1 e2 e4
      exact ⟨by rw [hh]; rfl, e1, e2, e3, by omega⟩

/-- done values stay done under tokenizer steps that do not extend redirects -/
theorem doneN_step {len f g : Nat} {st st' : List RedirCell} {m : Node}
    (hs : StoreStep len f false st st') (h : DoneN len g st m)
    (hex : ∀ id p, pendOf m = some (id, p) → ∃ c, st[id]? = some c) : DoneN len g st' m := by
  intro id p hp
  obtain ⟨hsh, hcell⟩ := h id p hp
  refine ⟨hsh, ?_⟩
  intro c' hc'
  obtain ⟨c, hc⟩ := hex id p hp
  obtain ⟨hb, hpos⟩ := hcell c hc
  rcases hs.2 id c c' hc hc' with rfl | ⟨hn, x, y, v, hh, h1, h2, h3, h4⟩
  · exact ⟨hb, hpos⟩
  · rcases hpos with hpos | hpos
    · rcases h4 with h4 | h4
      · refine ⟨?_, Or.inl (by rw [h4]; exact hpos)⟩
        intro x' y' v' hx
        rw [hh] at hx
        cases hx
        rw [← hpos]
        exact ⟨h1, h2, h3⟩
      · cases h4.1
    · rw [hn] at hpos; cases hpos.1

/-- what the stack invariant says about one entry and the store: it is fresh, or it is the value
    of `simple_list` (computed after `p_simple_list` gathered the here-documents) -/
def slSym : Nat := Gen.termNames.length + (Gen.ntNames.idxOf "simple_list")

structure DoneV (len : Nat) (st : List RedirCell) (v : SVal) : Prop where
  ex : ∀ n ∈ svNodes v, ∀ m ∈ n.preorder, ∀ id p, pendOf m = some (id, p) → ∃ c, st[id]? = some c
  done : ∀ n ∈ svNodes v, ∃ g, EndsBy g n ∧ Done len g st n

def EntryOK (len : Nat) (st : List RedirCell) (x : Nat × SVal) : Prop :=
  Fresh len st x.2 ∨ (x.1 = slSym ∧ DoneV len st x.2)

end Bashlex.C03
