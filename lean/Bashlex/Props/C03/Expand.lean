/-
  C03: word expansion.  If the nested parser keeps its contract (`NPSpans`: it leaves the
  outer parser object alone and returns a fine tree whose root does not end in two newlines),
  `expandword` returns a word node at the token's span whose parts are non-empty, ordered,
  disjoint and inside the word, and whose nested nodes are fine and inside the word
  (`wordContract`).  Containment inside the word is what `_expandwordinternal`'s visitor asserts
  at run time (`foreign "AssertionError" "visitnode"`): a normal return implies it.

  The expansion functions are not walked here: `C07.k_expandword` says that the parts are those of
  a scan trace (`C07.Reach`) whose nested answers are `NestedOK`, in states satisfying what the
  nested parser keeps; what follows reads the span facts off the trace, by cases on what one
  iteration can emit (`C07.Visit`).
-/
import Bashlex.Props.C03.Run
import Bashlex.Props.C07.Trace

namespace Bashlex.C03
open Bashlex Bashlex.Spec Bashlex.Node Bashlex.M Bashlex.LR
set_option linter.unusedVariables false

/-! ## monotonicity in the input length, shifting -/

theorem LocOK.mono {L L' : Nat} {m : Node} (h : LocOK L m) (hl : L ≤ L') : LocOK L' m :=
  ⟨h.ne, Nat.le_trans h.rng hl, h.kne, h.kin, h.ord, h.fl, h.kst⟩

theorem Strict.mono {L L' : Nat} {n : Node} (h : Strict L n) (hl : L ≤ L') : Strict L' n := by
  intro m hm
  rcases h m hm with h1 | h1 | h1
  · exact Or.inl h1
  · exact Or.inr (Or.inl (h1.mono hl))
  · exact Or.inr (Or.inr ⟨h1.1, Nat.le_trans h1.2 hl⟩)

theorem pendOf_sh (k : Nat) (m : Node) : pendOf (mapPos (sh k) m) = none ↔ pendOf m = none := by
  cases m with
  | redirect p i t o oa hd hid => cases hid <;> simp [mapPos, pendOf]
  | _ => simp [mapPos, pendOf]

theorem noPend_shift {k : Nat} {n : Node} (h : NoPend n) : NoPend (n.shift k) := by
  intro m hm
  rw [shift_eq, Node.preorder_mapPos_eq] at hm
  obtain ⟨m0, hm0, rfl⟩ := List.mem_map.mp hm
  exact (pendOf_sh k m0).mpr (h m0 hm0)

theorem pos_shift (k : Nat) (n : Node) : (n.shift k).pos = (n.pos.1 + k, n.pos.2 + k) :=
  Node.pos_mapPos _ n

theorem tainted_shift (k : Nat) (n : Node) : tainted (n.shift k) = tainted n := tainted_sh k n

theorem backOverNewlines_le (string : Str) : ∀ endp, backOverNewlines string endp ≤ endp :=
  C01.backOverNewlines_le string

/-! ## parts of a word, with offsets relative to the token value -/

structure PartOK (p : Node) : Prop where
  strict : ∃ L, Strict L p
  nopend : NoPend p
  ne : p.pos.1 < p.pos.2

/-- the parts occupy consecutive intervals between `f` and `g` -/
def PChain : Nat → List Node → Nat → Prop
  | f, [], g => f ≤ g
  | f, p :: ps, g => f ≤ p.pos.1 ∧ PartOK p ∧ PChain p.pos.2 ps g

theorem PChain.le : ∀ {ps : List Node} {f g : Nat}, PChain f ps g → f ≤ g
  | [], _, _, h => h
  | p :: ps, f, g, h => by
    have := h.2.1.ne
    have := PChain.le h.2.2
    have := h.1
    omega

theorem PChain.mono : ∀ {ps : List Node} {f g g' : Nat}, PChain f ps g → g ≤ g' → PChain f ps g'
  | [], f, g, g', h, hg => by have : f ≤ g := h; show f ≤ g'; omega
  | p :: ps, f, g, g', h, hg => ⟨h.1, h.2.1, PChain.mono h.2.2 hg⟩

theorem PChain.snoc : ∀ {ps : List Node} {f m g : Nat} {p : Node}, PChain f ps m → m ≤ p.pos.1 →
    PartOK p → p.pos.2 ≤ g → PChain f (ps ++ [p]) g
  | [], f, m, g, p, h, hm, hp, hg => by
    have : f ≤ m := h
    exact ⟨by omega, hp, hg⟩
  | q :: qs, f, m, g, p, h, hm, hp, hg => ⟨h.1, h.2.1, PChain.snoc h.2.2 hm hp hg⟩

theorem PChain.facts : ∀ {ps : List Node} {f g : Nat}, PChain f ps g →
    ordered ps = true ∧ ∀ p ∈ ps, PartOK p ∧ f ≤ p.pos.1 ∧ p.pos.2 ≤ g
  | [], _, _, _ => ⟨rfl, by intro p hp; cases hp⟩
  | [p], f, g, h => by
    refine ⟨rfl, ?_⟩
    intro q hq; simp at hq; subst hq
    exact ⟨h.2.1, h.1, h.2.2⟩
  | p :: q :: rest, f, g, h => by
    have ih := PChain.facts h.2.2
    refine ⟨?_, ?_⟩
    · simp only [ordered, Bool.and_eq_true, decide_eq_true_eq]
      exact ⟨h.2.2.1, ih.1⟩
    · intro x hx
      rcases List.mem_cons.mp hx with rfl | hx
      · exact ⟨h.2.1, h.1, PChain.le h.2.2⟩
      · obtain ⟨h1, h2, h3⟩ := ih.2 x hx
        have := h.2.1.ne
        have := h.1
        exact ⟨h1, by omega, h3⟩

/-! ## building parts -/

theorem partOK_leaf {n : Node} (hch : n.children = []) (hsp : spansItsParts n = false)
    (hp : pendOf n = none) (hne : n.pos.1 < n.pos.2) : PartOK n := by
  refine ⟨⟨n.pos.2, ?_⟩, noPend_leaf hch hp, hne⟩
  exact strict_mk (Or.inr (Or.inl (locOK_leaf hch hsp hne (Nat.le_refl _))))
    (by rw [hch]; intro c hc; cases hc)

/-- a substitution node around a shifted nested root -/
theorem partOK_subst {P c : Node} {a b : Nat} (hch : P.children = [c]) (hpos : P.pos = (a, b))
    (hsp : spansItsParts P = false) (hpp : pendOf P = none)
    (hcs : ∃ L, Strict L c) (hcp : NoPend c) (hcr : tainted c = true ∨ c.pos.1 < c.pos.2)
    (hab : a < b) (h1 : a ≤ c.pos.1) (h2 : c.pos.2 ≤ b) : PartOK P := by
  obtain ⟨L, hL⟩ := hcs
  refine ⟨⟨max L b, ?_⟩, ?_, by rw [hpos]; exact hab⟩
  · have hkids : ∀ k, k ∈ P.children → Strict (max L b) k := by
      rw [hch]; intro k hk; simp at hk; subst hk; exact hL.mono (Nat.le_max_left _ _)
    cases ht : tainted P with
    | true => exact strict_mk (Or.inl ht) hkids
    | false =>
      have hct : tainted c = false := untainted_child (by rw [hch]; simp) ht
      have hcne : c.pos.1 < c.pos.2 := by
        rcases hcr with h | h
        · rw [h] at hct; cases hct
        · exact h
      exact strict_mk (Or.inr (Or.inl (locOK_single hch hpos hsp hab (Nat.le_max_right _ _) hcne h1 h2)))
        hkids
  · rw [noPend_iff, hch]
    exact ⟨hpp, by intro k hk; simp at hk; subst hk; exact hcp⟩

/-! ## what one iteration of the scan emits -/

/-- the answers of C03's nested parser -/
abbrev RN : Str → Bool → Node → Prop := fun s _ n => NestedOK s n

/-- a substitution node `(a, e + 1)` around what `_parsedolparen` returned for offset `s`: the
    shifted root ends at or before `e + 1` because it does not end in two newlines
    (`RootEndOK`: `_parsedolparen` steps back over newlines before the end it reports) -/
theorem partOK_of_dol {v : Str} {s e a : Nat} {node P : Node} (h : C07.DolParen RN v s node e)
    (hch : P.children = [node]) (hpos : P.pos = (a, e + 1)) (hsp : spansItsParts P = false)
    (hpp : pendOf P = none) (ha : a ≤ s) : PartOK P := by
  cases h with
  | mk n hR hfit hlt =>
    have hl : n.pos.2 < (v.drop s).length := by rw [List.length_drop]; omega
    have hend : n.pos.2 ≤ C07.dolEnd (v.drop s) n.pos.2 + 1 := by
      by_cases hc : (v.drop s)[n.pos.2]? = some ')'
      · rw [C07.dolEnd_tight hc]; omega
      · rw [C07.dolEnd_loose hc]
        exact hR.2 _ (List.getElem?_eq_getElem hl)
          (fun h' => hc (by rw [List.getElem?_eq_getElem hl, h']))
    have hpos' : (n.shift s).pos = (n.pos.1 + s, n.pos.2 + s) := pos_shift _ _
    refine partOK_subst hch hpos hsp hpp ⟨_, strict_shift_top hR.1.strict (Nat.le_refl _)⟩
      (noPend_shift hR.1.nopend) ?_ (by omega) ?_ ?_
    · rw [tainted_shift, hpos']
      rcases hR.1.root with h | h
      · exact Or.inl h
      · right; show n.pos.1 + s < n.pos.2 + s; omega
    · rw [hpos']; show a ≤ n.pos.1 + s; omega
    · rw [hpos']; show n.pos.2 + s ≤ s + C07.dolEnd (v.drop s) n.pos.2 + 1; omega

theorem slice_length_le (s : Str) (a b : Nat) : (Str.slice s a b).length ≤ b - a := by
  unfold Str.slice
  rw [List.length_drop, List.length_take]
  omega

/-- every part the scan emits is a fine part -/
theorem partOK_of_visit {v : Str} {q : Bool} {i i' : Nat} {fl fl' : WordFlags} {p : Node}
    (h : C07.Visit RN v q i fl (some p) i' fl') : PartOK p := by
  cases h with
  | procsub ho h => exact partOK_of_dol h rfl rfl rfl rfl (by omega)
  | comsub ho hna h => exact partOK_of_dol h rfl rfl rfl rfl (by omega)
  | backquote ho hx hR hfit0 hfit =>
    rename_i x n
    obtain ⟨_, hxge, hxlt, _⟩ := C07.stringextract_first hx
    have hnlen : n.pos.2 ≤ x - (i + 1) := by
      have := hfit0 n (Node.self_mem_preorder n)
      have := slice_length_le v (i + 1) x
      omega
    have hpos : (n.shift (i + 1)).pos = (n.pos.1 + (i + 1), n.pos.2 + (i + 1)) := pos_shift _ _
    refine partOK_subst (c := n.shift (i + 1)) rfl rfl rfl rfl
      ⟨_, strict_shift_top hR.1.strict (Nat.le_refl _)⟩ (noPend_shift hR.1.nopend) ?_ (by omega)
      ?_ ?_
    · rw [tainted_shift, hpos]
      rcases hR.1.root with h | h
      · exact Or.inl h
      · right; show n.pos.1 + (i + 1) < n.pos.2 + (i + 1); omega
    · rw [hpos]; show i ≤ n.pos.1 + (i + 1); omega
    · rw [hpos]; show n.pos.2 + (i + 1) ≤ x + 1; omega
  | plain h =>
    obtain ⟨_, hlt, _, hp, _⟩ := C07.plainStep_spec h
    obtain ⟨hpos, hk⟩ := hp p rfl
    have hne : p.pos.1 < p.pos.2 := by rw [hpos]; exact hlt
    cases p with
    | parameter => exact partOK_leaf rfl rfl rfl hne
    | tilde => exact partOK_leaf rfl rfl rfl hne
    | _ => cases hk

/-- the parts of a trace are chained up to the cursor -/
theorem pchain_of_reach {v : Str} {q : Bool} {fl0 fl : WordFlags} {i : Nat}
    {tr : List (Nat × Option Node)} (h : C07.Reach RN v q fl0 i fl tr) :
    PChain 0 (C07.partsOf tr) i := by
  induction h with
  | start => exact Nat.le_refl 0
  | @step i fl tr out i' fl' _ hv ih =>
    obtain ⟨_, hlt, _, hpos⟩ := hv.spec
    rw [C07.partsOf_snoc]
    cases out with
    | none => simpa using ih.mono (Nat.le_of_lt hlt)
    | some p =>
      have hp := hpos p rfl
      exact PChain.snoc ih (by rw [hp]; exact Nat.le_refl _) (partOK_of_visit hv)
        (by rw [hp]; exact Nat.le_refl _)

section
variable {TI : Nat → Nat → Local → Env → Prop} {len F : Nat} {st : List RedirCell}

local notation "PP" => StP TI len F st

/-! ## `_expandwordinternal`, `_expandword` -/

theorem ordered_cons {x : Node} {l : List Node} :
    ordered (x :: l) = true ↔ (∀ y, l.head? = some y → x.pos.2 ≤ y.pos.1) ∧ ordered l = true := by
  cases l with
  | nil => simp [ordered]
  | cons y ys => simp [ordered]

theorem ordered_head_le : ∀ {l : List Node} {x : Node}, ordered (x :: l) = true →
    (∀ p ∈ x :: l, p.pos.1 < p.pos.2) → ∀ p ∈ l, x.pos.2 ≤ p.pos.1
  | [], _, _, _ => by intro p hp; cases hp
  | y :: ys, x, ho, hne => by
    simp only [ordered, Bool.and_eq_true, decide_eq_true_eq] at ho
    intro p hp
    rcases List.mem_cons.mp hp with rfl | hp
    · exact ho.1
    · have := ordered_head_le (l := ys) (x := y) ho.2
        (fun q hq => hne q (List.mem_cons_of_mem _ hq)) p hp
      have := hne y (List.mem_cons_of_mem _ List.mem_cons_self)
      omega

theorem ordered_filter (f : Node → Bool) : ∀ {l : List Node}, ordered l = true →
    (∀ p ∈ l, p.pos.1 < p.pos.2) → ordered (l.filter f) = true
  | [], _, _ => rfl
  | x :: xs, ho, hne => by
    have ih := ordered_filter f (l := xs) (ordered_cons.mp ho).2
      (fun p hp => hne p (List.mem_cons_of_mem _ hp))
    rw [List.filter_cons]
    split
    · rw [ordered_cons]
      refine ⟨?_, ih⟩
      intro y hy
      have hy' : y ∈ xs.filter f := List.mem_of_mem_head? hy
      exact ordered_head_le ho hne y (List.mem_filter.mp hy').1
    · exact ih

/-- the parts of a word after the shift by the token's start -/
structure ShiftedOK (len a b : Nat) (Q : List Node) : Prop where
  ord : ordered Q = true
  each : ∀ p ∈ Q, p.pos.1 < p.pos.2 ∧ a ≤ p.pos.1 ∧ p.pos.2 ≤ b ∧ Strict len p ∧ EndsBy b p ∧ NoPend p

theorem ShiftedOK.filter {len a b : Nat} {Q : List Node} (h : ShiftedOK len a b Q) (f : Node → Bool) :
    ShiftedOK len a b (Q.filter f) :=
  ⟨ordered_filter f h.ord (fun p hp => (h.each p hp).1),
   fun p hp => h.each p (List.mem_filter.mp hp).1⟩

theorem shiftedOK_nil {len a b : Nat} : ShiftedOK len a b [] :=
  ⟨rfl, by intro p hp; cases hp⟩

/-- the word node over fine parts -/
theorem word_of_parts {len a b : Nat} {s : Str} {Q : List Node} (h : ShiftedOK len a b Q)
    (hab : a < b) (hbl : b ≤ len) :
    NodeIn len a (.word (a, b) s Q) b ∧ NoPend (.word (a, b) s Q) := by
  have hnp : NoPend (.word (a, b) s Q) := by
    rw [noPend_iff]
    exact ⟨rfl, fun c hc => (h.each c (by simpa [children] using hc)).2.2.2.2.2⟩
  refine ⟨⟨?_, ?_, Nat.le_of_lt hab, Or.inr ⟨Nat.le_refl _, hab⟩, hnp.pendAll, by omega,
    noPend_sealedAll _ hnp⟩, hnp⟩
  · have hkids : ∀ c, c ∈ (Node.word (a, b) s Q).children → Strict len c :=
      fun c hc => (h.each c (by simpa [children] using hc)).2.2.2.1
    cases ht : tainted (.word (a, b) s Q) with
    | true => exact strict_mk (Or.inl ht) hkids
    | false =>
      refine strict_mk (Or.inr (Or.inl ⟨hab, hbl, ?_, ?_, h.ord, ?_, ?_⟩)) hkids
      · intro c hc; exact (h.each c (by simpa [children] using hc)).1
      · intro c hc _
        have := h.each c (by simpa [children] using hc)
        exact ⟨this.2.1, Or.inl this.2.2.1⟩
      · intro hh; simp [spansItsParts] at hh
      · intro c hc; exact (h.each c (by simpa [children] using hc)).2.1
  · rw [endsBy_iff]
    exact ⟨Nat.le_refl _, fun c hc => (h.each c (by simpa [children] using hc)).2.2.2.2.1⟩

/-- what `_expandwordinternal` returns: parts chained in the token value, shifted by the token's
    start, every node of every part ending within the token (the visitor's assertion) -/
def IntOK (tok : Token) (r : List Node × Str) : Prop :=
  ∃ ps g, PChain 0 ps g ∧ r.1 = ps.map (·.shift tok.lexpos) ∧
    ∀ p ∈ ps, ∀ m ∈ p.preorder, m.pos.2 + tok.lexpos ≤ tok.endlexpos

theorem intOK_of_wordSpec {tok : Token} {q : Bool} {parts : List Node} {s : Str}
    (h : C07.WordSpec RN tok.valueStr q tok.flags tok.lexpos tok.endlexpos parts) :
    IntOK tok (parts, s) := by
  rcases h with ⟨_, rfl⟩ | ⟨fl, tr, hr, hfit, rfl⟩
  · exact ⟨[], 0, Nat.le_refl 0, rfl, fun p hp => by cases hp⟩
  · exact ⟨_, _, pchain_of_reach hr, rfl, hfit⟩

theorem keeps_expandwordinternal {np : NestedParse} (hnp : NPSpans TI np) (tok : Token) (qd : Bool) :
    Keeps PP (expandwordinternal np tok qd) (IntOK tok) :=
  (C07.k_expandwordinternal (R := RN) (fun s b => hnp s b len F st) tok qd).weaken
    (fun _ h => intOK_of_wordSpec h)

theorem shiftedOK_of_int {tok : Token} {r : List Node × Str} {a b : Nat} (h : IntOK tok r)
    (hp : tok.pos = some (a, b)) (hbl : b ≤ len) : ShiftedOK len a b r.1 := by
  obtain ⟨ps, g, hch, hr, hass⟩ := h
  obtain ⟨hlx, hle⟩ := tok_lexspan hp
  rw [hlx, hle] at hass
  rw [hr, hlx]
  obtain ⟨hord, hfacts⟩ := hch.facts
  refine ⟨?_, ?_⟩
  · have : ps.map (fun x => x.shift a) = ps.map (mapPos (sh a)) := rfl
    rw [this, ordered_sh]; exact hord
  · intro q hq
    obtain ⟨p, hpm, rfl⟩ := List.mem_map.mp hq
    obtain ⟨hpo, _, _⟩ := hfacts p hpm
    have hpa := hass p hpm
    obtain ⟨L, hL⟩ := hpo.strict
    rw [pos_shift]
    refine ⟨by show p.pos.1 + a < p.pos.2 + a; have := hpo.ne; omega, Nat.le_add_left _ _,
      hpa p (Node.self_mem_preorder p), ?_, ?_, noPend_shift hpo.nopend⟩
    · exact strict_sh hL (fun m hm _ => Nat.le_trans (hpa m hm) hbl)
    · intro m hm
      rw [shift_eq, Node.preorder_mapPos_eq] at hm
      obtain ⟨m0, hm0, rfl⟩ := List.mem_map.mp hm
      rw [pos_mapPos]
      exact hpa m0 hm0

/-- **the contract of word expansion**: if the nested parser keeps its contract, `expandword`
    returns a word node at the token's span that is fine, lies within the token, and holds no
    pending redirect -/
theorem wordContract_act : WordContract TI := by
  intro np hnp len F st tok
  refine (C07.k_expandword (R := RN) (fun s b => hnp s b len F st) tok).weaken ?_
  rintro w ⟨ex, parts, rfl, h⟩
  refine ⟨⟨_, _, rfl⟩, fun a b hp hab hbl => ?_⟩
  obtain ⟨hlx, hle⟩ := tok_lexspan hp
  rw [hlx, hle]
  rcases h with rfl | ⟨full, hfull, h1 | h1⟩
  · exact word_of_parts shiftedOK_nil hab hbl
  · rw [h1]
    exact word_of_parts (shiftedOK_of_int (r := (full, ex)) (intOK_of_wordSpec hfull) hp hbl) hab hbl
  · rw [h1]
    exact word_of_parts ((shiftedOK_of_int (r := (full, ex)) (intOK_of_wordSpec hfull) hp
      hbl).filter _) hab hbl


theorem wordContract (hT : TokSpans TI) : WordContract TI := wordContract_act

end
end Bashlex.C03
