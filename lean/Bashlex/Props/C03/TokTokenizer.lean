/-
  C03, token source: the walk through `Model/Tokenizer.lean` below `_readtoken`: every
  function keeps the invariant `W` at every lower bound `k < len(line)` of the cursor -- in
  particular the `_eol_ungetc_lookahead` slot stays empty (no `_ungetc` at cursor 0 or beyond the
  end of the line), and the redirect store and queue are not touched.
-/
import Bashlex.Props.C03.TokWalk
import Bashlex.Proofs.ClosedTok

namespace Bashlex.C03.Tok
open Bashlex Bashlex.M Bashlex.C10 Bashlex.C11

variable {L : Str} {sr : List RedirCell} {rk : List (Nat × Bool)} {ps : List Nat} {k : Nat}

/-! ### what does not move the tape

The functions that are built from readers of tape and syntax table and from their callees alone
keep every invariant the environment's answers keep: the generic walk at the tier `Builds`. -/

theorem SatW.builds {I : Local → Env → Prop} [EnvStable I] :
    Builds tokSite (fun {α} (m : M α) => SatW I I m (fun _ => True)) where
  pure _ := SatW.pure (fun _ _ h => h) True.intro
  bind hm hf := SatW.bindE hm hf
  raise _ := SatW.raise
  syn c := w_syn c
  curIdx := w_curIdx
  tapeSource := w_tapeSource
  tapeLine := w_tapeLine
  tapeAdded := w_tapeAdded

/-- the tier at the invariant `W` -/
theorem wB : Builds tokSite (fun {α} (m : M α) => WSat L sr rk ps k m) := SatW.builds

theorem w_shellmeta (c : Char) : WSat L sr rk ps k (shellmeta c) := wk_shellmeta wB c
theorem w_shellquote (c : Char) : WSat L sr rk ps k (shellquote c) := wk_shellquote wB c
theorem w_shellexp (c : Char) : WSat L sr rk ps k (shellexp c) := wk_shellexp wB c
theorem w_shellbreak (c : Char) : WSat L sr rk ps k (shellbreak c) := wk_shellbreak wB c
macro_rules | `(tactic| w_atom) => `(tactic| exact w_shellmeta _)
macro_rules | `(tactic| w_atom) => `(tactic| exact w_shellquote _)
macro_rules | `(tactic| w_atom) => `(tactic| exact w_shellexp _)
macro_rules | `(tactic| w_atom) => `(tactic| exact w_shellbreak _)

/-- `_peekc`: the `_ungetc` follows a `_getc` that delivered a character, which moved the cursor;
    after `None` the cursor is at the end -/
theorem peekc_w (rqn : Bool) :
    HT (W L sr rk ps k) (peekc rqn)
      (fun p l e => W L sr rk ps k l e ∧ (p = none → L.length ≤ (tapeOf l e).idx)) ET := by
  unfold peekc
  refine HT.bind (getc_w rqn) (fun c => ?_)
  cases c with
  | none =>
    refine HT.ite (fun h => by cases h) (fun _ => ?_)
    exact HT.pure (fun l e h => ⟨h.1, fun _ => h.2.2 rfl⟩)
  | some ch =>
    refine HT.ite (fun _ => ?_) (fun h => absurd rfl h)
    refine HT.pre (P := W L sr rk ps (k + 1)) ?_ (fun l e h => W.raise h.1 (h.2.1 ch rfl).1)
    refine HT.bind (ungetc_down _) (fun _ => HT.pre_pure (fun _ => ?_))
    exact HT.pure (fun l e h => ⟨h, fun h' => by cases h'⟩)

set_option linter.unusedVariables false in
theorem w_peekc (hk : k < L.length) (rqn : Bool) : WSat L sr rk ps k (peekc rqn) :=
  HT.post (peekc_w rqn) (fun _ _ _ h => ⟨True.intro, h.1⟩)
macro_rules | `(tactic| w_atom) => `(tactic| exact w_peekc (by omega) _)

/-- `readline(False)` (the only call: `makeheredoc`) never calls `_ungetc` -/
theorem w_readline_false : WSat L sr rk ps k (readline false) := by
  unfold readline; simp only [Bool.and_false, Bool.false_eq_true, if_false]; w_walk
macro_rules | `(tactic| w_atom) => `(tactic| exact w_readline_false)

/-! ### `_parse_matched_pair`, `_parse_comsub` -/

theorem w_pushDelimiter (c : Char) : WSat L sr rk ps k (pushDelimiter c) := by unfold pushDelimiter; w_walk
theorem w_popDelimiter : WSat L sr rk ps k popDelimiter := by unfold popDelimiter; w_walk
theorem w_currentDelimiter : WSat L sr rk ps k currentDelimiter := by unfold currentDelimiter; w_walk
macro_rules | `(tactic| w_atom) => `(tactic| exact w_pushDelimiter _)
macro_rules | `(tactic| w_atom) => `(tactic| exact w_popDelimiter)
macro_rules | `(tactic| w_atom) => `(tactic| exact w_currentDelimiter)

theorem wD : DelimAtoms (fun {α} (m : M α) => WSat L sr rk ps k m) :=
  ⟨w_pushDelimiter, w_popDelimiter⟩

theorem w_mpInit (P : MPParams) : WSat L sr rk ps k (mpInit P) := wk_mpInit wB SatW.foreign P
macro_rules | `(tactic| w_atom) => `(tactic| exact w_mpInit _)

theorem w_mpPre (hk : k < L.length) (P : MPParams) (lfc : Bool) (st : MPState) :
    WSat L sr rk ps k (mpPre P lfc st) := by
  rw [mpPre_eq]; w_walk
macro_rules | `(tactic| w_atom) => `(tactic| exact w_mpPre (by omega) _ _ _)

theorem w_handledollarword {pmp : MPParams → M Str} {pcs : CSParams → M Str}
    (hpmp : ∀ P, WSat L sr rk ps k (pmp P)) (hpcs : ∀ P, WSat L sr rk ps k (pcs P)) (P : MPParams)
    (rdquote : Bool) (c : Char) : WSat L sr rk ps k (handledollarword pmp pcs P rdquote c) :=
  wk_handledollarword wB SatW.foreign SatW.foreign hpmp hpcs P rdquote c

theorem w_mpPost {pmp : MPParams → M Str} {pcs : CSParams → M Str}
    (hpmp : ∀ P, WSat L sr rk ps k (pmp P)) (hpcs : ∀ P, WSat L sr rk ps k (pcs P)) (P : MPParams)
    (rdquote : Bool) (st : MPState) (c : Char) : WSat L sr rk ps k (mpPost pmp pcs P rdquote st c) :=
  wk_mpPost wB wD (w_handledollarword hpmp hpcs) hpmp P rdquote st c

theorem w_csDelimMatches (st : CSState) : WSat L sr rk ps k (csDelimMatches st) :=
  wk_csDelimMatches wB SatW.foreign st
macro_rules | `(tactic| w_atom) => `(tactic| exact w_csDelimMatches _)

theorem w_csA (hk : k < L.length) (P : CSParams) (st : CSState) : WSat L sr rk ps k (csA P st) := by
  unfold csA; w_walk
theorem w_csB (hk : k < L.length) (b : Bool) (st : CSState) (c : Char) :
    WSat L sr rk ps k (csB b st c) := by
  unfold csB; w_walk
theorem w_csC (hk : k < L.length) (P : CSParams) (b : Bool) (st : CSState) (c : Char) :
    WSat L sr rk ps k (csC P b st c) := by
  unfold csC; w_walk
theorem w_csD (P : CSParams) (st : CSState) (c : Char) : WSat L sr rk ps k (csD P st c) :=
  wk_csD wB P st c
macro_rules | `(tactic| w_atom) => `(tactic| exact w_csA (by omega) _ _)
macro_rules | `(tactic| w_atom) => `(tactic| exact w_csB (by omega) _ _ _)
macro_rules | `(tactic| w_atom) => `(tactic| exact w_csC (by omega) _ _ _ _)
macro_rules | `(tactic| w_atom) => `(tactic| exact w_csD _ _ _)

theorem w_csPre (hk : k < L.length) (P : CSParams) (b : Bool) (st : CSState) :
    WSat L sr rk ps k (csPre P b st) :=
  wk_csPre wB (w_csA hk) (w_csB hk) (w_csC hk) P b st
macro_rules | `(tactic| w_atom) => `(tactic| exact w_csPre (by omega) _ _ _)

theorem w_csPost {pmp : MPParams → M Str} {pcs : CSParams → M Str}
    (hpmp : ∀ P, WSat L sr rk ps k (pmp P)) (hpcs : ∀ P, WSat L sr rk ps k (pcs P)) (P : CSParams)
    (st : CSState) (c : Char) : WSat L sr rk ps k (csPost pmp pcs P st c) :=
  wk_csPost wB wD hpmp hpcs P st c

/-- the two mutually recursive scanners, by induction on the depth fuel -/
theorem w_pmp_pcs (hk : k < L.length) : ∀ fuel,
    (∀ P, WSat L sr rk ps k (parseMatchedPair fuel P)) ∧
    (∀ P, WSat L sr rk ps k (parseComsub fuel P)) := by
  intro fuel
  induction fuel with
  | zero =>
    refine ⟨fun P => ?_, fun P => ?_⟩
    · unfold parseMatchedPair; w_walk
    · unfold parseComsub; w_walk
  | succ fuel ih =>
    obtain ⟨hpmp, hpcs⟩ := ih
    have hpost := w_mpPost hpmp hpcs
    have hcpost := w_csPost hpmp hpcs
    refine ⟨fun P => ?_, fun P => ?_⟩
    · unfold parseMatchedPair; w_walk
    · unfold parseComsub; w_walk

theorem w_parseMatchedPair (hk : k < L.length) (fuel : Nat) (P : MPParams) :
    WSat L sr rk ps k (parseMatchedPair fuel P) := (w_pmp_pcs hk fuel).1 P
theorem w_parseComsub (hk : k < L.length) (fuel : Nat) (P : CSParams) :
    WSat L sr rk ps k (parseComsub fuel P) := (w_pmp_pcs hk fuel).2 P
macro_rules | `(tactic| w_atom) => `(tactic| exact w_parseMatchedPair (by omega) _ _)
macro_rules | `(tactic| w_atom) => `(tactic| exact w_parseComsub (by omega) _ _)

/-! ### words -/

theorem w_isAssignment (s : Str) : WSat L sr rk ps k (isAssignment s) :=
  wk_isAssignment wB SatW.foreign s
macro_rules | `(tactic| w_atom) => `(tactic| exact w_isAssignment _)

theorem w_specialcasetokens (s : Str) : WSat L sr rk ps k (specialcasetokens s) := by
  unfold specialcasetokens; w_walk
macro_rules | `(tactic| w_atom) => `(tactic| exact w_specialcasetokens _)

theorem w_handleshellquote (hk : k < L.length) (st : RWState) (c : Char) :
    WSat L sr rk ps k (handleshellquote st c) :=
  wk_handleshellquote wB wD (w_parseMatchedPair hk) st c
macro_rules | `(tactic| w_atom) => `(tactic| exact w_handleshellquote (by omega) _ _)

theorem w_handleshellexp (hk : k < L.length) (st : RWState) (c : Char) (cd : Option Char) :
    WSat L sr rk ps k (handleshellexp st c cd) := by
  unfold handleshellexp; w_walk
macro_rules | `(tactic| w_atom) => `(tactic| exact w_handleshellexp (by omega) _ _ _)

theorem w_discardUntil (hk : k < L.length) (c : Char) : WSat L sr rk ps k (discardUntil c) := by
  unfold discardUntil; w_walk
macro_rules | `(tactic| w_atom) => `(tactic| exact w_discardUntil (by omega) _)

theorem w_tokentypeOfChar (c : Char) : WSat L sr rk ps k (tokentypeOfChar c) :=
  wk_tokentypeOfChar wB SatW.foreign c
macro_rules | `(tactic| w_atom) => `(tactic| exact w_tokentypeOfChar _)

theorem w_readtokenMeta (hk : k < L.length) (c : Char) : WSat L sr rk ps k (readtokenMeta c) := by
  unfold readtokenMeta; w_walk
macro_rules | `(tactic| w_atom) => `(tactic| exact w_readtokenMeta (by omega) _)

end Bashlex.C03.Tok
