/-
  C03, token source: **the hypothesis `TokSpans` holds of the real tokenizer.**

  The ghost invariant `TI len f l e`: the parser object runs over a line `L` built by
  `tokenizer.__init__` from an input of length `len` (`|L| ≤ len + 1`, `L` ends in a newline);
  the redirects queued for `gatherheredocuments` are distinct cells of the store without a body,
  ending before the frontier `f`, with a non-empty delimiter (`PendOK`); and either
    * the cursor is inside the line, at or after `min f |L|` (at or after the frontier, or at the
      end of the line), the `_eol_ungetc_lookahead` slot is empty and no positions are recorded
      (`W`), or
    * the cursor was moved beyond the end of the line by the non-strict here-document skip
      (`Dead`; only EOF tokens from then on).
-/
import Bashlex.Props.C03.TokRead
import Bashlex.Props.C03.Hyp
import Bashlex.Props.C16.FrameInst
import Bashlex.Props.C11.Parse
import Bashlex.Props.C03.TokWNE

namespace Bashlex.C03
open Bashlex Bashlex.M Bashlex.C10 Bashlex.C11 Bashlex.C03.Tok

/-- **the ghost invariant of the tokenizer** (see the header) -/
def TI (len f : Nat) (l : Local) (e : Env) : Prop :=
  ∃ L : Str, (L.length ≤ len + 1 ∧ NL L) ∧ PendOK f l.store l.redirstack ∧
    (W L l.store l.redirstack [] (min f L.length) l e ∨ Dead L [] l e)

theorem satS_of_ht {α : Type} {m : M α} {P : Local → Env → Prop} {Q : α → Local → Env → Prop}
    (h : HT P m Q ET) : SatS m P Q := by
  intro l e hp
  have h1 := h l e hp
  revert h1
  rcases m.run l e with ⟨r, e'⟩
  cases r with
  | ok v => exact fun h => h
  | error x => exact fun _ => True.intro

/-! ## the store relations -/

theorem cellStep_false {len f : Nat} {c c' : RedirCell} (h : CellStepG len f (f + 1) c c') :
    CellStep len f false c c' := by
  rcases h with h | ⟨h1, h2, x, y, v, h3, h4, h5, rfl⟩
  · exact Or.inl h
  · refine Or.inr ⟨h1, x, y, v, rfl, by omega, h4, h5, Or.inl ?_⟩
    show (if c.pos.2 + 1 = x then (c.pos.1, y) else c.pos) = c.pos
    rw [if_neg]
    omega

theorem cellStep_true {len f : Nat} {c c' : RedirCell} (h : CellStepG len f f c c') :
    CellStep len f true c c' := by
  rcases h with h | ⟨h1, h2, x, y, v, h3, h4, h5, rfl⟩
  · exact Or.inl h
  · refine Or.inr ⟨h1, x, y, v, rfl, by omega, h4, h5, ?_⟩
    show (attach c x y v).pos = c.pos ∨ _
    by_cases hx : c.pos.2 + 1 = x
    · right
      have e1 : (attach c x y v).pos = (c.pos.1, y) := by
        show (if c.pos.2 + 1 = x then (c.pos.1, y) else c.pos) = _
        rw [if_pos hx]
      rw [e1]
      exact ⟨rfl, rfl, by show c.pos.2 ≤ y; omega, h5, by omega⟩
    · left
      show (if c.pos.2 + 1 = x then (c.pos.1, y) else c.pos) = c.pos
      rw [if_neg hx]

theorem storeStep_false {len f : Nat} {sr sr' : List RedirCell}
    (h : StoreStepG len f (f + 1) sr sr') : StoreStep len f false sr sr' :=
  ⟨h.1, fun i c c' h1 h2 => cellStep_false (h.2 i c c' h1 h2)⟩

theorem storeStep_true {len f : Nat} {sr sr' : List RedirCell}
    (h : StoreStepG len f f sr sr') : StoreStep len f true sr sr' :=
  ⟨h.1, fun i c c' h1 h2 => cellStep_true (h.2 i c c' h1 h2)⟩

theorem storeStepG_refl {len f g : Nat} (sr : List RedirCell) : StoreStepG len f g sr sr :=
  ⟨rfl, fun i c c' h1 h2 => by rw [h1] at h2; cases h2; exact Or.inl rfl⟩

/-! ## the fields of `TokSpans` -/

theorem TI.env {len f : Nat} {l : Local} {e e' : Env} (h : TI len f l e) (h1 : e'.tape = e.tape)
    (h2 : e'.strict = e.strict) : TI len f l e' := by
  obtain ⟨L, hL, hp, hc⟩ := h
  refine ⟨L, hL, hp, ?_⟩
  rcases hc with hc | hc
  · exact Or.inl (hc.env h1)
  · right
    unfold Dead at hc ⊢
    rw [tapeOf_env h1, strictOf_env h2]; exact hc

/-- **`next`**: `token()` delivers a token at or after the frontier, starting inside the input,
    non-empty, moves the frontier to its end and changes no `pos` in the store -/
theorem tokSpans_next0 (len f : Nat) (st : List RedirCell) :
    SatS nextToken (fun l e => TI len f l e ∧ l.store = st)
      (fun t l e => ∃ a b, f ≤ a ∧ (a < b ∧ ((t.ttype = some .EOF ∧ t.value = .none) ∨
        (t.pos = some (a, b) ∧ a ≤ len))) ∧ TI len b l e ∧ StoreStep len f false st l.store) := by
  refine SatS.intro_state (fun l0 e0 h0 => ?_)
  obtain ⟨⟨L, ⟨hK, hnl⟩, hp, hc⟩, hst⟩ := h0
  rcases hc with hc | hc
  · refine satS_of_ht (HT.weaken (nextToken_w (len := len) hnl hK hp) ?_ ?_ (fun _ h => h))
    · rintro l e ⟨rfl, rfl⟩; exact hc
    · rintro t l e ⟨a, b, h1, h2, h3, h4, h5, h6⟩
      refine ⟨a, b, h1, ⟨h2, ?_⟩, ⟨L, ⟨hK, hnl⟩, h4.mono (by omega), h6⟩, ?_⟩
      · rcases h3 with h3 | h3
        · left; rw [h3]; exact ⟨rfl, rfl⟩
        · right; exact ⟨h3.1, by omega⟩
      · rw [← hst]; exact storeStep_false h5
  · refine satS_of_ht (HT.weaken (nextToken_dead (L := L) (sr := l0.store) (rk := l0.redirstack))
      ?_ ?_ (fun _ h => h))
    · rintro l e ⟨rfl, rfl⟩; exact ⟨hc, rfl, rfl⟩
    · rintro t l e ⟨rfl, hd, hs, hr⟩
      refine ⟨f, f + 1, Nat.le_refl _, ⟨Nat.lt_succ_self _, Or.inl ⟨rfl, rfl⟩⟩,
        ⟨L, ⟨hK, hnl⟩, ?_, Or.inr hd⟩, ?_⟩
      · rw [hs, hr]; exact hp.mono (Nat.le_succ _)
      · rw [hs, ← hst]
        exact storeStep_false (storeStepG_refl _)

/-- **`next`**: `token()` delivers a token at or after the frontier, starting inside the input,
    non-empty, moves the frontier to its end and changes no `pos` in the store; a WORD token has a
    non-empty value -/
theorem tokSpans_next (len f : Nat) (st : List RedirCell) :
    SatS nextToken (fun l e => TI len f l e ∧ l.store = st)
      (fun t l e => ∃ a b, f ≤ a ∧ TokAt len t a b ∧ TI len b l e ∧
        StoreStep len f false st l.store) := by
  refine SatS.post (SatS.and_sat (tokSpans_next0 len f st) sat_nextToken_w) (fun t l e h => ?_)
  obtain ⟨⟨a, b, h1, h2, h3, h4⟩, hw⟩ := h
  exact ⟨a, b, h1, ⟨h2.1, h2.2.imp id (fun h => ⟨h.1, h.2, hw⟩)⟩, h3, h4⟩

/-- **`gather`**: `gatherheredocuments` called from `p_simple_list` -/
theorem tokSpans_gather (len f : Nat) (st : List RedirCell) :
    SatS gatherheredocuments (fun l e => TI len f l e ∧ l.store = st)
      (fun _ l e => TI len f l e ∧ StoreStep len f true st l.store) := by
  refine SatS.intro_state (fun l0 e0 h0 => ?_)
  obtain ⟨⟨L, ⟨hK, hnl⟩, hp, hc⟩, hst⟩ := h0
  rcases hc with hc | hc
  · refine satS_of_ht (HT.weaken (gather_w (len := len) (g := f) (k := min f L.length) (ps := []) hnl hK
      (fun x hx _ => by omega) hp)
      ?_ ?_ (fun _ h => h))
    · rintro l e ⟨rfl, rfl⟩; exact hc
    · rintro _ l e ⟨h1, h2, h3⟩
      exact ⟨⟨L, ⟨hK, hnl⟩, h1, h3⟩, by rw [← hst]; exact storeStep_true h2⟩
  · refine satS_of_ht (HT.weaken (gather_dead (L := L) (ps := []) (sr := l0.store)
      (rk := l0.redirstack)) ?_ ?_ (fun _ h => h))
    · rintro l e ⟨rfl, rfl⟩; exact ⟨hc, rfl, rfl⟩
    · rintro _ l e ⟨hd, hs, hr⟩
      refine ⟨⟨L, ⟨hK, hnl⟩, by rw [hs, hr]; exact hp, Or.inr hd⟩, ?_⟩
      rw [hs, ← hst]
      exact storeStep_true (storeStepG_refl _)

/-- **`queue`**: `p_redirection_heredoc` queues a redirect that ends before the frontier; its
    delimiter (the value of a WORD token) is not empty -/
theorem tokSpans_queue (len f : Nat) (l : Local) (e : Env) (cell : RedirCell) (kill : Bool)
    (h : TI len f l e) (hpos : cell.pos.2 < f) (hh : cell.heredoc = none) (hd : cell.delim ≠ []) :
    TI len f { l with store := l.store ++ [cell],
                      redirstack := l.redirstack ++ [(l.store.length, kill)] } e := by
  obtain ⟨L, hL, hp, hc⟩ := h
  refine ⟨L, hL, ?_, ?_⟩
  · show PendOK f (l.store ++ [cell]) (l.redirstack ++ [(l.store.length, kill)])
    have hlt : ∀ p ∈ l.redirstack, p.1 < l.store.length := by
      intro p hp'
      obtain ⟨c, h1, _⟩ := hp.2 p hp'
      exact (List.getElem?_eq_some_iff.mp h1).1
    refine ⟨?_, ?_⟩
    · rw [List.map_append, List.nodup_append]
      refine ⟨hp.1, by simp, ?_⟩
      intro a ha b hb
      simp only [List.map_cons, List.map_nil, List.mem_singleton] at hb
      subst hb
      obtain ⟨p, hp', rfl⟩ := List.mem_map.mp ha
      have := hlt p hp'
      omega
    · intro p hp'
      rcases List.mem_append.mp hp' with hp' | hp'
      · obtain ⟨c, h1, h2, h3, h4⟩ := hp.2 p hp'
        exact ⟨c, by rw [List.getElem?_append_left (hlt p hp')]; exact h1, h2, h3, h4⟩
      · simp only [List.mem_singleton] at hp'
        subst hp'
        exact ⟨cell, by simp, hh, hpos, hd⟩
  · rcases hc with hc | hc
    · left
      obtain ⟨a1, a2, a3, a4, a5, a6, a7⟩ := hc
      exact ⟨a1, a2, a3, a4, rfl, rfl, a7⟩
    · right; exact hc

/-- **`ps`**: the parser-state flags are not part of the invariant -/
theorem tokSpans_ps (len f : Nat) (l : Local) (e : Env) (ps : PState) (h : TI len f l e) :
    TI len f { l with ps := ps } e := h

/-! ### `init` -/

/-- **`init`**: a fresh parser object -/
theorem tokSpans_init (s : Str) (l : Local) (e : Env) (h : InitState s l e) : TI s.length 0 l e := by
  obtain ⟨h1, h2, h3, h4, h5⟩ := h
  have ht : tapeOf l e = Tape.ofInput s := by
    rcases h5 with h5 | ⟨h5, h6⟩
    · unfold tapeOf; rw [h5]
    · unfold tapeOf; rw [h5]; exact h6
  obtain ⟨k1, k2⟩ := ofInput_line s
  refine ⟨(Tape.ofInput s).line, ⟨k1, nl_of_getLast k2⟩, ?_, Or.inl ?_⟩
  · rw [h1, h2]
    exact ⟨List.nodup_nil, fun p hp => by cases hp⟩
  · refine ⟨by rw [ht], ?_, h3, h4, rfl, rfl, ?_⟩
    · rw [ht, ofInput_idx]; exact Nat.zero_le _
    · rw [ht, ofInput_idx]; simp

/-! ### `nested` -/

theorem run_npOf (inner : M (Option Node)) (s : Str) (b : Bool) (l : Local) (e : Env) :
    M.run (npOf inner s b) l e =
      match M.run inner (C16.nestedInit l s b) e with
      | (.ok (r, l'), e') => (.ok (r, { l with ps := l'.ps }), e')
      | (.error x, e') => (.error x, e') :=
  npOf_run inner s b l e

/-- **`nested`**: a nested parser run has its own parser object (own tape, fixed options): it
    leaves the caller's tape alone (`C16.nestedEnv_thm`) and restores the caller's state -/
theorem tokSpans_nested (d len f : Nat) (st : List RedirCell) (s : Str) (b : Bool) :
    SatS (npOf (parserRun d) s b) (fun l e => TI len f l e ∧ l.store = st)
      (fun _ l e => TI len f l e ∧ l.store = st) :=
  C16.npOf_frame (fun l e ps e' ⟨hti, hst⟩ hE =>
    ⟨(tokSpans_ps len f l e ps hti).env hE.1.symm hE.2.1.symm, hst⟩) d s b

/-- **the hypothesis on the token source holds of the real tokenizer** -/
theorem tokSpans : TokSpans TI where
  next := tokSpans_next
  gather := tokSpans_gather
  queue := tokSpans_queue
  ps := tokSpans_ps
  nested := tokSpans_nested
  init := tokSpans_init

end Bashlex.C03

#print axioms Bashlex.C03.tokSpans_next
#print axioms Bashlex.C03.tokSpans_gather
#print axioms Bashlex.C03.tokSpans_queue
#print axioms Bashlex.C03.tokSpans_ps
#print axioms Bashlex.C03.tokSpans_nested
#print axioms Bashlex.C03.tokSpans_init
#print axioms Bashlex.C03.tokSpans
