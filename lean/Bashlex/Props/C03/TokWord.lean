/-
  C03, token source, parts 4 and 5: `_readtokenword` from a `W` state.  A second walk (`q_walk`) for
  triples with an arbitrary post-condition; the loop of `_readtokenword` keeps "the character in
  hand was read: the cursor is at 1 or beyond" and leaves through `_ungetc(c)`.  Then the position
  stack, `_createtoken`, and the part of `_readtokenword` after `# got_token`.
-/
import Bashlex.Props.C03.TokTokenizer
import Bashlex.Proofs.TokShape

namespace Bashlex.C03.Tok
open Bashlex Bashlex.M Bashlex.C10 Bashlex.C11



/-- bind after a computation with a `SatW` triple, towards an arbitrary post-condition -/
theorem QW.bind {α β : Type} {I I' : Local → Env → Prop} {m : M α} {f : α → M β}
    {Q : β → Local → Env → Prop} (hm : SatW I I' m (fun _ => True))
    (hf : ∀ a, HT I' (f a) Q ET) : HT I (m >>= f) Q ET :=
  HT.bind hm (fun a => HT.pre_pure (fun _ => hf a))

theorem QW.bindSame {α β : Type} {I : Local → Env → Prop} {m : M α} {f : α → M β}
    {Q : β → Local → Env → Prop} (hm : SatW I I m (fun _ => True))
    (hf : ∀ a, HT I (f a) Q ET) : HT I (m >>= f) Q ET := QW.bind hm hf

theorem QW.drop1 {α : Type} {L : Str} {sr : List RedirCell} {rk : List (Nat × Bool)}
    {ps : List Nat} {k : Nat} {m : M α} {Q : α → Local → Env → Prop}
    (h : HT (W L sr rk ps k) m Q ET) : HT (W L sr rk ps (k + 1)) m Q ET :=
  HT.pre h (fun _ _ h => h.mono (Nat.le_succ k))

theorem QW.modify {I : Local → Env → Prop} {β : Type} {f : Local → Local} {k : Unit → M β}
    {Q : β → Local → Env → Prop} (h : ∀ l e, I l e → I (f l) e) (hk : HT I (k ()) Q ET) :
    HT I (_root_.modify f >>= k) Q ET :=
  HT.bind (Q := fun _ l e => I l e) (HT.modify h) (fun _ => hk)

/-- leaves of a `q_walk` (extended per function) -/
syntax "q_leaf" : tactic
macro_rules | `(tactic| q_leaf) => `(tactic| assumption)
macro_rules | `(tactic| q_leaf) => `(tactic|
  ((with_reducible refine HT.pure ?_); (intro _ _ h; exact W.mono h (by omega))))

/-- one step of the walk towards an arbitrary post-condition -/
macro "q_step" : tactic => `(tactic| first
  | jp_step
  | with_reducible refine HT.ite (fun _ => ?_) (fun _ => ?_)
  | with_reducible refine HTQAt.ite (fun _ => ?_) (fun _ => ?_)
  | with_reducible refine HTQAt.ite_bind (fun _ => ?_) (fun _ => ?_)
  | q_leaf
  | with_reducible use_hyp
  | ((with_reducible refine QW.drop1 ?_); with_reducible use_hyp)
  | with_reducible refine QW.bind (getc_up _ (by omega)) (fun _ => ?_)
  | with_reducible refine QW.bind (ungetc_down _) (fun _ => ?_)
  | with_reducible refine HT.get_bind (fun _ => ?_)
  | ((with_reducible refine QW.modify ?_ ?_); focus (intro _ _ h; exact h))
  | ((with_reducible refine HTQAt.set_bind ?_ ?_); focus (intro _ h; exact h))
  | with_reducible exact HTQAt.foreign_bind True.intro
  | with_reducible exact HTQAt.foreign True.intro
  | with_reducible refine HTQAt.pure_bind ?_
  | split_head
  | with_reducible refine HTQAt.ofHT ?_
  | with_reducible exact HT.foreign True.intro
  | with_reducible exact HT.raise True.intro
  | ((with_reducible refine QW.bindSame ?_ (fun _ => ?_)); focus (with_reducible w_atom; done))
  | ((with_reducible refine QW.drop1 ?_); (with_reducible refine QW.bindSame ?_ (fun _ => ?_));
     focus (with_reducible w_atom; done))
  | ((with_reducible refine QW.bindSame ?_ (fun _ => ?_)); focus (w_walk; done)))

macro "q_walk" : tactic => `(tactic| repeat' q_step)

variable {L : Str} {sr : List RedirCell} {rk : List (Nat × Bool)} {ps : List Nat}

/-- the post-condition of one iteration of `_readtokenword`'s loop -/
def StepQ (L : Str) (sr : List RedirCell) (rk : List (Nat × Bool)) (ps : List Nat)
    (r : RWState ⊕ RWState) (l : Local) (e : Env) : Prop :=
  match r with
  | .inl _ => W L sr rk ps 1 l e
  | .inr _ => W L sr rk ps 0 l e

theorem rtwStep_w (h2 : 2 ≤ L.length) (st : RWState) :
    HT (W L sr rk ps (0 + 1)) (readtokenwordStep st) (StepQ L sr rk ps) ET := by
  unfold readtokenwordStep
  q_walk

end Bashlex.C03.Tok

namespace Bashlex.C03.Tok
open Bashlex Bashlex.M Bashlex.C10 Bashlex.C11



variable {L : Str} {sr : List RedirCell} {rk : List (Nat × Bool)} {ps : List Nat} {k : Nat}

/-- the loop of `_readtokenword`: entered with the first character read (cursor ≥ 1) -/
theorem rtwLoop_w (h2 : 2 ≤ L.length) (fuel : Nat) (st : RWState) :
    HT (W L sr rk ps 1) (M.loop "_readtokenword" readtokenwordStep fuel st)
      (fun _ l e => W L sr rk ps 0 l e) ET := by
  refine HT.loop (I := fun _ l e => W L sr rk ps 1 l e) True.intro (fun s => ?_) fuel st
  refine HT.post (rtwStep_w h2 s) ?_
  intro r l e h
  cases r with
  | inl s' => exact h
  | inr a => exact h

end Bashlex.C03.Tok

namespace Bashlex.C03.Tok
open Bashlex Bashlex.M Bashlex.C10 Bashlex.C11



variable {L : Str} {sr : List RedirCell} {rk : List (Nat × Bool)} {ps : List Nat} {k : Nat}

/-! ## the position stack -/

/-- the span of a delivered token -/
def TokPos (a b : Nat) (t : Token) : Prop := t.pos = some (a, b) ∧ a < b

theorem recordpos_w (rel : Nat) :
    HT (W L sr rk ps k) (recordpos rel)
      (fun _ l e => ∃ i, k ≤ i ∧ i ≤ L.length ∧ W L sr rk (ps ++ [i - rel]) i l e) ET := by
  intro l e h
  rw [run_recordpos]
  obtain ⟨a1, a2, a3, a4, a5, a6, a7⟩ := h
  refine ⟨(tapeOf l e).idx, a7, a2, a1, a2, a3, ?_, a5, a6, Nat.le_refl _⟩
  show l.positions ++ _ = _; rw [a4]

theorem createtoken_w (ty : TokType) (v : TVal) (fl : WordFlags) (a b : Nat) :
    HT (W L sr rk [a, b] k) (createtoken ty v fl)
      (fun t l e => TokPos a b t ∧ W L sr rk [] k l e) ET := by
  intro l e h
  obtain ⟨a1, a2, a3, a4, a5, a6, a7⟩ := h
  rw [run_createtoken ty v fl l e a b a4]
  by_cases hab : a < b
  · rw [if_pos hab]; exact ⟨⟨rfl, hab⟩, a1, a2, a3, rfl, a5, a6, a7⟩
  · rw [if_neg hab]; exact True.intro

/-- `_createtoken`, then code that only decorates the token -/
theorem ct_switch {β : Type} {ty : TokType} {v : TVal} {fl : WordFlags} {a b : Nat}
    {f : Token → M β} {φ : β → Prop}
    (h : ∀ tok, TokPos a b tok → SatW (W L sr rk [] k) (W L sr rk [] k) (f tok) φ) :
    HT (W L sr rk [a, b] k) (createtoken ty v fl >>= f)
      (fun t l e => φ t ∧ W L sr rk [] k l e) ET :=
  HT.bind (createtoken_w ty v fl a b) (fun tok => HT.pre_pure (fun ht => h tok ht))

theorem tokPos_of_pos {a b : Nat} {t t' : Token} (h : TokPos a b t) (hp : t'.pos = t.pos) :
    TokPos a b t' := by
  unfold TokPos at h ⊢
  rw [hp]; exact h

macro_rules | `(tactic| jp_side) => `(tactic| exact tokPos_of_pos ‹TokPos _ _ _› rfl)

/-- as `w_walk`, keeping the span of the token: `pure` leaves decorate the token -/
macro "w_walk_v" : tactic => `(tactic| repeat' (first
  | w_step
  | ((with_reducible refine SatW.pure (by wmono) ?_); jp_side)
  | ((with_reducible refine AtW.pure (by wmono) ?_); jp_side)))

macro_rules | `(tactic| q_leaf) => `(tactic| with_reducible exact createtoken_w _ _ _ _ _)
macro_rules | `(tactic| q_leaf) => `(tactic|
  ((with_reducible refine ct_switch (fun _ _ => ?_)); focus (w_walk_v; done)))

theorem fwEnd_w (fn : Bool) {a b : Nat} {tok : Token} (h : TokPos a b tok) :
    SatW (W L sr rk ps k) (W L sr rk ps k) (fwEnd fn tok) (TokPos a b) := by
  unfold fwEnd
  w_walk_v

macro_rules | `(tactic| w_atom) => `(tactic|
  exact fwEnd_w _ (tokPos_of_pos ‹TokPos _ _ _› (Shape.fwToken_pos _ _ _ _)))

/-- the end of `_readtokenword`, after the WORD token has been created, decorates the token -/
theorem fwWord_w (st : RWState) {a b : Nat} {tok : Token} (h : TokPos a b tok) :
    SatW (W L sr rk ps k) (W L sr rk ps k) (fwWord st tok) (TokPos a b) := by
  unfold fwWord
  w_walk_v

macro_rules | `(tactic| q_leaf) => `(tactic|
  with_reducible exact ct_switch (fun _ h => fwWord_w _ h))

/-- the part of `_readtokenword` after `# got_token`: the token spans from the recorded start to
    the cursor, which does not move -/
theorem finishWord_w (st : RWState) (a : Nat) :
    HT (W L sr rk [a] k) (finishWord st)
      (fun t l e => ∃ b, TokPos a b t ∧ W L sr rk [] b l e) ET := by
  rw [finishWord_eq]
  unfold fwHead
  refine HT.bind (recordpos_w 0) (fun _ => HT.pre_exists (fun b => HT.pre_pure (fun _ =>
    HT.pre_pure (fun _ => ?_))))
  refine HT.post (Q := fun t l e => TokPos a b t ∧ W L sr rk [] b l e) ?_
    (fun t l e h => ⟨b, h⟩)
  show HT (W L sr rk [a, b] b) _ _ _
  let jpInv : Token → Prop := TokPos a b
  q_walk

/-- `_readtokenword(c)`, entered with `c` read and the start recorded -/
theorem readtokenword_w (h2 : 2 ≤ L.length) (c : Char) (a : Nat) :
    HT (W L sr rk [a] 1) (readtokenword c)
      (fun t l e => ∃ b, TokPos a b t ∧ W L sr rk [] b l e) ET := by
  unfold readtokenword
  refine QW.bindSame w_loopFuel (fun fuel => ?_)
  exact HT.bind (rtwLoop_w h2 fuel _) (fun st => finishWord_w st a)

end Bashlex.C03.Tok
