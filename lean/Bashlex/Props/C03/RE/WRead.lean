/-
  RootEnds, fact (W): `_readtoken`, `token()` — **`tokValW : TokValW`**.

  The walk of `_readtoken` is the one of `Props/C04/TTRead.lean` (`readtoken_tt`), with the
  post-condition "a token read by `_readtokenword` has a value that does not end in a newline";
  nothing is needed of the bare token types, and the newline / comment branches are skipped.
-/
import Bashlex.Props.C03.RE.WWord
import Bashlex.Props.C03.RE.TokT

namespace Bashlex.C03.RE
open Bashlex Bashlex.M Bashlex.C10 Bashlex.C11 Bashlex.C03.Tok Bashlex.C04 Bashlex.C04.TTP
  Bashlex.C04.WB
set_option linter.unusedVariables false

/-- what `_readtoken` returns: a bare type, or a token with a good value -/
def RW (r : TokType ⊕ Token) : Prop := ∀ t, r = .inr t → WordValOK t

theorem wordValOK_of_tok {a k : Nat} {tw : Str} {t : Token} (hN : NoNL tw)
    (h : WordTok a k tw t) : WordValOK t := by
  intro v hv hl
  rcases h.2.2 with h1 | ⟨h1, _, _⟩
  · rw [h1] at hv; cases hv; exact absurd hl hN
  · rw [h1] at hv; cases hv

theorem wordValOK_none {t : Token} (h : t.value = .none) : WordValOK t := by
  intro v hv; rw [h] at hv; cases hv

theorem enumValue_str {ty : TokType} {v : Str} (h : ty.enumValue = .str v) :
    ty.strValueChars.isSome = true := by
  unfold TokType.enumValue at h
  split at h
  · rename_i s hs; rw [hs]; rfl
  · cases h

theorem wordValOK_bare {t : Token} {ty : TokType} (h : t.ttype = some ty ∧ t.value = ty.enumValue) :
    WordValOK t := by
  intro v hv _
  rw [h.2] at hv
  exact ⟨ty, h.1, enumValue_str hv⟩

theorem ht_of_sat {α : Type} {P : Local → Env → Prop} {m : M α} {φ : α → Prop}
    (h : Sat m φ) : HT P m (fun a _ _ => φ a) ET := by
  intro l e _
  have h1 := h l e
  revert h1
  rcases m.run l e with ⟨r, e'⟩
  cases r with
  | ok v => exact fun h => h
  | error x => exact fun _ => True.intro

section
variable {L : Str}

theorem rtw_leaf (hS : ScanHyp) (hnl : NL L) (c : Char) (a : Nat) :
    HT (RWI L a { c := some c, allDigit := isDigit c })
      (do let t ← readtokenword c; pure (Sum.inr t) : M (TokType ⊕ Token))
      (fun r _ _ => RW r) ET := by
  refine HT.bind (readtokenword_n hS hnl c a) (fun t => ?_)
  refine HT.pure (fun l e h t' ht' => ?_)
  cases ht'
  obtain ⟨k, tw, hN, hw⟩ := h
  exact wordValOK_of_tok hN hw

theorem rw_inl {P : Local → Env → Prop} (ty : TokType) :
    HT P (pure (Sum.inl ty) : M (TokType ⊕ Token)) (fun r _ _ => RW r) ET :=
  HT.pure (fun _ _ _ t ht => by cases ht)

/-- the newline branch: whatever happens, a bare type is returned -/
theorem nl_tail {P : Local → Env → Prop} (u : Local → Local) (c : Char) :
    HT P (do
      gatherheredocuments
      modify u
      let t ← tokentypeOfChar c
      pure (Sum.inl t) : M (TokType ⊕ Token)) (fun r _ _ => RW r) ET :=
  HT.skip (fun _ => HT.skip (fun _ => HT.skip (fun t => rw_inl t)))

/-- **`_readtoken`** -/
theorem readtoken_n (hS : ScanHyp) (hnl : NL L) {i0 : Nat} :
    HT (Tp L [] i0) readtoken (fun r _ _ => RW r) ET := by
  unfold readtoken
  simp only []
  refine keep_bind w_loopFuel (fun fuel _ => ?_)
  refine getc_bind (fun c0 i1 hg0 => ?_)
  refine HT.bind (Q := fun c l e => ∃ i, (∃ i', GetcR true L i' i c) ∧ Tp L [] i l e) ?_
    (fun c1 => ?_)
  · -- skipping blanks
    refine HT.pre (HT.loop (E := ET)
      (I := fun c l e => ∃ i, (∃ i', GetcR true L i' i c) ∧ Tp L [] i l e) True.intro
      (fun c => ?_) fuel c0) (fun l e h => ⟨i1, ⟨i0, hg0⟩, h⟩)
    refine HT.pre_exists (fun i => HT.pre_pure (fun hi => ?_))
    cases c with
    | none => exact HT.pure (fun l e h => ⟨i, hi, h⟩)
    | some ch =>
      simp only []
      refine HT.ite (fun _ => ?_) (fun _ => HT.pure (fun l e h => ⟨i, hi, h⟩))
      refine getc_bind (fun c' i' hg' => ?_)
      exact HT.pure (fun l e h => ⟨i', ⟨i, hg'⟩, h⟩)
  refine HT.pre_exists (fun i => HT.pre_pure (fun hi => ?_))
  obtain ⟨i', hg⟩ := hi
  cases c1 with
  | none => exact HT.pure (fun l e h t ht => by cases ht; exact wordValOK_none rfl)
  | some ch =>
    simp only [pure_bind]
    obtain ⟨g1, g2, g3⟩ := hg.char ch rfl
    refine HT.ite (fun hsharp => ?_) (fun hsharp => ?_)
    · -- a comment: skipped, then the newline
      refine HT.skip (fun _ => HT.skip (fun _ => HT.skip (fun _ => ?_)))
      refine HT.ite (fun _ => ?_) (fun h => absurd rfl h)
      exact nl_tail _ _
    · refine HT.bind (recordpos_tp 1) (fun _ => ?_)
      show HT (Tp L [i - 1] i) _ _ _
      have hii : i = i - 1 + 1 := by omega
      generalize i - 1 = a at g2 hii
      subst hii
      refine HT.ite (fun hn => nl_tail _ _) (fun hn => ?_)
      have hne : ch ≠ '\n' := by simpa using hn
      have hlt : a + 2 ≤ L.length := hnl _ _ g2 hne
      have hword : HT (Tp L [a] (a + 1))
          (do let t ← readtokenword ch; pure (Sum.inr t) : M (TokType ⊕ Token))
          (fun r _ _ => RW r) ET :=
        HT.pre (rtw_leaf hS hnl ch a) (fun l e h => ⟨a + 1, winv_init g2 hne hnl, h⟩)
      have hdash : HT (Tp L [a] (a + 1))
          (do let t ← tokentypeOfChar ch; pure (Sum.inl t) : M (TokType ⊕ Token))
          (fun r _ _ => RW r) ET :=
        HT.skip (fun t => rw_inl t)
      refine HT.get_bind (fun l1 => ?_)
      refine HTQAt.ite (fun _ => HTQAt.ofHT hword) (fun _ => HTQAt.ofHT ?_)
      refine keep_bind (v_shellmeta ch) (fun b hb => ?_)
      subst hb
      refine HT.get_bind (fun l2 => ?_)
      refine HTQAt.ite (fun hm => HTQAt.ofHT ?_) (fun _ => HTQAt.ofHT ?_)
      · refine HT.bind (readtokenMeta_tt hnl g2 hne) (fun r => ?_)
        refine HT.pre_exists (fun j => ?_)
        cases r with
        | some ty =>
          simp only []
          exact rw_inl ty
        | none =>
          simp only []
          refine HT.pre (P := fun l e => ((ch = '<' ∨ ch = '>') ∧ a + 1 ≤ j ∧
            Del (Str.slice L (a + 1) j) [] ∧ L[j]? = some '(') ∧ Tp L [a] j l e)
            (HT.pre_pure (fun hv => ?_)) (fun l e h => ⟨h.2, h.1⟩)
          obtain ⟨hcc, h1, h2, h3⟩ := hv
          refine HT.get_bind (fun l3 => ?_)
          refine HTQAt.ite (fun hd => ?_) (fun _ => HTQAt.ofHT ?_)
          · exfalso
            simp only [Bool.and_eq_true, beq_iff_eq] at hd
            rcases hcc with rfl | rfl <;> exact absurd hd.1 (by decide)
          · refine HT.pre (rtw_leaf hS hnl ch a) (fun l e h => ⟨j, ?_, h⟩)
            exact ⟨Hand.procsub ch rfl hcc g2 h1 h2 h3, by show a + 0 < L.length; omega, rfl,
              fun h => by cases h⟩
      · refine HT.get_bind (fun l3 => ?_)
        exact HTQAt.ite (fun _ => HTQAt.ofHT hdash) (fun _ => HTQAt.ofHT hword)

/-- **`token()`** -/
theorem nextToken_n (hS : ScanHyp) (hnl : NL L) {i0 : Nat} :
    HT (Tp L [] i0) nextToken (fun t _ _ => WordValOK t) ET := by
  unfold nextToken
  simp only []
  refine HT.bind (Q := fun _ l e => Tp L [] i0 l e) (HT.modify (fun l e h => h)) (fun _ => ?_)
  refine HT.bind (readtoken_n hS hnl) (fun r => ?_)
  cases r with
  | inl ty =>
    (try simp only [])
    (try simp only [bind_assoc])
    refine HT.skip (fun _ => ?_)
    refine HT.bind (HT.post (ht_of_sat C12.sat_createtoken) (fun t _ _ h => wordValOK_bare h))
      (fun cur => ?_)
    refine HT.pre (P := fun l e => WordValOK cur ∧ True) (HT.pre_pure (fun hc => ?_))
      (fun _ _ h => ⟨h, trivial⟩)
    exact HT.skip (fun _ => HT.skip (fun _ => HT.pure (fun _ _ _ => hc)))
  | inr t =>
    simp only [pure_bind]
    refine HT.pre (P := fun l e => RW (Sum.inr t) ∧ True) (HT.pre_pure (fun hc => ?_))
      (fun _ _ h => ⟨h, trivial⟩)
    exact HT.skip (fun _ => HT.skip (fun _ => HT.pure (fun _ _ _ => hc t rfl)))

end

/-- **fact (W) holds of the real tokenizer** (no hypotheses) -/
theorem tokValW : TokValW where
  next := by
    intro g hg
    refine HT.pre (P := fun l e => (∃ i, Tp g.line [] i l e) ∨
      C03.DeadS g.line [] l.store l.redirstack l e) ?_ ?_
    · intro l e hp
      rcases hp with ⟨i, hp⟩ | hp
      · have hnl : NL g.line := by
          rcases wfg_line hg with hl | ⟨hnl, _⟩
          · rw [hl]
            exact fun i ch h => by simp at h
          · exact hnl
        exact nextToken_n scanHyp hnl (i0 := i) l e hp
      · have h := C03.nextToken_dead (L := g.line) (sr := l.store) (rk := l.redirstack) l e hp
        revert h
        rcases nextToken.run l e with ⟨r, e'⟩
        cases r with
        | error x => exact fun _ => True.intro
        | ok v =>
          obtain ⟨t, l'⟩ := v
          intro h
          obtain ⟨rfl, _⟩ := h
          exact wordValOK_none rfl
    · intro l e hI
      obtain ⟨⟨hgood, hslot⟩, _⟩ := hI
      obtain ⟨⟨_, hline, _⟩, _, hidx, hps⟩ := hgood
      rcases hidx with hidx | ⟨_, hstrict⟩
      · left
        exact ⟨(tapeOf l e).idx, hline, rfl, hidx, hslot, hps⟩
      · by_cases hle : (tapeOf l e).idx ≤ g.line.length
        · left
          exact ⟨(tapeOf l e).idx, hline, rfl, hle, hslot, hps⟩
        · right
          exact ⟨⟨hline, by omega, hslot, hps, hstrict⟩, rfl, rfl⟩

end Bashlex.C03.RE

#print axioms Bashlex.C03.RE.tokValW
