/-
  RootEnds: the facts about the generated grammar fact (S) rests on, decided by the kernel
  (re-checked whenever the grammar changes).

  `strict`: the non-terminals whose value is a node / a non-empty list of nodes that ends where a
  delivered token other than NEWLINE ends (everything that can be the last symbol of
  `simple_list`); `soft`: `list_terminator` (`;` gives an operator node, NEWLINE gives `None`) and
  `inputunit`.  For every production whose left-hand side is strict or soft, the slots of the
  right-hand side the action takes the END of its result from are good symbols (`slotsOK`):
  terminals other than NEWLINE, or strict non-terminals.
-/
import Bashlex.Props.C03.Grammar

namespace Bashlex.C03.RE
open Bashlex Bashlex.LR Bashlex.C12

def nTerm : Nat := Gen.termNames.length
def ntSym (n : String) : Nat := nTerm + Gen.ntNames.idxOf n

def strictNames : List String :=
  ["simple_list", "simple_list1", "pipeline_command", "pipeline", "command", "simple_command",
   "simple_command_element", "redirection", "redirection_list", "shell_command", "for_command",
   "arith_for_command", "select_command", "case_command", "function_def", "function_body",
   "subshell", "group_command", "coproc", "if_command", "arith_command", "cond_command",
   "timespec"]
def softNames : List String := ["list_terminator", "inputunit"]

def strict (s : Nat) : Bool := (strictNames.map ntSym).contains s
def soft (s : Nat) : Bool := (softNames.map ntSym).contains s

/-- a symbol whose value ends well: a terminal other than NEWLINE, or a strict non-terminal -/
def goodSym (s : Nat) : Bool := (decide (s < nTerm) && s != nlSym) || strict s

/-- the action functions that build strict / soft values -/
def goodFuncs : List String :=
  ["p_inputunit", "p_list_terminator", "p_redirection", "p_redirection_heredoc",
   "p_simple_command_element", "p_redirection_list", "p_simple_command", "p_function_body",
   "p_command", "p_subshell", "p_group_command", "p_simple_list", "p_pipeline_command",
   "p_shell_command", "p_for_command", "p_case_command", "p_if_command", "p_function_def",
   "p_arith_for_command", "p_select_command", "p_coproc", "p_arith_command", "p_cond_command",
   "p_timespec", "p_simple_list1", "p_pipeline"]

def lastG (rhs : List Nat) : Bool :=
  decide (1 ≤ rhs.length) && goodSym (rhs.getD (rhs.length - 1) 0)
def len12 (rhs : List Nat) : Bool := rhs.length == 1 || rhs.length == 2
def len23 (rhs : List Nat) : Bool := rhs.length == 2 || rhs.length == 3

/-- the slots an action takes the end of its result from are good -/
def slotsOK (f : String) (rhs : List Nat) : Bool :=
  if f == "p_inputunit" then
    decide (rhs.getD 0 0 < nTerm) || strict (rhs.getD 0 0) || soft (rhs.getD 0 0)
  else if f == "p_list_terminator" then decide (1 ≤ rhs.length) && decide (rhs.getD 0 0 < nTerm)
  else if f == "p_redirection" || f == "p_redirection_heredoc" then len23 rhs && lastG rhs
  else if f == "p_simple_command_element" then rhs.length == 1 && lastG rhs
  else if f == "p_redirection_list" || f == "p_simple_command" || f == "p_function_body" then
    len12 rhs && lastG rhs
  else if f == "p_command" || f == "p_simple_list" then
    len12 rhs && lastG rhs && goodSym (rhs.getD 0 0)
  else if f == "p_subshell" || f == "p_group_command" then rhs.length == 3 && lastG rhs
  else if f == "p_pipeline_command" then
    len12 rhs && goodSym (rhs.getD 0 0) &&
      (rhs.length == 1 || goodSym (rhs.getD 1 0) || soft (rhs.getD 1 0))
  else lastG rhs

def reOK (f : String) (lhs : Nat) (rhs : List Nat) : Bool :=
  decide (nTerm ≤ lhs) &&
  (if strict lhs || soft lhs then goodFuncs.contains f && slotsOK f rhs &&
      (!(f == "p_inputunit" || f == "p_list_terminator") || !strict lhs)
   else f != "p_redirection_heredoc" && f != "p_simple_list" && f != "p_inputunit")

def reGrammarCheck : Bool :=
  (List.zip Gen.prodFuncs Gen.prodTable).all fun (f, (lhs, rhs)) => reOK f lhs rhs

theorem re_grammar_ok : reGrammarCheck = true := by decide +kernel

theorem re_ok {p lhs : Nat} {rhs : List Nat} (hp : realTables.prods[p]? = some (lhs, rhs)) :
    reOK (fn p) lhs rhs = true := forall_prods re_grammar_ok hp

/-- strict and soft symbols are non-terminals -/
theorem strict_nt : ∀ s, strict s = true → nTerm ≤ s := by
  intro s h
  unfold strict at h
  rw [List.contains_iff_mem] at h
  obtain ⟨n, _, rfl⟩ := List.mem_map.mp h
  exact Nat.le_add_right _ _

theorem soft_nt : ∀ s, soft s = true → nTerm ≤ s := by
  intro s h
  unfold soft at h
  rw [List.contains_iff_mem] at h
  obtain ⟨n, _, rfl⟩ := List.mem_map.mp h
  exact Nat.le_add_right _ _

/-- the terminal of a token -/
theorem symOfTok_lt (t : Token) : symOfTok t < nTerm := by
  unfold symOfTok
  cases t.ttype with
  | none => decide
  | some ty => cases ty <;> decide

/-- `inputunit` is soft -/
theorem soft_iu : soft (Gen.termNames.length + Gen.ntNames.idxOf "inputunit") = true := by decide

end Bashlex.C03.RE
