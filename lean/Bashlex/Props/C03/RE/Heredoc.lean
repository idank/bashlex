/-
  RootEnds, fact (H'): `gatherheredocuments` keeps the redirect cells ending well.

  An instance of the walk of the here-document reader in `Props/C03/TokHeredoc.lean`
  (`gather_x`, over `readline_x` and `makeheredoc_x`):
    * `lineEnds_eg`: a line of two characters or more ends (cursor `j`, its newline at `j - 1`)
      at a position not preceded by two raw newlines: the character before the newline is no
      newline, and what `_getc` skipped in between are backslash-newline pairs (`GetcR`);
    * the delimiter line is such a line (the delimiter is not empty: C03's `PendOK`), and the cell
      is extended to `cursor - 1` or left alone (`attach`);
    * `gather_e`: so the fact "every cell ends well, what is queued has a delimiter" is kept.
-/
import Bashlex.Props.C03.RE.TokT
import Bashlex.Props.C03Total

namespace Bashlex.C03.RE
open Bashlex Bashlex.M Bashlex.C10 Bashlex.C11 Bashlex.C03.Tok Bashlex.C04 Bashlex.C04.TTP
  Bashlex.C05.TG
set_option linter.unusedVariables false

section
variable {L : Str} {sr : List RedirCell} {rk : List (Nat × Bool)}

/-- after a character that is no newline (at `p - 1`) and a run of pairs `L[p:k]` -/
theorem eg_after {p k : Nat} {c' : Char} (hc : L[p - 1]? = some c') (hne : c' ≠ '\n')
    (hd : Del (Str.slice L p k) []) (hpk : p ≤ k) (hk : k ≤ L.length) : EG L k := by
  rintro ⟨h2, h3, h4⟩
  by_cases hpk' : p = k
  · subst hpk'
    rw [hc] at h3
    exact hne (by simpa using h3)
  · obtain ⟨b1, b2, b3, _, _⟩ := pairs_back hd (by omega) hk
    rw [b3] at h4; cases h4

/-! ## where a line may end -/

/-- a line of two characters or more ends (cursor `j`, its newline at `j - 1`) at a position not
    preceded by two raw newlines: the character before the newline is no newline, and what `_getc`
    skipped in between are backslash-newline pairs -/
theorem lineEnds_eg (hlast : L ≠ [] → L.getLast? = some '\n') :
    LineEnds L (fun j => EG L (j - 1)) := by
  intro p j c' c hp hc' hcne hg _
  cases c with
  | none =>
    -- the newline supplied at the end of the input: the line ends in a backslash-newline pair
    obtain ⟨hjL, hdel⟩ := hg.atEnd rfl
    have hLne : L ≠ [] := by intro h0; rw [h0] at hc'; simp at hc'
    have hple := hg.le
    have hpj : p < j := by
      rcases Nat.lt_or_ge p j with h | h
      · exact h
      · exfalso
        have hpe : p = L.length := by omega
        have hl := hlast hLne
        rw [List.getLast?_eq_getElem?, ← hpe, hc'] at hl
        exact hcne (by simpa using hl)
    obtain ⟨b1, b2, b3, _, _⟩ := pairs_back hdel hpj (by omega)
    rintro ⟨h2, h3, h4⟩
    have : j - 1 - 1 = j - 2 := by omega
    rw [this, b3] at h3; cases h3
  | some ch =>
    obtain ⟨g1, g2, g3⟩ := hg.char ch rfl
    have hjl := hg.le'
    exact eg_after hc' hcne g3 (by omega) (by omega)

theorem nl_of_last (hlast : L ≠ [] → L.getLast? = some '\n') : NL L :=
  nl_of_getLast (fun c hc => by
    have hne : L ≠ [] := by intro h0; rw [h0] at hc; cases hc
    rw [hlast hne] at hc; cases hc; rfl)

/-! ## `gatherheredocuments` -/

/-- what is queued has a cell with a non-empty delimiter (part of C03's `PendOK`) -/
def PendD (sr : List RedirCell) (rk : List (Nat × Bool)) : Prop :=
  ∀ p ∈ rk, ∃ c, sr[p.1]? = some c ∧ c.delim ≠ []

/-- **`gatherheredocuments`** keeps the cells ending well -/
theorem gather_e (hlast : L ≠ [] → L.getLast? = some '\n') (hsg : SG L sr) (hp : PendD sr rk)
    (i0 : Nat) :
    HT (TpS L sr rk [] i0) gatherheredocuments (fun _ l _ => SG L l.store) ET := by
  refine HT.weaken (gather_x (k := 0) (J := fun sr1 rk1 => SG L sr1 ∧ PendD sr1 rk1)
      (nl_of_last hlast) (lineEnds_eg hlast) ?_ ⟨hsg, hp⟩)
    (fun l e h => W.iff_tps.mpr ⟨i0, Nat.zero_le _, h⟩) (fun _ l e h => h.1.1) (fun _ h => h)
  rintro sr1 id kill rest ⟨hsg1, hp1⟩
  obtain ⟨cell, hc1, hc4⟩ := hp1 (id, kill) List.mem_cons_self
  have hidlt : id < sr1.length := (List.getElem?_eq_some_iff.mp hc1).1
  refine ⟨cell, hc1, hc4, fun x y v _ _ _ hE => ⟨fun c hc => ?_, fun p hp => ?_⟩⟩
  · -- the cell is extended to the end of the delimiter line, or left alone
    rcases List.mem_or_eq_of_mem_set hc with h1 | h1
    · exact hsg1 c h1
    · rw [h1]
      show EG L (if cell.pos.2 + 1 = x then (cell.pos.1, y) else cell.pos).2
      split
      · exact hE
      · exact hsg1 cell (List.mem_of_getElem? hc1)
  · obtain ⟨c, d1, d2⟩ := hp1 p (List.mem_cons_of_mem _ hp)
    by_cases hid : id = p.1
    · exact ⟨attach cell x y v, by rw [← hid, List.getElem?_set_self hidlt], hc4⟩
    · exact ⟨c, by rw [getElem?_set_ne' hid]; exact d1, d2⟩

end

end Bashlex.C03.RE
