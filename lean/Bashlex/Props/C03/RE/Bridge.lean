/-
  RootEnds: `token()` never moves a redirect — half of fact (H) discharged.

  C03's `tokSpans : TokSpans TI` (proved for the real tokenizer) says that `token()` attaches
  here-document bodies but never changes the `pos` of a redirect cell (`StoreStep … false`: a
  here-document is queued by `p_redirection_heredoc`, which runs with the look-ahead already
  read; when a later NEWLINE token gathers it the cursor is beyond the redirect).  To use it the
  engine pass of `RootEndsProof.lean` is run TOGETHER with C03's span invariant `SI TI len`
  (`spans_hooks`), by induction on the nesting depth (C03's invariant needs `NestedOK`, i.e.
  `RootEndOK`, of the nested results: the induction hypothesis).

  The other half of (H) -- `gatherheredocuments` as called by `p_simple_list`, the only place
  where a redirect is extended over its body -- is `gather_pre`, from the exact-cursor walk of
  `Heredoc.lean` (`gather_e`); C03's invariant supplies "the queued delimiters are not empty"
  (`PendOK`).

  Result: `rootEnds_conditional'' : TokValW → RootEnds`; fact (W) is `tokValW` (`WRead.lean`),
  hence `C03.rootEnds` (`Props/C03/RootEndsProof.lean`).
-/
import Bashlex.Props.C03.RE.Heredoc

namespace Bashlex.C03.RE
open Bashlex Bashlex.M Bashlex.LR Bashlex.C04
set_option linter.unusedVariables false

/-- **`gatherheredocuments` as called by `p_simple_list`** keeps the redirect cells ending well
    (fact (H), second half): in the states the engine pass runs it in -/
theorem gather_pre {g : C11.Ghost} (hg : C11.WFG g) {len : Nat} {vs : List (Nat × SVal)}
    {la : Option (Nat × SVal)} :
    C11.HT (fun l e => PreE g l e ∧ C03.SI C03.TI len vs la l e) gatherheredocuments
      (fun _ l _ => SG g.line l.store) (fun _ => True) := by
  intro l e ⟨hpre, hsi⟩
  obtain ⟨⟨g0, F, _, _, hti, _⟩, _⟩ := hsi
  obtain ⟨L', _, hpend, _⟩ := hti
  have hpd : PendD l.store l.redirstack := by
    intro p hp
    obtain ⟨c, h1, _, _, h4⟩ := hpend.2 p hp
    exact ⟨c, h1, h4⟩
  obtain ⟨⟨⟨hgood, hslot⟩, hbi⟩, hsg⟩ := hpre
  obtain ⟨⟨_, hline, _⟩, _, hidx, hps⟩ := hgood
  have hlastL : g.line ≠ [] → g.line.getLast? = some '\n' := by
    rcases C04.TTP.wfg_line hg with h | ⟨_, h⟩
    · intro h'; exact absurd h h'
    · exact fun _ => h
  by_cases hle : (C10.tapeOf l e).idx ≤ g.line.length
  · have h := gather_e hlastL hsg hpd (C10.tapeOf l e).idx l e
      ⟨⟨hline, rfl, hle, hslot, hps⟩, rfl, rfl⟩
    revert h
    rcases gatherheredocuments.run l e with ⟨r, e'⟩
    cases r with
    | error x => exact fun _ => True.intro
    | ok v => exact fun h => h
  · rcases hidx with hidx | ⟨_, hstrict⟩
    · exact absurd hidx hle
    · have h := C03.gather_dead (L := g.line) (ps := []) (sr := l.store) (rk := l.redirstack) l e
        ⟨⟨hline, by omega, hslot, hps, hstrict⟩, rfl, rfl⟩
      revert h
      rcases gatherheredocuments.run l e with ⟨r, e'⟩
      cases r with
      | error x => exact fun _ => True.intro
      | ok v =>
        obtain ⟨u, l'⟩ := v
        intro h
        show SG g.line l'.store
        rw [h.2.1]; exact hsg

/-- a step of the store that moves no redirect keeps the cells ending well -/
theorem sg_storeStep {L : Str} {len f : Nat} {st st' : List RedirCell}
    (h : C03.StoreStep len f false st st') (hs : SG L st) : SG L st' := by
  intro c' hc'
  obtain ⟨i, hi⟩ := List.getElem?_of_mem hc'
  have hlt : i < st'.length := (List.getElem?_eq_some_iff.mp hi).1
  have hlt' : i < st.length := by rw [← h.1]; exact hlt
  have hc : st[i]? = some st[i] := List.getElem?_eq_getElem hlt'
  have hmem : st[i] ∈ st := List.getElem_mem hlt'
  rcases h.2 i st[i] c' hc hi with h1 | ⟨_, x, y, v, _, _, _, _, h2⟩
  · rw [h1]; exact hs _ hmem
  · rcases h2 with h2 | ⟨h2, _⟩
    · rw [h2]; exact hs _ hmem
    · cases h2

/-! ## the two invariants together -/

def SIb (g : C11.Ghost) (len : Nat) (vs : List (Nat × SVal)) (la : Option (Nat × SVal))
    (l : Local) (e : Env) : Prop :=
  SIe g vs la l e ∧ C03.SI C03.TI len vs la l e

def FinB (g : C11.Ghost) (len : Nat) (v : SVal) (l : Local) (e : Env) : Prop :=
  FinE g v l e ∧ C03.Fin len v l e

section hooks
variable {g : C11.Ghost} {d len : Nat}

/-- what `token()` delivers, from fact (W) and C03's span invariant (no redirect is moved) -/
theorem next_B (hW : TokValW) (hg : C11.WFG g) (vs : List (Nat × SVal)) :
    C11.HT (fun l e => PreE g l e ∧ C03.SI C03.TI len vs none l e) nextToken
      (fun t l _ => TokG g.line t ∧ SG g.line l.store) (fun _ => True) := by
  obtain ⟨src, hline, hadd⟩ := hg
  have hg : C11.WFG g := ⟨src, hline, hadd⟩
  rintro l e ⟨hpre, ⟨g0, F, hseg, hlain, hti, hent⟩, _⟩
  have c1 := next_W (src := src) hg hline l e hpre.1
  have c2 := hW.next g hg l e hpre.1
  have c3 := C03.tokSpans.next len F l.store l e ⟨hti, rfl⟩
  rcases hr : nextToken.run l e with ⟨r, e'⟩
  rw [hr] at c1 c2 c3
  cases r with
  | error x => trivial
  | ok v =>
    obtain ⟨t, l'⟩ := v
    simp only [] at c1 c2 c3 ⊢
    obtain ⟨_, _, _, _, _, hstep⟩ := c3
    have hk := c1.2.2.1
    rw [← hline] at hk
    exact ⟨tokG_of hk.1 hk.2 c2, sg_storeStep hstep hpre.2⟩

theorem hooks_B (hW : TokValW) (hg : C11.WFG g)
    (hnp11 : C11.NPOK g (fun _ => True) (C07.nestedOf d))
    (h3 : HooksOrd realTables (lrHooks (C07.nestedOf d)) (C03.SI C03.TI len) (C03.Fin len)
      (fun _ => True)) :
    HooksOrdH realTables (lrHooks (C07.nestedOf d)) (SIb g len) (FinB g len) (fun _ => True)
      (fun s => s = C05.iuSym) :=
  hooks_G hg hnp11 h3 (next_B hW hg) (fun _ _ => gather_pre hg)

end hooks

/-! ## every parser run, by induction on the nesting depth -/

theorem parserRun_B (hW : TokValW) : ∀ d s,
    SatS (parserRun d) (InitState s)
      (fun r _ _ => ∀ n, r = some n → C03.NestedOK s n ∧ EG (Tape.ofInput s).line n.pos.2)
  | 0, s => SatS.raise trivial
  | d + 1, s => by
    have ih := parserRun_B hW d
    have hnps : C03.NPSpans C03.TI (C03.npOf (parserRun d)) := by
      intro s' b len F st
      have h1 := C03.tokSpans.nested d len F st s' b
      have h2 := C03.npOf_result (b := b)
        (Φ := fun r => ∀ n, r = some n → C03.NestedOK s' n)
        (SatS.post (ih s') (fun _ _ _ h n hn => (h n hn).1))
      refine SatS.post (SatS.and h1 (SatS.pre h2 (fun _ _ _ => trivial))) ?_
      rintro r l e ⟨hp, h3⟩
      exact ⟨hp, h3⟩
    have h3 : HooksOrd realTables (lrHooks (C07.nestedOf d)) (C03.SI C03.TI s.length)
        (C03.Fin s.length) (fun _ => True) :=
      C03.spans_hooks (len := s.length) C03.tokSpans (C03.npok_npOf d)
        (C03.wordContract C03.tokSpans _ hnps s.length)
    rw [C07.parserRun_succ]
    refine SatS.intro_state (fun l0 e0 hinit => ?_)
    have hg := initGhost_wf s l0 e0
    have hnp11 : C11.NPOK (initGhost s l0 e0) (fun _ => True) (C07.nestedOf d) := by
      refine npok_of_run (fun g' hg' => ?_) _
      obtain ⟨s', hl', _⟩ := hg'
      exact C11.HT.post (parserRun_C04 tokText d s' g' ⟨s', hl', by assumption⟩ hl')
        (fun _ _ _ h => h.2)
    have hH := hooks_B (len := s.length) hW hg hnp11 h3
    refine SatS.bind (SatS.weaken (run_sound_ordH real_WF C05.accept_iu _ hH 1073741824) ?_
      (fun _ _ _ h => h) (fun _ _ => trivial)) (fun res => ?_)
    · rintro l e ⟨rfl, rfl⟩
      refine ⟨⟨pre_init hinit, fun x hx => (by cases hx), fun x hx => (by cases hx)⟩, ?_⟩
      refine ⟨⟨0, 0, Nat.le_refl 0, Nat.le_refl 0, C03.tokSpans.init s l e hinit, ?_⟩, ?_, ?_⟩
      · intro x hx; cases hx
      · intro x hx; cases hx
      · intro x hx; cases hx
    · refine SatS.bind SatS.get (fun l => ?_)
      split
      · rename_i n _ _ _
        refine SatS.pure ?_
        rintro l' e' ⟨rfl, hgood⟩ m hm
        cases hm
        obtain ⟨⟨hsg, hng⟩, hfin⟩ := hgood
        obtain ⟨hs, hroot, hseal, g1, hends, hdone⟩ := hfin n rfl
        have heg : EG (Tape.ofInput s).line (resolve _ n).pos.2 := resolve_pos_eg hsg (hng n rfl).1
        refine ⟨⟨⟨C03.strict_resolve _ n hs hends hdone, C03.noPend_resolve _ n hseal, ?_⟩,
          rootEndOK_of_EG heg⟩, heg⟩
        rcases hroot with ht | hne
        · exact Or.inl (C03.tainted_resolve _ n hdone ht)
        · obtain ⟨e1, e2⟩ := C03.ext_pos_resolve hdone
          right; omega
      · exact SatS.pure (fun _ _ _ n hn => by cases hn)

/-- from fact (W) alone ((S), (T) and (H) proved): the text of the line before the end of the root
    of a parser run does not end in two raw newlines -/
theorem rootEG_conditional (hW : TokValW) (d : Nat) (s : Str) :
    SatS (parserRun d) (InitState s)
      (fun r _ _ => ∀ n, r = some n → EG (Tape.ofInput s).line n.pos.2) :=
  SatS.post (parserRun_B hW d s) (fun r _ _ h n hn => (h n hn).2)

/-- **`RootEnds`** from fact (W) alone -/
theorem rootEnds_conditional'' (hW : TokValW) : RootEnds :=
  fun d s => SatS.post (rootEG_conditional hW d s) (fun r _ _ h n hn => rootEndOK_of_EG (h n hn))

end Bashlex.C03.RE

#print axioms Bashlex.C03.RE.rootEnds_conditional''
