/-
  RootEnds, fact (W) (state-agnostic): `_parse_comsub`, and the two scanners.  The loop
  invariant of `_parse_comsub`: once the counter is 0, `ret` ends as required (`CSI`).
-/
import Bashlex.Props.C03.RE.WScan

namespace Bashlex.C03.RE
open Bashlex Bashlex.M Bashlex.C04.TTP

theorem sat_csBpeek (ck : Bool) (n : Nat) (st : CSState) (c : Char) (h : st.count = n) :
    Sat (csBpeek ck st c) (CSK n) := by
  unfold csBpeek
  simp only []
  s_walk
  all_goals exact h

theorem sat_csBmid (ck : Bool) (n : Nat) (st : CSState) (c : Char) (h : st.count = n) :
    Sat (csBmid ck st c) (CSK n) := by
  unfold csBmid
  simp only []
  s_walk
  all_goals first | exact h | exact sat_csBpeek ck n _ c h

theorem sat_csB (ck : Bool) (st : CSState) (c : Char) : Sat (csB ck st c) (CSK st.count) := by
  rw [csB_eq]
  unfold csBhead
  simp only []
  s_walk
  all_goals exact sat_csBmid ck _ _ c rfl

theorem sat_csCtail (P : CSParams) (ck : Bool) (n : Nat) (st : CSState) (c : Char)
    (h : st.count = n) : Sat (csCtail P ck st c) (CSK n) := by
  unfold csCtail
  simp only []
  s_walk
  all_goals exact h

theorem sat_csC (P : CSParams) (ck : Bool) (st : CSState) (c : Char) :
    Sat (csC P ck st c) (CSK st.count) := by
  rw [csC_eq]
  unfold csChead
  simp only []
  s_walk
  all_goals first | exact sat_csCtail P ck _ _ c rfl | rfl

theorem ends_csD {G : Char → Prop} (P : CSParams) (st : CSState) (c : Char) (hc : G P.close)
    (h0 : st.count ≠ 0) : Sat (csD P st c) (StepEnds G CSState.count) := by
  rw [csD_pure]
  refine Sat.pure ?_
  have h := csDStep_R P st c
  revert h
  cases csDStep P st c with
  | cont s => exact fun h => h.elim
  | next s c' => exact fun h => h.2.2
  | done x => exact fun h => h.1 ▸ ends_snoc _ (h.2 h0 ▸ hc)

theorem ends_csPre {G : Char → Prop} (P : CSParams) (ck : Bool) (st : CSState) (hc : G P.close)
    (h0 : st.count ≠ 0) : Sat (csPre P ck st) (StepEnds G CSState.count) := by
  unfold csPre
  refine Sat.bind (sat_csA P st) (fun r1 h1 => ?_)
  cases r1 with
  | cont s => exact Sat.pure (by show s.count ≠ 0; rw [show s.count = st.count from h1]; exact h0)
  | done r => exact h1.elim
  | next s1 c1 =>
    have e1 : s1.count = st.count := h1
    refine Sat.bind (sat_csB ck s1 c1) (fun r2 h2 => ?_)
    cases r2 with
    | cont s => exact Sat.pure (by
        show s.count ≠ 0; rw [show s.count = s1.count from h2, e1]; exact h0)
    | done r => exact h2.elim
    | next s2 c2 =>
      have e2 : s2.count = s1.count := h2
      refine Sat.bind (sat_csC P ck s2 c2) (fun r3 h3 => ?_)
      cases r3 with
      | cont s => exact Sat.pure (by
          show s.count ≠ 0; rw [show s.count = s2.count from h3, e2, e1]; exact h0)
      | done r => exact h3.elim
      | next s3 c3 =>
        have e3 : s3.count = s2.count := h3
        exact ends_csD P s3 c3 hc (by rw [e3, e2, e1]; exact h0)

/-- the loop invariant of `_parse_comsub` -/
def CSI (G : Char → Prop) (st : CSState) : Prop := st.count = 0 → Ends G st.ret

/-- `csPost` closes the counter only by `$(`, `${`, `$[`, and then appends what the nested scanner
    returned -/
theorem ends_csPost {G : Char → Prop} {pmp : MPParams → M Str} {pcs : CSParams → M Str}
    (hpmp : ∀ P', G P'.close → Sat (pmp P') (Ends G))
    (hpcs : ∀ P', G P'.close → Sat (pcs P') (Ends G))
    (h1 : G ')') (h2 : G '}') (h3 : G ']')
    (P : CSParams) (st : CSState) (c : Char) (h0 : st.count ≠ 0) :
    Sat (csPost pmp pcs P st c) (CSI G) := by
  unfold csPost
  simp only []
  refine Sat.bind_any (fun q => ?_)
  refine Sat.ite (fun _ => ?_) (fun _ => ?_)
  · -- a quote: the counter stays
    refine Sat.bind_any (fun _ => Sat.bind_any (fun _ => Sat.bind_any (fun _ => Sat.pure ?_)))
    intro hz
    exact absurd hz h0
  · refine Sat.ite (fun _ => ?_) (fun _ => Sat.pure (fun hz => absurd hz h0))
    have leaf : ∀ {m : M Str} {f : Str → CSState}, (∀ r, (f r).ret = st.ret ++ r) → Sat m (Ends G) →
        Sat (m >>= fun r => pure (f r)) (CSI G) :=
      fun hf hm => Sat.bind hm (fun r hr => Sat.pure (fun _ => hf r ▸ ends_append _ hr))
    split <;> exact Sat.ite (fun _ => leaf (fun _ => rfl) (hpcs _ h1)) (fun _ =>
      Sat.ite (fun _ => leaf (fun _ => rfl) (hpmp _ h2)) (fun _ => leaf (fun _ => rfl) (hpmp _ h3)))

/-! ## the two scanners -/

/-- **`_parse_matched_pair`** returns a string that ends with its closing character -/
theorem ends_pmp {G : Char → Prop} (fuel : Nat) (P : MPParams) (hc : G P.close) :
    Sat (parseMatchedPair fuel P) (Ends G) := by
  cases fuel with
  | zero => unfold parseMatchedPair; exact Sat.raise trivial
  | succ fuel =>
    unfold parseMatchedPair
    simp only []
    refine Sat.bind_any (fun x => ?_)
    refine Sat.bind_any (fun lf => ?_)
    refine Sat.loop (I := fun st => st.count ≠ 0) (R := Ends G) trivial (fun st h0 => ?_) lf _
      (by show (1 : Nat) ≠ 0; decide)
    refine Sat.ite (fun hz => ?_) (fun _ => ?_)
    · exact absurd (by simpa using hz) h0
    refine Sat.bind (ends_mpPre P _ st hc h0) (fun r hr => ?_)
    cases r with
    | cont s => exact Sat.pure hr
    | done r => exact Sat.pure hr
    | next s c =>
      refine Sat.bind (sat_mpPost P _ s c) (fun s' hs' => Sat.pure ?_)
      show s'.count ≠ 0
      rw [hs']; exact hr

/-- **`_parse_comsub`** returns a string that ends with its closing character or with that of a
    nested `$(`, `${`, `$[` -/
theorem ends_pcs {G : Char → Prop} (h1 : G ')') (h2 : G '}') (h3 : G ']') :
    ∀ (fuel : Nat) (P : CSParams), G P.close → Sat (parseComsub fuel P) (Ends G)
  | 0, P, _ => by unfold parseComsub; exact Sat.raise trivial
  | fuel + 1, P, hc => by
    unfold parseComsub
    simp only []
    refine Sat.bind_any (fun peek => Sat.bind_any (fun _ => ?_))
    refine Sat.ite (fun _ => ends_pmp fuel _ hc) (fun _ => ?_)
    refine Sat.bind_any (fun lf => ?_)
    refine Sat.loop (I := CSI G) (R := Ends G) trivial (fun st hI => ?_) lf _ (fun h => by cases h)
    refine Sat.ite (fun hz => Sat.pure (hI (by simpa using hz))) (fun hz => ?_)
    have h0 : st.count ≠ 0 := by simpa using hz
    refine Sat.bind (ends_csPre P _ st hc h0) (fun r hr => ?_)
    cases r with
    | cont s => exact Sat.pure (fun hz' => absurd hz' hr)
    | done r => exact Sat.pure hr
    | next s c =>
      exact Sat.bind (ends_csPost (fun P' h' => ends_pmp fuel P' h')
        (fun P' h' => ends_pcs h1 h2 h3 fuel P' h') h1 h2 h3 P s c hr) (fun s' hs' => Sat.pure hs')

/-- **`_parse_matched_pair`** returns a string that does not end in a newline -/
theorem sat_pmp (fuel : Nat) (P : MPParams) (hc : P.close ≠ '\n') :
    Sat (parseMatchedPair fuel P) NoNL :=
  (ends_pmp (G := (· ≠ '\n')) fuel P hc).weaken (fun _ h => h.noNL) (fun _ h => h)

/-- **`_parse_comsub`** returns a string that does not end in a newline -/
theorem sat_pcs : ∀ (fuel : Nat) (P : CSParams), P.close ≠ '\n' → Sat (parseComsub fuel P) NoNL :=
  fun fuel P hc => (ends_pcs (G := (· ≠ '\n')) (by decide) (by decide) (by decide) fuel P hc).weaken
    (fun _ h => h.noNL) (fun _ h => h)

end Bashlex.C03.RE

#print axioms Bashlex.C03.RE.sat_pcs
