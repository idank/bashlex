/-
  RootEnds, fact (T): from the token-text relation (`C04.tokText`, proved) to the END of a token.

  `eg_of_del`: if the text under a span is the string `x` with some backslash-newline pairs put
  back (`C04.Del`) and `x` does not end in a newline, the text does not end in two raw newlines:
  the last newline of the text is not preceded by a backslash, so it is not deleted.
  `tokG_of`: a token satisfying `TT` (text relation) and `TokWF` (type / value consistency of
  C12) whose value does not end in a newline unless it is an operator (`WordValOK`) satisfies
  `TokG`.
-/
import Bashlex.Props.C03.RE.Engine

namespace Bashlex.C03.RE
open Bashlex Bashlex.C04 Bashlex.Spec
set_option linter.unusedSimpArgs false

/-! ## `Del` and a text ending in two newlines -/

theorem del_single_nl {w : Str} (h : Del ['\n'] w) : w = ['\n'] := by
  cases h with
  | keep c h' => cases h'; rfl

theorem del_last_nl : ∀ {s w : Str}, Del s w → ∀ s0, s = s0 ++ ['\n', '\n'] →
    w.getLast? = some '\n' := by
  intro s w h
  induction h with
  | nil => intro s0 h0; cases s0 <;> simp at h0
  | @keep c s w h ih =>
    intro s0 h0
    cases s0 with
    | nil =>
      simp only [List.nil_append, List.cons.injEq] at h0
      obtain ⟨rfl, rfl⟩ := h0
      rw [del_single_nl h]; rfl
    | cons x s0' =>
      simp only [List.cons_append, List.cons.injEq] at h0
      exact getLast?_cons_of_some (ih s0' h0.2)
  | @skip s w h ih =>
    intro s0 h0
    cases s0 with
    | nil => simp at h0
    | cons x s1 =>
      cases s1 with
      | nil =>
        simp only [List.cons_append, List.nil_append, List.cons.injEq] at h0
        obtain ⟨_, _, rfl⟩ := h0
        rw [del_single_nl h]; rfl
      | cons y s2 =>
        simp only [List.cons_append, List.cons.injEq] at h0
        exact ih s2 h0.2.2

/-- **fact (T)** -/
theorem eg_of_del {L : Str} {a e : Nat} {x : Str} (hae : a < e)
    (hd : Del (Str.slice L a e) x) (hx : x.getLast? ≠ some '\n') : EG L e := by
  rintro ⟨h2, h3, h4⟩
  apply hx
  obtain ⟨j, rfl⟩ : ∃ j, e = j + 1 := ⟨e - 1, by omega⟩
  simp only [Nat.add_sub_cancel] at h3
  rw [slice_snoc L h3 (by omega)] at hd
  by_cases haj : a = j
  · subst haj
    rw [slice_self, List.nil_append] at hd
    rw [del_single_nl hd]; rfl
  · obtain ⟨k, rfl⟩ : ∃ k, j = k + 1 := ⟨j - 1, by omega⟩
    have h4' : L[k]? = some '\n' := by
      have : k + 1 + 1 - 2 = k := by omega
      rw [this] at h4; exact h4
    rw [slice_snoc L h4' (by omega), List.append_assoc] at hd
    exact del_last_nl hd _ rfl

/-! ## `stripContinuations` is a `Del` -/

theorem del_strip : ∀ s : Str, Del s (stripContinuations s)
  | [] => by simp [stripContinuations]; exact .nil
  | [c] => by
    rw [strip_cons (by simp)]
    simp [stripContinuations]
    exact .keep c .nil
  | c :: d :: rest => by
    by_cases h : c = '\\' ∧ d = '\n'
    · obtain ⟨rfl, rfl⟩ := h
      rw [strip_pair]
      exact .skip (del_strip rest)
    · rw [strip_cons (by simpa using h)]
      exact .keep c (del_strip (d :: rest))

/-! ## tokens -/

/-- **fact (W), as a property of a delivered token**: a value ending in a newline belongs to an
    operator token (whose value is its spelling: `TokWF`) -/
def WordValOK (t : Token) : Prop :=
  ∀ v, t.value = .str v → v.getLast? = some '\n' → ∃ ty, t.ttype = some ty ∧ ty.strValueChars.isSome

instance (t : Token) : Decidable (WordValOK t) := by
  unfold WordValOK
  cases t.value with
  | str v =>
    by_cases h : v.getLast? = some '\n'
    · cases hty : t.ttype with
      | none => exact isFalse (fun hh => by obtain ⟨ty, h1, _⟩ := hh v rfl h; cases h1)
      | some ty =>
        by_cases h2 : ty.strValueChars.isSome
        · exact isTrue (fun v' hv' _ => ⟨ty, rfl, h2⟩)
        · exact isFalse (fun hh => by
            obtain ⟨ty', h1, h3⟩ := hh v rfl h
            cases h1; exact h2 h3)
    · exact isTrue (fun v' hv' hl => by cases hv'; exact absurd hl h)
  | int k => exact isTrue (fun v hv => by cases hv)
  | none => exact isTrue (fun v hv => by cases hv)

theorem residues_last {b : Bool} {line : Str} {e : Nat} {r : Str} (h : r ∈ residues b line e) :
    r = [] ∨ (r ≠ [] ∧ r.getLast? ≠ some '\n') := by
  unfold residues at h
  simp only [List.mem_append, List.mem_singleton, List.mem_ite_nil_right, List.mem_cons,
    List.not_mem_nil, or_false] at h
  rcases h with ((h | h) | h) | h
  · exact Or.inl h
  · right; rw [h.2]; exact ⟨by simp, by decide⟩
  · right; rcases h.2 with h | h <;> (rw [h]; exact ⟨by simp, by decide⟩)
  · right; rcases h.2 with h | h <;> (rw [h]; exact ⟨by simp, by decide⟩)

theorem getLast?_append_ne_nil {α : Type} (a : List α) {b : List α} (hb : b ≠ []) :
    (a ++ b).getLast? = b.getLast? := by
  rw [List.getLast?_append]
  cases h : b.getLast? with
  | none => rw [List.getLast?_eq_none_iff] at h; exact absurd h hb
  | some x => rfl

theorem strval_last {ty : TokType} {s : Str} (h : ty.strValueChars = some s)
    (hl : s.getLast? = some '\n') : ty = .NEWLINE ∧ s = ['\n'] := by
  cases ty <;> simp [TokType.strValueChars] at h <;> subst h <;> first | (exact ⟨rfl, rfl⟩) | (revert hl; decide)

/-- a delivered token ends well -/
theorem tokG_of {L : Str} {t : Token} (hTT : TT L t) (hWF : C12.TokWF t) (hW : WordValOK t) :
    TokG L t := by
  cases hv : t.value with
  | none =>
    right
    have := (hTT.none hv).2
    simp only [Token.endlexpos, this, Option.getD_none]
    exact EG_zero L
  | int k =>
    right
    unfold TT ttOK at hTT
    rw [hv] at hTT
    cases hp : t.pos with
    | none => rw [hp] at hTT; simp at hTT
    | some p =>
      obtain ⟨a, e⟩ := p
      rw [hp] at hTT
      simp only [Bool.and_eq_true, decide_eq_true_eq, List.any_eq_true] at hTT
      obtain ⟨⟨⟨_, hae⟩, hel⟩, r, hr, hrel⟩ := hTT
      simp only [Bool.and_eq_true, decide_eq_true_eq, beq_iff_eq] at hrel
      obtain ⟨⟨⟨hlen, hsuf⟩, hnum⟩, _⟩ := hrel
      have he : t.endlexpos = e := by simp [Token.endlexpos, hp]
      rw [he]
      refine eg_of_del hae (del_strip _) ?_
      intro hlast
      have hd : stripContinuations (Str.slice L a e) =
          (stripContinuations (Str.slice L a e)).take
            ((stripContinuations (Str.slice L a e)).length - r.length) ++ r := by
        conv => lhs; rw [← List.take_append_drop
          ((stripContinuations (Str.slice L a e)).length - r.length)
          (stripContinuations (Str.slice L a e))]
        rw [hsuf]
      rcases residues_last hr with hr0 | hr0
      · subst hr0
        simp only [List.length_nil, Nat.sub_zero, List.take_length] at hnum
        unfold legalNumber at hnum
        simp only [Bool.and_eq_true, List.all_eq_true] at hnum
        have hm := List.mem_of_getLast? hlast
        have := hnum.2 _ hm
        revert this; decide
      · rw [hd, getLast?_append_ne_nil _ hr0.1] at hlast
        exact hr0.2 hlast
  | str v =>
    obtain ⟨a, e, hp, hae, _, hnum, heof, hty, _, hmain⟩ := hTT.str hv
    have he : t.endlexpos = e := by simp [Token.endlexpos, hp]
    rcases hmain with ⟨hel, _, _, r, hr, hrel⟩ | hnl
    · by_cases hlast : v.getLast? = some '\n'
      · -- an operator token: its value is its spelling, hence NEWLINE
        obtain ⟨ty, hty', hsome⟩ := hW v hv hlast
        left
        cases hs : ty.strValueChars with
        | none => rw [hs] at hsome; cases hsome
        | some s =>
          have hval := hWF ty hty'
          have hne : ty ≠ .EOF := by
            intro h; subst h
            simp [Token.is, hty'] at heof
          have hres : C12.resOK ty = true := by
            cases ty <;> first | rfl | exact absurd rfl hne | (simp [TokType.strValueChars] at hs)
          obtain ⟨s', hs', _, hsp⟩ := hval.1 hres
          rw [hv] at hs'
          cases hs'
          have := hsp s hs
          subst this
          obtain ⟨rfl, rfl⟩ := strval_last hs hlast
          exact ⟨hty', hv⟩
      · right
        rw [he]
        unfold textRel at hrel
        refine eg_of_del hae (delB_iff.mp hrel) ?_
        rcases residues_last hr with hr0 | hr0
        · subst hr0; rw [List.append_nil]; exact hlast
        · rw [getLast?_append_ne_nil _ hr0.1]; exact hr0.2
    · left
      unfold nlOver at hnl
      simp only [Bool.and_eq_true, beq_iff_eq] at hnl
      obtain ⟨⟨h1, h2⟩, _⟩ := hnl
      refine ⟨?_, by rw [hv, h2]⟩
      unfold Token.is at h1
      simpa using h1

end Bashlex.C03.RE

/-! ## `TokEnds`, reduced to facts (W) and (H)

  (`TokValW` is proved in `WRead.lean`: `tokValW`; `StoreEnds` is superseded by `Bridge.lean`,
  which proves fact (H) inside the engine pass, where C03's invariant is available.) -/

namespace Bashlex.C03.RE
open Bashlex Bashlex.C04

/-- **fact (W)**: the value of a token `token()` delivers does not end in a newline unless the
    token is an operator (a statement about `_readtokenword`: a newline breaks a word, an escaped
    newline is a continuation and is not appended, what a quote or an expansion returns ends with
    its closing character) -/
structure TokValW : Prop where
  next : ∀ g, C11.WFG g → C11.HT (I5 g) nextToken (fun t _ _ => WordValOK t) (fun _ => True)

/-- **fact (H)**: `token()` (which gathers here-documents when it reads a NEWLINE) and
    `gatherheredocuments` keep the redirect cells ending well: an extended redirect ends with
    the delimiter line of its body, before that line's newline -/
structure StoreEnds : Prop where
  next : ∀ g, C11.WFG g →
    C11.HT (fun l e => I5 g l e ∧ SG g.line l.store) nextToken
      (fun _ l _ => SG g.line l.store) (fun _ => True)
  gather : ∀ g, C11.WFG g →
    C11.HT (fun l e => I5 g l e ∧ SG g.line l.store) gatherheredocuments
      (fun _ l _ => SG g.line l.store) (fun _ => True)

/-- **`TokEnds` from (W) and (H)**: fact (T) is `tokG_of`, from `C04.tokText` -/
theorem tokEnds_of (hW : TokValW) (hH : StoreEnds) : TokEnds where
  next := by
    intro g hg l e hpre
    obtain ⟨src, hline, hadd⟩ := hg
    have hg : C11.WFG g := ⟨src, hline, hadd⟩
    have a1 := next_W (src := src) hg hline l e hpre.1
    have a2 := hW.next g hg l e hpre.1
    have a3 := hH.next g hg l e hpre
    rcases hr : nextToken.run l e with ⟨r, e'⟩
    rw [hr] at a1 a2 a3
    cases r with
    | error x => trivial
    | ok v =>
      obtain ⟨t, l'⟩ := v
      simp only [] at a1 a2 a3 ⊢
      refine ⟨?_, a3⟩
      have hk := a1.2.2.1
      rw [← hline] at hk
      exact tokG_of hk.1 hk.2 a2
  gather := hH.gather

/-- **`RootEnds` from facts (W) and (H)** ((S) and (T) proved) -/
theorem rootEnds_conditional' (hW : TokValW) (hH : StoreEnds) : RootEnds :=
  rootEnds_conditional (tokEnds_of hW hH)

end Bashlex.C03.RE

#print axioms Bashlex.C03.RE.tokG_of
#print axioms Bashlex.C03.RE.rootEnds_conditional'
