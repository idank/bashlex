/-
  RootEnds — fact (S): the end of what an action builds is the end of its last argument.

  `EG L p`: the text of `L` before position `p` does not end in two raw newlines.
  `SG L st`: every cell of the redirect store ends at such a position (state invariant; kept by
  every action: `Props/C04/ActionInv.lean`; `p_redirection_heredoc` adds the span of the redirect itself).
  `NG L n`: the node `n` ends at such a position (for a pipeline: its last part too, which is
  what `! pipeline` reads).  `GoodNE L v`: the semantic value `v` is a token / a node / a
  non-empty list of nodes whose (last) end is such a position.
  One lemma per action function that can build (the last part of) the root.
-/
import Bashlex.Props.C04.ActionInv
import Bashlex.Proofs.HoareS
import Bashlex.Proofs.ActionEqns
import Bashlex.Proofs.ActionHelpers
import Bashlex.Props.C07.Word

namespace Bashlex.C03.RE
open Bashlex Bashlex.M Bashlex.LR
set_option linter.unusedSectionVars false
set_option linter.unusedVariables false

/-! ## definitions -/

/-- the text before position `p` does not end in two raw newline characters -/
def EG (L : Str) (p : Nat) : Prop := ¬ (2 ≤ p ∧ L[p - 1]? = some '\n' ∧ L[p - 2]? = some '\n')

instance (L : Str) (p : Nat) : Decidable (EG L p) := by unfold EG; exact inferInstance

theorem EG_zero (L : Str) : EG L 0 := by
  intro h; omega

/-- every cell of the redirect store ends well -/
abbrev SG (L : Str) (st : List RedirCell) : Prop := ∀ c ∈ st, EG L c.pos.2

/-- the state invariant -/
def SGP (L : Str) : Local → Env → Prop := fun l _ => SG L l.store

/-- a node that ends well (a pipeline: its last part too) -/
def NG (L : Str) (n : Node) : Prop :=
  EG L n.pos.2 ∧ ∀ p ps b, n = .pipeline p ps → ps.getLast? = some b → EG L b.pos.2

/-- a value that is there and ends well -/
def GoodNE (L : Str) : SVal → Prop
  | .tok t => EG L t.endlexpos
  | .node n => NG L n
  | .nodes l => ∃ b, l.getLast? = some b ∧ NG L b
  | .none => False

/-- the last of a list of nodes ends well -/
def LastEG (L : Str) (l : List Node) : Prop := ∃ b, l.getLast? = some b ∧ EG L b.pos.2

variable {L : Str}

theorem NG.eg {n : Node} (h : NG L n) : EG L n.pos.2 := h.1

theorem ng_of {n : Node} (h : EG L n.pos.2) (hnp : ∀ p ps, n ≠ .pipeline p ps) : NG L n :=
  ⟨h, fun p ps b hn _ => absurd hn (hnp p ps)⟩

theorem lastEG_of_goodNE_nodes {l : List Node} (h : GoodNE L (.nodes l)) : LastEG L l := by
  obtain ⟨b, hb, hn⟩ := h
  exact ⟨b, hb, hn.1⟩

theorem lastEG_append {a b : List Node} (h : LastEG L b) : LastEG L (a ++ b) := by
  obtain ⟨x, hx, he⟩ := h
  refine ⟨x, ?_, he⟩
  rw [List.getLast?_append, hx]; rfl

theorem lastEG_single {n : Node} (h : EG L n.pos.2) : LastEG L [n] := ⟨n, rfl, h⟩

theorem lastEG_snoc {a : List Node} {n : Node} (h : EG L n.pos.2) : LastEG L (a ++ [n]) :=
  lastEG_append (lastEG_single h)

/-! ## from the frame to `Keeps` -/

theorem keeps_of_Q {α : Type} {m : M α} (h : KeepsQ (SG L) m) :
    Keeps (SGP L) m (fun _ => True) := by
  intro l e hp
  have h' := h l e
  rcases hr : m.run l e with ⟨r, e'⟩
  cases r with
  | error x => trivial
  | ok v =>
    obtain ⟨a, l'⟩ := v
    exact ⟨h' a l' e' hp hr, trivial⟩

theorem keeps_QS {α : Type} {m : M α} {Ψ : α → Prop} (h : KeepsQ (SG L) m)
    (hs : Sat m Ψ (fun _ => True)) : Keeps (SGP L) m Ψ :=
  Keeps.weaken (Keeps.and_sat (keeps_of_Q h) hs) (fun _ h => h.2)

/-! ## stateless facts -/

theorem sat_tokAt (p : PCtx) (i : Nat) : Sat (p.tokAt i) (fun t => p.slice i = .tok t) := by
  unfold PCtx.tokAt
  split
  · rename_i t h; exact Sat.pure h
  · exact Sat.foreign trivial

theorem sat_nodeAt (p : PCtx) (i : Nat) (s : String) :
    Sat (p.nodeAt i s) (fun n => p.slice i = .node n) := by
  unfold PCtx.nodeAt
  split
  · rename_i t h; exact Sat.pure h
  · exact Sat.foreign trivial

theorem sat_nodesAt (p : PCtx) (i : Nat) (s : String) :
    Sat (p.nodesAt i s) (fun n => p.slice i = .nodes n) := by
  unfold PCtx.nodesAt
  split
  · rename_i t h; exact Sat.pure h
  · exact Sat.foreign trivial

/-! ## `nodePos`, `_partsspan` -/

theorem keeps_nodePos {n : Node} (hn : EG L n.pos.2) :
    Keeps (SGP L) (nodePos n) (fun p => EG L p.2) := by
  unfold nodePos
  split
  · rename_i p a b c d e' id
    refine Keeps.bind Keeps.get (fun l0 h0 => ?_)
    obtain ⟨e0, h0⟩ := h0
    split
    · rename_i c hc
      exact Keeps.pure (h0 c (List.mem_of_getElem? hc))
    · exact Keeps.pure hn
  · exact Keeps.pure hn

theorem keeps_partsspan {parts : List Node} (h : LastEG L parts) :
    Keeps (SGP L) (partsspan parts) (fun sp => EG L sp.2) := by
  obtain ⟨b, hb, he⟩ := h
  unfold partsspan
  split
  · rename_i a b' h1 h2
    rw [hb] at h2
    cases h2
    refine Keeps.bind (keeps_of_Q (keepsQ_nodePos a)) (fun x _ => ?_)
    exact Keeps.bind (keeps_nodePos he) (fun y hy => Keeps.pure hy)
  · exact Keeps.foreign trivial


/-! ## `_makeparts` and what is built on it -/

theorem getLast?_cons_of_some {α : Type} {a x : α} {rest : List α} (h : rest.getLast? = some x) :
    (a :: rest).getLast? = some x := by
  cases rest with
  | nil => cases h
  | cons y ys => rw [List.getLast?_cons_cons]; exact h


section
variable {np : NestedParse} (hnp : ∀ s b, KeepsQ (SG L) (np s b))
include hnp

theorem keeps_expandword (t : Token) :
    Keeps (SGP L) (expandword np t) (fun w => w.pos = (t.lexpos, t.endlexpos)) :=
  keeps_QS (keepsQ_expandword hnp t) (C07.sat_expandword_pos np t)

omit hnp in
theorem lastEG_chunk {a : SVal} {chunk : List Node}
    (h : ChunkOf (fun t w => w.pos = (t.lexpos, t.endlexpos)) a chunk) (ha : GoodNE L a) :
    LastEG L chunk := by
  cases a with
  | none => exact ha.elim
  | node n => cases h; exact lastEG_single ha.1
  | nodes l => cases h; exact lastEG_of_goodNE_nodes ha
  | tok t =>
    simp only [ChunkOf] at h
    split at h
    · obtain ⟨w, rfl, hw⟩ := h
      exact lastEG_single (by rw [hw]; exact ha)
    · subst h
      exact lastEG_single ha

/-- the last part `_makeparts` returns comes from the last argument -/
theorem keeps_makeparts {args : List SVal}
    (hl : ∀ a, args.getLast? = some a → GoodNE L a) (hne : args ≠ []) :
    Keeps (SGP L) (makeparts ⟨np, args⟩) (LastEG L) := by
  refine (keeps_makeparts_chunks fun t _ _ => keeps_expandword hnp t).weaken ?_
  rintro _ ⟨chunks, rfl, hc⟩
  induction hc with
  | nil => exact absurd rfl hne
  | @cons a c as cs h1 h2 ih =>
    rw [List.flatten_cons]
    cases as with
    | nil => cases h2; simpa using lastEG_chunk h1 (hl a rfl)
    | cons b bs =>
      exact lastEG_append (ih (fun x hx => hl x (getLast?_cons_of_some hx)) (by simp))

theorem keeps_handleNotImplemented {args : List SVal} (ty : String)
    (hl : ∀ a, args.getLast? = some a → GoodNE L a) (hne : args ≠ []) :
    Keeps (SGP L) (handleNotImplemented ⟨np, args⟩ ty) (GoodNE L) := by
  unfold handleNotImplemented
  refine Keeps.bind (keeps_of_Q keepsQ_optProceed) (fun b _ => ?_)
  split
  · refine Keeps.bind (keeps_makeparts hnp hl hne) (fun parts hp => ?_)
    refine Keeps.bind (keeps_partsspan hp) (fun sp hsp => ?_)
    exact Keeps.pure (ng_of hsp (by intro p ps h; cases h))
  · exact Keeps.raise trivial

end

theorem keeps_mkCompound1 {inner : Span → List Node → Node} {parts : List Node}
    (h : LastEG L parts) : Keeps (SGP L) (mkCompound1 inner parts) (GoodNE L) := by
  unfold mkCompound1
  refine Keeps.bind (keeps_partsspan h) (fun sp hsp => ?_)
  exact Keeps.pure (ng_of hsp (by intro p ps h; cases h))

theorem keeps_addRedirects {n : Node} {reds : List Node} (h : LastEG L reds) :
    Keeps (SGP L) (addRedirects n reds) (NG L) := by
  refine (keeps_addRedirects_eq (N := fun _ sp => EG L sp.2) ?_ trivial (Or.inr trivial)).weaken ?_
  · intro pos l r last _ hlast
    obtain ⟨x, hx, hex⟩ := lastEG_append (a := r) h
    rw [hx] at hlast
    cases hlast
    exact keeps_nodePos hex
  · rintro _ ⟨pos, l, r, last, sp, -, -, hsp, -, rfl⟩
    exact ng_of hsp (by intro p ps h; cases h)

/-! ## stateless: `x ++ [sep] ++ y` -/

theorem sat_joinLists (p : PCtx) (mk : Span → Str → Node) (site : String)
    (hlast : GoodNE L (p.slice (p.len - 1))) : Sat (joinLists p mk site) (GoodNE L) := by
  unfold joinLists
  split
  · rename_i h
    have h2 : p.len = 2 := by simpa using h
    refine Sat.bind (sat_nodeAt p 1 site) (fun n hn => ?_)
    rw [h2] at hlast
    rw [show (2 - 1 : Nat) = 1 from rfl, hn] at hlast
    exact Sat.pure ⟨n, rfl, hlast⟩
  · refine Sat.bind_any (fun l => ?_)
    refine Sat.bind (sat_nodesAt p (p.len - 1) site) (fun r hr => ?_)
    refine Sat.bind_any (fun s => ?_)
    rw [hr] at hlast
    obtain ⟨b, hb, hn⟩ := hlast
    refine Sat.pure ⟨b, ?_, hn⟩
    rw [List.getLast?_append, hb]; rfl


/-! ## the action functions -/

theorem lastEG_fix {l : List Node} (h : LastEG L l) : LastEG L (actionCore.fix l) := by
  obtain ⟨b, hb, he⟩ := h
  obtain ⟨b', hb', hr⟩ := forall2_getLast (fix_rel l) b hb
  exact ⟨b', hb', by rcases hr with rfl | ⟨pos, rfl, rfl⟩ <;> exact he⟩

theorem sat_reservedAt (p : PCtx) (i : Nat) : Sat (reservedAt p i) (fun n => n.pos = p.lexspan i) := by
  unfold reservedAt
  exact Sat.bind_any (fun _ => Sat.pure rfl)

theorem sat_operatorAt (p : PCtx) (i : Nat) : Sat (operatorAt p i) (fun n => n.pos = p.lexspan i) := by
  unfold operatorAt
  exact Sat.bind_any (fun _ => Sat.pure rfl)

/-- the end of `p.lexspan i` for a slot that ends well: the token's end, or 0 -/
theorem eg_lexspan {p : PCtx} {i : Nat} (h : GoodNE L (p.slice i)) : EG L (p.lexspan i).2 := by
  unfold PCtx.lexspan
  cases hs : p.slice i with
  | tok t => rw [hs] at h; exact h
  | none => exact EG_zero L
  | node n => exact EG_zero L
  | nodes l => exact EG_zero L

section
variable {np : NestedParse} (hnp : ∀ s b, KeepsQ (SG L) (np s b))

/-! ### stateless ones -/

theorem sat_redirection (args : List SVal)
    (h2 : ((⟨np, args⟩ : PCtx).len == 3) = true → EG L ((⟨np, args⟩ : PCtx).lexspan 2).2)
    (h3 : ¬ ((⟨np, args⟩ : PCtx).len == 3) = true → EG L ((⟨np, args⟩ : PCtx).lexspan 3).2) :
    Sat (actionCore np "p_redirection" args) (fun r => GoodNE L r.1) := by
  rw [actionCore_p_redirection]; simp only []
  refine Sat.bind_any (fun otok => ?_)
  split
  · refine Sat.bind_any (fun w => ?_)
    refine Sat.bind_any (fun x => ?_)
    split
    · rename_i h
      exact Sat.bind_any (fun _ => Sat.pure (ng_of (h2 h) (by intro p ps h; cases h)))
    · rename_i h
      exact Sat.bind_any (fun _ => Sat.bind_any (fun _ =>
        Sat.pure (ng_of (h3 h) (by intro p ps h; cases h))))
  · refine Sat.bind_any (fun x => ?_)
    split
    · rename_i h
      exact Sat.bind_any (fun _ => Sat.pure (ng_of (h2 h) (by intro p ps h; cases h)))
    · rename_i h
      exact Sat.bind_any (fun _ => Sat.bind_any (fun _ =>
        Sat.pure (ng_of (h3 h) (by intro p ps h; cases h))))

theorem sat_simple_command_element (args : List SVal)
    (h : GoodNE L ((⟨np, args⟩ : PCtx).slice 1)) :
    Sat (actionCore np "p_simple_command_element" args) (fun r => GoodNE L r.1) := by
  rw [actionCore_p_simple_command_element]
  split
  · rename_i n hn
    rw [hn] at h
    exact Sat.pure ⟨n, rfl, h⟩
  · refine Sat.bind (sat_tokAt _ 1) (fun t ht => ?_)
    rw [ht] at h
    refine Sat.bind (C07.sat_expandword_at np t) (fun w hw => ?_)
    obtain ⟨v, ps, rfl⟩ := hw
    split
    · exact Sat.pure ⟨_, rfl, ng_of h (by intro p ps h; cases h)⟩
    · exact Sat.pure ⟨_, rfl, ng_of h (by intro p ps h; cases h)⟩


theorem sat_redirection_list (args : List SVal)
    (hlen : (⟨np, args⟩ : PCtx).len = 2 ∨ (⟨np, args⟩ : PCtx).len = 3)
    (hlast : GoodNE L ((⟨np, args⟩ : PCtx).slice ((⟨np, args⟩ : PCtx).len - 1))) :
    Sat (actionCore np "p_redirection_list" args) (fun r => GoodNE L r.1) := by
  rw [actionCore_p_redirection_list]
  split
  · rename_i h
    have h2 : (⟨np, args⟩ : PCtx).len = 2 := by simpa using h
    rw [h2] at hlast
    refine Sat.bind (sat_nodeAt _ 1 _) (fun n hn => ?_)
    rw [show (2 - 1 : Nat) = 1 from rfl, hn] at hlast
    exact Sat.pure ⟨n, rfl, hlast⟩
  · rename_i h
    have h3 : (⟨np, args⟩ : PCtx).len = 3 := by
      rcases hlen with h2 | h3
      · rw [h2] at h; exact absurd rfl h
      · exact h3
    rw [h3] at hlast
    refine Sat.bind_any (fun l => ?_)
    refine Sat.bind (sat_nodeAt _ 2 _) (fun n hn => ?_)
    rw [show (3 - 1 : Nat) = 2 from rfl, hn] at hlast
    exact Sat.pure ⟨n, by simp, hlast⟩

theorem sat_simple_command (args : List SVal)
    (hlen : (⟨np, args⟩ : PCtx).len = 2 ∨ (⟨np, args⟩ : PCtx).len = 3)
    (hlast : GoodNE L ((⟨np, args⟩ : PCtx).slice ((⟨np, args⟩ : PCtx).len - 1))) :
    Sat (actionCore np "p_simple_command" args) (fun r => GoodNE L r.1) := by
  rw [actionCore_p_simple_command]
  split
  · rename_i h
    have h3 : (⟨np, args⟩ : PCtx).len = 3 := by simpa using h
    rw [h3] at hlast
    refine Sat.bind_any (fun l => ?_)
    refine Sat.bind (sat_nodesAt _ 2 _) (fun r hr => ?_)
    rw [show (3 - 1 : Nat) = 2 from rfl, hr] at hlast
    obtain ⟨b, hb, hn⟩ := hlast
    refine Sat.pure ⟨b, ?_, hn⟩
    rw [List.getLast?_append, hb]; rfl
  · rename_i h
    have h2 : (⟨np, args⟩ : PCtx).len = 2 := by
      rcases hlen with h2 | h3
      · exact h2
      · rw [h3] at h; exact absurd rfl h
    rw [h2] at hlast
    exact Sat.pure hlast

theorem sat_joined (args : List SVal) (mk : Span → Str → Node) (site : String)
    (hlast : GoodNE L ((⟨np, args⟩ : PCtx).slice ((⟨np, args⟩ : PCtx).len - 1))) :
    Sat (do let r ← joinLists ⟨np, args⟩ mk site; pure (r, false) : M (SVal × Bool))
      (fun r => GoodNE L r.1) :=
  Sat.bind (sat_joinLists _ mk site hlast) (fun r hr => Sat.pure hr)

theorem sat_list_terminator (args : List SVal)
    (h : ∀ t, (⟨np, args⟩ : PCtx).slice 1 = .tok t → t.value = .str ['\n'] ∨ EG L t.endlexpos) :
    Sat (actionCore np "p_list_terminator" args) (fun r => ∀ n, r.1 = .node n → NG L n) := by
  rw [actionCore_p_list_terminator]
  split
  · rename_i t ht
    split
    · rename_i hv
      refine Sat.pure ?_
      intro n hn
      cases hn
      refine ng_of ?_ (by intro p ps h; cases h)
      rw [PCtx.lexspan_tok ht]
      rcases h t ht with h1 | h1
      · rw [h1] at hv; exact absurd hv (by decide)
      · exact h1
    · exact Sat.pure (fun n hn => by cases hn)
  · exact Sat.pure (fun n hn => by cases hn)

theorem sat_inputunit (args : List SVal)
    (h : ∀ n, (⟨np, args⟩ : PCtx).slice 1 = .node n → NG L n) :
    Sat (actionCore np "p_inputunit" args) (fun r => ∀ n, r.1 = .node n → NG L n) := by
  rw [actionCore_p_inputunit]; simp only []
  refine Sat.bind_any (fun l => ?_)
  have key : Sat (match (⟨np, args⟩ : PCtx).slice 1 with
      | SVal.node n => pure (SVal.node n, true)
      | x => pure (SVal.none, false) : M (SVal × Bool)) (fun r => ∀ n, r.1 = .node n → NG L n) := by
    split
    · rename_i n hn
      exact Sat.pure (fun m hm => by cases hm; exact h n hn)
    · exact Sat.pure (fun m hm => by cases hm)
  split
  · exact Sat.bind_any (fun _ => key)
  · exact key

/-! ### the ones that read positions -/

include hnp

theorem keeps_command (args : List SVal)
    (hlen : (⟨np, args⟩ : PCtx).len = 2 ∨ (⟨np, args⟩ : PCtx).len = 3)
    (h1 : GoodNE L ((⟨np, args⟩ : PCtx).slice 1))
    (hlast : GoodNE L ((⟨np, args⟩ : PCtx).slice ((⟨np, args⟩ : PCtx).len - 1))) :
    Keeps (SGP L) (actionCore np "p_command" args) (fun r => GoodNE L r.1) := by
  rw [actionCore_p_command]
  split
  · rename_i n hn
    split
    · rename_i h
      have h3 : (⟨np, args⟩ : PCtx).len = 3 := by simpa using h
      rw [h3] at hlast
      refine Keeps.bind (keeps_QS (keepsQ_nodesAt _ _ _) (sat_nodesAt _ 2 _)) (fun r hr => ?_)
      rw [show (3 - 1 : Nat) = 2 from rfl, hr] at hlast
      refine Keeps.bind (keeps_addRedirects (lastEG_of_goodNE_nodes hlast)) (fun m hm => ?_)
      exact Keeps.pure hm
    · rename_i h
      have h2 : (⟨np, args⟩ : PCtx).len = 2 := by
        rcases hlen with h2 | h3
        · exact h2
        · rw [h3] at h; exact absurd rfl h
      rw [h2, show (2 - 1 : Nat) = 1 from rfl, hn] at hlast
      exact Keeps.pure hlast
  · rename_i hnn
    refine Keeps.bind (keeps_QS (keepsQ_nodesAt _ _ _) (sat_nodesAt _ 1 _)) (fun parts hp => ?_)
    have hl : LastEG L parts := by
      rw [hp] at h1; exact lastEG_of_goodNE_nodes h1
    refine Keeps.bind (keeps_partsspan hl) (fun sp hsp => ?_)
    exact Keeps.pure (ng_of hsp (by intro p ps h; cases h))


theorem keeps_function_body (args : List SVal)
    (hlen : (⟨np, args⟩ : PCtx).len = 2 ∨ (⟨np, args⟩ : PCtx).len = 3)
    (hlast : GoodNE L ((⟨np, args⟩ : PCtx).slice ((⟨np, args⟩ : PCtx).len - 1))) :
    Keeps (SGP L) (actionCore np "p_function_body" args) (fun r => GoodNE L r.1) := by
  rw [actionCore_p_function_body]
  refine Keeps.bind (keeps_QS (keepsQ_nodeAt _ _ _) (sat_nodeAt _ 1 _)) (fun n hn => ?_)
  refine Keeps.bind (keeps_of_Q (keepsQ_handleAssert _)) (fun _ _ => ?_)
  split
  · rename_i h
    have h3 : (⟨np, args⟩ : PCtx).len = 3 := by simpa using h
    rw [h3] at hlast
    refine Keeps.bind (keeps_QS (keepsQ_nodesAt _ _ _) (sat_nodesAt _ 2 _)) (fun r hr => ?_)
    rw [show (3 - 1 : Nat) = 2 from rfl, hr] at hlast
    refine Keeps.bind (keeps_addRedirects (lastEG_of_goodNE_nodes hlast)) (fun m hm => ?_)
    exact Keeps.pure hm
  · rename_i h
    have h2 : (⟨np, args⟩ : PCtx).len = 2 := by
      rcases hlen with h2 | h3
      · exact h2
      · rw [h3] at h; exact absurd rfl h
    rw [h2, show (2 - 1 : Nat) = 1 from rfl, hn] at hlast
    exact Keeps.pure hlast

theorem keeps_shell_command (args : List SVal)
    (hl : ∀ a, args.getLast? = some a → GoodNE L a) (hne : args ≠ [])
    (hlast : GoodNE L ((⟨np, args⟩ : PCtx).slice ((⟨np, args⟩ : PCtx).len - 1))) :
    Keeps (SGP L) (actionCore np "p_shell_command" args) (fun r => GoodNE L r.1) := by
  rw [actionCore_p_shell_command]
  split
  · rename_i h
    have h2 : (⟨np, args⟩ : PCtx).len = 2 := by simpa using h
    refine Keeps.bind (keeps_QS (keepsQ_nodeAt _ _ _) (sat_nodeAt _ 1 _)) (fun n hn => ?_)
    refine Keeps.bind (keeps_of_Q (keepsQ_handleAssert _)) (fun _ _ => ?_)
    rw [h2, show (2 - 1 : Nat) = 1 from rfl, hn] at hlast
    exact Keeps.pure hlast
  · refine Keeps.bind (keeps_makeparts hnp hl hne) (fun parts hp => ?_)
    split
    · refine Keeps.bind (keeps_partsspan hp) (fun sp hsp => ?_)
      split
      · exact Keeps.pure (ng_of hsp (by intro p ps h; cases h))
      · split
        · exact Keeps.pure (ng_of hsp (by intro p ps h; cases h))
        · exact Keeps.foreign trivial
    · exact Keeps.foreign trivial

theorem keeps_for_command (args : List SVal)
    (hl : ∀ a, args.getLast? = some a → GoodNE L a) (hne : args ≠ []) :
    Keeps (SGP L) (actionCore np "p_for_command" args) (fun r => GoodNE L r.1) := by
  rw [actionCore_p_for_command]
  refine Keeps.bind (keeps_makeparts hnp hl hne) (fun parts hp => ?_)
  exact Keeps.bind (keeps_mkCompound1 (lastEG_fix hp)) (fun v hv => Keeps.pure hv)

theorem keeps_case_command (args : List SVal)
    (hl : ∀ a, args.getLast? = some a → GoodNE L a) (hne : args ≠ []) :
    Keeps (SGP L) (actionCore np "p_case_command" args) (fun r => GoodNE L r.1) := by
  rw [actionCore_p_case_command]
  refine Keeps.bind (keeps_makeparts hnp hl hne) (fun parts hp => ?_)
  exact Keeps.bind (keeps_mkCompound1 hp) (fun v hv => Keeps.pure hv)

theorem keeps_if_command (args : List SVal)
    (hl : ∀ a, args.getLast? = some a → GoodNE L a) (hne : args ≠ []) :
    Keeps (SGP L) (actionCore np "p_if_command" args) (fun r => GoodNE L r.1) := by
  rw [actionCore_p_if_command]
  refine Keeps.bind (keeps_makeparts hnp hl hne) (fun parts hp => ?_)
  exact Keeps.bind (keeps_mkCompound1 hp) (fun v hv => Keeps.pure hv)

theorem keeps_ni (ty : String) (args : List SVal)
    (hl : ∀ a, args.getLast? = some a → GoodNE L a) (hne : args ≠ []) :
    Keeps (SGP L) (do let r ← handleNotImplemented ⟨np, args⟩ ty; pure (r, false) : M (SVal × Bool))
      (fun r => GoodNE L r.1) :=
  Keeps.bind (keeps_handleNotImplemented hnp ty hl hne) (fun v hv => Keeps.pure hv)

theorem keeps_function_def (args : List SVal)
    (hl : ∀ a, args.getLast? = some a → GoodNE L a) (hne : args ≠ []) :
    Keeps (SGP L) (actionCore np "p_function_def" args) (fun r => GoodNE L r.1) := by
  rw [actionCore_p_function_def]; simp only []
  refine Keeps.bind (keeps_makeparts hnp hl hne) (fun parts hp => ?_)
  split
  · exact Keeps.bind (Φ := fun _ => False) (Keeps.foreign trivial) (fun _ h => h.elim)
  · refine Keeps.bind (keeps_partsspan hp) (fun sp hsp => ?_)
    exact Keeps.pure (ng_of hsp (by intro p ps h; cases h))

omit hnp in
theorem keeps_group (args : List SVal) (h3 : EG L ((⟨np, args⟩ : PCtx).lexspan 3).2) :
    Keeps (SGP L) (do
      let l ← reservedAt ⟨np, args⟩ 1
      let r ← reservedAt ⟨np, args⟩ 3
      let mid ← (⟨np, args⟩ : PCtx).nodeAt 2 "_partsspan"
      let sp ← partsspan [l, mid, r]
      pure (SVal.node (Node.compound sp [l, mid, r] []), false) : M (SVal × Bool))
      (fun r => GoodNE L r.1) := by
  refine Keeps.bind (keeps_of_Q (keepsQ_reservedAt _ _)) (fun l _ => ?_)
  refine Keeps.bind (keeps_QS (keepsQ_reservedAt _ _) (sat_reservedAt _ 3)) (fun r hr => ?_)
  refine Keeps.bind (keeps_of_Q (keepsQ_nodeAt _ _ _)) (fun mid _ => ?_)
  have hl : LastEG L [l, mid, r] := ⟨r, rfl, by rw [hr]; exact h3⟩
  refine Keeps.bind (keeps_partsspan hl) (fun sp hsp => ?_)
  exact Keeps.pure (ng_of hsp (by intro p ps h; cases h))


omit hnp in
theorem keeps_pipeline_command (args : List SVal)
    (h1 : GoodNE L ((⟨np, args⟩ : PCtx).slice 1))
    (h2 : ∀ n, (⟨np, args⟩ : PCtx).slice 2 = .node n → NG L n) :
    Keeps (SGP L) (actionCore np "p_pipeline_command" args) (fun r => GoodNE L r.1) := by
  rw [actionCore_p_pipeline_command]; simp only []
  split
  · refine Keeps.bind (keeps_QS (keepsQ_nodesAt _ _ _) (sat_nodesAt _ 1 _)) (fun l hl => ?_)
    rw [hl] at h1
    obtain ⟨b, hb, hnb⟩ := h1
    split
    · rename_i n
      simp only [List.getLast?_singleton, Option.some.injEq] at hb
      subst hb
      exact Keeps.pure hnb
    · split
      · rename_i a b' ha hb'
        rw [hb] at hb'; cases hb'
        refine Keeps.bind (keeps_of_Q (keepsQ_nodePos a)) (fun x _ => ?_)
        refine Keeps.bind (keeps_nodePos hnb.1) (fun y hy => ?_)
        refine Keeps.pure ⟨hy, ?_⟩
        intro p ps b2 hp hb2
        cases hp
        rw [hb] at hb2; cases hb2
        exact hnb.1
      · exact Keeps.foreign trivial
  · have hbang : EG L ((⟨np, args⟩ : PCtx).lexspan 1).2 := eg_lexspan h1
    split
    · refine Keeps.pure ⟨hbang, ?_⟩
      intro p ps b hp hb
      cases hp
      simp only [List.getLast?_singleton, Option.some.injEq] at hb
      subst hb; exact hbang
    · rename_i pos parts hs
      have hn := h2 _ hs
      split
      · rename_i b1 hb1
        have hb1e : EG L b1.pos.2 := by
          cases parts with
          | nil =>
            simp only [List.getLast?_singleton, Option.some.injEq] at hb1
            subst hb1; exact hbang
          | cons q qs =>
            rw [List.getLast?_cons_cons] at hb1
            exact hn.2 pos (q :: qs) b1 rfl hb1
        refine Keeps.bind (keeps_nodePos hb1e) (fun y hy => ?_)
        refine Keeps.pure ⟨hy, ?_⟩
        intro p ps b2 hp hb2
        cases hp
        rw [hb1] at hb2; cases hb2
        exact hb1e
      · exact Keeps.foreign trivial
    · rename_i n hnp' hs
      have hn := h2 _ hs
      refine Keeps.bind (keeps_nodePos hn.1) (fun y hy => ?_)
      refine Keeps.pure ⟨hy, ?_⟩
      intro p ps b2 hp hb2
      cases hp
      simp at hb2
      subst hb2; exact hn.1
    · exact Keeps.foreign trivial

omit hnp in
theorem keeps_heredoc (args : List SVal)
    (h2 : ((⟨np, args⟩ : PCtx).len == 3) = true → EG L ((⟨np, args⟩ : PCtx).lexspan 2).2)
    (h3 : ¬ ((⟨np, args⟩ : PCtx).len == 3) = true → EG L ((⟨np, args⟩ : PCtx).lexspan 3).2) :
    Keeps (SGP L) (actionCore np "p_redirection_heredoc" args) (fun r => GoodNE L r.1) := by
  rw [actionCore_p_redirection_heredoc]
  simp only [pure_bind]
  refine Keeps.bind (keeps_of_Q (keepsQ_tokAt _ _)) (fun wtok _ => ?_)
  split
  · rename_i h
    refine Keeps.bind (keeps_of_Q (keepsQ_strAt _ _)) (fun s1 _ => ?_)
    intro l e hp
    simp only [M.run_bind, run_get, run_set, M.run_pure]
    refine ⟨?_, ng_of (h2 h) (by intro p ps h; cases h)⟩
    intro c hc
    rcases List.mem_append.mp hc with hc | hc
    · exact hp c hc
    · simp only [List.mem_singleton] at hc; subst hc; exact h2 h
  · rename_i h
    refine Keeps.bind (keeps_of_Q (keepsQ_tokAt _ _)) (fun t1 _ => ?_)
    refine Keeps.bind (keeps_of_Q (keepsQ_strAt _ _)) (fun s1 _ => ?_)
    intro l e hp
    simp only [M.run_bind, run_get, run_set, M.run_pure]
    refine ⟨?_, ng_of (h3 h) (by intro p ps h; cases h)⟩
    intro c hc
    rcases List.mem_append.mp hc with hc | hc
    · exact hp c hc
    · simp only [List.mem_singleton] at hc; subst hc; exact h3 h

omit hnp in
/-- `p_simple_list`, given what `gatherheredocuments` does to the store from the states `Pre` -/
theorem sats_simple_list {Pre : Local → Env → Prop}
    (hg : SatS gatherheredocuments Pre (fun _ l e => SGP L l e)) (args : List SVal)
    (h1 : GoodNE L ((⟨np, args⟩ : PCtx).slice 1))
    (h2 : ((⟨np, args⟩ : PCtx).len == 3) = true → EG L ((⟨np, args⟩ : PCtx).lexspan 2).2) :
    SatS (actionCore np "p_simple_list" args) Pre (fun r l e => SGP L l e ∧ GoodNE L r.1) := by
  rw [actionCore_p_simple_list]
  simp only [pure_bind]
  refine SatS.bind hg (fun _ => ?_)
  show Keeps (SGP L) _ _
  refine Keeps.bind (keeps_QS (keepsQ_nodesAt _ _ _) (sat_nodesAt _ 1 _)) (fun l1 hl1 => ?_)
  rw [hl1] at h1
  have hl : LastEG L l1 := lastEG_of_goodNE_nodes h1
  split
  · split
    · rename_i _ h
      refine Keeps.bind (keeps_QS (keepsQ_operatorAt _ _) (sat_operatorAt _ 2)) (fun op hop => ?_)
      have hl' : LastEG L (l1 ++ [op]) := lastEG_snoc (by rw [hop]; exact h2 h)
      refine Keeps.bind (keeps_partsspan hl') (fun sp hsp => ?_)
      refine Keeps.bind Keeps.get (fun l _ => ?_)
      exact Keeps.pure (ng_of hsp (by intro p ps h; cases h))
    · refine Keeps.bind (keeps_partsspan hl) (fun sp hsp => ?_)
      refine Keeps.bind Keeps.get (fun l _ => ?_)
      exact Keeps.pure (ng_of hsp (by intro p ps h; cases h))
  · split
    · rename_i n
      obtain ⟨b, hb, hnb⟩ := h1
      simp only [List.getLast?_singleton, Option.some.injEq] at hb
      subst hb
      refine Keeps.bind Keeps.get (fun l _ => ?_)
      exact Keeps.pure hnb
    · exact Keeps.bind (Φ := fun _ => False) (Keeps.foreign trivial) (fun _ h => h.elim)

end

end Bashlex.C03.RE
