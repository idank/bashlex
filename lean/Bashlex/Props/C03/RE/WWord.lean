/-
  RootEnds, fact (W): the loop of `_readtokenword` never leaves `tokenword` ending in a
  newline.  Each case of what an iteration appends (`C04.WB.Grows`, with `sat_pmp` / `sat_pcs`
  for what the nested scanners return) keeps it; the only state-dependent case -- the character
  appended after a backslash is not a newline -- is the field `pn` of `C04.TTP.WInv`, so the
  iteration is conjoined with `step_tt`.
-/
import Bashlex.Props.C03.RE.WScan2
import Bashlex.Props.C04.TokTextProof

namespace Bashlex.C03.RE
open Bashlex Bashlex.M Bashlex.C10 Bashlex.C11 Bashlex.C03.Tok Bashlex.C04 Bashlex.C04.TTP
  Bashlex.C04.WB

/-! ## one iteration -/

/-- each thing an iteration can append keeps `tokenword` from ending in a newline, provided the
    character in hand after a backslash is not a newline -/
theorem noNL_grows {st : RWState} {tw : Str} {pn : Bool} (h : NoNL st.tokenword)
    (hpn : st.passNext = true → ∀ c, st.c = some c → c ≠ '\n') (g : Grows NoNL st tw pn) :
    NoNL tw := by
  cases g with
  | same htw _ => rw [htw]; exact h
  | escaped c hc hp htw _ => rw [htw]; exact noNL_snoc _ (hpn hp c hc)
  | backslash _ htw _ => rw [htw]; exact noNL_snoc _ (by decide)
  | plain c _ hb htw _ =>
    rw [htw]; refine noNL_snoc _ (fun hc => ?_)
    subst hc; rw [brk_nl] at hb; cases hb
  | dollars _ htw _ => rw [htw]; exact noNL_append h (noNL_snoc ['$'] (by decide))
  | scanned c x t _ _ hx ht htw _ =>
    rw [htw, List.append_assoc _ [c]]; exact noNL_append (noNL_append h hx) ht

def NStep (r : RWState ⊕ RWState) : Prop :=
  match r with
  | .inl s => NoNL s.tokenword
  | .inr s => NoNL s.tokenword

/-- **one iteration of the loop of `_readtokenword`**: `tokenword` does not end in a newline,
    provided the character in hand after a backslash is not a newline -/
theorem sat_step_n (st : RWState) (h : NoNL st.tokenword)
    (hpn : st.passNext = true → ∀ c, st.c = some c → c ≠ '\n') :
    Sat (readtokenwordStep st) NStep :=
  (sat_step_g sat_pmp sat_pcs st).weaken (fun r g => by cases r <;> exact noNL_grows h hpn g)
    (fun _ h => h)

/-! ## the loop, `_readtokenword` -/

section
variable {L : Str} {a : Nat}

theorem rtwLoop_n (hS : ScanHyp) (hnl : NL L) (fuel : Nat) (st : RWState) :
    HT (fun l e => RWI L a st l e ∧ NoNL st.tokenword)
      (M.loop "_readtokenword" readtokenwordStep fuel st)
      (fun s l e => ExitQ L a s l e ∧ NoNL s.tokenword) ET := by
  refine HT.loop (I := fun s l e => RWI L a s l e ∧ NoNL s.tokenword) True.intro (fun s => ?_) fuel st
  refine HT.pre (P := fun l e => NoNL s.tokenword ∧ RWI L a s l e)
    (HT.pre_pure (fun hN => ?_)) (fun l e h => ⟨h.2, h.1⟩)
  refine HT.pre_exists (fun i => HT.pre_pure (fun hw => ?_))
  have hs := sat_step_n s hN (fun hp c hc => by
    obtain ⟨i0, rqn, p, hpne, hcp, _⟩ := hw.pn hp
    rw [hc] at hcp; cases hcp; exact hpne)
  refine HT.post (HT.exn (HT.and_sat (step_tt hS hnl s hw) hs) (fun _ _ => True.intro)) ?_
  intro r l e h
  cases r with
  | inl s' => exact ⟨h.2, h.1⟩
  | inr s' => exact ⟨h.2, h.1⟩

/-- **`_readtokenword(c)`**: the value of the token does not end in a newline -/
theorem readtokenword_n (hS : ScanHyp) (hnl : NL L) (c : Char) (a : Nat) :
    HT (RWI L a { c := some c, allDigit := isDigit c }) (readtokenword c)
      (fun t _ _ => ∃ k tw, NoNL tw ∧ WordTok a k tw t) ET :=
  HT.post (readtokenword_of (X := fun _ tw => NoNL tw) c a (fun fuel =>
    HT.post (HT.pre (rtwLoop_n hS hnl fuel _) (fun _ _ h => ⟨h, noNL_nil⟩))
      (fun _ _ _ ⟨⟨k, _, h⟩, hN⟩ => ⟨k, hN, h⟩)))
    (fun _ _ _ ⟨k, ⟨tw, hN, hw⟩, _⟩ => ⟨k, tw, hN, hw⟩)

end

end Bashlex.C03.RE
