/-
  RootEnds, fact (W) (state-agnostic): what `_parse_matched_pair` / `_parse_comsub`
  return ends with the closing character, or with what a nested scanner returned (`Ends G`, for any
  set `G` of characters that holds the closing characters in play); in particular it does not end
  in a newline.
-/
import Bashlex.Props.C04.WBPlain
import Bashlex.Proofs.HoareS
import Bashlex.Proofs.TokForms

namespace Bashlex.C03.RE
open Bashlex Bashlex.M

/-- does not end in a newline -/
def NoNL (r : Str) : Prop := r.getLast? ≠ some '\n'

theorem noNL_nil : NoNL [] := by unfold NoNL; simp

theorem noNL_snoc (a : Str) {c : Char} (hc : c ≠ '\n') : NoNL (a ++ [c]) := by
  unfold NoNL
  rw [List.getLast?_append]
  simpa using hc

theorem noNL_append {a b : Str} (ha : NoNL a) (hb : NoNL b) : NoNL (a ++ b) := by
  unfold NoNL at *
  rw [List.getLast?_append]
  cases h : b.getLast? with
  | none => simpa using ha
  | some x => rw [h] at hb; simpa using hb

/-- not empty, and the last character is one of `G` -/
def Ends (G : Char → Prop) (r : Str) : Prop := ∃ c, r.getLast? = some c ∧ G c

theorem ends_snoc {G : Char → Prop} (a : Str) {c : Char} (hc : G c) : Ends G (a ++ [c]) :=
  ⟨c, by simp, hc⟩

theorem ends_append {G : Char → Prop} (a : Str) {b : Str} (hb : Ends G b) : Ends G (a ++ b) := by
  obtain ⟨c, h1, h2⟩ := hb
  refine ⟨c, ?_, h2⟩
  rw [List.getLast?_append, h1]; rfl

theorem Ends.noNL {r : Str} (h : Ends (· ≠ '\n') r) : NoNL r := by
  obtain ⟨c, h1, h2⟩ := h
  unfold NoNL; rw [h1]; simpa using h2

/-- result of the first half of an iteration on an open counter: the counter stays open, or the
    scan ends with a string that `Ends G` -/
def StepEnds (G : Char → Prop) {σ : Type} (count : σ → Nat) (r : Step σ) : Prop :=
  match r with
  | .cont s => count s ≠ 0
  | .done x => Ends G x
  | .next s _ => count s ≠ 0

/-- walk through a program in the state-agnostic logic; the leaves are left as goals -/
macro "s_walk" : tactic => `(tactic| repeat' (first
  | with_reducible exact Sat.foreign trivial
  | with_reducible exact Sat.raise trivial
  | with_reducible refine Sat.ite (fun _ => ?_) (fun _ => ?_)
  | with_reducible refine Sat.bind_any (fun _ => ?_)
  | with_reducible refine Sat.pure ?_
  | (show Sat _ _ _; split)))

def MPQ (r : Step MPState) : Prop :=
  match r with
  | .cont s => s.count ≠ 0
  | .done x => NoNL x
  | .next s _ => s.count ≠ 0

theorem sat_matchedPairError {α : Type} (c : Char) {Q : α → Prop} :
    Sat (matchedPairError c : M α) Q := by
  unfold matchedPairError
  s_walk

/-- what one iteration of `_parse_matched_pair` does to an open counter: it returns only on the
    closing character, with that character appended; otherwise the counter stays open -/
def MPR (P : MPParams) (st : MPState) (c : Char) (r : Step MPState) : Prop :=
  match r with
  | .cont s => s.count ≠ 0
  | .done x => c = P.close ∧ x = st.ret ++ [c]
  | .next s _ => s.count ≠ 0

theorem mpStep_open (P : MPParams) (lfc : Bool) (st : MPState) (c : Char) (h0 : st.count ≠ 0) :
    MPR P st c (mpStep P lfc st c) := by
  have h := mpStep_R P lfc st c
  revert h
  cases mpStep P lfc st c with
  | cont s => exact fun h => h.2 h0
  | next s c' => exact fun h => h.2.2 h0
  | done x => exact fun h => ⟨h.2 h0, h.1⟩

theorem MPR.ends {G : Char → Prop} {P : MPParams} {st : MPState} {c : Char} (hc : G P.close)
    {r : Step MPState} (h : MPR P st c r) : StepEnds G MPState.count r := by
  cases r with
  | cont s => exact h
  | next s _ => exact h
  | done x =>
    obtain ⟨rfl, rfl⟩ := h
    exact ends_snoc _ hc

theorem ends_mpPre {G : Char → Prop} (P : MPParams) (lfc : Bool) (st : MPState) (hc : G P.close)
    (h0 : st.count ≠ 0) : Sat (mpPre P lfc st) (StepEnds G MPState.count) := by
  rw [mpPre_eq]
  have h (c : Char) : Sat (pure (mpStep P lfc st c)) (StepEnds G MPState.count) :=
    Sat.pure ((mpStep_open P lfc st c h0).ends hc)
  refine Sat.bind_any fun c0 => ?_
  cases c0 with
  | none => exact Sat.bind_any h
  | some c => exact Sat.bind_any h

theorem sat_mpPre (P : MPParams) (lfc : Bool) (st : MPState) (hc : P.close ≠ '\n')
    (h0 : st.count ≠ 0) : Sat (mpPre P lfc st) MPQ :=
  (ends_mpPre (G := (· ≠ '\n')) P lfc st hc h0).weaken
    (fun r h => by cases r <;> first | exact h | exact Ends.noNL h) (fun _ h => h)

/-- `mpPost` leaves the counter alone; what it appends comes from nested scanners -/
theorem sat_mpPost {pmp : MPParams → M Str} {pcs : CSParams → M Str} (P : MPParams) (rdq : Bool)
    (st : MPState) (c : Char) :
    Sat (mpPost pmp pcs P rdq st c) (fun s' => s'.count = st.count) := by
  unfold mpPost
  simp only []
  s_walk
  all_goals rfl

/-! ## `_parse_comsub` -/

/-- a step result that keeps the counter -/
def CSK (n : Nat) (r : Step CSState) : Prop :=
  match r with
  | .cont s => s.count = n
  | .done _ => False
  | .next s _ => s.count = n

theorem sat_csDelimMatches (st : CSState) {Q : Bool → Prop} (h : ∀ b, Q b) :
    Sat (csDelimMatches st) Q := by
  unfold csDelimMatches
  s_walk
  all_goals exact h _

theorem sat_csA3 (n : Nat) (st : CSState) (c : Char) (h : st.count = n) :
    Sat (C04.TTP.csA3 st c) (CSK n) := by
  unfold C04.TTP.csA3
  simp only []
  s_walk
  all_goals exact h

theorem sat_csA2 (P : CSParams) (n : Nat) (st : CSState) (c : Char) (h : st.count = n) :
    Sat (C04.TTP.csA2 P st c) (CSK n) := by
  unfold C04.TTP.csA2
  simp only []
  s_walk
  all_goals exact sat_csA3 n _ c h

theorem sat_csA (P : CSParams) (st : CSState) : Sat (csA P st) (CSK st.count) := by
  rw [C04.TTP.csA_eq]
  unfold C04.TTP.csArest
  simp only []
  s_walk
  all_goals exact sat_csA2 P _ _ _ rfl

end Bashlex.C03.RE
