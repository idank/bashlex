/-
  C03: the stack invariant `SI` of the LR engine for spans, and its closure under the
  engine's moves for the real hooks (`spans_hooks : HooksOrd …`: C12's sorts, `sorts_hooks`, and
  the span part relative to them, `spans_hooksR`, side by side), from
    * the hypothesis on the token source (`TokSpans`),
    * the contract of the nested parser (through `WordSat`),
    * the action lemmas (`Actions.lean`) and the kernel-checked grammar/table facts
      (`Grammar.lean`), and C12's sort discipline (`VI`, reused for arities and shapes).
  `act_spans_store` is the one dispatch over the action functions; it also says what the action
  does to the redirect store (`StoreCh`), which is what `C03.act_store` (C05) reads off.
-/
import Bashlex.Props.C03.Grammar
import Bashlex.LR.SoundOrd
import Bashlex.Props.C12
import Bashlex.Proofs.ActionEqns
import Bashlex.Props.C12.AbsEqns

namespace Bashlex.C03
open Bashlex Bashlex.Spec Bashlex.Node Bashlex.M Bashlex.LR Bashlex.C12
set_option linter.unusedSimpArgs false
set_option linter.unusedVariables false

/-- the look-ahead: a token starting at or after the end of everything on the stack (`g`) and
    ending at or before the tokenizer's frontier `F` -/
def LaIn (len g : Nat) (la : Option (Nat × SVal)) (F : Nat) : Prop :=
  match la with
  | none => g ≤ F
  | some x => ∃ t a b, x = (symOfTok t, SVal.tok t) ∧ g ≤ a ∧ b ≤ F ∧ TokAt len t a b

/-- the span part of the stack invariant: the values occupy consecutive intervals from 0 to `g`,
    the look-ahead follows, the tokenizer's invariant holds at the frontier `F`, and every value is
    fresh with respect to the redirect store (or is the finished value of `simple_list`) -/
def SIs (TI : Nat → Nat → Local → Env → Prop) (len : Nat) (vs : List (Nat × SVal))
    (la : Option (Nat × SVal)) (l : Local) (e : Env) : Prop :=
  ∃ g F, Seg len 0 vs g ∧ LaIn len g la F ∧ TI len F l e ∧ ∀ x ∈ vs, EntryOK len l.store x

/-- C12's sort discipline, for every entry and the look-ahead -/
def VIall (vs : List (Nat × SVal)) (la : Option (Nat × SVal)) : Prop :=
  (∀ x ∈ vs, VI x.1 x.2) ∧ ∀ x, la = some x → VI x.1 x.2

def SI (TI : Nat → Nat → Local → Env → Prop) (len : Nat) (vs : List (Nat × SVal))
    (la : Option (Nat × SVal)) (l : Local) (e : Env) : Prop :=
  SIs TI len vs la l e ∧ VIall vs la

/-- what an accepted value satisfies, in the final state: exactly what `strict_resolve` needs -/
def Fin (len : Nat) (v : SVal) (l : Local) (e : Env) : Prop :=
  ∀ n, v = .node n → Strict len n ∧ (tainted n = true ∨ n.pos.1 < n.pos.2) ∧ SealedAll n ∧
    ∃ g, EndsBy g n ∧ Done len g l.store n

theorem fin_of_nodeIn_fresh {len f g : Nat} {n : Node} {l : Local} {e : Env}
    (h : NodeIn len f n g) (hf : FreshT len l.store n) : Fin len (.node n) l e := by
  intro n' hn'
  cases hn'
  refine ⟨h.strict, ?_, h.sld, g, h.ends, done_of_fresh hf h.pend⟩
  rcases h.root with h1 | h1
  · exact Or.inl h1
  · exact Or.inr h1.2

theorem fin_of_entry {len f g sym : Nat} {v : SVal} {l : Local} {e : Env}
    (hv : ValIn len f (sym, v) g) (he : EntryOK len l.store (sym, v)) : Fin len v l e := by
  intro n hn
  subst hn
  have h : NodeIn len f n g := hv
  rcases he with he | ⟨_, he⟩
  · exact fin_of_nodeIn_fresh (e := e) h (he n (by simp [svNodes])) n rfl
  · obtain ⟨g', h1, h2⟩ := he.done n (by simp [svNodes])
    refine ⟨h.strict, ?_, h.sld, g', h1, h2⟩
    rcases h.root with h1 | h1
    · exact Or.inl h1
    · exact Or.inr h1.2

/-! ## entries under store changes -/

theorem doneV_step {len f : Nat} {st st' : List RedirCell} {v : SVal}
    (hs : StoreStep len f false st st') (h : DoneV len st v) : DoneV len st' v := by
  refine ⟨?_, ?_⟩
  · intro n hn m hm id p hp
    obtain ⟨c, hc⟩ := h.ex n hn m hm id p hp
    have hlt : id < st'.length := by
      rw [hs.1]; exact (List.getElem?_eq_some_iff.mp hc).1
    exact ⟨st'[id], List.getElem?_eq_getElem hlt⟩
  · intro n hn
    obtain ⟨g, h1, h2⟩ := h.done n hn
    exact ⟨g, h1, fun m hm => doneN_step hs (h2 m hm) (h.ex n hn m hm)⟩

theorem entryOK_step {len f : Nat} {st st' : List RedirCell} {x : Nat × SVal}
    (hs : StoreStep len f false st st') (h : EntryOK len st x) : EntryOK len st' x := by
  rcases h with h | ⟨h1, h2⟩
  · exact Or.inl (fresh_step hs h)
  · exact Or.inr ⟨h1, doneV_step hs h2⟩

theorem doneV_append {len : Nat} {st : List RedirCell} {cell : RedirCell} {v : SVal}
    (h : DoneV len st v) : DoneV len (st ++ [cell]) v := by
  have key : ∀ (id : Nat) (c : RedirCell), st[id]? = some c → (st ++ [cell])[id]? = some c := by
    intro id c hc
    rw [List.getElem?_append_left (List.getElem?_eq_some_iff.mp hc).1]; exact hc
  refine ⟨?_, ?_⟩
  · intro n hn m hm id p hp
    obtain ⟨c, hc⟩ := h.ex n hn m hm id p hp
    exact ⟨c, key id c hc⟩
  · intro n hn
    obtain ⟨g, h1, h2⟩ := h.done n hn
    refine ⟨g, h1, ?_⟩
    intro m hm id p hp
    obtain ⟨hsh, hcell⟩ := h2 m hm id p hp
    refine ⟨hsh, ?_⟩
    intro c' hc'
    obtain ⟨c, hc⟩ := h.ex n hn m hm id p hp
    rw [key id c hc] at hc'
    have heq : c = c' := Option.some.inj hc'
    rw [← heq]
    exact hcell c hc

theorem entryOK_append {len : Nat} {st : List RedirCell} {cell : RedirCell} {x : Nat × SVal}
    (h : EntryOK len st x) : EntryOK len (st ++ [cell]) x := by
  rcases h with h | ⟨h1, h2⟩
  · exact Or.inl (fresh_append h)
  · exact Or.inr ⟨h1, doneV_append h2⟩

/-! ## lifting the action lemmas to the stack invariant -/

section
variable {TI : Nat → Nat → Local → Env → Prop} {len : Nat}

theorem satS_action_of_core {np : NestedParse} {fname : String} {args : List SVal}
    {P : Local → Env → Prop} {Q : SVal × Bool → Local → Env → Prop}
    (h : SatS (actionCore np fname args) P Q) : SatS (action np fname args) P Q := by
  unfold action
  refine SatS.bind h ?_
  intro r
  split
  · exact SatS.foreign True.intro
  · exact SatS.pure (fun _ _ h => h)

/-- the post-condition of a reduction, span part -/
def PostS (TI : Nat → Nat → Local → Env → Prop) (len : Nat) (rest : List (Nat × SVal)) (lhs : Nat)
    (la : Option (Nat × SVal)) (r : SVal × Bool) (l : Local) (e : Env) : Prop :=
  if r.2 = true then Fin len r.1 l e else SIs TI len (rest ++ [(lhs, r.1)]) la l e

/-- what a semantic action does to the redirect store: nothing, or (`p_redirection_heredoc`) one
    cell appended, or (`p_simple_list`: `gatherheredocuments`) bodies attached -/
def StoreCh (len : Nat) (fname : String) (st st' : List RedirCell) : Prop :=
  st' = st ∨ (fname = "p_redirection_heredoc" ∧ ∃ cell, st' = st ++ [cell]) ∨
    ∃ f, StoreStep len f true st st'

theorem fresh_of_entries {st : List RedirCell} {args : List (Nat × SVal)}
    (hent : ∀ x ∈ args, EntryOK len st x) (hsl : ∀ x ∈ args, x.1 ≠ slSym) :
    ∀ v ∈ args.map (·.2), Fresh len st v := by
  intro v hv
  obtain ⟨x, hx, rfl⟩ := List.mem_map.mp hv
  rcases hent x hx with h | ⟨h, _⟩
  · exact h
  · exact absurd h (hsl x hx)

/-- an action that only reads the state and returns a fresh value occupying the interval of its
    arguments re-establishes the stack invariant -/
theorem lift_res {np : NestedParse} {fname : String} {s : Bool} {rest args : List (Nat × SVal)}
    {lhs : Nat} {la : Option (Nat × SVal)} {st0 : List RedirCell}
    (hK : ∀ F st f g, SegV s len f (args.map (·.2)) g → (∀ v ∈ args.map (·.2), Fresh len st v) →
      LaIn len g la F →
      Keeps (StP TI len F st) (actionCore np fname (args.map (·.2))) (Res len f g st))
    (hsym : ∀ x ∈ args, x.1 ≠ eofSym) (hrng : s = true → ∀ g F, LaIn len g la F → g ≤ len)
    (hsl : ∀ x ∈ args, x.1 ≠ slSym) :
    SatS (actionCore np fname (args.map (·.2)))
      (fun l e => SIs TI len (rest ++ args) la l e ∧ l.store = st0)
      (fun r l e => PostS TI len rest lhs la r l e ∧ StoreCh len fname st0 l.store) := by
  refine SatS.intro_state ?_
  rintro l e ⟨⟨g, F, hseg, hlain, hti, hent⟩, rfl⟩
  obtain ⟨m, hrs, has⟩ := Seg.split hseg
  have hsegV := segV_of_seg (s := s) has hsym (fun hs => hrng hs g F hlain)
  have hfresh := fresh_of_entries (st := l.store)
    (fun x hx => hent x (List.mem_append_right _ hx)) hsl
  refine SatS.weaken (hK F l.store m g hsegV hfresh hlain) ?_ ?_ (fun _ h => h)
  · rintro l1 e1 ⟨rfl, rfl⟩; exact ⟨hti, rfl⟩
  · rintro r l' e' ⟨⟨hti', hst'⟩, hres, hfr, hacc⟩
    refine ⟨?_, Or.inl hst'⟩
    unfold PostS
    rw [hacc]
    simp only [Bool.false_eq_true, if_false]
    refine ⟨g, F, Seg.append hrs (seg_single.mpr (valIn_of_valInV hres (Or.inl rfl))), hlain, hti', ?_⟩
    intro x hx
    rw [hst']
    rcases List.mem_append.mp hx with hx | hx
    · exact hent x (List.mem_append_left _ hx)
    · simp only [List.mem_singleton] at hx
      subst hx
      exact Or.inl hfr

/-! ## the actions that write to the parser object -/

theorem nodeIn_heredoc_redirect {f g m id : Nat} {t o : Token} {i : RedirIn} {ty : Str}
    (ht : TokInV true len f t m) (ho : TokInV true len m o g) :
    NodeIn len f (.redirect (t.lexpos, o.endlexpos) i ty
      (some (.word (o.lexpos, o.endlexpos) o.valueStr [])) .none none (some id)) g := by
  obtain ⟨a, b, hp, ha, hab, hb, hr⟩ := ht
  obtain ⟨a', b', hp', ha', hab', hb', hr', hw'⟩ := ho
  rw [(tok_lexspan hp).1, (tok_lexspan hp').2, (tok_lexspan hp').1]
  have hw : NodeIn len a (.word (a', b') o.valueStr []) b' :=
    nodeIn_leaf rfl rfl (show a ≤ a' by omega) hab' (Nat.le_refl _) (hr' rfl) trivial
  refine nodeIn_wrap (w := .word (a', b') o.valueStr []) rfl rfl hw ha (by omega) hb' (hr' rfl)
    rfl ?_ (noPend_leaf rfl rfl)
  exact ⟨rfl, fun w hw => by cases hw; exact ⟨rfl, rfl⟩⟩

theorem fresh_heredoc_redirect {st : List RedirCell} {pos : Span} {i : RedirIn} {ty : Str}
    {w : Node} {delim : Str} (hw : NoPend w) :
    FreshT len (st ++ [{ pos := pos, delim := delim }])
      (.redirect pos i ty (some w) .none none (some st.length)) := by
  rw [freshT_iff]
  refine ⟨?_, ?_⟩
  · intro id p hp
    simp only [pendOf, Option.some.injEq, Prod.mk.injEq] at hp
    obtain ⟨rfl, rfl⟩ := hp
    refine ⟨{ pos := pos, delim := delim }, by simp, rfl, ?_⟩
    intro x y v hx; cases hx
  · intro c hc
    simp [children] at hc
    subst hc
    exact hw.fresh

theorem sp_redirection_heredoc (hT : TokAct TI) {np : NestedParse} {sorts : List Srt}
    {args : List SVal} {σ : Srt} {F f g : Nat} {st : List RedirCell}
    (h : absAction "p_redirection_heredoc" sorts = some σ)
    (hlast : ∀ s, sorts.getLast? = some s → s = .tok (some .WORD))
    (ha : Forall2 HasSort sorts args) (hseg : SegV true len f args g) (hgF : g < F) :
    SatS (actionCore np "p_redirection_heredoc" args) (StP TI len F st)
      (fun r l e => ∃ cell, TI len F l e ∧ l.store = st ++ [cell] ∧ ValInV true len f r.1 g ∧
        Fresh len (st ++ [cell]) r.1 ∧ r.2 = false) := by
  rw [absAction_p_redirection_heredoc] at h
  split at h
  · split at h
    · rename_i hop
      cases h
      obtain ⟨a, b, rfl, hop', ⟨w, rfl, hwty, -⟩⟩ := forall2_2 ha
      have hwty' : w.ttype = some .WORD := by
        have := hlast _ rfl
        cases this
        exact hwty
      obtain ⟨t, ty, rfl, hty, hwf, hf⟩ := okTok_inv hop hop'
      obtain ⟨m, h1, h2⟩ := segV_2 hseg
      rw [actionCore_p_redirection_heredoc]
      simp only [PCtx.len, PCtx.tokAt, PCtx.slice, PCtx.strAt, PCtx.lexspan, SVal.lexspan,
        List.length_cons, List.length_nil, Nat.reduceAdd, Nat.reduceSub, List.getD_cons_succ,
        List.getD_cons_zero, Nat.reduceBEq, beq_self_eq_true, if_true, bind_pure_comp, pure_bind,
        map_pure, bind_map_left]
      refine SatS.bind SatS.get ?_
      intro l
      refine SatS.map ?_
      rintro l0 e0 ⟨hl, hti, hst⟩
      subst hl
      have hwend : w.endlexpos < F := by
        obtain ⟨a', b', hp', _, _, hb', _⟩ := (h2 : TokInV true len m w g)
        rw [(tok_lexspan hp').2]; omega
      have hwne : w.valueStr ≠ [] := by
        obtain ⟨a', b', hp', _, _, hb', _, hw⟩ := (h2 : TokInV true len m w g)
        exact hw hwty'
      refine ⟨{ pos := (t.lexpos, w.endlexpos), delim := w.valueStr },
        hT.queue len F l e0 _ _ hti hwend rfl hwne, ?_, nodeIn_heredoc_redirect h1 h2, ?_, rfl⟩
      · show l.store ++ _ = st ++ _
        rw [hst]
      · rw [← hst]
        exact fresh_node (fresh_heredoc_redirect (noPend_leaf rfl rfl))
    · cases h
  · split at h
    · rename_i hop
      cases h
      simp only [Bool.and_eq_true] at hop
      obtain ⟨a, b, c, rfl, hin', hop', ⟨w, rfl, hwty, -⟩⟩ := forall2_3 ha
      have hwty' : w.ttype = some .WORD := by
        have := hlast _ rfl
        cases this
        exact hwty
      obtain ⟨t, ty, rfl, hty, hwf, hf⟩ := okTok_inv hop.2 hop'
      obtain ⟨ti, tyi, rfl, htyi, hwfi, hfi⟩ := okTok_inv hop.1 hin'
      obtain ⟨m1, m2, h1, h2, h3⟩ := segV_3 hseg
      have h1' : TokInV true len f ti m2 := ValInV.mono (v := .tok ti) h1 (Nat.le_refl _) (ValInV.le h2)
      rw [actionCore_p_redirection_heredoc]
      simp only [PCtx.len, PCtx.tokAt, PCtx.slice, PCtx.strAt, PCtx.lexspan, SVal.lexspan,
        List.length_cons, List.length_nil, Nat.reduceAdd, Nat.reduceSub, List.getD_cons_succ,
        List.getD_cons_zero, Nat.reduceBEq, beq_self_eq_true, if_true, bind_pure_comp, pure_bind,
        map_pure, bind_map_left, Bool.false_eq_true, if_false]
      refine SatS.bind SatS.get ?_
      intro l
      refine SatS.map ?_
      rintro l0 e0 ⟨hl, hti, hst⟩
      subst hl
      have hwend : w.endlexpos < F := by
        obtain ⟨a', b', hp', _, _, hb', _⟩ := (h3 : TokInV true len m2 w g)
        rw [(tok_lexspan hp').2]; omega
      have hwne : w.valueStr ≠ [] := by
        obtain ⟨a', b', hp', _, _, hb', _, hw⟩ := (h3 : TokInV true len m2 w g)
        exact hw hwty'
      refine ⟨{ pos := (ti.lexpos, w.endlexpos), delim := w.valueStr },
        hT.queue len F l e0 _ _ hti hwend rfl hwne, ?_, nodeIn_heredoc_redirect h1' h3, ?_, rfl⟩
      · show l.store ++ _ = st ++ _
        rw [hst]
      · rw [← hst]
        exact fresh_node (fresh_heredoc_redirect (noPend_leaf rfl rfl))
    · cases h
  · cases h

theorem altOp_nopend {l : List Node} (h : InL .altOp l) : ∀ n ∈ l, pendOf n = none := by
  intro n hn
  rcases Alt.mem h n hn with hx | hs
  · have := pc_commandLike hx
    cases n <;> simp [isCommandLike] at this <;> rfl
  · have := hs.2
    cases n <;> simp [isOperator] at this <;> rfl

theorem posIn_nopend {st : List RedirCell} {n : Node} (h : pendOf n = none) : posIn st n = n.pos := by
  cases n with
  | redirect p i t o oa hd hid =>
    cases hid with
    | none => rfl
    | some id => simp [pendOf] at h
  | _ => rfl

theorem keeps_partsspan_np {F : Nat} {st : List RedirCell} {parts : List Node}
    (h : ∀ n ∈ parts, pendOf n = none) :
    Keeps (StP TI len F st) (partsspan parts)
      (fun sp => ∃ a b, parts.head? = some a ∧ parts.getLast? = some b ∧ sp = (a.pos.1, b.pos.2)) := by
  unfold partsspan
  cases ha : parts.head? with
  | none => exact Keeps.foreign trivial
  | some a =>
    cases hb : parts.getLast? with
    | none => exact Keeps.foreign trivial
    | some b =>
      simp only []
      refine Keeps.bind (keeps_nodePos a) ?_
      intro sa hsa
      refine Keeps.bind (keeps_nodePos b) ?_
      intro sb hsb
      refine Keeps.pure ⟨a, b, rfl, rfl, ?_⟩
      rw [hsa, hsb, posIn_nopend (h a (List.mem_of_mem_head? ha)),
        posIn_nopend (h b (List.mem_of_getLast? hb))]

theorem sp_simple_list (hT : TokAct TI) {np : NestedParse} {sorts : List Srt}
    {args : List SVal} {σ : Srt} {F f g : Nat} {st : List RedirCell}
    (h : absAction "p_simple_list" sorts = some σ)
    (ha : Forall2 HasSort sorts args) (hseg : SegV true len f args g)
    (hfr : ∀ v ∈ args, Fresh len st v) :
    SatS (actionCore np "p_simple_list" args) (StP TI len F st)
      (fun r l e => TI len F l e ∧ StoreStep len F true st l.store ∧
        ∃ n, r.1 = .node n ∧ NodeIn len f n g ∧ FreshT len st n) := by
  -- after `gatherheredocuments`, the rest only reads the state
  have rest : ∀ (prog : M (SVal × Bool)),
      (∀ st', Keeps (StP TI len F st') prog
        (fun r => ∃ n, r.1 = .node n ∧ NodeIn len f n g ∧ FreshT len st n)) →
      SatS (gatherheredocuments >>= fun _ => prog) (StP TI len F st)
        (fun r l e => TI len F l e ∧ StoreStep len F true st l.store ∧
          ∃ n, r.1 = .node n ∧ NodeIn len f n g ∧ FreshT len st n) := by
    intro prog hprog
    refine SatS.bind (hT.gather len F st) ?_
    intro _
    refine SatS.intro_state ?_
    rintro l0 e0 ⟨hti, hstep⟩
    refine SatS.weaken (hprog l0.store) ?_ ?_ (fun _ h => h)
    · rintro l e ⟨rfl, rfl⟩; exact ⟨hti, rfl⟩
    · rintro r l e ⟨⟨hti', hst'⟩, hr⟩
      exact ⟨hti', by rw [hst']; exact hstep, hr⟩
  rw [absAction_p_simple_list] at h
  split at h
  · cases h
    obtain ⟨a, rfl, ⟨l, rfl, hl⟩, hv, hf⟩ := args_1 ha hseg hfr
    have hfl := hf.nodes
    have hnp := altOp_nopend hl
    rw [actionCore_p_simple_list]
    simp only [PCtx.len, PCtx.slice, PCtx.nodesAt, List.length_cons, List.length_nil, Nat.reduceAdd,
      Nat.reduceSub, List.getD_cons_zero, Nat.reduceBEq, Bool.false_or, Bool.false_eq_true,
      if_false, pure_bind, Nat.sub_self]
    refine rest _ (fun st' => ?_)
    split
    · refine Keeps.bind (keeps_partsspan_np hnp) (fun sp hsp => ?_)
      obtain ⟨a, b, ha', hb', rfl⟩ := hsp
      refine Keeps.bind Keeps.get (fun l1 _ => Keeps.pure ⟨_, rfl, ?_, ?_⟩)
      · exact mkParent rfl hv.2 ha' hb' rfl trivial
      · exact freshT_mk rfl hfl
    · split
      · rename_i n hlen
        refine Keeps.bind Keeps.get (fun l1 _ => Keeps.pure ⟨n, rfl, listIn_single.mp hv.2, ?_⟩)
        exact hfl n (by simp)
      · exact Keeps.bind (Keeps.foreign (Φ := fun _ => False) trivial) (fun _ h => h.elim)
  · split at h
    · rename_i hop
      cases h
      obtain ⟨a, b, m, rfl, ⟨⟨l, rfl, hl⟩, h1, hf1⟩, ⟨t, rfl, hty, hwf⟩, h2, -⟩ := args_2 ha hseg hfr
      have hnp := altOp_nopend hl
      obtain ⟨hop', hpop⟩ := nodeIn_operator (w := t.valueStr) (h2 : TokInV true len m t g)
      rw [actionCore_p_simple_list]
      simp only [PCtx.len, PCtx.slice, PCtx.nodesAt, List.length_cons, List.length_nil, Nat.reduceAdd,
        Nat.reduceSub, List.getD_cons_zero, Nat.reduceBEq, Bool.true_or, if_true, pure_bind,
        Nat.sub_self, operatorAt, PCtx.strAt, PCtx.tokAt, PCtx.lexspan, SVal.lexspan,
        List.getD_cons_succ, bind_pure_comp, map_pure, Bool.false_and, beq_self_eq_true]
      refine rest _ (fun st' => ?_)
      have hnp' : ∀ n ∈ l ++ [Node.operator (t.lexpos, t.endlexpos) t.valueStr], pendOf n = none :=
        List.forall_mem_append.mpr ⟨hnp, List.forall_mem_singleton.mpr rfl⟩
      have hl' := (FineL.of_nodes h1 hf1).append
        (FineL.cons hop' hpop.fresh (FineL.nil (Nat.le_refl g)))
      refine Keeps.bind (keeps_partsspan_np hnp') (fun sp hsp => ?_)
      obtain ⟨a, b, ha', hb', rfl⟩ := hsp
      refine Keeps.map (Keeps.get.weaken (fun l1 _ => ⟨_, rfl, ?_, ?_⟩))
      · exact mkParent rfl hl'.1 ha' hb' rfl trivial
      · exact freshT_mk rfl hl'.2
    · cases h
  · cases h

theorem keeps_inputunit (hT : TokAct TI) {np : NestedParse} {args : List SVal} {F : Nat}
    {st : List RedirCell} :
    Keeps (StP TI len F st) (actionCore np "p_inputunit" args)
      (fun r => r = (.none, false) ∨ ∃ n, r = (.node n, true) ∧ args.head? = some (.node n)) := by
  rw [actionCore_p_inputunit]; simp only []
  refine Keeps.bind Keeps.get (fun l _ => ?_)
  have hm : Keeps (StP TI len F st) (match PCtx.slice ⟨np, args⟩ 1 with
      | .node n => (pure (SVal.node n, true) : M (SVal × Bool))
      | _ => pure (SVal.none, false))
      (fun r => r = (.none, false) ∨ ∃ n, r = (.node n, true) ∧ args.head? = some (.node n)) := by
    split
    · rename_i n hn
      refine Keeps.pure (Or.inr ⟨n, rfl, ?_⟩)
      cases args with
      | nil => simp [PCtx.slice] at hn
      | cons x xs => simp [PCtx.slice] at hn; simp [hn]
    · exact Keeps.pure (Or.inl rfl)
  split
  · refine Keeps.bind (Keeps.modify ?_) (fun _ _ => hm)
    rintro l e ⟨hti, hst⟩
    exact ⟨hT.ps len F l e _ hti, hst⟩
  · exact hm

/-! ## the dispatch -/

theorem syms_of_prodOK {f : String} {lhs : Nat} {rhs : List Nat} {args : List (Nat × SVal)}
    (hk : prodOK f lhs rhs = true) (hargs : args.map (·.1) = rhs) :
    (∀ x ∈ args, x.1 ≠ eofSym) ∧
    ((f == "p_inputunit") = false → ∀ x ∈ args, x.1 ≠ slSym) := by
  unfold prodOK at hk
  simp only [Bool.and_eq_true, Bool.or_eq_true, Bool.not_eq_true'] at hk
  obtain ⟨⟨⟨⟨k1, k3⟩, _⟩, _⟩, _⟩ := hk
  have mem : ∀ x ∈ args, x.1 ∈ rhs := by
    intro x hx; rw [← hargs]; exact List.mem_map_of_mem hx
  refine ⟨?_, ?_⟩
  · intro x hx hc
    have := mem x hx
    rw [hc] at this
    have : rhs.contains eofSym = true := by simpa using this
    rw [k1] at this; cases this
  · intro hf x hx hc
    rcases k3 with k3 | k3
    · have := mem x hx
      rw [hc] at this
      have : rhs.contains slSym = true := by simpa using this
      rw [k3] at this; cases this
    · rw [hf] at k3; cases k3

theorem la_present {p : Nat} {la : Option (Nat × SVal)} (hla : LaHint realTables la p)
    (hf : dfltFuncs.contains (fn p) = false) :
    ∃ x s, la = some x ∧ realTables.action s x.1 = some (.reduce p) := by
  rcases hla with ⟨s, hs⟩ | h
  · rw [dflt_fn hs] at hf; cases hf
  · exact h

theorem laIn_lt {g F : Nat} {x : Nat × SVal} (h : LaIn len g (some x) F) : g < F := by
  obtain ⟨t, a, b, _, h1, h2, h3, _⟩ := h
  omega

theorem symOfTok_eof {t : Token} (h : t.ttype = some .EOF) : symOfTok t = eofSym := by
  simp [symOfTok, h, TokType.sym, eofSym]

theorem symOfTok_nl {t : Token} (h : t.ttype = some .NEWLINE) : symOfTok t = nlSym := by
  simp [symOfTok, h, nlSym]

/-- **range from the look-ahead**: an action other than `p_inputunit`,
    `p_simple_list_terminator`, `p_elif_clause` is reduced on a look-ahead token that is not
    `$end`; it starts within the input, and after everything on the stack -/
theorem la_range {p g F : Nat} {la : Option (Nat × SVal)} (hla : LaHint realTables la p)
    (hf : dfltFuncs.contains (fn p) = false) (h : LaIn len g la F) : g ≤ len := by
  obtain ⟨x, s, rfl, hact⟩ := la_present hla hf
  obtain ⟨t, a, b, rfl, h1, h2, h3, h4⟩ := h
  rcases h4 with ⟨h4, _⟩ | ⟨_, h4⟩
  · exfalso
    simp only [symOfTok_eof h4] at hact
    rw [eofRed_fn hact] at hf
    cases hf
  · omega

theorem hasSort_val {σ : Srt} {v : SVal} (h : sortIsVal σ = true) (hv : HasSort σ v) :
    v ≠ SVal.none := by
  cases σ with
  | tok ty => obtain ⟨t, rfl, _⟩ := hv; intro h; cases h
  | node c => obtain ⟨n, rfl, _⟩ := hv; intro h; cases h
  | nodes k => obtain ⟨l, rfl, _⟩ := hv; intro h; cases h
  | none => cases h
  | optNode c => cases h

theorem forall2_all {P : Srt → Bool} {Q : SVal → Prop} (hPQ : ∀ σ v, P σ = true → HasSort σ v → Q v) :
    ∀ {sorts : List Srt} {vals : List SVal}, Forall2 HasSort sorts vals → sorts.all P = true →
    ∀ v ∈ vals, Q v := by
  intro sorts vals h
  induction h with
  | nil => intro _ v hv; cases hv
  | cons h1 _ ih =>
    intro hall v hv
    simp only [List.all_cons, Bool.and_eq_true] at hall
    rcases List.mem_cons.mp hv with rfl | hv
    · exact hPQ _ _ hall.1 h1
    · exact ih hall.2 v hv

theorem elif_facts {lhs : Nat} {rhs : List Nat} {vals : List SVal}
    (hk : prodOK "p_elif_clause" lhs rhs = true)
    (ha : Forall2 HasSort (rhs.map sortOfSymbol) vals) :
    (∀ v ∈ vals, v ≠ SVal.none) ∧ ∃ v, vals.getLast? = some v ∧ nodeish v := by
  unfold prodOK at hk
  simp only [Bool.and_eq_true, Bool.or_eq_true, Bool.not_eq_true'] at hk
  obtain ⟨⟨_, k5⟩, _⟩ := hk
  rcases k5 with k5 | k5
  · simp at k5
  · obtain ⟨k5a, k5b⟩ := k5
    refine ⟨?_, ?_⟩
    · refine forall2_all (P := sortIsVal) (fun σ v h1 h2 => hasSort_val h1 h2) ha ?_
      rw [List.all_map]
      exact k5a
    · cases hl : rhs.getLast? with
      | none => rw [hl] at k5b; cases k5b
      | some sy =>
        rw [hl] at k5b
        simp only at k5b
        have hl' : (rhs.map sortOfSymbol).getLast? = some (sortOfSymbol sy) := by
          rw [List.getLast?_map, hl]; rfl
        obtain ⟨v, hv, hvs⟩ := forall2_getLast ha _ hl'
        refine ⟨v, hv, ?_⟩
        cases hs : sortOfSymbol sy with
        | node c => rw [hs] at hvs; obtain ⟨n, rfl, _⟩ := hvs; trivial
        | nodes k => rw [hs] at hvs; obtain ⟨l, rfl, _⟩ := hvs; trivial
        | none => rw [hs] at k5b; cases k5b
        | tok ty => rw [hs] at k5b; cases k5b
        | optNode c => rw [hs] at k5b; cases k5b

theorem pipeline_facts {lhs : Nat} {rhs : List Nat} {vals : List SVal}
    (hk : prodOK "p_pipeline_command" lhs rhs = true)
    (ha : Forall2 HasSort (rhs.map sortOfSymbol) vals) :
    ∀ x y, vals = [x, y] → (∃ t, x = SVal.tok t) ∨ (∃ n, x = SVal.node n) := by
  intro x y hv
  subst hv
  unfold prodOK at hk
  simp only [Bool.and_eq_true, Bool.or_eq_true, Bool.not_eq_true'] at hk
  obtain ⟨_, k6⟩ := hk
  have hlen : rhs.length = 2 := by
    have := forall2_length ha
    simpa using this
  rcases k6 with (k6 | k6) | k6
  · simp at k6
  · simp [hlen] at k6
  · cases rhs with
    | nil => simp at hlen
    | cons r rs =>
      simp only [List.headD_cons] at k6
      simp only [List.map_cons] at ha
      obtain ⟨b, bs, hb, h1, _⟩ := forall2_cons ha
      simp only [List.cons.injEq] at hb
      obtain ⟨rfl, _⟩ := hb
      cases hs : sortOfSymbol r with
      | tok ty => rw [hs] at h1; obtain ⟨t, rfl, _⟩ := h1; exact Or.inl ⟨t, rfl⟩
      | node c => rw [hs] at h1; obtain ⟨n, rfl, _⟩ := h1; exact Or.inr ⟨n, rfl⟩
      | none => rw [hs] at k6; cases k6
      | optNode c => rw [hs] at k6; cases k6
      | nodes k => rw [hs] at k6; cases k6

/-- **every semantic action re-establishes the span invariant of the stack**, and what it does
    to the redirect store -/
theorem act_spans_store (hT : TokAct TI) {np : NestedParse}
    (hW : ∀ F st, WordSat (StP TI len F st) np len)
    {p lhs : Nat} {rhs : List Nat} {rest args : List (Nat × SVal)} {la : Option (Nat × SVal)}
    (hprod : realTables.prods[p]? = some (lhs, rhs)) (hargs : args.map (·.1) = rhs)
    (hrest : RestHint realTables rest lhs) (hla : LaHint realTables la p) {σ : Srt}
    (hab : absAction (fn p) (rhs.map sortOfSymbol) = some σ)
    (ha : Forall2 HasSort (rhs.map sortOfSymbol) (args.map (·.2))) (st0 : List RedirCell) :
    SatS (actionCore np (fn p) (args.map (·.2))) (fun l e => SIs TI len (rest ++ args) la l e ∧ l.store = st0)
      (fun r l e => PostS TI len rest lhs la r l e ∧ StoreCh len (fn p) st0 l.store) := by
  have hk := prod_ok hprod
  generalize hf : fn p = fname at hab hk ⊢
  obtain ⟨s1, s3⟩ := syms_of_prodOK hk hargs
  -- the generic cases: a look-ahead token is present and starts within the input
  have strong : dfltFuncs.contains fname = false →
      (∀ F st f g, SegV true len f (args.map (·.2)) g → (∀ v ∈ args.map (·.2), Fresh len st v) →
        Keeps (StP TI len F st) (actionCore np fname (args.map (·.2))) (Res len f g st)) →
      SatS (actionCore np fname (args.map (·.2))) (fun l e => SIs TI len (rest ++ args) la l e ∧ l.store = st0)
        (fun r l e => PostS TI len rest lhs la r l e ∧ StoreCh len fname st0 l.store) := by
    intro h1 hK
    have hnin : (fname == "p_inputunit") = false := by
      cases hx : fname == "p_inputunit" with
      | false => rfl
      | true =>
        rw [beq_iff_eq] at hx
        rw [hx] at h1
        exact absurd h1 (by decide)
    exact lift_res (s := true) (fun F st f g hs hfr _ => hK F st f g hs hfr) s1
      (fun _ g F hl => la_range hla (by rw [hf]; exact h1) hl) (s3 hnin)
  have weak : (fname == "p_inputunit") = false →
      (∀ F st f g, SegV false len f (args.map (·.2)) g → (∀ v ∈ args.map (·.2), Fresh len st v) →
        Keeps (StP TI len F st) (actionCore np fname (args.map (·.2))) (Res len f g st)) →
      SatS (actionCore np fname (args.map (·.2))) (fun l e => SIs TI len (rest ++ args) la l e ∧ l.store = st0)
        (fun r l e => PostS TI len rest lhs la r l e ∧ StoreCh len fname st0 l.store) := by
    intro h2 hK
    exact lift_res (s := false) (fun F st f g hs hfr _ => hK F st f g hs hfr) s1
      (fun h => by cases h) (s3 h2)
  unfold absAction at hab
  split at hab
  · -- p_inputunit
    refine SatS.intro_state ?_
    rintro l e ⟨⟨g, F, hseg, hlain, hti, hent⟩, rfl⟩
    obtain ⟨m, hrs, has⟩ := Seg.split hseg
    refine SatS.weaken (keeps_inputunit (len := len) hT (F := F) (st := l.store)) ?_ ?_ (fun _ h => h)
    · rintro l1 e1 ⟨rfl, rfl⟩; exact ⟨hti, rfl⟩
    · rintro r l' e' ⟨⟨hti', hst'⟩, hr⟩
      refine ⟨?_, Or.inl hst'⟩
      unfold PostS
      rcases hr with rfl | ⟨n, rfl, hn⟩
      · simp only [Bool.false_eq_true, if_false]
        refine ⟨g, F, Seg.append hrs (seg_single.mpr (show m ≤ g from has.le)), hlain, hti', ?_⟩
        intro x hx
        rw [hst']
        rcases List.mem_append.mp hx with hx | hx
        · exact hent x (List.mem_append_left _ hx)
        · simp only [List.mem_singleton] at hx; subst hx; exact Or.inl fresh_none
      · simp only [if_true]
        cases hargs' : args with
        | nil => rw [hargs'] at hn; simp at hn
        | cons x xs =>
          rw [hargs'] at hn has hent
          simp only [List.map_cons, List.head?_cons, Option.some.injEq] at hn
          obtain ⟨m', hx, _⟩ := has
          obtain ⟨sym, v⟩ := x
          simp only at hn
          subst hn
          have hex := hent (sym, .node n) (by simp)
          rw [← hst'] at hex
          exact fin_of_entry hx hex
  · exact strong (by decide) (fun F st f g hs hfr => sp_word_list (hW F st) hab ha hs hfr)
  · -- p_redirection_heredoc
    obtain ⟨x, s, hlax, _⟩ := la_present hla (by rw [hf]; decide)
    refine SatS.intro_state ?_
    rintro l e ⟨⟨g, F, hseg, hlain, hti, hent⟩, rfl⟩
    obtain ⟨m, hrs, has⟩ := Seg.split hseg
    have hsegV := segV_of_seg (s := true) has s1
      (fun _ => la_range hla (by rw [hf]; decide) hlain)
    have hgF : g < F := by rw [hlax] at hlain; exact laIn_lt hlain
    have hlast : ∀ s, (rhs.map sortOfSymbol).getLast? = some s → s = .tok (some .WORD) := by
      intro s0 hs0
      have hh := heredoc_prod_ok hprod
      rw [hf] at hh
      unfold heredocProdOK at hh
      simp only [bne_self_eq_false, Bool.false_or] at hh
      rw [List.getLast?_map] at hs0
      cases hl : rhs.getLast? with
      | none => rw [hl] at hs0; cases hs0
      | some y =>
        rw [hl] at hs0 hh
        simp only [Option.map_some, Option.some.injEq] at hs0
        rw [← hs0]
        simpa using hh
    refine SatS.weaken (sp_redirection_heredoc hT (F := F) (st := l.store) hab hlast ha hsegV hgF)
      ?_ ?_ (fun _ h => h)
    · rintro l1 e1 ⟨rfl, rfl⟩; exact ⟨hti, rfl⟩
    · rintro r l' e' ⟨cell, hti', hst', hres, hfr, hacc⟩
      refine ⟨?_, Or.inr (Or.inl ⟨rfl, cell, hst'⟩)⟩
      unfold PostS
      rw [hacc]
      simp only [Bool.false_eq_true, if_false]
      refine ⟨g, F, Seg.append hrs (seg_single.mpr (valIn_of_valInV hres (Or.inl rfl))), hlain,
        hti', ?_⟩
      intro y hy
      rw [hst']
      rcases List.mem_append.mp hy with hy | hy
      · exact entryOK_append (hent y (List.mem_append_left _ hy))
      · simp only [List.mem_singleton] at hy; subst hy; exact Or.inl hfr
  · exact strong (by decide) (fun F st f g hs hfr => sp_redirection (hW F st) hab ha hs hfr)
  · exact strong (by decide)
      (fun F st f g hs hfr => sp_simple_command_element (hW F st) hab ha hs hfr)
  · exact strong (by decide) (fun F st f g hs hfr => sp_redirection_list hab ha hs hfr)
  · exact strong (by decide) (fun F st f g hs hfr => sp_simple_command hab ha hs hfr)
  · exact strong (by decide) (fun F st f g hs hfr => sp_command hab ha hs hfr)
  · exact strong (by decide) (fun F st f g hs hfr => sp_shell_command (hW F st) hab ha hs hfr)
  · exact strong (by decide) (fun F st f g hs hfr => sp_for_command (hW F st) hs hfr)
  · exact strong (by decide) (fun F st f g hs hfr => sp_arith_for_command (hW F st) hs hfr)
  · exact strong (by decide) (fun F st f g hs hfr => sp_select_command (hW F st) hs hfr)
  · exact strong (by decide) (fun F st f g hs hfr => sp_case_command (hW F st) hs hfr)
  · exact strong (by decide) (fun F st f g hs hfr => sp_function_def (hW F st) hs hfr)
  · exact strong (by decide) (fun F st f g hs hfr => sp_function_body hab ha hs hfr)
  · exact strong (by decide) (fun F st f g hs hfr => sp_subshell hab ha hs hfr)
  · exact strong (by decide) (fun F st f g hs hfr => sp_group_command hab ha hs hfr)
  · exact strong (by decide) (fun F st f g hs hfr => sp_coproc (hW F st) hs hfr)
  · exact strong (by decide) (fun F st f g hs hfr => sp_if_command (hW F st) hs hfr)
  · exact strong (by decide) (fun F st f g hs hfr => sp_arith_command (hW F st) hs hfr)
  · exact strong (by decide) (fun F st f g hs hfr => sp_cond_command (hW F st) hs hfr)
  · obtain ⟨e1, e2⟩ := elif_facts hk ha
    exact weak (by decide) (fun F st f g hs hfr => sp_elif_clause hs hfr e1 e2)
  · exact strong (by decide) (fun F st f g hs hfr => sp_case_clause hab ha hs hfr)
  · exact strong (by decide) (fun F st f g hs hfr => sp_pattern_list hab ha hs hfr)
  · exact strong (by decide)
      (fun F st f g hs hfr => sp_case_clause_sequence hab ha hs hfr)
  · exact strong (by decide) (fun F st f g hs hfr => sp_pattern (hW F st) hab ha hs hfr)
  · exact strong (by decide) (fun F st f g hs hfr => sp_list hab ha hs hfr)
  · exact strong (by decide) (fun F st f g hs hfr => sp_compound_list hab ha hs hfr)
  · exact lift_res (s := true)
      (fun F st f g hs hfr hl => sp_list0 hab ha (SegV.weak hs) hfr
        (la_range hla (by rw [hf]; decide) hl)) s1
      (fun _ g F hl => la_range hla (by rw [hf]; decide) hl) (s3 (by decide))
  · exact strong (by decide) (fun F st f g hs hfr => sp_list1 hab ha (SegV.weak hs) hfr)
  · exact weak (by decide) (fun F st f g hs hfr => sp_simple_list_terminator hs)
  · exact strong (by decide) (fun F st f g hs hfr => sp_list_terminator hs)
  · exact strong (by decide) (fun F st f g hs hfr => sp_newline_list (SegV.weak hs))
  · -- p_simple_list
    obtain ⟨x, s, hlax, _⟩ := la_present hla (by rw [hf]; decide)
    have hlhs : lhs = slSym := by
      unfold prodOK at hk
      simp only [Bool.and_eq_true, Bool.or_eq_true, Bool.not_eq_true', beq_iff_eq] at hk
      rcases hk.1.1.2 with h | h
      · simp at h
      · exact h
    have hrest0 : rest = [] := by
      rcases hrest with h | ⟨s', t, hs', hg⟩
      · exact h
      · rw [hlhs] at hg; exact absurd (goto_sl hg) hs'
    subst hrest0
    refine SatS.intro_state ?_
    rintro l e ⟨⟨g, F, hseg, hlain, hti, hent⟩, rfl⟩
    simp only [List.nil_append] at hseg hent ⊢
    have hsegV := segV_of_seg (s := true) hseg s1
      (fun _ => la_range hla (by rw [hf]; decide) hlain)
    have hfresh := fresh_of_entries (st := l.store) hent (s3 (by decide))
    have hgF : g < F := by rw [hlax] at hlain; exact laIn_lt hlain
    refine SatS.weaken (sp_simple_list hT (F := F) (st := l.store) hab ha hsegV hfresh)
      ?_ ?_ (fun _ h => h)
    · rintro l1 e1 ⟨rfl, rfl⟩; exact ⟨hti, rfl⟩
    · rintro r l' e' ⟨hti', hstep, n, hr, hn, hfn⟩
      have hdone : Done len g l'.store n :=
        fun m hm => doneN_gather hstep hgF (hfn m hm) (hn.pend m hm)
      obtain ⟨r1, r2⟩ := r
      simp only at hr
      subst hr
      refine ⟨?_, Or.inr (Or.inr ⟨_, hstep⟩)⟩
      unfold PostS
      by_cases hacc : r2 = true
      · simp only [hacc, if_true]
        intro n' hn'
        cases hn'
        refine ⟨hn.strict, ?_, hn.sld, g, hn.ends, hdone⟩
        rcases hn.root with h1 | h1
        · exact Or.inl h1
        · exact Or.inr h1.2
      · simp only [hacc, if_false]
        refine ⟨g, F, seg_single.mpr (show NodeIn len 0 n g from hn), hlain, hti', ?_⟩
        intro y hy
        simp only [List.nil_append, List.mem_singleton] at hy
        subst hy
        refine Or.inr ⟨hlhs, ?_, ?_⟩
        · intro n' hn' m hm id p hp
          simp [svNodes] at hn'
          subst hn'
          obtain ⟨c, hc, _⟩ := hfn m hm id p hp
          have hlt : id < l'.store.length := by
            rw [hstep.1]; exact (List.getElem?_eq_some_iff.mp hc).1
          exact ⟨l'.store[id], List.getElem?_eq_getElem hlt⟩
        · intro n' hn'
          simp [svNodes] at hn'
          subst hn'
          exact ⟨g, hn.ends, hdone⟩
  · exact strong (by decide) (fun F st f g hs hfr =>
      sp_simple_list1 hab ha (SegV.weak hs) hfr)
  · exact strong (by decide) (fun F st f g hs hfr =>
      sp_pipeline_command hab ha hs hfr (pipeline_facts hk ha))
  · exact strong (by decide) (fun F st f g hs hfr =>
      sp_pipeline hab ha (SegV.weak hs) hfr)
  · exact strong (by decide) (fun F st f g hs hfr => sp_timespec (hW F st) hs hfr)
  · exact strong (by decide) (fun F st f g hs hfr => sp_empty hs)
  · cases hab

theorem act_spans (hT : TokAct TI) {np : NestedParse}
    (hW : ∀ F st, WordSat (StP TI len F st) np len)
    {p lhs : Nat} {rhs : List Nat} {rest args : List (Nat × SVal)} {la : Option (Nat × SVal)}
    (hprod : realTables.prods[p]? = some (lhs, rhs)) (hargs : args.map (·.1) = rhs)
    (hrest : RestHint realTables rest lhs) (hla : LaHint realTables la p) {σ : Srt}
    (hab : absAction (fn p) (rhs.map sortOfSymbol) = some σ)
    (ha : Forall2 HasSort (rhs.map sortOfSymbol) (args.map (·.2))) :
    SatS (actionCore np (fn p) (args.map (·.2))) (SIs TI len (rest ++ args) la)
      (PostS TI len rest lhs la) :=
  SatS.intro_state fun l e h =>
    SatS.weaken (act_spans_store hT hW hprod hargs hrest hla hab ha l.store)
      (by rintro _ _ ⟨rfl, rfl⟩; exact ⟨h, rfl⟩) (fun _ _ _ h => h.1) (fun _ h => h)

/-! ## the hooks of the real parser are closed under the engine's moves -/

theorem forall2_vi : ∀ (args : List (Nat × SVal)), (∀ x ∈ args, VI x.1 x.2) →
    Forall2 VI (args.map (·.1)) (args.map (·.2))
  | [], _ => .nil
  | x :: xs, h => .cons (h x List.mem_cons_self)
      (forall2_vi xs (fun y hy => h y (List.mem_cons_of_mem _ hy)))

theorem forall2_hasSort_of_vi : ∀ {rhs : List Nat} {vals : List SVal}, Forall2 VI rhs vals →
    Forall2 HasSort (rhs.map sortOfSymbol) vals := by
  intro rhs vals h
  induction h with
  | nil => exact .nil
  | cons h1 _ ih => exact .cons h1 ih

theorem tokAt_valIn {g F a b : Nat} {t : Token} (h : TokAt len t a b) (hga : g ≤ a) (hbF : b ≤ F) :
    ValIn len g (symOfTok t, SVal.tok t) F := by
  obtain ⟨hab, h4⟩ := h
  refine ⟨by omega, ?_⟩
  rcases h4 with ⟨h4, hv⟩ | ⟨hp, _, hw⟩
  · exact Or.inl ⟨symOfTok_eof h4, hv⟩
  · exact Or.inr ⟨a, b, hp, hga, hab, hbF, hw⟩

theorem lrHooks_act (np : NestedParse) (p : Nat) (args : List SVal) :
    (lrHooks np).act p args = action np (fn p) args := rfl

/-- C12's sort discipline along the stack, from its stateless hooks -/
theorem sorts_hooks {np : NestedParse} (hnp : NPOK np) :
    HooksOrd realTables (lrHooks np)
      (SIpt (fun _ _ => True) (fun x : Nat × SVal => VI x.1 x.2)) (fun _ _ _ => True)
      (fun _ => True) := by
  have hC := hooks_ok sat_nextToken hnp
  refine HooksOrdR.toOrd (HooksOrdR.pointwise (fun _ => SatS.post (SatS.of_sat hC.next _)
    (fun _ _ _ h => ⟨trivial, h⟩)) ?_ (fun _ _ _ _ _ _ => trivial)) (fun la => Sat.trivial _)
  intro p lhs rhs rest args la hprod hargs hvi
  have hF2 : Forall2 VI rhs (args.map (·.2)) := by rw [← hargs]; exact forall2_vi args hvi
  refine SatS.post (SatS.of_sat (hC.act p lhs rhs _ hprod hF2) _) (fun r _ _ h => ?_)
  split
  · trivial
  · exact ⟨trivial, h.1⟩

/-- the span part of the stack invariant is closed under the engine's moves, on a well-sorted
    stack; of the token source only `next` and the part the actions use are needed (so that it
    applies to tokenizer invariants that do not hold of a fresh parser object) -/
theorem spans_hooksR
    (hnext : ∀ F st, SatS nextToken (fun l e => TI len F l e ∧ l.store = st)
      (fun t l e => ∃ a b, F ≤ a ∧ TokAt len t a b ∧ TI len b l e ∧
        StoreStep len F false st l.store))
    (hact : TokAct TI) {np : NestedParse}
    (hW : ∀ F st, WordSat (StP TI len F st) np len) :
    HooksOrdR realTables (lrHooks np) (SIpt (fun _ _ => True) (fun x : Nat × SVal => VI x.1 x.2))
      (SIs TI len) (Fin len) (fun _ => True) (fun _ => True) where
  next vs := by
    refine SatS.intro_state ?_
    rintro l e ⟨⟨g, F, hseg, hlain, hti, hent⟩, _⟩
    show SatS (nextToken >>= fun t => pure (symOfTok t, SVal.tok t)) _ _
    refine SatS.bind (SatS.pre (hnext F l.store) ?_) ?_
    · rintro l1 e1 ⟨rfl, rfl⟩; exact ⟨hti, rfl⟩
    · intro t
      refine SatS.pure ?_
      rintro l' e' ⟨a, b, hFa, htok, hti', hstep⟩
      refine ⟨g, b, hseg, ⟨t, a, b, rfl, ?_, Nat.le_refl _, htok⟩, hti', ?_⟩
      · have : g ≤ F := hlain
        omega
      · intro x hx; exact entryOK_step hstep (hent x hx)
  shift := by
    rintro vs la l e _ ⟨g, F, hseg, hlain, hti, hent⟩
    obtain ⟨t, a, b, rfl, hga, hbF, htok⟩ := hlain
    refine ⟨F, F, Seg.append hseg (seg_single.mpr (tokAt_valIn htok hga hbF)), Nat.le_refl F, hti, ?_⟩
    intro x hx
    rcases List.mem_append.mp hx with hx | hx
    · exact hent x hx
    · simp only [List.mem_singleton] at hx; subst hx; exact Or.inl fresh_tok
  shiftNl := by
    rintro la l e ⟨g, F, hseg, hlain, hti, hent⟩
    exact ⟨0, F, Nat.le_refl 0, Nat.zero_le F, hti, (by intro x hx; cases hx)⟩
  act := by
    intro p lhs rhs rest args la hprod hargs hrest hla
    rw [lrHooks_act]
    refine SatS.intro_state ?_
    rintro l0 e0 ⟨hs0, _, hvi, _⟩
    have hF2 : Forall2 VI rhs (args.map (·.2)) := by
      rw [← hargs]; exact forall2_vi args (fun x hx => hvi x (List.mem_append_right _ hx))
    -- the grammar obligation of C12: the action is well-sorted
    rcases sort_ok hprod with he | hab
    · rw [he]
      exact SatS.weaken (SatS.of_sat action_unknown _) (fun _ _ _ => trivial)
        (fun _ _ _ h => h.elim) (fun _ h => h)
    · exact SatS.pre (satS_action_of_core (act_spans (len := len) hact hW hprod hargs hrest hla hab
        (forall2_hasSort_of_vi hF2))) (by rintro l e ⟨rfl, rfl⟩; exact hs0)
  accept := by
    rintro vs x la l e _ ⟨g, F, hseg, hlain, hti, hent⟩
    obtain ⟨m, _, hx⟩ := Seg.split hseg
    obtain ⟨sym, v⟩ := x
    exact fin_of_entry (seg_single.mp hx) (hent (sym, v) (by simp))

/-- `spans_hooks` without `TokSpans.init` -/
theorem spans_hooks_core
    (hnext : ∀ F st, SatS nextToken (fun l e => TI len F l e ∧ l.store = st)
      (fun t l e => ∃ a b, F ≤ a ∧ TokAt len t a b ∧ TI len b l e ∧
        StoreStep len F false st l.store))
    (hact : TokAct TI) {np : NestedParse} (hnp : NPOK np)
    (hW : ∀ F st, WordSat (StP TI len F st) np len) :
    HooksOrd realTables (lrHooks np) (SI TI len) (Fin len) (fun _ => True) :=
  ((sorts_hooks hnp).and (spans_hooksR hnext hact hW)).of_iff
    (fun _ _ _ _ => and_congr_right' ⟨fun h => ⟨trivial, h⟩, fun h => h.2⟩) (fun _ _ _ h => h.1)

theorem spans_hooks (hT : TokSpans TI) {np : NestedParse} (hnp : NPOK np)
    (hW : ∀ F st, WordSat (StP TI len F st) np len) :
    HooksOrd realTables (lrHooks np) (SI TI len) (Fin len) (fun _ => True) :=
  spans_hooks_core (hT.next len) hT.act hnp hW

end

end Bashlex.C03
