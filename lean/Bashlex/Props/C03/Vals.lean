/-
  C03: the semantic actions' view of their arguments (`SegV`: a list of semantic values
  occupying consecutive intervals, tokens positioned), the contract of `expandword`
  (`WordAt`, `WordSat`) and the helper functions of parser.py (`nodePos`, `_partsspan`,
  `_makeparts`, ...), in the state-aware logic.
-/
import Bashlex.Props.C03.Hyp
import Bashlex.Props.C12.Actions

namespace Bashlex.C03
open Bashlex Bashlex.Spec Bashlex.Node Bashlex.M Bashlex.LR

/-! ## values as the actions see them -/

/-- a positioned token occupying `[f, g]`; `strong`: it also ends within the input -/
def TokInV (strong : Bool) (len f : Nat) (t : Token) (g : Nat) : Prop :=
  ∃ a b, t.pos = some (a, b) ∧ f ≤ a ∧ a < b ∧ b ≤ g ∧ (strong = true → b ≤ len) ∧ WNE t

def ValInV (s : Bool) (len f : Nat) (v : SVal) (g : Nat) : Prop :=
  match v with
  | .none => f ≤ g
  | .tok t => TokInV s len f t g
  | .node n => NodeIn len f n g
  | .nodes l => l ≠ [] ∧ ListIn len f l g

theorem ValInV.le {s : Bool} {len f g : Nat} {v : SVal} (h : ValInV s len f v g) : f ≤ g := by
  cases v with
  | none => exact h
  | tok t => obtain ⟨a, b, _, h1, h2, h3, _⟩ := h; omega
  | node n => exact NodeIn.le h
  | nodes l => exact ListIn.le h.2

theorem ValInV.mono {s : Bool} {len f f' g g' : Nat} {v : SVal} (h : ValInV s len f v g)
    (hf : f' ≤ f) (hg : g ≤ g') : ValInV s len f' v g' := by
  cases v with
  | none => have : f ≤ g := h; show f' ≤ g'; omega
  | tok t =>
    obtain ⟨a, b, hp, h1, h2, h3, h4⟩ := h
    exact ⟨a, b, hp, by omega, h2, by omega, h4⟩
  | node n => exact NodeIn.mono h hf hg
  | nodes l => exact ⟨h.1, ListIn.mono h.2 hf hg⟩

def SegV (s : Bool) (len : Nat) : Nat → List SVal → Nat → Prop
  | f, [], g => f ≤ g
  | f, x :: xs, g => ∃ m, ValInV s len f x m ∧ SegV s len m xs g

theorem SegV.le {s : Bool} {len : Nat} : ∀ {xs : List SVal} {f g : Nat}, SegV s len f xs g → f ≤ g
  | [], _, _, h => h
  | x :: xs, f, g, h => by
    obtain ⟨m, h1, h2⟩ := h
    have := h1.le
    have := SegV.le h2
    omega

theorem SegV.mono {s : Bool} {len : Nat} : ∀ {xs : List SVal} {f f' g g' : Nat},
    SegV s len f xs g → f' ≤ f → g ≤ g' → SegV s len f' xs g'
  | [], f, f', g, g', h, hf, hg => by
    have : f ≤ g := h
    show f' ≤ g'
    omega
  | x :: xs, f, f', g, g', h, hf, hg => by
    obtain ⟨m, h1, h2⟩ := h
    exact ⟨m, h1.mono hf (Nat.le_refl _), SegV.mono h2 (Nat.le_refl _) hg⟩

theorem tokInV_strong {len f g : Nat} {t : Token} (h : TokInV false len f t g) (hg : g ≤ len) :
    TokInV true len f t g := by
  obtain ⟨a, b, hp, ha, hab, hb, _, hw⟩ := h
  exact ⟨a, b, hp, ha, hab, hb, (fun _ => by omega), hw⟩

theorem ValInV.weak {len f g : Nat} {v : SVal} (h : ValInV true len f v g) : ValInV false len f v g := by
  cases v with
  | none => exact h
  | node n => exact h
  | nodes l => exact h
  | tok t =>
    obtain ⟨a, b, hp, h1, h2, h3, h4, hw⟩ := h
    exact ⟨a, b, hp, h1, h2, h3, (fun hc => by cases hc), hw⟩

theorem SegV.weak {len : Nat} : ∀ {xs : List SVal} {f g : Nat}, SegV true len f xs g →
    SegV false len f xs g
  | [], _, _, h => h
  | x :: xs, f, g, h => by
    obtain ⟨m, h1, h2⟩ := h
    exact ⟨m, h1.weak, SegV.weak h2⟩

theorem segV_single {s : Bool} {len f g : Nat} {x : SVal} :
    SegV s len f [x] g ↔ ValInV s len f x g := by
  constructor
  · rintro ⟨m, h1, h2⟩
    have : m ≤ g := h2
    exact h1.mono (Nat.le_refl _) this
  · intro h
    exact ⟨g, h, Nat.le_refl g⟩

/-- from the stack's view to the actions' view: the tokens of a right-hand side without `$end`
    are positioned; if everything on the stack ends within the input (`g ≤ len`, which the
    look-ahead gives), so do they -/
theorem segV_of_seg {s : Bool} {len : Nat} : ∀ {xs : List (Nat × SVal)} {f g : Nat},
    Seg len f xs g → (∀ x ∈ xs, x.1 ≠ eofSym) → (s = true → g ≤ len) →
    SegV s len f (xs.map (·.2)) g
  | [], _, _, h, _, _ => h
  | x :: xs, f, g, h, hs, hg => by
    obtain ⟨m, h1, h2⟩ := h
    have hmg : m ≤ g := Seg.le h2
    refine ⟨m, ?_, segV_of_seg h2 (fun y hy => hs y (List.mem_cons_of_mem _ hy)) hg⟩
    obtain ⟨sym, v⟩ := x
    have hx := hs (sym, v) List.mem_cons_self
    cases v with
    | none => exact h1
    | node n => exact h1
    | nodes l => exact h1
    | tok t =>
      obtain ⟨hle, h3⟩ := h1
      rcases h3 with h3 | ⟨a, b, hp, ha, hab, hb, hw⟩
      · exact absurd h3.1 hx
      · exact ⟨a, b, hp, ha, hab, hb, (fun hst => by have := hg hst; omega), hw⟩

theorem valIn_of_valInV {s : Bool} {len f g sym : Nat} {v : SVal} (h : ValInV s len f v g)
    (hs : s = true ∨ ∀ t, v ≠ .tok t) : ValIn len f (sym, v) g := by
  cases v with
  | none => exact h
  | node n => exact h
  | nodes l => exact h
  | tok t =>
    rcases hs with hs | hs
    · obtain ⟨a, b, hp, ha, hab, hb, hr, hw⟩ := h
      exact ⟨by omega, Or.inr ⟨a, b, hp, ha, hab, hb, hw⟩⟩
    · exact absurd rfl (hs t)

/-! ## no pending redirects -/

theorem pendShape_of_none {m : Node} (h : pendOf m = none) : pendShape m := by
  cases m with
  | redirect p i t o oa hd hid =>
    cases hid with
    | none => trivial
    | some id => simp [pendOf] at h
  | _ => trivial

theorem NoPend.pendAll {n : Node} (h : NoPend n) : PendAll n :=
  fun m hm => pendShape_of_none (h m hm)

theorem NoPend.fresh {len : Nat} {st : List RedirCell} {n : Node} (h : NoPend n) : FreshT len st n := by
  intro m hm id p hp
  rw [h m hm] at hp
  cases hp

theorem noPend_leaf {n : Node} (h : n.children = []) (hp : pendOf n = none) : NoPend n :=
  noPend_iff.mpr ⟨hp, by intro c hc; rw [h] at hc; cases hc⟩

/-! ## the contract of `expandword` -/

/-- `expandword` returns a word node at the token's span; if the token is positioned and ends
    within the input, the node (with its expansion parts and the nodes of nested parses) is fine,
    lies within the token's span, and holds no pending redirect -/
def WordAt (len : Nat) (t : Token) (w : Node) : Prop :=
  (∃ s ps, w = .word (t.lexpos, t.endlexpos) s ps) ∧
  ∀ a b, t.pos = some (a, b) → a < b → b ≤ len → NodeIn len a w b ∧ NoPend w

def WordSat (P : Local → Env → Prop) (np : NestedParse) (len : Nat) : Prop :=
  ∀ t, Keeps P (expandword np t) (WordAt len t)

theorem tok_lexspan {t : Token} {a b : Nat} (h : t.pos = some (a, b)) :
    t.lexpos = a ∧ t.endlexpos = b := by
  simp [Token.lexpos, Token.endlexpos, h]

/-- the word node of a positioned token, as a value -/
theorem WordAt.nodeIn {s : Bool} {len f g : Nat} {t : Token} {w : Node} (h : WordAt len t w)
    (ht : TokInV s len f t g) (hs : s = true) : NodeIn len f w g ∧ NoPend w := by
  obtain ⟨a, b, hp, ha, hab, hb, hr, hw⟩ := ht
  obtain ⟨h1, h2⟩ := h.2 a b hp hab (hr hs)
  exact ⟨h1.mono ha hb, h2⟩

/-! ## leaves built from tokens -/

theorem nodeIn_reservedword {len f g : Nat} {t : Token} {w : Str} (ht : TokInV true len f t g) :
    NodeIn len f (.reservedword (t.lexpos, t.endlexpos) w) g ∧
      NoPend (.reservedword (t.lexpos, t.endlexpos) w) := by
  obtain ⟨a, b, hp, ha, hab, hb, hr, hw⟩ := ht
  obtain ⟨h1, h2⟩ := tok_lexspan hp
  rw [h1, h2]
  exact ⟨nodeIn_leaf rfl rfl ha hab hb (hr rfl) trivial, noPend_leaf rfl rfl⟩

theorem nodeIn_operator {len f g : Nat} {t : Token} {w : Str} (ht : TokInV true len f t g) :
    NodeIn len f (.operator (t.lexpos, t.endlexpos) w) g ∧
      NoPend (.operator (t.lexpos, t.endlexpos) w) := by
  obtain ⟨a, b, hp, ha, hab, hb, hr, hw⟩ := ht
  obtain ⟨h1, h2⟩ := tok_lexspan hp
  rw [h1, h2]
  exact ⟨nodeIn_leaf rfl rfl ha hab hb (hr rfl) trivial, noPend_leaf rfl rfl⟩

theorem nodeIn_pipe {len f g : Nat} {t : Token} {w : Str} (ht : TokInV true len f t g) :
    NodeIn len f (.pipe (t.lexpos, t.endlexpos) w) g ∧
      NoPend (.pipe (t.lexpos, t.endlexpos) w) := by
  obtain ⟨a, b, hp, ha, hab, hb, hr, hw⟩ := ht
  obtain ⟨h1, h2⟩ := tok_lexspan hp
  rw [h1, h2]
  exact ⟨nodeIn_leaf rfl rfl ha hab hb (hr rfl) trivial, noPend_leaf rfl rfl⟩

/-! ## `nodePos`, `_partsspan` -/

section
variable {TI : Nat → Nat → Local → Env → Prop} {len F : Nat} {st : List RedirCell}

theorem keeps_nodePos (n : Node) :
    Keeps (StP TI len F st) (nodePos n) (fun sp => sp = posIn st n) := by
  cases n with
  | redirect p i t o oa hd hid =>
    cases hid with
    | none => exact Keeps.pure rfl
    | some id =>
      unfold nodePos
      simp only []
      refine Keeps.bind Keeps.get ?_
      rintro l ⟨e, _, hst⟩
      rw [hst]
      simp only [posIn]
      cases st[id]? with
      | none => exact Keeps.pure rfl
      | some c => exact Keeps.pure rfl
  | _ => exact Keeps.pure rfl

theorem keeps_nodePos_fresh {n : Node} (h : FreshT len st n) :
    Keeps (StP TI len F st) (nodePos n) (fun sp => sp = n.pos) :=
  (keeps_nodePos n).weaken (fun sp hsp => by rw [hsp, posIn_fresh h])

theorem keeps_partsspan {parts : List Node} (h : ∀ n ∈ parts, FreshT len st n) :
    Keeps (StP TI len F st) (partsspan parts)
      (fun sp => ∃ a b, parts.head? = some a ∧ parts.getLast? = some b ∧ sp = (a.pos.1, b.pos.2)) := by
  unfold partsspan
  cases ha : parts.head? with
  | none => exact Keeps.foreign trivial
  | some a =>
    cases hb : parts.getLast? with
    | none => exact Keeps.foreign trivial
    | some b =>
      simp only []
      refine Keeps.bind (keeps_nodePos_fresh (h a (List.mem_of_mem_head? ha))) ?_
      intro sa hsa
      refine Keeps.bind (keeps_nodePos_fresh (h b (List.mem_of_getLast? hb))) ?_
      intro sb hsb
      exact Keeps.pure ⟨a, b, rfl, rfl, by rw [hsa, hsb]⟩

theorem keeps_handleAssert (b : Bool) :
    Keeps (StP TI len F st) (handleAssert b) (fun _ => b = true) := by
  unfold handleAssert
  split
  · exact Keeps.pure ‹_›
  · exact Keeps.foreign trivial

end

end Bashlex.C03
