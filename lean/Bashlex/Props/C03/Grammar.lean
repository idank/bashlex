/-
  C03: facts about the generated grammar and tables the span argument uses, decided by
  the kernel (re-checked whenever the grammar changes):

  * `$end` occurs in no right-hand side (so every action sees only positioned tokens);
  * `simple_list` occurs only on the right of `p_inputunit`, and is the left-hand side of
    `p_simple_list` (the only action that lets the tokenizer extend redirects);
  * `p_elif_clause` never sees a `None` value and its productions end in a node;
    `! x` / `time x` start with a token or a node;
  * default reductions, and reductions on `$end`, apply only to `p_inputunit`,
    `p_simple_list_terminator` and `p_elif_clause`: every other action runs with a look-ahead
    token that starts within the input -- hence everything it sees ends within the input;
  * only state 0 has a goto on `simple_list`.
-/
import Bashlex.Props.C03.Actions
import Bashlex.Props.C12.Grammar
import Bashlex.LR.Real

namespace Bashlex.C03
open Bashlex Bashlex.LR Bashlex.C12

def fn (p : Nat) : String := Gen.prodFuncs.getD p ""

/-- the action functions that may run without a positioned look-ahead token (by a default
    reduction, or on `$end`) -/
def dfltFuncs : List String := ["p_inputunit", "p_simple_list_terminator", "p_elif_clause"]

def sortIsVal : Srt → Bool
  | .tok _ | .node _ | .nodes _ => true
  | _ => false

def sortIsNodes : Srt → Bool
  | .node _ | .nodes _ => true
  | _ => false

def sortIsTokNode : Srt → Bool
  | .tok _ | .node _ => true
  | _ => false

def prodOK (f : String) (lhs : Nat) (rhs : List Nat) : Bool :=
  !rhs.contains eofSym &&
  (!rhs.contains slSym || f == "p_inputunit") &&
  (f != "p_simple_list" || lhs == slSym) &&
  (f != "p_elif_clause" || ((rhs.all fun s => sortIsVal (sortOfSymbol s)) &&
    (match rhs.getLast? with | some s => sortIsNodes (sortOfSymbol s) | none => false))) &&
  (f != "p_pipeline_command" || rhs.length != 2 || sortIsTokNode (sortOfSymbol (rhs.headD 0)))

def spanGrammarCheck : Bool :=
  (List.zip Gen.prodFuncs Gen.prodTable).all fun (f, (lhs, rhs)) => prodOK f lhs rhs

theorem span_grammar_ok : spanGrammarCheck = true := by decide +kernel

/-- the productions of `p_redirection_heredoc` end in a WORD: the delimiter of a here-document is
    the value of a WORD token (hence not empty, `WNE`) -/
def heredocProdOK (f : String) (rhs : List Nat) : Bool :=
  f != "p_redirection_heredoc" ||
    (match rhs.getLast? with
     | some s => sortOfSymbol s == .tok (some .WORD)
     | none => false)

def heredocGrammarCheck : Bool :=
  (List.zip Gen.prodFuncs Gen.prodTable).all fun (f, (_, rhs)) => heredocProdOK f rhs

theorem heredoc_grammar_ok : heredocGrammarCheck = true := by decide +kernel

def dfltCheck : Bool := Gen.defaultedStates.all fun (_, p) => dfltFuncs.contains (fn p)

theorem dflt_ok : dfltCheck = true := by decide +kernel

def eofRedCheck : Bool :=
  Gen.actionRows.all fun row => row.all fun e =>
    e / 4096 != eofSym ||
      (match decodeAct (e % 4096) with
       | .reduce p => dfltFuncs.contains (fn p)
       | _ => true)

theorem eofRed_ok : eofRedCheck = true := by decide +kernel

def gotoCheck : Bool :=
  Gen.gotoRows.zipIdx.all fun (row, s) => s == 0 || row.all fun e => e / 4096 != slSym

theorem goto_ok : gotoCheck = true := by decide +kernel

/-! ### in usable form -/

theorem prod_ok {p lhs : Nat} {rhs : List Nat} (hp : realTables.prods[p]? = some (lhs, rhs)) :
    prodOK (fn p) lhs rhs = true := forall_prods span_grammar_ok hp

theorem sort_ok {p lhs : Nat} {rhs : List Nat} (hp : realTables.prods[p]? = some (lhs, rhs)) :
    fn p = "" ∨ absAction (fn p) (rhs.map sortOfSymbol) = some (sortOfSymbol lhs) := grammar_at hp

theorem heredoc_prod_ok {p lhs : Nat} {rhs : List Nat}
    (hp : realTables.prods[p]? = some (lhs, rhs)) : heredocProdOK (fn p) rhs = true :=
  forall_prods heredoc_grammar_ok hp

theorem dflt_fn {s p : Nat} (h : realTables.dflt s = some p) : dfltFuncs.contains (fn p) = true := by
  have h' : (Gen.defaultedStates.find? (fun d => d.1 == s)).map (·.2) = some p := h
  cases hf : Gen.defaultedStates.find? (fun d => d.1 == s) with
  | none => rw [hf] at h'; cases h'
  | some d =>
    rw [hf] at h'
    simp only [Option.map_some, Option.some.injEq] at h'
    have hmem := List.mem_of_find?_eq_some hf
    have hg := dflt_ok
    unfold dfltCheck at hg
    have := List.all_eq_true.mp hg d hmem
    obtain ⟨s', p'⟩ := d
    simp only at h' this
    subst h'
    simpa using this

theorem mem_getD {α} {l : List (List α)} {i : Nat} {e : α} (h : e ∈ l.getD i []) :
    ∃ row, row ∈ l ∧ e ∈ row ∧ l[i]? = some row := by
  rw [List.getD_eq_getElem?_getD] at h
  cases hi : l[i]? with
  | none => rw [hi] at h; cases h
  | some row =>
    rw [hi] at h
    exact ⟨row, List.mem_of_getElem? hi, h, rfl⟩

theorem eofRed_fn {s p : Nat} (h : realTables.action s eofSym = some (.reduce p)) :
    dfltFuncs.contains (fn p) = true := by
  obtain ⟨e, hmem, hla, hdec⟩ := Raw.action_mem (R := realRaw) h
  obtain ⟨row, hrow, he, _⟩ := mem_getD (l := Gen.actionRows) hmem
  have hg := eofRed_ok
  unfold eofRedCheck at hg
  have := List.all_eq_true.mp (List.all_eq_true.mp hg row hrow) e he
  rw [hdec] at this
  simpa [hla] using this

theorem goto_sl {s t : Nat} (h : realTables.goto s slSym = some t) : s = 0 := by
  have h' : rowLookup (Gen.gotoRows.getD s []) slSym = some t := h
  obtain ⟨e, hmem, hk, _⟩ := rowLookup_mem h'
  obtain ⟨row, hrow, he, hidx⟩ := mem_getD (l := Gen.gotoRows) hmem
  have hz : (row, s) ∈ Gen.gotoRows.zipIdx := by
    rw [List.mem_zipIdx_iff_getElem?]
    simpa using hidx
  have hg := goto_ok
  unfold gotoCheck at hg
  have := List.all_eq_true.mp hg (row, s) hz
  simp only [Bool.or_eq_true, beq_iff_eq, List.all_eq_true, bne_iff_ne, ne_eq] at this
  rcases this with h0 | hall
  · exact h0
  · exact absurd hk (hall e he)

end Bashlex.C03
