/-
  C03: one parser run (`parserRun_spans`, by induction on the nesting depth), from the
  hypothesis on the token source, the engine theorem `run_sound_ord` and `strict_resolve`.
-/
import Bashlex.Props.C03.Engine

namespace Bashlex.C03
open Bashlex Bashlex.Spec Bashlex.Node Bashlex.M Bashlex.LR Bashlex.C12
-- see `Proofs/ParserLift.lean`
attribute [local irreducible] M.run runParser parse parsesingle split

/-- what a parser run over an input of length `len` returns -/
structure TopOK (len : Nat) (n : Node) : Prop where
  strict : Strict len n
  nopend : NoPend n
  root : tainted n = true ∨ n.pos.1 < n.pos.2

/-- the root a nested parser returns for `s` does not end in two newline characters when it is
    not followed by `)` (`_parsedolparen` steps back over newlines before the end it reports; it
    would then cut the substitution node short of its command) -/
def RootEndOK (s : Str) (n : Node) : Prop :=
  ∀ c, s[n.pos.2]? = some c → c ≠ ')' → n.pos.2 ≤ backOverNewlines s n.pos.2 + 1

def NestedOK (s : Str) (n : Node) : Prop := TopOK s.length n ∧ RootEndOK s n

/-- the contract of the nested parser: it leaves the outer parser object alone (tokenizer
    invariant, store) and returns a fine tree -/
def NPSpans (TI : Nat → Nat → Local → Env → Prop) (np : NestedParse) : Prop :=
  ∀ s b len F st, Keeps (StP TI len F st) (np s b) (fun r => ∀ n, r = some n → NestedOK s n)

/-- the contract of word expansion relative to the nested parser's (proved in `Expand.lean`) -/
def WordContract (TI : Nat → Nat → Local → Env → Prop) : Prop :=
  ∀ np, NPSpans TI np → ∀ len F st, WordSat (StP TI len F st) np len

/-- the second hypothesis (on nested runs only): see `RootEndOK` -/
def RootEnds : Prop :=
  ∀ d s, SatS (parserRun d) (InitState s) (fun r _ _ => ∀ n, r = some n → RootEndOK s n)

section
variable {TI : Nat → Nat → Local → Env → Prop}

theorem npok_npOf (d : Nat) : NPOK (npOf (parserRun d)) :=
  fun _ _ => Sat.npOf (parserRun_ok sat_nextToken d)

/-- a fact about what the wrapped run returns carries over to the wrapper -/
theorem npOf_result {run : M (Option Node)} {s : Str} {b : Bool} {Φ : Option Node → Prop}
    (h : SatS run (InitState s) (fun r _ _ => Φ r)) :
    SatS (npOf run s b) (fun _ _ => True) (fun r _ _ => Φ r) :=
  SatS.npOf_result h (initState_nested · s b)

theorem npSpans_npOf (hT : TokSpans TI) (hR : RootEnds) (d : Nat)
    (ih : ∀ s, SatS (parserRun d) (InitState s) (fun r _ _ => ∀ n, r = some n → TopOK s.length n)) :
    NPSpans TI (npOf (parserRun d)) := by
  intro s b len F st
  have h1 := hT.nested d len F st s b
  have h2 := npOf_result (b := b)
    (Φ := fun r => (∀ n, r = some n → TopOK s.length n) ∧ (∀ n, r = some n → RootEndOK s n))
    (SatS.and (ih s) (hR d s))
  refine SatS.post (SatS.and h1 (SatS.pre h2 (fun _ _ _ => trivial))) ?_
  rintro r l e ⟨hp, h3⟩
  exact ⟨hp, fun n hn => ⟨h3.1 n hn, h3.2 n hn⟩⟩

theorem ext_pos_resolve {len g : Nat} {st : List RedirCell} {n : Node} (h : Done len g st n) :
    (resolve st n).pos.1 = n.pos.1 ∧ n.pos.2 ≤ (resolve st n).pos.2 :=
  let e := ext_resolve (h n (Node.self_mem_preorder n))
  ⟨e.s, e.e⟩

/-- **one parser run**: from a fresh parser object over `s`, every tree `_parser.parse()`
    returns is fine for `len(s)`: every signature `Spec.spansWF` raises on it is known -/
theorem parserRun_spans (hT : TokSpans TI) (hR : RootEnds) (hWC : WordContract TI) :
    ∀ d s, SatS (parserRun d) (InitState s) (fun r _ _ => ∀ n, r = some n → TopOK s.length n) := by
  intro d
  induction d using parserRun_ind with
  | zero => intro s; exact SatS.raise trivial
  | succ d ih =>
    intro s
    have hH := spans_hooks (len := s.length) hT (npok_npOf d)
      (hWC _ (npSpans_npOf hT hR d ih) s.length)
    refine SatS.level ((run_sound_ord real_WF _ hH 1073741824).weaken ?_ (fun _ _ _ h => h)
      (fun _ _ => trivial)) ?_ (fun _ _ _ _ n hn => by cases hn)
    · -- a fresh parser object satisfies the stack invariant of the empty stack
      intro l e hinit
      refine ⟨⟨0, 0, Nat.le_refl 0, Nat.le_refl 0, hT.init s l e hinit, ?_⟩, ?_, ?_⟩ <;>
        (intro x hx; cases hx)
    · intro n _ _ _ l e hgood m hm
      cases hm
      obtain ⟨hs, hroot, hseal, g, hends, hdone⟩ := hgood n rfl
      refine ⟨strict_resolve _ n hs hends hdone, noPend_resolve _ n hseal, ?_⟩
      rcases hroot with ht | hne
      · exact Or.inl (tainted_resolve _ n hdone ht)
      · obtain ⟨e1, e2⟩ := ext_pos_resolve hdone
        right; omega

end
end Bashlex.C03
