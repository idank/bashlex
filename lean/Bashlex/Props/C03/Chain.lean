/-
  C03: values occupying intervals.

  `NodeIn len f n g`: the tree `n` is fine (`Strict`), all its nodes end at or before `g`, and its
  root starts at or after `f` -- unless it sits above a D19 pipeline, whose start is 0.
  `ListIn len f l g`: the nodes of `l` occupy consecutive intervals between `f` and `g`
  (ordered, disjoint).  Constructor lemmas: a leaf (`nodeIn_leaf`), a parent spanning its
  children first-to-last (`strict_mk`, `mkParent`), lists (`ListIn.snoc`, `ListIn.append`,
  `ListIn.split`).
-/
import Bashlex.Props.C03.Tree
import Bashlex.Proofs.NodeResolve

namespace Bashlex.C03
open Bashlex Bashlex.Spec Bashlex.Node
set_option linter.unusedVariables false

/-- every pending here-document redirect of the tree has the shape `p_redirection_heredoc` builds -/
def PendAll (n : Node) : Prop := ∀ m ∈ n.preorder, pendShape m

theorem pendAll_iff {n : Node} : PendAll n ↔ pendShape n ∧ ∀ c, c ∈ n.children → PendAll c :=
  Node.forall_preorder_iff

/-- no pending redirect anywhere in the tree -/
def NoPend (n : Node) : Prop := ∀ m ∈ n.preorder, pendOf m = none

theorem noPend_iff {n : Node} : NoPend n ↔ pendOf n = none ∧ ∀ c, c ∈ n.children → NoPend c :=
  Node.forall_preorder_iff

/-- below a node `resolve` does not descend into (words, redirects, …) there is no pending
    redirect: such subtrees are finished (they come from `expandword`) -/
def Sealed (m : Node) : Prop := descends m = false → ∀ c, c ∈ m.children → NoPend c

def SealedAll (n : Node) : Prop := ∀ m ∈ n.preorder, Sealed m

theorem sealedAll_iff {n : Node} : SealedAll n ↔ Sealed n ∧ ∀ c, c ∈ n.children → SealedAll c :=
  Node.forall_preorder_iff

theorem sealed_of_desc {m : Node} (h : descends m = true) : Sealed m := by
  intro h'; rw [h] at h'; cases h'

/-- a subtree without pending redirects is sealed throughout -/
theorem noPend_sealedAll : (n : Node) → NoPend n → SealedAll n := by
  intro n
  induction n using Node.children_induction with
  | hP n ih =>
    intro h
    have h' := noPend_iff.mp h
    exact sealedAll_iff.mpr ⟨fun _ c hc => h'.2 c hc, fun c hc => ih c hc (h'.2 c hc)⟩

theorem noPendL_sealedAll : (l : List Node) → (∀ c, c ∈ l → NoPend c) → ∀ c, c ∈ l → SealedAll c :=
  fun _ h c hc => noPend_sealedAll c (h c hc)

structure NodeIn (len f : Nat) (n : Node) (g : Nat) : Prop where
  strict : Strict len n
  ends : EndsBy g n
  le : f ≤ g
  root : tainted n = true ∨ (f ≤ n.pos.1 ∧ n.pos.1 < n.pos.2)
  pend : PendAll n
  /-- the left bound lies within the input (for an untainted node this follows from `root`) -/
  fl : f ≤ len
  sld : SealedAll n

theorem NodeIn.mono {len f f' g g' : Nat} {n : Node} (h : NodeIn len f n g) (hf : f' ≤ f)
    (hg : g ≤ g') : NodeIn len f' n g' :=
  ⟨h.strict, h.ends.mono hg, by have := h.le; omega, by
    rcases h.root with h | h
    · exact Or.inl h
    · exact Or.inr ⟨by omega, h.2⟩, h.pend, by have := h.fl; omega, h.sld⟩

theorem NodeIn.end_le {len f g : Nat} {n : Node} (h : NodeIn len f n g) : n.pos.2 ≤ g := h.ends.root

theorem NodeIn.nodeS {len f g : Nat} {n : Node} (h : NodeIn len f n g) : NodeS len n :=
  h.strict n (Node.self_mem_preorder n)

theorem NodeIn.rng {len f g : Nat} {n : Node} (h : NodeIn len f n g) (ht : tainted n = false) :
    n.pos.2 ≤ len := h.nodeS.rng ht

theorem NodeIn.start {len f g : Nat} {n : Node} (h : NodeIn len f n g) (ht : tainted n = false) :
    f ≤ n.pos.1 ∧ n.pos.1 < n.pos.2 := by
  rcases h.root with h | h
  · rw [h] at ht; cases ht
  · exact h

def ListIn (len : Nat) : Nat → List Node → Nat → Prop
  | f, [], g => f ≤ g
  | f, n :: ns, g => ∃ m, NodeIn len f n m ∧ ListIn len m ns g

theorem ListIn.le {len : Nat} : ∀ {l : List Node} {f g : Nat}, ListIn len f l g → f ≤ g
  | [], _, _, h => h
  | n :: ns, f, g, h => by
    obtain ⟨m, h1, h2⟩ := h
    have := h1.le
    have := ListIn.le h2
    omega

theorem ListIn.mono {len : Nat} : ∀ {l : List Node} {f f' g g' : Nat}, ListIn len f l g →
    f' ≤ f → g ≤ g' → ListIn len f' l g'
  | [], f, f', g, g', h, hf, hg => by
    have : f ≤ g := h
    show f' ≤ g'
    omega
  | n :: ns, f, f', g, g', h, hf, hg => by
    obtain ⟨m, h1, h2⟩ := h
    exact ⟨m, h1.mono hf (Nat.le_refl _), ListIn.mono h2 (Nat.le_refl _) hg⟩

theorem ListIn.append {len : Nat} : ∀ {a b : List Node} {f m g : Nat}, ListIn len f a m →
    ListIn len m b g → ListIn len f (a ++ b) g
  | [], b, f, m, g, ha, hb => by
    have : f ≤ m := ha
    exact ListIn.mono hb this (Nat.le_refl _)
  | n :: ns, b, f, m, g, ha, hb => by
    obtain ⟨k, h1, h2⟩ := ha
    exact ⟨k, h1, ListIn.append h2 hb⟩

theorem ListIn.split {len : Nat} : ∀ {a b : List Node} {f g : Nat}, ListIn len f (a ++ b) g →
    ∃ m, ListIn len f a m ∧ ListIn len m b g
  | [], b, f, g, h => ⟨f, Nat.le_refl f, h⟩
  | n :: ns, b, f, g, h => by
    obtain ⟨k, h1, h2⟩ := h
    obtain ⟨m, h3, h4⟩ := ListIn.split h2
    exact ⟨m, ⟨k, h1, h3⟩, h4⟩

theorem listIn_single {len f g : Nat} {n : Node} : ListIn len f [n] g ↔ NodeIn len f n g := by
  constructor
  · rintro ⟨m, h1, h2⟩
    have : m ≤ g := h2
    exact h1.mono (Nat.le_refl _) this
  · intro h
    exact ⟨g, h, Nat.le_refl g⟩

theorem ListIn.mem {len : Nat} : ∀ {l : List Node} {f g : Nat}, ListIn len f l g →
    ∀ n ∈ l, NodeIn len f n g
  | [], _, _, _, n, hn => by cases hn
  | a :: as, f, g, h, n, hn => by
    obtain ⟨m, h1, h2⟩ := h
    rcases List.mem_cons.mp hn with rfl | hn
    · exact h1.mono (Nat.le_refl _) (ListIn.le h2)
    · exact (ListIn.mem h2 n hn).mono h1.le (Nat.le_refl _)

theorem ListIn.snoc {len f m g : Nat} {l : List Node} {n : Node} (hl : ListIn len f l m)
    (hn : NodeIn len m n g) : ListIn len f (l ++ [n]) g :=
  ListIn.append hl (listIn_single.mpr hn)

/-- in a chain of untainted nodes: order, and every node between the first start and the last end -/
theorem ListIn.untainted {len : Nat} : ∀ {l : List Node} {f g : Nat}, ListIn len f l g →
    (∀ n ∈ l, tainted n = false) →
    ordered l = true ∧ ∀ a b, l.head? = some a → l.getLast? = some b →
      f ≤ a.pos.1 ∧ b.pos.2 ≤ g ∧ ∀ c ∈ l, a.pos.1 ≤ c.pos.1 ∧ c.pos.1 < c.pos.2 ∧ c.pos.2 ≤ b.pos.2
  | [], _, _, _, _ => ⟨rfl, fun a b ha => by cases ha⟩
  | [x], f, g, h, ht => by
    refine ⟨rfl, ?_⟩
    intro a b ha hb
    simp only [List.head?_cons, Option.some.injEq] at ha
    simp only [List.getLast?_singleton, Option.some.injEq] at hb
    subst ha; subst hb
    have hx := listIn_single.mp h
    have hs := hx.start (ht _ List.mem_cons_self)
    refine ⟨hs.1, hx.end_le, ?_⟩
    intro c hc
    simp only [List.mem_singleton] at hc
    subst hc
    exact ⟨Nat.le_refl _, hs.2, Nat.le_refl _⟩
  | x :: y :: rest, f, g, h, ht => by
    obtain ⟨m, h1, h2⟩ := h
    have ih := ListIn.untainted h2 (fun n hn => ht n (List.mem_cons_of_mem _ hn))
    have hxs := h1.start (ht _ List.mem_cons_self)
    have hxe := h1.end_le
    obtain ⟨m2, hy, _⟩ := h2
    have hys := hy.start (ht _ (List.mem_cons_of_mem _ List.mem_cons_self))
    obtain ⟨b, hb⟩ : ∃ b, (y :: rest).getLast? = some b := by
      cases hgl : (y :: rest).getLast? with
      | none => simp at hgl
      | some b => exact ⟨b, rfl⟩
    obtain ⟨iy1, iy2, iy3⟩ := ih.2 y b rfl hb
    refine ⟨?_, ?_⟩
    · simp only [ordered, Bool.and_eq_true, decide_eq_true_eq]
      exact ⟨by omega, ih.1⟩
    · intro a b' ha hb'
      simp only [List.head?_cons, Option.some.injEq] at ha
      subst ha
      have : (x :: y :: rest).getLast? = (y :: rest).getLast? := by
        simp [List.getLast?_cons_cons]
      rw [this, hb] at hb'
      cases hb'
      refine ⟨hxs.1, iy2, ?_⟩
      intro c hc
      rcases List.mem_cons.mp hc with rfl | hc
      · have := (iy3 y List.mem_cons_self)
        exact ⟨Nat.le_refl _, hxs.2, by omega⟩
      · have := iy3 c hc
        exact ⟨by omega, this.2.1, this.2.2⟩

theorem ordered_append : ∀ {a b : List Node}, ordered a = true → ordered b = true →
    (∀ x ∈ a, ∀ y ∈ b, x.pos.2 ≤ y.pos.1) → ordered (a ++ b) = true
  | [], b, _, hb, _ => hb
  | [x], [], _, _, _ => rfl
  | [x], y :: ys, _, hb, h => by
    show ordered (x :: y :: ys) = true
    simp only [ordered, Bool.and_eq_true, decide_eq_true_eq]
    exact ⟨h x List.mem_cons_self y List.mem_cons_self, hb⟩
  | x :: x' :: xs, b, ha, hb, h => by
    simp only [ordered, Bool.and_eq_true, decide_eq_true_eq] at ha
    show ordered (x :: x' :: (xs ++ b)) = true
    simp only [ordered, Bool.and_eq_true, decide_eq_true_eq]
    refine ⟨ha.1, ?_⟩
    exact ordered_append (a := x' :: xs) ha.2 hb (fun u hu v hv => h u (List.mem_cons_of_mem _ hu) v hv)

/-! ## building a parent -/

theorem strict_mk {len : Nat} {n : Node} (h : NodeS len n) (hc : ∀ c, c ∈ n.children → Strict len c) :
    Strict len n := strict_iff.mpr ⟨h, hc⟩

/-- what a fine node provides, and what a fine parent needs of each child -/
def KidOK (len g : Nat) (c : Node) : Prop := Strict len c ∧ EndsBy g c ∧ PendAll c ∧ SealedAll c

theorem NodeIn.kidOK {len f m g : Nat} {n : Node} (h : NodeIn len f n m) (hg : m ≤ g) :
    KidOK len g n := ⟨h.strict, h.ends.mono hg, h.pend, h.sld⟩

theorem NodeIn.kids {len f m g : Nat} {n : Node} (h : NodeIn len f n m) (hg : m ≤ g) :
    ∀ c, c ∈ n.children → KidOK len g c := fun c hc =>
  ⟨(strict_iff.mp h.strict).2 c hc, ((endsBy_iff.mp h.ends).2 c hc).mono hg,
    (pendAll_iff.mp h.pend).2 c hc, (sealedAll_iff.mp h.sld).2 c hc⟩

theorem ListIn.kids {len f g : Nat} {l : List Node} (h : ListIn len f l g) :
    ∀ c, c ∈ l → KidOK len g c := fun c hc => (h.mem c hc).kidOK (Nat.le_refl _)

/-- a node over fine children: what remains to be shown concerns the node itself -/
theorem nodeIn_of_kids {len f g : Nat} {P : Node} (hk : ∀ c, c ∈ P.children → KidOK len g c)
    (hs : NodeS len P) (hend : P.pos.2 ≤ g) (hfg : f ≤ g)
    (hroot : tainted P = true ∨ (f ≤ P.pos.1 ∧ P.pos.1 < P.pos.2)) (hsh : pendShape P)
    (hfl : f ≤ len) (hsl : Sealed P) : NodeIn len f P g :=
  ⟨strict_mk hs (fun c hc => (hk c hc).1), endsBy_iff.mpr ⟨hend, fun c hc => (hk c hc).2.1⟩, hfg,
    hroot, pendAll_iff.mpr ⟨hsh, fun c hc => (hk c hc).2.2.1⟩, hfl,
    sealedAll_iff.mpr ⟨hsl, fun c hc => (hk c hc).2.2.2⟩⟩

/-- a node spanning its (non-empty, chained) children from the first to the last -/
theorem mkParent {len f g : Nat} {P : Node} {l : List Node} (hch : P.children = l)
    (hl : ListIn len f l g) {a b : Node} (ha : l.head? = some a) (hb : l.getLast? = some b)
    (hpos : P.pos = (a.pos.1, b.pos.2)) (hsh : pendShape P)
    (hds : descends P = true := by rfl) : NodeIn len f P g := by
  have hmem := ListIn.mem hl
  have hbm : b ∈ l := List.mem_of_getLast? hb
  have ham : a ∈ l := List.mem_of_mem_head? ha
  have hk : ∀ c, c ∈ P.children → KidOK len g c := fun c hc => hl.kids c (hch ▸ hc)
  have hend : P.pos.2 ≤ g := by rw [hpos]; exact (hmem b hbm).end_le
  have hfl : f ≤ len := (hmem a ham).fl
  cases ht : tainted P with
  | true =>
    exact nodeIn_of_kids hk (Or.inl ht) hend (ListIn.le hl) (Or.inl ht) hsh hfl (sealed_of_desc hds)
  | false =>
    have hut : ∀ n ∈ l, tainted n = false := fun n hn => untainted_child (hch ▸ hn) ht
    obtain ⟨hord, hb2⟩ := ListIn.untainted hl hut
    obtain ⟨h1, h2, h3⟩ := hb2 a b ha hb
    have haa := h3 a ham
    have hloc : LocOK len P := by
      refine ⟨?_, ?_, ?_, ?_, ?_, ?_, ?_⟩
      · rw [hpos]; show a.pos.1 < b.pos.2; omega
      · rw [hpos]; exact (hmem b hbm).rng (hut b hbm)
      · intro c hc; exact (h3 c (hch ▸ hc)).2.1
      · intro c hc _
        rw [hpos]
        have := h3 c (hch ▸ hc)
        exact ⟨this.1, Or.inl this.2.2⟩
      · rw [hch]; exact hord
      · intro _
        exact ⟨a, b, hch ▸ ha, hch ▸ hb, by rw [hpos], Or.inl (by rw [hpos])⟩
      · intro c hc
        rw [hpos]
        exact (h3 c (hch ▸ hc)).1
    refine nodeIn_of_kids hk (Or.inr (Or.inl hloc)) hend (ListIn.le hl) (Or.inr ?_) hsh hfl
      (sealed_of_desc hds)
    rw [hpos]
    show f ≤ a.pos.1 ∧ a.pos.1 < b.pos.2
    omega

theorem locOK_leaf {len : Nat} {n : Node} (hch : n.children = []) (hsp : spansItsParts n = false)
    (h2 : n.pos.1 < n.pos.2) (h4 : n.pos.2 ≤ len) : LocOK len n := by
  refine ⟨h2, h4, ?_, ?_, by rw [hch]; rfl, fun h => (by rw [hsp] at h; cases h), ?_⟩
  all_goals rw [hch]; intro c hc; cases hc

/-- the local conditions for a node around one child -/
theorem locOK_single {len a b : Nat} {P c : Node} (hch : P.children = [c]) (hpos : P.pos = (a, b))
    (hsp : spansItsParts P = false) (hab : a < b) (hbl : b ≤ len) (hcne : c.pos.1 < c.pos.2)
    (h1 : a ≤ c.pos.1) (h2 : c.pos.2 ≤ b) : LocOK len P := by
  refine ⟨by rw [hpos]; exact hab, by rw [hpos]; exact hbl, ?_, ?_, by rw [hch]; rfl,
    fun h => (by rw [hsp] at h; cases h), ?_⟩
  · rw [hch]; intro k hk; simp at hk; subst hk; exact hcne
  · rw [hch, hpos]; intro k hk _; simp at hk; subst hk; exact ⟨h1, Or.inl h2⟩
  · rw [hch, hpos]; intro k hk; simp at hk; subst hk; exact h1

/-- a leaf (no children) at a given span -/
theorem nodeIn_leaf {len f g : Nat} {n : Node} (hch : n.children = []) (hsp : spansItsParts n = false)
    (h1 : f ≤ n.pos.1) (h2 : n.pos.1 < n.pos.2) (h3 : n.pos.2 ≤ g)
    (h4 : n.pos.2 ≤ len) (hsh : pendShape n) : NodeIn len f n g :=
  nodeIn_of_kids (by rw [hch]; intro c hc; cases hc) (Or.inr (Or.inl (locOK_leaf hch hsp h2 h4))) h3
    (by omega) (Or.inr ⟨h1, h2⟩) hsh (by omega) (by intro _ c hc; rw [hch] at hc; cases hc)

end Bashlex.C03

namespace Bashlex.C03
open Bashlex Bashlex.Spec Bashlex.Node

/-! ## after `resolve` no redirect is pending -/

theorem pendOf_eq_none {n : Node} (h : n.kind ≠ "redirect") : pendOf n = none := by
  cases n <;> first | rfl | simp [Node.kind] at h

theorem noPend_resolve (st : List RedirCell) : (n : Node) → SealedAll n → NoPend (resolve st n) := by
  refine resolve_induction (R := fun n n' => SealedAll n → NoPend n') ?_ ?_ ?_
  · intro n hd ih h
    rw [noPend_iff, Node.children_map1]
    refine ⟨pendOf_eq_none (by rw [Node.kind_map1]; exact kind_ne_redirect_of_descends hd), ?_⟩
    intro c hc
    obtain ⟨c0, hc0, rfl⟩ := List.mem_map.mp hc
    exact ih c0 hc0 ((sealedAll_iff.mp h).2 c0 hc0)
  · intro p i t o oa hd hid h
    have hk := (sealedAll_iff.mp h).1 rfl
    rw [resolve_redirect]
    split
    · rename_i c _
      rw [noPend_iff]
      refine ⟨rfl, fun k hkm => ?_⟩
      simp only [children, List.mem_append, Option.mem_toList] at hkm
      rcases hkm with hkm | hkm
      · exact hk k (by simp [children, hkm])
      · -- the body taken from the store is a leaf
        cases hb : c.heredoc with
        | none => simp [hb] at hkm
        | some b =>
          simp only [hb, Option.map_some, Option.some.injEq] at hkm
          subst hkm
          exact noPend_iff.mpr ⟨rfl, by simp [children]⟩
    · exact noPend_iff.mpr ⟨rfl, fun c hc => hk c (by simpa [children] using hc)⟩
  · intro n hd hr h
    exact noPend_iff.mpr ⟨pendOf_eq_none hr, (sealedAll_iff.mp h).1 hd⟩

theorem noPendL_resolve (st : List RedirCell) :
    (l : List Node) → (∀ c, c ∈ l → SealedAll c) → ∀ c, c ∈ resolveL st l → NoPend c := by
  intro l h c hc
  rw [resolveL_eq] at hc
  obtain ⟨c0, hc0, rfl⟩ := List.mem_map.mp hc
  exact noPend_resolve st c0 (h c0 hc0)

end Bashlex.C03
