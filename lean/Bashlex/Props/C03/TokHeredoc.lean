/-
  C03, token source: the here-document reader, walked once: `readline(False)` and `makeheredoc`
  from the exact cursor (`readline_x`, `makeheredoc_x`: where the body lies, that the delimiter
  line spans at least two characters since the delimiter is not empty, and that it ends where a
  line may end, `LineEnds L G`, for whoever wants to know more of that place than C03 does);
  `gatherheredocuments` from a `W` state for any fact `J` about store and queue that attaching a
  body keeps (`gather_x`).  C03's own instance is `gather_w` (`CellStepG`: nothing else in the
  store changes); the one of `RootEnds` is `RE.gather_e`.  Then the line `tokenizer.__init__`
  builds (`ofInput_line`) and the dead states (cursor beyond the line after the non-strict skip:
  `DeadS`), in which `token()` delivers EOF.
-/
import Bashlex.Props.C03.TokWord
import Bashlex.Props.C10.Reader

namespace Bashlex.C03.Tok
open Bashlex Bashlex.M Bashlex.C10 Bashlex.C11
set_option linter.unusedSimpArgs false

/-- the line ends in a newline: a character other than newline is followed by another one -/
def NL (L : Str) : Prop := ∀ i ch, L[i]? = some ch → ch ≠ '\n' → i + 2 ≤ L.length

variable {L : Str} {sr : List RedirCell} {rk : List (Nat × Bool)} {ps : List Nat} {k : Nat}

/-! ## `readline(False)` -/

/-- where a line of two characters or more may end (`G j`: with the cursor at `j`): its newline --
    a character, or the one `readline` supplies at the end of the input -- was delivered by a
    `_getc` from `p`, behind a character that is no newline -/
def LineEnds (L : Str) (G : Nat → Prop) : Prop :=
  ∀ (p j : Nat) (c' : Char) (c : Option Char), 1 ≤ p → L[p - 1]? = some c' → c' ≠ '\n' →
    C04.TTP.GetcR true L p j c → c.getD '\n' = '\n' → G j

theorem LineEnds.triv {L : Str} : LineEnds L (fun _ => True) := fun _ _ _ _ _ _ _ _ _ => True.intro

/-- the loop of `readline` from cursor `i0`: the cursor is `p`; a character in the buffer was read
    (the last one, at `p - 1`, is no newline) -/
def RLInv (L : Str) (sr : List RedirCell) (rk : List (Nat × Bool)) (ps : List Nat) (i0 : Nat)
    (st : RLState) (l : Local) (e : Env) : Prop :=
  ∃ p, (i0 ≤ p ∧ st.indx = st.linebuffer.length ∧
    (1 ≤ st.indx → i0 + 1 ≤ p ∧ ∃ c', L[p - 1]? = some c' ∧ c' ≠ '\n') ∧
    (2 ≤ st.indx → i0 + 2 ≤ p)) ∧ C05.TG.TpS L sr rk ps p l e

/-- `readline(False)` from cursor `i0` leaves the cursor at some `j ≥ i0`: beyond `i0` if it returns
    a line, at `i0 + 2` or beyond, and where a line may end, if the line has two characters or more
    (its final newline may be supplied at the end of the input, but then the cursor is at the end) -/
def RLPost (G : Nat → Prop) (L : Str) (sr : List RedirCell) (rk : List (Nat × Bool)) (ps : List Nat)
    (i0 : Nat) (r : Option Str) (l : Local) (e : Env) : Prop :=
  ∃ j, C05.TG.TpS L sr rk ps j l e ∧ i0 ≤ j ∧
    ∀ txt, r = some txt → i0 + 1 ≤ j ∧ (2 ≤ txt.length → i0 + 2 ≤ j ∧ G j)

theorem readline_x {G : Nat → Prop} (hnl : NL L) (hG : LineEnds L G) (i0 : Nat) :
    HT (C05.TG.TpS L sr rk ps i0) (readline false) (RLPost G L sr rk ps i0) ET := by
  unfold readline
  simp only [Bool.and_false, Bool.false_eq_true, if_false]
  refine QW.bindSame w_loopFuel (fun fuel => ?_)
  refine HT.pre (HT.loop (E := ET) (I := RLInv L sr rk ps i0) True.intro (fun st => ?_) fuel _) ?_
  · refine HT.pre_exists (fun p => HT.pre_pure (fun hp => ?_))
    obtain ⟨h0, h1, h2, h3⟩ := hp
    refine C05.TG.getc_binds (fun c0 j hg => ?_)
    have hpj := hg.le
    -- the newline: return the line
    have tailR : ∀ (c : Char), i0 + 1 ≤ j → (1 ≤ st.indx → i0 + 2 ≤ j ∧ G j) →
        HT (C05.TG.TpS L sr rk ps j)
          (pure (Sum.inr (some (st.linebuffer ++ [c]))) : M (RLState ⊕ Option Str))
          (fun r l e => match r with
            | .inl s' => RLInv L sr rk ps i0 s' l e
            | .inr a => RLPost G L sr rk ps i0 a l e) ET := by
      intro c a1 a2
      refine HT.pure (fun l e h => ⟨j, h, by omega, fun txt ht => ?_⟩)
      cases ht
      refine ⟨a1, fun hlen => a2 ?_⟩
      simp only [List.length_append, List.length_cons, List.length_nil] at hlen
      omega
    -- another character: append it
    have tailC : ∀ (c : Char), L[j - 1]? = some c → c ≠ '\n' → p < j → ∀ (pn : Bool),
        HT (C05.TG.TpS L sr rk ps j)
          (pure (Sum.inl { linebuffer := st.linebuffer ++ [c], passnext := pn,
                           indx := st.indx + 1 }) : M (RLState ⊕ Option Str))
          (fun r l e => match r with
            | .inl s' => RLInv L sr rk ps i0 s' l e
            | .inr a => RLPost G L sr rk ps i0 a l e) ET := by
      intro c a1 a2 a3 pn
      refine HT.pure (fun l e h => ⟨j, ⟨by omega, ?_, fun _ => ⟨by omega, c, a1, a2⟩, fun h2' => ?_⟩, h⟩)
      · simp only [List.length_append, List.length_cons, List.length_nil]; omega
      · have := (h2 (by show 1 ≤ st.indx; simp only [] at h2'; omega)).1
        omega
    cases c0 with
    | none =>
      obtain ⟨hjL, _⟩ := hg.atEnd rfl
      simp only [Option.isNone_none, Bool.true_and, Option.getD_none]
      refine HT.ite (fun hi => ?_) (fun hi => ?_)
      · exact HT.pure (fun l e h => ⟨j, h, by omega, fun txt ht => by cases ht⟩)
      · have hi' : 1 ≤ st.indx := by
          have : st.indx ≠ 0 := by intro hx; rw [hx] at hi; exact hi rfl
          omega
        obtain ⟨b1, c', hc', hcne⟩ := h2 hi'
        have := hnl _ _ hc' hcne
        have hE := hG p j c' none (by omega) hc' hcne hg rfl
        refine HT.ite (fun _ => ?_) (fun _ => ?_)
        · refine HT.ite (fun _ => ?_) (fun hc => absurd rfl hc)
          exact tailR '\n' (by omega) (fun _ => ⟨by omega, hE⟩)
        · refine HT.ite (fun _ => ?_) (fun hc => absurd rfl hc)
          exact tailR '\n' (by omega) (fun _ => ⟨by omega, hE⟩)
    | some ch =>
      obtain ⟨g1, g2, _⟩ := hg.char ch rfl
      simp only [Option.isNone_some, Bool.false_and, Option.getD_some, Bool.false_eq_true, if_false]
      have hne : ∀ (hc : ¬ (ch == '\n') = true), ch ≠ '\n' := by
        intro hc hx; rw [hx] at hc; exact hc rfl
      have hE : (ch == '\n') = true → 1 ≤ st.indx → i0 + 2 ≤ j ∧ G j := by
        intro hc hi
        obtain ⟨b1, c', hc', hcne⟩ := h2 hi
        exact ⟨by omega, hG p j c' (some ch) (by omega) hc' hcne hg (by simpa using hc)⟩
      refine HT.ite (fun _ => ?_) (fun _ => ?_)
      · refine HT.ite (fun hc => ?_) (fun hc => ?_)
        · exact tailR ch (by omega) (hE hc)
        · exact tailC ch g2 (hne hc) g1 false
      · refine HT.ite (fun hc => ?_) (fun hc => ?_)
        · exact tailR ch (by omega) (hE hc)
        · exact tailC ch g2 (hne hc) g1 st.passnext
  · intro l e h
    exact ⟨i0, ⟨Nat.le_refl _, rfl, (fun h => by cases h), (fun h => by cases h)⟩, h⟩

/-! ## `makeheredoc` -/

theorem strip_len : ∀ {s f : Str}, stripLeadingTabs s = some f → f.length ≤ s.length
  | [], f, h => by simp [stripLeadingTabs] at h
  | c :: cs, f, h => by
    unfold stripLeadingTabs at h
    split at h
    · have := strip_len h
      simp only [List.length_cons]; omega
    · cases h; exact Nat.le_refl _

theorem dropLast_len {f d : Str} (h : (pyDropLastN f 1 == d) = true) (hd : d ≠ []) : 2 ≤ f.length := by
  have h1 : pyDropLastN f 1 = d := by simpa using h
  unfold pyDropLastN at h1
  have h2 : (f.take (f.length - 1)).length = d.length := by rw [h1]
  rw [List.length_take] at h2
  have h3 : 0 < d.length := List.length_pos_iff.mpr hd
  omega

theorem foreign_bind_ht {α β : Type} {P : Local → Env → Prop} {Q : β → Local → Env → Prop}
    {a b : String} {k : α → M β} : HT P ((M.foreign a b : M α) >>= k) Q ET := by
  intro l e _; rw [M.run_bind]; exact True.intro

/-- invariant of the loop of `makeheredoc`, the first line having been read from cursor `s0`: what
    `readline` says of the line in `fullline` -/
def HDInv (G : Nat → Prop) (L : Str) (sr : List RedirCell) (rk : List (Nat × Bool)) (ps : List Nat)
    (s0 : Nat) (st : HDState) (l : Local) (e : Env) : Prop :=
  ∃ j, (s0 ≤ j ∧ ∀ txt, st.fullline = some txt → s0 + 1 ≤ j ∧ (2 ≤ txt.length → s0 + 2 ≤ j ∧ G j)) ∧
    C05.TG.TpS L sr rk ps j l e

/-- the loop was left at the delimiter line (two characters or more), or at the end of the input -/
def HDPost (G : Nat → Prop) (L : Str) (sr : List RedirCell) (rk : List (Nat × Bool)) (ps : List Nat)
    (s0 : Nat) (st : HDState) (l : Local) (e : Env) : Prop :=
  ∃ j, (strTruthy st.fullline = true → s0 + 2 ≤ j ∧ G j) ∧ C05.TG.TpS L sr rk ps j l e

def HDStepQ (G : Nat → Prop) (L : Str) (sr : List RedirCell) (rk : List (Nat × Bool))
    (ps : List Nat) (s0 : Nat) (r : HDState ⊕ HDState) (l : Local) (e : Env) : Prop :=
  match r with
  | .inl s' => HDInv G L sr rk ps s0 s' l e
  | .inr a => HDPost G L sr rk ps s0 a l e

theorem truthy_some {o : Option Str} (h : strTruthy o = true) : ∃ t, o = some t := by
  cases o with
  | none => cases h
  | some t => exact ⟨t, rfl⟩

/-- **`makeheredoc`** from cursor `i0`: the body `(i0, y)` is attached to the cell, `y + 1` is the
    cursor, behind the delimiter line, which has two characters or more (the delimiter is not
    empty) and ends where a line may end -/
theorem makeheredoc_x {G : Nat → Prop} (hnl : NL L) (hG : LineEnds L G) {id : Nat}
    {cell : RedirCell} (kill : Bool) (hcell : sr[id]? = some cell) (hd : cell.delim ≠ [])
    (i0 : Nat) :
    HT (C05.TG.TpS L sr rk ps i0) (makeheredoc id kill)
      (fun _ l e => ∃ y v, i0 < y ∧ G (y + 1) ∧
        C05.TG.TpS L (sr.set id (attach cell i0 y v)) rk ps (y + 1) l e) ET := by
  unfold makeheredoc
  simp only []
  refine HT.get_bind (fun l0 => ?_)
  refine HT.pre (P := fun l e => l0.store[id]? = some cell ∧ C05.TG.TpS L sr rk ps i0 l e)
    (HT.pre_pure (fun hc => ?_)) (fun l e h => ⟨by rw [← h.1, h.2.2.1]; exact hcell, h.2⟩)
  rw [hc]
  simp only [pure_bind]
  -- `startpos`
  refine HT.bind (HT.reader run_curIdx) (fun s0 => ?_)
  refine HT.pre (P := fun l e => s0 = i0 ∧ C05.TG.TpS L sr rk ps i0 l e) (HT.pre_pure (fun hs0 => ?_))
    (fun l e h => ⟨by rw [h.1]; exact h.2.1.2.1, h.2⟩)
  subst hs0
  refine HT.bind (readline_x hnl hG s0) (fun first => ?_)
  refine QW.bindSame w_loopFuel (fun fuel => ?_)
  refine HT.bind (Q := fun fin l e => HDPost G L sr rk ps s0 fin l e) ?_ (fun fin => ?_)
  · -- the loop
    refine HT.pre (HT.loop (E := ET) (I := HDInv G L sr rk ps s0) True.intro (fun st => ?_) fuel _) ?_
    · refine HT.post (Q := HDStepQ G L sr rk ps s0) ?_ (fun r l e h => by cases r <;> exact h)
      refine HT.pre_exists (fun j => HT.pre_pure (fun hj => ?_))
      obtain ⟨h0, h1⟩ := hj
      refine HT.ite (fun hnt => ?_) (fun htr => ?_)
      · -- `fullline` is falsy: leave
        refine HT.pure (fun l e h => ⟨j, fun ht => ?_, h⟩)
        rw [ht] at hnt; cases hnt
      have htr' : strTruthy st.fullline = true := by
        cases hx : strTruthy st.fullline with
        | true => rfl
        | false => rw [hx] at htr; exact absurd rfl htr
      obtain ⟨t0, ht0⟩ := truthy_some htr'
      have hg : st.fullline.getD [] = t0 := by rw [ht0]; rfl
      obtain ⟨hj1, hj2⟩ := h1 t0 ht0
      have leafA : ∀ (f d : Str), f.isEmpty = true → HT (C05.TG.TpS L sr rk ps j)
          (pure (Sum.inl { fullline := some f, document := d }) : M (HDState ⊕ HDState))
          (HDStepQ G L sr rk ps s0) ET := by
        intro f d hf
        have hf' : f = [] := by simpa using hf
        subst hf'
        refine HT.pure (fun l e h => ⟨j, ⟨h0, fun txt htxt => ?_⟩, h⟩)
        cases htxt
        exact ⟨hj1, fun hlen => by simp at hlen⟩
      have leafB : ∀ (f d : Str), f.length ≤ t0.length → (pyDropLastN f 1 == cell.delim) = true →
          HT (C05.TG.TpS L sr rk ps j)
          (pure (Sum.inr { fullline := some f, document := d }) : M (HDState ⊕ HDState))
          (HDStepQ G L sr rk ps s0) ET := by
        intro f d hlen hm
        have := dropLast_len hm hd
        exact HT.pure (fun l e h => ⟨j, fun _ => hj2 (by omega), h⟩)
      have leafC : ∀ (d : Str), HT (C05.TG.TpS L sr rk ps j)
          (readline false >>= fun next => pure (Sum.inl { fullline := next, document := d }) :
            M (HDState ⊕ HDState))
          (HDStepQ G L sr rk ps s0) ET := by
        intro d
        refine HT.bind (readline_x hnl hG j) (fun next => ?_)
        refine HT.pure (fun l e h => ?_)
        obtain ⟨j', hw, a1, a2⟩ := h
        refine ⟨j', ⟨by omega, fun txt htxt => ?_⟩, hw⟩
        obtain ⟨b1, b2⟩ := a2 txt htxt
        exact ⟨by omega, fun hlen => ⟨by have := (b2 hlen).1; omega, (b2 hlen).2⟩⟩
      rw [hg]
      repeat' (first
        | with_reducible refine HT.ite (fun _ => ?_) (fun _ => ?_)
        | with_reducible exact foreign_bind_ht
        | with_reducible exact leafA _ _ (by assumption)
        | with_reducible exact leafB _ _ (Nat.le_refl _) (by assumption)
        | with_reducible exact leafB _ _ (strip_len (by assumption)) (by assumption)
        | with_reducible exact leafC _
        | split_head)
    · -- the first line
      rintro l e ⟨j, hw, a1, a2⟩
      exact ⟨j, ⟨a1, a2⟩, hw⟩
  · -- after the loop
    refine HT.ite (fun _ => ?_) (fun htr => ?_)
    · -- delimited by end-of-file: raises
      intro l e _
      simp only [M.run_bind, run_tapeLine, run_curIdx, M.run_raise]
      exact True.intro
    have htr' : strTruthy fin.fullline = true := by
      cases hx : strTruthy fin.fullline with
      | true => rfl
      | false => rw [hx] at htr; exact absurd rfl htr
    refine HT.bind (HT.reader run_curIdx) (fun i1 => ?_)
    refine HT.get_bind (fun l1 => ?_)
    refine HT.set ?_
    rintro l e ⟨rfl, hi1, j, hq, hw⟩
    obtain ⟨hq1, hq2⟩ := hq htr'
    obtain ⟨⟨a1, a2, a3, a4, a5⟩, a6, a7⟩ := hw
    have hi1' : i1 = j := by rw [hi1, a2]
    subst hi1'
    have hy : i1 - 1 + 1 = i1 := by omega
    refine ⟨i1 - 1, fin.document, by omega, by rw [hy]; exact hq2, ?_⟩
    rw [hy]
    refine ⟨⟨a1, a2, a3, a4, a5⟩, ?_, a7⟩
    show l.store.set id _ = _
    rw [a6]; simp only [attach, beq_iff_eq]

/-- at the lower bounds of the cursor -/
theorem makeheredoc_w {G : Nat → Prop} (hnl : NL L) (hG : LineEnds L G) {id : Nat}
    {cell : RedirCell} (kill : Bool) (hcell : sr[id]? = some cell) (hd : cell.delim ≠ [])
    (i0 : Nat) :
    HT (W L sr rk ps i0) (makeheredoc id kill)
      (fun _ l e => ∃ x y v, i0 ≤ x ∧ x < y ∧ y + 1 ≤ L.length ∧ G (y + 1) ∧
        W L (sr.set id (attach cell x y v)) rk ps (y + 1) l e) ET :=
  HT.of_w (fun i hi => HT.post (makeheredoc_x hnl hG kill hcell hd i)
    (fun _ _ _ ⟨y, v, hy, hE, ht⟩ =>
      ⟨i, y, v, hi, hy, ht.1.2.2.1, hE, W.iff_tps.mpr ⟨y + 1, Nat.le_refl _, ht⟩⟩))

/-! ## `gatherheredocuments` -/

/-- what is queued: distinct cells of the store, without a body, ending before the frontier `f`,
    with a non-empty delimiter -/
def PendOK (f : Nat) (sr : List RedirCell) (rk : List (Nat × Bool)) : Prop :=
  (rk.map (·.1)).Nodup ∧
  ∀ p ∈ rk, ∃ c, sr[p.1]? = some c ∧ c.heredoc = none ∧ c.pos.2 < f ∧ c.delim ≠ []

theorem PendOK.mono {f f' : Nat} {sr : List RedirCell} {rk : List (Nat × Bool)}
    (h : PendOK f sr rk) (hf : f ≤ f') : PendOK f' sr rk := by
  refine ⟨h.1, fun p hp => ?_⟩
  obtain ⟨c, h1, h2, h3, h4⟩ := h.2 p hp
  exact ⟨c, h1, h2, by omega, h4⟩

/-- how `gatherheredocuments` changes a cell: not at all, or it attaches the body, which starts at
    `g` or later -/
def CellStepG (len f g : Nat) (c c' : RedirCell) : Prop :=
  c' = c ∨ (c.heredoc = none ∧ c.pos.2 < f ∧
    ∃ x y v, g ≤ x ∧ x < y ∧ y ≤ len ∧ c' = attach c x y v)

def StoreStepG (len f g : Nat) (sr sr' : List RedirCell) : Prop :=
  sr'.length = sr.length ∧
  ∀ (i : Nat) (c c' : RedirCell), sr[i]? = some c → sr'[i]? = some c' → CellStepG len f g c c'

/-- the cursor was moved past the end of the line by the non-strict skip: nothing can be read -/
def Dead (L : Str) (ps : List Nat) (l : Local) (e : Env) : Prop :=
  (tapeOf l e).line = L ∧ L.length < (tapeOf l e).idx ∧ l.eolLookahead = none ∧
  l.positions = ps ∧ strictOf l e = false

/-- the loop of `gatherheredocuments` for a fact `J` about store and queue -/
def GInv (J : List RedirCell → List (Nat × Bool) → Prop) (L : Str) (ps : List Nat) (k : Nat)
    (l : Local) (e : Env) : Prop :=
  ∃ sr rk, J sr rk ∧ W L sr rk ps k l e

def GPostJ (J : List RedirCell → List (Nat × Bool) → Prop) (L : Str) (ps : List Nat) (k : Nat)
    (l : Local) (e : Env) : Prop :=
  J l.store l.redirstack ∧ (W L l.store l.redirstack ps k l e ∨ Dead L ps l e)

def GStepQ (J : List RedirCell → List (Nat × Bool) → Prop) (L : Str) (ps : List Nat) (k : Nat)
    (r : Unit ⊕ Unit) (l : Local) (e : Env) : Prop :=
  match r with
  | .inl _ => GInv J L ps k l e
  | .inr _ => GPostJ J L ps k l e

theorem bumpIdx_dead :
    HT (fun l e => W L sr rk ps k l e ∧ L.length ≤ (tapeOf l e).idx ∧ strictOf l e = false) bumpIdx
      (fun _ l e => Dead L ps l e ∧ l.store = sr ∧ l.redirstack = rk) ET := by
  intro l e ⟨hw, hge, hs⟩
  rw [run_bumpIdx]
  obtain ⟨a1, a2, a3, a4, a5, a6, a7⟩ := hw
  refine ⟨⟨?_, ?_, ?_, ?_, ?_⟩, ?_, ?_⟩
  · rw [tapeOf_put]; exact a1
  · rw [tapeOf_put]; show L.length < (tapeOf l e).idx + 1; omega
  · rw [putL_eol]; exact a3
  · rw [C11.putL_positions]; exact a4
  · rw [strictOf_put]; exact hs
  · rw [putL_store]; exact a5
  · rw [putL_redirstack]; exact a6

theorem getElem?_set_ne' {α : Type} {l : List α} {i j : Nat} {a : α} (h : i ≠ j) :
    (l.set i a)[j]? = l[j]? := by
  simp [List.getElem?_set, h]

/-- **`gatherheredocuments`** from a `W` state with cursor ≥ `k` keeps every fact `J` about store
    and queue that holds again when the head of the queue is taken off and a body read at `k` or
    later is attached to its cell (`hJ`); the cursor stays at `k` or later, or the non-strict skip
    has moved it past the end of the line -/
theorem gather_x {G : Nat → Prop} {J : List RedirCell → List (Nat × Bool) → Prop} (hnl : NL L)
    (hG : LineEnds L G)
    (hJ : ∀ sr1 id kill rest, J sr1 ((id, kill) :: rest) →
      ∃ cell, sr1[id]? = some cell ∧ cell.delim ≠ [] ∧
        ∀ x y v, k ≤ x → x < y → y + 1 ≤ L.length → G (y + 1) →
          J (sr1.set id (attach cell x y v)) rest)
    (h0 : J sr rk) :
    HT (W L sr rk ps k) gatherheredocuments (fun _ l e => GPostJ J L ps k l e) ET := by
  unfold gatherheredocuments
  simp only []
  refine HT.get_bind (fun l00 => HTQAt.ofHT ?_)
  refine HT.pre (HT.loop (E := ET) (I := fun _ l e => GInv J L ps k l e) True.intro
    (fun _ => ?_) _ ()) (fun l e h => ⟨sr, rk, h0, h⟩)
  refine HT.post (Q := GStepQ J L ps k) ?_ (fun r l e h => by cases r <;> exact h)
  refine HT.pre_exists (fun sr1 => HT.pre_exists (fun rk1 => HT.pre_pure (fun hinv => ?_)))
  refine HT.get_bind (fun l0 => ?_)
  refine HT.pre (P := fun l e => l0.redirstack = rk1 ∧ W L sr1 rk1 ps k l e)
    (HT.pre_pure (fun hrk => ?_)) (fun l e h => ⟨by rw [← h.1]; exact h.2.2.2.2.2.2.1, h.2⟩)
  rw [hrk]
  cases rk1 with
  | nil =>
    refine HT.pure (fun l e h => ?_)
    have hs : l.store = sr1 := h.2.2.2.2.1
    have hr : l.redirstack = [] := h.2.2.2.2.2.1
    exact ⟨by rw [hs, hr]; exact hinv, Or.inl (by rw [hs, hr]; exact h)⟩
  | cons p rest =>
    obtain ⟨id, kill⟩ := p
    simp only []
    obtain ⟨cell, hc1, hc4, hnext⟩ := hJ sr1 id kill rest hinv
    -- the common continuation
    have hjp : ∀ {P : Local → Env → Prop}, (∀ l e, P l e → W L sr1 ((id, kill) :: rest) ps k l e) →
        HT P (do
          modify fun l => { l with redirstack := rest }
          makeheredoc id kill
          pure (Sum.inl ()) : M (Unit ⊕ Unit))
          (GStepQ J L ps k) ET := by
      intro P hP
      refine HT.bind (Q := fun _ l e => W L sr1 rest ps k l e) (HT.modify (fun l e h => ?_))
        (fun _ => ?_)
      · obtain ⟨a1, a2, a3, a4, a5, a6, a7⟩ := hP l e h
        exact ⟨a1, a2, a3, a4, a5, rfl, a7⟩
      refine HT.bind (makeheredoc_w hnl hG kill hc1 hc4 k) (fun _ => ?_)
      refine HT.pure (fun l e h => ?_)
      obtain ⟨x, y, v, b1, b2, b3, b4, hw⟩ := h
      exact ⟨_, rest, hnext x y v b1 b2 b3 b4, hw.mono (by omega)⟩
    refine HT.bind (peekc_w true) (fun p => ?_)
    cases p with
    | none =>
      refine HT.ite (fun _ => ?_) (fun h => absurd rfl h)
      refine HT.bind (HT.reader run_optStrict) (fun s => ?_)
      cases s with
      | false =>
        refine HT.ite (fun _ => ?_) (fun h => absurd rfl h)
        refine HT.bind (Q := fun _ l e => Dead L ps l e ∧ l.store = sr1 ∧
          l.redirstack = (id, kill) :: rest) ?_ (fun _ => HT.pure (fun l e h => ?_))
        · exact HT.pre bumpIdx_dead (fun l e h => ⟨h.2.1, h.2.2 rfl, h.1.symm⟩)
        · obtain ⟨hd, hs, hr⟩ := h
          exact ⟨by rw [hs, hr]; exact hinv, Or.inr hd⟩
      | true =>
        refine HT.ite (fun h => by cases h) (fun _ => ?_)
        exact hjp (P := fun l e => true = strictOf l e ∧ W L sr1 ((id, kill) :: rest) ps k l e ∧
          (none = none → L.length ≤ (tapeOf l e).idx)) (fun l e h => h.2.1)
    | some c =>
      refine HT.ite (fun h => by cases h) (fun _ => ?_)
      exact hjp (P := fun l e => W L sr1 ((id, kill) :: rest) ps k l e ∧
          (some c = none → L.length ≤ (tapeOf l e).idx)) (fun l e h => h.1)

def GPost (L : Str) (ps : List Nat) (k len f g : Nat) (sr0 : List RedirCell)
    (l : Local) (e : Env) : Prop :=
  PendOK f l.store l.redirstack ∧ StoreStepG len f g sr0 l.store ∧
  (W L l.store l.redirstack ps k l e ∨ Dead L ps l e)

/-- **`gatherheredocuments`** from a `W` state with cursor ≥ `k`, when every body that can still be
    read starts at `g` or later -/
theorem gather_w (hnl : NL L) {len f g : Nat} (hK : L.length ≤ len + 1)
    (hg : ∀ x, k ≤ x → x + 2 ≤ L.length → g ≤ x) (hp : PendOK f sr rk) :
    HT (W L sr rk ps k) gatherheredocuments (fun _ l e => GPost L ps k len f g sr l e) ET := by
  refine HT.post (gather_x (G := fun _ => True) (J := fun sr1 rk1 => PendOK f sr1 rk1 ∧
      (∀ p ∈ rk1, sr1[p.1]? = sr[p.1]?) ∧ StoreStepG len f g sr sr1) hnl LineEnds.triv ?_
      ⟨hp, fun _ _ => rfl, rfl, fun i c c' h1 h2 => by rw [h1] at h2; cases h2; exact Or.inl rfl⟩)
    (fun _ l e h => ⟨h.1.1, h.1.2.2, h.2⟩)
  rintro sr1 id kill rest ⟨hp1, hsame, hstep⟩
  obtain ⟨cell, hc1, hc2, hc3, hc4⟩ := hp1.2 (id, kill) List.mem_cons_self
  have hnd : id ∉ rest.map (·.1) ∧ (rest.map (·.1)).Nodup := by
    have := hp1.1
    simpa [List.nodup_cons] using this
  have hidlt : id < sr1.length := (List.getElem?_eq_some_iff.mp hc1).1
  -- the other queued cells are not touched
  have hne : ∀ p ∈ rest, id ≠ p.1 := fun p hp hx =>
    hnd.1 (by rw [hx]; exact List.mem_map_of_mem hp)
  refine ⟨cell, hc1, hc4, fun x y v b1 b2 b3 _ => ⟨⟨hnd.2, fun p hp => ?_⟩, fun p hp => ?_, ?_, ?_⟩⟩
  · obtain ⟨c, d1, d2, d3, d4⟩ := hp1.2 p (List.mem_cons_of_mem _ hp)
    exact ⟨c, by rw [getElem?_set_ne' (hne p hp)]; exact d1, d2, d3, d4⟩
  · rw [getElem?_set_ne' (hne p hp)]
    exact hsame p (List.mem_cons_of_mem _ hp)
  · rw [List.length_set]; exact hstep.1
  · intro i c c' hi hi'
    by_cases hid : id = i
    · subst hid
      have h0 : sr[id]? = some cell := by
        rw [← hsame (id, kill) List.mem_cons_self]; exact hc1
      rw [h0] at hi; cases hi
      rw [List.getElem?_set_self hidlt] at hi'; cases hi'
      exact Or.inr ⟨hc2, hc3, x, y, v, hg x b1 (by omega), b2, by omega, rfl⟩
    · rw [getElem?_set_ne' hid] at hi'
      exact hstep.2 i c c' hi hi'

/-- a line without a newline-less tail ends in a newline -/
theorem NL.last {L : Str} (h : NL L) (hne : L ≠ []) : L.getLast? = some '\n' := by
  have hpos : 0 < L.length := List.length_pos_iff.mpr hne
  rw [List.getLast?_eq_getElem?]
  have hx : L[L.length - 1]? = some L[L.length - 1] := List.getElem?_eq_getElem (by omega)
  rw [hx]
  congr 1
  apply Classical.byContradiction
  intro hc
  have := h _ _ hx hc
  omega

/-- the EOF token of `_readtoken` -/
def eofTok : Token := { ttype := some .EOF, value := .none }

end Bashlex.C03.Tok

namespace Bashlex.C03
open Bashlex Bashlex.M Bashlex.C10 Bashlex.C11 Bashlex.C03.Tok

/-! ## the line `tokenizer.__init__` builds -/

theorem nl_of_getLast {L : Str} (h : ∀ c, L.getLast? = some c → c = '\n') : NL L := by
  intro i ch hi hne
  have hlt : i < L.length := (List.getElem?_eq_some_iff.mp hi).1
  by_cases hx : i = L.length - 1
  · exfalso
    apply hne
    apply h
    rw [List.getLast?_eq_getElem?, ← hx]; exact hi
  · omega

theorem ofInput_line (s : Str) :
    (Tape.ofInput s).line.length ≤ s.length + 1 ∧
    ∀ c, (Tape.ofInput s).line.getLast? = some c → c = '\n' :=
  ⟨Tape.ofInput_length_le s, fun _ => Tape.ofInput_getLast? s⟩

/-! ## the dead states -/

/-- a dead state, with the store and the queue -/
def DeadS (L : Str) (ps : List Nat) (sr : List RedirCell) (rk : List (Nat × Bool))
    (l : Local) (e : Env) : Prop :=
  Dead L ps l e ∧ l.store = sr ∧ l.redirstack = rk

section dead
variable {L : Str} {ps : List Nat} {sr : List RedirCell} {rk : List (Nat × Bool)}

theorem getc_dead (rqn : Bool) :
    HT (DeadS L ps sr rk) (getc rqn) (fun c l e => c = none ∧ DeadS L ps sr rk l e) ET := by
  intro l e h
  obtain ⟨⟨a1, a2, a3, a4, a5⟩, a6, a7⟩ := h
  rw [run_getc rqn l e a3]
  cases hgc : (tapeOf l e).getc rqn ((tapeOf l e).line.length + 1) with
  | error u => cases u; exact True.intro
  | ok v =>
    obtain ⟨c, t'⟩ := v
    obtain ⟨b1, b2, b3, b4, b5, b6⟩ := getc_spec rqn _ _ _ _ hgc
    obtain ⟨rfl, rfl⟩ := b3 (by rw [a1]; omega)
    simp only []
    rw [putL_self, putE_self]
    exact ⟨by first | rfl | trivial, ⟨a1, a2, a3, a4, a5⟩, a6, a7⟩

theorem deadS_upd {l l' : Local} {e : Env} (h : DeadS L ps sr rk l e)
    (h1 : tapeOf l' e = tapeOf l e) (h2 : l'.eolLookahead = l.eolLookahead)
    (h3 : l'.positions = l.positions) (h4 : l'.store = l.store)
    (h5 : l'.redirstack = l.redirstack) (h6 : strictOf l' e = strictOf l e) :
    DeadS L ps sr rk l' e := by
  obtain ⟨a, b, c⟩ := h
  refine ⟨?_, by rw [h4]; exact b, by rw [h5]; exact c⟩
  unfold Dead at a ⊢
  rw [h1, h2, h3, h6]; exact a

/-- in a dead state `token()` delivers EOF -/
theorem nextToken_dead :
    HT (DeadS L [] sr rk) nextToken (fun t l e => t = eofTok ∧ DeadS L [] sr rk l e) ET := by
  refine nextToken_ht (R := fun r l e => r = .inr eofTok ∧ DeadS L [] sr rk l e)
    (fun l e h => deadS_upd h rfl rfl rfl rfl rfl rfl) ?_
    (fun ty => HT.pre_pure (fun h => by cases h)) (fun t l e h => ⟨Sum.inr.inj h.1, h.2⟩)
    (fun t l e h => ⟨h.1, deadS_upd h.2 rfl rfl rfl rfl rfl rfl⟩)
    (fun t l e h => ⟨h.1, deadS_upd h.2 rfl rfl rfl rfl rfl rfl⟩)
  unfold readtoken
  simp only []
  refine HT.bind (Q := fun _ l e => DeadS L [] sr rk l e) (HT.pure (fun _ _ h => h)) (fun fuel => ?_)
  refine HT.bind (getc_dead true) (fun c0 => ?_)
  refine HT.bind (Q := fun c l e => c = none ∧ DeadS L [] sr rk l e) ?_ (fun c1 => ?_)
  · refine HT.loop (E := ET) (I := fun c l e => c = none ∧ DeadS L [] sr rk l e) True.intro
      (fun c => ?_) fuel c0
    refine HT.pre_pure (fun hc => ?_)
    subst hc
    exact HT.pure (fun l e h => ⟨rfl, h⟩)
  · refine HT.pre_pure (fun hc => ?_)
    subst hc
    exact HT.pure (fun l e h => ⟨rfl, h⟩)

/-- in a dead state `gatherheredocuments` skips again -/
theorem gather_dead :
    HT (DeadS L ps sr rk) gatherheredocuments (fun _ l e => DeadS L ps sr rk l e) ET := by
  unfold gatherheredocuments
  simp only []
  refine HT.get_bind (fun l00 => HTQAt.ofHT ?_)
  refine HT.loop (E := ET) (I := fun _ l e => DeadS L ps sr rk l e) True.intro (fun _ => ?_) _ ()
  refine HT.get_bind (fun l0 => ?_)
  split
  · exact HT.pure (fun l e h => h.2)
  · rename_i id kill rest _
    refine HTQAt.ofHT ?_
    unfold peekc
    simp only [bind_assoc]
    refine HT.bind (getc_dead true) (fun c => ?_)
    refine HT.pre_pure (fun hc => ?_)
    subst hc
    simp only [Option.isSome_none, Bool.false_eq_true, if_false, pure_bind, Option.isNone_none,
      if_true]
    refine HT.bind (HT.reader run_optStrict) (fun s => ?_)
    refine HT.pre (P := fun l e => s = false ∧ DeadS L ps sr rk l e) (HT.pre_pure (fun hs => ?_))
      (fun l e h => ⟨by rw [h.1]; exact h.2.1.2.2.2.2, h.2⟩)
    subst hs
    simp only [Bool.not_false, if_true]
    refine HT.bind (Q := fun _ l e => DeadS L ps sr rk l e) ?_ (fun _ => HT.pure (fun l e h => h))
    intro l e h
    rw [run_bumpIdx]
    obtain ⟨⟨a1, a2, a3, a4, a5⟩, a6, a7⟩ := h
    refine ⟨⟨?_, ?_, ?_, ?_, ?_⟩, ?_, ?_⟩
    · rw [tapeOf_put]; exact a1
    · rw [tapeOf_put]; show L.length < (tapeOf l e).idx + 1; omega
    · rw [putL_eol]; exact a3
    · rw [C11.putL_positions]; exact a4
    · rw [strictOf_put]; exact a5
    · rw [putL_store]; exact a6
    · rw [putL_redirstack]; exact a7

end dead

end Bashlex.C03
