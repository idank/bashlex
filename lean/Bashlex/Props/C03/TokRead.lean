/-
  C03, token source, parts 7 and 8: `_readtoken` from a `W` state at the frontier `f`
  (`k0 = min f len(line)` is the lower bound of the cursor): the delivered token starts at or
  after `f` and inside the line, ends at the cursor; the store changes only by
  `gatherheredocuments` behind a newline (bodies start after the newline, hence after `f`).
  An instance of the walk `C04.TTP.readtoken_m`; the word exit is C03's own `readtokenword_w`,
  which is also what carries store and queue through `_readtokenword`.  Then `token()` from a `W`
  state at the frontier `f`.
-/
import Bashlex.Props.C04.TTRead

namespace Bashlex.C03.Tok
open Bashlex Bashlex.M Bashlex.C10 Bashlex.C11
set_option linter.unusedSectionVars false
set_option linter.unusedVariables false



variable {L : Str} {sr : List RedirCell} {rk : List (Nat × Bool)} {ps : List Nat} {k : Nat}
  {len f : Nat}

/-- what `_readtoken` returns: a bare type with the start `a` on the position stack (after
    `gatherheredocuments` if it is a newline), the EOF token with the cursor at the end, or a word
    spanning `(a, b)` with the cursor at `b` -/
def ReadQ (L : Str) (len f : Nat) (sr : List RedirCell) (rk : List (Nat × Bool))
    (r : TokType ⊕ Token) (l : Local) (e : Env) : Prop :=
  match r with
  | .inl _ => ∃ a, (f ≤ a ∧ a + 1 ≤ L.length) ∧ GPost L [a] (a + 1) len f (f + 1) sr l e
  | .inr t => (t = eofTok ∧ W L sr rk [] L.length l e) ∨
      ∃ a b, (f ≤ a ∧ a + 1 ≤ L.length) ∧ TokPos a b t ∧ W L sr rk [] b l e

theorem gpost_of_w {a : Nat} (hp : PendOK f sr rk) {l : Local} {e : Env}
    (h : W L sr rk [a] (a + 1) l e) : GPost L [a] (a + 1) len f (f + 1) sr l e := by
  have hs : l.store = sr := h.2.2.2.2.1
  have hr : l.redirstack = rk := h.2.2.2.2.2.1
  refine ⟨by rw [hs, hr]; exact hp, ?_, Or.inl (by rw [hs, hr]; exact h)⟩
  rw [hs]
  exact ⟨rfl, fun i c c' h1 h2 => by rw [h1] at h2; cases h2; exact Or.inl rfl⟩

/-- `GPost` only depends on the tape, the slot, the positions, the store and the queue -/
theorem GPost.upd {ps : List Nat} {k g : Nat} {l l' : Local} {e : Env}
    (h : GPost L ps k len f g sr l e) (h1 : tapeOf l' e = tapeOf l e)
    (h2 : l'.eolLookahead = l.eolLookahead) (h3 : l'.positions = l.positions)
    (h4 : l'.store = l.store) (h5 : l'.redirstack = l.redirstack)
    (h6 : strictOf l' e = strictOf l e) : GPost L ps k len f g sr l' e := by
  obtain ⟨a1, a2, a3⟩ := h
  refine ⟨by rw [h4, h5]; exact a1, by rw [h4]; exact a2, ?_⟩
  rcases a3 with a3 | a3
  · left
    unfold W at a3 ⊢
    rw [h1, h2, h3, h4, h5]; exact ⟨a3.1, a3.2.1, a3.2.2.1, a3.2.2.2.1, rfl, rfl, a3.2.2.2.2.2.2⟩
  · right
    unfold Dead at a3 ⊢
    rw [h1, h2, h3, h6]; exact a3

/-- **`_readtoken`** at the frontier `f`: the instance of `readtoken_m` that forgets the text and
    keeps, of the exact cursor, that the token starts at or after the cursor at entry -/
theorem readtoken_w (hnl : NL L) (hK : L.length ≤ len + 1) (hp : PendOK f sr rk) :
    HT (W L sr rk [] (min f L.length)) readtoken (ReadQ L len f sr rk) ET := by
  refine HT.of_w (fun i0 hi0 l e h => C04.TTP.readtoken_m (R := ReadQ L len f sr rk) hnl hnl.last
    h.1.2.2.1 (fun l e _ h => Or.inl ⟨rfl, W.iff_tps.mpr ⟨_, Nat.le_refl _, h⟩⟩)
    (fun a hsk hLa => ?_) (fun a ch ty j v r l e hst _ _ _ _ _ _ hj h => ?_)
    (fun a ch i hst hne hw hi => ?_) l e h)
  · -- bodies start behind the newline at `a`, and `f ≤ a`
    have hfa : f ≤ a ∧ a + 1 ≤ L.length :=
      ⟨by have := hsk.le; have := (List.getElem?_eq_some_iff.mp hLa).1; omega,
        (List.getElem?_eq_some_iff.mp hLa).1⟩
    refine HT.pre (HT.post (gather_w (g := f + 1) hnl hK (fun x hx _ => by omega) hp)
      (fun _ l e h ps' => ⟨a, hfa, GPost.upd h rfl rfl rfl rfl rfl rfl⟩))
      (fun l e h => W.iff_tps.mpr ⟨a + 1, Nat.le_refl _, h⟩)
  · obtain ⟨_, _, _, _, hch, _⟩ := id hst
    have := hst.skip.le
    have := (List.getElem?_eq_some_iff.mp hch).1
    exact ⟨a, ⟨by omega, by omega⟩, gpost_of_w hp (W.iff_tps.mpr ⟨j, hj, h⟩)⟩
  · obtain ⟨_, _, _, _, hch, _⟩ := id hst
    have := hst.skip.le
    have := hnl _ _ hch hne
    have hi' : 1 ≤ i := by rcases hi with rfl | ⟨_, h, _⟩ <;> omega
    refine HT.bind (HT.pre (readtokenword_w (by omega) ch a)
      (fun l e h => W.iff_tps.mpr ⟨i, hi', h⟩)) (fun t => HT.pure (fun l e h => Or.inr ?_))
    obtain ⟨b, h1, h2⟩ := h
    exact ⟨a, b, ⟨by omega, by omega⟩, h1, h2⟩

/-! ## `token()` -/

theorem gpost_of_w' {ps : List Nat} {k g : Nat} (hp : PendOK f sr rk) {l : Local} {e : Env}
    (h : W L sr rk ps k l e) : GPost L ps k len f g sr l e := by
  have hs : l.store = sr := h.2.2.2.2.1
  have hr : l.redirstack = rk := h.2.2.2.2.2.1
  refine ⟨by rw [hs, hr]; exact hp, ?_, Or.inl (by rw [hs, hr]; exact h)⟩
  rw [hs]
  exact ⟨rfl, fun i c c' h1 h2 => by rw [h1] at h2; cases h2; exact Or.inl rfl⟩

/-- what `token()` delivers at the frontier `f` -/
def NextQ (L : Str) (len f : Nat) (sr : List RedirCell) (t : Token) (l : Local) (e : Env) : Prop :=
  ∃ a b, f ≤ a ∧ a < b ∧ (t = eofTok ∨ (t.pos = some (a, b) ∧ a + 1 ≤ L.length)) ∧
    GPost L [] (min b L.length) len f (f + 1) sr l e

/-- a bare token type: the end is recorded, the token is created -/
theorem bare_tok {a : Nat} (ty : TokType) (v : TVal) :
    HT (GPost L [a] (a + 1) len f (f + 1) sr) (do recordpos; createtoken ty v : M Token)
      (fun t l e => ∃ b, TokPos a b t ∧ GPost L [] (min b L.length) len f (f + 1) sr l e) ET := by
  intro l e h
  obtain ⟨h1, h2, h3⟩ := h
  have hpos : l.positions = [a] := by
    rcases h3 with h3 | h3
    · exact h3.2.2.2.1
    · exact h3.2.2.2.1
  simp only [M.run_bind, C11.run_recordpos]
  rw [run_createtoken ty v [] _ e a ((tapeOf l e).idx - 0) (by show l.positions ++ _ = _; rw [hpos]; rfl)]
  by_cases hab : a < (tapeOf l e).idx - 0
  · rw [if_pos hab]
    refine ⟨(tapeOf l e).idx - 0, ⟨rfl, hab⟩, h1, h2, ?_⟩
    rcases h3 with h3 | h3
    · left
      obtain ⟨a1, a2, a3, a4, a5, a6, a7⟩ := h3
      exact ⟨a1, a2, a3, rfl, a5, a6, by show min _ _ ≤ (tapeOf l e).idx; omega⟩
    · right
      obtain ⟨a1, a2, a3, a4, a5⟩ := h3
      exact ⟨a1, a2, a3, rfl, a5⟩
  · rw [if_neg hab]; exact True.intro

/-- **`token()`** at the frontier `f` -/
theorem nextToken_w (hnl : NL L) (hK : L.length ≤ len + 1) (hp : PendOK f sr rk) :
    HT (W L sr rk [] (min f L.length)) nextToken (NextQ L len f sr) ET := by
  refine nextToken_ht (fun _ _ h => h) (readtoken_w hnl hK hp) (fun ty => ?_) (fun t l e h => ?_)
    (fun t l e ⟨a, b, h1, h2, h3, h4⟩ => ⟨a, b, h1, h2, h3, GPost.upd h4 rfl rfl rfl rfl rfl rfl⟩)
    (fun t l e ⟨a, b, h1, h2, h3, h4⟩ => ⟨a, b, h1, h2, h3, GPost.upd h4 rfl rfl rfl rfl rfl rfl⟩)
  · refine HT.pre_exists (fun a => HT.pre_pure (fun ha => ?_))
    refine HT.post (bare_tok ty ty.enumValue) (fun cur l e h => ?_)
    obtain ⟨b, h1, h2⟩ := h
    exact ⟨a, b, ha.1, h1.2, Or.inr ⟨h1.1, ha.2⟩, h2⟩
  · rcases h with ⟨h1, h2⟩ | ⟨a, b, h1, h2, h3⟩
    · exact ⟨f, f + 1, Nat.le_refl _, Nat.lt_succ_self _, Or.inl h1,
        gpost_of_w' hp (h2.mono (Nat.min_le_right _ _))⟩
    · exact ⟨a, b, h1.1, h2.2, Or.inr ⟨h2.1, h1.2⟩, gpost_of_w' hp (h3.mono (Nat.min_le_left _ _))⟩

end Bashlex.C03.Tok
