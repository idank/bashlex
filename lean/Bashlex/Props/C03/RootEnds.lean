/-
  C03, the hypothesis `RootEnds`.

  `RootEnds` (`Props/C03/Run.lean`) says that the root a parser run returns for `s` does not end
  in two newline characters unless the next character is `)`; `_parsedolparen` steps back over
  newlines before the end it reports and needs this for the substitution node to cover its
  command (`partOK_of_dol`, the only use).  It is a statement about the TEXT under a span.

  ## What this file proves

  * A RUN-TIME CHECK takes the place of the hypothesis.  `parserRunK` is `parserRun` whose
    nested-parser wrapper raises `foreign "RootEnd" …` when a nested run returns a root violating
    the decidable `rootEndOKb` (`npK`).
      `parserRunK_plain`   whenever the checked run returns, the plain run returns the same result
                           in the same state (C16's relational logic, `rel_level`);
      `parserRunK_spans`   the span theorem for the checked run, WITHOUT any hypothesis (the proof
                           of `parserRun_spans` with the check supplying `RootEndOK`);
      `parseK_sound`       the checked `parse`, when it goes through, is the plain `parse`;
      **`C03_total_checked`**, `C03_total_single_checked`: for every input and all options, if
                           `rootEndsChecked s o = true` (the checked parse goes through: a
                           decidable condition, evaluated per input) then every signature
                           `Spec.spansWF` raises on a tree of the PLAIN `parse` is known.
    No hypothesis is left (`#print axioms`: the three standard ones).  `Props/C05Checked.lean` and
    `Props/C16/Stable.lean` do the same for C05 and C16.
  * `rootEndsChecked_of_rootEnds`: under `RootEnds` the check never fires, i.e. the per-input
    condition holds for every input `parse` accepts: the checked theorems SUBSUME the conditional
    ones (`C03_total_conditional`, `C05_total_conditional`).
  * `rootEndOK_noNLNL`: over a text without two consecutive newline characters the check cannot
    fire, whatever the root.

  ## Examples

  Roots of nested runs on texts with two newlines before the `)`:
    `$('a⏎⏎')`, `$('a⏎⏎' )`   the word ends with its closing QUOTE: root (2,7) ends in `'`;
    `$(a⏎⏎)`, `$(a⏎⏎b)`        D9: the nested parser stops at the first NEWLINE (which is dropped:
                                `simple_list_terminator`); root `a` = (2,3), node (0,4);
    `$({ a⏎⏎})`                 the NEWLINE after `a` is dropped (`list0`), root ends with `}`;
    `$({ a;b⏎⏎} )`              here the NEWLINE IS an operator leaf, but of the inner list: the
                                root is the compound and ends with `}`;
    `$(a <<E⏎x⏎E⏎⏎)`            the root `a <<E` = (2,7) is not extended over the body (only the
                                redirect is, D11); the body's value ends with the delimiter;
    `$(a;\⏎⏎)`, `$(a &\⏎\⏎⏎)`  the operator's span is the operator alone: roots (2,4), (2,5);
    `$(a\⏎⏎)`                  the word `a` spans `a` only; root (2,3).
  Why `RootEnds` holds: the root is the value of `simple_list`, whose last terminal is never NEWLINE
  (`simple_list : simple_list1 | simple_list1 '&' | simple_list1 ';'`, and a `pipeline_command`
  ends with a word, a redirection target, a reserved word or `!`/`time`); the root's end is the
  end of that token (or 0 for D19's pipeline at (0,0)); the text of a token other than NEWLINE
  does not end in a raw newline -- at most in the newline of a line continuation, which follows a
  backslash.

  ## What a proof of `RootEnds` needs

  `theorem rootEnds : RootEnds` is in `Props/C03/RootEndsProof.lean`, from the facts below
  (`Props/C03/RE/*`); this file keeps the run-time-check form, which does not depend on it.
  (S)  structural: the root's end IS the end of a delivered token that is not NEWLINE.  C03's
       `Strict` pins a node's end to its last child's only for commands, pipelines and lists
       (`LocOK.fl`), loses it when the last child is a redirect carrying a body, and says nothing
       above a D19 pipeline; "the last token of the root is not NEWLINE" is a fact about the
       grammar (the last terminal of `simple_list`) that neither C12's sorts nor C05's groups
       record.  It takes a pass over the action functions in the state-aware logic (`nodePos`
       reads the redirect store).
  (T)  text: from `TokText` (`TT line t`): if the value of a token does not end in a newline, the
       text under its span does not end in two raw newlines.
  (W)  `TT` bounds the value of a token by the line but says nothing about its last character:
       "the value of a WORD / reserved-word token does not end in a newline" is a further fact
       about `_readtokenword` (a newline always breaks a word; an escaped newline is a
       continuation and is not appended) that is not state-agnostic (the syntax table and the
       tape are environment queries: `shellbreak`, `getc` after `ungetc`).
-/
import Bashlex.Props.C03Total
import Bashlex.Props.C16
import Bashlex.Proofs.ParseG

namespace Bashlex.C03
open Bashlex Bashlex.Spec Bashlex.Node Bashlex.M Bashlex.LR Bashlex.C12
set_option linter.unusedSimpArgs false

/-! ## the check -/

/-- `RootEndOK`, decidable -/
def rootEndOKb (s : Str) (n : Node) : Bool :=
  match s[n.pos.2]? with
  | none => true
  | some c => c == ')' || decide (n.pos.2 ≤ backOverNewlines s n.pos.2 + 1)

theorem rootEndOK_of_b {s : Str} {n : Node} (h : rootEndOKb s n = true) : RootEndOK s n := by
  intro c hc hne
  unfold rootEndOKb at h
  rw [hc] at h
  simp only [Bool.or_eq_true, beq_iff_eq, decide_eq_true_eq] at h
  rcases h with h | h
  · exact absurd h hne
  · exact h

theorem rootEndOKb_of {s : Str} {n : Node} (h : RootEndOK s n) : rootEndOKb s n = true := by
  unfold rootEndOKb
  cases hc : s[n.pos.2]? with
  | none => rfl
  | some c =>
    simp only [Bool.or_eq_true, beq_iff_eq, decide_eq_true_eq]
    by_cases hp : c = ')'
    · exact Or.inl hp
    · exact Or.inr (h c hc hp)

def rootOKb (s : Str) (r : Option Node) : Bool :=
  match r with
  | some n => rootEndOKb s n
  | none => true

/-- the nested parser with the run-time check (`chk = false`: the plain nested parser) -/
def npK (chk : Bool) (rec : M (Option Node)) : NestedParse := fun string dolparen => do
  let outer ← get
  set (C16.nestedInit outer string dolparen)
  let r ← rec
  let inner ← get
  if chk && !rootOKb string r then M.foreign "RootEnd" "the root of a nested parse ends in two newlines"
  set { outer with ps := inner.ps }
  pure r

/-- **the checked parser**: `parserRun`, except that a nested run returning a root that violates
    `RootEndOK` raises -/
def parserRunK : Nat → M (Option Node)
  | 0 => M.raise (.outOfFuel "nesting")
  | depth + 1 => C16.level (npK true (parserRunK depth))

theorem parserRunK_zero : parserRunK 0 = M.raise (.outOfFuel "nesting") := rfl
theorem parserRunK_succ (d : Nat) : parserRunK (d + 1) = C16.level (npK true (parserRunK d)) := rfl

theorem npOf_eq_npK (rec : M (Option Node)) : npOf rec = npK false rec := rfl

/-! ## the checked run agrees with the plain run whenever it returns -/

section plain
attribute [local instance] C16.stdEnvRel
open C16

theorem rel_npK_eq {rec₁ rec₂ : M (Option Node)} (hrec : Rel Eq Eq rec₁ rec₂ Eq) (chk : Bool) :
    NPR Eq Eq (npK chk rec₁) (npOf rec₂) := by
  rw [npOf_eq_npK]
  intro string dolparen
  unfold npK
  refine Rel.bind Rel.get ?_
  rintro outer _ rfl
  refine Rel.bind (Rel.set rfl) ?_
  intro _ _ _
  refine Rel.bind hrec ?_
  rintro r _ rfl
  refine Rel.bind Rel.get ?_
  rintro inner _ rfl
  by_cases hc : (chk && !rootOKb string r) = true
  · simp only [hc, if_true]
    exact Rel.noRet (NoRet.bind_left NoRet.foreign)
  · simp only [hc, Bool.false_and, Bool.false_eq_true, if_false, pure_bind]
    refine Rel.bind (Rel.set rfl) ?_
    intro _ _ _
    exact Rel.pure (orel_eq rfl)

/-- **the checked run, when it returns, is the plain run** (same result, same final state,
    environments equal up to the shared syntax-table store) -/
theorem parserRunK_plain : ∀ (d : Nat), Rel Eq Eq (parserRunK d) (parserRun d) Eq := by
  intro d
  induction d with
  | zero => exact Rel.raise_left
  | succ d ih =>
    rw [C16.parserRun_succ]
    show Rel Eq Eq (level _) (level _) Eq
    refine (rel_level sok_eq (f := idf) (g := idf) (fun _ _ => rfl)
      (rel_expandword_eq (rel_npK_eq ih _))).conseq ?_
    intro a b h
    exact orel_idf h

/-- a state-agnostic fact about a program carries over to a program that refines it -/
theorem sat_of_rel {α : Type} {m₁ m₂ : M α} {P : α → Prop} {E : Exn → Prop}
    (h : Rel Eq Eq m₁ m₂ Eq) (h2 : Sat m₂ P E) : Sat m₁ P := by
  intro l e
  rcases hr : m₁.run l e with ⟨r, e'⟩
  cases r with
  | error x => trivial
  | ok v =>
    obtain ⟨a, l'⟩ := v
    obtain ⟨a₂, l₂', e₂', h3, rfl, _, _⟩ := h l l e e rfl (EnvR.refl e) a l' e' hr
    exact h2.ok h3

end plain

/-! ## the span theorem for the checked run, without hypothesis -/

section spans
attribute [local instance] C16.stdEnvRel

theorem orel_eq_eq {r₁ r₂ : Option Node} (h : C16.ORel Eq r₁ r₂) : r₁ = r₂ := by
  cases r₁ <;> cases r₂ <;> simp only [C16.ORel] at h <;> first | rfl | exact h.elim | skip
  rw [h]

theorem npok_npK (d : Nat) : NPOK (npK true (parserRunK d)) := by
  intro s b
  have h : Sat (npOf (parserRun d) s b) (fun r => ∀ n, r = some n → InCls .top n) :=
    npok_npOf d s b
  exact sat_of_rel ((rel_npK_eq (parserRunK_plain d) true s b).conseq (fun _ _ => orel_eq_eq)) h

/-- what one call of the checked nested parser does -/
theorem run_npK (inner : M (Option Node)) (s : Str) (b : Bool) (l : Local) (e : Env) :
    M.run (npK true inner s b) l e =
      match M.run inner (C16.nestedInit l s b) e with
      | (.ok (r, l'), e') =>
        if rootOKb s r = true then (.ok (r, { l with ps := l'.ps }), e')
        else (.error (.foreign "RootEnd" "the root of a nested parse ends in two newlines"), e')
      | (.error x, e') => (.error x, e') := by
  unfold npK
  simp only [M.run_bind, C10.run_get, C10.run_set]
  generalize M.run inner _ e = x
  rcases x with ⟨r, e'⟩
  cases r with
  | error x => rfl
  | ok v =>
    obtain ⟨r, l'⟩ := v
    simp only [Bool.true_and]
    by_cases hc : rootOKb s r = true
    · simp only [hc, Bool.not_true, Bool.false_eq_true, if_false, if_true, M.run_pure, C10.run_set]
      rfl
    · simp only [hc, Bool.not_false, if_true, if_false]
      rfl

/-- **the checked nested parser leaves its caller alone**, like the plain one
    (`C16.npOf_frame`); what it returns passed the check, and is what a checked run from a fresh
    parser object returns -/
theorem npK_keeps {P : Local → Env → Prop} {Φ : Option Node → Prop} {d : Nat} {s : Str}
    (hP : ∀ l e ps e', P l e → C16.EnvR e e' → P { l with ps := ps } e')
    (hΦ : SatS (parserRunK d) (InitState s) (fun r _ _ => Φ r)) (b : Bool) :
    SatS (npK true (parserRunK d) s b) P (fun r l e => P l e ∧ Φ r ∧ rootOKb s r = true) := by
  intro l e hp
  rw [run_npK]
  have hφ := hΦ _ e (initState_nested l s b e)
  rcases hr : M.run (parserRunK d) (C16.nestedInit l s b) e with ⟨r, e'⟩
  rw [hr] at hφ
  cases r with
  | error x => exact True.intro
  | ok v =>
    obtain ⟨r, l'⟩ := v
    simp only []
    by_cases hc : rootOKb s r = true
    · rw [if_pos hc]
      obtain ⟨r₂, l₂', e₂', h2, hr2, hl2, hE2⟩ :=
        parserRunK_plain d _ _ e e rfl (C16.EnvR.refl e) r l' e' hr
      subst hr2; subst hl2
      exact ⟨hP l e l'.ps e' hp ((C16.nestedEnv_thm d (C16.nestedInit l s b) e r l' e₂' rfl rfl
        h2).trans hE2.symm), hφ, hc⟩
    · rw [if_neg hc]; exact True.intro

theorem npSpans_npK (d : Nat)
    (ih : ∀ s, SatS (parserRunK d) (InitState s) (fun r _ _ => ∀ n, r = some n → TopOK s.length n)) :
    NPSpans TI (npK true (parserRunK d)) := fun s b len F st =>
  (npK_keeps (P := StP TI len F st) (fun l e ps e' ⟨hti, hst⟩ hE =>
      ⟨(tokSpans_ps len F l e ps hti).env hE.1.symm hE.2.1.symm, hst⟩) (ih s) b).post
    fun _ _ _ ⟨hp, hφ, hc⟩ => ⟨hp, fun n hn => ⟨hφ n hn, by subst hn; exact rootEndOK_of_b hc⟩⟩

-- from here on the triples are used through their rules only (see `Props/C08/RunIT.lean`)
attribute [local irreducible] M.SatS M.Sat

/-- **one checked parser run**: from a fresh parser object over `s`, every tree the checked run
    returns is fine for `len(s)` -- no hypothesis -/
theorem parserRunK_spans :
    ∀ d s, SatS (parserRunK d) (InitState s) (fun r _ _ => ∀ n, r = some n → TopOK s.length n) := by
  intro d
  induction d with
  | zero => intro s; exact SatS.raise trivial
  | succ d ih =>
    intro s
    rw [parserRunK_succ]
    unfold C16.level
    have hT := tokSpans
    have hnps := npSpans_npK d ih
    have hH := spans_hooks (len := s.length) hT (npok_npK d) (wordContract hT _ hnps s.length)
    refine SatS.bind (SatS.weaken (run_sound_ord real_WF _ hH 1073741824) ?_ (fun _ _ _ h => h)
      (fun _ _ => trivial)) (fun res => ?_)
    · intro l e hinit
      refine ⟨⟨0, 0, Nat.le_refl 0, Nat.le_refl 0, hT.init s l e hinit, ?_⟩, ?_, ?_⟩
      · intro x hx; cases hx
      · intro x hx; cases hx
      · intro x hx; cases hx
    · refine SatS.bind SatS.get (fun l => ?_)
      split
      · rename_i n _ _ _
        refine SatS.pure ?_
        rintro l' e' ⟨rfl, hgood⟩ m hm
        cases hm
        obtain ⟨hs, hroot, hseal, g, hends, hdone⟩ := hgood n rfl
        refine ⟨strict_resolve _ n hs hends hdone, noPend_resolve _ n hseal, ?_⟩
        rcases hroot with ht | hne
        · exact Or.inl (tainted_resolve _ n hdone ht)
        · obtain ⟨e1, e2⟩ := ext_pos_resolve hdone
          right; omega
      · exact SatS.pure (fun _ _ _ n hn => by cases hn)

end spans

/-! ## the checked entry points -/

/-- `runParser` with the checked parser -/
def runParserK (s : Str) (o : Opts) (touched : List Char) : Except Exn (Option Node) × List Char :=
  let env : Env := { tape := Tape.ofInput s, strict := o.strict, proceed := o.proceed, touched := touched }
  let (r, env') := (parserRunK maxDepth).run { limit := o.limit } env
  (r.map (·.1), env'.touched)

def parseLoopK (s : Str) (o : Opts) :
    Nat → Nat → List Node → List Char → Except Exn (List Node) × List Char
  | 0, _, _, touched => (.error (.outOfFuel "parse"), touched)
  | fuel + 1, index, parts, touched =>
    if index < s.length then
      match runParserK (s.drop index) o touched with
      | (.error e, t) => (.error e, t)
      | (.ok none, t) => (.ok parts, t)
      | (.ok (some part), t) =>
        let part := part.shift index
        parseLoopK s o fuel (max (nextIndex part) (index + 1)) (parts ++ [part]) t
    else (.ok parts, touched)

/-- `parse` with the checked parser: raises `RootEnd` when a nested parser returns a root that
    ends in two newlines and is not followed by `)` -/
def parseK (s : Str) (o : Opts := {}) : Outcome × List Char :=
  match runParserK s o [] with
  | (.error e, t) => (.exn e, t)
  | (.ok none, t) => (.parts [], t)
  | (.ok (some first), t) =>
    match parseLoopK s o (s.length + 1) (max (nextIndex first) 1) [first] t with
    | (.error e, t) => (.exn e, t)
    | (.ok parts, t) => (.parts parts, t)

/-- **the per-input condition** (decidable): the checked parse goes through -/
def rootEndsChecked (s : Str) (o : Opts) : Bool :=
  match (parseK s o).1 with
  | .parts _ => true
  | _ => false

theorem parseLoopK_eq_G (s : Str) (o : Opts) : ∀ fuel i ps t,
    parseLoopK s o fuel i ps t = parseLoopG (runParserK · o ·) s fuel i ps t := by
  intro fuel
  induction fuel with
  | zero => intros; rfl
  | succ fuel ih =>
    intro i ps t
    simp only [parseLoopK, parseLoopG, ih]
    generalize runParserK (s.drop i) o t = x
    rcases x with ⟨_ | _ | _, _⟩ <;> rfl

/-- `parseK` is the loop of `parse` over the checked run -/
theorem parseK_eq_G (s : Str) (o : Opts) : parseK s o = parseG (runParserK · o ·) s := by
  simp only [parseK, parseG, parseLoopK_eq_G]
  generalize runParserK s o [] = x
  rcases x with ⟨_ | _ | first, t⟩
  · rfl
  · rfl
  · simp only []
    generalize parseLoopG (runParserK · o ·) s (s.length + 1) (max (nextIndex first) 1) [first] t = y
    rcases y with ⟨_ | _, _⟩ <;> rfl

/-- `parseG_chain` for `parseK` -/
theorem parseK_chain {R : Nat → Node → Prop} {N : Nat → Prop} (s : Str) (o : Opts)
    (hR : ∀ i t n, i ≤ s.length → (runParserK (s.drop i) o t).1 = .ok (some n) → R i n)
    (hN : ∀ i t, (runParserK (s.drop i) o t).1 = .ok none → N i)
    {ps : List Node} (h : (parseK s o).1 = .parts ps) : PartsOf R N s.length 0 ps := by
  rw [parseK_eq_G] at h
  exact parseG_chain (run := fun s' t => runParserK s' o t) hR hN h

section entry
attribute [local instance] C16.stdEnvRel
attribute [local irreducible] M.SatS M.Sat

theorem runParserK_ok {s : Str} {o : Opts} {t : List Char} {r : Option Node}
    (h : (runParserK s o t).1 = .ok r) :
    ∃ l' e', (parserRunK maxDepth).run { limit := o.limit }
      { tape := Tape.ofInput s, strict := o.strict, proceed := o.proceed, touched := t } =
      (.ok (r, l'), e') := by
  unfold runParserK at h
  simp only [] at h
  rcases hr : (parserRunK maxDepth).run { limit := o.limit }
      { tape := Tape.ofInput s, strict := o.strict, proceed := o.proceed, touched := t } with ⟨x, e'⟩
  rw [hr] at h
  cases x with
  | error x => simp [Except.map] at h
  | ok v =>
    obtain ⟨a, l'⟩ := v
    simp only [Except.map] at h
    cases h
    exact ⟨l', e', rfl⟩

/-- the state a top-level run starts in -/
theorem initState_top (s : Str) (o : Opts) (t : List Char) :
    InitState s ({ limit := o.limit } : Local)
      { tape := Tape.ofInput s, strict := o.strict, proceed := o.proceed, touched := t } :=
  ⟨rfl, rfl, rfl, rfl, Or.inr ⟨rfl, rfl⟩⟩

/-- a triple for the checked parser read at a top-level run that returns.  (At the call, leave the
    depth of `h` to unification: instantiating a statement about `parserRunK d` at the numeral is
    slow to elaborate.) -/
theorem runParserK_sat_ok {P : Local → Env → Prop} {Φ : Option Node → Prop} {E : Exn → Prop}
    (h : SatS (parserRunK maxDepth) P (fun r _ _ => Φ r) E) {s : Str} {o : Opts} {t : List Char}
    (hP : P { limit := o.limit }
      { tape := Tape.ofInput s, strict := o.strict, proceed := o.proceed, touched := t })
    {r : Option Node} (hr : (runParserK s o t).1 = .ok r) : Φ r := by
  obtain ⟨l', e', hrun⟩ := runParserK_ok hr
  exact h.ok hP hrun

/-- the plain run returns what the checked run returns -/
theorem runParserK_plain (s : Str) (o : Opts) (t₁ t₂ : List Char) {r : Option Node}
    (h : (runParserK s o t₁).1 = .ok r) : (runParser s o t₂).1 = .ok r := by
  obtain ⟨l', e', hr⟩ := runParserK_ok h
  obtain ⟨r₂, l₂', e₂', h2, hR, _, _⟩ := parserRunK_plain _
    { limit := o.limit } { limit := o.limit }
    { tape := Tape.ofInput s, strict := o.strict, proceed := o.proceed, touched := t₁ }
    { tape := Tape.ofInput s, strict := o.strict, proceed := o.proceed, touched := t₂ } rfl
    ⟨rfl, rfl, rfl⟩ r l' e' hr
  subst hR
  exact C16.runParser_of_run h2

theorem runParserK_spans {s : Str} {o : Opts} {t : List Char} {n : Node}
    (h : (runParserK s o t).1 = .ok (some n)) : TopOK s.length n :=
  runParserK_sat_ok (parserRunK_spans _ s) (initState_top s o t) h n rfl

/-- **the checked parse, when it goes through, is the plain parse** -/
theorem parseK_sound (s : Str) (o : Opts) (parts : List Node)
    (h : (parseK s o).1 = .parts parts) : (parse s o).1 = .parts parts := by
  rw [parseK_eq_G] at h
  rw [parse_eq_G]
  exact parseG_congr (run₁ := fun s' t => runParserK s' o t) (run₂ := fun s' t => runParser s' o t)
    (fun s' t₁ t₂ _ hr => runParserK_plain s' o t₁ t₂ hr) h

/-- every part the checked parse returns is fine -/
theorem parseK_strict (s : Str) (o : Opts) (parts : List Node)
    (h : (parseK s o).1 = .parts parts) : ∀ n, n ∈ parts → Strict s.length n := by
  intro n hn
  obtain ⟨k, m, _, hk, rfl, hm⟩ := (parseK_chain (R := fun i p => TopOK (s.drop i).length p)
    (N := fun _ => True) s o (fun _ _ _ _ hr => runParserK_spans hr) (fun _ _ _ => trivial)
    h).mem n hn
  exact strict_shift_top hm.strict (by rw [List.length_drop]; omega)

end entry

/-- if the checked parse goes through, it returns what the plain parse returns -/
theorem parseK_of_checked {s : Str} {o : Opts} {parts : List Node}
    (hc : rootEndsChecked s o = true) (h : (parse s o).1 = .parts parts) :
    (parseK s o).1 = .parts parts := by
  unfold rootEndsChecked at hc
  rcases hK : (parseK s o).1 with ps | _ | _ | _ <;> rw [hK] at hc <;> simp only [] at hc <;>
    try exact absurd hc (by decide)
  have := parseK_sound s o ps hK
  rw [h] at this
  cases this
  rfl

/-- C03 in terms of `Strict`, for the plain `parse`, under the per-input condition -/
theorem parse_strict_checked (s : Str) (o : Opts) (parts : List Node)
    (hc : rootEndsChecked s o = true) (h : (parse s o).1 = .parts parts) :
    ∀ n, n ∈ parts → Strict s.length n :=
  parseK_strict s o parts (parseK_of_checked hc h)

/-- **C03 (model level), `parse`, without hypothesis**: for every input and all options, if the
    checked parse goes through (`rootEndsChecked s o`, a decidable condition on the input: no
    nested parser run returns a root that ends in two newlines and is not followed by `)`), every
    clause of `Spec.spansWF` violated by a tree `parse` returns is a known defect
    (`empty-span:reservedword` (D19), or marked `+emptydesc` (D19), or marked `+heredoc` (D11)). -/
theorem C03_total_checked (s : Str) (o : Opts) (parts : List Node)
    (hc : rootEndsChecked s o = true) (h : (parse s o).1 = .parts parts) :
    ∀ n ∈ parts, ∀ v ∈ Spec.spansWF s.length n, C03_known v = true := by
  intro n hn v hv
  exact strict_known (parse_strict_checked s o parts hc h n hn) v hv

/-! ## the checked theorem subsumes the conditional one -/

section converse
attribute [local instance] C16.stdEnvRel
open C16

/-- under `RootEnds` the check never fires: the plain nested parser is refined by the checked one -/
theorem rel_npK_conv (hR : RootEnds) {d : Nat} (hrec : Rel Eq Eq (parserRun d) (parserRunK d) Eq) :
    NPR Eq Eq (npOf (parserRun d)) (npK true (parserRunK d)) := by
  intro s b l₁ l₂ e₁ e₂ hl hE a l₁' e₁' hr
  subst hl
  rw [npOf_run] at hr
  rcases h1 : M.run (parserRun d) (nestedInit l₁ s b) e₁ with ⟨r, e'⟩
  rw [h1] at hr
  cases r with
  | error x => cases hr
  | ok v =>
    obtain ⟨r, l'⟩ := v
    simp only [] at hr
    cases hr
    obtain ⟨r₂, l₂', e₂', h2, hr2, hl2, hE2⟩ := hrec _ _ e₁ e₂ rfl hE a l' e₁' h1
    subst hr2; subst hl2
    have hinit : InitState s (nestedInit l₁ s b) e₁ := ⟨rfl, rfl, rfl, rfl, Or.inl rfl⟩
    have hok : rootOKb s a = true := by
      cases a with
      | none => rfl
      | some n => exact rootEndOKb_of ((hR d s).ok hinit h1 n rfl)
    refine ⟨a, { l₁ with ps := l'.ps }, e₂', ?_, orel_eq rfl, rfl, hE2⟩
    rw [run_npK, h2]
    simp only [hok, if_true]

theorem parserRun_K (hR : RootEnds) : ∀ (d : Nat), Rel Eq Eq (parserRun d) (parserRunK d) Eq := by
  intro d
  induction d with
  | zero => exact Rel.raise_left
  | succ d ih =>
    rw [C16.parserRun_succ, parserRunK_succ]
    refine (rel_level sok_eq (f := idf) (g := idf) (fun _ _ => rfl)
      (rel_expandword_eq (rel_npK_conv hR ih))).conseq ?_
    intro a b h
    exact orel_idf h

theorem runParser_ok' {s : Str} {o : Opts} {t : List Char} {r : Option Node}
    (h : (runParser s o t).1 = .ok r) :
    ∃ l' e', (parserRun maxDepth).run { limit := o.limit }
      { tape := Tape.ofInput s, strict := o.strict, proceed := o.proceed, touched := t } =
      (.ok (r, l'), e') := by
  unfold runParser at h
  simp only [] at h
  rcases hr : (parserRun maxDepth).run { limit := o.limit }
      { tape := Tape.ofInput s, strict := o.strict, proceed := o.proceed, touched := t } with ⟨x, e'⟩
  rw [hr] at h
  cases x with
  | error x => simp [Except.map] at h
  | ok v =>
    obtain ⟨a, l'⟩ := v
    simp only [Except.map] at h
    cases h
    exact ⟨l', e', rfl⟩

theorem runParserK_of_run {s : Str} {o : Opts} {t : List Char} {r : Option Node} {l' : Local}
    {e' : Env}
    (h : (parserRunK maxDepth).run { limit := o.limit }
      { tape := Tape.ofInput s, strict := o.strict, proceed := o.proceed, touched := t } =
      (.ok (r, l'), e')) : (runParserK s o t).1 = .ok r := by
  unfold runParserK
  simp only []
  rw [h]
  rfl

theorem runParser_K (hR : RootEnds) (s : Str) (o : Opts) (t₁ t₂ : List Char) {r : Option Node}
    (h : (runParser s o t₁).1 = .ok r) : (runParserK s o t₂).1 = .ok r := by
  obtain ⟨l', e', hr⟩ := runParser_ok' h
  obtain ⟨r₂, l₂', e₂', h2, hR2, _, _⟩ := parserRun_K hR _
    { limit := o.limit } { limit := o.limit }
    { tape := Tape.ofInput s, strict := o.strict, proceed := o.proceed, touched := t₁ }
    { tape := Tape.ofInput s, strict := o.strict, proceed := o.proceed, touched := t₂ } rfl
    ⟨rfl, rfl, rfl⟩ r l' e' hr
  subst hR2
  exact runParserK_of_run h2

/-- **`RootEnds` implies the per-input condition** for every input `parse` accepts: the checked
    theorems subsume the conditional ones (`C03_total_conditional`, `C05_total_conditional`) -/
theorem rootEndsChecked_of_rootEnds (hR : RootEnds) (s : Str) (o : Opts) (parts : List Node)
    (h : (parse s o).1 = .parts parts) : rootEndsChecked s o = true := by
  have key : (parseK s o).1 = .parts parts := by
    rw [parse_eq_G] at h
    rw [parseK_eq_G]
    exact parseG_congr (run₁ := fun s' t => runParser s' o t) (run₂ := fun s' t => runParserK s' o t)
      (fun s' t₁ t₂ _ hr => runParser_K hR s' o t₁ t₂ hr) h
  unfold rootEndsChecked
  rw [key]

end converse

/-! ## `parsesingle` -/

def parsesingleK (s : Str) (o : Opts := {}) : Outcome × List Char :=
  match runParserK s o [] with
  | (.error e, t) => (.exn e, t)
  | (.ok n, t) => (.single n, t)

def rootEndsCheckedSingle (s : Str) (o : Opts) : Bool :=
  match (parsesingleK s o).1 with
  | .single _ => true
  | _ => false

/-- **C03 (model level), `parsesingle`, without hypothesis** -/
theorem C03_total_single_checked (s : Str) (o : Opts) (n : Node)
    (hc : rootEndsCheckedSingle s o = true) (h : (parsesingle s o).1 = .single (some n)) :
    ∀ v ∈ Spec.spansWF s.length n, C03_known v = true := by
  intro v hv
  unfold rootEndsCheckedSingle parsesingleK at hc
  unfold parsesingle at h
  rcases hr : runParserK s o [] with ⟨r, t⟩
  rw [hr] at hc
  cases r with
  | error e => simp only [] at hc; exact absurd hc (by decide)
  | ok v' =>
    have h2 := runParserK_plain s o [] [] (r := v') (by rw [hr])
    rcases hr2 : runParser s o [] with ⟨r2, t2⟩
    rw [hr2] at h h2
    simp only [] at h2
    subst h2
    simp only [] at h
    cases h
    exact strict_known (runParserK_spans (by rw [hr])).strict v hv

/-! ## when the check cannot fire: no two consecutive newlines -/

/-- `s` holds no two consecutive newline characters -/
def NoNLNL (s : Str) : Prop := ∀ i, ¬ (s[i]? = some '\n' ∧ s[i + 1]? = some '\n')

theorem backOverNewlines_noNLNL {s : Str} (h : NoNLNL s) : ∀ e, e ≤ backOverNewlines s e + 1
  | 0 => Nat.zero_le _
  | e + 1 => by
    unfold backOverNewlines
    split
    · rename_i hc
      have hc' : s[e]? = some '\n' := by simpa using hc
      cases e with
      | zero => simp [backOverNewlines]
      | succ e' =>
        have hne : ¬ (s[e']? = some '\n') := fun h1 => h e' ⟨h1, hc'⟩
        have : backOverNewlines s (e' + 1) = e' + 1 := by
          unfold backOverNewlines
          rw [if_neg (by simpa using hne)]
        omega
    · exact Nat.le_succ _

/-- over a text without two consecutive newlines every root passes the check -/
theorem rootEndOK_noNLNL {s : Str} (h : NoNLNL s) (n : Node) : RootEndOK s n :=
  fun _ _ _ => backOverNewlines_noNLNL h _

/-! ## witnesses (kernel-evaluated) -/

/-- the check is not vacuous: a root `a⏎⏎` followed by `b` is rejected -/
theorem witness_check_rejects :
    rootEndOKb "a\n\nb".toList (.command (0, 3) [.word (0, 1) ['a'] []]) = false := by decide

/-- quoted newlines at the end of a word: the word ends with its closing quote -/
theorem witness_quoted : rootEndsChecked "$('a\n\n' )".toList {} = true := by decide +kernel
/-- D9: only the first line of the body is parsed; the root is `a` -/
theorem witness_two_lines : rootEndsChecked "$(a\n\nb)".toList {} = true := by decide +kernel
/-- a here-document body inside a substitution, blank line after it -/
theorem witness_heredoc : rootEndsChecked "$(a <<E\nx\nE\n\n)".toList {} = true := by
  decide +kernel
/-- an operator followed by line continuations and a blank line: its span is the operator alone -/
theorem witness_cont : rootEndsChecked "$(a &\\\n\\\n\n)".toList {} = true := by decide +kernel

end Bashlex.C03

#print axioms Bashlex.C03.parserRunK_plain
#print axioms Bashlex.C03.parserRunK_spans
#print axioms Bashlex.C03.parseK_sound
#print axioms Bashlex.C03.C03_total_checked
#print axioms Bashlex.C03.C03_total_single_checked
#print axioms Bashlex.C03.rootEndOK_noNLNL
#print axioms Bashlex.C03.rootEndsChecked_of_rootEnds
