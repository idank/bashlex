/-
  C03, token source: a delivered WORD token is not empty (`WNE`), for every state
  (state-agnostic logic `Sat`): `_readtokenword` indexes `value[0]` in `_is_assignment` before it
  returns a WORD.  Same walk as `Props/C01/Tokens.lean`.
-/
import Bashlex.Props.C01.Tokens
import Bashlex.Props.C03.Hyp
import Bashlex.Proofs.TokShape

namespace Bashlex.C03
open Bashlex Bashlex.M Bashlex.C12 Bashlex.C01

theorem wne_plain {t : Token} {ty : TokType} (h1 : t.ttype = some ty) (hty : ty ≠ .WORD) : WNE t := by
  intro h; rw [h1] at h; cases h; exact absurd rfl hty

theorem wne_word {t : Token} {tw : Str} (h2 : t.value = .str tw) (h3 : tw ≠ []) : WNE t := by
  intro _; simpa [Token.valueStr, h2] using h3

theorem notWord_of_bare {ty : TokType} (h : bareOK ty = true) : ty ≠ .WORD := by
  intro hx; subst hx; revert h; decide

theorem sat_createtoken_nw {ty : TokType} {v : TVal} {fl : WordFlags} (hty : ty ≠ .WORD) :
    Sat (createtoken ty v fl) WNE :=
  sat_createtoken3.weaken (fun _ h => wne_plain h.1 hty) (fun _ h => h)

theorem lookup_ne {s : Str} {ty : TokType}
    (h : List.lookup s reservedFirstCommandChars = some ty) : s ≠ [] := by
  have hmem := mem_of_lookup h
  have hall : ∀ kv, kv ∈ reservedFirstCommandChars → kv.1 ≠ [] := by decide
  exact hall _ hmem

/-- each of the shapes of the token `finishWord` builds: `_is_assignment` indexes `value[0]`
    before a WORD is returned, and no reserved word is spelt with the empty string -/
theorem wne_of_shape {st : RWState} {t : Token} (h : Shape.FWShape st t) : WNE t := by
  rcases h with ⟨_, h1, _⟩ | ⟨ty, hty, _, h2, _⟩ | ⟨hne, l, asg, t0, _, h2, _, rfl⟩
  · exact wne_plain h1 (by decide)
  · refine wne_word h2 ?_
    rcases hty with hm | ⟨hl, _⟩
    · have hall : ∀ p ∈ Shape.specialTokens, p.2 ≠ [] := by decide
      exact hall _ hm
    · exact lookup_ne hl
  · exact wne_word ((Shape.fwToken_value st l asg t0).trans h2) hne

theorem sat_finishWord_w (st : RWState) : Sat (finishWord st) WNE :=
  (Shape.sat_finishWord st).weaken (fun _ h => wne_of_shape h) (fun _ h => h)

theorem sat_readtokenword_w (c : Char) : Sat (readtokenword c) WNE := by
  unfold readtokenword
  exact Sat.bind_any (fun _ => Sat.bind_any (fun st => sat_finishWord_w st))

def ReadW (r : TokType ⊕ Token) : Prop :=
  match r with
  | .inl ty => bareOK ty = true
  | .inr t => WNE t

theorem sat_readtoken_w : Sat readtoken ReadW := by
  unfold readtoken
  refine Sat.bind_any (fun _ => Sat.bind_any (fun _ => Sat.bind_any (fun c1 => ?_)))
  split
  · exact Sat.pure (wne_plain (ty := .EOF) rfl (by decide))
  rename_i ch
  refine Sat.bind_any (fun character => ?_)
  extract_lets -underBinder jp1
  have key1 : ∀ r c, Sat (jp1 r c) ReadW := by
    intro r c
    simp -zeta only [jp1]
    refine Sat.bind_any (fun _ => ?_)
    have hty : Sat (do let t ← tokentypeOfChar c; pure (Sum.inl t) : M (TokType ⊕ Token)) ReadW :=
      Sat.bind (sat_tokentypeOfChar c) (fun t ht => Sat.pure ht)
    have hword : Sat (do let t ← readtokenword c; pure (Sum.inr t) : M (TokType ⊕ Token)) ReadW :=
      Sat.bind (sat_readtokenword_w c) (fun t ht => Sat.pure ht)
    refine Sat.ite (fun _ => Sat.bind_any (fun _ => Sat.bind_any (fun _ => hty))) (fun _ => ?_)
    refine Sat.bind_any (fun _ => Sat.ite (fun _ => hword) (fun _ => ?_))
    refine Sat.bind_any (fun _ => Sat.bind_any (fun _ => ?_))
    extract_lets -underBinder jp2
    have key2 : ∀ r, Sat (jp2 r) ReadW := by
      intro r
      simp -zeta only [jp2]
      exact Sat.bind_any (fun _ => Sat.ite (fun _ => hty) (fun _ => hword))
    refine Sat.ite (fun _ => ?_) (fun _ => key2 ())
    refine Sat.bind (sat_readtokenMeta c) (fun m hm => ?_)
    split
    · exact Sat.pure (hm _ rfl)
    · exact key2 ()
  refine Sat.ite (fun _ => ?_) (fun _ => key1 () _)
  exact Sat.bind_any (fun _ => Sat.bind_any (fun _ => key1 () _))

/-- **every WORD token `token()` delivers has a non-empty value** -/
theorem sat_nextToken_w : Sat nextToken WNE := by
  unfold nextToken
  refine Sat.bind_any (fun _ => ?_)
  refine Sat.bind sat_readtoken_w (fun r hr => ?_)
  extract_lets -underBinder jp
  have key : ∀ cur, WNE cur → Sat (jp cur) WNE := fun cur h =>
    Sat.bind_any (fun _ => Sat.bind_any (fun _ => Sat.pure h))
  split
  · exact Sat.bind_any (fun _ => Sat.bind (sat_createtoken_nw (notWord_of_bare hr)) (fun cur h => key cur h))
  · exact Sat.bind (Sat.pure (P := WNE) hr) (fun cur h => key cur h)

end Bashlex.C03
