/-
  C03, the hypothesis `RootEnds` — PROVED for the real tokenizer: **`rootEnds : RootEnds`**, no
  hypotheses (facts (S), (T), (H), (W) below).

  `RootEnds` (`Props/C03/Run.lean`): the root a parser run returns for `s` does not end in two
  newline characters unless the next character is `)`.  The header of `Props/C03/RootEnds.lean`
  lists the facts a proof needs.  The development (`Props/C03/RE/*.lean`; this file states the
  result):

  (S)  STRUCTURAL (`RE/Engine.lean`, `Props/C04/ActionInv.lean`, `RE/Actions.lean`, `RE/Grammar.lean`), for every
       input, all options, every nesting depth: the end of the root is the end of a delivered
       token other than NEWLINE, the end of a redirect cell of the store (a here-document redirect,
       possibly extended over its body), or 0 (D19: `time` / `!` pipelines at (0,0)).  Carrier: a
       new pass over the action functions (`Props/C04/ActionInv.lean`: the store frame; `RE/Actions.lean`: one
       lemma per action function that can build the last part of the root; `RE/Grammar.lean`: the
       kernel-decided facts about the generated grammar: for every production whose left-hand
       side can end a `simple_list`, the slot the action takes its end from is a terminal other
       than NEWLINE or again such a non-terminal), `LR.run_sound_ordH` with the stateless value
       invariant `VIe` and the state invariant `SG` ("every cell of the store ends well"), on top
       of the state invariant `I5` of `Props/C04Words.lean` (so that the token-level facts of
       C04 / C11 are available at every call of `token()`).
       Result: `rootEnds_conditional : TokEnds → RootEnds`, `TokEnds` = (T) + (W) + (H).
  (T)  TEXT (`RE/TokT.lean`): from `C04.tokText` (proved): if the value of a token does not end
       in a newline, the text under its span does not end in two raw newlines (`eg_of_del`,
       `tokG_of`); `tokEnds_of : TokValW → StoreEnds → TokEnds`.
  (H)  HERE-DOCUMENTS (`RE/Heredoc.lean`, `RE/Bridge.lean`): `token()` never moves a redirect
       (`C03.tokSpans`), and `gatherheredocuments` called by `p_simple_list` extends a redirect
       to the end of the delimiter line of its body, before that line's newline; the delimiter
       is not empty (C03's `PendOK`): `gather_e`, the walk `gather_x` of C03's token source at `lineEnds_eg`.
       The engine pass is run together with C03's span invariant, by induction on the depth.
       Result: **`rootEnds_conditional'' : TokValW → RootEnds`** (`RE/Bridge.lean`).
  (W)  WORD VALUES (`RE/WScan.lean`, `RE/WScan2.lean`, `RE/WWord.lean`, `RE/WRead.lean`):
       **`tokValW : TokValW`** — the value of a token `token()` delivers does not end in a
       newline unless the token is an operator.  State-agnostic: what `_parse_matched_pair` /
       `_parse_comsub` return ends with the closing character or with what a nested scanner
       returned (`sat_pmp`, `sat_pcs`, by induction on the depth fuel), and one iteration of the
       loop of `_readtokenword` keeps `tokenword` from ending in a newline (`sat_step_n`), PROVIDED
       the character appended after a backslash is not a newline — which is the field `pn` of
       `C04.TTP.WInv`, so the iteration is conjoined with `step_tt` (`rtwLoop_n`); the walk of
       `_readtoken` of `C04/TTRead.lean` is repeated with the new post-condition (`readtoken_n`).
       Cross-check by evaluation: `RE/Validate.lean` (0 failures on 13405 inputs, all suffixes).

  Candidate counterexample examined (and checked with `#eval`): `cat <<''\⏎⏎⏎` -- an EMPTY
  delimiter after a continuation would make the extended redirect end in two raw newlines; but
  the delimiter is the RAW word `''` (quotes are not removed: `makeheredoc` compares with
  `redirnode.output.word`), so the blank line does not end the body: ParsingError
  "here-document … delimited by end-of-file (wanted \"''\")".
-/
import Bashlex.Props.C03.RE.Bridge
import Bashlex.Props.C03.RE.WRead

namespace Bashlex.C03
open Bashlex

/-- **`RootEnds` holds of the real tokenizer and parser**: for every input, all options, every
    nesting depth, the root a parser run returns does not end in two newline characters unless
    the next character is `)` -/
theorem rootEnds : RootEnds := RE.rootEnds_conditional'' RE.tokValW

end Bashlex.C03

#print axioms Bashlex.C03.rootEnds
