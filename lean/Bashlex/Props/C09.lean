/-
  C09 / C08 (token level): acceptance by the LR engine with the tables bashlex really uses is
  sound w.r.t. the declared grammar, for every token source and every family of semantic
  actions; the engine never fails internally.
-/
import Bashlex.LR.Real
import Bashlex.Model.Parse

namespace Bashlex.Props
open Bashlex Bashlex.LR

/-- the model's numbering of terminals is the one of the regenerated tables -/
theorem termNames_agree : Gen.termNames = ["$end", "error"] ++ TokType.all.map TokType.name := by
  decide

/-- every production of the regenerated grammar is mapped to a modelled action function -/
def modelledActions : List String :=
  ["p_inputunit", "p_word_list", "p_redirection_heredoc", "p_redirection", "p_simple_command_element",
   "p_redirection_list", "p_simple_command", "p_command", "p_shell_command", "p_for_command",
   "p_arith_for_command", "p_select_command", "p_case_command", "p_function_def", "p_function_body",
   "p_subshell", "p_group_command", "p_coproc", "p_if_command", "p_arith_command", "p_cond_command",
   "p_elif_clause", "p_case_clause", "p_pattern_list", "p_case_clause_sequence", "p_pattern", "p_list",
   "p_compound_list", "p_list0", "p_list1", "p_simple_list_terminator", "p_list_terminator",
   "p_newline_list", "p_simple_list", "p_simple_list1", "p_pipeline_command", "p_pipeline",
   "p_timespec", "p_empty"]

theorem actions_covered : (Gen.prodFuncs.drop 1).all (fun f => modelledActions.contains f) = true := by
  decide

/-- production by production: its action function is unnamed (production 0) or modelled -/
theorem prodFuncs_known : ∀ f ∈ Gen.prodFuncs, f = "" ∨ f ∈ modelledActions := by
  intro f hf
  rw [show Gen.prodFuncs = "" :: Gen.prodFuncs.drop 1 from rfl] at hf
  rcases List.mem_cons.mp hf with h | h
  · exact Or.inl h
  · exact Or.inr (by simpa using List.all_eq_true.mp actions_covered f h)

/-- **C09_sound** (⇒ direction of C09; C08 at token level): with the real tables, for
    every token source `H.next` and all semantic actions `H.act` (which may accept early), a
    normal return carries a derivation tree that is valid for the declared grammar and whose
    yield is what was consumed after the leading NEWLINEs (up to a prefix still on the stack);
    the engine itself raises nothing but out-of-fuel. -/
theorem C09_sound {V : Type} (H : Hooks V) {VI : Nat → V → Prop} {E : Exn → Prop}
    (hH : HooksRaise realTables H VI E) (fuel : Nat) :
    M.Sat (run realTables H fuel) (Good realTables VI) (EngineExn E) :=
  run_sound real_WF H hH fuel

/-- productions whose action function may accept have `inputunit` / `simple_list` on the left -/
theorem accepting_lhs :
    ((Gen.prodFuncs.zip Gen.prodTable).all fun (f, (lhs, _)) =>
      !acceptingActions.contains f || acceptSyms.contains lhs) = true := by decide +kernel

theorem action_accepts_only (np : NestedParse) (fname : String) (args : List SVal) :
    M.Sat (action np fname args) (fun r => r.2 = true → acceptingActions.contains fname = true)
      (fun _ => True) := by
  unfold action
  refine M.Sat.bind (M.Sat.trivial _) ?_
  intro r _
  by_cases h : (r.2 && !acceptingActions.contains fname) = true
  · rw [if_pos h]; exact M.Sat.foreign True.intro
  · rw [if_neg h]
    refine M.Sat.pure ?_
    intro hr
    simp only [Bool.and_eq_true, Bool.not_eq_true', not_and, Bool.not_eq_false] at h
    exact h hr

/-- the real hooks accept only at `inputunit` / `simple_list`, for every nested parser -/
theorem real_accepts_only (np : NestedParse) :
    AcceptsOnly realTables (lrHooks np) (· ∈ acceptSyms) (fun _ => True) := by
  intro p lhs rhs args hprod
  show M.Sat (action np (Gen.prodFuncs.getD p "") args) _ _
  refine (action_accepts_only np _ args).weaken ?_ (fun _ h => h)
  intro r hr hacc
  have hcont := hr hacc
  -- `p` is a production of the table, so `(prodFuncs[p], prodTable[p])` is in the zip
  have hall := accepting_lhs
  simp only [List.all_eq_true] at hall
  have hp' : realTables.prods = Gen.prodTable := rfl
  rw [hp'] at hprod
  have hlt : p < Gen.prodTable.length := by
    rcases Nat.lt_or_ge p Gen.prodTable.length with h | h
    · exact h
    · rw [List.getElem?_eq_none h] at hprod; cases hprod
  have hlen : Gen.prodFuncs.length = Gen.prodTable.length := by decide +kernel
  have hf : Gen.prodFuncs.getD p "" = Gen.prodFuncs[p]'(by omega) := by
    simp [List.getD_eq_getElem?_getD, List.getElem?_eq_getElem (show p < Gen.prodFuncs.length by omega)]
  have hmem : (Gen.prodFuncs[p]'(by omega), (lhs, rhs)) ∈ Gen.prodFuncs.zip Gen.prodTable := by
    rw [List.mem_iff_getElem]
    refine ⟨p, by simp [List.length_zip]; omega, ?_⟩
    simp only [List.getElem_zip]
    have : Gen.prodTable[p] = (lhs, rhs) := by
      rw [List.getElem?_eq_getElem hlt] at hprod; exact Option.some.inj hprod
    rw [this]
  have := hall _ hmem
  simp only [Bool.or_eq_true, Bool.not_eq_true'] at this
  rcases this with h | h
  · rw [hf] at hcont; rw [hcont] at h; cases h
  · simpa using h

/-- **C09_exact**: with the real tables and the real semantic actions, for every token source
    `next` (and every nested parser), an accepted run has consumed exactly: leading NEWLINEs,
    then the yield of the returned derivation tree — nothing else. -/
theorem C09_exact (np : NestedParse) (next : M (Nat × SVal)) (fuel : Nat) :
    M.Sat (run realTables { (lrHooks np) with next := next } fuel)
      (GoodExact realTables (fun _ _ => True)) (fun _ => True) := by
  have hH : HooksRaise realTables { (lrHooks np) with next := next } (fun _ _ => True) (fun _ => True) :=
    ⟨(M.Sat.trivial _).weaken (fun _ _ => True.intro) (fun _ h => h),
     fun _ _ _ _ _ _ => (M.Sat.trivial _).weaken (fun _ _ => True.intro) (fun _ h => h),
     fun _ => M.Sat.trivial _⟩
  have hA : AcceptsOnly realTables { (lrHooks np) with next := next } (· ∈ acceptSyms) (fun _ => True) :=
    real_accepts_only np
  exact (run_sound_exact real_WF real_AccOK _ hH hA fuel).weaken (fun _ h => h) (fun _ _ => True.intro)

end Bashlex.Props
