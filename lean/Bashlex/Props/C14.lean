/-
  C14 — "layout only moves spans": translation invariance of ONE parser run, at model level, and
  the missing piece of C13 (`BlankSkip`).

  ## Result

  **`runParser_shift`**: let `pre` be a string of blanks, tabs and newlines, `B` any input other
  than `""` and `"\n"`, `proceedonerror` off, and suppose the run on `pre ++ B` does not run out
  of (model) fuel.  Then one parser run on `pre ++ B` ends like one parser run on `B`, moved by
  `|pre|` (`RunRel pre`):
    * both return no node, or the run on `B` returns the node `n` and the run on `pre ++ B`
      returns `n.shift |pre|` (every span of every node of the tree moved; kinds, words, order
      unchanged);
    * or both raise: the same exception, except that a `ParsingError m src p` raised by the
      TOP-LEVEL parser (its `src` is the source of the tape) becomes
      `ParsingError m (pre ++ src) (p + |pre|)`; `ParsingError`s raised by nested parsers (their
      `src` is the text of the substitution) and all other exceptions are identical.
  Corollaries: `runParser_shift_ok`, `blankSkip_run` (the clause `run` of `C13.BlankSkip`),
  `BlankSkip_conditional` (all of `BlankSkip`, given its clause `pos`), `C13_partial_blank`.

  ## How (files of `Props/C14/`)

  * `Rel.lean`, `Access.lean`, `Walk.lean`: a relational Hoare logic for two runs of an `M`
    program (`Sim pre top n n' m₁ m₂ V`), one lemma per tape accessor, a walker `rel_walk` (with
    join-point handling `rel_jp`) for programs run on equal inputs in related states.
  * `Pair.lean`, `Heredoc.lean`, `Finish.lean`, `Token.lean`: the walk through the
    WHOLE tokenizer: `readline`, `makeheredoc`, `gatherheredocuments`, `mpInit`, `mpPre`,
    `handledollarword`, `mpPost`, `csDelimMatches`, `csA`–`csD`, `csPre`, `csPost`,
    `parseMatchedPair`, `parseComsub`, `isAssignment`, `specialcasetokens`, `handleshellquote`,
    `handleshellexp`, `readtokenwordStep`, `finishWord`, `readtokenword`, `discardUntil`,
    `tokentypeOfChar`, `readtokenMeta`, `readtoken`, `nextToken` (`sim_nextToken`), plus
    `getc`, `ungetc`, `peekc`, `curIdx`, `bumpIdx`, `tapeLine`, `tapeSource`, `tapeAdded`,
    `optStrict`, `optProceed`, `syn`/`shell*`, `recordpos`, `createtoken`, `matchedPairError`,
    the delimiter stack.
  * `ActBase.lean`, `Act1.lean`, `Act2.lean`, `Expand.lean`, `Actions.lean`: all
    39 action functions of `Model/Actions.lean` and word expansion (`Model/Subst.lean`).
  * `Engine.lean`: the LR engine (`step`, `doReduce`, `run`), nested parsers, `resolve`,
    `parserRun` at every nesting depth (`sim_parserRun`).
  * `Prefix.lean`, `MComment.lean`: consuming the prefix (`consume`, a case of `skips_layout`).
  * `MEnd.lean`, `MParse.lean`: the run behind a layout prefix (`runParser_layout`, comments
    allowed) and the step from one run to `parse`; the theorems below are their cases for a
    prefix of blanks and newlines.

  ## Hypotheses of `runParser_shift`

  * `o.proceed = false` — defect D19: with `proceedonerror` the unsupported `time` prefix becomes
    `reservedword (0,0) "!"` with a CONSTANT span: `p_pipeline_command` builds it from
    `p.lexspan 1`, and position 1 holds the YaccSymbol of `timespec`, not a token
    (`getattr(sym, 'lexpos', 0)`).  Witness (kernel-checked below, `D19_witness`):
    `B = "time a"`, `pre = "\n"`: the run on `B` returns
    `pipeline (0,6) [reservedword (0,0) "!", command (5,6) …]`, the run on `"\ntime a"` returns
    `pipeline (0,7) [reservedword (0,0) "!", command (6,7) …]` — not the shift
    `pipeline (1,7) [reservedword (1,1) "!", command (6,7) …]`.
    With `proceedonerror` off, `p_timespec` raises and no `timespec` value ever sits on the stack;
    for all other productions the kernel checks on the generated grammar that the action is
    `shiftSafe` (`Engine.shiftSafe_ok`).  (`o.proceed = false` is stronger than necessary: an input
    without a TIME token would do; not proved.)
  * `2 ≤ len(tape of B)`, i.e. `B ∉ {"", "\n"}` — a proof artefact (the level discipline of the
    relational logic uses that the end of the first tape is at index ≥ 2);
    `runParser_layout_all` (`Props/C14More.lean`) does without it.
  * the run on `pre ++ B` does not run out of fuel — a model artefact: the model's loops carry
    2^30 fuel; skipping the prefix costs one iteration of the loop at the head of `_readtoken` per
    blank and one iteration of the engine loop per newline, so for astronomically long inputs the
    longer run could hit the bound first.
  * `BlankNL pre`: blank, tab, newline only; comments (`# …⏎`) and continuations in `pre` are
    covered in `Props/C14More.lean` (`runParser_layout_all`).

  ## Observations
  * The token history (`_last_read_token`, …) of the run on `pre ++ B` holds NEWLINE tokens where
    the run on `B` holds the placeholder `token(None, None)`: every reader of the history
    (`_reserved_word_acceptable`, `_command_token_position`, `_assignment_acceptable`,
    `_specialcasetokens`, the `tok.ttype ==` tests, `p_simple_list`'s eof-token test) answers
    the same for both (`HEq`, `Neutral`; no finding).
  * Error positions: `runParser ")"` raises `ParsingError "unexpected token ')'" ")" 0`,
    `runParser " ⏎)"` raises `… " ⏎)" 2` (top-level: moved); `runParser "$(a |)"` and
    `runParser "⏎ $(a |)"` both raise `… "a |)" 3` (nested parser: identical).
-/
import Bashlex.Props.C14.MParse

namespace Bashlex.C14
open Bashlex Bashlex.C10 Bashlex.C12 Bashlex.LR

/-! ## the theorem -/

section
-- see `C14/MParse.lean`
attribute [local irreducible] M.run runParser parse parsesingle

/-- **C14, one parser run**: see the header -/
theorem runParser_shift (pre B : Str) (o : Opts) (t : List Char) (hpre : BlankNL pre)
    (hB : 2 ≤ (Tape.ofInput B).line.length) (hproc : o.proceed = false)
    (hfuel : ∀ site, (runParser (pre ++ B) o t).1 ≠ .error (.outOfFuel site)) :
    RunRel pre (runParser B o t).1 (runParser (pre ++ B) o t).1 :=
  runParser_layout pre B o t (layout_of_blankNL hpre) hB hproc hfuel

/-- … when the run on `B` returns normally: the run on `pre ++ B` returns the moved result -/
theorem runParser_shift_ok (pre B : Str) (o : Opts) (t : List Char) (hpre : BlankNL pre)
    (hB : 2 ≤ (Tape.ofInput B).line.length) (hproc : o.proceed = false)
    (hfuel : ∀ site, (runParser (pre ++ B) o t).1 ≠ .error (.outOfFuel site))
    (r : Option Node) (hr : (runParser B o t).1 = .ok r) :
    (runParser (pre ++ B) o t).1 = .ok (r.map (Node.shift pre.length)) := by
  have h := runParser_shift pre B o t hpre hB hproc hfuel
  rw [hr] at h
  exact h.ok

/-- the clause `run` of `C13.BlankSkip` -/
theorem blankSkip_run (pre B : Str) (o : Opts) (hpre : BlankNL pre)
    (hB : 2 ≤ (Tape.ofInput B).line.length) (hproc : o.proceed = false)
    (hfuel : ∀ site, (runParser (pre ++ B) o []).1 ≠ .error (.outOfFuel site))
    (r : Option Node) (hr : (runParser B o []).1 = .ok r) :
    (runParser (pre ++ B) o []).1 =
      (runParser B o []).1.map (fun n => n.map (Node.shift pre.length)) := by
  rw [runParser_shift_ok pre B o [] hpre hB hproc hfuel r hr, hr]
  rfl

/-- **`C13.BlankSkip`**, for a prefix of blanks and newlines, given its clause `pos` (the first
    part of `B` does not end at 0; the only parts with `nextIndex = 0` known are the `time`
    nodes of D19, which need `proceedonerror`) -/
theorem BlankSkip_conditional (pre B : Str) (o : Opts) (hpre : BlankNL pre)
    (hB : 2 ≤ (Tape.ofInput B).line.length) (hproc : o.proceed = false)
    (hfuel : ∀ site, (runParser (pre ++ B) o []).1 ≠ .error (.outOfFuel site))
    (r : Option Node) (hr : (runParser B o []).1 = .ok r)
    (hpos : pre = [] ∨ ∀ part, r = some part → 0 < nextIndex part) :
    C13.BlankSkip pre B o :=
  ⟨blankSkip_run pre B o hpre hB hproc hfuel r hr,
    hpos.imp_right fun h part hp => h part (by rw [hr] at hp; cases hp; rfl)⟩

/-- the prefix left over by `parse A` inside `A ++ sep` is made of blanks and newlines when `sep`
    is, and `parse A` stopped at the end of `A` or later -/
theorem blankNL_drop {A sep : Str} {j : Nat} (hsep : BlankNL sep) (hj : A.length ≤ j) :
    BlankNL ((A ++ sep).drop j) := by
  intro c hc
  have : (A ++ sep).drop j = sep.drop (j - A.length) := by
    rw [List.drop_append, List.drop_eq_nil_of_le hj, List.nil_append]
  rw [this] at hc
  exact hsep c (List.mem_of_mem_drop hc)

/-- **C13 for a blank separator, without the hypothesis `BlankSkip.run`**: if `parse A = psA`,
    `parse B = psB`, `A`'s runs are local, the loop of `parse A` stopped at the end of `A`
    (or inside `sep`), `sep` is made of blanks and newlines (starting with a newline, or `A`
    ends in one: `Joinable`), `proceedonerror` is off, `B ∉ {"", "⏎"}`, the first part of `B`
    does not end at 0, and the first run on the remaining text does not run out of fuel, then
    `parse (A ++ sep ++ B) = parse A ++ shift (len A + len sep) (parse B)`. -/
theorem C13_partial_blank (A sep B : Str) (o : Opts) (psA psB : List Node)
    (hj : C13.Joinable A (sep ++ B))
    (hA : (parse A o).1 = .parts psA) (hB : (parse B o).1 = .parts psB)
    (hloc : C13.parseLocal A o = true)
    (hstop : C13.parseStop A o ≤ (A ++ sep).length) (hstop' : A.length ≤ C13.parseStop A o)
    (hsep : BlankNL sep) (hproc : o.proceed = false)
    (hB2 : 2 ≤ (Tape.ofInput B).line.length)
    (hfuel : ∀ site, (runParser ((A ++ sep).drop (C13.parseStop A o) ++ B) o []).1 ≠
      .error (.outOfFuel site))
    (hpos : ∀ part, (runParser B o []).1 = .ok (some part) → 0 < nextIndex part) :
    (parse (A ++ sep ++ B) o).1 =
      .parts (psA ++ psB.map (Node.shift (A.length + sep.length))) :=
  C13_partial_layout A sep B o psA psB hj hA hB hloc hstop
    (layout_of_blankNL (blankNL_drop hsep hstop')) hproc hfuel hpos

end

/-! ## the witness of D19 (kernel evaluation) -/

/-- `"time a"` -/
def Btime : Str := ['t', 'i', 'm', 'e', ' ', 'a']

/-- with `proceedonerror`, the run on `"⏎time a"` is NOT the run on `"time a"` moved by 1
    (`C13.blankSkipB` checks `BlankSkip`, whose clause `run` is the conclusion of
    `blankSkip_run`) -/
theorem D19_witness : C13.blankSkipB ['\n'] Btime { proceed := true } = false := by
  decide +kernel

/-- … and without `proceedonerror` both runs raise `NotImplementedError` -/
theorem D19_off : (runParser Btime {} []).1 = .error (.notImplemented "time command") ∧
    (runParser ('\n' :: Btime) {} []).1 = .error (.notImplemented "time command") :=
  ⟨eq_of_runResBeq (by decide +kernel), eq_of_runResBeq (by decide +kernel)⟩

/-! ## non-vacuity: the hypotheses hold on a concrete input -/

/-- `⏎ ␣` in front of `c | d` (the hypotheses are decided by the kernel; the conclusion is the
    theorem's) -/
theorem example_shift :
    (runParser (['\n', ' '] ++ C13.Examples.B1) {} []).1 =
      .ok ((C13.Examples.psB1.head?).map (Node.shift 2)) := by
  have hr : (runParser C13.Examples.B1 {} []).1 = .ok C13.Examples.psB1.head? :=
    eq_of_runResBeq (by decide +kernel)
  have hne : ∀ site, (runParser (['\n', ' '] ++ C13.Examples.B1) {} []).1 ≠
      .error (.outOfFuel site) := by
    intro site h
    have : runResBeq (runParser (['\n', ' '] ++ C13.Examples.B1) {} []).1
        (.error (.outOfFuel site)) = false := by
      generalize (Exn.outOfFuel site) = x
      revert x
      have hk : ∃ v, (runParser (['\n', ' '] ++ C13.Examples.B1) {} []).1 = .ok v := by
        cases hv : (runParser (['\n', ' '] ++ C13.Examples.B1) {} []).1 with
        | ok v => exact ⟨v, rfl⟩
        | error y =>
          exfalso
          have : (match (runParser (['\n', ' '] ++ C13.Examples.B1) {} []).1 with
            | .ok _ => true | .error _ => false) = true := by decide +kernel
          rw [hv] at this
          cases this
      obtain ⟨v, hv⟩ := hk
      intro x; rw [hv]; rfl
    rw [h] at this
    simp [runResBeq] at this
  exact runParser_shift_ok ['\n', ' '] C13.Examples.B1 {} []
    (by intro c hc; simp at hc; rcases hc with rfl | rfl <;> simp)
    (by decide) rfl hne _ hr

end Bashlex.C14

/-! ## Axioms -/
#print axioms Bashlex.C14.sim_nextToken
#print axioms Bashlex.C14.expRel_of_npRel
#print axioms Bashlex.C14.actionsHyp
#print axioms Bashlex.C14.shiftSafe_ok
#print axioms Bashlex.C14.sim_parserRun
#print axioms Bashlex.C14.consume
#print axioms Bashlex.C14.runParser_shift
#print axioms Bashlex.C14.runParser_shift_ok
#print axioms Bashlex.C14.blankSkip_run
#print axioms Bashlex.C14.BlankSkip_conditional
#print axioms Bashlex.C14.C13_partial_blank
#print axioms Bashlex.C14.D19_witness
#print axioms Bashlex.C14.example_shift
