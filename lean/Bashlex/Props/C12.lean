/-
  Property C12 at model level, for all inputs and options:
  every node of every AST returned by `parse` / `parsesingle` conforms to the schema of its kind
  (`Spec.schemaOK`), up to the known defects `C12_known` (two signatures, `Props/C12/Tree.lean`)
  and the open family `C12_multiBang` (a pipeline with a repeated `!`); all three concern the
  *pipeline* clause, every other clause holds without exception (`C12_only_pipelines`).
  Witness inputs are kernel-checked in `Props/C12/Witness.lean`.

  Architecture (robust against renumbering of productions):
    Tree.lean     `TreeOK`, invariance under `mapPos`/`shift`/`resolve`
    Sorts.lean    sorts of semantic values, `sortOfSymbol` (by symbol *name*), `absAction`
    AbsEqns.lean  one equation of `absAction` per action name
    Grammar.lean  `grammar_ok`, `accept_ok`: kernel `decide` on the generated tables
    Build.lean    constructor lemmas for `TreeOK`
    Actions.lean  `absAction_sound`: one lemma per action function of parser.py
    Tokens.lean   `sat_nextToken`: the real tokenizer delivers type/value-consistent tokens
    LR/Exact.lean `run_sound_acc`: `run_sound` plus "the root of an accepted tree is a
                  symbol at which accepting is allowed"
  First, word expansion: given a nested parser that returns only conformant command-like
  or list nodes, `expandword` returns a conformant `word` node: its parts are those C07 describes
  (`C07.PartsOK`: substitution nodes around shifted nested roots, parameter and tilde leaves).
-/
import Bashlex.Props.C12.Actions
import Bashlex.Props.C07.Parts
import Bashlex.Props.C12.Grammar
import Bashlex.Props.C12.Tokens
import Bashlex.LR.Real
import Bashlex.Proofs.ParseG
import Bashlex.Proofs.ParserLift

namespace Bashlex.C12
open Bashlex Bashlex.Spec Bashlex.Node Bashlex.M Bashlex.LR

/-- the nested parser returns only conformant command-like or list nodes -/
def NPOK (np : NestedParse) : Prop :=
  ∀ s b, Sat (np s b) (fun r => ∀ n, r = some n → InCls .top n)

theorem top_shift {n : Node} (k : Nat) (h : InCls .top n) : InCls .top (n.shift k) := by
  refine ⟨treeOK_shift k h.1, ?_⟩
  have h1 : isCommandLike (n.shift k) = isCommandLike n := by
    rw [← isCommandLike_norm, norm_shift, isCommandLike_norm]
  have h2 : isListN (n.shift k) = isListN n := by
    have : ∀ a, isListN (norm a) = isListN a := fun a => by cases a <;> rfl
    rw [← this, norm_shift, this]
  rw [h1, h2]; exact h.2

/-- the parts of a word the scan returns are conformant, when the nested roots are -/
theorem wpart_of_partsOK {v : Str} {q : Bool} {k kend : Nat} {parts : List Node}
    (h : C07.PartsOK (fun _ _ n => InCls .top n) v q k kend parts) : ∀ c, c ∈ parts → TreeOK c ∧ isWordPart c = true := by
  intro c hc
  cases hs : isSubstitution c with
  | true =>
    cases h.subst c hc hs with
    | dollar _ hR _ _ => exact ⟨tk_cmdsub (top_shift _ hR), rfl⟩
    | proc _ hR _ _ => exact ⟨tk_procsub (top_shift _ hR), rfl⟩
    | backquote _ _ hR _ => exact ⟨tk_cmdsub (top_shift _ hR), rfl⟩
  | false =>
    have := h.other c hc hs
    cases c with
    | parameter => exact ⟨tk_parameter, rfl⟩
    | tilde => exact ⟨tk_tilde, rfl⟩
    | _ => cases this

theorem sat_expandword {np : NestedParse} (hnp : NPOK np) : WordSat np := fun tok =>
  (C07.C07_word (R := fun _ _ n => InCls .top n) hnp tok).weaken
    (fun _ ⟨_, _, hw, hp⟩ => hw ▸ ⟨tk_word (wpart_of_partsOK hp), _, _, _, rfl⟩) (fun _ h => h)

end Bashlex.C12

namespace Bashlex.C12
open Bashlex Bashlex.Spec Bashlex.Node Bashlex.M Bashlex.LR
-- see `Proofs/ParserLift.lean`
attribute [local irreducible] M.run runParser parse parsesingle split

theorem action_unknown {np : NestedParse} {args : List SVal} :
    Sat (action np "" args) (fun _ => False) := by
  unfold action
  rw [actionCore_unknown]
  exact Sat.bind (P := fun _ => False) (Sat.foreign trivial) (fun _ h => h.elim)

/-- the hooks of the real parser respect the value invariant -/
theorem hooks_ok {np : NestedParse} (hT : Sat nextToken TokWF) (hnp : NPOK np) :
    HooksAcc realTables (lrHooks np) VI AccSym (fun _ => True) := by
  refine ⟨?_, ?_, fun la => Sat.trivial _⟩
  · show Sat (nextToken >>= fun t => pure (symOfTok t, SVal.tok t)) _
    refine Sat.bind hT (fun t ht => Sat.pure ?_)
    show HasSort (sortOfSymbol (symOfTok t)) (.tok t)
    unfold symOfTok
    cases hty : t.ttype with
    | none => simp only []; rw [err_sort]; exact ⟨t, rfl, hty, ht⟩
    | some ty => simp only []; rw [tok_sorts]; exact ⟨t, rfl, hty, ht⟩
  · intro p lhs rhs args hp hargs
    show Sat (action np (Gen.prodFuncs.getD p "") args) _
    rcases grammar_at hp with he | hab
    · rw [he]
      exact action_unknown.weaken (fun _ h => h.elim) (fun _ h => h)
    · exact sat_action_of_core (absAction_sound (sat_expandword hnp) hab (forall2_map_left hargs))

theorem accept_sym : ∀ s la, s ∈ realRaw.reach → realTables.action s la = some .accept →
    AccSym (realRaw.accOf s) :=
  fun s la hs ha => Raw.checkAccept_sound accept_ok s la hs ha

theorem top_resolve (st : List RedirCell) {n : Node} (h : InCls .top n) :
    InCls .top (resolve st n) := by
  refine ⟨treeOK_resolve st n h.1, ?_⟩
  have h1 : isCommandLike (resolve st n) = isCommandLike n := by
    rw [← isCommandLike_norm, norm_resolve, isCommandLike_norm]
  have h2 : isListN (resolve st n) = isListN n := by
    have : ∀ a, isListN (norm a) = isListN a := fun a => by cases a <;> rfl
    rw [← this, norm_resolve, this]
  rw [h1, h2]; exact h.2

/-- what one parser run returns, at every nesting depth -/
theorem parserRun_ok (hT : Sat nextToken TokWF) :
    ∀ d, Sat (parserRun d) (fun r => ∀ n, r = some n → InCls .top n) :=
  Sat.parserRun trivial fun d ih => by
    refine Sat.level ((run_sound_acc real_WF accept_sym _
      (hooks_ok hT (fun _ _ => Sat.npOf ih)) _).weaken (fun _ h => h) (fun _ _ => trivial))
      ?_ (fun _ _ n hn => by cases hn)
    rintro n _ _ _ st ⟨hv, hacc⟩ m hm
    cases hm
    refine top_resolve _ ?_
    unfold VI at hv
    unfold AccSym accSort at hacc
    simp only [Bool.or_eq_true, beq_iff_eq] at hacc
    rcases hacc with hacc | hacc
    · rw [hacc] at hv
      rcases hv with hv | ⟨n', hn', hin⟩
      · cases hv
      · cases hn'; exact hin
    · rw [hacc] at hv
      obtain ⟨n', hn', hin⟩ := hv
      cases hn'; exact hin

/-! ## the entry points -/

theorem runParser_ok (hT : Sat nextToken TokWF) {s : Str} {o : Opts} {t : List Char} {n : Node}
    (h : (runParser s o t).1 = .ok (some n)) : InCls .top n :=
  runParser_sat_ok (SatS.of_sat (parserRun_ok hT _) fun _ _ => True) trivial h n rfl

/-- C12 for `parse`, in terms of `TreeOK`, for every token source satisfying `TokWF` -/
theorem parse_treeOK (hT : Sat nextToken TokWF) (s : Str) (o : Opts) (parts : List Node)
    (h : (parse s o).1 = .parts parts) : ∀ n, n ∈ parts → TreeOK n :=
  parse_parts TreeOK s o (fun _ _ _ _ hp => treeOK_shift _ (runParser_ok hT hp).1) parts h

theorem parsesingle_treeOK (hT : Sat nextToken TokWF) (s : Str) (o : Opts) (n : Node)
    (h : (parsesingle s o).1 = .single (some n)) : TreeOK n :=
  (runParser_ok hT (parsesingle_result h)).1

/-! ## C12 -/

/-- the open family of signatures of a pipeline with a *repeated* `!`: the kinds after the first
    `!` start with `reservedword` (witnesses in `Tree.lean`: `"! ! a"`, `"! ! ! a | b"`, `"! ! ;"`) -/
def C12_multiBang (v : String) : Prop :=
  ∃ ks : List String, v = s!"pipeline-not-alternating:{"reservedword" :: ks}"

theorem known_iff {v : String} (h : Known v) : v ∈ C12_known ∨ C12_multiBang v := by
  rcases h with h | ⟨b, r, hb, rfl⟩
  · exact Or.inl h
  · right
    refine ⟨r.map Node.kind, ?_⟩
    have : b.kind = "reservedword" := by cases b <;> simp_all [isBang, Node.kind]
    show pipeSig _ = pipeSig _
    simp [this]

/-- **C12 (model level), `parse`**: for every input and all options, every violated schema clause
    of every returned tree is one of the known defects -/
theorem C12_partial (s : Str) (o : Opts) (parts : List Node) :
    (parse s o).1 = .parts parts →
    ∀ n ∈ parts, ∀ v ∈ Spec.schemaOK n, v ∈ C12_known ∨ C12_multiBang v := by
  intro h n hn v hv
  exact known_iff (schemaOK_of_treeOK (parse_treeOK sat_nextToken s o parts h n hn) v hv)

/-- **C12 (model level), `parsesingle`** -/
theorem C12_partial_single (s : Str) (o : Opts) (n : Node) :
    (parsesingle s o).1 = .single (some n) →
    ∀ v ∈ Spec.schemaOK n, v ∈ C12_known ∨ C12_multiBang v := by
  intro h v hv
  exact known_iff (schemaOK_of_treeOK (parsesingle_treeOK sat_nextToken s o n h) v hv)

/-- **all clauses but the pipeline clause hold without exception**: in every returned tree, a
    node that is not a pipeline has no schema violation at all -/
theorem C12_only_pipelines (s : Str) (o : Opts) (parts : List Node)
    (h : (parse s o).1 = .parts parts) :
    ∀ n ∈ parts, ∀ m ∈ n.preorder, (∀ p ps, m ≠ .pipeline p ps) → Spec.localSchemaViol m = [] := by
  intro n hn m hm hnp
  rcases ((parse_treeOK sat_nextToken s o parts h n hn) m hm).1 with h | ⟨⟨p, ps, rfl⟩, _⟩
  · exact h
  · exact absurd rfl (hnp p ps)

end Bashlex.C12

#print axioms Bashlex.C12.C12_partial
#print axioms Bashlex.C12.C12_partial_single
#print axioms Bashlex.C12.C12_only_pipelines
