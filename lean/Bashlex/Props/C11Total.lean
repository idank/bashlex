/-
  Property C11 (error positions) at model level WITHOUT the hypothesis `TokLen`.

  `Props/C11.lean` is conditional on `TokLen` ("the value of a delivered token is not longer than
  the rest of the line from the token's start"), stated from EVERY `Good` state -- including states
  with a character in the tokenizer's `_eol_ungetc_lookahead` slot, about which the token-text
  theorem `C04.tokText` says nothing (with a foreign character in the slot the text relation is
  false).  So `TokLen` is not instantiated; instead C11's state invariant is strengthened by "the
  slot is empty" (`Good4`), which `token()` (`tokText.next`), the semantic actions
  (`C04.keepsEol_action`) and the nested parsers keep, and the lemmas of `Props/C11/Parse.lean` --
  stated for any state invariant that implies `Good` -- are applied to it.  The start states of `parse` / `parsesingle` / nested
  parsers have an empty slot.  Below: every `_conditional` theorem of `Props/C11.lean`, without
  the hypothesis (for parser runs from arbitrary start states: from start states with an empty
  slot, `Start4`).  Last, `AssertionError|ParsingError.__init__` never escapes `split` either
  (`C11_split`): the same pieces -- the token loop of `split` is `token()` + `_expandwordinternal`
  over the nested parser of full depth.
-/
import Bashlex.Props.C11
import Bashlex.Props.C04.TokTextProof
import Bashlex.Props.C04.ActionInv

namespace Bashlex.C11
open Bashlex Bashlex.M Bashlex.C10 Bashlex.LR
-- see `Proofs/ParserLift.lean`
attribute [local irreducible] M.run runParser parse parsesingle split

/-- C11's state invariant together with an empty `_eol_ungetc_lookahead` slot -/
def Good4 (g : Ghost) (l : Local) (e : Env) : Prop := Good g [] l e ∧ l.eolLookahead = none

/-- the slot-empty form of `TokLen`, from `tokText` -/
theorem tokLen4 : ∀ g, WFG g → HT (Good4 g) nextToken (fun t l _ => TL g t ∧ l.eolLookahead = none)
    (fun _ => True) := by
  intro g hg
  exact HT.post (C04.tokText.next g hg) (fun t l e h => ⟨h.1.tl, h.2⟩)

/-- a program that keeps `I` and keeps the slot empty keeps both -/
theorem SatI.and_keepsEol {α : Type} {I : Local → Env → Prop} {m : M α} {φ : α → Prop}
    {E : Exn → Prop} (h : SatI I m φ E) (hk : C10.KeepsEol m) :
    SatI (fun l e => I l e ∧ l.eolLookahead = none) m φ E := by
  intro l e hI
  have a1 := h l e hI.1
  rcases hr : m.run l e with ⟨r, e'⟩
  rw [hr] at a1
  cases r with
  | error x => exact a1
  | ok v => exact ⟨a1.1, a1.2, hk l e v.1 v.2 e' hI.2 hr⟩

section
variable {g : Ghost} {N : Exn → Prop} {np : NestedParse}

/-- `token()` from states with an empty slot -/
theorem nextToken_good4 (hg : WFG g) :
    HT (Good4 g) nextToken (fun t l e => TokOK g t ∧ Good4 g l e) (TopE g) :=
  (ht_and (nextToken_good.pre fun _ _ h => h.1) (tokLen4 g hg)).post
    fun _ _ _ h => ⟨⟨h.1.1, h.2.1⟩, h.1.2, h.2.2⟩

theorem hooks_ok4 (hg : WFG g) (hnp : NPOK g N np) (hk : ∀ s b, C10.KeepsEol (np s b)) :
    HooksOK (Good4 g) (lrHooks np) (VI g) (EN g N) :=
  hooks_ok_of (fun _ _ h => h.1) ((nextToken_good4 hg).exn fun _ h => Or.inl h)
    fun _ args hargs => (g_action hnp _ args hargs).and_keepsEol
      (C04.keepsEol_action hk C04.tokText.gather _ args)

end

/-- the nested parser runs on a parser object of its own: the caller's slot is untouched -/
theorem keepsEol_npOf (inner : M (Option Node)) (s : Str) (b : Bool) :
    C10.KeepsEol (C03.npOf inner s b) := by
  intro l e a l' e' hl hr
  rw [C03.npOf_run] at hr
  split at hr
  · cases hr; exact hl
  · cases hr

theorem npOf_ok4 {inner : M (Option Node)} {Ninner : Ghost → Exn → Prop}
    (hin : ∀ g', WFG g' → SatI (Good4 g') inner (fun _ => True) (Ninner g')) (g : Ghost) :
    NPOK g (fun x => ∃ g', WFG g' ∧ Ninner g' x) (C03.npOf inner) :=
  npOf_ok (fun _ _ _ h => h.1) (fun l s b e => ⟨good_nested l s b e, rfl⟩) hin g

/-- every nesting depth, from states with an empty slot -/
theorem parserRun_good4 :
    ∀ d g, WFG g → SatI (Good4 g) (parserRun d) (fun _ => True) (ExnAt d g) :=
  parserRun_good_of (fun _ _ _ h => h.1) (fun l s b e => ⟨good_nested l s b e, rfl⟩)
    fun _ _ _ hg hnp => hooks_ok4 hg hnp (keepsEol_npOf _)

theorem runParser_exn' {s : Str} {o : Opts} {t : List Char} {x : Exn}
    (h : (runParser s o t).1 = .error x) : ExnAt maxDepth (topGhost s o) x :=
  runParser_sat_error (parserRun_good4 _ _ (topGhost_wf s o)) ⟨good_top s o t, rfl⟩ h

theorem runsGood : RunsGood := fun _ _ _ _ => runParser_exn'

/-! ## the theorems of `Props/C11.lean` without `TokLen` -/

/-- the states a parser starts in, with an empty `_eol_ungetc_lookahead` slot (all start states
    of `parse`, `parsesingle` and of the nested parsers are of this kind) -/
def Start4 (l : Local) (e : Env) : Prop := ∃ g, WFG g ∧ Good g [] l e ∧ l.eolLookahead = none

/-- **(1)** every exception of a parser run, at every nesting depth, from every start state with an
    empty slot -/
theorem C11_parserRun (d : Nat) : HT Start4 (parserRun d) (fun _ _ _ => True) ErrShape :=
  parserRun_shape_of (parserRun_good4 d)

/-- **(1)**, as asked: `AssertionError|ParsingError.__init__` never escapes a parser run -/
theorem no_init_assert (d : Nat) :
    HT Start4 (parserRun d) (fun _ _ _ => True)
      (fun x => x ≠ .foreign "AssertionError" "ParsingError.__init__") :=
  (C11_parserRun d).exn (fun _ h => h.1)

/-- **C11 (model level), `parse`**: every escaping exception has the shape (no hypotheses) -/
theorem C11_parse (s : Str) (o : Opts) {x : Exn} (h : (parse s o).1 = .exn x) : ErrShape x :=
  parse_shape_of runsGood h

theorem C11_parsesingle (s : Str) (o : Opts) {x : Exn} (h : (parsesingle s o).1 = .exn x) :
    ErrShape x :=
  exnAt_shape _ _ _ (runParser_exn' (parsesingle_error h))

/-- **C01 strengthened** (no hypotheses): the exception discipline of C01 without the entry
    `AssertionError|ParsingError.__init__` in `knownForeign` / `tokForeign` -/
theorem C01_partial' (s : Str) (o : Opts) :
    match (parse s o).1 with
    | .parts _ => True
    | .exn x => C01.Disciplined x ∧ x ≠ .foreign "AssertionError" "ParsingError.__init__"
    | _ => False :=
  partial'_of fun _ => C11_parse s o

/-- **(2) C11_toplevel** (no hypotheses): over any nested-parse function `np` that preserves
    `Good`, keeps the slot empty and raises no `ParsingError`, every `ParsingError` of a parser run
    is one of the run's own: classified (`TopParsing`) -/
theorem C11_toplevel {g : Ghost} (hg : WFG g) {np : NestedParse}
    (hnp : NPOK g (fun x => ∀ m src p, x ≠ .parsing m src p) np)
    (hk : ∀ s b, C10.KeepsEol (np s b)) :
    SatI (Good4 g) (parserRunWith np) (fun _ => True)
      (fun x => ∀ m src p, x = .parsing m src p → TopParsing g m src p) :=
  SatI.weaken (level_ok (hooks_ok4 hg hnp hk)) (fun _ h => h) en_own

/-- **(2) C11_first** (no hypotheses) -/
theorem C11_first (s : Str) (o : Opts) {m : String} {src : Str} {p : Int}
    (h : (runParser s o []).1 = .error (.parsing m src p)) :
    TopParsing (topGhost s o) m src p ∨
    ∃ g', WFG g' ∧ ExnAt (maxDepth - 1) g' (.parsing m src p) :=
  runParser_exn' h

/-- **(3)** (no hypotheses): every escaping `ParsingError` of `parse`: "unexpected EOF" is at the
    end of its source; "unexpected token R" is at the `lexpos` of a delivered token `t` with
    `repr(t.value) = R`, and `t` starts inside the line of the parser that delivered it -/
theorem C11_position (s : Str) (o : Opts) {m : String} {src : Str} {p : Int}
    (h : (parse s o).1 = .exn (.parsing m src p)) :
    (m = "unexpected EOF" → p = src.length) ∧
    (∀ r, m = "unexpected token " ++ r →
      ∃ t g', TF g' t ∧ r = tokRepr t ∧ p = (t.lexpos : Nat) ∧ src = g'.source) :=
  position_of runsGood h

/-- **(4)** (no hypotheses) -/
theorem C11_later' (s : Str) (o : Opts) {m : String} {src : Str} {p : Int}
    (h : (parse s o).1 = .exn (.parsing m src p))
    (hfirst : (runParser s o []).1 ≠ .error (.parsing m src p)) :
    ∃ i, 0 < i ∧ i < s.length ∧
      (TopParsing (topGhost (s.drop i) o) m src p ∨
       ∃ g', WFG g' ∧ ExnAt (maxDepth - 1) g' (.parsing m src p)) :=
  later_of runsGood h hfirst

/-! ### `split` -/

section
variable {g : Ghost} {N : Exn → Prop} {np : NestedParse}

/-- word expansion from states with an empty slot -/
theorem expandwordinternal_good4 (hnp : NPOK g N np) (hk : ∀ s b, C10.KeepsEol (np s b))
    (t : Token) (ht : TL g t) (dq : Bool) :
    SatI (Good4 g) (expandwordinternal np t dq) (fun _ => True) (EN g N) :=
  (g_expandwordinternal hnp t ht dq).and_keepsEol (C04.keepsEol_expandwordinternal hk t dq)

theorem splitM_good4 (s : Str) (g : Ghost) (hg : WFG g) :
    SatI (Good4 g) (splitM s) (fun _ => True) (ExnAt (maxDepth + 1) g) :=
  HT.post (splitM_sat (T := TokOK g) s (sati_tapeLine.post fun _ _ _ h => h.2)
      (sati_tapeAdded.post fun _ _ _ h => h.2) ((nextToken_good4 hg).exn fun _ h => Or.inl h)
      (fun t dq ht => (expandwordinternal_good4 (npOf_ok4 (parserRun_good4 _) g)
        (keepsEol_npOf _) t ht.2 dq).post fun _ _ _ h => h.2)
      (fun _ _ _ _ => Or.inl (topE_foreign rfl)) (Or.inl topE_fuel))
    fun _ _ _ h => ⟨trivial, h⟩

/-- **`AssertionError|ParsingError.__init__` never escapes `split`** (and every `ParsingError` of
    `split` carries a position inside its source) -/
theorem C11_split (s : Str) {x : Exn} (h : (split s).1 = .exn x) : ErrShape x :=
  exnAt_shape _ _ _
    (split_sat_error (splitM_good4 s _ (topGhost_wf s {})) ⟨good_top s {} [], rfl⟩ h)

end
end Bashlex.C11

#print axioms Bashlex.C11.parserRun_good4
#print axioms Bashlex.C11.C11_parserRun
#print axioms Bashlex.C11.no_init_assert
#print axioms Bashlex.C11.C11_parse
#print axioms Bashlex.C11.C11_parsesingle
#print axioms Bashlex.C11.C01_partial'
#print axioms Bashlex.C11.C11_toplevel
#print axioms Bashlex.C11.C11_first
#print axioms Bashlex.C11.C11_position
#print axioms Bashlex.C11.C11_later'
