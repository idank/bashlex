/-
  Property C05 (token-level half) at model level WITHOUT the hypothesis `RootEnds`: the run-time
  check of `Props/C03/RootEnds.lean` (`parserRunK`, `parseK`, the decidable per-input condition
  `C03.rootEndsChecked s o`) takes its place.  Same statements as `Props/C05Token.lean`; they are
  what `C05_parts_final` (`Props/C05Final.lean`) says of every run, with the invariant of the run
  weakened to `TLog` (`PartsFrom.ofI`).
-/
import Bashlex.Props.C05Final

namespace Bashlex.C05
open Bashlex Bashlex.Spec Bashlex.Node Bashlex.M Bashlex.LR Bashlex.C12 Bashlex.C03
set_option linter.unusedVariables false

theorem PartsFrom.ofI {TLf : Str → List Token → Nat → Nat → Local → Env → Prop}
    {TL : List Token → Nat → Nat → Local → Env → Prop} {s : Str}
    (hm : ∀ s0 tr len f l e, TLf s0 tr len f l e → TL tr len f l e) :
    ∀ {i ps}, PartsI TLf s i ps → PartsFrom TL s i ps := by
  intro i ps h
  induction h with
  | done i _ => exact .nil i
  | stop i _ => exact .nil i
  | cons hi hrun _ ih =>
    obtain ⟨h1, ts, la, F, l', e', h2, h3, h4, h5, _⟩ := hrun
    exact .cons hi ⟨h1, ts, la, F, l', e', hm _ _ _ _ _ _ h2, h3, h4, h5⟩ ih

/-- **C05 (model level, token-level half), `parse`, for the real tokenizer, without hypothesis**:
    under the decidable per-input condition `C03.rootEndsChecked s o`, the parts `parse` returns
    are the successive parser runs' results and the leaves of each are covered by the tokens
    delivered to its run -/
theorem C05_total_checked (s : Str) (o : Opts) (parts : List Node)
    (hc : C03.rootEndsChecked s o = true) (h : (parse s o).1 = .parts parts) :
    PartsFrom TLog s 0 parts :=
  .ofI (fun _ _ _ _ _ _ h => h.1.1) (C05_parts_final s o parts hc h)

/-- **C05, token level, spatially**, for the real tokenizer, without hypothesis -/
theorem C05_total_tokens_in_leaves_checked (s : Str) (o : Opts) (parts : List Node)
    (hc : C03.rootEndsChecked s o = true) (h : (parse s o).1 = .parts parts) : ∀ part ∈ parts,
      ∃ k n, k ≤ s.length ∧ part = n.shift k ∧
        ∃ ts la F l e, TLog (ts ++ la) (s.drop k).length F l e ∧ la.length ≤ 1 ∧ TokSorted ts ∧
          (∀ t ∈ ts, Droppable t ∨ IsTimeTok t ∨ InLeaf t (Spec.leaves n)) ∧
          (∀ x ∈ Spec.leaves n, (∃ t ∈ ts, x.1.1 = t.lexpos) ∨ x.2 = true ∨ x.1 = (0, 0)) := by
  intro part hp
  have hpf : PartsFrom (TLs TLog) s 0 parts :=
    .ofI (fun _ _ _ _ _ _ h => ⟨h.1.1, h.2⟩) (C05_parts_final s o parts hc h)
  obtain ⟨k, n, _, hk, rfl, hrun⟩ := hpf.mem part hp
  obtain ⟨ts, la, F, l, e, htl, hla, _, hs, hcv, hin⟩ := runOK_sorted hrun
  exact ⟨k, n, hk, rfl, ts, la, F, l, e, htl, hla, hs, hin, leaf_starts_at_token hcv⟩

end Bashlex.C05

#print axioms Bashlex.C05.C05_total_checked
#print axioms Bashlex.C05.C05_total_tokens_in_leaves_checked
