/-
  Termination of the LR engine loop (monadic): `engine_terminates`.

  For EVERY token source and EVERY family of semantic actions that respect a token budget
  `β : Local → Env → Nat` (a state measure: fetching a token other than the end marker costs at
  least one unit, semantic actions do not raise it) the variant

      μ c = pot c.stack + K · (β + [the look-ahead slot holds a token other than `$end`])

  strictly decreases with every iteration of `step`.  Hence `run T H fuel` with
  `rk 0 + K · β < fuel` never raises `outOfFuel "LRParser.parse"` of its own: the number of
  iterations is at most `rk 0 + K · (number of tokens the source can still deliver)`.
-/
import Bashlex.Props.C01Engine.Potential
import Bashlex.LR.Moves
import Bashlex.Props.C01.Basic

namespace Bashlex
namespace M

/-- name the value of a state measure -/
theorem SatS.intro_nat {α : Type} {m : M α} {P : Local → Env → Prop}
    {Q : α → Local → Env → Prop} {E : Exn → Prop} (g : Local → Env → Nat)
    (h : ∀ n, SatS m (fun l e => P l e ∧ g l e = n) Q E) : SatS m P Q E := by
  intro l e hp; exact h (g l e) l e ⟨hp, rfl⟩

end M

namespace LR
open M

variable {V : Type}

/-- 1 if the look-ahead is a token other than the end marker -/
def tokCost (T : Tables) (a : Nat) : Nat := if a = T.endTok then 0 else 1

def laFlag (T : Tables) : Option (Nat × V) → Nat
  | none => 0
  | some la => tokCost T la.1

/-- the hooks respect a token budget: `J n l e` = "the state of the parser object is fine and the
    token source can deliver at most `n` more tokens other than the end marker" (a GHOST index:
    `J` may be any family of state predicates, e.g. `J n l e := J₀ l e ∧ β l e ≤ n` for a state
    measure `β`, or an invariant that hides a frontier) -/
structure HooksBudget (T : Tables) (H : Hooks V) (J : Nat → Local → Env → Prop)
    (E : Exn → Prop) : Prop where
  /-- a token other than the end marker costs at least one unit of the budget -/
  next : ∀ n, SatS H.next (J n) (fun la l e => ∃ n', n' + tokCost T la.1 ≤ n ∧ J n' l e) E
  /-- semantic actions do not raise the budget -/
  act : ∀ p args n, SatS (H.act p args) (J n) (fun _ l e => ∃ n', n' ≤ n ∧ J n' l e) E
  onError : ∀ la n, SatS (H.onError la) (J n) (fun _ _ _ => True) E

/-- exceptions of the engine with termination proved: those of the hooks and the unmodelled
    error recovery — NOT `outOfFuel "LRParser.parse"` (unless a hook raises it) -/
def TermExn (E : Exn → Prop) (x : Exn) : Prop :=
  E x ∨ x = .foreign "NotModelled" "LRParser.parse(error recovery)"

section
variable {R : Raw} {wS rk : Nat → Nat} {B : Nat} {H : Hooks V}
  {J : Nat → Local → Env → Prop} {E : Exn → Prop}

theorem arith_shift {K p p' b m f : Nat} (h1 : p' + 1 ≤ p + K) (h2 : b + 1 ≤ m + f) :
    p' + K * (b + 0) < p + K * (m + f) := by
  have h3 : K * (b + 1) ≤ K * (m + f) := Nat.mul_le_mul_left K h2
  rw [Nat.mul_add, Nat.mul_one] at h3
  rw [Nat.add_zero]
  omega

theorem arith_red {K p p' b m2 fl m f : Nat} (h1 : p' < p) (h2 : b ≤ m2) (h3 : m2 + fl ≤ m + f) :
    p' + K * (b + fl) < p + K * (m + f) := by
  have h4 : K * (b + fl) ≤ K * (m + f) := Nat.mul_le_mul_left K (by omega)
  omega

theorem popN_append_rev (xs : List (Entry V)) (rest : Stack V) :
    popN xs.length (xs ++ rest) = some (xs.reverse, rest) := by
  induction xs with
  | nil => rfl
  | cons x xs ih => simp [popN, ih]

/-- for a judgement `S n` indexed by a budget `n`: some budget is left, `S` holds at it, and the
    variant `pot + (B+1)·(budget + look-ahead flag)`, plus `d`, is at most `N` -/
def VarLe (R : Raw) (wS rk : Nat → Nat) (B : Nat)
    (S : Nat → List Nat → Stack V → Option (Nat × V) → Local → Env → Prop) (d N : Nat)
    (cs : List Nat) (stk : Stack V) (la : Option (Nat × V)) (l : Local) (e : Env) : Prop :=
  ∃ n, pot wS rk stk + (B + 1) * (n + laFlag R.toTables la) + d ≤ N ∧ S n cs stk la l e

/-- **one iteration of the engine strictly decreases the variant**: if `S n` is closed under the
    engine's moves at every budget `n` and fetching a token other than the end marker costs a
    unit, then a step leads from "variant ≤ N" to "variant < N".  A shift pays `(B+1)` for at most
    `B` of potential (`pot_shift`; the end marker is never shifted), a reduction lowers the
    potential (`pot_reduce`) -/
theorem moves_budget (hc : R.check = true) (hk : R.rankCheck wS rk = true)
    (hB : ∀ t, wS t + rk t ≤ B)
    {S : Nat → List Nat → Stack V → Option (Nat × V) → Local → Env → Prop}
    {Fin : List Nat → Tree → V → Local → Env → Prop} {Blank : List Nat → Local → Env → Prop}
    (hM : ∀ n, Moves R.toTables (· ∈ R.reach) H (S n) (S n) Fin Blank E)
    (hnext : ∀ n cs stk, StackOK R.toTables (· ∈ R.reach) stk → SatS H.next (S n cs stk none)
      (fun la l e => ∃ n', n' + tokCost R.toTables la.1 ≤ n ∧ S n' cs stk (some la) l e) E)
    (N : Nat) :
    Moves R.toTables (· ∈ R.reach) H (VarLe R wS rk B S 0 N) (VarLe R wS rk B S 1 N)
      Fin Blank E where
  next cs stk hok := SatS.exists_pre fun m => SatS.assume fun hle =>
    (hnext m cs stk hok).post (fun la l e ⟨n', hn, hs⟩ => ⟨n', by
      have := Nat.mul_le_mul_left (B + 1) hn
      simp only [laFlag, Nat.add_zero] at hle ⊢; omega, hs⟩)
  blank cs la l e hla := fun ⟨m, _, hs⟩ => (hM m).blank cs la l e hla hs
  shiftNl cs la t l e hact hnl := fun ⟨m, hle, hs⟩ => ⟨m, by
    have hne : la.1 ≠ R.endTok := Raw.noShiftEnd hk (Raw.check_sound hc).reach0 hact
    have hcost : tokCost R.toTables la.1 = 1 := by simp only [tokCost, Raw.toTables]; exact if_neg hne
    have := arith_shift (K := B + 1) (p' := pot wS rk ([] : Stack V)) (p := pot wS rk ([] : Stack V))
      (b := m) (m := m) (f := 1) (by omega) (Nat.le_refl _)
    simp only [laFlag, hcost] at hle ⊢; omega, (hM m).shiftNl cs la t l e hact hnl hs⟩
  shift cs stk la t l e hok hact := fun ⟨m, hle, hs⟩ => ⟨m, by
    have hne : la.1 ≠ R.endTok :=
      Raw.noShiftEnd hk (reach_top (Raw.check_sound hc) hok.1) hact
    have hcost : tokCost R.toTables la.1 = 1 := by simp only [tokCost, Raw.toTables]; exact if_neg hne
    have := arith_shift (K := B + 1) (b := m) (m := m) (f := 1)
      (Nat.succ_le_succ (pot_shift (wS := wS) (rk := rk) hB stk t (.leaf la.1) la.2)) (Nat.le_refl _)
    simp only [laFlag, hcost] at hle ⊢; omega, (hM m).shift cs stk la t l e hok hact hs⟩
  reduce cs p lhs es rest t la hok hprod hg hred := by
    refine SatS.exists_pre fun m => SatS.assume fun hle => ?_
    have hr := reach_top (Raw.check_sound hc) hok.1
    have hrank : R.rankRed wS rk (topState (es.reverse ++ rest)) p = true :=
      hred.elim (Raw.rankRed_of_dflt hk hr) (fun ⟨x, _, ha⟩ => Raw.rankRed_of_action hk hr ha)
    have hpop : popN (es.map (·.tree.root)).length (es.reverse ++ rest) = some (es, rest) := by
      simpa using popN_append_rev es.reverse rest
    refine ((hM m).reduce cs p lhs es rest t la hok hprod hg hred).post ?_
    rintro ⟨v, b⟩ l e hs
    cases b with
    | true => exact hs
    | false =>
      have := arith_red (K := B + 1) (b := m) (m2 := m) (fl := laFlag R.toTables la)
        (pot_reduce hc hok.1 hprod hrank hpop hg (.node p lhs (es.map (·.tree))) v)
        (Nat.le_refl _) (Nat.le_refl _)
      refine ⟨m, ?_, hs⟩
      dsimp only at this ⊢; omega
  accept cs top rest la l e hok hact := fun ⟨m, _, hs⟩ => (hM m).accept cs top rest la l e hok hact hs
  onError cs stk la hok hact := SatS.exists_pre fun m => SatS.assume fun _ =>
    (hM m).onError cs stk la hok hact

/-- hence the loop started with budget `m` and `rk 0 + (B+1)·m < fuel` does not run out of fuel
    (`E` need not contain that exception) -/
theorem run_budget (hc : R.check = true) (hk : R.rankCheck wS rk = true)
    (hB : ∀ t, wS t + rk t ≤ B)
    {S : Nat → List Nat → Stack V → Option (Nat × V) → Local → Env → Prop}
    {Fin : List Nat → Tree → V → Local → Env → Prop} {Blank : List Nat → Local → Env → Prop}
    (hM : ∀ n, Moves R.toTables (· ∈ R.reach) H (S n) (S n) Fin Blank E)
    (hnext : ∀ n cs stk, StackOK R.toTables (· ∈ R.reach) stk → SatS H.next (S n cs stk none)
      (fun la l e => ∃ n', n' + tokCost R.toTables la.1 ≤ n ∧ S n' cs stk (some la) l e) E)
    (fuel m : Nat) (hfuel : rk 0 + (B + 1) * m < fuel) :
    SatS (run R.toTables H fuel) (S m [] [] none) (GoodM R.toTables Fin Blank) E := by
  unfold run
  refine (SatS.loop_ghost
    (I := fun c N => InvM R.toTables (· ∈ R.reach) (VarLe R wS rk B S 0 N) c)
    (fun c N => (step_moves (Raw.check_sound hc) (moves_budget hc hk hB hM hnext N) c).post ?_)
    fuel {} (rk 0 + (B + 1) * m) hfuel).pre ?_
  · rintro (c' | res) l e h
    · obtain ⟨hok, m', hle, hs⟩ := h
      exact ⟨_, hle, hok, m', Nat.le_refl _, hs⟩
    · exact h
  · intro l e hs
    exact ⟨⟨True.intro, True.intro⟩, m, by simp [pot, sumW, topState, laFlag], hs⟩

/-- **engine_terminates**: for every token source and all semantic actions respecting a token
    budget, the engine started with budget `m` and `rk 0 + (B+1)·m < fuel` performs at most
    `rk 0 + (B+1)·m` iterations: it raises nothing but what its hooks raise and the unmodelled
    error recovery; `outOfFuel "LRParser.parse"` is impossible.  The state invariant of the
    hooks holds (with some budget) at every normal return. -/
theorem engine_terminates (hc : R.check = true) (hk : R.rankCheck wS rk = true)
    (hB : ∀ t, wS t + rk t ≤ B) (hH : HooksBudget R.toTables H J E) (fuel m : Nat)
    (hfuel : rk 0 + (B + 1) * m < fuel) :
    SatS (run R.toTables H fuel) (J m) (fun _ l e => ∃ m', J m' l e) (TermExn E) := by
  -- the judgement at budget `n`: `J` holds at some budget below `n`, whatever the stack
  have hM : ∀ n, Moves R.toTables (· ∈ R.reach) H (fun _ _ _ l e => ∃ n', n' ≤ n ∧ J n' l e)
      (fun _ _ _ l e => ∃ n', n' ≤ n ∧ J n' l e) (fun _ _ _ l e => ∃ m', J m' l e)
      (fun _ l e => ∃ m', J m' l e) (TermExn E) := fun n =>
    { next := fun _ _ _ => SatS.exists_pre fun n' => SatS.assume fun hn =>
        (hH.next n').weaken (fun _ _ hj => hj)
          (fun _ _ _ ⟨n'', h, hj⟩ => ⟨n'', by omega, hj⟩) (fun _ => Or.inl)
      blank := fun _ _ _ _ _ ⟨n', _, hj⟩ => ⟨n', hj⟩
      shiftNl := fun _ _ _ _ _ _ _ hs => hs
      shift := fun _ _ _ _ _ _ _ _ hs => hs
      reduce := fun _ p _ _ _ _ _ _ _ _ _ => SatS.exists_pre fun n' => SatS.assume fun hn =>
        (hH.act p _ n').weaken (fun _ _ hj => hj)
          (fun r _ _ ⟨n'', h, hj⟩ => by
            cases r.2 with
            | true => exact ⟨n'', hj⟩
            | false => exact ⟨n'', by omega, hj⟩) (fun _ => Or.inl)
      accept := fun _ _ _ _ _ _ _ _ ⟨n', _, hj⟩ => ⟨n', hj⟩
      onError := fun _ _ la _ _ => SatS.exists_pre fun n' => SatS.assume fun _ =>
        (hH.onError la n').weaken (fun _ _ hj => hj) (fun _ _ _ _ => Or.inr rfl) (fun _ => Or.inl) }
  refine (run_budget hc hk hB hM (fun n _ _ _ => SatS.exists_pre fun n' => SatS.assume fun hn =>
    (hH.next n').weaken (fun _ _ hj => hj)
      (fun _ _ _ ⟨n'', h, hj⟩ => ⟨n'', by omega, n'', Nat.le_refl _, hj⟩) (fun _ => Or.inl))
    fuel m hfuel).weaken (fun _ _ hj => ⟨m, Nat.le_refl _, hj⟩) ?_ (fun _ hx => hx)
  rintro (_ | _) l e hg
  · exact hg.2
  · exact hg

/-- the same for a state measure `β : Local → Env → Nat` (fetching a token other than the end
    marker lowers it, actions do not raise it) -/
theorem engine_terminates_measure (hc : R.check = true) (hk : R.rankCheck wS rk = true)
    (hB : ∀ t, wS t + rk t ≤ B) {J₀ : Local → Env → Prop} {β : Local → Env → Nat}
    (hnext : ∀ n, SatS H.next (fun l e => J₀ l e ∧ β l e = n)
      (fun la l e => J₀ l e ∧ β l e + tokCost R.toTables la.1 ≤ n) E)
    (hact : ∀ p args n, SatS (H.act p args) (fun l e => J₀ l e ∧ β l e = n)
      (fun _ l e => J₀ l e ∧ β l e ≤ n) E)
    (herr : ∀ la, SatS (H.onError la) J₀ (fun _ _ _ => True) E) (fuel : Nat) :
    SatS (run R.toTables H fuel) (fun l e => J₀ l e ∧ rk 0 + (B + 1) * β l e < fuel)
      (fun _ l e => J₀ l e) (TermExn E) := by
  have hH : HooksBudget R.toTables H (fun n l e => J₀ l e ∧ β l e ≤ n) E := by
    refine ⟨?_, ?_, ?_⟩
    · intro n
      refine SatS.intro_nat β (fun k => ?_)
      refine SatS.pre (P := fun l e => k ≤ n ∧ (J₀ l e ∧ β l e = k)) ?_
        (fun l e h => ⟨by rw [← h.2]; exact h.1.2, h.1.1, h.2⟩)
      refine SatS.assume (fun hk' => (hnext k).post ?_)
      rintro la l e ⟨h1, h2⟩
      exact ⟨β l e, by omega, h1, Nat.le_refl _⟩
    · intro p args n
      refine SatS.intro_nat β (fun k => ?_)
      refine SatS.pre (P := fun l e => k ≤ n ∧ (J₀ l e ∧ β l e = k)) ?_
        (fun l e h => ⟨by rw [← h.2]; exact h.1.2, h.1.1, h.2⟩)
      refine SatS.assume (fun hk' => (hact p args k).post ?_)
      rintro r l e ⟨h1, h2⟩
      exact ⟨β l e, by omega, h1, Nat.le_refl _⟩
    · intro la n
      exact (herr la).pre (fun _ _ h => h.1)
  intro l e hp
  have h := engine_terminates (wS := wS) (rk := rk) hc hk hB hH fuel (β l e) hp.2 l e
    ⟨hp.1, Nat.le_refl _⟩
  revert h
  rcases (run R.toTables H fuel).run l e with ⟨r, e'⟩
  cases r with
  | ok v => exact fun ⟨_, h, _⟩ => h
  | error x => exact fun h => h

end
end LR
end Bashlex
