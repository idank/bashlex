/-
  Termination of the LR engine loop, relational form: `engine_terminates_ord`.

  `engine_terminates` (Engine.lean) asks the hooks to keep a state invariant `J n` that does not
  depend on the stack.  The invariants the real parser keeps are RELATIONAL (`LR/SoundOrd.lean`:
  `SI vs la l e` speaks about the (symbol, value) pairs on the stack, the look-ahead and the state
  of the parser object; C03's `spans_hooks`, C05's `leaves_hooks`).  Here the budget is a ghost
  index of such an invariant: for every `n`, `SI n` is closed under the engine's moves
  (`HooksOrd`, as proved by those developments for any tokenizer invariant), and fetching a token
  other than the end marker moves from `SI n` to `SI n'` with `n' + 1 ≤ n`: an instance of
  `run_budget` through `moves_ordC`.
-/
import Bashlex.Props.C01Engine.Engine
import Bashlex.LR.SoundOrd

namespace Bashlex
namespace LR
open M

variable {V : Type}

/-- a budget-indexed relational invariant, closed under the engine's moves -/
structure HooksOrdT (T : Tables) (H : Hooks V)
    (SI : Nat → List (Nat × V) → Option (Nat × V) → Local → Env → Prop)
    (Fin : V → Local → Env → Prop) (E : Exn → Prop) : Prop where
  /-- at a fixed budget: shifts, actions, acceptance (and a `next` that does not raise it) -/
  ord : ∀ n, HooksOrd T H (SI n) Fin E
  /-- fetching a token other than the end marker costs one unit -/
  next : ∀ n vs, SatS H.next (SI n vs none)
    (fun la l e => ∃ n', n' + tokCost T la.1 ≤ n ∧ SI n' vs (some la) l e) E

section
variable {R : Raw} {wS rk : Nat → Nat} {B : Nat} {H : Hooks V}
  {SI : Nat → List (Nat × V) → Option (Nat × V) → Local → Env → Prop}
  {Fin : V → Local → Env → Prop} {E : Exn → Prop}

/-- what `doReduce` does to the state stack and the look-ahead slot, whatever the hooks do -/
theorem doReduce_pot (hc : R.check = true) (c : Cfg V) (p : Nat)
    (hp : PathOK R.toTables (· ∈ R.reach) c.stack) (hv : AllValid R.toTables c.stack)
    (hb : ∃ lhs rhs, R.toTables.prods[p]? = some (lhs, rhs) ∧
          BackOK R.toTables (· ∈ R.reach) R.accOf (topState c.stack) rhs.reverse lhs)
    (hred : R.rankRed wS rk (topState c.stack) p = true) :
    Sat (doReduce R.toTables H c p)
      (fun r => match r with
        | .inl c' => pot wS rk c'.stack < pot wS rk c.stack ∧ c'.la = c.la
        | .inr _ => True) (fun _ => True) := by
  have hwf := Raw.check_sound hc
  obtain ⟨lhs, rhs, hprod, hback⟩ := hb
  obtain ⟨es, rest, t, hpop, _, _, _, _, hg, _, _, _, _⟩ :=
    pop_of_back hwf rhs.reverse c.stack lhs hp hv hback
  simp only [List.length_reverse] at hpop
  have hprod' : R.prods[p]? = some (lhs, rhs) := hprod
  have hg' : R.goto (topState rest) lhs = some t := hg
  unfold doReduce
  simp only [hprod, hpop]
  refine Sat.bind (Sat.trivial _) ?_
  rintro ⟨v, accept⟩ _
  simp only [hg]
  by_cases hacc : accept = true
  · simp only [hacc, if_true]
    exact Sat.pure True.intro
  · simp only [hacc]
    exact Sat.pure ⟨pot_reduce hc hp hprod' hred hpop hg' _ _, rfl⟩

/-- **engine_terminates_ord**: `run_sound_ord` with termination.  Started in a state satisfying
    `SI m [] none` with `rk 0 + (B+1)·m < fuel`, the engine returns a value satisfying `Fin` or
    raises what its hooks raise (or the unmodelled error recovery) — never
    `outOfFuel "LRParser.parse"`. -/
theorem engine_terminates_ord (hc : R.check = true) (hk : R.rankCheck wS rk = true)
    (hB : ∀ t, wS t + rk t ≤ B) (hH : HooksOrdT R.toTables H SI Fin E) (fuel m : Nat)
    (hfuel : rk 0 + (B + 1) * m < fuel) :
    SatS (run R.toTables H fuel) (SI m [] none) (GoodO Fin) (TermExn E) :=
  (run_budget hc hk hB
    (fun n => moves_ordC (E' := TermExn E) (Raw.check_sound hc) (fun _ _ _ _ => trivial)
      ((hH.ord n).toH (A := fun _ => True)).toB.toC (fun _ => Or.inl) (Or.inr rfl))
    (fun n _ stk _ => (hH.next n (symVals stk)).weaken (fun _ _ hs => hs) (fun _ _ _ hq => hq)
      (fun _ => Or.inl)) fuel m hfuel).post (fun res _ _ hg => by
    cases res with
    | accepted => exact hg.2
    | blank => trivial)

end
end LR
end Bashlex
