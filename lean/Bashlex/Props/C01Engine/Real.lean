/-
  Termination of the LR engine loop: the certificate `Gen.weightCert`/`Gen.rankCert`
  (regenerated by `tools/lrrank.py`) passes `rankCheck` on the regenerated tables — evaluated by
  the kernel; nothing about how it was found is trusted.
-/
import Bashlex.Gen.Rank
import Bashlex.LR.Real
import Bashlex.Props.C01Engine.Potential

namespace Bashlex.LR

def realW (s : Nat) : Nat := Gen.weightCert.getD s 0
def realRk (s : Nat) : Nat := Gen.rankCert.getD s 0

def maxL : List Nat → Nat
  | [] => 0
  | x :: xs => max x (maxL xs)

theorem getD_le_maxL : ∀ (l : List Nat) (i : Nat), l.getD i 0 ≤ maxL l
  | [], i => by simp [maxL]
  | x :: xs, 0 => by simp only [List.getD_cons_zero, maxL]; exact Nat.le_max_left _ _
  | x :: xs, i + 1 => by
    simp only [List.getD_cons_succ, maxL]
    exact Nat.le_trans (getD_le_maxL xs i) (Nat.le_max_right _ _)

/-- bound on `weight + rank` of any state -/
def realB : Nat := maxL Gen.weightCert + maxL Gen.rankCert

theorem realB_bound (t : Nat) : realW t + realRk t ≤ realB := by
  -- unfolded by `rw`: left to the defeq check, `realB` is evaluated on the certificates
  rw [realB, realW, realRk]
  exact Nat.add_le_add (getD_le_maxL _ _) (getD_le_maxL _ _)

/-- the constant of the bound: every shift raises the potential by less than `realK` -/
def realK : Nat := realB + 1

theorem realK_val : realK = 16 ∧ realRk 0 = 0 := by decide +kernel

/-- the bound on the number of iterations for a token budget `m` (one more iteration may follow:
    the engine started with budget 0 fetches `$end` and returns) -/
def realBound (m : Nat) : Nat := realRk 0 + realK * m

/-- with the tables as they are: `C = 16` -/
theorem realBound_val (m : Nat) : realBound m = 16 * m := by
  unfold realBound
  rw [realK_val.1, realK_val.2]; omega

theorem realBound_mono {m m' : Nat} (h : m ≤ m') : realBound m ≤ realBound m' :=
  Nat.add_le_add_left (Nat.mul_le_mul_left _ h) _

theorem le_realBound (m : Nat) : m ≤ realBound m := by
  rw [realBound, realK]
  exact Nat.le_trans (Nat.le_mul_of_pos_left m (Nat.add_one_pos realB)) (Nat.le_add_left ..)

/-- **the termination certificate is valid for the regenerated tables**: the kernel evaluates the
    check with weights and ranks read from 8-bit fields of two numbers (`LR/Pack.lean`) instead of
    from the lists -/
theorem real_rankCheck : realRaw.rankCheck realW realRk = true := by
  have hw : Gen.weightCert.all (fun a => decide (a < 2 ^ 8)) = true := by decide +kernel
  have hr : Gen.rankCert.all (fun a => decide (a < 2 ^ 8)) = true := by decide +kernel
  have h : realRaw.rankCheckP (row 8 (pack 8 Gen.weightCert)) (row 8 (pack 8 Gen.rankCert)) = true := by
    decide +kernel
  rw [funext (row_pack_lt hw), funext (row_pack_lt hr)] at h
  exact Raw.rankCheckP_sound h

end Bashlex.LR
