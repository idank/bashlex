/-
  Termination of the LR engine loop: the semantic actions (and word expansion) raise the engine's
  fuel marker only if the nested parser they are given does.

  `AE B np x`: `x` is not `outOfFuel "LRParser.parse"`, or some call of `np` on a string shorter
  than `B` raises it.  `act_exn`: `Sat (action np f args) (fun _ => True) (AE (argsBound args) np)`
  for every action function, all arguments, every state: the walk of `ActWalk.lean` with the length
  as measure; `gatherheredocuments` and `token()` raise only `C01.TokExn`, which excludes the marker.
-/
import Bashlex.Props.C01Engine.ActWalk

namespace Bashlex.C01E
open Bashlex Bashlex.M Bashlex.C01

/-- anything but the fuel marker of the engine loop -/
def NoLRFuel (x : Exn) : Prop := x ≠ .outOfFuel "LRParser.parse"

theorem noLRFuel_site {site : String} (h : site ≠ "LRParser.parse") :
    NoLRFuel (.outOfFuel site) := fun h' => h (Exn.outOfFuel.inj h')

theorem noLRFuel_tokExn {x : Exn} (h : TokExn x) : NoLRFuel x := by
  rcases h with ⟨m, s, p, rfl⟩ | h | ⟨site, rfl, h⟩
  · intro h'; cases h'
  · intro h'; subst h'; simp [tokForeign] at h
  · refine noLRFuel_site ?_
    intro h'; subst h'; simp [tokFuel] at h

/-- an exception some call of the nested parser on a string SHORTER than `B` raises -/
def NpExn (B : Nat) (np : NestedParse) (x : Exn) : Prop :=
  ∃ s b l e e', s.length < B ∧ (np s b).run l e = (.error x, e')

/-- not the marker, or raised by the nested parser on a string shorter than `B` -/
def AE (B : Nat) (np : NestedParse) (x : Exn) : Prop := NoLRFuel x ∨ NpExn B np x

theorem AE.mono {B B' : Nat} {np : NestedParse} {x : Exn} (h : AE B np x) (hB : B ≤ B') :
    AE B' np x := by
  rcases h with h | ⟨s, b, l, e, e', h1, h2⟩
  · exact Or.inl h
  · exact Or.inr ⟨s, b, l, e, e', by omega, h2⟩

abbrev ASat (B : Nat) (np : NestedParse) {α : Type} (m : M α) : Prop :=
  Sat m (fun _ => True) (AE B np)

variable {np : NestedParse} {B : Nat}

theorem nestOK (np : NestedParse) (B : Nat) : NestOK np List.length B (AE B np) where
  np s b h l e := by
    rcases hr : (np s b).run l e with ⟨r, e'⟩
    cases r with
    | ok v => exact True.intro
    | error x => exact Or.inr ⟨s, b, l, e, e', h, hr⟩
  tok x h := Or.inl (noLRFuel_tokExn h)
  notFuel x h := Or.inl (h _)
  loop := Or.inl (noLRFuel_site (by decide))
  slice_le s a b := by
    simp only [Str.slice, List.length_drop, List.length_take]; omega
  drop_lt {s i k c} hc _ hik := by
    have := (List.getElem?_eq_some_iff.mp hc).1
    rw [List.length_drop]; omega

theorem ae_mkParsingError {m s p} : AE B np (mkParsingError m s p) :=
  walk_parsingError (nestOK np B)

theorem asat_of_tok {α : Type} {m : M α} (h : TSat m) : ASat B np m :=
  walk_of_tok (nestOK np B) h

theorem asat_map {α β : Type} {m : M α} {f : α → β} (h : ASat B np m) : ASat B np (f <$> m) :=
  Sat.map h

theorem asat_expandwordinternal (tok : Token) (qd : Bool) :
    ASat tok.valueStr.length np (expandwordinternal np tok qd) :=
  walk_expandwordinternal (nestOK np _) tok qd (Nat.le_refl _)

/-- the longest token value among the arguments -/
def argsBound : List SVal → Nat
  | [] => 0
  | .tok t :: rest => max t.valueStr.length (argsBound rest)
  | _ :: rest => argsBound rest

theorem argsBound_mem {t : Token} : ∀ {args : List SVal}, SVal.tok t ∈ args →
    t.valueStr.length ≤ argsBound args
  | [], h => by cases h
  | a :: rest, h => by
    rcases List.mem_cons.mp h with h | h
    · subst h; simp only [argsBound]; exact Nat.le_max_left _ _
    · have := argsBound_mem h
      cases a <;> simp only [argsBound] <;> omega

/-- **every action function raises the engine's fuel marker only if the nested parser does, on a
    string shorter than one of the token values among its arguments** -/
theorem act_exn (fname : String) (args : List SVal) :
    ASat (argsBound args) np (action np fname args) :=
  walk_action (nestOK np _) fname (fun _ h => argsBound_mem h)

end Bashlex.C01E
