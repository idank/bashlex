/-
  Termination of the LR engine loop: `TokValLen` discharged.

  The value of a delivered token fits into the line: `C04.tokText` (`TT.len`), which is stated for
  C11's tokenizer invariant `Good g []` (line and `_added_newline` flag pinned by the ghost `g`,
  look-ahead slot empty).  The family `TIg g n := TIb n ∧ Good g []` is again a budget-indexed
  family the parser keeps (`C11.nextToken_good`, `C11.gather_good`; everything else leaves the
  tape alone), so `real_hooksOrdB_v` applies to it without `TokValLen`:
  **`parserRun_noLRFuel_rootEnds'`** — the only hypothesis left is `RootEnds`.
-/
import Bashlex.Props.C01Engine.RealLift
import Bashlex.Props.C04.TokTextProof

namespace Bashlex.C01E
open Bashlex Bashlex.Spec Bashlex.Node Bashlex.M Bashlex.LR Bashlex.C12 Bashlex.C03 Bashlex.C10
  Bashlex.C01
-- see `Proofs/ParserLift.lean`
attribute [local irreducible] M.run runParser parse parsesingle split

/-- C03's tokenizer invariant with a budget, and C11's with the line pinned -/
def TIg (g : C11.Ghost) (n len f : Nat) (l : Local) (e : Env) : Prop :=
  TIb n len f l e ∧ C11.Good g [] l e

/-- `Good` only looks at the tape, the look-ahead slot, the position stack and the options -/
theorem good_upd {g : C11.Ghost} {ps : List Nat} {l l' : Local} {e : Env}
    (h : C11.Good g ps l e) (h1 : l'.tape = l.tape) (h2 : l'.eolLookahead = l.eolLookahead)
    (h3 : l'.positions = l.positions) (h4 : l'.opts = l.opts) : C11.Good g ps l' e := by
  have ht : tapeOf l' e = tapeOf l e := by unfold tapeOf; rw [h1]
  have hs : strictOf l' e = strictOf l e := by unfold strictOf; rw [h4]
  unfold C11.Good C11.Base C11.Frame at h ⊢
  rw [ht, hs, h1, h2, h3]
  exact h

theorem satS_of_HT {α : Type} {P : Local → Env → Prop} {m : M α} {Q : α → Local → Env → Prop}
    {E : Exn → Prop} (h : C11.HT P m Q E) : SatS m P Q (fun _ => True) := by
  intro l e hp
  have h1 := h l e hp
  revert h1
  rcases m.run l e with ⟨r, e'⟩
  cases r with
  | ok v => exact fun h => h
  | error x => exact fun _ => True.intro

theorem tokAct_TIg (g : C11.Ghost) (n : Nat) : TokAct (TIg g n) := by
  refine ⟨?_, ?_, ?_, ?_⟩
  · intro len f st
    have hA := (tokAct_TIb n).gather len f st
    have hB : SatS gatherheredocuments (C11.Good g []) (fun _ l e => True ∧ C11.Good g [] l e) :=
      satS_of_HT (C11.gather_good (g := g) (ps := []))
    refine (SatS.and (hA.pre (P' := fun l e => TIg g n len f l e ∧ l.store = st)
      (fun l e h => ⟨h.1.1, h.2⟩)) (hB.pre (fun l e h => h.1.2))).post ?_
    rintro _ l e ⟨⟨h1, h2⟩, _, h3⟩
    exact ⟨⟨h1, h3⟩, h2⟩
  · rintro len f l e cell kill ⟨hti, hg⟩ h1 h2 h3
    exact ⟨(tokAct_TIb n).queue len f l e cell kill hti h1 h2 h3, good_upd hg rfl rfl rfl rfl⟩
  · rintro len f l e ps ⟨hti, hg⟩
    exact ⟨(tokAct_TIb n).ps len f l e ps hti, good_upd hg rfl rfl rfl rfl⟩
  · intro d len f st s b
    refine (SatS.and (((tokAct_TIb n).nested d len f st s b).pre
        (P' := fun l e => TIg g n len f l e ∧ l.store = st) fun _ _ h => ⟨h.1.1, h.2⟩)
      ((C16.npOf_frame (P := C11.Good g []) (fun l e ps e' hg hE =>
        (good_upd (l' := { l with ps := ps }) hg rfl rfl rfl rfl).env hE.1.symm hE.2.1.symm)
        d s b).pre fun _ _ h => h.1.2)).post fun _ _ _ h => ⟨⟨h.1.1, h.2⟩, h.1.2⟩

theorem budFam_TIg (g : C11.Ghost) (len : Nat) (hlen : len + 1 < 1073741824) :
    BudFam (TIg g) len := by
  refine ⟨tokAct_TIg g, fun n F st => ?_, fun n n' f l e h hn => ⟨h.1.mono hn, h.2⟩⟩
  have hA := next_TIb n len F st hlen
  have hB : SatS nextToken (C11.Good g [])
      (fun t l e => C11.TF g t ∧ C11.Good g [] l e) :=
    satS_of_HT (C11.nextToken_good (g := g))
  refine (SatS.and (hA.pre (P' := fun l e => TIg g n len F l e ∧ l.store = st)
    (fun l e h => ⟨h.1.1, h.2⟩)) (hB.pre (fun l e h => h.1.2))).post ?_
  rintro t l e ⟨⟨a, b, h1, h2, ⟨n', hn', h3⟩, h4⟩, _, hg⟩
  exact ⟨a, b, h1, h2, ⟨n', hn', h3, hg⟩, h4⟩

/-- the slot is empty in every state satisfying `TI` -/
theorem ti_eol {len f : Nat} {l : Local} {e : Env} (h : TI len f l e) : l.eolLookahead = none := by
  obtain ⟨L, _, _, hc⟩ := h
  rcases hc with hc | hc
  · exact hc.2.2.1
  · exact hc.2.2.1

/-- **the value of a delivered token fits into the line** (for the family `TIg g`) -/
theorem famValLen_TIg (g : C11.Ghost) (hg : C11.WFG g) (len : Nat)
    (hL : g.line.length ≤ len + 1) : FamValLen (TIg g) len := by
  intro n F l0 e0 h
  have hT := satS_of_HT (C04.tokText.next g hg)
  refine (hT.pre (by rintro l e ⟨rfl, rfl⟩; exact ⟨h.2, ti_eol h.1.1⟩)).post ?_
  rintro t l e ⟨htt, _⟩
  have := htt.len
  omega

/-- the ghost of a parser object in its initial state over `s` -/
def initGhost (s : Str) (l : Local) (e : Env) : C11.Ghost :=
  { env := match l.tape with | none => none | some _ => some e.tape
    line := (Tape.ofInput s).line, added := (Tape.ofInput s).added, strict := e.strict }

theorem initGhost_wf (s : Str) (l : Local) (e : Env) : C11.WFG (initGhost s l e) := ⟨s, rfl, rfl⟩

theorem good_init {s : Str} {l : Local} {e : Env} (h : InitState s l e) :
    C11.Good (initGhost s l e) [] l e := by
  obtain ⟨_, _, h3, h4, h5⟩ := h
  have ht : tapeOf l e = Tape.ofInput s := by
    rcases h5 with h5 | ⟨h5, h6⟩
    · unfold tapeOf; rw [h5]
    · unfold tapeOf; rw [h5]; exact h6
  refine ⟨⟨⟨?_, rfl⟩, by rw [ht]; rfl, by rw [ht]; rfl⟩, (fun h => by rw [h3] at h; cases h),
    Or.inl ?_, h4⟩
  · unfold initGhost
    rcases h5 with h5 | ⟨h5, _⟩
    · rw [h5]; exact ⟨rfl, rfl⟩
    · rw [h5]
  · rw [ht, C11.ofInput_idx]; exact Nat.zero_le _

/-- **no parser run (top-level or nested, any nesting fuel) over an input `s` with
    `realBound (|s|+1) < 2^30` (= `16·(|s|+1)`, `realBound_val`) raises `outOfFuel "LRParser.parse"`** — for the real tokenizer and the
    real semantic actions; the only hypothesis is C03's `RootEnds` -/
theorem parserRun_noLRFuel_rootEnds' (hR : RootEnds) :
    ∀ d s, realBound (s.length + 1) < 1073741824 →
      SatS (parserRun d) (InitState s) (fun _ _ _ => True) NoLRFuel := by
  intro d
  induction d using parserRun_ind with
  | zero => intro s _; exact SatS.raise (noLRFuel_site (by decide))
  | succ d ih =>
    intro s hs
    have hlen : s.length + 1 < 1073741824 := Nat.lt_of_le_of_lt (le_realBound _) hs
    refine SatS.intro_state fun l0 e0 hinit => ?_
    refine level_noLRFuel hR hs (budFam_TIg (initGhost s l0 e0) s.length hlen)
      (famValLen_TIg _ (initGhost_wf s l0 e0) s.length (ofInput_line s).1) ?_ ih
    rintro l e ⟨rfl, rfl⟩
    exact ⟨⟨tokSpans.init s l e hinit, fun _ => rem_init hinit⟩, good_init hinit⟩

end Bashlex.C01E

#print axioms Bashlex.C01E.parserRun_noLRFuel_rootEnds'
