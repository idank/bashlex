/-
  Termination of the LR engine loop, an UNCONDITIONAL instance: the engine on the real tables,
  driven by an ARBITRARY sequence of terminal numbers (the tape holds one character per token,
  its code is the terminal number; the end of the tape is `$end`) with trivial semantic actions,
  performs at most `16 · (number of tokens left)` iterations.  In particular the tables admit no
  infinite chain of reductions (and no cycle through default reductions) on any token sequence.
  This also shows that `HooksBudget` is satisfiable (non-vacuity of `engine_terminates`).
-/
import Bashlex.Props.C01Engine.Engine
import Bashlex.Props.C01Engine.Real
import Bashlex.Props.C10.Tape

namespace Bashlex.C01E
open Bashlex Bashlex.M Bashlex.LR Bashlex.C10

/-- **the engine on the real tables, for every token source and all semantic actions**: with a
    token budget `m` (at most `m` tokens other than `$end` can still be fetched) and
    `realBound m < fuel`, the loop performs at most `realBound m + 1` iterations and
    `outOfFuel "LRParser.parse"` is not raised by the engine (`realBound m = realRk 0 + realK·m`,
    the constants of the checked certificate). -/
theorem real_engine_terminates_gen {V : Type} {H : Hooks V} {J : Nat → Local → Env → Prop}
    {E : Exn → Prop} (hH : HooksBudget realTables H J E) (fuel m : Nat)
    (hfuel : realBound m < fuel) :
    SatS (run realTables H fuel) (J m) (fun _ l e => ∃ m', J m' l e) (TermExn E) :=
  engine_terminates (R := realRaw) (wS := realW) (rk := realRk) (B := realB)
    real_check real_rankCheck realB_bound hH fuel m hfuel

/-- the same with the constant of the tables as they are: `C = 16` -/
theorem real_engine_terminates {V : Type} {H : Hooks V} {J : Nat → Local → Env → Prop}
    {E : Exn → Prop} (hH : HooksBudget realTables H J E) (fuel m : Nat) (hfuel : 16 * m < fuel) :
    SatS (run realTables H fuel) (J m) (fun _ l e => ∃ m', J m' l e) (TermExn E) :=
  real_engine_terminates_gen hH fuel m (by rw [realBound_val]; exact hfuel)

/-- a token source that reads terminal numbers off the tape; trivial actions; the error function
    raises -/
def seqHooks : Hooks Unit :=
  { next := do
      match ← getc false with
      | none => pure (0, ())
      | some c => pure (c.toNat, ())
    act := fun _ _ => pure ((), false)
    onError := fun _ => M.raise (.parsing "syntax error" [] 0)
    isNl := fun _ => false }

theorem tape_getc_false (t : Tape) :
    t.getc false (t.line.length + 1) =
      if t.idx < t.line.length then
        match t.line[t.idx]? with
        | some c => .ok (some c, { t with idx := t.idx + 1 })
        | none => .ok (none, t)
      else .ok (none, t) := by
  simp only [Tape.getc]
  split
  · cases t.line[t.idx]? with
    | none => rfl
    | some c => simp only [Bool.and_false, Bool.false_eq_true, if_false]
  · rfl

/-- budget: the characters left on the tape -/
def SeqJ (n : Nat) (l : Local) (e : Env) : Prop :=
  l.eolLookahead = none ∧ (tapeOf l e).line.length - (tapeOf l e).idx ≤ n

def SeqE (x : Exn) : Prop := x = .parsing "syntax error" [] 0

theorem seq_budget : HooksBudget realTables seqHooks SeqJ SeqE := by
  refine ⟨?_, ?_, ?_⟩
  · intro n l e ⟨heol, hrem⟩
    have hnext : seqHooks.next = (getc false >>= fun r => match r with
        | none => pure (0, ())
        | some c => pure (c.toNat, ())) := rfl
    by_cases hlt : (tapeOf l e).idx < (tapeOf l e).line.length
    · have hsome : (tapeOf l e).line[(tapeOf l e).idx]? = some ((tapeOf l e).line[(tapeOf l e).idx]) :=
        List.getElem?_eq_getElem hlt
      have hrun : M.run seqHooks.next l e =
          (.ok ((((tapeOf l e).line[(tapeOf l e).idx]).toNat, ()),
            putL l { tapeOf l e with idx := (tapeOf l e).idx + 1 }),
            putE l e { tapeOf l e with idx := (tapeOf l e).idx + 1 }) := by
        rw [hnext, M.run_bind, run_getc false l e heol, tape_getc_false, if_pos hlt, hsome]
        rfl
      rw [hrun]
      refine ⟨n - 1, ?_, ?_, ?_⟩
      · have : tokCost realTables ((tapeOf l e).line[(tapeOf l e).idx]).toNat ≤ 1 := by
          unfold tokCost; split <;> omega
        show n - 1 + tokCost realTables ((tapeOf l e).line[(tapeOf l e).idx]).toNat ≤ n
        omega
      · rw [putL_eol]; exact heol
      · rw [tapeOf_put]; simp only []; omega
    · have hrun : M.run seqHooks.next l e =
          (.ok ((0, ()), putL l (tapeOf l e)), putE l e (tapeOf l e)) := by
        rw [hnext, M.run_bind, run_getc false l e heol, tape_getc_false, if_neg hlt]
        rfl
      rw [hrun]
      refine ⟨n, ?_, ?_, ?_⟩
      · show n + tokCost realTables 0 ≤ n
        have : tokCost realTables 0 = 0 := rfl
        omega
      · rw [putL_eol]; exact heol
      · rw [tapeOf_put]; exact hrem
  · intro p args n l e h
    exact ⟨n, Nat.le_refl _, h⟩
  · intro la n l e _
    exact rfl

/-- **for every sequence of terminals** (the rest of the tape from the cursor on) the engine on
    the real tables halts within `16 · (tokens left)` iterations: with that much fuel it returns
    or raises the syntax error of the error function — never `outOfFuel "LRParser.parse"`, never
    an internal error. -/
theorem seq_terminates (fuel : Nat) (l : Local) (e : Env) (heol : l.eolLookahead = none)
    (hfuel : 16 * ((tapeOf l e).line.length - (tapeOf l e).idx) < fuel) :
    match (run realTables seqHooks fuel).run l e with
    | (.ok _, _) => True
    | (.error x, _) => x = .parsing "syntax error" [] 0 ∨
        x = .foreign "NotModelled" "LRParser.parse(error recovery)" := by
  have h := real_engine_terminates seq_budget fuel
    ((tapeOf l e).line.length - (tapeOf l e).idx) hfuel l e ⟨heol, Nat.le_refl _⟩
  revert h
  rcases (run realTables seqHooks fuel).run l e with ⟨r, e'⟩
  cases r with
  | ok v => exact fun _ => True.intro
  | error x => exact fun h => h

/-- the same, for a list of terminal numbers given explicitly -/
theorem seq_terminates_list (w : List Nat) :
    match (run realTables seqHooks (16 * w.length + 1)).run
        { tape := some { line := w.map Char.ofNat } } default with
    | (.ok _, _) => True
    | (.error x, _) => x = .parsing "syntax error" [] 0 ∨
        x = .foreign "NotModelled" "LRParser.parse(error recovery)" := by
  refine seq_terminates _ _ _ rfl ?_
  simp [tapeOf]

end Bashlex.C01E
