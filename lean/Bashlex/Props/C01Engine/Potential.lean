/-
  Termination of the LR engine loop (pure): a potential on the state stack that every
  reduction strictly decreases, from a CERTIFICATE (per-state weights and ranks) that a boolean
  function checks against the tables.

      pot stk = Σ_{e ∈ stk} wS e.state + rk (topState stk)

  `rankCheck`: for every reachable state `q`, every production `A → β` reduced there (on any
  look-ahead, or by default), every backward path `q = q₁, …, q_k, p'` of length `k = |β|` along
  the (checked) predecessor lists, and `t = goto(p', A)`:

      wS t + rk t  <  wS q₁ + … + wS q_k + rk q

  No trust in how the certificate was found (`tools/lrrank.py`: weight 0 for states accessed by a
  nullable symbol, `W` otherwise; rank = longest chain of weight-neutral reductions).
-/
import Bashlex.LR.CheckP

namespace Bashlex.LR

namespace Raw

/-- all backward paths of length `k` from `s`; `a` accumulates the weights popped so far plus the
    rank of the state the reduction started in -/
def rankBack (R : Raw) (wS rk : Nat → Nat) : Nat → Nat → Nat → Nat → Bool
  | 0, s, lhs, a =>
    match R.goto s lhs with
    | some t => decide (wS t + rk t < a)
    | none => true
  | k + 1, s, lhs, a => (R.predsOf s).all fun s' => rankBack R wS rk k s' lhs (a + wS s)

def rankRed (R : Raw) (wS rk : Nat → Nat) (s p : Nat) : Bool :=
  match R.prods[p]? with
  | none => true
  | some (lhs, rhs) => rankBack R wS rk rhs.length s lhs (rk s)

/-- the productions reduced in an action row, without repetitions -/
def redsOf : List Nat → List Nat
  | [] => []
  | e :: row =>
    match decodeAct (e % 4096) with
    | .reduce p => if (redsOf row).contains p then redsOf row else p :: redsOf row
    | _ => redsOf row

def rankState (R : Raw) (wS rk : Nat → Nat) (s : Nat) : Bool :=
  (redsOf (R.actionRow s)).all (rankRed R wS rk s) &&
  (match R.dfltOf s with | none => true | some p => rankRed R wS rk s p) &&
  -- the end marker is never shifted
  (R.actionRow s).all (fun e => match decodeAct (e % 4096) with
    | .shift _ => e / 4096 != R.endTok
    | _ => true)

def rankCheck (R : Raw) (wS rk : Nat → Nat) : Bool := R.reach.all (rankState R wS rk)

theorem mem_redsOf {row : List Nat} {e p : Nat} (he : e ∈ row)
    (hd : decodeAct (e % 4096) = .reduce p) : p ∈ redsOf row := by
  induction row with
  | nil => cases he
  | cons x row ih =>
    rcases List.mem_cons.mp he with h | h
    · subst h
      simp only [redsOf, hd]
      split
      · rename_i hc; simpa using hc
      · exact List.mem_cons_self
    · have := ih h
      simp only [redsOf]
      split
      · split
        · exact this
        · exact List.mem_cons_of_mem _ this
      · exact this

theorem redsOf_mem {row : List Nat} {p : Nat} (h : p ∈ redsOf row) :
    ∃ e ∈ row, decodeAct (e % 4096) = .reduce p := by
  induction row with
  | nil => simp [redsOf] at h
  | cons x row ih =>
    have tail : p ∈ redsOf row → ∃ e ∈ x :: row, decodeAct (e % 4096) = .reduce p := fun h' =>
      let ⟨e, he, hp⟩ := ih h'; ⟨e, List.mem_cons_of_mem _ he, hp⟩
    unfold redsOf at h
    split at h
    · rename_i q hd
      split at h
      · exact tail h
      · rcases List.mem_cons.mp h with rfl | h
        · exact ⟨x, List.mem_cons_self, hd⟩
        · exact tail h
    · exact tail h

theorem rankRed_of_action {R : Raw} {wS rk : Nat → Nat} (hk : R.rankCheck wS rk = true)
    {s la p : Nat} (hs : s ∈ R.reach) (hact : R.action s la = some (.reduce p)) :
    rankRed R wS rk s p = true := by
  unfold rankCheck at hk
  simp only [List.all_eq_true] at hk
  have h := hk s hs
  unfold rankState at h
  simp only [Bool.and_eq_true, List.all_eq_true] at h
  obtain ⟨e, hmem, _, hd⟩ := action_mem (R := R) hact
  exact h.1.1 p (mem_redsOf hmem hd)

theorem rankRed_of_dflt {R : Raw} {wS rk : Nat → Nat} (hk : R.rankCheck wS rk = true)
    {s p : Nat} (hs : s ∈ R.reach) (hd : R.dfltOf s = some p) :
    rankRed R wS rk s p = true := by
  unfold rankCheck at hk
  simp only [List.all_eq_true] at hk
  have h := hk s hs
  unfold rankState at h
  simp only [Bool.and_eq_true, List.all_eq_true] at h
  have := h.1.2
  simpa [hd] using this

theorem noShiftEnd {R : Raw} {wS rk : Nat → Nat} (hk : R.rankCheck wS rk = true)
    {s la t : Nat} (hs : s ∈ R.reach) (hact : R.action s la = some (.shift t)) :
    la ≠ R.endTok := by
  unfold rankCheck at hk
  simp only [List.all_eq_true] at hk
  have h := hk s hs
  unfold rankState at h
  simp only [Bool.and_eq_true, List.all_eq_true] at h
  obtain ⟨e, hmem, hla, hd⟩ := action_mem (R := R) hact
  have := h.2 e hmem
  simp only [hd, bne_iff_ne, ne_eq] at this
  rw [← hla]; exact this

/-- `rankBack` with predecessors and goto read from the tables in blocks -/
def rankBackP (p : Packed) (wS rk : Nat → Nat) : Nat → Nat → Nat → Nat → Bool
  | 0, s, lhs, a =>
    match p.goto s lhs with
    | some t => decide (wS t + rk t < a)
    | none => true
  | k + 1, s, lhs, a => (p.preds s).all fun s' => rankBackP p wS rk k s' lhs (a + wS s)

def rankRedP (R : Raw) (p : Packed) (wS rk : Nat → Nat) (s q : Nat) : Bool :=
  match R.prods[q]? with
  | none => true
  | some (lhs, rhs) => rankBackP p wS rk rhs.length s lhs (rk s)

theorem rankBackP_eq (R : Raw) (wS rk : Nat → Nat) : ∀ (k s lhs a : Nat),
    rankBackP R.packed wS rk k s lhs a = rankBack R wS rk k s lhs a
  | 0, s, lhs, a => by rw [rankBackP, rankBack, packed_goto]
  | k + 1, s, lhs, a => by
    rw [rankBackP, rankBack, packed_preds]
    exact congrArg _ (funext fun s' => rankBackP_eq R wS rk k s' lhs _)

theorem rankRedP_eq (R : Raw) (wS rk : Nat → Nat) : rankRedP R R.packed wS rk = rankRed R wS rk := by
  funext s q
  unfold rankRedP rankRed
  split <;> simp only [rankBackP_eq]

/-- `rankCheck` over the iterator of the packed well-formedness check (`forallRed`: rows walked
    once, a production looked at once per run of equal reduce entries) -/
def rankCheckP (R : Raw) (wS rk : Nat → Nat) : Bool :=
  forallRed R (rankRedP R R.packed wS rk) &&
  R.actionRows.all fun row => row.all fun e =>
    match decodeAct (e % 4096) with
    | .shift _ => e / 4096 != R.endTok
    | _ => true

theorem rankCheckP_sound {R : Raw} {wS rk : Nat → Nat} (h : R.rankCheckP wS rk = true) :
    R.rankCheck wS rk = true := by
  unfold rankCheckP at h
  rw [Bool.and_eq_true, rankRedP_eq] at h
  unfold rankCheck
  rw [List.all_eq_true]
  intro s hs
  have hF := forallRed_sound h.1 hs
  unfold rankState
  simp only [Bool.and_eq_true, List.all_eq_true]
  refine ⟨⟨fun p hp => ?_, ?_⟩, fun e he => ?_⟩
  · obtain ⟨e, he, hd⟩ := redsOf_mem hp
    exact hF.1 e he p hd
  · cases hq : R.dfltOf s with
    | none => rfl
    | some q => exact hF.2 q hq
  · unfold actionRow at he
    rw [List.getD_eq_getElem?_getD] at he
    cases hg : R.actionRows[s]? with
    | none => rw [hg] at he; cases he
    | some row =>
      rw [hg] at he
      exact List.all_eq_true.mp (List.all_eq_true.mp h.2 row (List.mem_of_getElem? hg)) e he

end Raw

variable {V : Type}

def sumW (wS : Nat → Nat) : Stack V → Nat
  | [] => 0
  | e :: r => wS e.state + sumW wS r

/-- the potential of a state stack -/
def pot (wS rk : Nat → Nat) (stk : Stack V) : Nat := sumW wS stk + rk (topState stk)

/-- along a path-shaped stack, a checked reduction strictly decreases the potential -/
theorem pop_of_rank {R : Raw} (hc : R.check = true) (wS rk : Nat → Nat) :
    ∀ (k : Nat) (stk : Stack V) (lhs a : Nat), PathOK R.toTables (· ∈ R.reach) stk →
      R.rankBack wS rk k (topState stk) lhs a = true →
      ∀ es rest t, popN k stk = some (es, rest) → R.goto (topState rest) lhs = some t →
        wS t + rk t + sumW wS rest < a + sumW wS stk := by
  have hwf := Raw.check_sound hc
  intro k
  induction k with
  | zero =>
    intro stk lhs a _ hb es rest t hpop hg
    simp only [popN, Option.some.injEq, Prod.mk.injEq] at hpop
    obtain ⟨_, rfl⟩ := hpop
    unfold Raw.rankBack at hb
    simp only [hg, decide_eq_true_eq] at hb
    omega
  | succ k ih =>
    intro stk lhs a hp hb es rest t hpop hg
    cases stk with
    | nil => simp [popN] at hpop
    | cons top rest0 =>
      simp only [popN, Option.map_eq_some_iff] at hpop
      obtain ⟨⟨es', rest'⟩, hpop', heq⟩ := hpop
      simp only [Prod.mk.injEq] at heq
      obtain ⟨_, rfl⟩ := heq
      obtain ⟨_, hedge, hprest⟩ := hp
      have hr0 : topState rest0 ∈ R.reach := reach_top hwf hprest
      have hce := Raw.edge_ok hc hr0 hedge
      unfold Raw.checkEdge at hce
      simp only [Bool.and_eq_true, List.contains_iff_mem] at hce
      have hmem : topState rest0 ∈ R.predsOf top.state := by simpa using hce.2
      unfold Raw.rankBack at hb
      simp only [topState, List.all_eq_true] at hb
      have := ih rest0 lhs (a + wS top.state) hprest (hb _ hmem) es' rest' t hpop' hg
      simp only [sumW]
      omega

/-- the reduction step on stacks: potential strictly decreases -/
theorem pot_reduce {R : Raw} (hc : R.check = true) {wS rk : Nat → Nat}
    {stk : Stack V} {p lhs : Nat} {rhs : List Nat}
    (hp : PathOK R.toTables (· ∈ R.reach) stk)
    (hprod : R.prods[p]? = some (lhs, rhs))
    (hred : R.rankRed wS rk (topState stk) p = true)
    {es : List (Entry V)} {rest : Stack V} {t : Nat}
    (hpop : popN rhs.length stk = some (es, rest)) (hg : R.goto (topState rest) lhs = some t)
    (tr : Tree) (v : V) :
    pot wS rk ({ state := t, tree := tr, val := v } :: rest) < pot wS rk stk := by
  unfold Raw.rankRed at hred
  simp only [hprod] at hred
  have := pop_of_rank hc wS rk rhs.length stk lhs (rk (topState stk)) hp hred es rest t hpop hg
  show wS t + sumW wS rest + rk t < sumW wS stk + rk (topState stk)
  omega

/-- a shift raises the potential by at most `B` when `wS t + rk t ≤ B` for every state -/
theorem pot_shift {wS rk : Nat → Nat} {B : Nat} (hB : ∀ t, wS t + rk t ≤ B)
    (stk : Stack V) (t : Nat) (tr : Tree) (v : V) :
    pot wS rk ({ state := t, tree := tr, val := v } :: stk) ≤ pot wS rk stk + B := by
  show wS t + sumW wS stk + rk t ≤ sumW wS stk + rk (topState stk) + B
  have := hB t
  omega

end Bashlex.LR
