/-
  Termination of the LR engine loop: the lift to `parserRun` (every nesting depth), for the REAL
  token source and the REAL semantic actions.

  Hypotheses (both named, both about existing objects):
    * `C03.RootEnds` — the hypothesis C03/C05 already carry (needed by C03's span invariant
      for the nested parser's contract);
    * `TokValLen` — `token()`, called in a state satisfying C03's tokenizer invariant `TI len f`,
      delivers a token whose value is at most `len + 1` characters long (a consequence of the
      token-text relation `C04.tokText`: `a + |v| ≤ |line|`; not derived here because `C04.tokText`
      is stated for C11's invariant `Good`, not for `TI`).
  From them: the stack invariant `SIv n` = C03's `SI` for the budgeted tokenizer invariant `TIb n`
  plus "every token on the stack has a value of at most `len+1` characters" is closed under the
  engine's moves with exceptions in `AE (len+1) np` (`act_exn`: a semantic action raises the
  engine's fuel marker only if the nested parser does on a string SHORTER than a token value),
  hence `engine_terminates_ord` applies at every depth and the induction on the depth closes:
  **`parserRun_noLRFuel_rootEnds`**.
-/
import Bashlex.Props.C01Engine.RealOrd
import Bashlex.Props.C01Engine.ActExn

namespace Bashlex.C01E
open Bashlex Bashlex.Spec Bashlex.Node Bashlex.M Bashlex.LR Bashlex.C12 Bashlex.C03 Bashlex.C10
  Bashlex.C01
-- see `Proofs/ParserLift.lean`
attribute [local irreducible] M.run runParser parse parsesingle split
set_option linter.unusedSimpArgs false
set_option linter.unusedVariables false

/-- **hypothesis on the token source**: the value of a delivered token fits into the line -/
def TokValLen : Prop :=
  ∀ len f l0 e0, TI len f l0 e0 → len + 1 < 1073741824 →
    SatS nextToken (fun l e => l = l0 ∧ e = e0) (fun t _ _ => t.valueStr.length ≤ len + 1)

/-! ## no non-terminal holds a token -/

def isTokSort : Srt → Bool
  | .tok _ => true
  | _ => false

theorem lhs_not_tok : Gen.prodTable.all (fun pr => !isTokSort (sortOfSymbol pr.1)) = true := by
  decide +kernel

theorem hasSort_not_tok {σ : Srt} {t : Token} (hσ : isTokSort σ = false)
    (h : HasSort σ (.tok t)) : False := by
  cases σ with
  | tok ty => simp [isTokSort] at hσ
  | none => simp [HasSort] at h
  | node c => obtain ⟨n, hn, _⟩ := h; cases hn
  | optNode c =>
    rcases h with h | ⟨n, hn, _⟩
    · cases h
    · cases hn
  | nodes k => obtain ⟨l, hl, _⟩ := h; cases hl

theorem vi_lhs_not_tok {p lhs : Nat} {rhs : List Nat} (hp : realTables.prods[p]? = some (lhs, rhs))
    {v : SVal} (hv : VI lhs v) : ∀ t, v ≠ .tok t := by
  intro t hvt
  subst hvt
  have hp' : Gen.prodTable[p]? = some (lhs, rhs) := hp
  have hmem := List.mem_of_getElem? hp'
  have := List.all_eq_true.mp lhs_not_tok _ hmem
  simp only [Bool.not_eq_true'] at this
  exact hasSort_not_tok this hv

/-! ## token values on the stack -/

/-- every token among the values (and the look-ahead) has a value of measure at most `Bd` -/
@[reducible] def TokBound (μ : Str → Nat) (Bd : Nat) (vs : List (Nat × SVal))
    (la : Option (Nat × SVal)) : Prop :=
  (∀ x ∈ vs, ∀ t, x.2 = .tok t → μ t.valueStr ≤ Bd) ∧
  (∀ x, la = some x → ∀ t, x.2 = .tok t → μ t.valueStr ≤ Bd)

theorem satS_with_pure {α : Type} {m : M α} {P : Local → Env → Prop}
    {Q : α → Local → Env → Prop} {E : Exn → Prop} {C : Prop} (h : SatS m P Q E) :
    SatS m (fun l e => P l e ∧ C) (fun a l e => Q a l e ∧ C) E := by
  intro l e ⟨hp, hc⟩
  have := h l e hp
  revert this
  rcases m.run l e with ⟨r, e'⟩
  cases r with
  | ok v => exact fun h => ⟨h, hc⟩
  | error x => exact fun h => h

/-- **a bound on the token values rides along**: a closure of the real hooks under `SI` is one
    under `SI` with "every token on the stack has a value of measure at most `Bd`", given that
    `token()` delivers such values and that `SI` knows the sorts of the values on the stack (a
    non-terminal holds no token); the exceptions are then those of hooks whose nested parser is
    called on strings of smaller measure only (`W`) -/
theorem hooksOrd_tokBound {np : NestedParse}
    {SI : List (Nat × SVal) → Option (Nat × SVal) → Local → Env → Prop}
    {Fin : SVal → Local → Env → Prop} {E : Exn → Prop} {μ : Str → Nat} {Bd : Nat}
    (h : HooksOrd realTables (lrHooks np) SI Fin (fun _ => True))
    (hsort : ∀ vs la l e, SI vs la l e → ∀ x ∈ vs, VI x.1 x.2)
    (hnext : ∀ vs, SatS (lrHooks np).next (SI vs none)
      (fun la _ _ => ∀ t, la.2 = .tok t → μ t.valueStr ≤ Bd))
    (W : NestOK np μ Bd E) :
    HooksOrd realTables (lrHooks np) (fun vs la l e => SI vs la l e ∧ TokBound μ Bd vs la) Fin
      E := by
  refine ⟨fun vs => ?_, ?_, ?_, ?_, ?_, fun la => walk_onError W la⟩
  · refine satS_exn ?_ (walk_next W)
    refine (SatS.and (satS_with_pure (C := TokBound μ Bd vs none) (h.next vs))
      ((hnext vs).pre fun _ _ h => h.1)).post ?_
    rintro la l e ⟨⟨hsi, htl⟩, hv⟩
    exact ⟨hsi, htl.1, fun x hx t ht => by cases hx; exact hv t ht⟩
  · rintro vs la l e ⟨hsi, htl⟩
    refine ⟨h.shift vs la l e hsi, ?_, fun x hx => by cases hx⟩
    intro x hx t ht
    rcases List.mem_append.mp hx with hx | hx
    · exact htl.1 x hx t ht
    · simp only [List.mem_singleton] at hx; subst hx; exact htl.2 _ rfl t ht
  · rintro la l e ⟨hsi, htl⟩
    exact ⟨h.shiftNl la l e hsi, (fun x hx => by cases hx), (fun x hx => by cases hx)⟩
  · intro p lhs rhs rest args la hprod hargs hrest hla
    have hb := h.act p lhs rhs rest args la hprod hargs hrest hla
    rw [lrHooks_act] at hb ⊢
    -- exceptions: from the (pure) bound on the token values among the arguments
    refine SatS.pre (P := fun l e => TokBound μ Bd (rest ++ args) la ∧ SI (rest ++ args) la l e)
      ?_ (fun l e h => ⟨h.2, h.1⟩)
    refine SatS.assume (fun htl => ?_)
    refine (satS_exn hb (walk_action_vals W (fn p)
      (fun x hx t ht => htl.1 x (List.mem_append_right _ hx) t ht))).post ?_
    intro r l e h1
    by_cases hacc : r.2 = true
    · simp only [hacc, if_true] at h1 ⊢; exact h1
    · simp only [hacc, if_false] at h1 ⊢
      refine ⟨h1, ?_, htl.2⟩
      intro x hx t ht
      rcases List.mem_append.mp hx with hx | hx
      · exact htl.1 x (List.mem_append_left _ hx) t ht
      · simp only [List.mem_singleton] at hx
        subst hx
        exact absurd ht (vi_lhs_not_tok hprod (hsort _ _ _ _ h1 (lhs, r.1) (by simp)) t)
  · rintro vs x la l e ⟨hsi, _⟩
    exact h.accept vs x la l e hsi

/-- the value of a token delivered from a state of the family fits into the line -/
def FamValLen (TIn : Nat → Nat → Nat → Local → Env → Prop) (len : Nat) : Prop :=
  ∀ n F l0 e0, TIn n len F l0 e0 →
    SatS nextToken (fun l e => l = l0 ∧ e = e0) (fun t _ _ => t.valueStr.length ≤ len + 1)

theorem famValLen_TIb (hVL : TokValLen) (len : Nat) (hlen : len + 1 < 1073741824) :
    FamValLen TIb len := fun n F l0 e0 h => hVL len F l0 e0 h.1 hlen

/-- the look-ahead `token()` delivers from a state satisfying the stack invariant has a bounded
    value -/
theorem next_vlen {TIn : Nat → Nat → Nat → Local → Env → Prop} {len n : Nat}
    (hVL : FamValLen TIn len) {np : NestedParse} (vs : List (Nat × SVal)) :
    SatS (lrHooks np).next (SI (TIn n) len vs none)
      (fun la _ _ => ∀ t, la.2 = .tok t → t.valueStr.length ≤ len + 1) := by
  refine SatS.intro_state ?_
  rintro l0 e0 ⟨⟨g, F, _, _, hti, _⟩, _⟩
  show SatS (nextToken >>= fun t => pure (symOfTok t, SVal.tok t)) _ _
  refine SatS.bind (hVL n F l0 e0 hti) (fun t => SatS.pure ?_)
  intro l e ht t' ht'
  cases ht'
  exact ht

/-- the stack invariant: C03's, for the budgeted tokenizer invariant, plus bounded token values -/
@[reducible] def SIv (TIn : Nat → Nat → Nat → Local → Env → Prop) (len n : Nat)
    (vs : List (Nat × SVal)) (la : Option (Nat × SVal)) (l : Local) (e : Env) : Prop :=
  SI (TIn n) len vs la l e ∧ TokBound List.length (len + 1) vs la

/-- **the hooks of the real parser: budget-indexed closure with bounded token values, and
    exceptions in `AE (len+1)`** -/
theorem real_hooksOrdB_v {TIn : Nat → Nat → Nat → Local → Env → Prop} {len : Nat}
    (hR : RootEnds) (hF : BudFam TIn len) (hVL : FamValLen TIn len) (d : Nat) :
    HooksOrdT realTables (lrHooks (npOf (parserRun d))) (SIv TIn len) (Fin len)
      (AE (len + 1) (npOf (parserRun d))) := by
  have hbase := real_hooksOrdB_fam hR hF d
  refine ⟨fun n => hooksOrd_tokBound (hbase.ord n) (fun _ _ _ _ h => h.2.1) (next_vlen hVL) (nestOK _ _),
    fun n vs => ?_⟩
  -- next along the family
  refine satS_exn ?_ (walk_next (nestOK _ _))
  refine (SatS.and (satS_with_pure (C := TokBound List.length (len + 1) vs none) (hbase.next n vs))
    ((next_vlen (n := n) hVL (np := npOf (parserRun d)) vs).pre fun _ _ h => h.1)).post ?_
  rintro la l e ⟨⟨⟨n', hn', hsi⟩, htl⟩, hv⟩
  exact ⟨n', hn', hsi, htl.1, fun x hx t ht => by cases hx; exact hv t ht⟩

/-- an exception of the nested parser, called on short strings only, is not the marker if no run
    over a short string raises it -/
theorem ae_npOf {B : Nat} {rec : M (Option Node)} {x : Exn}
    (hrec : ∀ s', s'.length < B → SatS rec (InitState s') (fun _ _ _ => True) NoLRFuel)
    (h : AE B (npOf rec) x) : NoLRFuel x :=
  h.elim id fun ⟨s', _, _, _, _, hlt, hr⟩ => npOf_exn_init (hrec s' hlt) hr

/-- one level, for a family `TIn` of tokenizer invariants that holds with budget `|s| + 1` at the
    start: no marker, if the runs of the level below raise none -/
theorem level_noLRFuel {TIn : Nat → Nat → Nat → Local → Env → Prop} {s : Str} {d : Nat}
    {P : Local → Env → Prop} (hR : RootEnds) (hs : realBound (s.length + 1) < 1073741824)
    (hF : BudFam TIn s.length) (hVL : FamValLen TIn s.length)
    (hinit : ∀ l e, P l e → TIn (s.length + 1) s.length 0 l e)
    (ih : ∀ s', realBound (s'.length + 1) < 1073741824 →
      SatS (parserRun d) (InitState s') (fun _ _ _ => True) NoLRFuel) :
    SatS (C16.level (npOf (parserRun d))) P (fun _ _ _ => True) NoLRFuel := by
  have hrun := engine_terminates_ord (R := realRaw) (wS := realW) (rk := realRk) (B := realB)
    real_check real_rankCheck realB_bound (real_hooksOrdB_v hR hF hVL d) 1073741824 (s.length + 1)
    hs
  refine SatS.level (hrun.weaken ?_ (fun _ _ _ h => h) ?_) (fun _ _ _ _ _ _ _ => trivial)
    (fun _ _ _ _ => trivial)
  · intro l e hp
    refine ⟨⟨⟨0, 0, Nat.le_refl 0, Nat.le_refl 0, hinit l e hp, ?_⟩, ?_, ?_⟩, ?_, ?_⟩ <;>
      (intro x hx; cases hx)
  · rintro x (hx | hx)
    · exact ae_npOf (fun s' hlt => ih s' (Nat.lt_of_le_of_lt (realBound_mono (by omega)) hs)) hx
    · rw [hx]; intro h; cases h

/-- **no parser run (top-level or nested, any nesting fuel) over an input `s` with
    `realBound (|s|+1) < 2^30` (= `16·(|s|+1)`, `realBound_val`) raises `outOfFuel "LRParser.parse"`** — for the real tokenizer and the
    real semantic actions, under `RootEnds` and `TokValLen` -/
theorem parserRun_noLRFuel_rootEnds (hR : RootEnds) (hVL : TokValLen) :
    ∀ d s, realBound (s.length + 1) < 1073741824 →
      SatS (parserRun d) (InitState s) (fun _ _ _ => True) NoLRFuel := by
  intro d
  induction d using parserRun_ind with
  | zero => intro s _; exact SatS.raise (noLRFuel_site (by decide))
  | succ d ih =>
    intro s hs
    have hlen : s.length + 1 < 1073741824 := Nat.lt_of_le_of_lt (le_realBound _) hs
    exact level_noLRFuel hR hs (budFam_TIb s.length hlen) (famValLen_TIb hVL s.length hlen)
      (fun l e h => ⟨tokSpans.init s l e h, fun _ => rem_init h⟩) ih

end Bashlex.C01E

#print axioms Bashlex.C01E.act_exn
#print axioms Bashlex.C01E.real_hooksOrdB_v
#print axioms Bashlex.C01E.parserRun_noLRFuel_rootEnds
