/-
  Termination of the LR engine loop: the REAL hooks satisfy the budget-indexed relational closure
  `HooksOrdT` (`EngineOrd.lean`), conditional on C03's hypothesis `RootEnds` (which C03 needs for
  the span contract of nested parsers).

    * `C03.spans_hooks_core` (`Props/C03/Engine.lean`: `spans_hooks` without `TokSpans.init`)
      applies to the family `TIb n` (`TokCursor.lean`), whose members with a small `n` do not
      hold of a fresh parser object;
    * `spans_next_shift`: the `next` move along the family;
    * `real_hooksOrdB`: `HooksOrdT realTables (lrHooks (npOf (parserRun d))) (SI (TIb ·) len) …`;
    * **`real_run_terminates_rootEnds`**: the engine loop of every parser run (every depth) over
      an input `s` with `realBound (|s|+1) < 2^30` (= `16·(|s|+1)`, `realBound_val`) — started from a fresh parser object — returns, or
      raises an exception its HOOKS raise (`E`), or the unmodelled error recovery: it does not run
      out of fuel by itself.
-/
import Bashlex.Props.C01Engine.TokCursor
import Bashlex.Props.C01Engine.Synthetic
import Bashlex.Props.C03

namespace Bashlex.C03
open Bashlex Bashlex.Spec Bashlex.Node Bashlex.M Bashlex.LR Bashlex.C12
set_option linter.unusedSimpArgs false
set_option linter.unusedVariables false

/-- the `next` move along a budget-indexed family of tokenizer invariants -/
theorem spans_next_shift {TIn : Nat → Nat → Nat → Local → Env → Prop} {len : Nat} (n : Nat)
    (cost : Token → Nat)
    (hnext : ∀ F st, SatS nextToken (fun l e => TIn n len F l e ∧ l.store = st)
      (fun t l e => ∃ a b, F ≤ a ∧ TokAt len t a b ∧
        (∃ n', n' + cost t ≤ n ∧ TIn n' len b l e) ∧ StoreStep len F false st l.store))
    {np : NestedParse} (hnp : NPOK np) (vs : List (Nat × SVal)) :
    SatS (lrHooks np).next (SI (TIn n) len vs none)
      (fun la l e => ∃ n' t, la = (symOfTok t, SVal.tok t) ∧ n' + cost t ≤ n ∧
        SI (TIn n') len vs (some la) l e) := by
  have hC := hooks_ok sat_nextToken hnp
  have h1 : SatS (lrHooks np).next (SI (TIn n) len vs none)
      (fun la l e => ∃ n' t, la = (symOfTok t, SVal.tok t) ∧ n' + cost t ≤ n ∧
        SIs (TIn n') len vs (some la) l e ∧ ∀ x ∈ vs, VI x.1 x.2) := by
    refine SatS.intro_state ?_
    rintro l e ⟨⟨g, F, hseg, hlain, hti, hent⟩, hvi, _⟩
    show SatS (nextToken >>= fun t => pure (symOfTok t, SVal.tok t)) _ _
    refine SatS.bind (SatS.pre (hnext F l.store) ?_) ?_
    · rintro l1 e1 ⟨rfl, rfl⟩; exact ⟨hti, rfl⟩
    · intro t
      refine SatS.pure ?_
      rintro l' e' ⟨a, b, hFa, htok, ⟨n', hn', hti'⟩, hstep⟩
      refine ⟨n', t, rfl, hn', ⟨g, b, hseg, ⟨t, a, b, rfl, ?_, Nat.le_refl _, htok⟩, hti', ?_⟩, hvi⟩
      · have : g ≤ F := hlain
        omega
      · intro x hx; exact entryOK_step hstep (hent x hx)
  refine SatS.post (SatS.and_sat h1 hC.next) ?_
  rintro la l e ⟨⟨n', t, hla', hn', hs, hvi⟩, hla⟩
  exact ⟨n', t, hla', hn', hs, hvi, by intro x hx; cases hx; exact hla⟩

end Bashlex.C03

namespace Bashlex.C01E
open Bashlex Bashlex.Spec Bashlex.Node Bashlex.M Bashlex.LR Bashlex.C12 Bashlex.C03 Bashlex.C10
set_option linter.unusedSimpArgs false
set_option linter.unusedVariables false

/-! ## symbols and costs -/

theorem sym_eq_zeroT (ty : TokType) : ty.sym = 0 ↔ ty = .EOF := by
  unfold TokType.sym
  constructor
  · intro h
    split at h
    · assumption
    · omega
  · intro h; rw [if_pos h]

theorem symOfTok_eq_zeroT (t : Token) : symOfTok t = 0 ↔ t.ttype = some .EOF := by
  unfold symOfTok
  cases hty : t.ttype with
  | none => simp
  | some ty =>
    simp only [Option.some.injEq]
    exact sym_eq_zeroT ty

theorem tokCost_symT (t : Token) : tokCost realTables (symOfTok t) = tokCostT t := by
  have hend : realTables.endTok = 0 := rfl
  unfold tokCost tokCostT
  rw [hend]
  by_cases h : t.ttype = some .EOF
  · rw [if_pos ((symOfTok_eq_zeroT t).mpr h), if_pos h]
  · rw [if_neg (fun h' => h ((symOfTok_eq_zeroT t).mp h')), if_neg h]

theorem TIb.mono {n n' len f : Nat} {l : Local} {e : Env} (h : TIb n' len f l e) (hn : n' ≤ n) :
    TIb n len f l e := ⟨h.1, fun hlen => Nat.le_trans (h.2 hlen) hn⟩

/-! ## exceptions of the hooks, semantically -/

/-- an exception some call of a hook raises (in some state) -/
def HookExn {V : Type} (H : Hooks V) (x : Exn) : Prop :=
  (∃ l e e', H.next.run l e = (.error x, e')) ∨
  (∃ p args l e e', (H.act p args).run l e = (.error x, e')) ∨
  (∃ la l e e', (H.onError la).run l e = (.error x, e'))

/-- the post-condition from one proof, the exception discipline from a state-agnostic one -/
theorem satS_exn {α : Type} {m : M α} {P : Local → Env → Prop} {Q : α → Local → Env → Prop}
    {E : Exn → Prop} (h1 : SatS m P Q (fun _ => True)) (h2 : Sat m (fun _ => True) E) :
    SatS m P Q E := by
  intro l e hp
  have a1 := h1 l e hp
  have a2 := h2 l e
  rcases hr : m.run l e with ⟨r, e'⟩
  rw [hr] at a1 a2
  cases r with
  | ok v => exact a1
  | error x => exact a2

theorem sat_of_run {α : Type} {m : M α} {E : Exn → Prop}
    (h : ∀ l e x e', m.run l e = (.error x, e') → E x) : Sat m (fun _ => True) E := by
  intro l e
  rcases hr : m.run l e with ⟨r, e'⟩
  cases r with
  | ok v => exact True.intro
  | error x => exact h l e x e' hr

/-- a closure proved without looking at exceptions holds with the exceptions the hooks raise -/
theorem hooksOrdB_hookExn {V : Type} {T : Tables} {H : Hooks V}
    {SI : Nat → List (Nat × V) → Option (Nat × V) → Local → Env → Prop}
    {Fin : V → Local → Env → Prop} (h : HooksOrdT T H SI Fin (fun _ => True)) :
    HooksOrdT T H SI Fin (HookExn H) := by
  refine ⟨fun n => ⟨?_, (h.ord n).shift, (h.ord n).shiftNl, ?_, (h.ord n).accept, ?_⟩, ?_⟩
  · intro vs
    exact satS_exn ((h.ord n).next vs) (sat_of_run (fun l e x e' hr => Or.inl ⟨l, e, e', hr⟩))
  · intro p lhs rhs rest args la h1 h2 h3 h4
    exact satS_exn ((h.ord n).act p lhs rhs rest args la h1 h2 h3 h4)
      (sat_of_run (fun l e x e' hr => Or.inr (Or.inl ⟨p, _, l, e, e', hr⟩)))
  · intro la
    exact sat_of_run (fun l e x e' hr => Or.inr (Or.inr ⟨la, l, e, e', hr⟩))
  · intro n vs
    exact satS_exn (h.next n vs) (sat_of_run (fun l e x e' hr => Or.inl ⟨l, e, e', hr⟩))

/-! ## the real hooks -/

/-- a budget-indexed family of tokenizer invariants (at a fixed input length `len`) -/
structure BudFam (TIn : Nat → Nat → Nat → Local → Env → Prop) (len : Nat) : Prop where
  /-- everything the parser does besides `token()` keeps every member -/
  act : ∀ n, TokAct (TIn n)
  /-- `token()` moves along the family and pays for the token -/
  next : ∀ n F st, SatS nextToken (fun l e => TIn n len F l e ∧ l.store = st)
    (fun t l e => ∃ a b, F ≤ a ∧ TokAt len t a b ∧
      (∃ n', n' + tokCostT t ≤ n ∧ TIn n' len b l e) ∧ StoreStep len F false st l.store)
  mono : ∀ n n' f l e, TIn n' len f l e → n' ≤ n → TIn n len f l e

/-- the family `TIb` -/
theorem budFam_TIb (len : Nat) (hlen : len + 1 < 1073741824) : BudFam TIb len :=
  ⟨tokAct_TIb, fun n F st => next_TIb n len F st hlen, fun n n' f l e h hn => h.mono hn⟩

/-- the contract of the nested parser for a tokenizer invariant the parser keeps
    (`C03.npSpans_npOf`, same proof) -/
theorem npSpans_fam {TI' : Nat → Nat → Local → Env → Prop} (hact : TokAct TI') (hR : RootEnds)
    (d : Nat) : NPSpans TI' (npOf (parserRun d)) := by
  intro s b len F st
  have h1 := hact.nested d len F st s b
  have ih := parserRun_spans tokSpans hR (wordContract tokSpans) d
  have h2 := npOf_result (b := b)
    (Φ := fun r => (∀ m, r = some m → TopOK s.length m) ∧ (∀ m, r = some m → RootEndOK s m))
    (SatS.and (ih s) (hR d s))
  refine SatS.post (SatS.and h1 (SatS.pre h2 (fun _ _ _ => trivial))) ?_
  rintro r l e ⟨hp, h3⟩
  exact ⟨hp, fun m hm => ⟨h3.1 m hm, h3.2 m hm⟩⟩

/-- **the hooks of the real parser satisfy the budget-indexed closure** (under `RootEnds`), for
    every budget-indexed family of tokenizer invariants -/
theorem real_hooksOrdB_fam {TIn : Nat → Nat → Nat → Local → Env → Prop} {len : Nat}
    (hR : RootEnds) (hF : BudFam TIn len) (d : Nat) :
    HooksOrdT realTables (lrHooks (npOf (parserRun d))) (fun n => SI (TIn n) len) (Fin len)
      (fun _ => True) := by
  refine ⟨fun n => ?_, fun n vs => ?_⟩
  · refine spans_hooks_core (fun F st => ?_) (hF.act n) (npok_npOf d)
      (wordContract_act _ (npSpans_fam (hF.act n) hR d) len)
    refine (hF.next n F st).post ?_
    rintro t l e ⟨a, b, h1, h2, ⟨n', hn', h3⟩, h4⟩
    exact ⟨a, b, h1, h2, hF.mono n n' b l e h3 (by omega), h4⟩
  · refine (spans_next_shift (TIn := TIn) n tokCostT (hF.next n) (npok_npOf d) vs).post ?_
    rintro la l e ⟨n', t, rfl, hn', hsi⟩
    exact ⟨n', by rw [tokCost_symT]; exact hn', hsi⟩

theorem real_hooksOrdB (hR : RootEnds) (d len : Nat) (hlen : len + 1 < 1073741824) :
    HooksOrdT realTables (lrHooks (npOf (parserRun d))) (fun n => SI (TIb n) len) (Fin len)
      (fun _ => True) :=
  real_hooksOrdB_fam hR (budFam_TIb len hlen) d

theorem rem_init {s : Str} {l : Local} {e : Env} (h : InitState s l e) : rem l e ≤ s.length + 1 := by
  obtain ⟨_, _, _, _, h5⟩ := h
  have ht : tapeOf l e = Tape.ofInput s := by
    rcases h5 with h5 | ⟨h5, h6⟩
    · unfold tapeOf; rw [h5]
    · unfold tapeOf; rw [h5]; exact h6
  unfold rem
  rw [ht]
  have := (ofInput_line s).1
  omega

/-- **the engine loop of every real parser run terminates within its fuel** (under `RootEnds`):
    for every nesting depth and every input `s` with `realBound (|s|+1) < 2^30` (= `16·(|s|+1)`, `realBound_val`), the loop started from a
    fresh parser object over `s` returns, or raises an exception one of its hooks raises (the
    token source, a semantic action — which includes nested parser runs —, the error function),
    or the marker of the unmodelled error recovery.  It does not run out of fuel by itself. -/
theorem real_run_terminates_rootEnds (hR : RootEnds) (d : Nat) (s : Str)
    (hs : realBound (s.length + 1) < 1073741824) :
    SatS (LR.run realTables (lrHooks (npOf (parserRun d))) 1073741824) (InitState s)
      (fun _ _ _ => True) (TermExn (HookExn (lrHooks (npOf (parserRun d))))) := by
  have hlen : s.length + 1 < 1073741824 := Nat.lt_of_le_of_lt (le_realBound _) hs
  have hH := hooksOrdB_hookExn (real_hooksOrdB hR d s.length hlen)
  have hrun := engine_terminates_ord (R := realRaw) (wS := realW) (rk := realRk) (B := realB)
    real_check real_rankCheck realB_bound hH 1073741824 (s.length + 1)
    hs
  refine SatS.weaken hrun ?_ (fun _ _ _ _ => True.intro) (fun _ h => h)
  intro l e hinit
  refine ⟨⟨0, 0, Nat.le_refl 0, Nat.le_refl 0, ⟨tokSpans.init s l e hinit, fun _ => rem_init hinit⟩, ?_⟩,
    ?_, ?_⟩
  · intro x hx; cases hx
  · intro x hx; cases hx
  · intro x hx; cases hx

end Bashlex.C01E

#print axioms Bashlex.C03.spans_hooks_core
#print axioms Bashlex.C01E.real_hooksOrdB
#print axioms Bashlex.C01E.real_run_terminates_rootEnds
