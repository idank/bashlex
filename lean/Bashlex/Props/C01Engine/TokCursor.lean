/-
  Termination of the LR engine loop: the budget law of the REAL tokenizer, proved from the state
  invariant `TI` of C03 (`Props/C03/TokSpans.lean`) and the character-level statements of C05
  (`tokGaps_next`, `tokGaps_gather`).

  `rem l e = |line| - cursor` (truncated).  From every state satisfying `TI len f` (`len+1 < 2^30`):
    * `next_budget`:   `token()` pays: `rem' + cost(t) ≤ rem`, `cost(EOF) = 0`, `cost(other) = 1`;
    * `gather_budget`: `gatherheredocuments` does not raise it: `rem' ≤ rem`.
  With the index trick `TIb n len f l e := TI len f l e ∧ (len+1 < 2^30 → rem l e ≤ n)`:
    * `tokAct_TIb`: everything the parser does to the parser object besides `token()` keeps `TIb n`
      (C03's `TokAct`, hence `act_spans` / `wordContract_act` apply to it),
    * `next_TIb`: `token()` takes `TIb n len f` to `TIb n' len b` with `n' + cost(t) ≤ n`.
  This is the tokenizer half of the hypothesis `TokBudget` (`Props/C01Engine.lean`) in the form
  `engine_terminates_ord` consumes (`SI n := C03.SI (TIb n) len`).  What is NOT done: the
  init-free restatement of C03's `spans_hooks` for the family, the exception discipline of the
  semantic actions without the fuel marker, and "a nested parser runs on a shorter string".
-/
import Bashlex.Props.C05.TokGapsProof
import Bashlex.Props.C01Engine.EngineOrd

namespace Bashlex.C01E
open Bashlex Bashlex.M Bashlex.C10 Bashlex.C11 Bashlex.C03 Bashlex.C03.Tok Bashlex.C05 Bashlex.C05.TG

/-- the characters left on the tape -/
def rem (l : Local) (e : Env) : Nat := (tapeOf l e).line.length - (tapeOf l e).idx

/-- what a token costs -/
def tokCostT (t : Token) : Nat := if t.ttype = some .EOF then 0 else 1

theorem tokCostT_le (t : Token) : tokCostT t ≤ 1 := by unfold tokCostT; split <;> omega

theorem tokCostT_eof : tokCostT eofTok = 0 := rfl

/-- **`token()` pays for every token other than EOF** -/
theorem next_budget (len f : Nat) (l0 : Local) (e0 : Env) (hti : TI len f l0 e0)
    (hlen : len + 1 < 1073741824) :
    SatS nextToken (fun l e => l = l0 ∧ e = e0)
      (fun t l e => rem l e + tokCostT t ≤ rem l0 e0) := by
  obtain ⟨L, ⟨hK, hnl⟩, hp, hc⟩ := hti
  rcases hc with hc | hc
  · obtain ⟨a1, a2, a3, a4, a5, a6, a7⟩ := hc
    refine satS_of_ht (HT.weaken (tokGaps_next (L := L) (sr := l0.store) (rk := l0.redirstack)
      (i0 := (tapeOf l0 e0).idx) hnl (lastNL_of_nl hnl) (by omega) hp.1 a2) ?_ ?_ (fun _ h => h))
    · rintro l e ⟨rfl, rfl⟩
      exact ⟨⟨a1, rfl, a2, a3, a4⟩, rfl, rfl⟩
    · intro t l e h
      obtain ⟨g1, _, _, hcase⟩ := h
      unfold rem
      rw [g1, a1]
      rcases hcase with ⟨rfl, _, hidx⟩ | ⟨a, hpos, hak, hsk, hty⟩
      · rw [hidx, tokCostT_eof]; omega
      · have hle := hsk.le
        have hcost := tokCostT_le t
        have haL : a < L.length := by
          rcases hty with ⟨_, hLa, _⟩ | ⟨_, hidx⟩
          · exact (List.getElem?_eq_some_iff.mp hLa).1
          · omega
        omega
  · refine satS_of_ht (HT.weaken (nextToken_dead (L := L) (sr := l0.store) (rk := l0.redirstack))
      ?_ ?_ (fun _ h => h))
    · rintro l e ⟨rfl, rfl⟩; exact ⟨hc, rfl, rfl⟩
    · rintro t l e ⟨rfl, hd, _, _⟩
      unfold rem
      have h1 := hd.1
      have h2 := hd.2.1
      rw [h1, tokCostT_eof]
      omega

/-- **`gatherheredocuments` does not move the cursor back** (from a state satisfying `TI`) -/
theorem gather_budget (len f : Nat) (l0 : Local) (e0 : Env) (hti : TI len f l0 e0)
    (hlen : len + 1 < 1073741824) :
    SatS gatherheredocuments (fun l e => l = l0 ∧ e = e0)
      (fun _ l e => rem l e ≤ rem l0 e0) := by
  refine (gather_raw len f l0 e0 hti hlen).post ?_
  intro _ l e h
  unfold rem
  rcases h with ⟨g1, _, _, g4, _⟩ | ⟨⟨h1, h2⟩, h3, _⟩
  · rw [g1]; omega
  · rw [h3]; omega

/-- the tokenizer invariant of C03 with a budget -/
def TIb (n : Nat) (len f : Nat) (l : Local) (e : Env) : Prop :=
  TI len f l e ∧ (len + 1 < 1073741824 → rem l e ≤ n)

theorem rem_env {l : Local} {e e' : Env} (h : e'.tape = e.tape) : rem l e' = rem l e := by
  unfold rem; rw [tapeOf_env h]

/-- **everything the parser does besides `token()` keeps `TIb n`** -/
theorem tokAct_TIb (n : Nat) : TokAct (TIb n) := by
  refine ⟨?_, ?_, ?_, ?_⟩
  · intro len f st
    refine SatS.intro_state (fun l0 e0 h0 => ?_)
    obtain ⟨⟨hti, hb⟩, hst⟩ := h0
    have hA : SatS gatherheredocuments (fun l e => l = l0 ∧ e = e0)
        (fun _ l e => TI len f l e ∧ StoreStep len f true st l.store) :=
      (tokSpans.gather len f st).pre (by rintro l e ⟨rfl, rfl⟩; exact ⟨hti, hst⟩)
    by_cases hlen : len + 1 < 1073741824
    · refine (SatS.and hA (gather_budget len f l0 e0 hti hlen)).post ?_
      rintro _ l e ⟨⟨h1, h2⟩, h3⟩
      exact ⟨⟨h1, fun _ => Nat.le_trans h3 (hb hlen)⟩, h2⟩
    · refine hA.post ?_
      rintro _ l e ⟨h1, h2⟩
      exact ⟨⟨h1, fun h => absurd h hlen⟩, h2⟩
  · rintro len f l e cell kill ⟨hti, hb⟩ h1 h2 h3
    exact ⟨tokSpans.queue len f l e cell kill hti h1 h2 h3, hb⟩
  · rintro len f l e ps ⟨hti, hb⟩
    exact ⟨tokSpans.ps len f l e ps hti, hb⟩
  · intro d len f st s b
    refine C16.npOf_frame (fun l e ps e' ⟨⟨hti, hb⟩, hst⟩ hE => ?_) d s b
    refine ⟨⟨(tokSpans_ps len f l e ps hti).env hE.1.symm hE.2.1.symm, fun hlen => ?_⟩, hst⟩
    have : rem { l with ps := ps } e' = rem l e := by
      rw [rem_env hE.1.symm]; rfl
    rw [this]; exact hb hlen

/-- **`token()` moves along the family**: from `TIb n len f` to `TIb n' len b` with
    `n' + cost(t) ≤ n` (for inputs below the model's loop fuel) -/
theorem next_TIb (n len f : Nat) (st : List RedirCell) (hlen : len + 1 < 1073741824) :
    SatS nextToken (fun l e => TIb n len f l e ∧ l.store = st)
      (fun t l e => ∃ a b, f ≤ a ∧ TokAt len t a b ∧
        (∃ n', n' + tokCostT t ≤ n ∧ TIb n' len b l e) ∧ StoreStep len f false st l.store) := by
  refine SatS.intro_state (fun l0 e0 h0 => ?_)
  obtain ⟨⟨hti, hb⟩, hst⟩ := h0
  have hA : SatS nextToken (fun l e => l = l0 ∧ e = e0)
      (fun t l e => ∃ a b, f ≤ a ∧ TokAt len t a b ∧ TI len b l e ∧
        StoreStep len f false st l.store) :=
    (tokSpans.next len f st).pre (by rintro l e ⟨rfl, rfl⟩; exact ⟨hti, hst⟩)
  refine (SatS.and hA (next_budget len f l0 e0 hti hlen)).post ?_
  rintro t l e ⟨⟨a, b, h1, h2, h3, h4⟩, h5⟩
  have hb0 := hb hlen
  refine ⟨a, b, h1, h2, ⟨rem l e, by omega, h3, fun _ => Nat.le_refl _⟩, h4⟩

end Bashlex.C01E

#print axioms Bashlex.C01E.next_budget
#print axioms Bashlex.C01E.gather_budget
#print axioms Bashlex.C01E.tokAct_TIb
#print axioms Bashlex.C01E.next_TIb
