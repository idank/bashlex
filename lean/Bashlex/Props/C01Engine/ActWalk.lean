/-
  Word expansion and the semantic actions hand the nested parser only strings that are smaller, by
  a measure `μ`, than a token value among their arguments.  So a set `E` of exceptions that holds
  what the nested parser raises on strings of measure below `B`, what the tokenizer raises and
  everything that is not a fuel marker is closed under the actions on arguments whose token values
  have measure at most `B` (`walk_action`).  `ActExn.lean` uses this with the length as measure (for
  the fuel marker of the engine loop), `C01Loops/NestExn.lean` with the number of opener characters
  (for the marker of the nesting depth).
-/
import Bashlex.Props.C01.Tokenizer
import Bashlex.Proofs.ClosedActions

namespace Bashlex.C01E
open Bashlex Bashlex.M Bashlex.C01

/-- what the walk needs of the exceptions `E`, the measure `μ` and the bound `B`; the characters
    listed in `drop_lt` are those on which `_expandwordinternal` starts a nested parse -/
structure NestOK (np : NestedParse) (μ : Str → Nat) (B : Nat) (E : Exn → Prop) : Prop where
  np : ∀ s b, μ s < B → Sat (np s b) (fun _ => True) E
  tok : ∀ x, TokExn x → E x
  notFuel : ∀ x, (∀ site, x ≠ .outOfFuel site) → E x
  loop : E (.outOfFuel "_expandwordinternal")
  slice_le : ∀ s a b, μ (Str.slice s a b) ≤ μ (s.drop a)
  drop_lt : ∀ {s : Str} {i k : Nat} {c : Char}, s[i]? = some c → c ∈ ['`', '$', '<', '>'] → i < k →
    μ (s.drop k) < μ s

variable {np : NestedParse} {μ : Str → Nat} {B : Nat} {E : Exn → Prop}

theorem walk_parsingError (W : NestOK np μ B E) {m s p} : E (mkParsingError m s p) := by
  unfold mkParsingError
  split <;> exact W.notFuel _ (fun _ h => by cases h)

theorem walk_of_tok (W : NestOK np μ B E) {α : Type} {m : M α} (h : TSat m) :
    Sat m (fun _ => True) E :=
  h.weaken (fun _ h => h) W.tok

/-- discharge `E x` for a literal `x` -/
macro "walk_exn" : tactic => `(tactic| first
  | exact walk_parsingError (by assumption)
  | exact NestOK.loop (by assumption)
  | exact NestOK.notFuel (by assumption) _ (fun _ h => by cases h))

/-- known callees (extended after each lemma) -/
syntax "walk_atom" : tactic
macro_rules | `(tactic| walk_atom) => `(tactic| assumption)
macro_rules | `(tactic| walk_atom) => `(tactic| exact NoExn.sat noExn_get)
macro_rules | `(tactic| walk_atom) => `(tactic| exact NoExn.sat (noExn_set _))
macro_rules | `(tactic| walk_atom) => `(tactic| exact NoExn.sat (noExn_modify _))
macro_rules | `(tactic| walk_atom) => `(tactic| exact NoExn.sat (noExn_ask _))
macro_rules | `(tactic| walk_atom) => `(tactic| exact NoExn.sat noExn_tapeSource)

/-- walk through a program: post-condition `True`, exceptions `E`; the structural rules come first,
    so that the list of callees is searched only at a call -/
macro "walk" : tactic => `(tactic| repeat' (first
  | with_reducible exact Sat.pure True.intro
  | with_reducible refine Sat.ite (fun _ => ?_) (fun _ => ?_)
  | with_reducible refine sat_bindE ?_ (fun _ => ?_)
  | with_reducible refine Sat.map ?_
  | with_reducible walk_atom
  | ((with_reducible refine Sat.raise ?_); walk_exn)
  | ((with_reducible refine Sat.foreign ?_); walk_exn)
  | ((with_reducible refine sat_loopT ?_ (fun _ => ?_) _ _); focus walk_exn)
  | split))

/-! ## word expansion -/

theorem walk_adjustpositions (W : NestOK np μ B E) (n : Node) (a b : Nat) :
    Sat (adjustpositions n a b) (fun _ => True) E := by
  unfold adjustpositions; walk
macro_rules | `(tactic| walk_atom) => `(tactic| exact walk_adjustpositions (by assumption) _ _ _)

theorem walk_recursiveparse (W : NestOK np μ B E) (base : Str) (i : Nat) (b : Bool)
    (h : μ (base.drop i) < B) : Sat (recursiveparse np base i b) (fun _ => True) E := by
  unfold recursiveparse
  refine sat_bindE (W.np _ _ h) (fun _ => ?_)
  walk
macro_rules
  | `(tactic| walk_atom) =>
    `(tactic| exact walk_recursiveparse (by assumption) _ _ _ (by assumption))

theorem walk_parsedolparen (W : NestOK np μ B E) (base : Str) (i : Nat) (h : μ (base.drop i) < B) :
    Sat (parsedolparen np base i) (fun _ => True) E := by
  unfold parsedolparen; simp only []; walk
macro_rules
  | `(tactic| walk_atom) =>
    `(tactic| exact walk_parsedolparen (by assumption) _ _ (by assumption))

theorem walk_paramexpand (W : NestOK np μ B E) (s : Str) (i : Nat) (hc : s[i]? = some '$')
    (hs : μ s ≤ B) : Sat (paramexpand np s i) (fun _ => True) E := by
  have hd : μ (s.drop (i + 1 + 1)) < B :=
    Nat.lt_of_lt_of_le (W.drop_lt hc (by decide) (by omega)) hs
  unfold paramexpand; simp only []; walk
macro_rules
  | `(tactic| walk_atom) =>
    `(tactic| exact walk_paramexpand (by assumption) _ _ (by assumption) (by assumption))

/-- every nested parse starts behind an opener character the scan stands on -/
theorem walk_expandStep (W : NestOK np μ B E) (tok : Token) (s : Str) (qd : Bool) (st : ExpSt)
    (hs : μ s ≤ B) : Sat (expandStep np tok s qd st) (fun _ => True) E := by
  unfold expandStep
  simp only []
  refine Sat.ite (fun _ => Sat.pure True.intro) (fun _ => ?_)
  split
  · exact Sat.foreign (by walk_exn)
  · rename_i c hc
    have lt : ∀ k, c ∈ ['`', '$', '<', '>'] → st.sindex < k → μ (s.drop k) < B :=
      fun k hop hk => Nat.lt_of_lt_of_le (W.drop_lt hc hop hk) hs
    refine Sat.ite (fun h1 => ?_) (fun _ => ?_)
    · -- `<(` / `>(`
      have hd : μ (s.drop (st.sindex + 2)) < B := lt _ (by
        simp only [Bool.or_eq_true, beq_iff_eq] at h1
        rcases h1 with h | h <;> (subst h; decide)) (by omega)
      walk
    refine Sat.ite (fun _ => ?_) (fun _ => ?_)
    · walk
    refine Sat.ite (fun h2 => ?_) (fun _ => ?_)
    · -- `$`
      simp only [Bool.and_eq_true, beq_iff_eq] at h2
      have hc' : s[st.sindex]? = some '$' := by rw [hc, h2.1]
      walk
    refine Sat.ite (fun h3 => ?_) (fun _ => ?_)
    · -- backquote
      simp only [beq_iff_eq] at h3
      refine Sat.ite (fun _ => Sat.pure True.intro) (fun _ => ?_)
      split
      · walk
      · refine sat_bindE (walk_recursiveparse W _ _ _ ?_) (fun _ => ?_)
        · rw [List.drop_zero]
          exact Nat.lt_of_le_of_lt (W.slice_le _ _ _) (lt _ (by subst h3; decide) (by omega))
        · walk
    walk
macro_rules
  | `(tactic| walk_atom) =>
    `(tactic| exact walk_expandStep (by assumption) _ _ _ _ (by assumption))

theorem walk_expandwordinternal (W : NestOK np μ B E) (tok : Token) (qd : Bool)
    (h : μ tok.valueStr ≤ B) : Sat (expandwordinternal np tok qd) (fun _ => True) E := by
  unfold expandwordinternal; simp only []; walk
macro_rules
  | `(tactic| walk_atom) =>
    `(tactic| exact walk_expandwordinternal (by assumption) _ _ (by assumption))

theorem walk_expandword (W : NestOK np μ B E) (tok : Token) (h : μ tok.valueStr ≤ B) :
    Sat (expandword np tok) (fun _ => True) E := by
  unfold expandword; simp only []; walk

/-! ## the actions -/

/-- the arguments' token values have measure at most `B` -/
def ArgsLe (μ : Str → Nat) (B : Nat) (args : List SVal) : Prop :=
  ∀ t, SVal.tok t ∈ args → μ t.valueStr ≤ B

/-- "raises within `E`" survives `pure`, `bind` and reading the state -/
theorem sat_reads :
    Reads (fun {α} (m : M α) => Sat m (fun _ => True) E)
      (fun {α} _ (m : M α) => Sat m (fun _ => True) E) :=
  ⟨⟨fun _ => Sat.pure True.intro, sat_bindE⟩, fun h => sat_bindE (NoExn.sat noExn_get) h, fun h => h⟩

/-- **the actions raise in `E` on arguments whose token values have measure at most `B`** -/
theorem walk_action (W : NestOK np μ B E) (fname : String) {args : List SVal}
    (hB : ArgsLe μ B args) : Sat (action np fname args) (fun _ => True) E :=
  have hF : ∀ {α : Type} {a b : String}, actionSite a b = true →
      Sat (M.foreign a b : M α) (fun _ => True) E :=
    fun _ => Sat.foreign (W.notFuel _ (fun _ h => by cases h))
  have hW := fun t ht => walk_expandword W t (hB t ht)
  rd_action sat_reads hF hW
    (rd_handleNotImplemented sat_reads hF hW (NoExn.sat noExn_optProceed)
      (fun _ => Sat.raise (W.notFuel _ (fun _ h => by cases h))))
    fname (fun _ => NoExn.sat (noExn_modify _)) (fun _ => walk_of_tok W tok_gatherheredocuments)
    (fun _ => fun _ _ _ hk => sat_bindE (NoExn.sat (noExn_set _)) (fun _ => hk))

/-! ## the hooks of the LR engine -/

theorem walk_next (W : NestOK np μ B E) : Sat (lrHooks np).next (fun _ => True) E := by
  show Sat (nextToken >>= fun t => pure (symOfTok t, SVal.tok t)) _ _
  exact sat_bindE (walk_of_tok W tok_nextToken) (fun _ => Sat.pure True.intro)

theorem walk_onError (W : NestOK np μ B E) (la : Nat × SVal) :
    Sat ((lrHooks np).onError la) (fun _ => True) E :=
  SatS.to_sat (satS_onError (fun _ _ _ => walk_parsingError W)
    (W.notFuel _ (fun _ h => by cases h)) la)

/-- `walk_action` on the values of a stack segment -/
theorem walk_action_vals (W : NestOK np μ B E) (fname : String) {args : List (Nat × SVal)}
    (h : ∀ x ∈ args, ∀ t, x.2 = .tok t → μ t.valueStr ≤ B) :
    Sat (action np fname (args.map (·.2))) (fun _ => True) E :=
  walk_action W fname (fun t ht => by
    obtain ⟨x, hx, hxt⟩ := List.mem_map.mp ht
    exact h x hx t hxt)

end Bashlex.C01E
