/-
  Property C16 at model level: `expansionlimit = k` prunes the substitution nodes nested deeper
  than `k` and changes nothing else.

  The statement relates two runs of the same program that differ only in `Local.limit`.

  Files
    C16/Rel.lean       relational ("two-run") program logic `Rel S S' m₁ m₂ R` for the monad `M`
                       (rules for pure / bind / get / set / modify / ite / loop / forIn; generic in
                       the relation between the environments, class `EnvRel`)
    C16/MapW.lean      word maps `mapW`, the relation "same image" (`NR f g`), `pruneLimit = mapW …`
    C16/Tree.lean      pruning / skeletons versus `mapPos`, `preorder`
    C16/Word.lean      `expandword` in two runs with related nested parsers
    C16/Actions.lean   every semantic action is natural in the word results (`rel_action`, one
                       lemma per action function of parser.py)
    C16/Engine.lean    the LR engine in two runs (`rel_run`)
    C16/Run.lean       state relation `St j b`, the instrumented parser `parserRunI`,
                       `parserRunI_plain` (it agrees with `parserRun` whenever it returns)
    C16/Keeps.lean     one level below the cut: the unlimited run expands words, the limited does not
    C16/Depth.lean     induction over the nesting depth (`parserRunI_rel`)
    C16/Frame.lean     the tokenizer frame, for all of `Model/Tokenizer.lean`: what never reads the parser
                       object by the generic walk (`Proofs/ClosedTok.lean`), the rest two-sided (`rel2`);
                       generic in the side relation and in `EnvRel`
    C16/FrameInst.lean its two instances; `frameHyp : FrameHyp` (no hypothesis is left)
    C16/FrAttr.lean    the simp set `fr` of the frame lemmas
    C16/Witness.lean   kernel-evaluated witnesses for (E1)
    C16/Stable.lean    (E2) from span containment (`heredocStable_of_spans`, `C16_total_checked`)

  What is proved.  `C16_partial`: for every input, all options and every `k`, if the unlimited parse
  succeeds then the parse with `expansionlimit = k` succeeds and returns exactly `pruneLimitL k` of
  the unlimited result (every returned part of a multi-line input), provided

  (E1) `flagsNeutral k s o` (decidable; computed by the instrumented parser `parseI`, which is the
       unlimited parser plus a run-time check and is proved to return what `parse` returns,
       `parseI_sound`): no nested parse that the limited run *skips* changes the parser-state flags
       it shares with its caller (`copy.copy(parserstate)` is shallow; flags compared up to
       CMDSUBST, EOFTOKEN, CASESTMT, which no tokenizer function reads).  Such a nested parse makes
       the two tokenizers diverge for real - but, on every input found, only in the direction
       the property allows: witness `$(case x in $(a)|b=1) echo;; esac)`: the unlimited parse
       FAILS (the inner `)` clears CASEPAT, `b=1` becomes an ASSIGNMENT_WORD and is rejected as
       a pattern) while `expansionlimit=0` succeeds.  The check also fires on harmless leaks
       (`$(case x in a) echo $(b);; c) echo;; esac)` with `k = 0`: CASEPAT is cleared one token
       early in the unlimited run only; the outcomes agree).  Frequency: 11 of 1791 accepted
       corpus / generator inputs with substitutions for `k = 0`, 1 for `k = 1`, 0 for `k = 2`;
       no input was found where the unlimited parse succeeds and the limited parse differs from
       the pruned result.
  (E2) `heredocStable k parts` (decidable): pruning does not change the index at which `parse`
       restarts.  This excludes defect D39 (fixed in /repo): `_endfinder` kept the LAST VISITED
       here-document, also one inside a substitution; witness
       `"cat <<E $(cat <<F\ny\nF\n)\nx\nE\necho b"`: unlimited → 4 parts
       (the body of `<<E` parsed again as commands `x`, `E`), `expansionlimit=0` → 2 parts.  With
       the fix (`lastHeredocEnd` is the maximum) no input violating (E2) is known.  (E2) is a
       hypothesis of `C16_partial`; it is discharged in `C16/Stable.lean` from span containment
       (a here-document inside a substitution ends before the part that holds the word ends):
       `heredocStable_of_spans`, `C16_total_checked`.
-/
import Bashlex.Props.C16.Depth
import Bashlex.Props.C16.FrameInst
import Bashlex.Proofs.ParseG

namespace Bashlex.C16
open Bashlex Bashlex.Spec Bashlex.Node Bashlex.M Bashlex.LR
attribute [local instance] stdEnvRel

/-! ## the instrumented entry points -/

/-- `runParser` with the instrumented parser (`k` = the limit of the run it is compared with) -/
def runParserI (k : Nat) (s : Str) (o : Opts) (touched : List Char) :
    Except Exn (Option Node) × List Char :=
  let env : Env := { tape := Tape.ofInput s, strict := o.strict, proceed := o.proceed, touched := touched }
  let (r, env') := (parserRunI k maxDepth).run { limit := o.limit } env
  (r.map (·.1), env'.touched)

def parseLoopI (k : Nat) (s : Str) (o : Opts) :
    Nat → Nat → List Node → List Char → Except Exn (List Node) × List Char
  | 0, _, _, touched => (.error (.outOfFuel "parse"), touched)
  | fuel + 1, index, parts, touched =>
    if index < s.length then
      match runParserI k (s.drop index) o touched with
      | (.error e, t) => (.error e, t)
      | (.ok none, t) => (.ok parts, t)
      | (.ok (some part), t) =>
        let part := part.shift index
        parseLoopI k s o fuel (max (nextIndex part) (index + 1)) (parts ++ [part]) t
    else (.ok parts, touched)

/-- `parse` with the instrumented parser: raises `FlagLeak` when a nested parse that the run
    with `expansionlimit = k` skips changes the shared parser-state flags -/
def parseI (k : Nat) (s : Str) (o : Opts := {}) : Outcome × List Char :=
  match runParserI k s o [] with
  | (.error e, t) => (.exn e, t)
  | (.ok none, t) => (.parts [], t)
  | (.ok (some first), t) =>
    match parseLoopI k s o (s.length + 1) (max (nextIndex first) 1) [first] t with
    | (.error e, t) => (.exn e, t)
    | (.ok parts, t) => (.parts parts, t)

/-- (E1) the instrumented parse goes through -/
def flagsNeutral (k : Nat) (s : Str) (o : Opts) : Bool :=
  match (parseI k s o).1 with
  | .parts _ => true
  | _ => false

/-- (E2) pruning does not change the restart index of any part -/
def heredocStable (k : Nat) (parts : List Node) : Bool :=
  parts.all fun p => nextIndex (pruneLimit k p) == nextIndex p

/-! ## one top-level parser run -/

theorem runParserI_ok {k : Nat} {s : Str} {o : Opts} {t : List Char} {r : Option Node}
    (h : (runParserI k s o t).1 = .ok r) :
    ∃ l' e', (parserRunI k maxDepth).run { limit := o.limit }
      { tape := Tape.ofInput s, strict := o.strict, proceed := o.proceed, touched := t } =
      (.ok (r, l'), e') := by
  unfold runParserI at h
  simp only [] at h
  rcases hr : (parserRunI k maxDepth).run { limit := o.limit }
      { tape := Tape.ofInput s, strict := o.strict, proceed := o.proceed, touched := t } with ⟨x, e'⟩
  rw [hr] at h
  cases x with
  | error x => simp [Except.map] at h
  | ok v =>
    obtain ⟨a, l'⟩ := v
    simp only [Except.map] at h
    cases h
    exact ⟨l', e', rfl⟩

theorem runParser_of_run {s : Str} {o : Opts} {t : List Char} {r : Option Node} {l' : Local} {e' : Env}
    (h : (parserRun maxDepth).run { limit := o.limit }
      { tape := Tape.ofInput s, strict := o.strict, proceed := o.proceed, touched := t } =
      (.ok (r, l'), e')) : (runParser s o t).1 = .ok r := by
  unfold runParser
  simp only []
  rw [h]
  rfl

/-- the limited run returns the pruned result of the instrumented run -/
theorem runParserI_rel (hF : FrameHyp) (k : Nat) (s : Str) (o : Opts) (ho : o.limit = none)
    (t₁ t₂ : List Char) {r₁ : Option Node} (h : (runParserI k s o t₁).1 = .ok r₁) :
    (runParser s { o with limit := some (k : Int) } t₂).1 = .ok (r₁.map (pruneLimit k)) := by
  obtain ⟨l', e', hr⟩ := runParserI_ok h
  have hS : St k false { limit := o.limit } { limit := some (k : Int) } := by
    rw [ho]
    exact ⟨rfl, rfl, rfl, rfl⟩
  obtain ⟨r₂, l₂', e₂', h2, hR, _, _⟩ := (parserRunI_rel hF maxDepth).2 k false
    { limit := o.limit } { limit := some (k : Int) }
    { tape := Tape.ofInput s, strict := o.strict, proceed := o.proceed, touched := t₁ }
    { tape := Tape.ofInput s, strict := o.strict, proceed := o.proceed, touched := t₂ } hS
    ⟨rfl, rfl, rfl⟩ r₁ l' e' hr
  have : r₂ = r₁.map (pruneLimit k) := by
    revert hR
    cases r₁ <;> cases r₂ <;> simp [ORel]
  rw [← this]
  exact runParser_of_run (o := { o with limit := some (k : Int) }) h2

/-- the plain run returns what the instrumented run returns -/
theorem runParserI_plain (k : Nat) (s : Str) (o : Opts) (t₁ t₂ : List Char) {r : Option Node}
    (h : (runParserI k s o t₁).1 = .ok r) : (runParser s o t₂).1 = .ok r := by
  obtain ⟨l', e', hr⟩ := runParserI_ok h
  obtain ⟨r₂, l₂', e₂', h2, hR, _, _⟩ := parserRunI_plain maxDepth k
    { limit := o.limit } { limit := o.limit }
    { tape := Tape.ofInput s, strict := o.strict, proceed := o.proceed, touched := t₁ }
    { tape := Tape.ofInput s, strict := o.strict, proceed := o.proceed, touched := t₂ } rfl
    ⟨rfl, rfl, rfl⟩ r l' e' hr
  subst hR
  exact runParser_of_run h2

/-! ## the loop of `parse`: `parseI` is `parseG` over the instrumented run -/

theorem parseLoopI_eq_G (k : Nat) (s : Str) (o : Opts) : ∀ fuel i ps t,
    parseLoopI k s o fuel i ps t = parseLoopG (runParserI k · o ·) s fuel i ps t := by
  intro fuel
  induction fuel with
  | zero => intros; rfl
  | succ fuel ih =>
    intro i ps t
    simp only [parseLoopI, parseLoopG, ih]
    generalize runParserI k (s.drop i) o t = x
    rcases x with ⟨_ | _ | _, _⟩ <;> rfl

theorem parseI_eq_G (k : Nat) (s : Str) (o : Opts) : parseI k s o = parseG (runParserI k · o ·) s := by
  simp only [parseI, parseG, parseLoopI_eq_G]
  generalize runParserI k s o [] = x
  rcases x with ⟨_ | _ | first, t⟩
  · rfl
  · rfl
  · simp only []
    generalize parseLoopG (runParserI k · o ·) s (s.length + 1) (max (nextIndex first) 1) [first] t = y
    rcases y with ⟨_ | _, _⟩ <;> rfl

/-- the instrumented parse, when it goes through, is the unlimited parse -/
theorem parseI_sound (k : Nat) (s : Str) (o : Opts) (parts : List Node)
    (h : (parseI k s o).1 = .parts parts) : (parse s o).1 = .parts parts := by
  rw [parse_eq_G]
  exact parseG_congr (fun s' t₁ t₂ r hr => runParserI_plain k s' o t₁ t₂ hr) (parseI_eq_G k s o ▸ h)

/-- the limited parse is the pruned instrumented parse -/
theorem parseI_limit (hF : FrameHyp) (k : Nat) (s : Str) (o : Opts) (parts : List Node)
    (ho : o.limit = none) (h : (parseI k s o).1 = .parts parts) (hst : heredocStable k parts = true) :
    (parse s { o with limit := some (k : Int) }).1 = .parts (pruneLimitL k parts) := by
  rw [parse_eq_G, pruneLimitL_map]
  exact parseG_map (fun n i => prune_shift k i n)
    (fun s' t₁ t₂ r hr => runParserI_rel hF k s' o ho t₁ t₂ hr) (parseI_eq_G k s o ▸ h)
    (fun p hp => by simpa using List.all_eq_true.mp hst p hp)

/-- **C16 (model level), conditional on the frame hypotheses on the tokenizer.**
    Whenever the unlimited parse of an input succeeds - and no nested parse skipped by the
    limited run changes the shared flags (E1), and pruning keeps the restart indices (E2) - the
    parse with `expansionlimit = k` succeeds too and equals the unlimited result with every
    substitution node nested deeper than `k` removed; this covers every returned part of a
    multi-line input. -/
theorem C16_partial_conditional (hF : FrameHyp) (s : Str) (o : Opts) (k : Nat) (parts : List Node) :
    o.limit = none → (parse s o).1 = .parts parts →
    flagsNeutral k s o = true → heredocStable k parts = true →
    (parse s { o with limit := some (k : Int) }).1 = .parts (Spec.pruneLimitL k parts) := by
  intro ho hp hn hst
  unfold flagsNeutral at hn
  rcases hI : (parseI k s o).1 with ps | _ | _ | _ <;> rw [hI] at hn <;> simp only [] at hn <;>
    try exact absurd hn (by decide)
  have := parseI_sound k s o ps hI
  rw [hp] at this
  cases this
  exact parseI_limit hF k s o parts ho hI hst

/-- **C16 (model level).**  The frame hypotheses are theorems (`frameHyp`,
    `Props/C16/FrameInst.lean`): for every input, all options and every `k`, whenever the unlimited
    parse succeeds - and (E1) no nested parse skipped by the limited run changes the shared
    flags, (E2) pruning keeps the restart indices - the parse with `expansionlimit = k` succeeds
    and returns the unlimited result with every substitution node nested deeper than `k` removed
    (word values, spans and all other nodes identical), for every returned part. -/
theorem C16_partial (s : Str) (o : Opts) (k : Nat) (parts : List Node) :
    o.limit = none → (parse s o).1 = .parts parts →
    flagsNeutral k s o = true → heredocStable k parts = true →
    (parse s { o with limit := some (k : Int) }).1 = .parts (Spec.pruneLimitL k parts) :=
  C16_partial_conditional frameHyp s o k parts

end Bashlex.C16

#print axioms Bashlex.C16.C16_partial
#print axioms Bashlex.C16.frameHyp
#print axioms Bashlex.C16.C16_partial_conditional
#print axioms Bashlex.C16.parseI_sound
#print axioms Bashlex.C16.parseI_limit
#print axioms Bashlex.C16.parserRunI_rel
#print axioms Bashlex.C16.rel_action
#print axioms Bashlex.C16.rel_run
#print axioms Bashlex.C16.rel_expandwordWith
