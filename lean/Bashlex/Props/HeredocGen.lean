/-
  HeredocGen: `bashlex/heredoc.py` (`gatherheredocuments`, `makeheredoc`) and `tokenizer.readline`, tied
  to the source by the SKELETON route: `tools/extract.py` (`gen_heredoc`) matches the three bodies
  against fixed skeletons (`HD_GATHER`, `HD_MAKE`, `HD_READLINE`; it raises on any deviation) and emits
  every constant and every choice the code makes as `Gen.heredocDesc` (`Gen/Heredoc.lean`).
  Here:
    `makeheredocP d`, `gatherP d` — the model's reader (`Model/Tokenizer.lean`) with those data as
        parameters: which slice of the line is compared and appended, whether tabs are stripped iff
        `killleading`, the arguments of `readline`, the `-1` of the end position, the `+1` of the
        adjacency test, the text of the EOF error, first-in-first-out or last-in-first-out service of
        the stack, the non-strict skip and its `+= 1`;
    `makeheredoc_gen`, `gather_gen` — at the generated values they ARE `makeheredoc` and
        `gatherheredocuments` (equations of computations of the model monad);
    `heredoc_choices` — the choices that are not parameters of the computation but of the
        representation (the delimiter is `redirnode.output.word`, the word as the tokenizer
        delivered it: no quote removal; `lineno` is 0), decided on the generated data.
  `Props/C10*.lean` proves `makeheredoc`/`gatherheredocuments` equal to pure specifications; with the
  two equations here those are statements about the parametrised reader at the source's values.
-/
import Bashlex.Model.Tokenizer
import Bashlex.Gen.Heredoc
import Bashlex.Proofs.Hoare

namespace Bashlex.HeredocGen
open Bashlex Bashlex.Gen

/-- `tokenizer._shell_input_line_index += n` -/
def bumpN : Nat → M Unit
  | 0 => pure ()
  | n + 1 => do
    bumpIdx
    bumpN n

/-- `stack.pop(0)` / `stack.pop()` -/
def popEntry {α : Type} (front : Bool) (st : List α) : Option (α × List α) :=
  if front then
    match st with
    | [] => none
    | x :: rest => some (x, rest)
  else
    match st.getLast? with
    | none => none
    | some x => some (x, st.dropLast)

/-- `makeheredoc` with the choices of `d` -/
def makeheredocP (d : HeredocDesc) (id : Nat) (killleading : Bool) : M Unit := do
  let l ← get
  let cell ← match l.store[id]? with
    | some c => pure c
    | none => M.foreign "IndexError" "makeheredoc"
  let redirword := cell.delim
  let startpos ← curIdx
  let first ← readline d.readFirst
  let fuel ← loopFuel
  let fin ← M.loop "makeheredoc" (fun (st : HDState) => do
    if !strTruthy st.fullline then return .inr st
    let mut fullline : Str := st.fullline.getD []
    if (if d.stripGuarded then killleading else true) then
      match stripLeadingTabs fullline with
      | none => M.foreign "IndexError" "makeheredoc"
      | some f => fullline := f
    if fullline.isEmpty then return .inl { st with fullline := some fullline }
    if pyDropLastN fullline d.cmpDrop == redirword then
      match fullline[redirword.length]? with
      | none => M.foreign "IndexError" "makeheredoc"
      | some ch =>
        if ch == '\n' then
          return .inr { fullline := some fullline, document := st.document ++ pyDropLastN fullline d.docDrop }
    let document := st.document ++ fullline
    let next ← readline d.readNext
    return .inl { fullline := next, document := document }) fuel { fullline := first }
  if !strTruthy fin.fullline then
    let line ← tapeLine
    let i ← curIdx
    M.raise (mkParsingError
      (d.msg0 ++ toString d.lineno ++ d.msg1 ++ pyReprStr redirword ++ d.msg2)
      line (i : Int))
  let document := fin.document
  let endpos := (← curIdx) - d.endOff
  let l ← get
  let pos := if cell.pos.2 + d.adjOff == startpos then (cell.pos.1, endpos) else cell.pos
  let cell' : RedirCell :=
    { cell with heredoc := some ((startpos, endpos), document), pos := pos }
  set { l with store := l.store.set id cell' }

/-- one iteration of `while tokenizer.redirstack:` with the choices of `d` -/
def gatherBodyP (d : HeredocDesc) (_ : Unit) : M (Unit ⊕ Unit) := do
  let l ← get
  match popEntry d.popFront l.redirstack with
  | none => return .inr ()
  | some ((id, kill), rest) =>
    let p ← peekc
    if p.isNone then
      let skip ← if d.strictCheck then (do pure (!(← optStrict))) else pure true
      if skip then
        bumpN d.skipBump
        return .inr ()
    modify fun l => { l with redirstack := rest }
    makeheredocP d id kill
    return .inl ()

/-- `gatherheredocuments` with the choices of `d` -/
def gatherP (d : HeredocDesc) : M Unit := do
  let fuel := (← get).redirstack.length + 1
  M.loop "gatherheredocuments" (gatherBodyP d) fuel ()

/-- the body of the loop of the hand-written `gatherheredocuments` -/
def gatherBody (_ : Unit) : M (Unit ⊕ Unit) := do
  let l ← get
  match l.redirstack with
  | [] => return .inr ()
  | (id, kill) :: rest =>
    let p ← peekc
    if p.isNone then
      if !(← optStrict) then
        bumpIdx
        return .inr ()
    modify fun l => { l with redirstack := rest }
    makeheredoc id kill
    return .inl ()

theorem gather_body : gatherheredocuments = (do
    let fuel := (← get).redirstack.length + 1
    M.loop "gatherheredocuments" gatherBody fuel ()) := rfl

theorem msg_gen (w : String) :
    heredocDesc.msg0 ++ toString heredocDesc.lineno ++ heredocDesc.msg1 ++ w ++ heredocDesc.msg2 =
      "here-document at line 0 delimited by end-of-file (wanted " ++ w ++ ")" := by
  simp only [heredocDesc]
  have h : ("here-document at line " ++ toString 0 ++ " delimited by end-of-file (wanted " : String) =
      "here-document at line 0 delimited by end-of-file (wanted " := by decide
  rw [h]

/-- **`makeheredoc` is the parametrised reader at the values read off heredoc.py** -/
theorem makeheredoc_gen (id : Nat) (killleading : Bool) :
    makeheredocP heredocDesc id killleading = makeheredoc id killleading := by
  unfold makeheredocP makeheredoc
  simp only [msg_gen]
  rfl

theorem bumpN_one : bumpN 1 = bumpIdx := by
  simp [bumpN]

theorem gatherBody_gen : gatherBodyP heredocDesc = gatherBody := by
  funext u
  unfold gatherBodyP gatherBody
  apply bind_congr; intro l
  cases hs : l.redirstack with
  | nil => simp [popEntry, heredocDesc]
  | cons e rest =>
    obtain ⟨id, kill⟩ := e
    simp [popEntry, heredocDesc, bumpN_one, makeheredoc_gen]
    rfl

/-- **`gatherheredocuments` is the parametrised one at the values read off heredoc.py** -/
theorem gather_gen : gatherP heredocDesc = gatherheredocuments := by
  rw [gather_body, gatherP, gatherBody_gen]

/-- the choices that concern the representation, not the computation -/
theorem heredoc_choices :
    heredocDesc.delimiter = "output.word" ∧ heredocDesc.lineno = 0 ∧ heredocDesc.popFront = true ∧
    heredocDesc.strictCheck = true ∧ heredocDesc.stripGuarded = true := by decide

#print axioms makeheredoc_gen
#print axioms gather_gen
#print axioms heredoc_choices

end Bashlex.HeredocGen
