/-
  Property C01 ("disciplined totality") at model level, for all inputs and all options.

  For `parse`, `parsesingle` (and `split`): the outcome is the documented result shape or an
  exception satisfying `Allowed TokExn`:
    * a `ParsingError` or a `NotImplementedError`;
    * one of the foreign exceptions of `knownForeign` (raised above the tokenizer: three defects
      the model reproduces, with kernel-checked witnesses in `Props/C01/Witness.lean`, and four
      sites that could not be excluded without positional facts about tokens; no witness found);
    * one of the tokenizer's own raise sites `tokForeign` (not analysed for reachability);
    * the out-of-fuel marker of a loop covered by fuel only: the LR engine, the nesting depth
      (`fuelSites`), the loops of the tokenizer (`tokFuel`), and, for `split`, its token loop.
  No other foreign exception escapes — none of the `AttributeError` / `TypeError` / `IndexError` /
  `AssertionError` branches of the semantic actions (`p.slice`, `_partsspan`, `p_simple_list`,
  `p_shell_command`, `p_pipeline_command`, …), no internal failure of the LR engine, not the
  engine's unmodelled error recovery, not the dead `accept` assertion — and neither the loop of
  `_expandwordinternal` nor the loop of `parse` ever runs out of fuel (`expand_progress`,
  `parseLoop_exn`: their out-of-fuel markers are not in the lists).

  Files:
    C01/Basic.lean      `Allowed`, `knownForeign`, `fuelSites`, Hoare rules (`SatS.loop_ghost`: loops with a variant)
    C01/Expand.lean     word expansion: discipline + progress (`expand_progress`)
    LR/Exact.lean       LR engine with an error function that never returns (`run_sound'`)
    C01/Tokens.lean     token facts `TF` (WHILE/UNTIL spelling, QUOTED ⇒ non-empty)
    C01/Shapes.lean     shapes of semantic values, `shAction`, grammar obligation `shape_ok`
    C01/Actions.lean    `shAction_sound`: one lemma per action function
    C01/Parse.lean      hooks, `parserRun_exn` (all depths), entry points, shape lemmas, `split`
    C01/Tokenizer.lean  `TokExn`, automatic walk through the tokenizer
    C01/Fuel.lean       fuel adequacy of the structurally recursive scanners
    C01/Witness.lean    kernel-checked witnesses of the three known defects
-/
import Bashlex.Props.C01.Parse
import Bashlex.Props.C01.Tokenizer
import Bashlex.Props.C01.Fuel

namespace Bashlex.C01
open Bashlex Bashlex.M

/-- the exception discipline with the tokenizer's part made explicit -/
abbrev Disciplined : Exn → Prop := Allowed TokExn

/-- `Disciplined`, spelled out -/
theorem disciplined_iff (x : Exn) :
    Disciplined x ↔
      (∃ m s p, x = .parsing m s p) ∨ (∃ w, x = .notImplemented w) ∨
      x ∈ knownForeign ∨ x ∈ tokForeign ∨
      (∃ site, x = .outOfFuel site ∧ (site ∈ fuelSites ∨ site ∈ tokFuel)) := by
  constructor
  · rintro ((h | h | ⟨site, rfl, h⟩) | h | h | h | ⟨site, rfl, h⟩)
    · exact Or.inl h
    · exact Or.inr (Or.inr (Or.inr (Or.inl h)))
    · exact Or.inr (Or.inr (Or.inr (Or.inr ⟨site, rfl, Or.inr h⟩)))
    · exact Or.inl h
    · exact Or.inr (Or.inl h)
    · exact Or.inr (Or.inr (Or.inl h))
    · exact Or.inr (Or.inr (Or.inr (Or.inr ⟨site, rfl, Or.inl h⟩)))
  · rintro (h | h | h | h | ⟨site, rfl, h | h⟩)
    · exact Or.inr (Or.inl h)
    · exact Or.inr (Or.inr (Or.inl h))
    · exact Or.inr (Or.inr (Or.inr (Or.inl h)))
    · exact Or.inl (Or.inr (Or.inl h))
    · exact Or.inr (Or.inr (Or.inr (Or.inr ⟨site, rfl, h⟩)))
    · exact Or.inl (Or.inr (Or.inr ⟨site, rfl, h⟩))

/-- every exception escaping one parser run, at every nesting depth, is disciplined -/
theorem C01_parserRun (d : Nat) : Sat (parserRun d) (fun _ => True) Disciplined :=
  parserRun_exn tok_nextToken tok_gatherheredocuments d

/-- **C01 (model level), `parse`**: for every input and all options, `parse` returns a list of
    nodes or raises a disciplined exception -/
theorem C01_partial (s : Str) (o : Opts) :
    match (parse s o).1 with
    | .parts _ => True
    | .exn x => Disciplined x
    | _ => False := by
  have h := parse_ok tok_nextToken tok_gatherheredocuments s o
  revert h
  cases (parse s o).1 <;> exact fun h => h

/-- **C01 (model level), `parsesingle`** -/
theorem C01_partial_single (s : Str) (o : Opts) :
    match (parsesingle s o).1 with
    | .single _ => True
    | .exn x => Disciplined x
    | _ => False := by
  have h := parsesingle_ok tok_nextToken tok_gatherheredocuments s o
  revert h
  cases (parsesingle s o).1 <;> exact fun h => h

/-- **C01 (model level), `split`**: strings, or a disciplined exception, or the out-of-fuel marker
    of its token loop -/
theorem C01_partial_split (s : Str) :
    match (split s).1 with
    | .strs _ => True
    | .exn x => Disciplined x ∨ x = .outOfFuel "split"
    | _ => False := by
  have h := split_ok tok_nextToken tok_gatherheredocuments s
  revert h
  cases (split s).1 <;> exact fun h => h

/-- C01 above the tokenizer, for *every* token source discipline `T`: whatever `nextToken` and
    `gatherheredocuments` may raise, nothing else is added but the items of `Allowed` -/
theorem C01_conditional {T : Exn → Prop} (hTok : Sat nextToken (fun _ => True) T)
    (hGather : Sat gatherheredocuments (fun _ => True) T) (s : Str) (o : Opts) :
    ParseOK T (parse s o).1 ∧ SingleOK T (parsesingle s o).1 ∧ SplitOK T (split s).1 :=
  ⟨parse_ok hTok hGather s o, parsesingle_ok hTok hGather s o, split_ok hTok hGather s⟩

/-- **termination, `_expandwordinternal`** (3a): the loop never runs out of its `2·len + 4` fuel —
    `outOfFuel "_expandwordinternal"` is not disciplined, and the expansion is -/
theorem C01_expand_terminates :
    ¬ Disciplined (.outOfFuel "_expandwordinternal") := by
  rw [disciplined_iff]
  simp [knownForeign, tokForeign, fuelSites, tokFuel]

/-- **termination, the loop of `parse`** (3b): `outOfFuel "parse"` is not disciplined -/
theorem C01_parse_terminates : ¬ Disciplined (.outOfFuel "parse") := by
  rw [disciplined_iff]
  simp [knownForeign, tokForeign, fuelSites, tokFuel]

/-- the markers of the model itself never escape -/
theorem C01_no_marker (site : String) : ¬ Disciplined (.foreign "NotModelled" site) := by
  rw [disciplined_iff]
  simp [knownForeign, tokForeign, fuelSites, tokFuel]

/-- no `TypeError`, `AttributeError` other than D24's, `KeyError`, `NameError` from above the
    tokenizer: the foreign exceptions that can escape are exactly the two lists -/
theorem C01_foreign (ty site : String) (h : Disciplined (.foreign ty site)) :
    Exn.foreign ty site ∈ knownForeign ∨ Exn.foreign ty site ∈ tokForeign := by
  rw [disciplined_iff] at h
  rcases h with ⟨_, _, _, h⟩ | ⟨_, h⟩ | h | h | ⟨_, h, _⟩
  · cases h
  · cases h
  · exact Or.inl h
  · exact Or.inr h
  · cases h

end Bashlex.C01

#print axioms Bashlex.C01.C01_partial
#print axioms Bashlex.C01.C01_partial_single
#print axioms Bashlex.C01.C01_partial_split
#print axioms Bashlex.C01.C01_conditional
#print axioms Bashlex.C01.C01_parserRun
#print axioms Bashlex.C01.expand_progress
#print axioms Bashlex.C01.sat_expandwordinternal
#print axioms Bashlex.C01.parseLoop_exn
#print axioms Bashlex.C01.parse_nil
#print axioms Bashlex.C01.shAction_sound
#print axioms Bashlex.C01.C01_expand_terminates
#print axioms Bashlex.C01.C01_foreign
#print axioms Bashlex.C01.stringextract_adequate
