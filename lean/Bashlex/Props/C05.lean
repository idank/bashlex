/-
  Property C05 ("complete AST: no token of an accepted input is dropped or duplicated") at model
  level, TOKEN-LEVEL half, for the parser above the tokenizer:

    for every input and all options, every tree `parse` / `parsesingle` returns has leaves
    (`Spec.leaves`, in tree order) that are accounted for -- group by group, in order, nothing
    left over on either side (`FCovers`) -- by the tokens the tokenizer delivered to that parser
    run, except for at most one unconsumed look-ahead token;

  and the parts `parse` returns are exactly the successive parser runs, each restarted where the
  previous part (and its here-document bodies) ended (`PartsFrom`).

  The groups (`FGroup`, `Props/C05/Cover.lean`) say precisely which tokens become which leaves:
    leaf    one token ↦ one leaf at the token's span (words, assignments, reserved words incl.
            `(` `)` `{` `}` `!` `;;` `;&` `;;&` and `|` in patterns, operators `;` `&` `&&` `||`
            and NEWLINE where it separates commands, pipes `|` `|&`);
    redir   `[fd] op target` ↦ ONE leaf from the start of the first token to the end of the target;
    here    the same for `<<` / `<<-`; the leaf may have been extended to the right over the body
            (`HereOK`), and the body -- which is not a token -- is a leaf of its own when the
            redirect was not extended over it (`redirLeaves`);
    drop    one NEWLINE token ↦ no leaf.  THE ONLY TOKENS DROPPED ARE NEWLINES, in exactly these
            places (each witnessed in `C05/Witness.lean`):
              - NEWLINEs before the first command of a parser run (shifted in state 0);
              - `simple_list_terminator : NEWLINE` (the end of a top-level command);
              - `newline_list : newline_list NEWLINE` (blank lines after `&&`, `||`, `|`, `;`,
                NEWLINE, keywords, `in`, `)` of a case pattern, ...);
              - `list_terminator : NEWLINE` (after `for x in words`, after `!` / `time`);
              - `list0 : list1 NEWLINE newline_list` when `list1` is a single command
                (`{ a⏎}`, `if a⏎then`): with two or more commands the NEWLINE IS an operator leaf;
            kept are: `;` everywhere (also `list_terminator : SEMICOLON`, reserved word in `for`),
            `;;` `;&` `;;&`, `(` `)` `{` `}`, all keywords;
    d19     DEFECT D19 (only with `proceedonerror`): the tokens of a `time` specification
            (TIME / TIMEOPT / TIMEIGN) ↦ ONE leaf at (0, 0) (`p_pipeline_command` drops the
            `timespec` node and invents a `!` reserved word at `p.lexspan(1) = (0, 0)`).
            Excluded by the decidable predicate `noEmptyLeaf` (`fcovers_strict`).

  Hypothesis (named, explicit): `TokLog TL` -- C03's hypothesis on the token source `TokSpans`,
  for a ghost tokenizer invariant `TL ts …` that also pins the *log* `ts` of delivered tokens --
  and C03's `RootEnds`.  The theorem holds for EVERY such `TL`: whatever the tokenizer guarantees
  about the sequence of delivered tokens (e.g. `TokGaps`: it skips only layout between tokens)
  transfers to the leaves.  The character-level half of C05 ("text outside leaf spans is layout")
  needs exactly such a tokenizer fact; it is `C05_final` (`Props/C05Final.lean`), not proved
  here; D11 (a here-document body inside
  `( )`, `{ }`, … is also tokenized as commands: `leaf-overlap+heredoc-body`) is a defect of that
  half: at token level the statement holds for those inputs too.

  This file holds what the statements are made of (`leaves_shift`, `PartsFrom`, `TokLogAll`,
  `FCoversStrict`; `PartsC` for the character level); the theorems (`C05_partial` and its forms, `C05_tokens_in_leaves`) are in
  `Props/C05Token.lean`, after the run theorem they are instances of.

  Architecture (same as C03; robust against renumbering of productions):
    LR/SoundOrd.lean   `run_sound_ordC`: `run_sound_ord` with what the engine knows at each move
    C05/Cover.lean      `aleaves`, `leaves_resolve`, `Covers` / `FCovers`
    C05/Actions.lean    one lemma per action function of parser.py (state-agnostic)
    C05/Grammar.lean    grammar / table facts decided by the kernel
    C05/Engine.lean     `Acc`, `act_leaves` (dispatch)
    C05/Hooks.lean      `TokLog`, `SILC`, `leaves_hooksT : HooksOrdC …`, `RunOK`
    C05/Witness.lean    witnesses
    C05/Gaps.lean       (imports this file) `TokLog.sorted`: the consumed tokens have ordered
                        spans; `token_in_leaf`, `leaf_starts_at_token`: spatially, every consumed
                        token is a dropped NEWLINE, a D19 `time` token, or lies inside a leaf, and
                        every leaf but here-document bodies and D19's starts at a consumed token;
                        `TokGaps` (stated only; proved form `TokGapsC`, `C05/TokGapsProof.lean`)
    C08/RunIT.lean      `level_leavesIT`: one parser run, over any nested parser that keeps its
                        contract; `parseK_leavesIT`
    C05/FRun.lean       `parserRun_leaves`: the instance at the plain nested parser
    C05Token.lean       `C05_partial`, `C05_tokens_in_leaves`, `C05_total_conditional`
-/
import Bashlex.Props.C05.Hooks
import Bashlex.Props.C13.Shift

namespace Bashlex.C05
open Bashlex Bashlex.Spec Bashlex.Node Bashlex.M Bashlex.LR Bashlex.C03

/-! ## leaves of a shifted tree -/

def shL (k : Nat) (x : Span × Bool) : Span × Bool := ((x.1.1 + k, x.1.2 + k), x.2)

theorem spanIn_sh (k : Nat) (b p : Span) : spanIn (b.1 + k, b.2 + k) (p.1 + k, p.2 + k) = spanIn b p := by
  simp [spanIn]

theorem leaves_shift (k : Nat) : (n : Node) → leaves (n.shift k) = (leaves n).map (shL k) := by
  intro n
  induction n using Node.children_induction with
  | hP n ih =>
    unfold Node.shift
    cases hd : C03.descends n with
    | true =>
      rw [leaves_of_descends ((descends_mapPos _ n).trans hd), Node.children_mapPos,
        List.flatMap_map, leaves_of_descends hd, List.map_flatMap]
      exact Node.flatMap_congr ih
    | false =>
      cases n with
      | redirect p i t o oa h hid =>
        cases h with
        | none => simp [mapPos, mapPosO, leaves, shL]
        | some b =>
          simp only [mapPos, mapPosO, leaves]
          rw [C03.pos_mapPos]
          simp only [spanIn_sh]
          split <;> simp [shL]
      | _ => simp [C03.descends] at hd <;> simp [mapPos, leaves, shL]

theorem leavesL_shift (k : Nat) :
    (l : List Node) → leavesL (mapPosL (fun p => (p.1 + k, p.2 + k)) l) = (leavesL l).map (shL k) := by
  intro l
  rw [Node.mapPosL_eq, leavesL_eq, leavesL_eq, List.flatMap_map, List.map_flatMap]
  exact Node.flatMap_congr fun n _ => leaves_shift k n

/-! ## the parts of `parse` -/

/-- **the parts `parse` returns from index `i` on**: each part is what a parser run over
    `s[i:]` returned (`RunOK`: fine, and its leaves are covered by the tokens delivered to that
    run), moved by `i`; the next run starts where the part, and its here-document bodies, end
    (`max(part.pos[1], ef.end, i + 1)`).  One part per run, in order, nothing in between. -/
inductive PartsFrom (TL : List Token → Nat → Nat → Local → Env → Prop) (s : Str) :
    Nat → List Node → Prop
  | nil (i : Nat) : PartsFrom TL s i []
  | cons {i : Nat} {n : Node} {rest : List Node} : i ≤ s.length → RunOK TL (s.drop i) n →
      PartsFrom TL s (max (nextIndex (n.shift i)) (i + 1)) rest →
      PartsFrom TL s i (n.shift i :: rest)

/-- every part is a parser run's result, moved -/
theorem PartsFrom.mem {TL : List Token → Nat → Nat → Local → Env → Prop} {s : Str} :
    ∀ {i : Nat} {ps : List Node}, PartsFrom TL s i ps → ∀ part ∈ ps,
      ∃ k n, i ≤ k ∧ k ≤ s.length ∧ part = n.shift k ∧ RunOK TL (s.drop k) n := by
  intro i ps h
  induction h with
  | nil i => intro part hp; cases hp
  | @cons i n rest hi hrun _ ih =>
    intro part hp
    rcases List.mem_cons.mp hp with rfl | hp
    · exact ⟨i, n, Nat.le_refl i, hi, rfl, hrun⟩
    · obtain ⟨k, m, h1, h2, h3, h4⟩ := ih part hp
      refine ⟨k, m, ?_, h2, h3, h4⟩
      have : i + 1 ≤ max (nextIndex (n.shift i)) (i + 1) := Nat.le_max_right _ _
      omega

/-- the named hypotheses, bundled -/
structure TokLogAll (TL : List Token → Nat → Nat → Local → Env → Prop) : Prop where
  tok : TokLog TL
  rootEnds : RootEnds


/-! ## the exclusion of D19, as a decidable predicate on the returned leaves -/

/-- no leaf has an empty span -/
def noEmptyLeaf (ls : List (Span × Bool)) : Bool := ls.all fun x => x.1.1 < x.1.2

/-- `FCovers` without the D19 group -/
inductive FCoversStrict (len : Nat) : List Token → List (Span × Bool) → Prop
  | nil : FCoversStrict len [] []
  | cons {ts ls ts' ls'} : FGroup len ts ls → ls ≠ [((0, 0), false)] →
      FCoversStrict len ts' ls' → FCoversStrict len (ts ++ ts') (ls ++ ls')

/-- if no returned leaf is empty, no token was replaced by an invented leaf: every group is a
    leaf, a dropped NEWLINE, or a redirection -/
theorem fcovers_strict {len : Nat} {ts : List Token} {ls : List (Span × Bool)}
    (h : FCovers len ts ls) (hne : noEmptyLeaf ls = true) : FCoversStrict len ts ls := by
  induction h with
  | nil => exact .nil
  | @cons ts1 ls1 ts2 ls2 hg _ ih =>
    unfold noEmptyLeaf at hne ih
    rw [List.all_append, Bool.and_eq_true] at hne
    refine .cons hg ?_ (ih hne.2)
    intro hc
    rw [hc] at hne
    simp at hne

end Bashlex.C05

/-! ## character level: a logged tokenizer invariant that PINS THE LINE of the run

  `TokLog TL` asks `init` for every input `s`, so no `TL` satisfying it can say which line the
  parser object reads; the character-level statement needs that.  `TokLogC TL` is `TokLog TL`
  without `init` (`Props/C05/Hooks.lean`); the loop of `parse` then uses a FAMILY `TLf s0` of
  invariants, one per run (`PartsC`; the run theorems are those of `Props/C05/FRun.lean`).
-/

namespace Bashlex.C05
open Bashlex Bashlex.Spec Bashlex.Node Bashlex.M Bashlex.LR Bashlex.C12 Bashlex.C03

/-- **the parts `parse` returns from index `i` on**, each run with its own invariant `TLf s[i:]` -/
inductive PartsC (TLf : Str → List Token → Nat → Nat → Local → Env → Prop) (s : Str) :
    Nat → List Node → Prop
  | nil (i : Nat) : PartsC TLf s i []
  | cons {i : Nat} {n : Node} {rest : List Node} : i ≤ s.length →
      RunOK (TLf (s.drop i)) (s.drop i) n →
      PartsC TLf s (max (nextIndex (n.shift i)) (i + 1)) rest →
      PartsC TLf s i (n.shift i :: rest)

theorem PartsC.mem {TLf : Str → List Token → Nat → Nat → Local → Env → Prop} {s : Str} :
    ∀ {i : Nat} {ps : List Node}, PartsC TLf s i ps → ∀ part ∈ ps,
      ∃ k n, i ≤ k ∧ k ≤ s.length ∧ part = n.shift k ∧ RunOK (TLf (s.drop k)) (s.drop k) n := by
  intro i ps h
  induction h with
  | nil i => intro part hp; cases hp
  | @cons i n rest hi hrun _ ih =>
    intro part hp
    rcases List.mem_cons.mp hp with rfl | hp
    · exact ⟨i, n, Nat.le_refl i, hi, rfl, hrun⟩
    · obtain ⟨k, m, h1, h2, h3, h4⟩ := ih part hp
      refine ⟨k, m, ?_, h2, h3, h4⟩
      have : i + 1 ≤ max (nextIndex (n.shift i)) (i + 1) := Nat.le_max_right _ _
      omega

end Bashlex.C05

#print axioms Bashlex.LR.run_sound_ordH
#print axioms Bashlex.C05.leaves_resolve
#print axioms Bashlex.C05.act_leaves
#print axioms Bashlex.C05.fcovers_strict
