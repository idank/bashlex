/-
  Property C05, the link to the EXECUTABLE `Spec.coverOK`, for the WHOLE result of
  `parse`.

  `C05_coverOK_plain` (all options, every input below the model's fuel; no `rootEndsChecked`:
  `Totals.rootEndsChecked_all`): if
      * `SortOK (leavesL parts)`     `Array.qsort` returned a sorted permutation (decidable; the
                                      kernel cannot run `qsort`; `#eval` true on 5912 inputs),
      * `plainLeaves parts`          no leaf is flagged as a here-document body, none is empty
                                      (D19), every leaf ends inside the input (decidable on the
                                      result),
      * `rootsAtLeaves parts`        every part ends where its last leaf ends:
                                      `nextIndex part = end of the last leaf` (decidable on the
                                      result; not proved as a theorem:
                                      `Props/C03/RE` proves that the text before the end of a root
                                      does not end in two newlines (`EG`), not that the root ends
                                      at a token end),
  then `Spec.coverOK s parts` reports nothing between the leaves of ALL parts: every signature
  is `trailing-text-not-layout` -- no `leaf-overlap`, no `gap-not-layout`, across runs.
  `C05_coverOK_plain_nil`: under the same conditions even `Spec.coverOK s parts = []`.

  How: every run tiles its own line (`Props/C05/FTiled.lean`, for the real tokenizer; the chain
  survives the "dead" state, so there is no condition on the cursor); the tiling is moved to
  the coordinates of `s` (`tiled_shift`); the next run starts where the last leaf of the part
  ends (`rootsAtLeaves`), so its leading layout is the gap between the parts (`tiledTo_parts`);
  on a tiled list the leaves are strictly ordered, so the sorted permutation `sortSpans` returns
  is the list itself (`List.Perm.eq_of_pairwise`).

  Witnesses of the exclusions (`#eval` in `Props/C05/FValidate.lean`, `FValidate2.lean`): body leaf
  `cat <<E⏎x⏎E⏎`; empty leaf (D19) `time a` with `proceedonerror`: `coverOK = ["gap-not-layout"]`;
  `rootsAtLeaves` fails for `cat <<E; b⏎x⏎E⏎c` (the body, not the last leaf in tree order, ends
  the part): 34 of the 839 accepted corpus inputs, none of them with plain leaves.
  Evaluation: of the 839 accepted inputs of the corpus 779 have plain leaves; on all of them
  `rootsAtLeaves`, `SortOK` hold and `coverOK = []` (1424 / 1424 on the grid).
  `C05_coverOK_plain_nil`: under the same conditions `Spec.coverOK s parts = []`: the text behind
  the last leaf is layout too (`tiledTo_parts`: the loop ends at the end of the input, or with a
  run that returns `None`, whose whole text is layout, `CharsNone`, also in the dead state).
-/
import Bashlex.Props.C05Final
import Bashlex.Props.Totals

namespace Bashlex.C05
open Bashlex Bashlex.Spec Bashlex.C05.TG Bashlex.C05.TGT
set_option linter.unusedSimpArgs false

/-! ## slices of the line and of the input -/

theorem line_prefix (s0 : Str) : ∃ x, (Tape.ofInput s0).line = s0 ++ x :=
  (Tape.ofInput_line s0).elim (fun h => ⟨[], by rw [h, List.append_nil]⟩) fun h => ⟨_, h⟩

/-- layout of the run's line, in the coordinates of the input -/
theorem LF.shift {s : Str} {i a e : Nat} (h : LF (Tape.ofInput (s.drop i)).line a e)
    (hi : i ≤ s.length) (he : e + i ≤ s.length) : LF s (a + i) (e + i) := by
  obtain ⟨h1, _, h3⟩ := h
  obtain ⟨x, hx⟩ := line_prefix (s.drop i)
  have hel : e ≤ (s.drop i).length := by rw [List.length_drop]; omega
  refine ⟨by omega, he, fun fuel hf => ?_⟩
  have := h3 fuel (by omega)
  rw [hx, C04.slice_append_left _ _ hel, C04.slice_drop] at this
  exact this

theorem tiled_shift {s : Str} {i : Nat} (hi : i ≤ s.length) :
    ∀ (ls : List (Span × Bool)) (j : Nat), Tiled (Tape.ofInput (s.drop i)).line j ls →
      (∀ x ∈ ls, x.1.2 + i ≤ s.length) → Tiled s (j + i) (ls.map (shL i))
  | [], _, _, _ => True.intro
  | (p, b) :: rest, j, h, hr => by
    obtain ⟨h1, h2, h3⟩ := h
    have hp := hr (p, b) List.mem_cons_self
    refine ⟨by simp only [shL]; omega, ?_, ?_⟩
    · simp only [shL]
      exact LF.shift h2 hi (by simp only [] at hp; omega)
    · simp only [shL]
      exact tiled_shift hi rest p.2 h3 (fun x hx => hr x (List.mem_cons_of_mem _ hx))

/-- on a tiled list the leaves are strictly ordered, at or after the start -/
theorem tiled_strict {L : Str} : ∀ (ls : List (Span × Bool)) (i : Nat), Tiled L i ls →
    (∀ x ∈ ls, i ≤ x.1.1) ∧ ls.Pairwise (fun a b => a.1.1 < b.1.1)
  | [], _, _ => ⟨fun x hx => (by cases hx), List.Pairwise.nil⟩
  | (p, b) :: rest, i, h => by
    obtain ⟨h1, h2, h3⟩ := h
    obtain ⟨ih1, ih2⟩ := tiled_strict rest p.2 h3
    have hip : i ≤ p.1 := h2.1
    refine ⟨?_, List.pairwise_cons.mpr ⟨?_, ih2⟩⟩
    · intro x hx
      rcases List.mem_cons.mp hx with rfl | hx
      · exact hip
      · have := ih1 x hx; omega
    · intro x hx
      have := ih1 x hx
      show p.1 < x.1.1
      omega

theorem eq_of_start {ls : List (Span × Bool)} (h : ls.Pairwise (fun a b => a.1.1 < b.1.1)) :
    ∀ a ∈ ls, ∀ b ∈ ls, a.1.1 = b.1.1 → a = b := by
  induction ls with
  | nil => intro a ha; cases ha
  | cons y ys ih =>
    obtain ⟨h1, h2⟩ := List.pairwise_cons.mp h
    intro a ha b hb hab
    rcases List.mem_cons.mp ha with ha | ha
    · rcases List.mem_cons.mp hb with hb | hb
      · rw [ha, hb]
      · have := h1 b hb; rw [ha] at hab; omega
    · rcases List.mem_cons.mp hb with hb | hb
      · have := h1 a ha; rw [hb] at hab; omega
      · exact ih h2 a ha b hb hab

/-- on a tiled list `sortSpans` (if it sorts) changes nothing -/
theorem sortSpans_tiled {L : Str} {ls : List (Span × Bool)} {i : Nat} (h : Tiled L i ls)
    (hs : SortOK ls) : sortSpans ls = ls := by
  have hst := (tiled_strict ls i h).2
  have hsd : (sortSpans ls).Pairwise (fun a b : Span × Bool => a.1.1 ≤ b.1.1) := hs.sorted
  refine List.Perm.eq_of_pairwise (le := fun a b : Span × Bool => a.1.1 ≤ b.1.1) ?_ hsd ?_ hs.perm
  · intro a b ha hb h1 h2
    exact eq_of_start hst a (hs.perm.mem_iff.mp ha) b hb (by omega)
  · exact hst.imp (fun h => Nat.le_of_lt h)

/-! ## the decidable conditions on the result -/

/-- no leaf is flagged as a here-document body, none is empty, all end inside the input -/
def plainLeaves (s : Str) (parts : List Node) : Bool :=
  (leavesL parts).all fun x => !x.2 && decide (x.1.1 < x.1.2) && decide (x.1.2 ≤ s.length)

/-- every part ends where its last leaf ends -/
def rootsAtLeaves (parts : List Node) : Bool :=
  parts.all fun part =>
    match (leaves part).getLast? with
    | some x => nextIndex part == x.1.2
    | none => false

theorem leavesL_cons (n : Node) (ns : List Node) : leavesL (n :: ns) = leaves n ++ leavesL ns := by
  simp [leavesL]

/-! ## the text of a run that returned `None` -/

theorem isLayout_nil (fuel : Nat) : isLayout fuel [] = true := by cases fuel <;> rfl

theorem dropWhile_snoc_nl : ∀ (r : Str),
    (r ++ ['\n']).dropWhile (· != '\n') =
      if r.dropWhile (· != '\n') = [] then ['\n'] else r.dropWhile (· != '\n') ++ ['\n']
  | [] => by simp
  | d :: r => by
    by_cases hd : d = '\n'
    · subst hd; simp
    · have hd' : (d != '\n') = true := by simpa using hd
      simp only [List.cons_append, List.dropWhile_cons, hd', if_true]
      exact dropWhile_snoc_nl r

/-- removing the final newline keeps a text layout (a final backslash is a continuation against
    the implicit newline, a final comment needs no newline: the two clauses of `isLayout`) -/
theorem isLayout_strip_nl : ∀ (fuel : Nat) (t : Str), isLayout fuel (t ++ ['\n']) = true →
    isLayout fuel t = true
  | _, [], _ => isLayout_nil _
  | 0, c :: r, h => by simp [isLayout] at h
  | f + 1, c :: r, h => by
    simp only [List.cons_append] at h
    unfold isLayout at h ⊢
    by_cases h1 : (c == ' ' || c == '\t' || c == '\n') = true
    · rw [if_pos h1] at h ⊢
      exact isLayout_strip_nl f r h
    · rw [if_neg h1] at h ⊢
      by_cases hb : c = '\\'
      · subst hb
        cases r with
        | nil => simp
        | cons d r' =>
          by_cases hd : d = '\n'
          · subst hd
            simp only [List.cons_append, List.head?_cons, beq_self_eq_true, Bool.and_self, if_true,
              List.drop_succ_cons, List.drop_zero] at h ⊢
            exact isLayout_strip_nl f r' h
          · exfalso
            simp [hd] at h
      · have hb' : (c == '\\') = false := by simpa using hb
        simp only [hb', Bool.false_and, Bool.false_eq_true, if_false] at h ⊢
        by_cases hh : (c == '#') = true
        · rw [if_pos hh] at h ⊢
          rw [dropWhile_snoc_nl] at h
          by_cases he : r.dropWhile (· != '\n') = []
          · rw [he]; exact isLayout_nil _
          · rw [if_neg he] at h
            exact isLayout_strip_nl f _ h
        · rw [if_neg hh] at h
          cases h

/-- the text of a run that returned `None` is layout -/
theorem none_text_layout {s0 : Str} (h : CharsNone s0) : ∀ fuel, s0.length + 1 ≤ fuel →
    isLayout fuel s0 = true := by
  obtain ⟨_, _, _, _, _, _, _, _, hLF⟩ := h
  intro fuel hf
  rcases Tape.ofInput_line s0 with e | e <;> rw [e] at hLF
  · exact hLF.whole fuel (by omega)
  · exact isLayout_strip_nl fuel s0 (hLF.whole fuel (by simp; omega))

/-! ## the leaves of all parts -/

/-- **the leaves of all parts tile the input, and the text behind the last leaf is layout**: every
    run tiles its own line; the next run starts where the last leaf of the part ends
    (`rootsAtLeaves`); the loop ends at the end of the input or with a run over layout -/
theorem tiledTo_parts {s : Str} : ∀ {i : Nat} {parts : List Node}, PartsFinal s i parts →
    plainLeaves s parts = true → rootsAtLeaves parts = true →
    Tiled s i (leavesL parts) ∧
      isLayout (s.length + 1) (s.drop (lastEnd i (leavesL parts))) = true := by
  intro i parts h
  induction h with
  | done i hi =>
    intro _ _
    refine ⟨by simp [leavesL]; exact True.intro, ?_⟩
    show isLayout _ (s.drop i) = true
    rw [List.drop_eq_nil_of_le hi]; rfl
  | stop i hn =>
    intro _ _
    exact ⟨by simp [leavesL]; exact True.intro,
      none_text_layout hn _ (by rw [List.length_drop]; omega)⟩
  | @cons i n rest hi _ hrun _ ih =>
    intro hpl hroot
    rw [leavesL_cons]
    have hls : leaves (n.shift i) = (leaves n).map (shL i) := leaves_shift i n
    unfold plainLeaves at hpl
    rw [leavesL_cons, List.all_append, Bool.and_eq_true] at hpl
    obtain ⟨hpl1, hpl2⟩ := hpl
    unfold rootsAtLeaves at hroot
    rw [List.all_cons, Bool.and_eq_true] at hroot
    obtain ⟨hroot1, hroot2⟩ := hroot
    have hfacts : ∀ x ∈ leaves n, x.2 = false ∧ x.1.1 < x.1.2 ∧ x.1.2 + i ≤ s.length := by
      intro x hx
      have hm : shL i x ∈ leaves (n.shift i) := by rw [hls]; exact List.mem_map_of_mem hx
      have hb := List.all_eq_true.mp hpl1 _ hm
      rw [Bool.and_eq_true, Bool.and_eq_true] at hb
      obtain ⟨⟨q1, q2⟩, q3⟩ := hb
      have q2' := of_decide_eq_true q2
      have q3' := of_decide_eq_true q3
      simp only [shL] at q1 q2' q3'
      exact ⟨by simpa using q1, by omega, q3'⟩
    obtain ⟨ts, la, B, st, _, _, _, _, _, _, _, _, _, _, htile⟩ := hrun
    have ht0 := htile (fun x hx => (hfacts x hx).1)
      (by unfold noEmptyLeaf; exact List.all_eq_true.mpr (fun x hx => by
            simpa using (hfacts x hx).2.1))
    have ht1 := tiled_shift hi (leaves n) 0 ht0 (fun x hx => (hfacts x hx).2.2)
    rw [Nat.zero_add, ← hls] at ht1
    cases hlast : (leaves (n.shift i)).getLast? with
    | none => rw [hlast] at hroot1; cases hroot1
    | some x =>
      rw [hlast] at hroot1
      simp only [beq_iff_eq] at hroot1
      have hxm : x ∈ leaves (n.shift i) := List.mem_of_getLast? hlast
      have hxi : i ≤ x.1.1 := (tiled_strict _ i ht1).1 x hxm
      have hxne : x.1.1 < x.1.2 := by
        rw [hls] at hxm
        obtain ⟨x0, hx0, rfl⟩ := List.mem_map.mp hxm
        have := (hfacts x0 hx0).2.1
        simp only [shL]; omega
      -- the next run starts where the last leaf of this part ends
      have hk : max (nextIndex (n.shift i)) (i + 1) = lastEnd i (leaves (n.shift i)) := by
        rw [lastEnd_getLast i hlast, hroot1]; omega
      have ih' := ih (by unfold plainLeaves; exact hpl2) (by unfold rootsAtLeaves; exact hroot2)
      rw [hk] at ih'
      exact ⟨tiled_append _ _ i ht1 ih'.1, by rw [lastEnd_append]; exact ih'.2⟩

/-- **C05, the executable `Spec.coverOK`, results without here-document bodies and D19**
    (see the header) -/
theorem C05_coverOK_plain (s : Str) (o : Opts) (parts : List Node)
    (hlen : s.length + 1 < 1073741824) (h : (parse s o).1 = .parts parts)
    (hsort : SortOK (leavesL parts)) (hpl : plainLeaves s parts = true)
    (hroot : rootsAtLeaves parts = true) :
    ∀ v ∈ coverOK s parts, v = "trailing-text-not-layout" := by
  have ht := (tiledTo_parts (C05_final s o parts hlen (Totals.rootEndsChecked_all s o parts h) h)
    hpl hroot).1
  unfold coverOK
  rw [sortSpans_tiled ht hsort]
  exact gapsOK_of_tiled s _ 0 false ht

/-- **C05, the executable `Spec.coverOK` reports NOTHING** on results without here-document
    bodies and D19 (conditions as for `C05_coverOK_plain`): also the text behind the last leaf is
    layout (the loop of `parse` ends at the end of the input or with a run over layout) -/
theorem C05_coverOK_plain_nil (s : Str) (o : Opts) (parts : List Node)
    (hlen : s.length + 1 < 1073741824) (h : (parse s o).1 = .parts parts)
    (hsort : SortOK (leavesL parts)) (hpl : plainLeaves s parts = true)
    (hroot : rootsAtLeaves parts = true) : coverOK s parts = [] := by
  obtain ⟨ht, htr⟩ :=
    tiledTo_parts (C05_final s o parts hlen (Totals.rootEndsChecked_all s o parts h) h) hpl hroot
  unfold coverOK
  rw [sortSpans_tiled ht hsort, gapsOK_tiled s _ 0 false ht]
  unfold gapsOK
  rw [if_pos htr]

/-- the per-run statement, without `rootEndsChecked` -/
theorem C05_run_gapsOK (s : Str) (o : Opts) (parts : List Node)
    (hlen : s.length + 1 < 1073741824) (h : (parse s o).1 = .parts parts) :
    ∀ part ∈ parts, ∃ k n, k ≤ s.length ∧ part = n.shift k ∧
      ((∀ x ∈ leaves n, x.2 = false) → noEmptyLeaf (leaves n) = true →
        ∀ v ∈ gapsOK (Tape.ofInput (s.drop k)).line 0 false (leaves n),
          v = "trailing-text-not-layout") := by
  intro part hp
  obtain ⟨k, n, _, hk, rfl, _, ⟨ts, la, B, st, hd⟩⟩ :=
    (C05_final s o parts hlen (Totals.rootEndsChecked_all s o parts h) h).mem part hp
  exact ⟨k, n, hk, rfl, fun hfl hne => run_gapsOK hd hfl hne⟩

end Bashlex.C05

#print axioms Bashlex.C05.C05_coverOK_plain
#print axioms Bashlex.C05.C05_coverOK_plain_nil
#print axioms Bashlex.C05.C05_run_gapsOK
