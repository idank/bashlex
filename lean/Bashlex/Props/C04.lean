/-
  Property C04 ("span text fidelity") at model level, above an explicit hypothesis on the token
  source.

  Property text: slicing the input with a node's span yields that node's own spelling:
  reserved-word, operator and pipe nodes cover exactly their recorded text; word and assignment
  nodes cover exactly one whole shell word; parameter, tilde, command- and process-substitution
  nodes cover exactly `$name`/`${…}`, `~…`, `$(…)` or a backquoted string, `<(…)`/`>(…)`; a
  redirect starts at its file descriptor or operator and its operator and target occur there.
  Executable specification: `Spec.localTextViol` / `Spec.textOK` (`Spec/Tree.lean`).

  ## The statement on the token source (`C04/TokText.lean`) — PROVED: `C04/TokTextProof.lean`

  `TokText.next`: from every `Good` state of a parser object over the line `g.line` (C11's
  invariant: the tape holds that line, cursor inside) whose `_eol_ungetc_lookahead` slot is
  empty, every token `token()` delivers satisfies the decidable relation `TT g.line t`, and the
  slot is empty again.  `TT`: the token's spelling followed by a residue `r` is the text of the
  line under the token's span with some backslash-newline pairs deleted (`Del sl (v ++ r)`,
  `C04/TTDel.lean`: the ghost relation of `_getc`; it gives `stripContinuations sl = v ++ r` when
  the VALUE holds no adjacent backslash-newline, and `sl = v ++ r` when `sl` holds no
  continuation), where the residue `r` is empty or one of the recorded defect shapes, kept as
  explicit alternatives:
    D31      `r = "\"`, the rest of the line is the final newline  (witness `a &\` → `&` spans `&\`)
    D32      `r = "<\"` / `">\"`, next character a newline          (witness `a<\⏎b` → WORD `a` spans `a<\`)
    D31+D32  `r = "<"` / `">"`, the rest of the line is `\⏎`        (witness `a<\` → WORD `a` spans `a<`)
    the NEWLINE token read while here-documents were pending spans their bodies
             (witness `a <<E⏎x⏎E⏎` → NEWLINE at (5,10));
  a NUMBER token spans a string of digits denoting its value; only NEWLINE reaches the last
  character of the line; values with a backslash belong to WORD / ASSIGNMENT_WORD tokens.
  `TokText.gather`: `gatherheredocuments` leaves an empty slot empty.
  (The slot matters: with a character in it that did not come from the tape the relation is
  plainly false, so it is part of the state invariant; `C04/ActionInv.lean` proves that no semantic
  action touches it — a walk through all action functions, `keepsEol_action`.)
  `theorem tokText : TokText` (`C04/TokTextProof.lean`, files `C04/TT*.lean`) proves it for the
  real tokenizer: a ghost-text argument through `_readtoken`, `_readtokenword`,
  `_parse_matched_pair`, `_parse_comsub`, `gatherheredocuments`.  `Props/C04Total.lean` has the
  theorems below without the hypothesis.  The form
  `stripContinuations sl = stripContinuations v ++ r` of `TT` is false of
  the model: witnesses `"\\\⏎⏎"` (a WORD whose value holds a backslash-newline that was not
  adjacent in the text) and `<()<\`, see `C04/TokText.lean`; the evaluation (`Validate.lean`,
  with a grid with quotes and parentheses) is a cross-check of the statement.
  C11's hypothesis `TokLen` is not needed: `TT.tl` (and `Props/C11Total.lean`).

  ## What is proved (all inputs, all options; `C04/*.lean`)

  * **`C04_prov`** (`parse_C04`, `parserRun_C04`): under `TokText`, every *textual* node of every
    tree `parse` returns — reserved word, operator, pipe, redirect, word, assignment, at any
    depth, substitution commands included — satisfies `NodeOK`: it was built from tokens that
    were delivered, on the line of the parser run that built it, and satisfy `TT` on that line
    (`Tk`); its span is the tokens' span moved to its place.  Frames (`Src`): the root frame of
    the parser run over `s.drop J` (the loop of `parse` restarts on suffixes and moves the nodes
    by `J`), and nested frames for the nested parsers that ran over pieces of word token VALUES.
    Second half: the nodes of the *spine* (`spine n`: words are leaves — the nodes outside words,
    which the parser builds itself) are `LeafOK` in the ROOT frame.
    Architecture as C07/C12: one theorem `sat_actionCore`, one arm per action function
    (`C04/ProvActions.lean`: `Leaves.sat_actionCore`, over what an action builds from its tokens,
    generic in the traversal `Pred.deep`; C07's walk is its instance at `C07.ofWord`), dispatch over the generated grammar with a
    kernel-decided check of the production table against C12's sorts (`C04/Engine.lean`: no
    NUMBER / EOF token outside the redirection productions, reserved types in the slots that
    become reserved-word / operator / pipe nodes, BANG in slot 1 of `pipeline_command`, …),
    `LR.run_sound_ord` with the conjunction of C11's state invariant, the empty slot, C12's
    sorts and the two provenance invariants (`C04/Run.lean`), `G_resolve`, induction on the
    nesting budget, the loop of `parse`.
  * **`C04_spine_leaf_text`** (reserved word / operator / pipe outside words): the text of the
    INPUT under the node's span is its recorded word up to the residues above (`TokTextAt`); the
    recorded word holds no backslash.  Exclusion D19: the `!` of a pipeline built from a
    `timespec` sits at an empty span (witness `time -p a` with `proceedonerror`).
    **`C04_leaf_text`**: the same for every such node at any depth, on its frame's line, with
    the transport lemma `Src.slice_eq`: when no enclosing word's value differs from its source
    text (`fr.cont = false`) that text IS `Str.slice s p.1 p.2`.
  * **`C04_spine_operator`**, **`C04_spine_pipe`**: link to `Spec.localTextViol` — for an operator
    / pipe node outside words whose span lies in the input, every signature raised is
    `newline-operator-extended-over-heredoc` or `operator-span-includes-final-backslash`.
    `C04_operator`, `C04_pipe`: at any depth, with the alternative `DeepDefect` (inside a
    substitution: an enclosing word's value differs from its text, or D31 at the end of the
    substitution body).  All of these are read off one statement, `C04_leaf_sigs`: the signatures
    of a leaf are those of `leafSigs`, or the leaf lies inside a word and shows `DeepDefect`
    (`C04_located`: every textual node has a frame, the root frame outside words).  `reserved_sigs`: every signature the reserved-word clause can raise is a
    recorded defect.
  * **`C04_partial`** (= `C04_conditional`): under `TokText` and C03's `TokSpansAll` (spans lie in
    the input), every signature `Spec.textOK` raises on a tree of `parse` is a recorded defect
    (`C04_known`), or `Unlinked`: it comes from a word / assignment / substitution subtree of the
    spine, or is the local clause of a redirect (`textOK_origin`: where signatures come from).
  * **`C04_redirect`**: a redirect node is built from `first` (its file-descriptor NUMBER or the
    operator), `op`, `out`: `type` is the operator token's value and the operator's text on the
    line is `type` (`TokTextAt`); a numeric `input` is the value of the NUMBER token whose text is
    a string of digits denoting it (`NumTextAt`); the output word sits at `out`'s span, otherwise
    the output is `out`'s value; unless it is a here-document redirect the span is
    `(first.lexpos, out.endlexpos)` moved.
  * **`C04_word_span`**: a word / assignment node sits at the span of one delivered token, whose
    text on the line is its value up to deleted continuations and residues (`TokDelAt`; in the
    `stripContinuations` form `TokTextAt` when the value holds no adjacent backslash-newline —
    in general that form is false: witness `"\\\⏎⏎"`); its parts are `C07.PartsOK`
    with respect to the value of THAT token; `value_slice`: when the value is a prefix of the
    word's text and no enclosing word's value differs from its text, slices of the input inside
    the word are slices of the value — so C07's span formulas (`dollar_span_tight`) speak about
    the input: `dollar_text`: a tight `$(…)` part covers `$(` … `)` of the value.

  ## Not proved (what `Unlinked` leaves open)

  * The word clauses of `localTextViol` (`word-not-whole`, `word-cut-short`, `word-starts-late`)
    are proved for the spine in `Props/C04Words.lean`; open: quoted words, nodes below words.
  * `redirect-text` needs that the NUMBER token is immediately followed by the operator token
    (a fact about consecutive tokens); `redirect-target-before-operator` needs token order (C03's
    `TokSpans`).  The `pos` of a here-document redirect is read back from the redirect store
    after `makeheredoc` rewrote it: not covered (C03's `TokSpans.gather` assumes its start fixed).
  * Parameter / tilde / substitution nodes: offsets into the token value by C07 (`PartsOK`);
    their text clauses follow from `value_slice` only where the value is the source text.
  * The context marks of `textOKN` (`+cont`, `+mlsub`, …) below words are not related to the
    frames here: the deep provenance invariant is flat (every node of the pre-order).

  ## Observations on the specification / findings
  * `if a; t\⏎hen<\⏎b; fi` → `reservedword-text` without a mark: the D32 excuse of the
    reserved-word clause compares the RAW text (`t == w ++ "<\"`); with a continuation inside
    the word it does not match (kernel-checked: `witness_d32_cont`).  The model-level statement
    `C04_leaf_text` has the stripped text.
  * non-strict mode, pending here-document at the end of the input: the NEWLINE token ends one
    past the line (`a <<E` with `strictmode=False`: NEWLINE at (5,7) on a line of length 6).
  * `a<\` (D31+D32): the WORD `a` spans `a<` and the `<` is lost (no LESS token follows).
-/
import Bashlex.Props.C04.Sig
import Bashlex.Props.C04.Validate
import Bashlex.Props.C03

namespace Bashlex.C04
open Bashlex Bashlex.M Bashlex.Node Bashlex.Spec

/-! ## provenance -/

/-- **C04, provenance** — under `TokText`, for every input and all options: every textual node
    of every tree `parse` returns satisfies `NodeOK (s.drop J) J`, where `J` is the offset of the
    suffix of `s` the part was parsed from -/
theorem C04_prov (hT : TokText) (s : Str) (o : Opts) (parts : List Node)
    (h : (parse s o).1 = .parts parts) :
    ∀ n ∈ parts, ∃ J, J ≤ s.length ∧
      (∀ m ∈ n.preorder, isTextual m = true → NodeOK (s.drop J) J m) ∧
      (∀ m ∈ spine n, isTextual m = true → LeafOK (Tape.ofInput (s.drop J)).line J m) := by
  intro n hn
  obtain ⟨J, hJ, h1, h2⟩ := parse_C04 hT s o parts h n hn
  exact ⟨J, hJ, h1, h2⟩

theorem C04_prov_single (hT : TokText) (s : Str) (o : Opts) (n : Node)
    (h : (parsesingle s o).1 = .single (some n)) :
    (∀ m ∈ n.preorder, isTextual m = true → NodeOK s 0 m) ∧
    (∀ m ∈ spine n, isTextual m = true → LeafOK (Tape.ofInput s).line 0 m) := by
  obtain ⟨h1, h2⟩ := parsesingle_C04 hT s o n h
  exact ⟨h1, h2⟩

/-! ## reserved words, operators, pipes -/

/-- **C04, reserved-word / operator / pipe nodes** -/
theorem C04_leaf_text (hT : TokText) (s : Str) (o : Opts) (parts : List Node)
    (h : (parse s o).1 = .parts parts) :
    ∀ n ∈ parts, ∀ m ∈ n.preorder, ∀ p w,
      (m = .reservedword p w ∨ m = .operator p w ∨ m = .pipe p w) →
      (m = .reservedword p ['!'] ∧ p.1 = p.2) ∨
      ∃ J fr, J ≤ s.length ∧ Src (s.drop J) fr ∧ fr.off + J ≤ p.1 ∧ p.1 < p.2 ∧
        w.contains '\\' = false ∧
        TokTextAt fr.line (p.2 - (fr.off + J))
          (Str.slice fr.line (p.1 - (fr.off + J)) (p.2 - (fr.off + J))) w ∧
        (fr.cont = false → p.2 ≤ s.length →
          Str.slice s p.1 p.2 = Str.slice fr.line (p.1 - (fr.off + J)) (p.2 - (fr.off + J))) ∧
        (fr.nested = false →
          fr.line = (Tape.ofInput (s.drop J)).line ∧ fr.off = 0 ∧ fr.cont = false) := by
  intro n hn m hm p w hshape
  obtain ⟨J, hJ, hall, _⟩ := C04_prov hT s o parts h n hn
  have htx : isTextual m = true := by rcases hshape with rfl | rfl | rfl <;> rfl
  rcases leaf_text hshape (hall m hm htx) with h | ⟨fr, hs, h1, h2, h3, h4, h5⟩
  · exact Or.inl h
  · refine Or.inr ⟨J, fr, hJ, hs, h1, h2, h3, h5, ?_, ?_⟩
    · intro hc hin
      refine slice_in_frame hs hc h1 ?_
      cases hnest : fr.nested with
      | true => exact h4 hnest
      | false =>
        obtain ⟨_, _, hlim, _⟩ := hs.root_of hnest
        rw [hlim, List.length_drop]; omega
    · intro hnest
      obtain ⟨a, b, _, c⟩ := hs.root_of hnest
      exact ⟨a, b, c⟩

/-- every signature the reserved-word clause of `localTextViol` can raise is a recorded defect
    (D31; D32; `reservedword-text`: D19, witness `time -p a` with `proceedonerror`, and D32 with a
    continuation inside the word, witness `if a; t\⏎hen<\⏎b; fi`) -/
theorem reserved_sigs (s : Str) (p : Span) (w : Str) :
    ∀ v ∈ localTextViol s (.reservedword p w),
      v = "operator-span-includes-final-backslash" ∨ v = "reservedword-text+redircont" ∨
      v = "reservedword-text" := by
  intro v hv
  have : localTextViol s (.reservedword p w) =
      if stripContinuations (Str.slice s p.1 p.2) == w then []
      else if stripContinuations (Str.slice s p.1 p.2) == w ++ ['\\'] &&
          (s.drop p.2 == [] || s.drop p.2 == ['\n']) then
        ["operator-span-includes-final-backslash"]
      else if (Str.slice s p.1 p.2 == w ++ ['<', '\\'] || Str.slice s p.1 p.2 == w ++ ['>', '\\']) then
        ["reservedword-text+redircont"]
      else ["reservedword-text"] := rfl
  rw [this] at hv
  repeat' split at hv
  all_goals simp_all

theorem listOps_of_schema {p : Span} {op : Str} (h : localSchemaViol (.operator p op) = []) :
    listOps.contains op = true := by
  unfold localSchemaViol at h
  simp only [] at h
  cases hc : listOps.contains op with
  | true => rfl
  | false => rw [hc] at h; simp at h

theorem pipeOps_of_schema {p : Span} {w : Str} (h : localSchemaViol (.pipe p w) = []) :
    pipeOps.contains w = true := by
  unfold localSchemaViol at h
  simp only [] at h
  cases hc : pipeOps.contains w with
  | true => rfl
  | false => rw [hc] at h; simp at h

/-- the node was built by a nested parser (it lies inside a substitution), and an enclosing word's
    value differs from its source text (`+cont`: offsets are offsets into the value), or the node
    shows D31 at the end of the substitution body -/
def DeepDefect (s : Str) (p : Span) (w : Str) : Prop :=
  ∃ J fr, J ≤ s.length ∧ Src (s.drop J) fr ∧ fr.nested = true ∧ fr.off + J ≤ p.1 ∧
    (fr.cont = true ∨ NestedD31 s p w)

/-- D31 at the end of the text is a defect of nested parsers only: on the line of a top-level run
    the text after the node would be empty or the final newline -/
theorem rootD31_absurd {s : Str} {p : Span} {w : Str} {J : Nat} (hJ : J ≤ s.length)
    (hJp : J ≤ p.2) (hin : p.2 ≤ s.length) (hD : NestedD31 s p w)
    (hd : (Tape.ofInput (s.drop J)).line.drop (p.2 - J) = ['\n']) : False := by
  apply hD.2
  have := root_rest (s := s) (J := J) (e := p.2 - J) hJ (by omega) hd
  have he : p.2 - J + J = p.2 := by omega
  rwa [he] at this

/-! ## the spine: the nodes outside words -/

theorem spine_sub (n : Node) : ∀ m, m ∈ spine n → m ∈ n.preorder := by
  induction n using Node.children_induction with
  | hP n ih =>
    intro m h
    rw [spine_eq] at h
    rw [Node.preorder_eq, ← Node.preorderL_eq]
    rcases List.mem_cons.mp h with rfl | h
    · exact List.mem_cons_self
    · obtain ⟨c, hc, hm⟩ := mem_spineL.mp h
      exact List.mem_cons_of_mem _
        (Node.mem_preorderL.mpr ⟨c, kidsOf_sub hc, ih c (kidsOf_sub hc) m hm⟩)

theorem spineL_sub : ∀ (l : List Node) (m : Node), m ∈ spineL l → m ∈ preorderL l := by
  intro l m h
  obtain ⟨c, hc, hm⟩ := mem_spineL.mp h
  exact Node.mem_preorderL.mpr ⟨c, hc, spine_sub c m hm⟩

theorem spineO_sub : ∀ (o : Option Node) (m : Node), m ∈ spineO o → m ∈ preorderO o
  | none, m, h => by simp [spineO] at h
  | some n, m, h => by
    simp only [spineO, preorderO] at h ⊢
    exact spine_sub n m h

/-- both halves of `C04_prov` as one statement: every textual node has a frame, and the frame of
    a node outside words is the root frame -/
theorem C04_located (hT : TokText) (s : Str) (o : Opts) (parts : List Node)
    (h : (parse s o).1 = .parts parts) :
    ∀ n ∈ parts, ∃ J, J ≤ s.length ∧ ∀ m ∈ n.preorder, isTextual m = true →
      ∃ fr, Src (s.drop J) fr ∧ LeafOK fr.line (fr.off + J) m ∧
        (fr.nested = true → EndsBy (fr.lim + J) m) ∧ (m ∈ spine n → fr.nested = false) := by
  intro n hn
  obtain ⟨J, hJ, hall, hsp⟩ := C04_prov hT s o parts h n hn
  refine ⟨J, hJ, fun m hm htx => ?_⟩
  by_cases hs : m ∈ spine n
  · exact ⟨_, Src.root, (by simpa using hsp m hs htx), (fun h => by cases h), fun _ => rfl⟩
  · obtain ⟨fr, h1, h2, h3⟩ := hall m hm htx
    exact ⟨fr, h1, h2, h3, fun h => absurd h hs⟩

/-- a span of the part parsed from `s.drop J`, seen on the line of that parser run -/
theorem root_slice {s : Str} {J : Nat} (hJ : J ≤ s.length) {p : Span} (h1 : J ≤ p.1)
    (h2 : p.2 ≤ s.length) :
    Str.slice s p.1 p.2 = Str.slice (Tape.ofInput (s.drop J)).line (p.1 - J) (p.2 - J) := by
  have := slice_in_frame (s := s) (J := J) Src.root rfl (p := p) (by simpa using h1)
    (by simp only [List.length_drop]; omega)
  simpa using this

/-- **C04, reserved-word / operator / pipe nodes outside words**: the text of the input under
    the node's span is the node's recorded word, up to the residues (`TokTextAt`, on the line
    of the parser run that found the part: `s.drop J` plus the newline `tokenizer.__init__`
    appends).  Exclusion D19. -/
theorem C04_spine_leaf_text (hT : TokText) (s : Str) (o : Opts) (parts : List Node)
    (h : (parse s o).1 = .parts parts) :
    ∀ n ∈ parts, ∃ J, J ≤ s.length ∧ ∀ m ∈ spine n, ∀ p w,
      (m = .reservedword p w ∨ m = .operator p w ∨ m = .pipe p w) →
      (m = .reservedword p ['!'] ∧ p.1 = p.2) ∨
      (J ≤ p.1 ∧ p.1 < p.2 ∧ w.contains '\\' = false ∧
        (p.2 ≤ s.length →
          TokTextAt (Tape.ofInput (s.drop J)).line (p.2 - J) (Str.slice s p.1 p.2) w)) := by
  intro n hn
  obtain ⟨J, hJ, _, hsp⟩ := C04_prov hT s o parts h n hn
  refine ⟨J, hJ, fun m hm p w hshape => ?_⟩
  have htx : isTextual m = true := by rcases hshape with rfl | rfl | rfl <;> rfl
  exact (leaf_text_fr hshape (hsp m hm htx)).imp id fun ⟨h1, h2, h3, h4⟩ =>
    ⟨h1, h2, h3, fun hin => by rw [root_slice hJ h1 hin]; exact h4⟩

/-- the signatures `localTextViol` may raise for a reserved-word, operator or pipe node -/
def leafSigs : Node → List String
  | .reservedword .. => ["operator-span-includes-final-backslash", "reservedword-text+redircont",
      "reservedword-text"]
  | .operator .. => ["newline-operator-extended-over-heredoc",
      "operator-span-includes-final-backslash"]
  | .pipe .. => ["operator-span-includes-final-backslash"]
  | _ => []

/-- a leaf (`m` at `p`, value `w`) whose token text is known on the line of its frame `fr`, and
    whose signatures are admitted (`A`) or the D31 signature: all are admitted, unless the frame is
    nested and the node's word has continuations or shows D31 -/
theorem leaf_link {s : Str} {m : Node} {p : Span} {w : Str} {A : String → Prop} {J : Nat} {fr : Frame}
    (hin : p.2 ≤ s.length) (hJ : J ≤ s.length) (hs : Src (s.drop J) fr) (h1 : fr.off + J ≤ p.1) (h2 : p.1 < p.2)
    (hlim : fr.nested = true → p.2 ≤ fr.lim + J)
    (htext : TokTextAt fr.line (p.2 - (fr.off + J))
      (Str.slice fr.line (p.1 - (fr.off + J)) (p.2 - (fr.off + J))) w)
    (hsig : ∀ {line : Str} {e : Nat}, TokTextAt line e (Str.slice s p.1 p.2) w →
      ∀ v ∈ localTextViol s m, A v ∨ (NestedD31 s p w ∧ line.drop e = ['\n'])) :
    (∀ v ∈ localTextViol s m, A v) ∨ (fr.nested = true ∧ DeepDefect s p w) := by
  cases hnest : fr.nested with
  | false =>
    obtain ⟨hl, ho, hlim', hc⟩ := hs.root_of hnest
    have htr := slice_in_frame hs hc h1 (by rw [hlim', List.length_drop]; omega)
    rw [← htr, hl, ho, Nat.zero_add] at htext
    rw [ho] at h1
    exact Or.inl fun v hv => (hsig htext v hv).elim id
      fun hd => (rootD31_absurd hJ (by omega) hin hd.1 hd.2).elim
  | true =>
    cases hc : fr.cont with
    | true => exact Or.inr ⟨rfl, J, fr, hJ, hs, hnest, h1, Or.inl hc⟩
    | false =>
      rw [← slice_in_frame hs hc h1 (hlim hnest)] at htext
      by_cases hD : NestedD31 s p w
      · exact Or.inr ⟨rfl, J, fr, hJ, hs, hnest, h1, Or.inr hD⟩
      · exact Or.inl fun v hv => (hsig htext v hv).elim id fun hd => absurd hd.1 hD

/-- **one statement for the three leaf kinds**: the signatures raised for a reserved-word,
    operator or pipe node whose span lies in the input are those of `leafSigs`, unless the node
    lies inside a word (not on the spine) and shows `DeepDefect` -/
theorem C04_leaf_sigs (hT : TokText) (s : Str) (o : Opts) (parts : List Node)
    (h : (parse s o).1 = .parts parts) :
    ∀ n ∈ parts, ∀ m ∈ n.preorder, ∀ p w,
      (m = .reservedword p w ∨ m = .operator p w ∨ m = .pipe p w) → p.2 ≤ s.length →
      (∀ v ∈ localTextViol s m, v ∈ leafSigs m) ∨ (m ∉ spine n ∧ DeepDefect s p w) := by
  intro n hn m hm p w hshape hin
  have hsch := C12.C12_only_pipelines s o parts h n hn m hm
    (by rintro q ps rfl; rcases hshape with h | h | h <;> cases h)
  obtain ⟨J, hJ, hall⟩ := C04_located hT s o parts h n hn
  have htx : isTextual m = true := by rcases hshape with rfl | rfl | rfl <;> rfl
  obtain ⟨fr, hs, hl, hb, hroot⟩ := hall m hm htx
  have deep : ∀ {A : Prop}, A ∨ (fr.nested = true ∧ DeepDefect s p w) →
      A ∨ (m ∉ spine n ∧ DeepDefect s p w) := fun h => h.imp id fun ⟨hn, hd⟩ =>
    ⟨fun hsp => (by rw [hroot hsp] at hn; cases hn), hd⟩
  rcases hshape with rfl | rfl | rfl
  · exact Or.inl fun v hv => by
      rcases reserved_sigs s p w v hv with rfl | rfl | rfl <;> simp [leafSigs]
  · obtain ⟨hd, _⟩ | ⟨h1, h2, _, htext⟩ := leaf_text_fr (Or.inr (Or.inl rfl)) hl
    · cases hd
    have hb' : fr.nested = true → p.2 ≤ fr.lim + J := hb
    exact deep (leaf_link hin hJ hs h1 h2 hb' htext fun ht v hv =>
      (operator_sig (listOps_of_schema hsch) ht v hv).elim (fun h => Or.inl (by simp [leafSigs, h]))
        (fun h => h.elim (fun h => Or.inl (by simp [leafSigs, h])) (fun h => Or.inr h.2)))
  · obtain ⟨hd, _⟩ | ⟨h1, h2, _, htext⟩ := leaf_text_fr (Or.inr (Or.inr rfl)) hl
    · cases hd
    have hb' : fr.nested = true → p.2 ≤ fr.lim + J := hb
    exact deep (leaf_link hin hJ hs h1 h2 hb' htext fun ht v hv =>
      (pipe_sig (pipeOps_of_schema hsch) ht v hv).elim (fun h => Or.inl (by simp [leafSigs, h]))
        (fun h => Or.inr h.2))

/-- **C04, operator nodes** — link to the executable specification -/
theorem C04_operator (hT : TokText) (s : Str) (o : Opts) (parts : List Node)
    (h : (parse s o).1 = .parts parts) :
    ∀ n ∈ parts, ∀ m ∈ n.preorder, ∀ p op, m = .operator p op → p.2 ≤ s.length →
      (∀ v ∈ localTextViol s m, v = "newline-operator-extended-over-heredoc" ∨
        v = "operator-span-includes-final-backslash") ∨ DeepDefect s p op := by
  rintro n hn m hm p op rfl hin
  exact (C04_leaf_sigs hT s o parts h n hn _ hm p op (Or.inr (Or.inl rfl)) hin).imp
    (fun h v hv => by simpa [leafSigs] using h v hv) (·.2)

/-- **C04, pipe nodes** — link to the executable specification -/
theorem C04_pipe (hT : TokText) (s : Str) (o : Opts) (parts : List Node)
    (h : (parse s o).1 = .parts parts) :
    ∀ n ∈ parts, ∀ m ∈ n.preorder, ∀ p w, m = .pipe p w → p.2 ≤ s.length →
      (∀ v ∈ localTextViol s m, v = "operator-span-includes-final-backslash") ∨
        DeepDefect s p w := by
  rintro n hn m hm p w rfl hin
  exact (C04_leaf_sigs hT s o parts h n hn _ hm p w (Or.inr (Or.inr rfl)) hin).imp
    (fun h v hv => by simpa [leafSigs] using h v hv) (·.2)

/-- **C04, operator nodes outside words** — link to the executable specification: the only
    signatures raised are the two recorded defects -/
theorem C04_spine_operator (hT : TokText) (s : Str) (o : Opts) (parts : List Node)
    (h : (parse s o).1 = .parts parts) :
    ∀ n ∈ parts, ∀ m ∈ spine n, ∀ p op, m = .operator p op → p.2 ≤ s.length →
      ∀ v ∈ localTextViol s m, v = "newline-operator-extended-over-heredoc" ∨
        v = "operator-span-includes-final-backslash" := by
  rintro n hn m hm p op rfl hin v hv
  rcases C04_leaf_sigs hT s o parts h n hn _ (spine_sub n _ hm) p op (Or.inr (Or.inl rfl)) hin with
    h | h
  · simpa [leafSigs] using h v hv
  · exact absurd hm h.1

/-- **C04, pipe nodes outside words** -/
theorem C04_spine_pipe (hT : TokText) (s : Str) (o : Opts) (parts : List Node)
    (h : (parse s o).1 = .parts parts) :
    ∀ n ∈ parts, ∀ m ∈ spine n, ∀ p w, m = .pipe p w → p.2 ≤ s.length →
      ∀ v ∈ localTextViol s m, v = "operator-span-includes-final-backslash" := by
  rintro n hn m hm p w rfl hin v hv
  rcases C04_leaf_sigs hT s o parts h n hn _ (spine_sub n _ hm) p w (Or.inr (Or.inr rfl)) hin with
    h | h
  · simpa [leafSigs] using h v hv
  · exact absurd hm h.1

/-- a leaf of a `Strict` tree (C03) ends within the input -/
theorem leaf_in_range {len : Nat} {n m : Node} (h : C03.Strict len n) (hm : m ∈ n.preorder)
    (hleaf : m.children = []) (hnp : ∀ p ps, m ≠ .pipeline p ps) : m.pos.2 ≤ len := by
  rcases h m hm with ht | hl | ⟨_, hr⟩
  · exfalso
    rw [C03.tainted_iff] at ht
    rcases ht with ht | ⟨c, hc, _⟩
    · cases m <;> simp [C03.isD19] at ht
      exact hnp _ _ rfl
    · rw [hleaf] at hc; cases hc
  · exact hl.rng
  · exact hr

/-- under C03's hypothesis, a reserved-word / operator / pipe node of a tree of `parse` ends within
    the input -/
theorem leaf_ends (hS : C03.TokSpansAll) (s : Str) (o : Opts) (parts : List Node)
    (h : (parse s o).1 = .parts parts) :
    ∀ n ∈ parts, ∀ m ∈ n.preorder, ∀ p w,
      (m = .reservedword p w ∨ m = .operator p w ∨ m = .pipe p w) → p.2 ≤ s.length := by
  intro n hn m hm p w hshape
  obtain ⟨⟨TI, hTI⟩, hR⟩ := hS
  have := leaf_in_range (C03.parse_strict hTI hR s o parts h n hn) hm
    (by rcases hshape with rfl | rfl | rfl <;> rfl)
    (by rintro q ps rfl; rcases hshape with h | h | h <;> cases h)
  rcases hshape with rfl | rfl | rfl <;> exact this

/-- `C04_operator` with the span condition discharged by C03 (under its hypothesis) -/
theorem C04_operator' (hT : TokText) (hS : C03.TokSpansAll) (s : Str) (o : Opts)
    (parts : List Node) (h : (parse s o).1 = .parts parts) :
    ∀ n ∈ parts, ∀ m ∈ n.preorder, ∀ p op, m = .operator p op →
      (∀ v ∈ localTextViol s m, v = "newline-operator-extended-over-heredoc" ∨
        v = "operator-span-includes-final-backslash") ∨ DeepDefect s p op :=
  fun n hn m hm p op hshape => C04_operator hT s o parts h n hn m hm p op hshape
    (leaf_ends hS s o parts h n hn m hm p op (Or.inr (Or.inl hshape)))

theorem C04_pipe' (hT : TokText) (hS : C03.TokSpansAll) (s : Str) (o : Opts)
    (parts : List Node) (h : (parse s o).1 = .parts parts) :
    ∀ n ∈ parts, ∀ m ∈ n.preorder, ∀ p w, m = .pipe p w →
      (∀ v ∈ localTextViol s m, v = "operator-span-includes-final-backslash") ∨
        DeepDefect s p w :=
  fun n hn m hm p w hshape => C04_pipe hT s o parts h n hn m hm p w hshape
    (leaf_ends hS s o parts h n hn m hm p w (Or.inr (Or.inr hshape)))

/-! ## redirects -/

theorem redirOps_of_schema {p i t o oa hd hid}
    (h : localSchemaViol (.redirect p i t o oa hd hid) = []) : redirOps.contains t = true := by
  unfold localSchemaViol at h
  simp only [List.append_eq_nil_iff] at h
  cases hc : redirOps.contains t with
  | true => rfl
  | false => rw [hc] at h; simp at h

/-- **C04, redirect nodes** -/
theorem C04_redirect (hT : TokText) (s : Str) (o : Opts) (parts : List Node)
    (h : (parse s o).1 = .parts parts) :
    ∀ n ∈ parts, ∀ m ∈ n.preorder, ∀ p inp ty out oa hd hid,
      m = .redirect p inp ty out oa hd hid →
      ∃ J fr first op otok, J ≤ s.length ∧ Src (s.drop J) fr ∧
        Tk fr.line first ∧ Tk fr.line op ∧ Tk fr.line otok ∧
        -- the type is the operator token's value, and the operator's text on the line spells it
        op.value = .str ty ∧
        TokTextAt fr.line op.endlexpos (Str.slice fr.line op.lexpos op.endlexpos) ty ∧
        -- the input: none (then the redirect starts at the operator), or the first token's value;
        -- a file descriptor is the value of a NUMBER token spanning digits that denote it
        ((first = op ∧ inp = .none) ∨ inp = redirIn first.value) ∧
        (∀ k, inp = .num k → first.value = .int k ∧
          NumTextAt fr.line first.endlexpos (Str.slice fr.line first.lexpos first.endlexpos) k) ∧
        -- the output
        OutAt (fr.off + J) otok out oa ∧
        -- the span, unless it is a here-document redirect
        (hid = none → ¬ hereTy ty →
          p = (first.lexpos + (fr.off + J), otok.endlexpos + (fr.off + J))) := by
  intro n hn m hm p inp ty out oa hd hid hshape
  obtain ⟨J, hJ, hall, _⟩ := C04_prov hT s o parts h n hn
  have htx : isTextual m = true := by rw [hshape]; rfl
  have hok := hall m hm htx
  rw [hshape] at hok
  obtain ⟨fr, first, op, otok, hs, h1, h2, h3, h4, h5, h6, h7, _⟩ := redirect_prov hok
  have hty : redirOps.contains ty = true := by
    have := C12.C12_only_pipelines s o parts h n hn m hm (by rintro q ps rfl; cases hshape)
    rw [hshape] at this
    exact redirOps_of_schema this
  have hopv : op.value = .str ty := by
    cases hv : op.value with
    | str v => rw [h4]; simp [Token.valueStr, hv]
    | none =>
      exfalso
      have : ty = [] := by rw [h4]; simp [Token.valueStr, hv]
      rw [this] at hty; revert hty; decide
    | int k =>
      exfalso
      have : ty = [] := by rw [h4]; simp [Token.valueStr, hv]
      rw [this] at hty; revert hty; decide
  have htyc : hasContinuation ty = false := by
    have : ∀ x ∈ redirOps, hasContinuation x = false := by decide
    exact this ty (by simpa using hty)
  refine ⟨J, fr, first, op, otok, hJ, hs, h1, h2, h3, hopv, (h2.text hopv htyc).2, h5, ?_, h6, h7⟩
  intro k hk
  rcases h5 with ⟨_, hnone⟩ | hin
  · rw [hnone] at hk; cases hk
  · rw [hk] at hin
    cases hv : first.value with
    | int k' =>
      rw [hv] at hin
      simp only [redirIn, RedirIn.num.injEq] at hin
      subst hin
      exact ⟨rfl, (h1.num hv).2⟩
    | str v => rw [hv] at hin; cases hin
    | none => rw [hv] at hin; cases hin

/-! ## words -/

/-- **C04, word and assignment nodes**: the span is the span of one delivered token, whose text
    on the line is its value (continuations removed, residues); the parts are `C07.PartsOK` with
    respect to the value of that token -/
theorem C04_word_span (hT : TokText) (s : Str) (o : Opts) (parts : List Node)
    (h : (parse s o).1 = .parts parts) :
    ∀ n ∈ parts, ∀ m ∈ n.preorder, ∀ p w ps, (m = .word p w ps ∨ m = .assignment p w ps) →
      ∃ J fr tok, J ≤ s.length ∧ Src (s.drop J) fr ∧ Tk fr.line tok ∧
        p = (tok.lexpos + (fr.off + J), tok.endlexpos + (fr.off + J)) ∧
        (∃ d, C07.PartsOK (C07.RNested d) tok.valueStr (C07.qOf tok) p.1 p.2 ps) ∧
        (∀ v, tok.value = .str v →
          TokDelAt fr.line tok.endlexpos (Str.slice fr.line tok.lexpos tok.endlexpos) v ∧
          (hasContinuation v = false →
            TokTextAt fr.line tok.endlexpos (Str.slice fr.line tok.lexpos tok.endlexpos) v)) ∧
        (fr.cont = false → p.2 ≤ s.length →
          Str.slice s p.1 p.2 = Str.slice fr.line tok.lexpos tok.endlexpos) := by
  intro n hn m hm p w ps hshape
  obtain ⟨J, hJ, hall, _⟩ := C04_prov hT s o parts h n hn
  have htx : isTextual m = true := by rcases hshape with rfl | rfl <;> rfl
  obtain ⟨fr, tok, hs, hTk, hp, hparts, hb⟩ := word_prov hshape (hall m hm htx)
  refine ⟨J, fr, tok, hJ, hs, hTk, hp, hparts,
    fun v hv => ⟨(hTk.del hv).2, fun hc => (hTk.text hv hc).2⟩, ?_⟩
  intro hc hin
  have h2 : p.2 ≤ fr.lim + J := by
    cases hnest : fr.nested with
    | true => exact hb hnest
    | false =>
      obtain ⟨_, _, hlim, _⟩ := hs.root_of hnest
      rw [hlim, List.length_drop]; omega
  have h1 : fr.off + J ≤ p.1 := by rw [hp]; simp only []; omega
  rw [slice_in_frame hs hc h1 h2, hp]
  simp only [Nat.add_sub_cancel]

/-- **the token value and the input**: when the value of the word's token is a prefix of the
    text the word spans (`faithful`: no continuation inside the word) and no enclosing word's
    value differs from its text, slices of the input inside the word are slices of the value -/
theorem value_slice {s : Str} {J : Nat} {fr : Frame} {tok : Token} (hs : Src (s.drop J) fr)
    (hTk : Tk fr.line tok) (hc : fr.cont = false) (hf : faithful fr.line tok = true)
    (hlim : tok.endlexpos + (fr.off + J) ≤ fr.lim + J) :
    ∀ a b, b ≤ tok.valueStr.length →
      Str.slice s (a + (tok.lexpos + (fr.off + J))) (b + (tok.lexpos + (fr.off + J))) =
        Str.slice tok.valueStr a b := by
  intro a b hb
  by_cases hab : b ≤ a
  · rw [slice_nil_of_le _ hab, slice_nil_of_le _ (by omega)]
  have hvl : tok.valueStr.length ≤ tok.endlexpos - tok.lexpos := by
    cases hv : tok.value with
    | none => simp [Token.valueStr, hv]
    | int k => simp [Token.valueStr, hv]
    | str v =>
      have hvs : tok.valueStr = v := by simp [Token.valueStr, hv]
      obtain ⟨a', e', hp, hae, _, _, _, _, _, halt⟩ := hTk.1.str hv
      have hl : tok.lexpos = a' := by simp [Token.lexpos, hp]
      have he : tok.endlexpos = e' := by simp [Token.endlexpos, hp]
      rw [hvs, hl, he]
      rcases halt with ⟨_, g2, _⟩ | hnl
      · exact g2
      · unfold nlOver at hnl
        simp only [Bool.and_eq_true, beq_iff_eq] at hnl
        rw [hnl.1.2]; simp; omega
  have hpos : tok.lexpos < tok.endlexpos := by omega
  rw [slice_of_prefix hf hb, slice_slice _ _ _ _ _ (by omega)]
  have := slice_in_frame (p := (a + (tok.lexpos + (fr.off + J)), b + (tok.lexpos + (fr.off + J))))
    hs hc (by simp only []; omega) (by simp only []; omega)
  rw [this]
  simp only []
  congr 1 <;> omega

/-- the text of a tight `$(…)` substitution in the token value: `$(`, the body the nested node
    covers, `)` (C07: `SubstNode.dollar` + `dollar_span_tight`) -/
theorem dollar_text {v : Str} {i len : Nat} (h0 : v[i]? = some '$') (h1 : v[i + 1]? = some '(')
    (h2 : v[i + 2 + len]? = some ')') :
    Str.slice v i (i + 2 + len + 1) = '$' :: '(' :: Str.slice v (i + 2) (i + 2 + len) ++ [')'] := by
  have hlt : i + 2 + len < v.length := (List.getElem?_eq_some_iff.mp h2).1
  unfold Str.slice
  have e0 : v.drop i = '$' :: v.drop (i + 1) := by
    rw [List.drop_eq_getElem_cons (by omega)]
    congr 1
    have := List.getElem?_eq_some_iff.mp h0
    exact this.2
  have e1 : v.drop (i + 1) = '(' :: v.drop (i + 2) := by
    rw [List.drop_eq_getElem_cons (by omega)]
    congr 1
    have := List.getElem?_eq_some_iff.mp h1
    exact this.2
  have e2 : v.drop (i + 2 + len) = ')' :: v.drop (i + 2 + len + 1) := by
    rw [List.drop_eq_getElem_cons hlt]
    congr 1
    have := List.getElem?_eq_some_iff.mp h2
    exact this.2
  -- take (n+1) = take n ++ [v[n]]
  have t1 : v.take (i + 2 + len + 1) = v.take (i + 2 + len) ++ [')'] := by
    rw [List.take_add_one, h2]; rfl
  rw [t1, List.drop_append_of_le_length (by rw [List.length_take]; omega)]
  have d1 : (v.take (i + 2 + len)).drop i = '$' :: '(' :: (v.take (i + 2 + len)).drop (i + 2) := by
    rw [← List.take_append_drop (i + 2 + len) v] at e0 e1
    have hl : (v.take (i + 2 + len)).length = i + 2 + len := by rw [List.length_take]; omega
    have a0 : (v.take (i + 2 + len))[i]? = some '$' := by
      rw [List.getElem?_take_of_lt (by omega)]; exact h0
    have a1 : (v.take (i + 2 + len))[i + 1]? = some '(' := by
      rw [List.getElem?_take_of_lt (by omega)]; exact h1
    rw [List.drop_eq_getElem_cons (by omega), List.drop_eq_getElem_cons (by omega)]
    have b0 := (List.getElem?_eq_some_iff.mp a0).2
    have b1 := (List.getElem?_eq_some_iff.mp a1).2
    rw [b0, b1]
  rw [d1]

/-! ## the known signatures -/

/-- the recorded defect signatures: every signature with a context mark, and the unmarked ones
    listed (each with a kernel-checked witness below) -/
def C04_known (v : String) : Bool :=
  (["+cont", "+mlsub", "+nlword", "+redircont", "+unrecsub", "+badsub", "+heredoc"].any fun mk =>
    C03.infixB mk.toList v.toList) ||
  ["substitution-stops-before-blanks-and-paren", "operator-span-includes-final-backslash",
   "newline-operator-extended-over-heredoc", "reservedword-text"].contains v

theorem leafSigs_known : ∀ v ∈ ["operator-span-includes-final-backslash",
    "reservedword-text+redircont", "reservedword-text", "newline-operator-extended-over-heredoc"],
    C04_known v = true := by decide +kernel

theorem leafSigs_sub {m : Node} {v : String} (h : v ∈ leafSigs m) : C04_known v = true := by
  apply leafSigs_known
  cases m <;> simp [leafSigs] at h <;> simp [h]
  all_goals rcases h with rfl | rfl | rfl <;> simp


/-- **C04 (model level), the clauses linked to `Spec.localTextViol`**: under `TokText`, for every
    input and all options, every signature raised for a reserved-word, operator or pipe node
    whose span lies in the input is a recorded defect, unless the node lies inside a
    substitution and shows `DeepDefect` -/
theorem C04_partial_conditional (hT : TokText) (s : Str) (o : Opts) (parts : List Node)
    (h : (parse s o).1 = .parts parts) :
    ∀ n ∈ parts, ∀ m ∈ n.preorder, ∀ p w,
      (m = .reservedword p w ∨ m = .operator p w ∨ m = .pipe p w) → p.2 ≤ s.length →
      (∀ v ∈ localTextViol s m, C04_known v = true) ∨ DeepDefect s p w :=
  fun n hn m hm p w hshape hin => (C04_leaf_sigs hT s o parts h n hn m hm p w hshape hin).imp
    (fun h v hv => leafSigs_sub (h v hv)) (·.2)

/-- **C04 (model level), nodes outside words** — under `TokText` (and, for "the span lies in the
    input", C03's `TokSpansAll`): for every input and all options, every signature
    `Spec.localTextViol` raises for a reserved-word, operator or pipe node that does not lie
    inside a word (these are the signatures `Spec.textOK` reports for them: the context is
    empty there) is a recorded defect -/
theorem C04_partial_spine (hT : TokText) (hS : C03.TokSpansAll) (s : Str) (o : Opts)
    (parts : List Node) (h : (parse s o).1 = .parts parts) :
    ∀ n ∈ parts, ∀ m ∈ spine n, ∀ p w,
      (m = .reservedword p w ∨ m = .operator p w ∨ m = .pipe p w) →
      ∀ v ∈ localTextViol s m, C04_known v = true :=
  fun n hn m hm p w hshape v hv =>
    leafSigs_sub ((C04_leaf_sigs hT s o parts h n hn m (spine_sub n m hm) p w hshape
      (leaf_ends hS s o parts h n hn m (spine_sub n m hm) p w hshape)).resolve_right
        (fun h => h.1 hm) v hv)

/-- the signature comes from a clause that is not linked to the token text here: the subtree of
    a word, assignment or substitution node of the spine (word clauses, parts, everything inside
    substitutions — where the context marks of `textOKN` apply), or the local clause of a spine
    node that is not a reserved word, operator or pipe (in trees of `parse`: a redirect) -/
def Unlinked (s : Str) (n : Node) (v : String) : Prop :=
  ∃ m ∈ spine n, (∀ p w, m ≠ .reservedword p w ∧ m ≠ .operator p w ∧ m ≠ .pipe p w) ∧
    (v ∈ textOKN false s "" m ∨ v ∈ localTextViol s m)

/-- **C04 (model level)** — under `TokText` (token text) and `TokSpansAll` (C03: spans lie in
    the input), for every input and all options: every signature `Spec.textOK` raises on a tree
    returned by `parse` is a recorded defect (`C04_known`), or is `Unlinked`: it comes from a
    word / assignment / substitution subtree or from a redirect's own clause.  In particular all
    signatures of reserved-word, operator and pipe nodes outside words are recorded defects. -/
theorem C04_partial (hT : TokText) (hS : C03.TokSpansAll) (s : Str) (o : Opts)
    (parts : List Node) (h : (parse s o).1 = .parts parts) :
    ∀ n ∈ parts, ∀ v ∈ Spec.textOK s n, C04_known v = true ∨ Unlinked s n v := by
  intro n hn v hv
  obtain ⟨m, hm, ho⟩ := textOK_origin s n v hv
  by_cases hk : ∃ p w, m = .reservedword p w ∨ m = .operator p w ∨ m = .pipe p w
  · obtain ⟨p, w, hshape⟩ := hk
    left
    rcases ho with ⟨hst, _⟩ | ⟨_, hloc⟩
    · rcases hshape with rfl | rfl | rfl <;> cases hst
    · exact C04_partial_spine hT hS s o parts h n hn m hm p w hshape v hloc
  · right
    refine ⟨m, hm, ?_, ?_⟩
    · intro p w
      refine ⟨?_, ?_, ?_⟩ <;> (intro he; exact hk ⟨p, w, by simp [he]⟩)
    · rcases ho with ⟨_, h1⟩ | ⟨_, h2⟩
      · exact Or.inl h1
      · exact Or.inr h2

/-- the same theorem under the name the ground rules ask for when hypotheses are left open -/
theorem C04_conditional (hT : TokText) (hS : C03.TokSpansAll) (s : Str) (o : Opts)
    (parts : List Node) (h : (parse s o).1 = .parts parts) :
    ∀ n ∈ parts, ∀ v ∈ Spec.textOK s n, C04_known v = true ∨ Unlinked s n v :=
  C04_partial hT hS s o parts h

end Bashlex.C04

#print axioms Bashlex.C04.keepsEol_action
#print axioms Bashlex.C04.argCheck_ok
#print axioms Bashlex.C04.sat_action
#print axioms Bashlex.C04.parserRun_C04
#print axioms Bashlex.C04.Src.slice_eq
#print axioms Bashlex.C04.C04_prov
#print axioms Bashlex.C04.C04_prov_single
#print axioms Bashlex.C04.C04_leaf_text
#print axioms Bashlex.C04.C04_operator
#print axioms Bashlex.C04.C04_pipe
#print axioms Bashlex.C04.C04_operator'
#print axioms Bashlex.C04.C04_pipe'
#print axioms Bashlex.C04.C04_redirect
#print axioms Bashlex.C04.C04_word_span
#print axioms Bashlex.C04.value_slice
#print axioms Bashlex.C04.dollar_text
#print axioms Bashlex.C04.C04_partial_conditional
#print axioms Bashlex.C04.C04_spine_leaf_text
#print axioms Bashlex.C04.C04_spine_operator
#print axioms Bashlex.C04.C04_spine_pipe
#print axioms Bashlex.C04.C04_partial_spine
#print axioms Bashlex.C04.textOK_origin
#print axioms Bashlex.C04.C04_partial
