/-
  C13: `parse` is the iteration of `runParser` over suffixes of the input.

  `Loop s o i t r`: "entered with restart index `i` and `sh_syntaxtab` content `t`, the `while`
  loop of `bashlex.parse(s)` appends the parts `r.1` (or raises `r.1`) and leaves the table `r.2`"
  — an inductive relation without fuel and without accumulator.  `Loop.det`, `Loop.total`:
  it is a total function.  `parseLoop_eq`: the model's fuelled loop computes it for every
  sufficient fuel (`s.length + 1 - i < fuel`; the index strictly increases), in particular for the
  fuel `parse` supplies.  `Parse s o r` / `parse_unfold`: the same for the entry point;
  `parse_eq_loop`: for a non-empty input `parse` *is* the loop entered at index 0 (the first parser
  run is an ordinary iteration).
-/
import Bashlex.Proofs.QCongr
import Bashlex.Props.C13.Shift

namespace Bashlex.C13
open Bashlex

/-- result of the loop: the further parts or the exception, and the final table -/
abbrev LoopRes := Except Exn (List Node) × List Char

namespace LoopRes
def cons (n : Node) (r : LoopRes) : LoopRes := (r.1.map (n :: ·), r.2)
def prepend (ps : List Node) (r : LoopRes) : LoopRes := (r.1.map (ps ++ ·), r.2)
/-- `posshifter(k)` on every part -/
def shift (k : Nat) (r : LoopRes) : LoopRes := (r.1.map (·.map (Node.shift k)), r.2)
/-- what `parse` returns -/
def outcome (r : LoopRes) : Outcome × List Char :=
  (match r.1 with
   | .ok ps => .parts ps
   | .error e => .exn e, r.2)

@[simp] theorem cons_ok (n : Node) (ps : List Node) (t : List Char) :
    cons n (.ok ps, t) = (.ok (n :: ps), t) := rfl
@[simp] theorem cons_error (n : Node) (e : Exn) (t : List Char) :
    cons n (.error e, t) = (.error e, t) := rfl
@[simp] theorem prepend_ok (qs ps : List Node) (t : List Char) :
    prepend qs (.ok ps, t) = (.ok (qs ++ ps), t) := rfl
@[simp] theorem prepend_error (qs : List Node) (e : Exn) (t : List Char) :
    prepend qs (.error e, t) = (.error e, t) := rfl
@[simp] theorem shift_ok (k : Nat) (ps : List Node) (t : List Char) :
    shift k (.ok ps, t) = (.ok (ps.map (Node.shift k)), t) := rfl
@[simp] theorem shift_error (k : Nat) (e : Exn) (t : List Char) :
    shift k (.error e, t) = (.error e, t) := rfl

theorem prepend_nil (r : LoopRes) : prepend [] r = r := by
  obtain ⟨x, t⟩ := r; cases x <;> simp [prepend, Except.map]

theorem prepend_cons (ps : List Node) (n : Node) (r : LoopRes) :
    prepend (ps ++ [n]) r = prepend ps (cons n r) := by
  obtain ⟨x, t⟩ := r; cases x <;> simp [prepend, cons, Except.map]

theorem prepend_prepend (ps qs : List Node) (r : LoopRes) :
    prepend ps (prepend qs r) = prepend (ps ++ qs) r := by
  obtain ⟨x, t⟩ := r; cases x <;> simp [prepend, Except.map]

theorem prepend_singleton (n : Node) (r : LoopRes) : prepend [n] r = cons n r := by
  obtain ⟨x, t⟩ := r; cases x <;> simp [prepend, cons, Except.map]

theorem shift_cons (k : Nat) (n : Node) (r : LoopRes) :
    shift k (cons n r) = cons (n.shift k) (shift k r) := by
  obtain ⟨x, t⟩ := r; cases x <;> simp [shift, cons, Except.map]

theorem shift_prepend (k : Nat) (ps : List Node) (r : LoopRes) :
    shift k (prepend ps r) = prepend (ps.map (Node.shift k)) (shift k r) := by
  obtain ⟨x, t⟩ := r; cases x <;> simp [shift, prepend, Except.map]

theorem shift_zero (r : LoopRes) : shift 0 r = r := by
  obtain ⟨x, t⟩ := r; cases x <;> simp [shift, Except.map, Node.map_shift_zero]

theorem shift_shift (a b : Nat) (r : LoopRes) : shift a (shift b r) = shift (b + a) r := by
  obtain ⟨x, t⟩ := r; cases x <;> simp [shift, Except.map, Node.shift_shift]
end LoopRes

/-- **the loop of `parse`, as a relation** (no fuel, no accumulator):
    `done`: `index < len(s)` fails; `stop`: the parser run on `s[index:]` returned no node
    (`break`); `raise`: it raised; `step`: it returned `part`, which is shifted by `index` and
    appended, and the loop goes on from `max(part.pos[1], ef.end, index + 1)`. -/
inductive Loop (s : Str) (o : Opts) : Nat → List Char → LoopRes → Prop
  | done {i : Nat} {t : List Char} (h : ¬ i < s.length) : Loop s o i t (.ok [], t)
  | stop {i : Nat} {t t' : List Char} (h : i < s.length)
      (hr : runParser (s.drop i) o t = (.ok none, t')) : Loop s o i t (.ok [], t')
  | raise {i : Nat} {t t' : List Char} {e : Exn} (h : i < s.length)
      (hr : runParser (s.drop i) o t = (.error e, t')) : Loop s o i t (.error e, t')
  | step {i : Nat} {t t' : List Char} {part : Node} {r : LoopRes} (h : i < s.length)
      (hr : runParser (s.drop i) o t = (.ok (some part), t'))
      (hl : Loop s o (max (nextIndex (part.shift i)) (i + 1)) t' r) :
      Loop s o i t (r.cons (part.shift i))

/-- every iteration advances: this is why fuel `len(s) + 1` is enough -/
theorem advance (part : Node) (i : Nat) : i < max (nextIndex part) (i + 1) :=
  Nat.lt_of_lt_of_le (Nat.lt_succ_self i) (Nat.le_max_right _ _)

/-- the relation is functional -/
theorem Loop.det {s : Str} {o : Opts} {i : Nat} {t : List Char} {r r' : LoopRes}
    (h : Loop s o i t r) (h' : Loop s o i t r') : r = r' := by
  induction h generalizing r' with
  | done h =>
    cases h' with
    | done _ => rfl
    | stop g _ => exact absurd g h
    | raise g _ => exact absurd g h
    | step g _ _ => exact absurd g h
  | stop h hr =>
    cases h' with
    | done g => exact absurd h g
    | stop _ hr' => rw [hr] at hr'; cases hr'; rfl
    | raise _ hr' => rw [hr] at hr'; cases hr'
    | step _ hr' _ => rw [hr] at hr'; cases hr'
  | raise h hr =>
    cases h' with
    | done g => exact absurd h g
    | stop _ hr' => rw [hr] at hr'; cases hr'
    | raise _ hr' => rw [hr] at hr'; cases hr'; rfl
    | step _ hr' _ => rw [hr] at hr'; cases hr'
  | step h hr _ ih =>
    cases h' with
    | done g => exact absurd h g
    | stop _ hr' => rw [hr] at hr'; cases hr'
    | raise _ hr' => rw [hr] at hr'; cases hr'
    | step _ hr' hl' =>
      rw [hr] at hr'
      cases hr'
      rw [ih hl']

/-- **the fuelled loop of the model computes the relation** whenever the fuel exceeds the
    distance to `len(s) + 1` -/
theorem parseLoop_spec (s : Str) (o : Opts) : ∀ (fuel i : Nat) (parts : List Node) (t : List Char),
    s.length + 1 - i < fuel →
    ∃ r, Loop s o i t r ∧ parseLoop s o fuel i parts t = r.prepend parts := by
  intro fuel
  induction fuel with
  | zero => intro i parts t h; exact absurd h (Nat.not_lt_zero _)
  | succ fuel ih =>
    intro i parts t hf
    unfold parseLoop
    by_cases h : i < s.length
    · rw [if_pos h]
      rcases hr : runParser (s.drop i) o t with ⟨x, t'⟩
      cases x with
      | error e => exact ⟨(.error e, t'), .raise h hr, rfl⟩
      | ok v =>
        cases v with
        | none => exact ⟨(.ok [], t'), .stop h hr, by simp⟩
        | some part =>
          simp only []
          have hadv := advance (part.shift i) i
          obtain ⟨r, hl, he⟩ := ih (max (nextIndex (part.shift i)) (i + 1))
            (parts ++ [part.shift i]) t' (by omega)
          exact ⟨r.cons (part.shift i), .step h hr hl, by rw [he, LoopRes.prepend_cons]⟩
    · rw [if_neg h]
      exact ⟨(.ok [], t), .done h, by simp⟩

/-- the relation is total -/
theorem Loop.total (s : Str) (o : Opts) (i : Nat) (t : List Char) : ∃ r, Loop s o i t r := by
  obtain ⟨r, h, _⟩ := parseLoop_spec s o (s.length + 2) i [] t (by omega)
  exact ⟨r, h⟩

/-- fuel adequacy: with any fuel `> len(s) + 1 - index` the model's loop returns the accumulated
    parts followed by what the relation gives -/
theorem parseLoop_eq {s : Str} {o : Opts} {i : Nat} {t : List Char} {r : LoopRes}
    (h : Loop s o i t r) (fuel : Nat) (parts : List Node) (hf : s.length + 1 - i < fuel) :
    parseLoop s o fuel i parts t = r.prepend parts := by
  obtain ⟨r', h', he⟩ := parseLoop_spec s o fuel i parts t hf
  rw [he, h.det h']

theorem parseLoop_fuel_irrelevant (s : Str) (o : Opts) (fuel fuel' i : Nat) (parts : List Node)
    (t : List Char) (hf : s.length + 1 - i < fuel) (hf' : s.length + 1 - i < fuel') :
    parseLoop s o fuel i parts t = parseLoop s o fuel' i parts t := by
  obtain ⟨r, h⟩ := Loop.total s o i t
  rw [parseLoop_eq h fuel parts hf, parseLoop_eq h fuel' parts hf']

/-- the loop never runs out of fuel in `parse` -/
theorem parseLoop_ne_outOfFuel (s : Str) (o : Opts) (fuel i : Nat) (parts : List Node)
    (t : List Char) (hf : s.length + 1 - i < fuel) :
    ∃ r, Loop s o i t r ∧ parseLoop s o fuel i parts t = r.prepend parts :=
  parseLoop_spec s o fuel i parts t hf

theorem Loop.iff_parseLoop {s : Str} {o : Opts} {i : Nat} {t : List Char} {r : LoopRes} :
    Loop s o i t r ↔ parseLoop s o (s.length + 2) i [] t = r := by
  obtain ⟨r', h', he⟩ := parseLoop_spec s o (s.length + 2) i [] t (by omega)
  rw [LoopRes.prepend_nil] at he
  constructor
  · intro h; rw [he, h.det h']
  · intro h; rw [← h, he]; exact h'

/-- the table content the loop starts with does not influence the parts -/
theorem Loop.touched_irrelevant {s : Str} {o : Opts} {i : Nat} {t t' : List Char} {r r' : LoopRes}
    (h : Loop s o i t r) (h' : Loop s o i t' r') : r.1 = r'.1 := by
  have e := parseLoop_touched_irrelevant s o (s.length + 2) i [] t t'
  rw [parseLoop_eq h _ _ (by omega), parseLoop_eq h' _ _ (by omega), LoopRes.prepend_nil,
    LoopRes.prepend_nil] at e
  exact e

/-! ### the entry point -/

/-- **`bashlex.parse`, as a relation**: the first parser run on the whole input, then the loop
    entered at `max(parts[0].pos[1], ef.end, 1)` -/
inductive Parse (s : Str) (o : Opts) : Outcome × List Char → Prop
  | raise {e : Exn} {t : List Char} (hr : runParser s o [] = (.error e, t)) : Parse s o (.exn e, t)
  | empty {t : List Char} (hr : runParser s o [] = (.ok none, t)) : Parse s o (.parts [], t)
  | loop {first : Node} {t : List Char} {r : LoopRes}
      (hr : runParser s o [] = (.ok (some first), t))
      (hl : Loop s o (max (nextIndex first) 1) t r) : Parse s o (r.cons first).outcome

/-- **parse_unfold**: `parse s o` is the unique outcome the relation allows -/
theorem parse_spec (s : Str) (o : Opts) : Parse s o (parse s o) := by
  unfold parse
  rcases hr : runParser s o [] with ⟨x, t⟩
  cases x with
  | error e => exact .raise hr
  | ok v =>
    cases v with
    | none => exact .empty hr
    | some first =>
      simp only []
      obtain ⟨r, hl⟩ := Loop.total s o (max (nextIndex first) 1) t
      have hadv := advance first 0
      rw [parseLoop_eq hl (s.length + 1) [first] (by omega), LoopRes.prepend_singleton]
      have := Parse.loop hr hl
      obtain ⟨y, u⟩ := r
      cases y <;> exact this

theorem Parse.det {s : Str} {o : Opts} {r r' : Outcome × List Char}
    (h : Parse s o r) (h' : Parse s o r') : r = r' := by
  cases h with
  | raise hr =>
    cases h' with
    | raise hr' => rw [hr] at hr'; cases hr'; rfl
    | empty hr' => rw [hr] at hr'; cases hr'
    | loop hr' _ => rw [hr] at hr'; cases hr'
  | empty hr =>
    cases h' with
    | raise hr' => rw [hr] at hr'; cases hr'
    | empty hr' => rw [hr] at hr'; cases hr'; rfl
    | loop hr' _ => rw [hr] at hr'; cases hr'
  | loop hr hl =>
    cases h' with
    | raise hr' => rw [hr] at hr'; cases hr'
    | empty hr' => rw [hr] at hr'; cases hr'
    | loop hr' hl' => rw [hr] at hr'; cases hr'; rw [hl.det hl']

theorem parse_unfold (s : Str) (o : Opts) (r : Outcome × List Char) :
    Parse s o r ↔ parse s o = r :=
  ⟨fun h => (parse_spec s o).det h, fun h => h ▸ parse_spec s o⟩

/-- for a non-empty input the first parser run is an ordinary iteration of the loop:
    **`parse s` is the loop entered at index 0 with no parts** -/
theorem parse_eq_loop {s : Str} {o : Opts} (hs : s ≠ []) {r : LoopRes} (h : Loop s o 0 [] r) :
    parse s o = r.outcome := by
  refine (parse_unfold s o _).1 ?_
  have h0 : 0 < s.length := List.length_pos_iff.2 hs
  cases h with
  | done g => exact absurd h0 g
  | stop _ hr => rw [List.drop_zero] at hr; exact .empty hr
  | raise _ hr => rw [List.drop_zero] at hr; exact .raise hr
  | step _ hr hl =>
    rw [List.drop_zero] at hr
    rw [Node.shift_zero] at hl ⊢
    exact .loop hr hl

/-- the same with the table the process already holds (`parseFrom`) -/
theorem parseFrom_eq_loop {s : Str} {o : Opts} {t : List Char} (hs : s ≠ []) {r : LoopRes}
    (h : Loop s o 0 t r) : parseFrom s o t = r.outcome := by
  have h0 : 0 < s.length := List.length_pos_iff.2 hs
  unfold parseFrom
  cases h with
  | done g => exact absurd h0 g
  | stop _ hr => rw [List.drop_zero] at hr; rw [hr]; rfl
  | raise _ hr => rw [List.drop_zero] at hr; rw [hr]; rfl
  | @step _ _ t' part r _ hr hl =>
    rw [List.drop_zero] at hr
    rw [Node.shift_zero] at hl ⊢
    rw [hr]
    simp only []
    have hadv := advance part 0
    rw [parseLoop_eq hl (s.length + 1) [part] (by omega), LoopRes.prepend_singleton]
    obtain ⟨y, u⟩ := r
    cases y <;> rfl

end Bashlex.C13
