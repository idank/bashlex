/-
  C13: top-level commands are parsed independently.

  Setting: `s = A ++ R` where `A` ends in a newline or `R` starts with one (`Joinable A R`).

  1. `ofInput_prefix`: the tape of `A` (`A` plus the newline `tokenizer.__init__` adds) is a prefix
     of the tape of `A ++ R`.  Hence (`runParser_append`, from `runParser_prefix` of QCongr) a
     parser run on `A` that is *local* (`runLocal`: it never asked for the whole line / source /
     `_added_newline`, and never examined a cell beyond the end of its own tape, i.e. never saw
     the end of input) returns the same result and leaves the same table on `A ++ R`.
  2. `Seg`: a segment of node-returning iterations of the loop of `parse`; `Seg.transfer`: a
     segment of the loop on `A` all of whose runs are local is a segment of the loop on `A ++ R`
     (same indices, same parts, same tables) — the step-by-step simulation of the two loops.
  3. `Loop.of_drop`: the loop on a suffix `s.drop k` is the loop on `s` from index `k`, with all
     parts shifted by `k` (spans are absolute because `posshifter(index)` is applied to what a
     run on `s[index:]` returns, and `nextIndex` commutes with the shift).
  4. `indep_core`: after a local segment of `A`'s loop that produced `ps` and arrived at index `j`,
     `parse (A ++ R)` is `ps` followed by what a **fresh** `parse` returns on `(A ++ R).drop j`,
     shifted by `j` (or the exception that fresh `parse` raises): nothing but the index flows from
     one top-level command to the next (the table `sh_syntaxtab` does, but it never influences a
     result: `Loop.touched_irrelevant`).
  5. `walk`: the instrumented loop (parts, index where the loop stopped, locality flag), computable,
     so that the hypotheses of the main theorems can be evaluated on concrete inputs.
  6. `BlankSkip`, `parse_blankSkip`: what is needed (and all that is needed) to replace the fresh
     `parse` on `blank ++ B` by `parse B`: the *first* parser run on `blank ++ B` returns what the
     first run on `B` returns, shifted.  This is translation-equivariance of one parser run under
     a prefix of blanks/comments/newlines; it is proved for `proceedonerror = false` in
     `Props/C14.lean` (`blankSkip_run`, `C13_partial_blank`) and is false for `B = "time\n\n"` with
     `proceedonerror` (see C13.lean).
-/
import Bashlex.Props.C13.Loop
import Bashlex.Props.C13.NodeEq

namespace Bashlex.C13
open Bashlex

/-! ### the empty input -/

/-- a parser run on the empty string returns no node and looks nothing up (kernel evaluation,
    for all options and table contents) -/
theorem runParser_nil (o : Opts) (t : List Char) : runParser [] o t = (.ok none, t) := by
  rfl

theorem parse_nil_input (o : Opts) : parse [] o = (.parts [], []) := by
  unfold parse; rw [runParser_nil]

/-- `parse s` is the loop entered at index 0, for every `s` -/
theorem parse_eq_loop' {s : Str} {o : Opts} {r : LoopRes} (h : Loop s o 0 [] r) :
    parse s o = r.outcome := by
  by_cases hs : s = []
  · subst hs
    rw [parse_nil_input]
    cases h with
    | done _ => rfl
    | stop g _ => exact absurd g (Nat.lt_irrefl 0)
    | raise g _ => exact absurd g (Nat.lt_irrefl 0)
    | step g _ _ => exact absurd g (Nat.lt_irrefl 0)
  · exact parse_eq_loop hs h

/-- inversion of the loop at index 0 in terms of the first parser run (also for `s = []`) -/
theorem Loop.zero_inv {s : Str} {o : Opts} {t : List Char} {r : LoopRes} (h : Loop s o 0 t r) :
    (∃ e t', runParser s o t = (.error e, t') ∧ r = (.error e, t')) ∨
    (∃ t', runParser s o t = (.ok none, t') ∧ r = (.ok [], t')) ∨
    (∃ part t' r', runParser s o t = (.ok (some part), t') ∧
      Loop s o (max (nextIndex part) 1) t' r' ∧ r = r'.cons part) := by
  cases h with
  | done g =>
    have hs : s = [] := by
      cases s with
      | nil => rfl
      | cons c cs => exact absurd (Nat.succ_pos _) g
    subst hs
    exact .inr (.inl ⟨t, runParser_nil o t, rfl⟩)
  | stop _ hr => rw [List.drop_zero] at hr; exact .inr (.inl ⟨_, hr, rfl⟩)
  | raise _ hr => rw [List.drop_zero] at hr; exact .inl ⟨_, _, hr, rfl⟩
  | step _ hr hl =>
    rw [List.drop_zero] at hr
    rw [Node.shift_zero] at hl ⊢
    exact .inr (.inr ⟨_, _, _, hr, hl, rfl⟩)

/-! ### the tape of a prefix -/

theorem ofInput_line (s : Str) :
    (Tape.ofInput s).line = s ∨ (Tape.ofInput s).line = s ++ ['\n'] :=
  Tape.ofInput_line s

theorem ofInput_line_of_ne {s : Str} {c : Char} (h : s.getLast? = some c) (hc : c ≠ '\n') :
    (Tape.ofInput s).line = s ++ ['\n'] := by
  rw [Tape.ofInput_of_ne h hc]

/-- `A` can be continued by `R` without changing what a tokenizer over `A` alone sees before the
    end of its tape: `A` ends in a newline, or `R` starts with one (the newline
    `tokenizer.__init__` would add to `A`) -/
def Joinable (A R : Str) : Prop := A.getLast? = some '\n' ∨ R.head? = some '\n'

instance (A R : Str) : Decidable (Joinable A R) := by unfold Joinable; infer_instance

theorem joinable_cons (A R : Str) : Joinable A ('\n' :: R) := .inr rfl

theorem Joinable.drop {A R : Str} (hj : Joinable A R) {i : Nat} (hi : i < A.length) :
    Joinable (A.drop i) R := by
  rcases hj with h | h
  · left
    rw [List.getLast?_drop, if_neg (by omega)]
    exact h
  · exact .inr h

/-- **the tape of `A` is a prefix of the tape of `A ++ R`** -/
theorem ofInput_prefix {A R : Str} (hj : Joinable A R) :
    (Tape.ofInput A).line <+: (Tape.ofInput (A ++ R)).line := by
  have hAR := ofInput_line (A ++ R)
  rcases Tape.ofInput_cases A with ⟨_, eA⟩ | ⟨⟨c, hc, hcn⟩, eA⟩ <;> rw [eA]
  · rcases hAR with e | e <;> rw [e]
    · exact List.prefix_append A R
    · rw [List.append_assoc]; exact List.prefix_append A _
  · rcases hj with hj | hj
    · exact absurd (Option.some.inj (hc.symm.trans hj)) hcn
    · obtain ⟨R', rfl⟩ : ∃ R', R = '\n' :: R' := by
        cases R with
        | nil => cases hj
        | cons x R' =>
          simp only [List.head?_cons, Option.some.injEq] at hj
          exact ⟨R', by rw [hj]⟩
      have e0 : A ++ '\n' :: R' = (A ++ ['\n']) ++ R' := by simp
      rcases hAR with e | e <;> rw [e, e0]
      · exact List.prefix_append _ _
      · rw [List.append_assoc]; exact List.prefix_append _ _

theorem getElem?_of_prefix {l l' : Str} (h : l <+: l') (i : Nat) (hi : i < l.length) :
    l[i]? = l'[i]? := by
  obtain ⟨m, rfl⟩ := h
  exact (List.getElem?_append_left hi).symm

/-! ### local parser runs -/

/-- **locality of one parser run** (a property of the run on `s` alone): it asked none of
    `tokenizer.source`, `_shell_input_line`, `_added_newline`, and examined no cell beyond the end
    of its tape (it never tested for / ran into the end of input). -/
def runLocal (s : Str) (o : Opts) (t : List Char) : Bool :=
  decide ((parserRun maxDepth).maxCell { limit := o.limit } (runParserEnv s o t) ≤
    (Tape.ofInput s).line.length) &&
  (runParserAsked s o t).all (fun q => !q.readsWhole)

/-- a local run on `A` is a run on `A ++ R`: same result, same table -/
theorem runParser_append {A R : Str} {o : Opts} {t : List Char}
    (hj : Joinable A R) (hloc : runLocal A o t = true) :
    runParser (A ++ R) o t = runParser A o t := by
  unfold runLocal at hloc
  rw [Bool.and_eq_true, decide_eq_true_eq, List.all_eq_true] at hloc
  refine (runParser_prefix A (A ++ R) o t _ (getElem?_of_prefix (ofInput_prefix hj)) ?_
    hloc.1).symm
  intro q hq
  have := hloc.2 q hq
  cases h : q.readsWhole
  · rfl
  · rw [h] at this; cases this

/-! ### segments of the loop and their transfer -/

/-- `Seg L s o i t ps j u`: entered at `(i, t)`, the loop of `parse s` makes `ps.length` iterations
    that each return a node — together the parts `ps` — and arrives at index `j` with table `u`.
    With `L = true` every one of these parser runs is local. -/
inductive Seg (L : Bool) (s : Str) (o : Opts) : Nat → List Char → List Node → Nat → List Char → Prop
  | nil {i : Nat} {t : List Char} : Seg L s o i t [] i t
  | cons {i j : Nat} {t t' u : List Char} {part : Node} {ps : List Node} (h : i < s.length)
      (hr : runParser (s.drop i) o t = (.ok (some part), t'))
      (hloc : L = true → runLocal (s.drop i) o t = true)
      (hs : Seg L s o (max (nextIndex (part.shift i)) (i + 1)) t' ps j u) :
      Seg L s o i t (part.shift i :: ps) j u

theorem Seg.mono {L L' : Bool} (hL : L' = true → L = true) {s : Str} {o : Opts} {i j : Nat}
    {t u : List Char} {ps : List Node} (h : Seg L s o i t ps j u) : Seg L' s o i t ps j u := by
  induction h with
  | nil => exact .nil
  | cons h hr hloc _ ih => exact .cons h hr (fun g => hloc (hL g)) ih

/-- a segment followed by the rest of the loop -/
theorem Seg.loop {L : Bool} {s : Str} {o : Opts} {i j : Nat} {t u : List Char} {ps : List Node}
    {r : LoopRes} (h : Seg L s o i t ps j u) (hl : Loop s o j u r) :
    Loop s o i t (r.prepend ps) := by
  induction h with
  | nil => rw [LoopRes.prepend_nil]; exact hl
  | @cons i j t t' u part ps h hr _ _ ih =>
    have := Loop.step h hr (ih hl)
    have e : LoopRes.prepend (part.shift i :: ps) r = (LoopRes.prepend ps r).cons (part.shift i) := by
      obtain ⟨x, v⟩ := r
      cases x <;> simp [LoopRes.prepend, LoopRes.cons, Except.map]
    rw [e]; exact this

/-- the index only grows along a segment -/
theorem Seg.le {L : Bool} {s : Str} {o : Opts} {i j : Nat} {t u : List Char} {ps : List Node}
    (h : Seg L s o i t ps j u) : i ≤ j := by
  induction h with
  | nil => exact Nat.le_refl _
  | @cons i j t t' u part ps _ _ _ _ ih =>
    have := advance (part.shift i) i
    omega

/-- a segment ends inside the input if every run's next index lies inside the suffix it ran on -/
theorem Seg.stop_le {L : Bool} {s : Str} {o : Opts} {i j : Nat} {t u : List Char}
    {ps : List Node} (h : Seg L s o i t ps j u) (hi : i ≤ s.length)
    (hrun : ∀ i t part, (runParser (s.drop i) o t).1 = .ok (some part) →
      nextIndex part ≤ (s.drop i).length) : j ≤ s.length := by
  induction h with
  | nil => exact hi
  | @cons i j t t' u part ps h hr _ _ ih =>
    refine ih ?_
    have := hrun i t part (by rw [hr])
    rw [List.length_drop] at this
    rw [nextIndex_shift]
    omega

/-- **the simulation**: a local segment of the loop on `A` is a segment of the loop on `A ++ R`
    — same restart indices, same parts, same tables -/
theorem Seg.transfer {A R : Str} {o : Opts} (hj : Joinable A R) {i j : Nat} {t u : List Char}
    {ps : List Node} (h : Seg true A o i t ps j u) : Seg false (A ++ R) o i t ps j u := by
  induction h with
  | nil => exact .nil
  | @cons i j t t' u part ps h hr hloc _ ih =>
    have hd : (A ++ R).drop i = A.drop i ++ R := List.drop_append_of_le_length (Nat.le_of_lt h)
    refine .cons (by rw [List.length_append]; omega) ?_ (fun g => by cases g) ih
    rw [hd, runParser_append (hj.drop h) (hloc rfl)]
    exact hr

/-! ### suffixes: spans are absolute -/

/-- **the loop on the suffix `s.drop k` is the loop on `s` from index `k`**, all parts shifted
    by `k` -/
theorem Loop.of_drop {s : Str} {o : Opts} {k : Nat} {j : Nat} {t : List Char} {r : LoopRes}
    (h : Loop (s.drop k) o j t r) : Loop s o (k + j) t (r.shift k) := by
  induction h with
  | done h =>
    rw [List.length_drop] at h
    exact .done (by omega)
  | stop h hr =>
    rw [List.length_drop] at h
    rw [List.drop_drop] at hr
    exact .stop (by omega) hr
  | raise h hr =>
    rw [List.length_drop] at h
    rw [List.drop_drop] at hr
    exact .raise (by omega) hr
  | @step j t t' part r h hr _ ih =>
    rw [List.length_drop] at h
    rw [List.drop_drop] at hr
    have e1 : k + max (nextIndex (part.shift j)) (j + 1) =
        max (nextIndex (part.shift (k + j))) (k + j + 1) := by
      rw [nextIndex_shift, nextIndex_shift]; omega
    rw [e1] at ih
    have := Loop.step (by omega) hr ih
    rw [LoopRes.shift_cons, Node.shift_shift, Nat.add_comm j k]
    exact this

/-- gluing: the parts `ps` found so far, then the outcome of `parse` on the rest, which starts at
    offset `k` of the whole input -/
def glue (ps : List Node) (k : Nat) : Outcome → Outcome
  | .parts qs => .parts (ps ++ qs.map (Node.shift k))
  | .exn e => .exn e
  | x => x

theorem outcome_glue (ps : List Node) (k : Nat) (r r0 : LoopRes) (h : r.1 = (r0.shift k).1) :
    (r.prepend ps).outcome.1 = glue ps k r0.outcome.1 := by
  obtain ⟨x, t⟩ := r
  obtain ⟨y, u⟩ := r0
  cases y with
  | error e =>
    simp only [LoopRes.shift, Except.map] at h
    subst h; rfl
  | ok qs =>
    simp only [LoopRes.shift, Except.map] at h
    subst h; rfl

/-- **independence, core form**: after a local segment of the loop on `A` (parts `ps`, arriving
    at index `j`), `parse (A ++ R)` returns `ps` followed by the parts a *fresh* `parse` returns
    on the rest `(A ++ R).drop j`, shifted by `j` — or raises what that fresh `parse` raises -/
theorem indep_core {A R : Str} {o : Opts} {ps : List Node} {j : Nat} {u : List Char}
    (hj : Joinable A R) (hseg : Seg true A o 0 [] ps j u) :
    (parse (A ++ R) o).1 = glue ps j (parse ((A ++ R).drop j) o).1 := by
  have hs := hseg.transfer (R := R) hj
  obtain ⟨r, hr⟩ := Loop.total (A ++ R) o j u
  obtain ⟨r0, hr0⟩ := Loop.total ((A ++ R).drop j) o 0 []
  have h1 := hs.loop hr
  have h2 := hr0.of_drop
  rw [Nat.add_zero] at h2
  have h3 := hr.touched_irrelevant h2
  rw [parse_eq_loop' h1, parse_eq_loop' hr0]
  exact outcome_glue ps j r r0 h3

/-! ### the instrumented loop -/

/-- what `walk` records: the parts, the index at which the loop stopped (`index >= len(s)` or a
    run that returned no node), the table on arrival there, and whether every node-returning run
    was local -/
structure Walk where
  parts : List Node
  stop : Nat
  table : List Char
  loc : Bool

/-- the loop of `parse` with instrumentation; `none`: a run raised -/
def walk (s : Str) (o : Opts) : Nat → Nat → List Char → Option Walk
  | 0, _, _ => none
  | fuel + 1, i, t =>
    if i < s.length then
      match runParser (s.drop i) o t with
      | (.error _, _) => none
      | (.ok none, _) => some ⟨[], i, t, true⟩
      | (.ok (some part), t') =>
        match walk s o fuel (max (nextIndex (part.shift i)) (i + 1)) t' with
        | none => none
        | some w => some ⟨part.shift i :: w.parts, w.stop, w.table,
            runLocal (s.drop i) o t && w.loc⟩
    else some ⟨[], i, t, true⟩

/-- what `walk` returns is a segment of the loop (local if the flag says so) -/
theorem walk_seg (s : Str) (o : Opts) : ∀ (fuel i : Nat) (t : List Char) (w : Walk),
    walk s o fuel i t = some w → Seg w.loc s o i t w.parts w.stop w.table := by
  intro fuel
  induction fuel with
  | zero => intro i t w h; cases h
  | succ fuel ih =>
    intro i t w h
    unfold walk at h
    by_cases hi : i < s.length
    · rw [if_pos hi] at h
      rcases hr : runParser (s.drop i) o t with ⟨x, t'⟩
      rw [hr] at h
      cases x with
      | error e => cases h
      | ok v =>
        cases v with
        | none => simp only [] at h; cases h; exact .nil
        | some part =>
          simp only [] at h
          cases hw : walk s o fuel (max (nextIndex (part.shift i)) (i + 1)) t' with
          | none => rw [hw] at h; cases h
          | some w' =>
            rw [hw] at h
            simp only [Option.some.injEq] at h
            subst h
            have := ih _ _ _ hw
            refine .cons hi hr (fun g => ?_) (this.mono (fun g => ?_))
            · simp only [Bool.and_eq_true] at g; exact g.1
            · simp only [Bool.and_eq_true] at g; exact g.2
    · rw [if_neg hi] at h
      cases h
      exact .nil

/-- `walk` follows the loop: with sufficient fuel it returns the parts of the loop, and fails
    exactly when the loop raises -/
theorem walk_spec (s : Str) (o : Opts) : ∀ (fuel i : Nat) (t : List Char),
    s.length + 1 - i < fuel →
    match walk s o fuel i t with
    | some w => ∃ u, Loop s o i t (.ok w.parts, u)
    | none => ∃ e u, Loop s o i t (.error e, u) := by
  intro fuel
  induction fuel with
  | zero => intro i t h; exact absurd h (Nat.not_lt_zero _)
  | succ fuel ih =>
    intro i t hf
    unfold walk
    by_cases hi : i < s.length
    · rw [if_pos hi]
      rcases hr : runParser (s.drop i) o t with ⟨x, t'⟩
      cases x with
      | error e => exact ⟨e, t', .raise hi hr⟩
      | ok v =>
        cases v with
        | none => exact ⟨t', .stop hi hr⟩
        | some part =>
          simp only []
          have hadv := advance (part.shift i) i
          have := ih (max (nextIndex (part.shift i)) (i + 1)) t' (by omega)
          cases hw : walk s o fuel (max (nextIndex (part.shift i)) (i + 1)) t' with
          | none =>
            rw [hw] at this
            obtain ⟨e, u, hl⟩ := this
            exact ⟨e, u, Loop.step hi hr hl⟩
          | some w' =>
            rw [hw] at this
            obtain ⟨u, hl⟩ := this
            exact ⟨u, Loop.step hi hr hl⟩
    · rw [if_neg hi]
      exact ⟨t, .done hi⟩

/-- index at which the loop of `parse A` stops (0 if `parse A` raises) -/
def parseStop (A : Str) (o : Opts) : Nat :=
  match walk A o (A.length + 2) 0 [] with
  | some w => w.stop
  | none => 0

/-- every node-returning parser run of `parse A` is local (`false` if `parse A` raises) -/
def parseLocal (A : Str) (o : Opts) : Bool :=
  match walk A o (A.length + 2) 0 [] with
  | some w => w.loc
  | none => false

/-- if `parse A` returns `psA`, `walk` returns a record with these parts -/
theorem walk_of_parse {A : Str} {o : Opts} {psA : List Node} (hA : (parse A o).1 = .parts psA) :
    ∃ w, walk A o (A.length + 2) 0 [] = some w ∧ w.parts = psA := by
  obtain ⟨r, hr⟩ := Loop.total A o 0 []
  rw [parse_eq_loop' hr] at hA
  have hw := walk_spec A o (A.length + 2) 0 [] (by omega)
  cases h : walk A o (A.length + 2) 0 [] with
  | none =>
    rw [h] at hw
    obtain ⟨e, u, hl⟩ := hw
    rw [hr.det hl] at hA
    cases hA
  | some w =>
    rw [h] at hw
    obtain ⟨u, hl⟩ := hw
    rw [hr.det hl] at hA
    simp only [LoopRes.outcome, Outcome.parts.injEq] at hA
    exact ⟨w, rfl, hA⟩

/-! ### a blank prefix -/

/-- **translation of the first run under the prefix `pre`** (intended: `pre` consists of blanks,
    comments and newlines and is empty or ends in a newline): the first parser run on `pre ++ B`
    returns what the first run on `B` returns, with spans shifted by `len(pre)`; and the first
    part of `B` does not have an empty extent at offset 0 (needed because `parse` resumes at
    `max(end, 1)` after the first part but at `max(end, index + 1)` later). -/
structure BlankSkip (pre B : Str) (o : Opts) : Prop where
  run : (runParser (pre ++ B) o []).1 =
    (runParser B o []).1.map (fun n => n.map (Node.shift pre.length))
  pos : pre = [] ∨ ∀ part, (runParser B o []).1 = .ok (some part) → 0 < nextIndex part

theorem BlankSkip.nil (B : Str) (o : Opts) : BlankSkip [] B o := by
  refine ⟨?_, .inl rfl⟩
  rw [List.nil_append, List.length_nil]
  rcases runParser B o [] with ⟨x, t⟩
  cases x with
  | error e => rfl
  | ok v => cases v <;> simp [Except.map, Node.shift_zero]

/-- a checker for `BlankSkip` on concrete inputs -/
def blankSkipB (pre B : Str) (o : Opts) : Bool :=
  runResBeq (runParser (pre ++ B) o []).1
    ((runParser B o []).1.map (fun n => n.map (Node.shift pre.length))) &&
  (pre.isEmpty ||
    match (runParser B o []).1 with
    | .ok (some part) => decide (0 < nextIndex part)
    | _ => true)

theorem blankSkip_of_check {pre B : Str} {o : Opts} (h : blankSkipB pre B o = true) :
    BlankSkip pre B o := by
  unfold blankSkipB at h
  rw [Bool.and_eq_true, Bool.or_eq_true] at h
  refine ⟨eq_of_runResBeq h.1, ?_⟩
  rcases h.2 with h2 | h2
  · exact .inl (List.isEmpty_iff.1 h2)
  · refine .inr (fun part hp => ?_)
    rw [hp] at h2
    simpa using h2

/-- under `BlankSkip`, `parse (pre ++ B)` is `parse B` shifted by `len(pre)` — all later parser
    runs are on literally the same suffixes -/
theorem parse_blankSkip {pre B : Str} {o : Opts} (h : BlankSkip pre B o) :
    (parse (pre ++ B) o).1 = glue [] pre.length (parse B o).1 := by
  obtain ⟨rX, hX⟩ := Loop.total (pre ++ B) o 0 []
  obtain ⟨rB, hB⟩ := Loop.total B o 0 []
  rw [parse_eq_loop' hX, parse_eq_loop' hB]
  have key : rX.1 = (rB.shift pre.length).1 := by
    have hrun := h.run
    rcases hB.zero_inv with ⟨e, t', hr, rfl⟩ | ⟨t', hr, rfl⟩ | ⟨part, t', r', hr, hl, rfl⟩
    · rw [hr] at hrun
      rcases hX.zero_inv with ⟨e2, t2, hr2, rfl⟩ | ⟨t2, hr2, rfl⟩ | ⟨part2, t2, r2, hr2, _, rfl⟩
      · rw [hr2] at hrun; simp only [Except.map] at hrun; cases hrun; rfl
      · rw [hr2] at hrun; simp only [Except.map] at hrun; cases hrun
      · rw [hr2] at hrun; simp only [Except.map] at hrun; cases hrun
    · rw [hr] at hrun
      rcases hX.zero_inv with ⟨e2, t2, hr2, rfl⟩ | ⟨t2, hr2, rfl⟩ | ⟨part2, t2, r2, hr2, _, rfl⟩
      · rw [hr2] at hrun; simp only [Except.map] at hrun; cases hrun
      · rfl
      · rw [hr2] at hrun; simp only [Except.map, Option.map] at hrun; cases hrun
    · have hpos : pre = [] ∨ 0 < nextIndex part := by
        rcases h.pos with hp | hp
        · exact .inl hp
        · exact .inr (hp part (by rw [hr]))
      rw [hr] at hrun
      rcases hX.zero_inv with ⟨e2, t2, hr2, rfl⟩ | ⟨t2, hr2, rfl⟩ | ⟨part2, t2, r2, hr2, hl2, rfl⟩
      · rw [hr2] at hrun; simp only [Except.map] at hrun; cases hrun
      · rw [hr2] at hrun; simp only [Except.map, Option.map] at hrun; cases hrun
      · rw [hr2] at hrun
        simp only [Except.map, Option.map, Except.ok.injEq, Option.some.injEq] at hrun
        subst hrun
        -- the loop on `B` from its restart index, seen inside `pre ++ B`
        have hd : (pre ++ B).drop pre.length = B := List.drop_left
        rw [← hd] at hl
        have h2 := hl.of_drop
        have e1 : pre.length + max (nextIndex part) 1 =
            max (nextIndex (part.shift pre.length)) 1 := by
          rw [nextIndex_shift]
          rcases hpos with hp | hp
          · rw [hp]; simp
          · omega
        rw [e1] at h2
        have h3 := hl2.touched_irrelevant h2
        rw [LoopRes.shift_cons]
        obtain ⟨x, v⟩ := r2
        obtain ⟨y, v'⟩ := r'
        simp only at h3
        subst h3
        cases y <;> rfl
  have := outcome_glue [] pre.length rX rB key
  rw [LoopRes.prepend_nil] at this
  exact this

end Bashlex.C13
