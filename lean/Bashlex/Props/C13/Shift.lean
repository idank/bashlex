/-
  C13: algebra of the span helpers used by the loop of `parse`: `Node.lastHeredocEnd_shift`,
  `nextIndex_shift : nextIndex (shift k n) = nextIndex n + k` (the laws of `shift` itself are in
  `Proofs/NodeTree.lean`).
-/
import Bashlex.Model.Parse
import Bashlex.Proofs.NodeTree

namespace Bashlex

namespace Node

/-- the end of a here-document body node, `none` for every other node -/
def heredocEnd? : Node → Option Nat
  | heredoc p _ => some p.2
  | _ => none

theorem lastHeredocEnd_eq (n : Node) :
    n.lastHeredocEnd =
      match n.preorder.filterMap heredocEnd? with
      | [] => none
      | e :: es => some (es.foldl max e) := rfl

theorem heredocEnd?_shift (k : Nat) (n : Node) :
    heredocEnd? (shift k n) = (heredocEnd? n).map (· + k) := by
  cases n <;> simp [shift, mapPos, heredocEnd?]

theorem filterMap_heredocEnd?_shift (k : Nat) (l : List Node) :
    (l.map (shift k)).filterMap heredocEnd? = (l.filterMap heredocEnd?).map (· + k) := by
  induction l with
  | nil => rfl
  | cons n ns ih =>
    rw [List.map_cons, List.filterMap_cons, List.filterMap_cons, heredocEnd?_shift, ih]
    cases heredocEnd? n <;> simp

theorem foldl_max_add (k : Nat) : ∀ (es : List Nat) (e : Nat),
    (es.map (· + k)).foldl max (e + k) = es.foldl max e + k := by
  intro es
  induction es with
  | nil => intro e; rfl
  | cons x xs ih =>
    intro e
    simp only [List.map_cons, List.foldl_cons]
    have : max (e + k) (x + k) = max e x + k := by omega
    rw [this, ih]

/-- `_endfinder` on a shifted tree: the shifted end -/
theorem lastHeredocEnd_shift (k : Nat) (n : Node) :
    (shift k n).lastHeredocEnd = n.lastHeredocEnd.map (· + k) := by
  rw [lastHeredocEnd_eq, lastHeredocEnd_eq]
  have h : (shift k n).preorder = n.preorder.map (shift k) := preorder_mapPos_eq _ n
  rw [h, filterMap_heredocEnd?_shift]
  cases n.preorder.filterMap heredocEnd? with
  | nil => rfl
  | cons e es => simp only [List.map_cons, Option.map_some, foldl_max_add]

end Node

/-- the restart index of the loop of `parse` moves with the tree -/
theorem nextIndex_shift (k : Nat) (n : Node) : nextIndex (n.shift k) = nextIndex n + k := by
  unfold nextIndex
  rw [Node.lastHeredocEnd_shift, Node.pos_shift]
  cases n.lastHeredocEnd with
  | none => rfl
  | some e => simp only [Option.map_some]; omega

theorem isSubstitution_shift (k : Nat) (n : Node) :
    isSubstitution (n.shift k) = isSubstitution n := by
  cases n <;> rfl

end Bashlex
