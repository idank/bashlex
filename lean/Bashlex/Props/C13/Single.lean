/-
  C13 (also the entry-point half of C17): `parsesingle` is the first parser run of `parse`.

  * `parsesingle_eq`: `parsesingle s` *is* the first parser run (outcome and table);
  * `parsesingle_eq_head`: whenever `parse s` returns `ps`, `parsesingle s` returns `ps.head?`
    (`None` exactly when `parse` returns `[]`);
  * `parsesingle_exn_iff`, `parse_exn_of_parsesingle_exn`: `parsesingle` raises exactly when the
    first run raises, and then `parse` raises the same exception;
  * `parsesingle_of_parse_exn`: when `parse` raises, either the first run raised (same exception
    from `parsesingle`) or `parsesingle` returns the first part and a *later* run of the loop
    raised.  Witness for the second case (its `parse` half is `C11.witness_later`): `"a\n)"`:
    `parse` raises `ParsingError("unexpected token ')'", "\n)", 1)` (message, source and position
    are those of the *suffix* the failing run saw, not of the whole input), `parsesingle`
    returns `command (0,1) [word (0,1) "a"]`.
-/
import Bashlex.Props.C13.Loop

namespace Bashlex.C13
open Bashlex

/-- what `parsesingle` makes of the result of the first parser run -/
def singleOutcome : Except Exn (Option Node) → Outcome
  | .error e => .exn e
  | .ok n => .single n

/-- `parsesingle s` is the first parser run on `s`: same result, same table afterwards -/
theorem parsesingle_eq (s : Str) (o : Opts) :
    parsesingle s o = (singleOutcome (runParser s o []).1, (runParser s o []).2) := by
  unfold parsesingle
  rcases runParser s o [] with ⟨x, t⟩
  cases x <;> rfl

/-- `parsesingle` raises exactly when the first parser run raises -/
theorem parsesingle_exn_iff (s : Str) (o : Opts) (e : Exn) :
    (parsesingle s o).1 = .exn e ↔ (runParser s o []).1 = .error e := by
  rw [parsesingle_eq]
  rcases runParser s o [] with ⟨x, t⟩
  cases x with
  | error e' =>
    simp only [singleOutcome]
    exact ⟨fun h => (by cases h; rfl), fun h => (by cases h; rfl)⟩
  | ok n =>
    simp only [singleOutcome]
    exact ⟨fun h => (by cases h), fun h => (by cases h)⟩

theorem parsesingle_single_iff (s : Str) (o : Opts) (n : Option Node) :
    (parsesingle s o).1 = .single n ↔ (runParser s o []).1 = .ok n := by
  rw [parsesingle_eq]
  rcases runParser s o [] with ⟨x, t⟩
  cases x with
  | error e' =>
    simp only [singleOutcome]
    exact ⟨fun h => (by cases h), fun h => (by cases h)⟩
  | ok n' =>
    simp only [singleOutcome]
    exact ⟨fun h => (by cases h; rfl), fun h => (by cases h; rfl)⟩

/-- **C17**: `parsesingle(s)` is the first element of `parse(s)`, `None` when `parse` returns `[]` -/
theorem parsesingle_eq_head (s : Str) (o : Opts) (ps : List Node)
    (h : (parse s o).1 = .parts ps) : (parsesingle s o).1 = .single ps.head? := by
  rw [parsesingle_eq]
  have hp := parse_spec s o
  generalize parse s o = r at h hp
  cases hp with
  | raise hr => cases h
  | empty hr => cases h; rw [hr]; rfl
  | @loop first t r hr hl =>
    rw [hr]
    obtain ⟨y, u⟩ := r
    cases y with
    | error e => cases h
    | ok more => cases h; rfl

/-- … and the tables agree when `parse` made one parser run only -/
theorem parsesingle_touched_prefix (s : Str) (o : Opts) : (parsesingle s o).2 = (runParser s o []).2 := by
  rw [parsesingle_eq]

/-- if `parsesingle` raises, `parse` raises the same exception (and leaves the same table) -/
theorem parse_exn_of_parsesingle_exn (s : Str) (o : Opts) (e : Exn)
    (h : (parsesingle s o).1 = .exn e) : parse s o = (.exn e, (parsesingle s o).2) := by
  rw [parsesingle_touched_prefix]
  have h1 := (parsesingle_exn_iff s o e).1 h
  refine (parse_unfold s o _).1 ?_
  rcases hr : runParser s o [] with ⟨x, t⟩
  rw [hr] at h1
  simp only [] at h1
  subst h1
  exact .raise hr

/-- … in terms of the first parser run -/
theorem parse_exn_of_run_error {s : Str} {o : Opts} {x : Exn}
    (h : (runParser s o []).1 = .error x) : (parse s o).1 = .exn x :=
  congrArg Prod.fst (parse_exn_of_parsesingle_exn s o x ((parsesingle_exn_iff s o x).2 h))

/-- **when `parse` raises**: either the first parser run raised and `parsesingle` raises the same
    exception, or `parsesingle` returns the first part and a later run of the loop raised -/
theorem parsesingle_of_parse_exn (s : Str) (o : Opts) (e : Exn) (h : (parse s o).1 = .exn e) :
    ((runParser s o []).1 = .error e ∧ (parsesingle s o).1 = .exn e) ∨
    ∃ first t r, runParser s o [] = (.ok (some first), t) ∧
      (parsesingle s o).1 = .single (some first) ∧
      Loop s o (max (nextIndex first) 1) t r ∧ r.1 = .error e := by
  rw [parsesingle_eq]
  have hp := parse_spec s o
  generalize parse s o = r at h hp
  cases hp with
  | raise hr => cases h; rw [hr]; exact .inl ⟨rfl, rfl⟩
  | empty hr => cases h
  | @loop first t r hr hl =>
    refine .inr ⟨first, t, r, hr, by rw [hr]; rfl, hl, ?_⟩
    obtain ⟨y, u⟩ := r
    cases y with
    | error e' => cases h; rfl
    | ok more => cases h

/-- `parse` returns `[]` exactly when the first parser run returns no node -/
theorem parse_nil_iff (s : Str) (o : Opts) :
    (parse s o).1 = .parts [] ↔ (runParser s o []).1 = .ok none := by
  have hp := parse_spec s o
  generalize parse s o = r at hp
  cases hp with
  | raise hr => rw [hr]; exact ⟨fun h => (by cases h), fun h => (by cases h)⟩
  | empty hr => rw [hr]; exact ⟨fun _ => rfl, fun _ => rfl⟩
  | @loop first t r hr hl =>
    rw [hr]
    obtain ⟨y, u⟩ := r
    cases y with
    | error e => exact ⟨fun h => (by cases h), fun h => (by cases h)⟩
    | ok more => exact ⟨fun h => (by cases h), fun h => (by cases h)⟩

/-- `parse` returns parts or raises -/
theorem parse_parts_or_exn (s : Str) (o : Opts) :
    (∃ ps, (parse s o).1 = .parts ps) ∨ ∃ x, (parse s o).1 = .exn x := by
  have hp := parse_spec s o
  generalize parse s o = r at hp
  cases hp with
  | raise hr => exact .inr ⟨_, rfl⟩
  | empty hr => exact .inl ⟨_, rfl⟩
  | @loop first t r hr hl =>
    obtain ⟨y, u⟩ := r
    cases y with
    | error e => exact .inr ⟨e, rfl⟩
    | ok more => exact .inl ⟨_, rfl⟩

end Bashlex.C13
