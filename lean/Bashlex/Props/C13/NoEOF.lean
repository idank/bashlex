/-
  C13: a simpler sufficient condition for the locality of a parser run.

  `runLocal` (Indep.lean) is stated with `maxCell`, the largest tape cell a run examined.
  Here: a run that was **never told "end of input"** — no `_getc` call returned `None` or raised
  `IndexError` (backslash as the last character) — that never executed the non-strict
  here-document skip `_shell_input_line_index += 1`, and never asked for `source` / the whole
  line / `_added_newline`, is local (`runLocal_of_noEOF`).  (Conversely `_getc` returning `None`
  or raising `IndexError` from a head position inside the tape means that the cell just beyond the
  tape was looked up, so up to the index bump the two conditions coincide; on the test corpus
  they coincide for every accepted run.  Only the direction above is proved.)
-/
import Bashlex.Props.C13.Indep

namespace Bashlex

namespace Tape

/-- a `_getc` that returns a character examined cells inside the line only, and leaves the head
    inside the line -/
theorem getc_some_cells (rqn : Bool) : ∀ (f : Nat) (t : Tape) (c : Char) (u : Tape),
    t.getc rqn f = .ok (some c, u) →
    t.getcCells rqn f ≤ t.line.length ∧ u.idx ≤ t.line.length := by
  intro f
  induction f with
  | zero => intro t c u h; rw [getc_zero] at h; cases h
  | succ f ih =>
    intro t c u h
    rw [getc_succ] at h
    unfold getcCells
    cases h0 : t.line[t.idx]? with
    | none => rw [h0] at h; cases h
    | some c0 =>
      have hi : t.idx < t.line.length := by
        have := List.getElem?_eq_some_iff.1 h0
        exact this.1
      rw [h0] at h
      simp only at h ⊢
      by_cases hb : (c0 == '\\' && rqn) = true
      · rw [if_pos hb] at h ⊢
        cases h1 : t.line[t.idx + 1]? with
        | none => rw [h1] at h; cases h
        | some d =>
          have hi1 : t.idx + 1 < t.line.length := (List.getElem?_eq_some_iff.1 h1).1
          rw [h1] at h
          simp only at h ⊢
          by_cases hd : (d == '\n') = true
          · rw [if_pos hd] at h ⊢
            have := ih { t with idx := t.idx + 2 } c u h
            simp only at this
            exact ⟨Nat.max_le.2 ⟨hi1, this.1⟩, this.2⟩
          · rw [if_neg hd] at h ⊢
            cases h
            exact ⟨hi1, Nat.le_of_lt hi1⟩
      · rw [if_neg hb] at h ⊢
        cases h
        exact ⟨hi, hi⟩

end Tape

/-- the answer tells the program that the input has ended (or the query is one of those a local
    run must not make): `_getc` returned `None` / raised `IndexError`; the index bump; the queries
    for the whole tape -/
def Query.endOfInput : (q : Query) → Answer q → Bool
  | .getc _, .ok (some _) => false
  | .getc _, _ => true
  | .bump, _ => true
  | .source, _ | .line, _ | .added, _ => true
  | _, _ => false

namespace Env

theorem cells_le_of_noEOF (e : Env) (q : Query) (hi : e.tape.idx ≤ e.tape.line.length)
    (h : q.endOfInput (e.answer q).1 = false) :
    e.cells q ≤ e.tape.line.length ∧ (e.answer q).2.tape.idx ≤ e.tape.line.length ∧
    q.readsWhole = false := by
  cases q with
  | getc rqn =>
    simp only [answer] at h ⊢
    cases hg : e.tape.getc rqn (e.tape.line.length + 1) with
    | error u => rw [hg] at h; cases h
    | ok r =>
      obtain ⟨c, u⟩ := r
      rw [hg] at h
      simp only at h ⊢
      cases c with
      | none => cases h
      | some c =>
        have := Tape.getc_some_cells rqn _ _ _ _ hg
        exact ⟨this.1, this.2, rfl⟩
  | ungetc =>
    refine ⟨hi, ?_, rfl⟩
    simp only [answer]
    rw [Tape.ungetc_eq]
    split
    · simp only; omega
    · exact hi
  | idx => exact ⟨Nat.zero_le _, hi, rfl⟩
  | bump => cases h
  | source => cases h
  | line => cases h
  | added => cases h
  | optStrict => exact ⟨Nat.zero_le _, hi, rfl⟩
  | optProceed => exact ⟨Nat.zero_le _, hi, rfl⟩
  | syntab c =>
    refine ⟨Nat.zero_le _, ?_, rfl⟩
    simp only [answer]
    cases e.touched.contains c <;> exact hi

end Env

namespace Q
variable {α : Type}

/-- some answer along the run told the program that the input has ended -/
def sawEOF (p : Q α) (e : Env) : Bool := (trace p e).any (fun qa => qa.1.endOfInput qa.2)

/-- a run that starts inside the tape and is never told "end of input" examines only cells of
    the tape and asks no whole-tape query -/
theorem local_of_noEOF (p : Q α) : ∀ e : Env, e.tape.idx ≤ e.tape.line.length →
    sawEOF p e = false →
    maxCell p e ≤ e.tape.line.length ∧ ∀ q ∈ asked p e, q.readsWhole = false := by
  induction p with
  | pure a => intro e _ _; exact ⟨Nat.zero_le _, fun q hq => by cases hq⟩
  | ask q k ih =>
    intro e hi h
    unfold sawEOF at h
    rw [trace_ask, List.any_cons, Bool.or_eq_false_iff] at h
    obtain ⟨h1, h2, h3⟩ := e.cells_le_of_noEOF q hi h.1
    have hl : (e.answer q).2.tape.line = e.tape.line := (e.answer_frame q).2.2.1
    have := ih (e.answer q).1 (e.answer q).2 (by rw [hl]; exact h2) h.2
    rw [hl] at this
    refine ⟨Nat.max_le.2 ⟨h1, this.1⟩, ?_⟩
    intro q' hq'
    rw [asked_ask] at hq'
    rcases List.mem_cons.1 hq' with rfl | hq'
    · exact h3
    · exact this.2 q' hq'

end Q

namespace C13

/-- the parser run on `s` was never told "end of input" (see `Query.endOfInput`) -/
def runNoEOF (s : Str) (o : Opts) (t : List Char) : Bool :=
  !(Q.sawEOF ((parserRun maxDepth) { limit := o.limit }) (runParserEnv s o t))

/-- **a run that never ran into the end of its input is local** -/
theorem runLocal_of_noEOF {s : Str} {o : Opts} {t : List Char} (h : runNoEOF s o t = true) :
    runLocal s o t = true := by
  unfold runNoEOF at h
  have hi : (runParserEnv s o t).tape.idx ≤ (runParserEnv s o t).tape.line.length := by
    show (Tape.ofInput s).idx ≤ _
    rw [Tape.ofInput_idx]; exact Nat.zero_le _
  have := Q.local_of_noEOF ((parserRun maxDepth) { limit := o.limit }) (runParserEnv s o t) hi
    (by simpa using h)
  unfold runLocal
  rw [Bool.and_eq_true, decide_eq_true_eq, List.all_eq_true]
  refine ⟨this.1, fun q hq => ?_⟩
  rw [this.2 q hq]; rfl

end C13

end Bashlex
