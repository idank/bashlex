/-
  Property C03 ("spans are well-formed") at model level, with the hypothesis on the token source
  DISCHARGED for the real tokenizer (`Props/C03/TokSpans.lean`: `tokSpans : TokSpans TI`).

  What remains a hypothesis is `RootEnds` alone (`Props/C03/Run.lean`): "the root a nested parser
  returns for `s` does not end in two newline characters when it is not followed by `)`" -- a
  statement about the TEXT under a span (`_parsedolparen` steps back over newlines before the end
  it reports), which needs the relation between a token's span and the characters it covers; the
  span argument here never looks at characters other than the first of a token.

  Files (token source):
    C03/TokInv.lean        invariant `W` (line, cursor inside the line with a lower bound `k`,
                           empty look-ahead slot, position stack, store, queue); two-invariant
                           logic `SatW`; `_getc` / `_ungetc` (cursor discipline, D31 / D32)
    C03/TokWalk.lean       the automatic walk `w_walk` (two levels of the lower bound; join
                           points are proved once: `jp_step`, `use_hyp`)
    C03/TokTokenizer.lean  every function below `_readtoken` keeps `W` at every `k < len(line)`
    C03/TokWord.lean       `q_walk` (arbitrary post-condition); the loop of `_readtokenword`;
                           position stack, `_createtoken`, the end of `_readtokenword`
    C03/TokHeredoc.lean    `readline(False)`, `makeheredoc`, `gatherheredocuments`
    C03/TokRead.lean       `_readtoken`, `token()`
    C03/TokWNE.lean        a delivered WORD token is not empty (state-agnostic)
    C03/TokSpans.lean      the ghost invariant `TI`, the six fields, `tokSpans`
-/
import Bashlex.Props.C03
import Bashlex.Props.C03.TokSpans

namespace Bashlex.C03
open Bashlex Bashlex.Spec Bashlex.Node Bashlex.M Bashlex.LR

/-- the token-source half of `TokSpansAll`, unconditionally -/
theorem tokSpans_exists : ∃ TI : Nat → Nat → Local → Env → Prop, TokSpans TI := ⟨TI, tokSpans⟩

/-- `TokSpansAll` from its second half -/
theorem tokSpansAll_of_rootEnds (hR : RootEnds) : TokSpansAll := ⟨tokSpans_exists, hR⟩

/-- **C03 (model level), `parse`**, for the real tokenizer: for every input and all options, every
    clause of `Spec.spansWF` violated by a returned tree is a known defect
    (`empty-span:reservedword` (D19), or marked `+emptydesc` (D19), or marked `+heredoc` (D11)).
    The only hypothesis left is `RootEnds`. -/
theorem C03_total_conditional (hR : RootEnds) (s : Str) (o : Opts) (parts : List Node)
    (h : (parse s o).1 = .parts parts) :
    ∀ n ∈ parts, ∀ v ∈ Spec.spansWF s.length n, C03_known v = true :=
  C03_partial s o parts (tokSpansAll_of_rootEnds hR) h

/-- **C03 (model level), `parsesingle`**, for the real tokenizer -/
theorem C03_total_single_conditional (hR : RootEnds) (s : Str) (o : Opts) (n : Node)
    (h : (parsesingle s o).1 = .single (some n)) :
    ∀ v ∈ Spec.spansWF s.length n, C03_known v = true :=
  C03_partial_single s o n (tokSpansAll_of_rootEnds hR) h

/-- one parser run (top-level or nested, any nesting fuel), for the real tokenizer -/
theorem parserRun_strict_real (hR : RootEnds) (d : Nat) (s : Str) :
    SatS (parserRun d) (InitState s) (fun r _ _ => ∀ n, r = some n → Strict s.length n) :=
  parserRun_strict tokSpans hR d s

end Bashlex.C03

#print axioms Bashlex.C03.tokSpans
#print axioms Bashlex.C03.sat_nextToken_w
#print axioms Bashlex.C03.C03_total_conditional
#print axioms Bashlex.C03.C03_total_single_conditional
