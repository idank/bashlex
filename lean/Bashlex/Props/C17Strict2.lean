/-
  C17, towards discharging `C17.StrictSite`: trace lemmas for `asked` over `>>=` and `M.loop`,
  the fact that no query changes `Env.strict`, a compositional predicate `SS` ("in strict mode,
  at top level, asking `.optStrict` means ending in the here-document end-of-input error") with
  its structural rules, and the reduction `StrictSite ⇐ SS (parserRun maxDepth)`.

  `SS` is closed under everything the parser's code is built from but the query of the option
  and writes to `opts` (`SS.closed`), so the walk of `Proofs/ClosedTok.lean` gives `SS` for the
  tokenizer functions that never consult strictmode (`ss_peekc` … `ss_mpPost`), once the functions
  that write the tape, the positions and the delimiter stack are treated by hand (`ssScan`,
  `ssPos`).  Not proved: `SS` of `gatherheredocuments`, the engine and the actions.  What is left
  is the explicit hypothesis `SS (parserRun maxDepth)`, which is compositional (rules below),
  where `StrictSite` is monolithic.
-/
import Bashlex.Props.C17Strict
import Bashlex.Proofs.ClosedTok

namespace Bashlex
open Bashlex

namespace Q
variable {α β : Type}

theorem trace_bind (p : Q α) (f : α → Q β) : ∀ e,
    trace (Q.bind p f) e = trace p e ++ trace (f (run p e).1) (run p e).2 := by
  induction p with
  | pure a => intro e; rfl
  | ask q k ih => intro e; simp only [Q.bind, trace_ask, run_ask, List.cons_append, ih]

theorem asked_bind (p : Q α) (f : α → Q β) (e : Env) :
    asked (Q.bind p f) e = asked p e ++ asked (f (run p e).1) (run p e).2 := by
  unfold asked; rw [trace_bind, List.map_append]

theorem answer_strict (e : Env) (q : Query) : (e.answer q).2.strict = e.strict := by
  cases q <;> simp only [Env.answer] <;> (try rfl)
  · split <;> rfl
  · split <;> rfl

/-- no query changes the option `strict` of the environment -/
theorem run_strict (p : Q α) : ∀ e, (run p e).2.strict = e.strict := by
  induction p with
  | pure a => intro e; rfl
  | ask q k ih => intro e; rw [run_ask, ih, answer_strict]

end Q

namespace M
variable {α β : Type}

theorem asked_bind (m : M α) (f : α → M β) (l : Local) (e : Env) :
    asked (m >>= f) l e = asked m l e ++
      match m.run l e with
      | (.ok (a, l'), e') => asked (f a) l' e'
      | (.error _, _) => [] := by
  show Q.asked (Q.bind (m l) _) e = _
  rw [Q.asked_bind]
  show _ = Q.asked (m l) e ++ match Q.run (m l) e with
      | (.ok (a, l'), e') => asked (f a) l' e'
      | (.error _, _) => []
  rcases Q.run (m l) e with ⟨r, e'⟩
  cases r with
  | error x => rfl
  | ok v => obtain ⟨a, l'⟩ := v; rfl

theorem run_strict (m : M α) (l : Local) (e : Env) : (m.run l e).2.strict = e.strict :=
  Q.run_strict (m l) e

end M

namespace C17

/-- **strict-site safe**: started at top level (`opts = none`) in strict mode, the program keeps
    `opts = none`, and if it puts `.optStrict` to the environment it ends in `HdEof` -/
def SS {α : Type} (m : M α) : Prop :=
  ∀ l e, l.opts = none → e.strict = true →
    (∀ a l' e', m.run l e = (.ok (a, l'), e') → l'.opts = none) ∧
    (Query.optStrict ∈ M.asked m l e → ∃ x e', m.run l e = (.error x, e') ∧ HdEof x)

namespace SS
variable {α β : Type}

theorem pure (a : α) : SS (Pure.pure a : M α) := by
  intro l e hl _
  refine ⟨?_, fun h => by cases h⟩
  intro a' l' e' h
  rw [M.run_pure] at h
  cases h; exact hl

theorem raise (x : Exn) : SS (M.raise x : M α) := by
  intro l e _ _
  refine ⟨?_, fun h => by cases h⟩
  intro a' l' e' h; rw [M.run_raise] at h; cases h

theorem bind {m : M α} {f : α → M β} (hm : SS m) (hf : ∀ a, SS (f a)) : SS (m >>= f) := by
  intro l e hl he
  obtain ⟨h1, h2⟩ := hm l e hl he
  have hstr := M.run_strict m l e
  rw [M.asked_bind, M.run_bind]
  rcases hr : m.run l e with ⟨r, e1⟩
  rw [hr] at hstr
  cases r with
  | error x =>
    refine ⟨fun a l' e' h => (by cases h), ?_⟩
    intro h
    simp only [List.append_nil] at h
    obtain ⟨x', e', hx, hx'⟩ := h2 h
    rw [hr] at hx
    cases hx
    exact ⟨x, e1, rfl, hx'⟩
  | ok v =>
    obtain ⟨a, l1⟩ := v
    have hl1 := h1 a l1 e1 hr
    obtain ⟨g1, g2⟩ := hf a l1 e1 hl1 (by rw [← he]; exact hstr)
    refine ⟨g1, ?_⟩
    intro h
    simp only [List.mem_append] at h
    rcases h with h | h
    · obtain ⟨x', e', hx, _⟩ := h2 h
      rw [hr] at hx; cases hx
    · exact g2 h

/-- a query other than `.optStrict` -/
theorem ask (q : Query) (hq : q ≠ .optStrict) : SS (M.ask q) := by
  intro l e hl _
  refine ⟨?_, ?_⟩
  · intro a l' e' h
    have : (M.ask q).run l e = (.ok ((e.answer q).1, l), (e.answer q).2) := rfl
    rw [this] at h; cases h; exact hl
  · intro h
    have : M.asked (M.ask q) l e = [q] := rfl
    rw [this] at h
    simp at h
    exact absurd h.symm hq

/-- a state update that leaves `opts` alone -/
theorem modify (f : Local → Local) (hf : ∀ l, (f l).opts = l.opts) : SS (modify f : M Unit) := by
  intro l e hl _
  refine ⟨?_, fun h => by cases h⟩
  intro a l' e' h
  have : (_root_.modify f : M Unit).run l e = (.ok ((), f l), e) := rfl
  rw [this] at h; cases h; rw [hf]; exact hl

theorem set (l1 : Local) (h1 : l1.opts = none) : SS (MonadStateOf.set l1 : M Unit) := by
  intro l e _ _
  refine ⟨?_, fun h => by cases h⟩
  intro a l' e' h
  have : (MonadStateOf.set l1 : M Unit).run l e = (.ok ((), l1), e) := rfl
  rw [this] at h; cases h; exact h1

theorem foreign (a b : String) : SS (M.foreign a b : M α) := raise _

/-- `get`, remembering that the state read has `opts = none` -/
theorem get_bind {f : Local → M β} (h : ∀ l, l.opts = none → SS (f l)) :
    SS ((MonadState.get : M Local) >>= f) := by
  intro l e hl he
  have : ((MonadState.get : M Local) >>= f) = fun l => f l l := rfl
  have h1 : ((MonadState.get : M Local) >>= f).run l e = (f l).run l e := rfl
  have h2 : M.asked ((MonadState.get : M Local) >>= f) l e = M.asked (f l) l e := rfl
  rw [h1, h2]
  exact h l hl l e hl he

theorem opts_of_stable {l0 l1 : Local} (h : l1.stable = l0.stable) : l1.opts = l0.opts := by
  simp only [Local.stable, Prod.mk.injEq] at h
  exact h.2.1

/-- `SS` is closed under everything the parser's code is built from but the query of the option
    (it holds of every raise, so for every list of raise sites); what is known of the state read is
    that it is a top-level one -/
theorem closed (site : Exn → Bool) :
    Closed site (fun {α} (m : M α) => SS m) (fun {α} l0 (m : M α) => l0.opts = none → SS m) where
  pure a := SS.pure a
  bind hm hf := SS.bind hm hf
  get_bind h := SS.get_bind h
  forget h _ := h
  raise _ := SS.raise _
  ask {q} h := SS.ask q (by rintro rfl; cases h)
  modify hf := SS.modify _ (fun l => opts_of_stable (hf l))
  set_bind h hk h0 := SS.bind (SS.set _ ((opts_of_stable h).trans h0)) (fun _ => hk)
  bindA hm hk h0 := SS.bind (hm h0) hk
  ask_bind {_ _ q _} h hk h0 := SS.bind (SS.ask q (by rintro rfl; cases h)) (fun a => hk a h0)

theorem get : SS (MonadState.get : M Local) := (closed walkSite).get

theorem loop {σ : Type} {site : String} {body : σ → M (σ ⊕ α)} (h : ∀ s, SS (body s)) :
    ∀ fuel s, SS (M.loop site body fuel s) :=
  (closed walkSite).loop (raise _) h

end SS

/-! ### the functions that write the tape, the recorded positions and the delimiter stack

Each write leaves `opts` alone. -/

theorem ssTape : TapeAtoms (fun {α} (m : M α) => SS m) :=
  .of_writes (SS.closed tokSite) (SS.foreign _ _) (fun _ h => SS.set _ h) (fun _ h => SS.set _ h)

theorem ssPos : PosAtoms (fun {α} (m : M α) => SS m) :=
  .of_writes (SS.closed tokSite) (SS.foreign _ _) (SS.foreign _ _)
    (fun _ => SS.modify _ fun _ => rfl) (fun _ h => SS.set _ h)

theorem ssDelim : DelimAtoms (fun {α} (m : M α) => SS m) :=
  .of_writes (SS.closed tokSite) (SS.foreign _ _) (fun _ => SS.modify _ fun _ => rfl)
    (fun _ h => SS.set _ h)

theorem ss_bumpIdx : SS bumpIdx := ssTape.bumpIdx

theorem ss_optProceed : SS optProceed := by
  unfold optProceed
  refine SS.get_bind fun l _ => ?_
  split
  · exact SS.ask _ nofun
  · exact SS.pure _

/-- what the walk of the scanners asks: every raise site is allowed -/
theorem ssScan : ScanWorld (fun {α} (m : M α) => SS m) := 
  ⟨ssTape, ssDelim, wk_currentDelimiter (SS.closed tokSite), .of_foreign SS.foreign⟩

/-! ### readers and tokenizer functions that never consult `strictmode`: the generic walk -/

theorem ss_tapeLine : SS tapeLine := wk_tapeLine (SS.closed tokSite)
theorem ss_tapeAdded : SS tapeAdded := wk_tapeAdded (SS.closed tokSite)
theorem ss_shellmeta (c : Char) : SS (shellmeta c) := wk_shellmeta (SS.closed tokSite).builds c
theorem ss_shellexp (c : Char) : SS (shellexp c) := wk_shellexp (SS.closed tokSite).builds c
theorem ss_shellbreak (c : Char) : SS (shellbreak c) := wk_shellbreak (SS.closed tokSite).builds c
theorem ss_peekc (rqn : Bool) : SS (peekc rqn) := wk_peekc (SS.closed _).builds ssTape rqn
theorem ss_matchedPairError {α : Type} (c : Char) : SS (matchedPairError c : M α) :=
  wk_matchedPairError (SS.closed _).builds c
theorem ss_currentDelimiter : SS currentDelimiter := wk_currentDelimiter (SS.closed tokSite)
theorem ss_depthFuel : SS depthFuel := SS.pure _
theorem ss_discardUntil (c : Char) : SS (discardUntil c) := wk_discardUntil (SS.closed _).builds ssTape c
theorem ss_finishWord (st : RWState) : SS (finishWord st) :=
  wk_finishWord (SS.closed _) ssPos st
    (wk_fwWord (SS.closed _) (SS.foreign _ _) (wk_isAssignment (SS.closed _).builds (SS.foreign _ _)) st)
theorem ss_readtokenMeta (c : Char) : SS (readtokenMeta c) := ssScan.readtokenMeta (SS.closed _) c
theorem ss_readline (b : Bool) : SS (readline b) := wk_readline (SS.closed _).builds ssTape b
theorem ss_mpInit (P : MPParams) : SS (mpInit P) := ssScan.mpInit (SS.closed _).builds P
theorem ss_mpPost {pmp : MPParams → M Str} {pcs : CSParams → M Str}
    (h1 : ∀ P, SS (pmp P)) (h2 : ∀ P, SS (pcs P)) (P : MPParams) (b : Bool) (st : MPState) (c : Char) :
    SS (mpPost pmp pcs P b st c) :=
  wk_mpPost (SS.closed _).builds ssDelim
    (wk_handledollarword (SS.closed _).builds (SS.foreign _ _) (SS.foreign _ _) h1 h2) h1 P b st c

/-- **the reduction**: `StrictSite` follows from `SS` of one top-level parser run.
    (`SS` is compositional; the walk through tokenizer, engine and actions that proves
    `SS (parserRun maxDepth)` is what remains.) -/
theorem strictSite_of_ss (h : SS (parserRun maxDepth)) : StrictSite := by
  intro s o t ho hasked
  obtain ⟨_, h2⟩ := h { limit := o.limit } (runParserEnv s o t) rfl ho
  obtain ⟨x, e', hx, hx'⟩ := h2 hasked
  exact ⟨x, e'.touched, by rw [runParser_eq, hx]; rfl, hx'⟩

/-- the C17 theorem with the compositional hypothesis -/
theorem C17_strict_only_heredoc_eof_of_ss (hss : SS (parserRun maxDepth)) (s : Str) (o : Opts)
    (ho : o.strict = true) (h : ∀ x, (parse s o).1 = .exn x → ¬ HdEof x) :
    parse s { o with strict := false } = parse s o :=
  C17_strict_only_heredoc_eof_conditional (strictSite_of_ss hss) s o ho h

end C17
end Bashlex

#print axioms Bashlex.M.asked_bind
#print axioms Bashlex.C17.SS.bind
#print axioms Bashlex.C17.SS.loop
#print axioms Bashlex.C17.strictSite_of_ss
