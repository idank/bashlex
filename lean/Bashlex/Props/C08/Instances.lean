/-
  C08, instances: the rejection theorems of `Reject.lean` are about an arbitrary token
  source (`Stream`) and error function (`ErrRaises`).  Here:
  * bashlex's error function `p_error` always raises a ParsingError (`real_errRaises`);
  * a concrete list-driven token source (`listNext`: pops terminal numbers from a list kept in
    the parser object) satisfies `Stream` -- the theorems are not vacuous -- and with it the
    engine with the REAL semantic actions and error function rejects every token list
    `NEWLINE^n x …` (`x` a control operator, closer, …) and `NEWLINE^n r x …` (`r` a redirection
    operator, `x` not a word) with a ParsingError (`listHooks_rejects_leading`,
    `listHooks_rejects_redir`), for all `n` and all continuations.
-/
import Bashlex.Props.C08.Reject
import Bashlex.Props.C08.Consumed
import Bashlex.Proofs.PError

namespace Bashlex.C08
open Bashlex Bashlex.M Bashlex.LR

/-- a ParsingError object (or the assertion of its constructor) -/
def IsPError (x : Exn) : Prop := ∃ msg src p, x = mkParsingError msg src p

/-- bashlex's error function always raises -/
theorem real_errRaises (np : NestedParse) :
    ErrRaises (lrHooks np) (fun x => IsPError x ∨ x = .foreign "AssertionError" "p_error") :=
  fun la => SatS.to_sat (satS_onError (fun m s p => Or.inl ⟨m, s, p, rfl⟩) (Or.inr rfl) la)

/-! ### a list-driven token source -/

/-- pops the next terminal number from `positions` (a list of naturals in the parser object that
    the engine and the error function do not touch); `$end` when exhausted -/
def listNext : M (Nat × SVal) := do
  let l ← get
  match l.positions with
  | [] => pure (0, .tok {})
  | t :: ts =>
    set { l with positions := ts }
    pure (t, .tok { value := .str ['?'] })

def listHooks (np : NestedParse) : Hooks SVal := { (lrHooks np) with next := listNext }

theorem listHooks_stream (np : NestedParse) :
    Stream (listHooks np) (fun ts l _ => l.positions = ts) := by
  refine ⟨fun t ts l e hp => ?_⟩
  have : M.run listNext l e =
      (.ok ((t, .tok { value := .str ['?'] }), { l with positions := ts }), e) := by
    unfold listNext
    rw [M.run_bind, M.run_get]
    simp only [hp]
    rfl
  have hn : (listHooks np).next = listNext := rfl
  rw [hn, this]
  exact ⟨rfl, rfl⟩

theorem listHooks_errRaises (np : NestedParse) :
    ErrRaises (listHooks np) (fun x => IsPError x ∨ x = .foreign "AssertionError" "p_error") :=
  real_errRaises np

/-- what `SatS … (fun _ _ _ => False) E` says of one run: it raises, and `E` holds -/
theorem raises_of_satS {α : Type} {m : M α} {P : Local → Env → Prop} {E : Exn → Prop}
    (h : SatS m P (fun _ _ _ => False) E) {l : Local} {e : Env} (hp : P l e) :
    ∃ x e', M.run m l e = (.error x, e') ∧ E x := by
  have := h l e hp
  rcases hr : M.run m l e with ⟨r, e'⟩
  rw [hr] at this
  cases r with
  | ok v => exact this.elim
  | error x => exact ⟨x, e', rfl, this⟩

/-- **every token list `NEWLINE^n x …`, `x ∈ leadingRejected`, is rejected with a ParsingError**
    by the engine with the real tables, semantic actions and error function (the token carries a
    value, so `p_error` builds "unexpected token …") -/
theorem listHooks_rejects_leading (np : NestedParse) (n : Nat) {x : Nat} (hx : x ∈ leadingRejected)
    (rest : List Nat) (l : Local) (e : Env)
    (hl : l.positions = List.replicate n realTables.nlTok ++ x :: rest) :
    ∃ y e', M.run (LR.run realTables (listHooks np) (n + 1)) l e = (.error y, e') ∧
      (IsPError y ∨ y = .foreign "AssertionError" "p_error") :=
  raises_of_satS (run_rejects_leading (listHooks_stream np) (listHooks_errRaises np) n hx rest 0) hl

/-- **every token list `NEWLINE^n r x …` with `r` a redirection operator and `x` not a word
    (NUMBER / DASH after `<&`, `>&`) is rejected with a ParsingError** -/
theorem listHooks_rejects_redir (np : NestedParse) (n : Nat) {r x : Nat} (hr : r ∈ redirTerms)
    (hx : x ∈ redirBad r) (rest : List Nat) (l : Local) (e : Env)
    (hl : l.positions = List.replicate n realTables.nlTok ++ r :: x :: rest) :
    ∃ y e', M.run (LR.run realTables (listHooks np) (n + 2)) l e = (.error y, e') ∧
      (IsPError y ∨ y = .foreign "AssertionError" "p_error") := by
  have hp : pairRejected r (redirBad r) = true := by
    have := redir_pairs
    rw [List.all_eq_true] at this
    exact this r hr
  have hs : ∃ t, realTables.action 0 r = some (.shift t) := by
    have := redir_shift0
    rw [List.all_eq_true] at this
    have h := this r hr
    cases ha : realTables.action 0 r with
    | none => rw [ha] at h; cases h
    | some a =>
      cases a with
      | shift t => exact ⟨t, rfl⟩
      | reduce p => rw [ha] at h; cases h
      | accept => rw [ha] at h; cases h
  obtain ⟨t, ht⟩ := hs
  exact raises_of_satS (run_rejects_first_pair (listHooks_stream np) (listHooks_errRaises np) n hp hx
    ht rest 0) hl

end Bashlex.C08
