/-
  C08, parts 2/3 linked at text level: what the rejection of a leading operator needs of the real
  tokenizer at the top level (`_readtoken` up to `readtokenMeta`; `getc_live`, `ungetc_top`: the
  look-ahead `_getc` / `_ungetc` over an arbitrary continuation; `_createtoken`), and
  `readtokenMeta ')'`.
  The theorems are in `LeadOp.lean` (`leading_op`, `C08_leading_rparen`, `C08_leading_bar`) and
  `LeadSemi.lean`.
-/
import Bashlex.Props.C08.Text
import Bashlex.Props.C08.Reject
import Bashlex.Props.C01.Basic
import Bashlex.Props.C10

namespace Bashlex.C08
open Bashlex Bashlex.M Bashlex.C10
set_option linter.unusedSimpArgs false

/-- `m` returns normally from `l`, `e`, with `Q` -/
def Returns {α : Type} (m : M α) (l : Local) (e : Env) (Q : α → Local → Env → Prop) : Prop :=
  ∃ a l' e', M.run m l e = (.ok (a, l'), e') ∧ Q a l' e'

theorem Returns.bindOk {α β : Type} {m : M α} {f : α → M β} {l l' : Local} {e e' : Env} {a : α}
    {Q : β → Local → Env → Prop} (h : M.run m l e = (.ok (a, l'), e'))
    (hr : Returns (f a) l' e' Q) : Returns (m >>= f) l e Q := by
  obtain ⟨b, l2, e2, h2, hq⟩ := hr
  exact ⟨b, l2, e2, by rw [C08.bindOk h]; exact h2, hq⟩

theorem Returns.bind {α β : Type} {m : M α} {f : α → M β} {l : Local} {e : Env}
    {Q : β → Local → Env → Prop}
    (h : Returns m l e (fun a l' e' => Returns (f a) l' e' Q)) : Returns (m >>= f) l e Q := by
  obtain ⟨a, l1, e1, h1, hr⟩ := h
  exact Returns.bindOk h1 hr

theorem Returns.pure {α : Type} {a : α} {l : Local} {e : Env} {Q : α → Local → Env → Prop}
    (h : Q a l e) : Returns (Pure.pure a : M α) l e Q :=
  ⟨a, l, e, M.run_pure a l e, h⟩

theorem putL_top {l : Local} (h : l.tape = none) (t : Tape) : putL l t = l := by
  unfold putL; rw [h]
theorem putE_top {l : Local} (h : l.tape = none) (e : Env) (t : Tape) :
    putE l e t = { e with tape := t } := by
  unfold putE; rw [h]

theorem Returns.imp {α : Type} {m : M α} {l : Local} {e : Env} {Q R : α → Local → Env → Prop}
    (h : Returns m l e Q) (hi : ∀ a l' e', Q a l' e' → R a l' e') : Returns m l e R := by
  obtain ⟨a, l', e', h1, hq⟩ := h
  exact ⟨a, l', e', h1, hi a l' e' hq⟩

/-- the tokenizer reads at the top level, behind the first character of a line of at least two
    characters that does not end in a backslash: what `_getc` needs there, and keeps -/
structure Live (l : Local) (e : Env) : Prop where
  tape : l.tape = none
  eol : l.eolLookahead = none
  idx : 1 ≤ e.tape.idx
  le : e.tape.idx ≤ e.tape.line.length
  two : 2 ≤ e.tape.line.length
  nbs : NoFinalBackslash e.tape.line

/-- `_getc` from a live state: it returns, only the cursor moves, forward and past position 1 -/
theorem getc_live {l : Local} {e : Env} (h : Live l e) :
    Returns (getc true) l e (fun _ l' e' => l' = l ∧ Live l e' ∧ e'.tape.line = e.tape.line ∧
      e'.tape.added = e.tape.added ∧ 2 ≤ e'.tape.idx) := by
  have hspec := tape_getc_spec (e.tape.line.length + 1) e.tape h.le (by omega)
  have hsome := getcS_isSome (e.tape.line.drop e.tape.idx) (h.nbs.drop _)
  cases hg : getcS (e.tape.line.drop e.tape.idx) with
  | none => rw [hg] at hsome; cases hsome
  | some v =>
    obtain ⟨p, rest⟩ := v
    rw [hg] at hspec
    obtain ⟨pre, hpre, _, hpnone⟩ := getcS_suffix _ hg
    have hlen : rest.length ≤ e.tape.line.length - e.tape.idx := by
      have := congrArg List.length hpre
      simp only [List.length_drop, List.length_append] at this
      omega
    have h2 : 2 ≤ (seek e.tape rest).idx := by
      simp only [seek_idx, posOf]
      cases p with
      | none => rw [hpnone rfl]; have := h.two; simp; omega
      | some ch =>
        have hl := getcS_length_lt hg
        have := h.idx
        rw [List.length_drop] at hl
        omega
    refine ⟨p, l, { e with tape := seek e.tape rest }, ?_, rfl,
      ⟨h.tape, h.eol, by show 1 ≤ (seek e.tape rest).idx; omega, ?_, h.two, h.nbs⟩, rfl, rfl, h2⟩
    · rw [run_getc _ l e h.eol, tapeOf_top h.tape e, hspec]
      simp only [putL_top h.tape, putE_top h.tape]
    · show (seek e.tape rest).idx ≤ e.tape.line.length
      simp only [seek_idx, posOf]; omega

/-- `_ungetc` at the top level behind position 1: it returns; the parser object changes at most in
    `_eol_ungetc_lookahead`, the tape only in its cursor, which stays ≥ 1 -/
theorem ungetc_top {l : Local} {e : Env} (ht : l.tape = none) (h2 : 2 ≤ e.tape.idx)
    (p : Option Char) :
    Returns (ungetc p) l e (fun _ l' e' => (l' = l ∨ l' = { l with eolLookahead := p }) ∧
      e'.tape.line = e.tape.line ∧ e'.tape.added = e.tape.added ∧ 1 ≤ e'.tape.idx) := by
  rcases ungetc_cases e.tape with hu | hu
  · refine ⟨(), l, { e with tape := { e.tape with idx := e.tape.idx - 1 } }, ?_, Or.inl rfl, rfl,
      rfl, by show 1 ≤ e.tape.idx - 1; omega⟩
    rw [run_ungetc, tapeOf_top ht e, hu]
    simp only [putL_top ht, putE_top ht]
  · refine ⟨(), { l with eolLookahead := p }, e, ?_, Or.inr rfl, rfl, rfl, by omega⟩
    rw [run_ungetc, tapeOf_top ht e, hu]

/-- look-ahead and push-back -/
theorem peek_unget_top (l : Local) (e : Env) (ht : l.tape = none) (heol : l.eolLookahead = none)
    (h1 : 1 ≤ e.tape.idx) (hlt : e.tape.idx < e.tape.line.length)
    (hbs : NoFinalBackslash e.tape.line) :
    ∃ p e1 l' e', M.run (getc true) l e = (.ok (p, l), e1) ∧
      M.run (ungetc p) l e1 = (.ok ((), l'), e') ∧
      (l' = l ∨ l' = { l with eolLookahead := p }) ∧
      e'.tape.line = e.tape.line ∧ e'.tape.added = e.tape.added ∧ 1 ≤ e'.tape.idx := by
  obtain ⟨p, _, e1, hget, rfl, _, g1, g2, g3⟩ :=
    getc_live ⟨ht, heol, h1, Nat.le_of_lt hlt, by omega, hbs⟩
  obtain ⟨_, l', e', hun, u1, u2, u3, u4⟩ := ungetc_top (e := e1) ht g3 p
  exact ⟨p, e1, l', e', hget, hun, u1, by rw [u2, g1], by rw [u3, g2], u4⟩

/-! ### `readtokenMeta ')'` -/

theorem readtokenMeta_rparen : readtokenMeta ')' = (do
    modify fun l => { l with ps := { l.ps with assignok := false } }
    let peek ← getc true
    ungetc peek
    let l ← get
    if l.lastReadToken.value == .str ['('] && l.tokenBeforeThat.is .WORD then
      modify fun l => { l with ps := { l.ps with allowopnbrc := true } }
    let l ← get
    if l.ps.casepat then
      set { l with ps := { l.ps with casepat := false } }
    else if l.ps.subshell then
      set { l with ps := { l.ps with subshell := false } }
    return some (← tokentypeOfChar ')')) := by
  unfold readtokenMeta
  simp

/-- the state in which `_readtoken` has read the leading `)` of the input `s` -/
structure RPSt (s : Str) (l : Local) (e : Env) : Prop where
  tape : l.tape = none
  pos : l.positions = [0]
  lrt : l.lastReadToken = .null
  casepat : l.ps.casepat = false
  subshell : l.ps.subshell = false
  regexp : l.ps.regexp = false
  dblparen : l.ps.dblparen = false
  idx : 1 ≤ e.tape.idx
  src : e.tape.source = s

theorem readtokenMeta_rparen_returns {s : Str} {l : Local} {e : Env} (h : RPSt s l e)
    (heol : l.eolLookahead = none) (hlt : e.tape.idx < e.tape.line.length)
    (hbs : NoFinalBackslash e.tape.line) :
    Returns (readtokenMeta ')') l e (fun r l' e' => r = some .RIGHT_PAREN ∧ RPSt s l' e') := by
  obtain ⟨p, e1, l', e', hget, hunget, hl', hline, hadded, hidx⟩ :=
    peek_unget_top { l with ps := { l.ps with assignok := false } } e h.tape heol h.idx hlt hbs
  have hsrc : e'.tape.source = s := by
    rw [← h.src]; unfold Tape.source; rw [hline, hadded]
  have hfields : l'.tape = none ∧ l'.positions = [0] ∧ l'.lastReadToken = .null ∧
      l'.tokenBeforeThat = l.tokenBeforeThat ∧
      l'.ps = { l.ps with assignok := false } := by
    rcases hl' with rfl | rfl
    · exact ⟨h.tape, h.pos, h.lrt, rfl, rfl⟩
    · exact ⟨h.tape, h.pos, h.lrt, rfl, rfl⟩
  obtain ⟨f1, f2, f3, f4, f5⟩ := hfields
  have hv : (l'.lastReadToken.value == TVal.str ['(']) = false := by rw [f3]; rfl
  have hcp : l'.ps.casepat = false := by rw [f5]; exact h.casepat
  have hss : l'.ps.subshell = false := by rw [f5]; exact h.subshell
  have htt : tokentypeOfChar ')' = pure TokType.RIGHT_PAREN := rfl
  have hre : l'.ps.regexp = false := by rw [f5]; exact h.regexp
  have hdp : l'.ps.dblparen = false := by rw [f5]; exact h.dblparen
  have hfin : RPSt s l' e' := ⟨f1, f2, f3, hcp, hss, hre, hdp, hidx, hsrc⟩
  refine ⟨some .RIGHT_PAREN, l', e', ?_, rfl, hfin⟩
  rw [readtokenMeta_rparen]
  simp only [M.run_bind, C10.run_modify, hget, hunget, C10.run_get, hv, hcp, hss, Bool.false_and,
    Bool.false_eq_true, if_false, M.run_pure, htt]

/-! ### `_readtoken`, `token()` -/

theorem createtoken_run (ty : TokType) (v : TVal) (l : Local) (e : Env) {a b : Nat}
    (hp : l.positions = [a, b]) (hab : a < b) :
    M.run (createtoken ty v) l e =
      (.ok ({ ttype := some ty, value := v, pos := some (a, b), flags := [] },
        { l with positions := [] }), e) := by
  unfold createtoken
  simp [M.run_bind, C10.run_get, C10.run_set, M.run_pure, hp, hab, Nat.not_le.mpr hab]
  rw [map_eq_pure_bind, M.run_bind, C10.run_set]
  rfl

/-! ### the engine and `p_error` -/

theorem run_tapeSource_top {l : Local} (h : l.tape = none) (e : Env) :
    M.run tapeSource l e = (.ok (e.tape.source, l), e) := by
  unfold tapeSource
  rw [bindOk (C10.run_get l e)]
  simp only [h]
  rfl

/-- the message of `p_error` for the token `)` -/
def rparenMsg : String := "unexpected token " ++ pyReprStr [')']

end Bashlex.C08
