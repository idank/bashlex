/-
  C08 text level, the FULL consumed-indexed pass: the C05 pass with conservation of
  here-document bodies (`leaves_hooksIT`, `run_sound_ordC`, the loop of `parse`) over `HooksOrdC`,
  with the link `consumed = (lead ++ tss.flatten).map symOfTok`; `RunOKIS` = `RunOKI` (of
  `Props/C05/FRun.lean`) ∧ "the log, as terminals, is NEWLINEs then a sentence"
  (`C08.engine_good` conjoined on the same run).  The run theorem (`level_leavesIT`) is for any
  nested parser that keeps its contract: the checked and the plain parser are its instances; the
  loop of `parse` is `parseG_chain` (`Proofs/ParseG.lean`).
  Last, `RunTextK` is `RunOK` with: the token log of the run -- the SAME log the
  tokenizer invariant `TL` speaks about and that covers the leaves of the returned tree -- is, as
  a sequence of terminals, what the engine consumed, which is NEWLINEs followed by a sentence of
  the grammar.  The run theorem and the loop of `parse` are those above (`RunOKIS`), with
  the conservation of here-document bodies forgotten.
-/
import Bashlex.Props.C05Total
import Bashlex.Props.C03.RootEnds
import Bashlex.Props.C08.Accept
import Bashlex.Props.C05.FHooks
import Bashlex.Proofs.ParseG

namespace Bashlex.C05
open Bashlex Bashlex.Spec Bashlex.Node Bashlex.M Bashlex.LR Bashlex.C12 Bashlex.C03
  Bashlex.C05.TG
set_option linter.unusedSimpArgs false
-- the triples are used through their rules only; left reducible, every application of a lemma
-- about a concrete program is unfolded into that program when its type is normalised
attribute [local irreducible] M.SatS M.Sat

def SILIC (TL : List Token → Nat → Nat → Local → Env → Prop) (len : Nat) (cs : List Nat)
    (vs : List (Nat × SVal)) (la : Option (Nat × SVal)) (l : Local) (e : Env) : Prop :=
  SILC TL len cs vs la l e ∧ IdI vs l ∧ IuAlone vs

def FinLIC (TL : List Token → Nat → Nat → Local → Env → Prop) (len : Nat) (cs : List Nat) (v : SVal)
    (l : Local) (e : Env) : Prop :=
  C03.Fin len v l e ∧ (∀ n, v = .node n → ∃ ts la F l' e', TL (ts ++ la) len F l' e' ∧
    la.length ≤ 1 ∧ NoEOF ts ∧ Covers ts (aleaves n) ∧
    (∀ p, InBody l'.store p → InBody l.store p) ∧
    (∀ id, id < l.store.length → id ∈ pends (aleaves n)) ∧ ts.map symOfTok = cs) ∧
  ((∀ n, v ≠ .node n) → NoneL TL len l e)

section
variable {TL : List Token → Nat → Nat → Local → Env → Prop} {len : Nat}

theorem leaves_hooksIT (hL : TokLogC TL) {np : NestedParse} (hnp : NPOK np)
    (hW : ∀ tr F st, C03.WordSat (StP (TL tr) len F st) np len) :
    HooksOrdC realTables (lrHooks np) (SILIC TL len) (FinLIC TL len) (fun _ => NoneL TL len)
      (fun _ => True) (fun s => s = iuSym) := by
  have hH0 := leaves_hooksT (len := len) hL hnp hW
  have hC := hooks_ok sat_nextToken hnp
  refine ⟨?_, ?_, ?_, ?_, ?_, fun la => Sat.trivial _, ?_⟩
  · -- next: `token()` keeps the length of the store
    intro cs vs
    refine SatS.intro_state ?_
    rintro l0 e0 ⟨hsil, hid, hiu⟩
    have h2 : SatS (lrHooks np).next (fun l e => l = l0 ∧ e = e0)
        (fun _ l e => l.store.length = l0.store.length) := by
      obtain ⟨lead, tss, hcs, hlead, hacc, ⟨g, F, hseg, hlain, hti, hent⟩, hvi, _⟩ := hsil
      show SatS (nextToken >>= fun t => pure (symOfTok t, SVal.tok t)) _ _
      refine SatS.bind (SatS.pre (hL.next (lead ++ tss.flatten ++ laToks none) len F l0.store) ?_) ?_
      · rintro l1 e1 ⟨rfl, rfl⟩; exact ⟨hti, rfl⟩
      · intro t
        refine SatS.pure ?_
        rintro l' e' ⟨a, b, _, _, _, hstep⟩
        exact hstep.1
    refine SatS.post (SatS.and (SatS.pre (hH0.next cs vs) (by rintro l e ⟨rfl, rfl⟩; exact hsil)) h2) ?_
    rintro la l e ⟨h, hlen⟩
    exact ⟨h, fun id hlt => hid id (by rw [← hlen]; exact hlt), hiu⟩
  · -- shift
    rintro cs vs la l e ⟨h, hid, hiu⟩
    refine ⟨hH0.shift cs vs la l e h, fun id hlt => ?_, ?_⟩
    · obtain ⟨x, hx, hxi⟩ := hid id hlt
      exact ⟨x, List.mem_append_left _ hx, hxi⟩
    · intro vs' x hvs hx
      obtain ⟨h1, h2⟩ := List.append_inj' hvs rfl
      simp only [List.cons.injEq, and_true] at h2
      subst h2
      obtain ⟨lead, tss, _, _, _, ⟨g, F, _, hlain, _, _⟩, _⟩ := h
      obtain ⟨t, a, b, rfl, _⟩ := hlain
      have := symOfTok_le t
      simp only [iuSym_eq] at hx
      omega
  · -- a NEWLINE shifted in state 0 is dropped
    rintro cs la l e hnl ⟨h, hid, hiu⟩
    exact ⟨hH0.shiftNl cs la l e hnl h, hid, hiu⟩
  · -- the semantic actions
    intro cs p lhs rhs rest args la hprod hargs hrest hla
    rw [lrHooks_act]
    refine SatS.intro_state ?_
    rintro l0 e0 ⟨⟨lead, tss, hcs, hlead, hacc, hs0, hvi, hvila⟩, hid0, hiu0⟩
    obtain ⟨tssR, tssA, rfl, haccR, haccA⟩ := forall2_append_left hacc
    have hti0 : ∃ F, TL (lead ++ (tssR ++ tssA).flatten ++ laToks la) len F l0 e0 := by
      obtain ⟨g, F, _, _, hti, _⟩ := hs0
      exact ⟨F, hti⟩
    have hvargs : ∀ x ∈ args, VI x.1 x.2 := fun x hx => hvi x (List.mem_append_right _ hx)
    have hvrest : ∀ x ∈ rest, VI x.1 x.2 := fun x hx => hvi x (List.mem_append_left _ hx)
    have hF2 : Forall2 VI rhs (args.map (·.2)) := by rw [← hargs]; exact forall2_vi args hvargs
    have hCact := hC.act p lhs rhs _ hprod hF2
    rcases sort_ok hprod with he | hab
    · rw [he]
      exact SatS.weaken (SatS.of_sat action_unknown _) (fun _ _ _ => trivial)
        (fun _ _ _ h => h.elim) (fun _ h => h)
    · have hspan := satS_action_of_core
        (act_spans (TI := TL (lead ++ (tssR ++ tssA).flatten ++ laToks la)) (len := len)
          (hL.act _) (hW _) hprod hargs hrest hla hab (forall2_hasSort_of_vi hF2))
      have hstore := satS_action_of_core
        (act_store (TI := TL (lead ++ (tssR ++ tssA).flatten ++ laToks la)) (len := len)
          (hL.act _) (hW _) hprod hargs hrest hla hab (forall2_hasSort_of_vi hF2) l0.store)
      have hleaf : Sat (action np (fn p) (args.map (·.2))) (PostL lhs tssA) :=
        sat_action_of_core (act_leaves hprod hargs hab (forall2_hasSort_of_vi hF2) haccA)
      have hids : Sat (action np (fn p) (args.map (·.2))) (PostI (args.map (·.2))) :=
        sat_action_of_core (act_ids hprod hargs hab (forall2_hasSort_of_vi hF2) haccA)
      have hacc' := sat_action_accepts (np := np) (fname := fn p) (args := args.map (·.2))
      have hnd := accept_node (np := np) (fname := fn p) (args := args.map (·.2))
      have hbig := SatS.and_sat (SatS.and_sat (SatS.and_sat (SatS.and_sat (SatS.and_sat hspan
        (hCact.weaken (fun _ h => h.1) (fun _ _ => trivial))) hleaf) hacc') hids) hnd
      have hbig' := SatS.and
        (SatS.pre hbig (P' := fun l e => l = l0 ∧ e = e0) (by rintro l e ⟨rfl, rfl⟩; exact hs0))
        (SatS.pre hstore (P' := fun l e => l = l0 ∧ e = e0)
          (by rintro l e ⟨rfl, rfl⟩; exact ⟨hs0, rfl⟩))
      refine SatS.post hbig' ?_
      rintro r l e ⟨⟨⟨⟨⟨⟨hpost, hvr⟩, hpl⟩, hfa⟩, hpi⟩, hnode⟩, hsr⟩
      -- conservation: every cell of the new store is among the leaves of `rest` or of `r`
      have hcons : ∀ id, id < l.store.length →
          (∃ x ∈ rest, id ∈ pends (valLeaves x.2)) ∨ id ∈ pends (valLeaves r.1) := by
        intro id hlt
        have hold : id < l0.store.length →
            (∃ x ∈ rest, id ∈ pends (valLeaves x.2)) ∨ id ∈ pends (valLeaves r.1) := by
          intro h0
          obtain ⟨x, hx, hxi⟩ := hid0 id h0
          rcases List.mem_append.mp hx with hx | hx
          · exact Or.inl ⟨x, hx, hxi⟩
          · exact Or.inr (hpi id (mem_pends_flatMap hx hxi))
        rcases hsr.1 with h1 | ⟨h1, h2⟩
        · exact hold (by rw [← h1]; exact hlt)
        · by_cases h0 : id < l0.store.length
          · exact hold h0
          · have : id = l0.store.length := by omega
            rw [this]
            exact Or.inr h2
      unfold PostS at hpost
      by_cases hacc1 : r.2 = true
      · simp only [hacc1, if_true] at hpost ⊢
        refine ⟨hpost, ?_, fun hne => absurd (hnode hacc1).choose_spec (hne _)⟩
        intro n hn
        have hrest0 := rest_nil_of_accept hprod hrest (hfa hacc1)
        subst hrest0
        have htR : tssR = [] := by cases haccR; rfl
        subst htR
        obtain ⟨F, hti⟩ := hti0
        refine ⟨lead ++ tssA.flatten, laToks la, F, l0, e0, by simpa using hti, laToks_le la, ?_, ?_,
          hsr.2, ?_, (by rw [hcs]; simp)⟩
        · intro t ht
          rcases List.mem_append.mp ht with ht | ht
          · exact hlead.2 t ht
          · exact hpl.2.2 t ht
        · have := Covers.append hlead.1 (hpl.1 n hn)
          simpa using this
        · intro id hlt
          rcases hcons id hlt with ⟨x, hx, _⟩ | h
          · cases hx
          · rw [hn] at h; exact h
      · simp only [hacc1, if_false] at hpost ⊢
        have hfalse : r.2 = false := by simpa using hacc1
        refine ⟨⟨lead, tssR ++ [tssA.flatten], (by rw [hcs]; simp), hlead, forall2_snoc haccR (hpl.2.1 hfalse),
          ⟨?_, ?_, hvila⟩⟩, ?_, ?_⟩
        · have he : (tssR ++ [tssA.flatten]).flatten = (tssR ++ tssA).flatten := by simp
          rw [he]
          exact hpost
        · intro x hx
          rcases List.mem_append.mp hx with hx | hx
          · exact hvrest x hx
          · simp only [List.mem_singleton] at hx; subst hx; exact hvr
        · intro id hlt
          rcases hcons id hlt with ⟨x, hx, hxi⟩ | h
          · exact ⟨x, List.mem_append_left _ hx, hxi⟩
          · exact ⟨(lhs, r.1), List.mem_append_right _ (by simp), h⟩
        · intro vs' x hvs hx
          obtain ⟨h1, h2⟩ := List.append_inj' hvs rfl
          simp only [List.cons.injEq, and_true] at h2
          subst h2
          subst h1
          rcases hrest with h | ⟨s', t, hs', hg⟩
          · exact h
          · have hx' : lhs = iuSym := hx
            rw [hx'] at hg
            exact absurd (goto_iu hg) hs'
  · -- the `accept` entry: the top of the stack is an `inputunit` entry, which holds `None`
    rintro cs vs x la l e hx ⟨s', hs'⟩ ⟨⟨lead, tss, hcs, hlead, hacc, hsi⟩, hid, hiu⟩
    have hla0 : la.1 = 0 := accept_end hs'
    have hvs : vs = [] := hiu vs x rfl hx
    subst hvs
    obtain ⟨tssR, tssA, rfl, haccR, haccA⟩ := forall2_append_left hacc
    obtain ⟨ts, rfl, hax⟩ := forall2_1 haccA
    have htR : tssR = [] := by cases haccR; rfl
    subst htR
    have hnone : x.2 = .none := acc_none_of_iu hax hx
    refine ⟨?_, ?_, fun _ => ?_⟩
    · intro n hn; rw [hnone] at hn; cases hn
    · intro n hn; rw [hnone] at hn; cases hn
    · obtain ⟨⟨g, F, _, hlain, hti, _⟩, _⟩ := hsi
      have hc : Covers ts [] := by
        have := hax.1
        rw [hnone] at this
        exact this
      have hne : NoEOF ts := hax.2.2.2.2 (by rw [hnone]; exact notTok_none)
      refine ⟨lead ++ ts, laToks (some la), F, by simpa [List.append_assoc] using hti, laToks_le _, ?_, ?_,
        ?_, la_eof hlain hla0⟩
      · have := Covers.append hlead.1 hc
        simpa using this
      · intro t ht
        rcases List.mem_append.mp ht with ht | ht
        · exact hlead.2 t ht
        · exact hne t ht
      · refine store_nil_of_idI hid ?_
        intro y hy
        simp only [List.nil_append, List.mem_singleton] at hy
        subst hy
        rw [hnone]; rfl
  · -- the all-newline return: the stack is empty
    rintro cs la l e hhint ⟨⟨lead, tss, hcs, hlead, hacc, ⟨⟨g, F, _, hlain, hti, _⟩, _⟩⟩, hid, _⟩
    have htss : tss = [] := by cases hacc; rfl
    subst htss
    have hla0 : la.1 = 0 := by
      rcases hhint with h | h
      · exact h
      · exact accept_end h
    exact ⟨lead, laToks (some la), F, by simpa using hti, laToks_le _, hlead.1, hlead.2,
      store_nil_of_idI hid (fun y hy => by cases hy), la_eof hlain hla0⟩

end

/-! ## one checked parser run -/

/-- `RunOK`, and: **every here-document body attached in the store -- in the state the log was
    known in -- is a leaf of the returned tree** -/
def RunOKIS (TL : List Token → Nat → Nat → Local → Env → Prop) (s : Str) (n : Node) : Prop :=
  TopOK s.length n ∧ ∃ ts la F l' e', TL (ts ++ la) s.length F l' e' ∧ la.length ≤ 1 ∧
    NoEOF ts ∧ FCovers s.length ts (Spec.leaves n) ∧
    (∀ p, InBody l'.store p → InBodyLeaf (Spec.leaves n) p) ∧ C08.Sentence (ts.map symOfTok)

section
attribute [local instance] C16.stdEnvRel
variable {TL : List Token → Nat → Nat → Local → Env → Prop}

/-- one parser run over ANY nested parser that keeps the contract -/
theorem level_leavesIT (hL : TokLogC TL) {np : NestedParse} (hnp : NPOK np)
    (hnps : ∀ tr, NPSpans (TL tr) np) (s : Str) :
    SatS (C16.level np) (fun l e => InitState s l e ∧ TL [] s.length 0 l e)
      (fun r _ _ => (∀ n, r = some n → RunOKIS TL s n) ∧ (r = none → RunNone TL s)) := by
    unfold C16.level
    have hH := leaves_hooksIT (len := s.length) hL hnp
      (fun tr => C03.wordContract_act _ (hnps tr) s.length)
    have hEG := C08.engine_good_hooks np 1073741824
    refine SatS.bind (SatS.weaken (SatS.and_sat
      (run_sound_ordC real_WF accept_iu _ hH 1073741824) hEG) ?_
      (fun _ _ _ h => h) (fun _ _ => trivial)) (fun res => ?_)
    · intro l e hinit
      refine ⟨⟨[], [], rfl, ⟨.nil, fun t ht => by cases ht⟩, .nil,
        ⟨0, 0, Nat.le_refl 0, Nat.le_refl 0, ?_, ?_⟩, ?_, ?_⟩, ?_, ?_⟩
      · exact hinit.2
      · intro x hx; cases hx
      · intro x hx; cases hx
      · intro x hx; cases hx
      · intro id hlt
        rw [hinit.1.1] at hlt
        cases hlt
      · intro vs' x h _
        exact absurd h (by simp)
    · refine SatS.bind SatS.get (fun l => ?_)
      split
      · rename_i n _ _ _
        refine SatS.pure ?_
        rintro l' e' ⟨rfl, hgood, heg⟩
        refine ⟨fun m hm => ?_, fun h => by cases h⟩
        cases hm
        obtain ⟨hfin, hcov, _⟩ := hgood
        obtain ⟨hs, hroot, hseal, g, hends, hdone⟩ := hfin n rfl
        obtain ⟨ts, la, F, l1, e1, htl, hla, hno, hc, hbody, hall, hlink⟩ := hcov n rfl
        refine ⟨⟨strict_resolve _ n hs hends hdone, noPend_resolve _ n hseal, ?_⟩,
          ts, la, F, l1, e1, htl, hla, hno, ?_, ?_, (by rw [hlink]; exact heg.sentence)⟩
        · rcases hroot with ht | hne
          · exact Or.inl (tainted_resolve _ n hdone ht)
          · obtain ⟨e1', e2'⟩ := ext_pos_resolve hdone
            right; omega
        · rw [leaves_resolve]
          refine fcovers_of_covers (g := g) hc ?_
          intro id p hh hmem c hc'
          obtain ⟨m, hm1, hm2⟩ := pend_mem id p hh n hmem
          exact ((hdone m hm1) id p hm2).2 c hc'
        · intro p hp
          exact body_in_leaf hall (hbody p hp)
      · rename_i hne
        refine SatS.pure ?_
        rintro l' e' ⟨rfl, hgood, heg⟩
        refine ⟨fun n hn => (by cases hn), fun _ => ?_⟩
        cases res with
        | accepted v tr cs b =>
          have hg : FinLIC TL s.length cs v l e' := hgood
          obtain ⟨lead, la, F, h1, h2, h3, h4, h5, h6⟩ :=
            hg.2.2 (fun n hv => hne n tr cs b (by rw [hv]))
          exact ⟨lead, la, F, l, e', h1, h2, h3, h4, h5, h6⟩
        | blank a b =>
          have hg : NoneL TL s.length l e' := hgood
          obtain ⟨lead, la, F, h1, h2, h3, h4, h5, h6⟩ := hg
          exact ⟨lead, la, F, l, e', h1, h2, h3, h4, h5, h6⟩

/-- the checked parser: instance -/
theorem parserRunK_leavesIT (hL : TokLogC TL)
    (hN : ∀ tr d, NPSpans (TL tr) (npK true (parserRunK d))) :
    ∀ d s, SatS (parserRunK d) (fun l e => InitState s l e ∧ TL [] s.length 0 l e)
      (fun r _ _ => (∀ n, r = some n → RunOKIS TL s n) ∧ (r = none → RunNone TL s)) := by
  intro d s
  cases d with
  | zero => rw [parserRunK_zero]; exact SatS.raise trivial
  | succ d => rw [parserRunK_succ]; exact level_leavesIT hL (npok_npK d) (fun tr => hN tr d) s

theorem runParserK_leavesIT (hL : TokLogC TL)
    (hN : ∀ tr d, NPSpans (TL tr) (npK true (parserRunK d))) {s : Str} {o : Opts}
    {t : List Char} {n : Node} (hinit : ∀ l e, InitState s l e → TL [] s.length 0 l e)
    (h : (runParserK s o t).1 = .ok (some n)) : RunOKIS TL s n :=
  (runParserK_sat_ok (parserRunK_leavesIT hL hN _ s)
    ⟨initState_top s o t, hinit _ _ (initState_top s o t)⟩ h).1 n rfl

theorem runParserK_noneT (hL : TokLogC TL)
    (hN : ∀ tr d, NPSpans (TL tr) (npK true (parserRunK d))) {s : Str} {o : Opts}
    {t : List Char} (hinit : ∀ l e, InitState s l e → TL [] s.length 0 l e)
    (h : (runParserK s o t).1 = .ok none) : RunNone TL s :=
  (runParserK_sat_ok (parserRunK_leavesIT hL hN _ s)
    ⟨initState_top s o t, hinit _ _ (initState_top s o t)⟩ h).2 rfl

end

/-- **the parts `parse` returns from index `i` on**, each run with its own invariant, with
    conservation of the bodies -/
inductive PartsIS (TLf : Str → List Token → Nat → Nat → Local → Env → Prop) (s : Str) :
    Nat → List Node → Prop
  /-- the loop of `parse` stops at the end of the input … -/
  | done (i : Nat) : s.length ≤ i → PartsIS TLf s i []
  /-- … or when a run returns `None`: that run consumed NEWLINE tokens only -/
  | stop (i : Nat) : RunNone (TLf (s.drop i)) (s.drop i) → PartsIS TLf s i []
  | cons {i : Nat} {n : Node} {rest : List Node} : i ≤ s.length →
      RunOKIS (TLf (s.drop i)) (s.drop i) n →
      PartsIS TLf s (max (nextIndex (n.shift i)) (i + 1)) rest →
      PartsIS TLf s i (n.shift i :: rest)

theorem PartsIS.mem {TLf : Str → List Token → Nat → Nat → Local → Env → Prop} {s : Str} :
    ∀ {i : Nat} {ps : List Node}, PartsIS TLf s i ps → ∀ part ∈ ps,
      ∃ k n, i ≤ k ∧ k ≤ s.length ∧ part = n.shift k ∧ RunOKIS (TLf (s.drop k)) (s.drop k) n := by
  intro i ps h
  induction h with
  | done i _ => intro part hp; cases hp
  | stop i _ => intro part hp; cases hp
  | @cons i n rest hi hrun _ ih =>
    intro part hp
    rcases List.mem_cons.mp hp with rfl | hp
    · exact ⟨i, n, Nat.le_refl i, hi, rfl, hrun⟩
    · obtain ⟨k, m, h1, h2, h3, h4⟩ := ih part hp
      refine ⟨k, m, ?_, h2, h3, h4⟩
      have : i + 1 ≤ max (nextIndex (n.shift i)) (i + 1) := Nat.le_max_right _ _
      omega

section
attribute [local instance] C16.stdEnvRel
variable {TLf : Str → List Token → Nat → Nat → Local → Env → Prop}

theorem PartsIS.ofPartsOf {s : Str} : ∀ {i ps},
    PartsOf (fun i n => RunOKIS (TLf (s.drop i)) (s.drop i) n)
      (fun i => RunNone (TLf (s.drop i)) (s.drop i)) s.length i ps → PartsIS TLf s i ps := by
  intro i ps h
  induction h with
  | done i h => exact .done i h
  | stop i h => exact .stop i h
  | cons hi hr _ ih => exact .cons hi hr ih

theorem parseK_leavesIT (hL : ∀ s0, TokLogC (TLf s0))
    (hN : ∀ s0 tr d, NPSpans (TLf s0 tr) (npK true (parserRunK d)))
    (hinit : ∀ s0 l e, InitState s0 l e → TLf s0 [] s0.length 0 l e) (s : Str) (o : Opts)
    (parts : List Node) (h : (parseK s o).1 = .parts parts) : PartsIS TLf s 0 parts :=
  .ofPartsOf (parseK_chain (R := fun i n => RunOKIS (TLf (s.drop i)) (s.drop i) n)
    (N := fun i => RunNone (TLf (s.drop i)) (s.drop i)) s o
    (fun _ _ _ _ hr => runParserK_leavesIT (hL _) (hN _) (hinit _) hr)
    (fun _ _ hr => runParserK_noneT (hL _) (hN _) (hinit _) hr) h)

end

end Bashlex.C05

namespace Bashlex.C05
open Bashlex Bashlex.Spec Bashlex.Node Bashlex.M Bashlex.LR Bashlex.C12 Bashlex.C03

/-- `RunOK` (`Props/C05/Hooks.lean`) and: the log `ts`, as terminals, is NEWLINEs then a sentence -/
def RunTextK (TL : List Token → Nat → Nat → Local → Env → Prop) (s : Str) (n : Node) : Prop :=
  TopOK s.length n ∧ ∃ ts la F l' e', TL (ts ++ la) s.length F l' e' ∧ la.length ≤ 1 ∧
    NoEOF ts ∧ FCovers s.length ts (Spec.leaves n) ∧ C08.Sentence (ts.map symOfTok)

theorem RunOKIS.toText {TL : List Token → Nat → Nat → Local → Env → Prop} {s : Str} {n : Node}
    (h : RunOKIS TL s n) : RunTextK TL s n := by
  obtain ⟨h0, ts, la, F, l, e, h1, h2, h3, h4, _, h6⟩ := h
  exact ⟨h0, ts, la, F, l, e, h1, h2, h3, h4, h6⟩

/-- **the parts `parse` returns from index `i` on**, each run with its own invariant `TLf s[i:]` -/
inductive PartsT (TLf : Str → List Token → Nat → Nat → Local → Env → Prop) (s : Str) :
    Nat → List Node → Prop
  | nil (i : Nat) : PartsT TLf s i []
  | cons {i : Nat} {n : Node} {rest : List Node} : i ≤ s.length →
      RunTextK (TLf (s.drop i)) (s.drop i) n →
      PartsT TLf s (max (nextIndex (n.shift i)) (i + 1)) rest →
      PartsT TLf s i (n.shift i :: rest)

theorem PartsT.mem {TLf : Str → List Token → Nat → Nat → Local → Env → Prop} {s : Str} :
    ∀ {i : Nat} {ps : List Node}, PartsT TLf s i ps → ∀ part ∈ ps,
      ∃ k n, i ≤ k ∧ k ≤ s.length ∧ part = n.shift k ∧ RunTextK (TLf (s.drop k)) (s.drop k) n := by
  intro i ps h
  induction h with
  | nil i => intro part hp; cases hp
  | @cons i n rest hi hrun _ ih =>
    intro part hp
    rcases List.mem_cons.mp hp with rfl | hp
    · exact ⟨i, n, Nat.le_refl i, hi, rfl, hrun⟩
    · obtain ⟨k, m, h1, h2, h3, h4⟩ := ih part hp
      refine ⟨k, m, ?_, h2, h3, h4⟩
      have : i + 1 ≤ max (nextIndex (n.shift i)) (i + 1) := Nat.le_max_right _ _
      omega

theorem PartsIS.toT {TLf : Str → List Token → Nat → Nat → Local → Env → Prop} {s : Str} :
    ∀ {i : Nat} {ps : List Node}, PartsIS TLf s i ps → PartsT TLf s i ps := by
  intro i ps h
  induction h with
  | done i _ => exact .nil i
  | stop i _ => exact .nil i
  | cons hi hrun _ ih => exact .cons hi hrun.toText ih

theorem parseK_textT {TLf : Str → List Token → Nat → Nat → Local → Env → Prop}
    (hL : ∀ s0, TokLogC (TLf s0))
    (hN : ∀ s0 tr d, NPSpans (TLf s0 tr) (npK true (parserRunK d)))
    (hinit : ∀ s0 l e, InitState s0 l e → TLf s0 [] s0.length 0 l e) (s : Str) (o : Opts)
    (parts : List Node) (h : (parseK s o).1 = .parts parts) : PartsT TLf s 0 parts :=
  (parseK_leavesIT hL hN hinit s o parts h).toT

end Bashlex.C05
