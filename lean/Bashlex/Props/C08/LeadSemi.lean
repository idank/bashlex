/-
  C08, text level: an input that starts with `;` is rejected, whatever follows
  (**`C08_leading_semi`**: the token is `;;&`, `;;`, `;&` or `;` according to what follows; state 0
  of the real tables has no action on any of them).  Instance of `leading_op`.
-/
import Bashlex.Props.C08.LeadOp

namespace Bashlex.C08
open Bashlex Bashlex.M Bashlex.C10

theorem readtokenMeta_semi : readtokenMeta ';' = (do
    modify fun l => { l with ps := { l.ps with assignok := false } }
    let peek ← getc true
    if peek = some ';' then do
      modify fun l => { l with ps := { l.ps with casepat := true } }
      let p ← getc true
      if p = some '&' then pure (some TokType.SEMI_SEMI_AND)
      else do
        ungetc p
        pure (some TokType.SEMI_SEMI)
    else if peek = some '&' then pure (some TokType.SEMI_AND)
    else do
      ungetc peek
      pure (some TokType.SEMICOLON)) := by
  unfold readtokenMeta
  simp
  rfl

theorem metaOK_semi : MetaOK ';' [.SEMI_SEMI_AND, .SEMI_SEMI, .SEMI_AND, .SEMICOLON] := by
  intro s l e h heol hlt hbs
  rw [readtokenMeta_semi]
  refine Returns.bindOk (C10.run_modify _ _ _) ?_
  have hP := h.post.ps { l.ps with assignok := false }
  refine Returns.bind ((getc_live ((h.live heol hlt hbs).ps { l.ps with assignok := false })).imp ?_)
  rintro p _ e1 ⟨rfl, hL1, g1, g2, g3⟩
  have hP1 := hP.getc g1 g2 (Nat.le_of_succ_le g3)
  by_cases h1 : p = some ';'
  · simp only [h1, if_true]
    refine Returns.bindOk (C10.run_modify _ _ _) ?_
    -- second look-ahead, from the state with `casepat` set
    have hQ := hP1.ps { l.ps with assignok := false, casepat := true }
    refine Returns.bind ((getc_live (hL1.ps { l.ps with assignok := false, casepat := true })).imp ?_)
    rintro q _ e2 ⟨rfl, _, k1, k2, k3⟩
    have hQ1 := hQ.getc k1 k2 (Nat.le_of_succ_le k3)
    by_cases h2 : q = some '&'
    · simp only [h2, if_true]
      exact Returns.pure ⟨⟨_, by simp, rfl⟩, hQ1⟩
    · simp only [h2, if_false]
      refine Returns.bind ((ungetc_top hQ1.tape k3 q).imp ?_)
      rintro _ l2 e3 ⟨u1, u2, u3, u4⟩
      exact Returns.pure ⟨⟨_, by simp, rfl⟩, hQ1.ungetc u1 u2 u3 u4⟩
  · simp only [h1, if_false]
    by_cases h2 : p = some '&'
    · simp only [h2, if_true]
      exact Returns.pure ⟨⟨_, by simp, rfl⟩, hP1⟩
    · simp only [h2, if_false]
      refine Returns.bind ((ungetc_top hP1.tape g3 p).imp ?_)
      rintro _ l2 e2 ⟨u1, u2, u3, u4⟩
      exact Returns.pure ⟨⟨_, by simp, rfl⟩, hP1.ungetc u1 u2 u3 u4⟩

theorem semi_rejected : ∀ ty ∈ [TokType.SEMI_SEMI_AND, TokType.SEMI_SEMI, TokType.SEMI_AND,
    TokType.SEMICOLON], ty ≠ .EOF ∧ LR.realTables.action 0 ty.sym = none := by
  decide +kernel

/-- **C08_leading_semi** (all lengths, all options): an input that starts with `;` is rejected
    with "unexpected token ';;&'", "';;'", "';&'" or "';'" at position 0, whatever follows -/
theorem C08_leading_semi (u : Str) (o : Opts) :
    ∃ ty ∈ [TokType.SEMI_SEMI_AND, TokType.SEMI_SEMI, TokType.SEMI_AND, TokType.SEMICOLON],
      (parse (';' :: u) o).1 = .exn (.parsing (opMsg ty) (';' :: u) 0) :=
  leading_op metaOK_semi (by decide) (by decide) (by decide) (by decide) (by decide)
    semi_rejected u o

end Bashlex.C08
