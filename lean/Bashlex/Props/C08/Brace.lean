/-
  C08 (text level, `${`): an unterminated parameter expansion is rejected, for ALL
  lengths: `C08_unterminated_brace`: input `w ++ "${" ++ u` with `w` plain and `u` made of
  characters the `${…}` scanner just appends (`brPlain`: no `}`, `{`, backslash, `$`, quote,
  and none of the operator characters `# % ^ , ~ : - = ? + /` that move the `dolbrace` state
  machine): `parse` raises "unexpected EOF while looking for matching '}'".
-/
import Bashlex.Props.C08.Text
import Bashlex.Props.C08.DQuote

namespace Bashlex.C08
open Bashlex Bashlex.M Bashlex.C10
set_option linter.unusedSimpArgs false

/-- the parameters `handleshellexp` passes for `${` outside quotes -/
def brParams : MPParams :=
  { doublequotes := none, opn := '{', close := '}', firstclose := true, dolbrace := true }

/-- a character the `${…}` scanner just appends, staying in state `param` -/
def brPlain (c : Char) : Bool :=
  c != '}' && c != '{' && c != '\\' && c != '$' && !(synClass c).quote && !isDolOp c

theorem mpStep_br (st : MPState) (c : Char) (hc : brPlain c = true) (h1 : st.insidecomment = false)
    (h2 : st.passnextchar = false) (h3 : st.count = 1) (h4 : st.dolbracestate = .param) :
    mpStep brParams false st c = .next { st with ret := st.ret ++ [c] } c := by
  unfold brPlain at hc
  simp only [Bool.and_eq_true, bne_iff_ne, ne_eq, Bool.not_eq_true'] at hc
  obtain ⟨⟨⟨⟨⟨c1, c2⟩, c3⟩, c4⟩, c5⟩, c6⟩ := hc
  have e1 : (c == '}') = false := by simpa using c1
  have e3 : (c == '\\') = false := by simpa using c3
  have hop : ∀ x ∈ ['#', '%', '^', ',', '~', ':', '-', '=', '?', '+', '/'], c ≠ x := by
    intro x hx hcx
    unfold isDolOp at c6
    rw [hcx] at c6
    have : (['#', '%', '^', ',', '~', ':', '-', '=', '?', '+', '/'] : List Char).contains x = true := by
      simpa using hx
    rw [this] at c6; cases c6
  have o1 : (c == '%') = false := by simpa using hop '%' (by simp)
  have o2 : (c == '#') = false := by simpa using hop '#' (by simp)
  have o3 : (c == '^') = false := by simpa using hop '^' (by simp)
  have o4 : (c == ',') = false := by simpa using hop ',' (by simp)
  have o5 : (c == '/') = false := by simpa using hop '/' (by simp)
  unfold mpStep mpStepM mpTailM
  have e2 : (c == '{') = false := by simpa using c2
  simp [brParams, h1, h2, h3, h4, e1, e2, c2, e3, c6, o1, o2, o3, o4, o5]

/-- `mpPost` on a character that is neither `$` nor a quote character, in a scanner with distinct
    delimiters outside an array subscript: it clears `sawdollar` -/
theorem run_mpPost_plain (pmp : MPParams → M Str) (pcs : CSParams → M Str) {P : MPParams}
    (hne : (P.opn != P.close) = true) (ha : P.arraysub = false) (st : MPState) {c : Char}
    (hq : (synClass c).quote = false) (hd : c ≠ '$') (l : Local) (e : Env) :
    M.run (mpPost pmp pcs P false st c) l e =
      (.ok ({ st with sawdollar := false }, l), touch e c) := by
  have e4 : (c == '$') = false := by simpa using hd
  unfold mpPost
  simp only [hne, if_true]
  rw [bindOk (run_shellquote c l e)]
  simp only [hq, Bool.false_eq_true, if_false, ha, Bool.false_and, e4]
  rfl

theorem brPlain_facts {c : Char} (hp : brPlain c = true) :
    c ≠ '\\' ∧ c ≠ '$' ∧ (synClass c).quote = false := by
  unfold brPlain at hp
  simp only [Bool.and_eq_true, bne_iff_ne, ne_eq, Bool.not_eq_true'] at hp
  exact ⟨hp.1.1.1.2, hp.1.1.2, hp.1.2⟩

theorem plainScan_br : PlainScan brParams false false (brPlain · = true)
    (fun st => st.insidecomment = false ∧ st.passnextchar = false ∧ st.count = 1 ∧
      st.dolbracestate = .param) where
  init := rfl
  start := ⟨rfl, rfl, rfl, rfl⟩
  count hI := by rw [hI.2.2.1]; exact Nat.one_ne_zero
  nbs _ hp := .inr (brPlain_facts hp).1
  step := @fun st c hI hp => .inr ⟨{ st with ret := st.ret ++ [c] },
    { st with ret := st.ret ++ [c], sawdollar := false }, ⟨hI.1, hI.2.1, hI.2.2.1, hI.2.2.2⟩,
    mpStep_br _ _ hp hI.1 hI.2.1 hI.2.2.1 hI.2.2.2,
    fun pmp pcs l e => ⟨_, run_mpPost_plain pmp pcs (P := brParams) (by decide) rfl _
      (brPlain_facts hp).2.2 (brPlain_facts hp).2.1 l e, tapeOf_touch _ _ _⟩⟩

/-! ### the iteration of `_readtokenword` on `$` followed by `{` -/

/-- the iteration of `_readtokenword` on `$` outside quotes is `handleshellexp` -/
theorem rwStep_dollar {l : Local} {e e' : Env} {x : Exn} (st : RWState) (hc : st.c = some '$')
    (hpn : st.passNext = false)
    (h : M.run (handleshellexp st '$' l.dstack.getLast?) l (touch (touch e '$') '$') =
      (.error x, e')) :
    M.run (readtokenwordStep st) l e = (.error x, e') := by
  rw [C04.TTP.readtokenwordStep_eq]
  simp only [hc, hpn, Bool.false_eq_true, if_false]
  rw [bindOk (run_currentDelimiter l e)]
  have hb : (('$' : Char) == '\\') = false := by decide
  simp only [hb, Bool.false_eq_true, if_false]
  rw [bindOk (run_shellquote '$' l e)]
  have hsq : (synClass '$').quote = false := by decide
  simp only [hsq, Bool.false_eq_true, if_false]
  rw [bindOk (run_shellexp '$' l _)]
  have hse : (synClass '$').exp = true := by decide
  simp only [hse, if_true]
  exact bindErr h

theorem trigger_brace {u : Str} (hq : ∀ x ∈ u, brPlain x = true) (hlen : u.length < 1073741824) :
    Trigger '$' '}' ('{' :: u) := by
  refine ⟨by decide, by decide, ?_⟩
  intro T l e hI st hc hpn hle hu
  obtain ⟨hlt, hd, hu1⟩ := C06S.drop_cons_facts hu
  have hI2 : TInv T l (touch (touch e '$') '$') := (hI.touch '$').touch '$'
  have hI3 := hI2.put { T with idx := T.idx + 1 }
  have hraise := plainScan_br.raises 1048575 u (putL l { T with idx := T.idx + 1 })
    (putE l (touch (touch e '$') '$') { T with idx := T.idx + 1 }) hI3.eol
    (by rw [hI3.tape]; exact hlt) (by rw [hI3.tape]; exact hu1) hq hlen
  obtain ⟨e', he'⟩ := hraise
  rw [hI3.tape] at he'
  refine ⟨e', rwStep_dollar st hc hpn ?_⟩
  unfold handleshellexp
  rw [bindOk (run_getc_nb hI2 true hd (by decide))]
  have hcond : ((some '{' : Option Char) == some '(' ||
      (('$' : Char) == '$' && ((some '{' : Option Char) == some '{' || (some '{' : Option Char) == some '['))) = true := by
    decide
  have hp : ((some '{' : Option Char) == some '{') = true := by decide
  simp only [hcond, if_true]
  simp only [hp, if_true]
  rw [hI.ds]
  rw [bindOk (run_depthFuel _ _)]
  refine bindErr ?_
  exact he'

/-- **C08_unterminated_brace** (all lengths, all options): a word of plain characters, then `${`
    that is never closed, followed by `brPlain` text: `parse` raises
    "unexpected EOF while looking for matching '}'" -/
theorem C08_unterminated_brace (w u : Str) (o : Opts) (hw : ∀ x ∈ w, plainChar x = true)
    (hu : ∀ x ∈ u, brPlain x = true) (hwl : w.length < 1073741824)
    (hul : u.length + 1 < 1073741824) :
    (parse (w ++ '$' :: '{' :: u) o).1 =
      .exn (.parsing (eofMsg '}') (w ++ '$' :: '{' :: u)
        (((Tape.ofInput (w ++ '$' :: '{' :: u)).line.length : Int) - 1)) := by
  exact unterminated_scan (pre := ['{']) (plain := (brPlain · = true)) (by decide) 0
    (fun _ hv hl => trigger_brace hv hl) w u o hw hu hwl hul

end Bashlex.C08
