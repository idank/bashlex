/-
  C08 (more families, all lengths): unclosed openers are never accepted.

  A linear weight on terminals (`W pos neg`: +1 on `pos`, -1 on `neg`) whose sum is ≤ 0 over the
  right-hand side of EVERY production of the regenerated grammar (kernel-decided, `balance_ok`)
  is ≤ 0 over the yield of every valid derivation tree (`valid_weight`), hence over everything an
  accepting run of the engine consumed (`engineGood_balanced`: for the real tables and actions, every
  token source, every nested parser).  With the families of `balanceFamilies`, every sentence has
    #`(` ≤ #`)`      (`)` also closes a case pattern)
    #`{` = #`}`,  #`if` = #`fi`,  #`case` = #`esac`,  #`do` = #`done`,  #`[[` = #`]]`,
    #`if` + #`elif` = #`then`,  #`while` + #`until` ≤ #`do`,  #`case` ≤ #`in`.
  So a token stream that ends (`$end` is the look-ahead, not consumed) with an unclosed `(`,
  `{`, `if`, `if … then`, `while … do`, `case … in`, `[[` is never accepted: the run raises.
-/
import Bashlex.Props.C08.Accept

namespace Bashlex.C08
open Bashlex Bashlex.M Bashlex.LR
set_option linter.unusedVariables false

/-- +1 on `pos`, -1 on `neg` -/
def W (pos neg : List Nat) (x : Nat) : Int :=
  (if pos.contains x then 1 else 0) - (if neg.contains x then 1 else 0)

def wsum (w : Nat → Int) (l : List Nat) : Int := (l.map w).sum

theorem wsum_append (w : Nat → Int) (a b : List Nat) : wsum w (a ++ b) = wsum w a + wsum w b := by
  simp [wsum, List.map_append, List.sum_append]

/-- the check on the grammar: left-hand sides weigh nothing, right-hand sides at most nothing -/
def prodsLe (w : Nat → Int) (prods : List (Nat × List Nat)) : Bool :=
  prods.all fun p => w p.1 == 0 && decide (wsum w p.2 ≤ 0)

theorem valid_weight {T : Tables} {w : Nat → Int} (hc : prodsLe w T.prods = true) :
    ∀ {tr : Tree}, Tree.Valid T tr → wsum w tr.yield ≤ w tr.root ∧
      (∀ p lhs ks, tr = .node p lhs ks → wsum w tr.yield ≤ 0 ∧ w lhs = 0) := by
  intro tr h
  induction h with
  | leaf s hs =>
    refine ⟨by simp [Tree.yield, Tree.root, wsum], ?_⟩
    intro p lhs ks h; cases h
  | node p lhs ks rhs hp hroots hk ih =>
    have hmem : (lhs, rhs) ∈ T.prods := List.mem_of_getElem? hp
    have hall := List.all_eq_true.mp hc _ hmem
    simp only [Bool.and_eq_true, beq_iff_eq, decide_eq_true_eq] at hall
    obtain ⟨hl, hr⟩ := hall
    -- the yields of the children weigh at most their roots
    have key : ∀ (l : List Tree), (∀ k ∈ l, wsum w k.yield ≤ w k.root) →
        wsum w (Tree.yields l) ≤ wsum w (l.map Tree.root) := by
      intro l
      induction l with
      | nil => intro _; simp [Tree.yields, wsum]
      | cons k ks' ihl =>
        intro hk'
        have h1 := hk' k List.mem_cons_self
        have h2 := ihl (fun k' hk'' => hk' k' (List.mem_cons_of_mem _ hk''))
        simp only [Tree.yields, wsum_append, List.map_cons]
        have : wsum w (k.root :: List.map Tree.root ks') = w k.root + wsum w (List.map Tree.root ks') := by
          simp [wsum]
        rw [this]; omega
    have hy := key ks (fun k hk' => (ih k hk').1)
    rw [hroots] at hy
    have hyield : wsum w (Tree.node p lhs ks).yield ≤ 0 := by
      simp only [Tree.yield]; omega
    refine ⟨by simp only [Tree.root]; omega, ?_⟩
    intro p' lhs' ks' heq
    cases heq
    exact ⟨hyield, hl⟩

def tnum (name : String) : Nat := Gen.termNames.idxOf name

/-- the balance facts of the shell grammar, as (positive, negative) terminal names -/
def balanceFamilies : List (List String × List String) :=
  [(["LEFT_PAREN"], ["RIGHT_PAREN"]),
   (["LEFT_CURLY"], ["RIGHT_CURLY"]), (["RIGHT_CURLY"], ["LEFT_CURLY"]),
   (["IF"], ["FI"]), (["FI"], ["IF"]),
   (["CASE"], ["ESAC"]), (["ESAC"], ["CASE"]),
   (["DO"], ["DONE"]), (["DONE"], ["DO"]),
   (["COND_START"], ["COND_END"]), (["COND_END"], ["COND_START"]),
   (["IF", "ELIF"], ["THEN"]), (["THEN"], ["IF", "ELIF"]),
   (["WHILE", "UNTIL"], ["DO"]), (["WHILE", "UNTIL"], ["DONE"]),
   (["CASE"], ["IN"])]

def famW (f : List String × List String) : Nat → Int := W (f.1.map tnum) (f.2.map tnum)

/-- **kernel-decided on the regenerated grammar** -/
theorem balance_ok : balanceFamilies.all (fun f =>
    prodsLe (famW f) Gen.prodTable && famW f realTables.nlTok == 0) = true := by
  decide +kernel

theorem fam_spec {f : List String × List String} (hf : f ∈ balanceFamilies) :
    prodsLe (famW f) realTables.prods = true ∧ famW f realTables.nlTok = 0 := by
  have := List.all_eq_true.mp balance_ok f hf
  simp only [Bool.and_eq_true, beq_iff_eq] at this
  exact this

theorem wsum_nl {w : Nat → Int} (hw : w realTables.nlTok = 0) :
    ∀ (pre : List Nat), pre.all (· == realTables.nlTok) = true → wsum w pre = 0 := by
  intro pre
  induction pre with
  | nil => intro _; rfl
  | cons a pre ih =>
    intro h
    simp only [List.all_cons, Bool.and_eq_true, beq_iff_eq] at h
    have := ih h.2
    simp only [wsum, List.map_cons, List.sum_cons] at this ⊢
    rw [h.1, hw]; omega

/-- **every sentence is balanced** -/
theorem sentence_balanced {c : List Nat} (h : Sentence c) {f : List String × List String}
    (hf : f ∈ balanceFamilies) : wsum (famW f) c ≤ 0 := by
  obtain ⟨tr, pre, hv, hroot, hc, hpre⟩ := h
  obtain ⟨hp, hnl⟩ := fam_spec hf
  have hvw := valid_weight hp hv
  rw [hc, wsum_append, wsum_nl hnl pre hpre]
  cases tr with
  | leaf s =>
    -- the root of an accepted tree is a non-terminal: `acceptSyms` holds no terminal
    exfalso
    have : ∀ x ∈ acceptSyms, Gen.termNames.length ≤ x := by decide +kernel
    have h1 := this _ hroot
    cases hv with
    | leaf _ hs => exact absurd hs (Nat.not_lt.mpr h1)
  | node p lhs ks =>
    have := (hvw.2 p lhs ks rfl).1
    omega

/-- what the engine consumed -/
def consumedOf {V : Type} : Res V → List Nat
  | .accepted _ _ c _ => c
  | .blank _ c => c

theorem engineGood_balanced {res : Res SVal} (h : EngineGood res) {f : List String × List String}
    (hf : f ∈ balanceFamilies) : wsum (famW f) (consumedOf res) ≤ 0 := by
  cases res with
  | accepted v tr c b => exact sentence_balanced h.sentence hf
  | blank k c =>
    have := wsum_nl (fam_spec hf).2 c h
    simp only [consumedOf]; omega

/-- **C08_unclosed_never_accepted**: for the real tables and actions, EVERY token source and every
    nested parser: whatever the engine consumed at a normal return is balanced in each family --
    a token stream with an opener left unclosed when `$end` is met has no normal return -/
theorem C08_unclosed_never_accepted (np : NestedParse) (next : M (Nat × SVal)) (fuel : Nat) :
    Sat (LR.run realTables { (lrHooks np) with next := next } fuel)
      (fun res => ∀ f ∈ balanceFamilies, wsum (famW f) (consumedOf res) ≤ 0) (fun _ => True) :=
  (engine_good np next fuel).weaken (fun res h f hf => engineGood_balanced h hf) (fun _ h => h)

/-- the same for the parts of `parse`: each run that returned a part consumed a balanced stream -/
theorem RunSentence.balanced {s : Str} {o : Opts} {t t' : List Char} {n : Node}
    (h : RunSentence s o t n t') : ∃ m tr c b l' e',
      topRun s o t = (.ok (.accepted (.node m) tr c b, l'), e') ∧
      ∀ f ∈ balanceFamilies, wsum (famW f) c ≤ 0 := by
  obtain ⟨m, tr, c, b, l', e', h1, _, _, h4, h5, pre, h6, h7⟩ := h
  exact ⟨m, tr, c, b, l', e', h1, fun f hf => sentence_balanced ⟨tr, pre, h4, h5, h6, h7⟩ hf⟩

end Bashlex.C08
