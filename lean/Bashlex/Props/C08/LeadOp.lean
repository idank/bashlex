/-
  C08, parts 2/3 linked at text level, generic in the leading operator character:
  `leading_op`: if `_readtokenMeta c` delivers, from the state in which `_readtoken` has read a
  leading `c`, only token types of a list `tys` on which state 0 of the real tables has no action,
  then every input `c :: u` is rejected with `ParsingError("unexpected token …", s, 0)`.
  Instances: **`C08_leading_rparen`** and **`C08_leading_bar`** -- an input that starts with `)` or
  with `|` is rejected, whatever follows (after `|` the token is `||`, `|&` or `|` according to the
  next character).
-/
import Bashlex.Props.C08.RParen

namespace Bashlex.C08
open Bashlex Bashlex.M Bashlex.C10
set_option linter.unusedSimpArgs false

/-- an operator token at `(0, p2)` -/
def opTok (ty : TokType) (p2 : Nat) : Token :=
  { ttype := some ty, value := ty.enumValue, pos := some (0, p2), flags := [] }

/-- what `p_error` says of it -/
def opMsg (ty : TokType) : String :=
  "unexpected token " ++ (match ty.enumValue with
    | .str s => pyReprStr s
    | .int n => toString n
    | .none => "None")

/-- what `token()` needs after `readtokenMeta` -/
structure RPost (s : Str) (l : Local) (e : Env) : Prop where
  tape : l.tape = none
  pos : l.positions = [0]
  idx : 1 ≤ e.tape.idx
  src : e.tape.source = s

theorem RPSt.post {s : Str} {l : Local} {e : Env} (h : RPSt s l e) : RPost s l e :=
  ⟨h.tape, h.pos, h.idx, h.src⟩

/-- what `_readtokenMeta` is entered with -/
theorem RPSt.live {s : Str} {l : Local} {e : Env} (h : RPSt s l e) (heol : l.eolLookahead = none)
    (hlt : e.tape.idx < e.tape.line.length) (hbs : NoFinalBackslash e.tape.line) : Live l e :=
  ⟨h.tape, heol, h.idx, Nat.le_of_lt hlt, by have := h.idx; omega, hbs⟩

theorem Live.ps {l : Local} {e : Env} (h : Live l e) (ps : PState) :
    Live { l with ps := ps } e := ⟨h.tape, h.eol, h.idx, h.le, h.two, h.nbs⟩

theorem RPost.ps {s : Str} {l : Local} {e : Env} (h : RPost s l e) (ps : PState) :
    RPost s { l with ps := ps } e := ⟨h.tape, h.pos, h.idx, h.src⟩

/-- `RPost` after a look-ahead … -/
theorem RPost.getc {s : Str} {l : Local} {e e' : Env} (h : RPost s l e)
    (h1 : e'.tape.line = e.tape.line) (h2 : e'.tape.added = e.tape.added) (h3 : 1 ≤ e'.tape.idx) :
    RPost s l e' :=
  ⟨h.tape, h.pos, h3, by rw [← h.src]; unfold Tape.source; rw [h1, h2]⟩

/-- … and after its push-back -/
theorem RPost.ungetc {s : Str} {l l' : Local} {e e' : Env} {p : Option Char} (h : RPost s l e)
    (hl : l' = l ∨ l' = { l with eolLookahead := p })
    (h1 : e'.tape.line = e.tape.line) (h2 : e'.tape.added = e.tape.added) (h3 : 1 ≤ e'.tape.idx) :
    RPost s l' e' := by
  rcases hl with rfl | rfl
  · exact h.getc h1 h2 h3
  · exact RPost.getc (l := { l with eolLookahead := p }) ⟨h.tape, h.pos, h.idx, h.src⟩ h1 h2 h3

/-- `_readtokenMeta c`, entered right after the leading `c` was read, delivers a type of `tys` -/
def MetaOK (c : Char) (tys : List TokType) : Prop :=
  ∀ (s : Str) (l : Local) (e : Env), RPSt s l e → l.eolLookahead = none →
    e.tape.idx < e.tape.line.length → NoFinalBackslash e.tape.line →
    Returns (readtokenMeta c) l e (fun r l' e' => (∃ ty ∈ tys, r = some ty) ∧ RPost s l' e')

theorem metaOK_rparen : MetaOK ')' [.RIGHT_PAREN] := by
  intro s l e h heol hlt hbs
  obtain ⟨r, l', e', hrun, hr, hS⟩ := readtokenMeta_rparen_returns h heol hlt hbs
  exact ⟨r, l', e', hrun, ⟨_, by simp, hr⟩, hS.post⟩

/-- the first `token()` of a parser over `c :: u` delivers an operator token at position 0 -/
theorem nextToken_op {c : Char} {tys : List TokType} (hM : MetaOK c tys)
    (hc1 : c ≠ '\\') (hc2 : shellblank c = false) (hc3 : c ≠ '#') (hc4 : (c == '\n') = false)
    (hc5 : (synClass c).metac = true) (u : Str) (o : Opts) :
    Returns nextToken (initLocal o) (initEnv (c :: u) o [])
      (fun t l e => (∃ ty ∈ tys, ∃ p2, t = opTok ty p2) ∧ l.tape = none ∧
        e.tape.source = c :: u) := by
  obtain ⟨tail, hline, htail, hidx, hsrc⟩ := ofInput_facts (c :: u)
  have hbs := ofInput_noFinalBackslash (c :: u)
  have hlen : 2 ≤ (Tape.ofInput (c :: u)).line.length := by
    rw [hline]
    rcases htail with rfl | rfl
    · cases u with
      | nil =>
        exfalso
        have hcn : c ≠ '\n' := by simpa using hc4
        have h1 : (Tape.ofInput [c]).line = [c] ++ ['\n'] := by
          rw [Tape.ofInput_of_ne (s := [c]) rfl hcn]
        rw [h1] at hline; simp at hline
      | cons x u' => simp
    · simp
  have h0 : (Tape.ofInput (c :: u)).line[(Tape.ofInput (c :: u)).idx]? = some c := by
    rw [hidx, hline]; rfl
  unfold nextToken
  refine Returns.bindOk (C10.run_modify _ _ _) ?_
  show Returns _ (C14.histStep (initLocal o)) _ _
  generalize hl1 : C14.histStep (initLocal o) = l1
  have hI : TInv (Tape.ofInput (c :: u)) l1 (initEnv (c :: u) o []) := by
    subst hl1; exact ⟨rfl, rfl, rfl⟩
  have ht1 : l1.tape = none := by subst hl1; rfl
  have hhead := readtokenHead_char' hI h0 hc1 hc2 hc3
  rw [putL_top ht1, putE_top ht1] at hhead
  have hrt : Returns readtoken l1 (initEnv (c :: u) o [])
      (fun r l e => (∃ ty ∈ tys, r = .inl ty) ∧ RPost (c :: u) l e) := by
    rw [C10.readtoken_eq]
    refine Returns.bindOk hhead ?_
    simp only []
    unfold C10.readtokenTail
    refine Returns.bindOk (C11.run_recordpos 1 _ _) ?_
    simp only [hc4, Bool.false_eq_true, if_false]
    refine Returns.bindOk (C10.run_get _ _) ?_
    have hre : l1.ps.regexp = false := by subst hl1; rfl
    simp only [hre, Bool.false_eq_true, if_false]
    refine Returns.bindOk (run_shellmeta c _ _) ?_
    refine Returns.bindOk (C10.run_get _ _) ?_
    have hdp : l1.ps.dblparen = false := by subst hl1; rfl
    simp only [hc5, hdp, Bool.not_false, Bool.and_self, if_true]
    have hRP : RPSt (c :: u)
        { l1 with positions := l1.positions ++
          [(tapeOf l1 { (initEnv (c :: u) o []) with
            tape := { Tape.ofInput (c :: u) with idx := (Tape.ofInput (c :: u)).idx + 1 } }).idx - 1] }
        (touch { (initEnv (c :: u) o []) with
          tape := { Tape.ofInput (c :: u) with idx := (Tape.ofInput (c :: u)).idx + 1 } } c) := by
      subst hl1
      refine ⟨rfl, ?_, rfl, rfl, rfl, rfl, rfl, ?_, ?_⟩
      · show [] ++ [(Tape.ofInput (c :: u)).idx + 1 - 1] = [0]
        rw [hidx]; rfl
      · rw [touch_tape]; show 1 ≤ (Tape.ofInput (c :: u)).idx + 1; omega
      · rw [touch_tape]; exact hsrc
    obtain ⟨r, lM, eM, hmeta, ⟨ty, hty, hr⟩, hS⟩ := hM _ _ _ hRP
      (by subst hl1; rfl)
      (by rw [touch_tape]
          show (Tape.ofInput (c :: u)).idx + 1 < (Tape.ofInput (c :: u)).line.length
          rw [hidx]; omega)
      (by rw [touch_tape]; exact hbs)
    subst hr
    refine Returns.bindOk hmeta ?_
    simp only []
    exact Returns.pure ⟨⟨ty, hty, rfl⟩, hS⟩
  obtain ⟨r, lR, eR, hrun, ⟨ty, hty, rfl⟩, hR⟩ := hrt
  refine Returns.bindOk hrun ?_
  simp only []
  refine Returns.bindOk (C11.run_recordpos 0 _ _) ?_
  have hpos : ({ lR with positions := lR.positions ++ [(tapeOf lR eR).idx - 0] } : Local).positions =
      [0, eR.tape.idx] := by
    show lR.positions ++ [(tapeOf lR eR).idx - 0] = _
    rw [hR.pos, tapeOf_top hR.tape]; rfl
  refine Returns.bindOk (createtoken_run _ _ _ _ hpos hR.idx) ?_
  refine Returns.bindOk (C10.run_modify _ _ _) ?_
  refine Returns.bindOk (C10.run_modify _ _ _) ?_
  exact Returns.pure ⟨⟨ty, hty, eR.tape.idx, rfl⟩, hR.tape, hR.src⟩

theorem pError_op (ty : TokType) (hty : ty ≠ .EOF) (p2 : Nat) {l : Local} (h : l.tape = none)
    (e : Env) :
    M.run (pError (opTok ty p2)) l e = (.error (mkParsingError (opMsg ty) e.tape.source 0), e) := by
  unfold pError
  rw [bindOk (run_tapeSource_top h e)]
  have h1 : (opTok ty p2).is .EOF = false := by
    unfold Token.is opTok
    simp [hty]
  simp only [h1, Bool.false_eq_true, if_false]
  rfl

/-- **leading_op** -/
theorem leading_op {c : Char} {tys : List TokType} (hM : MetaOK c tys)
    (hc1 : c ≠ '\\') (hc2 : shellblank c = false) (hc3 : c ≠ '#') (hc4 : (c == '\n') = false)
    (hc5 : (synClass c).metac = true)
    (hrej : ∀ ty ∈ tys, ty ≠ .EOF ∧ LR.realTables.action 0 ty.sym = none)
    (u : Str) (o : Opts) :
    ∃ ty ∈ tys, (parse (c :: u) o).1 = .exn (.parsing (opMsg ty) (c :: u) 0) := by
  obtain ⟨t, lN, eN, hnext, ⟨ty, hty, p2, rfl⟩, htape, hsrc⟩ := nextToken_op hM hc1 hc2 hc3 hc4 hc5 u o
  obtain ⟨hne, hact⟩ := hrej ty hty
  refine ⟨ty, hty, ?_⟩
  have hsym : symOfTok (opTok ty p2) = ty.sym := rfl
  have hsym0 : (ty.sym == LR.realTables.endTok) = false := by
    have h0 : ty.sym ≠ 0 := by unfold TokType.sym; rw [if_neg hne]; omega
    have he : LR.realTables.endTok = 0 := rfl
    rw [he]
    simpa using h0
  have hstep : Raises (mkParsingError (opMsg ty) (c :: u) 0)
      (LR.step LR.realTables (lrHooks (C07.nestedOf 63)) {}) (initLocal o)
      (initEnv (c :: u) o []) := by
    unfold LR.step
    have hd : LR.realTables.dflt (LR.topState ({} : LR.Cfg SVal).stack) = none := real_dflt0
    simp only [hd]
    have hla : M.run (lrHooks (C07.nestedOf 63)).next (initLocal o) (initEnv (c :: u) o []) =
        (.ok ((ty.sym, SVal.tok (opTok ty p2)), lN), eN) := by
      show M.run (nextToken >>= fun t => pure (symOfTok t, SVal.tok t)) _ _ = _
      rw [bindOk hnext]
      rfl
    refine Raises.bindOk hla ?_
    have hact' : LR.realTables.action (LR.topState ([] : LR.Stack SVal)) ty.sym = none := hact
    simp only [hsym0, Bool.and_false, Bool.false_and, Bool.false_eq_true, if_false, LR.topState,
      hact, hact']
    refine Raises.bindErr ?_
    show Raises _ (pError (opTok ty p2)) lN eN
    exact ⟨eN, by rw [pError_op ty hne p2 htape eN, hsrc]⟩
  exact parse_of_step_raises (Int.natCast_nonneg _) hstep

/-! ### `)` -/

theorem rparen_rejected : ∀ ty ∈ [TokType.RIGHT_PAREN],
    ty ≠ .EOF ∧ LR.realTables.action 0 ty.sym = none := by
  decide +kernel

/-- **C08_leading_rparen** (all lengths, all options): an input that starts with `)` is rejected
    with `ParsingError("unexpected token ')'", s, 0)`, whatever follows -/
theorem C08_leading_rparen (u : Str) (o : Opts) :
    (parse (')' :: u) o).1 = .exn (.parsing rparenMsg (')' :: u) 0) := by
  obtain ⟨ty, hty, h⟩ := leading_op metaOK_rparen (by decide) (by decide) (by decide) (by decide)
    (by decide) rparen_rejected u o
  rw [List.mem_singleton] at hty
  subst hty
  exact h

/-! ### `|` -/

theorem readtokenMeta_bar : readtokenMeta '|' = (do
    modify fun l => { l with ps := { l.ps with assignok := false } }
    let peek ← getc true
    if peek = some '|' then pure (some TokType.OR_OR)
    else if peek = some '&' then pure (some TokType.BAR_AND)
    else do
      ungetc peek
      pure (some TokType.BAR)) := by
  unfold readtokenMeta
  simp
  rfl

theorem metaOK_bar : MetaOK '|' [.OR_OR, .BAR_AND, .BAR] := by
  intro s l e h heol hlt hbs
  rw [readtokenMeta_bar]
  refine Returns.bindOk (C10.run_modify _ _ _) ?_
  have hP := h.post.ps { l.ps with assignok := false }
  refine Returns.bind ((getc_live ((h.live heol hlt hbs).ps { l.ps with assignok := false })).imp ?_)
  rintro p _ e1 ⟨rfl, _, g1, g2, g3⟩
  have hP1 := hP.getc g1 g2 (Nat.le_of_succ_le g3)
  by_cases h1 : p = some '|'
  · simp only [h1, if_true]
    exact Returns.pure ⟨⟨_, by simp, rfl⟩, hP1⟩
  · simp only [h1, if_false]
    by_cases h2 : p = some '&'
    · simp only [h2, if_true]
      exact Returns.pure ⟨⟨_, by simp, rfl⟩, hP1⟩
    · simp only [h2, if_false]
      refine Returns.bind ((ungetc_top hP1.tape g3 p).imp ?_)
      rintro _ l2 e2 ⟨u1, u2, u3, u4⟩
      exact Returns.pure ⟨⟨_, by simp, rfl⟩, hP1.ungetc u1 u2 u3 u4⟩

theorem bar_rejected : ∀ ty ∈ [TokType.OR_OR, TokType.BAR_AND, TokType.BAR],
    ty ≠ .EOF ∧ LR.realTables.action 0 ty.sym = none := by
  decide +kernel

/-- **C08_leading_bar** (all lengths, all options): an input that starts with `|` is rejected
    with "unexpected token '||'", "'|&'" or "'|'" at position 0, whatever follows -/
theorem C08_leading_bar (u : Str) (o : Opts) :
    ∃ ty ∈ [TokType.OR_OR, TokType.BAR_AND, TokType.BAR],
      (parse ('|' :: u) o).1 = .exn (.parsing (opMsg ty) ('|' :: u) 0) :=
  leading_op metaOK_bar (by decide) (by decide) (by decide) (by decide) (by decide) bar_rejected u o

end Bashlex.C08
