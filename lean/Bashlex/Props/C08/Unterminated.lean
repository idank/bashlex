/-
  C08: the scanners at end of input: generic facts and the single-quote instance (the other
  openers are in `DQuote.lean` (both quotes), `Brace.lean`, `Arith.lean`).

  A. every scanner (`_parse_matched_pair`, `_parse_comsub`):
     * `sat_matchedPairError`: the error function of the scanners always raises the ParsingError
       "unexpected EOF while looking for matching …" (`IsEOFMatching`);
     * `mpPre_eof`, `csA_eof`: in ANY state, an iteration whose `_getc` returns `None` (end of
       input) IS that error -- whatever the quoting state, nesting, comment or here-document mode;
     * `loop_raises`: an exception of an iteration is the exception of the loop;
     * `parseMatchedPair_closes`: a normal return of `_parse_matched_pair` has read its closing
       character (the returned text ends with it): without a closer there is no normal return.
  B. `scan_eof`: a scanner loop whose body only steps over plain characters runs to the end of the
     input and raises there, for ALL lengths.  `PlainScan P lfc rdq plain I` says what makes the
     body of the scanner for `P` such a step -- on a `plain` character, in the states `I`,
     `mpStep` appends it and `mpPost` leaves the parser object alone --; `PlainScan.raises`: then,
     from any state (top-level or nested parser) whose unread tape holds `plain` characters only,
     the scanner raises exactly `unexpected EOF while looking for matching …` at the end of the
     input.  The scanners for `'` (`plainScan_sq`, here), `"`, `` ` ``, `$((` and `${` are its
     instances.
-/
import Bashlex.Props.C10.Tape
import Bashlex.Props.C01.Basic
import Bashlex.Props.C06.SQTok
import Bashlex.Props.C03.RE.WScan2

namespace Bashlex.C08
open Bashlex Bashlex.M Bashlex.C10 Bashlex.C06S

/-! ## A. all scanners -/

/-- the message of `MatchedPairError` -/
def eofMsg (close : Char) : String :=
  s!"unexpected EOF while looking for matching {if close == '\'' then "\"'\"" else "'" ++ String.singleton close ++ "'"}"

/-- the ParsingError of an unterminated construct (or, were its position beyond the source, the
    assertion of `ParsingError.__init__` -- excluded by `C11`'s `no_init_assert`) -/
def IsEOFMatching (close : Char) (x : Exn) : Prop :=
  ∃ src p, x = mkParsingError (eofMsg close) src p

theorem matchedPairError_run {α : Type} (close : Char) (l : Local) (e : Env) :
    M.run (matchedPairError close : M α) l e =
      (.error (mkParsingError (eofMsg close) (tapeOf l e).source (((tapeOf l e).idx : Int) - 1)), e) := by
  cases l with
  | mk tape =>
    cases tape <;> rfl

theorem sat_matchedPairError {α : Type} (close : Char) :
    Sat (matchedPairError close : M α) (fun _ => False) (IsEOFMatching close) := by
  intro l e
  rw [matchedPairError_run]
  exact ⟨_, _, rfl⟩

/-- **end of input inside `_parse_matched_pair`**: in any state, if the `_getc` of the iteration
    returns `None`, the iteration raises the unexpected-EOF error -/
theorem mpPre_eof (P : MPParams) (lfc : Bool) (st : MPState) {l l' : Local} {e e' : Env}
    (h : M.run (getc (P.doublequotes != some '\'' && !st.passnextchar)) l e = (.ok (none, l'), e')) :
    M.run (mpPre P lfc st) l e =
      (.error (mkParsingError (eofMsg P.close) (tapeOf l' e').source (((tapeOf l' e').idx : Int) - 1)), e') := by
  rw [mpPre_eq, M.run_bind, h]
  simp only []
  rw [M.run_bind, matchedPairError_run]

/-- **end of input inside `_parse_comsub`** -/
theorem csA_eof (P : CSParams) (st : CSState) {l l' : Local} {e e' : Env}
    (h : M.run (getc (P.doublequotes != some '\'' && !st.insidecomment && !st.passnextchar)) l e =
      (.ok (none, l'), e')) :
    M.run (csA P st) l e =
      (.error (mkParsingError (eofMsg P.close) (tapeOf l' e').source (((tapeOf l' e').idx : Int) - 1)), e') := by
  unfold csA
  rw [M.run_bind, h]
  simp only []
  rw [M.run_bind, matchedPairError_run]

/-- an exception of an iteration is the exception of the loop -/
theorem loop_raises {σ α : Type} (site : String) (body : σ → M (σ ⊕ α)) (fuel : Nat) (s : σ)
    {l : Local} {e e' : Env} {x : Exn} (h : M.run (body s) l e = (.error x, e')) :
    M.run (M.loop site body (fuel + 1) s) l e = (.error x, e') := by
  rw [run_loop_succ, h]

/-- **a normal return of `_parse_matched_pair` has read its closing character** -/
theorem parseMatchedPair_closes : ∀ (fuel : Nat) (P : MPParams),
    Sat (parseMatchedPair fuel P) (fun r => r.getLast? = some P.close) := by
  intro fuel P
  refine (C03.RE.ends_pmp (G := (· = P.close)) fuel P rfl).weaken ?_ (fun _ h => h)
  rintro r ⟨c, h1, rfl⟩
  exact h1

/-! ## B. the single-quote scanner, all lengths -/

/-- the parameters `handleshellquote` passes for `'` -/
def sqParams : MPParams :=
  { doublequotes := some '\'', opn := '\'', close := '\'', parsingcommand := false }

/-- `Tape.getc` on a character: it is returned as it stands unless it is a backslash and
    continuation lines are removed -/
theorem tape_getc_char (t : Tape) (c : Char) (h : t.line[t.idx]? = some c) {rqn : Bool}
    (hc : rqn = false ∨ c ≠ '\\') (fuel : Nat) :
    t.getc rqn (fuel + 1) = .ok (some c, { t with idx := t.idx + 1 }) := by
  have hlt : t.idx < t.line.length := by
    rcases Nat.lt_or_ge t.idx t.line.length with h' | h'
    · exact h'
    · rw [List.getElem?_eq_none h'] at h; cases h
  have h' : t.line[t.idx] = c := by
    rw [List.getElem?_eq_getElem hlt] at h; exact Option.some.inj h
  unfold Tape.getc
  rcases hc with rfl | hc
  · simp [hlt, h']
  · have hb : (c == '\\') = false := by simpa using hc
    simp [hlt, h', hb]

theorem tape_getc_nb (t : Tape) (c : Char) (h : t.line[t.idx]? = some c) (hc : c ≠ '\\')
    (rqn : Bool) (fuel : Nat) :
    t.getc rqn (fuel + 1) = .ok (some c, { t with idx := t.idx + 1 }) :=
  tape_getc_char t c h (.inr hc) fuel

theorem tape_getc_end (t : Tape) (rqn : Bool) (h : t.line.length ≤ t.idx) (fuel : Nat) :
    t.getc rqn fuel = .ok (none, t) := by
  cases fuel with
  | zero => rfl
  | succ fuel =>
    unfold Tape.getc
    simp [Nat.not_lt.mpr h]

/-- the iteration at end of input -/
theorem pmpBody_eof (dfuel : Nat) (P : MPParams) (lfc rdq : Bool) (st : MPState) (l : Local) (e : Env)
    (hl : l.eolLookahead = none) (hend : (tapeOf l e).line.length ≤ (tapeOf l e).idx)
    (h3 : st.count ≠ 0) :
    M.run (pmpBody dfuel P lfc rdq st) l e =
      (.error (mkParsingError (eofMsg P.close) (tapeOf l e).source (((tapeOf l e).idx : Int) - 1)), e) := by
  have hg : M.run (getc (P.doublequotes != some '\'' && !st.passnextchar)) l e =
      (.ok (none, l), e) := by
    rw [run_getc _ l e hl, tape_getc_end _ _ hend]
    simp only [putL_self, putE_self]
  unfold pmpBody
  have hc : (st.count == 0) = false := by simpa using h3
  simp only [hc, Bool.false_eq_true, if_false]
  rw [M.run_bind, mpPre_eof P lfc st hg]

/-- **a scanner loop over plain characters runs to the end of the input**: if, in the states `I`,
    the loop body raises the unexpected-EOF error of `q` at the end of the line and on a plain
    character only moves the cursor one step (keeping `I`), then over a rest `u` of plain
    characters the loop raises that error at the end of the input (or runs out of the loop fuel
    when `u` is longer than the fuel) -- for every length, from every state (top-level or nested
    parser) -/
theorem scan_eof {body : MPState → M (MPState ⊕ Str)} {plain : Char → Prop} {I : MPState → Prop}
    {q : Char}
    (heof : ∀ st l e, l.eolLookahead = none → (tapeOf l e).line.length ≤ (tapeOf l e).idx → I st →
      M.run (body st) l e =
        (.error (mkParsingError (eofMsg q) (tapeOf l e).source (((tapeOf l e).idx : Int) - 1)), e))
    (hstep : ∀ st l e c, l.eolLookahead = none → (tapeOf l e).line[(tapeOf l e).idx]? = some c →
      plain c → I st → ∃ st' l' e', I st' ∧ l'.eolLookahead = none ∧
        tapeOf l' e' = { tapeOf l e with idx := (tapeOf l e).idx + 1 } ∧
        M.run (body st) l e = (.ok (.inl st', l'), e')) :
    ∀ (u : Str) (fuel : Nat) (st : MPState) (l : Local) (e : Env),
    l.eolLookahead = none → (tapeOf l e).idx ≤ (tapeOf l e).line.length →
    (tapeOf l e).line.drop (tapeOf l e).idx = u → (∀ x ∈ u, plain x) → I st →
    ∃ e', M.run (M.loop "_parse_matched_pair" body fuel st) l e =
      (.error (if u.length < fuel then
          mkParsingError (eofMsg q) (tapeOf l e).source (((tapeOf l e).line.length : Int) - 1)
        else .outOfFuel "_parse_matched_pair"), e') := by
  intro u
  induction u with
  | nil =>
    intro fuel st l e hl hle hu _ hI
    cases fuel with
    | zero => exact ⟨e, by rw [run_loop_zero]; simp⟩
    | succ fuel =>
      have hend : (tapeOf l e).line.length ≤ (tapeOf l e).idx := by
        have := congrArg List.length hu
        simp only [List.length_drop, List.length_nil] at this
        omega
      have hidx : (tapeOf l e).idx = (tapeOf l e).line.length := by omega
      refine ⟨e, ?_⟩
      rw [loop_raises _ _ _ _ (heof st l e hl hend hI), hidx]
      simp
  | cons c u ih =>
    intro fuel st l e hl hle hu hq hI
    cases fuel with
    | zero => exact ⟨e, by rw [run_loop_zero]; simp⟩
    | succ fuel =>
      obtain ⟨hlt, hc, hu1⟩ := C06S.drop_cons_facts hu
      obtain ⟨st', l', e1, hI', hl', htape, hrun⟩ :=
        hstep st l e c hl hc (hq c List.mem_cons_self) hI
      obtain ⟨e', he'⟩ := ih fuel st' l' e1 hl' (by rw [htape]; exact hlt) (by rw [htape]; exact hu1)
        (fun x hx => hq x (List.mem_cons_of_mem _ hx)) hI'
      refine ⟨e', ?_⟩
      rw [run_loop_succ, hrun]
      simp only []
      rw [he', htape]
      simp only [List.length_cons, Nat.add_lt_add_iff_right]
      rfl
/-- what one iteration of the scanner for `P` does on a `plain` character, in the states `I`:
    `mpStep` appends it (and `mpPost`, if reached, leaves `Local` and the tape alone) -/
structure PlainScan (P : MPParams) (lfc rdq : Bool) (plain : Char → Prop) (I : MPState → Prop) :
    Prop where
  init : mpInit P = pure (lfc, rdq)
  start : I { dolbracestate := if P.dolbrace then .param else .empty }
  count : ∀ {st}, I st → st.count ≠ 0
  nbs : ∀ {st c}, I st → plain c →
    (P.doublequotes != some '\'' && !st.passnextchar) = false ∨ c ≠ '\\'
  step : ∀ {st c}, I st → plain c →
    (∃ st', I st' ∧ mpStep P lfc st c = .cont st') ∨
    (∃ s st', I st' ∧ mpStep P lfc st c = .next s c ∧
      ∀ pmp pcs l e, ∃ e', M.run (mpPost pmp pcs P rdq s c) l e = (.ok (st', l), e') ∧
        tapeOf l e' = tapeOf l e)

variable {P : MPParams} {lfc rdq : Bool} {plain : Char → Prop} {I : MPState → Prop}

theorem PlainScan.body_step (h : PlainScan P lfc rdq plain I) (dfuel : Nat) {st : MPState}
    {l : Local} {e : Env} {c : Char} (hl : l.eolLookahead = none)
    (hc : (tapeOf l e).line[(tapeOf l e).idx]? = some c) (hp : plain c) (hI : I st) :
    ∃ st' l' e', I st' ∧ l'.eolLookahead = none ∧
      tapeOf l' e' = { tapeOf l e with idx := (tapeOf l e).idx + 1 } ∧
      M.run (pmpBody dfuel P lfc rdq st) l e = (.ok (.inl st', l'), e') := by
  have hg : M.run (getc (P.doublequotes != some '\'' && !st.passnextchar)) l e =
      (.ok (some c, putL l { tapeOf l e with idx := (tapeOf l e).idx + 1 }),
       putE l e { tapeOf l e with idx := (tapeOf l e).idx + 1 }) := by
    rw [run_getc _ l e hl, tape_getc_char _ c hc (h.nbs hI hp)]
  have hc0 : (st.count == 0) = false := by simpa using h.count hI
  have hpre : M.run (pmpBody dfuel P lfc rdq st) l e =
      M.run (do
        match mpStep P lfc st c with
        | .cont s => return .inl s
        | .done r => return .inr r
        | .next s c =>
          let s' ← mpPost (parseMatchedPair dfuel) (parseComsub dfuel) P rdq s c
          return .inl s')
        (putL l { tapeOf l e with idx := (tapeOf l e).idx + 1 })
        (putE l e { tapeOf l e with idx := (tapeOf l e).idx + 1 }) := by
    unfold pmpBody
    simp only [hc0, Bool.false_eq_true, if_false]
    rw [M.run_bind, mpPre_eq, M.run_bind, hg]
    simp only []
    rw [M.run_bind, M.run_pure]
    simp only []
    rw [M.run_pure]
    rfl
  rw [hpre]
  rcases h.step hI hp with ⟨st', hI', hh⟩ | ⟨s, st', hI', hh, hpost⟩
  · refine ⟨st', _, _, hI', ?_, tapeOf_put l e _, ?_⟩
    · rw [putL_eol]; exact hl
    · rw [hh]; rfl
  · obtain ⟨e', he', ht⟩ := hpost (parseMatchedPair dfuel) (parseComsub dfuel)
      (putL l { tapeOf l e with idx := (tapeOf l e).idx + 1 })
      (putE l e { tapeOf l e with idx := (tapeOf l e).idx + 1 })
    refine ⟨st', _, e', hI', ?_, ht.trans (tapeOf_put l e _), ?_⟩
    · rw [putL_eol]; exact hl
    · rw [hh]
      simp only []
      rw [M.run_bind, he']
      rfl

/-- **the scanner for `P` over plain characters**: unexpected EOF at the end of the input -/
theorem PlainScan.raises (h : PlainScan P lfc rdq plain I) (dfuel : Nat) (u : Str) (l : Local)
    (e : Env) (hl : l.eolLookahead = none) (hle : (tapeOf l e).idx ≤ (tapeOf l e).line.length)
    (hu : (tapeOf l e).line.drop (tapeOf l e).idx = u) (hq : ∀ x ∈ u, plain x)
    (hlen : u.length < 1073741824) :
    ∃ e', M.run (parseMatchedPair (dfuel + 1) P) l e =
      (.error (mkParsingError (eofMsg P.close) (tapeOf l e).source
        (((tapeOf l e).line.length : Int) - 1)), e') := by
  obtain ⟨e', he'⟩ := scan_eof (q := P.close) (plain := plain) (I := I)
    (fun st l e hl hend hI => pmpBody_eof dfuel P lfc rdq st l e hl hend (h.count hI))
    (fun st l e c hl hc hp hI => h.body_step dfuel hl hc hp hI)
    u 1073741824 _ l e hl hle hu hq h.start
  refine ⟨e', ?_⟩
  rw [pmp_succ, h.init, pure_bind]
  have hf : (loopFuel : M Nat) = pure 1073741824 := rfl
  rw [hf, pure_bind, he', if_pos hlen]

theorem plainScan_sq : PlainScan sqParams false false (· ≠ '\'')
    (fun st => st.insidecomment = false ∧ st.passnextchar = false ∧ st.count = 1) where
  init := rfl
  start := ⟨rfl, rfl, rfl⟩
  count hI := by rw [hI.2.2]; exact Nat.one_ne_zero
  nbs _ _ := .inl (by simp [sqParams])
  step := @fun st c hI hp => .inl ⟨{ st with ret := st.ret ++ [c] }, ⟨hI.1, hI.2.1, hI.2.2⟩,
    mpStep_sq_ch _ _ hp hI.1 hI.2.1 hI.2.2⟩

theorem parseMatchedPair_sq_raises (dfuel : Nat) (u : Str) (l : Local) (e : Env)
    (hl : l.eolLookahead = none) (hle : (tapeOf l e).idx ≤ (tapeOf l e).line.length)
    (hu : (tapeOf l e).line.drop (tapeOf l e).idx = u) (hq : '\'' ∉ u)
    (hlen : u.length < 1073741824) :
    ∃ e', M.run (parseMatchedPair (dfuel + 1) sqParams) l e =
      (.error (mkParsingError (eofMsg '\'') (tapeOf l e).source
        (((tapeOf l e).line.length : Int) - 1)), e') :=
  plainScan_sq.raises dfuel u l e hl hle hu (fun _ hx h => hq (h ▸ hx)) hlen

end Bashlex.C08
