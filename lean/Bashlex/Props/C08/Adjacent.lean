/-
  C08 (more families, all lengths): dangling / doubled control operators ANYWHERE in the
  token stream are never accepted -- including those where the engine first REDUCES on the second
  operator and finds the error later (`a & ;`, `a ; |`, `a && ; b` …), which `Reject.lean` does
  not cover.

  Grammar-level argument, kernel-checked on the regenerated grammar: FIRST / LAST / nullable
  certificates (`cert`, computed by iteration; the check `certOK` validates what it uses) give for
  every valid derivation tree: no pair of `badPairs` occurs as two ADJACENT terminals of its
  yield (`valid_noBad`).  With `engine_good`: whatever the engine consumed at a normal return
  contains no such adjacent pair (`C08_adjacent_never_accepted`), for every token source.

  NOT in `badPairs`, because the grammar DOES derive them adjacent: `pipeline_command →
  BANG list_terminator` ends in `;`, so `! ; ; a`, `! ; & a`, `! ; && a`, `a; ! ; || b` are
  sentences -- and the implementation accepts them (`#eval (parse "! ; ; a".toList {}).1` = parts,
  likewise the other three; checked).  Hence `; ;`, `; &`, `; &&`, `; ||` cannot be in the list;
  the rejection of `a; ;` (`#eval` = ParsingError "unexpected token ';'" @3) depends on the
  context and is not proved.
-/
import Bashlex.Props.C08.Balance
import Bashlex.LR.Pack

namespace Bashlex.C08
open Bashlex Bashlex.M Bashlex.LR
set_option linter.unusedSimpArgs false

/-! ### adjacency-free lists -/

def okp (bad : List (Nat × Nat)) (a b : Nat) : Bool := !bad.contains (a, b)

def NoBad (bad : List (Nat × Nat)) : List Nat → Prop
  | [] => True
  | [_] => True
  | a :: b :: r => okp bad a b = true ∧ NoBad bad (b :: r)

theorem noBad_append (bad : List (Nat × Nat)) : ∀ (u v : List Nat), NoBad bad u → NoBad bad v →
    (∀ a b, u.getLast? = some a → v.head? = some b → okp bad a b = true) → NoBad bad (u ++ v)
  | [], v, _, hv, _ => hv
  | [a], [], _, _, _ => trivial
  | [a], b :: r, _, hv, h => ⟨h a b rfl rfl, hv⟩
  | a :: b :: r, v, hu, hv, h =>
    ⟨hu.1, noBad_append bad (b :: r) v hu.2 hv (fun x y hx hy =>
      h x y (by rw [List.getLast?_cons_cons]; exact hx) hy)⟩

/-! ### certificates -/

structure Cert where
  nul : List Nat
  fst : List (List Nat)
  lst : List (List Nat)

namespace Cert
def isNul (C : Cert) (x : Nat) : Bool := C.nul.contains x
def fstOf (C : Cert) (x : Nat) : List Nat := C.fst.getD x []
def lstOf (C : Cert) (x : Nat) : List Nat := C.lst.getD x []

/-- possible first terminals of a sequence of symbols -/
def firsts (C : Cert) : List Nat → List Nat
  | [] => []
  | x :: r => C.fstOf x ++ (if C.isNul x then firsts C r else [])

/-- possible last terminals after a sequence of symbols, `prev` before it -/
def lastsAcc (C : Cert) : List Nat → List Nat → List Nat
  | prev, [] => prev
  | prev, x :: r => lastsAcc C (if C.isNul x then prev ++ C.lstOf x else C.lstOf x) r

/-- no bad pair at any junction of the sequence -/
def scan (C : Cert) (bad : List (Nat × Nat)) : List Nat → List Nat → Bool
  | _, [] => true
  | prev, x :: r =>
    prev.all (fun a => (C.fstOf x).all (fun b => okp bad a b)) &&
    scan C bad (if C.isNul x then prev ++ C.lstOf x else C.lstOf x) r

def subset (a b : List Nat) : Bool := a.all (fun x => b.contains x)

def prodOK (C : Cert) (bad : List (Nat × Nat)) (p : Nat × List Nat) : Bool :=
  (!(p.2.all C.isNul) || C.isNul p.1) && subset (C.firsts p.2) (C.fstOf p.1) &&
  subset (C.lastsAcc [] p.2) (C.lstOf p.1) && C.scan bad [] p.2

def certOK (C : Cert) (bad : List (Nat × Nat)) (nT : Nat) (prods : List (Nat × List Nat)) : Bool :=
  prods.all (C.prodOK bad) &&
  (List.range nT).all (fun x => (C.fstOf x).contains x && (C.lstOf x).contains x)
end Cert

/-- what the certificates say of a yield `y` of symbol `X` -/
def PY (C : Cert) (bad : List (Nat × Nat)) (X : Nat) (y : List Nat) : Prop :=
  (y = [] → C.isNul X = true) ∧ (∀ a, y.head? = some a → a ∈ C.fstOf X) ∧
  (∀ b, y.getLast? = some b → b ∈ C.lstOf X) ∧ NoBad bad y

theorem subset_mem {a b : List Nat} (h : Cert.subset a b = true) {x : Nat} (hx : x ∈ a) : x ∈ b := by
  unfold Cert.subset at h
  have := List.all_eq_true.mp h x hx
  simpa using this

theorem firsts_sound (C : Cert) (bad : List (Nat × Nat)) : ∀ (ks : List Tree),
    (∀ k ∈ ks, PY C bad k.root k.yield) →
    (Tree.yields ks = [] → (ks.map Tree.root).all C.isNul = true) ∧
    (∀ a, (Tree.yields ks).head? = some a → a ∈ C.firsts (ks.map Tree.root)) := by
  intro ks
  induction ks with
  | nil => intro _; exact ⟨fun _ => rfl, fun a h => by simp [Tree.yields] at h⟩
  | cons k ks ih =>
    intro hk
    have hk0 := hk k List.mem_cons_self
    obtain ⟨ih1, ih2⟩ := ih (fun k' h' => hk k' (List.mem_cons_of_mem _ h'))
    simp only [Tree.yields, List.map_cons, List.all_cons, Cert.firsts]
    refine ⟨?_, ?_⟩
    · intro h
      obtain ⟨h1, h2⟩ := List.append_eq_nil_iff.mp h
      rw [hk0.1 h1, ih1 h2]; rfl
    · intro a ha
      cases hy : k.yield with
      | nil =>
        rw [hy, List.nil_append] at ha
        rw [hk0.1 hy]
        simp only [if_true]
        exact List.mem_append_right _ (ih2 a ha)
      | cons c r =>
        rw [hy, List.cons_append] at ha
        simp only [List.head?_cons, Option.some.injEq] at ha
        exact List.mem_append_left _ (hk0.2.1 a (by rw [hy, ← ha]; rfl))

theorem scan_sound (C : Cert) (bad : List (Nat × Nat)) : ∀ (ks : List Tree) (prev u : List Nat),
    (∀ k ∈ ks, PY C bad k.root k.yield) → NoBad bad u → (∀ a, u.getLast? = some a → a ∈ prev) →
    C.scan bad prev (ks.map Tree.root) = true →
    NoBad bad (u ++ Tree.yields ks) ∧
    (∀ b, (u ++ Tree.yields ks).getLast? = some b → b ∈ C.lastsAcc prev (ks.map Tree.root)) := by
  intro ks
  induction ks with
  | nil =>
    intro prev u _ hu hl _
    simp only [Tree.yields, List.append_nil, List.map_nil, Cert.lastsAcc]
    exact ⟨hu, hl⟩
  | cons k ks ih =>
    intro prev u hk hu hl hs
    have hk0 := hk k List.mem_cons_self
    simp only [List.map_cons, Cert.scan, Bool.and_eq_true, List.all_eq_true] at hs
    obtain ⟨hs1, hs2⟩ := hs
    simp only [Tree.yields, List.map_cons, Cert.lastsAcc, ← List.append_assoc]
    refine ih _ (u ++ k.yield) (fun k' h' => hk k' (List.mem_cons_of_mem _ h')) ?_ ?_ hs2
    · refine noBad_append bad u k.yield hu hk0.2.2.2 ?_
      intro a b ha hb
      exact hs1 a (hl a ha) b (hk0.2.1 b hb)
    · intro a ha
      cases hy : k.yield with
      | nil =>
        rw [hy, List.append_nil] at ha
        rw [hk0.1 hy]
        simp only [if_true]
        exact List.mem_append_left _ (hl a ha)
      | cons c r =>
        rw [hy] at ha
        have hla : (c :: r).getLast? = some a := by
          rw [List.getLast?_append] at ha
          cases hl2 : (c :: r).getLast? with
          | none => simp at hl2
          | some z => rw [hl2] at ha; simpa using ha
        have := hk0.2.2.1 a (by rw [hy]; exact hla)
        split
        · exact List.mem_append_right _ this
        · exact this

/-- **soundness of the certificates** -/
theorem valid_PY {T : Tables} {C : Cert} {bad : List (Nat × Nat)}
    (hc : C.certOK bad T.nTerms T.prods = true) :
    ∀ {tr : Tree}, Tree.Valid T tr → PY C bad tr.root tr.yield := by
  unfold Cert.certOK at hc
  simp only [Bool.and_eq_true, List.all_eq_true] at hc
  obtain ⟨hprods, hterm⟩ := hc
  intro tr h
  induction h with
  | leaf s hs =>
    have := hterm s (List.mem_range.mpr hs)
    simp only [Bool.and_eq_true, List.contains_iff_mem] at this
    simp only [Tree.root, Tree.yield]
    refine ⟨fun h => (by cases h), ?_, ?_, trivial⟩
    · intro a ha; simp only [List.head?_cons, Option.some.injEq] at ha; rw [← ha]; exact this.1
    · intro b hb; simp only [List.getLast?_singleton, Option.some.injEq] at hb; rw [← hb]; exact this.2
  | node p lhs ks rhs hp hroots hk ih =>
    have hmem : (lhs, rhs) ∈ T.prods := List.mem_of_getElem? hp
    have hpo := hprods _ hmem
    unfold Cert.prodOK at hpo
    simp only [Bool.and_eq_true, Bool.or_eq_true, Bool.not_eq_true'] at hpo
    obtain ⟨⟨⟨h1, h2⟩, h3⟩, h4⟩ := hpo
    obtain ⟨f1, f2⟩ := firsts_sound C bad ks ih
    have hsc := scan_sound C bad ks [] [] ih trivial (fun a h => by cases h) (by rw [hroots]; exact h4)
    simp only [List.nil_append] at hsc
    rw [hroots] at f1 f2 hsc
    simp only [Tree.root, Tree.yield]
    refine ⟨?_, ?_, ?_, hsc.1⟩
    · intro hy
      rcases h1 with h1 | h1
      · rw [f1 hy] at h1; cases h1
      · exact h1
    · intro a ha; exact subset_mem h2 (f2 a ha)
    · intro b hb; exact subset_mem h3 (hsc.2 b hb)

/-! ### the certificates of the shell grammar -/

def nSyms : Nat := Gen.termNames.length + Gen.ntNames.length

def cert0 : Cert :=
  { nul := []
    fst := (List.range nSyms).map (fun x => if x < Gen.termNames.length then [x] else [])
    lst := (List.range nSyms).map (fun x => if x < Gen.termNames.length then [x] else []) }

def uni (a b : List Nat) : List Nat :=
  b.foldl (fun acc x => if acc.contains x then acc else acc ++ [x]) a

def certStep (C : Cert) : Cert :=
  Gen.prodTable.foldl (fun C p =>
    { nul := if p.2.all C.isNul && !C.isNul p.1 then C.nul ++ [p.1] else C.nul
      fst := C.fst.set p.1 (uni (C.fstOf p.1) (C.firsts p.2))
      lst := C.lst.set p.1 (uni (C.lstOf p.1) (C.lastsAcc [] p.2)) }) C

def certIter : Nat → Cert → Cert
  | 0, C => C
  | n + 1, C => certIter n (certStep C)

/-- FIRST / LAST / nullable of the regenerated grammar (untrusted: `cert_ok` checks them) -/
def cert : Cert := certIter 12 cert0

/-- pairs of control operators that no sentence holds adjacent -/
def badNames : List (String × String) :=
  let ops := ["SEMICOLON", "AMPERSAND", "AND_AND", "OR_OR", "BAR", "BAR_AND"]
  (ops.flatMap fun a => ops.map fun b => (a, b)).filter fun p =>
    !(p.1 == "SEMICOLON" && (p.2 == "SEMICOLON" || p.2 == "AMPERSAND" || p.2 == "AND_AND" ||
      p.2 == "OR_OR"))

def badPairs : List (Nat × Nat) := badNames.map fun p => (tnum p.1, tnum p.2)

/-! ### the same check on bit masks

`certOK cert` is a finite fact, but the kernel is slow on lists of lists: every `getD`, `set` and
`contains` is a walk, one unfolding per cell.  So the check is run on a second representation
(`BCert`): a set of terminals is a bit mask, a table of such sets one number with a row of 64 bits
per symbol, and the kernel's arithmetic on literals does unions and lookups in one step each.
`Sim` says that a `BCert` holds the same sets as a `Cert`; `certStep` and `certOK` respect it. -/

/-- `m` joined to row `x` of a table of 64-bit rows (`LR/Pack.lean`) -/
def addRow (F x m : Nat) : Nat := F ||| ((m % 2 ^ 64) <<< (64 * x))

/-- the mask `m` holds exactly the members of `l`, all below 64 -/
def Rep (l : List Nat) (m : Nat) : Prop := ∀ a, a ∈ l ↔ a < 64 ∧ m.testBit a = true

def Tab (L : List (List Nat)) (F : Nat) : Prop := ∀ x, Rep (L.getD x []) (row 64 F x)

theorem testBit_row_addRow (F x m y : Nat) {a : Nat} (ha : a < 64) :
    (row 64 (addRow F x m) y).testBit a = ((row 64 F y).testBit a || (decide (x = y) && m.testBit a)) := by
  simp only [testBit_row, addRow, Nat.testBit_or, Nat.testBit_shiftLeft, Nat.testBit_mod_two_pow, ha,
    decide_true, Bool.true_and]
  by_cases hxy : x = y
  · subst hxy
    simp [ha]
  · have : ¬(64 * y + a ≥ 64 * x ∧ 64 * y + a - 64 * x < 64) := by omega
    simp only [hxy, decide_false, Bool.false_and, Bool.or_false]
    by_cases h1 : 64 * y + a ≥ 64 * x
    · have h2 : ¬ 64 * y + a - 64 * x < 64 := fun h => this ⟨h1, h⟩
      simp [h1, h2]
    · simp [h1]

theorem rep_nil : Rep [] 0 := fun a => by simp

theorem rep_append {l l' : List Nat} {m m' : Nat} (h : Rep l m) (h' : Rep l' m') :
    Rep (l ++ l') (m ||| m') := fun a => by
  rw [List.mem_append, h a, h' a, Nat.testBit_or, Bool.or_eq_true, and_or_left]

theorem mem_uni {x : Nat} : ∀ {l' l : List Nat}, x ∈ uni l l' ↔ x ∈ l ∨ x ∈ l'
  | [], l => by simp [uni]
  | y :: l', l => by
    have ih := @mem_uni x l'
    have hy : x ∈ (if l.contains y then l else l ++ [y]) ↔ x ∈ l ∨ x = y := by
      split
      · rename_i hc
        have hc : y ∈ l := by simpa using hc
        exact ⟨Or.inl, fun h => h.elim id (fun e => e ▸ hc)⟩
      · simp
    unfold uni at ih ⊢
    rw [List.foldl_cons, ih, hy, List.mem_cons, or_assoc]

theorem rep_uni {l l' : List Nat} {m m' : Nat} (h : Rep l m) (h' : Rep l' m') :
    Rep (uni l l') (m ||| m') := fun a => by
  rw [mem_uni, h a, h' a, Nat.testBit_or, Bool.or_eq_true, and_or_left]

theorem tab_addRow {L : List (List Nat)} {F x m : Nat} {l' : List Nat} (h : Tab L F) (h' : Rep l' m)
    (hx : x < L.length) : Tab (L.set x (uni (L.getD x []) l')) (addRow F x m) := by
  intro y a
  have hg : (L.set x (uni (L.getD x []) l')).getD y [] =
      if x = y then uni (L.getD x []) l' else L.getD y [] := by
    simp only [List.getD_eq_getElem?_getD, List.getElem?_set, hx, if_true]
    split <;> rfl
  rw [hg]
  by_cases ha : a < 64
  · rw [testBit_row_addRow F x m y ha]
    by_cases hxy : x = y
    · subst hxy
      simp only [if_true, decide_true, Bool.true_and]
      rw [← Nat.testBit_or]
      exact rep_uni (h x) h' a
    · simp only [hxy, if_false, decide_false, Bool.false_and, Bool.or_false]
      exact h y a
  · have hl : ∀ l n, Rep l n → a ∉ l := fun l n hr hm => ha ((hr a).mp hm).1
    constructor
    · intro hm
      split at hm
      · exact absurd hm (hl _ _ (rep_uni (h x) h'))
      · exact absurd hm (hl _ _ (h y))
    · intro hm
      exact absurd hm.1 ha

structure BCert where
  nul : Nat
  fst : Nat
  lst : Nat

namespace BCert
def isNul (B : BCert) (x : Nat) : Bool := B.nul.testBit x

def firsts (B : BCert) : List Nat → Nat
  | [] => 0
  | x :: r => row 64 B.fst x ||| (if B.isNul x then firsts B r else 0)

def lastsAcc (B : BCert) : Nat → List Nat → Nat
  | prev, [] => prev
  | prev, x :: r => lastsAcc B (if B.isNul x then prev ||| row 64 B.lst x else row 64 B.lst x) r

def scan (B : BCert) (bad : List (Nat × Nat)) : Nat → List Nat → Bool
  | _, [] => true
  | prev, x :: r =>
    bad.all (fun p => !(prev.testBit p.1 && (row 64 B.fst x).testBit p.2)) &&
    scan B bad (if B.isNul x then prev ||| row 64 B.lst x else row 64 B.lst x) r

def prodOK (B : BCert) (bad : List (Nat × Nat)) (p : Nat × List Nat) : Bool :=
  (!(p.2.all B.isNul) || B.isNul p.1) && (B.firsts p.2 ||| row 64 B.fst p.1 == row 64 B.fst p.1) &&
  (B.lastsAcc 0 p.2 ||| row 64 B.lst p.1 == row 64 B.lst p.1) && B.scan bad 0 p.2

def certOK (B : BCert) (bad : List (Nat × Nat)) (nT : Nat) (prods : List (Nat × List Nat)) : Bool :=
  prods.all (B.prodOK bad) &&
  (List.range nT).all (fun x => (row 64 B.fst x).testBit x && (row 64 B.lst x).testBit x)

def step (prods : List (Nat × List Nat)) (B : BCert) : BCert :=
  prods.foldl (fun B p =>
    { nul := if p.2.all B.isNul && !B.isNul p.1 then B.nul ||| 2 ^ p.1 else B.nul
      fst := addRow B.fst p.1 (B.firsts p.2)
      lst := addRow B.lst p.1 (B.lastsAcc 0 p.2) }) B

/-- The comparison is there for the kernel: it has to compute both tables of a round before the next
    round starts; otherwise the unevaluated rounds nest deeper than its recursion limit. -/
def iter (prods : List (Nat × List Nat)) : Nat → BCert → BCert
  | 0, B => B
  | n + 1, B =>
    bif (B.step prods).fst == (B.step prods).lst then iter prods n (B.step prods)
    else iter prods n (B.step prods)
end BCert

/-- `B` holds the sets of `C`, whose two tables have `n` rows -/
structure Sim (n : Nat) (C : Cert) (B : BCert) : Prop where
  nul : C.isNul = B.isNul
  fst : Tab C.fst B.fst
  lst : Tab C.lst B.lst
  nfst : C.fst.length = n
  nlst : C.lst.length = n

theorem Sim.firsts {n : Nat} {C : Cert} {B : BCert} (h : Sim n C B) :
    ∀ ps, Rep (C.firsts ps) (B.firsts ps)
  | [] => rep_nil
  | x :: r => by
    unfold Cert.firsts BCert.firsts
    rw [h.nul]
    refine rep_append (h.fst x) ?_
    split
    · exact h.firsts r
    · exact rep_nil

theorem Sim.lastsAcc {n : Nat} {C : Cert} {B : BCert} (h : Sim n C B) :
    ∀ ps {prev m}, Rep prev m → Rep (C.lastsAcc prev ps) (B.lastsAcc m ps)
  | [], _, _, hp => hp
  | x :: r, _, _, hp => by
    unfold Cert.lastsAcc BCert.lastsAcc
    rw [h.nul]
    refine h.lastsAcc r ?_
    split
    · exact rep_append hp (h.lst x)
    · exact h.lst x

theorem Sim.prod {n : Nat} {C : Cert} {B : BCert} (h : Sim n C B) {p : Nat × List Nat} (hp : p.1 < n) :
    Sim n
      { nul := if p.2.all C.isNul && !C.isNul p.1 then C.nul ++ [p.1] else C.nul
        fst := C.fst.set p.1 (uni (C.fstOf p.1) (C.firsts p.2))
        lst := C.lst.set p.1 (uni (C.lstOf p.1) (C.lastsAcc [] p.2)) }
      { nul := if p.2.all B.isNul && !B.isNul p.1 then B.nul ||| 2 ^ p.1 else B.nul
        fst := addRow B.fst p.1 (B.firsts p.2)
        lst := addRow B.lst p.1 (B.lastsAcc 0 p.2) } where
  nul := by
    funext x
    have hx : C.nul.contains x = B.nul.testBit x := congrFun h.nul x
    change (if (p.2.all C.isNul && !C.isNul p.1) = true then C.nul ++ [p.1] else C.nul).contains x =
      (if (p.2.all B.isNul && !B.isNul p.1) = true then B.nul ||| 2 ^ p.1 else B.nul).testBit x
    rw [h.nul]
    split
    · rw [List.contains_append, hx, Nat.testBit_or, Nat.testBit_two_pow]
      simp [eq_comm]
    · exact hx
  fst := tab_addRow h.fst (h.firsts p.2) (h.nfst ▸ hp)
  lst := tab_addRow h.lst (h.lastsAcc p.2 rep_nil) (h.nlst ▸ hp)
  nfst := by simp [h.nfst]
  nlst := by simp [h.nlst]

theorem Sim.step {n : Nat} : ∀ {prods : List (Nat × List Nat)} {C : Cert} {B : BCert}, Sim n C B →
    (∀ p ∈ prods, p.1 < n) → Sim n
      (prods.foldl (fun C p =>
        { nul := if p.2.all C.isNul && !C.isNul p.1 then C.nul ++ [p.1] else C.nul
          fst := C.fst.set p.1 (uni (C.fstOf p.1) (C.firsts p.2))
          lst := C.lst.set p.1 (uni (C.lstOf p.1) (C.lastsAcc [] p.2)) }) C)
      (B.step prods)
  | [], _, _, h, _ => h
  | p :: ps, _, _, h, hp =>
    Sim.step (prods := ps) (h.prod (hp p List.mem_cons_self))
      (fun q hq => hp q (List.mem_cons_of_mem _ hq))

theorem Sim.certStep {n : Nat} {C : Cert} {B : BCert} (h : Sim n C B)
    (hp : ∀ p ∈ Gen.prodTable, p.1 < n) : Sim n (certStep C) (B.step Gen.prodTable) :=
  h.step hp

theorem Sim.iter {n : Nat} (hp : ∀ p ∈ Gen.prodTable, p.1 < n) :
    ∀ (k : Nat) {C : Cert} {B : BCert}, Sim n C B → Sim n (certIter k C) (B.iter Gen.prodTable k)
  | 0, _, _, h => h
  | k + 1, C, B, h => by
    unfold certIter BCert.iter
    rw [Bool.cond_self]
    exact Sim.iter hp k (h.certStep hp)

theorem tab_pack_map {f : Nat → List Nat} {g : Nat → Nat} (h : ∀ x, Rep (f x) (g x)) (l : List Nat) :
    Tab (l.map f) (pack 64 (l.map g)) := by
  intro x a
  rw [testBit_row_pack]
  simp only [List.getD_eq_getElem?_getD, List.getElem?_map]
  cases l[x]? with
  | none => simp
  | some y => simpa using h y a

def bcert0 : BCert :=
  let d := pack 64 ((List.range nSyms).map fun x => if x < Gen.termNames.length then 2 ^ x else 0)
  { nul := 0, fst := d, lst := d }

theorem sim0 : Sim nSyms cert0 bcert0 := by
  have hT : Gen.termNames.length ≤ 64 := by decide
  have hd : Tab ((List.range nSyms).map fun x => if x < Gen.termNames.length then [x] else [])
      (pack 64 ((List.range nSyms).map fun x => if x < Gen.termNames.length then 2 ^ x else 0)) := by
    refine tab_pack_map (fun x a => ?_) _
    split
    · rw [List.mem_singleton, Nat.testBit_two_pow]
      constructor
      · rintro rfl
        exact ⟨by omega, by simp⟩
      · intro h
        simpa [eq_comm] using h.2
    · simp
  exact ⟨by funext x; simp [Cert.isNul, BCert.isNul, cert0, bcert0], hd, hd, by simp [cert0], by simp [cert0]⟩

theorem subset_of_rep {a b : List Nat} {m n : Nat} (ha : Rep a m) (hb : Rep b n)
    (h : (m ||| n == n) = true) : Cert.subset a b = true := by
  unfold Cert.subset
  rw [List.all_eq_true]
  intro x hx
  obtain ⟨h64, hm⟩ := (ha x).mp hx
  rw [List.contains_iff_mem, hb x, ← eq_of_beq h, Nat.testBit_or, hm]
  exact ⟨h64, rfl⟩

theorem Sim.scan {n : Nat} {C : Cert} {B : BCert} (h : Sim n C B) (bad : List (Nat × Nat)) :
    ∀ ps {prev m}, Rep prev m → B.scan bad m ps = true → C.scan bad prev ps = true
  | [], _, _, _, _ => rfl
  | x :: r, prev, m, hp, hs => by
    unfold BCert.scan at hs
    unfold Cert.scan
    rw [h.nul]
    rw [Bool.and_eq_true, List.all_eq_true] at hs
    rw [Bool.and_eq_true]
    refine ⟨?_, h.scan bad r ?_ hs.2⟩
    · rw [List.all_eq_true]
      intro a ha
      rw [List.all_eq_true]
      intro b hb
      unfold okp
      cases hc : bad.contains (a, b) with
      | false => rfl
      | true =>
        have := hs.1 (a, b) (List.contains_iff_mem.mp hc)
        rw [((hp a).mp ha).2, ((h.fst x b).mp hb).2] at this
        exact absurd this (by decide)
    · split
      · exact rep_append hp (h.lst x)
      · exact h.lst x

theorem Sim.certOK {n : Nat} {C : Cert} {B : BCert} (h : Sim n C B) {bad : List (Nat × Nat)} {nT : Nat}
    {prods : List (Nat × List Nat)} (hB : B.certOK bad nT prods = true) :
    C.certOK bad nT prods = true := by
  unfold BCert.certOK at hB
  unfold Cert.certOK
  simp only [Bool.and_eq_true, List.all_eq_true] at hB ⊢
  refine ⟨fun p hp => ?_, fun x hx => ?_⟩
  · have := hB.1 p hp
    unfold BCert.prodOK at this
    unfold Cert.prodOK
    simp only [Bool.and_eq_true] at this ⊢
    obtain ⟨⟨⟨h1, h2⟩, h3⟩, h4⟩ := this
    exact ⟨⟨⟨h.nul ▸ h1, subset_of_rep (h.firsts p.2) (h.fst p.1) h2⟩,
      subset_of_rep (h.lastsAcc p.2 rep_nil) (h.lst p.1) h3⟩, h.scan bad p.2 rep_nil h4⟩
  · have := hB.2 x hx
    have lt : ∀ F, (row 64 F x).testBit x = true → x < 64 := fun F hF => by
      rw [testBit_row, Bool.and_eq_true, decide_eq_true_eq] at hF
      exact hF.1
    exact ⟨List.contains_iff_mem.mpr ((h.fst x x).mpr ⟨lt _ this.1, this.1⟩),
      List.contains_iff_mem.mpr ((h.lst x x).mpr ⟨lt _ this.2, this.2⟩)⟩

theorem prods_lt : ∀ p ∈ Gen.prodTable, p.1 < nSyms :=
  List.all_eq_true.mp (by decide : (Gen.prodTable.all fun p => decide (p.1 < nSyms)) = true) |>
    fun h p hp => of_decide_eq_true (h p hp)

theorem bits_ok :
    (bcert0.iter Gen.prodTable 12).certOK badPairs realTables.nTerms realTables.prods = true := by
  decide +kernel

theorem cert_ok : cert.certOK badPairs realTables.nTerms realTables.prods = true :=
  (Sim.iter prods_lt 12 sim0).certOK bits_ok

theorem bad_not_nl : badPairs.all (fun p => p.1 != realTables.nlTok) = true := by decide +kernel

/-- **no valid derivation tree has two adjacent control operators of `badPairs` in its yield** -/
theorem valid_noBad {tr : Tree} (h : Tree.Valid realTables tr) : NoBad badPairs tr.yield :=
  (valid_PY cert_ok h).2.2.2

theorem noBad_nl : ∀ (pre : List Nat), pre.all (· == realTables.nlTok) = true → NoBad badPairs pre
  | [], _ => trivial
  | [_], _ => trivial
  | a :: b :: r, h => by
    simp only [List.all_cons, Bool.and_eq_true, beq_iff_eq] at h
    refine ⟨?_, noBad_nl (b :: r) (by simp [h.2.1, h.2.2])⟩
    have := List.all_eq_true.mp bad_not_nl
    unfold okp
    simp only [Bool.not_eq_true', List.contains_eq_mem, decide_eq_false_iff_not]
    intro hm
    have := this _ hm
    simp [h.1] at this

theorem sentence_noBad {c : List Nat} (h : Sentence c) : NoBad badPairs c := by
  obtain ⟨tr, pre, hv, _, hc, hpre⟩ := h
  rw [hc]
  refine noBad_append _ pre tr.yield (noBad_nl pre hpre) (valid_noBad hv) ?_
  intro a b ha _
  have hmem : a ∈ pre := List.mem_of_getLast? ha
  have ha' : a = realTables.nlTok := by
    have := List.all_eq_true.mp hpre a hmem
    simpa using this
  have := List.all_eq_true.mp bad_not_nl
  unfold okp
  simp only [Bool.not_eq_true', List.contains_eq_mem, decide_eq_false_iff_not]
  intro hm
  have := this _ hm
  simp [ha'] at this

/-- **C08_adjacent_never_accepted**: real tables and actions, EVERY token source and nested
    parser: what the engine consumed at a normal return holds no two adjacent control operators
    of `badPairs` -- `& ;`, `& &`, `; |`, `&& &&`, `&& ;`, `| |`, `|| &`, … anywhere -/
theorem C08_adjacent_never_accepted (np : NestedParse) (next : M (Nat × SVal)) (fuel : Nat) :
    Sat (LR.run realTables { (lrHooks np) with next := next } fuel)
      (fun res => NoBad badPairs (consumedOf res)) (fun _ => True) := by
  refine (engine_good np next fuel).weaken ?_ (fun _ h => h)
  intro res h
  cases res with
  | accepted v tr c b => exact sentence_noBad h.sentence
  | blank k c => exact noBad_nl c h

end Bashlex.C08
