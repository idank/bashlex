/-
  C08 (text level, double quote): an unterminated double quote is rejected, for ALL
  lengths: `C08_unterminated_dquote`: input `w ++ "\"" ++ u` with `w` plain and `u` free of
  `"`, backslash, `$` and backquote.  (With these characters the scanner recurses into nested
  scanners / skips an escaped quote; the general statement is `parseMatchedPair_closes` +
  `mpPre_eof`.)
  C08 (text level, backquote): an unterminated backquote is rejected, for ALL lengths:
  `C08_unterminated_bquote`: input `w ++ "`" ++ u` with `w` plain and `u` free of backquote and
  backslash.  Same development (the scanner parameters differ:
  `parsingcommand = true`, no nested scanners since `open = '`'`).
-/
import Bashlex.Props.C08.Text

namespace Bashlex.C08
open Bashlex Bashlex.M Bashlex.C10 Bashlex.C06S

/-- a character the `"…"` scanner just appends -/
def dqPlain (c : Char) : Bool := c != '"' && c != '\\' && c != '$' && c != '`'

/- Exclusions on `u` (witnesses checked with `#eval`):
   * `$`:  `(parse "a\"$(".toList {}).1` = ParsingError "… looking for matching ')'" @4: still
     rejected, but by the nested scanner, with another message                     -- necessary
   * backquote: `(parse "a\"`".toList {}).1` = "… matching '`'" @3                 -- necessary
   * backslash: `(parse "a\"b\\".toList {}).1` = "… matching '\"'" @4: the statement holds, the
     proof does not cover it (`passnextchar`, continuation lines)                 -- proof limit -/
theorem dqPlain_nbs {c : Char} (hp : dqPlain c = true) : c ≠ '\\' := by
  unfold dqPlain at hp
  simp only [Bool.and_eq_true, bne_iff_ne, ne_eq] at hp
  exact hp.1.1.2

theorem plainScan_dq : PlainScan (PQ '"') false true (dqPlain · = true)
    (fun st => st.insidecomment = false ∧ st.passnextchar = false ∧ st.count = 1 ∧
      st.sawdollar = false) where
  init := rfl
  start := ⟨rfl, rfl, rfl, rfl⟩
  count hI := by rw [hI.2.2.1]; exact Nat.one_ne_zero
  nbs _ hp := .inr (dqPlain_nbs hp)
  step := @fun st c hI hp => by
    have hc := hp
    unfold dqPlain at hc
    simp only [Bool.and_eq_true, bne_iff_ne, ne_eq] at hc
    exact .inr ⟨{ st with ret := st.ret ++ [c] }, { st with ret := st.ret ++ [c] },
      ⟨hI.1, hI.2.1, hI.2.2.1, hI.2.2.2⟩, mpStep_dq_ch _ _ hc.1.1.1 hc.1.1.2 hI.1 hI.2.1 hI.2.2.1,
      fun pmp pcs l e => ⟨e, by rw [mpPost_dq pmp pcs { st with ret := st.ret ++ [c] } c hI.2.2.2 hc.2 hc.1.2, M.run_pure], rfl⟩⟩

/-- **C08_unterminated_dquote** (all lengths, all options): a word of plain characters, then a
    double quote that is never closed, followed by text free of `"`, backslash, `$`, backquote:
    `parse` raises `unexpected EOF while looking for matching '"'` -/
theorem C08_unterminated_dquote (w u : Str) (o : Opts) (hw : ∀ x ∈ w, plainChar x = true)
    (hu : ∀ x ∈ u, dqPlain x = true) (hwl : w.length < 1073741824)
    (hul : u.length + 1 < 1073741824) :
    (parse (w ++ '"' :: u) o).1 =
      .exn (.parsing (eofMsg '"') (w ++ '"' :: u)
        (((Tape.ofInput (w ++ '"' :: u)).line.length : Int) - 1)) :=
  unterminated_plainScan quoteChar_dquote plainScan_dq (by decide) w u o hw hu hwl hul

/-- a character the backquote scanner just appends -/
def bqPlain (c : Char) : Bool := c != '`' && c != '\\'

theorem mpStep_bq (st : MPState) (c : Char) (hc : bqPlain c = true) (h1 : st.insidecomment = false)
    (h2 : st.passnextchar = false) (h3 : st.count = 1) :
    mpStep (PQ '`') false st c = .next { st with ret := st.ret ++ [c] } c := by
  unfold bqPlain at hc
  simp only [Bool.and_eq_true, bne_iff_ne, ne_eq] at hc
  obtain ⟨c1, c2⟩ := hc
  have e1 : (c == '`') = false := by simpa using c1
  have e2 : (c == '\\') = false := by simpa using c2
  unfold mpStep mpStepM mpTailM
  simp [PQ, h1, h2, h3, e1, e2]

theorem mpPost_bq (pmp : MPParams → M Str) (pcs : CSParams → M Str) (st : MPState) (c : Char) :
    mpPost pmp pcs (PQ '`') false st c = pure { st with sawdollar := c == '$' } := by
  unfold mpPost
  simp [PQ]

theorem bqPlain_nbs {c : Char} (hp : bqPlain c = true) : c ≠ '\\' := by
  unfold bqPlain at hp
  simp only [Bool.and_eq_true, bne_iff_ne, ne_eq] at hp
  exact hp.2

theorem plainScan_bq : PlainScan (PQ '`') false false (bqPlain · = true)
    (fun st => st.insidecomment = false ∧ st.passnextchar = false ∧ st.count = 1) where
  init := rfl
  start := ⟨rfl, rfl, rfl⟩
  count hI := by rw [hI.2.2]; exact Nat.one_ne_zero
  nbs _ hp := .inr (bqPlain_nbs hp)
  step := @fun st c hI hp => .inr ⟨{ st with ret := st.ret ++ [c] },
    { st with ret := st.ret ++ [c], sawdollar := c == '$' }, ⟨hI.1, hI.2.1, hI.2.2⟩,
    mpStep_bq _ _ hp hI.1 hI.2.1 hI.2.2,
    fun pmp pcs l e => ⟨e, by rw [mpPost_bq, M.run_pure], rfl⟩⟩

/-- **C08_unterminated_bquote** (all lengths, all options): a word of plain characters, then a
    backquote that is never closed, followed by text of `bqPlain` characters: `parse` raises
    the unexpected-EOF ParsingError for the backquote -/
theorem C08_unterminated_bquote (w u : Str) (o : Opts) (hw : ∀ x ∈ w, plainChar x = true)
    (hu : ∀ x ∈ u, bqPlain x = true) (hwl : w.length < 1073741824)
    (hul : u.length + 1 < 1073741824) :
    (parse (w ++ '`' :: u) o).1 =
      .exn (.parsing (eofMsg '`') (w ++ '`' :: u)
        (((Tape.ofInput (w ++ '`' :: u)).line.length : Int) - 1)) :=
  unterminated_plainScan quoteChar_bquote (plainScan_bq) (by decide) w u o hw hu hwl hul

end Bashlex.C08
