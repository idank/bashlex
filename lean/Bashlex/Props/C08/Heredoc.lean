/-
  C08: an unterminated here-document is rejected.

  From `Props/C10.lean` (`gather_spec`: `gatherheredocuments` IS the pure function `specGather`;
  `specGather_cons`; `specHeredoc_lines`): when the oldest queued here-document redirect has a
  delimiter that no line of the rest of the input equals (`NoDelimLine`, lines as
  `readline(False)` splits them, tab-stripped for `<<-`), `gatherheredocuments` raises
  ParsingError "here-document at line 0 delimited by end-of-file (wanted …)" -- in strict mode
  always (`C08_heredoc_strict`), in non-strict mode whenever the body has begun, i.e. the input
  is not exhausted at the point where the body would start (`C08_heredoc_unterminated`).
  For top-level and nested parsers alike (the uniform tape view `tapeOf`).
-/
import Bashlex.Props.C10

namespace Bashlex.C08
open Bashlex Bashlex.M Bashlex.C10
set_option linter.unusedVariables false

/-- no line of `s` (as successive `readline(False)` calls split it) equals the delimiter -/
def NoDelimLine (delim : Str) (kill : Bool) (s : Str) : Prop :=
  ∀ n ls r, readLines n s = some (ls, r) → ∀ x ∈ ls, (heredocLine kill x).dropLast ≠ delim

/-- without a delimiter line there is no document (converse of `specHeredoc_none`) -/
theorem specHeredoc_none_of_noDelim {line delim : Str} {start : Nat} {kill : Bool}
    (h : NoDelimLine delim kill (line.drop start)) : specHeredoc line start delim kill = none := by
  cases hs : specHeredoc line start delim kill with
  | none => rfl
  | some w =>
    obtain ⟨v, i⟩ := w
    obtain ⟨ls, dl, r, hrl, _, _, hdl, _⟩ := specHeredoc_lines hs
    exact absurd hdl (h _ _ _ hrl dl (by simp))

/-- `NoDelimLine` is exactly the condition under which the reader fails -/
theorem noDelim_iff {line delim : Str} {start : Nat} {kill : Bool} :
    NoDelimLine delim kill (line.drop start) ↔ specHeredoc line start delim kill = none :=
  ⟨specHeredoc_none_of_noDelim, fun h n ls r hl => specHeredoc_none h hl⟩

/- Witnesses (checked with `#eval`): `(parse "cat <<E".toList {}).1` = ParsingError "here-document at
   line 0 delimited by end-of-file (wanted 'E')" @8 (source = the line buffer `cat <<E\n`);
   `(parse "cat <<E".toList {strict := false}).1` = parts (1): non-strict mode with the input
   exhausted where the body would start is accepted -- hence the disjunction `hs` below;
   `(parse "cat <<E\nx".toList {strict := false}).1` = the ParsingError: body begun, both modes. -/

/-- **C08_heredoc_unterminated**: the oldest pending here-document has no delimiter line in the
    rest of the input, and the mode is strict or the body has begun: `gatherheredocuments` raises
    the end-of-file ParsingError (source = the whole line buffer, position = its length) -/
theorem C08_heredoc_unterminated {l : Local} {e : Env} (h : Ready l e) {id : Nat} {kill : Bool}
    {q : List (Nat × Bool)} {cell : RedirCell} (hq : l.redirstack = (id, kill) :: q)
    (hcell : l.store[id]? = some cell)
    (hs : strictOf l e = true ∨
      skipContIdx (tapeOf l e).line (tapeOf l e).idx ≠ (tapeOf l e).line.length)
    (hno : NoDelimLine cell.delim kill
      ((tapeOf l e).line.drop (skipContIdx (tapeOf l e).line (tapeOf l e).idx))) :
    M.run gatherheredocuments l e =
      (.error (eofError cell.delim (tapeOf l e).line), atE l e (tapeOf l e).line.length) := by
  rw [gather_spec h, hq, specGather_cons]
  have hc : ¬ (skipContIdx (tapeOf l e).line (tapeOf l e).idx = (tapeOf l e).line.length ∧
      strictOf l e = false) := by
    rintro ⟨h1, h2⟩
    rcases hs with hs | hs
    · rw [hs] at h2; cases h2
    · exact hs h1
  rw [if_neg hc, hcell]
  simp only []
  rw [specHeredoc_none_of_noDelim hno]
  rfl

/-- **C08_heredoc_strict**: in strict mode an unterminated here-document is never accepted -/
theorem C08_heredoc_strict {l : Local} {e : Env} (h : Ready l e) {id : Nat} {kill : Bool}
    {q : List (Nat × Bool)} {cell : RedirCell} (hq : l.redirstack = (id, kill) :: q)
    (hcell : l.store[id]? = some cell) (hs : strictOf l e = true)
    (hno : NoDelimLine cell.delim kill
      ((tapeOf l e).line.drop (skipContIdx (tapeOf l e).line (tapeOf l e).idx))) :
    ∃ e', M.run gatherheredocuments l e =
      (.error (.parsing ("here-document at line 0 delimited by end-of-file (wanted " ++
        pyReprStr cell.delim ++ ")") (tapeOf l e).line (tapeOf l e).line.length), e') :=
  ⟨_, C08_heredoc_unterminated h hq hcell (Or.inl hs) hno⟩

/-- the exception of `gatherheredocuments` is the exception of the token (`_readtoken` calls it
    on NEWLINE) and of every action that calls it: exceptions propagate through `>>=` -/
theorem heredoc_propagates {α : Type} {l : Local} {e e' : Env} {x : Exn} (f : Unit → M α)
    (h : M.run gatherheredocuments l e = (.error x, e')) :
    M.run (gatherheredocuments >>= f) l e = (.error x, e') := by
  rw [M.run_bind, h]

end Bashlex.C08
