/-
  C08 (text level, `$((`): an unterminated arithmetic expansion / nested command
  substitution opener is rejected, for ALL lengths: `C08_unterminated_arith`: input
  `w ++ "$((" ++ u` with `w` plain and `u` free of `)`, backslash, `$` and quote characters
  (`(` is allowed: it only raises the nesting count): `parse` raises
  "unexpected EOF while looking for matching ')'".  (`_parse_comsub` sees the second `(` and
  hands over to `_parse_matched_pair`; the general `$(…` goes through the reserved-word state
  machine of `_parse_comsub` and is not covered: `csA_eof` is the statement for it.)
-/
import Bashlex.Props.C08.Brace

namespace Bashlex.C08
open Bashlex Bashlex.M Bashlex.C10
set_option linter.unusedSimpArgs false

/-- the parameters `_parse_comsub` passes on for `$((` -/
def arParams : MPParams := { doublequotes := none, opn := '(', close := ')' }

def arPlain (c : Char) : Bool :=
  c != ')' && c != '\\' && c != '$' && !(synClass c).quote

theorem mpStep_ar (st : MPState) (c : Char) (hc : arPlain c = true) (h1 : st.insidecomment = false)
    (h2 : st.passnextchar = false) (h3 : st.count ≠ 0) :
    mpStep arParams false st c =
      .next { st with count := if c = '(' then st.count + 1 else st.count,
                      ret := st.ret ++ [c] } c := by
  unfold arPlain at hc
  simp only [Bool.and_eq_true, bne_iff_ne, ne_eq, Bool.not_eq_true'] at hc
  obtain ⟨⟨⟨c1, c2⟩, c3⟩, c4⟩ := hc
  have e1 : (c == ')') = false := by simpa using c1
  have e2 : (c == '\\') = false := by simpa using c2
  unfold mpStep mpStepM mpTailM
  by_cases hp : c = '('
  · subst hp
    simp [arParams, h1, h2, h3]
  · have e3 : (c == '(') = false := by simpa using hp
    simp [arParams, h1, h2, h3, e1, e2, e3, hp, c1]

theorem arPlain_facts {c : Char} (hp : arPlain c = true) :
    c ≠ '\\' ∧ c ≠ '$' ∧ (synClass c).quote = false := by
  unfold arPlain at hp
  simp only [Bool.and_eq_true, bne_iff_ne, ne_eq, Bool.not_eq_true'] at hp
  exact ⟨hp.1.1.2, hp.1.2, hp.2⟩

theorem plainScan_ar : PlainScan arParams false false (arPlain · = true)
    (fun st => st.insidecomment = false ∧ st.passnextchar = false ∧ st.count ≠ 0) where
  init := rfl
  start := ⟨rfl, rfl, by decide⟩
  count hI := hI.2.2
  nbs _ hp := .inr (arPlain_facts hp).1
  step := @fun st c hI hp => .inr ⟨_,
    { st with count := (if c = '(' then st.count + 1 else st.count), ret := st.ret ++ [c], sawdollar := false },
    ⟨hI.1, hI.2.1, by show (if c = '(' then st.count + 1 else st.count) ≠ 0
                      have := hI.2.2
                      split <;> omega⟩,
    mpStep_ar _ _ hp hI.1 hI.2.1 hI.2.2,
    fun pmp pcs l e => ⟨_, run_mpPost_plain pmp pcs (P := arParams) (by decide) rfl _
      (arPlain_facts hp).2.2 (arPlain_facts hp).2.1 l e, tapeOf_touch _ _ _⟩⟩

/-! ### the iteration of `_readtokenword` on `$` followed by `((` -/

theorem getc_char2 {T : Tape} {l : Local} {e : Env} (heol : l.eolLookahead = none)
    (htape : tapeOf l e = T) (rqn : Bool) {d : Char} (hd : T.line[T.idx]? = some d)
    (hnb : d ≠ '\\') :
    ∃ l' e', M.run (getc rqn) l e = (.ok (some d, l'), e') ∧ l'.eolLookahead = none ∧
      tapeOf l' e' = { T with idx := T.idx + 1 } := by
  refine ⟨putL l { T with idx := T.idx + 1 }, putE l e { T with idx := T.idx + 1 }, ?_, ?_, ?_⟩
  · rw [run_getc _ l e heol, htape, tape_getc_nb T d hd hnb]
  · rw [putL_eol]; exact heol
  · exact tapeOf_put _ _ _

theorem ungetc_back {T : Tape} {l : Local} {e : Env} (heol : l.eolLookahead = none)
    (htape : tapeOf l e = T) (h0 : T.idx ≠ 0) (hle : T.idx ≤ T.line.length) (c : Option Char) :
    ∃ l' e', M.run (ungetc c) l e = (.ok ((), l'), e') ∧ l'.eolLookahead = none ∧
      tapeOf l' e' = { T with idx := T.idx - 1 } := by
  have hu : T.ungetc = (true, { T with idx := T.idx - 1 }) := by
    unfold Tape.ungetc
    have hne : T.line.isEmpty = false := by
      cases hl : T.line with
      | nil => rw [hl] at hle; simp at hle; exact absurd hle h0
      | cons a r => rfl
    simp [hne, h0, hle]
  refine ⟨putL l { T with idx := T.idx - 1 }, putE l e { T with idx := T.idx - 1 }, ?_, ?_, ?_⟩
  · rw [run_ungetc, htape, hu]
  · rw [putL_eol]; exact heol
  · exact tapeOf_put _ _ _

theorem run_parseComsub_paren (fuel : Nat) (P : CSParams) {l l1 l2 : Local} {e e1 e2 : Env}
    (h1 : M.run (getc false) l e = (.ok (some '(', l1), e1))
    (h2 : M.run (ungetc (some '(')) l1 e1 = (.ok ((), l2), e2)) :
    M.run (parseComsub (fuel + 1) P) l e =
      M.run (parseMatchedPair fuel
        { doublequotes := P.doublequotes, opn := P.opn, close := P.close }) l2 e2 := by
  unfold parseComsub
  rw [bindOk h1, bindOk h2]
  simp

theorem trigger_arith {u : Str} (hq : ∀ x ∈ u, arPlain x = true) (hlen : u.length + 1 < 1073741824) :
    Trigger '$' ')' ('(' :: '(' :: u) := by
  refine ⟨by decide, by decide, ?_⟩
  intro T l e hI st hc hpn hle hu
  obtain ⟨_, hd, hdrop1⟩ := C06S.drop_cons_facts hu
  obtain ⟨hlen2, hd1, _⟩ := C06S.drop_cons_facts hdrop1
  have hI2 : TInv T l (touch (touch e '$') '$') := (hI.touch '$').touch '$'
  -- `_getc` in `handleshellexp`
  obtain ⟨l1, e1, hg1, heol1, ht1⟩ := getc_char2 hI2.eol hI2.tape true hd (by decide)
  -- `_push_delimiter`, then the two tape moves of `_parse_comsub`
  have ht1' : tapeOf { l1 with dstack := l1.dstack ++ ['('] } e1 = { T with idx := T.idx + 1 } := ht1
  obtain ⟨l2, e2, hg2, heol2, ht2⟩ := getc_char2 (l := { l1 with dstack := l1.dstack ++ ['('] })
    heol1 ht1' false (d := '(') hd1 (by decide)
  obtain ⟨l3, e3, hg3, heol3, ht3⟩ := ungetc_back heol2 ht2 (show T.idx + 1 + 1 ≠ 0 by omega)
    (show T.idx + 1 + 1 ≤ T.line.length by omega) (some '(')
  have ht3' : tapeOf l3 e3 = { T with idx := T.idx + 1 } := by
    rw [ht3]
    show ({ line := T.line, idx := T.idx + 1 + 1 - 1, added := T.added } : Tape) = _
    simp
  have hraise := plainScan_ar.raises 1048574 ('(' :: u) l3 e3 heol3
    (by rw [ht3']; simp; omega) (by rw [ht3']; exact hdrop1)
    (by
      intro x hx
      rcases List.mem_cons.mp hx with rfl | hx
      · decide
      · exact hq x hx)
    (by simp; omega)
  obtain ⟨e', he'⟩ := hraise
  rw [ht3'] at he'
  refine ⟨e', rwStep_dollar st hc hpn ?_⟩
  unfold handleshellexp
  rw [bindOk hg1]
  have hcond : ((some '(' : Option Char) == some '(' ||
      (('$' : Char) == '$' && ((some '(' : Option Char) == some '{' || (some '(' : Option Char) == some '['))) = true := by
    decide
  simp only [hcond, if_true]
  have hp1 : ((some '(' : Option Char) == some '{') = false := by decide
  have hp2 : ((some '(' : Option Char) == some '(') = true := by decide
  simp only [hp1, hp2, Bool.false_eq_true, if_false, if_true]
  unfold pushDelimiter
  rw [bindOk (C10.run_modify _ l1 e1), bindOk (run_depthFuel _ _)]
  first
    | (refine bindErr ?_
       rw [run_parseComsub_paren 1048575 _ hg2 hg3])
    | (refine bindErr (bindErr ?_)
       rw [run_parseComsub_paren 1048575 _ hg2 hg3])
  rw [hI.ds]
  exact he'

/-- **C08_unterminated_arith** (all lengths, all options): a word of plain characters, then `$((`
    that is never closed, followed by `arPlain` text: `parse` raises
    "unexpected EOF while looking for matching ')'" -/
theorem C08_unterminated_arith (w u : Str) (o : Opts) (hw : ∀ x ∈ w, plainChar x = true)
    (hu : ∀ x ∈ u, arPlain x = true) (hwl : w.length < 1073741824)
    (hul : u.length + 2 < 1073741824) :
    (parse (w ++ '$' :: '(' :: '(' :: u) o).1 =
      .exn (.parsing (eofMsg ')') (w ++ '$' :: '(' :: '(' :: u)
        (((Tape.ofInput (w ++ '$' :: '(' :: '(' :: u)).line.length : Int) - 1)) := by
  exact unterminated_scan (pre := ['(', '(']) (plain := (arPlain · = true)) (by decide) 1
    (fun _ hv hl => trigger_arith hv hl) w u o hw hu hwl hul

end Bashlex.C08
