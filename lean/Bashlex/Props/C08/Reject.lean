/-
  C08: token-level rejection families, for ALL lengths, from the tables bashlex really
  uses, for an ARBITRARY token source and arbitrary semantic actions.

  A token source is described by a ghost predicate `Src ts l e` ("the terminals still to be
  delivered are `ts`") that `H.next` respects (`Stream`).  Then

  * `run_rejects_leading`: a stream `NEWLINE^n x …` with `x` one of the 25 terminals state 0 has
    no action on (`leadingRejected`: all control operators, closers, `then`/`fi`/… ) makes the
    engine call the error function on `x`; it never returns;
  * `loop_rejects_pair`: from EVERY engine configuration that waits for a token and can shift
    `r`, the stream `r x …` is rejected when `pairRejected r [x]` (decided on the tables: in every
    state, the state entered by shifting `r` has no default reduction and no action on `x`);
  * `redir_pairs`: that holds for every redirection operator `r` and every terminal `x` that is
    not WORD (NUMBER, DASH as well after `<&`, `>&`) -- "a redirection without target", `$end`
    included; `ctrl_pairs`: doubled / dangling control operators.
  * `run_rejects_first_pair`: the run-level corollary for streams `NEWLINE^n r x …`.
-/
import Bashlex.LR.Real
import Bashlex.Model.Parse
import Bashlex.Proofs.HoareS
import Bashlex.LR.Pack

namespace Bashlex.C08
open Bashlex Bashlex.M Bashlex.LR

variable {V : Type}

/-! ### token sources as streams -/

/-- `H.next` delivers the terminals of the ghost stream, in order, without raising -/
structure Stream (H : Hooks V) (Src : List Nat → Local → Env → Prop) : Prop where
  next : ∀ t ts, SatS H.next (Src (t :: ts)) (fun la l e => la.1 = t ∧ Src ts l e) (fun _ => False)

/-- the error function always raises (bashlex's `p_error` does: `M.satS_onError`, read as
    `real_errRaises` in `Instances.lean`) -/
def ErrRaises (H : Hooks V) (E : Exn → Prop) : Prop :=
  ∀ la, Sat (H.onError la) (fun _ => False) E

/-! ### single steps of the engine -/

/-- the engine fetches `x`, finds no action: the error function is called, nothing returns -/
theorem step_error {T : Tables} {H : Hooks V} {Src : List Nat → Local → Env → Prop} {E : Exn → Prop}
    (hS : Stream H Src) (hE : ErrRaises H E) (c : Cfg V) (x : Nat) (ts : List Nat)
    (hla : c.la = none) (hd : T.dflt (topState c.stack) = none)
    (hact : T.action (topState c.stack) x = none)
    (hnb : topState c.stack ≠ 0 ∨ x ≠ T.endTok) :
    SatS (step T H c) (Src (x :: ts)) (fun _ _ _ => False) E := by
  unfold step
  simp only [hd, hla]
  refine SatS.bind ((hS.next x ts).weaken (fun _ _ h => h) (fun _ _ _ h => h) (fun _ h => h.elim)) ?_
  rintro ⟨la, lv⟩
  refine SatS.assume (fun (hx : la = x) => ?_)
  subst hx
  have hb : (topState c.stack == 0 && la == T.endTok &&
      c.stack.all (fun e => H.isNl e.val)) = false := by
    rcases hnb with h | h
    · have : (topState c.stack == 0) = false := by simpa using h
      simp [this]
    · have : (la == T.endTok) = false := by simpa using h
      simp [this]
  simp only [hb, Bool.false_eq_true, if_false, hact]
  refine SatS.bind (Q := fun _ _ _ => False)
    ((SatS.of_sat (hE (la, lv)) _).weaken (fun _ _ h => h) (fun _ _ _ h => h) (fun _ h => h)) ?_
  intro _ l e hf
  exact hf.elim

/-- the engine fetches `r` and shifts it: next configuration waits for a token in state `t` -/
theorem step_shift {T : Tables} {H : Hooks V} {Src : List Nat → Local → Env → Prop} {E : Exn → Prop}
    (hS : Stream H Src) (c : Cfg V) (r t : Nat) (ts : List Nat)
    (hla : c.la = none) (hd : T.dflt (topState c.stack) = none)
    (hact : T.action (topState c.stack) r = some (.shift t))
    (hr0 : r ≠ T.endTok) (hrn : r ≠ T.nlTok) :
    SatS (step T H c) (Src (r :: ts))
      (fun res l e => (∃ c', res = .inl c' ∧ c'.la = none ∧ topState c'.stack = t) ∧ Src ts l e) E := by
  unfold step
  simp only [hd, hla]
  refine SatS.bind ((hS.next r ts).weaken (fun _ _ h => h) (fun _ _ _ h => h) (fun _ h => h.elim)) ?_
  rintro ⟨la, lv⟩
  refine SatS.assume (fun (hx : la = r) => ?_)
  subst hx
  have h1 : (la == T.endTok) = false := by simpa using hr0
  have h2 : (la == T.nlTok) = false := by simpa using hrn
  simp only [h1, h2, Bool.and_false, Bool.false_and, Bool.false_eq_true, if_false, hact]
  exact SatS.pure (fun l e h => ⟨⟨_, rfl, rfl, rfl⟩, h⟩)

/-- a NEWLINE fetched in state 0 (empty stack) is dropped: the stack stays empty -/
theorem step_nl {T : Tables} {H : Hooks V} {Src : List Nat → Local → Env → Prop} {E : Exn → Prop}
    (hS : Stream H Src) (c : Cfg V) (t : Nat) (ts : List Nat)
    (hla : c.la = none) (hstk : c.stack = []) (hd : T.dflt 0 = none)
    (hact : T.action 0 T.nlTok = some (.shift t)) (hne : T.nlTok ≠ T.endTok) :
    SatS (step T H c) (Src (T.nlTok :: ts))
      (fun res l e => (∃ c', res = .inl c' ∧ c'.la = none ∧ c'.stack = []) ∧ Src ts l e) E := by
  unfold step
  simp only [hstk, topState, hd, hla]
  refine SatS.bind ((hS.next T.nlTok ts).weaken (fun _ _ h => h) (fun _ _ _ h => h) (fun _ h => h.elim)) ?_
  rintro ⟨la, lv⟩
  refine SatS.assume (fun (hx : la = T.nlTok) => ?_)
  simp only [hx]
  have h1 : (T.nlTok == T.endTok) = false := by simpa using hne
  simp only [h1, Bool.and_false, Bool.false_and, Bool.false_eq_true, if_false, hact,
    beq_self_eq_true, Bool.and_self, if_true]
  exact SatS.pure (fun l e h => ⟨⟨_, rfl, rfl, rfl⟩, h⟩)

/-! ### the loop -/

theorem loop_succ {σ α : Type} (site : String) (body : σ → M (σ ⊕ α)) (fuel : Nat) (s : σ) :
    M.loop site body (fuel + 1) s = (body s >>= fun r =>
      match r with
      | .inl s' => M.loop site body fuel s'
      | .inr a => pure a) := rfl

/-- leading NEWLINEs are skipped, then whatever holds of the loop from an empty stack holds -/
theorem loop_skip_nl {T : Tables} {H : Hooks V} {Src : List Nat → Local → Env → Prop} {E : Exn → Prop}
    (hS : Stream H Src) {t0 : Nat} (hd : T.dflt 0 = none)
    (hact : T.action 0 T.nlTok = some (.shift t0)) (hne : T.nlTok ≠ T.endTok)
    {Q : Res V → Local → Env → Prop} (rest : List Nat) (k : Nat)
    (hrest : ∀ c : Cfg V, c.la = none → c.stack = [] →
      SatS (M.loop "LRParser.parse" (step T H) k c) (Src rest) Q E) :
    ∀ (n : Nat) (c : Cfg V), c.la = none → c.stack = [] →
      SatS (M.loop "LRParser.parse" (step T H) (n + k) c)
        (Src (List.replicate n T.nlTok ++ rest)) Q E := by
  intro n
  induction n with
  | zero => intro c h1 h2; simpa using hrest c h1 h2
  | succ n ih =>
    intro c h1 h2
    rw [show n + 1 + k = (n + k) + 1 by omega, loop_succ]
    refine SatS.bind (step_nl hS c t0 _ h1 h2 hd hact hne) ?_
    intro r
    refine SatS.assume (fun hc => ?_)
    obtain ⟨c', rfl, h1', h2'⟩ := hc
    exact ih c' h1' h2'

/-! ### table facts -/

/-- terminals (other than `$end`, handled by the all-NEWLINE return) on which state 0 has no
    action -/
def leadingRejected : List Nat :=
  (List.range realRaw.nTerms).filter fun x => x != realRaw.endTok && (realTables.action 0 x).isNone

/-- by name: every control operator, every closer, every non-initial reserved word -/
theorem leadingRejected_names : leadingRejected.map (fun x => Gen.termNames.getD x "") =
    ["THEN", "ELSE", "ELIF", "FI", "ESAC", "DO", "DONE", "COND_END", "IN", "TIMEOPT", "TIMEIGN",
     "ARITH_FOR_EXPRS", "COND_CMD", "AND_AND", "OR_OR", "SEMI_SEMI", "SEMI_AND", "SEMI_SEMI_AND",
     "BAR_AND", "RIGHT_CURLY", "RIGHT_PAREN", "BAR", "SEMICOLON", "DASH", "AMPERSAND"] := by
  decide +kernel

theorem leadingRejected_spec {x : Nat} (hx : x ∈ leadingRejected) :
    realTables.action 0 x = none ∧ x ≠ realTables.endTok := by
  unfold leadingRejected at hx
  simp only [List.mem_filter, Bool.and_eq_true, bne_iff_ne, ne_eq, Option.isNone_iff_eq_none] at hx
  exact ⟨hx.2.2, hx.2.1⟩

theorem real_dflt0 : realTables.dflt 0 = none := by decide +kernel
theorem real_nl0 : ∃ t, realTables.action 0 realTables.nlTok = some (.shift t) :=
  ⟨3, by decide +kernel⟩
theorem real_nl_ne : realTables.nlTok ≠ realTables.endTok := by decide

/-- in every row: if `r` is shifted to `t`, then `t ≠ 0`, `t` has no default reduction and no
    action on any of `xs` -/
def pairRejected (r : Nat) (xs : List Nat) : Bool :=
  r != realRaw.endTok && r != realRaw.nlTok &&
  Gen.actionRows.all fun row =>
    match rowLookup row r with
    | none => true
    | some code =>
      match decodeAct code with
      | .shift t => t != 0 && (realRaw.dfltOf t).isNone &&
          xs.all (fun x => (rowLookup (realRaw.actionRow t) x).isNone)
      | _ => true

theorem actionRow_mem {s la : Nat} {a : Act} (h : realTables.action s la = some a) :
    realRaw.actionRow s ∈ Gen.actionRows := by
  show Gen.actionRows.getD s [] ∈ Gen.actionRows
  by_cases hlt : s < Gen.actionRows.length
  · simp [List.getD_eq_getElem?_getD, List.getElem?_eq_getElem hlt]
  · exfalso
    have hnil : realRaw.actionRow s = [] := by
      show Gen.actionRows.getD s [] = []
      simp [List.getD_eq_getElem?_getD, List.getElem?_eq_none (Nat.le_of_not_lt hlt)]
    have : realTables.action s la = none := by
      show (rowLookup (realRaw.actionRow s) la).map decodeAct = none
      rw [hnil]; rfl
    rw [this] at h; cases h

theorem pairRejected_spec {r : Nat} {xs : List Nat} (h : pairRejected r xs = true)
    {s t : Nat} (hs : realTables.action s r = some (.shift t)) :
    r ≠ realTables.endTok ∧ r ≠ realTables.nlTok ∧ t ≠ 0 ∧ realTables.dflt t = none ∧
      ∀ x ∈ xs, realTables.action t x = none := by
  unfold pairRejected at h
  simp only [Bool.and_eq_true, bne_iff_ne, ne_eq, List.all_eq_true] at h
  obtain ⟨⟨h0, hn⟩, hall⟩ := h
  refine ⟨h0, hn, ?_⟩
  have hrow := hall _ (actionRow_mem hs)
  have hs' : (rowLookup (realRaw.actionRow s) r).map decodeAct = some (.shift t) := hs
  cases hl : rowLookup (realRaw.actionRow s) r with
  | none => rw [hl] at hs'; cases hs'
  | some code =>
    rw [hl] at hs' hrow
    simp only [Option.map_some, Option.some.injEq] at hs'
    simp only [hs', Bool.and_eq_true, bne_iff_ne, ne_eq, Option.isNone_iff_eq_none,
      List.all_eq_true] at hrow
    obtain ⟨⟨ht0, hdf⟩, hxs⟩ := hrow
    refine ⟨ht0, hdf, ?_⟩
    intro x hx
    show (rowLookup (realRaw.actionRow t) x).map decodeAct = none
    rw [hxs x hx]; rfl

/-- `pairRejected p.1 p.2` for all `p ∈ ps` in one walk over the rows: an entry whose terminal is
    none of the `p.1` (a mask test) is passed over -/
def pairsRejected (ps : List (Nat × List Nat)) : Bool :=
  ps.all (fun p => p.1 != realRaw.endTok && p.1 != realRaw.nlTok) &&
  Gen.actionRows.all fun row => row.all fun e =>
    !(mask (ps.map (·.1))).testBit (e / 4096) ||
    match decodeAct (e % 4096) with
    | .shift t => t != 0 && (realRaw.dfltOf t).isNone &&
        ps.all fun p => p.1 != e / 4096 ||
          (realRaw.actionRow t).all fun e' => !p.2.contains (e' / 4096)
    | _ => true

theorem pairsRejected_sound {ps : List (Nat × List Nat)} (h : pairsRejected ps = true)
    {p : Nat × List Nat} (hp : p ∈ ps) : pairRejected p.1 p.2 = true := by
  unfold pairsRejected at h
  simp only [Bool.and_eq_true, List.all_eq_true] at h
  unfold pairRejected
  simp only [Bool.and_eq_true, List.all_eq_true]
  refine ⟨h.1 p hp, fun row hrow => ?_⟩
  cases hl : rowLookup row p.1 with
  | none => rfl
  | some code =>
    obtain ⟨e, he, hk, hv⟩ := rowLookup_mem hl
    have hm : (mask (ps.map (·.1))).testBit (e / 4096) = true := by
      rw [testBit_mask, hk]
      exact List.contains_iff_mem.mpr (List.mem_map.mpr ⟨p, hp, rfl⟩)
    have := h.2 row hrow e he
    rw [hm, Bool.not_true, Bool.false_or, hv] at this
    show (match decodeAct code with
      | .shift t => t != 0 && (realRaw.dfltOf t).isNone &&
          p.2.all (fun x => (rowLookup (realRaw.actionRow t) x).isNone)
      | _ => true) = true
    cases hd : decodeAct code with
    | shift t =>
      rw [hd] at this
      simp only [Bool.and_eq_true, List.all_eq_true] at this ⊢
      refine ⟨this.1, fun x hx => ?_⟩
      have hpe := this.2 p hp
      rw [hk, bne_self_eq_false, Bool.false_or, List.all_eq_true] at hpe
      cases hx' : rowLookup (realRaw.actionRow t) x with
      | none => rfl
      | some v =>
        obtain ⟨e', he', hk', _⟩ := rowLookup_mem hx'
        have := hpe e' he'
        rw [hk', List.contains_iff_mem.mpr hx] at this
        cases this
    | reduce _ => rfl
    | accept => rfl

/-! ### the families -/

def termNum (name : String) : Nat := Gen.termNames.idxOf name

/-- the redirection operators -/
def redirTerms : List Nat :=
  ["GREATER", "LESS", "GREATER_GREATER", "LESS_LESS", "LESS_AND", "LESS_LESS_LESS", "GREATER_AND",
   "LESS_LESS_MINUS", "AND_GREATER", "AND_GREATER_GREATER", "LESS_GREATER", "GREATER_BAR"].map termNum

/-- what may follow a redirection operator: a WORD; after `<&` and `>&` also NUMBER and `-` -/
def redirAllowed (r : Nat) : List Nat :=
  if r = termNum "LESS_AND" ∨ r = termNum "GREATER_AND" then
    [termNum "WORD", termNum "NUMBER", termNum "DASH"]
  else [termNum "WORD"]

def redirBad (r : Nat) : List Nat :=
  (List.range realRaw.nTerms).filter fun x => !(redirAllowed r).contains x

/-- **a redirection without target is rejected in every state** (table fact): wherever a
    redirection operator is shifted, the state entered has no default reduction and no action on
    any terminal but WORD (NUMBER, DASH) -- `$end`, NEWLINE, every operator and reserved word
    included -/
theorem redir_pairs : redirTerms.all (fun r => pairRejected r (redirBad r)) = true := by
  have h : pairsRejected (redirTerms.map fun r => (r, redirBad r)) = true := by decide +kernel
  rw [List.all_eq_true]
  exact fun r hr => pairsRejected_sound h (p := (r, redirBad r)) (List.mem_map.mpr ⟨r, hr, rfl⟩)

/- `(parse "a; ;".toList {}).1` = ParsingError "unexpected token ';'" @3 and
   `(parse "a && && b".toList {}).1` = "unexpected token '&&'" @5 (checked with `#eval`): both
   rejected; `&& &&` is covered by `ctrl_pairs`, `; ;` is NOT (the state after `;` reduces
   `list_terminator` on `;` before the error is found). -/

/-- doubled / dangling control operators that are rejected directly (table fact).  NOT in the
    list, because the state after the first operator *reduces* on the second and the error is
    found later (not covered here): `; ;`, `; &&`, `& ;` … -/
def ctrlPairs : List (String × List String) :=
  [("AND_AND", ["$end", "AND_AND", "OR_OR", "BAR", "BAR_AND", "SEMICOLON", "AMPERSAND", "SEMI_SEMI",
                "RIGHT_PAREN", "RIGHT_CURLY", "THEN", "DO", "DONE", "FI", "ESAC"]),
   ("OR_OR", ["$end", "AND_AND", "OR_OR", "BAR", "BAR_AND", "SEMICOLON", "AMPERSAND", "SEMI_SEMI",
              "RIGHT_PAREN", "RIGHT_CURLY", "THEN", "DO", "DONE", "FI", "ESAC"]),
   ("BAR", ["$end", "AND_AND", "OR_OR", "BAR", "BAR_AND", "SEMICOLON", "AMPERSAND", "SEMI_SEMI",
            "RIGHT_PAREN", "RIGHT_CURLY", "THEN", "DO", "DONE", "FI", "ESAC", "BANG", "TIME"]),
   ("BAR_AND", ["$end", "AND_AND", "OR_OR", "BAR", "BAR_AND", "SEMICOLON", "AMPERSAND", "SEMI_SEMI",
                "RIGHT_PAREN", "RIGHT_CURLY", "THEN", "DO", "DONE", "FI", "ESAC", "BANG", "TIME"]),
   ("SEMI_SEMI", ["$end", "AND_AND", "OR_OR", "BAR", "SEMICOLON", "AMPERSAND", "SEMI_SEMI",
                  "RIGHT_PAREN", "RIGHT_CURLY"]),
   ("LEFT_PAREN", ["$end", "RIGHT_CURLY", "AND_AND", "OR_OR", "BAR", "SEMICOLON", "AMPERSAND"])]

theorem ctrl_pairs :
    ctrlPairs.all (fun p => pairRejected (termNum p.1) (p.2.map termNum)) = true := by
  have h : pairsRejected (ctrlPairs.map fun p => (termNum p.1, p.2.map termNum)) = true := by
    decide +kernel
  rw [List.all_eq_true]
  exact fun p hp => pairsRejected_sound h (p := (termNum p.1, p.2.map termNum))
    (List.mem_map.mpr ⟨p, hp, rfl⟩)

/-! ### run-level theorems, arbitrary token source -/

/-- **from every configuration that waits for a token and can shift `r`, the stream `r x …` is
    rejected**: the error function is called on `x`, the engine does not return -/
theorem loop_rejects_pair {H : Hooks V} {Src : List Nat → Local → Env → Prop} {E : Exn → Prop}
    (hS : Stream H Src) (hE : ErrRaises H E) {r : Nat} {xs : List Nat}
    (hp : pairRejected r xs = true) {x : Nat} (hx : x ∈ xs) (rest : List Nat)
    (c : Cfg V) (hla : c.la = none) (hd : realTables.dflt (topState c.stack) = none) {t : Nat}
    (hact : realTables.action (topState c.stack) r = some (.shift t)) (fuel : Nat) :
    SatS (M.loop "LRParser.parse" (step realTables H) (fuel + 2) c) (Src (r :: x :: rest))
      (fun _ _ _ => False) E := by
  obtain ⟨h0, hn, ht0, hdt, hxs⟩ := pairRejected_spec hp hact
  rw [loop_succ]
  refine SatS.bind (step_shift hS c r t _ hla hd hact h0 hn) ?_
  intro res
  refine SatS.assume (fun hc => ?_)
  obtain ⟨c', rfl, hla', htop⟩ := hc
  show SatS (M.loop "LRParser.parse" (step realTables H) (fuel + 1) c') _ _ _
  rw [loop_succ]
  refine SatS.bind (Q := fun _ _ _ => False)
    (step_error hS hE c' x rest hla' (by rw [htop]; exact hdt) (by rw [htop]; exact hxs x hx)
      (Or.inl (by rw [htop]; exact ht0))) ?_
  intro _ l e hf
  exact hf.elim

/-- **C08, leading operator**: for every token source, a stream `NEWLINE^n x …` with `x` one of
    the terminals of `leadingRejected` (all control operators and closers) is rejected -/
theorem run_rejects_leading {H : Hooks V} {Src : List Nat → Local → Env → Prop} {E : Exn → Prop}
    (hS : Stream H Src) (hE : ErrRaises H E) (n : Nat) {x : Nat} (hx : x ∈ leadingRejected)
    (rest : List Nat) (fuel : Nat) :
    SatS (LR.run realTables H (n + (fuel + 1))) (Src (List.replicate n realTables.nlTok ++ x :: rest))
      (fun _ _ _ => False) E := by
  obtain ⟨t0, hnl⟩ := real_nl0
  obtain ⟨hact, hne⟩ := leadingRejected_spec hx
  unfold LR.run
  refine loop_skip_nl hS real_dflt0 hnl real_nl_ne (x :: rest) (fuel + 1) ?_ n {} rfl rfl
  intro c hla hstk
  rw [loop_succ]
  refine SatS.bind (Q := fun _ _ _ => False)
    (step_error hS hE c x rest hla (by rw [hstk]; exact real_dflt0) (by rw [hstk]; exact hact)
      (Or.inr hne)) ?_
  intro _ l e hf
  exact hf.elim

/-- **C08, first pair**: for every token source, a stream `NEWLINE^n r x …` is rejected when
    state 0 shifts `r` and `x ∈ xs` with `pairRejected r xs` (e.g. `> ;`, `> $end`, `( ;`) -/
theorem run_rejects_first_pair {H : Hooks V} {Src : List Nat → Local → Env → Prop} {E : Exn → Prop}
    (hS : Stream H Src) (hE : ErrRaises H E) (n : Nat) {r : Nat} {xs : List Nat}
    (hp : pairRejected r xs = true) {x : Nat} (hx : x ∈ xs) {t : Nat}
    (hact : realTables.action 0 r = some (.shift t)) (rest : List Nat) (fuel : Nat) :
    SatS (LR.run realTables H (n + (fuel + 2)))
      (Src (List.replicate n realTables.nlTok ++ r :: x :: rest)) (fun _ _ _ => False) E := by
  obtain ⟨t0, hnl⟩ := real_nl0
  unfold LR.run
  refine loop_skip_nl hS real_dflt0 hnl real_nl_ne (r :: x :: rest) (fuel + 2) ?_ n {} rfl rfl
  intro c hla hstk
  exact loop_rejects_pair hS hE hp hx rest c hla (by rw [hstk]; exact real_dflt0)
    (by rw [hstk]; exact hact) fuel

/-- every redirection operator is shifted in state 0 -/
theorem redir_shift0 : redirTerms.all (fun r =>
    match realTables.action 0 r with | some (.shift _) => true | _ => false) = true := by
  decide +kernel

end Bashlex.C08
