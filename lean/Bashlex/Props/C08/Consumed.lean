/-
  C08 (the meaning of `consumed`): the ghost list `consumed` the engine returns is exactly
  what the token source delivered, minus at most one look-ahead.

  For ANY tables, ANY token source equipped with a log (`Logged`: a ghost or real predicate
  `Log ds l e` = "the terminals delivered so far are `ds`", extended by `next`, kept by the
  semantic actions and the error function): at every normal return of the engine the log reads
  `consumed ++ la` with `la` at most one terminal -- the look-ahead; for the all-NEWLINE return
  `la` is one terminal, `$end` (or one the table accepts on in state 0: none for the real
  tables, `acceptNotInit`).  So in `C08_accept_derivable` "what the run's engine consumed" IS
  "the terminals the tokenizer delivered during the run, minus the look-ahead".
-/
import Bashlex.LR.Sound
import Bashlex.Proofs.HoareS

namespace Bashlex.C08
open Bashlex Bashlex.M Bashlex.LR

variable {V : Type}

/-- a token source with a log of the terminals delivered -/
structure Logged (H : Hooks V) (Log : List Nat → Local → Env → Prop) (E : Exn → Prop) : Prop where
  next : ∀ ds, SatS H.next (Log ds) (fun la l e => Log (ds ++ [la.1]) l e) E
  act : ∀ p args ds, SatS (H.act p args) (Log ds) (fun _ l e => Log ds l e) E
  onError : ∀ la ds, SatS (H.onError la) (Log ds) (fun _ l e => Log ds l e) E

def laSyms (la : Option (Nat × V)) : List Nat :=
  match la with
  | none => []
  | some x => [x.1]

theorem laSyms_length (la : Option (Nat × V)) : (laSyms la).length ≤ 1 := by
  cases la <;> simp [laSyms]

/-- the log reads: consumed, then the look-ahead -/
def LogInv (Log : List Nat → Local → Env → Prop) (c : Cfg V) (l : Local) (e : Env) : Prop :=
  Log (c.consumed ++ laSyms c.la) l e

def LogGood (T : Tables) (Log : List Nat → Local → Env → Prop) : Res V → Local → Env → Prop
  | .accepted _ _ c _, l, e => ∃ la : List Nat, la.length ≤ 1 ∧ Log (c ++ la) l e
  | .blank _ c, l, e => ∃ x, Log (c ++ [x]) l e ∧ (x = T.endTok ∨ T.action 0 x = some .accept)

/-- exceptions: those of the hooks, or the engine's own (fuel, foreign) -/
def EngX (E : Exn → Prop) (x : Exn) : Prop :=
  E x ∨ (∃ a b, x = .foreign a b) ∨ (∃ s, x = .outOfFuel s)

theorem doReduce_log {T : Tables} {H : Hooks V} {Log E} (hL : Logged H Log E) (c : Cfg V) (p : Nat) :
    SatS (doReduce T H c p) (LogInv Log c)
      (fun r l e => Sum.elim (fun c' => LogInv Log c' l e) (fun res => LogGood T Log res l e) r)
      (EngX E) := by
  unfold doReduce
  cases hp : T.prods[p]? with
  | none => exact SatS.foreign (Or.inr (Or.inl ⟨_, _, rfl⟩))
  | some pr =>
    obtain ⟨lhs, rhs⟩ := pr
    simp only []
    cases hpop : popN rhs.length c.stack with
    | none => exact SatS.foreign (Or.inr (Or.inl ⟨_, _, rfl⟩))
    | some w =>
      obtain ⟨es, rest⟩ := w
      simp only []
      refine SatS.bind ((hL.act p _ _).weaken (fun _ _ h => h) (fun _ _ _ h => h) (fun _ h => Or.inl h)) ?_
      rintro ⟨v, accept⟩
      simp only []
      cases hg : T.goto (topState rest) lhs with
      | none => exact SatS.foreign (Or.inr (Or.inl ⟨_, _, rfl⟩))
      | some t =>
        simp only []
        by_cases hacc : accept = true
        · simp only [hacc, if_true]
          exact SatS.pure (fun l e h => ⟨laSyms c.la, laSyms_length _, h⟩)
        · simp only [hacc, Bool.false_eq_true, if_false]
          exact SatS.pure (fun l e h => h)

theorem step_log {T : Tables} {H : Hooks V} {Log E} (hL : Logged H Log E) (c : Cfg V) :
    SatS (step T H c) (LogInv Log c)
      (fun r l e => Sum.elim (fun c' => LogInv Log c' l e) (fun res => LogGood T Log res l e) r)
      (EngX E) := by
  unfold step
  simp only []
  cases hd : T.dflt (topState c.stack) with
  | some p => exact doReduce_log hL c p
  | none =>
    simp only []
    refine SatS.bind (Q := fun la l e => Log (c.consumed ++ [la.1]) l e) ?_ ?_
    · cases hla : c.la with
      | some la =>
        refine SatS.pure (fun l e h => ?_)
        unfold LogInv at h
        rw [hla] at h
        exact h
      | none =>
        refine ((hL.next c.consumed).weaken ?_ (fun _ _ _ h => h) (fun _ h => Or.inl h))
        intro l e h
        unfold LogInv at h
        rw [hla] at h
        simpa [laSyms] using h
    rintro ⟨la, lv⟩
    simp only []
    split
    · rename_i hblank
      refine SatS.pure (fun l e h => ?_)
      simp only [Bool.and_eq_true, beq_iff_eq] at hblank
      exact ⟨la, h, Or.inl hblank.1.2⟩
    · cases hact : T.action (topState c.stack) la with
      | none =>
        simp only []
        refine SatS.bind (Q := fun _ _ _ => True)
          ((hL.onError (la, lv) _).weaken (fun _ _ h => h) (fun _ _ _ _ => trivial)
            (fun _ h => Or.inl h)) ?_
        intro _
        exact SatS.foreign (Or.inr (Or.inl ⟨_, _, rfl⟩))
      | some a =>
        cases a with
        | shift t =>
          simp only []
          split
          · refine SatS.pure (fun l e h => ?_)
            show Log ((c.consumed ++ [la]) ++ laSyms none) l e
            simpa [laSyms] using h
          · refine SatS.pure (fun l e h => ?_)
            show Log ((c.consumed ++ [la]) ++ laSyms none) l e
            simpa [laSyms] using h
        | reduce p =>
          simp only []
          exact (doReduce_log hL { c with la := some (la, lv) } p).pre (fun l e h => h)
        | accept =>
          simp only []
          split
          · refine SatS.pure (fun l e h => ?_)
            exact ⟨[la], by simp, h⟩
          · rename_i hstk
            refine SatS.pure (fun l e h => ?_)
            refine ⟨la, h, Or.inr ?_⟩
            have hs : c.stack = [] := hstk
            rw [hs] at hact
            exact hact

/-- **run_consumed**: for any tables and any logged token source, at a normal return of the
    engine the log of delivered terminals is `consumed` followed by the look-ahead (at most one
    terminal; exactly one, `$end`, for the all-NEWLINE return) -/
theorem run_consumed {T : Tables} {H : Hooks V} {Log E} (hL : Logged H Log E) (fuel : Nat) :
    SatS (LR.run T H fuel) (Log []) (LogGood T Log) (EngX E) := by
  unfold LR.run
  refine (SatS.loop (I := LogInv Log) (R := LogGood T Log) (Or.inr (Or.inr ⟨_, rfl⟩))
    (fun s => step_log hL s) fuel {}).pre ?_
  intro l e h
  exact h

end Bashlex.C08
