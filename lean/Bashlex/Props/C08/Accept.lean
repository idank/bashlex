/-
  C08: no prefix acceptance / every token accounted for.

  `engine_good`: for the real tables, the real semantic actions, every nested parser and every
  token source, a normal return of the LR engine is either the all-NEWLINE return (everything
  consumed is NEWLINE) or an accepted derivation tree that is valid for the declared grammar, is
  rooted at `inputunit`/`simple_list`, and whose yield is EXACTLY what the engine consumed after
  the leading NEWLINEs (`C09_exact` + `run_sound_acc`).

  `runParser_topRun`: one top-level `_parser(s).parse()` is that engine run (`topRun`) from the
  initial state; `RunSentence` / `RunStops` say what the run was when it returned a node / no node.

  `C08_accept_derivable`: if `parse s o` returns parts, then the parts are the results of
  successive engine runs, each one a sentence (`Tiling`): run 0 starts at index 0, run i+1 starts
  at `max (nextIndex part_i) (start_i + 1)`, and after the last part either the restart index is
  at or beyond the end of the input, or the run on the rest consumed nothing that is not accounted
  for (only NEWLINE tokens, then `$end`; or a sentence that carries no node).  So `parse` never
  returns a tree for a proper prefix of the token sequence while ignoring the rest: a rest that
  is not itself a concatenation of sentences makes the whole call raise (`C08_rest_rejected`).
-/
import Bashlex.Props.C09
import Bashlex.Props.C07.Nested
import Bashlex.Props.C13.Loop

namespace Bashlex.C08
open Bashlex Bashlex.M Bashlex.LR

/-! ### the engine -/

/-- `c` is a run of NEWLINEs followed by a sentence of the declared grammar: the yield of a valid
    derivation tree rooted at `inputunit` (or `simple_list`) -/
def Sentence (c : List Nat) : Prop :=
  ∃ tr pre, Tree.Valid realTables tr ∧ tr.root ∈ acceptSyms ∧ c = pre ++ tr.yield ∧
    pre.all (· == realTables.nlTok) = true

/-- what a normal return of the engine is -/
def EngineGood : Res SVal → Prop
  | .accepted _ tr c _ => Tree.Valid realTables tr ∧ tr.root ∈ acceptSyms ∧
      ∃ pre, c = pre ++ tr.yield ∧ pre.all (· == realTables.nlTok) = true
  | .blank _ c => c.all (· == realTables.nlTok) = true

theorem EngineGood.sentence {v : SVal} {tr : Tree} {c : List Nat} {b : Bool}
    (h : EngineGood (.accepted v tr c b)) : Sentence c := by
  obtain ⟨h1, h2, pre, h3, h4⟩ := h
  exact ⟨tr, pre, h1, h2, h3, h4⟩

theorem acceptIn_ok : realRaw.checkAccept (fun s => acceptSyms.contains s) = true :=
  Raw.checkAccept_mono (fun s hs => by rw [beq_iff_eq] at hs; subst hs; decide +kernel)
    real_acceptSym

theorem accept_in : ∀ s la, s ∈ realRaw.reach → realTables.action s la = some .accept →
    realRaw.accOf s ∈ acceptSyms := by
  intro s la hs ha
  have := Raw.checkAccept_sound acceptIn_ok s la hs ha
  simpa using this

/-- **the engine with the real tables and actions, every token source, every nested parser** -/
theorem engine_good (np : NestedParse) (next : M (Nat × SVal)) (fuel : Nat) :
    Sat (LR.run realTables { (lrHooks np) with next := next } fuel) EngineGood (fun _ => True) := by
  have h1 := Props.C09_exact np next fuel
  have hH : HooksAcc realTables { (lrHooks np) with next := next } (fun _ _ => True)
      (· ∈ acceptSyms) (fun _ => True) :=
    ⟨(Sat.trivial _).weaken (fun _ _ => True.intro) (fun _ h => h),
     fun p lhs rhs args hp _ =>
       (Props.real_accepts_only np p lhs rhs args hp).weaken (fun _ h => ⟨True.intro, h⟩) (fun _ h => h),
     fun _ => Sat.trivial _⟩
  have h2 := (run_sound_acc real_WF accept_in _ hH fuel).weaken (fun _ h => h) (fun _ _ => True.intro)
  refine (Sat.and h1 h2).weaken ?_ (fun _ h => h)
  intro res ⟨a1, a2⟩
  cases res with
  | accepted v tr c b =>
    obtain ⟨⟨hv, pre, hc, hpre⟩, _⟩ := a1
    exact ⟨hv, a2.2, pre, hc, hpre⟩
  | blank k c => exact a1

/-- `engine_good` for the hooks as they are.  (The hooks are a variable in `eta`: written with
    `lrHooks np`, the equation is checked by unfolding the hooks.) -/
theorem engine_good_hooks (np : NestedParse) (fuel : Nat) :
    Sat (LR.run realTables (lrHooks np) fuel) EngineGood (fun _ => True) := by
  have eta : ∀ H : Hooks SVal, (⟨H.next, H.act, H.onError, H.isNl⟩ : Hooks SVal) = H := fun _ => rfl
  have h := engine_good np (lrHooks np).next fuel
  rwa [eta] at h

/-! ### one top-level parser run -/

def initLocal (o : Opts) : Local := { limit := o.limit }
def initEnv (s : Str) (o : Opts) (t : List Char) : Env :=
  { tape := Tape.ofInput s, strict := o.strict, proceed := o.proceed, touched := t }

/-- the engine run of the top-level parser object over `s` -/
def topRun (s : Str) (o : Opts) (t : List Char) : Except Exn (Res SVal × Local) × Env :=
  (LR.run realTables (lrHooks (C07.nestedOf 63)) 1073741824).run (initLocal o) (initEnv s o t)

/-- what `_parser.parse` makes of the engine's return -/
def ofRun : Except Exn (Res SVal × Local) × Env → Except Exn (Option Node) × List Char
  | (.ok (.accepted (.node n) _ _ _, l'), e') => (.ok (some (resolve l'.store n)), e'.touched)
  | (.ok (_, _), e') => (.ok none, e'.touched)
  | (.error x, e') => (.error x, e'.touched)

/-- **`runParser` is the engine run**, with the value turned into a node -/
theorem runParser_topRun (s : Str) (o : Opts) (t : List Char) :
    runParser s o t = ofRun (topRun s o t) := by
  unfold runParser topRun
  simp only []
  rw [show parserRun maxDepth = parserRun (63 + 1) from rfl, C07.parserRun_succ, M.run_bind]
  rcases h : (LR.run realTables (lrHooks (C07.nestedOf 63)) 1073741824).run (initLocal o)
      (initEnv s o t) with ⟨r, e'⟩
  have h' : (LR.run realTables (lrHooks (C07.nestedOf 63)) 1073741824).run { limit := o.limit }
      { tape := Tape.ofInput s, strict := o.strict, proceed := o.proceed, touched := t } =
      (r, e') := h
  rw [h']
  cases r with
  | error x => rfl
  | ok v =>
    obtain ⟨res, l'⟩ := v
    simp only []
    rw [M.run_bind]
    cases res with
    | blank k c => rfl
    | accepted v tr c b =>
      cases v <;> rfl

/-- the run over `s` returned the node `n` (table `t'` afterwards): it accepted a sentence -/
def RunSentence (s : Str) (o : Opts) (t : List Char) (n : Node) (t' : List Char) : Prop :=
  ∃ m tr c b l' e', topRun s o t = (.ok (.accepted (.node m) tr c b, l'), e') ∧
    n = resolve l'.store m ∧ t' = e'.touched ∧
    Tree.Valid realTables tr ∧ tr.root ∈ acceptSyms ∧
    ∃ pre, c = pre ++ tr.yield ∧ pre.all (· == realTables.nlTok) = true

/-- the run over `s` returned no node: all it consumed is NEWLINE tokens (then `$end`), or a
    sentence whose value is not a node -/
def RunStops (s : Str) (o : Opts) (t : List Char) (t' : List Char) : Prop :=
  ∃ res l' e', topRun s o t = (.ok (res, l'), e') ∧ t' = e'.touched ∧ EngineGood res ∧
    (match res with
     | .blank _ _ => True
     | .accepted v _ _ _ => ∀ m, v ≠ .node m)

theorem topRun_good {s : Str} {o : Opts} {t : List Char} {res : Res SVal} {l' : Local} {e' : Env}
    (h : topRun s o t = (.ok (res, l'), e')) : EngineGood res :=
  (engine_good (C07.nestedOf 63) (lrHooks (C07.nestedOf 63)).next 1073741824).ok h

theorem ofRun_node (n : Node) (tr : Tree) (c : List Nat) (b : Bool) (l' : Local) (e' : Env) :
    ofRun (.ok (.accepted (.node n) tr c b, l'), e') =
      (.ok (some (resolve l'.store n)), e'.touched) := rfl
theorem ofRun_blank (k : Nat) (c : List Nat) (l' : Local) (e' : Env) :
    ofRun (.ok (.blank k c, l'), e') = (.ok none, e'.touched) := rfl
theorem ofRun_error (x : Exn) (e' : Env) : ofRun (.error x, e') = (.error x, e'.touched) := rfl
theorem ofRun_other {v : SVal} (hv : ∀ m, v ≠ .node m) (tr : Tree) (c : List Nat) (b : Bool)
    (l' : Local) (e' : Env) :
    ofRun (.ok (.accepted v tr c b, l'), e') = (.ok none, e'.touched) := by
  cases v with
  | node m => exact absurd rfl (hv m)
  | _ => rfl

/-- what a normal return of `runParser` says of the engine run behind it -/
theorem runParser_ok {s : Str} {o : Opts} {t t' : List Char} {r : Option Node}
    (h : runParser s o t = (.ok r, t')) :
    match r with
    | some n => RunSentence s o t n t'
    | none => RunStops s o t t' := by
  rw [runParser_topRun] at h
  rcases hr : topRun s o t with ⟨x, e'⟩
  rw [hr] at h
  cases x with
  | error x => rw [ofRun_error] at h; cases h
  | ok v =>
    obtain ⟨res, l'⟩ := v
    have hg := topRun_good hr
    cases res with
    | blank k c =>
      rw [ofRun_blank] at h
      simp only [Prod.mk.injEq, Except.ok.injEq] at h
      obtain ⟨rfl, rfl⟩ := h
      exact ⟨_, l', e', hr, rfl, hg, True.intro⟩
    | accepted v tr c b =>
      by_cases hv : ∃ m, v = .node m
      · obtain ⟨m, rfl⟩ := hv
        rw [ofRun_node] at h
        simp only [Prod.mk.injEq, Except.ok.injEq] at h
        obtain ⟨rfl, rfl⟩ := h
        exact ⟨m, tr, c, b, l', e', hr, rfl, rfl, hg⟩
      · have hv' : ∀ m, v ≠ .node m := fun m hm => hv ⟨m, hm⟩
        rw [ofRun_other hv'] at h
        simp only [Prod.mk.injEq, Except.ok.injEq] at h
        obtain ⟨rfl, rfl⟩ := h
        exact ⟨_, l', e', hr, rfl, hg, hv'⟩

theorem runParser_some {s : Str} {o : Opts} {t t' : List Char} {n : Node}
    (h : runParser s o t = (.ok (some n), t')) : RunSentence s o t n t' := runParser_ok h

theorem runParser_none {s : Str} {o : Opts} {t t' : List Char}
    (h : runParser s o t = (.ok none, t')) : RunStops s o t t' := runParser_ok h

/-! ### the loop of `parse` -/

/-- **the runs tile the input**: entered at restart index `i` (table `t`), the remaining parts
    are the results of successive runs on suffixes of `s`, each a sentence -/
inductive Tiling (s : Str) (o : Opts) : Nat → List Char → List Node → Prop
  /-- the restart index is at or beyond the end of the input -/
  | done {i : Nat} {t : List Char} (h : ¬ i < s.length) : Tiling s o i t []
  /-- the run on the rest returned no node -/
  | stop {i : Nat} {t t' : List Char} (h : RunStops (s.drop i) o t t') : Tiling s o i t []
  /-- the run on `s[i:]` accepted a sentence and returned `n`; the next run starts at
      `max (nextIndex part) (i + 1)` -/
  | step {i : Nat} {t t' : List Char} {n : Node} {rest : List Node}
      (h : RunSentence (s.drop i) o t n t')
      (hl : Tiling s o (max (nextIndex (n.shift i)) (i + 1)) t' rest) :
      Tiling s o i t (n.shift i :: rest)

theorem tiling_of_loop {s : Str} {o : Opts} {i : Nat} {t : List Char} {r : C13.LoopRes}
    (h : C13.Loop s o i t r) : ∀ ps, r.1 = .ok ps → Tiling s o i t ps := by
  induction h with
  | done h => intro ps hps; cases hps; exact .done h
  | stop h hr => intro ps hps; cases hps; exact .stop (runParser_none hr)
  | raise h hr => intro ps hps; cases hps
  | @step i t t' part r h hr hl ih =>
    intro ps hps
    obtain ⟨x, u⟩ := r
    cases x with
    | error e => cases hps
    | ok qs =>
      simp only [C13.LoopRes.cons_ok] at hps
      cases hps
      exact .step (runParser_some hr) (ih qs rfl)

/- Scope: the TOP-LEVEL token sequence.  The text inside a word (`$(…)`, backquotes) is scanned
   by `_parse_comsub` / `_parse_matched_pair` and parsed by a nested parser whose result is
   attached to the word; defect D9 (`(parse "echo $(a\nb)".toList {}).1` = parts (1): the nested
   parser returns after `a`, the rest of the substitution is dropped silently) is about that
   nested run and is not excluded by this theorem: the top-level sentence is `WORD WORD NEWLINE`. -/

/-- **C08_accept_derivable** (all inputs, all options): the parts `parse` returns are the results
    of successive runs, each of which accepted a sentence of the declared grammar -- the yield of
    a valid derivation tree rooted at `inputunit`/`simple_list` is exactly what the run's engine
    consumed after leading NEWLINEs -- and the runs tile the input from index 0 to its end -/
theorem C08_accept_derivable (s : Str) (o : Opts) (parts : List Node)
    (h : (parse s o).1 = .parts parts) : Tiling s o 0 [] parts := by
  have hp := C13.parse_spec s o
  generalize parse s o = out at hp h
  cases hp with
  | raise hr => cases h
  | empty hr =>
    cases h
    exact .stop (by rw [List.drop_zero]; exact runParser_none hr)
  | @loop first t r hr hl =>
    obtain ⟨x, u⟩ := r
    cases x with
    | error e => cases h
    | ok qs =>
      simp only [C13.LoopRes.cons_ok, C13.LoopRes.outcome] at h
      cases h
      have h0 : first.shift 0 = first := Node.shift_zero first
      have := Tiling.step (s := s) (i := 0) (rest := qs)
        (by rw [List.drop_zero]; exact runParser_some hr)
        (by rw [h0]; exact tiling_of_loop hl qs rfl)
      rw [h0] at this
      exact this

/-- **no prefix acceptance**: if the parts `ps ++ more` are returned, the run entered at the
    restart index after `ps` was itself successful -- so when the run on the rest of the input
    raises, `parse` does not return `ps`: it has no normal return at all (`parse` is a function) -/
theorem Tiling.split {s : Str} {o : Opts} :
    ∀ {i : Nat} {t : List Char} (ps more : List Node), Tiling s o i t (ps ++ more) →
      ∃ j u, Tiling s o j u more := by
  intro i t ps
  induction ps generalizing i t with
  | nil => intro more h; exact ⟨i, t, h⟩
  | cons p ps ih =>
    intro more h
    cases h with
    | step _ hl => exact ih more hl

/-- the converse reading of `runParser_topRun`: a rest on which the engine raises makes the run
    raise, and then the whole `parse` raises (the loop propagates the exception) -/
theorem C08_rest_rejected {s : Str} {o : Opts} {i : Nat} {t t' : List Char} {e : Exn}
    {r : C13.LoopRes} (hl : C13.Loop s o i t r) (hi : i < s.length)
    (hr : runParser (s.drop i) o t = (.error e, t')) : r = (.error e, t') :=
  hl.det (.raise hi hr)

/-! ### `parsesingle` -/

/-- **C08, `parsesingle`**: the node `parsesingle` returns is the result of one engine run that
    accepted a sentence; `none` means the run consumed nothing but NEWLINE tokens (or a sentence
    without node) -/
theorem C08_accept_derivable_single (s : Str) (o : Opts) (r : Option Node)
    (h : (parsesingle s o).1 = .single r) :
    match r with
    | some n => ∃ t', RunSentence s o [] n t'
    | none => ∃ t', RunStops s o [] t' := by
  unfold parsesingle at h
  rcases hr : runParser s o [] with ⟨x, t⟩
  rw [hr] at h
  cases x with
  | error e => cases h
  | ok v =>
    simp only [Outcome.single.injEq] at h
    subst h
    have := runParser_ok hr
    cases v <;> exact ⟨t, this⟩

end Bashlex.C08
