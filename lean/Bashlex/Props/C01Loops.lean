/-
  C01, the remaining fuel markers above the tokenizer.

  1. `split` (`splitM`: a loop over `token()` on fuel `len(line) + 4`).  Every token other than
     EOF pays one unit of `|line| − cursor` (`next_budget`), word expansion leaves the tape alone,
     so the loop makes at most `|line| + 1` iterations (`splitM_terminates`, for any set of
     exceptions that holds what `token()` and word expansion raise): **`split_terminates`**,
     **`C01_partial_split_tight`** (for inputs with `|s| + 1 < 2^30`; `C03.rootEnds` is used
     because C03's tokenizer invariant is carried through word expansion by
     `keeps_expandwordinternal`, which asks for the nested parser's span contract).
  2. `nesting` (`parserRun` recurses on a nesting fuel, `maxDepth = 64`): the string handed to a
     nested parser holds FEWER opener characters (backquote, `$`, `<`, `>`) than the token value
     it is cut from (`Props/C01Loops/NestExn.lean`), and a token value holds no more than the
     line (`C04.tokText`); hence **`C01_nesting_bound`**: an input with fewer than 64 opener
     characters never raises `outOfFuel "nesting"` (`Props/C01Loops/NestLift.lean`).
     Opener CHARACTERS, not the pairs `$(`, `<(`, `>(`: a line continuation may separate the two
     characters of an opener in the input (`$\<newline>(a)` is a command substitution), so the
     pairs of the raw input do not bound the openers the tokenizer sees.
  3. `split` without the markers of its nested parsers (neither the engine's nor the nesting
     marker: `expand_noLRFuel`, `expand_noNest`): **`C01_partial_split_nofuel`**.
-/
import Bashlex.Props.C01Engine
import Bashlex.Props.C03.RootEndsProof
import Bashlex.Props.C01Loops.NestLift

namespace Bashlex.C01E
open Bashlex Bashlex.Spec Bashlex.Node Bashlex.M Bashlex.LR Bashlex.C12 Bashlex.C03 Bashlex.C10
  Bashlex.C01
-- see `Proofs/ParserLift.lean`
attribute [local irreducible] M.run runParser parse parsesingle split

/-! ## 1. `split` -/

theorem tokCostT_one {t : Token} (h : t.is .EOF = false) : tokCostT t = 1 := by
  unfold tokCostT
  rw [if_neg]
  intro h'
  simp [Token.is, h'] at h

theorem keeps_pure_foreign {P : Local → Env → Prop} {α : Type} {a b : String} :
    SatS (M.foreign a b : M α) P (fun _ l e => P l e) := SatS.foreign True.intro

/-- the state of the loop: C03's tokenizer invariant with at most `n` characters left, and C11's
    (for the token-text relation) -/
def SplitG (g : C11.Ghost) (len n : Nat) (l : Local) (e : Env) : Prop := ∃ f, TIg g n len f l e

/-- word expansion keeps the loop invariant -/
theorem split_expand_keeps (g : C11.Ghost) (len n : Nat) (t : Token) (dq : Bool) :
    SatS (expandwordinternal (npOf (parserRun maxDepth)) t dq) (SplitG g len n)
      (fun _ l e => SplitG g len n l e) := by
  refine SatS.exists_pre (fun f => ?_)
  refine SatS.intro_state (fun l0 e0 h0 => ?_)
  have hk := keeps_expandwordinternal (TI := TIg g n) (len := len) (F := f) (st := l0.store)
    (npSpans_fam (tokAct_TIg g n) rootEnds maxDepth) t dq
  refine SatS.weaken hk ?_ ?_ (fun _ h => h)
  · rintro l e ⟨rfl, rfl⟩; exact ⟨h0, rfl⟩
  · rintro r l e ⟨⟨h1, _⟩, _⟩; exact ⟨f, h1⟩

/-- `token()` from the state of the loop: every token other than EOF pays one unit of the budget,
    and its value is text of the line -/
theorem split_next (g : C11.Ghost) (hg : C11.WFG g) (len n : Nat) (hlen : len + 1 < 1073741824) :
    SatS nextToken (SplitG g len n) (fun t l e => (C01.TF t ∧ C04.TT g.line t) ∧
      ∃ n', n' + tokCostT t ≤ n ∧ SplitG g len n' l e) TokExn := by
  refine satS_exn ?_ tok_nextToken
  refine SatS.exists_pre (fun f => ?_)
  refine SatS.intro_state (fun l0 e0 h0 => ?_)
  have hA := ((budFam_TIg g len hlen).next n f l0.store).pre
    (P' := fun l e => l = l0 ∧ e = e0) (by rintro l e ⟨rfl, rfl⟩; exact ⟨h0, rfl⟩)
  have hB := (satS_of_HT (C04.tokText.next g hg)).pre
    (P' := fun l e => l = l0 ∧ e = e0)
    (by rintro l e ⟨rfl, rfl⟩; exact ⟨h0.2, ti_eol h0.1.1⟩)
  refine ((SatS.and hA hB).and_sat sat_nextToken_tf).post ?_
  rintro t l e ⟨⟨⟨a, b, _, _, ⟨n', hn', hti⟩, _⟩, htt, _⟩, htf⟩
  exact ⟨⟨htf, htt⟩, n', hn', b, hti⟩

/-- **the loop of `split` terminates within its fuel**: from a fresh parser object over `s`
    (`|s| + 1 < 2^30`) `splitM` does not raise `outOfFuel "split"`; it raises what `token()`
    raises and what the expansion of a token raises whose value is text of the line -/
theorem splitM_terminates (s : Str) (hs : s.length + 1 < 1073741824) {E : Exn → Prop}
    (hTok : ∀ x, TokExn x → E x)
    (hexp : ∀ t dq, C04.TT (Tape.ofInput s).line t →
      Sat (expandwordinternal (npOf (parserRun maxDepth)) t dq) (fun _ => True) E) :
    SatS (splitM s) (InitState s) (fun _ _ _ => True) E := by
  refine SatS.intro_state (fun l0 e0 hinit => ?_)
  let g := initGhost s l0 e0
  -- the two reads
  refine SatS.bind (Q := fun line l e => line = (tapeOf l0 e0).line ∧ l = l0 ∧ e = e0)
    (fun l e h => by rw [run_tapeLine]; obtain ⟨rfl, rfl⟩ := h; exact ⟨rfl, rfl, rfl⟩) fun line => ?_
  refine SatS.bind (Q := fun _ l e => line = (tapeOf l0 e0).line ∧ l = l0 ∧ e = e0)
    (fun l e h => by rw [C11.run_tapeAdded]; exact h) fun added => SatS.assume fun hline => ?_
  have hloop := SatS.loop_ghost (site := "split")
    (I := fun (_ : List Str) n l e => SplitG g s.length n l e) (R := fun _ _ _ => True) (E := E)
    (fun acc n => splitBody_sat (R := fun _ _ => True)
      ((split_next g (initGhost_wf s l0 e0) s.length n hs).weaken (fun _ _ h => h)
        (fun _ _ _ h => h) hTok)
      (fun _ _ _ _ => trivial)
      (fun t dq heof => SatS.assume fun ht => SatS.exists_pre fun n' => SatS.assume fun hn' =>
        (satS_exn (split_expand_keeps g s.length n' t dq) (hexp t dq ht.2)).post fun _ _ _ h =>
          ⟨n', by have := tokCostT_one heof; omega, h⟩)
      (fun t _ _ heof ⟨_, n', hn', h⟩ => ⟨n', by have := tokCostT_one heof; omega, h⟩)
      (fun t _ _ h => tf_head t h.1.1) s line added acc)
    (line.length + 4) [] (rem l0 e0) (by rw [hline]; unfold rem; omega)
  refine hloop.pre ?_
  rintro l e ⟨rfl, rfl⟩
  exact ⟨0, ⟨tokSpans.init s l e hinit, fun _ => Nat.le_refl _⟩, good_init hinit⟩

theorem initState_split (s : Str) : InitState s ({} : Local) { tape := Tape.ofInput s } :=
  ⟨rfl, rfl, rfl, rfl, Or.inr ⟨rfl, rfl⟩⟩

theorem not_disciplined_split : ¬ Disciplined (.outOfFuel "split") := by
  rw [disciplined_iff]
  simp [knownForeign, tokForeign, fuelSites, tokFuel]

/-- word expansion over the nested parser of full depth raises disciplined exceptions -/
theorem expand_disciplined (t : Token) (dq : Bool) :
    Sat (expandwordinternal (npOf (parserRun maxDepth)) t dq) (fun _ => True) Disciplined :=
  sat_expandwordinternal
    (fun _ _ => Sat.npOf (parserRun_exn tok_nextToken tok_gatherheredocuments _)) t dq

/-- **C01 (model level), `split`, without the marker of its loop** (inputs below 2^30 − 1
    characters): strings, or a disciplined exception -/
theorem C01_partial_split_tight (s : Str) (hs : s.length + 1 < 1073741824) :
    match (split s).1 with
    | .strs _ => True
    | .exn x => Disciplined x
    | _ => False :=
  split_cases fun _ => split_sat_error
    (splitM_terminates s hs (fun _ h => allowed_tok h) fun t dq _ => expand_disciplined t dq)
    (initState_split s)

/-- **`split` never runs out of the fuel of its token loop** -/
theorem split_terminates (s : Str) (hs : s.length + 1 < 1073741824) :
    (split s).1 ≠ .exn (.outOfFuel "split") :=
  fun hx => not_disciplined_split (split_cases_exn (C01_partial_split_tight s hs) hx)

/-! ## 2. `nesting` -/

/-- **`outOfFuel "nesting"` is reachable only with 64 opener characters**: on an input with fewer
    than `maxDepth = 64` characters among backquote, `$`, `<`, `>` (every substitution opener
    `$(`, backquote, `<(`, `>(` starts with one), for all options, neither `parse` nor
    `parsesingle` raises `outOfFuel "nesting"` -/
theorem C01_nesting_bound (s : Str) (o : Opts) (hs : Nest.ops s < 64) :
    (∀ x, (parse s o).1 = .exn x → x ≠ .outOfFuel "nesting") ∧
    (∀ x, (parsesingle s o).1 = .exn x → x ≠ .outOfFuel "nesting") :=
  entry_E (E := Nest.NoLRFuel) (short := fun s => Nest.ops s < 64)
    (fun s hs => Nest.parserRun_noNest _ s hs) s o
    (fun i => Nat.lt_of_le_of_lt (Nest.ops_drop_le s i) hs)

/-- one parser run with nesting fuel `d` -/
theorem C01_nesting_bound_run (d : Nat) (s : Str) (hs : Nest.ops s < d) :
    SatS (parserRun d) (InitState s) (fun _ _ _ => True) (fun x => x ≠ .outOfFuel "nesting") :=
  Nest.parserRun_noNest d s hs

/-! ## 3. `split`: the markers of its nested parsers -/

/-- the expansion of a token whose value fits a short line does not raise the engine's marker -/
theorem expand_noLRFuel {t : Token} (hv : realBound t.valueStr.length < 1073741824) (dq : Bool) :
    Sat (expandwordinternal (npOf (parserRun maxDepth)) t dq) (fun _ => True) NoLRFuel :=
  (asat_expandwordinternal t dq).weaken (fun _ h => h) fun _ => ae_npOf fun s' hlt =>
    parserRun_noLRFuel_rootEnds' rootEnds _ s' (Nat.lt_of_le_of_lt (realBound_mono (by omega)) hv)

/-- … and not the nesting marker when the value has few opener characters -/
theorem expand_noNest {t : Token} (hv : Nest.ops t.valueStr ≤ maxDepth) (dq : Bool) :
    Sat (expandwordinternal (npOf (parserRun maxDepth)) t dq) (fun _ => True) Nest.NoLRFuel :=
  (Nest.asat_expandwordinternal t dq).weaken (fun _ h => h) fun _ h => h.elim id
    fun ⟨s', _, _, _, _, hlt, hr⟩ => npOf_exn_init (Nest.parserRun_noNest _ s' (by omega)) hr

/-- **C01 (model level), `split`, none of the three fuel markers above the tokenizer**: for inputs
    with `16·(|s|+1) < 2^30` and at most 64 opener characters, `split` returns strings or raises a
    disciplined exception that is neither `outOfFuel "split"` nor `outOfFuel "LRParser.parse"` nor
    `outOfFuel "nesting"` -/
theorem C01_partial_split_nofuel (s : Str) (hs : 16 * (s.length + 1) < 1073741824)
    (ho : Nest.ops s ≤ 64) :
    match (split s).1 with
    | .strs _ => True
    | .exn x => Disciplined x ∧ x ≠ .outOfFuel "split" ∧ x ≠ .outOfFuel "LRParser.parse" ∧
        x ≠ .outOfFuel "nesting"
    | _ => False := by
  have hb : realBound (s.length + 1) < 1073741824 := by rw [realBound_val]; exact hs
  have hlen := Nat.lt_of_le_of_lt (le_realBound _) hb
  refine split_cases fun x hx => ?_
  have h1 := (split_cases_exn (C01_partial_split_tight s hlen) hx)
  refine ⟨h1, fun hx => not_disciplined_split (hx ▸ h1), ?_, ?_⟩
  · refine split_sat_error (splitM_terminates s hlen (fun _ => noLRFuel_tokExn) fun t dq htt =>
      expand_noLRFuel (Nat.lt_of_le_of_lt (realBound_mono ?_) hb) dq) (initState_split s) hx
    have := htt.len; have := (ofInput_line s).1; omega
  · refine split_sat_error (splitM_terminates s hlen (fun _ => Nest.noLRFuel_tokExn) fun t dq htt =>
      expand_noNest ?_ dq) (initState_split s) hx
    have := Nest.tt_ops htt; rw [Nest.ops_ofInput] at this; exact Nat.le_trans this ho

end Bashlex.C01E

#print axioms Bashlex.C01E.C01_partial_split_tight
#print axioms Bashlex.C01E.split_terminates
#print axioms Bashlex.C01E.C01_nesting_bound
#print axioms Bashlex.C01E.C01_partial_split_nofuel
