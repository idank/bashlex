/-
  Glue: the theorems of separate sub-developments combined.  `C03.rootEnds` (Props/C03/RootEndsProof.lean)
  discharges the hypothesis `RootEnds` of the engine-termination theorems (Props/C01Engine.lean) and the
  per-input condition `rootEndsChecked` of the final C05 theorems (Props/C05Final.lean).
-/
import Bashlex.Props.C01Engine
import Bashlex.Props.C05Final
import Bashlex.Props.Totals

namespace Bashlex.Final
open Bashlex

/-- **termination of the LR engine loop**, no hypothesis: on inputs with `16·(|s|+1) < 2^30` neither `parse`
    nor `parsesingle` raises the engine's out-of-fuel marker, for all options (every parser run, top-level
    and nested, performs at most `16·(|s|+1)+1` iterations; the constant comes from the kernel-checked
    ranking certificate regenerated with the tables) -/
theorem C01_engine_terminates (s : Str) (o : Opts) (hs : 16 * (s.length + 1) < 1073741824) :
    (∀ x, (parse s o).1 = .exn x → x ≠ .outOfFuel "LRParser.parse") ∧
    (∀ x, (parsesingle s o).1 = .exn x → x ≠ .outOfFuel "LRParser.parse") :=
  C01E.C01_engine_terminates_conditional C03.rootEnds s o hs

theorem C01_engine_terminates_run (s : Str) (o : Opts) (t : List Char) (x : Exn)
    (hs : 16 * (s.length + 1) < 1073741824) (h : (runParser s o t).1 = .error x) :
    x ≠ .outOfFuel "LRParser.parse" :=
  C01E.C01_engine_terminates_run_conditional C03.rootEnds s o t x hs h

/-- C01 for `parse` without the engine's fuel marker -/
theorem C01_partial_noLRFuel (s : Str) (o : Opts) (hs : 16 * (s.length + 1) < 1073741824) :
    match (parse s o).1 with
    | .parts _ => True
    | .exn x => C01.Disciplined x ∧ x ≠ .outOfFuel "LRParser.parse"
    | _ => False := by
  -- the two `match`es are different matchers: compare them on a variable, not on `parse s o`
  have h := C01E.C01_partial_noLRFuel_conditional C03.rootEnds s o hs
  revert h
  generalize (parse s o).1 = r
  cases r <;> exact id

/-- C05, character level, bodies are leaves: no per-input condition left but the model's fuel bound -/
theorem C05_chars_total (s : Str) (o : Opts) (parts : List Node) (hlen : s.length + 1 < 1073741824)
    (h : (parse s o).1 = .parts parts) :
    ∀ part ∈ parts, ∃ k n, k ≤ s.length ∧ part = n.shift k ∧
      Spec.leaves part = (Spec.leaves n).map (C05.shL k) ∧ C05.CharsTotal (s.drop k) n :=
  C05.C05_chars_total s o parts hlen (Totals.rootEndsChecked_all s o parts h) h

/-- C05, tokens + characters + parts in one statement, no per-input condition left -/
theorem C05_final (s : Str) (o : Opts) (parts : List Node) (hlen : s.length + 1 < 1073741824)
    (h : (parse s o).1 = .parts parts) : C05.PartsFinal s 0 parts :=
  C05.C05_final s o parts hlen (Totals.rootEndsChecked_all s o parts h) h

end Bashlex.Final

#print axioms Bashlex.Final.C01_engine_terminates
#print axioms Bashlex.Final.C01_engine_terminates_run
#print axioms Bashlex.Final.C01_partial_noLRFuel
#print axioms Bashlex.Final.C05_chars_total
#print axioms Bashlex.Final.C05_final
