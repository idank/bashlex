/-
  Property C05 (token-level half) at model level, with the hypothesis on the token source
  (`TokLog`, `Props/C05/Hooks.lean`) DISCHARGED for the real tokenizer: the ghost invariant is
  C03's `TI` (`Props/C03/TokSpans.lean`) together with a log of the delivered tokens, each of
  which is an EOF token without a value or has a non-empty span that starts inside the input and
  ends at or before the frontier (a WORD token has a non-empty value) (`tokLog : TokLog TLog`).
  The theorems in which `RootEnds` alone remains a hypothesis are in `Props/C05Token.lean`.
-/
import Bashlex.Props.C05.Gaps
import Bashlex.Props.C03Total

namespace Bashlex.C05
open Bashlex Bashlex.Spec Bashlex.Node Bashlex.M Bashlex.LR Bashlex.C03

/-- what is known of a token `token()` delivered, at frontier `f` -/
def Delivered (len f : Nat) (t : Token) : Prop :=
  (t.ttype = some .EOF ∧ t.value = .none) ∨
  ∃ a b, t.pos = some (a, b) ∧ a < b ∧ a ≤ len ∧ b ≤ f ∧ WNE t

theorem Delivered.mono {len f f' : Nat} {t : Token} (h : Delivered len f t) (hf : f ≤ f') :
    Delivered len f' t := by
  rcases h with h | ⟨a, b, h1, h2, h3, h4, h5⟩
  · exact Or.inl h
  · exact Or.inr ⟨a, b, h1, h2, h3, by omega, h5⟩

/-- **the logged ghost invariant of the real tokenizer** -/
def TLog (ts : List Token) (len f : Nat) (l : Local) (e : Env) : Prop :=
  C03.TI len f l e ∧ ∀ t ∈ ts, Delivered len f t

theorem delivered_snoc {ts : List Token} {len f : Nat} {t : Token} {a b : Nat}
    (hs : ∀ t ∈ ts, Delivered len f t) (h1 : f ≤ a) (h2 : TokAt len t a b) :
    ∀ t' ∈ ts ++ [t], Delivered len b t' := by
  intro t' ht'
  rcases List.mem_append.mp ht' with ht' | ht'
  · exact (hs t' ht').mono (by have := h2.1; omega)
  · simp only [List.mem_singleton] at ht'
    subst ht'
    rcases h2.2 with h5 | ⟨h5, h6, h7⟩
    · exact Or.inl h5
    · exact Or.inr ⟨a, b, h5, h2.1, h6, Nat.le_refl _, h7⟩

/-- **the hypothesis `TokLog` holds of the real tokenizer** -/
theorem tokLog : TokLog TLog := by
  have h0 : TokLogC (fun _ => C03.TI) :=
    ⟨fun _ => tokSpans_next, fun _ => ⟨tokSpans_gather, tokSpans_queue, tokSpans_ps, tokSpans_nested⟩⟩
  have h := h0.withLog (D := fun ts len f => ∀ t ∈ ts, Delivered len f t) delivered_snoc
  exact ⟨h.next, h.act, fun s l e hi => ⟨tokSpans_init s l e hi, fun t ht => by cases ht⟩⟩

end Bashlex.C05

#print axioms Bashlex.C05.tokLog
