/-
  Property C17: "strictmode=False changes the outcome only for inputs that end inside a missing
  here-document".

  `Proofs/QCongr.lean` proves the generic half: an outcome that depends on `strictmode` comes
  from a run that ASKED `.optStrict` (`Q.optStrict_asked_of_ne`, `parse_strict_irrelevant`).
  This file adds WHERE it is asked.  The model has one `optStrict` call, in
  `gatherheredocuments` at end of input (`Model/Tokenizer.lean`: `if p.isNone then if !(← optStrict)`);
  with the answer `true` the next event is the raise of `makeheredoc`
      ParsingError "here-document at line 0 delimited by end-of-file (wanted …)"
  and nested parsers never put the query to the environment (`opts := some (true, false)`).

  What is PROVED here (no hypothesis):
    * the site itself, from C10's equations on runs: `specGatherS_strict`, `gather_strict_site`
      (a top-level `gatherheredocuments` in strict mode does what the non-strict one does, or raises
      that error), `gather_nested_strict_irrelevant` (with `opts := some …` the environment's
      `strict` is never consulted);
    * the lift from one parser run to `parse` / `parsesingle` (`parseLoop_asked_eof`: a later
      part's error escapes `parse` as it is), giving
      `C17_strict_only_heredoc_eof(_single)_conditional`; kernel-checked instances.
  What is a HYPOTHESIS (`StrictSite`; reduced to `SS (parserRun maxDepth)` in
  `Props/C17Strict2.lean`, not discharged): for ONE top-level parser run in strict mode, "asked
  `.optStrict`" implies "ended in that error".
  The hypothesis is validated by `decide +kernel` on the inputs below (both directions).
-/
import Bashlex.Proofs.QCongr
import Bashlex.Props.C10

namespace Bashlex.C17
open Bashlex

/-- the ParsingError `makeheredoc` raises when the input ends inside a here-document
    (`mkParsingError` models the assertion of `ParsingError.__init__`) -/
def HdEof (x : Exn) : Prop := ∃ (w : String) (src : Str) (p : Int), x = mkParsingError
  ("here-document at line 0 delimited by end-of-file (wanted " ++ w ++ ")") src p

/-- decidable over-approximation used in the examples -/
def isHdEofB : Exn → Bool
  | .parsing msg _ _ => "here-document at line 0 delimited by end-of-file (wanted ".isPrefixOf msg
  | _ => false

/-- **the hypothesis**: in strict mode, a top-level parser run that reads `strictmode` ends in
    the here-document end-of-input error -/
def StrictSite : Prop := ∀ (s : Str) (o : Opts) (t : List Char), o.strict = true →
  Query.optStrict ∈ runParserAsked s o t → ∃ x u, runParser s o t = (.error x, u) ∧ HdEof x

theorem runParser_strict_conditional (hs : StrictSite) (s : Str) (o : Opts) (t : List Char)
    (ho : o.strict = true) (h : ∀ x u, runParser s o t = (.error x, u) → ¬ HdEof x) :
    runParser s { o with strict := false } t = runParser s o t := by
  refine runParser_opt_irrelevant strictField s o t false (fun hasked => ?_)
  obtain ⟨x, u, hr, hx⟩ := hs s o t ho hasked
  exact h x u hr hx

/-- a later parser run of `parse` that reads `strictmode`: its error is the outcome of the loop -/
theorem parseLoop_asked_eof (hs : StrictSite) (s : Str) (o : Opts) (ho : o.strict = true) :
    ∀ (fuel index : Nat) (parts : List Node) (t : List Char),
      Query.optStrict ∈ parseLoopAsked s o fuel index t →
      ∃ x u, parseLoop s o fuel index parts t = (.error x, u) ∧ HdEof x := by
  intro fuel
  induction fuel with
  | zero => intro index parts t h; simp [parseLoopAsked] at h
  | succ fuel ih =>
    intro index parts t h
    unfold parseLoopAsked at h
    unfold parseLoop
    by_cases hlt : index < s.length
    · rw [if_pos hlt] at h ⊢
      rw [List.mem_append] at h
      rcases h with h | h
      · obtain ⟨x, u, hr, hx⟩ := hs (s.drop index) o t ho h
        rw [hr]
        exact ⟨x, u, rfl, hx⟩
      · rcases h1 : runParser (s.drop index) o t with ⟨r, u⟩
        rw [h1] at h
        cases r with
        | error x => simp at h
        | ok n =>
          cases n with
          | none => simp at h
          | some part => exact ih _ _ _ h
    · rw [if_neg hlt] at h; simp at h

/-- **C17_strict_only_heredoc_eof** (conditional on `StrictSite`): for every input and all
    options with `strictmode=True`: unless the outcome is the here-document end-of-input
    ParsingError, `parse(s, strictmode=False)` has the same outcome. -/
theorem C17_strict_only_heredoc_eof_conditional (hs : StrictSite) (s : Str) (o : Opts)
    (ho : o.strict = true) (h : ∀ x, (parse s o).1 = .exn x → ¬ HdEof x) :
    parse s { o with strict := false } = parse s o := by
  refine parse_strict_irrelevant s o false (fun hasked => ?_)
  unfold parseAsked at hasked
  rw [List.mem_append] at hasked
  rcases hasked with h1 | h1
  · obtain ⟨x, u, hr, hx⟩ := hs s o [] ho h1
    refine h x ?_ hx
    unfold parse; rw [hr]
  · rcases hr : runParser s o [] with ⟨r, u⟩
    rw [hr] at h1
    cases r with
    | error x => simp at h1
    | ok n =>
      cases n with
      | none => simp at h1
      | some first =>
        obtain ⟨x, u', hl, hx⟩ := parseLoop_asked_eof hs s o ho _ _ [first] u h1
        refine h x ?_ hx
        unfold parse; rw [hr]; simp only []; rw [hl]

theorem C17_strict_only_heredoc_eof_single_conditional (hs : StrictSite) (s : Str) (o : Opts)
    (ho : o.strict = true) (h : ∀ x, (parsesingle s o).1 = .exn x → ¬ HdEof x) :
    parsesingle s { o with strict := false } = parsesingle s o := by
  refine parsesingle_strict_irrelevant s o false (fun hasked => ?_)
  obtain ⟨x, u, hr, hx⟩ := hs s o [] ho hasked
  refine h x ?_ hx
  unfold parsesingle; rw [hr]

/-! ## the site, from C10's equations on runs (proved, no hypothesis)

  `gatherheredocuments` is the only function of the model that calls `optStrict`.  `C10.gather_spec`
  is an equation for its runs in terms of the pure `specGatherS line strict …`; `strict` occurs
  there once, in the test "the input has ended where a body should start, and strict = false". -/

open Bashlex.C10 in
theorem specGatherS_strict (line : Str) : ∀ (q : List (Nat × Bool)) (store : List RedirCell) (s : Str),
    specGatherS line true q store s = specGatherS line false q store s ∨
    (∃ d, specGatherS line true q store s = .eof d) ∨
    (∃ i, specGatherS line true q store s = .badId i)
  | [], store, s => Or.inl (by rw [specGatherS, specGatherS])
  | (id, kill) :: q, store, s => by
    by_cases hs : skipCont s = []
    · right
      rw [specGatherS]
      simp only [hs, true_and, Bool.true_eq_false, if_false]
      cases hc : store[id]? with
      | none => exact Or.inr ⟨_, rfl⟩
      | some cell =>
        simp only []
        have : specHeredocS cell.delim kill [] = none := by
          rw [specHeredocS_eq, specReadlineS_eq]; simp [getcS]
        rw [this]
        exact Or.inl ⟨_, rfl⟩
    · rw [specGatherS, specGatherS]
      simp only [hs, false_and, if_false]
      cases hc : store[id]? with
      | none => exact Or.inl rfl
      | some cell =>
        simp only []
        cases hh : specHeredocS cell.delim kill (skipCont s) with
        | none => exact Or.inl rfl
        | some w =>
          obtain ⟨v, r⟩ := w
          exact specGatherS_strict line q _ r

theorem eofError_hdEof (d line : Str) : HdEof (C10.eofError d line) :=
  ⟨pyReprStr d, line, line.length, by simp [C10.eofError, mkParsingError]⟩

open Bashlex.C10 in
/-- **the site, on runs**: `gatherheredocuments` of a top-level parser (options read from the
    environment) in strict mode either does what it does in non-strict mode, or raises the
    here-document end-of-input error (or the IndexError of an id outside the store, which the
    parser never queues) -/
theorem gather_strict_site {l : Local} {e : Env} (h : Ready l e) (ho : l.opts = none)
    (hs : e.strict = true) :
    (M.run gatherheredocuments l { e with strict := false }).1 = (M.run gatherheredocuments l e).1 ∨
    ∃ x u, M.run gatherheredocuments l e = (.error x, u) ∧
      (HdEof x ∨ x = .foreign "IndexError" "makeheredoc") := by
  have h' : Ready l { e with strict := false } := ⟨h.eol, h.idx, h.len, h.nbs⟩
  rw [gather_spec h, gather_spec h']
  have s1 : strictOf l e = true := by simp [strictOf, ho, hs]
  have s2 : strictOf l { e with strict := false } = false := by simp [strictOf, ho]
  have t1 : tapeOf l { e with strict := false } = tapeOf l e := by unfold tapeOf; cases l.tape <;> rfl
  rw [s1, s2, t1]
  unfold specGather
  rcases specGatherS_strict (tapeOf l e).line l.redirstack l.store
      ((tapeOf l e).line.drop (tapeOf l e).idx) with heq | ⟨d, hd⟩ | ⟨i, hi⟩
  · left
    rw [heq]
    generalize (specGatherS (tapeOf l e).line false l.redirstack l.store
      ((tapeOf l e).line.drop (tapeOf l e).idx)).toI (tapeOf l e).line = X
    cases X <;> simp [gatherResultI, atL, atE, t1]
  · right
    rw [hd]
    exact ⟨_, _, rfl, Or.inl (eofError_hdEof d _)⟩
  · right
    rw [hi]
    exact ⟨_, _, rfl, Or.inr rfl⟩

open Bashlex.C10 in
/-- a nested parser (`opts := some (true, false)`) never consults the environment's `strict` -/
theorem gather_nested_strict_irrelevant {l : Local} {e : Env} (h : Ready l e) (b : Bool)
    (ho : l.opts.isSome = true) :
    (M.run gatherheredocuments l { e with strict := b }).1 = (M.run gatherheredocuments l e).1 := by
  have h' : Ready l { e with strict := b } := ⟨h.eol, h.idx, h.len, h.nbs⟩
  have t1 : tapeOf l { e with strict := b } = tapeOf l e := by unfold tapeOf; cases l.tape <;> rfl
  have s1 : strictOf l { e with strict := b } = strictOf l e := by
    unfold strictOf
    cases hop : l.opts with
    | none => rw [hop] at ho; cases ho
    | some p => rfl
  rw [gather_spec h, gather_spec h', s1, t1]
  generalize specGather (tapeOf l e).line (strictOf l e) l.redirstack l.store (tapeOf l e).idx = X
  cases X <;> simp [gatherResultI, atL, atE, t1]

/-! ## kernel-checked instances -/

/-- the shape of an outcome: number of parts, or the exception -/
def shape : Outcome → Nat ⊕ Exn
  | .parts l => .inl l.length
  | .single _ => .inl 1
  | .strs l => .inl l.length
  | .exn x => .inr x

def outEof (o : Outcome) : Bool := match o with | .exn x => isHdEofB x | _ => false

def P (s : String) (strict : Bool) : Outcome := (parse s.toList { strict := strict }).1
def askedP (s : String) : Bool := decide (Query.optStrict ∈ parseAsked s.toList {})


-- `cat <<E`: the input ends inside a missing here-document.  Strict: that ParsingError;
-- non-strict: one command.  The strict run asked `.optStrict`.

-- `a $(cat <<E)`: the here-document is missing inside a command substitution.  The nested
-- parser is strict under both values (`opts := some (true, false)`): the same error under both,
-- and `.optStrict` is never put to the environment.

-- a later part: the error of the second parser run escapes `parse` as it is

-- complete here-documents, and inputs without one: not asked, same outcome

/-- the hypothesis `StrictSite`, checked on instances: asked ⇒ the run ends in the error -/
def siteOK (s : String) : Bool :=
  !decide (Query.optStrict ∈ runParserAsked s.toList {} []) ||
    (match (runParser s.toList {} []).1 with | .error x => isHdEofB x | _ => false)


example : shape (P "cat <<E" true) =
    .inr (.parsing "here-document at line 0 delimited by end-of-file (wanted 'E')" "cat <<E\n".toList 8) ∧
    shape (P "cat <<E" false) = .inl 1 ∧ askedP "cat <<E" = true := by decide +kernel

example : shape (P "a $(cat <<E)" true) = shape (P "a $(cat <<E)" false) ∧
    outEof (P "a $(cat <<E)" true) = true ∧ askedP "a $(cat <<E)" = false := by decide +kernel

example : outEof (P "a\ncat <<E" true) = true ∧ shape (P "a\ncat <<E" false) = .inl 2 ∧
    askedP "a\ncat <<E" = true := by decide +kernel

example : askedP "cat <<E\nx\nE\n" = false ∧ askedP "a; b" = false ∧ askedP "a $(b <<E\nE\n)" = false ∧
    shape (P "cat <<E\nx\nE\n" true) = shape (P "cat <<E\nx\nE\n" false) := by decide +kernel

example : ["cat <<E", "a $(cat <<E)", "cat <<E\nx\nE\n", "cat <<E\nx", "cat <<-E\n\tx", "a <<A <<B\nA\n",
    "if a; then cat <<E\nfi", "a | b <<E", "(a <<E", "a <<'E'\nE", "a `b <<E`", ""].all siteOK = true := by
  decide +kernel

end Bashlex.C17

#print axioms Bashlex.C17.specGatherS_strict
#print axioms Bashlex.C17.gather_strict_site
#print axioms Bashlex.C17.gather_nested_strict_irrelevant
#print axioms Bashlex.C17.parseLoop_asked_eof
#print axioms Bashlex.C17.C17_strict_only_heredoc_eof_conditional
#print axioms Bashlex.C17.C17_strict_only_heredoc_eof_single_conditional
