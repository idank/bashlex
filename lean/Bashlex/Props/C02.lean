/-
  C02 — all-inputs ROUND-TRIP theorems: for every abstract command tree of a sub-language
  and every spelling of it in a spelling family, `parse` (real tokenizer, real LR tables, real
  actions, real word expansion, real outer loop of `Model/Parse.lean`) returns exactly the AST
  denoting the tree: node kinds, nesting, operators, word values, spans.  All options.

  Main theorems (this file):
  * `C02_simple_roundtrip`   words `w₁ gap₁ w₂ … wₙ`, leading / trailing blanks;
  * `C02_seq_roundtrip`      `c₁ ; c₂ ; … ; cₙ` (n ≥ 2);
  * `C02_pipeline_roundtrip` `c₁ | c₂ | … | cₙ` (n ≥ 2);
  * `C02_andor_roundtrip`    `c₁ op₂ c₂ …`, operators `;`, `&&`, `||` in any mix (one flat list node);
  * `C02_lines_roundtrip`, `C02_oplines_roundtrip`  several newline-separated lines, one part per line;
  * `C02_full_roundtrip`     lines of lists (`;`, `&&`, `||`) of pipelines (`|`) of simple commands of
                             plain words — subsumes all of the above;
  * `C02_full_roundtrip2`    (`C02_full_roundtrip3/4/5` are the same statement) the same with GENERAL
                             simple commands (`GCmd`, elements `Elem`): assignments `a=b` in command
                             position (ASSIGNMENT_WORD → `assignment` nodes; also assignment-only
                             commands), words of the form `a=b` after the command word stay `word`
                             nodes; the redirections `> w`, `< w`, `>> w` anywhere in a command, also
                             as its FIRST element (`GCmd.first : Elem`) and alone (`>f`);
                             file-descriptor prefixes `2> w`, `10< w`, `2>>w` (`Elem.nredir`: NUMBER
                             token, four-symbol productions, `redirect … (num n) …` nodes);
                             `C02_full_roundtrip_of2` derives `C02_full_roundtrip` from it through
                             the embedding `SCmd.toG`.

  The sub-language: a word is `PlainWord` (non-empty, over letters, digits and `_ - . / , : + @ %`);
  the FIRST word of every simple command is not in the model's table `valid_reserved_first_command`
  (`reservedFirstCommandChars`); later words may be reserved words (`echo if` is a command).
  The spelling family: any non-empty run of blanks/tabs between words; any (possibly empty) run of
  blanks/tabs before a command, after it, around every operator and at the end of a line; with or
  without a final newline.

  Exclusions (explicit hypotheses), each necessary — witnesses checked with `#eval`:
  * first word reserved:  `(parse "if".toList {}).1 = .exn (.parsing "unexpected EOF" … 2)`,
      `(parse "time x".toList {}).1 = .exn (.notImplemented "time command")`,
      `(parse "a ; if".toList {}).1 = .exn (.parsing "unexpected EOF" … 6)` (after `;`, `&&`, `||`, `|` a
      reserved word is acceptable again), while `(parse "echo if".toList {}).1` is the command node;
  * size: `5 * length + 20 ≤ 2^30` — an artefact of the MODEL (its loops run on the constant fuel
      2^30 and raise `outOfFuel` beyond); the implementation has no such bound.
  Outside the family (not claimed): empty commands (`a;;b` is `.exn (.parsing "unexpected token ';;'" …)`),
  a trailing `;` (`"a;"` gives a list node with a final operator), empty lines, `&`, `|&`, quoting,
  expansions, the other redirection operators (`>&`, `<&`, `>|`, `<>`, `&>`, `<<<`, here-documents),
  compound commands.  (For `&`: `tot_nextToken_amp` (`TokOp`) is the tokenizer half; the engine path is the
  mirror image of `;` — 6 →`&` 60, goto(60,93)=132, p153 at 132, and p149 `simple_list1 &` at 60 on
  NEWLINE — but `SeqOps.bstack/slOf/collapse` hard-code 61/133/p154.)
  A number is a NUMBER token only directly before `>`/`<` (`2 >f` is the word `2` and a plain redirection —
  that spelling is `.simple (.word "2")`, gap, `.redir …`, also covered).

  Structure of the proof (`Props/C02/*.lean`):
  * `Tot`      a total-correctness calculus `Tot m l T P` over (parser object, tape);
  * `Tok`, `TokOp`   the tokenizer: blanks, one iteration of the word loop, newline, EOF; one walk of
               `token()` for any operator (`tot_nextToken_op`), with `;`, `|`, `&&`, `||` as instances;
  * `Tables`   the entries of the regenerated tables the engine consults (kernel-decided), and where the
               states with a given goto entry / the terminals of a given row are found, for the three
               facts about ALL of them (`BaseW.g`, `TermW.g`, `TermOK.out`: what a state or terminal does
               for a plain word it does for every element of a command);
  * `Engine`, `Actions`   the engine step by step; the actions on the path, exact results;
  * `Run`, `Glue`        single engine steps, a blank line; from the engine to `parserRun`, `runParser`;
  * `Proofs/NodeResolve`  trees that `resolve` returns unchanged and in which `_endfinder` finds nothing
               (`Node.Settled`: no here-document body, no redirect waiting for one, anywhere in the tree);
               `PGGlue` shows it of the expected ASTs, node by node;
  * `Cmd`      one simple command over any base stack, up to any terminator (continuation style);
  * `Seq`, `SeqOps`      the types `SCmd`, `Op`, texts and nodes of lists; the two stack shapes of a list
               (flat, or `simple_list1 ;` under a group);
  * `Pipe`, `PipeE`      pipelines: `|` is right-nested on the stack (pending segments, unwinding); the
               type `PE` of a pipeline as one element of a list;
  * `SeqPE`, `ToG`   lists of pipelines of plain commands, embedded into the general ones: their runs
               (`pe_run`, `andor_step`, `run_seqE`) are the general runs on the images; `Special`:
               `run_seqO`, `run_seq`, `run_pipe`, `run_line` as special cases of `run_seqE`; `SeqPE`, at its end: the
               texts and expected ASTs of these sub-languages;
  * `TokG`, `CmdG`, `PipeG`, `SeqPG`, `PGGlue`, `ShiftG`   general simple commands: the tokenizer on
               words (one walk for any word of the class, `tot_nextToken_classG`; WORD/ASSIGNMENT_WORD,
               `tot_nextToken_wordG`; on words with `=`, `tot_nextToken_gen`: assignment bookkeeping
               `_assignment_acceptable`; on plain words, `tot_nextToken_word`),
               the item type `Item`, the run over a command, a pipeline, a line in two layers
               (`Feeds`: the engine over the tokens to come, `elem_stepF`, `itemsF`, `g_run13F`,
               `pipe_fwdF`, `gpe_runF`, `run_restF`; the tokenizer over the text, `feeds_more`,
               `follows_items`, `feeds_cmd`, `follows_prest`, `follows_hrest`), the runs stated over
               the text (`g_run13`, `gpe_run`, `run_seqH`, ...) from the two; `_parser.parse()` on a
               line and `posshifter` on its AST.  To add an item kind: extend `Item` and the `cases it` lemmas
               of `CmdG`.
  * `TokNum`   the tokenizer on `>`, `<`, `>>` and on digits directly before `>`/`<` (NUMBER, the other
               instance of `tot_nextToken_classG`);
               `CmdG.Elem` = item | `redir` | `nredir`; `CmdG.elem_stepF` (an element in state 13),
               `CmdG.first_stepF` (the first element over the base) and `CmdG.feeds_more` (its tokens)
               are the places with one case per element kind.  `TokOp`, at its end: the tokenizer on `&` (no theorem uses it).
  This file: the loop of `parse` over the lines is proved for the general type `HLine`
  (`C02_full_roundtrip2`); the theorems for the smaller input types follow through the embeddings
  `Line.toO`, `OLine.toE`, `ELine.toH`, the single-line theorems as their instances with one line;
  so do the single parser runs on the smaller types (`tot_parserRun_E/opsG/seq`, `runParser_pipe/ops/seq`).
-/
import Bashlex.Props.C02.SeqPE
import Bashlex.Props.C02.Special
import Bashlex.Props.C02.ShiftG
import Bashlex.Props.C02.TokOp

namespace Bashlex.C02
open Bashlex

/-- a line of plain words is a general command: its AST is settled -/
theorem cmdNode_settled (i : Nat) (g1 w1 : Str) (items : List (Str × Str)) :
    (cmdNode i g1 w1 items).Settled := by
  have := GCmd.node_settled (SCmd.toG ⟨g1, w1, items, []⟩) i
  rwa [SCmd.toG_node] at this

theorem nextIndex_cmdNode (i : Nat) (g1 w1 : Str) (items : List (Str × Str)) :
    nextIndex (cmdNode i g1 w1 items) = i + g1.length + w1.length + (spellI items).length := by
  rw [(cmdNode_settled i g1 w1 items).nextIndex]
  exact endI_eq items _

theorem nextIndex_opsNode (i : Nat) (c1 : SCmd) (cs : List (Op × SCmd)) :
    nextIndex (opsNode i c1 cs) = olastEnd (c1.endPos i) (i + c1.text.length) cs := by
  have h := hlineNodes_settled c1.toPE.toG (esToG (osToE cs)) i (i + c1.text.length)
  rw [PE.toG_node, SCmd.toPE_node, hrestNodes_map, erestNodes_map] at h
  exact (Node.Settled.of_children (n := opsNode i c1 cs) trivial h).nextIndex

theorem nextIndex_pipeNode (i : Nat) (c1 : SCmd) (cs : List SCmd) :
    nextIndex (pipeNode i c1 cs) = lastEnd (c1.endPos i) (i + c1.text.length) cs := by
  have h := GPE.nodes_settled c1.toG (cs.map SCmd.toG) i (i + c1.text.length)
  rw [SCmd.toG_node, gprestNodes_map] at h
  exact (Node.Settled.of_children (n := pipeNode i c1 cs) trivial h).nextIndex

theorem parseLoop_done (s : Str) (o : Opts) (fuel index : Nat) (parts : List Node) (t : List Char)
    (h : s.length ≤ index) : parseLoop s o (fuel + 1) index parts t = (.ok parts, t) := by
  rw [parseLoop, if_neg (Nat.not_lt.mpr h)]

section
open Bashlex.M Bashlex.LR

/-- **`_parser.parse()` on a line of plain words** (any nesting budget ≥ 1): returns the command
    node; no exception -/
theorem tot_parserRun_line {L : Str} {adn : Bool} {tail g1 w1 : Str} {items : List (Str × Str)}
    {l : Local} {i d : Nat}
    (htail : Blank tail) (hlen : L.length + 2 ≤ 1073741824)
    (hg1 : Blank g1) (hw1 : PlainWord w1) (hnr : reservedFirstCommandChars.lookup w1 = none)
    (hi : ItemsOK items) (hl : POK l) (hcur : histOK l.currentToken = true)
    (hL : L.drop i = g1 ++ w1 ++ spellI items ++ tail ++ ['\n'])
    (hf : 3 * items.length + 14 ≤ 1073741824) :
    Tot (parserRun (d + 1)) l ⟨L, i, adn⟩ (fun r _ _ => r = some (cmdNode i g1 w1 items)) := by
  exact tot_parserRun_of_run (cmdNode_settled i g1 w1 items).resolve
    fun P h => run_line htail hlen hg1 hw1 hnr hi hl hcur hL hf h

/-- **one top-level parser run on a line of plain words** returns the command node -/
theorem runParser_line {g1 w1 : Str} {items : List (Str × Str)} {tail : Str} (o : Opts)
    (t : List Char) (hg1 : Blank g1) (hw1 : PlainWord w1)
    (hnr : reservedFirstCommandChars.lookup w1 = none) (hi : ItemsOK items) (htail : Blank tail)
    (hsz : 3 * (lineText g1 w1 items tail).length + 14 ≤ 1073741824) :
    ∃ t', runParser (lineText g1 w1 items tail) o t = (.ok (some (cmdNode 0 g1 w1 items)), t') := by
  have hw : 0 < w1.length := List.length_pos_iff.mpr hw1.1
  have hlenT : (lineText g1 w1 items tail).length =
      g1.length + w1.length + (spellI items).length + tail.length := by
    simp [lineText]; omega
  have hne : lineText g1 w1 items tail ≠ [] := by
    have : 0 < (lineText g1 w1 items tail).length := by rw [hlenT]; omega
    exact List.length_pos_iff.mp this
  have hil := spellI_length items hi
  refine runParser_of_tot (ofInput_noNL hne (lineText_noNL hg1 hw1 hi htail)) ?_
  exact tot_parserRun_line (d := 63) htail (by simp; omega) hg1 hw1 hnr hi (initial_POK _) rfl
    (by simp [lineText]) (by omega)

end

/-- the round trip for a line without trailing blanks -/
theorem parse_line_notail {g1 w1 : Str} {items : List (Str × Str)} (o : Opts)
    (hg1 : Blank g1) (hw1 : PlainWord w1) (hnr : reservedFirstCommandChars.lookup w1 = none)
    (hi : ItemsOK items)
    (hsz : 3 * (lineText g1 w1 items []).length + 14 ≤ 1073741824) :
    (parse (lineText g1 w1 items []) o).1 = .parts [cmdNode 0 g1 w1 items] := by
  obtain ⟨t', hr⟩ := runParser_line o [] hg1 hw1 hnr hi (fun _ h => by cases h) hsz
  have hlen : (lineText g1 w1 items []).length = g1.length + w1.length + (spellI items).length := by
    simp [lineText]; omega
  unfold parse
  rw [hr]
  simp only [nextIndex_cmdNode, Nat.zero_add]
  rw [parseLoop_done _ _ _ _ _ _ (by rw [hlen]; omega)]

/-- **the round trip for a line of plain words**, leading and trailing blanks included: one part,
    the command node over the word nodes, every span exact — for all options -/
theorem parse_line {g1 w1 : Str} {items : List (Str × Str)} {tail : Str} (o : Opts)
    (hg1 : Blank g1) (hw1 : PlainWord w1) (hnr : reservedFirstCommandChars.lookup w1 = none)
    (hi : ItemsOK items) (htail : Blank tail)
    (hsz : 3 * (lineText g1 w1 items tail).length + 14 ≤ 1073741824) :
    (parse (lineText g1 w1 items tail) o).1 = .parts [cmdNode 0 g1 w1 items] := by
  obtain ⟨t', hr⟩ := runParser_line o [] hg1 hw1 hnr hi htail hsz
  have hw : 0 < w1.length := List.length_pos_iff.mpr hw1.1
  have hlen : (lineText g1 w1 items tail).length =
      g1.length + w1.length + (spellI items).length + tail.length := by
    simp [lineText]; omega
  unfold parse
  rw [hr]
  simp only [nextIndex_cmdNode, Nat.zero_add]
  have hmax : max (g1.length + w1.length + (spellI items).length) 1 =
      g1.length + w1.length + (spellI items).length := by omega
  rw [hmax]
  cases htl : tail with
  | nil =>
    subst htl
    rw [parseLoop_done _ _ _ _ _ _ (by rw [hlen]; simp)]
  | cons y tl =>
    rw [← htl]
    have hdrop : (lineText g1 w1 items tail).drop (g1.length + w1.length + (spellI items).length) =
        tail := by
      have : g1.length + w1.length + (spellI items).length = (g1 ++ w1 ++ spellI items).length := by
        simp; omega
      rw [this]
      exact List.drop_left' rfl
    obtain ⟨t'', hb⟩ := runParser_blank o t' (by rw [htl]; exact List.cons_ne_nil _ _) htail
      (by rw [hlen] at hsz; omega)
    rw [parseLoop, if_pos (by rw [hlen, htl]; simp), hdrop, hb]

/-! ## the statement in terms of words and gaps -/

/-- the spelling `w₁ gap₁ w₂ gap₂ … wₙ` (`gaps` are the `n − 1` separators) -/
def spell : List Str → List Str → Str
  | [], _ => []
  | w :: ws, gaps => w ++ spellI (gaps.zip ws)

/-- the expected word nodes, the first word starting at offset `off` -/
def wordNodes (off : Nat) : List Str → List Str → List Node
  | [], _ => []
  | w :: ws, gaps => Node.word (off, off + w.length) w [] :: nodesI (off + w.length) (gaps.zip ws)

/-- a separator: a non-empty run of blanks and tabs -/
def GapOK (g : Str) : Prop := g ≠ [] ∧ Blank g

instance (g : Str) : Decidable (GapOK g) := by unfold GapOK; exact inferInstance

/-- the first word is no reserved word (the model's own table `valid_reserved_first_command`) -/
def NotReserved (w : Str) : Prop := reservedFirstCommandChars.lookup w = none

instance (w : Str) : Decidable (NotReserved w) := by unfold NotReserved; exact inferInstance

/-- **C02, simple commands**: for every non-empty list of plain words whose first is no reserved
    word, every choice of separators (non-empty runs of blanks/tabs), every run of leading and of
    trailing blanks/tabs, and ALL options, `parse` returns exactly one part: the command node
    spanning from the first to the last word, over one part-less word node per word, each with its
    exact span and its text as value.
    (`hsz`: the model's loops run on the constant fuel 2^30; the implementation has no such bound.) -/
theorem C02_simple_roundtrip (ws gaps : List Str) (lead trail : Str) (o : Opts)
    (hws : ws ≠ []) (hp : ∀ w ∈ ws, PlainWord w) (hfirst : ∀ w, ws.head? = some w → NotReserved w)
    (hlen : gaps.length + 1 = ws.length) (hg : ∀ g ∈ gaps, GapOK g)
    (hlead : Blank lead) (htrail : Blank trail)
    (hsz : 3 * (lead ++ spell ws gaps ++ trail).length + 14 ≤ 1073741824) :
    (parse (lead ++ spell ws gaps ++ trail) o).1 =
      .parts [Node.command (lead.length, lead.length + (spell ws gaps).length)
        (wordNodes lead.length ws gaps)] := by
  cases ws with
  | nil => exact absurd rfl hws
  | cons w1 ws' =>
    have hi : ItemsOK (gaps.zip ws') := by
      intro it hit
      obtain ⟨g, w⟩ := it
      have := List.of_mem_zip hit
      exact ⟨hg g this.1, hp w (List.mem_cons_of_mem _ this.2)⟩
    have htext : lead ++ spell (w1 :: ws') gaps ++ trail = lineText lead w1 (gaps.zip ws') trail := by
      simp [spell, lineText]
    rw [htext] at hsz ⊢
    rw [parse_line o hlead (hp w1 (List.mem_cons_self ..)) (hfirst w1 rfl) hi htrail hsz]
    simp only [cmdNode, wordNodes, spell, Nat.zero_add, endI_eq, List.length_append]
    rw [Nat.add_assoc]

/-! ## the input types of the smaller sub-languages

  `Line` (`;` only), `OLine` (`;`, `&&`, `||`), `ELine` (pipelines as elements); the general type
  `HLine` follows with its theorem, and the three are then embedded into it. -/

/-- a line: `c₁ ; … ; cₙ`, n ≥ 1 -/
abbrev Line := SCmd × List SCmd
def Line.text (ln : Line) : Str := seqText ln.1 ln.2
def Line.OK (ln : Line) : Prop := ln.1.OK ∧ ∀ c ∈ ln.2, c.OK
instance (ln : Line) : Decidable ln.OK := by unfold Line.OK; exact inferInstance
/-- its AST when its text starts at offset `off`: the command node (n = 1) or the list node -/
def Line.node (off : Nat) (ln : Line) : Node := lineNode off ln.1 ln.2

/-- the text after the first line: `"\n" line₂ "\n" line₃ …`, with or without a final newline -/
def moreText (fin : Bool) : List Line → Str
  | [] => if fin then ['\n'] else []
  | ln :: lns => '\n' :: (ln.text ++ moreText fin lns)

/-- the expected parts, the first line starting at offset `off` -/
def partsOf (off : Nat) : List Line → List Node
  | [] => []
  | ln :: lns => ln.node off :: partsOf (off + ln.text.length + 1) lns

/-- the text of several lines -/
def linesText (fin : Bool) (ln1 : Line) (lns : List Line) : Str := ln1.text ++ moreText fin lns

/-- a line with mixed operators: `c₁ op₂ c₂ …`, n ≥ 1, opᵢ ∈ {`;`, `&&`, `||`} -/
abbrev OLine := SCmd × List (Op × SCmd)
def OLine.text (ln : OLine) : Str := opsText ln.1 ln.2
def OLine.OK (ln : OLine) : Prop := ln.1.OK ∧ ∀ x ∈ ln.2, x.2.OK
instance (ln : OLine) : Decidable ln.OK := by unfold OLine.OK; exact inferInstance
/-- its AST when its text starts at offset `off`: the command node (n = 1) or the list node -/
def OLine.node (off : Nat) (ln : OLine) : Node := olineNode off ln.1 ln.2

/-- the text after the first line: `"\n" line₂ "\n" line₃ …`, with or without a final newline -/
def omoreText (fin : Bool) : List OLine → Str
  | [] => if fin then ['\n'] else []
  | ln :: lns => '\n' :: (ln.text ++ omoreText fin lns)

/-- the expected parts, the first line starting at offset `off` -/
def opartsOf (off : Nat) : List OLine → List Node
  | [] => []
  | ln :: lns => ln.node off :: opartsOf (off + ln.text.length + 1) lns

/-- the text of several lines -/
def olinesText (fin : Bool) (ln1 : OLine) (lns : List OLine) : Str := ln1.text ++ omoreText fin lns

/-- the text of a line of pipelines -/
def elineText (p1 : PE) (es : List (Op × PE)) : Str := p1.text ++ erestText es

/-- a line: a list `p₁ op₂ p₂ …` (n ≥ 1, opᵢ ∈ {`;`, `&&`, `||`}) of pipelines `c | c | …` (m ≥ 1) -/
abbrev ELine := PE × List (Op × PE)
def ELine.text (ln : ELine) : Str := elineText ln.1 ln.2
def ELine.OK (ln : ELine) : Prop := ln.1.OK ∧ ∀ x ∈ ln.2, x.2.OK
instance (ln : ELine) : Decidable ln.OK := by unfold ELine.OK; exact inferInstance
/-- its AST when its text starts at offset `off`: the command node (n = 1) or the list node -/
def ELine.node (off : Nat) (ln : ELine) : Node := elineNode off ln.1 ln.2

/-- the text after the first line: `"\n" line₂ "\n" line₃ …`, with or without a final newline -/
def emoreText (fin : Bool) : List ELine → Str
  | [] => if fin then ['\n'] else []
  | ln :: lns => '\n' :: (ln.text ++ emoreText fin lns)

/-- the expected parts, the first line starting at offset `off` -/
def epartsOf (off : Nat) : List ELine → List Node
  | [] => []
  | ln :: lns => ln.node off :: epartsOf (off + ln.text.length + 1) lns

/-- the text of several lines -/
def elinesText (fin : Bool) (ln1 : ELine) (lns : List ELine) : Str := ln1.text ++ emoreText fin lns

/-! ## several lines: one parser run per line, the loop of `parse` -/

theorem ofInput_idx (S : Str) : (Tape.ofInput S).idx = 0 := Tape.ofInput_idx S

/-- the tape of an input that continues with nothing or with a newline after `A` -/
theorem line_shape {S A R : Str} (hS : S = A ++ R) (hR : R = [] ∨ ∃ nlr, R = '\n' :: nlr)
    {c : Char} (hA : A.getLast? = some c) (hc : c ≠ '\n') :
    ∃ L adn nlr', Tape.ofInput S = ⟨L, 0, adn⟩ ∧ L = A ++ '\n' :: nlr' ∧ L.length ≤ S.length + 1 := by
  rcases hR with rfl | ⟨nlr, rfl⟩
  · rw [List.append_nil] at hS
    subst hS
    exact ⟨S ++ ['\n'], true, [], Tape.ofInput_of_ne hA hc, rfl, by simp⟩
  · subst hS
    rcases Tape.ofInput_cases (A ++ '\n' :: nlr) with ⟨_, e⟩ | ⟨_, e⟩
    · exact ⟨_, false, nlr, e, rfl, by omega⟩
    · exact ⟨_, true, nlr ++ ['\n'], e, by simp, by simp; omega⟩

/-- one parser run on trailing blanks, with or without a final newline -/
theorem runParser_blankG {tail S : Str} (o : Opts) (t : List Char) (htail : Blank tail)
    (hS : (S = tail ∧ tail ≠ []) ∨ S = tail ++ ['\n']) (hsz : S.length + 3 ≤ 1073741824) :
    ∃ t', runParser S o t = (.ok none, t') := by
  rcases hS with ⟨rfl, hne⟩ | rfl
  · exact runParser_blank o t hne htail hsz
  · refine runParser_of_tot (Tape.ofInput_of_newline List.getLast?_concat) ?_
    exact tot_parserRun_blank htail (by simp at hsz ⊢; omega) (initial_POK _).wok (by simp)

/-! ## the full sub-language with GENERAL simple commands (assignments, `a=b` words) -/

theorem gprestText_noNL : ∀ (cs : List GCmd), (∀ c ∈ cs, c.OK) → ∀ x ∈ gprestText cs, x ≠ '\n'
  | [], _ => fun x hx => by cases hx
  | c :: cs, h => by
    intro x hx
    simp only [gprestText, List.mem_cons, List.mem_append] at hx
    rcases hx with rfl | hx | hx
    · decide
    · exact GCmd.text_noNL (h c (List.mem_cons_self ..)) x hx
    · exact gprestText_noNL cs (fun y hy => h y (List.mem_cons_of_mem _ hy)) x hx

theorem GPE.text_noNL {e : GPE} (he : e.OK) : ∀ x ∈ e.text, x ≠ '\n' := by
  intro x hx
  simp only [GPE.text, List.mem_append] at hx
  rcases hx with hx | hx
  · exact GCmd.text_noNL he.1 x hx
  · exact gprestText_noNL e.cs he.2 x hx

theorem hrestText_noNL : ∀ (es : List (Op × GPE)), (∀ x ∈ es, x.2.OK) →
    ∀ x ∈ hrestText es, x ≠ '\n'
  | [], _ => fun x hx => by cases hx
  | (o, e) :: es, h => by
    intro x hx
    have he := h (o, e) (List.mem_cons_self ..)
    simp only [hrestText, List.mem_append] at hx
    rcases hx with hx | hx | hx
    · exact op_noNL o x hx
    · exact GPE.text_noNL he x hx
    · exact hrestText_noNL es (fun y hy => h y (List.mem_cons_of_mem _ hy)) x hx

theorem gpcostB_le : ∀ (cs : List GCmd) (k : Nat), (∀ c ∈ cs, c.OK) →
    gpcostB k cs ≤ 5 * (gprestText cs).length + k + 2
  | [], k, _ => by simp [gpcostB, gprestText]
  | c :: cs, k, h => by
    have hc := GCmd.cost_le (h c (List.mem_cons_self ..))
    have ih := gpcostB_le cs (k + 1) (fun x hx => h x (List.mem_cons_of_mem _ hx))
    simp only [gpcostB, gprestText, List.length_cons, List.length_append]
    omega

theorem GPE.cost_le {e : GPE} (he : e.OK) : e.cost ≤ 5 * e.text.length + 1 := by
  have h0 := gpcostB_le e.cs 0 he.2
  have h1 := GCmd.cost_le he.1
  simp only [GPE.cost, GPE.text, List.length_append]
  omega

theorem GPE.text_pos {e : GPE} (he : e.OK) : 0 < e.text.length := by
  have := GCmd.text_pos he.1
  simp only [GPE.text, List.length_append]; omega

theorem hcost_le : ∀ (es : List (Op × GPE)) (k : Nat), k ≤ 1 → (∀ x ∈ es, x.2.OK) →
    hcost k es ≤ 5 * (hrestText es).length + k + 4
  | [], k, _, _ => by simp [hcost, hrestText]
  | (o, e) :: es, k, hk, h => by
    have he := h (o, e) (List.mem_cons_self ..)
    have ih1 := hcost_le es 1 (Nat.le_refl _) (fun x hx => h x (List.mem_cons_of_mem _ hx))
    have ihk := hcost_le es k hk (fun x hx => h x (List.mem_cons_of_mem _ hx))
    have hc := GPE.cost_le he
    cases o <;>
      simp only [hcost, hrestText, List.length_cons, List.length_append, Op.txt,
        List.length_nil] at * <;> omega

def hlastTrail (t0 : Str) : List (Op × GPE) → Str
  | [] => t0
  | (_, e) :: es => hlastTrail e.trail es

theorem hlastTrail_blank : ∀ (es : List (Op × GPE)) (t0 : Str), Blank t0 → (∀ x ∈ es, x.2.OK) →
    Blank (hlastTrail t0 es)
  | [], _, h, _ => h
  | (o, e) :: es, _, _, hes =>
    hlastTrail_blank es e.trail (GPE.trail_blank (hes (o, e) (List.mem_cons_self ..)))
      (fun x hx => hes x (List.mem_cons_of_mem _ hx))

theorem hsplit : ∀ (es : List (Op × GPE)) (pre t0 : Str) (e0 a : Nat), (∀ x ∈ es, x.2.OK) →
    pre.length = e0 → e0 + t0.length = a →
    ∃ Y, pre ++ t0 ++ hrestText es = Y ++ hlastTrail t0 es ∧ Y.length = hlastEnd e0 a es
  | [], pre, t0, e0, a, _, he, _ =>
    ⟨pre, by simp [hrestText, hlastTrail], by simpa [hlastEnd] using he⟩
  | (o, p) :: es, pre, t0, e0, a, hes, he, ha => by
    have hp := hes (o, p) (List.mem_cons_self ..)
    obtain ⟨Yp, hYp, _, hYe⟩ := GPE.split p hp
    obtain ⟨Y, hY, hYl⟩ := hsplit es (pre ++ t0 ++ o.txt ++ Yp) p.trail
      (p.endPos (a + o.txt.length)) (a + o.txt.length + p.text.length)
      (fun x hx => hes x (List.mem_cons_of_mem _ hx))
      (by rw [hYe]; simp only [List.length_append]; omega)
      (GPE.endPos_trail hp (a + o.txt.length))
    refine ⟨Y, ?_, by simpa [hlastEnd] using hYl⟩
    show pre ++ t0 ++ hrestText ((o, p) :: es) = Y ++ hlastTrail p.trail es
    rw [← hY]
    simp [hrestText, hYp]

theorem hlastEnd_pos : ∀ (es : List (Op × GPE)) (e0 a : Nat), (∀ x ∈ es, x.2.OK) → 1 ≤ e0 →
    1 ≤ hlastEnd e0 a es
  | [], _, _, _, h => h
  | (o, p) :: es, _, a, hes, _ => by
    obtain ⟨Yp, _, hY1, hYe⟩ := GPE.split p (hes (o, p) (List.mem_cons_self ..))
    exact hlastEnd_pos es _ _ (fun x hx => hes x (List.mem_cons_of_mem _ hx))
      (by rw [hYe]; omega)

/-- the text of a line -/
def hlineText (p1 : GPE) (es : List (Op × GPE)) : Str := p1.text ++ hrestText es

/-- a line: a list `p₁ op₂ p₂ …` (n ≥ 1, opᵢ ∈ {`;`, `&&`, `||`}) of pipelines `c | c | …` (m ≥ 1) -/
abbrev HLine := GPE × List (Op × GPE)
def HLine.text (ln : HLine) : Str := hlineText ln.1 ln.2
def HLine.OK (ln : HLine) : Prop := ln.1.OK ∧ ∀ x ∈ ln.2, x.2.OK
instance (ln : HLine) : Decidable ln.OK := by unfold HLine.OK; exact inferInstance
/-- its AST when its text starts at offset `off`: the command node (n = 1) or the list node -/
def HLine.node (off : Nat) (ln : HLine) : Node := hlineNode off ln.1 ln.2

theorem HLine.text_noNL {ln : HLine} (h : ln.OK) : ∀ x ∈ ln.text, x ≠ '\n' := by
  intro x hx
  simp only [HLine.text, hlineText, List.mem_append] at hx
  rcases hx with hx | hx
  · exact GPE.text_noNL h.1 x hx
  · exact hrestText_noNL ln.2 h.2 x hx

theorem HLine.text_pos {ln : HLine} (h : ln.OK) : 0 < ln.text.length := by
  have := GPE.text_pos h.1
  simp only [HLine.text, hlineText, List.length_append]; omega

theorem HLine.last {ln : HLine} (h : ln.OK) (P : Str) :
    ∃ c, (P ++ ln.text).getLast? = some c ∧ c ≠ '\n' := by
  have hne : ln.text ≠ [] := List.length_pos_iff.mp (HLine.text_pos h)
  rw [List.getLast?_append]
  cases hl : ln.text.getLast? with
  | none => simp [List.getLast?_eq_none_iff] at hl; exact absurd hl hne
  | some c => exact ⟨c, by simp, HLine.text_noNL h c (List.mem_of_getLast? hl)⟩

theorem HLine.cost {ln : HLine} (h : ln.OK) :
    hcost 0 ln.2 + ln.1.cost + 3 ≤ 5 * ln.text.length + 12 := by
  have hcost := hcost_le ln.2 0 (Nat.zero_le _) h.2
  have hc := GPE.cost_le h.1
  simp only [HLine.text, hlineText, List.length_append]
  omega

/-- one parser run on `line ++ R`, `R` empty or starting with a newline -/
theorem runParser_hlineG {ln : HLine} {R S : Str} (o : Opts) (t : List Char) (h : ln.OK)
    (hS : S = ln.text ++ R) (hR : R = [] ∨ ∃ nlr, R = '\n' :: nlr)
    (hsz : S.length + 3 ≤ 1073741824) (hf : hcost 0 ln.2 + ln.1.cost + 1 ≤ 1073741824) :
    ∃ t', runParser S o t = (.ok (some (ln.node 0)), t') := by
  obtain ⟨c, hc1, hc2⟩ := HLine.last h []
  obtain ⟨L, adn, nlr', hof, hL, hLl⟩ := line_shape (A := ln.text) hS hR (by simpa using hc1) hc2
  refine runParser_of_tot hof ?_
  refine tot_parserRun_H (nlr := nlr') (by omega) h.1 h.2 (initial_POK _) rfl rfl ?_ hf
  rw [hL]; simp [HLine.text, hlineText]

/-- one parser run on `pre ++ "\n" ++ line ++ R` -/
theorem runParser_hlineG_nl {ln : HLine} {R S pre : Str} (o : Opts) (t : List Char) (h : ln.OK)
    (hpre : Blank pre) (hS : S = pre ++ '\n' :: (ln.text ++ R))
    (hR : R = [] ∨ ∃ nlr, R = '\n' :: nlr) (hsz : 5 * S.length + 20 ≤ 1073741824) :
    ∃ t', runParser S o t = (.ok (some (ln.node (pre.length + 1))), t') := by
  obtain ⟨c, hc1, hc2⟩ := HLine.last h (pre ++ ['\n'])
  have hS' : S = (pre ++ ['\n'] ++ ln.text) ++ R := by rw [hS]; simp
  obtain ⟨L, adn, nlr', hof, hL, hLl⟩ := line_shape hS' hR hc1 hc2
  have hlen : ln.text.length ≤ S.length := by rw [hS]; simp; omega
  refine runParser_of_tot hof ?_
  have := tot_parserRun_H_nl (L := L) (adn := adn) (i := 0) (d := 63) (nlr := nlr') (pre := pre)
    (l := { limit := o.limit }) (by omega) h.1 h.2 (initial_POK _) rfl hpre
    (by rw [hL]; simp [HLine.text, hlineText]) (by have := HLine.cost h; omega)
  simpa [HLine.node] using this

/-- the text after the first line: `"\n" line₂ "\n" line₃ …`, with or without a final newline -/
def hmoreText (fin : Bool) : List HLine → Str
  | [] => if fin then ['\n'] else []
  | ln :: lns => '\n' :: (ln.text ++ hmoreText fin lns)

/-- the expected parts, the first line starting at offset `off` -/
def hpartsOf (off : Nat) : List HLine → List Node
  | [] => []
  | ln :: lns => ln.node off :: hpartsOf (off + ln.text.length + 1) lns

theorem hmoreText_shape (fin : Bool) (lns : List HLine) :
    hmoreText fin lns = [] ∨ ∃ nlr, hmoreText fin lns = '\n' :: nlr := by
  cases lns with
  | nil => cases fin <;> simp [hmoreText]
  | cons ln lns => exact Or.inr ⟨_, rfl⟩

theorem hmoreText_length (fin : Bool) : ∀ (lns : List HLine), lns.length ≤ (hmoreText fin lns).length
  | [] => by simp
  | ln :: lns => by
    have := hmoreText_length fin lns
    simp only [hmoreText, List.length_cons, List.length_append]; omega

/-- a line splits into everything up to the end of its last word, and its last trailing blanks -/
theorem HLine.split (ln : HLine) (h : ln.OK) :
    ∃ X LT, ln.text = X ++ LT ∧ Blank LT ∧ 1 ≤ X.length ∧
      ∀ off, nextIndex (ln.node off) = off + X.length := by
  obtain ⟨Y1, hY1, hY1pos, hY1e⟩ := GPE.split ln.1 h.1
  obtain ⟨X, hX, hXl⟩ := hsplit ln.2 Y1 ln.1.trail (ln.1.endPos 0) (0 + ln.1.text.length) h.2
    (by rw [hY1e]; simp) (GPE.endPos_trail h.1 0)
  refine ⟨X, hlastTrail ln.1.trail ln.2, ?_, hlastTrail_blank ln.2 _ (GPE.trail_blank h.1) h.2, ?_, ?_⟩
  · rw [← hX]; simp [HLine.text, hlineText, hY1]
  · rw [hXl]; exact hlastEnd_pos ln.2 _ _ h.2 (by rw [hY1e]; omega)
  · intro off
    rw [HLine.node, nextIndex_hlineNode, hXl]
    have := hlastEnd_shift off ln.2 (ln.1.endPos 0) (0 + ln.1.text.length)
    have e1 : ln.1.endPos off = ln.1.endPos 0 + off := by rw [← GPE.endPos_shift]; simp
    have e2 : off + ln.1.text.length = 0 + ln.1.text.length + off := by omega
    rw [e1, e2, this]
    omega

/-- **the loop of `parse`** over the remaining lines: `index` stands at the end of the last word of
    the previous line -/
theorem loop_hlines (s : Str) (o : Opts) (fin : Bool) (hsz : 5 * s.length + 20 ≤ 1073741824) :
    ∀ (lns : List HLine) (index fuel : Nat) (parts : List Node) (t : List Char) (trail : Str),
      (∀ ln ∈ lns, ln.OK) → Blank trail → s.drop index = trail ++ hmoreText fin lns →
      lns.length + 2 ≤ fuel →
      ∃ t', parseLoop s o fuel index parts t =
        (.ok (parts ++ hpartsOf (index + trail.length + 1) lns), t') := by
  intro lns
  induction lns with
  | nil =>
    intro index fuel parts t trail _ htrail hdrop hf
    obtain ⟨f, rfl⟩ : ∃ f, fuel = f + 1 := ⟨fuel - 1, by omega⟩
    have hdl : (s.drop index).length ≤ s.length := by rw [List.length_drop]; omega
    by_cases hlt : index < s.length
    · have hne : s.drop index ≠ [] := by
        intro h0
        have := List.drop_eq_nil_iff.mp h0
        omega
      have hb : ∃ t', runParser (s.drop index) o t = (.ok none, t') := by
        refine runParser_blankG (tail := trail) o t htrail ?_ (by omega)
        rw [hdrop] at hne ⊢
        cases fin with
        | true => exact Or.inr (by simp [hmoreText])
        | false =>
          refine Or.inl ⟨by simp [hmoreText], ?_⟩
          simpa [hmoreText] using hne
      obtain ⟨t', hb⟩ := hb
      refine ⟨t', ?_⟩
      rw [parseLoop, if_pos hlt, hb]
      simp [hpartsOf]
    · refine ⟨t, ?_⟩
      rw [parseLoop_done _ _ _ _ _ _ (by omega)]
      simp [hpartsOf]
  | cons ln lns ih =>
    intro index fuel parts t trail hok htrail hdrop hf
    obtain ⟨f, rfl⟩ : ∃ f, fuel = f + 1 := ⟨fuel - 1, by omega⟩
    have hln := hok ln (List.mem_cons_self ..)
    have hok' : ∀ x ∈ lns, x.OK := fun x hx => hok x (List.mem_cons_of_mem _ hx)
    have hdl : (s.drop index).length = s.length - index := List.length_drop
    have hlt : index < s.length := by
      have : 0 < (s.drop index).length := by rw [hdrop]; simp [hmoreText]; omega
      omega
    obtain ⟨t', hr⟩ := runParser_hlineG_nl (S := s.drop index) (R := hmoreText fin lns) o t hln htrail
      (by rw [hdrop]; simp [hmoreText]) (hmoreText_shape fin lns) (by omega)
    obtain ⟨X, LT, hsplit, hLT, hX1, hni⟩ := HLine.split ln hln
    have hshift : (ln.node (trail.length + 1)).shift index = ln.node (index + trail.length + 1) := by
      rw [HLine.node, hlineNode_shift, HLine.node]
      congr 1; omega
    have hnext : max (nextIndex (ln.node (index + trail.length + 1))) (index + 1) =
        index + trail.length + 1 + X.length := by
      rw [hni]; omega
    have hdrop' : s.drop (index + trail.length + 1 + X.length) = LT ++ hmoreText fin lns := by
      have e : index + trail.length + 1 + X.length = index + (trail ++ '\n' :: X).length := by
        simp; omega
      rw [e, ← List.drop_drop, hdrop]
      have : trail ++ hmoreText fin (ln :: lns) = (trail ++ '\n' :: X) ++ (LT ++ hmoreText fin lns) := by
        simp [hmoreText, hsplit]
      rw [this]
      exact List.drop_left' rfl
    obtain ⟨t'', hih⟩ := ih (index + trail.length + 1 + X.length) f
      (parts ++ [ln.node (index + trail.length + 1)]) t' LT hok' hLT hdrop' (by simp at hf; omega)
    refine ⟨t'', ?_⟩
    rw [parseLoop, if_pos hlt, hr]
    simp only [hshift, hnext, hih]
    have e2 : index + trail.length + 1 + X.length + LT.length + 1 =
        index + trail.length + 1 + ln.text.length + 1 := by rw [hsplit]; simp; omega
    simp [hpartsOf, e2]

/-- the text of several lines -/
def hlinesText (fin : Bool) (ln1 : HLine) (lns : List HLine) : Str := ln1.text ++ hmoreText fin lns

/-- **C02, the full sub-language**: newline-separated lines; each line a list `p₁ op₂ p₂ …` (n ≥ 1,
    operators `;`, `&&`, `||` in any mix); each `pᵢ` a pipeline `c | c | …` (m ≥ 1) of GENERAL simple commands:
    assignments `a=b` in command position (also assignment-only commands), then words (a first
    word is no reserved word; words of the form `a=b` after the command word stay words); blanks/tabs between the words, around every
    operator and at the ends of the lines; with or without a final newline.  For ALL options `parse`
    returns one part per line: the command node, the pipeline node, or the flat list node over
    commands / pipeline nodes / operators — every kind, nesting, operator, word value and span exact. -/
theorem C02_full_roundtrip2 (ln1 : HLine) (lns : List HLine) (fin : Bool) (o : Opts)
    (h1 : ln1.OK) (hl : ∀ ln ∈ lns, ln.OK)
    (hsz : 5 * (hlinesText fin ln1 lns).length + 20 ≤ 1073741824) :
    (parse (hlinesText fin ln1 lns) o).1 = .parts (hpartsOf 0 (ln1 :: lns)) := by
  obtain ⟨t1, hr⟩ := runParser_hlineG (S := hlinesText fin ln1 lns) (R := hmoreText fin lns) o [] h1 rfl
    (hmoreText_shape fin lns) (by omega)
    (by have := HLine.cost h1; have : ln1.text.length ≤ (hlinesText fin ln1 lns).length := by
          simp [hlinesText]
        omega)
  obtain ⟨X, LT, hsplit, hLT, hX1, hni⟩ := HLine.split ln1 h1
  have hdrop : (hlinesText fin ln1 lns).drop X.length = LT ++ hmoreText fin lns := by
    have : hlinesText fin ln1 lns = X ++ (LT ++ hmoreText fin lns) := by
      simp [hlinesText, hsplit]
    rw [this]
    exact List.drop_left' rfl
  have hlen : lns.length + 2 ≤ (hlinesText fin ln1 lns).length + 1 := by
    have := hmoreText_length fin lns
    have := HLine.text_pos h1
    simp only [hlinesText, List.length_append]; omega
  obtain ⟨t2, hloop⟩ := loop_hlines (hlinesText fin ln1 lns) o fin hsz lns X.length
    ((hlinesText fin ln1 lns).length + 1) [ln1.node 0] t1 LT hl hLT hdrop hlen
  unfold parse
  rw [hr]
  simp only [hni, Nat.zero_add]
  have hmax : max X.length 1 = X.length := by omega
  rw [hmax, hloop]
  have e2 : X.length + LT.length + 1 = 0 + ln1.text.length + 1 := by rw [hsplit]; simp
  simp [hpartsOf, e2]

/-- non-vacuity of `C02_full_roundtrip2` (kernel-checked): ` a=b c=d x  e=f >out < in |ls -l >>log&&v=1`,
    then `v=1;ls -l >>log` on a second line -/
example :
    let g1 : GCmd := ⟨[' '], .simple (.assign ['a', '=', 'b']), [([' '], .simple (.assign ['c', '=', 'd'])),
      ([' '], .simple (.word ['x'])), ([' ', ' '], .simple (.word ['e', '=', 'f'])),
      ([' '], .redir .gt [] ['o', 'u', 't']), ([' '], .redir .lt [' '] ['i', 'n'])], [' ']⟩
    let g2 : GCmd := ⟨[], .simple (.assign ['v', '=', '1']), [], []⟩
    let g3 : GCmd := ⟨[], .simple (.word ['l', 's']), [([' '], .simple (.word ['-', 'l'])),
      ([' '], .redir .gg [] ['l', 'o', 'g'])], []⟩
    let L1 : HLine := (⟨g1, [g3]⟩, [(.andand, ⟨g2, []⟩)])
    let L2 : HLine := (⟨g2, []⟩, [(.semi, ⟨g3, []⟩)])
    (parse (hlinesText true L1 [L2]) {}).1 = .parts (hpartsOf 0 [L1, L2]) := by
  intro g1 g2 g3 L1 L2
  exact C02_full_roundtrip2 L1 [L2] true {} (by decide) (by decide) (by decide)

/-- **C02, step (4)**: the statement of `C02_full_roundtrip2` over the item/element types as they
    stand now — `Elem` includes the redirections `> w`, `< w`, `>> w` (no file-descriptor prefix; blanks
    allowed between operator and word) anywhere after the first item of a simple command; each gives
    a `redirect` node `(start of op, end of w) none op (some (word …)) none none none`.
    (`GCmd`/`Elem` were generalised in place, so this is the same theorem as `C02_full_roundtrip2`;
    the step-(3) statement is its restriction to commands without `Elem.redir`.) -/
theorem C02_full_roundtrip3 (ln1 : HLine) (lns : List HLine) (fin : Bool) (o : Opts)
    (h1 : ln1.OK) (hl : ∀ ln ∈ lns, ln.OK)
    (hsz : 5 * (hlinesText fin ln1 lns).length + 20 ≤ 1073741824) :
    (parse (hlinesText fin ln1 lns) o).1 = .parts (hpartsOf 0 (ln1 :: lns)) :=
  C02_full_roundtrip2 ln1 lns fin o h1 hl hsz

/-- **C02, step (4b), first half**: the statement of `C02_full_roundtrip2` over the types as they stand
    now — the FIRST element of a simple command (`GCmd.first : Elem`) may itself be a redirection
    `> w`, `< w`, `>> w` (`>out cmd a`, `a | <in cat`, `x && >>log`, and redirection-only commands
    `>f`).  After a leading redirection the model accepts neither reserved words nor assignments
    (`>f a=b` gives the WORD `a=b`), which is what `Elem.after`/`GCmd.OK` say.  (`GCmd` was generalised
    in place; the step-(3)/(4) statement is the restriction to `first = .simple it`.) -/
theorem C02_full_roundtrip4 (ln1 : HLine) (lns : List HLine) (fin : Bool) (o : Opts)
    (h1 : ln1.OK) (hl : ∀ ln ∈ lns, ln.OK)
    (hsz : 5 * (hlinesText fin ln1 lns).length + 20 ≤ 1073741824) :
    (parse (hlinesText fin ln1 lns) o).1 = .parts (hpartsOf 0 (ln1 :: lns)) :=
  C02_full_roundtrip2 ln1 lns fin o h1 hl hsz

/-- non-vacuity of `C02_full_roundtrip4` (kernel-checked): ` >out x a=b <in|< in cat&&>>log`, then
    `>f;>>g v=1 <h` on a second line -/
example :
    let g1 : GCmd := ⟨[' '], .redir .gt [] ['o', 'u', 't'], [([' '], .simple (.word ['x'])),
      ([' '], .simple (.word ['a', '=', 'b'])), ([' '], .redir .lt [] ['i', 'n'])], []⟩
    let g2 : GCmd := ⟨[], .redir .lt [' '] ['i', 'n'], [([' '], .simple (.word ['c', 'a', 't']))], []⟩
    let g3 : GCmd := ⟨[], .redir .gg [] ['l', 'o', 'g'], [], []⟩
    let g4 : GCmd := ⟨[], .redir .gt [] ['f'], [], []⟩
    let g5 : GCmd := ⟨[], .redir .gg [] ['g'], [([' '], .simple (.word ['v', '=', '1'])),
      ([' '], .redir .lt [] ['h'])], []⟩
    let L1 : HLine := (⟨g1, [g2]⟩, [(.andand, ⟨g3, []⟩)])
    let L2 : HLine := (⟨g4, []⟩, [(.semi, ⟨g5, []⟩)])
    (parse (hlinesText true L1 [L2]) {}).1 = .parts (hpartsOf 0 [L1, L2]) := by
  intro g1 g2 g3 g4 g5 L1 L2
  exact C02_full_roundtrip4 L1 [L2] true {} (by decide) (by decide) (by decide)

/-- **C02, step (4b), second half**: the statement of `C02_full_roundtrip2` over the types as they
    stand now — `Elem.nredir n op g2 w` is a redirection with a file-descriptor prefix, `2> w`,
    `10< w`, `2>>w` (digits `n` directly before the operator: the tokenizer's NUMBER token, the
    four-symbol productions `redirection : NUMBER op WORD`), anywhere in a simple command, also first;
    its node is `redirect (start of n, end of w) (num n) op (some (word …)) none none none` with
    `n` read by the model's `digitsToNat`.  (`Elem` was generalised in place; the step-(4b, first half)
    statement is the restriction to commands without `Elem.nredir`.) -/
theorem C02_full_roundtrip5 (ln1 : HLine) (lns : List HLine) (fin : Bool) (o : Opts)
    (h1 : ln1.OK) (hl : ∀ ln ∈ lns, ln.OK)
    (hsz : 5 * (hlinesText fin ln1 lns).length + 20 ≤ 1073741824) :
    (parse (hlinesText fin ln1 lns) o).1 = .parts (hpartsOf 0 (ln1 :: lns)) :=
  C02_full_roundtrip2 ln1 lns fin o h1 hl hsz

/-- non-vacuity of `C02_full_roundtrip5` (kernel-checked): ` 2>err x 10< in a=b|2>>log cat&&>o 1> p`,
    then `v=1 2>e;0<i` on a second line -/
example :
    let g1 : GCmd := ⟨[' '], .nredir ['2'] .gt [] ['e', 'r', 'r'], [([' '], .simple (.word ['x'])),
      ([' '], .nredir ['1', '0'] .lt [' '] ['i', 'n']), ([' '], .simple (.word ['a', '=', 'b']))], []⟩
    let g2 : GCmd := ⟨[], .nredir ['2'] .gg [] ['l', 'o', 'g'], [([' '], .simple (.word ['c', 'a', 't']))], []⟩
    let g3 : GCmd := ⟨[], .redir .gt [] ['o'], [([' '], .nredir ['1'] .gt [' '] ['p'])], []⟩
    let g4 : GCmd := ⟨[], .simple (.assign ['v', '=', '1']), [([' '], .nredir ['2'] .gt [] ['e'])], []⟩
    let g5 : GCmd := ⟨[], .nredir ['0'] .lt [] ['i'], [], []⟩
    let L1 : HLine := (⟨g1, [g2]⟩, [(.andand, ⟨g3, []⟩)])
    let L2 : HLine := (⟨g4, []⟩, [(.semi, ⟨g5, []⟩)])
    (parse (hlinesText true L1 [L2]) {}).1 = .parts (hpartsOf 0 [L1, L2]) := by
  intro g1 g2 g3 g4 g5 L1 L2
  exact C02_full_roundtrip5 L1 [L2] true {} (by decide) (by decide) (by decide)


/-! ## the earlier sub-languages: restrictions of the general one

  Each smaller input type embeds into the next larger one (`Line → OLine → ELine → HLine`); an
  embedding keeps text, expected AST and well-formedness, so each theorem below is the one above it
  read through the embedding. -/

/-! ### plain words only: `ELine → HLine` -/

def ELine.toH (ln : ELine) : HLine := (ln.1.toG, esToG ln.2)

theorem ELine.toH_text (ln : ELine) : ln.toH.text = ln.text := by
  simp [ELine.toH, HLine.text, ELine.text, hlineText, elineText, PE.toG_text, hrestText_map]

theorem ELine.toH_node (ln : ELine) (off : Nat) : ln.toH.node off = ln.node off := by
  simp only [ELine.toH, HLine.node, ELine.node, hlineNode, elineNode, PE.toG_text, PE.toG_node,
    PE.toG_endPos, hrestNodes_map, hlastEnd_map]
  simp [PE.toG, SCmd.toG]

theorem ELine.toH_OK {ln : ELine} (h : ln.OK) : ln.toH.OK :=
  ⟨PE.toG_OK h.1, List.forall_mem_map.2 fun y hy => PE.toG_OK (h.2 y hy)⟩

section
open Bashlex.M Bashlex.LR

/-- `_parser.parse()` on a line of pipelines of commands of plain words.  Unlike `tot_parserRun_H`
    this asks nothing of the position of the token before the line: `run_seqE` fetches a plain
    first word from any position. -/
theorem tot_parserRun_E {L : Str} {adn : Bool} {p1 : PE} {es : List (Op × PE)} {l : Local}
    {i d : Nat} {nlr : Str}
    (hlen : L.length + 2 ≤ 1073741824) (hp1 : p1.OK) (hes : ∀ x ∈ es, x.2.OK)
    (hl : POK l) (hcur : histOK l.currentToken = true)
    (hL : L.drop i = p1.text ++ (erestText es ++ '\n' :: nlr))
    (hf : ecost 0 es + p1.cost + 2 ≤ 1073741824) :
    Tot (parserRun (d + 1)) l ⟨L, i, adn⟩ (fun r _ _ => r = some (elineNode i p1 es)) := by
  refine tot_parserRun_of_run (fun st => ?_) fun P h => ?_
  · rw [show elineNode i p1 es = hlineNode i p1.toG (esToG es) from (ELine.toH_node (p1, es) i).symm]
    exact (hlineNode_settled i _ _).resolve st
  · obtain ⟨f, hf'⟩ : ∃ f, 1073741824 = (f + ecost 0 es) + p1.cost + 1 :=
      ⟨1073741824 - (ecost 0 es + p1.cost + 1), by omega⟩
    rw [hf']
    exact run_seqE (nlr := nlr) hlen hp1 hes hl hcur hL h

/-- one parser run on a pipeline `c₁ | c₂ | …` -/
theorem runParser_pipe {c1 : SCmd} {cs : List SCmd} (o : Opts) (t : List Char)
    (hc1 : c1.OK) (hcs : ∀ c ∈ cs, c.OK) (hne : cs ≠ [])
    (hsz : (pipeText c1 cs).length + 3 ≤ 1073741824)
    (hf : pcost 0 cs + (3 * c1.items.length + 2) + 3 ≤ 1073741824) :
    ∃ t', runParser (pipeText c1 cs) o t = (.ok (some (pipeNode 0 c1 cs)), t') := by
  have ht : (ELine.toH (⟨c1, cs⟩, [])).text = pipeText c1 cs := by
    rw [ELine.toH_text]; simp [ELine.text, elineText, erestText, PE.text, pipeText]
  have h := runParser_hlineG (ln := ELine.toH (⟨c1, cs⟩, [])) (R := []) (S := pipeText c1 cs) o t
    (ELine.toH_OK ⟨⟨hc1, hcs⟩, fun _ h => by cases h⟩) (by rw [ht]; simp) (Or.inl rfl) hsz
    (by show hcost 0 (esToG []) + (PE.toG ⟨c1, cs⟩).cost + 1 ≤ _
        rw [hcost_map, PE.toG_cost]; have := pcost_eq cs 0; simp only [ecost, PE.cost]; omega)
  rw [ELine.toH_node] at h
  rw [← mkPipe_of_ne 0 c1 hne]
  exact h

end

theorem hlinesText_map (fin : Bool) (ln1 : ELine) (lns : List ELine) :
    hlinesText fin ln1.toH (lns.map ELine.toH) = elinesText fin ln1 lns := by
  have : hmoreText fin (lns.map ELine.toH) = emoreText fin lns := by
    induction lns with
    | nil => rfl
    | cons ln lns ih => simp [hmoreText, emoreText, ELine.toH_text, ih]
  simp [hlinesText, elinesText, ELine.toH_text, this]

theorem hpartsOf_map : ∀ (lns : List ELine) (off : Nat),
    hpartsOf off (lns.map ELine.toH) = epartsOf off lns
  | [], _ => rfl
  | ln :: lns, off => by simp [hpartsOf, epartsOf, ELine.toH_text, ELine.toH_node, hpartsOf_map lns]

/-- `C02_full_roundtrip`, derived from `C02_full_roundtrip2` through the embedding -/
theorem C02_full_roundtrip_of2 (ln1 : ELine) (lns : List ELine) (fin : Bool) (o : Opts)
    (h1 : ln1.OK) (hl : ∀ ln ∈ lns, ln.OK)
    (hsz : 5 * (elinesText fin ln1 lns).length + 20 ≤ 1073741824) :
    (parse (elinesText fin ln1 lns) o).1 = .parts (epartsOf 0 (ln1 :: lns)) := by
  have h := C02_full_roundtrip2 ln1.toH (lns.map ELine.toH) fin o (ELine.toH_OK h1)
    (List.forall_mem_map.2 fun y hy => ELine.toH_OK (hl y hy)) (by rwa [hlinesText_map])
  rwa [hlinesText_map, ← List.map_cons, hpartsOf_map] at h

/-- **C02, the full sub-language**: newline-separated lines; each line a list `p₁ op₂ p₂ …` (n ≥ 1,
    operators `;`, `&&`, `||` in any mix); each `pᵢ` a pipeline `c | c | …` (m ≥ 1) of simple commands
    of plain words (first words no reserved words); blanks/tabs between the words, around every
    operator and at the ends of the lines; with or without a final newline.  For ALL options `parse`
    returns one part per line: the command node, the pipeline node, or the flat list node over
    commands / pipeline nodes / operators — every kind, nesting, operator, word value and span exact. -/
theorem C02_full_roundtrip (ln1 : ELine) (lns : List ELine) (fin : Bool) (o : Opts)
    (h1 : ln1.OK) (hl : ∀ ln ∈ lns, ln.OK)
    (hsz : 5 * (elinesText fin ln1 lns).length + 20 ≤ 1073741824) :
    (parse (elinesText fin ln1 lns) o).1 = .parts (epartsOf 0 (ln1 :: lns)) :=
  C02_full_roundtrip_of2 ln1 lns fin o h1 hl hsz

/-! non-vacuity: the hypotheses are decidable and satisfiable (kernel-checked instance) -/

/-- ` ls -l|wc &&wc ` followed by a second line `wc` and a final newline -/
example :
    let ca : SCmd := ⟨[' '], ['l', 's'], [([' '], ['-', 'l'])], []⟩
    let cb : SCmd := ⟨[], ['w', 'c'], [], [' ']⟩
    let ln1 : ELine := (⟨ca, [cb]⟩, [(.andand, ⟨cb, []⟩)])
    let ln2 : ELine := (⟨cb, []⟩, [])
    (parse (elinesText true ln1 [ln2]) {}).1 = .parts (epartsOf 0 [ln1, ln2]) := by
  intro ca cb ln1 ln2
  exact C02_full_roundtrip ln1 [ln2] true {} (by decide) (by decide) (by decide)

/-- **C02, pipelines**: for every `n ≥ 2` simple commands of plain words (first words no reserved
    words), every spelling with blanks/tabs between the words, around the `|` and at both ends,
    and ALL options, `parse` returns exactly one part: the pipeline node from the first word of the
    first command to the last word of the last, over `cmd₁, pipe "|", cmd₂, …` with exact spans. -/
theorem C02_pipeline_roundtrip (c1 : SCmd) (cs : List SCmd) (o : Opts)
    (hc1 : c1.OK) (hcs : ∀ c ∈ cs, c.OK) (hne : cs ≠ [])
    (hsz : 5 * (pipeText c1 cs).length + 20 ≤ 1073741824) :
    (parse (pipeText c1 cs) o).1 = .parts [pipeNode 0 c1 cs] := by
  have ht : elinesText false (⟨c1, cs⟩, []) [] = pipeText c1 cs := by
    simp [elinesText, emoreText, ELine.text, elineText, erestText, PE.text, pipeText]
  have h := C02_full_roundtrip (⟨c1, cs⟩, []) [] false o ⟨⟨hc1, hcs⟩, fun _ h => by cases h⟩
    (fun _ h => by cases h) (by rwa [ht])
  rw [ht, epartsOf, epartsOf, ELine.node] at h
  rw [h]
  show Outcome.parts [PE.node 0 ⟨c1, cs⟩] = _
  rw [PE.node, PE.endPos, mkPipe_of_ne 0 c1 hne]

/-! ### no pipelines: `OLine → ELine`, a command is a pipeline of one -/

def OLine.toE (ln : OLine) : ELine := (ln.1.toPE, osToE ln.2)

theorem OLine.toE_text (ln : OLine) : ln.toE.text = ln.text := by
  simp [OLine.toE, ELine.text, OLine.text, elineText, opsText, SCmd.toPE_text, erestText_map]

theorem OLine.toE_node (ln : OLine) (off : Nat) : ln.toE.node off = ln.node off := by
  simp only [OLine.toE, ELine.node, OLine.node, elineNode, olineNode, SCmd.toPE_text, SCmd.toPE_node,
    SCmd.toPE_endPos, erestNodes_map, elastEnd_map]
  rfl

theorem OLine.toE_OK {ln : OLine} (h : ln.OK) : ln.toE.OK :=
  ⟨SCmd.toPE_OK h.1, List.forall_mem_map.2 fun y hy => SCmd.toPE_OK (h.2 y hy)⟩

section
open Bashlex.M Bashlex.LR

/-- `_parser.parse()` on a mixed-operator line of commands of plain words -/
theorem tot_parserRun_opsG {L : Str} {adn : Bool} {c1 : SCmd} {cs : List (Op × SCmd)} {l : Local}
    {i d : Nat} {nlr : Str}
    (hlen : L.length + 2 ≤ 1073741824) (hc1 : c1.OK) (hcs : ∀ x ∈ cs, x.2.OK)
    (hl : POK l) (hcur : histOK l.currentToken = true)
    (hL : L.drop i = c1.text ++ (orestText cs ++ '\n' :: nlr))
    (hf : ocost 0 cs + (3 * c1.items.length + 6) + 2 ≤ 1073741824) :
    Tot (parserRun (d + 1)) l ⟨L, i, adn⟩ (fun r _ _ => r = some (olineNode i c1 cs)) := by
  have hk := OLine.toE_OK (ln := (c1, cs)) ⟨hc1, hcs⟩
  have h := tot_parserRun_E (p1 := c1.toPE) (es := osToE cs) (i := i) (adn := adn) (d := d)
    (nlr := nlr) hlen hk.1 hk.2 hl hcur
    (by rw [SCmd.toPE_text, erestText_map]; exact hL) (by rw [ecost_map, SCmd.toPE_cost]; exact hf)
  rwa [show elineNode i c1.toPE (osToE cs) = olineNode i c1 cs from OLine.toE_node (c1, cs) i] at h

/-- the same after the trailing blanks and the newline of the previous line -/
theorem tot_parserRun_opsG_nl {L : Str} {adn : Bool} {c1 : SCmd} {cs : List (Op × SCmd)} {l : Local}
    {i d : Nat} {nlr pre : Str}
    (hlen : L.length + 2 ≤ 1073741824) (hc1 : c1.OK) (hcs : ∀ x ∈ cs, x.2.OK)
    (hl : POK l) (hcur : histOK l.currentToken = true) (hpre : Blank pre)
    (hL : L.drop i = pre ++ '\n' :: (c1.text ++ (orestText cs ++ '\n' :: nlr)))
    (hf : ocost 0 cs + (3 * c1.items.length + 6) + 2 ≤ 1073741824) :
    Tot (parserRun (d + 1)) l ⟨L, i, adn⟩
      (fun r _ _ => r = some (olineNode (i + pre.length + 1) c1 cs)) := by
  have hk := ELine.toH_OK (OLine.toE_OK (ln := (c1, cs)) ⟨hc1, hcs⟩)
  have h := tot_parserRun_H_nl (p1 := c1.toPE.toG) (es := esToG (osToE cs)) (i := i) (adn := adn) (d := d)
    (nlr := nlr) hlen hk.1 hk.2 hl hcur hpre
    (by rw [PE.toG_text, hrestText_map, SCmd.toPE_text, erestText_map]; exact hL)
    (by rw [hcost_map, PE.toG_cost, ecost_map, SCmd.toPE_cost]; exact hf)
  rwa [show hlineNode (i + pre.length + 1) c1.toPE.toG (esToG (osToE cs)) = olineNode _ c1 cs from
    (ELine.toH_node _ _).trans (OLine.toE_node (c1, cs) _)] at h

end

/-- one parser run on a mixed-operator line `c₁ op₂ c₂ …` -/
theorem runParser_ops {c1 : SCmd} {cs : List (Op × SCmd)} (o : Opts) (t : List Char)
    (hc1 : c1.OK) (hcs : ∀ x ∈ cs, x.2.OK) (hne : cs ≠ [])
    (hsz : (opsText c1 cs).length + 3 ≤ 1073741824)
    (hf : ocost 0 cs + (3 * c1.items.length + 6) + 2 ≤ 1073741824) :
    ∃ t', runParser (opsText c1 cs) o t = (.ok (some (opsNode 0 c1 cs)), t') := by
  have ht : (OLine.toE (c1, cs)).toH.text = opsText c1 cs := by
    rw [ELine.toH_text, OLine.toE_text]; rfl
  have h := runParser_hlineG (ln := (OLine.toE (c1, cs)).toH) (R := []) (S := opsText c1 cs) o t
    (ELine.toH_OK (OLine.toE_OK ⟨hc1, hcs⟩)) (by rw [ht]; simp) (Or.inl rfl) hsz
    (by show hcost 0 (esToG (osToE cs)) + c1.toPE.toG.cost + 1 ≤ _
        rw [hcost_map, PE.toG_cost, ecost_map, SCmd.toPE_cost]; omega)
  rwa [ELine.toH_node, OLine.toE_node, show OLine.node 0 (c1, cs) = opsNode 0 c1 cs from
    olineNode_of_ne 0 c1 hne] at h

theorem elinesText_map (fin : Bool) (ln1 : OLine) (lns : List OLine) :
    elinesText fin ln1.toE (lns.map OLine.toE) = olinesText fin ln1 lns := by
  have : emoreText fin (lns.map OLine.toE) = omoreText fin lns := by
    induction lns with
    | nil => rfl
    | cons ln lns ih => simp [emoreText, omoreText, OLine.toE_text, ih]
  simp [elinesText, olinesText, OLine.toE_text, this]

theorem epartsOf_map : ∀ (lns : List OLine) (off : Nat),
    epartsOf off (lns.map OLine.toE) = opartsOf off lns
  | [], _ => rfl
  | ln :: lns, off => by simp [epartsOf, opartsOf, OLine.toE_text, OLine.toE_node, epartsOf_map lns]

/-- **C02, several lines, mixed operators**: newline-separated lines, each `c₁ op₂ c₂ …` (n ≥ 1,
    operators `;`, `&&`, `||` in any mix) of
    simple commands of plain words, with or without a final newline: `parse` returns one part per
    line — the command node or the list node of that line, at its absolute offset — for ALL options. -/
theorem C02_oplines_roundtrip (ln1 : OLine) (lns : List OLine) (fin : Bool) (o : Opts)
    (h1 : ln1.OK) (hl : ∀ ln ∈ lns, ln.OK)
    (hsz : 5 * (olinesText fin ln1 lns).length + 20 ≤ 1073741824) :
    (parse (olinesText fin ln1 lns) o).1 = .parts (opartsOf 0 (ln1 :: lns)) := by
  have h := C02_full_roundtrip ln1.toE (lns.map OLine.toE) fin o (OLine.toE_OK h1)
    (List.forall_mem_map.2 fun y hy => OLine.toE_OK (hl y hy)) (by rwa [elinesText_map])
  rwa [elinesText_map, ← List.map_cons, epartsOf_map] at h

/-- **C02, sequences with `;`, `&&`, `||`**: for every `n ≥ 2` simple commands of plain words
    (first words no reserved words) joined by ANY mix of the operators `;`, `&&`, `||`, every
    spelling with blanks/tabs between the words, around the operators and at both ends, and ALL
    options, `parse` returns exactly one part: ONE flat list node over
    `cmd₁, operator op₂, cmd₂, …` with exact spans (the precedence of `&&`/`||` over `;` shows only in
    the engine's run, not in the AST). -/
theorem C02_andor_roundtrip (c1 : SCmd) (cs : List (Op × SCmd)) (o : Opts)
    (hc1 : c1.OK) (hcs : ∀ x ∈ cs, x.2.OK) (hne : cs ≠ [])
    (hsz : 5 * (opsText c1 cs).length + 20 ≤ 1073741824) :
    (parse (opsText c1 cs) o).1 = .parts [opsNode 0 c1 cs] := by
  have ht : olinesText false (c1, cs) [] = opsText c1 cs := by simp [olinesText, omoreText, OLine.text]
  have h := C02_oplines_roundtrip (c1, cs) [] false o ⟨hc1, hcs⟩ (fun _ h => by cases h) (by rwa [ht])
  rwa [ht, opartsOf, opartsOf, OLine.node, olineNode_of_ne 0 c1 hne] at h

/-! ### `;` only: `Line → OLine` -/

def Line.toO (ln : Line) : OLine := (ln.1, csToO ln.2)

theorem Line.toO_text (ln : Line) : ln.toO.text = ln.text := by
  simp [Line.toO, OLine.text, Line.text, opsText, seqText, orestText_map]

theorem Line.toO_node (ln : Line) (off : Nat) : ln.toO.node off = ln.node off := by
  simp only [Line.toO, OLine.node, Line.node, olineNode, lineNode, orestNodes_map, olastEnd_map]

theorem Line.toO_OK {ln : Line} (h : ln.OK) : ln.toO.OK :=
  ⟨h.1, List.forall_mem_map.2 fun y hy => h.2 y hy⟩

section
open Bashlex.M Bashlex.LR

/-- `_parser.parse()` on a `;`-line of commands of plain words -/
theorem tot_parserRun_seq {L : Str} {adn : Bool} {c1 : SCmd} {cs : List SCmd} {l : Local} {i d : Nat}
    {nlr : Str}
    (hlen : L.length + 2 ≤ 1073741824) (hc1 : c1.OK) (hcs : ∀ c ∈ cs, c.OK)
    (hl : POK l) (hcur : histOK l.currentToken = true)
    (hL : L.drop i = c1.text ++ (restText cs ++ '\n' :: nlr))
    (hf : cost cs + (3 * c1.items.length + 6) + 2 ≤ 1073741824) :
    Tot (parserRun (d + 1)) l ⟨L, i, adn⟩ (fun r _ _ => r = some (lineNode i c1 cs)) := by
  have h := tot_parserRun_opsG (cs := csToO cs) (i := i) (adn := adn) (d := d) (nlr := nlr) hlen hc1
    (Line.toO_OK (ln := (c1, cs)) ⟨hc1, hcs⟩).2 hl hcur (by rw [orestText_map]; exact hL)
    (by rw [ocost_map]; exact hf)
  rwa [show olineNode i c1 (csToO cs) = lineNode i c1 cs from Line.toO_node (c1, cs) i] at h

/-- the same after the trailing blanks and the newline of the previous line -/
theorem tot_parserRun_seq_nl {L : Str} {adn : Bool} {c1 : SCmd} {cs : List SCmd} {l : Local}
    {i d : Nat} {nlr pre : Str}
    (hlen : L.length + 2 ≤ 1073741824) (hc1 : c1.OK) (hcs : ∀ c ∈ cs, c.OK)
    (hl : POK l) (hcur : histOK l.currentToken = true) (hpre : Blank pre)
    (hL : L.drop i = pre ++ '\n' :: (c1.text ++ (restText cs ++ '\n' :: nlr)))
    (hf : cost cs + (3 * c1.items.length + 6) + 2 ≤ 1073741824) :
    Tot (parserRun (d + 1)) l ⟨L, i, adn⟩
      (fun r _ _ => r = some (lineNode (i + pre.length + 1) c1 cs)) := by
  have h := tot_parserRun_opsG_nl (cs := csToO cs) (i := i) (adn := adn) (d := d) (nlr := nlr) hlen hc1
    (Line.toO_OK (ln := (c1, cs)) ⟨hc1, hcs⟩).2 hl hcur hpre (by rw [orestText_map]; exact hL)
    (by rw [ocost_map]; exact hf)
  rwa [show olineNode _ c1 (csToO cs) = lineNode _ c1 cs from Line.toO_node (c1, cs) _] at h

end

/-- one parser run on a `;`-line `c₁ ; c₂ ; …` -/
theorem runParser_seq {c1 : SCmd} {cs : List SCmd} (o : Opts) (t : List Char)
    (hc1 : c1.OK) (hcs : ∀ c ∈ cs, c.OK)
    (hsz : (seqText c1 cs).length + 3 ≤ 1073741824)
    (hf : cost cs + (3 * c1.items.length + 6) + 2 ≤ 1073741824) :
    ∃ t', runParser (seqText c1 cs) o t = (.ok (some (lineNode 0 c1 cs)), t') := by
  have ht : (Line.toO (c1, cs)).toE.toH.text = seqText c1 cs := by
    rw [ELine.toH_text, OLine.toE_text, Line.toO_text]; rfl
  have h := runParser_hlineG (ln := (Line.toO (c1, cs)).toE.toH) (R := []) (S := seqText c1 cs) o t
    (ELine.toH_OK (OLine.toE_OK (Line.toO_OK ⟨hc1, hcs⟩))) (by rw [ht]; simp) (Or.inl rfl) hsz
    (by show hcost 0 (esToG (osToE (csToO cs))) + c1.toPE.toG.cost + 1 ≤ _
        rw [hcost_map, PE.toG_cost, ecost_map, SCmd.toPE_cost, ocost_map]; omega)
  rwa [ELine.toH_node, OLine.toE_node, Line.toO_node] at h

theorem olinesText_map (fin : Bool) (ln1 : Line) (lns : List Line) :
    olinesText fin ln1.toO (lns.map Line.toO) = linesText fin ln1 lns := by
  have : omoreText fin (lns.map Line.toO) = moreText fin lns := by
    induction lns with
    | nil => rfl
    | cons ln lns ih => simp [omoreText, moreText, Line.toO_text, ih]
  simp [olinesText, linesText, Line.toO_text, this]

theorem opartsOf_map : ∀ (lns : List Line) (off : Nat),
    opartsOf off (lns.map Line.toO) = partsOf off lns
  | [], _ => rfl
  | ln :: lns, off => by simp [opartsOf, partsOf, Line.toO_text, Line.toO_node, opartsOf_map lns]

/-- **C02, several lines**: newline-separated lines, each a sequence `c₁ ; … ; cₙ` (n ≥ 1) of
    simple commands of plain words, with or without a final newline: `parse` returns one part per
    line — the command node or the list node of that line, at its absolute offset — for ALL options. -/
theorem C02_lines_roundtrip (ln1 : Line) (lns : List Line) (fin : Bool) (o : Opts)
    (h1 : ln1.OK) (hl : ∀ ln ∈ lns, ln.OK)
    (hsz : 5 * (linesText fin ln1 lns).length + 20 ≤ 1073741824) :
    (parse (linesText fin ln1 lns) o).1 = .parts (partsOf 0 (ln1 :: lns)) := by
  have h := C02_oplines_roundtrip ln1.toO (lns.map Line.toO) fin o (Line.toO_OK h1)
    (List.forall_mem_map.2 fun y hy => Line.toO_OK (hl y hy)) (by rwa [olinesText_map])
  rwa [olinesText_map, ← List.map_cons, opartsOf_map] at h

/-- **C02, sequences**: for every `n ≥ 2` simple commands of plain words (first words no reserved
    words), every spelling with blanks/tabs between the words, around the `;` and at both ends,
    and ALL options, `parse` returns exactly one part: the list node from the first word of the
    first command to the last word of the last, over `cmd₁, operator ";", cmd₂, …` with exact spans. -/
theorem C02_seq_roundtrip (c1 : SCmd) (cs : List SCmd) (o : Opts)
    (hc1 : c1.OK) (hcs : ∀ c ∈ cs, c.OK) (hne : cs ≠ [])
    (hsz : 5 * (seqText c1 cs).length + 20 ≤ 1073741824) :
    (parse (seqText c1 cs) o).1 = .parts [seqNode 0 c1 cs] := by
  have ht : linesText false (c1, cs) [] = seqText c1 cs := by simp [linesText, moreText, Line.text]
  have h := C02_lines_roundtrip (c1, cs) [] false o ⟨hc1, hcs⟩ (fun _ h => by cases h) (by rwa [ht])
  rwa [ht, partsOf, partsOf, Line.node, lineNode_of_ne 0 c1 hne] at h

end Bashlex.C02

/-! ## axioms -/
#print axioms Bashlex.C02.tot_nextToken_word
#print axioms Bashlex.C02.tot_nextToken_nl
#print axioms Bashlex.C02.run_line
#print axioms Bashlex.C02.runParser_line
#print axioms Bashlex.C02.parse_line
#print axioms Bashlex.C02.C02_simple_roundtrip
#print axioms Bashlex.C02.tot_nextToken_semi
#print axioms Bashlex.C02.run_seq
#print axioms Bashlex.C02.C02_seq_roundtrip
#print axioms Bashlex.C02.C02_lines_roundtrip
#print axioms Bashlex.C02.tot_nextToken_bar
#print axioms Bashlex.C02.run_pipe
#print axioms Bashlex.C02.C02_pipeline_roundtrip
#print axioms Bashlex.C02.tot_nextToken_and
#print axioms Bashlex.C02.tot_nextToken_or
#print axioms Bashlex.C02.run_seqO
#print axioms Bashlex.C02.C02_andor_roundtrip
#print axioms Bashlex.C02.C02_oplines_roundtrip
#print axioms Bashlex.C02.pe_run
#print axioms Bashlex.C02.run_seqE
#print axioms Bashlex.C02.C02_full_roundtrip
#print axioms Bashlex.C02.tot_nextToken_gen
#print axioms Bashlex.C02.gpe_run
#print axioms Bashlex.C02.C02_full_roundtrip2
#print axioms Bashlex.C02.C02_full_roundtrip_of2
#print axioms Bashlex.C02.elem_step
#print axioms Bashlex.C02.C02_full_roundtrip3
#print axioms Bashlex.C02.C02_full_roundtrip4
#print axioms Bashlex.C02.C02_full_roundtrip5
#print axioms Bashlex.C02.tot_nextToken_num
#print axioms Bashlex.C02.tot_nextToken_amp
