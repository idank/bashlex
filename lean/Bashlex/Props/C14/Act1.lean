/-
  C14: relational lemmas for the actions `p_inputunit` … `p_cond_command`: 20 lemmas `rel_*`
  (`rel_arith_for_command` … `rel_redirection_heredoc`), after `rel_if_command` and the helper
  `sim_mkCompound1`, each `ActionRel pre top np "p_…"`: the
  action lemma of `Proofs/ActParam` at `shiftRel` / `shiftLogic`, with what it asks about the
  arguments taken from their sorts.
  The other 18 actions are in `Act2.lean`.
-/
import Bashlex.Props.C14.ActBase
import Bashlex.Proofs.ActParam.All
import Bashlex.Props.C12.AbsEqns
import Bashlex.Proofs.ActionEqns

namespace Bashlex.C14
open Bashlex Bashlex.C10 Bashlex.C12 Bashlex.LR Bashlex.ActParam

variable {pre : Str} {top : Bool} {n n' : Nat} {np : NestedParse}

/-- `mkCompound1` -/
theorem sim_mkCompound1 (inner : Span → List Node → Node)
    (hinner : ∀ sp ps, inner (sh (kOf pre top) sp) (ps.map (Node.shift (kOf pre top))) =
      (inner sp ps).shift (kOf pre top)) (parts : List Node) :
    Sim pre top n n (mkCompound1 inner parts)
      (mkCompound1 inner (parts.map (Node.shift (kOf pre top))))
      (fun a b => b = shiftS (kOf pre top) a) :=
  (J_mkCompound1 (shiftLogic pre top n) inner
    (by rintro p _ l _ rfl hl; rw [forall2_graph.1 hl]; exact hinner p l)
    (forall2_graph.2 rfl)).weaken fun _ _ h => shiftRel_S.1 h

theorem rel_if_command (hexp : ExpRel pre top np) : ActionRel pre top np "p_if_command" :=
  actionRel_of_param fun _ _ args _ hsafe hargs hok =>
    act_mkCompound _ .ifN (shiftRel _).ifN actionCore_p_if_command (wordJ_of_expRel hexp)
      (shift_args _ args) (argsPos_of_sorts hargs hsafe hok)

/-! ## the unimplemented constructs -/

theorem sim_unimpl (p₁ p₂ : PCtx) (ty : String) :
    Sim pre top 0 0 (do let v ← handleNotImplemented p₁ ty; pure (v, false) : M (SVal × Bool))
      (do let v ← handleNotImplemented p₂ ty; pure (v, false) : M (SVal × Bool))
      (ActRes (kOf pre top)) :=
  Sim.bind (V := fun _ _ => False) (sim_handleNotImplemented p₁ p₂ ty)
    (fun _ _ h => h.elim)

theorem rel_arith_for_command : ActionRel pre top np "p_arith_for_command" := by
  intro sorts σ args habs hsafe hargs hok
  simp only [actionCore_p_arith_for_command]
  exact sim_unimpl _ _ _

theorem rel_select_command : ActionRel pre top np "p_select_command" := by
  intro sorts σ args habs hsafe hargs hok
  simp only [actionCore_p_select_command]
  exact sim_unimpl _ _ _

theorem rel_coproc : ActionRel pre top np "p_coproc" := by
  intro sorts σ args habs hsafe hargs hok
  simp only [actionCore_p_coproc]
  exact sim_unimpl _ _ _

theorem rel_arith_command : ActionRel pre top np "p_arith_command" := by
  intro sorts σ args habs hsafe hargs hok
  simp only [actionCore_p_arith_command]
  exact sim_unimpl _ _ _

theorem rel_cond_command : ActionRel pre top np "p_cond_command" := by
  intro sorts σ args habs hsafe hargs hok
  simp only [actionCore_p_cond_command]
  exact sim_unimpl _ _ _

/-! ## lists of redirects, simple commands, commands -/

theorem rel_redirection_list : ActionRel pre top np "p_redirection_list" :=
  actionRel_of_param fun _ _ args _ _ _ _ => act_redirection_list _ (shift_args _ args)

theorem rel_simple_command : ActionRel pre top np "p_simple_command" :=
  actionRel_of_param fun _ _ args _ _ _ _ => act_simple_command _ (shift_args _ args)

theorem rel_command : ActionRel pre top np "p_command" :=
  actionRel_of_param fun _ _ args _ _ _ _ => act_command _ (shift_args _ args)

theorem rel_function_body : ActionRel pre top np "p_function_body" :=
  actionRel_of_param fun _ _ args _ _ _ _ => act_function_body _ (shift_args _ args)

theorem rel_subshell : ActionRel pre top np "p_subshell" :=
  actionRel_of_param fun _ _ args _ hsafe hargs hok =>
    act_group _ actionCore_p_subshell (shift_args _ args) (argsPos_of_sorts hargs hsafe hok)

theorem rel_group_command : ActionRel pre top np "p_group_command" :=
  actionRel_of_param fun _ _ args _ hsafe hargs hok =>
    act_group _ actionCore_p_group_command (shift_args _ args) (argsPos_of_sorts hargs hsafe hok)

theorem rel_case_command (hexp : ExpRel pre top np) : ActionRel pre top np "p_case_command" :=
  actionRel_of_param fun _ _ args _ hsafe hargs hok =>
    act_mkCompound _ .caseN (shiftRel _).caseN actionCore_p_case_command (wordJ_of_expRel hexp)
      (shift_args _ args) (argsPos_of_sorts hargs hsafe hok)

theorem rel_shell_command (hexp : ExpRel pre top np) : ActionRel pre top np "p_shell_command" :=
  actionRel_of_param fun _ _ args _ hsafe hargs hok =>
    act_shell_command _ (wordJ_of_expRel hexp) (shift_args _ args) (argsPos_of_sorts hargs hsafe hok)

theorem rel_for_command (hexp : ExpRel pre top np) : ActionRel pre top np "p_for_command" :=
  actionRel_of_param fun _ _ args _ hsafe hargs hok =>
    act_for_command _ (wordJ_of_expRel hexp) (shift_args _ args) (argsPos_of_sorts hargs hsafe hok)

theorem rel_function_def (hexp : ExpRel pre top np) : ActionRel pre top np "p_function_def" :=
  actionRel_of_param fun _ _ args _ hsafe hargs hok =>
    act_function_def _ (wordJ_of_expRel hexp) (shift_args _ args) (argsPos_of_sorts hargs hsafe hok)

theorem rel_inputunit : ActionRel pre top np "p_inputunit" :=
  actionRel_of_param fun _ _ args _ _ _ _ => act_inputunit _ (shift_args _ args)

/-! ## words -/

theorem rel_word_list (hexp : ExpRel pre top np) : ActionRel pre top np "p_word_list" :=
  actionRel_of_param fun _ _ args _ hsafe hargs hok =>
    act_word_list _ (wordJ_of_expRel hexp) (shift_args _ args) (argsPos_of_sorts hargs hsafe hok)

theorem rel_simple_command_element (hexp : ExpRel pre top np) :
    ActionRel pre top np "p_simple_command_element" :=
  actionRel_of_param fun _ _ args _ hsafe hargs hok =>
    act_simple_command_element _ (wordJ_of_expRel hexp) (shift_args _ args)
      (argsPos_of_sorts hargs hsafe hok)

/-! ## redirections -/

/-- a redirection has two or three right-hand-side symbols -/
theorem len_redirection {sorts : List Srt} {σ : Srt} {args : List SVal}
    (h : absAction "p_redirection" sorts = some σ) (ha : Forall2 HasSort sorts args) :
    PCtx.len ⟨np, args⟩ = 3 ∨ PCtx.len ⟨np, args⟩ = 4 := by
  have hl := forall2_length ha
  rw [absAction_p_redirection] at h
  unfold PCtx.len
  split at h
  · left; simp at hl; simp [← hl]
  · right; simp at hl; simp [← hl]
  · cases h

theorem len_redirection_heredoc {sorts : List Srt} {σ : Srt} {args : List SVal}
    (h : absAction "p_redirection_heredoc" sorts = some σ) (ha : Forall2 HasSort sorts args) :
    PCtx.len ⟨np, args⟩ = 3 ∨ PCtx.len ⟨np, args⟩ = 4 := by
  have hl := forall2_length ha
  rw [absAction_p_redirection_heredoc] at h
  unfold PCtx.len
  split at h
  · left; simp at hl; simp [← hl]
  · right; simp at hl; simp [← hl]
  · cases h

theorem rel_redirection (hexp : ExpRel pre top np) : ActionRel pre top np "p_redirection" :=
  actionRel_of_param fun _ _ args habs hsafe hargs hok =>
    act_redirection _ (wordJ_of_expRel hexp) (shift_args _ args) (argsPos_of_sorts hargs hsafe hok)
      (Or.inr (len_redirection habs hargs))

theorem rel_redirection_heredoc : ActionRel pre top np "p_redirection_heredoc" :=
  actionRel_of_param fun _ _ args habs hsafe hargs hok =>
    act_redirection_heredoc _ (shift_args _ args) (argsPos_of_sorts hargs hsafe hok)
      (Or.inr (len_redirection_heredoc habs hargs))

end Bashlex.C14
