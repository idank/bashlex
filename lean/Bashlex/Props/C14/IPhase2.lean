/-
  C14 interior: PHASE 2 of the tokenizer side by the "double simulation".

  `C14.Sim pre …` does not care what `pre` contains.  Let run A be a tokenizer program on the tape
  `Y` (cursor `j`), run B the same program on `X ++ Y` (cursor `j + |X|`), run C on
  `(X ++ ins) ++ Y` (cursor `j + |X| + |ins|`), B and C started in states that are both images of
  the state of A.  The existing relational walk of the whole tokenizer (`sim_nextToken`,
  `sim_gatherheredocuments`), applied with `pre := X` and with `pre := X ++ ins`, relates A to B
  and A to C; A is one deterministic run, so (`sim_double`): if B returns, C returns, and the
  final states are again both images of the final state of A — the invariant `J2` is preserved.
  Consequence for tokens (`tok_double_map`): the token of C is the token of B under the rigid
  span map `spanMapR |X| |ins|` (every position `≥ |X|` moves), which agrees with `spanMap` on
  every span whose end is not exactly `|X|` (`spanMapR_eq`).

  Everything here is proved without hypotheses.  NOT done: feeding `J2` into
  `C14_interior_from_conditional` (its logic, C16's `Rel`, has separate relations for parser
  objects and environments, while `C14.Rel` ties `_eol_ungetc_lookahead` to the cursor; here-
  document cells created from tokens in front of the gap cannot be images of cells of A), and
  phase 1.
-/
import Bashlex.Props.C14.IBridge

namespace Bashlex.C14I
open Bashlex Bashlex.LR Bashlex.C14

/-! ## the rigid span map -/

/-- every position `≥ x` moves by `k` (starts and ends alike) -/
def spanMapR (x k : Nat) (p : Span) : Span :=
  (if p.1 < x then p.1 else p.1 + k, if p.2 < x then p.2 else p.2 + k)

/-- it is `spanMap` except on spans that end exactly at `x` -/
theorem spanMapR_eq {x k : Nat} {p : Span} (h : p.2 ≠ x) : spanMapR x k p = spanMap x k p := by
  obtain ⟨a, b⟩ := p
  have h' : b ≠ x := h
  show (if a < x then a else a + k, if b < x then b else b + k) =
    (if a < x then a else a + k, if b ≤ x then b else b + k)
  congr 1
  by_cases h1 : b < x
  · rw [if_pos h1, if_pos (Nat.le_of_lt h1)]
  · have h2 : ¬ b ≤ x := by omega
    rw [if_neg h1, if_neg h2]

/-- a span moved by `x` is moved rigidly -/
theorem spanMapR_sh (x k : Nat) (p : Span) : spanMapR x k (sh x p) = sh (x + k) p := by
  obtain ⟨a, b⟩ := p
  show (if a + x < x then a + x else a + x + k, if b + x < x then b + x else b + x + k) =
    (a + (x + k), b + (x + k))
  have h1 : ¬ a + x < x := by omega
  have h2 : ¬ b + x < x := by omega
  rw [if_neg h1, if_neg h2, Nat.add_assoc, Nat.add_assoc]

/-! ## the double simulation -/

/-- **B and C are both images of A** -/
def J2 (X ins : Str) (l_B : Local) (e_B : Env) (l_C : Local) (e_C : Env) : Prop :=
  ∃ l_A e_A, C14.Rel X true 0 l_A e_A l_B e_B ∧ C14.Rel (X ++ ins) true 0 l_A e_A l_C e_C

/-- **double simulation**: a program that is simulated under every prefix, run on `X ++ Y` and
    on `X ++ ins ++ Y` from images of one state: if the first run returns, so does the second,
    with results that are both images (`V`) of one result, and `J2` holds again -/
theorem sim_double {α : Type} {m : M α} {V : Nat → α → α → Prop}
    (hm : ∀ pre : Str, Sim pre true 0 0 m m (V pre.length)) (X ins : Str)
    {l_B l_C : Local} {e_B e_C : Env} (hJ : J2 X ins l_B e_B l_C e_C)
    {a_B : α} {l_B' : Local} {e_B' : Env} (hr : M.run m l_B e_B = (.ok (a_B, l_B'), e_B')) :
    ∃ a_A a_C l_C' e_C', M.run m l_C e_C = (.ok (a_C, l_C'), e_C') ∧
      V X.length a_A a_B ∧ V (X ++ ins).length a_A a_C ∧ J2 X ins l_B' e_B' l_C' e_C' := by
  obtain ⟨l_A, e_A, hB, hC⟩ := hJ
  have h1 := hm X l_A l_B e_A e_B hB
  have h2 := hm (X ++ ins) l_A l_C e_A e_C hC
  rw [hr] at h1
  rcases hA : M.run m l_A e_A with ⟨rA, e_A'⟩
  rw [hA] at h1 h2
  cases rA with
  | error x => exact h1.elim
  | ok vA =>
    obtain ⟨a_A, l_A'⟩ := vA
    rcases hCr : M.run m l_C e_C with ⟨rC, e_C'⟩
    rw [hCr] at h2
    cases rC with
    | error y => exact h2.elim
    | ok vC =>
      obtain ⟨a_C, l_C'⟩ := vC
      exact ⟨a_A, a_C, l_C', e_C', rfl, h1.1, h2.1, ⟨l_A', e_A', h1.2, h2.2⟩⟩

/-- **`token()` in phase 2** -/
theorem tok_double (X ins : Str) {l_B l_C : Local} {e_B e_C : Env}
    (hJ : J2 X ins l_B e_B l_C e_C) {t_B : Token} {l_B' : Local} {e_B' : Env}
    (hr : M.run nextToken l_B e_B = (.ok (t_B, l_B'), e_B')) :
    ∃ t_A t_C l_C' e_C', M.run nextToken l_C e_C = (.ok (t_C, l_C'), e_C') ∧
      TokRel X.length t_A t_B ∧ TokRel (X ++ ins).length t_A t_C ∧
      J2 X ins l_B' e_B' l_C' e_C' :=
  sim_double (V := fun k => TokRel k) (fun pre => sim_nextToken (pre := pre) (top := true)) X ins hJ hr

/-- **`gatherheredocuments` in phase 2** -/
theorem gather_double (X ins : Str) {l_B l_C : Local} {e_B e_C : Env}
    (hJ : J2 X ins l_B e_B l_C e_C) {u : Unit} {l_B' : Local} {e_B' : Env}
    (hr : M.run gatherheredocuments l_B e_B = (.ok (u, l_B'), e_B')) :
    ∃ l_C' e_C', M.run gatherheredocuments l_C e_C = (.ok ((), l_C'), e_C') ∧
      J2 X ins l_B' e_B' l_C' e_C' := by
  obtain ⟨_, a_C, l_C', e_C', h, _, _, hJ'⟩ :=
    sim_double (V := fun _ _ _ => True)
      (fun pre => sim_gatherheredocuments (pre := pre) (top := true) (Nat.zero_le _)) X ins hJ hr
  exact ⟨l_C', e_C', h, hJ'⟩

/-- the token of C is the token of B under the rigid span map -/
theorem tokRel_map {x k : Nat} {t_A t_B t_C : Token} (hB : TokRel x t_A t_B)
    (hC : TokRel (x + k) t_A t_C) : t_C = mapTok (spanMapR x k) t_B := by
  cases t_A with
  | mk ty v p fl =>
  cases t_B with
  | mk ty₂ v₂ p₂ fl₂ =>
  cases t_C with
  | mk ty₃ v₃ p₃ fl₃ =>
  have h1 := hB.ttype; have h2 := hB.value; have h3 := hB.flags; have h4 := hB.pos
  have g1 := hC.ttype; have g2 := hC.value; have g3 := hC.flags; have g4 := hC.pos
  simp only at h1 h2 h3 h4 g1 g2 g3 g4
  subst h1 h2 h3 h4 g1 g2 g3 g4
  simp only [mapTok]
  cases p with
  | none => rfl
  | some q => simp only [Option.map_some, spanMapR_sh]

/-- **`token()` in phase 2, in terms of the span map** -/
theorem tok_double_map (X ins : Str) {l_B l_C : Local} {e_B e_C : Env}
    (hJ : J2 X ins l_B e_B l_C e_C) {t_B : Token} {l_B' : Local} {e_B' : Env}
    (hr : M.run nextToken l_B e_B = (.ok (t_B, l_B'), e_B')) :
    ∃ l_C' e_C', M.run nextToken l_C e_C =
        (.ok (mapTok (spanMapR X.length ins.length) t_B, l_C'), e_C') ∧
      (∀ p, t_B.pos = some p → X.length ≤ p.1 ∧ X.length ≤ p.2) ∧
      J2 X ins l_B' e_B' l_C' e_C' := by
  obtain ⟨t_A, t_C, l_C', e_C', h, hB, hC, hJ'⟩ := tok_double X ins hJ hr
  rw [List.length_append] at hC
  refine ⟨l_C', e_C', by rw [h, tokRel_map hB hC], ?_, hJ'⟩
  intro p hp
  have := hB.pos
  rw [hp] at this
  cases hq : t_A.pos with
  | none => rw [hq] at this; cases this
  | some q =>
    rw [hq] at this
    simp only [Option.map_some, Option.some.injEq] at this
    rw [this]
    exact ⟨Nat.le_add_left _ _, Nat.le_add_left _ _⟩

end Bashlex.C14I
