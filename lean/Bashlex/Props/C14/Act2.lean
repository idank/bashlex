/-
  C14: relational lemmas for the actions `p_empty` … `p_simple_list` (19 lemmas `rel_*`), each
  `ActionRel pre top np "p_…"`: the action lemma of `Proofs/ActParam` at `shiftRel` / `shiftLogic`,
  with what it asks about the arguments taken from their sorts.
-/
import Bashlex.Props.C14.ActBase
import Bashlex.Proofs.ActParam.All
import Bashlex.Proofs.ActionEqns

namespace Bashlex.C14
open Bashlex Bashlex.C10 Bashlex.C12 Bashlex.LR Bashlex.ActParam

variable {pre : Str} {top : Bool} {n n' : Nat} {np : NestedParse}

/-! ## trivial actions -/

theorem rel_empty : ActionRel pre top np "p_empty" :=
  actionRel_of_param fun _ _ _ _ _ _ _ => act_none _ actionCore_p_empty

theorem rel_newline_list : ActionRel pre top np "p_newline_list" :=
  actionRel_of_param fun _ _ _ _ _ _ _ => act_none _ actionCore_p_newline_list

theorem rel_simple_list_terminator : ActionRel pre top np "p_simple_list_terminator" :=
  actionRel_of_param fun _ _ _ _ _ _ _ => act_none _ actionCore_p_simple_list_terminator

theorem rel_list : ActionRel pre top np "p_list" :=
  actionRel_of_param fun _ _ args _ _ _ _ => act_list _ (shift_args _ args)

theorem rel_timespec : ActionRel pre top np "p_timespec" := by
  intro sorts σ args habs hsafe hargs hok
  simp only [actionCore_p_timespec]
  exact Sim.bind (sim_handleNotImplemented _ _ _) (fun _ _ h => h.elim)

/-! ## case clauses -/

theorem rel_case_clause : ActionRel pre top np "p_case_clause" :=
  actionRel_of_param fun _ _ args _ _ _ _ => act_case_clause _ (shift_args _ args)

theorem rel_case_clause_sequence : ActionRel pre top np "p_case_clause_sequence" :=
  actionRel_of_param fun _ _ args _ hsafe hargs hok =>
    act_case_clause_sequence _ (shift_args _ args) (argsPos_of_sorts hargs hsafe hok)

theorem rel_pattern (hexp : ExpRel pre top np) : ActionRel pre top np "p_pattern" :=
  actionRel_of_param fun _ _ args _ hsafe hargs hok =>
    act_pattern _ (wordJ_of_expRel hexp) (shift_args _ args) (argsPos_of_sorts hargs hsafe hok)

theorem rel_pattern_list : ActionRel pre top np "p_pattern_list" :=
  actionRel_of_param fun _ _ args _ hsafe hargs hok =>
    act_pattern_list _ (shift_args _ args) (argsPos_of_sorts hargs hsafe hok)

/-! ## lists -/

theorem rel_compound_list : ActionRel pre top np "p_compound_list" :=
  actionRel_of_param fun _ _ args _ _ _ _ => act_compound_list _ (shift_args _ args)

theorem rel_list0 : ActionRel pre top np "p_list0" :=
  actionRel_of_param fun _ _ args _ hsafe hargs hok =>
    act_list0 _ (shift_args _ args) (argsPos_of_sorts hargs hsafe hok)

theorem rel_list1 : ActionRel pre top np "p_list1" :=
  actionRel_of_param fun _ _ args _ hsafe hargs hok =>
    act_join _ .operator (shiftRel _).operator "p_list1" actionCore_p_list1 (shift_args _ args)
      (argsPos_of_sorts hargs hsafe hok)

theorem rel_simple_list1 : ActionRel pre top np "p_simple_list1" :=
  actionRel_of_param fun _ _ args _ hsafe hargs hok =>
    act_join _ .operator (shiftRel _).operator "p_simple_list1" actionCore_p_simple_list1
      (shift_args _ args) (argsPos_of_sorts hargs hsafe hok)

theorem rel_pipeline : ActionRel pre top np "p_pipeline" :=
  actionRel_of_param fun _ _ args _ hsafe hargs hok =>
    act_join _ .pipe (shiftRel _).pipe "p_pipeline" actionCore_p_pipeline (shift_args _ args)
      (argsPos_of_sorts hargs hsafe hok)

/-! ## `p_list_terminator` -/

/-- the token may be the EOF token, which has no span; a token with a value has one (`SOK`) -/
theorem rel_list_terminator : ActionRel pre top np "p_list_terminator" :=
  actionRel_of_param fun _ _ args _ _ _ hok =>
    act_list_terminator _ (shift_args _ args) fun t ht hv => by
      show t.pos.isSome = true
      cases hp : t.pos with
      | some _ => rfl
      | none => exact absurd (hok _ ht t rfl hp).2 hv

/-! ## `p_elif_clause` -/

/-- the arguments of `p_elif_clause`: tokens with spans, nodes, lists of nodes; never `None` -/
theorem elif_args : ∀ {sorts : List Srt} {args : List SVal}, Forall2 HasSort sorts args →
    sorts.all ifPartSort = true → sorts.all (fun s => s != .none && tokNotEOF s) = true →
    (∀ a, a ∈ args → SOK a) →
    ∀ a, a ∈ args → a ≠ .none ∧ ∀ t, a = .tok t → t.pos.isSome = true := by
  intro sorts args h
  induction h with
  | nil => intro _ _ _ a ha; cases ha
  | @cons s v ss vs h1 _ ih =>
    intro hif hall hok a ha
    rw [List.all_cons, Bool.and_eq_true] at hif hall
    rcases List.mem_cons.1 ha with rfl | ha'
    · have hs := hall.1
      rw [Bool.and_eq_true] at hs
      cases s with
      | none => exact absurd hs.1 (by decide)
      | tok ty =>
        cases ty with
        | none => exact absurd hs.2 (by decide)
        | some ty =>
          have hne : ty ≠ .EOF := by
            intro h; subst h; exact absurd hs.2 (by decide)
          obtain ⟨t', rfl, _, _, hp⟩ :=
            tok_of_sort h1 hne (hok _ List.mem_cons_self)
          exact ⟨fun h => (by cases h), fun t ht => (by cases ht; exact hp)⟩
      | node c =>
        obtain ⟨_, rfl, _⟩ := h1
        exact ⟨fun h => (by cases h), fun t ht => (by cases ht)⟩
      | optNode c => exact absurd hif.1 (by simp [ifPartSort])
      | nodes k =>
        obtain ⟨_, rfl, _⟩ := h1
        exact ⟨fun h => (by cases h), fun t ht => (by cases ht)⟩
    · exact ih hif.2 hall.2 (fun a ha => hok a (List.mem_cons_of_mem _ ha)) a ha'

theorem rel_elif_clause : ActionRel pre top np "p_elif_clause" :=
  actionRel_of_param fun sorts _ args habs hsafe hargs hok => by
    have hif : sorts.all ifPartSort = true := by
      unfold absAction at habs; simp only [] at habs
      split at habs
      · assumption
      · cases habs
    have hA := elif_args hargs hif hsafe hok
    exact act_elif_clause _ (shift_args _ args) (fun v hv => (hA v hv).2)
      (Or.inr fun v hv => (hA v hv).1)

/-! ## `p_pipeline_command` -/

theorem pipeline_command_shape {sorts : List Srt} {args : List SVal}
    (hsafe : shiftSafe "p_pipeline_command" sorts = true) (hargs : Forall2 HasSort sorts args)
    (hok : ∀ a, a ∈ args → SOK a) :
    (∃ l, args = [.nodes l]) ∨ (∃ t v, args = [.tok t, v] ∧ t.pos.isSome = true) := by
  unfold shiftSafe at hsafe; simp only [] at hsafe
  split at hsafe
  · obtain ⟨a, rfl, ⟨l, rfl, _⟩⟩ := forall2_1 hargs
    exact Or.inl ⟨l, rfl⟩
  · rename_i ty s
    obtain ⟨a, b, rfl, ha, _⟩ := forall2_2 hargs
    have hne : ty ≠ .EOF := by simpa using hsafe
    obtain ⟨t, rfl, _, _, hp⟩ :=
      tok_of_sort ha hne (hok _ List.mem_cons_self)
    exact Or.inr ⟨t, b, rfl, hp⟩
  · cases hsafe

theorem rel_pipeline_command : ActionRel pre top np "p_pipeline_command" :=
  actionRel_of_param fun _ _ args _ hsafe hargs hok => by
    refine act_pipeline_command _ (shift_args _ args) fun h2 => ?_
    rcases pipeline_command_shape hsafe hargs hok with ⟨l, rfl⟩ | ⟨t, v, rfl, hp⟩
    · exact absurd rfl h2
    · exact shiftTok_span _ hp

/-! ## `p_simple_list` -/

/-- the eof token of the model (`rparenEofToken`) -/
theorem eofTest_rparen {t₁ t₂ : Token} (h : HEq t₁ t₂) (hf : t₂.flags = t₁.flags) :
    (({ t₂ with pos := none } : Token) = rparenEofToken ↔
      ({ t₁ with pos := none } : Token) = rparenEofToken) :=
  eofTest_iff h hf (by decide) (by decide)

theorem rel_simple_list (hcur : CurFlags pre top) : ActionRel pre top np "p_simple_list" :=
  actionRel_of_param fun _ _ args _ hsafe hargs hok =>
    act_simple_list _ (sim_gatherheredocuments (n := 0) (by decide)) (shift_args _ args)
      (argsPos_of_sorts hargs hsafe hok)

end Bashlex.C14
