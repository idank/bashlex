/-
  C14: one relational lemma per tape accessor of `Model/Monad.lean`, and for
  `recordpos`, `createtoken`, `matchedPairError`, the delimiter stack, the option readers and
  `sh_syntaxtab`.

  Levels (`Room`): `getc` raises the level by one up to 2 (a character was consumed, or the end of
  a tape of length ≥ 2 was reached), `ungetc` needs level ≥ 1 and lowers it by one; every other
  accessor keeps the level.
-/
import Bashlex.Props.C14.Rel

namespace Bashlex.C14
open Bashlex Bashlex.C10
set_option linter.unusedSimpArgs false

variable {pre : Str} {top : Bool} {n n' : Nat}

/-! ## the tape functions under a prefix -/

theorem getElem?_pre (pre l : Str) (i : Nat) : (pre ++ l)[i + pre.length]? = l[i]? := by
  rw [List.getElem?_append_right (Nat.le_add_left _ _), Nat.add_sub_cancel]

/-! unfolding equations of `Tape.getc` -/

theorem tgetc_end (t : Tape) (rqn : Bool) (f : Nat) (h : ¬ t.idx < t.line.length) :
    t.getc rqn f = .ok (none, t) := by
  cases f with
  | zero => rfl
  | succ f => unfold Tape.getc; rw [if_neg h]

theorem tgetc_plain (t : Tape) (rqn : Bool) (f : Nat) (c : Char) (hlt : t.idx < t.line.length)
    (hc : t.line[t.idx]? = some c) (hb : (c == '\\' && rqn) = false) :
    t.getc rqn (f + 1) = .ok (some c, { t with idx := t.idx + 1 }) := by
  unfold Tape.getc; rw [if_pos hlt, hc]; simp only [hb]; rfl

theorem tgetc_bs_err (t : Tape) (rqn : Bool) (f : Nat) (c : Char) (hlt : t.idx < t.line.length)
    (hc : t.line[t.idx]? = some c) (hb : (c == '\\' && rqn) = true)
    (hd : t.line[t.idx + 1]? = none) :
    t.getc rqn (f + 1) = .error () := by
  unfold Tape.getc; rw [if_pos hlt, hc]; simp only [hb, hd, if_true]

theorem tgetc_bs_other (t : Tape) (rqn : Bool) (f : Nat) (c d : Char) (hlt : t.idx < t.line.length)
    (hc : t.line[t.idx]? = some c) (hb : (c == '\\' && rqn) = true)
    (hd : t.line[t.idx + 1]? = some d) (hnl : (d == '\n') = false) :
    t.getc rqn (f + 1) = .ok (some c, { t with idx := t.idx + 1 }) := by
  unfold Tape.getc; rw [if_pos hlt, hc]; simp only [hb, hd, if_true, hnl]; rfl

theorem tgetc_bs_nl (t : Tape) (rqn : Bool) (f : Nat) (c d : Char) (hlt : t.idx < t.line.length)
    (hc : t.line[t.idx]? = some c) (hb : (c == '\\' && rqn) = true)
    (hd : t.line[t.idx + 1]? = some d) (hnl : (d == '\n') = true) :
    t.getc rqn (f + 1) = Tape.getc { t with idx := t.idx + 1 + 1 } rqn f := by
  conv => lhs; unfold Tape.getc
  rw [if_pos hlt, hc]; simp only [hb, hd, if_true, hnl]

/-- `Tape.getc` on the two tapes, with any sufficient fuels -/
theorem tape_getc_rel (rqn : Bool) : ∀ (f₁ f₂ : Nat) (t₁ t₂ : Tape), TapeRel pre t₁ t₂ →
    t₁.line.length + 1 ≤ f₁ + t₁.idx → t₁.line.length + 1 ≤ f₂ + t₁.idx →
    match t₁.getc rqn f₁ with
    | .ok (c, t₁') => ∃ t₂', t₂.getc rqn f₂ = .ok (c, t₂') ∧ TapeRel pre t₁' t₂' ∧
        t₁'.line = t₁.line ∧ t₁.idx ≤ t₁'.idx ∧ (c.isSome = true → t₁.idx < t₁'.idx) ∧
        (c = none → t₁.line.length ≤ t₁'.idx)
    | .error () => t₂.getc rqn f₂ = .error () := by
  intro f₁
  induction f₁ with
  | zero =>
    intro f₂ t₁ t₂ hr h1 h2
    have hlt1 : ¬ t₁.idx < t₁.line.length := by omega
    have hlt : ¬ t₂.idx < t₂.line.length := by
      rw [hr.idx, hr.line, List.length_append]; omega
    rw [tgetc_end _ _ _ hlt1]
    exact ⟨t₂, tgetc_end _ _ _ hlt, hr, rfl, Nat.le_refl _, (fun h => by cases h), fun _ => by omega⟩
  | succ f₁ ih =>
    intro f₂ t₁ t₂ hr h1 h2
    have hiff : t₂.idx < t₂.line.length ↔ t₁.idx < t₁.line.length := by
      rw [hr.idx, hr.line, List.length_append]; omega
    by_cases hlt : t₁.idx < t₁.line.length
    · cases f₂ with
      | zero => omega
      | succ f₂ =>
        have hat : t₂.line[t₂.idx]? = t₁.line[t₁.idx]? := by
          rw [hr.idx, hr.line, getElem?_pre]
        have hat1 : t₂.line[t₂.idx + 1]? = t₁.line[t₁.idx + 1]? := by
          rw [hr.idx, hr.line, Nat.add_right_comm, getElem?_pre]
        obtain ⟨c, hc⟩ : ∃ c, t₁.line[t₁.idx]? = some c :=
          ⟨_, List.getElem?_eq_getElem hlt⟩
        have hr1 : TapeRel pre { t₁ with idx := t₁.idx + 1 } { t₂ with idx := t₂.idx + 1 } :=
          ⟨hr.line, by simp only [hr.idx]; omega, hr.added, hr.len⟩
        cases hb : (c == '\\' && rqn) with
        | false =>
          rw [tgetc_plain t₁ rqn f₁ c hlt hc hb]
          exact ⟨_, tgetc_plain t₂ rqn f₂ c (hiff.2 hlt) (hat.trans hc) hb, hr1, rfl,
            Nat.le_succ _, fun _ => Nat.lt_succ_self _, fun h => by cases h⟩
        | true =>
          cases hd : t₁.line[t₁.idx + 1]? with
          | none =>
            rw [tgetc_bs_err t₁ rqn f₁ c hlt hc hb hd]
            exact tgetc_bs_err t₂ rqn f₂ c (hiff.2 hlt) (hat.trans hc) hb (hat1.trans hd)
          | some d =>
            cases hnl : (d == '\n') with
            | false =>
              rw [tgetc_bs_other t₁ rqn f₁ c d hlt hc hb hd hnl]
              exact ⟨_, tgetc_bs_other t₂ rqn f₂ c d (hiff.2 hlt) (hat.trans hc) hb
                (hat1.trans hd) hnl, hr1, rfl, Nat.le_succ _, fun _ => Nat.lt_succ_self _,
                fun h => by cases h⟩
            | true =>
              rw [tgetc_bs_nl t₁ rqn f₁ c d hlt hc hb hd hnl,
                tgetc_bs_nl t₂ rqn f₂ c d (hiff.2 hlt) (hat.trans hc) hb (hat1.trans hd) hnl]
              have hr2 : TapeRel pre { t₁ with idx := t₁.idx + 1 + 1 }
                  { t₂ with idx := t₂.idx + 1 + 1 } :=
                ⟨hr.line, by simp only [hr.idx]; omega, hr.added, hr.len⟩
              have := ih f₂ _ _ hr2 (by simp only []; omega) (by simp only []; omega)
              revert this
              cases Tape.getc { t₁ with idx := t₁.idx + 1 + 1 } rqn f₁ with
              | error u => cases u; exact fun h => h
              | ok v =>
                obtain ⟨c', t₁'⟩ := v
                rintro ⟨t₂', h1', h2', h3', h4', h5', h6'⟩
                simp only [] at h3' h4' h5' h6'
                exact ⟨t₂', h1', h2', h3', by omega, fun _ => by omega, h6'⟩
    · rw [tgetc_end _ _ _ hlt]
      exact ⟨t₂, tgetc_end _ _ _ (fun h => hlt (hiff.1 h)), hr, rfl, Nat.le_refl _,
        (fun h => by cases h), fun _ => by omega⟩

/-- `Tape.ungetc` on the two tapes, when the first cursor has room -/
theorem tape_ungetc_rel {t₁ t₂ : Tape} (hr : TapeRel pre t₁ t₂) (hroom : Room 1 t₁) :
    (t₁.ungetc = (true, { t₁ with idx := t₁.idx - 1 }) ∧
     t₂.ungetc = (true, { t₂ with idx := t₂.idx - 1 }) ∧ t₁.idx ≤ t₁.line.length ∧ 1 ≤ t₁.idx) ∨
    (t₁.ungetc = (false, t₁) ∧ t₂.ungetc = (false, t₂) ∧ t₁.line.length < t₁.idx) := by
  have hl := hr.len
  have hne1 : t₁.line.isEmpty = false := by
    cases h : t₁.line with
    | nil => rw [h] at hl; simp at hl
    | cons a b => rfl
  have hne2 : t₂.line.isEmpty = false := by
    rw [hr.line]
    cases h : t₁.line with
    | nil => rw [h] at hl; simp at hl
    | cons a b => cases pre <;> rfl
  have hlen2 : t₂.line.length = pre.length + t₁.line.length := by
    rw [hr.line, List.length_append]
  unfold Tape.ungetc
  by_cases hle : t₁.idx ≤ t₁.line.length
  · have h1 : 1 ≤ t₁.idx := by
      rcases hroom with h | h
      · exact h
      · omega
    left
    refine ⟨?_, ?_, hle, h1⟩
    · rw [if_pos]
      simp only [hne1, Bool.not_false, Bool.true_and, Bool.and_eq_true, bne_iff_ne, ne_eq,
        decide_eq_true_eq]
      exact ⟨by omega, hle⟩
    · rw [if_pos]
      simp only [hne2, Bool.not_false, Bool.true_and, Bool.and_eq_true, bne_iff_ne, ne_eq,
        decide_eq_true_eq]
      rw [hr.idx, hlen2]
      exact ⟨by omega, by omega⟩
  · right
    refine ⟨?_, ?_, by omega⟩
    · rw [if_neg]
      simp only [hne1, Bool.not_false, Bool.true_and, Bool.and_eq_true, bne_iff_ne, ne_eq,
        decide_eq_true_eq]
      exact fun h => hle h.2
    · rw [if_neg]
      simp only [hne2, Bool.not_false, Bool.true_and, Bool.and_eq_true, bne_iff_ne, ne_eq,
        decide_eq_true_eq]
      rw [hr.idx, hlen2]
      exact fun h => hle (by omega)

/-! ## building related states -/

theorem Room.of_lt {t : Tape} (m : Nat) (h : t.line.length < t.idx) : Room m t := Or.inr h

/-- top-level mode: both environment tapes replaced -/
theorem Rel.putTop {l₁ l₂ : Local} {e₁ e₂ : Env} {m : Nat} (hr : Rel pre true n l₁ e₁ l₂ e₂)
    {t₁ t₂ : Tape} (ht : TapeRel pre t₁ t₂) (hroom : Room m t₁)
    (heol : l₁.eolLookahead.isSome = true → t₁.line.length < t₁.idx) :
    Rel pre true m l₁ { e₁ with tape := t₁ } l₂ { e₂ with tape := t₂ } :=
  { env := ⟨ht, hr.env.strict, hr.env.proceed, hr.env.touched⟩
    loc := hr.loc, mode := hr.mode, room := fun _ => hroom, eolOK := fun _ => heol
    proc := hr.proc }

/-- nested mode: both private tapes replaced by the same tape -/
theorem Rel.putNested {l₁ l₂ : Local} {e₁ e₂ : Env} {m : Nat} (hr : Rel pre false n l₁ e₁ l₂ e₂)
    (t : Tape) :
    Rel pre false m { l₁ with tape := some t } e₁ { l₂ with tape := some t } e₂ :=
  { env := hr.env
    loc := { hr.loc with tape := rfl }
    mode := rfl
    room := fun h => by cases h
    eolOK := fun h => by cases h
    proc := hr.proc }

/-- the look-ahead slot is written in both states -/
theorem Rel.setEol {l₁ l₂ : Local} {e₁ e₂ : Env} {m : Nat} (hr : Rel pre top n l₁ e₁ l₂ e₂)
    (c : Option Char) (hroom : top = true → Room m e₁.tape)
    (hc : top = true → c.isSome = true → e₁.tape.line.length < e₁.tape.idx) :
    Rel pre top m { l₁ with eolLookahead := c } e₁ { l₂ with eolLookahead := c } e₂ :=
  { env := hr.env
    loc := { hr.loc with eol := rfl }
    mode := hr.mode
    room := hroom
    eolOK := hc
    proc := hr.proc }

theorem Rel.tape_none {l₁ l₂ : Local} {e₁ e₂ : Env} (hr : Rel pre true n l₁ e₁ l₂ e₂) :
    l₁.tape = none ∧ l₂.tape = none := by
  have h1 : l₁.tape = none := by
    have := hr.mode
    cases h : l₁.tape with
    | none => rfl
    | some t => rw [h] at this; cases this
  exact ⟨h1, by rw [hr.loc.tape, h1]⟩

theorem Rel.tape_some {l₁ l₂ : Local} {e₁ e₂ : Env} (hr : Rel pre false n l₁ e₁ l₂ e₂) :
    ∃ t, l₁.tape = some t ∧ l₂.tape = some t := by
  have := hr.mode
  cases h : l₁.tape with
  | none => rw [h] at this; cases this
  | some t => exact ⟨t, rfl, by rw [hr.loc.tape, h]⟩

theorem tapeOf_none {l : Local} (h : l.tape = none) (e : Env) : tapeOf l e = e.tape :=
  tapeOf_top h e
theorem putL_none {l : Local} (h : l.tape = none) (t : Tape) : putL l t = l := by
  unfold putL; rw [h]
theorem putE_none {l : Local} (h : l.tape = none) (e : Env) (t : Tape) :
    putE l e t = { e with tape := t } := by
  unfold putE; rw [h]
theorem putL_some {l : Local} {t0 : Tape} (h : l.tape = some t0) (t : Tape) :
    putL l t = { l with tape := some t } := by
  unfold putL; rw [h]
theorem putE_some {l : Local} {t0 : Tape} (h : l.tape = some t0) (e : Env) (t : Tape) :
    putE l e t = e := by
  unfold putE; rw [h]

/-! ## `_getc`, `_ungetc`, `_peekc` -/

/-- `_getc` keeps any level and reaches level `m` whenever `m ≤ n + 1` and `m ≤ 2` -/
theorem sim_getc_gen (rqn : Bool) {m : Nat} (hm : m ≤ n + 1) (hm2 : m ≤ 2 ∨ m ≤ n) :
    SimEq pre top n m (getc rqn) := by
  intro l₁ l₂ e₁ e₂ hr
  cases hl : l₁.eolLookahead with
  | some ch =>
    rw [C10.run_getc_some rqn l₁ e₁ ch hl, C10.run_getc_some rqn l₂ e₂ ch (by rw [hr.loc.eol, hl])]
    refine ⟨rfl, hr.setEol none (fun ht => ?_) (fun _ h => by cases h)⟩
    exact Room.of_lt _ (hr.eolOK ht (by rw [hl]; rfl))
  | none =>
    rw [run_getc rqn l₁ e₁ hl, run_getc rqn l₂ e₂ (by rw [hr.loc.eol, hl])]
    cases top with
    | true =>
      obtain ⟨h1, h2⟩ := hr.tape_none
      rw [tapeOf_none h1, tapeOf_none h2]
      have hg := tape_getc_rel rqn (e₁.tape.line.length + 1) (e₂.tape.line.length + 1) _ _
        hr.env.tape (by omega) (by rw [hr.env.tape.line, List.length_append]; omega)
      revert hg
      cases Tape.getc e₁.tape rqn (e₁.tape.line.length + 1) with
      | error u =>
        cases u
        intro hg
        rw [hg]
        exact ⟨Or.inl rfl, hr.env⟩
      | ok v =>
        obtain ⟨c, t₁'⟩ := v
        rintro ⟨t₂', hg, htr, hline, hle, hsome, hnone⟩
        rw [hg]
        simp only [putL_none h1, putL_none h2, putE_none h1, putE_none h2]
        refine ⟨rfl, hr.putTop htr ?_ (fun h => by rw [hl] at h; cases h)⟩
        have hroom := hr.room rfl
        have hlen := hr.env.tape.len
        rcases hroom with hroom | hroom
        · cases c with
          | some ch =>
            have := hsome rfl
            exact Or.inl (by omega)
          | none =>
            have := hnone rfl
            rcases hm2 with hm2 | hm2
            · exact Or.inl (by omega)
            · exact Or.inl (by omega)
        · exact Or.inr (by rw [hline]; omega)
    | false =>
      obtain ⟨t, h1, h2⟩ := hr.tape_some
      rw [tapeOf_local h1, tapeOf_local h2]
      cases Tape.getc t rqn (t.line.length + 1) with
      | error u =>
        cases u
        exact ⟨Or.inl rfl, hr.env⟩
      | ok v =>
        obtain ⟨c, t'⟩ := v
        simp only [putL_some h1, putL_some h2, putE_some h1, putE_some h2]
        exact ⟨rfl, hr.putNested t'⟩

/-- `_getc` raises the level (up to 2) -/
theorem sim_getc (rqn : Bool) (hn : n ≤ 1) : SimEq pre top n (n + 1) (getc rqn) :=
  sim_getc_gen rqn (Nat.le_refl _) (Or.inl (by omega))

/-- `_getc` keeps the level -/
theorem sim_getc_same (rqn : Bool) : SimEq pre top n n (getc rqn) :=
  sim_getc_gen rqn (Nat.le_succ _) (Or.inr (Nat.le_refl _))

/-- `_ungetc` lowers the level -/
theorem sim_ungetc (c : Option Char) :
    Sim pre top (n + 1) n (ungetc c) (ungetc c) (fun _ _ => True) := by
  intro l₁ l₂ e₁ e₂ hr
  rw [run_ungetc, run_ungetc]
  cases top with
  | true =>
    obtain ⟨h1, h2⟩ := hr.tape_none
    rw [tapeOf_none h1, tapeOf_none h2]
    have hroom := hr.room rfl
    rcases tape_ungetc_rel hr.env.tape (hroom.mono (Nat.succ_le_succ (Nat.zero_le _))) with
      ⟨u1, u2, hle, h1i⟩ | ⟨u1, u2, hlt⟩
    · rw [u1, u2]
      simp only [putL_none h1, putL_none h2, putE_none h1, putE_none h2]
      refine ⟨True.intro, hr.putTop ⟨hr.env.tape.line, ?_, hr.env.tape.added, hr.env.tape.len⟩ ?_ ?_⟩
      · simp only [hr.env.tape.idx]; omega
      · rcases hroom with hroom | hroom
        · exact Or.inl (by simp only []; omega)
        · exact absurd hroom (by omega)
      · intro h
        have := hr.eolOK rfl h
        omega
    · rw [u1, u2]
      exact ⟨True.intro, hr.setEol c (fun _ => Room.of_lt _ hlt) (fun _ _ => hlt)⟩
  | false =>
    obtain ⟨t, h1, h2⟩ := hr.tape_some
    rw [tapeOf_local h1, tapeOf_local h2]
    rcases ungetc_cases t with hu | hu <;> rw [hu]
    · simp only [putL_some h1, putL_some h2, putE_some h1, putE_some h2]
      exact ⟨True.intro, hr.putNested _⟩
    · exact ⟨True.intro, hr.setEol c (fun h => by cases h) (fun h => by cases h)⟩

/-- `_peekc` keeps the level (0 or 1) -/
theorem sim_peekc (rqn : Bool) (hn : n ≤ 1) : SimEq pre top n n (peekc rqn) := by
  unfold peekc
  refine Sim.bindEq (sim_getc rqn hn) (fun c => ?_)
  split
  · exact Sim.bind (sim_ungetc c) (fun _ _ _ => Sim.pure (Nat.le_refl _) rfl)
  · exact Sim.pure (Nat.le_succ _) rfl

/-! ## the cursor, the line, the options -/

/-- `_shell_input_line_index`: moved by the shift; at level `n ≤ 2` it is at least `n` -/
theorem sim_curIdx (hn : n ≤ 2) :
    Sim pre top n n curIdx curIdx (fun i j => j = i + kOf pre top ∧ (top = true → n ≤ i)) := by
  intro l₁ l₂ e₁ e₂ hr
  rw [run_curIdx, run_curIdx]
  refine ⟨?_, hr⟩
  cases top with
  | true =>
    obtain ⟨h1, h2⟩ := hr.tape_none
    rw [tapeOf_none h1, tapeOf_none h2]
    refine ⟨hr.env.tape.idx, fun _ => ?_⟩
    have hlen := hr.env.tape.len
    rcases hr.room rfl with h | h <;> omega
  | false =>
    obtain ⟨t, h1, h2⟩ := hr.tape_some
    rw [tapeOf_local h1, tapeOf_local h2]
    exact ⟨rfl, fun h => by cases h⟩

theorem sim_bumpIdx : Sim pre top n n bumpIdx bumpIdx (fun _ _ => True) := by
  intro l₁ l₂ e₁ e₂ hr
  rw [run_bumpIdx, run_bumpIdx]
  cases top with
  | true =>
    obtain ⟨h1, h2⟩ := hr.tape_none
    simp only [tapeOf_none h1, tapeOf_none h2, putL_none h1, putL_none h2, putE_none h1,
      putE_none h2]
    refine ⟨True.intro, hr.putTop ⟨hr.env.tape.line, ?_, hr.env.tape.added, hr.env.tape.len⟩ ?_ ?_⟩
    · simp only [hr.env.tape.idx]; omega
    · rcases hr.room rfl with h | h
      · exact Or.inl (by simp only []; omega)
      · exact Or.inr (by simp only []; omega)
    · intro h
      have := hr.eolOK rfl h
      simp only []; omega
  | false =>
    obtain ⟨t, h1, h2⟩ := hr.tape_some
    simp only [tapeOf_local h1, tapeOf_local h2, putL_some h1, putL_some h2, putE_some h1,
      putE_some h2]
    exact ⟨True.intro, hr.putNested _⟩

/-- how a string read off the tape (`source`, `_shell_input_line`) differs between the runs -/
def SrcRel (pre : Str) (top : Bool) (s₁ s₂ : Str) : Prop :=
  if top then s₂ = pre ++ s₁ else s₂ = s₁

theorem SrcRel.length {s₁ s₂ : Str} (h : SrcRel pre top s₁ s₂) :
    s₂.length = s₁.length + kOf pre top := by
  cases top with
  | true => simp only [SrcRel, if_true] at h; rw [h, List.length_append, kOf_true, Nat.add_comm]
  | false => simp only [SrcRel] at h; rw [h]; rfl

theorem sim_tapeLine : Sim pre top n n tapeLine tapeLine (SrcRel pre top) := by
  intro l₁ l₂ e₁ e₂ hr
  rw [run_tapeLine, run_tapeLine]
  refine ⟨?_, hr⟩
  cases top with
  | true =>
    obtain ⟨h1, h2⟩ := hr.tape_none
    rw [tapeOf_none h1, tapeOf_none h2]
    exact hr.env.tape.line
  | false =>
    obtain ⟨t, h1, h2⟩ := hr.tape_some
    rw [tapeOf_local h1, tapeOf_local h2]
    exact rfl

theorem run_optProceed (l : Local) (e : Env) :
    M.run optProceed l e = (.ok (proceedOf l e, l), e) := by
  cases l with
  | mk tape opts =>
    cases opts with
    | none => rfl
    | some p => obtain ⟨s, p⟩ := p; rfl

theorem sim_tapeSource : Sim pre top n n tapeSource tapeSource (SrcRel pre top) := by
  intro l₁ l₂ e₁ e₂ hr
  rw [C10.run_tapeSource, C10.run_tapeSource]
  refine ⟨?_, hr⟩
  cases top with
  | true =>
    obtain ⟨h1, h2⟩ := hr.tape_none
    rw [tapeOf_none h1, tapeOf_none h2]
    show e₂.tape.source = pre ++ e₁.tape.source
    unfold Tape.source
    rw [hr.env.tape.added, hr.env.tape.line]
    split
    · have hlen := hr.env.tape.len
      cases hl : e₁.tape.line with
      | nil => rw [hl] at hlen; simp at hlen
      | cons a b => rw [List.dropLast_append_cons]
    · rfl
  | false =>
    obtain ⟨t, h1, h2⟩ := hr.tape_some
    rw [tapeOf_local h1, tapeOf_local h2]
    exact rfl

theorem sim_tapeAdded : SimEq pre top n n tapeAdded := by
  intro l₁ l₂ e₁ e₂ hr
  rw [C10.run_tapeAdded, C10.run_tapeAdded]
  refine ⟨?_, hr⟩
  cases top with
  | true =>
    obtain ⟨h1, h2⟩ := hr.tape_none
    rw [tapeOf_none h1, tapeOf_none h2]
    exact hr.env.tape.added.symm
  | false =>
    obtain ⟨t, h1, h2⟩ := hr.tape_some
    rw [tapeOf_local h1, tapeOf_local h2]

theorem sim_optStrict : SimEq pre top n n optStrict := by
  intro l₁ l₂ e₁ e₂ hr
  rw [run_optStrict, run_optStrict]
  refine ⟨?_, hr⟩
  unfold strictOf; rw [hr.loc.opts, hr.env.strict]

/-- `_proceedonerror` is off in both runs -/
theorem sim_optProceed :
    Sim pre top n n optProceed optProceed (fun a b => a = false ∧ b = false) := by
  intro l₁ l₂ e₁ e₂ hr
  rw [run_optProceed, run_optProceed]
  refine ⟨?_, hr⟩
  have h1 := hr.proc
  have h2 : proceedOf l₂ e₂ = false := by
    unfold proceedOf at h1 ⊢
    rw [hr.loc.opts, hr.env.proceed]; exact h1
  exact ⟨h1, h2⟩

/-- `sh_syntaxtab[c]`: the class of `c` in both runs -/
theorem sim_syn (c : Char) :
    Sim pre top n n (syn c) (syn c) (fun a b => a = synClass c ∧ b = synClass c) := by
  intro l₁ l₂ e₁ e₂ hr
  have r : ∀ (l : Local) (e : Env), M.run (syn c) l e =
      (.ok (synClass c, l),
        if e.touched.contains c then e else { e with touched := e.touched ++ [c] }) := by
    intro l e; rfl
  rw [r, r, hr.env.touched]
  refine ⟨⟨rfl, rfl⟩, ?_⟩
  by_cases hc : e₁.touched.contains c = true
  · rw [if_pos hc, if_pos hc]; exact hr
  · rw [if_neg hc, if_neg hc]
    exact { hr with env := { hr.env with touched := by simp only [hr.env.touched] } }

theorem sim_synField (c : Char) (f : SynClass → Bool) :
    Sim pre top n n (do return f (← syn c) : M Bool) (do return f (← syn c) : M Bool)
      (fun a b => a = f (synClass c) ∧ b = f (synClass c)) := by
  refine Sim.bind (sim_syn c) (fun a b hab => ?_)
  obtain ⟨ha, hb⟩ := hab
  subst ha hb
  exact Sim.pure (Nat.le_refl _) ⟨rfl, rfl⟩

theorem sim_shellmeta (c : Char) : Sim pre top n n (shellmeta c) (shellmeta c)
    (fun a b => a = (synClass c).metac ∧ b = (synClass c).metac) := sim_synField c (·.metac)
theorem sim_shellquote (c : Char) : Sim pre top n n (shellquote c) (shellquote c)
    (fun a b => a = (synClass c).quote ∧ b = (synClass c).quote) := sim_synField c (·.quote)
theorem sim_shellexp (c : Char) : Sim pre top n n (shellexp c) (shellexp c)
    (fun a b => a = (synClass c).exp ∧ b = (synClass c).exp) := sim_synField c (·.exp)
theorem sim_shellbreak (c : Char) : Sim pre top n n (shellbreak c) (shellbreak c)
    (fun a b => a = (synClass c).brk ∧ b = (synClass c).brk) := sim_synField c (·.brk)

/-! ## errors built from the tape -/

theorem exnRel_mkParsingError {s₁ s₂ : Str} (h : SrcRel pre top s₁ s₂) (m : String) (p : Int) :
    ExnRel pre (mkParsingError m s₁ p) (mkParsingError m s₂ (p + (kOf pre top : Nat))) := by
  cases top with
  | false =>
    simp only [SrcRel] at h
    subst h
    simp only [kOf_false, Int.natCast_zero, Int.add_zero]
    exact Or.inl rfl
  | true =>
    simp only [SrcRel, if_true] at h
    subst h
    unfold mkParsingError
    simp only [kOf_true, List.length_append, Int.natCast_add]
    by_cases hp : p ≤ (s₁.length : Int)
    · rw [if_pos hp, if_pos (by omega)]
      exact Or.inr ⟨m, s₁, p, rfl, rfl⟩
    · rw [if_neg hp, if_neg (by omega)]
      exact Or.inl rfl

/-- `MatchedPairError` (raised at level ≥ 1: after a `_getc`) -/
theorem sim_matchedPairError {α β : Type} {V : α → β → Prop} (close : Char) (hn : n ≤ 2) :
    Sim pre top n n' (matchedPairError close : M α) (matchedPairError close : M β) V := by
  unfold matchedPairError
  refine Sim.bind sim_tapeSource (fun s₁ s₂ hs => ?_)
  refine Sim.bind (sim_curIdx hn) (fun i j hij => ?_)
  refine Sim.raise ?_
  have := exnRel_mkParsingError hs
    s!"unexpected EOF while looking for matching {if close == '\'' then "\"'\"" else "'" ++ String.singleton close ++ "'"}"
    ((i : Int) - 1)
  rw [hij.1]
  have e : ((i + kOf pre top : Nat) : Int) - 1 = (i : Int) - 1 + (kOf pre top : Nat) := by omega
  rw [e]
  exact this

/-! ## positions and tokens -/

theorem LocRel.setPositions {k : Nat} {l₁ l₂ : Local} (h : LocRel k l₁ l₂) (p : List Nat) :
    LocRel k { l₁ with positions := p } { l₂ with positions := p.map (· + k) } :=
  { h with positions := rfl }

/-- `recordpos rel` needs `rel ≤ level` -/
theorem sim_recordpos (rel : Nat) (hrel : rel ≤ n) (hn : n ≤ 2) :
    Sim pre top n n (recordpos rel) (recordpos rel) (fun _ _ => True) := by
  unfold recordpos
  refine Sim.bind (sim_curIdx hn) (fun i j hij => ?_)
  refine Sim.modify (fun l₁ e₁ l₂ e₂ hr => ?_)
  refine hr.update ?_ rfl rfl rfl
  have := hr.loc.setPositions (l₁.positions ++ [i - rel])
  have e : (l₁.positions ++ [i - rel]).map (· + kOf pre top) = l₂.positions ++ [j - rel] := by
    rw [List.map_append, hr.loc.positions, hij.1]
    congr 1
    simp only [List.map_cons, List.map_nil, List.cons.injEq, and_true]
    cases top with
    | true => have := hij.2 rfl; omega
    | false => simp only [kOf_false]; omega
  rw [e] at this
  exact this

theorem getLast?_map_add (l : List Nat) (k : Nat) :
    ((l.map (· + k)).getLast?).getD 0 = if l = [] then 0 else l.getLast?.getD 0 + k := by
  rw [List.getLast?_map]
  cases h : l.getLast? with
  | none =>
    have : l = [] := List.getLast?_eq_none_iff.1 h
    simp [this]
  | some a =>
    have : l ≠ [] := by intro hl; rw [hl] at h; cases h
    simp [this]

theorem run_createtoken (ty : TokType) (v : TVal) (flags : WordFlags) (l : Local) (e : Env) :
    M.run (createtoken ty v flags) l e =
      if l.positions.length < 2 then (.error (.foreign "AssertionError" "_createtoken"), e)
      else if !(l.positions.dropLast.getLast?.getD 0 < l.positions.getLast?.getD 0) then
        (.error (.foreign "AssertionError" "token.__init__"), e)
      else (.ok ({ ttype := some ty, value := v,
                   pos := some (l.positions.dropLast.getLast?.getD 0, l.positions.getLast?.getD 0),
                   flags := flags },
                 { l with positions := l.positions.dropLast.dropLast }), e) := by
  unfold createtoken
  simp only [M.run_bind, run_get]
  by_cases h2 : l.positions.length < 2
  · simp only [h2, if_true, M.run_bind, run_foreign]
  · simp only [h2, if_false, M.run_bind, M.run_pure, run_set]
    by_cases h3 : l.positions.dropLast.getLast?.getD 0 < l.positions.getLast?.getD 0
    · simp only [h3, decide_true, Bool.not_true, Bool.false_eq_true, if_false, M.run_pure]
    · simp only [h3, decide_false, Bool.not_false, if_true, M.run_bind, run_foreign]

/-- `_createtoken`: the token span is moved by the shift -/
theorem sim_createtoken (ty : TokType) (v : TVal) (flags : WordFlags) :
    Sim pre top n n (createtoken ty v flags) (createtoken ty v flags) (TokRel (kOf pre top)) := by
  intro l₁ l₂ e₁ e₂ hr
  have hl := hr.loc
  rw [run_createtoken, run_createtoken]
  have hlen : l₂.positions.length = l₁.positions.length := by rw [hl.positions, List.length_map]
  rw [hlen]
  by_cases h2 : l₁.positions.length < 2
  · rw [if_pos h2, if_pos h2]
    exact ⟨Or.inl rfl, hr.env⟩
  · rw [if_neg h2, if_neg h2]
    have hne : l₁.positions ≠ [] := by intro h; rw [h] at h2; simp at h2
    have hne' : l₁.positions.dropLast ≠ [] := by
      intro h
      have := congrArg List.length h
      rw [List.length_dropLast] at this
      simp at this; omega
    have e2 : l₂.positions.getLast?.getD 0 = l₁.positions.getLast?.getD 0 + kOf pre top := by
      rw [hl.positions, getLast?_map_add, if_neg hne]
    have e1 : l₂.positions.dropLast.getLast?.getD 0 =
        l₁.positions.dropLast.getLast?.getD 0 + kOf pre top := by
      rw [hl.positions, ← List.map_dropLast, getLast?_map_add, if_neg hne']
    have e3 : l₂.positions.dropLast.dropLast =
        l₁.positions.dropLast.dropLast.map (· + kOf pre top) := by
      rw [hl.positions, ← List.map_dropLast, ← List.map_dropLast]
    rw [e1, e2, e3]
    by_cases h3 : l₁.positions.dropLast.getLast?.getD 0 < l₁.positions.getLast?.getD 0
    · have h3' : l₁.positions.dropLast.getLast?.getD 0 + kOf pre top <
          l₁.positions.getLast?.getD 0 + kOf pre top := by omega
      simp only [h3, h3', decide_true, Bool.not_true, Bool.false_eq_true, if_false]
      refine ⟨⟨rfl, rfl, rfl, rfl, fun h => by cases h⟩, ?_⟩
      exact hr.update (hl.setPositions _) rfl rfl rfl
    · have h3' : ¬ l₁.positions.dropLast.getLast?.getD 0 + kOf pre top <
          l₁.positions.getLast?.getD 0 + kOf pre top := by omega
      simp only [h3, h3', decide_false, Bool.not_false, if_true]
      exact ⟨Or.inl rfl, hr.env⟩

/-! ## the delimiter stack -/

theorem sim_pushDelimiter (c : Char) :
    Sim pre top n n (pushDelimiter c) (pushDelimiter c) (fun _ _ => True) := by
  unfold pushDelimiter
  refine Sim.modify (fun l₁ e₁ l₂ e₂ hr => hr.update ?_ rfl rfl rfl)
  exact { hr.loc with dstack := by simp only [hr.loc.dstack] }

theorem sim_popDelimiter :
    Sim pre top n n popDelimiter popDelimiter (fun _ _ => True) := by
  intro l₁ l₂ e₁ e₂ hr
  have r : ∀ (l : Local) (e : Env), M.run popDelimiter l e =
      if l.dstack.isEmpty then (.error (.foreign "IndexError" "_pop_delimiter"), e)
      else (.ok ((), { l with dstack := l.dstack.dropLast }), e) := by
    intro l e
    unfold popDelimiter
    simp only [M.run_bind, run_get]
    by_cases h : l.dstack.isEmpty = true
    · simp only [h, if_true, M.run_bind, run_foreign]
    · simp only [h, if_false, Bool.false_eq_true, M.run_bind, M.run_pure, run_set]
  rw [r, r, hr.loc.dstack]
  by_cases h : l₁.dstack.isEmpty = true
  · rw [if_pos h, if_pos h]; exact ⟨Or.inl rfl, hr.env⟩
  · rw [if_neg h, if_neg h]
    exact ⟨True.intro, hr.update { hr.loc with dstack := rfl } rfl rfl rfl⟩

theorem sim_currentDelimiter : SimEq pre top n n currentDelimiter := by
  intro l₁ l₂ e₁ e₂ hr
  have r : ∀ (l : Local) (e : Env), M.run currentDelimiter l e =
      (.ok (l.dstack.getLast?, l), e) := fun l e => rfl
  rw [r, r, hr.loc.dstack]
  exact ⟨rfl, hr⟩

theorem sim_loopFuel : SimEq pre top n n loopFuel := Sim.pure (Nat.le_refl _) rfl
theorem sim_depthFuel : SimEq pre top n n depthFuel := Sim.pure (Nat.le_refl _) rfl

end Bashlex.C14
