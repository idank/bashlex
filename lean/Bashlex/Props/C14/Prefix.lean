/-
  C14: consuming a prefix of blanks and newlines.

  `sim_parserRun` relates the run on `B` from the start of its tape with the run on `pre ++ B`
  started BEHIND the prefix (cursor at `|pre|`).  The real run on `pre ++ B` starts at cursor 0 and
  first consumes the prefix: a blank is skipped by the loop at the head of `_readtoken` (one more
  iteration of that loop), a newline becomes a NEWLINE token which the LR engine shifts in state 0
  without pushing it (one more iteration of the engine loop).  Both only cost fuel; so, unless the
  run on `pre ++ B` runs out of fuel, it ends like the run started behind the prefix.
  The prefix is peeled one character at a time.
-/
import Bashlex.Props.C14.Engine
import Bashlex.Props.C14.Actions

namespace Bashlex.C14
open Bashlex Bashlex.C10 Bashlex.C12 Bashlex.LR
set_option linter.unusedSimpArgs false

/-! ## fuel -/

/-- the outcome "out of fuel" -/
def IsOOF {α : Type} (r : Except Exn α × Env) : Prop := ∃ site, r.1 = .error (.outOfFuel site)

theorem isOOF_bind {α β : Type} (m : M α) (f : α → M β) (l : Local) (e : Env)
    (h : IsOOF (M.run m l e)) : IsOOF (M.run (m >>= f) l e) := by
  obtain ⟨site, hs⟩ := h
  rw [M.run_bind]
  rcases hr : M.run m l e with ⟨r, e'⟩
  rw [hr] at hs
  simp only [] at hs
  subst hs
  exact ⟨site, rfl⟩

/-- more fuel does not change the outcome of a loop that did not run out of fuel -/
theorem loop_fuel_succ {σ α : Type} (site : String) (body : σ → M (σ ⊕ α)) :
    ∀ (fuel : Nat) (s : σ) (l : Local) (e : Env),
      ¬ IsOOF (M.run (M.loop site body fuel s) l e) →
      M.run (M.loop site body (fuel + 1) s) l e = M.run (M.loop site body fuel s) l e := by
  intro fuel
  induction fuel with
  | zero =>
    intro s l e h
    exact absurd ⟨site, rfl⟩ h
  | succ fuel ih =>
    intro s l e h
    rw [run_loop_succ site body (fuel + 1), run_loop_succ site body fuel] at *
    rcases hb : M.run (body s) l e with ⟨r, e'⟩
    rw [hb] at h
    cases r with
    | error x => rfl
    | ok v =>
      obtain ⟨a, l'⟩ := v
      cases a with
      | inl s' => exact ih s' l' e' h
      | inr a' => rfl

theorem not_isOOF_of_bind {α β : Type} {m : M α} {f : α → M β} {l : Local} {e : Env}
    (h : ¬ IsOOF (M.run (m >>= f) l e)) : ¬ IsOOF (M.run m l e) :=
  fun h' => h (isOOF_bind m f l e h')

theorem run_bind_congr {α β : Type} {m : M α} (f : α → M β) {l l' : Local} {e e' : Env}
    (h : M.run m l e = M.run m l' e') : M.run (m >>= f) l e = M.run (m >>= f) l' e' := by
  rw [M.run_bind, M.run_bind, h]

/-! ## a blank in front: one more iteration of the loop at the head of `_readtoken` -/

/-- the environment with the cursor of its tape at `i` -/
def envAt (e : Env) (i : Nat) : Env := { e with tape := { e.tape with idx := i } }

/-- reading a plain character off the top-level tape -/
theorem run_getc_plain (rqn : Bool) (l : Local) (e : Env) (c : Char) (hl : l.tape = none)
    (heol : l.eolLookahead = none) (hlt : e.tape.idx < e.tape.line.length)
    (hc : e.tape.line[e.tape.idx]? = some c) (hb : (c == '\\' && rqn) = false) :
    M.run (getc rqn) l e = (.ok (some c, l), envAt e (e.tape.idx + 1)) := by
  rw [run_getc rqn l e heol, tapeOf_none hl, tgetc_plain _ _ _ c hlt hc hb]
  simp only [putL_none hl, putE_none hl]
  rfl

/-- the loop at the head of `_readtoken` -/
def blankBody (c : Option Char) : M (Option Char ⊕ Option Char) := do
  match c with
  | some ch => if shellblank ch then return .inl (← getc true) else return .inr c
  | none => return .inr c

/-- `_readtoken` after its loop -/
def readtokenRest (c1 : Option Char) : M (TokType ⊕ Token) := do
  let mut character ← match c1 with
    | none => return .inr { ttype := some .EOF, value := .none }
    | some ch => pure ch
  if character == '#' then
    discardUntil '\n'
    let _ ← getc false
    character := '\n'
  recordpos 1
  if character == '\n' then
    gatherheredocuments
    modify fun l => { l with ps := { l.ps with assignok := false } }
    return .inl (← tokentypeOfChar character)
  if (← get).ps.regexp then
    return .inr (← readtokenword character)
  if (← shellmeta character) && !(← get).ps.dblparen then
    match ← readtokenMeta character with
    | some t => return .inl t
    | none => pure ()
  let l ← get
  if character == '-' && (l.lastReadToken.is .LESS_AND || l.lastReadToken.is .GREATER_AND) then
    return .inl (← tokentypeOfChar character)
  return .inr (← readtokenword character)

theorem readtoken_eq : readtoken = (do
    let c0 ← getc true
    let c1 ← M.loop "_readtoken" blankBody 1073741824 c0
    readtokenRest c1) := rfl

/-- a blank under the cursor is skipped by `_readtoken` -/
theorem run_readtoken_blank (l : Local) (e : Env) (c : Char) (hl : l.tape = none)
    (heol : l.eolLookahead = none) (hlt : e.tape.idx < e.tape.line.length)
    (hc : e.tape.line[e.tape.idx]? = some c) (hblank : shellblank c = true)
    (hoof : ¬ IsOOF (M.run readtoken l e)) :
    M.run readtoken l e = M.run readtoken l (envAt e (e.tape.idx + 1)) := by
  have hbs : (c == '\\' && true) = false := by
    unfold shellblank at hblank
    rcases Bool.or_eq_true_iff.1 hblank with h | h <;> rw [beq_iff_eq.1 h] <;> rfl
  -- the first iteration of the loop reads the next character
  have hloop : ∀ (K : Option Char → M (TokType ⊕ Token)),
      M.run (M.loop "_readtoken" blankBody 1073741824 (some c) >>= K) l (envAt e (e.tape.idx + 1)) =
      M.run (getc true >>= fun c0 => M.loop "_readtoken" blankBody 1073741823 c0 >>= K) l
        (envAt e (e.tape.idx + 1)) := by
    intro K
    show M.run ((blankBody (some c) >>= _) >>= K) _ _ = _
    unfold blankBody
    simp only [hblank, if_true, bind_assoc, pure_bind]
  have hL : M.run readtoken l e =
      M.run (getc true >>= fun c0 => M.loop "_readtoken" blankBody 1073741823 c0 >>= readtokenRest) l
        (envAt e (e.tape.idx + 1)) := by
    rw [readtoken_eq, M.run_bind, run_getc_plain true l e c hl heol hlt hc hbs]
    exact hloop _
  rw [hL] at hoof ⊢
  rw [readtoken_eq]
  rw [M.run_bind] at hoof
  rw [M.run_bind, M.run_bind]
  rcases hg : M.run (getc true) l (envAt e (e.tape.idx + 1)) with ⟨r, e'⟩
  rw [hg] at hoof
  cases r with
  | error x => rfl
  | ok v =>
    obtain ⟨c0, l'⟩ := v
    simp only [] at hoof ⊢
    have := loop_fuel_succ "_readtoken" blankBody 1073741823 c0 l' e' (not_isOOF_of_bind hoof)
    rw [M.run_bind, M.run_bind]
    have e1 : (1073741824 : Nat) = 1073741823 + 1 := rfl
    rw [e1, this]

/-- the history shift at the head of `token()` -/
def histStep (l : Local) : Local :=
  { l with twoTokensAgo := l.tokenBeforeThat, tokenBeforeThat := l.lastReadToken,
           lastReadToken := l.currentToken }

theorem dflt0 : realTables.dflt 0 = none := by decide +kernel

/-- an engine configuration with nothing on the stack and no look-ahead (the initial one, or the
    one after NEWLINE tokens were shifted in state 0) -/
def Fresh (c : Cfg SVal) : Prop := c.stack = [] ∧ c.la = none

variable {α : Type}

/-- from a fresh configuration the first thing the engine does is `token()`, whose first tape
    access is `_readtoken`, after the history shift; what follows does not depend on the state -/
theorem loop_fresh (np : NestedParse) (c : Cfg SVal) (hc : Fresh c) (f : Nat)
    (K : Res SVal → M α) : ∃ K' : TokType ⊕ Token → M α, ∀ l e,
      M.run (M.loop "LRParser.parse" (step realTables (lrHooks np)) (f + 1) c >>= K) l e =
        M.run (readtoken >>= K') (histStep l) e := by
  have hp : ∃ K' : TokType ⊕ Token → M α,
      M.loop "LRParser.parse" (step realTables (lrHooks np)) (f + 1) c >>= K =
        modify histStep >>= fun _ => readtoken >>= K' := by
    refine ⟨?_, ?_⟩
    rotate_left
    · show (step realTables (lrHooks np) c >>= _) >>= K = _
      unfold step
      simp only [hc.1, hc.2, topState, dflt0]
      show (((nextToken >>= _) >>= _) >>= _) >>= K = _
      unfold nextToken
      simp only [bind_assoc]
      rfl
  obtain ⟨K', hK⟩ := hp
  exact ⟨K', fun l e => by rw [hK, M.run_bind, run_modify]⟩

/-- … and a run that did not run out of fuel did not run out of fuel in that `_readtoken` -/
theorem readtoken_not_oof (np : NestedParse) (c : Cfg SVal) (hc : Fresh c) (f : Nat)
    (K : Res SVal → M α) (l : Local) (e : Env)
    (h : ¬ IsOOF (M.run (M.loop "LRParser.parse" (step realTables (lrHooks np)) (f + 1) c >>= K) l e)) :
    ¬ IsOOF (M.run readtoken (histStep l) e) := by
  obtain ⟨K', hK⟩ := loop_fresh np c hc f K
  rw [hK] at h
  exact not_isOOF_of_bind h

/-- **a blank in front**: the run from cursor `i` (on a blank) ends like the run from `i + 1` -/
theorem run_loop_blank (np : NestedParse) (c : Cfg SVal) (hc : Fresh c) (f : Nat)
    (K : Res SVal → M α) (l : Local) (e : Env) (ch : Char) (hl : l.tape = none)
    (heol : l.eolLookahead = none) (hlt : e.tape.idx < e.tape.line.length)
    (hch : e.tape.line[e.tape.idx]? = some ch) (hblank : shellblank ch = true)
    (hoof : ¬ IsOOF (M.run (M.loop "LRParser.parse" (step realTables (lrHooks np)) (f + 1) c >>= K) l e)) :
    M.run (M.loop "LRParser.parse" (step realTables (lrHooks np)) (f + 1) c >>= K) l e =
      M.run (M.loop "LRParser.parse" (step realTables (lrHooks np)) (f + 1) c >>= K) l
        (envAt e (e.tape.idx + 1)) := by
  have hr := run_readtoken_blank (histStep l) e ch hl heol hlt hch hblank
    (readtoken_not_oof np c hc f K l e hoof)
  obtain ⟨K', hK⟩ := loop_fresh np c hc f K
  rw [hK, hK]
  exact run_bind_congr _ hr

/-! ## a newline in front: one more iteration of the engine loop -/

theorem run_recordpos (rel : Nat) (l : Local) (e : Env) :
    M.run (recordpos rel) l e =
      (.ok ((), { l with positions := l.positions ++ [(tapeOf l e).idx - rel] }), e) :=
  C10.run_recordpos rel l e

theorem run_gather_nil (l : Local) (e : Env) (h : l.redirstack = []) :
    M.run gatherheredocuments l e = (.ok ((), l), e) := by
  rw [gather_eq, M.run_bind, run_get]
  simp only [h, List.length_nil, Nat.zero_add]
  rw [run_loop_succ, run_gBody_nil l e h]

theorem run_blankLoop_nonblank (c : Char) (hc : shellblank c = false) (fuel : Nat) (l : Local)
    (e : Env) :
    M.run (M.loop "_readtoken" blankBody (fuel + 1) (some c)) l e = (.ok (some c, l), e) := by
  rw [run_loop_succ]
  unfold blankBody
  simp only [hc, Bool.false_eq_true, if_false]
  rfl

/-- `_readtoken` on a newline (no pending here-document) -/
theorem run_readtoken_nl (l : Local) (e : Env) (hl : l.tape = none)
    (heol : l.eolLookahead = none) (hrs : l.redirstack = [])
    (hlt : e.tape.idx < e.tape.line.length) (hc : e.tape.line[e.tape.idx]? = some '\n') :
    M.run readtoken l e =
      (.ok (.inl .NEWLINE,
        { l with positions := l.positions ++ [e.tape.idx],
                 ps := { l.ps with assignok := false } }), envAt e (e.tape.idx + 1)) := by
  rw [readtoken_eq, M.run_bind, run_getc_plain true l e '\n' hl heol hlt hc (by decide)]
  simp only []
  rw [M.run_bind, run_blankLoop_nonblank '\n' (by decide) 1073741823]
  simp only []
  unfold readtokenRest
  simp only [pure_bind, show ('\n' == '#') = false from by decide, Bool.false_eq_true, if_false,
    show ('\n' == '\n') = true from by decide, if_true, bind_assoc]
  rw [M.run_bind, run_recordpos]
  simp only []
  rw [M.run_bind, run_gather_nil _ _ (by exact hrs)]
  simp only []
  rw [M.run_bind, run_modify]
  simp only []
  have ht : tokentypeOfChar '\n' = pure TokType.NEWLINE := rfl
  rw [ht, pure_bind, M.run_pure, tapeOf_none hl]
  simp only [envAt, Nat.add_sub_cancel]

/-- the NEWLINE token at `i` -/
def tokNL (i : Nat) : Token :=
  { ttype := some .NEWLINE, value := .str ['\n'], pos := some (i, i + 1), flags := [] }

/-- the parser object after `token()` delivered a NEWLINE token -/
def afterNL (l : Local) (i : Nat) : Local :=
  { histStep l with positions := [], ps := { l.ps with assignok := false, eoftoken := false },
                    currentToken := tokNL i }

/-- `token()` when `_readtoken` delivers the NEWLINE at `p` (cursor behind it) -/
theorem run_nextToken_nlAt (l : Local) (e : Env) (p : Nat) (hl : l.tape = none)
    (hpos : l.positions = [])
    (hrt : M.run readtoken (histStep l) e =
      (.ok (.inl .NEWLINE,
        { histStep l with positions := (histStep l).positions ++ [p],
                          ps := { (histStep l).ps with assignok := false } }), envAt e (p + 1))) :
    M.run nextToken l e = (.ok (tokNL p, afterNL l p), envAt e (p + 1)) := by
  unfold nextToken
  rw [M.run_bind, run_modify]
  simp only []
  show M.run (readtoken >>= _) (histStep l) e = _
  rw [M.run_bind, hrt]
  simp only []
  rw [M.run_bind, run_recordpos]
  simp only []
  rw [M.run_bind, run_createtoken]
  simp only [histStep, hpos, tapeOf, hl, envAt, List.nil_append, List.cons_append, List.length_cons,
    List.length_nil]
  have h1 : ¬ (0 + 1 + 1 < 2) := by decide
  have h2 : ([p, p + 1 - 0] : List Nat).dropLast.getLast?.getD 0 = p := rfl
  have h3 : ([p, p + 1 - 0] : List Nat).getLast?.getD 0 = p + 1 := rfl
  have h4 : ([p, p + 1 - 0] : List Nat).dropLast.dropLast = [] := rfl
  have h5 : (!decide (p < p + 1)) = false := by
    simp only [Nat.lt_succ_self, decide_true, Bool.not_true]
  rw [if_neg h1, h2, h3, h4, h5]
  simp only [Bool.false_eq_true, if_false, M.run_bind, run_modify, M.run_pure]
  have hv : TokType.NEWLINE.enumValue = .str ['\n'] := rfl
  rw [hv]
  cases l
  simp only at hl
  subst hl
  rfl

/-- `token()` on a newline -/
theorem run_nextToken_nl (l : Local) (e : Env) (hl : l.tape = none)
    (heol : l.eolLookahead = none) (hrs : l.redirstack = []) (hpos : l.positions = [])
    (hlt : e.tape.idx < e.tape.line.length) (hc : e.tape.line[e.tape.idx]? = some '\n') :
    M.run nextToken l e = (.ok (tokNL e.tape.idx, afterNL l e.tape.idx), envAt e (e.tape.idx + 1)) :=
  run_nextToken_nlAt l e e.tape.idx hl hpos (run_readtoken_nl _ e hl heol hrs hlt hc)

theorem act0nl : realTables.action 0 55 = some (.shift 3) := by decide +kernel
theorem symNL (i : Nat) : symOfTok (tokNL i) = 55 := by
  show TokType.NEWLINE.sym = 55
  decide +kernel

/-- the engine configuration after one more NEWLINE was shifted in state 0 -/
def cfgNL (c : Cfg SVal) : Cfg SVal :=
  { c with la := none, nlShifted := c.nlShifted + 1, consumed := c.consumed ++ [55] }

theorem fresh_cfgNL {c : Cfg SVal} (hc : Fresh c) : Fresh (cfgNL c) := ⟨hc.1, rfl⟩

/-- a step of the engine from a fresh configuration when `_readtoken` delivers the NEWLINE at
    `p`: the token is shifted without being pushed -/
theorem run_step_nlAt (np : NestedParse) (c : Cfg SVal) (hc : Fresh c) (l : Local) (e : Env)
    (p : Nat) (hl : l.tape = none) (hpos : l.positions = [])
    (hrt : M.run readtoken (histStep l) e =
      (.ok (.inl .NEWLINE,
        { histStep l with positions := (histStep l).positions ++ [p],
                          ps := { (histStep l).ps with assignok := false } }), envAt e (p + 1))) :
    M.run (step realTables (lrHooks np) c) l e =
      (.ok (.inl (cfgNL c), afterNL l p), envAt e (p + 1)) := by
  unfold step
  simp only [hc.1, hc.2, topState, dflt0]
  show M.run (((nextToken >>= fun t => pure (symOfTok t, SVal.tok t)) : M (Nat × SVal)) >>= _) l e = _
  rw [M.run_bind, M.run_bind, run_nextToken_nlAt l e p hl hpos hrt]
  simp only [M.run_pure, symNL, act0nl]
  obtain ⟨hs, hla⟩ := hc
  cases c
  simp only at hs hla
  subst hs hla
  rfl

/-- a step of the engine on a newline, from a fresh configuration -/
theorem run_step_nl (np : NestedParse) (c : Cfg SVal) (hc : Fresh c) (l : Local) (e : Env)
    (hl : l.tape = none) (heol : l.eolLookahead = none) (hrs : l.redirstack = [])
    (hpos : l.positions = []) (hlt : e.tape.idx < e.tape.line.length)
    (hch : e.tape.line[e.tape.idx]? = some '\n') :
    M.run (step realTables (lrHooks np) c) l e =
      (.ok (.inl (cfgNL c), afterNL l e.tape.idx), envAt e (e.tape.idx + 1)) :=
  run_step_nlAt np c hc l e e.tape.idx hl hpos (run_readtoken_nl _ e hl heol hrs hlt hch)

/-! ## one parser run from any pair of related engine configurations -/

/-- what `_parser.parse()` does with the result of the LR engine -/
def parserTail (res : Res SVal) : M (Option Node) := do
  let store := (← get).store
  match res with
  | .accepted (.node n) _ _ _ => pure (some (resolve store n))
  | _ => pure none

theorem parserRun_succ' (depth : Nat) : parserRun (depth + 1) =
    (M.loop "LRParser.parse" (step realTables (lrHooks (npOf depth))) 1073741824 {} >>= parserTail) :=
  rfl

variable {pre : Str} {top : Bool}

theorem sim_parserTail {res₁ res₂ : Res SVal} (hres : ResRel (kOf pre top) res₁ res₂) :
    Sim pre top 0 0 (parserTail res₁) (parserTail res₂)
      (fun a b => b = a.map (Node.shift (kOf pre top))) := by
  unfold parserTail
  refine Sim.get_bind (fun l₁ l₂ hl => ?_)
  cases res₁ with
  | blank a b =>
    cases res₂ with
    | blank a' b' => exact SimAt.pure (Nat.le_refl _) rfl
    | accepted v t c f => exact hres.elim
  | accepted v₁ t₁ c₁ f₁ =>
    cases res₂ with
    | blank a' b' => exact hres.elim
    | accepted v₂ t₂ c₂ f₂ =>
      have : v₂ = shiftS (kOf pre top) v₁ := hres
      subst this
      cases v₁ with
      | node nd =>
        refine SimAt.pure (Nat.le_refl _) ?_
        simp only [shiftS_node, Option.map_some, hl.store, resolve_shift]
      | none => exact SimAt.pure (Nat.le_refl _) rfl
      | tok t => exact SimAt.pure (Nat.le_refl _) rfl
      | nodes l => exact SimAt.pure (Nat.le_refl _) rfl

/-- the engine loop followed by the tail of `_parser.parse()`, from related configurations, with
    any fuel -/
theorem sim_parserFrom (depth : Nat) (fuel : Nat) (c₁ c₂ : Cfg SVal)
    (hc : CRel (kOf pre top) c₁ c₂) :
    Sim pre top 0 0
      (M.loop "LRParser.parse" (step realTables (lrHooks (npOf depth))) fuel c₁ >>= parserTail)
      (M.loop "LRParser.parse" (step realTables (lrHooks (npOf depth))) fuel c₂ >>= parserTail)
      (fun a b => b = a.map (Node.shift (kOf pre top))) := by
  have ih0 : Sim pre false 0 0 (parserRun depth) (parserRun depth) Eq := by
    refine (sim_parserRun actionsHyp depth false).weaken (fun a b h => ?_)
    rw [h]
    cases a with
    | none => rfl
    | some nd => simp only [Option.map_some, kOf_false, Node.shift_zero]
  have hnp : NPRel pre top (npOf depth) := npRel_npOf depth ih0
  have hact := actionsHyp pre top _ hnp
  have hH := (hooks_ok sat_nextToken (npOK_npOf depth)).toRaise
  exact Sim.bind (sim_lrRun hact hH fuel c₁ c₂ hc) (fun r₁ r₂ hr => sim_parserTail hr)

/-! ## results -/

/-- what `runParser` keeps of a run -/
def resOf (x : Except Exn (Option Node × Local) × Env) : Except Exn (Option Node) := x.1.map (·.1)

/-- **the results of one parser run on `B` and on `pre ++ B`**: the same node with every span
    moved by `|pre|`; `ParsingError`s raised by the top-level parser carry the longer source and
    the moved position, all other exceptions are the same -/
def RunRel (pre : Str) : Except Exn (Option Node) → Except Exn (Option Node) → Prop
  | .ok a, .ok b => b = a.map (Node.shift pre.length)
  | .error x, .error y => ExnRel pre x y
  | _, _ => False

theorem runRel_of_outRel {n' : Nat} {r₁ r₂ : Except Exn (Option Node × Local) × Env}
    (h : OutRel pre true n' (fun a b => b = a.map (Node.shift (kOf pre true))) r₁ r₂) :
    RunRel pre (resOf r₁) (resOf r₂) := by
  obtain ⟨x₁, e₁⟩ := r₁
  obtain ⟨x₂, e₂⟩ := r₂
  cases x₁ with
  | error a => cases x₂ with
    | error b => exact h.1
    | ok b => exact h.elim
  | ok a => cases x₂ with
    | error b => exact h.elim
    | ok b => exact h.1

theorem RunRel.of_ok {pre : Str} {a : Option Node} :
    RunRel pre (.ok a) (.ok (a.map (Node.shift pre.length))) := rfl

theorem RunRel.ok {pre : Str} {a : Option Node} {y : Except Exn (Option Node)}
    (h : RunRel pre (.ok a) y) : y = .ok (a.map (Node.shift pre.length)) := by
  cases y with
  | error _ => exact h.elim
  | ok b => exact congrArg Except.ok h

theorem RunRel.error {pre : Str} {x : Exn} {y : Except Exn (Option Node)}
    (h : RunRel pre (.error x) y) : ∃ x', y = .error x' ∧ ExnRel pre x x' := by
  cases y with
  | error x' => exact ⟨x', rfl, h⟩
  | ok _ => exact h.elim

theorem RunRel.refl (r : Except Exn (Option Node)) : RunRel [] r r := by
  cases r with
  | error x => exact Or.inl rfl
  | ok a =>
    show a = a.map (Node.shift 0)
    cases a with
    | none => rfl
    | some nd => simp only [Option.map_some, Node.shift_zero]


theorem runRel_nil_eq {r₁ r₂ : Except Exn (Option Node)} (h : RunRel [] r₁ r₂) : r₂ = r₁ := by
  cases r₁ with
  | error x =>
    cases r₂ with
    | ok b => exact h.elim
    | error y =>
      rcases h with h | ⟨m, src, p, rfl, rfl⟩
      · rw [h]
      · simp
  | ok a =>
    cases r₂ with
    | error y => exact h.elim
    | ok b =>
      have : b = a.map (Node.shift 0) := h
      rw [this]
      cases a with
      | none => rfl
      | some nd => simp only [Option.map_some, Node.shift_zero]

theorem isOOF_iff_resOf (x : Except Exn (Option Node × Local) × Env) :
    IsOOF x ↔ ∃ site, resOf x = .error (.outOfFuel site) := by
  obtain ⟨r, e⟩ := x
  cases r with
  | error y =>
    constructor
    · rintro ⟨s, h⟩; exact ⟨s, by simp only [] at h; rw [h]; rfl⟩
    · rintro ⟨s, h⟩
      refine ⟨s, ?_⟩
      simp only [resOf, Except.map] at h
      have := Except.error.inj h
      subst this
      rfl
  | ok v =>
    constructor
    · rintro ⟨s, h⟩; cases h
    · rintro ⟨s, h⟩; cases h

/-- more fuel does not change the outcome of a loop that did not run out of fuel -/
theorem loop_fuel_le {σ β : Type} (site : String) (body : σ → M (σ ⊕ β)) (s : σ) (l : Local)
    (e : Env) : ∀ (d f : Nat), ¬ IsOOF (M.run (M.loop site body f s) l e) →
      M.run (M.loop site body (f + d) s) l e = M.run (M.loop site body f s) l e := by
  intro d
  induction d with
  | zero => intro f _; rfl
  | succ d ih =>
    intro f h
    have h1 := ih f h
    rw [← Nat.add_assoc, loop_fuel_succ site body (f + d) s l e (by rw [h1]; exact h), h1]

/-! ## consuming the prefix -/

/-- blanks and newlines -/
def BlankNL (pre : Str) : Prop := ∀ c, c ∈ pre → c = ' ' ∨ c = '\t' ∨ c = '\n'

/-- the state of a fresh top-level `_parser` -/
def initL (lim : Option Int) : Local := { limit := lim }

theorem locRel_init (k : Nat) (lim : Option Int) : LocRel k (initL lim) (initL lim) :=
  { tape := rfl, opts := rfl, eol := rfl, before := HEq.refl _, last := HEq.refl _
    cur := HEq.refl _, curFlags := rfl, ps := rfl, obc := rfl, esacs := rfl
    dstack := rfl, positions := rfl, eofToken := rfl, eofOK := Or.inl rfl
    redirstack := rfl, store := rfl, limit := rfl }

theorem envAt_self (e : Env) : envAt e e.tape.idx = e := rfl
theorem envAt_envAt (e : Env) (i j : Nat) : envAt (envAt e i) j = envAt e j := rfl

theorem locRel_afterNL {lim : Option Int} {l : Local} (hl : LocRel 0 (initL lim) l) (i : Nat) :
    LocRel 0 (initL lim) (afterNL l i) :=
  { tape := hl.tape, opts := hl.opts, eol := hl.eol
    before := hl.last, last := hl.cur
    cur := Or.inr ⟨Or.inl ⟨rfl, rfl⟩, Or.inr ⟨rfl, rfl⟩⟩
    curFlags := rfl
    ps := by
      show ({ l.ps with assignok := false, eoftoken := false } : PState) = _
      rw [hl.ps]; rfl
    obc := hl.obc, esacs := hl.esacs, dstack := hl.dstack, positions := rfl
    eofToken := hl.eofToken, eofOK := hl.eofOK, redirstack := hl.redirstack, store := hl.store
    limit := hl.limit }

theorem rel_nil_of_locRel {lim : Option Int} {l : Local} (hl : LocRel 0 (initL lim) l) (e : Env)
    (hlen : 2 ≤ e.tape.line.length) (hproc : e.proceed = false) :
    Rel [] true 0 (initL lim) e l e :=
  { env := ⟨⟨rfl, rfl, rfl, hlen⟩, rfl, rfl, rfl⟩
    loc := hl
    mode := rfl
    room := fun _ => Room.zero _
    eolOK := fun _ h => by cases h
    proc := hproc }

end Bashlex.C14
