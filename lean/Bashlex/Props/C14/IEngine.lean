/-
  C14 interior: the LR engine and `_parser.parse()` are natural in the spans, for EVERY
  span map `f : Span → Span` — conditional on the same statement for the token source and for the
  semantic actions (`InteriorHyp`).

  The two-run logic is C16's (`C16.Rel S S' m₁ m₂ R`: if run 1 returns normally, run 2 returns
  normally with `R`-related results, in `S'`-related states); its engine theorems `rel_step`,
  `rel_run` are generic in the value relation.  Here the value relation is
  `v₂ = mapS f v₁` (tokens: `pos.map f`; nodes: `Node.mapPos f`), and the loop is entered from ANY
  pair of related engine configurations (`engine_from`), which is what a two-phase argument
  (identical runs up to the insertion point, moved spans behind it) needs: for
  `f = spanMap |X| |ins|` old values (all positions `< |X|`) are fixed by `f` and new ones are
  moved by `|ins|`, so the single relation `v₂ = mapS f v₁` covers the mixed stack.
-/
import Bashlex.Props.C14.ISpec
import Bashlex.Props.C16.Engine

namespace Bashlex.C14I
open Bashlex Bashlex.LR Bashlex.C16
set_option linter.unusedSimpArgs false
set_option linter.unusedVariables false

/-! ## values under a span map -/

def mapTok (f : Span → Span) (t : Token) : Token := { t with pos := t.pos.map f }

def mapS (f : Span → Span) : SVal → SVal
  | .none => .none
  | .tok t => .tok (mapTok f t)
  | .node n => .node (n.mapPos f)
  | .nodes l => .nodes (l.map (Node.mapPos f))

/-- a property of the tokens on the value stack (intended: the token lies on one side of the
    insertion point, so that `f` moves it rigidly — what word expansion needs) -/
def QV (Q : Token → Prop) (v : SVal) : Prop := ∀ t, v = .tok t → Q t

/-- the value relation of the two runs -/
def VRf (f : Span → Span) (Q : Token → Prop) (v₁ v₂ : SVal) : Prop := v₂ = mapS f v₁ ∧ QV Q v₁

@[simp] theorem mapTok_ttype (f : Span → Span) (t : Token) : (mapTok f t).ttype = t.ttype := rfl
@[simp] theorem mapTok_value (f : Span → Span) (t : Token) : (mapTok f t).value = t.value := rfl
@[simp] theorem mapTok_flags (f : Span → Span) (t : Token) : (mapTok f t).flags = t.flags := rfl
@[simp] theorem mapTok_valueStr (f : Span → Span) (t : Token) :
    (mapTok f t).valueStr = t.valueStr := rfl
@[simp] theorem mapTok_is (f : Span → Span) (t : Token) (ty : TokType) :
    (mapTok f t).is ty = t.is ty := rfl

theorem symOfTok_mapTok (f : Span → Span) (t : Token) : symOfTok (mapTok f t) = symOfTok t := rfl

/-- the span of a moved token; a token without a span (EOF) reads `(0, 0)`, so `f` has to fix
    `(0, 0)` (true of `spanMap x k` for `0 < x`) -/
theorem mapTok_span {f : Span → Span} (h0 : f (0, 0) = (0, 0)) (t : Token) :
    ((mapTok f t).lexpos, (mapTok f t).endlexpos) = f (t.lexpos, t.endlexpos) := by
  unfold Token.lexpos Token.endlexpos mapTok
  cases t.pos with
  | none => simp only [Option.map_none, Option.getD_none, h0]
  | some p => simp only [Option.map_some, Option.getD_some]

theorem lexspan_mapS {f : Span → Span} (h0 : f (0, 0) = (0, 0)) (v : SVal) :
    (mapS f v).lexspan = f v.lexspan := by
  cases v with
  | tok t => exact mapTok_span h0 t
  | none => exact h0.symm
  | node n => exact h0.symm
  | nodes l => exact h0.symm

theorem forall2_VRf {f : Span → Span} {Q : Token → Prop} {a₁ a₂ : List SVal}
    (h : Forall2 (VRf f Q) a₁ a₂) : a₂ = a₁.map (mapS f) ∧ ∀ a ∈ a₁, QV Q a := by
  induction h with
  | nil => exact ⟨rfl, fun a ha => by cases ha⟩
  | cons h1 _ ih =>
    refine ⟨by rw [h1.1, ih.1]; rfl, fun a ha => ?_⟩
    rcases List.mem_cons.1 ha with rfl | ha
    · exact h1.2
    · exact ih.2 a ha

/-! ## the hypotheses -/

section
variable [EnvRel]

/-- naturality of one action function -/
def ActNat (f : Span → Span) (Q : Token → Prop) (S : Local → Local → Prop)
    (np₁ np₂ : NestedParse) (fname : String) : Prop :=
  ∀ args, (∀ a ∈ args, QV Q a) →
    Rel S S (action np₁ fname args) (action np₂ fname (args.map (mapS f)))
      (fun r₁ r₂ => VRf f Q r₁.1 r₂.1 ∧ r₁.2 = r₂.2)

/-- **what is assumed**: the token source delivers the same tokens with spans under `f`; every
    action function of the grammar is natural; the stores of pending here-documents are related -/
structure InteriorHyp (f : Span → Span) (Q : Token → Prop) (S : Local → Local → Prop)
    (np₁ np₂ : NestedParse) : Prop where
  tok : Rel S S nextToken nextToken (fun t₁ t₂ => t₂ = mapTok f t₁ ∧ Q t₁)
  act : ∀ fname, fname ∈ Gen.prodFuncs → ActNat f Q S np₁ np₂ fname
  store : ∀ l₁ l₂, S l₁ l₂ → l₂.store = l₁.store.map (cellMap f)

variable {f : Span → Span} {Q : Token → Prop} {S : Local → Local → Prop} {np₁ np₂ : NestedParse}

omit [EnvRel] in
theorem isNl_mapS (np : NestedParse) (v : SVal) :
    (lrHooks np).isNl (mapS f v) = (lrHooks np).isNl v := by
  cases v <;> rfl

/-- the hooks of the two engines are related -/
theorem hooksR (h : InteriorHyp f Q S np₁ np₂) : HooksR S (VRf f Q) (lrHooks np₁) (lrHooks np₂) where
  next := by
    show Rel S S (nextToken >>= fun t => pure (symOfTok t, SVal.tok t))
      (nextToken >>= fun t => pure (symOfTok t, SVal.tok t)) _
    refine Rel.bind h.tok ?_
    rintro t₁ t₂ ⟨rfl, hq⟩
    exact Rel.pure ⟨(symOfTok_mapTok f t₁).symm, rfl, fun t ht => by cases ht; exact hq⟩
  act := by
    intro p args₁ args₂ ha
    obtain ⟨hargs, hq⟩ := forall2_VRf ha
    rw [hargs]
    show Rel S S (action np₁ (Gen.prodFuncs.getD p "") args₁)
      (action np₂ (Gen.prodFuncs.getD p "") (args₁.map (mapS f))) _
    by_cases hp : p < Gen.prodFuncs.length
    · have hmem : Gen.prodFuncs.getD p "" ∈ Gen.prodFuncs := by
        rw [List.getD_eq_getElem?_getD, List.getElem?_eq_getElem hp]; exact List.getElem_mem hp
      exact (h.act _ hmem args₁ hq).conseq (fun r₁ r₂ hr => ⟨hr.1, hr.2⟩)
    · -- no such production: the action is the model's "not modelled" marker
      have : Gen.prodFuncs.getD p "" = "" := by
        rw [List.getD_eq_getElem?_getD, List.getElem?_eq_none (Nat.le_of_not_lt hp)]; rfl
      rw [this]
      refine Rel.noRet ?_
      unfold action actionCore
      exact NoRet.bind_left NoRet.foreign
  isNl := by
    rintro v₁ v₂ ⟨rfl, _⟩
    exact (isNl_mapS np₂ v₁).symm.trans (by cases v₁ <;> rfl)

/-- **the engine from any pair of related configurations** (mixed stacks included) -/
theorem engine_from (h : InteriorHyp f Q S np₁ np₂) (fuel : Nat) (c₁ c₂ : Cfg SVal)
    (hc : CfgR (VRf f Q) c₁ c₂) :
    Rel S S (M.loop "LRParser.parse" (step realTables (lrHooks np₁)) fuel c₁)
      (M.loop "LRParser.parse" (step realTables (lrHooks np₂)) fuel c₂) (ResRel (VRf f Q)) :=
  Rel.loop (I := CfgR (VRf f Q)) (fun c₁ c₂ hc => rel_step realTables (hooksR h) hc) fuel _ _ hc

/-- … and the tail of `_parser.parse()`: the node of run 2 is the node of run 1 under `f` -/
theorem parserTail_rel (h : InteriorHyp f Q S np₁ np₂) {r₁ r₂ : Res SVal}
    (hr : ResRel (VRf f Q) r₁ r₂) :
    Rel S S (C14.parserTail r₁) (C14.parserTail r₂)
      (fun a b => b = a.map (Node.mapPos f)) := by
  unfold C14.parserTail
  refine Rel.bind Rel.get ?_
  intro l₁ l₂ hl
  cases r₁ with
  | blank a b =>
    cases r₂ with
    | blank a' b' => exact Rel.pure rfl
    | accepted v t c g => exact hr.elim
  | accepted v₁ t₁ c₁ g₁ =>
    cases r₂ with
    | blank a' b' => exact hr.elim
    | accepted v₂ t₂ c₂ g₂ =>
      have hv : v₂ = mapS f v₁ := hr.1.1
      subst hv
      cases v₁ with
      | node nd =>
        refine Rel.pure ?_
        simp only [mapS, Option.map_some, h.store l₁ l₂ hl, resolve_mapPos]
      | none => exact Rel.pure rfl
      | tok t => exact Rel.pure rfl
      | nodes l => exact Rel.pure rfl

/-- **C14 interior, conditional, one parser run from related configurations**: if run 1 returns
    a result, run 2 returns that result with every span under `f` -/
theorem interior_from_conditional (h : InteriorHyp f Q S np₁ np₂) (fuel : Nat) (c₁ c₂ : Cfg SVal)
    (hc : CfgR (VRf f Q) c₁ c₂) :
    Rel S S
      (M.loop "LRParser.parse" (step realTables (lrHooks np₁)) fuel c₁ >>= C14.parserTail)
      (M.loop "LRParser.parse" (step realTables (lrHooks np₂)) fuel c₂ >>= C14.parserTail)
      (fun a b => b = a.map (Node.mapPos f)) :=
  Rel.bind (engine_from h fuel c₁ c₂ hc) (fun r₁ r₂ hr => parserTail_rel h hr)

/-- … from the start of the run: `parserRun (depth + 1)` with the nested parser of that depth -/
theorem interior_run_conditional (depth : Nat)
    (h : InteriorHyp f Q S (C14.npOf depth) (C14.npOf depth)) :
    Rel S S (parserRun (depth + 1)) (parserRun (depth + 1))
      (fun a b => b = a.map (Node.mapPos f)) := by
  have e := C14.parserRun_succ' depth
  rw [e]
  have hc : CfgR (VRf f Q) ({} : Cfg SVal) ({} : Cfg SVal) := ⟨.nil, trivial, rfl, rfl⟩
  exact interior_from_conditional h 1073741824 {} {} hc

end

end Bashlex.C14I
