/-
  C14: `resolve` (the pending here-documents of the store are put into their redirect nodes) is
  natural in the spans, for every span map; the shift by `k` of the prefix theorems and the span
  map of an insertion are instances.
-/
import Bashlex.Props.C13.Shift
import Bashlex.Proofs.NodeResolve

namespace Bashlex.C14I
open Bashlex

/-- a store cell under a span map -/
def cellMap (f : Span → Span) (c : RedirCell) : RedirCell :=
  { c with pos := f c.pos, heredoc := c.heredoc.map (fun x => (f x.1, x.2)) }

theorem resolve_mapPos (f : Span → Span) (st : List RedirCell) : ∀ nd : Node,
    resolve (st.map (cellMap f)) (Node.mapPos f nd) = Node.mapPos f (resolve st nd) := by
  refine resolve_induction
    (R := fun n n' => resolve (st.map (cellMap f)) (Node.mapPos f n) = Node.mapPos f n') ?_ ?_ ?_
  · intro n hd ih
    rw [resolve_of_descends (by rw [descends_mapPos, hd]), Node.mapPos_eq f n, Node.map1_map1,
      Node.mapPos_eq f, Node.map1_map1]
    exact Node.map1_congr rfl ih
  · intro p i t o oa h hid
    rw [Node.mapPos, resolve_redirect, resolve_redirect]
    cases hid with
    | none => rfl
    | some id =>
      simp only [Option.bind_some, List.getElem?_map]
      cases st[id]? with
      | none => rfl
      | some c => cases hc : c.heredoc <;> simp [Node.mapPos, Node.mapPosO, cellMap, hc]
  · intro n hd hr
    exact resolve_of_leaf (by rw [descends_mapPos, hd]) (by rw [Node.kind_mapPos]; exact hr)

theorem resolveL_mapPos (f : Span → Span) (st : List RedirCell) : ∀ l : List Node,
    resolveL (st.map (cellMap f)) (Node.mapPosL f l) = Node.mapPosL f (resolveL st l) := by
  intro l
  simp [resolveL_eq, Node.mapPosL_eq, resolve_mapPos]

end Bashlex.C14I
