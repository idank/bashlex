/-
  C14: `readline`, `makeheredoc`, `gatherheredocuments` under the translation:
  the same lines are read; the spans written into the redirect store are moved by the shift.
  Entry level 0 or 1 (the reader is called from `_readtoken` after a character was read, level 1,
  and from the action `p_simple_list`, level 0).
-/
import Bashlex.Props.C14.Walk
import Bashlex.Props.C10.Reader
import Bashlex.Props.C10.Gather

namespace Bashlex.C14
open Bashlex Bashlex.C10

variable {pre : Str} {top : Bool} {n n' : Nat}

/-- one iteration of `readline`: at least one `_getc`, so the exit level is ≥ 1 -/
theorem sim_rlBody (rqn : Bool) (st : RLState) (hn : n ≤ 1) :
    Sim pre top n 1 (rlBody rqn st) (rlBody rqn st) (SumEq Eq) := by
  unfold rlBody
  refine Sim.bindEq (mid := n + 1) (sim_getc true hn) (fun c0 => ?_)
  have h1 : 1 ≤ n + 1 := Nat.le_add_left _ _
  refine Sim.lvlTo (a := 1) ?_ h1
  rel_walk

theorem sim_readline (rqn : Bool) (hn : n ≤ 1) : SimEq pre top n 1 (readline rqn) := by
  rw [readline_eq]
  simp only [loopFuel, pure_bind]
  exact Sim.loopFrom (S := Eq) (fun s t hst => by subst hst; exact sim_rlBody rqn s hn)
    (fun s t hst => by subst hst; exact sim_rlBody rqn s (Nat.le_refl _)) _ _ _ rfl
macro_rules | `(tactic| rel_atom) => `(tactic| exact sim_readline _ (by decide))

theorem sim_mhBody (d : Str) (k : Bool) (st : HDState) :
    Sim pre top 1 1 (mhBody d k st) (mhBody d k st) (SumEq Eq) := by
  unfold mhBody; rel_walk

theorem LocRel.setStore {k : Nat} {l₁ l₂ : Local} (h : LocRel k l₁ l₂) (st : List RedirCell) :
    LocRel k { l₁ with store := st } { l₂ with store := st.map (cellShift k) } :=
  { h with store := rfl }

/-- the end of `makeheredoc`: the error object, or the cell written to the store -/
theorem sim_mhFinish (id : Nat) (cell : RedirCell) (startpos : Nat) (fin : HDState) :
    Sim pre top 1 1 (mhFinish id cell startpos fin)
      (mhFinish id (cellShift (kOf pre top) cell) (startpos + kOf pre top) fin)
      (fun _ _ => True) := by
  unfold mhFinish
  refine Sim.ite (fun _ => ?_) (fun _ => ?_)
  · refine Sim.bind sim_tapeLine (fun s₁ s₂ hs => ?_)
    refine Sim.bind (sim_curIdx (by decide)) (fun i j hij => ?_)
    refine Sim.bind (mid := 1) (V := fun _ _ => False) (Sim.raise ?_) (fun _ _ h => h.elim)
    have := exnRel_mkParsingError hs
      ("here-document at line 0 delimited by end-of-file (wanted " ++ pyReprStr cell.delim ++ ")")
      (i : Int)
    rw [hij.1, Int.natCast_add]
    exact this
  · refine Sim.bind (sim_curIdx (by decide)) (fun i j hij => ?_)
    refine Sim.get_bind (fun l₁ l₂ hl => ?_)
    refine SimAt.set (fun e₁ e₂ hr => hr.update ?_ rfl rfl rfl)
    have key := hl.setStore (l₁.store.set id
      { cell with heredoc := some ((startpos, i - 1), fin.document),
                  pos := if cell.pos.2 + 1 == startpos then (cell.pos.1, i - 1) else cell.pos })
    have hj : j - 1 = i - 1 + kOf pre top := by
      rw [hij.1]
      cases top with
      | true => have := hij.2 rfl; omega
      | false => simp only [kOf_false]; omega
    have e : (l₁.store.set id
        { cell with heredoc := some ((startpos, i - 1), fin.document),
                    pos := if cell.pos.2 + 1 == startpos then (cell.pos.1, i - 1) else cell.pos }).map
          (cellShift (kOf pre top)) =
        l₂.store.set id
          { cellShift (kOf pre top) cell with
              heredoc := some ((startpos + kOf pre top, j - 1), fin.document),
              pos := if (cellShift (kOf pre top) cell).pos.2 + 1 == startpos + kOf pre top then
                  ((cellShift (kOf pre top) cell).pos.1, j - 1)
                else (cellShift (kOf pre top) cell).pos } := by
      rw [List.map_set, hl.store, hj]
      congr 1
      have hc : (cell.pos.2 + kOf pre top + 1 == startpos + kOf pre top) =
          (cell.pos.2 + 1 == startpos) := by
        by_cases h : cell.pos.2 + 1 = startpos
        · have h' : cell.pos.2 + kOf pre top + 1 = startpos + kOf pre top := by omega
          simp only [h, h', beq_self_eq_true]
        · have h' : ¬ cell.pos.2 + kOf pre top + 1 = startpos + kOf pre top := by omega
          simp only [beq_eq_false_iff_ne.2 h, beq_eq_false_iff_ne.2 h']
      simp only [cellShift, sh, Option.map_some, hc]
      split <;> rfl
    rw [e] at key
    exact key

theorem getElem?_store {k : Nat} {l₁ l₂ : Local} (h : LocRel k l₁ l₂) (id : Nat) :
    l₂.store[id]? = (l₁.store[id]?).map (cellShift k) := by
  rw [h.store, List.getElem?_map]

theorem sim_makeheredoc (id : Nat) (kill : Bool) (hn : n ≤ 1) :
    Sim pre top n 1 (makeheredoc id kill) (makeheredoc id kill) (fun _ _ => True) := by
  rw [makeheredoc_eq]
  refine Sim.get_bind (fun l₁ l₂ hl => ?_)
  rw [getElem?_store hl]
  cases hc : l₁.store[id]? with
  | none =>
    simp only [Option.map_none]
    exact SimAt.bind (mid := n) (V := fun _ _ => False) (SimAt.foreign _ _) (fun _ _ h => h.elim)
  | some cell =>
    simp only [Option.map_some, pure_bind, cellShift_delim, loopFuel]
    refine Sim.at ?_ _ _
    refine Sim.bind (sim_curIdx (by omega)) (fun i j hij => ?_)
    refine Sim.bindEq (sim_readline false hn) (fun first => ?_)
    refine Sim.bindEq (Sim.loopEq (sim_mhBody _ _) _ _) (fun fin => ?_)
    rw [hij.1]
    exact sim_mhFinish id cell i fin

theorem sim_gBody (u : Unit) (hn : n ≤ 1) : Sim pre top n n (gBody u) (gBody u) (SumEq Eq) := by
  unfold gBody
  refine Sim.get_bind (fun l₁ l₂ hl => ?_)
  rw [hl.redirstack]
  refine Sim.at ?_ _ _
  split
  · exact Sim.pureSum (Nat.le_refl _)
  · refine Sim.bindEq (sim_peekc true hn) (fun p => ?_)
    have hjp : ∀ rest id kill, Sim pre top n n (do
        modify fun l => { l with redirstack := rest }
        makeheredoc id kill
        pure (Sum.inl () : Unit ⊕ Unit)) (do
        modify fun l => { l with redirstack := rest }
        makeheredoc id kill
        pure (Sum.inl () : Unit ⊕ Unit)) (SumEq Eq) := by
      intro rest id kill
      refine Sim.bindU (mid := n) (by rel_modify) ?_
      refine Sim.bindU (mid := 1) (sim_makeheredoc id kill hn) ?_
      exact Sim.pureSum hn
    simp only []
    split
    · refine Sim.bindEq (mid := n) sim_optStrict (fun b => ?_)
      split
      · exact Sim.bindU (mid := n) sim_bumpIdx (Sim.pureSum (Nat.le_refl _))
      · exact hjp _ _ _
    · exact hjp _ _ _

theorem sim_gatherheredocuments (hn : n ≤ 1) :
    Sim pre top n n gatherheredocuments gatherheredocuments (fun _ _ => True) := by
  rw [gather_eq]
  refine Sim.get_bind (fun l₁ l₂ hl => ?_)
  rw [hl.redirstack]
  refine Sim.at ?_ _ _
  exact (Sim.loopEq (fun u => sim_gBody u hn) _ _).weaken (fun _ _ _ => True.intro)
macro_rules | `(tactic| rel_atom) => `(tactic| exact sim_gatherheredocuments (n := 0) (by decide))
macro_rules | `(tactic| rel_atom) => `(tactic| exact sim_gatherheredocuments (n := 1) (by decide))

end Bashlex.C14
