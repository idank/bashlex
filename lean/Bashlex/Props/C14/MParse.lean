/-
  C14More: `parse`-level theorems — a layout prefix and a layout suffix.
  One run: `runParser_layout_all`.  From the first run to the entry points: `SingleRel.of_run`
  (`parsesingle_layout_prefix`) and `parseRel_of_runRel` (`parse_layout_prefix`, `_parts`, `_exn`);
  the later runs of `parse` are on the same suffixes (`C13.parse_blankSkip`).  With C13's
  independence: `parse_layout_suffix`, `C13_partial_layout`, `C14_insert_between`.
-/
import Bashlex.Props.C14.MEnd
import Bashlex.Props.C13

namespace Bashlex.C14
open Bashlex Bashlex.C10 Bashlex.C12 Bashlex.LR Bashlex.C13

/-! ## one run, no restriction on `B` -/

-- `RunRel`, `SingleRel`, `ParseRel` are matches on outcomes: the elaborator would run the parser to
-- decide them (see `Proofs/ParserLift.lean`); they are used through their lemmas
attribute [local irreducible] M.run runParser parse parsesingle

/-- the inputs whose tape is shorter than 2 -/
theorem short_tape {B : Str} (h : ¬ 2 ≤ (Tape.ofInput B).line.length) : B = [] ∨ B = ['\n'] := by
  cases B with
  | nil => exact .inl rfl
  | cons c r =>
    cases r with
    | nil =>
      by_cases hc : c = '\n'
      · exact .inr (by rw [hc])
      · exfalso; apply h
        rw [ofInput_line_of_ne (s := [c]) (c := c) rfl hc]
        exact Nat.le_refl _
    | cons d r =>
      exfalso; apply h
      rcases ofInput_line (c :: d :: r) with e | e <;> rw [e] <;>
        simp only [List.length_cons, List.length_append] <;> omega

/-- **C14, one parser run, layout prefix, every `B`**: `runParser_layout` without the artefact
    `B ∉ {"", "⏎"}` (for these two inputs both runs are runs on layout) -/
theorem runParser_layout_all (pre B : Str) (o : Opts) (t : List Char) (hpre : Layout pre)
    (hproc : o.proceed = false)
    (hfuel : ∀ site, (runParser (pre ++ B) o t).1 ≠ .error (.outOfFuel site)) :
    RunRel pre (runParser B o t).1 (runParser (pre ++ B) o t).1 := by
  by_cases hB : 2 ≤ (Tape.ofInput B).line.length
  · exact runParser_layout pre B o t hpre hB hproc hfuel
  · have hlB : Layout B := by
      rcases short_tape hB with rfl | rfl
      · exact .nil
      · exact .blank (.inr (.inr rfl)) .nil
    have h1 : (runParser B o t).1 = .ok none := by
      rcases short_tape hB with rfl | rfl
      · rw [runParser_nil]
      · exact runParser_nl o t
    rw [h1, runParser_layout_only (pre ++ B) o t (hpre.append hlB) hfuel]
    exact .of_ok

/-- the first run behind a layout prefix, when the run on `B` returns normally (`C13.BlankSkip`) -/
theorem layoutSkip (pre B : Str) (o : Opts) (hpre : Layout pre) (hproc : o.proceed = false)
    (hfuel : ∀ site, (runParser (pre ++ B) o []).1 ≠ .error (.outOfFuel site))
    (r : Option Node) (hr : (runParser B o []).1 = .ok r)
    (hpos : pre = [] ∨ ∀ part, (runParser B o []).1 = .ok (some part) → 0 < nextIndex part) :
    BlankSkip pre B o := by
  have h := runParser_layout_all pre B o [] hpre hproc hfuel
  rw [hr] at h
  exact ⟨by rw [h.ok, hr]; rfl, hpos⟩

/-! ## `parsesingle` -/

/-- the outcomes of `parsesingle B` and `parsesingle (pre ++ B)` -/
def SingleRel (pre : Str) : Outcome → Outcome → Prop
  | .single a, .single b => b = a.map (Node.shift pre.length)
  | .exn x, .exn y => ExnRel pre x y
  | _, _ => False

theorem SingleRel.of_run {pre : Str} {a b : Except Exn (Option Node)} (h : RunRel pre a b) :
    SingleRel pre (singleOutcome a) (singleOutcome b) := by
  cases a <;> cases b <;> exact h

/-- **C14 for `parsesingle`, layout prefix** (no side condition besides `proceedonerror` off and
    fuel) -/
theorem parsesingle_layout_prefix (pre B : Str) (o : Opts) (hpre : Layout pre)
    (hproc : o.proceed = false)
    (hfuel : ∀ site, (runParser (pre ++ B) o []).1 ≠ .error (.outOfFuel site)) :
    SingleRel pre (parsesingle B o).1 (parsesingle (pre ++ B) o).1 := by
  rw [parsesingle_eq, parsesingle_eq]
  exact .of_run (runParser_layout_all pre B o [] hpre hproc hfuel)

/-! ## a layout prefix -/

/-- the outcomes of `parse B` and `parse (pre ++ B)` -/
def ParseRel (pre : Str) : Outcome → Outcome → Prop
  | .parts a, .parts b => b = a.map (Node.shift pre.length)
  | .exn x, .exn y => ExnRel pre x y
  | _, _ => False

theorem ParseRel.parts {pre : Str} {ps : List Node} {y : Outcome}
    (h : ParseRel pre (.parts ps) y) : y = .parts (ps.map (Node.shift pre.length)) := by
  cases y <;> first | exact h.elim | exact congrArg Outcome.parts h

theorem ParseRel.exn {pre : Str} {x : Exn} {y : Outcome}
    (h : ParseRel pre (.exn x) y) : ∃ x', y = .exn x' ∧ ExnRel pre x x' := by
  cases y <;> first | exact h.elim | exact ⟨_, rfl, h⟩

/-- what `parse` returns, glued behind no part, is related to itself moved -/
theorem ParseRel.glue {pre : Str} {p : Outcome}
    (hp : (∃ ps, p = .parts ps) ∨ ∃ x, p = .exn x) : ParseRel pre p (glue [] pre.length p) := by
  rcases hp with ⟨ps, rfl⟩ | ⟨x, rfl⟩
  · exact List.nil_append _
  · exact ExnRel.rfl' x

/-- **from the first run to `parse`**: if the first runs on `B` and on `pre ++ B` are related, so
    are the two calls of `parse` (all later runs are on literally the same suffixes:
    `parse_blankSkip`) -/
theorem parseRel_of_runRel {pre B : Str} {o : Opts}
    (hrun : RunRel pre (runParser B o []).1 (runParser (pre ++ B) o []).1)
    (hpos : pre = [] ∨ ∀ part, (runParser B o []).1 = .ok (some part) → 0 < nextIndex part) :
    ParseRel pre (parse B o).1 (parse (pre ++ B) o).1 := by
  cases hr : (runParser B o []).1 with
  | error x =>
    rw [hr] at hrun
    obtain ⟨y, hy, hxy⟩ := hrun.error
    rw [parse_exn_of_run_error hr, parse_exn_of_run_error hy]
    exact hxy
  | ok r =>
    rw [hr] at hrun
    have hs : BlankSkip pre B o := ⟨by rw [hrun.ok, hr]; rfl, hpos⟩
    rw [parse_blankSkip hs]
    exact .glue (parse_parts_or_exn B o)

/-- **`parse` on layout only returns no part** -/
theorem parse_layout_only (s : Str) (o : Opts) (hs : Layout s)
    (hfuel : ∀ site, (runParser s o []).1 ≠ .error (.outOfFuel site)) :
    (parse s o).1 = .parts [] :=
  (parse_nil_iff s o).2 (runParser_layout_only s o [] hs hfuel)

/-- **C14 at `parse` level, layout prefix.**  `pre` is layout (blanks, tabs, newlines, comment
    lines), `proceedonerror` is off, the first run on `pre ++ B` does not run out of fuel, and the
    first part of `B` does not end at 0.  Then `parse (pre ++ B)` is `parse B` with every span of
    every part moved by `|pre|`; if `parse B` raises, `parse (pre ++ B)` raises the same exception,
    except that a `ParsingError` of the FIRST top-level run carries `pre ++ src` and `p + |pre|`
    (the error of a later part is unchanged: D15). -/
theorem parse_layout_prefix (pre B : Str) (o : Opts) (hpre : Layout pre)
    (hproc : o.proceed = false)
    (hfuel : ∀ site, (runParser (pre ++ B) o []).1 ≠ .error (.outOfFuel site))
    (hpos : pre = [] ∨ ∀ part, (runParser B o []).1 = .ok (some part) → 0 < nextIndex part) :
    ParseRel pre (parse B o).1 (parse (pre ++ B) o).1 :=
  parseRel_of_runRel (runParser_layout_all pre B o [] hpre hproc hfuel) hpos

/-- … `parse B` returns parts: `parse (pre ++ B)` returns them moved by `|pre|` -/
theorem parse_layout_prefix_parts (pre B : Str) (o : Opts) (ps : List Node) (hpre : Layout pre)
    (hproc : o.proceed = false)
    (hfuel : ∀ site, (runParser (pre ++ B) o []).1 ≠ .error (.outOfFuel site))
    (hpos : pre = [] ∨ ∀ part, (runParser B o []).1 = .ok (some part) → 0 < nextIndex part)
    (hB : (parse B o).1 = .parts ps) :
    (parse (pre ++ B) o).1 = .parts (ps.map (Node.shift pre.length)) := by
  have h := parse_layout_prefix pre B o hpre hproc hfuel hpos
  rw [hB] at h
  exact h.parts

/-- … `parse B` raises: `parse (pre ++ B)` raises the related exception -/
theorem parse_layout_prefix_exn (pre B : Str) (o : Opts) (x : Exn) (hpre : Layout pre)
    (hproc : o.proceed = false)
    (hfuel : ∀ site, (runParser (pre ++ B) o []).1 ≠ .error (.outOfFuel site))
    (hpos : pre = [] ∨ ∀ part, (runParser B o []).1 = .ok (some part) → 0 < nextIndex part)
    (hB : (parse B o).1 = .exn x) :
    ∃ y, (parse (pre ++ B) o).1 = .exn y ∧ ExnRel pre x y := by
  have h := parse_layout_prefix pre B o hpre hproc hfuel hpos
  rw [hB] at h
  exact h.exn

/-! ## a layout suffix -/

/-- **C14 at `parse` level, trailing layout.**  `B` ends in a newline or `post` starts with one;
    `parse B` returns `ps`, all its node-returning runs are local (none was told "end of input":
    `C13.parseLocal`, implied by `runNoEOF`), its loop stopped inside `B`, and what it left
    unparsed is layout (decidable; it is a newline when `B` ends in one).  Then for every layout
    `post` — blank lines, comment lines, trailing blanks — `parse (B ++ post)` returns the same
    parts with the same spans. -/
theorem parse_layout_suffix (B post : Str) (o : Opts) (ps : List Node) (hj : Joinable B post)
    (hB : (parse B o).1 = .parts ps) (hloc : parseLocal B o = true)
    (hstop : parseStop B o ≤ B.length) (hrest : Layout (B.drop (parseStop B o)))
    (hpost : Layout post)
    (hfuel : ∀ site, (runParser (B.drop (parseStop B o) ++ post) o []).1 ≠
      .error (.outOfFuel site)) :
    (parse (B ++ post) o).1 = .parts ps := by
  rw [C13_independence B post o ps hj hB hloc, List.drop_append_of_le_length hstop,
    parse_layout_only _ o (hrest.append hpost) hfuel]
  show Outcome.parts (ps ++ [].map (Node.shift _)) = _
  rw [List.map_nil, List.append_nil]

/-! ## layout between two top-level commands -/

/-- **C13 with a layout separator** (blank lines, comment lines, trailing blanks and
    continuations between two top-level commands): `C13_partial_blank` with comments allowed.
    `parse A = psA` with local runs, its loop stopped inside `A ++ sep`, what is left of
    `A ++ sep` there is layout, `parse B = psB`, `proceedonerror` is off.  Then
    `parse (A ++ sep ++ B) = parse A ++ shift (len A + len sep) (parse B)`. -/
theorem C13_partial_layout (A sep B : Str) (o : Opts) (psA psB : List Node)
    (hj : Joinable A (sep ++ B))
    (hA : (parse A o).1 = .parts psA) (hB : (parse B o).1 = .parts psB)
    (hloc : parseLocal A o = true)
    (hstop : parseStop A o ≤ (A ++ sep).length)
    (hsep : Layout ((A ++ sep).drop (parseStop A o))) (hproc : o.proceed = false)
    (hfuel : ∀ site, (runParser ((A ++ sep).drop (parseStop A o) ++ B) o []).1 ≠
      .error (.outOfFuel site))
    (hpos : ∀ part, (runParser B o []).1 = .ok (some part) → 0 < nextIndex part) :
    (parse (A ++ sep ++ B) o).1 =
      .parts (psA ++ psB.map (Node.shift (A.length + sep.length))) := by
  exact C13_partial_conditional A sep B o psA psB hj hA hB hloc hstop
    (layoutSkip _ B o hsep hproc hfuel _
      ((parsesingle_single_iff B o _).1 (parsesingle_eq_head B o psB hB)) (.inr hpos))

/-- **inserting layout at a top-level command boundary** (goal "interior layout" for the gaps
    BETWEEN top-level commands): if `sep` and `sep ++ ins` are both layout separators between `A`
    and `B` (hypotheses of `C13_partial_layout` for both), then `parse (A ++ sep ++ ins ++ B)` is
    `parse (A ++ sep ++ B)` with the parts of `A` unchanged and every later part moved by
    `|ins|` -/
theorem C14_insert_between (A sep ins B : Str) (o : Opts) (psA psB : List Node)
    (hj : Joinable A (sep ++ B)) (hj' : Joinable A ((sep ++ ins) ++ B))
    (hA : (parse A o).1 = .parts psA) (hB : (parse B o).1 = .parts psB)
    (hloc : parseLocal A o = true)
    (hstop : parseStop A o ≤ (A ++ sep).length)
    (hsep : Layout ((A ++ sep).drop (parseStop A o)))
    (hsep' : Layout ((A ++ (sep ++ ins)).drop (parseStop A o))) (hproc : o.proceed = false)
    (hfuel : ∀ site, (runParser ((A ++ sep).drop (parseStop A o) ++ B) o []).1 ≠
      .error (.outOfFuel site))
    (hfuel' : ∀ site, (runParser ((A ++ (sep ++ ins)).drop (parseStop A o) ++ B) o []).1 ≠
      .error (.outOfFuel site))
    (hpos : ∀ part, (runParser B o []).1 = .ok (some part) → 0 < nextIndex part) :
    (parse (A ++ sep ++ B) o).1 =
      .parts (psA ++ psB.map (Node.shift (A.length + sep.length))) ∧
    (parse (A ++ (sep ++ ins) ++ B) o).1 =
      .parts (psA ++ (psB.map (Node.shift (A.length + sep.length))).map (Node.shift ins.length)) := by
  refine ⟨C13_partial_layout A sep B o psA psB hj hA hB hloc hstop hsep hproc hfuel hpos, ?_⟩
  have hstop' : parseStop A o ≤ (A ++ (sep ++ ins)).length := by
    simp only [List.length_append] at hstop ⊢; omega
  rw [C13_partial_layout A (sep ++ ins) B o psA psB hj' hA hB hloc hstop' hsep' hproc hfuel' hpos,
    Node.map_shift_shift, List.length_append, Nat.add_assoc]

end Bashlex.C14
