/-
  C14: the LR engine and `_parser.parse()` (`parserRun`) under the translation.

  The engine's control flow depends on token TYPES and on the parse tables only, so the two runs
  proceed in lock step: same states, same derivation trees, semantic values moved by the shift
  (`CfgRel`).  The first run's configuration also satisfies the unary invariant of `LR/Sound.lean`
  with the sorts of C12 (`Inv … VI`): at every reduction it yields the sorts of the popped values,
  hence (kernel-checked on the generated grammar, `shiftSafe_ok`) the right-hand sides on which the
  action is `shiftSafe`.  `timespec` values do not exist (`p_timespec` raises: `proceedonerror` is
  off), which removes the D19 production `timespec pipeline_command`.
-/
import Bashlex.Props.C14.ActBase
import Bashlex.Props.C14.SpanMap
import Bashlex.Props.C12
import Bashlex.LR.Real
import Bashlex.Proofs.ActionEqns

namespace Bashlex.C14
open Bashlex Bashlex.C10 Bashlex.C12 Bashlex.LR
set_option linter.unusedSimpArgs false

variable {pre : Str} {top : Bool} {n n' : Nat}

/-! ## once past the end of the tape, always past the end -/

theorem answer_pastEnd (e : Env) (q : Query) (h : e.tape.line.length < e.tape.idx) :
    (e.answer q).2.tape.line.length < (e.answer q).2.tape.idx := by
  cases q with
  | getc rqn =>
    simp only [Env.answer]
    rw [tgetc_end _ _ _ (by omega)]
    exact h
  | ungetc =>
    simp only [Env.answer]
    have : e.tape.ungetc = (false, e.tape) := by
      unfold Tape.ungetc
      rw [if_neg]
      simp only [Bool.and_eq_true, decide_eq_true_eq, not_and]
      intro _ ; omega
    rw [this]; exact h
  | bump => simp only [Env.answer]; omega
  | syntab c =>
    simp only [Env.answer]
    split <;> exact h
  | _ => exact h

theorem q_run_pastEnd {α : Type} (p : Q α) : ∀ e : Env, e.tape.line.length < e.tape.idx →
    (Q.run p e).2.tape.line.length < (Q.run p e).2.tape.idx := by
  induction p with
  | pure a => intro e h; exact h
  | ask q k ih =>
    intro e h
    rw [Q.run_ask]
    exact ih _ _ (answer_pastEnd e q h)

/-- no `M` program brings the cursor of the environment tape back from beyond the end -/
theorem run_pastEnd {α : Type} (m : M α) (l : Local) (e : Env)
    (h : e.tape.line.length < e.tape.idx) :
    (M.run m l e).2.tape.line.length < (M.run m l e).2.tape.idx := q_run_pastEnd (m l) e h

/-! ## configurations of the engine -/

/-- a stack with its values moved by `k` -/
def mapStk (k : Nat) (s : Stack SVal) : Stack SVal := s.map fun e => { e with val := shiftS k e.val }

@[simp] theorem topState_mapStk (k : Nat) (s : Stack SVal) : topState (mapStk k s) = topState s := by
  cases s <;> rfl

theorem popN_mapStk (k : Nat) : ∀ (m : Nat) (s : Stack SVal),
    popN m (mapStk k s) = (popN m s).map fun (es, r) => (mapStk k es, mapStk k r)
  | 0, s => rfl
  | m + 1, [] => rfl
  | m + 1, e :: s => by
    show (popN m (mapStk k s)).map _ = _
    rw [popN_mapStk k m s]
    show _ = ((popN m s).map _).map _
    cases popN m s with
    | none => rfl
    | some v => simp [mapStk]

theorem isNl_shiftS (np : NestedParse) (k : Nat) (v : SVal) :
    (lrHooks np).isNl (shiftS k v) = (lrHooks np).isNl v := by
  cases v <;> rfl

theorem all_isNl_mapStk (np : NestedParse) (k : Nat) (s : Stack SVal) :
    (mapStk k s).all (fun e => (lrHooks np).isNl e.val) = s.all (fun e => (lrHooks np).isNl e.val) := by
  unfold mapStk
  rw [List.all_map]
  congr 1
  funext e
  exact isNl_shiftS np k e.val

/-- the two configurations: same states and trees, values moved; the ghost fields are free -/
structure CfgRel (k : Nat) (c₁ c₂ : Cfg SVal) : Prop where
  stack : c₂.stack = mapStk k c₁.stack
  la : c₂.la = c₁.la.map fun la => (la.1, shiftS k la.2)

/-- the engine's results: the accepted values moved -/
def ResRel (k : Nat) : Res SVal → Res SVal → Prop
  | .accepted v₁ _ _ _, .accepted v₂ _ _ _ => v₂ = shiftS k v₁
  | .blank _ _, .blank _ _ => True
  | _, _ => False

/-! ## `p_error` -/

theorem sim_pError {t₁ t₂ : Token} (h : TokRel (kOf pre top) t₁ t₂) :
    Sim pre top n n (pError t₁) (pError t₂) (fun _ _ => False) := by
  unfold pError
  refine Sim.bind sim_tapeSource (fun s₁ s₂ hs => ?_)
  have his : t₂.is .EOF = t₁.is .EOF := by unfold Token.is; rw [h.ttype]
  rw [his, h.value]
  by_cases he : t₁.is .EOF = true
  · rw [if_pos he, if_pos he]
    refine Sim.raise ?_
    have := exnRel_mkParsingError hs "unexpected EOF" (s₁.length : Int)
    rw [hs.length, Int.natCast_add]
    exact this
  · rw [if_neg he, if_neg he]
    refine Sim.raise ?_
    have hp : t₁.pos.isSome = true := by
      cases hp : t₁.pos with
      | some p => rfl
      | none =>
        have := (h.hasPos hp).1
        unfold Token.is at he
        rw [this] at he
        exact absurd rfl he
    have hl : t₂.lexpos = t₁.lexpos + kOf pre top := by
      rw [h.eq_shiftTok]; exact shiftTok_lexpos _ hp
    have := exnRel_mkParsingError hs
      ("unexpected token " ++ match t₁.value with
        | .str s => pyReprStr s
        | .int n => toString n
        | .none => "None") (t₁.lexpos : Nat)
    rw [hl, Int.natCast_add]
    exact this

/-! ## the generated grammar -/

/-- the grammar symbol `timespec` -/
def tsSym : Nat := Gen.termNames.length + Gen.ntNames.idxOf "timespec"

/-- every production: no action, or `timespec` on the right-hand side (such values do not
    exist), or the action is `shiftSafe` on the sorts of the right-hand side -/
def shiftSafeCheck : Bool :=
  (List.zip Gen.prodFuncs Gen.prodTable).all fun (f, (_, rhs)) =>
    f == "" || rhs.contains tsSym || shiftSafe f (rhs.map sortOfSymbol)

theorem shiftSafe_ok : shiftSafeCheck = true := by decide +kernel

/-- the productions of `timespec` are those of the action `p_timespec` -/
def timespecCheck : Bool :=
  (List.zip Gen.prodFuncs Gen.prodTable).all fun (f, (lhs, _)) =>
    f == "" || (lhs == tsSym) == (f == "p_timespec")

theorem timespec_ok : timespecCheck = true := by decide +kernel

theorem tsSym_nonterminal : realTables.nTerms ≤ tsSym := Nat.le_add_right _ _

/-- the facts about production `p` used at a reduction -/
theorem prod_facts {p lhs : Nat} {rhs : List Nat} (hp : realTables.prods[p]? = some (lhs, rhs)) :
    (Gen.prodFuncs.getD p "" = "" ∨
      absAction (Gen.prodFuncs.getD p "") (rhs.map sortOfSymbol) = some (sortOfSymbol lhs)) ∧
    (Gen.prodFuncs.getD p "" = "" ∨ tsSym ∈ rhs ∨
      shiftSafe (Gen.prodFuncs.getD p "") (rhs.map sortOfSymbol) = true) ∧
    (Gen.prodFuncs.getD p "" = "" ∨ (lhs = tsSym ↔ Gen.prodFuncs.getD p "" = "p_timespec")) := by
  refine ⟨grammar_at hp, ?_, ?_⟩
  · simpa [Bool.or_eq_true, beq_iff_eq, or_assoc] using forall_prods shiftSafe_ok hp
  · have := forall_prods timespec_ok hp
    simp only [Bool.or_eq_true, beq_iff_eq] at this
    rcases this with h | h
    · exact Or.inl h
    · right
      constructor
      · intro hl
        have : (lhs == tsSym) = true := by simpa using hl
        rw [this] at h
        simpa using h.symm
      · intro hf'
        have : (Gen.prodFuncs.getD p "" == "p_timespec") = true := by simpa using hf'
        rw [this] at h
        simpa using h

/-- values of non-terminals are not tokens -/
theorem sortOfNT_ne_tok (name : String) (ty : Option TokType) : sortOfNT name ≠ .tok ty := by
  unfold sortOfNT
  split <;> exact fun h => by cases h

theorem sok_of_nonterminal {sym : Nat} {v : SVal} (hs : realTables.nTerms ≤ sym)
    (hv : C12.VI sym v) : SOK v := by
  intro t ht
  subst ht
  unfold C12.VI sortOfSymbol at hv
  have : ¬ sym < Gen.termNames.length := Nat.not_lt.2 hs
  rw [if_neg this] at hv
  generalize hσ : sortOfNT _ = σ at hv
  cases σ with
  | tok ty => exact absurd hσ (sortOfNT_ne_tok _ ty)
  | none => cases hv
  | node c => obtain ⟨_, h, _⟩ := hv; cases h
  | optNode c => rcases hv with h | ⟨_, h, _⟩ <;> cases h
  | nodes k => obtain ⟨_, h, _⟩ := hv; cases h

/-! ## the hooks -/

/-- what the proofs of the semantic actions deliver (`Act1.lean`, `Act2.lean`, `Expand.lean`) -/
def ActionsShift (pre : Str) (top : Bool) (np : NestedParse) : Prop :=
  ∀ f, ActionRel pre top np f

/-- `p_timespec` does not return -/
theorem sim_timespec (np : NestedParse) (args₁ args₂ : List SVal) :
    Sim pre top n n (actionCore np "p_timespec" args₁) (actionCore np "p_timespec" args₂)
      (fun _ _ => False) := by
  rw [actionCore_p_timespec]
  refine Sim.bind (sim_handleNotImplemented _ _ _) (fun _ _ h => h.elim)

/-- `action` from `actionCore` -/
theorem sim_action_of_core {np : NestedParse} {f : String} {args₁ args₂ : List SVal}
    {V : SVal × Bool → SVal × Bool → Prop} (hV : ∀ a b, V a b → b.2 = a.2)
    (h : Sim pre top n n (actionCore np f args₁) (actionCore np f args₂) V) :
    Sim pre top n n (action np f args₁) (action np f args₂) V := by
  unfold action
  refine Sim.bind h (fun a b hab => ?_)
  rw [hV a b hab]
  split
  · exact Sim.foreign _ _
  · exact Sim.pure (Nat.le_refl _) hab

/-- the token source -/
theorem sim_next (np : NestedParse) :
    Sim pre top 0 0 (lrHooks np).next (lrHooks np).next
      (fun a b => b = (a.1, shiftS (kOf pre top) a.2) ∧ SOK a.2 ∧
        ∃ t₁ t₂, a.2 = .tok t₁ ∧ b.2 = .tok t₂ ∧ TokRel (kOf pre top) t₁ t₂) := by
  show Sim pre top 0 0 (nextToken >>= fun t => pure (symOfTok t, SVal.tok t))
    (nextToken >>= fun t => pure (symOfTok t, SVal.tok t)) _
  refine Sim.bind sim_nextToken (fun t₁ t₂ ht => ?_)
  refine Sim.pure (Nat.le_refl _) ⟨?_, ht.sok, t₁, t₂, rfl, rfl, ht⟩
  have : symOfTok t₂ = symOfTok t₁ := by unfold symOfTok; rw [ht.ttype]
  rw [this, ht.shiftS]

/-! ## the engine -/

/-- the part of the invariant of the first configuration that is not in `LR.Inv`: tokens on the
    stack have spans (`SOK`), and no entry stands for `timespec` -/
def Extra (c : Cfg SVal) : Prop :=
  (∀ e, e ∈ c.stack → SOK e.val ∧ e.tree.root ≠ tsSym) ∧ (∀ la, c.la = some la → SOK la.2)

/-- the invariant of the first configuration -/
def EInv (c : Cfg SVal) : Prop :=
  Inv realTables (· ∈ realRaw.reach) C12.VI c ∧ Extra c

/-- related configurations, the first one satisfying the invariant -/
def CRel (k : Nat) (c₁ c₂ : Cfg SVal) : Prop := CfgRel k c₁ c₂ ∧ EInv c₁

theorem vals_mapStk (k : Nat) (es : Stack SVal) :
    (mapStk k es).map (·.val) = (es.map (·.val)).map (shiftS k) := by
  unfold mapStk; simp [List.map_map, Function.comp_def]

theorem trees_mapStk (k : Nat) (es : Stack SVal) :
    (mapStk k es).map (·.tree) = es.map (·.tree) := by
  unfold mapStk; simp [List.map_map, Function.comp_def]

theorem sim_action_unknown {np : NestedParse} {a₁ a₂ : List SVal}
    {V : SVal × Bool → SVal × Bool → Prop} :
    Sim pre top n n (action np "" a₁) (action np "" a₂) V := by
  unfold action
  refine Sim.bind (mid := n) (V := fun _ _ => False) ?_ (fun _ _ h => h.elim)
  rw [actionCore_other np "" a₁ (by decide), actionCore_other np "" a₂ (by decide)]
  exact Sim.foreign _ _

/-- the unary logic (with any exception predicate) can be used on the first run -/
theorem Sim.and_satE {α β : Type} {m₁ : M α} {m₂ : M β} {V : α → β → Prop} {P : α → Prop}
    {E : Exn → Prop} (h : Sim pre top n n' m₁ m₂ V) (hs : M.Sat m₁ P E) :
    Sim pre top n n' m₁ m₂ (fun a b => V a b ∧ P a) :=
  Sim.and_sat h (hs.weaken (fun _ h => h) (fun _ _ => True.intro))

theorem sim_doReduce {np : NestedParse} (hact : ActionsShift pre top np)
    {E : Exn → Prop} (hH : HooksRaise realTables (lrHooks np) C12.VI E)
    (c₁ c₂ : Cfg SVal) (p : Nat) (hrel : CfgRel (kOf pre top) c₁ c₂) (hinv : EInv c₁)
    (hb : ∃ lhs rhs, realTables.prods[p]? = some (lhs, rhs) ∧
      BackOK realTables (· ∈ realRaw.reach) realRaw.accOf (topState c₁.stack) rhs.reverse lhs) :
    Sim pre top 0 0 (doReduce realTables (lrHooks np) c₁ p) (doReduce realTables (lrHooks np) c₂ p)
      (SumRel (fun a b => CfgRel (kOf pre top) a b ∧ Extra a) (ResRel (kOf pre top))) := by
  obtain ⟨⟨⟨hp, hv, _⟩, hvi, hvila⟩, hex, hexla⟩ := hinv
  obtain ⟨lhs, rhs, hprod, hback⟩ := hb
  obtain ⟨es, rest, t, hpop, hroots, hvl, hp', hv', hg, hl, hy, hmes, hmrest⟩ :=
    pop_of_back real_WF rhs.reverse c₁.stack lhs hp hv hback
  simp only [List.length_reverse] at hpop
  have hroots' : es.map (fun e => e.tree.root) = rhs := by simpa using hroots
  have hargs : Forall2 C12.VI rhs (es.map (·.val)) :=
    forall2_of_entries es rhs hroots' (fun e he => hvi e (hmes e he))
  have hpop2 : popN rhs.length c₂.stack = some (mapStk (kOf pre top) es, mapStk (kOf pre top) rest) := by
    rw [hrel.stack, popN_mapStk, hpop]; rfl
  have htop2 : topState (mapStk (kOf pre top) rest) = topState rest := topState_mapStk _ _
  unfold doReduce
  simp only [hprod, hpop, hpop2, htop2, hg, vals_mapStk, trees_mapStk]
  -- the action call
  have hcall : Sim pre top 0 0 ((lrHooks np).act p (es.map (·.val)))
      ((lrHooks np).act p ((es.map (·.val)).map (shiftS (kOf pre top))))
      (fun r₁ r₂ => (ActRes (kOf pre top) r₁ r₂ ∧ lhs ≠ tsSym) ∧ C12.VI lhs r₁.1) := by
    refine Sim.and_satE ?_ (hH.act p lhs rhs _ hprod hargs)
    show Sim pre top 0 0 (action np (Gen.prodFuncs.getD p "") _) (action np (Gen.prodFuncs.getD p "") _) _
    obtain ⟨h1, h2, h3⟩ := prod_facts hprod
    by_cases hf0 : Gen.prodFuncs.getD p "" = ""
    · rw [hf0]; exact sim_action_unknown
    · have h1 := h1.resolve_left hf0
      have h2 := h2.resolve_left hf0
      have h3 := h3.resolve_left hf0
      by_cases hts : Gen.prodFuncs.getD p "" = "p_timespec"
      · rw [hts]
        exact (sim_action_of_core (V := fun _ _ => False) (fun _ _ h => h.elim)
          (sim_timespec np _ _)).weaken (fun _ _ h => h.elim)
      · have hlhs : lhs ≠ tsSym := fun h => hts (h3.1 h)
        have hnots : tsSym ∉ rhs := by
          intro hm
          rw [← hroots'] at hm
          obtain ⟨e, he, hr⟩ := List.mem_map.1 hm
          exact (hex e (hmes e he)).2 hr
        have hsafe := h2.resolve_left hnots
        have hsorts : Forall2 HasSort (rhs.map sortOfSymbol) (es.map (·.val)) :=
          forall2_map_left hargs
        have hok : ∀ a, a ∈ es.map (·.val) → SOK a := by
          intro a ha
          obtain ⟨e, he, rfl⟩ := List.mem_map.1 ha
          exact (hex e (hmes e he)).1
        refine (sim_action_of_core (V := ActRes (kOf pre top)) (fun a b h => ?_)
          (hact _ _ _ _ h1 hsafe hsorts hok)).weaken (fun _ _ h => ⟨h, hlhs⟩)
        unfold ActRes at h
        rw [h]
  refine Sim.bind hcall (fun r₁ r₂ hr => ?_)
  obtain ⟨⟨hres, hlhs⟩, hvlhs⟩ := hr
  obtain ⟨v, accept⟩ := r₁
  unfold ActRes at hres
  subst hres
  simp only []
  by_cases hacc : accept = true
  · simp only [hacc, if_true]
    exact Sim.pure (Nat.le_refl _) rfl
  · simp only [hacc]
    refine Sim.pure (Nat.le_refl _) ⟨⟨?_, hrel.la⟩, ?_, hexla⟩
    · show _ = mapStk _ _
      simp only [hrel.stack]
      rfl
    · intro e he
      rcases List.mem_cons.1 he with rfl | he
      · exact ⟨sok_of_nonterminal hl hvlhs, hlhs⟩
      · exact hex e (hmrest e he)

/-- one step of the engine in the two runs -/
theorem sim_step {np : NestedParse} (hact : ActionsShift pre top np)
    {E : Exn → Prop} (hH : HooksRaise realTables (lrHooks np) C12.VI E)
    (c₁ c₂ : Cfg SVal) (hc : CRel (kOf pre top) c₁ c₂) :
    Sim pre top 0 0 (step realTables (lrHooks np) c₁) (step realTables (lrHooks np) c₂)
      (SumRel (CRel (kOf pre top)) (ResRel (kOf pre top))) := by
  obtain ⟨hrel, hinv⟩ := hc
  -- the unary invariant of the next configuration comes from `step_sat`
  suffices core : Sim pre top 0 0 (step realTables (lrHooks np) c₁) (step realTables (lrHooks np) c₂)
      (SumRel (fun a b => CfgRel (kOf pre top) a b ∧ Extra a) (ResRel (kOf pre top))) by
    refine (Sim.and_satE core (step_sat real_WF (lrHooks np) hH c₁ hinv.1)).weaken (fun a b h => ?_)
    obtain ⟨h1, h2⟩ := h
    cases a with
    | inl a' =>
      cases b with
      | inl b' => exact ⟨h1.1, h2, h1.2⟩
      | inr b' => exact h1.elim
    | inr a' =>
      cases b with
      | inl b' => exact h1.elim
      | inr b' => exact h1
  have hinv' := hinv
  obtain ⟨⟨⟨hp, hv, _⟩, hvi, hvila⟩, hex, hexla⟩ := hinv
  have hr := reach_top real_WF hp
  have htop : topState c₂.stack = topState c₁.stack := by rw [hrel.stack, topState_mapStk]
  unfold step
  simp only [htop]
  cases hd : realTables.dflt (topState c₁.stack) with
  | some p => exact sim_doReduce hact hH c₁ c₂ p hrel hinv' (real_WF.redDflt _ p hr hd)
  | none =>
    simp only []
    -- the look-ahead
    refine Sim.bind (mid := 0) (V := fun a b => b = (a.1, shiftS (kOf pre top) a.2) ∧ SOK a.2 ∧
        (∀ t₁, a.2 = .tok t₁ → ∃ t₂, b.2 = .tok t₂ ∧ TokRel (kOf pre top) t₁ t₂) ∧
        C12.VI a.1 a.2) ?_ ?_
    · rw [hrel.la]
      cases hla : c₁.la with
      | some la =>
        refine Sim.pure (Nat.le_refl _) ⟨rfl, hexla la hla, ?_, hvila la hla⟩
        intro t₁ ht
        have hs := hexla la hla
        refine ⟨shiftTok (kOf pre top) t₁, by simp only [ht]; rfl, rfl, rfl, rfl, rfl, ?_⟩
        exact hs t₁ ht
      | none =>
        refine (Sim.and_satE (sim_next np) hH.next).weaken (fun a b h => ⟨h.1.1, h.1.2.1, ?_, h.2⟩)
        obtain ⟨⟨_, _, t₁, t₂, h1, h2, h3⟩, _⟩ := h
        intro t ht
        rw [h1] at ht
        cases ht
        exact ⟨t₂, h2, h3⟩
    rintro ⟨la, lv⟩ ⟨la', lv'⟩ ⟨hb, hsok, htok, hvla⟩
    simp only [Prod.mk.injEq] at hb
    obtain ⟨rfl, rfl⟩ := hb
    simp only []
    have hall : (c₂.stack.all fun e => (lrHooks np).isNl e.val) =
        (c₁.stack.all fun e => (lrHooks np).isNl e.val) := by
      rw [hrel.stack]; exact all_isNl_mapStk np _ _
    rw [hall]
    refine Sim.ite (fun _ => Sim.pure (Nat.le_refl _) True.intro) (fun _ => ?_)
    -- the configuration with the look-ahead stored
    have hrelLa : CfgRel (kOf pre top) { c₁ with la := some (la', lv) }
        { c₂ with la := some (la', shiftS (kOf pre top) lv) } := ⟨hrel.stack, rfl⟩
    have hinvLa : EInv { c₁ with la := some (la', lv) } := by
      refine ⟨⟨⟨hp, hv, ?_⟩, hvi, ?_⟩, hex, ?_⟩
      · obtain ⟨⟨_, _, h⟩, _⟩ := hinv'.1
        exact h
      · intro la'' h; simp only [Option.some.injEq] at h; subst h; exact hvla
      · intro la'' h; simp only [Option.some.injEq] at h; subst h; exact hsok
    cases hact' : realTables.action (topState c₁.stack) la' with
    | none =>
      simp only []
      refine Sim.bind (mid := 0) (V := fun _ _ => False) ?_ (fun _ _ h => h.elim)
      show Sim pre top 0 0 ((lrHooks np).onError (la', lv))
        ((lrHooks np).onError (la', shiftS (kOf pre top) lv)) _
      cases lv with
      | tok t₁ =>
        obtain ⟨t₂, h2, h3⟩ := htok t₁ rfl
        simp only [shiftS_tok] at h2
        cases h2
        exact sim_pError h3
      | none => exact Sim.foreign _ _
      | node nd => exact Sim.foreign _ _
      | nodes l => exact Sim.foreign _ _
    | some a =>
      cases a with
      | shift t =>
        have hlaT := real_WF.shiftTerm _ _ _ hact'
        simp only []
        refine Sim.ite (fun _ => ?_) (fun _ => ?_)
        · refine Sim.pure (Nat.le_refl _) ⟨⟨hrel.stack, rfl⟩, hex, ?_⟩
          intro la'' h; cases h
        · refine Sim.pure (Nat.le_refl _) ⟨⟨?_, rfl⟩, ?_, ?_⟩
          · show _ = mapStk _ _
            simp only [hrel.stack]; rfl
          · intro e he
            rcases List.mem_cons.1 he with rfl | he
            · exact ⟨hsok, fun h => absurd (h ▸ hlaT : tsSym < realTables.nTerms)
                (Nat.not_lt.2 tsSym_nonterminal)⟩
            · exact hex e he
          · intro la'' h; cases h
      | reduce p =>
        simp only []
        exact sim_doReduce hact hH _ _ p hrelLa hinvLa (real_WF.redAct _ _ p hr hact')
      | accept =>
        simp only []
        rw [hrel.stack]
        cases hstk : c₁.stack with
        | nil => exact Sim.pure (Nat.le_refl _) True.intro
        | cons e tail => exact Sim.pure (Nat.le_refl _) rfl

/-- `LRParser.parse` in the two runs -/
theorem sim_lrRun {np : NestedParse} (hact : ActionsShift pre top np)
    {E : Exn → Prop} (hH : HooksRaise realTables (lrHooks np) C12.VI E) (fuel : Nat)
    (c₁ c₂ : Cfg SVal) (hc : CRel (kOf pre top) c₁ c₂) :
    Sim pre top 0 0 (M.loop "LRParser.parse" (step realTables (lrHooks np)) fuel c₁)
      (M.loop "LRParser.parse" (step realTables (lrHooks np)) fuel c₂) (ResRel (kOf pre top)) :=
  Sim.loop (fun s t hst => sim_step hact hH s t hst) fuel c₁ c₂ hc

/-- the initial configuration -/
theorem cRel_init (k : Nat) : CRel k ({} : Cfg SVal) {} := by
  refine ⟨⟨rfl, rfl⟩, ⟨⟨True.intro, True.intro, ⟨[], by simp [forestYield], by simp⟩⟩, ?_, ?_⟩, ?_, ?_⟩
  · intro e he; cases he
  · intro la hla; cases hla
  · intro e he; cases he
  · intro la hla; cases hla

/-! ## `resolve` -/

theorem resolveL_mapPos (k : Nat) (st : List RedirCell) : ∀ l : List Node,
    resolveL (st.map (cellShift k)) (Node.mapPosL (sh k) l) = Node.mapPosL (sh k) (resolveL st l) :=
  C14I.resolveL_mapPos (sh k) st

theorem resolve_shift (k : Nat) (st : List RedirCell) (nd : Node) :
    resolve (st.map (cellShift k)) (nd.shift k) = (resolve st nd).shift k :=
  C14I.resolve_mapPos (sh k) st nd

/-! ## nested parsers and `_parser.parse()` -/

/-- the state of a fresh nested `_parser` object -/
def nestedState (outer : Local) (string : Str) (dolparen : Bool) : Local :=
  { tape := some (Tape.ofInput string), opts := some (true, false)
    lastReadToken := outer.lastReadToken, tokenBeforeThat := outer.tokenBeforeThat
    twoTokensAgo := outer.twoTokensAgo
    ps := if dolparen then { outer.ps with cmdsubst := true, eoftoken := true } else outer.ps
    eofToken := if dolparen then some rparenEofToken else none
    limit := outer.limit.map (· - 1) }

/-- the nested parser handed to the actions at nesting depth `depth + 1` -/
def npOf (depth : Nat) : NestedParse := fun string dolparen => do
  let outer ← get
  set (nestedState outer string dolparen)
  let r ← parserRun depth
  let inner ← get
  set { outer with ps := inner.ps }
  pure r

theorem run_npOf (depth : Nat) (s : Str) (d : Bool) (l : Local) (e : Env) :
    M.run (npOf depth s d) l e =
      match M.run (parserRun depth) (nestedState l s d) e with
      | (.ok (r, inner), e') => (.ok (r, { l with ps := inner.ps }), e')
      | (.error x, e') => (.error x, e') :=
  C03.npOf_run (parserRun depth) s d l e

theorem rel_nested {l₁ l₂ : Local} {e₁ e₂ : Env} (hr : Rel pre top 0 l₁ e₁ l₂ e₂) (s : Str)
    (d : Bool) : Rel pre false 0 (nestedState l₁ s d) e₁ (nestedState l₂ s d) e₂ :=
  { env := hr.env
    loc :=
      { tape := rfl, opts := rfl, eol := rfl, before := hr.loc.before, last := hr.loc.last
        cur := HEq.refl _
        curFlags := rfl
        ps := by simp only [nestedState, hr.loc.ps]
        obc := rfl, esacs := rfl, dstack := rfl, positions := rfl, eofToken := rfl
        eofOK := by cases d <;> simp [nestedState]
        redirstack := rfl, store := rfl
        limit := by simp only [nestedState, hr.loc.limit] }
    mode := rfl
    room := fun h => by cases h
    eolOK := fun h => by cases h
    proc := rfl }

theorem run_proceed_frame {α : Type} (m : M α) (l : Local) (e : Env) :
    (M.run m l e).2.proceed = e.proceed := (Q.run_frame (m l) e).2.1

/-- a nested parser returns the same node in both runs, and the outer parsers stay related -/
theorem npRel_npOf (depth : Nat)
    (ih : Sim pre false 0 0 (parserRun depth) (parserRun depth) Eq) :
    NPRel pre top (npOf depth) := by
  intro s d l₁ l₂ e₁ e₂ hr
  rw [run_npOf, run_npOf]
  have h := ih _ _ e₁ e₂ (rel_nested hr s d)
  have hpe := run_pastEnd (parserRun depth) (nestedState l₁ s d) e₁
  have hpf := run_proceed_frame (parserRun depth) (nestedState l₁ s d) e₁
  rcases h1 : M.run (parserRun depth) (nestedState l₁ s d) e₁ with ⟨r₁, e₁'⟩
  rcases h2 : M.run (parserRun depth) (nestedState l₂ s d) e₂ with ⟨r₂, e₂'⟩
  rw [h1, h2] at h
  rw [h1] at hpe hpf
  cases r₁ with
  | error x₁ =>
    cases r₂ with
    | error x₂ => exact h
    | ok v₂ => exact h.elim
  | ok v₁ =>
    obtain ⟨a₁, in₁⟩ := v₁
    cases r₂ with
    | error x₂ => exact h.elim
    | ok v₂ =>
      obtain ⟨a₂, in₂⟩ := v₂
      obtain ⟨hv, hrel⟩ := h
      refine ⟨hv, ?_⟩
      exact
        { env := hrel.env
          loc := { hr.loc with ps := hrel.loc.ps }
          mode := hr.mode
          room := fun _ => Room.zero _
          eolOK := fun ht hs => hpe (hr.eolOK ht hs)
          proc := by
            have := hr.proc
            unfold proceedOf at this ⊢
            simp only [] at hpf
            cases ho : l₁.opts with
            | none => rw [ho] at this; simp only [ho]; rw [hpf]; exact this
            | some v => rw [ho] at this; simp only [ho]; exact this }

/-- what the proofs about the actions deliver, for every nested parser that behaves (`NPRel`) -/
def ActionsHyp : Prop :=
  ∀ (pre : Str) (top : Bool) (np : NestedParse), NPRel pre top np → ActionsShift pre top np

theorem npOK_npOf (depth : Nat) : NPOK (npOf depth) :=
  fun _ _ => M.Sat.npOf (parserRun_ok sat_nextToken depth)

/-- **one parser run under the translation**, at every nesting depth and in both modes: the
    second run returns the node of the first run moved by the shift in force -/
theorem sim_parserRun (hA : ActionsHyp) : ∀ (depth : Nat) (top : Bool),
    Sim pre top 0 0 (parserRun depth) (parserRun depth)
      (fun a b => b = a.map (Node.shift (kOf pre top))) := by
  intro depth
  induction depth using parserRun_ind with
  | zero => intro top; exact Sim.raise_eq _
  | succ depth ih =>
    intro top
    have ih0 : Sim pre false 0 0 (parserRun depth) (parserRun depth) Eq := by
      refine (ih false).weaken (fun a b h => ?_)
      rw [h]
      cases a with
      | none => rfl
      | some nd => simp only [Option.map_some, kOf_false, Node.shift_zero]
    have hnp : NPRel pre top (npOf depth) := npRel_npOf depth ih0
    have hact := hA pre top _ hnp
    have hH := (hooks_ok sat_nextToken (npOK_npOf depth)).toRaise
    refine Sim.bind (sim_lrRun hact hH _ {} {} (cRel_init _)) (fun res₁ res₂ hres => ?_)
    refine Sim.get_bind (fun l₁ l₂ hl => ?_)
    cases res₁ with
    | blank a b =>
      cases res₂ with
      | blank a' b' => exact SimAt.pure (Nat.le_refl _) rfl
      | accepted v t c f => exact hres.elim
    | accepted v₁ t₁ c₁ f₁ =>
      cases res₂ with
      | blank a' b' => exact hres.elim
      | accepted v₂ t₂ c₂ f₂ =>
        have : v₂ = shiftS (kOf pre top) v₁ := hres
        subst this
        cases v₁ with
        | node nd =>
          refine SimAt.pure (Nat.le_refl _) ?_
          simp only [shiftS_node, Option.map_some, hl.store, resolve_shift]
        | _ => exact SimAt.pure (Nat.le_refl _) rfl

end Bashlex.C14
