/-
  C14 interior: the TARGET statement as an executable check.

  `B = X ++ Y`, `ins` an insertion at index `|X|`.  Spans of the run on `X ++ ins ++ Y` are the
  spans of the run on `B` under `spanMap |X| |ins|`: a span START `< |X|` stays, `≥ |X|` moves; a
  span END `≤ |X|` stays (the token that ends exactly at the insertion point does not grow),
  `> |X|` moves.
-/
import Bashlex.Props.C14.MParse

namespace Bashlex.C14
open Bashlex Bashlex.C13

/-- start positions -/
def phiS (x k i : Nat) : Nat := if i < x then i else i + k
/-- end positions -/
def phiE (x k i : Nat) : Nat := if i ≤ x then i else i + k

/-- the span map of an insertion of `k` characters at `x` -/
def spanMap (x k : Nat) (p : Span) : Span := (phiS x k p.1, phiE x k p.2)

/-- results of one run under the span map; a top-level `ParsingError` carries the edited source
    and the moved position (positions are compared as START positions) -/
def mapRes (x k : Nat) (src' : Str) : Except Exn (Option Node) → Except Exn (Option Node)
  | .ok r => .ok (r.map (Node.mapPos (spanMap x k)))
  | .error (.parsing m s p) =>
    .error (.parsing m src' (if p < (x : Int) then p else p + (k : Int)))
  | .error e => .error e

/-- **the target, as a check**: the run on `X ++ ins ++ Y` is the run on `X ++ Y` under the span
    map -/
def interiorB (B : Str) (x : Nat) (ins : Str) (o : Opts) : Bool :=
  runResBeq (runParser (B.take x ++ ins ++ B.drop x) o []).1
    (mapRes x ins.length (B.take x ++ ins ++ B.drop x) (runParser B o []).1)

/-- … with the node part only (errors: both must be errors) -/
def interiorOkB (B : Str) (x : Nat) (ins : Str) (o : Opts) : Bool :=
  match (runParser (B.take x ++ ins ++ B.drop x) o []).1, (runParser B o []).1 with
  | .ok a, .ok b => runResBeq (.ok a) (.ok (b.map (Node.mapPos (spanMap x ins.length))))
  | .error _, .error _ => true
  | _, _ => false

def isBlank (c : Char) : Bool := c == ' ' || c == '\t'

/-- leaf-like nodes: their span is the span of one token (or of a here-document body) -/
def isLeaf : Node → Bool
  | .operator .. | .reservedword .. | .pipe .. | .word .. | .assignment .. | .parameter ..
  | .tilde .. | .heredoc .. => true
  | _ => false

/-- `x` is strictly inside a leaf of the tree -/
def insideLeaf (n : Node) (x : Nat) : Bool :=
  n.preorder.any (fun m => isLeaf m && decide (m.pos.1 < x) && decide (x < m.pos.2))

/-- **widening an existing gap**: the characters on both sides of `x` are blanks or tabs, and `x`
    is not inside a leaf (a quoted blank, a here-document body) of the tree of the run on `B` -/
def WidenGap (B : Str) (x : Nat) (o : Opts) : Bool :=
  decide (0 < x) && (B[x - 1]?.map isBlank).getD false && (B[x]?.map isBlank).getD false &&
  match (runParser B o []).1 with
  | .ok (some n) => !insideLeaf n x
  | _ => true

/-- all widenable positions of `B` -/
def widenable (B : Str) (o : Opts) : List Nat :=
  (List.range (B.length + 1)).filter (fun x => WidenGap B x o)

/-- the check at every widenable position, for each of the given insertions: the positions where it
    FAILS -/
def widenFails (B : Str) (inss : List Str) (o : Opts) : List (Nat × Str) :=
  (widenable B o).flatMap fun x => (inss.filter fun ins => !interiorB B x ins o).map (x, ·)

/-- **the end of a line** (`x = |B|` or `B[x] = '\n'`), not inside a leaf (a quoted newline, a
    here-document body): where ` #comment` may be added -/
def EolGap (B : Str) (x : Nat) (o : Opts) : Bool :=
  (x == B.length || B[x]? == some '\n') &&
  match (runParser B o []).1 with
  | .ok (some n) => !insideLeaf n x
  | _ => true

/-- the check at every end of line, for each of the given insertions: where it FAILS -/
def eolFails (B : Str) (inss : List Str) (o : Opts) : List (Nat × Str) :=
  ((List.range (B.length + 1)).filter (fun x => EolGap B x o)).flatMap fun x =>
    (inss.filter fun ins => !interiorB B x ins o).map (x, ·)

end Bashlex.C14
