/-
  C14: semantic values under the translation, the interface of the relational lemmas
  about the semantic actions, and the helpers of `Model/Actions.lean`
  (`nodePos`, `_partsspan`, `_makeparts`, `handleNotImplemented`, `addRedirects`, …).

  The second run of an action is run on the arguments of the first run moved by the shift
  (`shiftS k`): tokens by `shiftTok`, nodes by `Node.shift`.  The claim for every action is
  `ActRes`: the second result is the first result moved by the shift, with the same
  YaccAccept flag.

  Spans of the nodes an action builds come from token spans (`p.lexspan i`, `lexpos`) and from
  node spans (`nodePos`).  Two places use a CONSTANT span instead and break the claim:
  * `p.lexspan i` of a non-token (`getattr(sym, 'lexpos', 0)` on a YaccSymbol) — reached for
    `timespec pipeline_command` (defect D19: `reservedword (0,0) "!"`); excluded: `timespec` values
    do not exist when `proceedonerror` is off;
  * the `.none` branch of `p_elif_clause` (`reservedword (0,0) "None"`) — unreachable: no
    production gives `elif_clause` an empty right-hand-side symbol.
  Both are excluded by `shiftSafe`, a decidable predicate on the sorts of the right-hand side,
  checked by the kernel on the generated grammar (`Engine.lean`).

  The actions are walked once, in `Proofs/ActParam`, for any value relation and two-run judgement;
  here are the instance (`shiftRel`: the graph of the shift, where only a token that has a span may
  be asked for it; `shiftLogic`: `Sim pre top n n`) and the helpers as its corollaries.
-/
import Bashlex.Props.C14.Token
import Bashlex.Props.C12.Actions
import Bashlex.Proofs.ActParam.Graph

namespace Bashlex.C14
open Bashlex Bashlex.C10 Bashlex.C12 Bashlex.LR
set_option linter.unusedSimpArgs false
set_option linter.unusedVariables false

variable {pre : Str} {top : Bool} {n n' : Nat}

/-! ## semantic values -/

/-- a semantic value moved by `k` -/
def shiftS (k : Nat) : SVal → SVal
  | .none => .none
  | .tok t => .tok (shiftTok k t)
  | .node n => .node (n.shift k)
  | .nodes l => .nodes (l.map (Node.shift k))

@[simp] theorem shiftS_none (k : Nat) : shiftS k .none = .none := rfl
@[simp] theorem shiftS_tok (k : Nat) (t : Token) : shiftS k (.tok t) = .tok (shiftTok k t) := rfl
@[simp] theorem shiftS_node (k : Nat) (n : Node) : shiftS k (.node n) = .node (n.shift k) := rfl
@[simp] theorem shiftS_nodes (k : Nat) (l : List Node) :
    shiftS k (.nodes l) = .nodes (l.map (Node.shift k)) := rfl

/-- a token on the value stack has a span, unless it is the EOF token (whose value is `None`) -/
def SOK (v : SVal) : Prop := ∀ t, v = .tok t → t.pos = none → t.ttype = some .EOF ∧ t.value = .none

theorem TokRel.sok {k : Nat} {t₁ t₂ : Token} (h : TokRel k t₁ t₂) : SOK (.tok t₁) := by
  intro t ht hp
  cases ht
  exact h.hasPos hp

theorem TokRel.shiftS {k : Nat} {t₁ t₂ : Token} (h : TokRel k t₁ t₂) :
    SVal.tok t₂ = shiftS k (.tok t₁) := by
  rw [h.eq_shiftTok]; rfl

/-! ## tokens moved by the shift -/

@[simp] theorem shiftTok_ttype (k : Nat) (t : Token) : (shiftTok k t).ttype = t.ttype := rfl
@[simp] theorem shiftTok_value (k : Nat) (t : Token) : (shiftTok k t).value = t.value := rfl
@[simp] theorem shiftTok_flags (k : Nat) (t : Token) : (shiftTok k t).flags = t.flags := rfl
@[simp] theorem shiftTok_valueStr (k : Nat) (t : Token) : (shiftTok k t).valueStr = t.valueStr := rfl
@[simp] theorem shiftTok_is (k : Nat) (t : Token) (ty : TokType) : (shiftTok k t).is ty = t.is ty :=
  rfl

theorem shiftTok_lexpos (k : Nat) {t : Token} (h : t.pos.isSome = true) :
    (shiftTok k t).lexpos = t.lexpos + k := by
  cases ht : t.pos with
  | none => rw [ht] at h; cases h
  | some p => simp [Token.lexpos, shiftTok, ht, sh]

theorem shiftTok_endlexpos (k : Nat) {t : Token} (h : t.pos.isSome = true) :
    (shiftTok k t).endlexpos = t.endlexpos + k := by
  cases ht : t.pos with
  | none => rw [ht] at h; cases h
  | some p => simp [Token.endlexpos, shiftTok, ht, sh]

/-- `(tok.lexpos, tok.endlexpos)` of a moved token -/
theorem shiftTok_span (k : Nat) {t : Token} (h : t.pos.isSome = true) :
    ((shiftTok k t).lexpos, (shiftTok k t).endlexpos) = sh k (t.lexpos, t.endlexpos) := by
  rw [shiftTok_lexpos k h, shiftTok_endlexpos k h]; rfl

/-- `SVal.lexspan` of a moved token -/
theorem lexspan_shiftS_tok (k : Nat) {t : Token} (h : t.pos.isSome = true) :
    (shiftS k (.tok t)).lexspan = sh k (SVal.tok t).lexspan := shiftTok_span k h

/-! ## sorts -/

/-- a token sort other than EOF (such tokens have spans) -/
def tokNotEOF : Srt → Bool
  | .tok (some ty) => ty != .EOF
  | .tok none => false
  | _ => true

/-- the right-hand sides on which the action `f` moves with the input (see the header) -/
def shiftSafe (f : String) (sorts : List Srt) : Bool :=
  match f with
  | "p_simple_list_terminator" | "p_inputunit" | "p_list_terminator" | "p_newline_list"
  | "p_empty" => true
  | "p_elif_clause" => sorts.all (fun s => s != .none && tokNotEOF s)
  | "p_pipeline_command" =>
    (match sorts with
     | [.nodes _] => true
     | [.tok (some ty), _] => ty != .EOF
     | _ => false)
  | _ => sorts.all tokNotEOF

/-- a value of a non-EOF token sort is a token with a span -/
theorem tok_of_sort {v : SVal} {ty : TokType} (hs : HasSort (.tok (some ty)) v)
    (hne : ty ≠ .EOF) (hok : SOK v) :
    ∃ t, v = .tok t ∧ t.ttype = some ty ∧ TokWF t ∧ t.pos.isSome = true := by
  obtain ⟨t, rfl, hty, hwf⟩ := hs
  refine ⟨t, rfl, hty, hwf, ?_⟩
  cases hp : t.pos with
  | some p => rfl
  | none =>
    have := (hok t rfl hp).1
    rw [hty] at this
    exact absurd (Option.some.inj this) hne

/-- every token among the arguments has a span -/
def ArgsPos (args : List SVal) : Prop := ∀ a, a ∈ args → ∀ t, a = .tok t → t.pos.isSome = true

theorem argsPos_of_sorts : ∀ {sorts : List Srt} {args : List SVal}, Forall2 HasSort sorts args →
    sorts.all tokNotEOF = true → (∀ a, a ∈ args → SOK a) → ArgsPos args := by
  intro sorts args h
  induction h with
  | nil => intro _ _ a ha; cases ha
  | @cons s v ss vs h1 _ ih =>
    intro hall hok a ha t hat
    rw [List.all_cons, Bool.and_eq_true] at hall
    rcases List.mem_cons.1 ha with rfl | ha'
    · subst hat
      cases s with
      | tok ty =>
        cases ty with
        | none => exact absurd hall.1 (by decide)
        | some ty =>
          have hne : ty ≠ .EOF := by
            intro h; subst h; exact absurd hall.1 (by decide)
          obtain ⟨t', ht', _, _, hp⟩ := tok_of_sort h1 hne (hok _ List.mem_cons_self)
          cases ht'
          exact hp
      | none => cases h1
      | node c => obtain ⟨_, h, _⟩ := h1; cases h
      | optNode c =>
        rcases h1 with h | ⟨_, h, _⟩ <;> cases h
      | nodes k => obtain ⟨_, h, _⟩ := h1; cases h
    · exact ih hall.2 (fun a ha => hok a (List.mem_cons_of_mem _ ha)) a ha' t hat

/-! ## the interface -/

/-- the nested parser of the two runs: same results (its input is computed by the program and is
    not translated; its private tape is the same in both runs) -/
def NPRel (pre : Str) (top : Bool) (np : NestedParse) : Prop :=
  ∀ s d, SimEq pre top 0 0 (np s d)

/-- `parser._expandword` under the translation -/
def ExpRel (pre : Str) (top : Bool) (np : NestedParse) : Prop :=
  ∀ t : Token, t.pos.isSome = true →
    Sim pre top 0 0 (expandword np t) (expandword np (shiftTok (kOf pre top) t))
      (fun a b => b = a.shift (kOf pre top))

/-- the results of an action in the two runs -/
def ActRes (k : Nat) (r₁ r₂ : SVal × Bool) : Prop := r₂ = (shiftS k r₁.1, r₁.2)

/-- the statement to prove about every action `f` (for the sorts `sorts` of a right-hand side on
    which `f` type-checks and is `shiftSafe`) -/
def ActionRel (pre : Str) (top : Bool) (np : NestedParse) (f : String) : Prop :=
  ∀ (sorts : List Srt) (σ : Srt) (args : List SVal), absAction f sorts = some σ →
    shiftSafe f sorts = true → Forall2 HasSort sorts args → (∀ a, a ∈ args → SOK a) →
    Sim pre top 0 0 (actionCore np f args) (actionCore np f (args.map (shiftS (kOf pre top))))
      (ActRes (kOf pre top))

/-! ## spans and nodes -/

theorem map_shift_append (k : Nat) (a b : List Node) :
    (a ++ b).map (Node.shift k) = a.map (Node.shift k) ++ b.map (Node.shift k) := List.map_append

/-- `nodePos` (the current span of a node; pending here-document redirects live in the store) -/
theorem sim_nodePos (nd : Node) :
    Sim pre top n n (nodePos nd) (nodePos (nd.shift (kOf pre top)))
      (fun a b => b = sh (kOf pre top) a) := by
  cases nd with
  | redirect p i t o oa h hid =>
    cases hid with
    | none => exact Sim.pure (Nat.le_refl _) rfl
    | some id =>
      show Sim pre top n n (nodePos (.redirect p i t o oa h (some id)))
        (nodePos (.redirect (sh (kOf pre top) p) i t (Node.mapPosO (sh (kOf pre top)) o) oa
          (Node.mapPosO (sh (kOf pre top)) h) (some id))) _
      unfold nodePos
      refine Sim.get_bind (fun l₁ l₂ hl => ?_)
      rw [hl.store, List.getElem?_map]
      cases l₁.store[id]? with
      | none => exact SimAt.pure (Nat.le_refl _) rfl
      | some c => exact SimAt.pure (Nat.le_refl _) rfl
  | _ => exact Sim.pure (Nat.le_refl _) rfl

theorem sim_handleAssert (b : Bool) :
    Sim pre top n n (handleAssert b) (handleAssert b) (fun _ _ => True) := by
  unfold handleAssert
  split
  · exact Sim.pure (Nat.le_refl _) True.intro
  · exact Sim.foreign _ _

/-- `handleNotImplemented`: `proceedonerror` is off in both runs -/
theorem sim_handleNotImplemented (p₁ p₂ : PCtx) (ty : String) :
    Sim pre top n n (handleNotImplemented p₁ ty) (handleNotImplemented p₂ ty)
      (fun _ _ => False) := by
  unfold handleNotImplemented
  refine Sim.bind sim_optProceed (fun a b hab => ?_)
  obtain ⟨rfl, rfl⟩ := hab
  exact Sim.raise_eq _

theorem isCompound_shift (k : Nat) (nd : Node) : isCompound (nd.shift k) = isCompound nd := by
  cases nd <;> rfl

theorem shift_compound (k : Nat) (pos : Span) (l r : List Node) :
    (Node.compound pos l r).shift k =
      .compound (sh k pos) (l.map (Node.shift k)) (r.map (Node.shift k)) := by
  simp [Node.shift, Node.mapPos, Node.mapPosL_eq_map, sh]

/-! ## the accept test of `p_simple_list`

  The value is moved by the shift.  The YaccAccept flag is
  `len(p) == 2 and cmdsubst and tok == eoftoken`, where `tok` is the current token of the
  tokenizer with its position erased.  `LocRel.cur` relates the current tokens of the two runs by
  `HEq` only (type and value, or both "neutral"): this does NOT determine the test (the flags of
  the two tokens are not related, and a placeholder / NEWLINE pair answers differently for an
  eof token that is a NEWLINE token).  The missing fact is the explicit hypothesis `CurFlags`;
  `curFlags_of` reduces it to: same flags, and the eof token is neither the placeholder nor a
  NEWLINE token (the only eof token of the model is `rparenEofToken`). -/

/-- the hypothesis left open for `p_simple_list`: in related states of a command-substitution parser
    with an eof token, `tok == eoftoken` answers the same in both runs -/
def CurFlags (pre : Str) (top : Bool) : Prop :=
  ∀ l₁ l₂ : Local, LocRel (kOf pre top) l₁ l₂ → l₁.ps.cmdsubst = true →
    ∀ e : Token, l₁.eofToken = some e →
      (({ l₂.currentToken with pos := none } : Token) = e ↔
        ({ l₁.currentToken with pos := none } : Token) = e)

/-- `tok == eoftoken` for `HEq` tokens with the same flags, against an eof token that is neither the
    placeholder nor a NEWLINE token -/
theorem eofTest_iff {t₁ t₂ e : Token} (h : HEq t₁ t₂) (hf : t₂.flags = t₁.flags)
    (he1 : e.ttype ≠ none) (he2 : e.ttype ≠ some .NEWLINE) :
    (({ t₂ with pos := none } : Token) = e ↔ ({ t₁ with pos := none } : Token) = e) := by
  rcases h with ⟨h1, h2⟩ | ⟨ha, hb⟩
  · rw [h1, h2, hf]
  · have hn : ∀ t : Token, Neutral t → ¬ (({ t with pos := none } : Token) = e) := by
      intro t ht heq
      subst heq
      rcases ht with ⟨h1, _⟩ | ⟨h1, _⟩
      · exact he1 h1
      · exact he2 h1
    exact ⟨fun h => absurd h (hn _ hb), fun h => absurd h (hn _ ha)⟩

theorem curFlags_of
    (h : ∀ l₁ l₂ : Local, LocRel (kOf pre top) l₁ l₂ → l₁.ps.cmdsubst = true →
      ∀ e : Token, l₁.eofToken = some e →
        l₂.currentToken.flags = l₁.currentToken.flags ∧ e.ttype ≠ none ∧ e.ttype ≠ some .NEWLINE) :
    CurFlags pre top := by
  intro l₁ l₂ hl hc e he
  obtain ⟨hf, he1, he2⟩ := h l₁ l₂ hl hc e he
  exact eofTest_iff hl.cur hf he1 he2

/-- the accept test of `p_simple_list` gives the same answer in both runs -/
theorem curFlags (pre : Str) (top : Bool) : CurFlags pre top := by
  refine curFlags_of (fun l₁ l₂ hl _ e he => ⟨hl.curFlags, ?_⟩)
  rcases hl.eofOK with h | h
  · rw [h] at he; cases he
  · rw [h] at he
    cases he
    exact ⟨by decide, by decide⟩

/-! ## the instance of `ActParam` -/

section inst
open ActParam

/-- values moved by `k`; the EOF token has no span and reads as `(0, 0)`, which `sh k` moves: only
    the span of a token that has one may be read -/
abbrev shiftRel (k : Nat) : ValRel :=
  graphRel (sh k) (fun _ => True) (fun t => t.pos.isSome = true) (fun _ _ => rfl)
    (fun t _ hp => shiftTok_span k hp)

def shiftLogic (pre : Str) (top : Bool) (n : Nat) : ActLogic (shiftRel (kOf pre top)) where
  J := fun m₁ m₂ V => Sim pre top n n m₁ m₂ V
  pure := Sim.pure (Nat.le_refl _)
  bind := Sim.bind
  raise := Sim.raise_eq
  nodePos := by rintro a _ rfl; exact sim_nodePos a
  assertLt := by
    rintro p _ q _ rfl rfl
    have : decide ((sh (kOf pre top) p).1 < (sh (kOf pre top) q).2) = decide (p.1 < q.2) := by
      simp [sh]
    rw [this]; exact sim_handleAssert _
  optProceed := sim_optProceed.weaken fun a b h => h.1.trans h.2.symm
  inputunit := by
    intro α β V K₁ K₂ hK
    unfold iuThen
    refine Sim.get_bind (fun l₁ l₂ hl => ?_)
    rw [hl.ps]
    refine SimAt.ite (fun _ => ?_) (fun _ => Sim.at hK _ _)
    refine SimAt.bindU (mid := n) (Sim.at ?_ _ _) hK
    rel_modify
  accept := by
    intro b
    refine Sim.get_bind (fun l₁ l₂ hl => SimAt.pure (Nat.le_refl _) ?_)
    rw [hl.ps, hl.eofToken]
    cases b with
    | false => rfl
    | true =>
      cases hc : l₁.ps.cmdsubst with
      | false => rfl
      | true =>
        cases he : l₁.eofToken with
        | none => rfl
        | some e =>
          simp only [Bool.true_and]
          exact (decide_eq_decide.2 (curFlags pre top l₁ l₂ hl hc e he)).symm
  push := by
    rintro p _ d k rfl
    refine Sim.get_bind (fun l₁ l₂ hl => ?_)
    refine SimAt.bindU (mid := n) (SimAt.set (fun e₁ e₂ hr => hr.update ?_ rfl rfl rfl)) ?_
    · exact { hl with
        store := by
          show l₂.store ++ _ = List.map _ (l₁.store ++ _)
          rw [hl.store, List.map_append]; rfl
        redirstack := by
          show l₂.redirstack ++ [(l₂.store.length, k)] = l₁.redirstack ++ [(l₁.store.length, k)]
          rw [hl.redirstack, hl.store, List.length_map] }
    · refine Sim.pure (Nat.le_refl _) ?_
      rw [hl.store, List.length_map]


theorem shiftS_eq (k : Nat) : shiftS k = mapSVal (sh k) :=
  funext fun v => by
    cases v with
    | nodes l => exact congrArg SVal.nodes (Node.mapPosL_eq_map _ l).symm
    | _ => rfl

/-- the arguments of the second run -/
theorem shift_args (k : Nat) (args : List SVal) :
    ArgsR (shiftRel k) args (args.map (shiftS k)) := by
  rw [shiftS_eq]; exact graphRel_args fun _ _ _ _ => trivial

theorem shiftRel_S {k : Nat} {v v' : SVal} : (shiftRel k).S v v' ↔ v' = shiftS k v := by
  rw [shiftS_eq]; exact graphRel_S.trans (and_iff_left fun _ _ => trivial)

/-- word expansion, as `ActParam` asks for it -/
theorem wordJ_of_expRel {np : NestedParse} (hexp : ExpRel pre top np) :
    WordJ (shiftLogic pre top 0) np np := by
  rintro t _ ⟨rfl, -⟩ hp
  exact hexp t hp

end inst

/-! ## the helpers of `Model/Actions.lean` -/

section helpers
open ActParam

/-- `_partsspan` -/
theorem sim_partsspan (parts : List Node) :
    Sim pre top n n (partsspan parts) (partsspan (parts.map (Node.shift (kOf pre top))))
      (fun a b => b = sh (kOf pre top) a) :=
  J_partsspan (shiftLogic pre top n) (forall2_graph.2 rfl)

/-- `p[0].redirects.extend(p[2])` -/
theorem sim_addRedirects (nd : Node) (reds : List Node) :
    Sim pre top n n (addRedirects nd reds)
      (addRedirects (nd.shift (kOf pre top)) (reds.map (Node.shift (kOf pre top))))
      (fun a b => b = a.shift (kOf pre top)) :=
  J_addRedirects (shiftLogic pre top n) rfl (forall2_graph.2 rfl)

/-- `for x in l do …` in lock step over a list and its image -/
theorem Sim.forIn_map {α β : Type} {g : α → α} {f₁ f₂ : α → β → M (ForInStep β)}
    {R : β → β → Prop} (P : α → Prop)
    (hstep : ∀ a b₁ b₂, P a → R b₁ b₂ → Sim pre top n n (f₁ a b₁) (f₂ (g a) b₂)
      (fun r₁ r₂ => match r₁, r₂ with
        | .yield x, .yield y => R x y
        | .done x, .done y => R x y
        | _, _ => False)) :
    ∀ (l : List α) (b₁ b₂ : β), (∀ a, a ∈ l → P a) → R b₁ b₂ →
      Sim pre top n n (forIn l b₁ f₁) (forIn (l.map g) b₂ f₂) R := by
  intro l b₁ b₂ hP hb
  refine (shiftLogic pre top n).forIn_list (A := fun a b => b = g a ∧ P a) (I := R) ?_ ?_ _ _ hb
  · rintro a _ s t ⟨rfl, ha⟩ hst
    exact (hstep a s t ha hst).weaken fun r₁ r₂ hr => by cases r₁ <;> cases r₂ <;> exact hr
  · induction l with
    | nil => exact .nil
    | cons a l ih =>
      exact .cons ⟨rfl, hP a List.mem_cons_self⟩ (ih fun a ha => hP a (List.mem_cons_of_mem _ ha))

/-- `_makeparts(p)` -/
theorem sim_makeparts {np : NestedParse} (hexp : ExpRel pre top np) (args : List SVal)
    (hpos : ArgsPos args) :
    Sim pre top 0 0 (makeparts ⟨np, args⟩) (makeparts ⟨np, args.map (shiftS (kOf pre top))⟩)
      (fun a b => b = a.map (Node.shift (kOf pre top))) :=
  (J_makeparts (shiftLogic pre top 0) (wordJ_of_expRel hexp) (shift_args _ args) hpos).weaken
    fun _ _ h => forall2_graph.1 h

end helpers

/-! ## the argument accessors of `PCtx` on moved arguments -/

theorem slice_map (np : NestedParse) (args : List SVal) (k i : Nat) :
    (PCtx.slice ⟨np, args.map (shiftS k)⟩ i) = shiftS k (PCtx.slice ⟨np, args⟩ i) := by
  unfold PCtx.slice
  simp only [List.getD_eq_getElem?_getD, List.getElem?_map]
  cases args[i - 1]? <;> rfl

theorem len_map (np : NestedParse) (args : List SVal) (k : Nat) :
    (PCtx.len ⟨np, args.map (shiftS k)⟩) = PCtx.len ⟨np, args⟩ := by
  unfold PCtx.len; simp

theorem slice_mem {np : NestedParse} {args : List SVal} {i : Nat} {t : Token}
    (h : PCtx.slice ⟨np, args⟩ i = .tok t) : SVal.tok t ∈ args := by
  unfold PCtx.slice at h
  simp only [List.getD_eq_getElem?_getD] at h
  cases hg : args[i - 1]? with
  | none => rw [hg] at h; cases h
  | some a =>
    rw [hg] at h
    simp only [Option.getD_some] at h
    subst h
    exact List.mem_of_getElem? hg

section accessors
open ActParam
variable {np : NestedParse} {args : List SVal}

local notation "P₁" => (PCtx.mk np args)
local notation "P₂" => (PCtx.mk np (List.map (shiftS (kOf pre top)) args))

/-- `p.slice[i]` as a token (with its span) -/
theorem sim_tokAt (hpos : ArgsPos args) (i : Nat) :
    Sim pre top n n (PCtx.tokAt P₁ i) (PCtx.tokAt P₂ i)
      (fun a b => b = shiftTok (kOf pre top) a ∧ a.pos.isSome = true ∧ PCtx.slice P₁ i = .tok a) :=
  (J_tokAt (shiftLogic pre top n) (shift_args _ args) hpos i).weaken
    fun _ _ h => ⟨h.1.1, h.2.1, h.2.2⟩

/-- `p[i]` of a terminal: the same string in both runs; the position holds a token -/
theorem sim_strAt (i : Nat) :
    Sim pre top n n (PCtx.strAt P₁ i) (PCtx.strAt P₂ i)
      (fun a b => b = a ∧ ∃ t, PCtx.slice P₁ i = .tok t) :=
  J_strAt (shiftLogic pre top n) (shift_args _ args) i

theorem sim_nodeAt (i : Nat) (site : String) :
    Sim pre top n n (PCtx.nodeAt P₁ i site) (PCtx.nodeAt P₂ i site)
      (fun a b => b = a.shift (kOf pre top)) :=
  J_nodeAt (shiftLogic pre top n) (shift_args _ args) i site

theorem sim_nodesAt (i : Nat) (site : String) :
    Sim pre top n n (PCtx.nodesAt P₁ i site) (PCtx.nodesAt P₂ i site)
      (fun a b => b = a.map (Node.shift (kOf pre top))) :=
  (J_nodesAt (shiftLogic pre top n) (shift_args _ args) i site).weaken
    fun _ _ h => forall2_graph.1 h

theorem isTok_map (i : Nat) (ty : TokType) : PCtx.isTok P₂ i ty = PCtx.isTok P₁ i ty :=
  isTok_eq (shift_args _ args) i ty

/-- `p.lexspan i` when position `i` holds a token -/
theorem lexspan_map (hpos : ArgsPos args) {i : Nat} {t : Token} (h : PCtx.slice P₁ i = .tok t) :
    PCtx.lexspan P₂ i = sh (kOf pre top) (PCtx.lexspan P₁ i) :=
  lexspan_rel (shift_args _ args) hpos i (Or.inr ⟨t, h⟩)

/-- `mk(p.lexspan(i), p[i])` for `mk = reservedword / operator / pipe`; raises (in both runs) when
    position `i` is not a token -/
theorem sim_wordAt (mk : Span → Str → Node)
    (hmk : ∀ sp s, mk (sh (kOf pre top) sp) s = (mk sp s).shift (kOf pre top))
    (hpos : ArgsPos args) (i : Nat) :
    Sim pre top n n (do return mk (PCtx.lexspan P₁ i) (← PCtx.strAt P₁ i) : M Node)
      (do return mk (PCtx.lexspan P₂ i) (← PCtx.strAt P₂ i) : M Node)
      (fun a b => b = a.shift (kOf pre top)) :=
  J_leafAt (shiftLogic pre top n) mk (by rintro p _ s rfl; exact hmk p s) (shift_args _ args) hpos i

theorem sim_reservedAt (hpos : ArgsPos args) (i : Nat) :
    Sim pre top n n (reservedAt P₁ i) (reservedAt P₂ i) (fun a b => b = a.shift (kOf pre top)) :=
  sim_wordAt .reservedword (fun _ _ => rfl) hpos i

theorem sim_operatorAt (hpos : ArgsPos args) (i : Nat) :
    Sim pre top n n (operatorAt P₁ i) (operatorAt P₂ i) (fun a b => b = a.shift (kOf pre top)) :=
  sim_wordAt .operator (fun _ _ => rfl) hpos i

end accessors

/-- an action lemma of `ActParam` gives the claim about the action -/
theorem actionRel_of_param {np : NestedParse} {fname : String}
    (h : ∀ sorts σ args, absAction fname sorts = some σ → shiftSafe fname sorts = true →
      Forall2 HasSort sorts args → (∀ a, a ∈ args → SOK a) →
      (shiftLogic pre top 0).J (actionCore np fname args)
        (actionCore np fname (args.map (shiftS (kOf pre top)))) (shiftRel (kOf pre top)).Res) :
    ActionRel pre top np fname := by
  intro sorts σ args habs hsafe hargs hok
  refine (h sorts σ args habs hsafe hargs hok).weaken ?_
  rintro ⟨v, b⟩ ⟨v', b'⟩ ⟨hv, hb⟩
  exact Prod.ext (shiftRel_S.1 hv) hb

end Bashlex.C14
