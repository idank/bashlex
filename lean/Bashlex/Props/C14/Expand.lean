/-
  C14: word expansion (`Model/Subst.lean`) under the translation.

  The expansion works on `tok.valueStr` and `tok.flags` (the same in both runs) and on the results
  of the nested parser (the same node in both runs: `NPRel`); the positions it computes are
  relative to the word until the very end of `_expandwordinternal`, where every part is moved by
  `tok.lexpos`.  Hence every intermediate result is EQUAL in the two runs, and the final parts of
  the second run are the parts of the first run moved by the shift.
-/
import Bashlex.Props.C14.ActBase

namespace Bashlex.C14
open Bashlex Bashlex.C10 Bashlex.C12 Bashlex.LR
set_option linter.unusedSimpArgs false

variable {pre : Str} {top : Bool} {n n' : Nat}

/-- `_adjustpositions`: pure -/
theorem sim_adjustpositions (nd : Node) (base endlimit : Nat) :
    SimEq pre top n n (adjustpositions nd base endlimit) := by
  unfold adjustpositions; rel_walk
macro_rules | `(tactic| rel_atom) => `(tactic| exact sim_adjustpositions _ _ _)

section walk
/- atoms that refer to the hypothesis `hnp` of the lemmas of this section (local: they mean nothing
   elsewhere) -/
set_option hygiene false
local macro_rules | `(tactic| rel_atom) => `(tactic| exact hnp _ _)

/-- `_recursiveparse` -/
theorem sim_recursiveparse {np : NestedParse} (hnp : NPRel pre top np) (base : Str) (sindex : Nat)
    (d : Bool) : SimEq pre top 0 0 (recursiveparse np base sindex d) := by
  have hnp : ∀ s d, SimEq pre top 0 0 (np s d) := hnp
  unfold recursiveparse; rel_walk

local macro_rules | `(tactic| rel_atom) => `(tactic| exact sim_recursiveparse hnp _ _ _)

/-- `_parsedolparen` -/
theorem sim_parsedolparen {np : NestedParse} (hnp : NPRel pre top np) (base : Str) (sindex : Nat) :
    SimEq pre top 0 0 (parsedolparen np base sindex) := by
  unfold parsedolparen; rel_walk

local macro_rules | `(tactic| rel_atom) => `(tactic| exact sim_parsedolparen hnp _ _)

/-- `_paramexpand` -/
theorem sim_paramexpand {np : NestedParse} (hnp : NPRel pre top np) (string : Str) (sindex : Nat) :
    SimEq pre top 0 0 (paramexpand np string sindex) := by
  unfold paramexpand; simp only []; rel_walk

local macro_rules | `(tactic| rel_atom) => `(tactic| exact sim_paramexpand hnp _ _)

/-- results of the loop of `_expandwordinternal`: equal; an early exit has no parts -/
def ERel (a b : List Node × Str × Bool) : Prop := a = b ∧ (a.2.2 = true → a.1 = [])

theorem Sim.pureInl {σ α β : Type} {V : α → β → Prop} {s : σ} :
    Sim pre top n n (Pure.pure (.inl s) : M (σ ⊕ α)) (Pure.pure (.inl s) : M (σ ⊕ β)) (SumEq V) :=
  Sim.pure (Nat.le_refl _) rfl

theorem Sim.pureInr {σ α β : Type} {V : α → β → Prop} {a : α} {b : β} (h : V a b) :
    Sim pre top n n (Pure.pure (.inr a) : M (σ ⊕ α)) (Pure.pure (.inr b) : M (σ ⊕ β)) (SumEq V) :=
  Sim.pure (Nat.le_refl _) h

/-- one iteration of the loop of `_expandwordinternal` -/
theorem sim_expandStep {np : NestedParse} (hnp : NPRel pre top np) (tok : Token)
    (ht : tok.pos.isSome = true) (string : Str) (q : Bool) (st : ExpSt) :
    Sim pre top 0 0 (expandStep np tok string q st)
      (expandStep np (shiftTok (kOf pre top) tok) string q st) (SumEq ERel) := by
  unfold expandStep
  rel_walk
  all_goals try exact Sim.pureInl
  all_goals try exact Sim.pureInr ⟨rfl, fun _ => rfl⟩
  all_goals try exact Sim.pureInr ⟨rfl, fun h => by cases h⟩
  all_goals try (split; exact Sim.pureInl)
  -- the unterminated backquote: the error position is absolute
  refine Sim.bind sim_tapeSource (fun s₁ s₂ hs => ?_)
  refine Sim.raise ?_
  rw [shiftTok_lexpos _ ht]
  have key := exnRel_mkParsingError hs
    ("bad substitution: no closing \"`\" in " ++ String.ofList string)
    ((tok.lexpos + st.sindex : Nat) : Int)
  have e : ((tok.lexpos + kOf pre top + st.sindex : Nat) : Int) =
      ((tok.lexpos + st.sindex : Nat) : Int) + (kOf pre top : Nat) := by omega
  rw [e]
  exact key

end walk

/-- `_expandwordinternal`: the parts are moved by `tok.lexpos` at the very end -/
theorem sim_expandwordinternal {np : NestedParse} (hnp : NPRel pre top np) (tok : Token)
    (ht : tok.pos.isSome = true) (q : Bool) :
    Sim pre top 0 0 (expandwordinternal np tok q)
      (expandwordinternal np (shiftTok (kOf pre top) tok) q)
      (fun a b => b = (a.1.map (Node.shift (kOf pre top)), a.2)) := by
  unfold expandwordinternal
  refine Sim.bind (V := ERel) (Sim.loopEq (fun s => sim_expandStep hnp tok ht _ q s) _ _)
    (fun a b hab => ?_)
  obtain ⟨rfl, hearly⟩ := hab
  obtain ⟨parts, istring, early⟩ := a
  simp only []
  rw [shiftTok_lexpos _ ht, shiftTok_endlexpos _ ht]
  refine Sim.ite (fun hc => ?_) (fun _ => ?_)
  · have hp : parts = [] := by
      cases early with
      | true => exact hearly rfl
      | false =>
        cases parts with
        | nil => rfl
        | cons x xs => simp at hc
    subst hp
    exact Sim.pure (Nat.le_refl _) rfl
  · have hok : (parts.all fun p => p.preorder.all fun m =>
          decide (m.pos.snd + (tok.lexpos + kOf pre top) ≤ tok.endlexpos + kOf pre top)) =
        (parts.all fun p => p.preorder.all fun m => decide (m.pos.snd + tok.lexpos ≤ tok.endlexpos)) := by
      congr 1; funext p; congr 1; funext m
      have : (m.pos.snd + (tok.lexpos + kOf pre top) ≤ tok.endlexpos + kOf pre top) ↔
          (m.pos.snd + tok.lexpos ≤ tok.endlexpos) := by omega
      exact decide_eq_decide.2 this
    rw [hok]
    refine Sim.ite (fun _ => ?_) (fun _ => ?_)
    · exact Sim.bind (mid := 0) (V := fun _ _ => False) (Sim.foreign _ _) (fun _ _ h => h.elim)
    · refine Sim.pure (Nat.le_refl _) ?_
      show (_, _) = (List.map _ (List.map _ _), _)
      rw [Node.map_shift_shift]
theorem filter_subst_shift (k : Nat) (l : List Node) :
    (l.map (Node.shift k)).filter (fun n => !isSubstitution n) =
      (l.filter (fun n => !isSubstitution n)).map (Node.shift k) := by
  induction l with
  | nil => rfl
  | cons a l ih =>
    rw [List.map_cons, List.filter_cons, List.filter_cons, isSubstitution_shift, ih]
    cases isSubstitution a <;> rfl

/-- the word node built by `_expandword` -/
theorem word_shift (k : Nat) (sp : Span) (expanded : Str) (parts : List Node) (c : Bool) :
    Node.word (sh k sp) expanded
        (if c = true then (parts.map (Node.shift k)).filter (fun n => !isSubstitution n)
          else parts.map (Node.shift k)) =
      (Node.word sp expanded
        (if c = true then parts.filter (fun n => !isSubstitution n) else parts)).shift k := by
  rw [filter_subst_shift]
  cases c <;> simp [Node.shift, Node.mapPos, Node.mapPosL_eq_map, sh]

/-- **`parser._expandword` moves with the input**, given that the nested parser returns the same
    node in both runs -/
theorem expRel_of_npRel {np : NestedParse} (hnp : NPRel pre top np) : ExpRel pre top np := by
  intro t ht
  have leaf : ∀ (dq : Bool) (f₁ f₂ : List Node × Str → M Node),
      (∀ parts expanded, Sim pre top 0 0 (f₁ (parts, expanded))
        (f₂ (parts.map (Node.shift (kOf pre top)), expanded))
        (fun a b => b = a.shift (kOf pre top))) →
      Sim pre top 0 0 (expandwordinternal np t dq >>= f₁)
        (expandwordinternal np (shiftTok (kOf pre top) t) dq >>= f₂)
        (fun a b => b = a.shift (kOf pre top)) := by
    intro dq f₁ f₂ hf
    refine Sim.bind (sim_expandwordinternal hnp t ht dq) (fun a b hab => ?_)
    subst hab
    exact hf a.1 a.2
  unfold expandword
  refine Sim.get_bind (fun l₁ l₂ hl => ?_)
  rw [hl.limit]
  simp only [pure_bind, shiftTok_valueStr, shiftTok_flags]
  rw [shiftTok_span _ ht]
  refine Sim.at ?_ l₁ l₂
  refine Sim.ite (fun _ => ?_) (fun _ => ?_)
  · exact Sim.pure (Nat.le_refl _) rfl
  refine Sim.ite (fun _ => ?_) (fun _ => ?_)
  · split
    · exact Sim.bind (mid := 0) (V := fun _ _ => False) (Sim.foreign _ _) (fun _ _ h => h.elim)
    · refine leaf _ _ _ (fun parts expanded => ?_)
      exact Sim.pure (Nat.le_refl _) (word_shift _ _ _ _ _)
  · refine leaf _ _ _ (fun parts expanded => ?_)
    exact Sim.pure (Nat.le_refl _) (word_shift _ _ _ _ _)

end Bashlex.C14

#print axioms Bashlex.C14.expRel_of_npRel
