/-
  C14: all semantic actions move with the input (`ActionsHyp` of `Engine.lean`), from
  the per-action lemmas of `Act1.lean`, `Act2.lean` and word expansion (`Expand.lean`).
-/
import Bashlex.Props.C14.Act1
import Bashlex.Props.C14.Act2
import Bashlex.Props.C14.Expand
import Bashlex.Props.C14.Engine

namespace Bashlex.C14
open Bashlex Bashlex.C10 Bashlex.C12 Bashlex.LR

variable {pre : Str} {top : Bool}

/-- every action function moves with the input -/
theorem actionsHyp : ActionsHyp := by
  intro pre top np hnp f sorts σ args habs hsafe hargs hok
  have hexp := expRel_of_npRel hnp
  have hcur := curFlags pre top
  have h0 := habs
  unfold absAction at h0
  split at h0
  · exact rel_inputunit sorts σ args habs hsafe hargs hok
  · exact rel_word_list hexp sorts σ args habs hsafe hargs hok
  · exact rel_redirection_heredoc sorts σ args habs hsafe hargs hok
  · exact rel_redirection hexp sorts σ args habs hsafe hargs hok
  · exact rel_simple_command_element hexp sorts σ args habs hsafe hargs hok
  · exact rel_redirection_list sorts σ args habs hsafe hargs hok
  · exact rel_simple_command sorts σ args habs hsafe hargs hok
  · exact rel_command sorts σ args habs hsafe hargs hok
  · exact rel_shell_command hexp sorts σ args habs hsafe hargs hok
  · exact rel_for_command hexp sorts σ args habs hsafe hargs hok
  · exact rel_arith_for_command sorts σ args habs hsafe hargs hok
  · exact rel_select_command sorts σ args habs hsafe hargs hok
  · exact rel_case_command hexp sorts σ args habs hsafe hargs hok
  · exact rel_function_def hexp sorts σ args habs hsafe hargs hok
  · exact rel_function_body sorts σ args habs hsafe hargs hok
  · exact rel_subshell sorts σ args habs hsafe hargs hok
  · exact rel_group_command sorts σ args habs hsafe hargs hok
  · exact rel_coproc sorts σ args habs hsafe hargs hok
  · exact rel_if_command hexp sorts σ args habs hsafe hargs hok
  · exact rel_arith_command sorts σ args habs hsafe hargs hok
  · exact rel_cond_command sorts σ args habs hsafe hargs hok
  · exact rel_elif_clause sorts σ args habs hsafe hargs hok
  · exact rel_case_clause sorts σ args habs hsafe hargs hok
  · exact rel_pattern_list sorts σ args habs hsafe hargs hok
  · exact rel_case_clause_sequence sorts σ args habs hsafe hargs hok
  · exact rel_pattern hexp sorts σ args habs hsafe hargs hok
  · exact rel_list sorts σ args habs hsafe hargs hok
  · exact rel_compound_list sorts σ args habs hsafe hargs hok
  · exact rel_list0 sorts σ args habs hsafe hargs hok
  · exact rel_list1 sorts σ args habs hsafe hargs hok
  · exact rel_simple_list_terminator sorts σ args habs hsafe hargs hok
  · exact rel_list_terminator sorts σ args habs hsafe hargs hok
  · exact rel_newline_list sorts σ args habs hsafe hargs hok
  · exact rel_simple_list hcur sorts σ args habs hsafe hargs hok
  · exact rel_simple_list1 sorts σ args habs hsafe hargs hok
  · exact rel_pipeline_command sorts σ args habs hsafe hargs hok
  · exact rel_pipeline sorts σ args habs hsafe hargs hok
  · exact rel_timespec sorts σ args habs hsafe hargs hok
  · exact rel_empty sorts σ args habs hsafe hargs hok
  · cases h0

end Bashlex.C14
