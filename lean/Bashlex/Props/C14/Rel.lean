/-
  C14: a relational Hoare logic for TWO runs of `M` programs, from states related by a
  translation of the input: the second run reads the tape of the first one behind a prefix `pre`.

  * `TapeRel pre t₁ t₂`: `t₂.line = pre ++ t₁.line`, `t₂.idx = t₁.idx + |pre|`, same `added`,
    and the first tape holds at least two characters (anything but `""` and `"\n"`).
  * `LocRel k l₁ l₂`: the parser objects agree, except that every position stored in the state
    (`positions`, the redirect store) is shifted by `k`, and the token-history fields
    (`lastReadToken`, …) agree up to `HEq` (positions are ignored — nobody reads them — and the
    initial placeholder token is identified with a NEWLINE token: every reader of the history
    answers the same for both, see `HEq.is_eq`, `HEq.rwa`).
  * `Rel pre top n`: `top = true`: both parsers are top-level (tape in the environment), the shift
    is `k = |pre|`, and the first cursor has *room* `n` (`n ≤ idx ∨ len < idx`: `n` more
    `_ungetc` calls cannot reach the start of the tape, where the first run would fill the
    `_eol_ungetc_lookahead` slot while the second run moves back into the prefix);
    `top = false`: both parsers are nested parsers over the SAME private tape, the shift is `0`,
    and the (related) environment tapes are a frame.
    In both modes the effective `proceedonerror` option is off (defect D19, see `C14.lean`).
  * `Sim pre top n n' m₁ m₂ V`: from `Rel … n` states, `m₁` and `m₂` both return, with `V`-related
    values and `Rel … n'` states, or both raise, with `ExnRel`-related exceptions
    (a top-level `ParsingError m src p` becomes `ParsingError m (pre ++ src) (p + |pre|)`;
    everything else, including the `ParsingError`s of nested parsers, is equal).
  Rules: `pure`, `bind`, `loop`, `raise`, `mono`, `get_bind` (continuation at the two states read:
  `SimAt`), `set`/`modify`, combination with the unary logic (`Sim.and_sat`).
-/
import Bashlex.Props.C10.Tape
import Bashlex.Props.C13.Shift

namespace Bashlex.C14
open Bashlex Bashlex.C10
set_option linter.unusedVariables false

/-! ## related values -/

/-- a span moved by `k` -/
def sh (k : Nat) (p : Span) : Span := (p.1 + k, p.2 + k)

@[simp] theorem sh_zero (p : Span) : sh 0 p = p := rfl
theorem sh_fst (k : Nat) (p : Span) : (sh k p).1 = p.1 + k := rfl
theorem sh_snd (k : Nat) (p : Span) : (sh k p).2 = p.2 + k := rfl
theorem shift_eq_mapPos (k : Nat) (n : Node) : n.shift k = Node.mapPos (sh k) n := rfl

/-- a store cell moved by `k` -/
def cellShift (k : Nat) (c : RedirCell) : RedirCell :=
  { c with pos := sh k c.pos, heredoc := c.heredoc.map (fun x => (sh k x.1, x.2)) }

@[simp] theorem cellShift_delim (k : Nat) (c : RedirCell) : (cellShift k c).delim = c.delim := rfl
@[simp] theorem cellShift_pos (k : Nat) (c : RedirCell) : (cellShift k c).pos = sh k c.pos := rfl

/-- tokens delivered by the tokenizer: same type, value, flags; span moved by `k`; only the EOF
    token (whose value is `None`) has no span -/
structure TokRel (k : Nat) (t₁ t₂ : Token) : Prop where
  ttype : t₂.ttype = t₁.ttype
  value : t₂.value = t₁.value
  flags : t₂.flags = t₁.flags
  pos : t₂.pos = t₁.pos.map (sh k)
  hasPos : t₁.pos = none → t₁.ttype = some .EOF ∧ t₁.value = .none

/-- a token without information for the readers of the token history: the initial placeholder
    `token(None, None)` or a NEWLINE token -/
def Neutral (t : Token) : Prop :=
  (t.ttype = none ∧ t.value = .none) ∨ (t.ttype = some .NEWLINE ∧ t.value = .str ['\n'])

/-- equivalence of token-history entries -/
def HEq (t₁ t₂ : Token) : Prop :=
  (t₂.ttype = t₁.ttype ∧ t₂.value = t₁.value) ∨ (Neutral t₁ ∧ Neutral t₂)

theorem HEq.refl (t : Token) : HEq t t := Or.inl ⟨rfl, rfl⟩
theorem TokRel.heq {k : Nat} {t₁ t₂ : Token} (h : TokRel k t₁ t₂) : HEq t₁ t₂ :=
  Or.inl ⟨h.ttype, h.value⟩

/-- exceptions of the two runs -/
def ExnRel (pre : Str) (x₁ x₂ : Exn) : Prop :=
  x₂ = x₁ ∨ ∃ m src p, x₁ = .parsing m src p ∧ x₂ = .parsing m (pre ++ src) (p + (pre.length : Int))

theorem ExnRel.rfl' {pre : Str} (x : Exn) : ExnRel pre x x := Or.inl rfl

/-! ## related states -/

/-- the two top-level tapes -/
structure TapeRel (pre : Str) (t₁ t₂ : Tape) : Prop where
  line : t₂.line = pre ++ t₁.line
  idx : t₂.idx = t₁.idx + pre.length
  added : t₂.added = t₁.added
  len : 2 ≤ t₁.line.length

structure EnvRel (pre : Str) (e₁ e₂ : Env) : Prop where
  tape : TapeRel pre e₁.tape e₂.tape
  strict : e₂.strict = e₁.strict
  proceed : e₂.proceed = e₁.proceed
  touched : e₂.touched = e₁.touched

/-- the two parser objects; `twoTokensAgo` is never read and is not constrained -/
structure LocRel (k : Nat) (l₁ l₂ : Local) : Prop where
  tape : l₂.tape = l₁.tape
  opts : l₂.opts = l₁.opts
  eol : l₂.eolLookahead = l₁.eolLookahead
  before : HEq l₁.tokenBeforeThat l₂.tokenBeforeThat
  last : HEq l₁.lastReadToken l₂.lastReadToken
  cur : HEq l₁.currentToken l₂.currentToken
  /-- `p_simple_list` compares the current token (span erased) with `_shell_eof_token` -/
  curFlags : l₂.currentToken.flags = l₁.currentToken.flags
  ps : l₂.ps = l₁.ps
  obc : l₂.openBraceCount = l₁.openBraceCount
  esacs : l₂.esacsNeeded = l₁.esacsNeeded
  dstack : l₂.dstack = l₁.dstack
  positions : l₂.positions = l₁.positions.map (· + k)
  eofToken : l₂.eofToken = l₁.eofToken
  /-- `_shell_eof_token` is `None`, or the `)` of a `$(…)` parser -/
  eofOK : l₁.eofToken = none ∨ l₁.eofToken = some rparenEofToken
  redirstack : l₂.redirstack = l₁.redirstack
  store : l₂.store = l₁.store.map (cellShift k)
  limit : l₂.limit = l₁.limit

/-- room of the first cursor: `n` calls of `_ungetc` cannot reach the start of the tape -/
def Room (n : Nat) (t : Tape) : Prop := n ≤ t.idx ∨ t.line.length < t.idx

theorem Room.mono {n m : Nat} {t : Tape} (h : Room n t) (hm : m ≤ n) : Room m t := by
  rcases h with h | h
  · exact Or.inl (Nat.le_trans hm h)
  · exact Or.inr h

theorem Room.zero (t : Tape) : Room 0 t := Or.inl (Nat.zero_le _)

/-- `_parser._proceedonerror` as seen by the parser -/
def proceedOf (l : Local) (e : Env) : Bool :=
  match l.opts with
  | some (_, p) => p
  | none => e.proceed

/-- the shift in force -/
def kOf (pre : Str) (top : Bool) : Nat := if top then pre.length else 0

@[simp] theorem kOf_true (pre : Str) : kOf pre true = pre.length := rfl
@[simp] theorem kOf_false (pre : Str) : kOf pre false = 0 := rfl

structure Rel (pre : Str) (top : Bool) (n : Nat) (l₁ : Local) (e₁ : Env) (l₂ : Local) (e₂ : Env) :
    Prop where
  env : EnvRel pre e₁ e₂
  loc : LocRel (kOf pre top) l₁ l₂
  mode : l₁.tape.isNone = top
  room : top = true → Room n e₁.tape
  eolOK : top = true → l₁.eolLookahead.isSome = true → e₁.tape.line.length < e₁.tape.idx
  proc : proceedOf l₁ e₁ = false

theorem Rel.mono {pre top n m l₁ e₁ l₂ e₂} (h : Rel pre top n l₁ e₁ l₂ e₂) (hm : m ≤ n) :
    Rel pre top m l₁ e₁ l₂ e₂ :=
  { h with room := fun ht => (h.room ht).mono hm }

/-- related outcomes -/
def OutRel {α β : Type} (pre : Str) (top : Bool) (n' : Nat) (V : α → β → Prop) :
    Except Exn (α × Local) × Env → Except Exn (β × Local) × Env → Prop
  | (.ok (a₁, l₁), e₁), (.ok (a₂, l₂), e₂) => V a₁ a₂ ∧ Rel pre top n' l₁ e₁ l₂ e₂
  | (.error x₁, e₁), (.error x₂, e₂) => ExnRel pre x₁ x₂ ∧ EnvRel pre e₁ e₂
  | _, _ => False

/-- the relational judgement for given initial local states -/
def SimAt {α β : Type} (pre : Str) (top : Bool) (n n' : Nat) (l₁ l₂ : Local) (m₁ : M α) (m₂ : M β)
    (V : α → β → Prop) : Prop :=
  ∀ e₁ e₂, Rel pre top n l₁ e₁ l₂ e₂ → OutRel pre top n' V (M.run m₁ l₁ e₁) (M.run m₂ l₂ e₂)

/-- the relational judgement -/
def Sim {α β : Type} (pre : Str) (top : Bool) (n n' : Nat) (m₁ : M α) (m₂ : M β)
    (V : α → β → Prop) : Prop :=
  ∀ l₁ l₂, SimAt pre top n n' l₁ l₂ m₁ m₂ V

/-! exit levels that depend on the result of the first run (loops whose exit path lowers the level) -/

def OutRelL {α β : Type} (pre : Str) (top : Bool) (L : α → Nat) (V : α → β → Prop) :
    Except Exn (α × Local) × Env → Except Exn (β × Local) × Env → Prop
  | (.ok (a₁, l₁), e₁), (.ok (a₂, l₂), e₂) => V a₁ a₂ ∧ Rel pre top (L a₁) l₁ e₁ l₂ e₂
  | (.error x₁, e₁), (.error x₂, e₂) => ExnRel pre x₁ x₂ ∧ EnvRel pre e₁ e₂
  | _, _ => False

/-- `Sim` with an exit level that depends on the result of the first run -/
def SimL {α β : Type} (pre : Str) (top : Bool) (n : Nat) (L : α → Nat) (m₁ : M α) (m₂ : M β)
    (V : α → β → Prop) : Prop :=
  ∀ l₁ l₂ e₁ e₂, Rel pre top n l₁ e₁ l₂ e₂ → OutRelL pre top L V (M.run m₁ l₁ e₁) (M.run m₂ l₂ e₂)

/-- same program, equal results -/
abbrev SimEq {α : Type} (pre : Str) (top : Bool) (n n' : Nat) (m : M α) : Prop :=
  Sim pre top n n' m m Eq

variable {pre : Str} {top : Bool} {n n' : Nat}

theorem Sim.at {α β : Type} {m₁ : M α} {m₂ : M β} {V : α → β → Prop}
    (h : Sim pre top n n' m₁ m₂ V) (l₁ l₂ : Local) : SimAt pre top n n' l₁ l₂ m₁ m₂ V := h l₁ l₂

/-! ## structural rules -/

/-- `OutRel` is `OutRelL` at a constant exit level -/
theorem outRelL_const {α β : Type} {V : α → β → Prop} {r₁ r₂} :
    OutRelL pre top (fun _ => n') V r₁ r₂ ↔ OutRel pre top n' V r₁ r₂ := by
  obtain ⟨y₁, f₁⟩ := r₁
  obtain ⟨y₂, f₂⟩ := r₂
  cases y₁ <;> cases y₂ <;> exact Iff.rfl

theorem OutRelL.imp {α β : Type} {V W : α → β → Prop} {L L' : α → Nat} {r₁ r₂}
    (h : OutRelL pre top L V r₁ r₂) (hV : ∀ a b, V a b → W a b ∧ L' a ≤ L a) :
    OutRelL pre top L' W r₁ r₂ := by
  obtain ⟨y₁, f₁⟩ := r₁
  obtain ⟨y₂, f₂⟩ := r₂
  cases y₁ <;> cases y₂ <;> first | exact h | exact ⟨(hV _ _ h.1).1, h.2.mono (hV _ _ h.1).2⟩

theorem OutRel.weaken {α β : Type} {V W : α → β → Prop} {m : Nat} {r₁ r₂}
    (h : OutRel pre top n' V r₁ r₂) (hV : ∀ a b, V a b → W a b) (hm : m ≤ n') :
    OutRel pre top m W r₁ r₂ :=
  outRelL_const.1 ((outRelL_const.2 h).imp fun a b hv => ⟨hV a b hv, hm⟩)

theorem SimAt.pure {α β : Type} {V : α → β → Prop} {a : α} {b : β} {l₁ l₂ : Local}
    (hn : n' ≤ n) (h : V a b) :
    SimAt pre top n n' l₁ l₂ (Pure.pure a : M α) (Pure.pure b : M β) V := by
  intro e₁ e₂ hr
  exact ⟨h, hr.mono hn⟩

theorem Sim.pure {α β : Type} {V : α → β → Prop} {a : α} {b : β} (hn : n' ≤ n) (h : V a b) :
    Sim pre top n n' (Pure.pure a : M α) (Pure.pure b : M β) V :=
  fun _ _ => SimAt.pure hn h

theorem SimAt.raise {α β : Type} {V : α → β → Prop} {x₁ x₂ : Exn} {l₁ l₂ : Local}
    (h : ExnRel pre x₁ x₂) :
    SimAt pre top n n' l₁ l₂ (M.raise x₁ : M α) (M.raise x₂ : M β) V := by
  intro e₁ e₂ hr
  exact ⟨h, hr.env⟩

theorem Sim.raise {α β : Type} {V : α → β → Prop} {x₁ x₂ : Exn} (h : ExnRel pre x₁ x₂) :
    Sim pre top n n' (M.raise x₁ : M α) (M.raise x₂ : M β) V :=
  fun _ _ => SimAt.raise h

theorem Sim.raise_eq {α β : Type} {V : α → β → Prop} (x : Exn) :
    Sim pre top n n' (M.raise x : M α) (M.raise x : M β) V := Sim.raise (Or.inl rfl)

theorem Sim.foreign {α β : Type} {V : α → β → Prop} (a b : String) :
    Sim pre top n n' (M.foreign a b : M α) (M.foreign a b : M β) V := Sim.raise_eq _

theorem SimAt.foreign {α β : Type} {V : α → β → Prop} {l₁ l₂ : Local} (a b : String) :
    SimAt pre top n n' l₁ l₂ (M.foreign a b : M α) (M.foreign a b : M β) V :=
  Sim.foreign a b l₁ l₂

/-- the one bind rule: the exit level of the first computation may depend on its result -/
theorem OutRelL.bind {α β γ δ : Type} {m₁ : M α} {m₂ : M β} {f₁ : α → M γ} {f₂ : β → M δ}
    {V : α → β → Prop} {W : γ → δ → Prop} {K : α → Nat} {L : γ → Nat} {l₁ l₂ : Local} {e₁ e₂ : Env}
    (h : OutRelL pre top K V (M.run m₁ l₁ e₁) (M.run m₂ l₂ e₂))
    (hf : ∀ a b, V a b → SimL pre top (K a) L (f₁ a) (f₂ b) W) :
    OutRelL pre top L W (M.run (m₁ >>= f₁) l₁ e₁) (M.run (m₂ >>= f₂) l₂ e₂) := by
  rw [M.run_bind, M.run_bind]
  rcases h1 : M.run m₁ l₁ e₁ with ⟨r₁, e₁'⟩
  rcases h2 : M.run m₂ l₂ e₂ with ⟨r₂, e₂'⟩
  rw [h1, h2] at h
  cases r₁ with
  | error x₁ =>
    cases r₂ with
    | error x₂ => exact h
    | ok v₂ => exact h.elim
  | ok v₁ =>
    obtain ⟨a₁, l₁'⟩ := v₁
    cases r₂ with
    | error x₂ => exact h.elim
    | ok v₂ =>
      obtain ⟨a₂, l₂'⟩ := v₂
      exact hf a₁ a₂ h.1 l₁' l₂' e₁' e₂' h.2

theorem SimL.of_sim {α β : Type} {m₁ : M α} {m₂ : M β} {V : α → β → Prop} {L : α → Nat}
    (h : Sim pre top n n' m₁ m₂ V) (hL : ∀ a, L a ≤ n') : SimL pre top n L m₁ m₂ V :=
  fun l₁ l₂ e₁ e₂ hr => (outRelL_const.2 (h l₁ l₂ e₁ e₂ hr)).imp fun a _ hv => ⟨hv, hL a⟩

theorem SimL.to_sim {α β : Type} {m₁ : M α} {m₂ : M β} {V : α → β → Prop}
    (h : SimL pre top n (fun _ => n') m₁ m₂ V) : Sim pre top n n' m₁ m₂ V :=
  fun l₁ l₂ e₁ e₂ hr => outRelL_const.1 (h l₁ l₂ e₁ e₂ hr)

theorem SimL.pure {α β : Type} {V : α → β → Prop} {L : α → Nat} {a : α} {b : β}
    (hn : L a ≤ n) (h : V a b) :
    SimL pre top n L (Pure.pure a : M α) (Pure.pure b : M β) V := by
  intro l₁ l₂ e₁ e₂ hr
  exact ⟨h, hr.mono hn⟩

theorem SimL.bind {α β γ δ : Type} {m₁ : M α} {m₂ : M β} {f₁ : α → M γ} {f₂ : β → M δ}
    {V : α → β → Prop} {W : γ → δ → Prop} {mid : Nat} {L : γ → Nat}
    (hm : Sim pre top n mid m₁ m₂ V)
    (hf : ∀ a b, V a b → SimL pre top mid L (f₁ a) (f₂ b) W) :
    SimL pre top n L (m₁ >>= f₁) (m₂ >>= f₂) W :=
  fun l₁ l₂ e₁ e₂ hr => (outRelL_const.2 (hm l₁ l₂ e₁ e₂ hr)).bind hf

theorem SimAt.bind {α β γ δ : Type} {m₁ : M α} {m₂ : M β} {f₁ : α → M γ} {f₂ : β → M δ}
    {V : α → β → Prop} {W : γ → δ → Prop} {mid : Nat} {l₁ l₂ : Local}
    (hm : SimAt pre top n mid l₁ l₂ m₁ m₂ V)
    (hf : ∀ a b, V a b → Sim pre top mid n' (f₁ a) (f₂ b) W) :
    SimAt pre top n n' l₁ l₂ (m₁ >>= f₁) (m₂ >>= f₂) W :=
  fun e₁ e₂ hr => outRelL_const.1 ((outRelL_const.2 (hm e₁ e₂ hr)).bind
    fun a b h => SimL.of_sim (hf a b h) fun _ => Nat.le_refl _)

theorem Sim.bind {α β γ δ : Type} {m₁ : M α} {m₂ : M β} {f₁ : α → M γ} {f₂ : β → M δ}
    {V : α → β → Prop} {W : γ → δ → Prop} {mid : Nat}
    (hm : Sim pre top n mid m₁ m₂ V)
    (hf : ∀ a b, V a b → Sim pre top mid n' (f₁ a) (f₂ b) W) :
    Sim pre top n n' (m₁ >>= f₁) (m₂ >>= f₂) W :=
  fun l₁ l₂ => SimAt.bind (hm l₁ l₂) hf

/-- bind of the same continuation after equal results -/
theorem Sim.bindEq {α γ δ : Type} {m₁ m₂ : M α} {f₁ : α → M γ} {f₂ : α → M δ}
    {W : γ → δ → Prop} {mid : Nat}
    (hm : Sim pre top n mid m₁ m₂ Eq)
    (hf : ∀ a, Sim pre top mid n' (f₁ a) (f₂ a) W) :
    Sim pre top n n' (m₁ >>= f₁) (m₂ >>= f₂) W :=
  Sim.bind hm (fun a b hab => by subst hab; exact hf a)

theorem SimAt.bindEq {α γ δ : Type} {m₁ m₂ : M α} {f₁ : α → M γ} {f₂ : α → M δ}
    {W : γ → δ → Prop} {mid : Nat} {l₁ l₂ : Local}
    (hm : SimAt pre top n mid l₁ l₂ m₁ m₂ Eq)
    (hf : ∀ a, Sim pre top mid n' (f₁ a) (f₂ a) W) :
    SimAt pre top n n' l₁ l₂ (m₁ >>= f₁) (m₂ >>= f₂) W :=
  SimAt.bind hm (fun a b hab => by subst hab; exact hf a)

theorem SimAt.mono {α β : Type} {m₁ : M α} {m₂ : M β} {V W : α → β → Prop} {a b : Nat}
    {l₁ l₂ : Local}
    (h : SimAt pre top a b l₁ l₂ m₁ m₂ V) (hn : a ≤ n) (hn' : n' ≤ b) (hV : ∀ x y, V x y → W x y) :
    SimAt pre top n n' l₁ l₂ m₁ m₂ W := by
  intro e₁ e₂ hr
  exact (h e₁ e₂ (hr.mono hn)).weaken hV hn'

theorem Sim.mono {α β : Type} {m₁ : M α} {m₂ : M β} {V W : α → β → Prop} {a b : Nat}
    (h : Sim pre top a b m₁ m₂ V) (hn : a ≤ n) (hn' : n' ≤ b) (hV : ∀ x y, V x y → W x y) :
    Sim pre top n n' m₁ m₂ W :=
  fun l₁ l₂ => (h l₁ l₂).mono hn hn' hV

theorem Sim.lvl {α β : Type} {m₁ : M α} {m₂ : M β} {V : α → β → Prop} {a b : Nat}
    (h : Sim pre top a b m₁ m₂ V) (hn : a ≤ n) (hn' : n' ≤ b) :
    Sim pre top n n' m₁ m₂ V := h.mono hn hn' (fun _ _ h => h)

theorem Sim.weaken {α β : Type} {m₁ : M α} {m₂ : M β} {V W : α → β → Prop}
    (h : Sim pre top n n' m₁ m₂ V) (hV : ∀ x y, V x y → W x y) :
    Sim pre top n n' m₁ m₂ W := h.mono (Nat.le_refl _) (Nat.le_refl _) hV

/-- the relation on the results of two loop bodies -/
def SumRel {σ τ α β : Type} (S : σ → τ → Prop) (V : α → β → Prop) (x : σ ⊕ α) (y : τ ⊕ β) : Prop :=
  match x, y with
  | .inl s', .inl t' => S s' t'
  | .inr a, .inr b => V a b
  | _, _ => False

/-- the relation on loop results for a loop state compared by equality -/
abbrev SumEq {σ α β : Type} (V : α → β → Prop) : σ ⊕ α → σ ⊕ β → Prop := SumRel Eq V

/-- equal results of a sum type are `SumEq Eq` -/
theorem sumEq_of_eq {σ α : Type} {x y : σ ⊕ α} (h : x = y) : SumEq Eq x y := by
  subst h; cases x <;> rfl

/-- `get >>= k`: the continuations are compared at the two related states read -/
theorem Sim.get_bind {α β : Type} {k₁ : Local → M α} {k₂ : Local → M β} {V : α → β → Prop}
    (h : ∀ l₁ l₂, LocRel (kOf pre top) l₁ l₂ → SimAt pre top n n' l₁ l₂ (k₁ l₁) (k₂ l₂) V) :
    Sim pre top n n' (get >>= k₁) (get >>= k₂) V := by
  intro l₁ l₂ e₁ e₂ hr
  exact h l₁ l₂ hr.loc e₁ e₂ hr

theorem Sim.getThe_bind {α β : Type} {k₁ : Local → M α} {k₂ : Local → M β} {V : α → β → Prop}
    (h : ∀ l₁ l₂, LocRel (kOf pre top) l₁ l₂ → SimAt pre top n n' l₁ l₂ (k₁ l₁) (k₂ l₂) V) :
    Sim pre top n n' (getThe Local >>= k₁) (getThe Local >>= k₂) V := Sim.get_bind h

/-- the states reached are described by the caller -/
theorem SimAt.set {l₁ l₂ l₁' l₂' : Local}
    (h : ∀ e₁ e₂, Rel pre top n l₁ e₁ l₂ e₂ → Rel pre top n' l₁' e₁ l₂' e₂) :
    SimAt pre top n n' l₁ l₂ (set l₁' : M Unit) (set l₂' : M Unit) (fun _ _ => True) := by
  intro e₁ e₂ hr
  exact ⟨True.intro, h e₁ e₂ hr⟩

theorem Sim.modify {f₁ f₂ : Local → Local}
    (h : ∀ l₁ e₁ l₂ e₂, Rel pre top n l₁ e₁ l₂ e₂ → Rel pre top n' (f₁ l₁) e₁ (f₂ l₂) e₂) :
    Sim pre top n n' (modify f₁ : M Unit) (modify f₂ : M Unit) (fun _ _ => True) := by
  intro l₁ l₂ e₁ e₂ hr
  exact ⟨True.intro, h l₁ e₁ l₂ e₂ hr⟩

/-- a state update that keeps tape, look-ahead slot and options -/
theorem Rel.update {l₁ l₂ l₁' l₂' : Local} {e₁ e₂ : Env} (hr : Rel pre top n l₁ e₁ l₂ e₂)
    (hloc : LocRel (kOf pre top) l₁' l₂') (ht : l₁'.tape = l₁.tape)
    (he : l₁'.eolLookahead = l₁.eolLookahead) (ho : l₁'.opts = l₁.opts) :
    Rel pre top n l₁' e₁ l₂' e₂ :=
  { env := hr.env, loc := hloc, mode := by rw [ht]; exact hr.mode, room := hr.room,
    eolOK := by rw [he]; exact hr.eolOK,
    proc := by have := hr.proc; unfold proceedOf at this ⊢; rw [ho]; exact this }

/-- the unary logic can be used on the first run -/
theorem Sim.and_sat {α β : Type} {m₁ : M α} {m₂ : M β} {V : α → β → Prop} {P : α → Prop}
    (h : Sim pre top n n' m₁ m₂ V) (hs : M.Sat m₁ P) :
    Sim pre top n n' m₁ m₂ (fun a b => V a b ∧ P a) := by
  intro l₁ l₂ e₁ e₂ hr
  have h1 := h l₁ l₂ e₁ e₂ hr
  have h2 := hs l₁ e₁
  rcases r1 : M.run m₁ l₁ e₁ with ⟨x₁, e₁'⟩
  rcases r2 : M.run m₂ l₂ e₂ with ⟨x₂, e₂'⟩
  rw [r1, r2] at h1
  rw [r1] at h2
  cases x₁ with
  | error a => cases x₂ with
    | error b => exact h1
    | ok b => exact h1
  | ok a => cases x₂ with
    | error b => exact h1
    | ok b => exact ⟨⟨h1.1, h2⟩, h1.2⟩

theorem SimL.bindEq {α γ δ : Type} {m₁ m₂ : M α} {f₁ : α → M γ} {f₂ : α → M δ}
    {W : γ → δ → Prop} {mid : Nat} {L : γ → Nat}
    (hm : Sim pre top n mid m₁ m₂ Eq)
    (hf : ∀ a, SimL pre top mid L (f₁ a) (f₂ a) W) :
    SimL pre top n L (m₁ >>= f₁) (m₂ >>= f₂) W :=
  SimL.bind hm (fun a b hab => by subst hab; exact hf a)

theorem SimL.bindU {γ δ : Type} {m₁ m₂ : M Unit} {f₁ : Unit → M γ} {f₂ : Unit → M δ}
    {W : γ → δ → Prop} {mid : Nat} {L : γ → Nat}
    (hm : Sim pre top n mid m₁ m₂ (fun _ _ => True))
    (hf : SimL pre top mid L (f₁ ()) (f₂ ()) W) :
    SimL pre top n L (m₁ >>= f₁) (m₂ >>= f₂) W :=
  SimL.bind hm (fun a b _ => hf)

/-- a conditional in both runs, the two conditions equivalent: any relation between the programs
    is shown branch by branch -/
theorem ite_rel {α β : Type} {P : α → β → Prop} {c₁ c₂ : Prop} [Decidable c₁] [Decidable c₂]
    {a₁ b₁ : α} {a₂ b₂ : β} (h : c₂ ↔ c₁) (ha : c₁ → P a₁ a₂) (hb : ¬ c₁ → P b₁ b₂) :
    P (if c₁ then a₁ else b₁) (if c₂ then a₂ else b₂) := by
  by_cases hc : c₁
  · rw [if_pos hc, if_pos (h.2 hc)]; exact ha hc
  · rw [if_neg hc, if_neg (fun x => hc (h.1 x))]; exact hb hc

theorem SimL.ite {α β : Type} {c : Prop} [Decidable c] {a₁ b₁ : M α} {a₂ b₂ : M β}
    {V : α → β → Prop} {L : α → Nat}
    (ha : c → SimL pre top n L a₁ a₂ V) (hb : ¬ c → SimL pre top n L b₁ b₂ V) :
    SimL pre top n L (if c then a₁ else b₁) (if c then a₂ else b₂) V :=
  ite_rel (P := (SimL pre top n L · · V)) Iff.rfl ha hb

/-- the exit levels of a loop body: `n` to iterate, `n'` to leave -/
def loopLvl {σ α : Type} (n n' : Nat) : σ ⊕ α → Nat
  | .inl _ => n
  | .inr _ => n'

/-- lock-step loops; the path that leaves the loop may end at another level -/
theorem Sim.loopL {σ τ α β : Type} {site : String} {b₁ : σ → M (σ ⊕ α)} {b₂ : τ → M (τ ⊕ β)}
    {S : σ → τ → Prop} {V : α → β → Prop}
    (hb : ∀ s t, S s t → SimL pre top n (loopLvl n n') (b₁ s) (b₂ t) (SumRel S V)) :
    ∀ (fuel : Nat) (s : σ) (t : τ), S s t →
      Sim pre top n n' (M.loop site b₁ fuel s) (M.loop site b₂ fuel t) V
  | 0, s, t, _ => Sim.raise_eq _
  | fuel + 1, s, t, hst => by
    refine SimL.to_sim fun l₁ l₂ e₁ e₂ hr => ?_
    show OutRelL pre top _ V (M.run (b₁ s >>= _) l₁ e₁) (M.run (b₂ t >>= _) l₂ e₂)
    refine (hb s t hst l₁ l₂ e₁ e₂ hr).bind fun x y hxy => ?_
    cases x with
    | inl s' =>
      cases y with
      | inl t' => exact SimL.of_sim (Sim.loopL hb fuel s' t' hxy) fun _ => Nat.le_refl _
      | inr b => exact hxy.elim
    | inr a =>
      cases y with
      | inl t' => exact hxy.elim
      | inr b => exact SimL.pure (Nat.le_refl _) hxy

theorem Sim.loop {σ τ α β : Type} {site : String} {b₁ : σ → M (σ ⊕ α)} {b₂ : τ → M (τ ⊕ β)}
    {S : σ → τ → Prop} {V : α → β → Prop}
    (hb : ∀ s t, S s t → Sim pre top n n (b₁ s) (b₂ t) (SumRel S V)) :
    ∀ (fuel : Nat) (s : σ) (t : τ), S s t →
      Sim pre top n n (M.loop site b₁ fuel s) (M.loop site b₂ fuel t) V :=
  Sim.loopL fun s t h => SimL.of_sim (hb s t h) fun x => by cases x <;> exact Nat.le_refl _

theorem Sim.loopEq {σ α β : Type} {site : String} {b₁ : σ → M (σ ⊕ α)} {b₂ : σ → M (σ ⊕ β)}
    {V : α → β → Prop} (hb : ∀ s, Sim pre top n n (b₁ s) (b₂ s) (SumEq V)) (fuel : Nat) (s : σ) :
    Sim pre top n n (M.loop site b₁ fuel s) (M.loop site b₂ fuel s) V :=
  Sim.loop (S := Eq) (fun s t hst => by subst hst; exact hb s) fuel s s rfl

/-- loops whose first iteration starts from another level -/
theorem Sim.loopFrom {σ τ α β : Type} {site : String} {b₁ : σ → M (σ ⊕ α)} {b₂ : τ → M (τ ⊕ β)}
    {S : σ → τ → Prop} {V : α → β → Prop} {n₀ : Nat}
    (hb0 : ∀ s t, S s t → Sim pre top n₀ n (b₁ s) (b₂ t) (SumRel S V))
    (hb : ∀ s t, S s t → Sim pre top n n (b₁ s) (b₂ t) (SumRel S V)) :
    ∀ (fuel : Nat) (s : σ) (t : τ), S s t →
      Sim pre top n₀ n (M.loop site b₁ fuel s) (M.loop site b₂ fuel t) V
  | 0, s, t, _ => Sim.raise_eq _
  | fuel + 1, s, t, hst => by
    show Sim pre top n₀ n (b₁ s >>= _) (b₂ t >>= _) V
    refine Sim.bind (hb0 s t hst) ?_
    intro x y hxy
    cases x with
    | inl s' =>
      cases y with
      | inl t' => exact Sim.loop hb fuel s' t' hxy
      | inr b => exact hxy.elim
    | inr a =>
      cases y with
      | inl t' => exact hxy.elim
      | inr b => exact Sim.pure (Nat.le_refl _) hxy

/-! ## readers of the token history -/

theorem Neutral.is_eq {t : Token} (h : Neutral t) {ty : TokType} (hty : ty ≠ .NEWLINE) :
    t.is ty = false := by
  unfold Token.is
  rcases h with ⟨h1, _⟩ | ⟨h1, _⟩
  · rw [h1]; rfl
  · rw [h1]
    simp only [beq_eq_false_iff_ne, ne_eq, Option.some.injEq]
    exact fun h => hty h.symm

/-- `tok.ttype == X` for any `X` but NEWLINE -/
theorem HEq.is_eq {t₁ t₂ : Token} (h : HEq t₁ t₂) {ty : TokType} (hty : ty ≠ .NEWLINE) :
    t₂.is ty = t₁.is ty := by
  rcases h with ⟨h1, _⟩ | ⟨h1, h2⟩
  · unfold Token.is; rw [h1]
  · rw [h1.is_eq hty, h2.is_eq hty]

/-- `tok.value == v` for any `v` but `None` and `"\n"` -/
theorem HEq.value_beq {t₁ t₂ : Token} (h : HEq t₁ t₂) {v : TVal} (h1 : v ≠ .none)
    (h2 : v ≠ .str ['\n']) : (t₂.value == v) = (t₁.value == v) := by
  rcases h with ⟨_, hv⟩ | ⟨ha, hb⟩
  · rw [hv]
  · have : ∀ t : Token, Neutral t → (t.value == v) = false := by
      intro t ht
      rcases ht with ⟨_, hv⟩ | ⟨_, hv⟩ <;> rw [hv] <;> simp only [beq_eq_false_iff_ne, ne_eq]
      · exact fun h => h1 h.symm
      · exact fun h => h2 h.symm
    rw [this _ ha, this _ hb]

theorem Neutral.rwa {t : Token} (h : Neutral t) (l : Local) : reservedWordAcceptable l t = true := by
  unfold reservedWordAcceptable
  rcases h with ⟨h1, h2⟩ | ⟨h1, h2⟩
  · simp [Token.truthy, h1, h2]
  · simp [h1, h2, reservedChars]

/-- `_reserved_word_acceptable(tok)` -/
theorem HEq.rwa {k : Nat} {l₁ l₂ : Local} (hl : LocRel k l₁ l₂) {t₁ t₂ : Token} (h : HEq t₁ t₂) :
    reservedWordAcceptable l₂ t₂ = reservedWordAcceptable l₁ t₁ := by
  rcases h with ⟨h1, h2⟩ | ⟨ha, hb⟩
  · unfold reservedWordAcceptable Token.truthy
    rw [h1, h2, hl.last.is_eq (by decide), hl.before.is_eq (by decide)]
  · rw [ha.rwa, hb.rwa]

theorem HEq.ctp {k : Nat} {l₁ l₂ : Local} (hl : LocRel k l₁ l₂) {t₁ t₂ : Token} (h : HEq t₁ t₂) :
    commandTokenPosition l₂ t₂ = commandTokenPosition l₁ t₁ := by
  unfold commandTokenPosition
  rw [h.rwa hl, h.is_eq (by decide), h.is_eq (by decide), h.is_eq (by decide),
    h.is_eq (by decide), hl.ps]

theorem HEq.aa {k : Nat} {l₁ l₂ : Local} (hl : LocRel k l₁ l₂) {t₁ t₂ : Token} (h : HEq t₁ t₂) :
    assignmentAcceptable l₂ t₂ = assignmentAcceptable l₁ t₁ := by
  unfold assignmentAcceptable
  rw [h.ctp hl, hl.ps]

end Bashlex.C14
