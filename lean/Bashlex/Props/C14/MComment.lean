/-
  C14More: consuming a LAYOUT prefix — blanks, tabs, newlines and comment lines.

  `Prefix.lean` peels a prefix of blanks and newlines one character at a time.  Here the prefix
  may hold comments `# … ⏎` as well: `_readtoken` skips a comment with `_discard_until('\n')`
  (reads with `_getc(False)`, so a backslash-newline inside a comment is NOT a continuation),
  un-gets the newline, reads it again and delivers it as a NEWLINE token — the same token the bare
  newline would have given; the LR engine shifts it in state 0 without pushing it.  So a comment
  line costs fuel only (one iteration of the `_discard_until` loop per character), and unless the
  run runs out of fuel it ends like the run started behind the prefix.

  `Skips depth lim e j` says that of the text between the cursor of `e` and `j`; it is reflexive
  and transitive, and a piece of layout is passed in one of two ways: `_readtoken` itself goes on
  behind it (`Skips.of_readtoken`: blank, tab, backslash-newline), or `_readtoken` delivers a
  NEWLINE token that the engine drops (`Skips.of_newline`: newline, comment line).
  `skips_layout` is the induction on `Layout`.
-/
import Bashlex.Props.C14.Prefix

namespace Bashlex.C14
open Bashlex Bashlex.C10 Bashlex.C12 Bashlex.LR
set_option linter.unusedSimpArgs false

/-! ## layout -/

/-- **layout**: the language `([ \t\n] | #[^\n]*\n | \\\n)*` — lines of blanks and tabs, each
    optionally ending in a comment, each ended by a newline, followed by blanks and tabs; a
    backslash-newline pair may stand wherever a blank may -/
inductive Layout : Str → Prop
  | nil : Layout []
  | blank {c : Char} {r : Str} (h : c = ' ' ∨ c = '\t' ∨ c = '\n') (hr : Layout r) : Layout (c :: r)
  | comment {r : Str} (body : Str) (hb : ∀ c ∈ body, c ≠ '\n') (hr : Layout r) :
      Layout ('#' :: (body ++ '\n' :: r))
  /-- a line continuation between layout characters (not inside a comment: `_discard_until`
      reads with `_getc(False)`) -/
  | cont {r : Str} (hr : Layout r) : Layout ('\\' :: '\n' :: r)

theorem layout_of_blankNL {pre : Str} (h : BlankNL pre) : Layout pre := by
  induction pre with
  | nil => exact .nil
  | cons c r ih =>
    exact .blank (h c (List.mem_cons_self ..)) (ih (fun d hd => h d (List.mem_cons_of_mem _ hd)))

theorem Layout.append {a b : Str} (ha : Layout a) (hb : Layout b) : Layout (a ++ b) := by
  induction ha with
  | nil => exact hb
  | blank h _ ih => exact .blank h ih
  | @comment r body hbody _ ih =>
    have : '#' :: (body ++ '\n' :: r) ++ b = '#' :: (body ++ '\n' :: (r ++ b)) := by simp
    rw [this]
    exact .comment body hbody ih
  | cont _ ih => exact .cont ih

/-- the boolean recogniser of `Layout` (`layout_iff_layoutB`); `inC`: inside a comment -/
def layoutB : Bool → Str → Bool
  | inC, [] => !inC
  | false, c :: r =>
    if c == ' ' || c == '\t' || c == '\n' then layoutB false r
    else if c == '#' then layoutB true r
    else if c == '\\' then
      match r with
      | d :: r' => d == '\n' && layoutB false r'
      | [] => false
    else false
  | true, c :: r => if c == '\n' then layoutB false r else layoutB true r

theorem layoutB_false_cons (c : Char) (r : Str) :
    layoutB false (c :: r) =
      if c == ' ' || c == '\t' || c == '\n' then layoutB false r
      else if c == '#' then layoutB true r
      else if c == '\\' then
        match r with
        | d :: r' => d == '\n' && layoutB false r'
        | [] => false
      else false := by
  cases r <;> rfl

theorem layoutB_true_cons (c : Char) (r : Str) :
    layoutB true (c :: r) = if c == '\n' then layoutB false r else layoutB true r := by
  rfl

theorem layout_of_layoutB_aux : ∀ (n : Nat) (s : Str), s.length ≤ n →
    (layoutB false s = true → Layout s) ∧
    (layoutB true s = true → ∃ body r, s = body ++ '\n' :: r ∧ (∀ c ∈ body, c ≠ '\n') ∧ Layout r) := by
  intro n
  induction n with
  | zero =>
    intro s hs
    have : s = [] := List.length_eq_zero_iff.1 (Nat.le_zero.1 hs)
    subst this
    exact ⟨fun _ => .nil, fun h => by simp [layoutB] at h⟩
  | succ n ih =>
    intro s hs
    cases s with
    | nil => exact ⟨fun _ => .nil, fun h => by simp [layoutB] at h⟩
    | cons c r =>
      have hr : r.length ≤ n := by simp only [List.length_cons] at hs; omega
      obtain ⟨ih1, ih2⟩ := ih r hr
      constructor
      · intro h
        rw [layoutB_false_cons] at h
        by_cases hc : (c == ' ' || c == '\t' || c == '\n') = true
        · rw [if_pos hc] at h
          refine .blank ?_ (ih1 h)
          simp only [Bool.or_eq_true, beq_iff_eq] at hc
          rcases hc with (hc | hc) | hc
          · exact .inl hc
          · exact .inr (.inl hc)
          · exact .inr (.inr hc)
        · rw [if_neg hc] at h
          by_cases h2 : (c == '#') = true
          · rw [if_pos h2] at h
            obtain ⟨body, r', rfl, hb, hl⟩ := ih2 h
            rw [beq_iff_eq.1 h2]
            exact .comment body hb hl
          · rw [if_neg h2] at h
            by_cases h3 : (c == '\\') = true
            · rw [if_pos h3] at h
              cases r with
              | nil => cases h
              | cons d r' =>
                simp only [Bool.and_eq_true, beq_iff_eq] at h
                rw [beq_iff_eq.1 h3, h.1]
                exact .cont ((ih r' (by simp only [List.length_cons] at hr; omega)).1 h.2)
            · rw [if_neg h3] at h; cases h
      · intro h
        rw [layoutB_true_cons] at h
        by_cases hc : (c == '\n') = true
        · rw [if_pos hc] at h
          rw [beq_iff_eq.1 hc]
          exact ⟨[], r, rfl, fun _ hx => absurd hx (List.not_mem_nil), ih1 h⟩
        · rw [if_neg hc] at h
          obtain ⟨body, r', rfl, hb, hl⟩ := ih2 h
          refine ⟨c :: body, r', rfl, ?_, hl⟩
          intro d hd
          rcases List.mem_cons.1 hd with rfl | hd
          · intro e; rw [e] at hc; exact hc rfl
          · exact hb d hd

theorem layout_of_layoutB {s : Str} (h : layoutB false s = true) : Layout s :=
  (layout_of_layoutB_aux s.length s (Nat.le_refl _)).1 h

theorem layoutB_comment (body r : Str) (hb : ∀ c ∈ body, c ≠ '\n') :
    layoutB true (body ++ '\n' :: r) = layoutB false r := by
  induction body with
  | nil => rw [List.nil_append, layoutB_true_cons, if_pos (by decide)]
  | cons b bs ih =>
    have hbn : (b == '\n') = false := by
      have := hb b (List.mem_cons_self ..)
      simpa using this
    rw [List.cons_append, layoutB_true_cons, hbn, if_neg (by decide)]
    exact ih (fun c hc => hb c (List.mem_cons_of_mem _ hc))

theorem layoutB_of_layout {s : Str} (h : Layout s) : layoutB false s = true := by
  induction h with
  | nil => rfl
  | @blank c r hc _ ih =>
    rw [layoutB_false_cons, if_pos]
    · exact ih
    · rcases hc with rfl | rfl | rfl <;> decide
  | @comment r body hb _ ih =>
    rw [layoutB_false_cons, if_neg (by decide), if_pos (by decide), layoutB_comment body r hb]
    exact ih
  | @cont r _ ih =>
    rw [layoutB_false_cons, if_neg (by decide), if_neg (by decide), if_pos (by decide)]
    simp only [ih, Bool.and_true, beq_self_eq_true]

/-- `Layout` is decidable (evaluate with `decide +kernel`: the elaborator's `decide` is slow on
    character comparisons) -/
theorem layout_iff_layoutB (s : Str) : Layout s ↔ layoutB false s = true :=
  ⟨layoutB_of_layout, layout_of_layoutB⟩

instance (s : Str) : Decidable (Layout s) := decidable_of_iff _ (layout_iff_layoutB s).symm

/-! ## a line continuation under the cursor -/

/-- more tape fuel than needed changes nothing -/
theorem tgetc_fuel (rqn : Bool) : ∀ (f : Nat) (t : Tape), t.line.length < f + t.idx →
    t.getc rqn (f + 1) = t.getc rqn f := by
  intro f
  induction f with
  | zero =>
    intro t h
    rw [Tape.getc_succ, List.getElem?_eq_none (by omega)]
    rfl
  | succ f ih =>
    intro t h
    rw [Tape.getc_succ, Tape.getc_succ t rqn f]
    have := ih { t with idx := t.idx + 2 } (by simp only; omega)
    rw [this]

/-- two runs end alike: identically, or both raise the same exception (the environments of two
    failed runs may differ: a failed `_getc` leaves the cursor where it was) -/
def Alike {α : Type} (r r' : Except Exn (α × Local) × Env) : Prop :=
  r = r' ∨ ∃ x, r.1 = .error x ∧ r'.1 = .error x


theorem Alike.trans {α : Type} {a b c : Except Exn (α × Local) × Env} (h1 : Alike a b)
    (h2 : Alike b c) : Alike a c := by
  rcases h1 with rfl | ⟨x, hx1, hx2⟩
  · exact h2
  · rcases h2 with rfl | ⟨y, hy1, hy2⟩
    · exact .inr ⟨x, hx1, hx2⟩
    · rw [hx2] at hy1; cases hy1; exact .inr ⟨x, hx1, hy2⟩

theorem Alike.bind {α γ : Type} {m : M α} (f : α → M γ) {l l' : Local} {e e' : Env}
    (h : Alike (M.run m l e) (M.run m l' e')) :
    Alike (M.run (m >>= f) l e) (M.run (m >>= f) l' e') := by
  rcases h with h | ⟨x, h1, h2⟩
  · exact .inl (run_bind_congr f h)
  · right
    refine ⟨x, ?_, ?_⟩
    · rw [M.run_bind]
      rcases hr : M.run m l e with ⟨r, e1⟩
      rw [hr] at h1; simp only at h1; subst h1; rfl
    · rw [M.run_bind]
      rcases hr : M.run m l' e' with ⟨r, e1⟩
      rw [hr] at h2; simp only at h2; subst h2; rfl

theorem Alike.isOOF {α : Type} {a b : Except Exn (α × Local) × Env} (h : Alike a b) :
    IsOOF a ↔ IsOOF b := by
  rcases h with rfl | ⟨x, h1, h2⟩
  · exact Iff.rfl
  · unfold IsOOF; rw [h1, h2]

theorem Alike.resOf {a b : Except Exn (Option Node × Local) × Env} (h : Alike a b) :
    resOf a = resOf b := by
  rcases h with rfl | ⟨x, h1, h2⟩
  · rfl
  · unfold C14.resOf; rw [h1, h2]

/-- `_getc(True)` on a backslash-newline pair is `_getc(True)` behind it -/
theorem run_getc_cont (l : Local) (e : Env) (hl : l.tape = none) (heol : l.eolLookahead = none)
    (r : Str) (hd : e.tape.line.drop e.tape.idx = '\\' :: '\n' :: r) :
    Alike (M.run (getc true) l e) (M.run (getc true) l (envAt e (e.tape.idx + 2))) := by
  obtain ⟨hc, hd', hlt⟩ := drop_cons hd
  obtain ⟨hc', _, hlt'⟩ := drop_cons hd'
  rw [run_getc true l e heol, run_getc true l _ heol, tapeOf_none hl, tapeOf_none hl]
  have h1 : e.tape.getc true (e.tape.line.length + 1) =
      Tape.getc { e.tape with idx := e.tape.idx + 1 + 1 } true e.tape.line.length :=
    tgetc_bs_nl e.tape true _ '\\' '\n' hlt hc (by decide) hc' (by decide)
  have h2 : (envAt e (e.tape.idx + 2)).tape.getc true ((envAt e (e.tape.idx + 2)).tape.line.length + 1) =
      Tape.getc { e.tape with idx := e.tape.idx + 1 + 1 } true e.tape.line.length :=
    tgetc_fuel true _ _ (by simp only [envAt]; omega)
  rw [h1, h2]
  cases Tape.getc { e.tape with idx := e.tape.idx + 1 + 1 } true e.tape.line.length with
  | error u => exact .inr ⟨_, rfl, rfl⟩
  | ok v =>
    left
    simp only [putE_none hl, envAt]

/-- … hence `_readtoken` with the cursor on the pair is `_readtoken` behind it -/
theorem run_readtoken_cont (l : Local) (e : Env) (hl : l.tape = none)
    (heol : l.eolLookahead = none) (r : Str)
    (hd : e.tape.line.drop e.tape.idx = '\\' :: '\n' :: r) :
    Alike (M.run readtoken l e) (M.run readtoken l (envAt e (e.tape.idx + 2))) := by
  rw [readtoken_eq]
  exact (run_getc_cont l e hl heol r hd).bind _

/-! ## `_discard_until('\n')` on a comment -/

/-- the loop of `_discard_until('\n')` -/
def duBody (c : Option Char) : M (Option Char ⊕ Option Char) := do
  match c with
  | none => return .inr c
  | some ch => if ch != '\n' then return .inl (← getc false) else return .inr c

theorem discardUntil_eq : discardUntil '\n' = (do
    let c ← getc false
    let c ← M.loop "_discard_until" duBody 1073741824 c
    if c.isSome then ungetc c) := rfl

variable {β : Type}

theorem run_duLoop_zero (K : Option Char → M β) (c : Option Char) (l : Local) (e : Env) :
    IsOOF (M.run (M.loop "_discard_until" duBody 0 c >>= K) l e) := by
  rw [M.run_bind, run_loop_zero]
  exact ⟨_, rfl⟩

theorem run_duLoop_nl (K : Option Char → M β) (f : Nat) (l : Local) (e : Env) :
    M.run (M.loop "_discard_until" duBody (f + 1) (some '\n') >>= K) l e =
      M.run (K (some '\n')) l e := by
  rw [M.run_bind, run_loop_succ]
  have : M.run (duBody (some '\n')) l e = (.ok (.inr (some '\n'), l), e) := rfl
  rw [this]

theorem run_duLoop_other (K : Option Char → M β) (f : Nat) (b : Char) (hb : b ≠ '\n') (l : Local)
    (e : Env) :
    M.run (M.loop "_discard_until" duBody (f + 1) (some b) >>= K) l e =
      M.run (getc false >>= fun c => M.loop "_discard_until" duBody f c >>= K) l e := by
  have hne : (b != '\n') = true := by simpa using hb
  show M.run ((duBody (some b) >>= _) >>= K) l e = _
  unfold duBody
  simp only [hne, if_true, bind_assoc, pure_bind]

/-- reading a comment body up to its newline (any continuation `K`): out of fuel, or the newline
    has just been read -/
theorem run_duLoop (K : Option Char → M β) (l : Local) (hl : l.tape = none)
    (heol : l.eolLookahead = none) :
    ∀ (body : Str), (∀ c ∈ body, c ≠ '\n') → ∀ (f : Nat) (e : Env) (rest : Str),
      e.tape.line.drop e.tape.idx = body ++ '\n' :: rest →
      IsOOF (M.run (getc false >>= fun c => M.loop "_discard_until" duBody f c >>= K) l e) ∨
      M.run (getc false >>= fun c => M.loop "_discard_until" duBody f c >>= K) l e =
        M.run (K (some '\n')) l (envAt e (e.tape.idx + body.length + 1)) := by
  intro body
  induction body with
  | nil =>
    intro _ f e rest hd
    obtain ⟨hc, _, hlt⟩ := drop_cons hd
    rw [M.run_bind, run_getc_plain false l e '\n' hl heol hlt hc (by decide)]
    simp only []
    cases f with
    | zero => exact .inl (run_duLoop_zero K _ l _)
    | succ f => exact .inr (run_duLoop_nl K f l _)
  | cons b bs ih =>
    intro hb f e rest hd
    obtain ⟨hc, hd', hlt⟩ := drop_cons hd
    have hbn : b ≠ '\n' := hb b (List.mem_cons_self ..)
    rw [M.run_bind, run_getc_plain false l e b hl heol hlt hc (by simp)]
    simp only []
    cases f with
    | zero => exact .inl (run_duLoop_zero K _ l _)
    | succ f =>
      rw [run_duLoop_other K f b hbn]
      have := ih (fun c hc => hb c (List.mem_cons_of_mem _ hc)) f (envAt e (e.tape.idx + 1)) rest hd'
      simp only [envAt_envAt] at this
      have e1 : (envAt e (e.tape.idx + 1)).tape.idx + bs.length + 1 =
          e.tape.idx + (b :: bs).length + 1 := by
        simp only [envAt, List.length_cons]; omega
      rw [e1] at this
      exact this

theorem tungetc_pos (t : Tape) (h0 : 0 < t.idx) (hle : t.idx ≤ t.line.length) :
    t.ungetc = (true, { t with idx := t.idx - 1 }) := by
  have hne : t.line.isEmpty = false := by
    cases h : t.line with
    | nil => rw [h] at hle; simp at hle; omega
    | cons _ _ => rfl
  unfold Tape.ungetc
  rw [if_pos]
  simp only [hne, Bool.not_false, Bool.true_and, Bool.and_eq_true, bne_iff_ne, ne_eq,
    decide_eq_true_eq]
  exact ⟨by omega, hle⟩

theorem drop_len {L : Str} {i : Nat} {a : Str} (h : L.drop i = a) : a.length + i ≤ L.length ∨ a = [] := by
  subst h
  rcases Nat.lt_or_ge i L.length with h1 | h1
  · left; rw [List.length_drop]; omega
  · right; exact List.drop_eq_nil_of_le h1

/-- `_discard_until('\n')` with the cursor behind the `#` of a comment: out of fuel, or the cursor
    is on the newline that ends the comment -/
theorem run_discardUntil_comment (K : Unit → M β) (l : Local) (e : Env) (hl : l.tape = none)
    (heol : l.eolLookahead = none) (body rest : Str) (hb : ∀ c ∈ body, c ≠ '\n')
    (hd : e.tape.line.drop e.tape.idx = body ++ '\n' :: rest) :
    IsOOF (M.run (discardUntil '\n' >>= K) l e) ∨
    M.run (discardUntil '\n' >>= K) l e = M.run (K ()) l (envAt e (e.tape.idx + body.length)) := by
  have hrw : discardUntil '\n' >>= K =
      getc false >>= fun c => M.loop "_discard_until" duBody 1073741824 c >>= fun c =>
        ((if c.isSome then ungetc c else pure ()) >>= K) := by
    rw [discardUntil_eq]; simp only [bind_assoc]
  rw [hrw]
  rcases run_duLoop _ l hl heol body hb 1073741824 e rest hd with h | h
  · exact .inl h
  · right
    rw [h]
    simp only [Option.isSome_some, if_true]
    have hlen : e.tape.idx + body.length + 1 ≤ e.tape.line.length := by
      rcases drop_len hd with h1 | h1
      · simp only [List.length_append, List.length_cons] at h1; omega
      · simp at h1
    rw [M.run_bind, run_ungetc, tapeOf_none hl,
      tungetc_pos _ (by simp only [envAt]; omega) (by simp only [envAt]; exact hlen)]
    simp only [putL_none hl, putE_none hl, envAt, Nat.add_sub_cancel]

theorem drop_mid {L : Str} {j : Nat} {a : Str} {x : Char} {r : Str} (h : L.drop j = a ++ x :: r) :
    j + a.length < L.length ∧ L[j + a.length]? = some x := by
  have : L.drop (j + a.length) = x :: r := by
    rw [← List.drop_drop, h, List.drop_left]
  obtain ⟨h2, _, h1⟩ := drop_cons this
  exact ⟨h1, h2⟩

/-- `_readtoken` on a comment (no pending here-document): the NEWLINE that ends it -/
theorem run_readtoken_comment (l : Local) (e : Env) (hl : l.tape = none)
    (heol : l.eolLookahead = none) (hrs : l.redirstack = []) (body rest : Str)
    (hb : ∀ c ∈ body, c ≠ '\n')
    (hd : e.tape.line.drop e.tape.idx = '#' :: (body ++ '\n' :: rest))
    (hoof : ¬ IsOOF (M.run readtoken l e)) :
    M.run readtoken l e =
      (.ok (.inl .NEWLINE,
        { l with positions := l.positions ++ [e.tape.idx + 1 + body.length],
                 ps := { l.ps with assignok := false } }),
        envAt e (e.tape.idx + 1 + body.length + 1)) := by
  obtain ⟨hc, hd', hlt⟩ := drop_cons hd
  obtain ⟨hlt2, hc2⟩ := drop_mid hd'
  have hR : M.run readtoken l e = M.run (readtokenRest (some '#')) l (envAt e (e.tape.idx + 1)) := by
    rw [readtoken_eq, M.run_bind, run_getc_plain true l e '#' hl heol hlt hc (by decide)]
    simp only []
    rw [M.run_bind, run_blankLoop_nonblank '#' (by decide) 1073741823]
  rw [hR] at hoof ⊢
  unfold readtokenRest at hoof ⊢
  simp only [pure_bind, show ('#' == '#') = true from by decide, if_true, bind_assoc,
    show ('\n' == '\n') = true from by decide] at hoof ⊢
  rcases run_discardUntil_comment _ l (envAt e (e.tape.idx + 1)) hl heol body rest hb hd' with h | h
  · exact absurd h hoof
  · rw [h]
    simp only [envAt_envAt]
    have hidx : (envAt e (e.tape.idx + 1)).tape.idx = e.tape.idx + 1 := rfl
    rw [hidx]
    rw [M.run_bind, run_getc_plain false l (envAt e (e.tape.idx + 1 + body.length)) '\n' hl heol
      hlt2 hc2 (by decide)]
    simp only [envAt_envAt]
    rw [M.run_bind, run_recordpos]
    simp only []
    rw [M.run_bind, run_gather_nil _ _ (by exact hrs)]
    simp only []
    rw [M.run_bind, run_modify]
    simp only []
    have ht : tokentypeOfChar '\n' = pure TokType.NEWLINE := rfl
    rw [ht, pure_bind, M.run_pure, tapeOf_none hl]
    simp only [envAt, Nat.add_sub_cancel]

/-! ## consuming a layout prefix -/

/-- the engine loop followed by the tail of `_parser.parse()` -/
abbrev engineRun (depth f : Nat) (c : Cfg SVal) : M (Option Node) :=
  M.loop "LRParser.parse" (step realTables (lrHooks (npOf depth))) f c >>= parserTail

/-- one iteration of the engine from a fresh configuration when `_readtoken` delivers the NEWLINE
    at `p` -/
theorem run_engine_nlAt (depth f : Nat) (c : Cfg SVal) (hc : Fresh c) (l : Local) (e : Env)
    (p : Nat) (hl : l.tape = none) (hpos : l.positions = [])
    (hrt : M.run readtoken (histStep l) e =
      (.ok (.inl .NEWLINE,
        { histStep l with positions := (histStep l).positions ++ [p],
                          ps := { (histStep l).ps with assignok := false } }), envAt e (p + 1))) :
    M.run (engineRun depth (f + 1) c) l e =
      M.run (engineRun depth f (cfgNL c)) (afterNL l p) (envAt e (p + 1)) := by
  unfold engineRun
  rw [M.run_bind, run_loop_succ, run_step_nlAt (npOf depth) c hc l e p hl hpos hrt, M.run_bind]

/-- the text between the cursor and `j` is skipped: a run of the engine from a fresh configuration,
    in a state that differs from the initial one only in what is neutral (`LocRel 0 (initL lim)`),
    ends like such a run with the cursor at `j` — unless it runs out of fuel -/
def Skips (depth : Nat) (lim : Option Int) (e : Env) (j : Nat) : Prop :=
  ∀ (f : Nat) (c : Cfg SVal) (l : Local), Fresh c → LocRel 0 (initL lim) l → f ≤ 1073741824 →
    ¬ IsOOF (M.run (engineRun depth f c) l e) →
    ∃ (f' : Nat) (c' : Cfg SVal) (l' : Local), f' ≤ 1073741824 ∧ Fresh c' ∧
      LocRel 0 (initL lim) l' ∧
      Alike (M.run (engineRun depth f c) l e) (M.run (engineRun depth f' c') l' (envAt e j))

section
variable {depth : Nat} {lim : Option Int} {e : Env}

theorem Skips.refl : Skips depth lim e e.tape.idx :=
  fun f c l hc hl hf _ => ⟨f, c, l, hf, hc, hl, .inl rfl⟩

theorem Skips.trans {j k : Nat} (h1 : Skips depth lim e j) (h2 : Skips depth lim (envAt e j) k) :
    Skips depth lim e k := by
  intro f c l hc hl hf hoof
  obtain ⟨f', c', l', hf', hc', hl', ha⟩ := h1 f c l hc hl hf hoof
  obtain ⟨f'', c'', l'', hf'', hc'', hl'', hb⟩ :=
    h2 f' c' l' hc' hl' hf' (fun h => hoof (ha.isOOF.2 h))
  exact ⟨f'', c'', l'', hf'', hc'', hl'', ha.trans hb⟩

/-- `_readtoken` passes over the text up to `j` and goes on from there (a blank, a
    backslash-newline pair): the engine does not see it -/
theorem Skips.of_readtoken {j : Nat}
    (h : ∀ l : Local, l.tape = none → l.eolLookahead = none → ¬ IsOOF (M.run readtoken l e) →
      Alike (M.run readtoken l e) (M.run readtoken l (envAt e j))) : Skips depth lim e j := by
  intro f c l hc hl hf hoof
  cases f with
  | zero => exact absurd ⟨"LRParser.parse", rfl⟩ hoof
  | succ f =>
    obtain ⟨K', hK⟩ := loop_fresh (npOf depth) c hc f parserTail
    refine ⟨f + 1, c, l, hf, hc, hl, ?_⟩
    unfold engineRun at hoof ⊢
    rw [hK] at hoof ⊢
    rw [hK]
    exact (h (histStep l) hl.tape hl.eol (not_isOOF_of_bind hoof)).bind _

/-- `_readtoken` delivers the NEWLINE at `p` (a newline, a comment line): the engine shifts it in
    state 0 without pushing it, at the price of one iteration -/
theorem Skips.of_newline {p : Nat}
    (h : ∀ l : Local, l.tape = none → l.eolLookahead = none → l.redirstack = [] →
      ¬ IsOOF (M.run readtoken l e) →
      M.run readtoken l e =
        (.ok (.inl .NEWLINE, { l with positions := l.positions ++ [p],
                                      ps := { l.ps with assignok := false } }), envAt e (p + 1))) :
    Skips depth lim e (p + 1) := by
  intro f c l hc hl hf hoof
  cases f with
  | zero => exact absurd ⟨"LRParser.parse", rfl⟩ hoof
  | succ f =>
    exact ⟨f, cfgNL c, afterNL l p, by omega, fresh_cfgNL hc, locRel_afterNL hl _,
      .inl (run_engine_nlAt depth f c hc l e p hl.tape (by rw [hl.positions]; rfl)
        (h _ hl.tape hl.eol hl.redirstack
          (readtoken_not_oof (npOf depth) c hc f parserTail l e hoof)))⟩

end

/-- **layout is skipped** (blanks, tabs, newlines, comment lines, line continuations): with the
    cursor at the start of the layout `rest`, one parser run ends like a run with the cursor
    behind `rest` -/
theorem skips_layout (depth : Nat) (lim : Option Int) : ∀ (rest : Str), Layout rest →
    ∀ (e : Env) (tail : Str), e.tape.line.drop e.tape.idx = rest ++ tail →
      Skips depth lim e (e.tape.idx + rest.length) := by
  intro rest hrest
  induction hrest with
  | nil => intro e tail _; exact Skips.refl
  | @blank ch r hch hr ih =>
    intro e tail hd
    obtain ⟨hat, hd', hlt⟩ := drop_cons hd
    have hn : e.tape.idx + (ch :: r).length = (envAt e (e.tape.idx + 1)).tape.idx + r.length := by
      simp only [envAt, List.length_cons]; omega
    rw [hn]
    refine Skips.trans ?_ (ih (envAt e (e.tape.idx + 1)) tail hd')
    rcases hch with rfl | rfl | rfl
    · exact .of_readtoken fun l hl heol hoof =>
        .inl (run_readtoken_blank l e ' ' hl heol hlt hat (by decide) hoof)
    · exact .of_readtoken fun l hl heol hoof =>
        .inl (run_readtoken_blank l e '\t' hl heol hlt hat (by decide) hoof)
    · exact .of_newline fun l hl heol hrs _ => run_readtoken_nl l e hl heol hrs hlt hat
  | @comment r body hbody hr ih =>
    intro e tail hd
    have hd1 : e.tape.line.drop e.tape.idx = '#' :: (body ++ '\n' :: (r ++ tail)) := by
      rw [hd]; simp only [List.cons_append, List.append_assoc]
    have hd' : e.tape.line.drop (e.tape.idx + 1 + body.length + 1) = r ++ tail := by
      rw [← List.drop_drop, ← List.drop_drop, ← List.drop_drop, hd1]
      show List.drop 1 (List.drop body.length (body ++ '\n' :: (r ++ tail))) = r ++ tail
      rw [List.drop_left]; rfl
    have hn : e.tape.idx + ('#' :: (body ++ '\n' :: r)).length =
        (envAt e (e.tape.idx + 1 + body.length + 1)).tape.idx + r.length := by
      simp only [envAt, List.length_cons, List.length_append]; omega
    rw [hn]
    refine Skips.trans (.of_newline fun l hl heol hrs hoof => ?_)
      (ih (envAt e (e.tape.idx + 1 + body.length + 1)) tail hd')
    exact run_readtoken_comment l e hl heol hrs body (r ++ tail) hbody hd1 hoof
  | @cont r hr ih =>
    intro e tail hd
    have hd' : e.tape.line.drop (e.tape.idx + 2) = r ++ tail := by
      rw [← List.drop_drop, hd]; rfl
    have hn : e.tape.idx + ('\\' :: '\n' :: r).length =
        (envAt e (e.tape.idx + 2)).tape.idx + r.length := by
      simp only [envAt, List.length_cons]; omega
    rw [hn]
    exact Skips.trans (.of_readtoken fun l hl heol _ => run_readtoken_cont l e hl heol _ hd)
      (ih (envAt e (e.tape.idx + 2)) tail hd')

/-- `skips_layout` with the tape written out: the cursor stands behind `p0` -/
theorem consumeX (depth : Nat) (line₁ : Str) (added : Bool) (lim : Option Int) :
    ∀ (rest : Str), Layout rest → ∀ (p0 : Str) (f : Nat) (c : Cfg SVal) (l : Local) (e : Env),
      Fresh c → LocRel 0 (initL lim) l →
      e.tape = { line := p0 ++ (rest ++ line₁), idx := p0.length, added := added } →
      f ≤ 1073741824 →
      ¬ IsOOF (M.run (engineRun depth f c) l e) →
      ∃ (f' : Nat) (c' : Cfg SVal) (l' : Local), f' ≤ 1073741824 ∧ Fresh c' ∧
        LocRel 0 (initL lim) l' ∧
        Alike (M.run (engineRun depth f c) l e)
          (M.run (engineRun depth f' c') l' (envAt e (p0.length + rest.length))) := by
  intro rest hrest p0 f c l e hc hl he hf hoof
  have h := skips_layout depth lim rest hrest e line₁ (by rw [he]; exact List.drop_left ..)
    f c l hc hl hf hoof
  rwa [show e.tape.idx = p0.length from by rw [he]] at h

/-- a run from a fresh configuration in a neutral state ends like the run of a fresh parser -/
theorem fresh_run_eq (depth : Nat) (lim : Option Int) (f : Nat) (c : Cfg SVal) (l : Local) (e : Env)
    (hc : Fresh c) (hl : LocRel 0 (initL lim) l) (hline : 2 ≤ e.tape.line.length)
    (hproc : e.proceed = false) (hf : f ≤ 1073741824)
    (hoof : ¬ IsOOF (M.run (engineRun depth f c) l e)) :
    resOf (M.run (engineRun depth f c) l e) =
      resOf (M.run (engineRun depth 1073741824 {}) (initL lim) e) := by
  have hrel := sim_parserFrom (pre := []) (top := true) depth f {} c
    ⟨⟨by rw [hc.1]; rfl, by rw [hc.2]; rfl⟩, (cRel_init 0).2⟩ _ _ e e
    (rel_nil_of_locRel hl e hline hproc)
  have hrr := runRel_nil_eq (runRel_of_outRel hrel)
  unfold engineRun at hoof ⊢
  rw [hrr]
  have hY : ¬ IsOOF (M.run (M.loop "LRParser.parse" (step realTables (lrHooks (npOf depth))) f {} >>=
      parserTail) (initL lim) e) := by
    rw [isOOF_iff_resOf] at hoof ⊢
    rw [← hrr]; exact hoof
  obtain ⟨d, hd⟩ : ∃ d, 1073741824 = f + d := ⟨1073741824 - f, by omega⟩
  rw [hd, M.run_bind, M.run_bind, loop_fuel_le _ _ _ _ _ d f (not_isOOF_of_bind hY)]

/-- after skipped text one parser run ends like the run of a fresh parser from there -/
theorem Skips.run_eq {depth : Nat} {lim : Option Int} {e : Env} {j : Nat}
    (h : Skips depth lim e j) (hline : 2 ≤ e.tape.line.length) (hproc : e.proceed = false)
    {f : Nat} {c : Cfg SVal} {l : Local} (hc : Fresh c) (hl : LocRel 0 (initL lim) l)
    (hf : f ≤ 1073741824) (hoof : ¬ IsOOF (M.run (engineRun depth f c) l e)) :
    resOf (M.run (engineRun depth f c) l e) =
      resOf (M.run (engineRun depth 1073741824 {}) (initL lim) (envAt e j)) := by
  obtain ⟨f', c', l', h1, h2, h3, h4⟩ := h f c l hc hl hf hoof
  rw [h4.resOf]
  exact fresh_run_eq depth lim f' c' l' _ h2 h3 hline hproc h1 (fun h => hoof (h4.isOOF.2 h))

/-- **consuming a prefix of blanks and newlines**: from a fresh engine configuration, with the
    cursor at `j` inside the prefix, one parser run ends like the run started behind the prefix
    by a fresh parser — unless it runs out of fuel -/
theorem consume (depth : Nat) (pre line₁ : Str) (added : Bool) (lim : Option Int)
    (hlen : 2 ≤ line₁.length) (hpre : BlankNL pre) :
    ∀ (m j : Nat), j + m = pre.length → ∀ (f : Nat) (c : Cfg SVal) (l : Local) (e : Env),
      Fresh c → LocRel 0 (initL lim) l →
      e.tape = { line := pre ++ line₁, idx := j, added := added } → e.proceed = false →
      f ≤ 1073741824 →
      ¬ IsOOF (M.run (M.loop "LRParser.parse" (step realTables (lrHooks (npOf depth))) f c >>=
          parserTail) l e) →
      resOf (M.run (M.loop "LRParser.parse" (step realTables (lrHooks (npOf depth))) f c >>=
          parserTail) l e) =
        resOf (M.run (M.loop "LRParser.parse" (step realTables (lrHooks (npOf depth))) 1073741824 {} >>=
          parserTail) (initL lim) (envAt e pre.length)) := by
  intro m j hj f c l e hc hl he hproc hf hoof
  -- what is left of the prefix behind the cursor is layout
  have h := (skips_layout depth lim (pre.drop j)
    (layout_of_blankNL fun d hd => hpre d (List.mem_of_mem_drop hd)) e line₁
    (by rw [he]; exact List.drop_append_of_le_length (Nat.le.intro hj))).run_eq
    (by rw [he, List.length_append]; omega) hproc hc hl hf hoof
  rw [show e.tape.idx = j from by rw [he], List.length_drop,
    show j + (pre.length - j) = pre.length by omega] at h
  exact h

end Bashlex.C14
