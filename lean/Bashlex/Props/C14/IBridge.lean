/-
  C14 interior: the bridge between the two phases.  An engine configuration all of whose
  spans lie below the insertion point (`p.1 < x`, `p.2 ≤ x`) is related TO ITSELF by
  `VRf (spanMap x k)`: `spanMap x k` fixes such spans.  So after phase 1 (identical runs up to
  the token in front of the gap) the two equal configurations are a legitimate starting point of
  `C14_interior_from_conditional`.
-/
import Bashlex.Props.C14.IAct

namespace Bashlex.C14I
open Bashlex Bashlex.LR Bashlex.C16 Bashlex.C14

/-- a span below the insertion point -/
def Below (x : Nat) (p : Span) : Prop := p.1 < x ∧ p.2 ≤ x

theorem spanMap_below {x k : Nat} {p : Span} (h : Below x p) : spanMap x k p = p := by
  obtain ⟨a, b⟩ := p
  obtain ⟨h1, h2⟩ := h
  simp only [spanMap, phiS, phiE] at h1 h2 ⊢
  rw [if_pos h1, if_pos h2]

mutual
/-- all spans of a tree (every node `mapPos` visits) -/
def spansOf : Node → List Span
  | .operator p _ | .reservedword p _ | .pipe p _ | .parameter p _ | .tilde p _ | .heredoc p _ => [p]
  | .list p ps | .pipeline p ps | .ifN p ps | .forN p ps | .whileN p ps | .untilN p ps
  | .caseN p ps | .pattern p ps | .command p ps | .unimplemented p ps | .function p _ _ ps
  | .word p _ ps | .assignment p _ ps => p :: spansOfL ps
  | .compound p l r => p :: (spansOfL l ++ spansOfL r)
  | .redirect p _ _ o _ h _ => p :: (spansOfO o ++ spansOfO h)
  | .commandsubstitution p c | .processsubstitution p c => p :: spansOf c
def spansOfL : List Node → List Span
  | [] => []
  | n :: ns => spansOf n ++ spansOfL ns
def spansOfO : Option Node → List Span
  | none => []
  | some n => spansOf n
end

theorem spansOfL_eq (l : List Node) : spansOfL l = l.flatMap spansOf := by
  induction l with
  | nil => rfl
  | cons a l ih => simp [spansOfL, ih]

theorem spansOf_eq (n : Node) : spansOf n = n.pos :: n.children.flatMap spansOf := by
  cases n <;> simp [spansOf, spansOfL_eq, Node.children, Node.pos]
  case redirect o _ h _ => cases o <;> cases h <;> simp [spansOfO]

/-- a span map that fixes every span of a tree fixes the tree -/
theorem mapPos_fix (f : Span → Span) (n : Node) : (∀ p ∈ spansOf n, f p = p) → n.mapPos f = n := by
  induction n using Node.children_induction with
  | hP n ih =>
    intro h
    rw [spansOf_eq] at h
    rw [Node.mapPos_eq]
    refine (Node.map1_congr (h _ List.mem_cons_self) fun c hc => ih c hc fun p hp => ?_).trans
      (Node.map1_id n)
    exact h p (List.mem_cons_of_mem _ (List.mem_flatMap.mpr ⟨c, hc, hp⟩))

theorem mapPosL_fix (f : Span → Span) (l : List Node) (h : ∀ p ∈ spansOfL l, f p = p) :
    Node.mapPosL f l = l := by
  rw [Node.mapPosL_eq]
  refine (List.map_congr_left fun n hn => mapPos_fix f n fun p hp => h p ?_).trans (List.map_id' l)
  rw [spansOfL_eq]; exact List.mem_flatMap.mpr ⟨n, hn, hp⟩

theorem mapPosO_fix (f : Span → Span) : ∀ o : Option Node, (∀ p ∈ spansOfO o, f p = p) →
    Node.mapPosO f o = o := by
  intro o h
  cases o with
  | none => rfl
  | some n => exact congrArg some (mapPos_fix f n h)

/-- all spans of a semantic value -/
def spansOfS : SVal → List Span
  | .none => []
  | .tok t => t.pos.toList
  | .node n => spansOf n
  | .nodes l => spansOfL l

theorem mapS_fix (f : Span → Span) (v : SVal) (h : ∀ p ∈ spansOfS v, f p = p) : mapS f v = v := by
  cases v with
  | none => rfl
  | tok t =>
    simp only [mapS, mapTok]
    cases hp : t.pos with
    | none => cases t; simp only at hp; subst hp; rfl
    | some p =>
      have := h p (by simp [spansOfS, hp])
      cases t; simp only at hp; subst hp
      simp only [Option.map_some, this]
  | node n => simp only [mapS, mapPos_fix f n h]
  | nodes l =>
    simp only [mapS]
    rw [← Node.mapPosL_eq_map, mapPosL_fix f l h]

/-- **the bridge**: a configuration without look-ahead whose stack holds only spans below `x`
    (and tokens satisfying `Q`) is related to itself -/
theorem cfgR_self (x k : Nat) (Q : Token → Prop) (c : Cfg SVal) (hla : c.la = none)
    (hst : ∀ e ∈ c.stack, (∀ p ∈ spansOfS e.val, Below x p) ∧ QV Q e.val) :
    CfgR (VRf (spanMap x k) Q) c c := by
  refine ⟨?_, by rw [hla]; trivial, rfl, rfl⟩
  generalize c.stack = st at hst
  induction st with
  | nil => exact .nil
  | cons e r ih =>
    refine .cons ⟨rfl, rfl, ?_, (hst e (List.mem_cons_self ..)).2⟩
      (ih (fun e' he' => hst e' (List.mem_cons_of_mem _ he')))
    exact (mapS_fix _ _ (fun p hp => spanMap_below ((hst e (List.mem_cons_self ..)).1 p hp))).symm

end Bashlex.C14I
