/-
  C14: `_readtoken` and `token()` under the translation: the second run delivers the
  token of the first run, moved by the shift (`TokRel`).
-/
import Bashlex.Props.C14.Finish
import Bashlex.Props.C14.Heredoc

namespace Bashlex.C14
open Bashlex Bashlex.C10
set_option linter.unusedVariables false

variable {pre : Str} {top : Bool} {n n' : Nat}

theorem sim_discardUntil (ch : Char) :
    Sim pre top 1 1 (discardUntil ch) (discardUntil ch) (fun _ _ => True) := by
  unfold discardUntil
  simp only [loopFuel, pure_bind]
  refine Sim.bindEq (mid := 2) (sim_getc false (by decide)) (fun c => ?_)
  refine Sim.bindEq (mid := 2) (Sim.loopEq (fun s => ?_) _ _) (fun c => ?_)
  · rel_walk
  · rel_walk
macro_rules | `(tactic| rel_atom) => `(tactic| exact sim_discardUntil _)

theorem sim_tokentypeOfChar (c : Char) : SimEq pre top n n (tokentypeOfChar c) := by
  unfold tokentypeOfChar; rel_walk
macro_rules | `(tactic| rel_atom) => `(tactic| exact sim_tokentypeOfChar _)

theorem sim_readtokenMeta (c : Char) : SimEq pre top 1 1 (readtokenMeta c) := by
  unfold readtokenMeta
  rel_walk_jp
macro_rules | `(tactic| rel_atom) => `(tactic| exact sim_readtokenMeta _)

/-- `_readtokenword(c)`: called after `c` was read (level 1); the word may end by ungetting the
    break character (exit level 0) -/
theorem sim_readtokenword (c : Char) :
    Sim pre top 1 0 (readtokenword c) (readtokenword c) (TokRel (kOf pre top)) := by
  unfold readtokenword
  simp only [loopFuel, pure_bind]
  refine Sim.bindEq (mid := 0) ?_ (fun st => sim_finishWord st)
  exact Sim.loopL (S := Eq) (fun s t hst => by subst hst; exact sim_readtokenwordStep s) _ _ _ rfl

/-- results of `_readtoken`: a bare token type, or a token -/
abbrev RTRel (k : Nat) : TokType ⊕ Token → TokType ⊕ Token → Prop := SumRel Eq (TokRel k)

theorem sim_readtokenword_inr (c : Char) :
    Sim pre top 1 0 (do return .inr (← readtokenword c) : M (TokType ⊕ Token))
      (do return .inr (← readtokenword c)) (RTRel (kOf pre top)) :=
  Sim.bind (sim_readtokenword c) (fun a b hab => Sim.pure (Nat.le_refl _) hab)

theorem sim_tokentype_inl (c : Char) :
    Sim pre top n n (do return .inl (← tokentypeOfChar c) : M (TokType ⊕ Token))
      (do return .inl (← tokentypeOfChar c)) (RTRel (kOf pre top)) :=
  Sim.bindEq (sim_tokentypeOfChar c) (fun a => Sim.pure (Nat.le_refl _) rfl)

theorem Sim.pureRT {a : TokType ⊕ Token} (hn : n' ≤ n) (h : ∀ t, a = .inr t → t.pos = none ∧ t.ttype = some .EOF ∧ t.value = .none) :
    Sim pre top n n' (Pure.pure a : M (TokType ⊕ Token)) (Pure.pure a) (RTRel (kOf pre top)) := by
  refine Sim.pure hn ?_
  cases a with
  | inl t => exact rfl
  | inr t =>
    obtain ⟨h1, h2, h3⟩ := h t rfl
    exact ⟨rfl, rfl, rfl, by rw [h1]; rfl, fun _ => ⟨h2, h3⟩⟩

macro_rules | `(tactic| rel_atom) => `(tactic| exact sim_readtokenword_inr _)
macro_rules | `(tactic| rel_atom) => `(tactic| exact sim_tokentype_inl _)

/-- `_readtoken()`: from any state (level 0) -/
theorem sim_readtoken : Sim pre top 0 0 readtoken readtoken (RTRel (kOf pre top)) := by
  unfold readtoken
  -- `-zeta`: the join points stay shared, each is walked once
  simp -zeta only [loopFuel, pure_bind]
  refine Sim.bindEq (mid := 1) (sim_getc true (by decide)) (fun c0 => ?_)
  refine Sim.bindEq (mid := 1) (Sim.loopEq (fun s => ?_) _ _) (fun c1 => ?_)
  · rel_walk
  · repeat' (first
      | rel_step_jp
      | (with_reducible exact Sim.pureRT (by lvl) (by intro t h; cases h; exact ⟨rfl, rfl, rfl⟩))
      | (with_reducible exact Sim.pureRT (by lvl) (by intro t h; cases h)))

/-- **`tokenizer.token()` under the translation**: from related states (any level) the two runs
    deliver the same token, the span moved by the shift, and end in related states; or both raise
    related exceptions. -/
theorem sim_nextToken : Sim pre top 0 0 nextToken nextToken (TokRel (kOf pre top)) := by
  unfold nextToken
  refine Sim.bindU (mid := 0) ?_ ?_
  · refine Sim.modify (fun l₁ e₁ l₂ e₂ hr => hr.update ?_ rfl rfl rfl)
    exact { hr.loc with before := hr.loc.last, last := hr.loc.cur }
  have hjp : ∀ cur₁ cur₂, TokRel (kOf pre top) cur₁ cur₂ → Sim pre top 0 0
      (do
        modify fun l => { l with currentToken := cur₁ }
        modify fun l => { l with ps := { l.ps with eoftoken := false } }
        pure cur₁ : M Token)
      (do
        modify fun l => { l with currentToken := cur₂ }
        modify fun l => { l with ps := { l.ps with eoftoken := false } }
        pure cur₂ : M Token) (TokRel (kOf pre top)) := by
    intro cur₁ cur₂ hcur
    refine Sim.bindU (mid := 0) ?_ ?_
    · refine Sim.modify (fun l₁ e₁ l₂ e₂ hr => hr.update ?_ rfl rfl rfl)
      exact { hr.loc with cur := hcur.heq, curFlags := hcur.flags }
    refine Sim.bindU (mid := 0) (by rel_modify) ?_
    exact Sim.pure (Nat.le_refl _) hcur
  refine Sim.bind sim_readtoken (fun r₁ r₂ hr => ?_)
  cases r₁ with
  | inl ty₁ =>
    cases r₂ with
    | inr t₂ => exact hr.elim
    | inl ty₂ =>
      have : ty₁ = ty₂ := hr
      subst this
      refine Sim.bindU (mid := 0) (sim_recordpos 0 (Nat.le_refl _) (by decide)) ?_
      exact Sim.bind (sim_createtoken _ _ _) (fun c₁ c₂ hc => hjp c₁ c₂ hc)
  | inr t₁ =>
    cases r₂ with
    | inl ty₂ => exact hr.elim
    | inr t₂ => exact hjp t₁ t₂ hr

end Bashlex.C14
