/-
  C14: `_readtokenword` under the translation.  The body of its loop: `sim_isAssignment`,
  `sim_specialcasetokens`, `sim_handleshellquote`, `sim_handleshellexp`, `sim_readtokenwordStep`.
  The part after `# got_token` (`finishWord`): the token built in the second run is the token of
  the first run, moved by the shift.  `sim_readtokenword` itself is in `Token.lean`.
-/
import Bashlex.Props.C14.Pair
import Bashlex.Proofs.TokShape

namespace Bashlex.C14
open Bashlex Bashlex.C10

variable {pre : Str} {top : Bool} {n n' : Nat}

theorem sim_isAssignment (s : Str) : SimEq pre top n n (isAssignment s) := by
  unfold isAssignment; rel_walk
macro_rules | `(tactic| rel_atom) => `(tactic| exact sim_isAssignment _)

theorem sim_specialcasetokens (s : Str) : SimEq pre top n n (specialcasetokens s) := by
  unfold specialcasetokens; rel_walk_jp
macro_rules | `(tactic| rel_atom) => `(tactic| exact sim_specialcasetokens _)

theorem sim_handleshellquote (st : RWState) (c : Char) :
    SimEq pre top 1 1 (handleshellquote st c) := by
  unfold handleshellquote; rel_walk
macro_rules | `(tactic| rel_atom) => `(tactic| exact sim_handleshellquote _ _)

theorem sim_handleshellexp (st : RWState) (c : Char) (cd : Option Char) :
    SimEq pre top 1 1 (handleshellexp st c cd) := by
  unfold handleshellexp; rel_walk
macro_rules | `(tactic| rel_atom) => `(tactic| exact sim_handleshellexp _ _ _)

theorem sim_readtokenwordStep (st : RWState) :
    SimL pre top 1 (loopLvl 1 0) (readtokenwordStep st) (readtokenwordStep st) (SumEq Eq) := by
  unfold readtokenwordStep; rel_walk_jp

theorem TokRel.eq_shiftTok {k : Nat} {a b : Token} (h : TokRel k a b) : b = shiftTok k a := by
  obtain ⟨h1, h2, h3, h4, _⟩ := h
  cases a; cases b
  simp only [shiftTok] at *
  subst h1 h2 h3 h4
  rfl

/-- `_createtoken`, with the second token as a function of the first -/
theorem sim_createtokenF (ty : TokType) (v : TVal) (flags : WordFlags) :
    Sim pre top n n (createtoken ty v flags) (createtoken ty v flags)
      (fun a b => b = shiftTok (kOf pre top) a ∧ a.pos.isSome = true) := by
  refine (Sim.and_sat (sim_createtoken ty v flags) (P := fun a => a.pos.isSome = true) ?_).weaken
    (fun a b h => ⟨h.1.eq_shiftTok, h.2⟩)
  intro l e
  rw [run_createtoken]
  by_cases h2 : l.positions.length < 2
  · rw [if_pos h2]; exact True.intro
  · rw [if_neg h2]
    by_cases h3 : (!decide (l.positions.dropLast.getLast?.getD 0 < l.positions.getLast?.getD 0)) = true
    · rw [if_pos h3]; exact True.intro
    · rw [if_neg h3]; rfl
macro_rules | `(tactic| rel_atom) => `(tactic| exact sim_createtokenF _ _ _)

/-- `fwToken` reads the state through two answers and the token through its flags and type -/
theorem fwToken_congr (st : RWState) (asg : Bool) {l₁ l₂ : Local} {t₁ t₂ : Token}
    (haa : assignmentAcceptable l₂ l₂.lastReadToken = assignmentAcceptable l₁ l₁.lastReadToken)
    (hps : l₂.ps = l₁.ps) (hf : t₂.flags = t₁.flags) (hty : t₂.ttype = t₁.ttype) :
    (fwToken st l₂ asg t₂).flags = (fwToken st l₁ asg t₁).flags ∧
    (fwToken st l₂ asg t₂).ttype = (fwToken st l₁ asg t₁).ttype := by
  unfold fwToken
  constructor <;>
  simp only [Id.run, legalIdentifier, Bool.false_eq_true, if_false, pure, ite_self,
    apply_ite Token.flags, apply_ite Token.ttype, haa, hps, hf, hty]

/-- the end of `finishWord`: the WORD token of the second run is that of the first, moved -/
theorem sim_fwWord (st : RWState) {a : Token} (ha : a.pos.isSome = true) :
    Sim pre top 0 0 (fwWord st a) (fwWord st (shiftTok (kOf pre top) a)) (TokRel (kOf pre top)) := by
  unfold fwWord
  refine Sim.bindU (mid := 0) (Sim.ite (fun _ => Sim.foreign _ _)
    (fun _ => Sim.pure (Nat.le_refl _) True.intro)) ?_
  refine Sim.get_bind (fun l₁ l₂ hl => ?_)
  refine SimAt.bindEq (mid := 0) (Sim.at (sim_isAssignment _) _ _) (fun asg => ?_)
  have hc := fwToken_congr st asg (t₁ := a) (t₂ := shiftTok (kOf pre top) a)
    (HEq.aa hl hl.last) hl.ps rfl rfl
  have htok : TokRel (kOf pre top) (fwToken st l₁ asg a)
      (fwToken st l₂ asg (shiftTok (kOf pre top) a)) :=
    ⟨hc.2, by rw [Shape.fwToken_value, Shape.fwToken_value], hc.1,
      by rw [Shape.fwToken_pos, Shape.fwToken_pos],
      fun h => by rw [Shape.fwToken_pos] at h; rw [h] at ha; cases ha⟩
  rw [hl.last.is_eq (by decide)]
  rw [fwEnd_def, fwEnd_def]
  refine Sim.ite (fun _ => ?_) (fun _ => Sim.pure (Nat.le_refl _) htok)
  exact Sim.bindU (mid := 0) (by rel_modify) (Sim.pure (Nat.le_refl _) htok)

theorem sim_finishWord (st : RWState) :
    Sim pre top 0 0 (finishWord st) (finishWord st) (TokRel (kOf pre top)) := by
  rw [finishWord_eq]
  unfold fwHead
  repeat' (first
    | rel_step_jp
    | exact sim_fwWord st (by assumption))

end Bashlex.C14
