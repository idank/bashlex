/-
  C14: the relational walk through `_parse_matched_pair` / `_parse_comsub`
  (`Model/Tokenizer.lean`): these scanners only read characters and keep the delimiter stack;
  both runs return the same string.  All lemmas at level `1 → 1`.
-/
import Bashlex.Props.C14.Walk
import Bashlex.Proofs.TokForms

namespace Bashlex.C14
open Bashlex Bashlex.C10

variable {pre : Str} {top : Bool} {n n' : Nat}

theorem sim_mpInit (P : MPParams) : SimEq pre top n n (mpInit P) := by
  unfold mpInit; rel_walk
macro_rules | `(tactic| rel_atom) => `(tactic| exact sim_mpInit _)

theorem sim_mpPre (P : MPParams) (lfc : Bool) (st : MPState) :
    SimEq pre top 1 1 (mpPre P lfc st) := by
  rw [mpPre_eq]; rel_walk
macro_rules | `(tactic| rel_atom) => `(tactic| exact sim_mpPre _ _ _)

set_option hygiene false in
macro_rules | `(tactic| rel_atom) => `(tactic| exact hpmp _)
set_option hygiene false in
macro_rules | `(tactic| rel_atom) => `(tactic| exact hpcs _)
set_option hygiene false in
macro_rules | `(tactic| rel_atom) => `(tactic| exact hd _ _ _)
set_option hygiene false in
macro_rules | `(tactic| rel_atom) => `(tactic| exact hpost _ _ _ _)
set_option hygiene false in
macro_rules | `(tactic| rel_atom) => `(tactic| exact hcpost _ _ _)

theorem sim_handledollarword {pmp : MPParams → M Str} {pcs : CSParams → M Str}
    (hpmp : ∀ P, SimEq pre top 1 1 (pmp P)) (hpcs : ∀ P, SimEq pre top 1 1 (pcs P))
    (P : MPParams) (rdquote : Bool) (c : Char) :
    SimEq pre top 1 1 (handledollarword pmp pcs P rdquote c) := by
  unfold handledollarword; rel_walk

theorem sim_mpPost {pmp : MPParams → M Str} {pcs : CSParams → M Str}
    (hpmp : ∀ P, SimEq pre top 1 1 (pmp P)) (hpcs : ∀ P, SimEq pre top 1 1 (pcs P))
    (P : MPParams) (rdquote : Bool) (st : MPState) (c : Char) :
    SimEq pre top 1 1 (mpPost pmp pcs P rdquote st c) := by
  have hd := sim_handledollarword hpmp hpcs
  unfold mpPost; rel_walk

theorem sim_csDelimMatches (st : CSState) : SimEq pre top n n (csDelimMatches st) := by
  unfold csDelimMatches; rel_walk
macro_rules | `(tactic| rel_atom) => `(tactic| exact sim_csDelimMatches _)

theorem sim_csA3 (st : CSState) (c : Char) : SimEq pre top n n (C04.TTP.csA3 st c) := by
  unfold C04.TTP.csA3; rel_walk
macro_rules | `(tactic| rel_atom) => `(tactic| exact sim_csA3 _ _)
theorem sim_csA2 (P : CSParams) (st : CSState) (c : Char) :
    SimEq pre top n n (C04.TTP.csA2 P st c) := by
  unfold C04.TTP.csA2; rel_walk
macro_rules | `(tactic| rel_atom) => `(tactic| exact sim_csA2 _ _ _)
theorem sim_csA (P : CSParams) (st : CSState) : SimEq pre top 1 1 (csA P st) := by
  rw [C04.TTP.csA_eq]; unfold C04.TTP.csArest; rel_walk

theorem sim_csBpeek (b : Bool) (st : CSState) (c : Char) :
    SimEq pre top 1 1 (C04.TTP.csBpeek b st c) := by
  unfold C04.TTP.csBpeek; rel_walk
macro_rules | `(tactic| rel_atom) => `(tactic| exact sim_csBpeek _ _ _)
theorem sim_csBmid (b : Bool) (st : CSState) (c : Char) :
    SimEq pre top 1 1 (C04.TTP.csBmid b st c) := by
  unfold C04.TTP.csBmid; rel_walk
macro_rules | `(tactic| rel_atom) => `(tactic| exact sim_csBmid _ _ _)
theorem sim_csB (b : Bool) (st : CSState) (c : Char) : SimEq pre top 1 1 (csB b st c) := by
  rw [C04.TTP.csB_eq]; unfold C04.TTP.csBhead; rel_walk

theorem sim_csCtail (P : CSParams) (b : Bool) (st : CSState) (c : Char) :
    SimEq pre top 1 1 (C04.TTP.csCtail P b st c) := by
  unfold C04.TTP.csCtail; rel_walk
macro_rules | `(tactic| rel_atom) => `(tactic| exact sim_csCtail _ _ _ _)
theorem sim_csC (P : CSParams) (b : Bool) (st : CSState) (c : Char) :
    SimEq pre top 1 1 (csC P b st c) := by
  rw [C04.TTP.csC_eq]; unfold C04.TTP.csChead; rel_walk
theorem sim_csD (P : CSParams) (st : CSState) (c : Char) : SimEq pre top n n (csD P st c) := by
  unfold csD; rel_walk
macro_rules | `(tactic| rel_atom) => `(tactic| exact sim_csA _ _)
macro_rules | `(tactic| rel_atom) => `(tactic| exact sim_csB _ _ _)
macro_rules | `(tactic| rel_atom) => `(tactic| exact sim_csC _ _ _ _)
macro_rules | `(tactic| rel_atom) => `(tactic| exact sim_csD _ _ _)

theorem sim_csPre (P : CSParams) (b : Bool) (st : CSState) : SimEq pre top 1 1 (csPre P b st) := by
  unfold csPre; rel_walk
macro_rules | `(tactic| rel_atom) => `(tactic| exact sim_csPre _ _ _)

theorem sim_csPost {pmp : MPParams → M Str} {pcs : CSParams → M Str}
    (hpmp : ∀ P, SimEq pre top 1 1 (pmp P)) (hpcs : ∀ P, SimEq pre top 1 1 (pcs P))
    (P : CSParams) (st : CSState) (c : Char) :
    SimEq pre top 1 1 (csPost pmp pcs P st c) := by
  unfold csPost; rel_walk

/-- the two mutually recursive scanners, by induction on the depth fuel -/
theorem sim_pmp_pcs : ∀ fuel, (∀ P, SimEq pre top 1 1 (parseMatchedPair fuel P)) ∧
    (∀ P, SimEq pre top 1 1 (parseComsub fuel P)) := by
  intro fuel
  induction fuel with
  | zero =>
    refine ⟨fun P => ?_, fun P => ?_⟩
    · unfold parseMatchedPair; rel_walk
    · unfold parseComsub; rel_walk
  | succ fuel ih =>
    obtain ⟨hpmp, hpcs⟩ := ih
    have hpost := sim_mpPost hpmp hpcs
    have hcpost := sim_csPost hpmp hpcs
    refine ⟨fun P => ?_, fun P => ?_⟩
    · unfold parseMatchedPair
      simp only [loopFuel, pure_bind]
      refine Sim.bindEq (sim_mpInit P) (fun r => ?_)
      refine Sim.loopEq (fun st => ?_) _ _
      rel_walk
    · unfold parseComsub
      simp only [loopFuel, pure_bind]
      refine Sim.bindEq (mid := 2) (sim_getc false (by decide)) (fun peek => ?_)
      refine Sim.bindU (mid := 1) (sim_ungetc peek) ?_
      refine Sim.ite (fun _ => hpmp _) (fun _ => ?_)
      refine Sim.loopEq (fun st => ?_) _ _
      rel_walk

theorem sim_parseMatchedPair (fuel : Nat) (P : MPParams) :
    SimEq pre top 1 1 (parseMatchedPair fuel P) := (sim_pmp_pcs fuel).1 P
theorem sim_parseComsub (fuel : Nat) (P : CSParams) :
    SimEq pre top 1 1 (parseComsub fuel P) := (sim_pmp_pcs fuel).2 P
macro_rules | `(tactic| rel_atom) => `(tactic| exact sim_parseMatchedPair _ _)
macro_rules | `(tactic| rel_atom) => `(tactic| exact sim_parseComsub _ _)

end Bashlex.C14
