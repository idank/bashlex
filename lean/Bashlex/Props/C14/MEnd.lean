/-
  C14More: a parser run on layout only returns no node; one parser run behind a layout prefix.

  After the layout is skipped (`skips_layout`) the cursor is at the end of the tape; `_readtoken`
  delivers the EOF token, the engine — in state 0, nothing but NEWLINE tokens shifted — returns
  (`Res.blank`), and `_parser.parse()` returns `None`.
  In front: the tape of `pre ++ B` (`ofInput_append`) and `runParser` as a run of `parserRun`
  (`runParser_fst`).
-/
import Bashlex.Props.C14.MComment
import Bashlex.Props.C13.Indep

namespace Bashlex.C14
open Bashlex Bashlex.C10 Bashlex.C12 Bashlex.LR

/-! ## the tape of `pre ++ B`, the environment of a run -/

theorem getLast?_append_ne_nil {α : Type} (a : List α) {b : List α} (hb : b ≠ []) :
    (a ++ b).getLast? = b.getLast? := by
  rw [List.getLast?_append]
  cases h : b.getLast? with
  | none => exact absurd (List.getLast?_eq_none_iff.1 h) hb
  | some c => rfl

theorem ofInput_append (pre B : Str) (hB : B ≠ []) :
    Tape.ofInput (pre ++ B) =
      { line := pre ++ (Tape.ofInput B).line, idx := 0, added := (Tape.ofInput B).added } := by
  have hl := getLast?_append_ne_nil pre hB
  cases h : B.getLast? with
  | none => exact absurd (List.getLast?_eq_none_iff.1 h) hB
  | some c =>
    by_cases hc : c = '\n'
    · subst hc
      rw [Tape.ofInput_of_newline h, Tape.ofInput_of_newline (hl.trans h)]
    · rw [Tape.ofInput_of_ne h hc, Tape.ofInput_of_ne (hl.trans h) hc, List.append_assoc]

theorem ofInput_idx (s : Str) : (Tape.ofInput s).idx = 0 := Tape.ofInput_idx s

/-- the environment of `runParser s o t` -/
def envOf (s : Str) (o : Opts) (t : List Char) : Env :=
  { tape := Tape.ofInput s, strict := o.strict, proceed := o.proceed, touched := t }

theorem resOf_pair (x : Except Exn (Option Node × Local) × Env) :
    (match x with
      | (r, env') => (r.map (·.1), env'.touched) : Except Exn (Option Node) × List Char).1 =
      resOf x := by
  obtain ⟨r, e⟩ := x; rfl

/-- stated through `resOf_pair`, after unfolding: a plain `rfl` makes the unifier run the parser -/
theorem runParser_fst (s : Str) (o : Opts) (t : List Char) :
    (runParser s o t).1 = resOf (M.run (parserRun maxDepth) (initL o.limit) (envOf s o t)) := by
  unfold runParser
  exact resOf_pair _

/-- the EOF token of `_readtoken` -/
def tokEOF : Token := { ttype := some .EOF, value := .none }

theorem run_getc_end (rqn : Bool) (l : Local) (e : Env) (hl : l.tape = none)
    (heol : l.eolLookahead = none) (hend : ¬ e.tape.idx < e.tape.line.length) :
    M.run (getc rqn) l e = (.ok (none, l), e) := by
  rw [run_getc rqn l e heol, tapeOf_none hl, tgetc_end _ _ _ hend]
  simp only [putL_none hl, putE_none hl]

theorem run_readtoken_eof (l : Local) (e : Env) (hl : l.tape = none)
    (heol : l.eolLookahead = none) (hend : ¬ e.tape.idx < e.tape.line.length) :
    M.run readtoken l e = (.ok (.inr tokEOF, l), e) := by
  rw [readtoken_eq, M.run_bind, run_getc_end true l e hl heol hend]
  simp only []
  rw [M.run_bind, run_loop_succ]
  have : M.run (blankBody none) l e = (.ok (.inr none, l), e) := rfl
  rw [this]
  rfl

/-- the parser object after `token()` delivered the EOF token -/
def afterEOF (l : Local) : Local :=
  { histStep l with ps := { l.ps with eoftoken := false }, currentToken := tokEOF }

theorem run_nextToken_eof (l : Local) (e : Env) (hl : l.tape = none)
    (heol : l.eolLookahead = none) (hend : ¬ e.tape.idx < e.tape.line.length) :
    M.run nextToken l e = (.ok (tokEOF, afterEOF l), e) := by
  unfold nextToken
  rw [M.run_bind, run_modify]
  simp only []
  show M.run (readtoken >>= _) (histStep l) e = _
  rw [M.run_bind, run_readtoken_eof (histStep l) e hl heol hend]
  rfl

theorem symEOF : symOfTok tokEOF = 0 := by
  show TokType.EOF.sym = 0
  decide +kernel

/-- a step of the engine at the end of the tape, from a fresh configuration: the
    "everything is a newline" return -/
theorem run_step_eof (np : NestedParse) (c : Cfg SVal) (hc : Fresh c) (l : Local) (e : Env)
    (hl : l.tape = none) (heol : l.eolLookahead = none)
    (hend : ¬ e.tape.idx < e.tape.line.length) :
    M.run (step realTables (lrHooks np) c) l e =
      (.ok (.inr (.blank c.nlShifted c.consumed), afterEOF l), e) := by
  unfold step
  simp only [hc.1, hc.2, topState, dflt0]
  show M.run (((nextToken >>= fun t => pure (symOfTok t, SVal.tok t)) : M (Nat × SVal)) >>= _) l e = _
  rw [M.run_bind, M.run_bind, run_nextToken_eof l e hl heol hend]
  simp only [M.run_pure, symEOF]
  rfl

/-- one parser run from a fresh configuration with the cursor at the end of the tape returns no
    node -/
theorem run_engine_eof (depth f : Nat) (c : Cfg SVal) (hc : Fresh c) (l : Local) (e : Env)
    (hl : l.tape = none) (heol : l.eolLookahead = none)
    (hend : ¬ e.tape.idx < e.tape.line.length) :
    resOf (M.run (engineRun depth (f + 1) c) l e) = .ok none := by
  unfold engineRun
  rw [M.run_bind, run_loop_succ, run_step_eof _ c hc l e hl heol hend]
  rfl

/-- a newline alone: the NEWLINE token is shifted in state 0, then the tape is at its end -/
theorem runParser_nl (o : Opts) (t : List Char) : (runParser ['\n'] o t).1 = .ok none := by
  rw [runParser_fst]
  have hpr : parserRun maxDepth = engineRun 63 (1073741822 + 1 + 1) {} := rfl
  rw [hpr, run_engine_nlAt 63 _ {} ⟨rfl, rfl⟩ (initL o.limit) (envOf ['\n'] o t) 0 rfl rfl
    (run_readtoken_nl _ _ rfl rfl rfl Nat.zero_lt_one rfl)]
  exact run_engine_eof 63 _ _ (fresh_cfgNL ⟨rfl, rfl⟩) _ _ rfl rfl (Nat.lt_irrefl 1)

/-! ## a run on layout only -/

theorem layout_ofInput {s : Str} (hs : Layout s) : Layout (Tape.ofInput s).line := by
  rcases C13.ofInput_line s with h | h <;> rw [h]
  · exact hs
  · exact hs.append (.blank (.inr (.inr rfl)) .nil)

/-- **a parser run on layout only returns no node** (unless it runs out of fuel) -/
theorem runParser_layout_only (s : Str) (o : Opts) (t : List Char) (hs : Layout s)
    (hfuel : ∀ site, (runParser s o t).1 ≠ .error (.outOfFuel site)) :
    (runParser s o t).1 = .ok none := by
  rw [runParser_fst] at hfuel ⊢
  have hmax : maxDepth = 63 + 1 := rfl
  rw [hmax] at hfuel ⊢
  have hpr : parserRun (63 + 1) = engineRun 63 1073741824 {} := rfl
  rw [hpr] at hfuel ⊢
  have hoof : ¬ IsOOF (M.run (engineRun 63 1073741824 {}) (initL o.limit) (envOf s o t)) := by
    rw [isOOF_iff_resOf]
    rintro ⟨site, h⟩
    exact hfuel site h
  obtain ⟨f', c', l', h1, h2, h3, h4⟩ := skips_layout 63 o.limit _ (layout_ofInput hs)
    (envOf s o t) [] (by simp only [envOf, ofInput_idx, List.drop_zero, List.append_nil])
    1073741824 {} (initL o.limit) ⟨rfl, rfl⟩ (locRel_init _ _) (Nat.le_refl _) hoof
  have hoof' := fun h => hoof (h4.isOOF.2 h)
  rw [h4.resOf]
  cases f' with
  | zero =>
    exfalso
    apply hoof'
    unfold engineRun
    rw [M.run_bind, run_loop_zero]
    exact ⟨_, rfl⟩
  | succ g =>
    refine run_engine_eof 63 g c' h2 l' _ h3.tape h3.eol ?_
    simp only [envAt, envOf, ofInput_idx, Nat.zero_add, Nat.lt_irrefl, not_false_eq_true]

/-! ## one parser run behind a layout prefix -/

/-- **C14, one parser run, layout prefix**: `runParser_shift` with comment lines allowed in the
    prefix -/
theorem runParser_layout (pre B : Str) (o : Opts) (t : List Char) (hpre : Layout pre)
    (hB : 2 ≤ (Tape.ofInput B).line.length) (hproc : o.proceed = false)
    (hfuel : ∀ site, (runParser (pre ++ B) o t).1 ≠ .error (.outOfFuel site)) :
    RunRel pre (runParser B o t).1 (runParser (pre ++ B) o t).1 := by
  have hBne : B ≠ [] := by
    intro h; subst h
    simp [Tape.ofInput] at hB
  rw [runParser_fst, runParser_fst]
  have hmax : maxDepth = 63 + 1 := rfl
  rw [hmax]
  have hoof : ¬ IsOOF (M.run (parserRun (63 + 1)) (initL o.limit) (envOf (pre ++ B) o t)) := by
    rw [isOOF_iff_resOf]
    rintro ⟨site, h⟩
    exact hfuel site (by rw [runParser_fst, hmax]; exact h)
  have hcons := (skips_layout 63 o.limit pre hpre (envOf (pre ++ B) o t) (Tape.ofInput B).line
    (by simp only [envOf, ofInput_append pre B hBne, List.drop_zero])).run_eq
    (by simp only [envOf, ofInput_append pre B hBne, List.length_append]; omega)
    hproc ⟨rfl, rfl⟩ (locRel_init _ _) (Nat.le_refl _) hoof
  rw [show (envOf (pre ++ B) o t).tape.idx = 0 from ofInput_idx _, Nat.zero_add] at hcons
  have hpr : parserRun (63 + 1) = engineRun 63 1073741824 {} := rfl
  rw [hpr, hcons, ← hpr]
  refine runRel_of_outRel (n' := 0) ?_
  refine sim_parserRun actionsHyp (63 + 1) true _ _ _ _ ?_
  exact
    { env := ⟨⟨by simp only [envAt, envOf]; rw [ofInput_append pre B hBne],
                by simp only [envAt, envOf]; rw [ofInput_idx]; omega,
                by simp only [envAt, envOf]; rw [ofInput_append pre B hBne], hB⟩, rfl, rfl, rfl⟩
      loc := locRel_init _ _
      mode := rfl
      room := fun _ => Room.zero _
      eolOK := fun _ h => by cases h
      proc := hproc }

end Bashlex.C14
