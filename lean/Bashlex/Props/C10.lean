/-
  Property C10, the reader part, at model level:
  "Each '<<' or '<<-' redirection is paired with the here-document that follows the line it
   appears on, bodies being consumed in the order their operators appear.  The body runs to the
   first line equal to the quote-removed delimiter ('<<-' ignoring leading tabs); the body node's
   value and span are exactly that text through the delimiter line, and parsing resumes after it."

  What is proved here, for ALL states of a parser — top-level parsers (tape in the environment)
  and nested parsers (tape in the local state) by one and the same theorem, see `Tape.lean`:

    readline_spec     `readline(False)` returns `specReadline`'s text and moves the cursor there
    makeheredoc_spec  `makeheredoc` attaches exactly `specHeredoc`'s document with span
                      `(start, cursor' - 1)`, extends the redirect's span iff the body starts right
                      after it, moves the cursor to `cursor'`, changes nothing else; if the input
                      ends first it raises the ParsingError `eofError` (in both modes)
    gather_spec       `gatherheredocuments` = the fold `specGather` over the queue, oldest first:
                      body i+1 starts where body i ended (`specGather_cons`), the queue is empty
                      afterwards; non-strict mode at the end of input bumps the cursor and leaves
                      the rest queued.  `specGatherS_fifo` spells out "the i-th queued redirect
                      gets the i-th body; nothing else in the store changes".
    specHeredoc_*     the pure specification is the right one (`Facts.lean`): the value ends
                      with the delimiter, is the concatenation of the lines before the FIRST line
                      that equals the delimiter, is (for '<<') the consumed slice of the input
                      modulo continuation pairs, and the cursor afterwards is just behind the
                      newline of the delimiter line (or at the end of the input).
    *_local, *_top    the instances for `Local.tape = some t` and `Local.tape = none`
    *_top_eq_local    the simulation "a top-level run equals the local-tape run with the tape
                      moved into the state" for `gatherheredocuments`, `makeheredoc`, `readline`
                      (any state, no hypotheses), from the generic framework of `Sim.lean`
                      (`SimEq`, closed under `bind`/`loop`, one lemma per tape accessor).

  Hypotheses (`Ready l e`), all true whenever the tokenizer enters `gatherheredocuments` from
  `_readtoken` on an input built by `Tape.ofInput` of length < 2^30 in strict mode:
    eol   `_eol_ungetc_lookahead` is empty.  PROVED for the call site in `_readtoken`, in every
          state (`readtoken_gather_slot_empty`, `Entry.lean`: a guard on the slot in front of the
          call is dead, because the call follows a `_getc`, `getc_clears_slot`).  At the second
          call site (action `p_simple_list`) it is a hypothesis: `_ungetc` fills the slot only
          when the line is empty or the cursor is beyond the end (`Tape.ungetc`), i.e. only
          after a non-strict bump, so it holds there in strict mode.
    idx   the cursor is inside the input (false only after a non-strict bump:
          `gather_beyond_end` covers that case).
    len   |input| < 2^30 — the model's loop fuel (`loopFuel`); beyond it the model (not the
          implementation) gives `outOfFuel`.
    nbs   the input does not end in a backslash (`ofInput_noFinalBackslash`); otherwise `_getc`
          raises IndexError.

  NOT covered (the known findings of C10 live there; these theorems are about the reader GIVEN
  the queue):
    * WHEN the parser queues a redirect relative to when the tokenizer gathers (the LALR
      look-ahead, defect D11): inside `( )`, `{ }`, function bodies and `case` the redirect is
      queued only after the tokenizer has passed the newline, so the body is gathered one line too
      late.  Witness (checked with `#eval (parse "(cat <<E\nx\nE\n)\n".toList {}).1`): the
      heredoc node is `(11, 12) "E"` and `x` is parsed as a command.
    * quote removal of the delimiter: `RedirCell.delim` is the RAW token (`redirnode.output.word`)
      and is compared as such, so `<<'E'` never matches.  Witness:
      `#eval (parse "cat <<'E'\nx\nE\n".toList {}).1` =
      ParsingError "here-document at line 0 delimited by end-of-file (wanted \"'E'\")" at 14.
    * that `resolve` copies the store cell into the tree (`Model/Parse.lean`, by definition).
  Further observations (not defects of the model; behaviour of the implementation it copies):
    * a body does not start at the cursor but after the continuation pairs `_peekc` skips
      (`skipContIdx`): `#eval (parse "cat <<E\n\\\nx\nE\n".toList {}).1` has heredoc `(10, 13)`;
    * continuation pairs are removed inside bodies even for quoted delimiters, and a delimiter
      line may be spliced from `E\<newline>` pieces (`readline(False)` sits on `_getc(True)`);
    * in non-strict mode only a body that has not begun is skipped; an unterminated body raises
      the ParsingError in both modes (`#eval (parse "cat <<E\nfoo".toList {strict := false}).1`).
-/
import Bashlex.Props.C10.Gather
import Bashlex.Props.C10.Facts
import Bashlex.Props.C10.Sim
import Bashlex.Props.C10.Entry

namespace Bashlex.C10
open Bashlex
set_option linter.unusedSimpArgs false
set_option linter.unusedVariables false

/-! ## statements in terms of `(line, idx)` -/

/-- the hypotheses of the reader theorems (see the header for where they hold) -/
structure Ready (l : Local) (e : Env) : Prop where
  eol : l.eolLookahead = none
  idx : (tapeOf l e).idx ≤ (tapeOf l e).line.length
  len : (tapeOf l e).line.length < 1073741824
  nbs : NoFinalBackslash (tapeOf l e).line

/-- the state `(l, e)` with the cursor at `i` -/
def atL (l : Local) (e : Env) (i : Nat) : Local := putL l { tapeOf l e with idx := i }
def atE (l : Local) (e : Env) (i : Nat) : Env := putE l e { tapeOf l e with idx := i }

theorem stL_eq_atL (l : Local) (e : Env) (r : Str) :
    stL l e r = atL l e (posOf (tapeOf l e).line r) := rfl
theorem stE_eq_atE (l : Local) (e : Env) (r : Str) :
    stE l e r = atE l e (posOf (tapeOf l e).line r) := rfl

/-- nested parser: the cursor moves in the local state, the environment is untouched -/
theorem atL_local {l : Local} {t : Tape} (h : l.tape = some t) (e : Env) (i : Nat) :
    atL l e i = { l with tape := some { t with idx := i } } := by
  cases l with
  | mk tape => simp only at h; subst h; rfl
theorem atE_local {l : Local} {t : Tape} (h : l.tape = some t) (e : Env) (i : Nat) :
    atE l e i = e := by
  cases l with
  | mk tape => simp only at h; subst h; rfl

/-- top-level parser: the cursor moves in the environment, the local state is untouched -/
theorem atL_top {l : Local} (h : l.tape = none) (e : Env) (i : Nat) : atL l e i = l := by
  cases l with
  | mk tape => simp only at h; subst h; rfl
theorem atE_top {l : Local} (h : l.tape = none) (e : Env) (i : Nat) :
    atE l e i = { e with tape := { e.tape with idx := i } } := by
  cases l with
  | mk tape => simp only at h; subst h; rfl

theorem Ready.suffix {l : Local} {e : Env} (h : Ready l e) :
    (tapeOf l e).line.drop (tapeOf l e).idx <:+ (tapeOf l e).line := List.drop_suffix _ _

theorem Ready.dropLen {l : Local} {e : Env} (h : Ready l e) :
    ((tapeOf l e).line.drop (tapeOf l e).idx).length < 1073741824 := by
  rw [List.length_drop]; have := h.len; omega

/-! ## 2. `readline(False)` -/

/-- `readline(False)` returns `specReadline`'s text and leaves the cursor behind it; at the end
    of the input (`none`) it returns `None` with the cursor at the end. -/
theorem readline_spec {l : Local} {e : Env} (h : Ready l e) :
    M.run (readline false) l e =
      match specReadline (tapeOf l e).line (tapeOf l e).idx with
      | some (txt, i) => (.ok (some txt, atL l e i), atE l e i)
      | none => (.ok (none, atL l e (tapeOf l e).line.length), atE l e (tapeOf l e).line.length) := by
  have key := run_readline_st l e h.eol h.suffix (h.nbs.drop _) h.dropLen
  rw [stL_self h.idx, stE_self h.idx] at key
  rw [key]
  unfold specReadline
  cases specReadlineS ((tapeOf l e).line.drop (tapeOf l e).idx) with
  | none => simp [stL_eq_atL, stE_eq_atE, posOf]
  | some w => obtain ⟨txt, r⟩ := w; simp [stL_eq_atL, stE_eq_atE]

/-! ## 3. `makeheredoc` -/

/-- `makeheredoc(tokenizer, redirnode, 0, killleading)` for the store cell `id`:
    if `specHeredoc` finds the document `v` ending at cursor `i`, the cell gets
    `heredoc = ((start, i - 1), v)`, its `pos` is extended to `(pos.1, i - 1)` iff
    `pos.2 + 1 = start` (`attach`), the cursor is `i`, nothing else changes;
    otherwise ParsingError "here-document at line 0 delimited by end-of-file (wanted …)" with the
    whole input and position = its length (`eofError`), whatever the strictness. -/
theorem makeheredoc_spec {l : Local} {e : Env} (h : Ready l e) {id : Nat} {cell : RedirCell}
    (hcell : l.store[id]? = some cell) (kill : Bool) :
    M.run (makeheredoc id kill) l e =
      match specHeredoc (tapeOf l e).line (tapeOf l e).idx cell.delim kill with
      | some (v, i) =>
        (.ok ((), { atL l e i with
            store := l.store.set id (attach cell (tapeOf l e).idx (i - 1) v) }), atE l e i)
      | none => (.error (eofError cell.delim (tapeOf l e).line), atE l e (tapeOf l e).line.length) := by
  have key := run_makeheredoc_st l e h.eol h.suffix (h.nbs.drop _) h.dropLen hcell kill
  rw [stL_self h.idx, stE_self h.idx] at key
  rw [key]
  unfold specHeredoc
  cases specHeredocS cell.delim kill ((tapeOf l e).line.drop (tapeOf l e).idx) with
  | none => simp [stE_eq_atE, posOf]
  | some w => obtain ⟨v, r⟩ := w; simp [stL_eq_atL, stE_eq_atE, posOf_drop h.idx]

/-! ## 4. `gatherheredocuments` -/

/-- the ways `gatherheredocuments` ends, with cursors -/
inductive GatherOutI where
  /-- the queue is empty; the final store and the cursor -/
  | done (store : List RedirCell) (idx : Nat)
  /-- non-strict mode at the end of input: cursor bumped to `|line| + 1`, `queue` stays pending -/
  | stopped (store : List RedirCell) (queue : List (Nat × Bool))
  /-- the input ended inside a body: ParsingError -/
  | eof (delim : Str)
  /-- an id outside the store (not a Python path) -/
  | badId (idx : Nat)

def GatherOut.toI (line : Str) : GatherOut → GatherOutI
  | .done st r => .done st (posOf line r)
  | .stopped st q => .stopped st q
  | .eof d => .eof d
  | .badId r => .badId (posOf line r)

/-- `gatherheredocuments` as a pure function of queue, store and cursor -/
def specGather (line : Str) (strict : Bool) (queue : List (Nat × Bool)) (store : List RedirCell)
    (idx : Nat) : GatherOutI :=
  (specGatherS line strict queue store (line.drop idx)).toI line

/-- the cursor after the continuation pairs `_peekc()` skips -/
def skipContIdx (line : Str) (idx : Nat) : Nat := posOf line (skipCont (line.drop idx))

/-- outcome of `gatherheredocuments` started in `(l, e)` -/
def gatherResultI (l : Local) (e : Env) : GatherOutI → Except Exn (Unit × Local) × Env
  | .done store i => (.ok ((), { atL l e i with redirstack := [], store := store }), atE l e i)
  | .stopped store q =>
    (.ok ((), { atL l e ((tapeOf l e).line.length + 1) with redirstack := q, store := store }),
     atE l e ((tapeOf l e).line.length + 1))
  | .eof d => (.error (eofError d (tapeOf l e).line), atE l e (tapeOf l e).line.length)
  | .badId i => (.error (.foreign "IndexError" "makeheredoc"), atE l e i)

theorem gatherResult_toI (l : Local) (e : Env) (o : GatherOut) :
    gatherResult l e o = gatherResultI l e (o.toI (tapeOf l e).line) := by
  cases o <;> simp [gatherResult, gatherResultI, GatherOut.toI, stL_eq_atL, stE_eq_atE, upd, atL,
    atE, posOf]

/-- `gatherheredocuments` computes `specGather` -/
theorem gather_spec {l : Local} {e : Env} (h : Ready l e) :
    M.run gatherheredocuments l e =
      gatherResultI l e
        (specGather (tapeOf l e).line (strictOf l e) l.redirstack l.store (tapeOf l e).idx) := by
  have key := run_gather_st l e h.eol h.suffix (h.nbs.drop _) h.dropLen
  rw [stL_self h.idx, stE_self h.idx] at key
  rw [key, gatherResult_toI]
  rfl

/-- FIFO, base: an empty queue is a no-op -/
theorem specGather_nil (line : Str) (strict : Bool) (store : List RedirCell) {idx : Nat}
    (hi : idx ≤ line.length) : specGather line strict [] store idx = .done store idx := by
  simp [specGather, specGatherS, GatherOut.toI, posOf_drop hi]

theorem skipContIdx_le (line : Str) (idx : Nat) : skipContIdx line idx ≤ line.length := posOf_le _ _

theorem drop_skipContIdx (line : Str) (idx : Nat) :
    line.drop (skipContIdx line idx) = skipCont (line.drop idx) :=
  drop_posOf ((skipCont_suffix _).trans (List.drop_suffix _ _))

/-- FIFO, step: the OLDEST queued redirect gets the body that starts at the cursor (after the
    continuation pairs `_peekc` skips); the next one continues from the cursor after that body.
    Non-strict mode with the input exhausted stops and keeps the queue. -/
theorem specGather_cons (line : Str) (strict : Bool) (id : Nat) (kill : Bool)
    (q : List (Nat × Bool)) (store : List RedirCell) (idx : Nat) :
    specGather line strict ((id, kill) :: q) store idx =
      if skipContIdx line idx = line.length ∧ strict = false then .stopped store ((id, kill) :: q)
      else
        match store[id]? with
        | none => .badId (skipContIdx line idx)
        | some cell =>
          match specHeredoc line (skipContIdx line idx) cell.delim kill with
          | none => .eof cell.delim
          | some (v, i) =>
            specGather line strict q
              (store.set id (attach cell (skipContIdx line idx) (i - 1) v)) i := by
  have hsuf : skipCont (line.drop idx) <:+ line := (skipCont_suffix _).trans (List.drop_suffix _ _)
  have hiff : skipCont (line.drop idx) = [] ↔ skipContIdx line idx = line.length := by
    unfold skipContIdx posOf
    have := hsuf.length_le
    constructor
    · intro h; rw [h]; simp
    · intro h; exact List.eq_nil_of_length_eq_zero (by omega)
  unfold specGather
  simp only [specGatherS, hiff]
  split
  · rfl
  · cases hcell : store[id]? with
    | none => rfl
    | some cell =>
      simp only [specHeredoc, drop_skipContIdx]
      cases hh : specHeredocS cell.delim kill (skipCont (line.drop idx)) with
      | none => rfl
      | some w =>
        obtain ⟨v, r⟩ := w
        have hr : r <:+ line := (specHeredocS_isSuffix hh).trans hsuf
        simp only [Option.map_some, drop_posOf hr]
        rfl

/-- after a non-strict bump (cursor beyond the end) a further call bumps again and keeps the
    queue: the only states with `idx > |line|` in which `gatherheredocuments` is entered -/
theorem gather_beyond_end {l : Local} {e : Env} (hla : l.eolLookahead = none)
    (hidx : (tapeOf l e).line.length ≤ (tapeOf l e).idx) (hq : l.redirstack ≠ [])
    (hstrict : strictOf l e = false) :
    M.run gatherheredocuments l e =
      (.ok ((), atL l e ((tapeOf l e).idx + 1)), atE l e ((tapeOf l e).idx + 1)) := by
  rw [gather_eq, M.run_bind, run_get]
  simp only [M.run_pure]
  rw [run_loop_succ]
  cases hq' : l.redirstack with
  | nil => exact absurd hq' hq
  | cons p rest =>
    obtain ⟨id, kill⟩ := p
    have hg : (tapeOf l e).getc true ((tapeOf l e).line.length + 1) = .ok (none, tapeOf l e) := by
      rw [Tape.getc_succ, List.getElem?_eq_none hidx]
    have : M.run (gBody ()) l e =
        (.ok (.inr (), atL l e ((tapeOf l e).idx + 1)), atE l e ((tapeOf l e).idx + 1)) := by
      unfold gBody
      simp only [M.run_bind, run_get, hq', peekc]
      rw [run_getc _ _ _ hla, hg]
      simp only [putL_self, putE_self, Option.isSome_none, Bool.false_eq_true, if_false,
        M.run_pure, Option.isNone_none, if_true, M.run_bind, run_optStrict, hstrict, Bool.not_false,
        run_bumpIdx]
      rfl
    rw [this]

/-! ## entry states -/

/-- inputs prepared by `tokenizer.__init__` never end in a backslash -/
theorem ofInput_noFinalBackslash (s : Str) : NoFinalBackslash (Tape.ofInput s).line :=
  fun h => absurd (Tape.ofInput_getLast? s h) (by decide)

/-! ## 5. the specification is the right one, in `(line, idx)` form -/

theorem specHeredoc_some {line delim : Str} {start : Nat} {kill : Bool} {v : Str} {i : Nat}
    (h : specHeredoc line start delim kill = some (v, i)) :
    ∃ r, specHeredocS delim kill (line.drop start) = some (v, r) ∧ i = posOf line r ∧
      r <:+ line.drop start := by
  unfold specHeredoc at h
  cases hh : specHeredocS delim kill (line.drop start) with
  | none => rw [hh] at h; cases h
  | some w =>
    obtain ⟨v', r⟩ := w
    rw [hh] at h
    simp only [Option.map_some, Option.some.injEq, Prod.mk.injEq] at h
    exact ⟨r, by rw [h.1], h.2.symm, specHeredocS_isSuffix hh⟩

/-- the document ends with the delimiter -/
theorem specHeredoc_value_suffix {line delim : Str} {start : Nat} {kill : Bool} {v : Str} {i : Nat}
    (h : specHeredoc line start delim kill = some (v, i)) : delim <:+ v := by
  obtain ⟨r, hr, _, _⟩ := specHeredoc_some h
  exact specHeredocS_value_suffix hr

/-- the cursor after the document: strictly behind the start, inside the input, and just behind
    a newline (the one of the delimiter line) unless it is the end of the input -/
theorem specHeredoc_cursor {line delim : Str} {start : Nat} {kill : Bool} {v : Str} {i : Nat}
    (h : specHeredoc line start delim kill = some (v, i)) :
    start < i ∧ i ≤ line.length ∧ (line[i - 1]? = some '\n' ∨ i = line.length) := by
  obtain ⟨r, hr, hi, hsuf⟩ := specHeredoc_some h
  obtain ⟨pre, h1, h2, h3⟩ := specHeredocS_prefix delim kill _ _ (Nat.le_refl _) hr
  have hstart : start < line.length := by
    apply Nat.lt_of_not_le
    intro hc
    rw [List.drop_eq_nil_of_le hc] at h1
    have := List.append_eq_nil_iff.mp h1.symm
    exact h2 this.1
  have hline : line = line.take start ++ (pre ++ r) := by rw [← h1, List.take_append_drop]
  have hlen : line.length = start + (pre.length + r.length) := by
    conv => lhs; rw [hline]
    simp only [List.length_append, List.length_take]; omega
  have hpos : 0 < pre.length := List.length_pos_iff.mpr h2
  have hi' : i = start + pre.length := by rw [hi]; unfold posOf; omega
  refine ⟨by omega, by omega, ?_⟩
  rcases h3 with h3 | h3
  · left
    obtain ⟨ys, rfl⟩ := List.getLast?_eq_some_iff.mp h3
    rw [hline, hi']
    simp only [List.length_append, List.length_cons, List.length_nil]
    rw [List.getElem?_append_right (by simp; omega)]
    simp only [List.length_take, Nat.min_eq_left (Nat.le_of_lt hstart)]
    rw [List.append_assoc, List.getElem?_append_right (by omega)]
    have : start + (ys.length + (0 + 1)) - 1 - start - ys.length = 0 := by omega
    rw [this]; rfl
  · right; subst h3; simp at hlen; omega

/-- for `<<` (no tab stripping) the document, plus a newline unless the input ended right behind
    the delimiter, is exactly the slice of the input from the start of the body to the cursor
    after it, with the continuation pairs removed -/
theorem specHeredoc_slice {line delim : Str} {start : Nat} {v : Str} {i : Nat}
    (hbs : NoFinalBackslash line) (h : specHeredoc line start delim false = some (v, i)) :
    removeCont (Str.slice line start i) = v ++ ['\n'] ∨
      (i = line.length ∧ removeCont (Str.slice line start i) = v) := by
  obtain ⟨r, hr, hi, hsuf⟩ := specHeredoc_some h
  obtain ⟨pre, h1, h2, h3, h4⟩ := specHeredocS_slice (hbs.drop start) hr
  have hstart : start < line.length := by
    apply Nat.lt_of_not_le
    intro hc
    rw [List.drop_eq_nil_of_le hc] at h1
    have := List.append_eq_nil_iff.mp h1.symm
    exact h2 this.1
  have hline : line = line.take start ++ (pre ++ r) := by rw [← h1, List.take_append_drop]
  have hlen : line.length = start + (pre.length + r.length) := by
    conv => lhs; rw [hline]
    simp only [List.length_append, List.length_take]; omega
  have hi' : i = start + pre.length := by rw [hi]; unfold posOf; omega
  have hslice : Str.slice line start i = pre := by
    unfold Str.slice
    have htake : line.take i = line.take start ++ pre := by
      conv => lhs; rw [hline, ← List.append_assoc]
      rw [List.take_left' (by simp [List.length_take]; omega)]
    rw [htake, List.drop_left' (by simp [List.length_take]; omega)]
  rw [hslice]
  rcases h4 with h4 | ⟨h4, h5⟩
  · exact Or.inl h4
  · right; subst h4; simp at hlen; exact ⟨by omega, h5⟩

/-- the document is the concatenation of the lines before the delimiter line and the delimiter,
    and the delimiter line is the FIRST line equal to the delimiter (`readLines` iterates
    `readline(False)`; lines are compared after `heredocLine`, i.e. tab-stripped for `<<-`) -/
theorem specHeredoc_lines {line delim : Str} {start : Nat} {kill : Bool} {v : Str} {i : Nat}
    (h : specHeredoc line start delim kill = some (v, i)) :
    ∃ ls dl r, readLines (ls.length + 1) (line.drop start) = some (ls ++ [dl], r) ∧
      i = posOf line r ∧
      (∀ x ∈ ls, (heredocLine kill x).dropLast ≠ delim) ∧ (heredocLine kill dl).dropLast = delim ∧
      v = (ls.map (heredocLine kill)).flatten ++ delim := by
  obtain ⟨r, hr, hi, _⟩ := specHeredoc_some h
  obtain ⟨ls, dl, h1, h2, h3, h4⟩ := specHeredocS_lines delim kill _ _ (Nat.le_refl _) hr
  exact ⟨ls, dl, r, h1, hi, h2, h3, h4⟩

/-- the ParsingError is raised only if NO line of the rest of the input equals the delimiter -/
theorem specHeredoc_none {line delim : Str} {start : Nat} {kill : Bool}
    (h : specHeredoc line start delim kill = none) {n : Nat} {ls : List Str} {r : Str}
    (hl : readLines n (line.drop start) = some (ls, r)) :
    ∀ x ∈ ls, (heredocLine kill x).dropLast ≠ delim := by
  unfold specHeredoc at h
  cases hh : specHeredocS delim kill (line.drop start) with
  | none => exact specHeredocS_none delim kill n _ hh hl
  | some w => rw [hh] at h; cases h

/-! ## instances: nested parsers (local tape) and top-level parsers (environment tape) -/

theorem Ready.local {l : Local} {e : Env} {t : Tape} (ht : l.tape = some t)
    (hla : l.eolLookahead = none) (hidx : t.idx ≤ t.line.length)
    (hlen : t.line.length < 1073741824) (hbs : NoFinalBackslash t.line) : Ready l e := by
  refine ⟨hla, ?_, ?_, ?_⟩ <;> rw [tapeOf_local ht] <;> assumption

theorem Ready.top {l : Local} {e : Env} (ht : l.tape = none)
    (hla : l.eolLookahead = none) (hidx : e.tape.idx ≤ e.tape.line.length)
    (hlen : e.tape.line.length < 1073741824) (hbs : NoFinalBackslash e.tape.line) : Ready l e := by
  refine ⟨hla, ?_, ?_, ?_⟩ <;> rw [tapeOf_top ht] <;> assumption

/-- `readline_spec` on a local tape: a pure state function, the environment is not consulted -/
theorem readline_spec_local {l : Local} {e : Env} {t : Tape} (ht : l.tape = some t)
    (hla : l.eolLookahead = none) (hidx : t.idx ≤ t.line.length)
    (hlen : t.line.length < 1073741824) (hbs : NoFinalBackslash t.line) :
    M.run (readline false) l e =
      match specReadline t.line t.idx with
      | some (txt, i) => (.ok (some txt, { l with tape := some { t with idx := i } }), e)
      | none => (.ok (none, { l with tape := some { t with idx := t.line.length } }), e) := by
  rw [readline_spec (Ready.local ht hla hidx hlen hbs)]
  simp only [tapeOf_local ht, atL_local ht, atE_local ht]
  try rfl

/-- `readline_spec` on the environment's tape -/
theorem readline_spec_top {l : Local} {e : Env} (ht : l.tape = none)
    (hla : l.eolLookahead = none) (hidx : e.tape.idx ≤ e.tape.line.length)
    (hlen : e.tape.line.length < 1073741824) (hbs : NoFinalBackslash e.tape.line) :
    M.run (readline false) l e =
      match specReadline e.tape.line e.tape.idx with
      | some (txt, i) => (.ok (some txt, l), { e with tape := { e.tape with idx := i } })
      | none => (.ok (none, l), { e with tape := { e.tape with idx := e.tape.line.length } }) := by
  rw [readline_spec (Ready.top ht hla hidx hlen hbs)]
  simp only [tapeOf_top ht, atL_top ht, atE_top ht]
  try rfl

theorem makeheredoc_spec_local {l : Local} {e : Env} {t : Tape} (ht : l.tape = some t)
    (hla : l.eolLookahead = none) (hidx : t.idx ≤ t.line.length)
    (hlen : t.line.length < 1073741824) (hbs : NoFinalBackslash t.line)
    {id : Nat} {cell : RedirCell} (hcell : l.store[id]? = some cell) (kill : Bool) :
    M.run (makeheredoc id kill) l e =
      match specHeredoc t.line t.idx cell.delim kill with
      | some (v, i) =>
        (.ok ((), { l with
            tape := some { t with idx := i }
            store := l.store.set id (attach cell t.idx (i - 1) v) }), e)
      | none => (.error (eofError cell.delim t.line), e) := by
  rw [makeheredoc_spec (Ready.local ht hla hidx hlen hbs) hcell]
  simp only [tapeOf_local ht, atL_local ht, atE_local ht]
  try rfl

theorem makeheredoc_spec_top {l : Local} {e : Env} (ht : l.tape = none)
    (hla : l.eolLookahead = none) (hidx : e.tape.idx ≤ e.tape.line.length)
    (hlen : e.tape.line.length < 1073741824) (hbs : NoFinalBackslash e.tape.line)
    {id : Nat} {cell : RedirCell} (hcell : l.store[id]? = some cell) (kill : Bool) :
    M.run (makeheredoc id kill) l e =
      match specHeredoc e.tape.line e.tape.idx cell.delim kill with
      | some (v, i) =>
        (.ok ((), { l with store := l.store.set id (attach cell e.tape.idx (i - 1) v) }),
         { e with tape := { e.tape with idx := i } })
      | none => (.error (eofError cell.delim e.tape.line),
         { e with tape := { e.tape with idx := e.tape.line.length } }) := by
  rw [makeheredoc_spec (Ready.top ht hla hidx hlen hbs) hcell]
  simp only [tapeOf_top ht, atL_top ht, atE_top ht]
  try rfl

/-- `gather_spec` on a local tape -/
theorem gather_spec_local {l : Local} {e : Env} {t : Tape} (ht : l.tape = some t)
    (hla : l.eolLookahead = none) (hidx : t.idx ≤ t.line.length)
    (hlen : t.line.length < 1073741824) (hbs : NoFinalBackslash t.line) :
    M.run gatherheredocuments l e =
      match specGather t.line (strictOf l e) l.redirstack l.store t.idx with
      | .done store i =>
        (.ok ((), { l with tape := some { t with idx := i }, redirstack := [], store := store }), e)
      | .stopped store q =>
        (.ok ((), { l with tape := some { t with idx := t.line.length + 1 }, redirstack := q,
                           store := store }), e)
      | .eof d => (.error (eofError d t.line), e)
      | .badId _ => (.error (.foreign "IndexError" "makeheredoc"), e) := by
  rw [gather_spec (Ready.local ht hla hidx hlen hbs)]
  simp only [tapeOf_local ht]
  cases specGather t.line (strictOf l e) l.redirstack l.store t.idx <;>
    simp only [gatherResultI, tapeOf_local ht, atL_local ht, atE_local ht]

/-- `gather_spec` on the environment's tape -/
theorem gather_spec_top {l : Local} {e : Env} (ht : l.tape = none)
    (hla : l.eolLookahead = none) (hidx : e.tape.idx ≤ e.tape.line.length)
    (hlen : e.tape.line.length < 1073741824) (hbs : NoFinalBackslash e.tape.line) :
    M.run gatherheredocuments l e =
      match specGather e.tape.line (strictOf l e) l.redirstack l.store e.tape.idx with
      | .done store i =>
        (.ok ((), { l with redirstack := [], store := store }),
         { e with tape := { e.tape with idx := i } })
      | .stopped store q =>
        (.ok ((), { l with redirstack := q, store := store }),
         { e with tape := { e.tape with idx := e.tape.line.length + 1 } })
      | .eof d => (.error (eofError d e.tape.line),
         { e with tape := { e.tape with idx := e.tape.line.length } })
      | .badId i => (.error (.foreign "IndexError" "makeheredoc"),
         { e with tape := { e.tape with idx := i } }) := by
  rw [gather_spec (Ready.top ht hla hidx hlen hbs)]
  simp only [tapeOf_top ht]
  cases specGather e.tape.line (strictOf l e) l.redirstack l.store e.tape.idx <;>
    simp only [gatherResultI, tapeOf_top ht, atL_top ht, atE_top ht]

/-! ## the simulation: a top-level run equals the local-tape run with the tape moved into the state

  Generic framework in `Sim.lean` (`Sim`, `SimEq`, rules for `pure`/`bind`/`loop`/`raise`/
  `modify`/`get`, one lemma per accessor).  No hypothesis on the state: the look-ahead slot,
  the cursor, the strictness and the input are arbitrary. -/

/-- run `gatherheredocuments` with the tape moved into the state: the top-level run returns the
    same value, the same local state (tape field aside), and the final local tape is the final
    environment tape; an exception is the same exception (`TopEqLocal`). -/
theorem gather_top_eq_local (l : Local) (e : Env) (ht : l.tape = none) :
    TopEqLocal gatherheredocuments l e :=
  simEq_gatherheredocuments.top_eq_local l e ht

theorem makeheredoc_top_eq_local (id : Nat) (kill : Bool) (l : Local) (e : Env)
    (ht : l.tape = none) : TopEqLocal (makeheredoc id kill) l e :=
  (simEq_makeheredoc id kill).top_eq_local l e ht

theorem readline_top_eq_local (rqn : Bool) (l : Local) (e : Env) (ht : l.tape = none) :
    TopEqLocal (readline rqn) l e :=
  (simEq_readline rqn).top_eq_local l e ht

/-! ## the specification on concrete inputs (kernel-checked; the oracle is not vacuous) -/

/-- a continuation pair inside a line is removed; the cursor is behind the newline -/
example : specReadline "ab\\\ncd\nef".toList 0 = some ("abcd\n".toList, 7) := by
  simp [specReadline, specReadlineS_eq, getcS, posOf]

/-- `<<E`: a tab-indented `E` is not the delimiter; value through the delimiter without its
    newline; cursor behind the delimiter line -/
example : specHeredoc "cat <<E\nx\n\tE\nE\nrest\n".toList 8 ['E'] false =
    some ("x\n\tE\nE".toList, 15) := by
  simp [specHeredoc, specHeredocS_eq, specReadlineS_eq, getcS, posOf, heredocLine]

/-- `<<-E`: leading tabs are stripped before comparing and in the value -/
example : specHeredoc "cat <<-E\nx\n\tE\nE\nrest\n".toList 9 ['E'] true =
    some ("x\nE".toList, 14) := by
  simp [specHeredoc, specHeredocS_eq, specReadlineS_eq, getcS, posOf, heredocLine, stripTabs]

/-- the input ends first -/
example : specHeredoc "cat <<E\nx\n".toList 8 ['E'] false = none := by
  simp [specHeredoc, specHeredocS_eq, specReadlineS_eq, getcS, posOf, heredocLine]

end Bashlex.C10

#print axioms Bashlex.C10.readline_spec
#print axioms Bashlex.C10.makeheredoc_spec
#print axioms Bashlex.C10.gather_spec
#print axioms Bashlex.C10.specGather_nil
#print axioms Bashlex.C10.specGather_cons
#print axioms Bashlex.C10.specGatherS_fifo
#print axioms Bashlex.C10.gather_beyond_end
#print axioms Bashlex.C10.getc_clears_slot
#print axioms Bashlex.C10.readtoken_gather_slot_empty
#print axioms Bashlex.C10.ofInput_noFinalBackslash
#print axioms Bashlex.C10.specHeredoc_value_suffix
#print axioms Bashlex.C10.specHeredoc_cursor
#print axioms Bashlex.C10.specHeredoc_slice
#print axioms Bashlex.C10.specHeredoc_lines
#print axioms Bashlex.C10.specHeredoc_none
#print axioms Bashlex.C10.removeCont_getcS
#print axioms Bashlex.C10.readline_spec_local
#print axioms Bashlex.C10.readline_spec_top
#print axioms Bashlex.C10.makeheredoc_spec_local
#print axioms Bashlex.C10.makeheredoc_spec_top
#print axioms Bashlex.C10.gather_spec_local
#print axioms Bashlex.C10.gather_spec_top
#print axioms Bashlex.C10.gather_top_eq_local
#print axioms Bashlex.C10.makeheredoc_top_eq_local
#print axioms Bashlex.C10.readline_top_eq_local
#print axioms Bashlex.C10.SimEq.top_eq_local
