/-
  C14More — layout invariance beyond a blank prefix: comment lines and continuations in the prefix,
  the `parse`-level theorem, trailing layout, layout between two top-level commands.

  ## Results (all at model level, for the real tokenizer, all options except `proceedonerror`)

  `Layout` (`Props/C14/MComment.lean`) is the language `([ \t\n] | #[^\n]*\n | \\\n)*`: lines of
  blanks and tabs, each optionally ending in a comment, each ended by a newline, followed by blanks
  and tabs; a backslash-newline pair may stand wherever a blank may (inside a comment a
  backslash-newline is NOT a continuation: `_discard_until` reads with `_getc(False)`, and the
  definition follows the tokenizer).  `BlankNL pre → Layout pre`; `Layout` is decidable
  (`layout_iff_layoutB`).

  1. **`runParser_layout`**, **`runParser_layout_all`** — `runParser_shift` with `Layout pre` in
     place of `BlankNL pre` (`_all`: and without the artefact `B ∉ {"", "⏎"}`): one parser run on
     `pre ++ B` ends like the run on `B` moved by `|pre|` (`RunRel pre`);
     `parsesingle_layout_prefix`: the same for `parsesingle`.
     `consumeX`: a comment costs fuel only (one iteration of the `_discard_until` loop per
     character) and delivers the NEWLINE token of its newline, which the engine drops in state 0;
     a continuation is skipped inside `_getc(True)` itself (`run_getc_cont`).
  2. **`runParser_layout_only`**, **`parse_layout_only`** — a run on layout only returns no node.
  3. **`parse_layout_prefix`** (+ `_parts`, `_exn`) — `ParseRel pre (parse B o).1 (parse (pre ++ B) o).1`:
     ALL parts moved by `|pre|`; an exception is the same, except that a `ParsingError` of the first
     top-level run carries `pre ++ src`, `p + |pre|` (later parts: unchanged, D15).  No restriction
     on `B` (the artefact `B ∉ {"", "⏎"}` of `runParser_shift` is absent at this level).
  4. **`parse_layout_suffix`** — `parse (B ++ post) = parse B` (same parts, same spans) for layout
     `post`, when `B` ends in a newline or `post` starts with one, the runs of `parse B` are local
     and what `parse B` left unparsed is layout.
  5. **`C13_partial_layout`** — `parse (A ++ sep ++ B) = parse A ++ shift (parse B)` for a layout
     separator (comment lines between two top-level commands): interior layout AT a top-level
     command boundary; `C14_insert_between`: inserting layout `ins` there leaves the parts of `A`
     unchanged and moves every later part by `|ins|`.

  ## Hypotheses, and which of them are exclusions
  * `o.proceed = false` — exclusion, defect D19 (`C14.D19_witness`; with a comment line as prefix:
    `D19_comment_witness` below; `D19_comment_parsed`: `parse "#c⏎time⏎⏎"` with `proceedonerror`
    returns the text of the comment as a command).
  * `Joinable B post` (suffix theorem) — exclusion: `"a"` followed by `"#x⏎"` is the word `a#x`
    (`joinable_witness`).  A blank in front of the comment (`"a"` then `" #x⏎"`) is not covered
    (interior layout: the cell after `a` changes from `⏎` to a blank); not a defect, a gap.
  * `parseLocal B o` (suffix theorem, `C13_partial_layout`) — exclusion: in non-strict mode
    `"cat <<E⏎"` parses (missing here-document tolerated), `"cat <<E⏎" ++ "⏎"` raises
    `ParsingError` (`local_witness`).
  * no run out of (model) fuel on the longer input — model artefact, as in `C14.lean`; a comment of
    2^30 characters exhausts the loop of `_discard_until`.
  * `hpos` (prefix theorem: the first part of `B` does not end at index 0, or `pre = ""`) — decidable
    per input; needed because `parse` resumes at `max(end, 1)` after the first part; the only parts
    with `nextIndex = 0` are D19's `time` nodes.  Discharged in `Props/C14Total.lean` (`run_root`,
    from C03's span theorem and `NoD19`).
  * `hstop`: `parseStop B o ≤ |B|` (suffix theorem) — decidable per input; discharged in
    `Props/C14Total.lean` (`parseStop_le`).
  * `hrest`: `Layout (B.drop (parseStop B o))` (suffix theorem) — decidable per input; stays a
    hypothesis (false for `a⏎#c`, see `Props/C14Total.lean`).  For `B` ending in its last command
    (`parseStop B o = |B|`) it is trivial.

  ## Interior layout (inside a command)
  `Sim pre …` relates spans by the constant shift `|pre|`; widening a gap INSIDE a command needs
  the piecewise map `i ↦ if |X| ≤ i then i + k else i`: see `Props/C14Interior.lean`
  (conditional theorems).
-/
import Bashlex.Props.C14

namespace Bashlex.C14
open Bashlex Bashlex.C13

/-! ## helpers for kernel-decided hypotheses -/

def notOOFB {α : Type} : Except Exn α → Bool
  | .error (.outOfFuel _) => false
  | _ => true

theorem notOOF_of_isOk {α : Type} {r : Except Exn α} (h : notOOFB r = true) (site : String) :
    r ≠ .error (.outOfFuel site) := by
  intro e; rw [e] at h; cases h

def exnB : Outcome → Exn → Bool
  | .exn x, y => decide (x = y)
  | _, _ => false

theorem exn_of_check {x : Outcome} {y : Exn} (h : exnB x y = true) : x = .exn y := by
  cases x <;> simp [exnB] at h
  rw [h]

def posB (r : Except Exn (Option Node)) : Bool :=
  match r with
  | .ok (some part) => decide (0 < nextIndex part)
  | _ => true

theorem pos_of_posB {r : Except Exn (Option Node)} (h : posB r = true) (part : Node)
    (hp : r = .ok (some part)) : 0 < nextIndex part := by
  rw [hp] at h
  simpa [posB] using h

/-! ## non-vacuity: the hypotheses hold on concrete inputs (kernel evaluation) -/

namespace Examples
open C13.Examples

/-- `# c⏎ ⏎⇥#d\⏎  ` (the second comment ends in a backslash: no continuation there) -/
def pre1 : Str := "# c\n \n\t#d\\\n  ".toList

theorem layout_pre1 : Layout pre1 := by decide +kernel

/-- `parse "# c⏎ ⏎⇥#d\⏎  c | d"` from `parse "c | d"`, by the theorem -/
theorem ex_prefix : (parse (pre1 ++ B1) {}).1 = .parts (psB1.map (Node.shift 13)) :=
  parse_layout_prefix_parts pre1 B1 {} psB1 layout_pre1 rfl
    (notOOF_of_isOk (by decide +kernel))
    (.inr (pos_of_posB (by decide +kernel))) hB1

/-- a prefix with continuations: `\⏎ \⏎# x\⏎\⏎` (`# x\` is a comment; the pair after it is a
    continuation) -/
def pre2 : Str := "\\\n \\\n# x\\\n\\\n".toList

theorem layout_pre2 : Layout pre2 := by decide +kernel

theorem ex_prefix_cont : (parse (pre2 ++ B1) {}).1 = .parts (psB1.map (Node.shift 12)) :=
  parse_layout_prefix_parts pre2 B1 {} psB1 layout_pre2 rfl
    (notOOF_of_isOk (by decide +kernel))
    (.inr (pos_of_posB (by decide +kernel))) hB1

/-- an error of the first run moves: `parse ")"` raises at 0, `parse "#⏎\⏎)"` at 4 with the longer
    source -/
theorem ex_prefix_exn :
    ∃ y, (parse ("#\n\\\n".toList ++ [')']) {}).1 = .exn y ∧
      ExnRel "#\n\\\n".toList (.parsing "unexpected token ')'" [')'] 0) y :=
  parse_layout_prefix_exn "#\n\\\n".toList [')'] {} _
    (.comment [] (by decide) (.cont .nil)) rfl
    (notOOF_of_isOk (by decide +kernel))
    (.inr (pos_of_posB (by decide +kernel)))
    (exn_of_check (by decide +kernel))

/-- trailing layout: `parse "a b" = parse "a b⏎# c⏎⏎  "` -/
def post1 : Str := "\n# c\n\n  ".toList

theorem ex_suffix : (parse (A1 ++ post1) {}).1 = .parts psA1 :=
  parse_layout_suffix A1 post1 {} psA1 (by decide) hA1 hloc1 (by decide +kernel)
    (layout_of_layoutB (by decide +kernel)) (layout_of_layoutB (by decide +kernel))
    (notOOF_of_isOk (by decide +kernel))

/-- a comment line between two commands: `a b⏎# c⏎c | d` -/
def sep1 : Str := "\n# c\n".toList

theorem ex_between :
    (parse (A1 ++ sep1 ++ B1) {}).1 = .parts (psA1 ++ psB1.map (Node.shift 8)) :=
  C13_partial_layout A1 sep1 B1 {} psA1 psB1 (by decide) hA1 hB1 hloc1 (by decide +kernel)
    (layout_of_layoutB (by decide +kernel)) rfl
    (notOOF_of_isOk (by decide +kernel)) (pos_of_posB (by decide +kernel))

end Examples

/-! ## witnesses of the exclusions (kernel evaluation) -/

/-- D19 with a comment line as prefix: with `proceedonerror` the run on `"#c⏎time a"` is not the
    run on `"time a"` moved by 3 -/
theorem D19_comment_witness :
    C13.blankSkipB "#c\n".toList Btime { proceed := true } = false := by
  decide +kernel

/-- … and at `parse` level the damage is worse than a wrong span: with `proceedonerror`,
    `parse "#c⏎time⏎⏎"` returns the TEXT OF THE COMMENT as a command — the `time` node of D19 ends
    at 0, so the loop of `parse` resumes at index `max(0, 1) = 1`, inside the comment (this is why
    `parse_layout_prefix` needs `hpos`; no such input is known with `proceedonerror` off) -/
theorem D19_comment_parsed :
    C13.partsB (parse "#c\ntime\n\n".toList { proceed := true }).1
      [.pipeline (0, 0) [.reservedword (0, 0) ['!']],
       .command (1, 2) [.word (1, 2) ['c'] []],
       .pipeline (2, 2) [.reservedword (2, 2) ['!']],
       .pipeline (3, 3) [.reservedword (3, 3) ['!']],
       .command (4, 7) [.word (4, 7) ['i', 'm', 'e'] []]] = true := by
  decide +kernel

/-- `Joinable` is needed: `B = "a"`, `post = "#x⏎"` (layout; all other hypotheses of
    `parse_layout_suffix` hold) — `parse "a#x⏎"` is the word `a#x` -/
theorem joinable_witness :
    C13.partsB (parse (['a'] ++ "#x\n".toList) {}).1 (C13.partsOf (parse ['a'] {}).1) = false ∧
    parseLocal ['a'] {} = true ∧ parseStop ['a'] {} = 1 ∧ layoutB false "#x\n".toList = true := by
  decide +kernel

/-- locality is needed: in non-strict mode `"cat <<E⏎"` parses, `"cat <<E⏎⏎"` raises -/
theorem local_witness :
    C13.isParts (parse "cat <<E\n".toList { strict := false }).1 = true ∧
    C13.isParts (parse ("cat <<E\n".toList ++ ['\n']) { strict := false }).1 = false ∧
    parseLocal "cat <<E\n".toList { strict := false } = false := by
  decide +kernel

end Bashlex.C14

/-! ## Axioms -/
#print axioms Bashlex.C14.consumeX
#print axioms Bashlex.C14.runParser_layout
#print axioms Bashlex.C14.runParser_layout_all
#print axioms Bashlex.C14.parsesingle_layout_prefix
#print axioms Bashlex.C14.runParser_layout_only
#print axioms Bashlex.C14.parse_layout_only
#print axioms Bashlex.C14.parse_layout_prefix
#print axioms Bashlex.C14.parse_layout_prefix_parts
#print axioms Bashlex.C14.parse_layout_prefix_exn
#print axioms Bashlex.C14.parse_layout_suffix
#print axioms Bashlex.C14.C13_partial_layout
#print axioms Bashlex.C14.C14_insert_between
#print axioms Bashlex.C14.Examples.ex_prefix
#print axioms Bashlex.C14.Examples.ex_prefix_cont
#print axioms Bashlex.C14.Examples.ex_prefix_exn
#print axioms Bashlex.C14.Examples.ex_suffix
#print axioms Bashlex.C14.Examples.ex_between
#print axioms Bashlex.C14.D19_comment_witness
#print axioms Bashlex.C14.D19_comment_parsed
#print axioms Bashlex.C14.joinable_witness
#print axioms Bashlex.C14.local_witness
