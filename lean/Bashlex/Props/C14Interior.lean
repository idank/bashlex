/-
  C14Interior — layout INSIDE a command: target, validation, and what is
  proved towards it.

  ## Target (executable: `Props/C14/ISpec.lean`)
  `B = X ++ Y`, `ins` inserted at `x = |X|`.  `interiorB B x ins o` checks
      `runParser (X ++ ins ++ Y)  =  (runParser B).map (Node.mapPos (spanMap x |ins|))`
  where `spanMap x k (a, b) = (if a < x then a else a + k, if b ≤ x then b else b + k)`: a START
  at the insertion point moves, an END at the insertion point stays.  A top-level `ParsingError`
  carries the edited source and the position moved as a start.
  Boundary conditions (decidable):
  * `WidenGap B x o` — WIDENING an existing gap: `B[x-1]` and `B[x]` are blanks or tabs and `x` is
    not inside a leaf of the tree (a quoted or escaped blank, a here-document body).
  * end of a line (`x = |B|` or `B[x] = '\n'`, not inside a leaf), for `ins = " #c"`.
  Validation (`widen_validated`, `eol_validated` below re-check a part at every build with
  `decide +kernel`; the
  full runs were done with `#eval`):
  * widening — 39 inputs (simple and compound commands: `if`/`for`/`while`/`until`/`case`/`select`/
    functions/subshell/group/coproc/`[[ ]]`, pipelines, lists, redirections, here-documents,
    `$(…)`, backquotes, `$((…))`, `<(…)`, quotes, arrays, comments, continuations), every
    widenable position, insertions `" "`, `"\t "`, `"\\\n"`, `" \\\n "`: ONE failure,
    `B = "a  \  b"`, `x = 5`, `ins = "\\\n"` — the blank before `x` is the ESCAPED blank that ends
    the word `\ `, and a continuation directly behind a token is defect D31 (`_getc; _ungetc` over
    a skipped pair does not restore the cursor) — `D31_widen_witness`.  Fix of the condition:
    `x` must not be the END of a leaf either when `ins` starts with a continuation.
  * end of line, `ins ∈ {" #c", "\t# x y", "  "}` — 27 inputs: failures only at the two lines of
    a here-document: behind `<<E` (the redirect span is extended over the body only when the body
    is ADJACENT, C10/C03 `+heredoc`; `heredoc_adjacent_witness`) and behind the delimiter line
    (`E #c` is no delimiter), and after a trailing backslash.

  ## Proved (files `Props/C14/I*.lean`)
  For EVERY span map `f : Span → Span`, in C16's two-run logic `Rel S S m₁ m₂ R` ("if run 1
  returns, run 2 returns a related result"; state relation `S` and environment relation — C16's
  `EnvRel` class — are parameters):
  * `engine_from`, **`interior_from_conditional`**, `interior_run_conditional`: the LR engine and
    the tail of `_parser.parse()` (`resolve`) from ANY pair of related engine configurations —
    stacks related entry-wise by `v₂ = mapS f v₁` — return `b = a.map (Node.mapPos f)`.  This is
    the mixed-stack statement a two-phase argument needs: for `f = spanMap x k`, values created
    before the insertion point are fixed by `f`, later ones are moved by `k`.
  * **naturality of ALL 39 action functions** (`actNat_all`, one lemma `nat_*` per function,
    `actions_covered` decided by the kernel on the generated grammar): the actions never do
    arithmetic on positions; they read `lexspan`/`nodePos`, pair a first start with a last end
    (`Comp f`), and `addRedirects` asserts `start < end` (`Mono f`); the constant span `(0,0)` of
    a non-token must be a fixed point.  `spanMap x k` satisfies all three for `0 < x`
    (`spanMap_zero/_comp/_mono`).  In particular D19 is NO exclusion here (`D19_no_exclusion`).
    The lemmas use four facts about the surroundings (`ActEnv`): word expansion is natural on
    tokens lying on one side of `x` (`word`), the state relation keeps flags equal / pending
    here-document cells related and is closed under the three state updates the actions make
    (`state : SGood f S`), both runs see the same `proceedonerror` (`proceed`), and
    `gatherheredocuments` keeps the states related (`gather`).
  * **`C14_interior_conditional`**, `C14_interior_from_conditional`: the statement for
    `f = spanMap x k`, from `InteriorResidual` = `tok` + `ActEnv`.
  * `Props/C14/IBridge.lean`: `mapPos_fix`, `cfgR_self` — a configuration whose spans all lie below
    `x` is related to itself (`spanMap x k` fixes them): the start of phase 2;
    `C14_interior_phase2_conditional`.
  * `Props/C14/IPhase2.lean` (no hypotheses): the DOUBLE SIMULATION.  `sim_double`: a program
    simulated under every prefix (`C14.Sim pre`), run on `X ++ Y` and on `(X ++ ins) ++ Y` from
    states that are both images of one state on the tape `Y` (`J2`): if the first run returns, so
    does the second, and `J2` holds again.  `tok_double_map`: `token()` in phase 2 delivers in
    the second run the token of the first under `spanMapR |X| |ins|` (= `spanMap` on spans not
    ending exactly at `|X|`, `spanMapR_eq`), every such token lies behind the insertion point;
    `gather_double`: the same for `gatherheredocuments`.  So `htok`/`hgather` hold for the JOINT
    invariant `J2`; they are not fed into the engine theorem (see below).
  * `Props/C14/IAct.lean`, at its end: a concrete state relation `SI f` (same parser object; remembered
    tokens and pending here-document cells under `f`) and environment relations `envRelOf T`
    (same options; tapes related by any `T`) for which `ActEnv.state` and `ActEnv.proceed` are
    PROVED (`sgood_SI`, `proceed_SI`); **`C14_interior_SI_conditional`** and
    **`C14_interior_runParser_conditional`**: if `runParser B` returns `a` then `runParser B'`
    returns `a.map (Node.mapPos (spanMap x k))`, given only `htok`, `hword`, `hgather`.

  ## Hypotheses left (`InteriorResidual`) — NOT proved; all are statements about the TOKENIZER
  side (no hypothesis about the engine or about any action function is left)
  * `tok`: the token source of the second run delivers the tokens of the first under `f`, each on
    one side of `x` — the relational walk of the tokenizer for the tapes `X ++ Y` /
    `X ++ ins ++ Y` (for widening: identical runs while the cursor is `≤ x`, then `k` more
    iterations of the blank loop of `_readtoken`, then C14's `Sim`-style walk with the cursor
    `≥ x`), which also has to maintain `S`;
  * `env.word`: word expansion (C14's `expRel_of_npRel` is the shift version: a token on one side
    of `x` is moved rigidly); it is NOT independent of `tok`: the nested parser inherits the
    remembered tokens, whose spans differ in the two runs, so `word` at depth `d + 1` needs the
    whole statement at depth `d` with `f = id` on spans (induction on the nesting depth, as in
    C14's `npRel_npOf`);  `env.gather`: the here-document reader (C10's equations);
    `env.proceed`, `env.state`: proved for `SI f` / `envRelOf T` (`IAct.lean`).
  Why `tok` cannot be a single state-independent invariant: before the insertion point tokens
  may straddle any given `x`; that `x` is a gap is a property of THIS run.  Hence two phases:
  (1) the runs are identical until the token before the gap is delivered (tapes agree below `x`);
  (2) from there `C14_interior_from_conditional` applies to the two (equal, hence related:
  old positions are `< x`) engine configurations with
  `T t₁ t₂ := x ≤ t₁.idx ∧ t₂.idx = t₁.idx + k ∧ ∀ i ≥ x, t₂.line[i + k]? = t₁.line[i]?` — C14's
  `TapeRel`/`Room` discipline with the origin moved from `0` to `x`.
  Phase 2 of `tok` is proved in `Props/C14/IPhase2.lean` (`sim_double`, `tok_double_map`,
  `gather_double`): `Sim pre` does not care what `pre` contains, so `C14.sim_nextToken` with
  `pre := X` and with `pre := X ++ ins` relates the runs on `X ++ Y` and on `(X ++ ins) ++ Y` to
  one deterministic run on `Y`; the token of the second is the token of the first moved by `k`.
  Missing: phase 1, and feeding `J2` into `C14_interior_from_conditional` (C16's `Rel` has two
  separate relations on state and environment where `J2` is a joint one; here-document cells
  created in front of the gap are not images of cells of the run on `Y`).  The ENGINE cannot be
  treated this way (old spans `< x` cannot be moved down by `|X|`), which is why it is done here
  for an arbitrary span map.
-/
import Bashlex.Props.C14.IPhase2

namespace Bashlex.C14I
open Bashlex Bashlex.LR Bashlex.C16 Bashlex.C14
set_option linter.unusedVariables false

/-! ## `spanMap` satisfies what the action lemmas need -/

theorem spanMap_zero {x : Nat} (hx : 0 < x) (k : Nat) : spanMap x k (0, 0) = (0, 0) := by
  simp [spanMap, phiS, phiE, hx]

theorem spanMap_comp (x k : Nat) : Comp (spanMap x k) := fun p q => rfl

theorem spanMap_mono (x k : Nat) : Mono (spanMap x k) := by
  intro p q h
  simp only [spanMap, phiS, phiE]
  split <;> split <;> omega

/-! ## the conditional theorem -/

section
variable [EnvRel] {Q : Token → Prop} {S : Local → Local → Prop}

/-- **C14 interior, conditional**: an insertion of `k` characters at `x > 0`.  Under
    `InteriorResidual` (token source, word expansion, 15 action functions), if the first run
    returns a result, the second returns it with every span under `spanMap x k` — from any pair
    of related engine configurations, in particular from the start. -/
theorem C14_interior_conditional (x k : Nat) (hx : 0 < x) (depth : Nat)
    (h : InteriorResidual (spanMap x k) Q S (npOf depth) (npOf depth)) :
    Rel S S (parserRun (depth + 1)) (parserRun (depth + 1))
      (fun a b => b = a.map (Node.mapPos (spanMap x k))) :=
  interior_run_conditional depth
    (interiorHyp_of_residual (spanMap_zero hx k) (spanMap_comp x k) (spanMap_mono x k) h)

theorem C14_interior_from_conditional (x k : Nat) (hx : 0 < x) (depth fuel : Nat)
    (h : InteriorResidual (spanMap x k) Q S (npOf depth) (npOf depth)) (c₁ c₂ : Cfg SVal)
    (hc : CfgR (VRf (spanMap x k) Q) c₁ c₂) :
    Rel S S
      (M.loop "LRParser.parse" (step realTables (lrHooks (npOf depth))) fuel c₁ >>= parserTail)
      (M.loop "LRParser.parse" (step realTables (lrHooks (npOf depth))) fuel c₂ >>= parserTail)
      (fun a b => b = a.map (Node.mapPos (spanMap x k))) :=
  interior_from_conditional
    (interiorHyp_of_residual (spanMap_zero hx k) (spanMap_comp x k) (spanMap_mono x k) h) fuel c₁ c₂ hc

end

/-- **phase 2 of the two-phase argument**: both runs have reached the SAME engine configuration
    `c` (no look-ahead; every span on the stack below `x`, every token on it satisfies `Q`) — the
    configuration after the token in front of the gap was shifted.  From there the second run
    returns the result of the first with every span under `spanMap x k` (old spans are fixed by
    it, new ones moved: `cfgR_self`). -/
theorem C14_interior_phase2_conditional [EnvRel] {Q : Token → Prop} {S : Local → Local → Prop}
    (x k : Nat) (hx : 0 < x) (depth fuel : Nat)
    (h : InteriorResidual (spanMap x k) Q S (npOf depth) (npOf depth)) (c : Cfg SVal)
    (hla : c.la = none)
    (hst : ∀ e ∈ c.stack, (∀ p ∈ spansOfS e.val, Below x p) ∧ QV Q e.val) :
    Rel S S
      (M.loop "LRParser.parse" (step realTables (lrHooks (npOf depth))) fuel c >>= parserTail)
      (M.loop "LRParser.parse" (step realTables (lrHooks (npOf depth))) fuel c >>= parserTail)
      (fun a b => b = a.map (Node.mapPos (spanMap x k))) :=
  C14_interior_from_conditional x k hx depth fuel h c c (cfgR_self x k Q c hla hst)

/-! ## the same with the concrete relations of `IAct.lean`, down to `runParser` -/

/-- **C14 interior, conditional, concrete relations**: states related by `SI f` (same parser
    object, remembered tokens and pending here-documents under `f`), environments with the same
    options and tapes related by ANY `T`.  Hypotheses left: the token source (`htok`), word
    expansion (`hword`) and the here-document reader (`hgather`) respect these relations. -/
theorem C14_interior_SI_conditional (x k : Nat) (hx : 0 < x) (T : Tape → Tape → Prop)
    (Q : Token → Prop) (depth : Nat)
    (htok : Rel (er := envRelOf T) (SI (spanMap x k)) (SI (spanMap x k)) nextToken nextToken
      (fun t₁ t₂ => t₂ = mapTok (spanMap x k) t₁ ∧ Q t₁))
    (hword : @WordNat (envRelOf T) (spanMap x k) Q (SI (spanMap x k)) (npOf depth) (npOf depth))
    (hgather : Rel (er := envRelOf T) (SI (spanMap x k)) (SI (spanMap x k))
      gatherheredocuments gatherheredocuments (fun _ _ => True)) :
    Rel (er := envRelOf T) (SI (spanMap x k)) (SI (spanMap x k))
      (parserRun (depth + 1)) (parserRun (depth + 1))
      (fun a b => b = a.map (Node.mapPos (spanMap x k))) :=
  @C14_interior_conditional (envRelOf T) Q (SI (spanMap x k)) x k hx depth
    (@InteriorResidual.mk (envRelOf T) _ _ _ _ _ htok
      (@ActEnv.mk (envRelOf T) _ _ _ _ _ hword (sgood_SI _) (proceed_SI _ T) hgather))

theorem si_init (f : Span → Span) (lim : Option Int) : SI f (initL lim) (initL lim) :=
  { tape := rfl, opts := rfl, eol := rfl, before := rfl, last := rfl, cur := rfl, ps := rfl
    obc := rfl, esacs := rfl, dstack := rfl, eofToken := rfl, redirstack := rfl, store := rfl
    limit := rfl }

/-- … for `runParser`: `B = X ++ Y`, `B' = X ++ ins ++ Y` (any two inputs, in fact, whose tapes
    are related by `T`): if the run on `B` returns `a`, the run on `B'` returns `a` with every
    span under `spanMap x k` -/
theorem C14_interior_runParser_conditional (x k : Nat) (hx : 0 < x) (T : Tape → Tape → Prop)
    (Q : Token → Prop) (B B' : Str) (o : Opts) (t : List Char)
    (hT : T (Tape.ofInput B) (Tape.ofInput B'))
    (htok : Rel (er := envRelOf T) (SI (spanMap x k)) (SI (spanMap x k)) nextToken nextToken
      (fun t₁ t₂ => t₂ = mapTok (spanMap x k) t₁ ∧ Q t₁))
    (hword : @WordNat (envRelOf T) (spanMap x k) Q (SI (spanMap x k)) (npOf 63) (npOf 63))
    (hgather : Rel (er := envRelOf T) (SI (spanMap x k)) (SI (spanMap x k))
      gatherheredocuments gatherheredocuments (fun _ _ => True))
    (a : Option Node) (ha : (runParser B o t).1 = .ok a) :
    (runParser B' o t).1 = .ok (a.map (Node.mapPos (spanMap x k))) := by
  have h := C14_interior_SI_conditional x k hx T Q 63 htok hword hgather
  rw [runParser_fst] at ha ⊢
  have hmax : maxDepth = 63 + 1 := rfl
  rw [hmax] at ha ⊢
  rcases hr : M.run (parserRun (63 + 1)) (initL o.limit) (envOf B o t) with ⟨r, e₁'⟩
  rw [hr] at ha
  cases r with
  | error x => cases ha
  | ok v =>
    obtain ⟨a₁, l₁'⟩ := v
    have ha' : a₁ = a := by
      have : (Except.ok a₁ : Except Exn (Option Node)) = .ok a := ha
      exact Except.ok.inj this
    subst ha'
    obtain ⟨a₂, l₂', e₂', hr₂, ha₂, _, _⟩ :=
      h (initL o.limit) (initL o.limit) (envOf B o t) (envOf B' o t) (si_init _ _)
        ⟨rfl, rfl, rfl, hT⟩ a₁ l₁' e₁' hr
    rw [hr₂, ha₂]
    rfl

/-- … for `parsesingle` -/
theorem C14_interior_parsesingle_conditional (x k : Nat) (hx : 0 < x) (T : Tape → Tape → Prop)
    (Q : Token → Prop) (B B' : Str) (o : Opts)
    (hT : T (Tape.ofInput B) (Tape.ofInput B'))
    (htok : Rel (er := envRelOf T) (SI (spanMap x k)) (SI (spanMap x k)) nextToken nextToken
      (fun t₁ t₂ => t₂ = mapTok (spanMap x k) t₁ ∧ Q t₁))
    (hword : @WordNat (envRelOf T) (spanMap x k) Q (SI (spanMap x k)) (npOf 63) (npOf 63))
    (hgather : Rel (er := envRelOf T) (SI (spanMap x k)) (SI (spanMap x k))
      gatherheredocuments gatherheredocuments (fun _ _ => True))
    (a : Option Node) (ha : (parsesingle B o).1 = .single a) :
    (parsesingle B' o).1 = .single (a.map (Node.mapPos (spanMap x k))) :=
  (C13.parsesingle_single_iff B' o _).2 (C14_interior_runParser_conditional x k hx T Q B B' o [] hT
    htok hword hgather a ((C13.parsesingle_single_iff B o a).1 ha))

/-- … for `parse`: the FIRST part (the later parts are runs on suffixes, which an insertion in
    front of them moves as a whole: goals 1/2) -/
theorem C14_interior_parse_first_conditional (x k : Nat) (hx : 0 < x) (T : Tape → Tape → Prop)
    (Q : Token → Prop) (B B' : Str) (o : Opts)
    (hT : T (Tape.ofInput B) (Tape.ofInput B'))
    (htok : Rel (er := envRelOf T) (SI (spanMap x k)) (SI (spanMap x k)) nextToken nextToken
      (fun t₁ t₂ => t₂ = mapTok (spanMap x k) t₁ ∧ Q t₁))
    (hword : @WordNat (envRelOf T) (spanMap x k) Q (SI (spanMap x k)) (npOf 63) (npOf 63))
    (hgather : Rel (er := envRelOf T) (SI (spanMap x k)) (SI (spanMap x k))
      gatherheredocuments gatherheredocuments (fun _ _ => True))
    (a : Node) (ha : (runParser B o []).1 = .ok (some a)) (ps : List Node)
    (hps : (parse B' o).1 = .parts ps) :
    ps.head? = some (a.mapPos (spanMap x k)) := by
  have h1 := (C13.parsesingle_single_iff B' o _).1 (C13.parsesingle_eq_head B' o ps hps)
  rw [C14_interior_runParser_conditional x k hx T Q B B' o [] hT htok hword hgather _ ha] at h1
  exact (Except.ok.inj h1).symm

/-! ## validation of the target at every build, and the witnesses of the exclusions -/

/-- insertions tried -/
def insList : List Str := [[' '], ['\\', '\n'], ['\t', ' ']]

/-- a part of the validation corpus, re-checked by the kernel: no widenable position of these
    inputs fails for these insertions -/
theorem widen_validated :
    (["a  b  c", "a  |  b", "if  a ;  then  b ;  fi", "for  x  in  a  b ;  do  c ;  done",
      "case  x  in  a )  b ;;  esac", "f ()  {  a ;  }", "a  >  f  2>  g",
      "cat  <<E  \nfoo  bar\nE\n", "a  \"b  c\"  $(d  e)  f", "!  a  |  b  &&  c"].all
      fun s => (widenFails s.toList insList {}).isEmpty) = true := by
  decide +kernel

/-- adding a comment at the end of a line (inputs without here-documents), re-checked by the
    kernel -/
theorem eol_validated :
    (["a b", "a |\nb", "if a\nthen b\nfi", "a \"b\nc\" d", "a b # c\ne f"].all
      fun s => (eolFails s.toList [" #c".toList] {}).isEmpty) = true := by
  decide +kernel

/-- exclusion: the delimiter line of a here-document (`E #c` is no delimiter) -/
theorem heredoc_delim_witness :
    EolGap "cat <<E\nfoo\nE\n".toList 13 {} = true ∧
    interiorB "cat <<E\nfoo\nE\n".toList 13 " #c".toList {} = false := by
  decide +kernel

/-- exclusion (D31): a continuation inserted directly behind a token that ends in an escaped
    blank -/
theorem D31_widen_witness :
    WidenGap "a  \\  b".toList 5 {} = true ∧
    interiorB "a  \\  b".toList 5 ['\\', '\n'] {} = false ∧
    interiorB "a  \\  b".toList 5 [' '] {} = true := by
  decide +kernel

/-- exclusion (here-document adjacency): blanks inserted between `<<E` and the newline in front of
    the body change the redirect's span (it is extended over the body only when adjacent) -/
theorem heredoc_adjacent_witness :
    interiorB "cat <<E\nfoo\nE\n".toList 7 [' ', ' '] {} = false ∧
    interiorB "cat <<E  \nfoo\nE\n".toList 9 [' ', ' '] {} = true := by
  decide +kernel

/-- D19 is no exclusion for an interior insertion: with `proceedonerror`, `time  a` widened -/
theorem D19_no_exclusion :
    interiorB "time  a".toList 5 [' ', ' '] { proceed := true } = true := by
  decide +kernel

end Bashlex.C14I

/-! ## Axioms -/
#print axioms Bashlex.C14I.engine_from
#print axioms Bashlex.C14I.interior_from_conditional
#print axioms Bashlex.C14I.interior_run_conditional
#print axioms Bashlex.C14I.actNat_all
#print axioms Bashlex.C14I.actions_covered
#print axioms Bashlex.C14I.interiorHyp_of_residual
#print axioms Bashlex.C14I.C14_interior_conditional
#print axioms Bashlex.C14I.C14_interior_from_conditional
#print axioms Bashlex.C14I.cfgR_self
#print axioms Bashlex.C14I.C14_interior_phase2_conditional
#print axioms Bashlex.C14I.C14_interior_SI_conditional
#print axioms Bashlex.C14I.C14_interior_runParser_conditional
#print axioms Bashlex.C14I.C14_interior_parsesingle_conditional
#print axioms Bashlex.C14I.C14_interior_parse_first_conditional
#print axioms Bashlex.C14I.sim_double
#print axioms Bashlex.C14I.tok_double_map
#print axioms Bashlex.C14I.gather_double
#print axioms Bashlex.C14I.sgood_SI
#print axioms Bashlex.C14I.proceed_SI
#print axioms Bashlex.C14I.widen_validated
#print axioms Bashlex.C14I.eol_validated
#print axioms Bashlex.C14I.heredoc_delim_witness
#print axioms Bashlex.C14I.D31_widen_witness
#print axioms Bashlex.C14I.heredoc_adjacent_witness
#print axioms Bashlex.C14I.D19_no_exclusion
