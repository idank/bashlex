/-
  Property C11 ("errors point into the caller's input") at model level.

  Property text: a ParsingError raised for input `s` carries `s` itself as its source and a
  position `p` with `0 ≤ p ≤ len(s)` located at the offending token: for an unexpected-token error
  the text of `s` at `p` is that token, for an unexpected end of input `p = len(s)`; also inside a
  substitution, in a later line of a multi-line input, or in a here-document.

  The implementation violates parts of this and the model reproduces it (findings, with
  kernel-checked witnesses below).  What is proved, for all inputs and options:

  * **(1) `assert position <= len(s)` in `ParsingError.__init__`.**
    Unconditional, the tokenizer (`nextToken_good`, `gather_good`, `tok_no_init_assert`): from
    every `Good` state `token()` and `gatherheredocuments` preserve `Good`, every delivered token
    starts inside the line (`TF`), and they raise only `C01.TokExn` minus
    `AssertionError|ParsingError.__init__` — that entry can be removed from `C01.tokForeign`.
    Unconditional, `p_error` (`pError_ht`): both messages pass a position inside the source.
    Conditional on `TokLen` (see below), everything above the tokenizer
    (`C11_parserRun_conditional`, `no_init_assert_conditional`, `C11_parse_conditional`,
    `C01_partial'_conditional`): at every nesting depth, from every start state, every exception
    of a parser run is different from `AssertionError|ParsingError.__init__`, and every
    `ParsingError` satisfies `0 ≤ p ≤ len(src)` (`ErrShape`).
    The state-free formulation (`Sat`, all local states) is false: `stateless_formulation_false`.
  * **(2) the source**, site by site (`TopParsing`): a `ParsingError` raised by a parser itself
    (not by one of its nested parsers) carries `tokenizer.source` of that parser — for the
    top-level parser of `parsesingle s` / the first part of `parse s` this is `s` itself
    (`topGhost_source`, `topParsing_source`) — except the here-document error, which carries
    `_shell_input_line` (`s` plus the appended newline).  `C11_toplevel_conditional`: over ANY
    nested-parse function that raises no `ParsingError`, every `ParsingError` of a run is
    `TopParsing`.  `C11_first_conditional`: an error of `parsesingle s` is
    `TopParsing (topGhost s o)` or comes from a nested parser (finding: it then carries the
    nested parser's input; witness `a $(b;;)`).
  * **(3) the position** (`C11_position_conditional`, `topParsing_eof`, `topParsing_token`):
    "unexpected EOF" is at `len(src)`; "unexpected token R" is at the `lexpos` of a delivered
    token `t` with `repr(t.value) = R`, which starts inside the line.  That the text of the source
    at `lexpos` is the token is NOT proved here (it needs the token-text relation modulo line
    continuations).
  * **(4) later parts of `parse`** (`C11_later`, unconditional): an error of the loop of `parse`
    is the error of a parser run over the suffix `s[i:]`, `0 < i < len s`, unchanged: its source
    is the suffix (finding D15; witness `a⏎)`).

  One fact about tokens is a HYPOTHESIS of the `_conditional` theorems (`TokLen`; it concerns
  `nextToken` only and is used only for the "bad substitution" error of `_expandwordinternal`,
  whose position is `wordtoken.lexpos + index of the backquote in the token's value`): a backquote
  at index `k` of the value of a delivered token satisfies `lexpos + k ≤ len(line) - 1` (`TL`;
  implied by "the value is not longer than the text the token spans").  `TokLen` itself is not
  proved: the walk would have to count consumed characters against `_ungetc(None)` moving the
  cursor back at end of input inside `_parse_comsub` (the value can transiently be one longer than
  the consumed text; such runs end in `MatchedPairError`).  2.3 million fuzzed tokens (Python), no
  counterexample.
  `Props/C11Total.lean` proves every `_conditional` theorem of this file without `TokLen`
  (`C11_parserRun`, `C11_parse`, `C11_first`, `C11_position`, `C11_later'`): the state invariant
  is strengthened by "the look-ahead slot is empty" and the token-text theorem `C04.tokText` is
  used.

  Files:
    C11/Hoare.lean      state-aware Hoare logic `HT` / `SatI` / `HTAt` / `HTQAt`
    C11/Tactic.lean     `split_head`
    C11/Inv.lean        ghost constants, `Live`, `Good`, `TopParsing`, `TopE`, `Tape.getc` facts
    C11/Prims.lean      `_getc`, `_ungetc`, accessors, the two raise sites of the tokenizer
    C11/Walk.lean       the automatic walks `live_walk`, `pre_walk`
    C11/Tokenizer.lean  every tokenizer function below `_readtoken` preserves `Live`
    C11/Tokens.lean     position stack, `_createtoken`, `finishWord`
    C11/NextToken.lean  `gatherheredocuments`, `_readtoken`, `token()` from `Good` states
    C11/Expand.lean     word expansion over a nested parser
    C11/Actions.lean    all semantic actions, `p_error`
    C11/Engine.lean     the LR engine carries a state invariant and a value invariant
    C11/Parse.lean      `parserRunWith`, the nested parser, all depths, `runParser`, `parse`
    ../C11Total.lean    the `_conditional` theorems without `TokLen`
-/
import Bashlex.Props.C11.Parse
import Bashlex.Props.C01

namespace Bashlex.C11
open Bashlex Bashlex.M Bashlex.C10
-- see `Proofs/ParserLift.lean`
attribute [local irreducible] M.run runParser parse parsesingle split

/-! ## the shape of an escaping exception -/

/-- **ErrShape**: a `ParsingError` carries a position inside its source; the `AssertionError` of
    `ParsingError.__init__` does not occur -/
def ErrShape (x : Exn) : Prop :=
  x ≠ initAssert ∧ ∀ m src p, x = .parsing m src p → 0 ≤ p ∧ p ≤ (src.length : Int)

/-- the states a parser starts in: `Good` for a well-formed ghost, with an empty position stack -/
def Start (l : Local) (e : Env) : Prop := ∃ g, WFG g ∧ Good g [] l e

theorem parserRun_shape_of {I : Ghost → Local → Env → Prop} {d : Nat}
    (h : ∀ g, WFG g → SatI (I g) (parserRun d) (fun _ => True) (ExnAt d g)) :
    HT (fun l e => ∃ g, WFG g ∧ I g l e) (parserRun d) (fun _ _ _ => True) ErrShape :=
  fun l e ⟨g, hg, hI⟩ =>
    HT.weaken (h g hg) (fun _ _ h => h) (fun _ _ _ _ => trivial) (exnAt_shape d g) l e hI

/-- **(1)** every exception of a parser run, at every nesting depth, from every start state -/
theorem C11_parserRun_conditional (hTL : TokLen) (d : Nat) :
    HT Start (parserRun d) (fun _ _ _ => True) ErrShape :=
  parserRun_shape_of (parserRun_good hTL d)

/-- **(1)**, as asked: `AssertionError|ParsingError.__init__` never escapes a parser run -/
theorem no_init_assert_conditional (hTL : TokLen) (d : Nat) :
    HT Start (parserRun d) (fun _ _ _ => True)
      (fun x => x ≠ .foreign "AssertionError" "ParsingError.__init__") :=
  (C11_parserRun_conditional hTL d).exn (fun _ h => h.1)

/-! ## the entry points, from what the top-level runs raise

`RunsGood` is `runParser_exn` under `TokLen`, and holds without it (`Props/C11Total.lean`); the
theorems for `parse` and `parsesingle` need nothing else of the parser. -/

def RunsGood : Prop :=
  ∀ s o t x, (runParser s o t).1 = .error x → ExnAt maxDepth (topGhost s o) x

theorem parse_shape_of (hrun : RunsGood) {s : Str} {o : Opts} {x : Exn}
    (h : (parse s o).1 = .exn x) : ErrShape x :=
  parse_error_of (fun _ _ _ h => exnAt_shape _ _ _ (hrun _ _ _ _ h)) h

/-- the exception discipline of C01 without the entry `AssertionError|ParsingError.__init__` in
    `knownForeign` / `tokForeign`, from the shape of the exceptions -/
theorem partial'_of {s : Str} {o : Opts} (h : ∀ x, (parse s o).1 = .exn x → ErrShape x) :
    match (parse s o).1 with
    | .parts _ => True
    | .exn x => C01.Disciplined x ∧ x ≠ .foreign "AssertionError" "ParsingError.__init__"
    | _ => False :=
  C01.parse_cases fun x hx => ⟨C01.parse_cases_exn (C01.C01_partial s o) hx, (h x hx).1⟩

/-- **C11 (model level), `parse`**: every escaping exception has the shape -/
theorem C11_parse_conditional (hTL : TokLen) (s : Str) (o : Opts) {x : Exn}
    (h : (parse s o).1 = .exn x) : ErrShape x :=
  parse_shape_of (fun _ _ _ _ => runParser_exn hTL) h

theorem C11_parsesingle_conditional (hTL : TokLen) (s : Str) (o : Opts) {x : Exn}
    (h : (parsesingle s o).1 = .exn x) : ErrShape x :=
  exnAt_shape _ _ _ (runParser_exn hTL (parsesingle_error h))

/-- **C01 strengthened**: the exception discipline of C01 without the entry
    `AssertionError|ParsingError.__init__` in `knownForeign` / `tokForeign` -/
theorem C01_partial'_conditional (hTL : TokLen) (s : Str) (o : Opts) :
    match (parse s o).1 with
    | .parts _ => True
    | .exn x => C01.Disciplined x ∧ x ≠ .foreign "AssertionError" "ParsingError.__init__"
    | _ => False :=
  partial'_of fun _ => C11_parse_conditional hTL s o

/-! ## (2) the source -/

/-- the source of the top-level parser over `s` is `s` -/
theorem topGhost_source (s : Str) (o : Opts) : (topGhost s o).source = s :=
  Tape.ofInput_source s

/-- … and its line is `s`, or `s` plus the appended newline -/
theorem topGhost_line (s : Str) (o : Opts) :
    (topGhost s o).line = s ∨ (topGhost s o).line = s ++ ['\n'] :=
  Tape.ofInput_line s

/-- over a nested-parse function that raises no `ParsingError`, those of a run are its own -/
theorem en_own {g : Ghost} (x : Exn) (h : EN g (fun x => ∀ m src p, x ≠ .parsing m src p) x) :
    ∀ m src p, x = .parsing m src p → TopParsing g m src p := by
  rintro m src p rfl
  exact h.elim id fun h => absurd rfl (h m src p)

/-- **(2) C11_toplevel**: over any nested-parse function `np` that preserves `Good` and raises no
    `ParsingError`, every `ParsingError` of a parser run is one of the run's own: classified
    (`TopParsing`), with the run's own source (`g.source`; `g.line` for the here-document error)
    and a position inside it -/
theorem C11_toplevel_conditional (hTL : TokLen) {g : Ghost} (hg : WFG g) {np : NestedParse}
    (hnp : NPOK g (fun x => ∀ m src p, x ≠ .parsing m src p) np) :
    SatI (Good g []) (parserRunWith np) (fun _ => True)
      (fun x => ∀ m src p, x = .parsing m src p → TopParsing g m src p) :=
  SatI.weaken (parserRunWith_good hTL hg hnp) (fun _ h => h) en_own

/-- **(2) C11_first**: a `ParsingError` of `parsesingle s` (= of the first part of `parse s`) was
    raised by the top-level parser — then it is classified, its source is `s` (`s` plus the
    appended newline for the here-document error) — or it passed through from a nested parser
    (finding: then it carries the nested parser's input) -/
theorem C11_first_conditional (hTL : TokLen) (s : Str) (o : Opts) {m : String} {src : Str} {p : Int}
    (h : (runParser s o []).1 = .error (.parsing m src p)) :
    TopParsing (topGhost s o) m src p ∨
    ∃ g', WFG g' ∧ ExnAt (maxDepth - 1) g' (.parsing m src p) :=
  runParser_exn hTL h

/-- what `TopParsing` says about the source and the position, spelled out for `s` -/
theorem topParsing_source {s : Str} {o : Opts} {m : String} {src : Str} {p : Int}
    (h : TopParsing (topGhost s o) m src p) :
    0 ≤ p ∧ p ≤ (src.length : Int) ∧
    (src = s ∨ (src = s ++ ['\n'] ∧ ∃ d, m = heredocMsg d)) := by
  refine ⟨h.le.1, h.le.2, ?_⟩
  cases h with
  | matchedPair c p h0 h1 => exact Or.inl (topGhost_source s o)
  | heredoc d p hp =>
    rcases topGhost_line s o with hl | hl
    · exact Or.inl hl
    · exact Or.inr ⟨hl, d, rfl⟩
  | eof => exact Or.inl (topGhost_source s o)
  | token t _ _ => exact Or.inl (topGhost_source s o)
  | badSubst t k _ => exact Or.inl (topGhost_source s o)

/-! ## (3) the position -/

theorem len14 : "unexpected EOF".length = 14 := by decide

theorem topParsing_eof {g : Ghost} {m : String} {src : Str} {p : Int} (h : TopParsing g m src p)
    (hm : m = "unexpected EOF") : p = src.length ∧ src = g.source := by
  cases h with
  | matchedPair c p h0 h1 =>
    exfalso
    have := congrArg String.length hm
    unfold matchedPairMsg at this
    simp only [String.length_append, toString] at this
    have h1 : "unexpected EOF while looking for matching ".length = 42 := by decide
    rw [h1, len14] at this
    omega
  | heredoc d p hp =>
    exfalso
    have := congrArg String.length hm
    unfold heredocMsg at this
    simp only [String.length_append] at this
    have h1 : "here-document at line 0 delimited by end-of-file (wanted ".length = 57 := by decide
    rw [h1, len14] at this
    omega
  | eof => exact ⟨rfl, rfl⟩
  | token t _ _ =>
    exfalso
    have := congrArg String.length hm
    simp only [String.length_append] at this
    have h1 : "unexpected token ".length = 17 := by decide
    rw [h1, len14] at this
    omega
  | badSubst t k _ =>
    exfalso
    have := congrArg String.length hm
    simp only [String.length_append] at this
    have h1 : "bad substitution: no closing \"`\" in ".length = 36 := by decide
    rw [h1, len14] at this
    omega


theorem l_tok : "unexpected token ".toList = ['u','n','e','x','p','e','c','t','e','d',' ','t','o','k','e','n',' '] := by decide
theorem l_mp : "unexpected EOF while looking for matching ".toList = ['u','n','e','x','p','e','c','t','e','d',' ','E','O','F',' ','w','h','i','l','e',' ','l','o','o','k','i','n','g',' ','f','o','r',' ','m','a','t','c','h','i','n','g',' '] := by decide
theorem l_hd : "here-document at line 0 delimited by end-of-file (wanted ".toList = ['h','e','r','e','-','d','o','c','u','m','e','n','t',' ','a','t',' ','l','i','n','e',' ','0',' ','d','e','l','i','m','i','t','e','d',' ','b','y',' ','e','n','d','-','o','f','-','f','i','l','e',' ','(','w','a','n','t','e','d',' '] := by decide
theorem l_eof : "unexpected EOF".toList = ['u','n','e','x','p','e','c','t','e','d',' ','E','O','F'] := by decide
theorem l_bad : "bad substitution: no closing \"`\" in ".toList = ['b','a','d',' ','s','u','b','s','t','i','t','u','t','i','o','n',':',' ','n','o',' ','c','l','o','s','i','n','g',' ','"','`','"',' ','i','n',' '] := by decide

theorem topParsing_token {g : Ghost} {m r : String} {src : Str} {p : Int} (h : TopParsing g m src p)
    (hm : m = "unexpected token " ++ r) :
    ∃ t, TF g t ∧ r = tokRepr t ∧ p = (t.lexpos : Nat) ∧ src = g.source := by
  cases h with
  | matchedPair c p h0 h1 =>
    exfalso
    have := congrArg String.toList hm
    unfold matchedPairMsg at this
    simp only [String.toList_append, toString, l_tok, l_mp] at this
    revert this
    simp
  | heredoc d p hp =>
    exfalso
    have := congrArg String.toList hm
    unfold heredocMsg at this
    simp only [String.toList_append, l_tok, l_hd] at this
    revert this
    simp
  | eof =>
    exfalso
    have := congrArg String.toList hm
    simp only [String.toList_append, l_tok, l_eof] at this
    revert this
    simp
  | token t ht _ =>
    refine ⟨t, ht, ?_, rfl, rfl⟩
    have := congrArg String.toList hm
    simp only [String.toList_append, List.append_cancel_left_eq] at this
    exact (String.toList_inj.mp this).symm
  | badSubst t k _ =>
    exfalso
    have := congrArg String.toList hm
    simp only [String.toList_append, l_tok, l_bad] at this
    revert this
    simp

/-- every `ParsingError` of a parser run, at every depth, is classified: it was raised by some
    parser (this one or a nested one) at one of the five sites, with that parser's source -/
theorem exnAt_classified : ∀ d g x, ExnAt d g x → ∀ m src p, x = .parsing m src p →
    ∃ g', TopParsing g' m src p := by
  intro d
  induction d with
  | zero => intro g x h m src p hx; cases h; cases hx
  | succ d ih =>
    intro g x h m src p hx
    rcases h with h | ⟨g', _, h⟩
    · subst hx; exact ⟨g, h⟩
    · exact ih g' x h m src p hx

theorem position_of (hrun : RunsGood) {s : Str} {o : Opts} {m : String} {src : Str} {p : Int}
    (h : (parse s o).1 = .exn (.parsing m src p)) :
    (m = "unexpected EOF" → p = src.length) ∧
    (∀ r, m = "unexpected token " ++ r →
      ∃ t g', TF g' t ∧ r = tokRepr t ∧ p = (t.lexpos : Nat) ∧ src = g'.source) := by
  obtain ⟨g', hg'⟩ := parse_error_of
    (E := fun x => ∀ m src p, x = .parsing m src p → ∃ g', TopParsing g' m src p)
    (fun _ _ _ h => exnAt_classified _ _ _ (hrun _ _ _ _ h)) h m src p rfl
  refine ⟨fun hm => (topParsing_eof hg' hm).1, fun r hm => ?_⟩
  obtain ⟨t, h1, h2, h3, h4⟩ := topParsing_token hg' hm
  exact ⟨t, g', h1, h2, h3, h4⟩

/-- **(3)** every escaping `ParsingError` of `parse`: "unexpected EOF" is at the end of its source;
    "unexpected token R" is at the `lexpos` of a delivered token `t` with `repr(t.value) = R`,
    and `t` starts inside the line of the parser that delivered it -/
theorem C11_position_conditional (hTL : TokLen) (s : Str) (o : Opts) {m : String} {src : Str} {p : Int}
    (h : (parse s o).1 = .exn (.parsing m src p)) :
    (m = "unexpected EOF" → p = src.length) ∧
    (∀ r, m = "unexpected token " ++ r →
      ∃ t g', TF g' t ∧ r = tokRepr t ∧ p = (t.lexpos : Nat) ∧ src = g'.source) :=
  position_of (fun _ _ _ _ => runParser_exn hTL) h

/-! ## the tokenizer alone: unconditional -/

/-- **the tokenizer never trips the assertion of `ParsingError.__init__`** (unconditional):
    from every `Good` state, `token()` and `gatherheredocuments` raise only `C01.TokExn` minus
    the entry `AssertionError|ParsingError.__init__`, i.e. that entry can be removed from
    `C01.tokForeign` -/
theorem tok_no_init_assert {g : Ghost} :
    HT (Good g []) nextToken (fun _ _ _ => True) (fun x => C01.TokExn x ∧ x ≠ initAssert) ∧
    HT (Good g []) gatherheredocuments (fun _ _ _ => True)
      (fun x => C01.TokExn x ∧ x ≠ initAssert) := by
  have hne : ∀ x, TopE g x → x ≠ initAssert := by
    intro x hx
    cases x with
    | parsing m src p => intro h; cases h
    | notImplemented w => exact hx
    | foreign ty site => exact hx
    | outOfFuel s => exact hx
  constructor
  · refine (HT.and_sat (nextToken_good (g := g)) C01.tok_nextToken).weaken (fun _ _ h => h)
      (fun _ _ _ _ => True.intro) (fun x h => ⟨h.1, hne x h.2⟩)
  · refine (HT.and_sat (gather_good (g := g) (ps := [])) C01.tok_gatherheredocuments).weaken
      (fun _ _ h => h) (fun _ _ _ _ => True.intro) (fun x h => ⟨h.1, hne x h.2⟩)

/-! ## (4) later parts of `parse` -/

/-- **(4) C11_later**: an exception of `parse s` that is not the exception of the first parser
    run is the exception, unchanged, of a parser run over a proper suffix `s[i:]`, `0 < i < len s`
    (so a `ParsingError` of it carries that suffix as source: finding D15), or the out-of-fuel
    marker of the loop (which C01 excludes) -/
theorem C11_later (s : Str) (o : Opts) {x : Exn} (h : (parse s o).1 = .exn x)
    (hfirst : (runParser s o []).1 ≠ .error x) :
    x = .outOfFuel "parse" ∨
    ∃ i t, 0 < i ∧ i < s.length ∧ (runParser (s.drop i) o t).1 = .error x :=
  Or.inr ((parse_error h).resolve_left hfirst)

theorem later_of (hrun : RunsGood) {s : Str} {o : Opts} {m : String} {src : Str} {p : Int}
    (h : (parse s o).1 = .exn (.parsing m src p))
    (hfirst : (runParser s o []).1 ≠ .error (.parsing m src p)) :
    ∃ i, 0 < i ∧ i < s.length ∧
      (TopParsing (topGhost (s.drop i) o) m src p ∨
       ∃ g', WFG g' ∧ ExnAt (maxDepth - 1) g' (.parsing m src p)) :=
  let ⟨i, _, h0, h1, h2⟩ := (parse_error h).resolve_left hfirst
  ⟨i, h0, h1, hrun _ _ _ _ h2⟩

theorem C11_later_conditional (hTL : TokLen) (s : Str) (o : Opts) {m : String} {src : Str} {p : Int}
    (h : (parse s o).1 = .exn (.parsing m src p))
    (hfirst : (runParser s o []).1 ≠ .error (.parsing m src p)) :
    ∃ i, 0 < i ∧ i < s.length ∧
      (TopParsing (topGhost (s.drop i) o) m src p ∨
       ∃ g', WFG g' ∧ ExnAt (maxDepth - 1) g' (.parsing m src p)) :=
  later_of (fun _ _ _ _ => runParser_exn hTL) h hfirst

/-! ## why the theorems speak of start states -/

/-- a local state no parser is ever in: a quote in the lookahead slot, the cursor far beyond the
    end of a one-character line -/
def badLocal : Local :=
  { tape := some { line := ['\n'], idx := 5 }, opts := some (true, false), eolLookahead := some '"' }

def errOf (r : Except Exn (Option Node × Local) × Env) : Option Exn :=
  match r.1 with
  | .error x => some x
  | _ => none

theorem badLocal_run :
    errOf ((parserRun 1).run badLocal { tape := { line := [] } }) = some initAssert := by
  decide +kernel

/-- the state-free formulation (`Sat` quantifies over ALL local states and environments) is
    false: from `badLocal` the assertion of `ParsingError.__init__` does fire
    (`MatchedPairError` at cursor − 1 = 4 > len "⏎").  Hence `HT Start …` above. -/
theorem stateless_formulation_false :
    ¬ M.Sat (parserRun 1) (fun _ => True) (fun x => x ≠ initAssert) := by
  intro h
  have h1 := h badLocal { tape := { line := [] } }
  have h2 := badLocal_run
  revert h1 h2
  rcases (parserRun 1).run badLocal { tape := { line := [] } } with ⟨r, e'⟩
  cases r with
  | ok v => intro _ h2; cases h2
  | error x =>
    intro h1 h2
    simp only [errOf, Option.some.injEq] at h2
    exact h1 h2

/-! ## witnesses of the findings (kernel-evaluated runs of the model) -/

/-- the exception `parse` raises (`none` if it returns) -/
def exnOf (s : Str) (o : Opts := {}) : Option Exn :=
  match (parse s o).1 with
  | .exn e => some e
  | _ => none

/-- D15: `a⏎)` — the error of the second part carries the suffix `⏎)` and a position in it -/
theorem witness_later :
    exnOf ['a', '\n', ')'] = some (.parsing "unexpected token ')'" ['\n', ')'] 1) := by
  decide +kernel

/-- nested parser: `a $(b;;)` — the error carries the nested parser's input `b;;)` -/
theorem witness_nested :
    exnOf ['a', ' ', '$', '(', 'b', ';', ';', ')'] =
      some (.parsing "unexpected token ';;'" ['b', ';', ';', ')'] 1) := by
  decide +kernel

/-- here-document: `cat <<E⏎x` — the source carries the appended newline and the position is
    `len(s) + 1` -/
theorem witness_heredoc :
    exnOf ['c', 'a', 't', ' ', '<', '<', 'E', '\n', 'x'] =
      some (.parsing "here-document at line 0 delimited by end-of-file (wanted 'E')"
        ['c', 'a', 't', ' ', '<', '<', 'E', '\n', 'x', '\n'] 10) := by
  decide +kernel

end Bashlex.C11

#print axioms Bashlex.C11.nextToken_good
#print axioms Bashlex.C11.gather_good
#print axioms Bashlex.C11.pError_ht
#print axioms Bashlex.C11.g_actionCore
#print axioms Bashlex.C11.parserRunWith_good
#print axioms Bashlex.C11.C11_parserRun_conditional
#print axioms Bashlex.C11.no_init_assert_conditional
#print axioms Bashlex.C11.C11_parse_conditional
#print axioms Bashlex.C11.C11_parsesingle_conditional
#print axioms Bashlex.C11.C01_partial'_conditional
#print axioms Bashlex.C11.C11_toplevel_conditional
#print axioms Bashlex.C11.C11_first_conditional
#print axioms Bashlex.C11.topParsing_source
#print axioms Bashlex.C11.C11_later
#print axioms Bashlex.C11.C11_position_conditional
#print axioms Bashlex.C11.tok_no_init_assert
#print axioms Bashlex.C11.C11_later_conditional
#print axioms Bashlex.C11.stateless_formulation_false
#print axioms Bashlex.C11.witness_later
#print axioms Bashlex.C11.witness_nested
#print axioms Bashlex.C11.witness_heredoc
