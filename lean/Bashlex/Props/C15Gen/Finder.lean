/-
  C15 by translation, `parser._endfinder` — the one subclass of `nodevisitor` that overrides a kind
  callback (`Gen.visitorSubclasses`, `subclasses_ok`): `visitheredoc(self, node, value)` is
  `self.end = max(self.end, node.pos[1])` with `self.end = -1` initially; it returns None, so nothing
  is pruned.  Run over the events of the generated visitor it computes `Node.lastHeredocEnd`
  (`Model/Ast.lean`, used by `parse` to find where the next part starts).
-/
import Bashlex.Props.C15Gen.Visit

namespace Bashlex.Props
open Bashlex

/-- the nodes the kind-specific callback is called on, in order -/
def calls : List Ev → List Node
  | [] => []
  | .call n _ :: r => n :: calls r
  | _ :: r => calls r

theorem calls_append (a b : List Ev) : calls (a ++ b) = calls a ++ calls b := by
  induction a with
  | nil => rfl
  | cons e a ih => cases e <;> simp [calls, ih]

theorem calls_flatMap {α} (f : α → List Ev) (l : List α) :
    calls (l.flatMap f) = l.flatMap fun a => calls (f a) := by
  induction l with
  | nil => rfl
  | cons a l ih => simp [calls_append, ih]

/-- the kind callback runs exactly once on every node reached, in the order of `reached` -/
theorem calls_visit (prune : Node → Bool) (n : Node) : calls (visit prune n) = reached prune n := by
  induction n using Node.children_induction with
  | hP n ih =>
    obtain ⟨fs, h⟩ := visit_eq prune n
    rw [h, reached_eq]
    split <;> simp [calls, calls_append, calls_flatMap, Node.flatMap_congr ih]

theorem calls_visitL (prune : Node → Bool) : ∀ l, calls (visitL prune l) = reachedL prune l := by
  intro l; rw [visitL_eq, reachedL_eq, calls_flatMap]; exact Node.flatMap_congr fun n _ => calls_visit prune n

theorem calls_visitO (prune : Node → Bool) : ∀ o, calls (visitO prune o) = reachedO prune o := by
  intro o; cases o <;> simp [visitO, reachedO, calls, calls_visit]

/-- `_endfinder.visitheredoc`: `self.end = max(self.end, node.pos[1])`; `none` is the initial -1 -/
def endStep (acc : Option Nat) (m : Node) : Option Nat :=
  match m with
  | .heredoc p _ => some (match acc with | none => p.2 | some e => max e p.2)
  | _ => acc

/-- `ef = _endfinder(); ef.visit(n); ef.end` over a trace of callback events -/
def endfinderRun (evs : List Ev) : Option Nat := (calls evs).foldl endStep none

theorem foldl_endStep (l : List Node) (acc : Option Nat) :
    l.foldl endStep acc =
      (l.filterMap fun m => match m with | .heredoc p _ => some p.2 | _ => none).foldl
        (fun a e => some (match a with | none => e | some x => max x e)) acc := by
  induction l generalizing acc with
  | nil => rfl
  | cons m l ih =>
    cases m <;> simp [endStep, ih]

theorem foldl_max_some (es : List Nat) (e : Nat) :
    es.foldl (fun a x => some (match a with | none => x | some y => max y x)) (some e) =
      some (es.foldl max e) := by
  induction es generalizing e with
  | nil => rfl
  | cons x es ih => simp [ih]

/-- **`_endfinder` over the generated visitor is `Node.lastHeredocEnd`** -/
theorem endfinder_gen (n : Node) :
    endfinderRun (EvT.evs (visitT Gen.visitDispatch (fun _ => false) n)) = n.lastHeredocEnd := by
  rw [visitT_evs, endfinderRun, calls_visit, reached_noprune, foldl_endStep, Node.lastHeredocEnd]
  generalize (n.preorder.filterMap fun m => match m with | .heredoc p _ => some p.2 | _ => none) = ends
  cases ends with
  | nil => rfl
  | cons e es => simp [foldl_max_some]

end Bashlex.Props
