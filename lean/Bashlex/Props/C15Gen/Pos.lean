/-
  C15 by translation, the span helpers.  `Gen.visitorSubclasses` (tools/extract.py) lists every
  subclass of `nodevisitor` in the package with the methods it overrides and what its `visitnode`
  rewrites: `posshifter` and the two local classes `v` of subst.py (`_adjustpositions`,
  `_expandwordinternal`) override `visitnode` ONLY, with `node.pos = (node.pos[0] + d, node.pos[1] + d)`
  (the classes of subst.py after an `assert`); `posconverter` overrides `visitnode` only
  (`pos` replaced by `s = string[start:end]`, a presentation the model leaves to the driver).
  Such a visitor inherits `visit`, `_visitnode` and every kind callback (they return None: nothing is
  pruned), so what it does to a tree is determined by the dispatch table.  Here the SAME interpreter
  `runNode` reads the table a second time (`touchSem`: which attributes of a node are traversed, and
  whether `visitnode` runs on it); `mapD` rebuilds the typed node accordingly; and

    `mapT_eq` :  on the generated table, rewriting with `g : Span → Option Span`
                 (`none` = the assert fails) succeeds iff `g` is defined on the span of every node of
                 the pre-order, and then yields `Node.mapPos`;
    `posshifter_eq_shift`, `adjustpositions_gen` : the instances the model uses (`Node.shift`,
                 `Model/Subst.lean` `adjustpositions`).
  In-place mutation of a node object reachable twice would rewrite it twice; the typed `Node` is a
  tree (the only alias of the Python AST, `function.name`/`.body` into `.parts`, is kept as indices,
  and `mapD` fails if a table traverses them).
-/
import Bashlex.Props.C15Gen.Visit
import Bashlex.Model.Subst

namespace Bashlex.Props
open Bashlex

/-- what one `visit(n)` does with the node object `n` itself: `visitnode(n)` ran, or the node(s)
    held by an attribute were traversed -/
inductive Touch where
  | self
  | attr (a : String)
  deriving DecidableEq

/-- the reading "which callbacks of interest ran, in order"; `none` = the traversal raises -/
def touchSem : Sem (Option (List Touch)) :=
  { nil := some []
    app := fun a b => match a, b with | some x, some y => some (x ++ y) | _, _ => none
    enter := fun _ => some [.self]
    call := fun _ _ => some []
    leave := fun _ => some []
    error := fun _ => none }

/-- one `visit(n)` of a visitor that keeps the inherited kind callbacks (nothing is pruned), read off
    the table by the interpreter of `Visit.lean` -/
def plan (d : VisitorDesc) (n : Node) : Option (List Touch) :=
  runNode touchSem d (fun _ => false) n (fun a => (n.attr a).map fun v => ⟨v, some [.attr a]⟩)

/-- `visitnode` ran `c` times on a node with span `p` -/
def newPos (g : Span → Option Span) (c : Nat) (p : Span) : Option Span :=
  match c with
  | 0 => some p
  | 1 => g p
  | _ => none

/-- an attribute traversed `c` times: untouched, rewritten once, or outside what is modelled -/
def pick {α : Type} (c : Nat) (orig : α) (img : Option α) : Option α :=
  match c with
  | 0 => some orig
  | 1 => img
  | _ => none

/-- both succeed -/
def consO {α : Type} : Option α → Option (List α) → Option (List α)
  | some a, some l => some (a :: l)
  | _, _ => none

mutual
/-- the tree after `X(…).visit(n)` for a visitor `X` overriding `visitnode` only, with
    `node.pos = g(node.pos)` (`none`: it raises) -/
def mapD (d : VisitorDesc) (g : Span → Option Span) : Node → Option Node
  | n@(.operator p a) =>
    (plan d n).bind fun vs => (newPos g (vs.count .self) p).map (.operator · a)
  | n@(.reservedword p a) =>
    (plan d n).bind fun vs => (newPos g (vs.count .self) p).map (.reservedword · a)
  | n@(.pipe p a) =>
    (plan d n).bind fun vs => (newPos g (vs.count .self) p).map (.pipe · a)
  | n@(.parameter p a) =>
    (plan d n).bind fun vs => (newPos g (vs.count .self) p).map (.parameter · a)
  | n@(.tilde p a) =>
    (plan d n).bind fun vs => (newPos g (vs.count .self) p).map (.tilde · a)
  | n@(.heredoc p a) =>
    (plan d n).bind fun vs => (newPos g (vs.count .self) p).map (.heredoc · a)
  | n@(.list p ps) =>
    (plan d n).bind fun vs => (newPos g (vs.count .self) p).bind fun p' =>
      (pick (vs.count (.attr "parts")) ps (mapDL d g ps)).map (.list p')
  | n@(.pipeline p ps) =>
    (plan d n).bind fun vs => (newPos g (vs.count .self) p).bind fun p' =>
      (pick (vs.count (.attr "parts")) ps (mapDL d g ps)).map (.pipeline p')
  | n@(.ifN p ps) =>
    (plan d n).bind fun vs => (newPos g (vs.count .self) p).bind fun p' =>
      (pick (vs.count (.attr "parts")) ps (mapDL d g ps)).map (.ifN p')
  | n@(.forN p ps) =>
    (plan d n).bind fun vs => (newPos g (vs.count .self) p).bind fun p' =>
      (pick (vs.count (.attr "parts")) ps (mapDL d g ps)).map (.forN p')
  | n@(.whileN p ps) =>
    (plan d n).bind fun vs => (newPos g (vs.count .self) p).bind fun p' =>
      (pick (vs.count (.attr "parts")) ps (mapDL d g ps)).map (.whileN p')
  | n@(.untilN p ps) =>
    (plan d n).bind fun vs => (newPos g (vs.count .self) p).bind fun p' =>
      (pick (vs.count (.attr "parts")) ps (mapDL d g ps)).map (.untilN p')
  | n@(.caseN p ps) =>
    (plan d n).bind fun vs => (newPos g (vs.count .self) p).bind fun p' =>
      (pick (vs.count (.attr "parts")) ps (mapDL d g ps)).map (.caseN p')
  | n@(.pattern p ps) =>
    (plan d n).bind fun vs => (newPos g (vs.count .self) p).bind fun p' =>
      (pick (vs.count (.attr "parts")) ps (mapDL d g ps)).map (.pattern p')
  | n@(.command p ps) =>
    (plan d n).bind fun vs => (newPos g (vs.count .self) p).bind fun p' =>
      (pick (vs.count (.attr "parts")) ps (mapDL d g ps)).map (.command p')
  | n@(.unimplemented p ps) =>
    (plan d n).bind fun vs => (newPos g (vs.count .self) p).bind fun p' =>
      (pick (vs.count (.attr "parts")) ps (mapDL d g ps)).map (.unimplemented p')
  | n@(.word p w ps) =>
    (plan d n).bind fun vs => (newPos g (vs.count .self) p).bind fun p' =>
      (pick (vs.count (.attr "parts")) ps (mapDL d g ps)).map (.word p' w)
  | n@(.assignment p w ps) =>
    (plan d n).bind fun vs => (newPos g (vs.count .self) p).bind fun p' =>
      (pick (vs.count (.attr "parts")) ps (mapDL d g ps)).map (.assignment p' w)
  | n@(.function p ni bi ps) =>
    (plan d n).bind fun vs => (newPos g (vs.count .self) p).bind fun p' =>
      if vs.count (.attr "name") = 0 ∧ vs.count (.attr "body") = 0 then
        (pick (vs.count (.attr "parts")) ps (mapDL d g ps)).map (.function p' ni bi)
      else none
  | n@(.compound p l r) =>
    (plan d n).bind fun vs => (newPos g (vs.count .self) p).bind fun p' =>
      (pick (vs.count (.attr "list")) l (mapDL d g l)).bind fun l' =>
        (pick (vs.count (.attr "redirects")) r (mapDL d g r)).map (.compound p' l')
  | n@(.redirect p i t o oa h hid) =>
    (plan d n).bind fun vs => (newPos g (vs.count .self) p).bind fun p' =>
      (pick (vs.count (.attr "output")) o (mapDO d g o)).bind fun o' =>
        (pick (vs.count (.attr "heredoc")) h (mapDO d g h)).map fun h' => .redirect p' i t o' oa h' hid
  | n@(.commandsubstitution p c) =>
    (plan d n).bind fun vs => (newPos g (vs.count .self) p).bind fun p' =>
      (pick (vs.count (.attr "command")) c (mapD d g c)).map (.commandsubstitution p')
  | n@(.processsubstitution p c) =>
    (plan d n).bind fun vs => (newPos g (vs.count .self) p).bind fun p' =>
      (pick (vs.count (.attr "command")) c (mapD d g c)).map (.processsubstitution p')
def mapDL (d : VisitorDesc) (g : Span → Option Span) : List Node → Option (List Node)
  | [] => some []
  | n :: ns => consO (mapD d g n) (mapDL d g ns)
def mapDO (d : VisitorDesc) (g : Span → Option Span) : Option Node → Option (Option Node)
  | none => some none
  | some n => (mapD d g n).map some
end

/-- **the table-driven span rewriter** -/
def mapT (table : List Arm) (g : Span → Option Span) (n : Node) : Option Node :=
  mapD (genVisitor table) g n

/-! ### the generated table -/

/-- `g` is defined on the span of `m` (the assert of `visitnode` holds) -/
def spanOK (g : Span → Option Span) (m : Node) : Bool := (g m.pos).isSome
/-- the total rewrite `g` stands for where it is defined -/
def getG (g : Span → Option Span) : Span → Span := fun p => (g p).getD p

/-- evaluation of `plan` and of the counts on the arm of `Gen.visitDispatch` found for the
    constructor at hand -/
macro "map_eval" : tactic => `(tactic|
  (rw [mapD, plan, runNode_gen (by rfl)]
   simp only [callFields, Node.attr, Node.attrs, List.lookup, String.reduceBEq, Option.map_some,
     Option.map_none, runSteps, runStep, touchSem, String.reduceEq, if_true, if_false, AVal.desc,
     AVal.isNode, AVal.truthy, Bool.true_and, Bool.false_and, Bool.and_false, List.append_nil,
     List.nil_append, List.cons_append, Bool.false_eq_true, Option.isSome_some, Option.isSome_none,
     Option.bind_some]
   simp only [List.count_cons, List.count_nil, beq_self_eq_true, beq_iff_eq, reduceCtorEq,
     Touch.attr.injEq, String.reduceEq, if_true, if_false, Nat.zero_add, Nat.add_zero, and_self,
     newPos, pick, Node.preorder, Node.mapPos, List.all_cons, getG]
   simp only [spanOK, Node.pos]))

theorem opt_leaf (x : Option Span) (p : Span) (k : Span → Node) :
    x.map k = bif x.isSome && true then some (k (x.getD p)) else none := by
  cases x <;> rfl

theorem opt_one {β : Type} (x : Option Span) (p : Span) (b : Bool) (y : β) (k : Span → β → Node) :
    (x.bind fun p' => (bif b then some y else none).map (k p')) =
      bif x.isSome && b then some (k (x.getD p) y) else none := by
  cases x <;> cases b <;> rfl

theorem opt_leaf' (x : Option Span) (p : Span) (k : Span → Node) :
    (x.bind fun p' => some (k p')) = bif x.isSome then some (k (x.getD p)) else none := by
  cases x <;> rfl

theorem opt_one' {β : Type} (x : Option Span) (p : Span) (b : Bool) (y : β) (k : Span → β → Node) :
    (x.bind fun p' => (bif b then some y else none).bind fun y' => some (k p' y')) =
      bif x.isSome && b then some (k (x.getD p) y) else none := by
  cases x <;> cases b <;> rfl

theorem opt_two {β γ : Type} (x : Option Span) (p : Span) (b c : Bool) (y : β) (z : γ)
    (k : Span → β → γ → Node) :
    (x.bind fun p' => (bif b then some y else none).bind fun y' =>
        (bif c then some z else none).map (k p' y')) =
      bif x.isSome && (b && c) then some (k (x.getD p) y z) else none := by
  cases x <;> cases b <;> cases c <;> rfl

theorem opt_cons {β : Type} (b c : Bool) (y : β) (z : List β) :
    consO (bif b then some y else none) (bif c then some z else none) =
      bif b && c then some (y :: z) else none := by
  cases b <;> cases c <;> rfl

theorem opt_some {β : Type} (b : Bool) (y : β) :
    (bif b then some y else none).map some = bif b then some (some y) else none := by
  cases b <;> rfl

mutual
theorem mapD_eq (g : Span → Option Span) : ∀ n : Node,
    mapD (genVisitor Gen.visitDispatch) g n =
      bif n.preorder.all (spanOK g) then some (n.mapPos (getG g)) else none
  | .operator p _ | .reservedword p _ | .pipe p _ | .parameter p _ | .tilde p _ | .heredoc p _ => by
    map_eval
    exact opt_leaf (g p) p _
  | .list p ps | .pipeline p ps | .ifN p ps | .forN p ps | .whileN p ps | .untilN p ps
  | .caseN p ps | .pattern p ps | .command p ps | .unimplemented p ps | .function p _ _ ps
  | .word p _ ps | .assignment p _ ps => by
    map_eval
    rw [mapDL_eq g ps]
    exact opt_one (g p) p _ _ _
  | .compound p l r => by
    map_eval
    rw [mapDL_eq g l, mapDL_eq g r, List.all_append]
    exact opt_two (g p) p _ _ _ _ _
  | .redirect p i t o oa h hid => by
    have iho := mapDO_eq g o
    have ihh := mapDO_eq g h
    cases o <;> cases h <;> map_eval <;>
      simp only [iho, ihh, List.all_append, Node.preorderO, Node.mapPosO, List.all_nil, Bool.and_true,
        Bool.true_and, Option.bind_some, Option.map_some]
    · exact opt_leaf' (g p) p (fun p' => Node.redirect p' i t none oa none hid)
    · exact opt_one (g p) p _ _ (fun p' h' => Node.redirect p' i t none oa h' hid)
    · exact opt_one' (g p) p _ _ (fun p' o' => Node.redirect p' i t o' oa none hid)
    · exact opt_two (g p) p _ _ _ _ (fun p' o' h' => Node.redirect p' i t o' oa h' hid)
  | .commandsubstitution p c | .processsubstitution p c => by
    map_eval
    rw [mapD_eq g c]
    exact opt_one (g p) p _ _ _
theorem mapDL_eq (g : Span → Option Span) : ∀ l : List Node,
    mapDL (genVisitor Gen.visitDispatch) g l =
      bif (Node.preorderL l).all (spanOK g) then some (Node.mapPosL (getG g) l) else none
  | [] => rfl
  | n :: ns => by
    rw [mapDL, mapD_eq g n, mapDL_eq g ns]
    simp only [Node.preorderL, Node.mapPosL, List.all_append]
    exact opt_cons _ _ _ _
theorem mapDO_eq (g : Span → Option Span) : ∀ o : Option Node,
    mapDO (genVisitor Gen.visitDispatch) g o =
      bif (Node.preorderO o).all (spanOK g) then some (Node.mapPosO (getG g) o) else none
  | none => rfl
  | some n => by
    rw [mapDO, mapD_eq g n]
    simp only [Node.preorderO, Node.mapPosO]
    exact opt_some _ _
end

/-- **the span rewriter generated from `ast.py`**: for a visitor that overrides `visitnode` only, with
    `node.pos = g(node.pos)` (`none`: an assert in it fails), the traversal succeeds iff `g` is defined
    on the span of every node of the pre-order, and then every span is rewritten exactly once:
    the result is `Node.mapPos` -/
theorem mapT_eq (g : Span → Option Span) (n : Node) :
    mapT Gen.visitDispatch g n =
      bif n.preorder.all (fun m => (g m.pos).isSome) then some (n.mapPos fun p => (g p).getD p)
      else none :=
  mapD_eq g n

/-- a total rewrite -/
theorem mapT_total (f : Span → Span) (n : Node) :
    mapT Gen.visitDispatch (fun p => some (f p)) n = some (n.mapPos f) := by
  rw [mapT_eq]
  have : n.preorder.all (fun m => (some (f m.pos)).isSome) = true := by simp
  rw [this]
  rfl

/-- **`posshifter(k).visit(n)` is `Node.shift k`** (ast.py: `visitnode` is
    `node.pos = (node.pos[0] + self.count, node.pos[1] + self.count)`) -/
theorem posshifter_eq_shift (k : Nat) (n : Node) :
    mapT Gen.visitDispatch (fun p => some (p.1 + k, p.2 + k)) n = some (n.shift k) :=
  mapT_total _ n

theorem mapPosL_congr (f f' : Span → Span) : ∀ l : List Node,
    (∀ m ∈ Node.preorderL l, f m.pos = f' m.pos) → Node.mapPosL f l = Node.mapPosL f' l := by
  intro l h
  rw [Node.mapPosL_eq, Node.mapPosL_eq]
  exact List.map_congr_left fun n hn =>
    Node.mapPos_congr fun m hm => h m (Node.mem_preorderL.mpr ⟨n, hn, hm⟩)

theorem mapPosO_congr (f f' : Span → Span) : ∀ o : Option Node,
    (∀ m ∈ Node.preorderO o, f m.pos = f' m.pos) → Node.mapPosO f o = Node.mapPosO f' o := by
  intro o h
  cases o with
  | none => rfl
  | some n => exact congrArg some (Node.mapPos_congr h)

/-- the `visitnode` of the local class `v` of `subst._adjustpositions`:
    `assert node.pos[1] + base <= endlimit; node.pos = (node.pos[0] + base, node.pos[1] + base)` -/
def assertShift (base endlimit : Nat) (p : Span) : Option Span :=
  if p.2 + base ≤ endlimit then some (p.1 + base, p.2 + base) else none

theorem mapT_assertShift (base endlimit : Nat) (n : Node) :
    mapT Gen.visitDispatch (assertShift base endlimit) n =
      bif n.preorder.all (fun m => decide (m.pos.2 + base ≤ endlimit)) then some (n.shift base)
      else none := by
  rw [mapT_eq]
  have hc : (fun m : Node => ((assertShift base endlimit) m.pos).isSome) =
      fun m => decide (m.pos.2 + base ≤ endlimit) := by
    funext m
    simp only [assertShift]
    split <;> simp [*]
  rw [hc]
  cases hall : n.preorder.all (fun m => decide (m.pos.2 + base ≤ endlimit))
  · rfl
  · simp only [cond_true, Node.shift]
    congr 1
    apply Node.mapPos_congr
    intro m hm
    have := List.all_eq_true.1 hall m hm
    simp only [decide_eq_true_eq] at this
    simp [assertShift, this]

/-- **the model's `adjustpositions` is the generated rewriter** run with the `visitnode` of
    `subst._adjustpositions` -/
theorem adjustpositions_gen (n : Node) (base endlimit : Nat) :
    adjustpositions n base endlimit =
      match mapT Gen.visitDispatch (assertShift base endlimit) n with
      | some n' => pure n'
      | none => M.foreign "AssertionError" "visitnode" := by
  rw [mapT_assertShift, adjustpositions]
  cases n.preorder.all (fun m => decide (m.pos.2 + base ≤ endlimit)) <;> simp

/-- `for node in parts: visitor.visit(node)` -/
def mapTs (table : List Arm) (g : Span → Option Span) : List Node → Option (List Node)
  | [] => some []
  | n :: ns => consO (mapT table g n) (mapTs table g ns)

/-- the tail of `subst._expandwordinternal` (class `v`, one visitor over all parts): it succeeds iff
    the assert holds on every node of every part, and then shifts every part — the condition and
    the result `Model/Subst.lean` `expandwordinternal` states -/
theorem mapTs_assertShift (base endlimit : Nat) : ∀ parts : List Node,
    mapTs Gen.visitDispatch (assertShift base endlimit) parts =
      bif parts.all (fun p => p.preorder.all fun m => decide (m.pos.2 + base ≤ endlimit)) then
        some (parts.map (·.shift base))
      else none
  | [] => rfl
  | n :: ns => by
    rw [mapTs, mapT_assertShift, mapTs_assertShift base endlimit ns, List.all_cons, List.map_cons]
    exact opt_cons _ _ _ _

/-! ### what the subclasses override (regenerated data) -/

/-- every subclass of `nodevisitor` in the package overrides either `visitnode` alone — rewriting
    `pos` by a shift (`posshifter`, the classes `v` of subst.py) or replacing it by the source slice
    (`posconverter`) — or `visitheredoc` alone (`_endfinder`); none overrides `visit`, `_visitnode`,
    `visitnodeend` or another kind callback, so none prunes and all of them traverse as the
    dispatch table says -/
theorem subclasses_ok :
    Gen.visitorSubclasses.all (fun c =>
      (c.2.2.1 == ["visitnode"] && (c.2.2.2.1 == "shift" || c.2.2.2.1 == "slice")) ||
      (c.2.2.1 == ["visitheredoc"] && c.2.2.2.1 == "none")) = true ∧
    Gen.visitorSubclasses.contains
      ("ast", "posshifter", ["visitnode"], "shift", "self.count", []) = true ∧
    Gen.visitorSubclasses.contains
      ("ast", "posconverter", ["visitnode"], "slice", "", ["hasattr(node, 'pos')"]) = true ∧
    Gen.visitorSubclasses.contains
      ("subst", "v", ["visitnode"], "shift", "base", ["node.pos[1] + base <= endlimit"]) = true ∧
    Gen.visitorSubclasses.contains
      ("subst", "v", ["visitnode"], "shift", "wordtoken.lexpos",
        ["node.pos[1] + wordtoken.lexpos <= wordtoken.endlexpos"]) = true ∧
    Gen.visitorSubclasses.contains ("parser", "_endfinder", ["visitheredoc"], "none", "", []) = true := by
  decide

/-! ### the rewriter is sensitive to the table (kernel-checked on `exTree`) -/

/-- the spans of the pre-order after a rewrite (`none`: the traversal fails or is outside the model) -/
def spansAfter (t : List Arm) (k : Nat) (n : Node) : Option (List Span) :=
  (mapT t (fun p => some (p.1 + k, p.2 + k)) n).map fun n' => n'.preorder.map Node.pos

example : spansAfter Gen.visitDispatch 10 exTree =
    some [(10, 19), (10, 11), (12, 13), (12, 13), (15, 19), (16, 17), (16, 17), (18, 19)] := by decide

/-- the loop of the `command` arm dropped: the word below the command keeps its span -/
example : spansAfter (editArm "command" (fun a => (a.1, a.2.1, a.2.2.1, [])) Gen.visitDispatch) 10
      exTree =
    some [(10, 19), (10, 11), (12, 13), (2, 3), (15, 19), (16, 17), (16, 17), (18, 19)] := by decide

/-- `if n.heredoc: self.visit(n.heredoc)` dropped: the body keeps its span -/
example : spansAfter (editArm "redirect" (fun a => (a.1, a.2.1, a.2.2.1, [("ifnode", "output")]))
      Gen.visitDispatch) 10 exTree =
    some [(10, 19), (10, 11), (12, 13), (12, 13), (15, 19), (16, 17), (16, 17), (8, 9)] := by decide

/-- the parts of a word traversed twice (each would be shifted twice in place): outside the model -/
example : spansAfter (editArm "word"
      (fun a => (a.1, a.2.1, a.2.2.1, [("for", "parts"), ("for", "parts")])) Gen.visitDispatch) 10
      exTree = none := by decide

/-- an arm removed: the traversal raises -/
example : spansAfter (Gen.visitDispatch.filter (fun a => !a.1.contains "redirect")) 10 exTree = none := by
  decide

/-- the assert of `_adjustpositions` fails on one node: no tree -/
example : (mapT Gen.visitDispatch (assertShift 10 18) exTree).isSome = false ∧
    (mapT Gen.visitDispatch (assertShift 10 19) exTree).isSome = true := by decide

end Bashlex.Props
