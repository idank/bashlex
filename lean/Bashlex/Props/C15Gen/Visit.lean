/-
  C15, tie by TRANSLATION.  `tools/extract.py` (`gen_kinds`) turns the Python AST of
  `nodevisitor.visit` / `nodevisitor._visitnode` (ast.py) into the table `Gen.visitDispatch` (one
  entry per `if/elif` arm, in source order) and the three frame facts `Gen.visitEnterFirst`,
  `Gen.visitLeaveLast`, `Gen.visitElseRaises`; the generator raises on every statement shape it does
  not recognise.  Here:

  * `Node.attrs` / `Node.attr` — Python attribute access by name over the typed `Node`;
  * `visitD` / `visitT` — a visitor that INTERPRETS such a table (it knows no kind and no arm);
    an unknown kind, an unknown attribute, an unknown mode or a traversal step applied to a value
    of the wrong type is the distinguished event `EvT.error` (a separate constructor, so it cannot
    be confused with a callback event) — nothing is silently skipped;
  * `visitD_unfold` — the interpreter satisfies the generic equation
    `visitD d prune n = runNode evSem d prune n (fun a => (n.attr a).map (decorate (visitD d prune)))`
    (it was defined by structural recursion on the nested inductive `Node`; this equation is what
    a definition by well-founded recursion through `Node.attr` would have unfolded to);
  * **`visitT_eq_visit`** — on the generated table the interpreter produces exactly the events of
    the hand-written `visit` (`Model/Visitor.lean`), for all trees and all prune predicates, hence
    no error event; `C15_gen` restates `Props.C15` for the generated visitor.
  An edit of `ast.py`'s dispatch changes `Gen/Kinds.lean` and breaks `visitT_eq_visit` unless the
  behaviour is the same.
-/
import Bashlex.Props.C15

namespace Bashlex.Props
open Bashlex

/-! ### attribute access by name -/

/-- the value of a Python attribute of a node -/
inductive AVal where
  /-- a string -/
  | str (s : Str)
  /-- `None`, a number or a string (`input` and a non-node `output` of a redirect) -/
  | rin (r : RedirIn)
  /-- a list of nodes -/
  | nodes (l : List Node)
  /-- a node -/
  | node (w : Node)
  /-- `None` or a node -/
  | opt (o : Option Node)

namespace AVal

/-- how the value is described in a callback event (`Model/Visitor.lean`) -/
def desc : AVal → String
  | .str s => descStr s
  | .rin r => descRedirIn r
  | .nodes l => descNodes l
  | .node w => descNode w
  | .opt o => descOpt o

/-- `isinstance(v, node)` -/
def isNode : AVal → Bool
  | .node _ => true
  | .opt (some _) => true
  | _ => false

/-- `bool(v)` (instances of `ast.node` define neither `__bool__` nor `__len__`: always true) -/
def truthy : AVal → Bool
  | .str s => !s.isEmpty
  | .rin .none => false
  | .rin (.num k) => k != 0
  | .rin (.str s) => !s.isEmpty
  | .nodes l => !l.isEmpty
  | .node _ => true
  | .opt o => o.isSome

end AVal

/-- the attributes of a node, by name (the `function` node keeps `name`/`body` as indices into
    `parts`; a redirect's `output` is a node or a number/string) -/
def _root_.Bashlex.Node.attrs : Node → List (String × AVal)
  | .operator _ op => [("op", .str op)]
  | .reservedword _ w => [("word", .str w)]
  | .pipe _ p => [("pipe", .str p)]
  | .list _ ps | .pipeline _ ps | .ifN _ ps | .forN _ ps | .whileN _ ps | .untilN _ ps
  | .caseN _ ps | .pattern _ ps | .command _ ps | .unimplemented _ ps => [("parts", .nodes ps)]
  | .compound _ l r => [("list", .nodes l), ("redirects", .nodes r)]
  | .function _ ni bi ps => [("name", .opt ps[ni]?), ("body", .opt ps[bi]?), ("parts", .nodes ps)]
  | .redirect _ i t o oa h _ =>
    [("input", .rin i), ("type", .str t),
     ("output", match o with | some w => .node w | none => .rin oa), ("heredoc", .opt h)]
  | .word _ w ps | .assignment _ w ps => [("word", .str w), ("parts", .nodes ps)]
  | .parameter _ v | .tilde _ v | .heredoc _ v => [("value", .str v)]
  | .commandsubstitution _ c | .processsubstitution _ c => [("command", .node c)]

/-- `n.A`; `none` = AttributeError -/
def _root_.Bashlex.Node.attr (n : Node) (a : String) : Option AVal := n.attrs.lookup a

/-! ### the table interpreter -/

/-- events of the interpreted visitor: a callback event or the distinguished error -/
inductive EvT where
  | ev (e : Ev)
  | error (what : String)

/-- the callback events of a trace -/
def EvT.evs : List EvT → List Ev
  | [] => []
  | .ev e :: r => e :: EvT.evs r
  | .error _ :: r => EvT.evs r

def EvT.isError : EvT → Bool
  | .error _ => true
  | .ev _ => false

/-- what a traversal computes: results are combined in order (`nil`, `app`); `enter`, `call`,
    `leave` are the three callbacks `visitnode(n)`, `visit<kind>(n, …)`, `visitnodeend(n)`; `error` is
    failure.  The table is interpreted once, for every such reading (`runNode`): events here,
    the touched attributes in `C15Gen/Pos.lean`. -/
structure Sem (τ : Type) where
  nil : τ
  app : τ → τ → τ
  enter : Node → τ
  call : Node → List String → τ
  leave : Node → τ
  error : String → τ

/-- the reading as a trace of events -/
def evSem : Sem (List EvT) :=
  { nil := [], app := (· ++ ·), enter := fun n => [.ev (.enter n)],
    call := fun n fs => [.ev (.call n fs)], leave := fun n => [.ev (.leave n)],
    error := fun w => [.error w] }

/-- an attribute value together with the result of visiting the node(s) it holds, in order -/
structure RVal (τ : Type) where
  val : AVal
  trace : τ

/-- one `if/elif` arm: kinds, attributes passed to the callback, guarded, traversal steps -/
abbrev Arm := List String × List String × Bool × List (String × String)

/-- what the translator extracts from `nodevisitor` -/
structure VisitorDesc where
  /-- `_visitnode` calls `self.visitnode(n)` before the kind-specific callback -/
  enterFirst : Bool
  /-- `visit` ends with `self.visitnodeend(n)` -/
  leaveLast : Bool
  /-- the `else` arm raises (otherwise there is no `else` arm) -/
  elseRaises : Bool
  arms : List Arm

/-- the first arm whose test `k == …` / `k in (…)` holds -/
def findArm : List Arm → String → Option Arm
  | [], _ => none
  | arm :: rest, k => if arm.1.contains k then some arm else findArm rest k

section
variable {τ : Type}

/-- the arguments of `self._visitnode(n, n.A₁, …)`; `none` if an attribute does not exist -/
def callFields (env : String → Option (RVal τ)) : List String → Option (List String)
  | [] => some []
  | a :: as =>
    match env a, callFields env as with
    | some r, some fs => some (r.val.desc :: fs)
    | _, _ => none

/-- one traversal step -/
def runStep (S : Sem τ) (env : String → Option (RVal τ)) (mode a : String) : τ :=
  match env a with
  | none => S.error ("unknown attribute " ++ a)
  | some r =>
    if mode = "for" then
      (match r.val with | .nodes _ => r.trace | _ => S.error ("for over a non-list " ++ a))
    else if mode = "ifnode" then (if r.val.isNode then r.trace else S.nil)
    else if mode = "iftrue" then
      (if r.val.truthy then
        (if r.val.isNode then r.trace else S.error ("visit of a non-node " ++ a))
       else S.nil)
    else if mode = "one" then
      (if r.val.isNode then r.trace else S.error ("visit of a non-node " ++ a))
    else S.error ("unknown mode " ++ mode)

def runSteps (S : Sem τ) (env : String → Option (RVal τ)) : List (String × String) → τ
  | [] => S.nil
  | (mode, a) :: rest => S.app (runStep S env mode a) (runSteps S env rest)

/-- `visit(n)` given the attribute environment of `n` -/
def runNode (S : Sem τ) (d : VisitorDesc) (prune : Node → Bool) (n : Node)
    (env : String → Option (RVal τ)) : τ :=
  match findArm d.arms n.kind with
  | none =>
    if d.elseRaises then S.error ("unknown node kind " ++ n.kind)
    else (if d.leaveLast then S.leave n else S.nil)
  | some (_, attrs, guarded, steps) =>
    S.app (S.app (S.app
      (if d.enterFirst then S.enter n else S.nil)
      (match callFields env attrs with
        | some fs => S.call n fs
        | none => S.error ("unknown attribute among the callback arguments of " ++ n.kind)))
      (if guarded && prune n then S.nil else runSteps S env steps))
      (if d.leaveLast then S.leave n else S.nil)

end

mutual
/-- the interpreted visitor; every arm below only lists the attributes of the constructor with the
    traces of the nodes they hold (`visitD_unfold`: it is `Node.attrs` decorated) -/
def visitD (d : VisitorDesc) (prune : Node → Bool) : Node → List EvT
  | n@(.operator _ op) => runNode evSem d prune n (List.lookup · [("op", ⟨.str op, []⟩)])
  | n@(.reservedword _ w) => runNode evSem d prune n (List.lookup · [("word", ⟨.str w, []⟩)])
  | n@(.pipe _ p) => runNode evSem d prune n (List.lookup · [("pipe", ⟨.str p, []⟩)])
  | n@(.list _ ps) | n@(.pipeline _ ps) | n@(.ifN _ ps) | n@(.forN _ ps) | n@(.whileN _ ps)
  | n@(.untilN _ ps) | n@(.caseN _ ps) | n@(.pattern _ ps) | n@(.command _ ps)
  | n@(.unimplemented _ ps) =>
    runNode evSem d prune n (List.lookup · [("parts", ⟨.nodes ps, visitDL d prune ps⟩)])
  | n@(.compound _ l r) =>
    runNode evSem d prune n (List.lookup ·
      [("list", ⟨.nodes l, visitDL d prune l⟩), ("redirects", ⟨.nodes r, visitDL d prune r⟩)])
  | n@(.function _ ni bi ps) =>
    runNode evSem d prune n (List.lookup ·
      [("name", ⟨.opt ps[ni]?, visitDAt d prune ps ni⟩), ("body", ⟨.opt ps[bi]?, visitDAt d prune ps bi⟩),
       ("parts", ⟨.nodes ps, visitDL d prune ps⟩)])
  | n@(.redirect _ i t o oa h _) =>
    runNode evSem d prune n (List.lookup ·
      [("input", ⟨.rin i, []⟩), ("type", ⟨.str t, []⟩),
       ("output", ⟨(match o with | some w => .node w | none => .rin oa), visitDO d prune o⟩),
       ("heredoc", ⟨.opt h, visitDO d prune h⟩)])
  | n@(.word _ w ps) | n@(.assignment _ w ps) =>
    runNode evSem d prune n (List.lookup ·
      [("word", ⟨.str w, []⟩), ("parts", ⟨.nodes ps, visitDL d prune ps⟩)])
  | n@(.parameter _ v) | n@(.tilde _ v) | n@(.heredoc _ v) =>
    runNode evSem d prune n (List.lookup · [("value", ⟨.str v, []⟩)])
  | n@(.commandsubstitution _ c) | n@(.processsubstitution _ c) =>
    runNode evSem d prune n (List.lookup · [("command", ⟨.node c, visitD d prune c⟩)])
def visitDL (d : VisitorDesc) (prune : Node → Bool) : List Node → List EvT
  | [] => []
  | n :: ns => visitD d prune n ++ visitDL d prune ns
def visitDO (d : VisitorDesc) (prune : Node → Bool) : Option Node → List EvT
  | none => []
  | some n => visitD d prune n
/-- the trace of `l[i]` if it exists (`function.name`, `function.body`) -/
def visitDAt (d : VisitorDesc) (prune : Node → Bool) : List Node → Nat → List EvT
  | [], _ => []
  | n :: _, 0 => visitD d prune n
  | _ :: ns, i + 1 => visitDAt d prune ns i
end

/-- the visitor description the translator produced, with the arms given -/
def genVisitor (table : List Arm) : VisitorDesc :=
  { enterFirst := Gen.visitEnterFirst, leaveLast := Gen.visitLeaveLast,
    elseRaises := Gen.visitElseRaises, arms := table }

/-- **the table-driven visitor** (frame facts as generated) -/
def visitT (table : List Arm) (prune : Node → Bool) (n : Node) : List EvT :=
  visitD (genVisitor table) prune n

/-! ### the interpreter is generic: it is `runNode` over `Node.attr`, recursively -/

/-- an attribute value with the traces of the nodes it holds, `vis` being the traversal -/
def decorate (vis : Node → List EvT) (v : AVal) : RVal (List EvT) :=
  ⟨v, match v with
      | .str _ | .rin _ => []
      | .nodes l => l.flatMap vis
      | .node w => vis w
      | .opt o => o.elim [] vis⟩

theorem visitDL_flatMap (d : VisitorDesc) (prune : Node → Bool) :
    ∀ l, visitDL d prune l = l.flatMap (visitD d prune)
  | [] => rfl
  | n :: ns => by simp [visitDL, visitDL_flatMap d prune ns]

theorem visitDAt_eq (d : VisitorDesc) (prune : Node → Bool) :
    ∀ l i, visitDAt d prune l i = visitDO d prune l[i]?
  | [], _ => by simp [visitDAt, visitDO]
  | n :: _, 0 => by simp [visitDAt, visitDO]
  | _ :: ns, i + 1 => by simp [visitDAt, visitDAt_eq d prune ns i]

theorem visitDO_elim (d : VisitorDesc) (prune : Node → Bool) (o : Option Node) :
    visitDO d prune o = o.elim [] (visitD d prune) := by
  cases o <;> rfl

theorem lookup_map {β γ : Type} (f : β → γ) (a : String) :
    ∀ l : List (String × β), List.lookup a (l.map fun kv => (kv.1, f kv.2)) = (List.lookup a l).map f
  | [] => rfl
  | (k, v) :: l => by
    simp only [List.map, List.lookup]
    cases a == k <;> simp [lookup_map f a l]

/-- **the fixpoint equation of the interpreter**: visiting `n` is `runNode` in the environment that
    maps an attribute name to its value (`Node.attr`) and the traces of the nodes the value holds.
    No kind and no attribute name occurs in it: all of that comes from the table and `Node.attrs`. -/
theorem visitD_unfold (d : VisitorDesc) (prune : Node → Bool) (n : Node) :
    visitD d prune n = runNode evSem d prune n (fun a => (n.attr a).map (decorate (visitD d prune))) := by
  have key : ∀ l : List (String × RVal (List EvT)),
      l = n.attrs.map (fun kv => (kv.1, decorate (visitD d prune) kv.2)) →
      runNode evSem d prune n (List.lookup · l) =
        runNode evSem d prune n (fun a => (n.attr a).map (decorate (visitD d prune))) := by
    intro l hl
    congr 1
    funext a
    rw [hl, Node.attr, lookup_map]
  cases n with
  | redirect p i t o oa h hid =>
    cases o <;> cases h <;> rw [visitD] <;> apply key <;>
      simp [Node.attrs, decorate, visitDO_elim]
  | _ =>
    rw [visitD]; apply key
    simp [Node.attrs, decorate, visitDL_flatMap, visitDAt_eq, visitDO_elim]

/-! ### the generated table -/

/-- on a visitor description as generated (`visitnode` first, `visitnodeend` last) `runNode` is the
    four parts of the arm found, for every reading `S` -/
theorem runNode_gen {τ : Type} {S : Sem τ} {tbl : List Arm} {prune : Node → Bool} {n : Node}
    {env : String → Option (RVal τ)} {arm : Arm} (h : findArm tbl n.kind = some arm) :
    runNode S (genVisitor tbl) prune n env =
      S.app (S.app (S.app (S.enter n)
        (match callFields env arm.2.1 with
          | some fs => S.call n fs
          | none => S.error ("unknown attribute among the callback arguments of " ++ n.kind)))
        (if arm.2.2.1 && prune n then S.nil else runSteps S env arm.2.2.2)) (S.leave n) := by
  obtain ⟨ks, attrs, g, steps⟩ := arm
  simp only [runNode, genVisitor, h, Gen.visitEnterFirst, Gen.visitLeaveLast, if_true]
  try rfl

/-- evaluation of the interpreter on the arm of `Gen.visitDispatch` found for the constructor at hand
    (`by rfl` runs `findArm` on the concrete table) -/
macro "interp" : tactic => `(tactic|
  (rw [visitD, runNode_gen (by rfl)]
   simp only [callFields, List.lookup, String.reduceBEq, runSteps, runStep, evSem, String.reduceEq,
     if_true, if_false, AVal.desc, AVal.isNode, AVal.truthy, visit, Bool.true_and, Bool.false_and,
     List.append_nil]))

mutual
theorem visitD_eq_visit (prune : Node → Bool) :
    ∀ n, visitD (genVisitor Gen.visitDispatch) prune n = (visit prune n).map .ev
  | .operator .. | .reservedword .. | .pipe .. | .parameter .. | .tilde .. | .heredoc .. => by
    interp; simp
  | .list _ ps | .pipeline _ ps | .ifN _ ps | .forN _ ps | .whileN _ ps | .untilN _ ps
  | .caseN _ ps | .pattern _ ps | .command _ ps | .unimplemented _ ps | .function _ _ _ ps
  | .word _ _ ps | .assignment _ _ ps => by
    interp; rw [visitDL_eq_visitL prune ps]; split <;> simp
  | .compound _ l r => by
    interp; rw [visitDL_eq_visitL prune l, visitDL_eq_visitL prune r]; split <;> simp
  | .redirect _ _ _ o _ h _ => by
    have iho := visitDO_eq_visitO prune o
    have ihh := visitDO_eq_visitO prune h
    cases o <;> cases h <;> interp <;> simp only [iho, ihh] <;> split <;> simp [visitO]
  | .commandsubstitution _ c | .processsubstitution _ c => by
    interp; rw [visitD_eq_visit prune c]; split <;> simp
theorem visitDL_eq_visitL (prune : Node → Bool) :
    ∀ l, visitDL (genVisitor Gen.visitDispatch) prune l = (visitL prune l).map .ev
  | [] => rfl
  | n :: ns => by simp [visitDL, visitL, visitD_eq_visit prune n, visitDL_eq_visitL prune ns]
theorem visitDO_eq_visitO (prune : Node → Bool) :
    ∀ o, visitDO (genVisitor Gen.visitDispatch) prune o = (visitO prune o).map .ev
  | none => rfl
  | some n => by simp [visitDO, visitO, visitD_eq_visit prune n]
end

/-- **the visitor generated from `ast.py` is the hand-written model**, for all trees and all prune
    predicates (the events of `visit`, each wrapped in `EvT.ev`: in particular no error event) -/
theorem visitT_eq_visit (prune : Node → Bool) (n : Node) :
    visitT Gen.visitDispatch prune n = (visit prune n).map .ev :=
  visitD_eq_visit prune n

theorem evs_map_ev : ∀ l : List Ev, EvT.evs (l.map .ev) = l
  | [] => rfl
  | e :: l => by simp [EvT.evs, evs_map_ev l]

/-- the callback events of the generated visitor are those of `visit` -/
theorem visitT_evs (prune : Node → Bool) (n : Node) :
    EvT.evs (visitT Gen.visitDispatch prune n) = visit prune n := by
  rw [visitT_eq_visit, evs_map_ev]

/-- **the generated visitor never fails**: no unknown kind, no unknown attribute, no ill-typed
    traversal step, on any tree -/
theorem visitT_no_error (prune : Node → Bool) (n : Node) :
    ∀ e ∈ visitT Gen.visitDispatch prune n, e.isError = false := by
  rw [visitT_eq_visit]
  intro e he
  obtain ⟨e', _, rfl⟩ := List.mem_map.1 he
  rfl

/-- **C15 for the generated visitor** -/
theorem C15_gen (prune : Node → Bool) (n : Node) :
    enters (EvT.evs (visitT Gen.visitDispatch prune n)) = reached prune n ∧
    enters (EvT.evs (visitT Gen.visitDispatch (fun _ => false) n)) = n.preorder ∧
    (∀ d, depthAfter (EvT.evs (visitT Gen.visitDispatch prune n)) d = some d) ∧
    (∀ e ∈ visitT Gen.visitDispatch prune n, e.isError = false) := by
  rw [visitT_evs, visitT_evs]
  exact ⟨(C15 prune n).1, (C15 prune n).2.1, (C15 prune n).2.2, visitT_no_error prune n⟩

/-! ### the interpreter is sensitive to the table (kernel-checked on one tree)

  Each edit of the generated table below is an edit of `ast.py` the generator would translate (or the
  table a wrong generator could have produced); the interpreter shows it as a different trace or as
  an error event.  After an error event the interpreter goes on (Python would unwind): an error
  anywhere in the trace means "this run fails". -/

/-- `{ a; } >f <<E`-like: a compound with a list and a redirect holding a word and a body -/
def exTree : Node :=
  .compound (0, 9) [.reservedword (0, 1) ['{'], .command (2, 3) [.word (2, 3) ['a'] []]]
    [.redirect (5, 9) .none ['>'] (some (.word (6, 7) ['f'] [.parameter (6, 7) ['x']])) .none
      (some (.heredoc (8, 9) ['h'])) none]

/-- a trace, abstracted to strings the kernel compares -/
def sketch (l : List EvT) : List String :=
  l.map fun
    | .ev (.enter n) => "E" ++ n.kind
    | .ev (.call n fs) => "C" ++ n.kind ++ toString fs.length
    | .ev (.leave n) => "L" ++ n.kind
    | .error w => "!" ++ w

/-- edit the arm(s) that handle `kind` -/
def editArm (kind : String) (f : Arm → Arm) (t : List Arm) : List Arm :=
  t.map fun arm => if arm.1.contains kind then f arm else arm

example : sketch (visitT Gen.visitDispatch (fun _ => false) exTree) =
    ["Ecompound", "Ccompound2", "Ereservedword", "Creservedword1", "Lreservedword", "Ecommand",
     "Ccommand1", "Eword", "Cword1", "Lword", "Lcommand", "Eredirect", "Credirect4", "Eword", "Cword1",
     "Eparameter", "Cparameter1", "Lparameter", "Lword", "Eheredoc", "Cheredoc1", "Lheredoc",
     "Lredirect", "Lcompound"] := by decide

/-- pruning at the redirect skips exactly its subtree -/
example : sketch (visitT Gen.visitDispatch (fun n => n.kind == "redirect") exTree) =
    ["Ecompound", "Ccompound2", "Ereservedword", "Creservedword1", "Lreservedword", "Ecommand",
     "Ccommand1", "Eword", "Cword1", "Lword", "Lcommand", "Eredirect", "Credirect4", "Lredirect",
     "Lcompound"] := by decide

/-- the two loops of the `compound` arm swapped: redirects before the list -/
example : sketch (visitT (editArm "compound" (fun a => (a.1, a.2.1, a.2.2.1, a.2.2.2.reverse))
      Gen.visitDispatch) (fun _ => false) exTree) =
    ["Ecompound", "Ccompound2", "Eredirect", "Credirect4", "Eword", "Cword1", "Eparameter",
     "Cparameter1", "Lparameter", "Lword", "Eheredoc", "Cheredoc1", "Lheredoc", "Lredirect",
     "Ereservedword", "Creservedword1", "Lreservedword", "Ecommand", "Ccommand1", "Eword", "Cword1",
     "Lword", "Lcommand", "Lcompound"] := by decide

/-- the `redirect` arm removed: unknown kind -/
example : sketch (visitT (Gen.visitDispatch.filter (fun a => !a.1.contains "redirect")) (fun _ => false)
      exTree) =
    ["Ecompound", "Ccompound2", "Ereservedword", "Creservedword1", "Lreservedword", "Ecommand",
     "Ccommand1", "Eword", "Cword1", "Lword", "Lcommand", "!unknown node kind redirect",
     "Lcompound"] := by decide

/-- a callback argument that is not an attribute of the kind -/
example : (sketch (visitT (editArm "reservedword" (fun a => (a.1, ["value"], a.2.2.1, a.2.2.2))
      Gen.visitDispatch) (fun _ => false) exTree)).contains
    "!unknown attribute among the callback arguments of reservedword" = true := by decide

/-- `self.visit(n.parts)` instead of the loop -/
example : (sketch (visitT (editArm "command" (fun a => (a.1, a.2.1, a.2.2.1, [("one", "parts")]))
      Gen.visitDispatch) (fun _ => false) exTree)).contains "!visit of a non-node parts" = true := by
  decide

/-- `if n.type: self.visit(n.type)` -/
example : (sketch (visitT (editArm "redirect" (fun a => (a.1, a.2.1, a.2.2.1, [("iftrue", "type")]))
      Gen.visitDispatch) (fun _ => false) exTree)).contains "!visit of a non-node type" = true := by
  decide

/-- the guard of the `compound` arm removed: a pruned compound is traversed all the same -/
example : (sketch (visitT Gen.visitDispatch (fun n => n.kind == "compound") exTree)).length = 3 ∧
    (sketch (visitT (editArm "compound" (fun a => (a.1, a.2.1, false, a.2.2.2)) Gen.visitDispatch)
      (fun n => n.kind == "compound") exTree)).length = 24 := by decide

end Bashlex.Props
