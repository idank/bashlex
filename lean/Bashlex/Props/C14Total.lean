/-
  C14Total — the per-input hypotheses `hpos`, `hstop` of `Props/C14More.lean` discharged; `hrest`
  kept (it is NOT a C03 / C05 fact: it is false for some inputs, witness below).

  `hpos` (the first part of `B` does not end at index 0) and `hstop` (`parseStop B o ≤ |B|`) are
  consequences of C03's span theorem for ONE run (`C03.runParser_spans`, with `C03.tokSpans` and
  `C03.rootEnds`): the root of a run has a non-empty span inside the input and every
  here-document body ends inside the input — for an UNTAINTED root.  C03 says nothing about a
  tree that holds a D19 node anywhere (`tainted`, also below words), so what is needed in
  addition is

      `NoD19`:  with `proceedonerror` off, the tree a parser run returns holds no D19 node
                (`p_timespec` raises `NotImplementedError`, so the `time` pipelines at (0,0) are
                never built; nested parsers run with `proceedonerror` off).

  `NoD19` is a UNIVERSAL statement (not a per-input condition); it is proved inside C14's
  relational engine (`C14/Engine.lean`: `Extra`, "no entry stands for `timespec`") but not
  exported as a unary fact, and no other development supplies it (cross-check by evaluation:
  `Props/C14TotalValidate.lean`, 0 failures on 8640 inputs with all suffixes, strict and
  non-strict; it fails with `proceedonerror` on, as it must): it is the single hypothesis of
  the theorems below, besides the exclusions of `C14More.lean` (`proceed = false`, `Joinable`,
  `parseLocal`, model fuel).  What a proof needs: the state invariant "`_proceedonerror` is off"
  through `token()` and the actions (the environment half is `C14.run_proceed_frame`; the local
  half is a frame on `Local.opts`), then "no stack entry stands for `timespec`"
  (`C14.sim_timespec` is the relational form).  The spine half follows from `C04.LeafOK` (a
  reserved-word node of the spine is built from a token or sits at `(0,0)`) and
  `runParser_layout_all` with the prefix `"⏎"` (a shifted tree has no node at `(0,0)`); the half
  below words does not (a nested frame moves with the tree).

  `hrest` (`Layout (B.drop (parseStop B o))`) is kept as a hypothesis: it is FALSE when `B` ends in
  a comment without a newline (`#eval` in `Props/C14TotalValidate.lean`: `B = "a⏎#c"`,
  `parseStop B = 1`, the rest `⏎#c` is not in the language `Layout`, whose comments end in a
  newline; `Joinable B "⏎"` and `parseLocal B` hold and the conclusion of `parse_layout_suffix`
  holds too — the theorem just does not cover this `B`; a `decide +kernel` proof of the witness
  exhausts memory, hence `#eval`).
  For `B` whose rest is empty (`parseStop B o = |B|`) it is trivial (`parse_layout_suffix_end`).
  The general form needs the converse of `runParser_layout_only` on the tokenizer's LINE
  (`C05.CharsNone` gives `Spec.isLayout` of the line only when the cursor stopped AT its end).
-/
import Bashlex.Props.C14More
import Bashlex.Props.C03.RootEndsProof
import Bashlex.Props.C03Total

namespace Bashlex.C14
open Bashlex Bashlex.C13

/-- **no D19 node without `proceedonerror`** (see the header) -/
def NoD19 : Prop :=
  ∀ (s : Str) (o : Opts) (t : List Char) (n : Node), o.proceed = false →
    (runParser s o t).1 = .ok (some n) → C03.tainted n = false

-- see `C14/MParse.lean`
attribute [local irreducible] M.run runParser parse parsesingle

/-! ## one run: the root is non-empty and inside the input -/

theorem tainted_heredoc (p : Span) (v : Str) : C03.tainted (.heredoc p v) = false := by
  cases h : C03.tainted (.heredoc p v) with
  | false => rfl
  | true =>
    rcases (C03.tainted_iff _).mp h with h1 | ⟨c, hc, _⟩
    · cases h1
    · cases hc

theorem foldl_max_le {len : Nat} : ∀ (es : List Nat) (e : Nat), e ≤ len → (∀ x ∈ es, x ≤ len) →
    es.foldl max e ≤ len
  | [], e, he, _ => he
  | x :: xs, e, he, h => by
    rw [List.foldl_cons]
    refine foldl_max_le xs (max e x) ?_ (fun y hy => h y (List.mem_cons_of_mem _ hy))
    have := h x List.mem_cons_self
    omega

theorem lastHeredocEnd_le {n : Node} {len : Nat} (h : C03.Strict len n) :
    ∀ e, n.lastHeredocEnd = some e → e ≤ len := by
  intro e he
  rw [Node.lastHeredocEnd_eq] at he
  have hall : ∀ x ∈ n.preorder.filterMap Node.heredocEnd?, x ≤ len := by
    intro x hx
    obtain ⟨m, hm, hme⟩ := List.mem_filterMap.mp hx
    cases m with
    | heredoc p v =>
      simp only [Node.heredocEnd?, Option.some.injEq] at hme
      subst hme
      exact (h _ hm).rng (tainted_heredoc p v)
    | _ => simp [Node.heredocEnd?] at hme
  cases hl : n.preorder.filterMap Node.heredocEnd? with
  | nil => rw [hl] at he; cases he
  | cons a as =>
    rw [hl] at he hall
    simp only [Option.some.injEq] at he
    subst he
    exact foldl_max_le as a (hall a List.mem_cons_self)
      (fun x hx => hall x (List.mem_cons_of_mem _ hx))

/-- **the root of a parser run** (C03, for an untainted tree): non-empty, and the run's next index
    lies inside the input -/
theorem run_root (hD : NoD19) {s : Str} {o : Opts} {t : List Char} {n : Node}
    (hp : o.proceed = false) (h : (runParser s o t).1 = .ok (some n)) :
    n.pos.1 < n.pos.2 ∧ nextIndex n ≤ s.length := by
  have top := C03.runParser_spans C03.tokSpans C03.rootEnds h
  have ht := hD s o t n hp h
  have hne : n.pos.1 < n.pos.2 := by
    rcases top.root with h1 | h1
    · rw [ht] at h1; cases h1
    · exact h1
  have hrng : n.pos.2 ≤ s.length := (top.strict n (Node.self_mem_preorder n)).rng ht
  refine ⟨hne, ?_⟩
  unfold nextIndex
  cases hl : n.lastHeredocEnd with
  | none => exact hrng
  | some e =>
    have := lastHeredocEnd_le top.strict e hl
    simp only []
    omega

/-- `hpos` -/
theorem run_pos (hD : NoD19) {B : Str} {o : Opts} (hp : o.proceed = false) :
    ∀ part, (runParser B o []).1 = .ok (some part) → 0 < nextIndex part := by
  intro part h
  have h1 := (run_root hD hp h).1
  unfold nextIndex
  cases part.lastHeredocEnd with
  | none => simp only []; omega
  | some e => simp only []; omega

/-! ## the loop of `parse` stops inside the input -/

/-- `hstop` -/
theorem parseStop_le (hD : NoD19) (B : Str) (o : Opts) (hp : o.proceed = false) :
    parseStop B o ≤ B.length := by
  unfold parseStop
  cases hw : walk B o (B.length + 2) 0 [] with
  | none => exact Nat.zero_le _
  | some w =>
    exact (walk_seg B o _ _ _ _ hw).stop_le (Nat.zero_le _) fun _ _ _ h => (run_root hD hp h).2

/-! ## the theorems of `C14More.lean` without `hpos`, `hstop` -/

/-- **C14 at `parse` level, layout prefix** (`parse_layout_prefix` without `hpos`) -/
theorem parse_layout_prefix_total (hD : NoD19) (pre B : Str) (o : Opts) (hpre : Layout pre)
    (hproc : o.proceed = false)
    (hfuel : ∀ site, (runParser (pre ++ B) o []).1 ≠ .error (.outOfFuel site)) :
    ParseRel pre (parse B o).1 (parse (pre ++ B) o).1 :=
  parse_layout_prefix pre B o hpre hproc hfuel (.inr (run_pos hD hproc))

theorem parse_layout_prefix_parts_total (hD : NoD19) (pre B : Str) (o : Opts) (ps : List Node)
    (hpre : Layout pre) (hproc : o.proceed = false)
    (hfuel : ∀ site, (runParser (pre ++ B) o []).1 ≠ .error (.outOfFuel site))
    (hB : (parse B o).1 = .parts ps) :
    (parse (pre ++ B) o).1 = .parts (ps.map (Node.shift pre.length)) :=
  parse_layout_prefix_parts pre B o ps hpre hproc hfuel (.inr (run_pos hD hproc)) hB

theorem parse_layout_prefix_exn_total (hD : NoD19) (pre B : Str) (o : Opts) (x : Exn)
    (hpre : Layout pre) (hproc : o.proceed = false)
    (hfuel : ∀ site, (runParser (pre ++ B) o []).1 ≠ .error (.outOfFuel site))
    (hB : (parse B o).1 = .exn x) :
    ∃ y, (parse (pre ++ B) o).1 = .exn y ∧ ExnRel pre x y :=
  parse_layout_prefix_exn pre B o x hpre hproc hfuel (.inr (run_pos hD hproc)) hB

/-- **C14 at `parse` level, trailing layout** (`parse_layout_suffix` without `hstop`; `hrest`
    stays: see the header) -/
theorem parse_layout_suffix_total (hD : NoD19) (B post : Str) (o : Opts) (ps : List Node)
    (hj : Joinable B post) (hproc : o.proceed = false)
    (hB : (parse B o).1 = .parts ps) (hloc : parseLocal B o = true)
    (hrest : Layout (B.drop (parseStop B o))) (hpost : Layout post)
    (hfuel : ∀ site, (runParser (B.drop (parseStop B o) ++ post) o []).1 ≠
      .error (.outOfFuel site)) :
    (parse (B ++ post) o).1 = .parts ps :=
  parse_layout_suffix B post o ps hj hB hloc (parseStop_le hD B o hproc) hrest hpost hfuel

/-- … when the loop of `parse B` ran to the end of `B` (no rest): no hypothesis on the rest -/
theorem parse_layout_suffix_end (hD : NoD19) (B post : Str) (o : Opts) (ps : List Node)
    (hj : Joinable B post) (hproc : o.proceed = false)
    (hB : (parse B o).1 = .parts ps) (hloc : parseLocal B o = true)
    (hend : B.length ≤ parseStop B o) (hpost : Layout post)
    (hfuel : ∀ site, (runParser post o []).1 ≠ .error (.outOfFuel site)) :
    (parse (B ++ post) o).1 = .parts ps := by
  have hd : B.drop (parseStop B o) = [] := List.drop_eq_nil_of_le hend
  refine parse_layout_suffix_total hD B post o ps hj hproc hB hloc (by rw [hd]; exact .nil) hpost ?_
  rw [hd, List.nil_append]; exact hfuel

/-- **C13 with a layout separator** (`C13_partial_layout` without `hstop`, `hpos`) -/
theorem C13_partial_layout_total (hD : NoD19) (A sep B : Str) (o : Opts) (psA psB : List Node)
    (hj : Joinable A (sep ++ B))
    (hA : (parse A o).1 = .parts psA) (hB : (parse B o).1 = .parts psB)
    (hloc : parseLocal A o = true)
    (hsep : Layout ((A ++ sep).drop (parseStop A o))) (hproc : o.proceed = false)
    (hfuel : ∀ site, (runParser ((A ++ sep).drop (parseStop A o) ++ B) o []).1 ≠
      .error (.outOfFuel site)) :
    (parse (A ++ sep ++ B) o).1 =
      .parts (psA ++ psB.map (Node.shift (A.length + sep.length))) := by
  have hstop : parseStop A o ≤ (A ++ sep).length := by
    have := parseStop_le hD A o hproc
    rw [List.length_append]; omega
  exact C13_partial_layout A sep B o psA psB hj hA hB hloc hstop hsep hproc hfuel
    (run_pos hD hproc)

/-- **inserting layout at a top-level command boundary** (`C14_insert_between` without `hstop`,
    `hpos`) -/
theorem C14_insert_between_total (hD : NoD19) (A sep ins B : Str) (o : Opts) (psA psB : List Node)
    (hj : Joinable A (sep ++ B)) (hj' : Joinable A ((sep ++ ins) ++ B))
    (hA : (parse A o).1 = .parts psA) (hB : (parse B o).1 = .parts psB)
    (hloc : parseLocal A o = true)
    (hsep : Layout ((A ++ sep).drop (parseStop A o)))
    (hsep' : Layout ((A ++ (sep ++ ins)).drop (parseStop A o))) (hproc : o.proceed = false)
    (hfuel : ∀ site, (runParser ((A ++ sep).drop (parseStop A o) ++ B) o []).1 ≠
      .error (.outOfFuel site))
    (hfuel' : ∀ site, (runParser ((A ++ (sep ++ ins)).drop (parseStop A o) ++ B) o []).1 ≠
      .error (.outOfFuel site)) :
    (parse (A ++ sep ++ B) o).1 =
      .parts (psA ++ psB.map (Node.shift (A.length + sep.length))) ∧
    (parse (A ++ (sep ++ ins) ++ B) o).1 =
      .parts (psA ++ (psB.map (Node.shift (A.length + sep.length))).map (Node.shift ins.length)) := by
  have hstop : parseStop A o ≤ (A ++ sep).length := by
    have := parseStop_le hD A o hproc
    rw [List.length_append]; omega
  exact C14_insert_between A sep ins B o psA psB hj hj' hA hB hloc hstop hsep hsep' hproc hfuel hfuel'
    (run_pos hD hproc)

end Bashlex.C14

#print axioms Bashlex.C14.run_root
#print axioms Bashlex.C14.parseStop_le
#print axioms Bashlex.C14.parse_layout_prefix_total
#print axioms Bashlex.C14.parse_layout_suffix_total
#print axioms Bashlex.C14.C14_insert_between_total
