/-
  Property C08 (ill-formed command lines are rejected): the theorems of `Props/C08/` gathered and
  audited.  What `parse` accepts is a tiling of the input by derivable sentences
  (`C08_accept_derivable`, `C08_rest_rejected`); unterminated quotes, a leading `)`, `|` or `;`,
  the token-level families of dangling operators and redirections without target
  (`run_rejects_leading`, `redir_pairs`, `ctrl_pairs`) and unterminated here-documents are rejected.
  Balance, adjacency and the text-level acceptance theorems are in `C08More.lean` and `C08Text.lean`.
-/
import Bashlex.Props.C08.Reject
import Bashlex.Props.C08.Instances
import Bashlex.Props.C08.Accept
import Bashlex.Props.C08.Consumed
import Bashlex.Props.C08.Unterminated
import Bashlex.Props.C08.Text
import Bashlex.Props.C08.DQuote
import Bashlex.Props.C08.RParen
import Bashlex.Props.C08.LeadOp
import Bashlex.Props.C08.LeadSemi
import Bashlex.Props.C08.Heredoc

#print axioms Bashlex.C08.C08_accept_derivable
#print axioms Bashlex.C08.C08_rest_rejected
#print axioms Bashlex.C08.engine_good
#print axioms Bashlex.C08.run_consumed
#print axioms Bashlex.C08.mpPre_eof
#print axioms Bashlex.C08.csA_eof
#print axioms Bashlex.C08.parseMatchedPair_closes
#print axioms Bashlex.C08.parseMatchedPair_sq_raises
#print axioms Bashlex.C08.C08_unterminated_squote
#print axioms Bashlex.C08.C08_unterminated_dquote
#print axioms Bashlex.C08.C08_unterminated_bquote
#print axioms Bashlex.C08.C08_leading_rparen
#print axioms Bashlex.C08.C08_leading_bar
#print axioms Bashlex.C08.C08_leading_semi
#print axioms Bashlex.C08.C08_accept_derivable_single
#print axioms Bashlex.C08.run_rejects_leading
#print axioms Bashlex.C08.loop_rejects_pair
#print axioms Bashlex.C08.run_rejects_first_pair
#print axioms Bashlex.C08.redir_pairs
#print axioms Bashlex.C08.ctrl_pairs
#print axioms Bashlex.C08.leadingRejected_names
#print axioms Bashlex.C08.listHooks_rejects_leading
#print axioms Bashlex.C08.listHooks_rejects_redir
#print axioms Bashlex.C08.C08_heredoc_unterminated
#print axioms Bashlex.C08.C08_heredoc_strict
