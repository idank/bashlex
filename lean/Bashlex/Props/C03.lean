/-
  Property C03 ("spans are well-formed") at model level, for the parser above the tokenizer:
  for every input and all options, every signature `Spec.spansWF` raises on a tree returned by
  `parse` / `parsesingle` is one of the known defects `C03_known` (one exact string and the two
  marked families `+heredoc`, `+emptydesc`; `Props/C03/Tree.lean`), *provided* the token source
  delivers ordered, disjoint, non-empty spans that start within the input (`TokSpansAll`, the
  named hypothesis: `Props/C03/Hyp.lean`; it is a statement about the tokenizer only, plus
  `RootEnds` about the last characters of what a nested parser returns).  Nothing is assumed
  about where tokens *end*: that follows from the look-ahead (`la_range`), using kernel-checked
  facts about the tables.

  Architecture (robust against renumbering of productions):
    Proofs/HoareS.lean   state-aware Hoare logic `SatS` / `Keeps` for the model monad
    LR/SoundOrd.lean     `run_sound_ord`: the LR engine maintains a *relational* invariant of the
                         stack (list of (symbol, value) pairs + look-ahead + parser state)
    C03/Tree.lean        `LocOK`, `Strict`, `strict_known` (link to `Spec.spansWF`),
                         `strict_sh` (shift), `strict_resolve` (here-document redirects)
    C03/Chain.lean       values occupying intervals: `NodeIn`, `ListIn`, `mkParent`
    C03/Hyp.lean         `TokSpans` (hypothesis), `Seg`, `Fresh` (values vs. redirect store)
    C03/Vals.lean        `SegV`, the contract of `expandword` (`WordAt`), `nodePos`, `_partsspan`
    C03/Actions.lean     one lemma per action function of parser.py
    C03/Grammar.lean     grammar / table facts decided by the kernel
    C03/Engine.lean      `SI`, `act_spans` (dispatch), `spans_hooks : HooksOrd …`
    C03/Run.lean         `parserRun_spans` (induction on the nesting depth)
    C03/Expand.lean      word expansion: `wordContract`
    C03/Witness.lean     witnesses of the known signatures
-/
import Bashlex.Props.C03.Expand
import Bashlex.Proofs.ParseG

namespace Bashlex.C03
open Bashlex Bashlex.Spec Bashlex.Node Bashlex.M Bashlex.LR
-- see `Proofs/ParserLift.lean`
attribute [local irreducible] M.run runParser parse parsesingle split

/-- **the hypothesis on the token source**, for every parser run involved (top-level runs on
    suffixes of the input and nested runs on substitution bodies): a ghost invariant `TI` of the
    tokenizer's state exists with the properties of `TokSpans`, and nested parsers return roots
    that do not end in two newlines (`RootEnds`). -/
structure TokSpansAll : Prop where
  tok : ∃ TI : Nat → Nat → Local → Env → Prop, TokSpans TI
  rootEnds : RootEnds

section
variable {TI : Nat → Nat → Local → Env → Prop}

theorem runParser_spans (hT : TokSpans TI) (hR : RootEnds) {s : Str} {o : Opts} {t : List Char}
    {n : Node} (h : (runParser s o t).1 = .ok (some n)) : TopOK s.length n :=
  runParser_sat_ok (parserRun_spans hT hR (wordContract hT) _ s)
    ⟨rfl, rfl, rfl, rfl, Or.inr ⟨rfl, rfl⟩⟩ h n rfl

/-- C03 for `parse`, in terms of `Strict`, for every token source satisfying `TokSpans`: the
    first part comes from a run over `s`, every later one from a run over `s.drop index`, moved
    by `index` (`posshifter`) -/
theorem parse_strict (hT : TokSpans TI) (hR : RootEnds) (s : Str) (o : Opts) (parts : List Node)
    (h : (parse s o).1 = .parts parts) : ∀ n, n ∈ parts → Strict s.length n :=
  parse_parts (Strict s.length) s o
    (fun index _ _ hlt hp => strict_shift_top (runParser_spans hT hR hp).strict
      (by rw [List.length_drop]; omega)) parts h

end

/-- **C03 (model level), `parse`**: under the hypothesis on the token source, for every input and
    all options, every clause of `Spec.spansWF` violated by a returned tree is a known defect:
    `empty-span:reservedword` (D19), or marked `+emptydesc` (D19), or marked `+heredoc` (D11). -/
theorem C03_partial (s : Str) (o : Opts) (parts : List Node) :
    TokSpansAll → (parse s o).1 = .parts parts →
    ∀ n ∈ parts, ∀ v ∈ Spec.spansWF s.length n, C03_known v = true := by
  rintro ⟨⟨TI, hT⟩, hR⟩ h n hn v hv
  exact strict_known (parse_strict hT hR s o parts h n hn) v hv

/-- the same theorem under the name the ground rules ask for when a hypothesis is left open -/
theorem C03_conditional (s : Str) (o : Opts) (parts : List Node) (h : TokSpansAll)
    (hp : (parse s o).1 = .parts parts) :
    ∀ n ∈ parts, ∀ v ∈ Spec.spansWF s.length n, C03_known v = true :=
  C03_partial s o parts h hp

/-- **C03 (model level), `parsesingle`** -/
theorem C03_partial_single (s : Str) (o : Opts) (n : Node) :
    TokSpansAll → (parsesingle s o).1 = .single (some n) →
    ∀ v ∈ Spec.spansWF s.length n, C03_known v = true := by
  rintro ⟨⟨TI, hT⟩, hR⟩ h v hv
  exact strict_known (runParser_spans hT hR (parsesingle_result h)).strict v hv

/-- the single-parser statement in the state-aware logic: from a fresh parser object over `s`
    (top-level or nested, at any nesting fuel), every returned tree is `Strict` -/
theorem parserRun_strict {TI : Nat → Nat → Local → Env → Prop} (hT : TokSpans TI) (hR : RootEnds)
    (d : Nat) (s : Str) :
    SatS (parserRun d) (InitState s) (fun r _ _ => ∀ n, r = some n → Strict s.length n) :=
  SatS.post (parserRun_spans hT hR (wordContract hT) d s) (fun _ _ _ h n hn => (h n hn).strict)

end Bashlex.C03

#print axioms Bashlex.LR.run_sound_ord
#print axioms Bashlex.C03.strict_known
#print axioms Bashlex.C03.strict_resolve
#print axioms Bashlex.C03.spans_hooks
#print axioms Bashlex.C03.parserRun_spans
#print axioms Bashlex.C03.wordContract
#print axioms Bashlex.C03.C03_partial
#print axioms Bashlex.C03.C03_partial_single
