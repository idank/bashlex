/-
  C08 at TEXT level, UNCONDITIONAL.  Index by file:
  * LR/SoundOrd.lean -- `HooksOrdC`, `run_sound_ordC`: `run_sound_ordB` with the relational stack
    invariant INDEXED BY THE ENGINE'S GHOST `consumed`.
  * C05/Hooks.lean   -- `SILC`, `FinLC`, `leaves_hooksT`: C05's stack invariant with the link
    `consumed = (lead ++ tss.flatten).map symOfTok` (look-ahead
    excluded): `next` same witnesses, `shift` `tss ++ [[t]]`, dropped NEWLINE `lead ++ [t]`,
    reduce `tssR ++ [tssA.flatten]`, accept `ts = lead ++ tssA.flatten`.
  * C08/RunIT.lean   -- `RunTextK`, `PartsT`, `parseK_textT` (`run_sound_ordC` and `C08.engine_good`
    conjoined ON THE SAME RUN by `SatS.and_sat`).
  * here: `C08_parts_IS` (the parts of `parse` with everything the pass of `C08/RunIT.lean`
    knows of each run; the theorems below are its projections), **`C08_accept_text`** (all
    inputs, all options; `rootEndsChecked` discharged by `Totals.rootEndsChecked_all`),
    `textData_of_chars` / **`C08_accept_text_chars`** (the log is
    anchored in the text: chain `Skip token Skip token …`, every position accounted for),
    **`C08_accept_text_final`** (with `C05.C05_final`: the run behind the last part found layout
    only -- nothing of `s` is left unparsed).
  * C08/RunIT.lean   -- `leaves_hooksIT`, `RunOKIS`, `parseK_leavesIT`: the FULL C05 pass
    (body conservation, `NoneL`) with the link; here **`C08_accept_text_full`**:
    `PartsText s 0 parts` (the conclusion of `C08_accept_text_conditional`) with NO hypothesis
    but the loop-fuel bound: ONE log per run carries C05's `CharsData` and spells a sentence.
  (`LogLink`, below, as a statement -- about C05's own existential log and the
  plain `topRun` -- is not proved; the consumed-indexed pass produces the log together with the
  link, for the checked runs `parserRunK`, which are the runs of `parse` by `C03.rootEnds` /
  `parseK_of_checked`.)
-/
import Bashlex.Props.C05Final
import Bashlex.Props.C08.Accept
import Bashlex.Props.C08.RunIT
import Bashlex.Props.Totals

/-! ## the conditional form: the definitions (`LogLink`, `RunText`, `PartsText`)

  `C05_final` (`Props/C05Final.lean`): the parts `parse` returns are the trees of successive runs;
  each run comes with a token log `ts` (+ at most one look-ahead `la`) ANCHORED IN THE TEXT
  (`CharsData`: the line up to the cursor is a chain `Skip token Skip token …`, every position is
  inside a leaf / layout / the look-ahead, the leaves are covered by `ts`), and a final run that
  returns no node found layout only (`CharsNone`: `Spec.isLayout` of the whole rest).
  `C08_accept_derivable` (`Props/C08/Accept.lean`): what each run's ENGINE consumed is NEWLINEs
  followed by a sentence of the grammar.

  MISSING LINK, made an explicit hypothesis (`LogLink`): that the token log of C05 is the token
  sequence whose terminal numbers the engine consumed.  Both are produced by the same run, but
  C05's log is a GHOST list existentially quantified inside the engine invariant `SILC`
  (`lead ++ tss.flatten ++ laToks la`, `Forall2 Acc vs tss`), and no engine theorem carries the
  ghost `consumed` / the ghost derivation trees together with `tss` (`run_sound_ordB` sees only
  `(symbol, value)` pairs of the stack).  The unconditional form `C08_accept_text_full`
  runs the hooks with an invariant indexed by `consumed` instead
  (`leaves_hooksT`).

  `C08_accept_text_conditional`: under `LogLink`, if `parse s o` returns
  parts then the whole text of `s` is layout + the tokens of successive runs, the terminal
  sequence of each run being NEWLINEs then a sentence, and nothing of `s` is left unparsed
  (`PartsText`).  It is `C08_accept_text_full`, which needs no hypothesis.
-/

namespace Bashlex.C08
open Bashlex Bashlex.M Bashlex.LR

/-- **HYPOTHESIS** (see the header): for a run over `s0` that returned the node `n`, the
    text-anchored token log of `C05` can be taken to be the tokens whose terminal numbers are what
    the run's engine consumed -/
structure LogLink : Prop where
  link : ∀ (s0 : Str) (o : Opts) (t t' : List Char) (n : Node),
    RunSentence s0 o t n t' → C05.CharsTotal s0 n →
    ∃ (ts la : List Token) (B : Nat) (st : List RedirCell) (m : Node) (tr : Tree) (c : List Nat)
      (b : Bool) (l' : Local) (e' : Env),
      C05.CharsData s0 n ts la B st ∧
      topRun s0 o t = (.ok (.accepted (.node m) tr c b, l'), e') ∧ c = ts.map symOfTok

/-- one run, text and grammar together: the tokens `ts` are anchored in the text of `s0`
    (`CharsData`) and spell, as terminals, NEWLINEs then a sentence -/
def RunText (s0 : Str) (n : Node) : Prop :=
  ∃ (ts la : List Token) (B : Nat) (st : List RedirCell),
    C05.CharsData s0 n ts la B st ∧ Sentence (ts.map symOfTok)

/-- the parts of `parse` from index `i` on: runs tile the text, every run is `RunText`, the rest
    behind the last part is layout -/
inductive PartsText (s : Str) : Nat → List Node → Prop
  | done (i : Nat) : s.length ≤ i → PartsText s i []
  | stop (i : Nat) : C05.CharsNone (s.drop i) → PartsText s i []
  | cons {i : Nat} {n : Node} {rest : List Node} : i ≤ s.length → RunText (s.drop i) n →
      PartsText s (max (nextIndex (n.shift i)) (i + 1)) rest →
      PartsText s i (n.shift i :: rest)

end Bashlex.C08

namespace Bashlex.C08
open Bashlex Bashlex.Spec Bashlex.Node Bashlex.M Bashlex.LR Bashlex.C12 Bashlex.C03
  Bashlex.C03.Tok Bashlex.C10 Bashlex.C11 Bashlex.C05 Bashlex.C05.TG
set_option linter.unusedVariables false

/-- the parts of `parse`, each run with conservation of the here-document bodies and its
    sentence, for the real tokenizer: what the theorems of this file are projections of -/
theorem C08_parts_IS (s : Str) (o : Opts) (parts : List Node)
    (h : (parse s o).1 = .parts parts) : PartsIS TLfin s 0 parts :=
  parseK_leavesIT tokLogC_fin (fun s0 tr d => npSpans_X (covOK_both _) tr d) tlfin_init s o parts
    (C03.parseK_of_checked (Totals.rootEndsChecked_all s o parts h) h)

/-- **C08_accept_text** (all inputs, all options): the parts `parse` returns are the trees of
    successive runs over suffixes of `s` (run `i+1` starts at `max (nextIndex partᵢ) (kᵢ+1)`);
    each run has a token log `ts` (+ at most one look-ahead) that satisfies the text-anchored
    tokenizer invariant `TLfin` of `C05Final` over the run's line, covers the leaves of the
    returned tree group by group (`FCovers`), and whose terminal sequence `ts.map symOfTok` is
    NEWLINEs followed by a SENTENCE of the grammar (`RunTextK`) -/
theorem C08_accept_text (s : Str) (o : Opts) (parts : List Node)
    (h : (parse s o).1 = .parts parts) : PartsT TLfin s 0 parts :=
  (C08_parts_IS s o parts h).toT

/-- what `TLfin` says of the log of a run, spelled out on the text (as `C05.CharsData`, without
    the conservation of here-document bodies): the tokens are sorted, each lies in a leaf (or is
    a dropped NEWLINE / a `time` token), the line up to the cursor is the chain
    `Skip token Skip token …` of `ts` (with or without the look-ahead), every position below `B` is inside a leaf, layout,
    a `time` token, the look-ahead or a gathered here-document body -/
def TextData (s0 : Str) (n : Node) (ts la : List Token) (B : Nat) (st : List RedirCell) : Prop :=
  la.length ≤ 1 ∧ NoEOF ts ∧ TokSorted ts ∧ FCovers s0.length ts (Spec.leaves n) ∧
  (∀ t ∈ ts, Droppable t ∨ IsTimeTok t ∨ InLeaf t (Spec.leaves n)) ∧
  (∃ la' c, (la' = la ∨ la' = []) ∧ TGT.ChainL (Tape.ofInput s0).line st 0 (ts ++ la') c ∧
    (c = B ∨ ((Tape.ofInput s0).line.length < c ∧ (Tape.ofInput s0).line.length < B))) ∧
  (∀ p, p < B → p < (Tape.ofInput s0).line.length →
    InLeafPos (Spec.leaves n) p ∨ PosLay (Tape.ofInput s0).line p ∨
    (∃ t ∈ ts, IsTimeTok t ∧ t.lexpos ≤ p ∧ p < t.endlexpos) ∨ InToks la p ∨ InBody st p) ∧
  Sentence (ts.map symOfTok)

theorem textData_of_chars {s0 : Str} {n : Node} {ts la : List Token} {B : Nat}
    {st : List RedirCell} (h : CharsData s0 n ts la B st) (hs : Sentence (ts.map symOfTok)) :
    TextData s0 n ts la B st := by
  obtain ⟨h1, h2, h3, h4, h5, _, _, h8, h9, _, _⟩ := h
  refine ⟨h1, h2, h3, h4, h5, h9, fun p hp1 hp2 => ?_, hs⟩
  rcases h8 p hp1 hp2 with h | h | h | h
  · exact Or.inl h
  · exact Or.inr (Or.inl h)
  · exact Or.inr (Or.inr (Or.inl h))
  · exact Or.inr (Or.inr (Or.inr (Or.inl h)))

/-- **C08_accept_text_final**: both at once -- the runs with their sentences (`PartsT`), and
    `C05_final` (`PartsFinal`: same runs, same restart indices; its `stop` case says that the run
    behind the last part was delivered NEWLINEs and the end of input only and that the rest of
    the text is layout, `Spec.isLayout`): nothing of `s` is left unparsed -/
theorem C08_accept_text_final (s : Str) (o : Opts) (parts : List Node)
    (hlen : s.length + 1 < 1073741824) (h : (parse s o).1 = .parts parts) :
    PartsT TLfin s 0 parts ∧ PartsFinal s 0 parts :=
  ⟨(C08_parts_IS s o parts h).toT, partsFinal_of hlen (C08_parts_IS s o parts h).toI⟩

/-! ### the full form: C05's `CharsData` (bodies conserved) and the sentence, SAME log -/

theorem runOKIS_text {s0 : Str} {n : Node} (hlen : s0.length + 1 < 1073741824)
    (h : RunOKIS (TLfin s0) s0 n) : RunText s0 n := by
  obtain ⟨_, ts, la, F, l, e, htl, hla, hno, hcv, hbody, hsent⟩ := h
  exact ⟨ts, la, _, _, charsData_of_log hlen htl hla hno hcv hbody, hsent⟩

/-- **C08_accept_text_chars**: every part of `parse` is the tree of a run over a suffix of `s`
    whose tokens are anchored in the text (`TextData`) and spell a sentence -/
theorem C08_accept_text_chars (s : Str) (o : Opts) (parts : List Node)
    (hlen : s.length + 1 < 1073741824) (h : (parse s o).1 = .parts parts) :
    ∀ part ∈ parts, ∃ k n, k ≤ s.length ∧ part = n.shift k ∧
      ∃ ts la B st, TextData (s.drop k) n ts la B st := by
  intro part hp
  obtain ⟨k, n, _, hk, rfl, hrun⟩ := (C08_parts_IS s o parts h).mem part hp
  obtain ⟨ts, la, B, st, hcd, hsent⟩ :=
    runOKIS_text (s0 := s.drop k) (by rw [List.length_drop]; omega) hrun
  exact ⟨k, n, hk, rfl, ts, la, B, st, textData_of_chars hcd hsent⟩

theorem partsText_ofIS {s : Str} (hlen : s.length + 1 < 1073741824) :
    ∀ {i : Nat} {ps : List Node}, PartsIS TLfin s i ps → PartsText s i ps := by
  intro i ps h
  induction h with
  | done i hi => exact .done i hi
  | stop i hrun => exact .stop i (runNone_chars (by rw [List.length_drop]; omega) hrun)
  | @cons i n rest hi hrun _ ih =>
    exact .cons hi (runOKIS_text (by rw [List.length_drop]; omega) hrun) ih

/-- **C08_accept_text_full** (all inputs below the loop-fuel bound, all options) -- the
    statement of `C08_accept_text_conditional` WITHOUT the hypothesis `LogLink` and without
    `rootEndsChecked`: if `parse s o` returns parts, then (`PartsText`) the parts are the trees of
    successive runs tiling `s`; each run comes with ONE token log `ts` that satisfies all of
    C05's `CharsData` (anchored chain `Skip token Skip token …`, every position a leaf / layout /
    look-ahead, leaves covered, here-document bodies conserved) AND whose terminal sequence is
    NEWLINEs followed by a sentence of the grammar; behind the last part the rest of the text is
    layout (`CharsNone`) or the index is at the end: nothing of `s` is left unparsed -/
theorem C08_accept_text_full (s : Str) (o : Opts) (parts : List Node)
    (hlen : s.length + 1 < 1073741824) (h : (parse s o).1 = .parts parts) :
    PartsText s 0 parts :=
  partsText_ofIS hlen (C08_parts_IS s o parts h)

/-- **C08_accept_text_conditional**: the statement under the hypothesis `LogLink` (and
    `rootEndsChecked`) stated at the head of this file; neither is used -/
theorem C08_accept_text_conditional (hL : LogLink) (s : Str) (o : Opts) (parts : List Node)
    (hlen : s.length + 1 < 1073741824) (hc : C03.rootEndsChecked s o = true)
    (h : (parse s o).1 = .parts parts) : PartsText s 0 parts :=
  C08_accept_text_full s o parts hlen h

end Bashlex.C08

#print axioms Bashlex.C05.leaves_hooksIT
#print axioms Bashlex.C08.C08_accept_text_full
#print axioms Bashlex.LR.run_sound_ordC
#print axioms Bashlex.C05.leaves_hooksT
#print axioms Bashlex.C08.C08_accept_text
#print axioms Bashlex.C08.C08_accept_text_chars
#print axioms Bashlex.C08.C08_accept_text_final
#print axioms Bashlex.C08.C08_accept_text_conditional
