/-
  Property C05, token level, for `parse` / `parsesingle` over any token source with `TokLog` (and
  `RootEnds`); the statements are explained in `Props/C05.lean`.  They are the run theorem of
  `Props/C08/RunIT.lean` at the plain nested parser (`parserRun_leaves`, `Props/C05/FRun.lean`)
  along the chain of runs `parse` makes (`parseG_chain`, `Proofs/ParseG.lean`); then the same for
  the real tokenizer (`TLog`, `Props/C05Total.lean`), where `RootEnds` alone remains a hypothesis.
-/
import Bashlex.Props.C05.FRun

namespace Bashlex.C05
open Bashlex Bashlex.Spec Bashlex.Node Bashlex.M Bashlex.LR Bashlex.C03

theorem PartsFrom.ofPartsOf {TL : List Token → Nat → Nat → Local → Env → Prop} {s : Str}
    {N : Nat → Prop} : ∀ {i ps},
    PartsOf (fun i n => RunOK TL (s.drop i) n) N s.length i ps → PartsFrom TL s i ps := by
  intro i ps h
  induction h with
  | done i _ => exact .nil i
  | stop i _ => exact .nil i
  | cons hi hr _ ih => exact .cons hi hr ih

/-- C05 (token level) for `parse`, for every token source satisfying `TokLog` -/
theorem parse_leaves {TL : List Token → Nat → Nat → Local → Env → Prop} (hL : TokLog TL)
    (hR : RootEnds) (s : Str) (o : Opts) (parts : List Node)
    (h : (parse s o).1 = .parts parts) : PartsFrom TL s 0 parts :=
  .ofPartsOf (parse_chain (R := fun i n => RunOK TL (s.drop i) n) (N := fun _ => True) s o
    (fun _ _ _ _ hr => runParser_leaves hL hR hr) (fun _ _ _ => trivial) h)

/-- **C05 (model level, token-level half), `parse`**: under the hypothesis on the token source,
    for every input and all options, the parts returned are the successive parser runs'
    results, and the leaves of each are covered -- no token dropped (other than NEWLINEs) or
    duplicated, no leaf invented (other than D19's) -- by the tokens delivered to its run. -/
theorem C05_partial (s : Str) (o : Opts) (parts : List Node)
    {TL : List Token → Nat → Nat → Local → Env → Prop} :
    TokLogAll TL → (parse s o).1 = .parts parts → PartsFrom TL s 0 parts := by
  rintro ⟨hL, hR⟩ h
  exact parse_leaves hL hR s o parts h

/-- the same, part by part: every returned part is a tree `n` a parser run over `s[k:]`
    returned, moved by `k`; its leaves are `Spec.leaves n` moved by `k` (`leaves_shift`), and
    `FCovers` relates them to the tokens of that run -/
theorem C05_partial_parts (s : Str) (o : Opts) (parts : List Node)
    {TL : List Token → Nat → Nat → Local → Env → Prop} :
    TokLogAll TL → (parse s o).1 = .parts parts → ∀ part ∈ parts,
      ∃ k n, k ≤ s.length ∧ part = n.shift k ∧ Spec.leaves part = (Spec.leaves n).map (shL k) ∧
        ∃ ts la F l e, TL (ts ++ la) (s.drop k).length F l e ∧ la.length ≤ 1 ∧ NoEOF ts ∧
          FCovers (s.drop k).length ts (Spec.leaves n) := by
  intro hA h part hp
  obtain ⟨k, n, _, hk, rfl, _, hcov⟩ := (C05_partial s o parts hA h).mem part hp
  exact ⟨k, n, hk, rfl, leaves_shift k n, hcov⟩

/-- the same theorem under the name the ground rules ask for when a hypothesis is left open -/
theorem C05_partial_conditional (s : Str) (o : Opts) (parts : List Node)
    {TL : List Token → Nat → Nat → Local → Env → Prop} (h : TokLogAll TL)
    (hp : (parse s o).1 = .parts parts) : PartsFrom TL s 0 parts :=
  C05_partial s o parts h hp

/-- **C05 (model level, token-level half), `parsesingle`** -/
theorem C05_partial_single (s : Str) (o : Opts) (n : Node)
    {TL : List Token → Nat → Nat → Local → Env → Prop} :
    TokLogAll TL → (parsesingle s o).1 = .single (some n) → RunOK TL s n :=
  fun ⟨hL, hR⟩ h => runParser_leaves hL hR (parsesingle_result h)

/-- **C05, token level, spatially** (`parse`): under the hypothesis on the token source, every
    returned part is a parser run's tree `n` moved by `k`, and every token that run consumed --
    the tokens delivered to it but at most one look-ahead token -- is a dropped NEWLINE, a
    `time` token (D19), or lies inside a leaf of `n`; every leaf of `n` other than a
    here-document body and D19's leaf at (0, 0) starts where a consumed token starts -/
theorem C05_tokens_in_leaves (s : Str) (o : Opts) (parts : List Node)
    {TL : List Token → Nat → Nat → Local → Env → Prop} :
    TokLogAll TL → (parse s o).1 = .parts parts → ∀ part ∈ parts,
      ∃ k n, k ≤ s.length ∧ part = n.shift k ∧
        ∃ ts la F l e, TL (ts ++ la) (s.drop k).length F l e ∧ la.length ≤ 1 ∧ TokSorted ts ∧
          (∀ t ∈ ts, Droppable t ∨ IsTimeTok t ∨ InLeaf t (Spec.leaves n)) ∧
          (∀ x ∈ Spec.leaves n, (∃ t ∈ ts, x.1.1 = t.lexpos) ∨ x.2 = true ∨ x.1 = (0, 0)) := by
  rintro ⟨hL, hR⟩ h part hp
  obtain ⟨k, n, _, hk, rfl, hrun⟩ := (C05_partial s o parts ⟨hL.sorted, hR⟩ h).mem part hp
  obtain ⟨ts, la, F, l, e, htl, hla, _, hs, hc, hin⟩ := runOK_sorted hrun
  exact ⟨k, n, hk, rfl, ts, la, F, l, e, htl, hla, hs, hin, leaf_starts_at_token hc⟩

theorem tokLogAll_of_rootEnds (hR : RootEnds) : TokLogAll TLog := ⟨tokLog, hR⟩

/-- **C05 (model level, token-level half), `parse`**, for the real tokenizer; the only hypothesis
    left is `RootEnds` -/
theorem C05_total_conditional (hR : RootEnds) (s : Str) (o : Opts) (parts : List Node)
    (h : (parse s o).1 = .parts parts) : PartsFrom TLog s 0 parts :=
  C05_partial s o parts (tokLogAll_of_rootEnds hR) h

/-- **C05 (model level, token-level half), `parsesingle`**, for the real tokenizer -/
theorem C05_total_single_conditional (hR : RootEnds) (s : Str) (o : Opts) (n : Node)
    (h : (parsesingle s o).1 = .single (some n)) : RunOK TLog s n :=
  C05_partial_single s o n (tokLogAll_of_rootEnds hR) h

/-- **C05, token level, spatially**, for the real tokenizer -/
theorem C05_total_tokens_in_leaves (hR : RootEnds) (s : Str) (o : Opts) (parts : List Node)
    (h : (parse s o).1 = .parts parts) : ∀ part ∈ parts,
      ∃ k n, k ≤ s.length ∧ part = n.shift k ∧
        ∃ ts la F l e, TLog (ts ++ la) (s.drop k).length F l e ∧ la.length ≤ 1 ∧ TokSorted ts ∧
          (∀ t ∈ ts, Droppable t ∨ IsTimeTok t ∨ InLeaf t (Spec.leaves n)) ∧
          (∀ x ∈ Spec.leaves n, (∃ t ∈ ts, x.1.1 = t.lexpos) ∨ x.2 = true ∨ x.1 = (0, 0)) :=
  C05_tokens_in_leaves s o parts (tokLogAll_of_rootEnds hR) h

end Bashlex.C05

#print axioms Bashlex.C05.parserRun_leaves
#print axioms Bashlex.C05.C05_partial
#print axioms Bashlex.C05.C05_partial_parts
#print axioms Bashlex.C05.C05_partial_single
#print axioms Bashlex.C05.C05_tokens_in_leaves
#print axioms Bashlex.C05.C05_total_conditional
#print axioms Bashlex.C05.C05_total_single_conditional
#print axioms Bashlex.C05.C05_total_tokens_in_leaves
