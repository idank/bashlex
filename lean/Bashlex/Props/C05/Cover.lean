/-
  C05: leaves of a tree that may still hold pending here-document redirects (`aleaves`),
  their concretisation against the redirect store (`conc`, `leaves_resolve`: the link to
  `Spec.leaves` of the resolved tree), and the relation "this token sequence is accounted for by
  this leaf sequence" (`Covers`), built from *groups*:

    leaf    one token, one leaf at the token's span
    drop    one token (a NEWLINE), no leaf
    redir   `[fd] op target`, ONE leaf from the start of the first token to the end of the target
    here    the same for `<<` / `<<-`: a pending redirect
    d19     the tokens of a `time` specification, one leaf at (0, 0) (defect D19)

  Proofs about groups go through `Group.shape` / `FGroup.shape`, not through the seven cases.
-/
import Bashlex.Props.C03

namespace Bashlex.C05
open Bashlex Bashlex.Spec Bashlex.Node

/-! ## leaves with pending redirects -/

inductive ALeaf where
  /-- a leaf with a final span; `body`: it is (or holds) a here-document body -/
  | plain (p : Span) (body : Bool)
  /-- a here-document redirect whose final span and body live in cell `id` of the store -/
  | pend (id : Nat) (p : Span) (h : Option Span)
  deriving DecidableEq, Repr

/-- `Spec.leaves` on a redirect at `p` with a body at `h` -/
def redirLeaves (p : Span) (h : Option Span) : List (Span × Bool) :=
  match h with
  | some b => if spanIn b p then [(p, true)] else [(p, false), (b, true)]
  | none => [(p, false)]

def plainOf (x : Span × Bool) : ALeaf := .plain x.1 x.2

mutual
def aleaves : Node → List ALeaf
  | .operator p _ | .reservedword p _ | .pipe p _ => [.plain p false]
  | .word p _ _ | .assignment p _ _ => [.plain p false]
  | .parameter p _ | .tilde p _ => [.plain p false]
  | .heredoc p _ => [.plain p true]
  | .commandsubstitution p _ | .processsubstitution p _ => [.plain p false]
  | .redirect p _ _ _ _ h none => (redirLeaves p (h.map Node.pos)).map plainOf
  | .redirect p _ _ _ _ h (some id) => [.pend id p (h.map Node.pos)]
  | .list _ ps | .pipeline _ ps | .ifN _ ps | .forN _ ps | .whileN _ ps | .untilN _ ps
  | .caseN _ ps | .pattern _ ps | .command _ ps | .unimplemented _ ps | .function _ _ _ ps =>
    aleavesL ps
  | .compound _ l r => aleavesL l ++ aleavesL r
def aleavesL : List Node → List ALeaf
  | [] => []
  | n :: ns => aleaves n ++ aleavesL ns
end

theorem aleavesL_append : ∀ (a b : List Node), aleavesL (a ++ b) = aleavesL a ++ aleavesL b
  | [], b => by simp [aleavesL]
  | n :: ns, b => by simp [aleavesL, aleavesL_append ns b, List.append_assoc]

@[simp] theorem aleavesL_nil : aleavesL [] = [] := by simp [aleavesL]
@[simp] theorem aleavesL_cons (n : Node) (ns : List Node) :
    aleavesL (n :: ns) = aleaves n ++ aleavesL ns := by simp [aleavesL]
theorem aleavesL_single (n : Node) : aleavesL [n] = aleaves n := by simp

/-- the final leaves of an abstract leaf, given the store -/
def conc (st : List RedirCell) : ALeaf → List (Span × Bool)
  | .plain p b => [(p, b)]
  | .pend id p h =>
    match st[id]? with
    | some c => redirLeaves c.pos (c.heredoc.map (·.1))
    | none => redirLeaves p h

theorem leaves_redirect (p : Span) (i : RedirIn) (t : Str) (o : Option Node) (oa : RedirIn)
    (h : Option Node) (hid : Option Nat) :
    leaves (.redirect p i t o oa h hid) = redirLeaves p (h.map Node.pos) := by
  cases h <;> simp [leaves, redirLeaves]

theorem flatMap_conc_plain (st : List RedirCell) (l : List (Span × Bool)) :
    (l.map plainOf).flatMap (conc st) = l := by
  induction l with
  | nil => rfl
  | cons x xs ih =>
    simp only [List.map_cons, List.flatMap_cons, ih]
    rfl

/-! `leaves` and `aleaves` go through exactly the kinds `resolve` descends into -/

theorem leavesL_eq (l : List Node) : leavesL l = l.flatMap leaves := by
  induction l with
  | nil => rfl
  | cons a l ih => simp [leavesL, ih]

theorem aleavesL_eq (l : List Node) : aleavesL l = l.flatMap aleaves := by
  induction l with
  | nil => rfl
  | cons a l ih => simp [ih]

theorem leaves_of_descends {n : Node} (h : C03.descends n = true) :
    leaves n = n.children.flatMap leaves := by
  cases n <;> simp [C03.descends] at h <;> simp [leaves, leavesL_eq, children]

theorem aleaves_of_descends {n : Node} (h : C03.descends n = true) :
    aleaves n = n.children.flatMap aleaves := by
  cases n <;> simp [C03.descends] at h <;> simp [aleaves, aleavesL_eq, children]

/-- **`Spec.leaves` of the resolved tree** = the abstract leaves, concretised against the store -/
theorem leaves_resolve (st : List RedirCell) :
    (n : Node) → leaves (resolve st n) = (aleaves n).flatMap (conc st) := by
  refine resolve_induction (R := fun n n' => leaves n' = (aleaves n).flatMap (conc st)) ?_ ?_ ?_
  · intro n hd ih
    rw [leaves_of_descends ((descends_map1 (fun p => p) (resolve st) n).trans hd),
      Node.children_map1, List.flatMap_map, aleaves_of_descends hd, List.flatMap_assoc]
    exact Node.flatMap_congr ih
  · intro p i t o oa h hid
    cases hid with
    | none =>
      simp only [resolve, aleaves]
      rw [leaves_redirect, flatMap_conc_plain]
    | some id =>
      simp only [resolve, aleaves, List.flatMap_cons, List.flatMap_nil, List.append_nil, conc]
      cases hs : st[id]? with
      | none => simp only []; rw [leaves_redirect]
      | some c =>
        simp only []
        rw [leaves_redirect]
        congr 1
        cases c.heredoc <;> rfl
  · intro n hd hr
    cases n <;> simp [C03.descends, Node.kind] at hd hr <;> simp [leaves, aleaves, conc]

theorem leavesL_resolve (st : List RedirCell) :
    (l : List Node) → leavesL (resolveL st l) = (aleavesL l).flatMap (conc st) := by
  intro l
  rw [resolveL_eq, leavesL_eq, aleavesL_eq, List.flatMap_map, List.flatMap_assoc]
  exact Node.flatMap_congr fun n _ => leaves_resolve st n

/-! ## pending leaves come from pending redirects of the tree -/

theorem pend_mem (id : Nat) (p : Span) (h : Option Span) :
    (n : Node) → ALeaf.pend id p h ∈ aleaves n → ∃ m ∈ n.preorder, C03.pendOf m = some (id, p) := by
  intro n
  induction n using Node.children_induction with
  | hP n ih =>
    intro hm
    cases hd : C03.descends n with
    | true =>
      rw [aleaves_of_descends hd, List.mem_flatMap] at hm
      obtain ⟨c, hc, hm⟩ := hm
      obtain ⟨m, hm1, hm2⟩ := ih c hc hm
      exact ⟨m, Node.mem_preorder_child hc hm1, hm2⟩
    | false =>
      -- off these kinds only a pending redirect has a pending leaf: itself
      cases n with
      | redirect q i t o oa hd' hid =>
        cases hid with
        | none =>
          simp only [aleaves, List.mem_map] at hm
          obtain ⟨x, _, hx⟩ := hm
          cases hx
        | some id' =>
          simp only [aleaves, List.mem_singleton, ALeaf.pend.injEq] at hm
          obtain ⟨rfl, rfl, _⟩ := hm
          exact ⟨_, Node.self_mem_preorder _, rfl⟩
      | _ => simp [C03.descends] at hd <;> simp [aleaves] at hm

theorem pend_memL (id : Nat) (p : Span) (h : Option Span) :
    (l : List Node) → ALeaf.pend id p h ∈ aleavesL l →
      ∃ m ∈ preorderL l, C03.pendOf m = some (id, p) := by
  intro l hm
  rw [aleavesL_eq, List.mem_flatMap] at hm
  obtain ⟨c, hc, hm⟩ := hm
  obtain ⟨m, hm1, hm2⟩ := pend_mem id p h c hm
  exact ⟨m, Node.mem_preorderL.mpr ⟨c, hc, hm1⟩, hm2⟩

/-! ## tokens -/

def tokSpan (t : Token) : Span := (t.lexpos, t.endlexpos)

/-- the tokens that may be consumed without leaving a leaf: NEWLINE.  (A token without a type
    would be shifted as the `error` terminal and dropped by `inputunit : error NEWLINE`; the
    tokenizer delivers no such token, but that is not needed here.) -/
def Droppable (t : Token) : Prop := t.ttype = some .NEWLINE ∨ t.ttype = none

/-- no end-of-input token (they are never consumed) -/
def NoEOF (ts : List Token) : Prop := ∀ t ∈ ts, t.ttype ≠ some .EOF

def isTimeTy (ty : TokType) : Bool := ty == .TIME || ty == .TIMEOPT || ty == .TIMEIGN
def IsTimeTok (t : Token) : Prop := ∃ ty, t.ttype = some ty ∧ isTimeTy ty = true

/-- is `ty` a redirection operator other than the here-document operators -/
def RedirTok (t : Token) : Prop := ∃ ty, t.ttype = some ty ∧ C12.isRedirOp ty = true
def HereTok (t : Token) : Prop := ∃ ty, t.ttype = some ty ∧ C12.isHereOp ty = true
def FdTok (t : Token) : Prop := t.ttype = some .NUMBER ∨ t.ttype = some .REDIR_WORD

/-- one group of consecutive tokens and the leaves it accounts for -/
inductive Group : List Token → List ALeaf → Prop
  | leaf (t : Token) : Group [t] [.plain (tokSpan t) false]
  | drop (t : Token) : Droppable t → Group [t] []
  | redir2 (op tgt : Token) : RedirTok op → Group [op, tgt] [.plain (op.lexpos, tgt.endlexpos) false]
  | redir3 (fd op tgt : Token) : FdTok fd → RedirTok op →
      Group [fd, op, tgt] [.plain (fd.lexpos, tgt.endlexpos) false]
  | here2 (op tgt : Token) (id : Nat) : HereTok op →
      Group [op, tgt] [.pend id (op.lexpos, tgt.endlexpos) none]
  | here3 (fd op tgt : Token) (id : Nat) : FdTok fd → HereTok op →
      Group [fd, op, tgt] [.pend id (fd.lexpos, tgt.endlexpos) none]
  | d19 (ts : List Token) : ts ≠ [] → (∀ t ∈ ts, IsTimeTok t) → Group ts [.plain (0, 0) false]

/-- `Covers ts ls`: the token sequence `ts` splits into groups whose leaves, concatenated, are
    `ls`: no token is dropped (other than a NEWLINE) or duplicated, no leaf is invented -/
inductive Covers : List Token → List ALeaf → Prop
  | nil : Covers [] []
  | cons {ts ls ts' ls'} : Group ts ls → Covers ts' ls' → Covers (ts ++ ts') (ls ++ ls')

/-- what the leaves of a group can be: none (a dropped token), one plain leaf, or one pending
    redirect, with a here-document operator among the tokens -/
theorem Group.shape {ts : List Token} {ls : List ALeaf} (h : Group ts ls) :
    (∃ t, ts = [t] ∧ Droppable t ∧ ls = []) ∨ (∃ p, ls = [.plain p false]) ∨
    ∃ id p op, ls = [.pend id p none] ∧ op ∈ ts ∧ HereTok op := by
  cases h with
  | leaf t => exact .inr (.inl ⟨_, rfl⟩)
  | drop t hd => exact .inl ⟨t, rfl, hd, rfl⟩
  | redir2 op tgt _ => exact .inr (.inl ⟨_, rfl⟩)
  | redir3 fd op tgt _ _ => exact .inr (.inl ⟨_, rfl⟩)
  | here2 op tgt id h1 => exact .inr (.inr ⟨id, _, op, rfl, by simp, h1⟩)
  | here3 fd op tgt id _ h1 => exact .inr (.inr ⟨id, _, op, rfl, by simp, h1⟩)
  | d19 _ _ _ => exact .inr (.inl ⟨_, rfl⟩)

theorem Covers.group {ts ls} (h : Group ts ls) : Covers ts ls := by
  have := Covers.cons h Covers.nil
  simpa using this

theorem Covers.append {ts ls ts' ls'} (h : Covers ts ls) (h' : Covers ts' ls') :
    Covers (ts ++ ts') (ls ++ ls') := by
  induction h with
  | nil => simpa using h'
  | cons hg _ ih =>
    rw [List.append_assoc, List.append_assoc]
    exact Covers.cons hg ih

theorem Covers.leaf (t : Token) : Covers [t] [.plain (tokSpan t) false] := Covers.group (.leaf t)
theorem Covers.drop {t : Token} (h : Droppable t) : Covers [t] [] := Covers.group (.drop t h)

theorem Covers.cast {ts ts' ls ls'} (h : Covers ts ls) (h1 : ts = ts') (h2 : ls = ls') :
    Covers ts' ls' := by subst h1; subst h2; exact h

/-- all tokens dropped -/
theorem covers_dropAll : ∀ {ts : List Token}, (∀ t ∈ ts, Droppable t) → Covers ts []
  | [], _ => .nil
  | t :: ts, h => by
    have := Covers.append (Covers.drop (h t List.mem_cons_self))
      (covers_dropAll (fun t' ht' => h t' (List.mem_cons_of_mem _ ht')))
    simpa using this

/-! ## the final relation, on `Spec.leaves` of the resolved tree -/

/-- what is known of the final span `p'` and body `h'` of a here-document redirect created at
    `p`: the body lies after `p` within the input; the span is `p`, or -- with a body -- starts
    where `p` starts and was extended to the right -/
def HereOK (len : Nat) (p p' : Span) (h' : Option Span) : Prop :=
  (∀ x y, h' = some (x, y) → p.2 ≤ x ∧ x < y ∧ y ≤ len) ∧
  (p' = p ∨ (h'.isSome = true ∧ p'.1 = p.1 ∧ p.2 ≤ p'.2 ∧ p'.2 ≤ len))

inductive FGroup (len : Nat) : List Token → List (Span × Bool) → Prop
  | leaf (t : Token) : FGroup len [t] [(tokSpan t, false)]
  | drop (t : Token) : Droppable t → FGroup len [t] []
  | redir2 (op tgt : Token) : RedirTok op → FGroup len [op, tgt] [((op.lexpos, tgt.endlexpos), false)]
  | redir3 (fd op tgt : Token) : FdTok fd → RedirTok op →
      FGroup len [fd, op, tgt] [((fd.lexpos, tgt.endlexpos), false)]
  | here2 (op tgt : Token) (p' : Span) (h' : Option Span) : HereTok op →
      HereOK len (op.lexpos, tgt.endlexpos) p' h' → FGroup len [op, tgt] (redirLeaves p' h')
  | here3 (fd op tgt : Token) (p' : Span) (h' : Option Span) : FdTok fd → HereTok op →
      HereOK len (fd.lexpos, tgt.endlexpos) p' h' → FGroup len [fd, op, tgt] (redirLeaves p' h')
  | d19 (ts : List Token) : ts ≠ [] → (∀ t ∈ ts, IsTimeTok t) → FGroup len ts [((0, 0), false)]

/-- **the token-level statement of C05** about a returned tree with leaves `ls` and the consumed
    token sequence `ts` -/
inductive FCovers (len : Nat) : List Token → List (Span × Bool) → Prop
  | nil : FCovers len [] []
  | cons {ts ls ts' ls'} : FGroup len ts ls → FCovers len ts' ls' →
      FCovers len (ts ++ ts') (ls ++ ls')

/-! ## `redirLeaves`, `HereOK`, and the one shape of a final group -/

theorem head_redirLeaves (p : Span) (h : Option Span) : ∃ b, (p, b) ∈ redirLeaves p h := by
  unfold redirLeaves
  cases h with
  | none => exact ⟨false, by simp⟩
  | some b =>
    simp only []
    split
    · exact ⟨true, by simp⟩
    · exact ⟨false, by simp⟩

theorem mem_redirLeaves {p : Span} {h : Option Span} {x : Span × Bool} (hx : x ∈ redirLeaves p h) :
    x.1 = p ∨ x.2 = true := by
  unfold redirLeaves at hx
  cases h with
  | none => simp only [List.mem_singleton] at hx; subst hx; exact Or.inl rfl
  | some b =>
    simp only [] at hx
    split at hx
    · simp only [List.mem_singleton] at hx; subst hx; exact Or.inl rfl
    · simp only [List.mem_cons, List.not_mem_nil, or_false] at hx
      rcases hx with rfl | rfl
      · exact Or.inl rfl
      · exact Or.inr rfl

theorem redirLeaves_flag {p' : Span} {h' : Option Span}
    (hf : ∀ x ∈ redirLeaves p' h', x.2 = false) : h' = none := by
  cases h' with
  | none => rfl
  | some b =>
    exfalso
    unfold redirLeaves at hf
    simp only [] at hf
    split at hf
    · have := hf (p', true) (by simp); cases this
    · have := hf (b, true) (by simp); cases this

theorem hereOK_refl (len : Nat) (p : Span) : HereOK len p p none :=
  ⟨fun _ _ h => (by cases h), Or.inl rfl⟩

theorem hereOK_none {len : Nat} {p p' : Span} (h : HereOK len p p' none) : p' = p := by
  rcases h.2 with h | ⟨h, _⟩
  · exact h
  · cases h

theorem HereOK.span {len : Nat} {p p' : Span} {h' : Option Span} (h : HereOK len p p' h') :
    p'.1 = p.1 ∧ p.2 ≤ p'.2 := by
  rcases h.2 with h | ⟨_, h2, h3, _⟩
  · rw [h]; exact ⟨rfl, Nat.le_refl _⟩
  · exact ⟨h2, h3⟩

/-- **the one shape of a group**: a dropped token, the D19 group, or tokens `t1 … tk` whose leaves
    are those of a redirect spanning them -- a plain leaf and a plain redirection being the case
    without body (`h' = none`, `p' = (t1.lexpos, tk.endlexpos)`) -/
theorem FGroup.shape {len : Nat} {ts : List Token} {ls : List (Span × Bool)}
    (h : FGroup len ts ls) :
    (∃ t, ts = [t] ∧ Droppable t ∧ ls = []) ∨
    (ts ≠ [] ∧ (∀ t ∈ ts, IsTimeTok t) ∧ ls = [((0, 0), false)]) ∨
    ∃ t1 rest tk p' h', ts = t1 :: rest ∧ (t1 :: rest).getLast? = some tk ∧
      ls = redirLeaves p' h' ∧ HereOK len (t1.lexpos, tk.endlexpos) p' h' := by
  cases h with
  | leaf t => exact .inr (.inr ⟨t, [], t, tokSpan t, none, rfl, rfl, rfl, hereOK_refl len _⟩)
  | drop t hd => exact .inl ⟨t, rfl, hd, rfl⟩
  | redir2 op tgt _ => exact .inr (.inr ⟨op, [tgt], tgt, _, none, rfl, rfl, rfl, hereOK_refl len _⟩)
  | redir3 fd op tgt _ _ =>
    exact .inr (.inr ⟨fd, [op, tgt], tgt, _, none, rfl, rfl, rfl, hereOK_refl len _⟩)
  | here2 op tgt p' h' _ hok => exact .inr (.inr ⟨op, [tgt], tgt, p', h', rfl, rfl, rfl, hok⟩)
  | here3 fd op tgt p' h' _ _ hok =>
    exact .inr (.inr ⟨fd, [op, tgt], tgt, p', h', rfl, rfl, rfl, hok⟩)
  | d19 ts hne hall => exact .inr (.inl ⟨hne, hall, rfl⟩)

theorem hereOK_of_done {len g : Nat} {st : List RedirCell} {id : Nat} {p : Span}
    (h : ∀ c, st[id]? = some c → C03.DoneCell len g p c) :
    ∃ p' h', conc st (.pend id p none) = redirLeaves p' h' ∧ HereOK len p p' h' := by
  simp only [conc]
  cases hs : st[id]? with
  | none =>
    exact ⟨p, none, rfl, (by intro x y hx; cases hx), Or.inl rfl⟩
  | some c =>
    obtain ⟨hb, hp⟩ := h c hs
    refine ⟨c.pos, c.heredoc.map (·.1), rfl, ?_, ?_⟩
    · intro x y hx
      cases hh : c.heredoc with
      | none => rw [hh] at hx; cases hx
      | some b =>
        obtain ⟨⟨x', y'⟩, v⟩ := b
        rw [hh] at hx
        simp only [Option.map_some, Option.some.injEq, Prod.mk.injEq] at hx
        obtain ⟨rfl, rfl⟩ := hx
        exact hb x' y' v hh
    · rcases hp with hp | ⟨h1, h2, h3, h4, _⟩
      · exact Or.inl hp
      · refine Or.inr ⟨?_, h2, h3, h4⟩
        cases hh : c.heredoc with
        | none => rw [hh] at h1; cases h1
        | some b => rfl

/-- from the abstract to the final relation, given what `Done` says of the pending redirects -/
theorem fcovers_of_covers {len g : Nat} {st : List RedirCell} {ts : List Token} {ls : List ALeaf}
    (h : Covers ts ls)
    (hp : ∀ id p hh, ALeaf.pend id p hh ∈ ls → ∀ c, st[id]? = some c → C03.DoneCell len g p c) :
    FCovers len ts (ls.flatMap (conc st)) := by
  induction h with
  | nil => exact .nil
  | @cons ts1 ls1 ts2 ls2 hg _ ih =>
    rw [List.flatMap_append]
    refine FCovers.cons ?_ (ih (fun id p hh hm => hp id p hh (List.mem_append_right _ hm)))
    cases hg with
    | leaf t => exact .leaf t
    | drop t hd => exact .drop t hd
    | redir2 op tgt h1 => exact .redir2 op tgt h1
    | redir3 fd op tgt h0 h1 => exact .redir3 fd op tgt h0 h1
    | here2 op tgt id h1 =>
      obtain ⟨p', h', he, hok⟩ := hereOK_of_done
        (hp id (op.lexpos, tgt.endlexpos) none (List.mem_append_left _ (by simp)))
      simp only [List.flatMap_cons, List.flatMap_nil, List.append_nil]
      rw [he]
      exact .here2 op tgt p' h' h1 hok
    | here3 fd op tgt id h0 h1 =>
      obtain ⟨p', h', he, hok⟩ := hereOK_of_done
        (hp id (fd.lexpos, tgt.endlexpos) none (List.mem_append_left _ (by simp)))
      simp only [List.flatMap_cons, List.flatMap_nil, List.append_nil]
      rw [he]
      exact .here3 fd op tgt p' h' h0 h1 hok
    | d19 _ hne ht => exact .d19 _ hne ht

end Bashlex.C05
