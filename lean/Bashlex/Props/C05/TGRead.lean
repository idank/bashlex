/-
  C05, character level, parts 3 and 4.  Stateless: only the newline branch of `_readtoken` delivers a
  token of type NEWLINE: the operators `readtokenMeta` / `tokentype(character)` return for a
  character other than newline, and the tokens `_readtokenword` delivers, have another type.
  By inspection of what the tokenizer can deliver (`Proofs/TokShape.lean`).
  Then `_readtoken` from an exact cursor, with the ghost fact "the text
  skipped since entry is layout" (`Skip`): the instance of the walk `readtoken_m` of
  `Props/C04/TTRead.lean` whose post-condition keeps what was skipped, forgets the text, and
  after `gatherheredocuments` knows the region it consumed (`GathQ`).

  Two namespaces, as in `TGGather.lean`: `C05.TGT` speaks of TIGHT regions (`GRegT`: each position
  a newline, the backslash of a backslash-newline pair, or inside a recorded here-document body),
  `C05.TG` of loose ones (`GReg`, positions that are `PosLay`: any character after a `#` as well).
  `ReadG`, `GathQ` and `readtoken_g` exist in both, with the same text over the `GathQ` of their
  namespace; the tight form is proved (from the walk) and the loose one follows (`ReadG.ofTight`).
-/
import Bashlex.Proofs.TokShape
import Bashlex.Props.C12.Tokens
import Bashlex.Props.C04.TokTextProof
import Bashlex.Props.C05.TGGather

namespace Bashlex.C05.TG
open Bashlex Bashlex.M Bashlex.Shape
set_option linter.unusedVariables false

/-- a type other than NEWLINE and EOF -/
def NNty (ty : TokType) : Prop := ty ≠ .NEWLINE ∧ ty ≠ .EOF

/-- a token with a type other than NEWLINE and EOF -/
def NN (t : Token) : Prop := ∃ ty, t.ttype = some ty ∧ NNty ty

theorem ofChar_ne_nl {c : Char} {t : TokType} (h : TokType.ofChar c = some t) (hc : c ≠ '\n') :
    NNty t := by
  unfold TokType.ofChar at h
  split at h <;> first | exact absurd rfl hc | (cases h; exact ⟨by decide, by decide⟩) | cases h

theorem metaOps_nn : ∀ t ∈ metaOps, NNty t := by unfold NNty; decide

theorem specialTokens_nn : ∀ p ∈ specialTokens, NNty p.1 := by unfold NNty; decide

theorem reserved_nn : ∀ kv ∈ reservedFirstCommandChars, NNty kv.2 := by unfold NNty; decide

/-- `readtokenMeta` never returns the type NEWLINE for a character other than newline -/
theorem sat_readtokenMeta_nn (c : Char) (hc : c ≠ '\n') :
    Sat (readtokenMeta c) (fun r => ∀ t, r = some t → NNty t) :=
  (sat_readtokenMeta c).weaken
    (fun r h t ht => (h t ht).elim (metaOps_nn t) (fun ho => ofChar_ne_nl ho hc)) (fun _ h => h)

theorem nn_of_shape {st : RWState} {tok : Token} (h : FWShape st tok) : NN tok := by
  rcases h with ⟨_, h, _⟩ | ⟨ty, hty, h, _⟩ | ⟨_, l, asg, t0, h0, _, _, rfl⟩
  · exact ⟨.NUMBER, h, by decide, by decide⟩
  · refine ⟨ty, h, ?_⟩
    rcases hty with hm | ⟨hl, _⟩
    · exact specialTokens_nn _ hm
    · exact reserved_nn _ (C12.mem_of_lookup hl)
  · rcases fwToken_ttype st l asg t0 with h | h
    · exact ⟨.WORD, h.trans h0, by decide, by decide⟩
    · exact ⟨.ASSIGNMENT_WORD, h, by decide, by decide⟩

theorem sat_readtokenword_nn (c : Char) : Sat (readtokenword c) NN := by
  unfold readtokenword
  exact Sat.bind_any (fun _ => Sat.bind_any (fun st =>
    (sat_finishWord st).weaken (fun _ => nn_of_shape) (fun _ h => h)))

end Bashlex.C05.TG

namespace Bashlex.C05.TGT
open Bashlex Bashlex.M Bashlex.C10 Bashlex.C11 Bashlex.C03.Tok Bashlex.C04 Bashlex.C04.TTP Bashlex.C05 Bashlex.C05.TG
set_option linter.unusedSimpArgs false
set_option linter.unusedVariables false

/-- the exact-cursor tape invariant with the redirect store and queue -/
def TpS (L : Str) (sr : List RedirCell) (rk : List (Nat × Bool)) (ps : List Nat) (i : Nat)
    (l : Local) (e : Env) : Prop :=
  Tp L ps i l e ∧ l.store = sr ∧ l.redirstack = rk

/-! ## `_readtoken` -/

/-- what `_readtoken` returns, with what was skipped since the entry cursor `i0` -/
def ReadG (L : Str) (i0 : Nat) (r : TokType ⊕ Token) (l : Local) (e : Env) : Prop :=
  match r with
  | .inl ty => ∃ a, Skip L i0 a ∧
      ((ty = .NEWLINE ∧ L[a]? = some '\n' ∧ GathQ L [a] (a + 1) l e) ∨
       (NNty ty ∧ ∃ j, Tp L [a] j l e))
  | .inr t => (t = eofTok ∧ Skip L i0 L.length ∧ Tp L [] L.length l e) ∨
      ∃ a k, Skip L i0 a ∧ t.pos = some (a, k) ∧ a < k ∧ NN t ∧ Tp L [] k l e

section
variable {L : Str} {sr : List RedirCell} {rk : List (Nat × Bool)}

/-- **`_readtoken`**, entered at cursor `i0` -/
theorem readtoken_g (hS : ScanHyp) (hnl : NL L) (hlast : LastNL L)
    (hlen : L.length < 1073741824) (hnd : (rk.map Prod.fst).Nodup) {i0 : Nat}
    (hi0 : i0 ≤ L.length) :
    HT (TpS L sr rk [] i0) readtoken (ReadG L i0) ET := by
  refine readtoken_m (R := ReadG L i0) hnl hlast hi0 (fun l e hsk h => Or.inl ⟨rfl, hsk, h.1⟩)
    (fun a hsk hLa => ?_) (fun a ch ty j v r l e hst hne hty _ _ _ _ _ h => ?_)
    (fun a ch i hst _ hw _ => ?_)
  · have hlt := (List.getElem?_eq_some_iff.mp hLa).1
    refine HT.pre (HT.post (gather_reg (L := L) (ps := [a]) (c := a + 1) hlast hlen)
      (fun _ l e h ps' => ⟨a, hsk, Or.inl ⟨rfl, hLa, h⟩⟩)) ?_
    rintro l e ⟨⟨a1, a2, a3, a4, a5⟩, hs, hr⟩
    exact ⟨a1, a2, by omega, a4, a5, by rw [hr]; exact hnd⟩
  · refine ⟨a, hst.skip, Or.inr ⟨?_, j, h.1⟩⟩
    rcases hty with ⟨_, h | h⟩ | ⟨_, h⟩
    · exact metaOps_nn ty h
    · exact ofChar_ne_nl h hne
    · exact ofChar_ne_nl h hne
  · refine HT.pre (HT.bind (HT.exn (HT.and_sat (readtokenword_tt hS hnl ch a)
      (sat_readtokenword_nn ch)) (fun _ _ => True.intro)) (fun t => HT.pure (fun l e h => ?_)))
      (fun l e h => ⟨i, hw, h.1⟩)
    obtain ⟨hnn, k, ⟨tw, h1, h2⟩, h3⟩ := h
    exact Or.inr ⟨a, k, hst.skip, h2.1, h2.2.1, hnn, h3⟩

end

end Bashlex.C05.TGT

namespace Bashlex.C05.TG
open Bashlex Bashlex.M Bashlex.C10 Bashlex.C11 Bashlex.C03.Tok Bashlex.C04 Bashlex.C04.TTP

/-- what `_readtoken` returns, with what was skipped since the entry cursor `i0` -/
def ReadG (L : Str) (i0 : Nat) (r : TokType ⊕ Token) (l : Local) (e : Env) : Prop :=
  match r with
  | .inl ty => ∃ a, Skip L i0 a ∧
      ((ty = .NEWLINE ∧ L[a]? = some '\n' ∧ GathQ L [a] (a + 1) l e) ∨
       (NNty ty ∧ ∃ j, Tp L [a] j l e))
  | .inr t => (t = eofTok ∧ Skip L i0 L.length ∧ Tp L [] L.length l e) ∨
      ∃ a k, Skip L i0 a ∧ t.pos = some (a, k) ∧ a < k ∧ NN t ∧ Tp L [] k l e

theorem ReadG.ofTight {L : Str} {i0 : Nat} {r : TokType ⊕ Token} {l : Local} {e : Env}
    (h : TGT.ReadG L i0 r l e) : ReadG L i0 r l e := by
  cases r with
  | inl ty =>
    obtain ⟨a, hs, h⟩ := h
    exact ⟨a, hs, h.imp (fun h => ⟨h.1, h.2.1, GathQ.ofTight h.2.2⟩) id⟩
  | inr t => exact h

/-- **`_readtoken`**, entered at cursor `i0` -/
theorem readtoken_g {L : Str} {sr : List RedirCell} {rk : List (Nat × Bool)} (hS : ScanHyp)
    (hnl : NL L) (hlast : LastNL L)
    (hlen : L.length < 1073741824) (hnd : (rk.map Prod.fst).Nodup) {i0 : Nat}
    (hi0 : i0 ≤ L.length) :
    HT (TpS L sr rk [] i0) readtoken (ReadG L i0) ET :=
  HT.post (TGT.readtoken_g hS hnl hlast hlen hnd hi0) (fun _ _ _ h => ReadG.ofTight h)

end Bashlex.C05.TG
