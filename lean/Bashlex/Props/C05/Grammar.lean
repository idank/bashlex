/-
  C05: facts about the generated grammar and tables the leaf argument uses, decided by
  the kernel (re-checked whenever the grammar changes):

  * which right-hand-side positions an action *ignores* hold a `None` value (`newline_list`),
    and which raw tokens an action drops are NEWLINE tokens (`leafOK`);
  * `timespec` is built only by `p_timespec`, from TIME / TIMEOPT / TIMEIGN tokens;
    `time x` / `! x` start with a token or with `timespec`;
  * `inputunit` is built only by `p_inputunit`; only state 0 has a goto on it; the `accept`
    entries of the action table sit in the state entered on `inputunit`.
-/
import Bashlex.Props.C05.Actions

namespace Bashlex.C05
open Bashlex Bashlex.LR Bashlex.C12 Bashlex.C03
set_option linter.unusedVariables false

def iuSym : Nat := Gen.termNames.length + (Gen.ntNames.idxOf "inputunit")
def timespecSym : Nat := Gen.termNames.length + (Gen.ntNames.idxOf "timespec")

def isNoneS (s : Srt) : Bool := s == .none
def dropS (s : Srt) : Bool := s == .none || s == .tok (some .NEWLINE) || s == .tok none
def timeS : Srt → Bool
  | .tok (some ty) => isTimeTy ty
  | _ => false
def isTokS : Srt → Bool
  | .tok _ => true
  | _ => false

def iuB (sorts : List Srt) : Bool :=
  sorts.all dropS || (match sorts with | [.node _, s] => dropS s | _ => false)
def headNoneB (sorts : List Srt) : Bool := match sorts with | s :: _ => isNoneS s | [] => true
def head2NoneB (sorts : List Srt) : Bool := match sorts with | [s, _] => isNoneS s | _ => true
def drop2B (sorts : List Srt) : Bool := (sorts.drop 2).all isNoneS
def midB (sorts : List Srt) : Bool := ((sorts.drop 2).dropLast).all isNoneS
def ltermB (sorts : List Srt) : Bool :=
  match sorts with
  | [.tok (some ty)] => ty == .NEWLINE || ty == .SEMICOLON
  | [.tok none] => true
  | _ => false
def timeB (sorts : List Srt) : Bool := !sorts.isEmpty && sorts.all timeS

/-- the leaf-relevant side conditions of the action `f` on a production `lhs → rhs`:
    which positions an action ignores hold `None`, which tokens it drops are NEWLINEs, ... -/
def leafOK (f : String) (lhs : Nat) (rhs : List Nat) : Bool :=
  let sorts := rhs.map sortOfSymbol
  (f != "p_inputunit" || iuB sorts) &&
  (f != "p_list" || headNoneB sorts) &&
  (f != "p_pattern_list" || headNoneB sorts) &&
  (f != "p_compound_list" || head2NoneB sorts) &&
  (f != "p_list0" || drop2B sorts) &&
  (f != "p_list1" || midB sorts) &&
  (f != "p_simple_list1" || midB sorts) &&
  (f != "p_pipeline" || midB sorts) &&
  (f != "p_simple_list_terminator" || sorts.all dropS) &&
  (f != "p_newline_list" || sorts.all dropS) &&
  (f != "p_empty" || sorts.isEmpty) &&
  (f != "p_list_terminator" || ltermB sorts) &&
  (f != "p_timespec" || timeB sorts) &&
  (lhs != timespecSym || f == "p_timespec") &&
  (lhs != iuSym || f == "p_inputunit") &&
  (f != "p_pipeline_command" || rhs.length != 2 || isTokS (sortOfSymbol (rhs.headD 0)) ||
    rhs.headD 0 == timespecSym)

def leafGrammarCheck : Bool :=
  (List.zip Gen.prodFuncs Gen.prodTable).all fun x => leafOK x.1 x.2.1 x.2.2

theorem leaf_grammar_ok : leafGrammarCheck = true := by decide +kernel

/-- `p_inputunit` builds `inputunit` only -/
def iuLhsCheck : Bool :=
  (List.zip Gen.prodFuncs Gen.prodTable).all fun x => x.1 != "p_inputunit" || x.2.1 == iuSym

theorem iuLhs_ok : iuLhsCheck = true := by decide +kernel

def gotoIuCheck : Bool :=
  Gen.gotoRows.zipIdx.all fun (row, s) => s == 0 || row.all fun e => e / 4096 != iuSym

theorem gotoIu_ok : gotoIuCheck = true := by decide +kernel

/-- the `accept` entries of the action table sit in the state entered on `inputunit` -/
theorem acceptIu_ok : realRaw.checkAccept (fun s => s == iuSym) = true := real_acceptSym

/-! ### in usable form -/

theorem leaf_ok {p lhs : Nat} {rhs : List Nat} (hp : realTables.prods[p]? = some (lhs, rhs)) :
    leafOK (fn p) lhs rhs = true := forall_prods leaf_grammar_ok hp

theorem iu_lhs {p lhs : Nat} {rhs : List Nat} (hp : realTables.prods[p]? = some (lhs, rhs))
    (hf : fn p = "p_inputunit") : lhs = iuSym := by
  have := forall_prods iuLhs_ok hp
  simp only [Bool.or_eq_true, bne_iff_ne, ne_eq, beq_iff_eq] at this
  exact this.resolve_left (fun h => h hf)

theorem sl_lhs {p lhs : Nat} {rhs : List Nat} (hp : realTables.prods[p]? = some (lhs, rhs))
    (hf : fn p = "p_simple_list") : lhs = slSym := by
  have hk := C03.prod_ok hp
  rw [hf] at hk
  unfold prodOK at hk
  simp only [Bool.and_eq_true, Bool.or_eq_true, Bool.not_eq_true', beq_iff_eq] at hk
  rcases hk.1.1.2 with h | h
  · simp at h
  · exact h

theorem goto_iu {s t : Nat} (h : realTables.goto s iuSym = some t) : s = 0 := by
  have h' : rowLookup (Gen.gotoRows.getD s []) iuSym = some t := h
  obtain ⟨e, hmem, hk, _⟩ := rowLookup_mem h'
  obtain ⟨row, hrow, he, hidx⟩ := mem_getD (l := Gen.gotoRows) hmem
  have hz : (row, s) ∈ Gen.gotoRows.zipIdx := by
    rw [List.mem_zipIdx_iff_getElem?]
    simpa using hidx
  have hg := gotoIu_ok
  unfold gotoIuCheck at hg
  have := List.all_eq_true.mp hg (row, s) hz
  simp only [Bool.or_eq_true, beq_iff_eq, List.all_eq_true, bne_iff_ne, ne_eq] at this
  rcases this with h0 | hall
  · exact h0
  · exact absurd hk (hall e he)

theorem accept_iu : ∀ s la, s ∈ realRaw.reach → realTables.action s la = some .accept →
    realRaw.accOf s = iuSym := by
  intro s la hs ha
  have := Raw.checkAccept_sound acceptIu_ok s la hs ha
  simpa using this

/-! ### from sorts to values -/

theorem dropV_of_sort {s : Srt} {v : SVal} (hs : dropS s = true) (hv : HasSort s v) : DropV v := by
  simp only [dropS, Bool.or_eq_true, beq_iff_eq] at hs
  rcases hs with (rfl | rfl) | rfl
  · exact Or.inl hv
  · obtain ⟨t, rfl, hty, _⟩ := hv
    exact Or.inr ⟨t, rfl, Or.inl hty⟩
  · obtain ⟨t, rfl, hty, _⟩ := hv
    exact Or.inr ⟨t, rfl, Or.inr hty⟩

theorem none_of_isNoneS {s : Srt} {v : SVal} (hs : isNoneS s = true) (hv : HasSort s v) :
    v = .none := none_of_sort hs hv

theorem timeTok_of_sort {s : Srt} {v : SVal} (hs : timeS s = true) (hv : HasSort s v) :
    ∃ t, v = .tok t ∧ IsTimeTok t := by
  cases s with
  | tok ty =>
    cases ty with
    | none => cases hs
    | some ty =>
      obtain ⟨t, rfl, hty, _⟩ := hv
      exact ⟨t, rfl, ty, hty, hs⟩
  | _ => cases hs

theorem forall2_drop {α β} {R : α → β → Prop} : ∀ (n : Nat) {l₁ : List α} {l₂ : List β},
    Forall2 R l₁ l₂ → Forall2 R (l₁.drop n) (l₂.drop n)
  | 0, _, _, h => h
  | n + 1, _, _, .nil => .nil
  | n + 1, _, _, .cons _ h => forall2_drop n h

theorem forall2_dropLast {α β} {R : α → β → Prop} : ∀ {l₁ : List α} {l₂ : List β},
    Forall2 R l₁ l₂ → Forall2 R l₁.dropLast l₂.dropLast
  | _, _, .nil => .nil
  | _, _, .cons (l₁ := []) (l₂ := []) _ .nil => .nil
  | _, _, .cons (l₁ := a :: as) (l₂ := b :: bs) h1 h2 => by
    simp only [List.dropLast_cons_cons]
    exact .cons h1 (forall2_dropLast h2)

end Bashlex.C05
