/-
  C05, the link to the executable `Spec.coverOK`, one run: the leaves of the tree of ONE parser run, in tree order, TILE the
  run's line, and `Spec.gapsOK` -- the walker of the executable `Spec.coverOK` -- finds nothing
  to report between them, for runs WITHOUT here-document bodies and without D19.

  `tiled_of_covers`: from the token-level cover `FCoversStrict` (no `time` group) and the chain
  of the run, when no leaf of the tree is flagged as a here-document body (decidable on the
  returned tree; then no body is attached in the store at all: every attached body IS such a
  leaf, `C05_final`): the leaves `ls` in tree order satisfy `Tiled L i ls`: each leaf starts at
  or after the end of the one before, is non-empty, and the text between is
  `Spec.isLayout`.
  `gapsOK_tiled`: on a tiled list `Spec.gapsOK` is its last clause, the test of the text behind
  the last leaf (`lastEnd`); so it reports at most `trailing-text-not-layout` (`gapsOK_of_tiled`).
-/
import Bashlex.Props.C05.FLayout
import Bashlex.Props.C05

namespace Bashlex.C05.TGT
open Bashlex Bashlex.Spec Bashlex.M Bashlex.C04 Bashlex.C05 Bashlex.C05.TG Bashlex.C03.Tok
  Bashlex.C03
set_option linter.unusedVariables false

/-- a token of the chain other than the end-of-input token has a position -/
theorem chain_pos {L : Str} {st : List RedirCell} {mid post : List Token} {t : Token} {i c : Nat}
    (h : ChainL L st i (mid ++ t :: post) c) (hne : t.ttype ≠ some .EOF) :
    ∃ a b, t.pos = some (a, b) := by
  obtain ⟨m, _, h2⟩ := ChainL.split h
  obtain ⟨i', e, _, _, c3, _⟩ := h2
  rcases c3 with ⟨a, _, hp, _, _⟩ | ⟨rfl, _, _⟩
  · exact ⟨a, e, hp⟩
  · exact absurd rfl hne

/-- the leaves, in order, tile the line from `i` on: each starts at or after the end of the one
    before, is non-empty, and the text between is layout in the sense of the specification -/
def Tiled (L : Str) : Nat → List (Span × Bool) → Prop
  | _, [] => True
  | i, (p, _) :: rest =>
    p.1 < p.2 ∧ LF L i p.1 ∧ Tiled L p.2 rest

/-- two tokens of one group: the first, then (after layout) the second -/
theorem two_tokens {L : Str} {st : List RedirCell} {post : List Token} {t2 : Token}
    {c b1 : Nat} (h : ChainL L st b1 (t2 :: post) c) (hne : t2.ttype ≠ some .EOF) :
    ∃ a2 b2, t2.pos = some (a2, b2) ∧ b1 ≤ a2 ∧ a2 < b2 ∧ ChainL L st b2 post c := by
  obtain ⟨a2, b2, hp2⟩ := chain_pos (mid := []) h hne
  obtain ⟨⟨x', h1, _, h3⟩, h4⟩ := h.first hp2
  obtain ⟨i', e, _, _, c3, _⟩ := h
  obtain ⟨_, hab, _⟩ := c3.pos hp2
  have := h3.le
  exact ⟨a2, b2, hp2, by omega, by omega, h4⟩

/-- the chain runs through the tokens `t1 :: rest` of one group: from the end of the first to the
    end of the last, `tk` -/
theorem ChainL.through {L : Str} {st : List RedirCell} {post : List Token} {c : Nat} {tk : Token} :
    ∀ {rest : List Token} {t1 : Token} {a1 b1 : Nat}, t1.pos = some (a1, b1) →
      (t1 :: rest).getLast? = some tk → NoEOF rest → ChainL L st b1 (rest ++ post) c →
      b1 ≤ tk.endlexpos ∧ ChainL L st tk.endlexpos post c
  | [], t1, a1, b1, hp, hl, _, h => by
    simp only [List.getLast?_singleton, Option.some.injEq] at hl
    subst hl
    rw [(tok_lexspan hp).2]
    exact ⟨Nat.le_refl _, h⟩
  | t2 :: rest, t1, a1, b1, _, hl, hno, h => by
    rw [List.getLast?_cons_cons] at hl
    obtain ⟨a2, b2, hp2, h1, h2, h3⟩ := two_tokens h (hno t2 List.mem_cons_self)
    obtain ⟨g1, g2⟩ := ChainL.through hp2 hl (fun t ht => hno t (List.mem_cons_of_mem _ ht)) h3
    exact ⟨by omega, g2⟩

/-- **the leaves of one run tile its line** (no here-document body, no D19) -/
theorem tiled_of_covers {L : Str} {st : List RedirCell} {la : List Token} {B len : Nat}
    (hnb : ∀ p, ¬ InBody st p) :
    ∀ {ts : List Token} {ls : List (Span × Bool)}, FCoversStrict len ts ls →
      (∀ x ∈ ls, x.2 = false) → NoEOF ts →
      ∀ (i : Nat) (mid : List Token), ChainL L st i (mid ++ ts ++ la) B →
        (∀ t ∈ mid, t.ttype = some .NEWLINE) → Tiled L i ls := by
  intro ts ls h
  induction h with
  | nil => intro _ _ i mid _ _; exact True.intro
  | @cons ts1 ls1 ts2 ls2 hg hne _ ih =>
    intro hfl hno i mid hch hmid
    have hfl2 : ∀ x ∈ ls2, x.2 = false := fun x hx => hfl x (List.mem_append_right _ hx)
    have hno2 : NoEOF ts2 := fun t ht => hno t (List.mem_append_right _ ht)
    rcases hg.shape with ⟨t, rfl, hd, rfl⟩ | ⟨_, _, hd19⟩ | ⟨t1, rest, tk, p', h', rfl, hl, rfl, hok⟩
    · -- a dropped NEWLINE joins the stretch in front of the next leaf
      have hch' : ChainL L st i ((mid ++ [t]) ++ ts2 ++ la) B := by
        simpa [List.append_assoc] using hch
      have hnl : t.ttype = some .NEWLINE := droppable_nl hch' (by simp) hd
      exact ih hfl2 hno2 i (mid ++ [t]) hch' (fun t' ht' => by
        rcases List.mem_append.mp ht' with ht' | ht'
        · exact hmid t' ht'
        · rw [List.mem_singleton.mp ht']; exact hnl)
    · exact absurd hd19 hne
    · -- tokens `t1 … tk`: without a body the leaf is the span from `t1` to `tk`
      have hn := redirLeaves_flag (fun x hx => hfl x (List.mem_append_left _ hx))
      subst hn
      have hp' := hereOK_none hok
      subst hp'
      have hno1 : NoEOF (t1 :: rest) := fun t ht => hno t (List.mem_append_left _ ht)
      have hch' : ChainL L st i (mid ++ t1 :: (rest ++ (ts2 ++ la))) B := by
        simpa [List.append_assoc] using hch
      obtain ⟨a1, b1, hp1⟩ := chain_pos hch' (hno1 t1 List.mem_cons_self)
      have ha1 : a1 ≤ L.length := by
        obtain ⟨m, _, h2⟩ := ChainL.split hch'
        obtain ⟨i', e, _, _, c3, _⟩ := h2
        rcases c3 with ⟨a, _, hp, hae, hc⟩ | ⟨rfl, _, _⟩
        · rw [hp1] at hp
          cases hp
          rcases hc with ⟨_, hle⟩ | ⟨_, hLa, _⟩
          · omega
          · exact Nat.le_of_lt (List.getElem?_eq_some_iff.mp hLa).1
        · cases hp1
      obtain ⟨l1, hab, hc1⟩ := seg_layout hch' hp1 hmid ha1 (fun p _ _ => hnb p)
      obtain ⟨hle, hc2⟩ := ChainL.through hp1 hl
        (fun t ht => hno1 t (List.mem_cons_of_mem _ ht)) hc1
      have e1 : t1.lexpos = a1 := (tok_lexspan hp1).1
      show Tiled L i (((t1.lexpos, tk.endlexpos), false) :: ls2)
      refine ⟨by simp only []; omega, by rw [e1]; exact l1, ?_⟩
      exact ih hfl2 hno2 _ [] (by simpa using hc2) (fun t ht => by cases ht)

/-- the end of the last leaf, or `i` -/
def lastEnd (i : Nat) : List (Span × Bool) → Nat
  | [] => i
  | (p, _) :: rest => lastEnd p.2 rest

theorem lastEnd_append : ∀ (ls1 ls2 : List (Span × Bool)) (i : Nat),
    lastEnd i (ls1 ++ ls2) = lastEnd (lastEnd i ls1) ls2
  | [], _, _ => rfl
  | (p, _) :: rest, ls2, _ => lastEnd_append rest ls2 p.2

theorem lastEnd_getLast : ∀ {ls : List (Span × Bool)} {x : Span × Bool} (i : Nat),
    ls.getLast? = some x → lastEnd i ls = x.1.2
  | [y], x, i, h => by
    simp only [List.getLast?_singleton, Option.some.injEq] at h
    subst h; rfl
  | y :: z :: rest, x, i, h => by
    rw [List.getLast?_cons_cons] at h
    exact lastEnd_getLast (ls := z :: rest) y.1.2 h

theorem tiled_append {L : Str} : ∀ (ls1 ls2 : List (Span × Bool)) (i : Nat),
    Tiled L i ls1 → Tiled L (lastEnd i ls1) ls2 → Tiled L i (ls1 ++ ls2)
  | [], _, _, _, h2 => h2
  | (p, _) :: rest, ls2, _, h, h2 => ⟨h.1, h.2.1, tiled_append rest ls2 p.2 h.2.2 h2⟩

/-- **on a tiled list the walker of `Spec.coverOK` only looks at the text behind the last leaf** -/
theorem gapsOK_tiled (L : Str) : ∀ (ls : List (Span × Bool)) (i : Nat) (pb : Bool),
    Tiled L i ls → gapsOK L i pb ls = gapsOK L (lastEnd i ls) pb []
  | [], _, _, _ => rfl
  | (p, b) :: rest, i, pb, ⟨h2, h3, h4⟩ => by
    have h1 := h3.1
    have hle := h3.2.1
    unfold gapsOK
    rw [if_neg (by omega), if_pos (h3.2.2 _ (by omega)), List.nil_append,
      show max i p.2 = p.2 by omega, gapsOK_tiled L rest p.2 _ h4]
    rfl

/-- **on a tiled list the walker of `Spec.coverOK` reports at most trailing text** -/
theorem gapsOK_of_tiled (L : Str) : ∀ (ls : List (Span × Bool)) (i : Nat) (pb : Bool),
    Tiled L i ls → ∀ v ∈ gapsOK L i pb ls, v = "trailing-text-not-layout" := by
  intro ls i pb h
  rw [gapsOK_tiled L ls i pb h]
  unfold gapsOK
  split
  · intro v hv; cases hv
  · intro v hv; exact List.mem_singleton.mp hv

end Bashlex.C05.TGT

#print axioms Bashlex.C05.TGT.tiled_of_covers
#print axioms Bashlex.C05.TGT.gapsOK_of_tiled
