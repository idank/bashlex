/-
  C05, character level: what the tokenizer skips.

  `Skip L i a`: the text `L[i:a]` of the tokenizer's line between the cursor `i` at which
  `token()` is entered and the start `a` of the token it delivers: a run of blanks (space, tab)
  and backslash-newline pairs (`BlankRun`), optionally followed by a comment `#…` that runs up to
  (not including) the newline at `a` -- that newline is the NEWLINE token delivered.
  `GReg L st c c'`: the text `gatherheredocuments` consumes from cursor `c` to `c'`: every
  position is a newline, lies in a skipped run, or inside a here-document body recorded in the
  redirect store `st`.

  `skipOK`, `gregB`: decidable checkers (used by the evaluation in `TGValidate.lean`), sound for
  the propositions.
-/
import Bashlex.Props.C04.TTDel
import Bashlex.Model.Monad

namespace Bashlex.C05
open Bashlex

theorem slice_getElem? (L : Str) {a m i : Nat} (h : a + i < m) :
    (Str.slice L a m)[i]? = L[a + i]? := by
  unfold Str.slice
  rw [List.getElem?_drop, List.getElem?_take, if_pos h]

end Bashlex.C05

namespace Bashlex.C05.TG
open Bashlex Bashlex.C04

/-- `L[i:m]` is a run of blanks (space, tab) and backslash-newline pairs -/
def BlankRun (L : Str) (i m : Nat) : Prop :=
  i ≤ m ∧ m ≤ L.length ∧ ∃ w, Del (Str.slice L i m) w ∧ ∀ c ∈ w, shellblank c = true

/-- `L[m:a]` is a comment: it starts with `#`, holds no newline, and the character at `a` is the
    newline that ends it -/
def Comment (L : Str) (m a : Nat) : Prop :=
  m < a ∧ L[m]? = some '#' ∧ (∀ k, m ≤ k → k < a → L[k]? ≠ some '\n') ∧ L[a]? = some '\n'

/-- **what `token()` skips** between its entry cursor `i` and the start `a` of the token -/
def Skip (L : Str) (i a : Nat) : Prop := ∃ m, BlankRun L i m ∧ (m = a ∨ Comment L m a)

/-- position `p` lies inside a here-document body recorded in the store -/
def InBody (st : List RedirCell) (p : Nat) : Prop :=
  ∃ c ∈ st, ∃ x y v, c.heredoc = some ((x, y), v) ∧ x ≤ p ∧ p < y

/-- position `p` of the line is layout: a newline, or inside a skipped run
    (blanks, line continuations, a comment) -/
def PosLay (L : Str) (p : Nat) : Prop :=
  L[p]? = some '\n' ∨ ∃ a b, a ≤ p ∧ p < b ∧ Skip L a b

/-- the region `gatherheredocuments` consumes -/
def GReg (L : Str) (st : List RedirCell) (c c' : Nat) : Prop :=
  ∀ p, c ≤ p → p < c' → p < L.length → PosLay L p ∨ InBody st p

/-! ## basic facts -/

theorem BlankRun.refl (L : Str) {i : Nat} (h : i ≤ L.length) : BlankRun L i i :=
  ⟨Nat.le_refl _, h, [], by rw [slice_self]; exact .nil, fun c hc => by cases hc⟩

theorem BlankRun.trans {L : Str} {i j k : Nat} (h1 : BlankRun L i j) (h2 : BlankRun L j k) :
    BlankRun L i k := by
  obtain ⟨a1, a2, w1, a3, a4⟩ := h1
  obtain ⟨b1, b2, w2, b3, b4⟩ := h2
  refine ⟨by omega, b2, w1 ++ w2, ?_, ?_⟩
  · rw [← slice_cat L a1 b1 b2]; exact a3.append b3
  · intro c hc
    rcases List.mem_append.mp hc with hc | hc
    · exact a4 c hc
    · exact b4 c hc

/-- a run of pairs -/
theorem BlankRun.ofDel {L : Str} {i j : Nat} (h1 : i ≤ j) (h2 : j ≤ L.length)
    (h : Del (Str.slice L i j) []) : BlankRun L i j :=
  ⟨h1, h2, [], h, fun c hc => by cases hc⟩

/-- one blank -/
theorem BlankRun.one {L : Str} {j : Nat} {ch : Char} (h : L[j]? = some ch)
    (hb : shellblank ch = true) : BlankRun L j (j + 1) := by
  have hlt := (List.getElem?_eq_some_iff.mp h).1
  refine ⟨Nat.le_succ _, hlt, [ch], ?_, ?_⟩
  · rw [slice_one L h]; exact Del.refl _
  · intro c hc
    simp only [List.mem_singleton] at hc
    subst hc; exact hb

theorem Skip.ofBlank {L : Str} {i a : Nat} (h : BlankRun L i a) : Skip L i a := ⟨a, h, Or.inl rfl⟩

theorem Skip.le {L : Str} {i a : Nat} (h : Skip L i a) : i ≤ a := by
  obtain ⟨m, ⟨h1, _⟩, h2⟩ := h
  rcases h2 with rfl | ⟨h2, _⟩
  · exact h1
  · omega

theorem Skip.end_le {L : Str} {i a : Nat} (h : Skip L i a) : a ≤ L.length := by
  obtain ⟨m, ⟨_, h2, _⟩, rfl | ⟨_, _, _, h4⟩⟩ := h
  · exact h2
  · exact Nat.le_of_lt (List.getElem?_eq_some_iff.mp h4).1

theorem posLay_of_skip {L : Str} {i a p : Nat} (h : Skip L i a) (h1 : i ≤ p) (h2 : p < a) :
    PosLay L p := Or.inr ⟨i, a, h1, h2, h⟩

theorem GReg.refl (L : Str) (st : List RedirCell) (c : Nat) : GReg L st c c :=
  fun p h1 h2 _ => absurd h2 (by omega)

theorem GReg.trans {L : Str} {st : List RedirCell} {a b c : Nat} (h1 : GReg L st a b)
    (h2 : GReg L st b c) : GReg L st a c := by
  intro p hp1 hp2 hp3
  by_cases h : p < b
  · exact h1 p hp1 h hp3
  · exact h2 p (by omega) hp2 hp3

theorem InBody.mono {st st' : List RedirCell} {p : Nat} (h : InBody st p)
    (hs : ∀ c ∈ st, ∀ b, c.heredoc = some b → ∃ c' ∈ st', c'.heredoc = some b) : InBody st' p := by
  obtain ⟨c, hc, x, y, v, h1, h2, h3⟩ := h
  obtain ⟨c', hc', h4⟩ := hs c hc _ h1
  exact ⟨c', hc', x, y, v, h4, h2, h3⟩

/-! ## decidable checkers -/

/-- is `s` a run of blanks and backslash-newline pairs -/
def blankRunB : Str → Bool
  | [] => true
  | [c] => shellblank c
  | c :: d :: s => (shellblank c && blankRunB (d :: s)) || (c == '\\' && d == '\n' && blankRunB s)

theorem blankRunB_sound : ∀ (s : Str), blankRunB s = true →
    ∃ w, Del s w ∧ ∀ c ∈ w, shellblank c = true
  | [], _ => ⟨[], .nil, fun c hc => by cases hc⟩
  | [c], h => by
    refine ⟨[c], Del.refl _, fun x hx => ?_⟩
    simp only [List.mem_singleton] at hx
    subst hx; simpa [blankRunB] using h
  | c :: d :: s, h => by
    unfold blankRunB at h
    rw [Bool.or_eq_true] at h
    rcases h with h | h
    · simp only [Bool.and_eq_true] at h
      obtain ⟨w, h1, h2⟩ := blankRunB_sound (d :: s) h.2
      refine ⟨c :: w, .keep c h1, fun x hx => ?_⟩
      rcases List.mem_cons.mp hx with rfl | hx
      · exact h.1
      · exact h2 x hx
    · simp only [Bool.and_eq_true, beq_iff_eq] at h
      obtain ⟨⟨rfl, rfl⟩, h3⟩ := h
      obtain ⟨w, h1, h2⟩ := blankRunB_sound s h3
      exact ⟨w, .skip h1, h2⟩

def commentB (L : Str) (m a : Nat) : Bool :=
  decide (m < a) && L[m]? == some '#' &&
    (List.range (a - m)).all (fun d => L[m + d]? != some '\n') && L[a]? == some '\n'

theorem commentB_sound {L : Str} {m a : Nat} (h : commentB L m a = true) : Comment L m a := by
  unfold commentB at h
  simp only [Bool.and_eq_true, decide_eq_true_eq, beq_iff_eq, List.all_eq_true, List.mem_range,
    bne_iff_ne, ne_eq] at h
  obtain ⟨⟨⟨h1, h2⟩, h3⟩, h4⟩ := h
  refine ⟨h1, h2, fun k hk1 hk2 => ?_, h4⟩
  have := h3 (k - m) (by omega)
  have e : m + (k - m) = k := by omega
  rw [e] at this
  exact this

/-- checker for `Skip` -/
def skipOK (L : Str) (i a : Nat) : Bool :=
  (List.range (a + 1 - i)).any fun d =>
    decide (i + d ≤ L.length) && blankRunB (Str.slice L i (i + d)) &&
      (i + d == a || commentB L (i + d) a)

theorem skipOK_sound {L : Str} {i a : Nat} (h : skipOK L i a = true) : Skip L i a := by
  unfold skipOK at h
  simp only [List.any_eq_true, List.mem_range, Bool.and_eq_true, decide_eq_true_eq,
    Bool.or_eq_true, beq_iff_eq] at h
  obtain ⟨d, _, ⟨h1, h2⟩, h3⟩ := h
  obtain ⟨w, hw1, hw2⟩ := blankRunB_sound _ h2
  refine ⟨i + d, ⟨Nat.le_add_right _ _, h1, w, hw1, hw2⟩, ?_⟩
  rcases h3 with h3 | h3
  · exact Or.inl h3
  · exact Or.inr (commentB_sound h3)

def inBodyB (st : List RedirCell) (p : Nat) : Bool :=
  st.any fun c => match c.heredoc with
    | some ((x, y), _) => decide (x ≤ p) && decide (p < y)
    | none => false

theorem inBodyB_sound {st : List RedirCell} {p : Nat} (h : inBodyB st p = true) : InBody st p := by
  unfold inBodyB at h
  rw [List.any_eq_true] at h
  obtain ⟨c, hc, h1⟩ := h
  cases hh : c.heredoc with
  | none => rw [hh] at h1; cases h1
  | some b =>
    obtain ⟨⟨x, y⟩, v⟩ := b
    rw [hh] at h1
    simp only [Bool.and_eq_true, decide_eq_true_eq] at h1
    exact ⟨c, hc, x, y, v, hh, h1.1, h1.2⟩

/-- checker for `GReg`: newline, member of a backslash-newline pair, or inside a body -/
def gregB (L : Str) (st : List RedirCell) (c c' : Nat) : Bool :=
  (List.range (min c' L.length - c)).all fun d =>
    let p := c + d
    L[p]? == some '\n' || (L[p]? == some '\\' && L[p + 1]? == some '\n') || inBodyB st p

theorem pair_skip {L : Str} {p : Nat} (h1 : L[p]? = some '\\') (h2 : L[p + 1]? = some '\n') :
    Skip L p (p + 2) := by
  have hlt := (List.getElem?_eq_some_iff.mp h2).1
  refine Skip.ofBlank (BlankRun.ofDel (by omega) (by omega) ?_)
  rw [slice_cons L h1 (by omega), slice_one L h2]
  exact .skip .nil

theorem gregB_sound {L : Str} {st : List RedirCell} {c c' : Nat} (h : gregB L st c c' = true) :
    GReg L st c c' := by
  unfold gregB at h
  simp only [List.all_eq_true, List.mem_range, Bool.or_eq_true, Bool.and_eq_true, beq_iff_eq] at h
  intro p hp1 hp2 hp3
  have := h (p - c) (by omega)
  have e : c + (p - c) = p := by omega
  rw [e] at this
  rcases this with (h1 | ⟨h1, h2⟩) | h1
  · exact Or.inl (Or.inl h1)
  · exact Or.inl (posLay_of_skip (pair_skip h1 h2) (Nat.le_refl _) (by omega))
  · exact Or.inr (inBodyB_sound h1)

end Bashlex.C05.TG
