/-
  C05: the stack invariant of the LR engine for leaves, and its closure under the
  engine's moves for the real hooks.

  `Acc (sym, v) ts`: the stack entry `v` (entered under the grammar symbol `sym`) accounts for
  the consumed tokens `ts`.  Along the stack the token lists, concatenated, are the tokens
  consumed so far, in order -- which is what the ghost log of the token source (`TokLog`) says
  was delivered, minus the look-ahead.  The span invariant of C03 runs alongside: it is what
  `Done` (the final spans and bodies of here-document redirects) comes from.
-/
import Bashlex.Props.C05.Grammar
import Bashlex.LR.SoundOrd

namespace Bashlex.C05
open Bashlex Bashlex.Spec Bashlex.Node Bashlex.M Bashlex.LR Bashlex.C12 Bashlex.C03

/-- the tokens a stack entry accounts for.  Entries of `timespec` account for TIME / TIMEOPT /
    TIMEIGN tokens only; an `inputunit` entry holds `None` (with a node `p_inputunit` accepts) -/
def Acc (x : Nat × SVal) (ts : List Token) : Prop :=
  AccV x.2 ts ∧ (x.1 = timespecSym → ts ≠ [] ∧ ∀ t ∈ ts, IsTimeTok t) ∧ (x.1 = iuSym → x.2 = .none) ∧
  (∀ t, x.2 = .tok t → x.1 = symOfTok t) ∧ (notTok x.2 → NoEOF ts)

/-- the tokens the arguments of a reduction account for are not end-of-input tokens: `$end`
    occurs in no right-hand side -/
theorem noEOF_flat : ∀ {args : List (Nat × SVal)} {tss : List (List Token)},
    Forall2 Acc args tss → (∀ x ∈ args, x.1 ≠ eofSym) → NoEOF tss.flatten := by
  intro args tss h
  induction h with
  | nil => intro _ t ht; simp at ht
  | @cons x ts xs tss' h1 _ ih =>
    intro hs t ht
    simp only [List.flatten_cons, List.mem_append] at ht
    rcases ht with ht | ht
    · obtain ⟨sym, v⟩ := x
      cases v with
      | tok t0 =>
        have e : ts = [t0] := h1.1
        subst e
        simp only [List.mem_singleton] at ht
        subst ht
        intro hty
        have h3 := h1.2.2.2.1 t rfl
        have h4 := hs (sym, .tok t) List.mem_cons_self
        simp only at h3 h4
        rw [h3] at h4
        exact h4 (symOfTok_eof hty)
      | none => exact h1.2.2.2.2 (fun _ h => by cases h) t ht
      | node n => exact h1.2.2.2.2 (fun _ h => by cases h) t ht
      | nodes l => exact h1.2.2.2.2 (fun _ h => by cases h) t ht
    · exact ih (fun y hy => hs y (List.mem_cons_of_mem _ hy)) t ht

theorem forall2_accV : ∀ {args : List (Nat × SVal)} {tss : List (List Token)},
    Forall2 Acc args tss → Forall2 AccV (args.map (·.2)) tss := by
  intro args tss h
  induction h with
  | nil => exact .nil
  | cons h1 _ ih => exact .cons h1.1 ih

/-- what an action's result is to the tokens its arguments account for -/
def PostL (lhs : Nat) (tss : List (List Token)) (r : SVal × Bool) : Prop :=
  (∀ n, r.1 = .node n → Covers tss.flatten (aleaves n)) ∧
  (r.2 = false → Acc (lhs, r.1) tss.flatten) ∧ NoEOF tss.flatten

/-! ## from the grammar checks to facts about the arguments -/

theorem vals_all {P : Srt → Bool} {Q : SVal → Prop}
    (hPQ : ∀ σ v, P σ = true → HasSort σ v → Q v) {sorts : List Srt} {vals : List SVal}
    (ha : Forall2 HasSort sorts vals) (hs : sorts.all P = true) : ∀ v ∈ vals, Q v :=
  forall2_all hPQ ha hs

theorem head_none {sorts : List Srt} {vals : List SVal} (hs : headNoneB sorts = true)
    (ha : Forall2 HasSort sorts vals) : ∀ x xs, vals = x :: xs → x = SVal.none := by
  intro x xs hv
  subst hv
  cases ha with
  | cons h1 h2 => exact none_of_isNoneS hs h1

theorem head2_none {sorts : List Srt} {vals : List SVal} (hs : head2NoneB sorts = true)
    (ha : Forall2 HasSort sorts vals) : ∀ x y, vals = [x, y] → x = SVal.none := by
  intro x y hv
  subst hv
  cases ha with
  | cons h1 h2 =>
    cases h2 with
    | cons h3 h4 =>
      cases h4
      exact none_of_isNoneS hs h1

theorem drop2_none {sorts : List Srt} {vals : List SVal} (hs : drop2B sorts = true)
    (ha : Forall2 HasSort sorts vals) : ∀ v ∈ vals.drop 2, v = SVal.none :=
  vals_all (fun _ _ h1 h2 => none_of_isNoneS h1 h2) (forall2_drop 2 ha) hs

theorem mid_none {sorts : List Srt} {vals : List SVal} (hs : midB sorts = true)
    (ha : Forall2 HasSort sorts vals) : ∀ v ∈ (vals.drop 2).dropLast, v = SVal.none :=
  vals_all (fun _ _ h1 h2 => none_of_isNoneS h1 h2) (forall2_dropLast (forall2_drop 2 ha)) hs

theorem all_dropV {sorts : List Srt} {vals : List SVal} (hs : sorts.all dropS = true)
    (ha : Forall2 HasSort sorts vals) : ∀ v ∈ vals, DropV v :=
  vals_all (fun _ _ h1 h2 => dropV_of_sort h1 h2) ha hs

theorem semicolon_value {t : Token} (hty : t.ttype = some .SEMICOLON) (hwf : TokWF t) :
    t.value = .str [';'] := by
  obtain ⟨s, hv, _, hs⟩ := tok_str hty hwf rfl
  have := hs [';'] rfl
  rw [hv, ← this]

theorem list_terminator_facts {sorts : List Srt} {vals : List SVal} (hs : ltermB sorts = true)
    (ha : Forall2 HasSort sorts vals) :
    ∃ t, vals = [.tok t] ∧ (t.value ≠ .str [';'] → Droppable t) := by
  unfold ltermB at hs
  split at hs
  · rename_i ty
    obtain ⟨a, rfl, ⟨t, rfl, hty, hwf⟩⟩ := forall2_1 ha
    refine ⟨t, rfl, ?_⟩
    simp only [Bool.or_eq_true, beq_iff_eq] at hs
    rcases hs with rfl | rfl
    · exact fun _ => Or.inl hty
    · exact fun h => absurd (semicolon_value hty hwf) h
  · obtain ⟨a, rfl, ⟨t, rfl, hty, hwf⟩⟩ := forall2_1 ha
    exact ⟨t, rfl, fun _ => Or.inr hty⟩
  · cases hs

theorem time_flat : ∀ {vals : List SVal} {tss : List (List Token)}, Forall2 AccV vals tss →
    (∀ v ∈ vals, ∃ t, v = SVal.tok t ∧ IsTimeTok t) →
    (∀ t ∈ tss.flatten, IsTimeTok t) ∧ (vals ≠ [] → tss.flatten ≠ []) := by
  intro vals tss h
  induction h with
  | nil => intro _; exact ⟨(by intro t ht; simp at ht), fun h => absurd rfl h⟩
  | @cons v ts vs tss' h1 _ ih =>
    intro hv
    obtain ⟨t, rfl, ht⟩ := hv v List.mem_cons_self
    have e : ts = [t] := h1
    subst e
    obtain ⟨ih1, _⟩ := ih (fun v' hv' => hv v' (List.mem_cons_of_mem _ hv'))
    refine ⟨?_, fun _ => by simp⟩
    intro t' ht'
    simp only [List.flatten_cons, List.singleton_append, List.mem_cons] at ht'
    rcases ht' with rfl | ht'
    · exact ht
    · exact ih1 t' ht'

theorem not_here_time {t : Token} (h1 : HereTok t) (h2 : IsTimeTok t) : False := by
  obtain ⟨ty, e1, q1⟩ := h1
  obtain ⟨ty', e2, q2⟩ := h2
  rw [e1] at e2
  cases e2
  revert q1 q2
  cases ty <;> decide

/-- tokens of a `time` specification account for no pending redirect -/
theorem covers_time_nopend {ts : List Token} {ls : List ALeaf} (h : Covers ts ls)
    (ht : ∀ t ∈ ts, IsTimeTok t) : pends ls = [] := by
  induction h with
  | nil => rfl
  | @cons ts1 ls1 ts2 ls2 hg _ ih =>
    rw [pends_append, ih (fun t h => ht t (List.mem_append_right _ h)), List.append_nil]
    rcases hg.shape with ⟨_, _, _, rfl⟩ | ⟨_, rfl⟩ | ⟨_, _, op, _, hop, h1⟩
    · rfl
    · rfl
    · exact (not_here_time h1 (ht op (List.mem_append_left _ hop))).elim

/-! ## the dispatch -/

-- see `Actions.lean`
attribute [local irreducible] M.Sat

/-- every semantic action accounts for the tokens of its arguments and conserves their pending
    here-document redirects -/
theorem act_post {np : NestedParse} {p lhs : Nat} {rhs : List Nat} {args : List (Nat × SVal)}
    {tss : List (List Token)}
    (hprod : realTables.prods[p]? = some (lhs, rhs)) (hargs : args.map (·.1) = rhs) {σ : Srt}
    (hab : absAction (fn p) (rhs.map sortOfSymbol) = some σ)
    (ha : Forall2 HasSort (rhs.map sortOfSymbol) (args.map (·.2)))
    (hacc : Forall2 Acc args tss) :
    Sat (actionCore np (fn p) (args.map (·.2)))
      (fun r => PostL lhs tss r ∧ PostI (args.map (·.2)) r) := by
  have hW := wordPos np
  have hk := leaf_ok hprod
  have hk3 := C03.prod_ok hprod
  generalize hf : fn p = fname at hab hk hk3
  unfold leafOK at hk
  simp only [Bool.and_eq_true, Bool.or_eq_true, bne_iff_ne, ne_eq, beq_iff_eq] at hk
  obtain ⟨⟨⟨⟨⟨⟨⟨⟨⟨⟨⟨⟨⟨⟨⟨k_iu, k_list⟩, k_pl⟩, k_cl⟩, k_l0⟩, k_l1⟩, k_sl1⟩, k_pipe⟩, k_slt⟩, k_nl⟩,
    k_empty⟩, k_lt⟩, k_time⟩, hkt⟩, hki⟩, hkp⟩ := hk
  have haV := forall2_accV hacc
  have hne : NoEOF tss.flatten := noEOF_flat hacc (C03.syms_of_prodOK hk3 hargs).1
  have fin : fname ≠ "p_timespec" → fname ≠ "p_inputunit" →
      ∀ r, LPost (args.map (·.2)) r → PostL lhs tss r ∧ PostI (args.map (·.2)) r := by
    intro h1 h2 r hr
    have hcov := hr.2.1 tss haV
    refine ⟨⟨fun n hn => by rw [hn] at hcov; exact hcov, fun _ => ⟨accV_of_covers hr.1 hcov, ?_, ?_,
      fun t ht => absurd ht (hr.1 t), fun _ => hne⟩, hne⟩, hr.2.2⟩
    · intro hl
      rcases hkt with h | h
      · exact absurd hl h
      · exact absurd h h1
    · intro hl
      rcases hki with h | h
      · exact absurd hl h
      · exact absurd h h2
  have gen : fname ≠ "p_timespec" → fname ≠ "p_inputunit" →
      Sat (actionCore np fname (args.map (·.2))) (LPost (args.map (·.2))) →
      Sat (actionCore np fname (args.map (·.2)))
        (fun r => PostL lhs tss r ∧ PostI (args.map (·.2)) r) :=
    fun h1 h2 hs => hs.weaken (fin h1 h2) (fun _ h => h)
  unfold absAction at hab
  split at hab
  · -- p_inputunit
    have hks' := k_iu.resolve_left (fun h => h rfl)
    unfold iuB at hks'
    have foo := lv_inputunit (np := np) (args := args.map (·.2))
    suffices bar : ∀ r : SVal × Bool,
        ((r = (.none, false) ∧ ∀ n, (args.map (·.2)).head? ≠ some (.node n)) ∨
          ∃ n, r = (.node n, true) ∧ (args.map (·.2)).head? = some (.node n)) →
          PostL lhs tss r ∧ PostI (args.map (·.2)) r from
      foo.weaken bar (fun _ h => h)
    rw [Bool.or_eq_true] at hks'
    rintro r (⟨rfl, hnn⟩ | ⟨n, rfl, hn⟩)
    · -- `None`: all arguments are dropped
      have hd : ∀ v ∈ args.map (·.2), DropV v := by
        rcases hks' with h | h
        · exact all_dropV h ha
        · exfalso
          split at h
          · rename_i c s hsorts
            rw [hsorts] at ha
            obtain ⟨x, y, hv, ⟨n, rfl, _⟩, _⟩ := forall2_2 ha
            exact hnn n (by rw [hv]; rfl)
          · cases h
      refine ⟨⟨fun n hn => (by cases hn), fun _ => ⟨covers_allDrop haV hd, ?_, fun _ => rfl,
        fun t ht => (by cases ht), fun _ => hne⟩, hne⟩, (lpost_drop (b := false) hd).2.2⟩
      intro hl
      rcases hkt with h | h
      · exact absurd hl h
      · exact absurd h (by decide)
    · -- accept: the node, followed by a dropped token
      rcases hks' with h | h
      · exfalso
        have hd := all_dropV h ha (.node n) (List.mem_of_mem_head? hn)
        rcases hd with hd | ⟨t, hd, _⟩ <;> cases hd
      · split at h
        · rename_i c s hsorts
          rw [hsorts] at ha
          obtain ⟨x, y, hv, ⟨n', rfl, _⟩, hy⟩ := forall2_2 ha
          rw [hv] at hn haV ⊢
          simp only [List.head?_cons, Option.some.injEq, SVal.node.injEq] at hn
          subst hn
          have hyd := dropV_of_sort h hy
          refine ⟨⟨?_, fun h => (by cases h), hne⟩, ?_⟩
          · intro m hm
            cases hm
            obtain ⟨t1, t2, rfl, h1, h2⟩ := forall2_2 haV
            have c1 : Covers t1 (aleaves n') := h1
            have := Covers.append c1 (h2.drop hyd)
            simpa using this
          · have hyp : pends ([y].flatMap valLeaves) = [] :=
              pends_dropV (by intro v hv'; rw [List.mem_singleton.mp hv']; exact hyd)
            intro id hid
            simp only [List.flatMap_cons, List.flatMap_nil, List.append_nil, pends_append] at hid hyp
            rw [hyp, List.append_nil] at hid
            exact hid
        · cases h
  · exact gen (by decide) (by decide) (lv_word_list hW hab ha)
  · exact gen (by decide) (by decide) (lv_redirection_heredoc hab ha)
  · exact gen (by decide) (by decide) (lv_redirection hab ha)
  · exact gen (by decide) (by decide) (lv_simple_command_element hW hab ha)
  · exact gen (by decide) (by decide) (lv_redirection_list hab ha)
  · exact gen (by decide) (by decide) (lv_simple_command hab ha)
  · exact gen (by decide) (by decide) (lv_command hab ha)
  · exact gen (by decide) (by decide) (lv_shell_command hW hab ha)
  · exact gen (by decide) (by decide) (lv_for_command hW)
  · exact gen (by decide) (by decide) (lv_arith_for_command hW)
  · exact gen (by decide) (by decide) (lv_select_command hW)
  · exact gen (by decide) (by decide) (lv_case_command hW)
  · exact gen (by decide) (by decide) (lv_function_def hW)
  · exact gen (by decide) (by decide) (lv_function_body hab ha)
  · exact gen (by decide) (by decide) (lv_subshell hab ha)
  · exact gen (by decide) (by decide) (lv_group_command hab ha)
  · exact gen (by decide) (by decide) (lv_coproc hW)
  · exact gen (by decide) (by decide) (lv_if_command hW)
  · exact gen (by decide) (by decide) (lv_arith_command hW)
  · exact gen (by decide) (by decide) (lv_cond_command hW)
  · exact gen (by decide) (by decide) (lv_elif_clause (C03.elif_facts hk3 ha).1)
  · exact gen (by decide) (by decide) (lv_case_clause hab ha)
  · exact gen (by decide) (by decide) (lv_pattern_list hab ha (head_none (k_pl.resolve_left (fun h => h rfl)) ha))
  · exact gen (by decide) (by decide) (lv_case_clause_sequence hab ha)
  · exact gen (by decide) (by decide) (lv_pattern hW hab ha)
  · exact gen (by decide) (by decide) (lv_list hab ha (head_none (k_list.resolve_left (fun h => h rfl)) ha))
  · exact gen (by decide) (by decide) (lv_compound_list hab ha (head2_none (k_cl.resolve_left (fun h => h rfl)) ha))
  · exact gen (by decide) (by decide) (lv_list0 hab ha (drop2_none (k_l0.resolve_left (fun h => h rfl)) ha))
  · exact gen (by decide) (by decide) (lv_list1 hab ha (mid_none (k_l1.resolve_left (fun h => h rfl)) ha))
  · exact gen (by decide) (by decide) (lv_simple_list_terminator (all_dropV (k_slt.resolve_left (fun h => h rfl)) ha))
  · obtain ⟨t, hv, hd⟩ := list_terminator_facts (k_lt.resolve_left (fun h => h rfl)) ha
    exact gen (by decide) (by decide) (lv_list_terminator hv hd)
  · exact gen (by decide) (by decide) (lv_newline_list (all_dropV (k_nl.resolve_left (fun h => h rfl)) ha))
  · exact gen (by decide) (by decide) (lv_simple_list hab ha)
  · exact gen (by decide) (by decide) (lv_simple_list1 hab ha (mid_none (k_sl1.resolve_left (fun h => h rfl)) ha))
  · -- p_pipeline_command: a `time` specification in front becomes one leaf at (0, 0)
    have foo := lv_pipeline_command (np := np) hab ha (C03.pipeline_facts hk3 ha)
    suffices bar : ∀ r : SVal × Bool, LPostT (args.map (·.2)) r →
        PostL lhs tss r ∧ PostI (args.map (·.2)) r from
      foo.weaken bar (fun _ h => h)
    intro r hr
    have htime : ∀ n y ts0 rest, args.map (·.2) = [.node n, y] → tss = ts0 :: rest →
        ts0 ≠ [] ∧ ∀ t ∈ ts0, IsTimeTok t := by
      intro n y ts0 rest hv htss
      subst htss
      cases hacc with
      | @cons x _ xs _ h1 h2 =>
        obtain ⟨s1, v1⟩ := x
        simp only [List.map_cons, List.cons.injEq] at hv
        obtain ⟨hv1, hv2⟩ := hv
        have hv1' : v1 = .node n := hv1
        subst hv1'
        have hlen : rhs.length = 2 := by
          rw [← hargs]
          have : (List.map (·.2) xs).length = 1 := by rw [hv2]; rfl
          simp only [List.length_map] at this
          simp [this]
        have hhead : rhs.headD 0 = s1 := by rw [← hargs]; rfl
        rcases hkp with ((h | h) | h) | h
        · exact absurd rfl h
        · exact absurd hlen h
        · exfalso
          rw [hhead] at h
          have hs1 : HasSort (sortOfSymbol s1) (.node n) := by
            rw [← hargs] at ha
            cases ha with
            | cons h3 _ => exact h3
          cases hs : sortOfSymbol s1 with
          | tok ty => rw [hs] at hs1; obtain ⟨t, ht, _⟩ := hs1; cases ht
          | _ => rw [hs] at h; cases h
        · rw [hhead] at h
          exact h1.2.1 h
    have hnop : ∀ n y, args.map (·.2) = [.node n, y] → pends (aleaves n) = [] := by
      intro n y hv
      cases hacc with
      | nil => cases hv
      | @cons x ts0 xs rest h1 h2 =>
        obtain ⟨s1, v1⟩ := x
        have hv1 : v1 = .node n := (List.cons.inj hv).1
        subst hv1
        exact covers_time_nopend h1.1 (htime n y ts0 rest hv rfl).2
    have hcov := hr.2.1 tss haV htime
    refine ⟨⟨fun n hn => by rw [hn] at hcov; exact hcov, fun _ => ⟨accV_of_covers hr.1 hcov, ?_, ?_,
      fun t ht => absurd ht (hr.1 t), fun _ => hne⟩, hne⟩, hr.2.2 hnop⟩
    · intro hl
      rcases hkt with h | h
      · exact absurd hl h
      · exact absurd h (by decide)
    · intro hl
      rcases hki with h | h
      · exact absurd hl h
      · exact absurd h (by decide)
  · exact gen (by decide) (by decide) (lv_pipeline hab ha (mid_none (k_pipe.resolve_left (fun h => h rfl)) ha))
  · -- p_timespec: its tokens are TIME / TIMEOPT / TIMEIGN
    have hks' := k_time.resolve_left (fun h => h rfl)
    unfold timeB at hks'
    simp only [Bool.and_eq_true, Bool.not_eq_true', List.isEmpty_eq_false_iff] at hks'
    have foo := lv_timespec (np := np) (args := args.map (·.2)) hW
    suffices bar : ∀ r : SVal × Bool, LPost (args.map (·.2)) r →
        PostL lhs tss r ∧ PostI (args.map (·.2)) r from
      foo.weaken bar (fun _ h => h)
    intro r hr
    have hcov := hr.2.1 tss haV
    have htv := vals_all (fun _ _ h1 h2 => timeTok_of_sort h1 h2) ha hks'.2
    obtain ⟨ht1, ht2⟩ := time_flat haV htv
    have hne' : args.map (·.2) ≠ [] := by
      intro h
      have := forall2_length ha
      rw [h] at this
      exact hks'.1 (List.length_eq_zero_iff.mp this)
    refine ⟨⟨fun n hn => by rw [hn] at hcov; exact hcov,
      fun _ => ⟨accV_of_covers hr.1 hcov, fun _ => ⟨ht2 hne', ht1⟩, ?_,
        fun t ht => absurd ht (hr.1 t), fun _ => hne⟩, hne⟩, hr.2.2⟩
    intro hl
    rcases hki with h | h
    · exact absurd hl h
    · exact absurd h (by decide)
  · have h0 : args.map (·.2) = [] := by
      have hks' := k_empty.resolve_left (fun h => h rfl)
      have := forall2_length ha
      rw [List.isEmpty_iff.mp hks'] at this
      exact List.length_eq_zero_iff.mp this.symm
    exact gen (by decide) (by decide) (lv_empty h0)
  · cases hab

/-- **every semantic action accounts for the tokens of its arguments** -/
theorem act_leaves {np : NestedParse} {p lhs : Nat} {rhs : List Nat} {args : List (Nat × SVal)}
    {tss : List (List Token)}
    (hprod : realTables.prods[p]? = some (lhs, rhs)) (hargs : args.map (·.1) = rhs) {σ : Srt}
    (hab : absAction (fn p) (rhs.map sortOfSymbol) = some σ)
    (ha : Forall2 HasSort (rhs.map sortOfSymbol) (args.map (·.2)))
    (hacc : Forall2 Acc args tss) :
    Sat (actionCore np (fn p) (args.map (·.2))) (PostL lhs tss) :=
  (act_post hprod hargs hab ha hacc).weaken (fun _ h => h.1) (fun _ h => h)

/-- **every semantic action conserves the pending here-document redirects of its arguments** -/
theorem act_ids {np : NestedParse} {p lhs : Nat} {rhs : List Nat} {args : List (Nat × SVal)}
    {tss : List (List Token)}
    (hprod : realTables.prods[p]? = some (lhs, rhs)) (hargs : args.map (·.1) = rhs) {σ : Srt}
    (hab : absAction (fn p) (rhs.map sortOfSymbol) = some σ)
    (ha : Forall2 HasSort (rhs.map sortOfSymbol) (args.map (·.2)))
    (hacc : Forall2 Acc args tss) :
    Sat (actionCore np (fn p) (args.map (·.2))) (PostI (args.map (·.2))) :=
  (act_post hprod hargs hab ha hacc).weaken (fun _ h => h.2) (fun _ h => h)

end Bashlex.C05
