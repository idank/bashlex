/-
  C05, the link to the executable `Spec.coverOK`, the pure part: what a signature of the EXECUTABLE `Spec.gapsOK` /
  `Spec.coverOK` means, ORDER-FREE.

  `Spec.coverOK s parts = gapsOK s 0 false (sortSpans (leavesL parts))` sorts the leaves with
  `Array.qsort`, which the kernel cannot evaluate.  Nothing about `qsort` is needed beyond
      `SortOK ls`:  `sortSpans ls` is sorted by span start and is a permutation of `ls`
  (decidable, `sortOKb`; true of every correct sorting function).  `gapsOK_sound`: on EVERY
  start-sorted list each reported signature has a geometric reason (`Reason`) that does not
  mention the order of the list:
    leaf-overlap                two leaves (two occurrences), NEITHER a here-document body,
                                `x.start ≤ y.start < x.end`;
    leaf-overlap+heredoc-body   the same with a body among the two;
    gap-not-layout              `c ≤ e`, `c` is 0 or the end of a leaf, `e` the start of a leaf,
                                no leaf meets `[c, e)` (every leaf ends at or before `c` or
                                starts at or after `e`), and `s[c:e]` is not layout;
    trailing-text-not-layout    `c` is 0 or the end of a leaf, every leaf ends at or before `c`,
                                and `s[c:]` is not layout.
  `coverOK_sound`: the same for `Spec.coverOK` under `SortOK (leavesL parts)`.
-/
import Bashlex.Spec.Tree

namespace Bashlex.C05
open Bashlex Bashlex.Spec

abbrev Leaf := Span × Bool

/-- the geometric reason of a signature of `gapsOK`, in terms of the leaves `all` (a list read
    as a multiset: the statement is invariant under permutation, `Reason.perm`) -/
def Reason (s : Str) (all : List Leaf) (v : Viol) : Prop :=
  (v = "leaf-overlap" ∧ ∃ x y r, (x :: y :: r).Perm all ∧ x.2 = false ∧ y.2 = false ∧
    x.1.1 ≤ y.1.1 ∧ y.1.1 < x.1.2) ∨
  (v = "leaf-overlap+heredoc-body" ∧ ∃ x y r, (x :: y :: r).Perm all ∧ (x.2 = true ∨ y.2 = true) ∧
    x.1.1 ≤ y.1.1 ∧ y.1.1 < x.1.2) ∨
  (v = "gap-not-layout" ∧ ∃ c e, c ≤ e ∧ (c = 0 ∨ ∃ x ∈ all, x.1.2 = c) ∧ (∃ y ∈ all, y.1.1 = e) ∧
    (∀ x ∈ all, x.1.2 ≤ c ∨ e ≤ x.1.1) ∧ isLayout (s.length + 1) (Str.slice s c e) = false) ∨
  (v = "trailing-text-not-layout" ∧ ∃ c, (c = 0 ∨ ∃ x ∈ all, x.1.2 = c) ∧
    (∀ x ∈ all, x.1.2 ≤ c) ∧ isLayout (s.length + 1) (s.drop c) = false)

theorem Reason.perm {s : Str} {all all' : List Leaf} {v : Viol} (hp : all.Perm all')
    (h : Reason s all v) : Reason s all' v := by
  have hm : ∀ x, x ∈ all ↔ x ∈ all' := fun x => hp.mem_iff
  rcases h with ⟨rfl, x, y, r, h1, h2⟩ | ⟨rfl, x, y, r, h1, h2⟩ | ⟨rfl, c, e, h1, h2, h3, h4, h5⟩ |
    ⟨rfl, c, h1, h2, h3⟩
  · exact Or.inl ⟨rfl, x, y, r, h1.trans hp, h2⟩
  · exact Or.inr (Or.inl ⟨rfl, x, y, r, h1.trans hp, h2⟩)
  · refine Or.inr (Or.inr (Or.inl ⟨rfl, c, e, h1, ?_, ?_, ?_, h5⟩))
    · rcases h2 with h2 | ⟨x, hx, h2⟩
      · exact Or.inl h2
      · exact Or.inr ⟨x, (hm x).mp hx, h2⟩
    · obtain ⟨y, hy, h3⟩ := h3
      exact ⟨y, (hm y).mp hy, h3⟩
    · intro x hx; exact h4 x ((hm x).mpr hx)
  · refine Or.inr (Or.inr (Or.inr ⟨rfl, c, ?_, ?_, h3⟩))
    · rcases h1 with h1 | ⟨x, hx, h1⟩
      · exact Or.inl h1
      · exact Or.inr ⟨x, (hm x).mp hx, h1⟩
    · intro x hx; exact h2 x ((hm x).mpr hx)

/-- sorted by span start -/
def StartSorted (sl : List Leaf) : Prop := sl.Pairwise (fun a b => a.1.1 ≤ b.1.1)

/-- **every signature `gapsOK` reports on a start-sorted list has its geometric reason**
    (`pre`: the leaves walked so far; `cur`: the largest end among them, attained by a leaf
    whose body flag is `pb`) -/
theorem gapsOK_sound (s : Str) : ∀ (sl pre : List Leaf) (cur : Nat) (pb : Bool),
    StartSorted sl → (∀ x ∈ pre, ∀ y ∈ sl, x.1.1 ≤ y.1.1) → (∀ x ∈ pre, x.1.2 ≤ cur) →
    (cur = 0 ∨ ∃ x ∈ pre, x.1.2 = cur ∧ x.2 = pb) →
    ∀ v ∈ gapsOK s cur pb sl, Reason s (pre ++ sl) v
  | [], pre, cur, pb, _, _, hcur, hatt => by
    intro v hv
    unfold gapsOK at hv
    split at hv
    · cases hv
    · rename_i hl
      simp only [List.mem_singleton] at hv
      subst hv
      refine Or.inr (Or.inr (Or.inr ⟨rfl, cur, ?_, ?_, by simpa using hl⟩))
      · rcases hatt with h | ⟨x, hx, h, _⟩
        · exact Or.inl h
        · exact Or.inr ⟨x, by simpa using hx, h⟩
      · intro x hx; exact hcur x (by simpa using hx)
  | (p, body) :: rest, pre, cur, pb, hs, hpre, hcur, hatt => by
    intro v hv
    unfold gapsOK at hv
    have hs' := List.pairwise_cons.mp hs
    rcases List.mem_append.mp hv with hv | hv
    · -- the signature raised at this leaf
      split at hv
      · rename_i hlt
        simp only [List.mem_singleton] at hv
        have hc0 : cur ≠ 0 := by omega
        rcases hatt with h | ⟨x, hx, hxe, hxb⟩
        · exact absurd h hc0
        · have hxs : x.1.1 ≤ p.1 := hpre x hx (p, body) List.mem_cons_self
          have hperm : (x :: (p, body) :: (pre.erase x ++ rest)).Perm (pre ++ (p, body) :: rest) := by
            have h1 : pre.Perm (x :: pre.erase x) := List.perm_cons_erase hx
            have h2 : (pre ++ (p, body) :: rest).Perm ((x :: pre.erase x) ++ (p, body) :: rest) :=
              h1.append_right _
            refine List.Perm.symm (h2.trans ?_)
            simp only [List.cons_append]
            refine List.Perm.cons x ?_
            exact List.perm_middle
          split at hv
          · rename_i hb
            subst hv
            refine Or.inr (Or.inl ⟨rfl, x, (p, body), _, hperm, ?_, hxs, by rw [hxe]; exact hlt⟩)
            rw [hxb]
            simpa using hb
          · rename_i hb
            subst hv
            have hb' : pb = false ∧ body = false := by simpa using hb
            exact Or.inl ⟨rfl, x, (p, body), _, hperm, by rw [hxb]; exact hb'.1, hb'.2, hxs,
              by rw [hxe]; exact hlt⟩
      · rename_i hge
        split at hv
        · cases hv
        · rename_i hl
          simp only [List.mem_singleton] at hv
          subst hv
          refine Or.inr (Or.inr (Or.inl ⟨rfl, cur, p.1, by omega, ?_, ⟨(p, body), by simp, rfl⟩, ?_,
            by simpa using hl⟩))
          · rcases hatt with h | ⟨x, hx, h, _⟩
            · exact Or.inl h
            · exact Or.inr ⟨x, List.mem_append_left _ hx, h⟩
          · intro x hx
            rcases List.mem_append.mp hx with hx | hx
            · exact Or.inl (hcur x hx)
            · rcases List.mem_cons.mp hx with rfl | hx
              · exact Or.inr (Nat.le_refl _)
              · exact Or.inr (hs'.1 x hx)
    · -- later leaves
      have ih := gapsOK_sound s rest (pre ++ [(p, body)]) (max cur p.2)
        (if p.2 ≥ cur then body else pb) hs'.2 ?_ ?_ ?_ v hv
      · simpa [List.append_assoc] using ih
      · intro x hx y hy
        rcases List.mem_append.mp hx with hx | hx
        · exact hpre x hx y (List.mem_cons_of_mem _ hy)
        · simp only [List.mem_singleton] at hx
          subst hx
          exact hs'.1 y hy
      · intro x hx
        rcases List.mem_append.mp hx with hx | hx
        · have := hcur x hx; omega
        · simp only [List.mem_singleton] at hx
          subst hx
          exact Nat.le_max_right _ _
      · by_cases hge : p.2 ≥ cur
        · rw [if_pos hge]
          refine Or.inr ⟨(p, body), by simp, ?_, rfl⟩
          show p.2 = max cur p.2
          omega
        · rw [if_neg hge]
          rcases hatt with h | ⟨x, hx, h1, h2⟩
          · omega
          · refine Or.inr ⟨x, List.mem_append_left _ hx, ?_, h2⟩
            rw [h1]; omega

/-! ## the sorting function of the specification -/

def sortedB : List Leaf → Bool
  | a :: b :: rest => decide (a.1.1 ≤ b.1.1) && sortedB (b :: rest)
  | _ => true

/-- consecutive order implies pairwise order (`≤` is transitive) -/
theorem sortedB_sound : ∀ (l : List Leaf), sortedB l = true → StartSorted l
  | [], _ => List.Pairwise.nil
  | [a], _ => List.pairwise_singleton _ _
  | a :: b :: rest, h => by
    simp only [sortedB, Bool.and_eq_true, decide_eq_true_eq] at h
    have ih := sortedB_sound (b :: rest) h.2
    refine List.pairwise_cons.mpr ⟨?_, ih⟩
    intro y hy
    rcases List.mem_cons.mp hy with rfl | hy
    · exact h.1
    · have := (List.pairwise_cons.mp ih).1 y hy
      omega

/-- **the decidable per-input condition on `Array.qsort`** (the kernel cannot evaluate it;
    `#eval` can): the list `sortSpans` returns is sorted by start and is a permutation -/
def sortOKb (ls : List Leaf) : Bool := sortedB (sortSpans ls) && (sortSpans ls).isPerm ls

def SortOK (ls : List Leaf) : Prop := sortOKb ls = true

instance (ls : List Leaf) : Decidable (SortOK ls) := by unfold SortOK; infer_instance

theorem SortOK.sorted {ls : List Leaf} (h : SortOK ls) : StartSorted (sortSpans ls) := by
  unfold SortOK sortOKb at h
  rw [Bool.and_eq_true] at h
  exact sortedB_sound _ h.1

theorem SortOK.perm {ls : List Leaf} (h : SortOK ls) : (sortSpans ls).Perm ls := by
  unfold SortOK sortOKb at h
  rw [Bool.and_eq_true] at h
  exact List.isPerm_iff.mp h.2

/-- **every signature of the executable `Spec.coverOK` has its geometric reason**, in terms of
    the leaves of the parts, whatever their order -/
theorem coverOK_sound (s : Str) (parts : List Node) (h : SortOK (leavesL parts)) :
    ∀ v ∈ coverOK s parts, Reason s (leavesL parts) v := by
  intro v hv
  have := gapsOK_sound s (sortSpans (leavesL parts)) [] 0 false h.sorted
    (fun x hx => by cases hx) (fun x hx => by cases hx) (Or.inl rfl) v hv
  exact Reason.perm (by simpa using h.perm) this

/-- hence: if no two leaves other than here-document bodies overlap, `leaf-overlap` is not
    reported -/
theorem coverOK_no_plain_overlap (s : Str) (parts : List Node) (h : SortOK (leavesL parts))
    (hdis : ∀ x y r, (x :: y :: r).Perm (leavesL parts) → x.2 = false → y.2 = false →
      x.1.1 ≤ y.1.1 → ¬ y.1.1 < x.1.2) : "leaf-overlap" ∉ coverOK s parts := by
  intro hv
  rcases coverOK_sound s parts h _ hv with ⟨_, x, y, r, h1, h2, h3, h4, h5⟩ | ⟨h0, _⟩ | ⟨h0, _⟩ |
    ⟨h0, _⟩
  · exact hdis x y r h1 h2 h3 h4 h5
  · exact absurd h0 (by decide)
  · exact absurd h0 (by decide)
  · exact absurd h0 (by decide)

/-- and: if every interval between leaf boundaries that meets no leaf is layout,
    `gap-not-layout` is not reported -/
theorem coverOK_no_gap (s : Str) (parts : List Node) (h : SortOK (leavesL parts))
    (hgap : ∀ c e, c ≤ e → (c = 0 ∨ ∃ x ∈ leavesL parts, x.1.2 = c) →
      (∃ y ∈ leavesL parts, y.1.1 = e) → (∀ x ∈ leavesL parts, x.1.2 ≤ c ∨ e ≤ x.1.1) →
      isLayout (s.length + 1) (Str.slice s c e) = true) : "gap-not-layout" ∉ coverOK s parts := by
  intro hv
  rcases coverOK_sound s parts h _ hv with ⟨h0, _⟩ | ⟨h0, _⟩ | ⟨_, c, e, h1, h2, h3, h4, h5⟩ |
    ⟨h0, _⟩
  · exact absurd h0 (by decide)
  · exact absurd h0 (by decide)
  · rw [hgap c e h1 h2 h3 h4] at h5; cases h5
  · exact absurd h0 (by decide)

/-- **what is left of the link to `Spec.coverOK`, as a named hypothesis**: the geometry of the leaves of ALL parts of a
    result -- leaves other than here-document bodies do not overlap; every interval between leaf
    boundaries that meets no leaf is layout; the text behind the last leaf is layout.
    (`Props/C05Final.lean` proves the first two for the leaves of ONE run without bodies,
    `run_gapsOK`, and the third for the run that ends the loop, `CharsNone`; the glue between
    consecutive runs is missing.) -/
structure CoverGeometry (s : Str) (ls : List Leaf) : Prop where
  plain : ∀ x y r, (x :: y :: r).Perm ls → x.2 = false → y.2 = false → x.1.1 ≤ y.1.1 →
    ¬ y.1.1 < x.1.2
  gaps : ∀ c e, c ≤ e → (c = 0 ∨ ∃ x ∈ ls, x.1.2 = c) → (∃ y ∈ ls, y.1.1 = e) →
    (∀ x ∈ ls, x.1.2 ≤ c ∨ e ≤ x.1.1) → isLayout (s.length + 1) (Str.slice s c e) = true
  trailing : ∀ c, (c = 0 ∨ ∃ x ∈ ls, x.1.2 = c) → (∀ x ∈ ls, x.1.2 ≤ c) →
    isLayout (s.length + 1) (s.drop c) = true

/-- under the geometry (and `SortOK`), the executable `Spec.coverOK` reports nothing but the
    recorded defect D11 (`leaf-overlap+heredoc-body`) -/
theorem C05_coverOK_conditional (s : Str) (parts : List Node) (hs : SortOK (leavesL parts))
    (hg : CoverGeometry s (leavesL parts)) :
    ∀ v ∈ coverOK s parts, v = "leaf-overlap+heredoc-body" := by
  intro v hv
  rcases coverOK_sound s parts hs v hv with ⟨_, x, y, r, h1, h2, h3, h4, h5⟩ | ⟨h0, _⟩ |
    ⟨_, c, e, h1, h2, h3, h4, h5⟩ | ⟨_, c, h1, h2, h3⟩
  · exact absurd h5 (hg.plain x y r h1 h2 h3 h4)
  · exact h0
  · rw [hg.gaps c e h1 h2 h3 h4] at h5; cases h5
  · rw [hg.trailing c h1 h2] at h3; cases h3

end Bashlex.C05

#print axioms Bashlex.C05.C05_coverOK_conditional
#print axioms Bashlex.C05.gapsOK_sound
#print axioms Bashlex.C05.coverOK_sound
