/-
  C05, character level, tight form: the chain read from the front (`ChainL`), what lies
  between two consecutive tokens, the link to `Spec.isLayout`, and the witness that the
  per-position predicate `PosLay` is over-approximate.
-/
import Bashlex.Props.C05.FChain

namespace Bashlex.C05.TGT
open Bashlex Bashlex.M Bashlex.C10 Bashlex.C11 Bashlex.C03 Bashlex.C03.Tok Bashlex.C04
  Bashlex.C04.TTP Bashlex.C05 Bashlex.C05.TG
set_option linter.unusedSimpArgs false
set_option linter.unusedVariables false

/-- **one call of `token()`** entered at cursor `i0`, delivering `t`, leaving the cursor at `e`:
    the text from `i0` to the start of `t` is a `Skip` -- ANCHORED at the entry cursor --;
    a token other than NEWLINE / EOF ends at `e` inside the line; a NEWLINE token sits on a
    newline and the rest of its span is a region `gatherheredocuments` consumed; EOF: the skip
    runs to the end of the line -/
def Deliv (L : Str) (st : List RedirCell) (i0 : Nat) (t : Token) (e : Nat) : Prop :=
  (∃ a, Skip L i0 a ∧ t.pos = some (a, e) ∧ a < e ∧
    ((NN t ∧ e ≤ L.length) ∨
     (t.ttype = some .NEWLINE ∧ L[a]? = some '\n' ∧ GRegT L st (a + 1) e))) ∨
  (t = eofTok ∧ Skip L i0 L.length ∧ e = L.length)

/-- **the chain, read from the front**: from cursor `i`, regions consumed by
    `gatherheredocuments` (`p_simple_list`), then one call of `token()`, and so on; after the
    last token only such regions, up to the cursor `c` -/
def ChainL (L : Str) (st : List RedirCell) : Nat → List Token → Nat → Prop
  | i, [], c => i ≤ c ∧ GRegT L st i c
  | i, t :: ts, c => ∃ i' e, i ≤ i' ∧ GRegT L st i i' ∧ Deliv L st i' t e ∧ ChainL L st e ts c

theorem ChainL.gath {L : Str} {st : List RedirCell} : ∀ {ts : List Token} {i c c' : Nat},
    ChainL L st i ts c → c ≤ c' → GRegT L st c c' → ChainL L st i ts c'
  | [], i, c, c', h, h1, h2 => ⟨Nat.le_trans h.1 h1, h.2.trans h2⟩
  | t :: ts, i, c, c', h, h1, h2 => by
    obtain ⟨i', e, a1, a2, a3, a4⟩ := h
    exact ⟨i', e, a1, a2, a3, ChainL.gath a4 h1 h2⟩

theorem ChainL.snoc {L : Str} {st : List RedirCell} {t : Token} {e : Nat} :
    ∀ {ts : List Token} {i c : Nat}, ChainL L st i ts c → Deliv L st c t e →
      ChainL L st i (ts ++ [t]) e
  | [], i, c, h, hd => ⟨c, e, h.1, h.2, hd, Nat.le_refl e, GRegT.refl L st e⟩
  | t' :: ts, i, c, h, hd => by
    obtain ⟨i', e', a1, a2, a3, a4⟩ := h
    exact ⟨i', e', a1, a2, a3, ChainL.snoc a4 hd⟩

/-- the chain of `Props/C05/FChain.lean`, read from the front -/
theorem Chain.toL {L : Str} {st : List RedirCell} {ts : List Token} {c : Nat}
    (h : Chain L st ts c) : ChainL L st 0 ts c := by
  induction h with
  | nil => exact ⟨Nat.le_refl 0, GRegT.refl L st 0⟩
  | tok _ h1 h2 h3 h4 h5 ih =>
    exact ih.snoc (Or.inl ⟨_, h1, h2, h3, Or.inl ⟨h5, h4⟩⟩)
  | nl _ h1 h2 h3 h4 h5 h6 ih =>
    exact ih.snoc (Or.inl ⟨_, h1, h2, h3, Or.inr ⟨h4, h5, h6⟩⟩)
  | eof _ h1 ih => exact ih.snoc (Or.inr ⟨rfl, h1, rfl⟩)
  | gath _ h1 h2 ih => exact ih.gath h1 h2

/-- splitting the chain at any point of the log -/
theorem ChainL.split {L : Str} {st : List RedirCell} : ∀ {a b : List Token} {i c : Nat},
    ChainL L st i (a ++ b) c → ∃ m, ChainL L st i a m ∧ ChainL L st m b c
  | [], b, i, c, h => ⟨i, ⟨Nat.le_refl i, GRegT.refl L st i⟩, h⟩
  | t :: a, b, i, c, h => by
    obtain ⟨i', e, a1, a2, a3, a4⟩ := h
    obtain ⟨m, h1, h2⟩ := ChainL.split a4
    exact ⟨m, ⟨i', e, a1, a2, a3, h1⟩, h2⟩

theorem ChainL.le {L : Str} {st : List RedirCell} : ∀ {ts : List Token} {i c : Nat},
    ChainL L st i ts c → i ≤ c
  | [], i, c, h => h.1
  | t :: ts, i, c, h => by
    obtain ⟨i', e, a1, a2, a3, a4⟩ := h
    have := ChainL.le a4
    have : i' ≤ e := by
      rcases a3 with ⟨a, h1, h2, h3, _⟩ | ⟨_, h1, h2⟩
      · have := h1.le; omega
      · have := h1.le; omega
    omega

/-- **what lies between two consecutive tokens** `t1` (ending at `e1`) and `t2` (starting at
    `a2`), neither EOF: regions consumed by `gatherheredocuments` from `e1` to some `x`, then a
    `Skip` from `x` to `a2`.  The `Skip` is anchored: it starts where the token (or the last
    region) ends. -/
def Gap (L : Str) (st : List RedirCell) (x y : Nat) : Prop :=
  ∃ x', x ≤ x' ∧ GRegT L st x x' ∧ Skip L x' y

theorem Deliv.pos {L : Str} {st : List RedirCell} {i0 e : Nat} {t : Token}
    (h : Deliv L st i0 t e) {a b : Nat} (hp : t.pos = some (a, b)) :
    b = e ∧ a < e ∧ Skip L i0 a := by
  rcases h with ⟨a', h1, h2, h3, _⟩ | ⟨rfl, _, _⟩
  · rw [hp] at h2
    cases h2
    exact ⟨rfl, h3, h1⟩
  · cases hp

/-- the gap before the first token -/
theorem ChainL.first {L : Str} {st : List RedirCell} {t : Token} {ts : List Token} {i c a b : Nat}
    (h : ChainL L st i (t :: ts) c) (hp : t.pos = some (a, b)) :
    Gap L st i a ∧ ChainL L st b ts c := by
  obtain ⟨i', e, a1, a2, a3, a4⟩ := h
  obtain ⟨rfl, _, hsk⟩ := a3.pos hp
  exact ⟨⟨i', a1, a2, hsk⟩, a4⟩

/-- **between two consecutive positioned tokens of the log** -/
theorem ChainL.consec {L : Str} {st : List RedirCell} {pre post : List Token} {t1 t2 : Token}
    {i c a1 b1 a2 b2 : Nat} (h : ChainL L st i (pre ++ t1 :: t2 :: post) c)
    (hp1 : t1.pos = some (a1, b1)) (hp2 : t2.pos = some (a2, b2)) :
    Gap L st b1 a2 := by
  obtain ⟨m, _, h2⟩ := ChainL.split h
  obtain ⟨_, h3⟩ := h2.first hp1
  exact (h3.first hp2).1

/-- a gap without a gathered region is layout in the sense of the specification -/
theorem Gap.isLayout {L : Str} {st : List RedirCell} {x y : Nat} (h : Skip L x y) :
    Spec.isLayout (L.length + 1) (Str.slice L x y) = true := skip_isLayout h

/-- the regions of a gap: per position, layout or inside a gathered body; the `Skip`: layout in
    the sense of the specification -/
theorem Gap.parts {L : Str} {st : List RedirCell} {x y : Nat} (h : Gap L st x y) :
    ∃ x', x ≤ x' ∧ x' ≤ y ∧ (∀ p, x ≤ p → p < x' → p < L.length → PosPN L p ∨ InBody st p) ∧
      Spec.isLayout (L.length + 1) (Str.slice L x' y) = true := by
  obtain ⟨x', h1, h2, h3⟩ := h
  exact ⟨x', h1, h3.le, h2, skip_isLayout h3⟩

/-! ## `PosLay` is over-approximate (why the chain is needed) -/

/-- in `a#b c` the position of the word `c` is `PosLay`: `[1, 5)` is a `Skip` of the TEXT (an
    empty run of blanks, then `#b c` up to the newline), although `#` is in the middle of the
    word `a#b` and `c` is a token.  `C05_chars_checked`, a statement per position, cannot notice a
    token dropped behind a `#` on the same line; the chain can: a `Skip` starts where a token
    ends. -/
theorem posLay_overapprox : PosLay "a#b c\n".toList 4 ∧ "a#b c\n".toList[4]? = some 'c' := by
  refine ⟨Or.inr ⟨1, 5, by omega, by omega, 1, BlankRun.refl _ (by decide), Or.inr ?_⟩, by decide⟩
  refine ⟨by omega, by decide, ?_, by decide⟩
  intro k h1 h2
  have : k = 1 ∨ k = 2 ∨ k = 3 ∨ k = 4 := by omega
  rcases this with rfl | rfl | rfl | rfl <;> decide

end Bashlex.C05.TGT

namespace Bashlex.C05
open Bashlex Bashlex.Spec Bashlex.C05.TG Bashlex.C05.TGT
set_option linter.unusedVariables false

/-- `ChainOK` with the chain read from the front -/
theorem ChainOK.front {s0 : Str} {n : Node} (h : ChainOK s0 n) :
    ∃ (ts la : List Token) (B : Nat) (st : List RedirCell),
      la.length ≤ 1 ∧ NoEOF ts ∧ TokSorted ts ∧ FCovers s0.length ts (Spec.leaves n) ∧
      (∃ la' c, (la' = la ∨ la' = []) ∧ ChainL (Tape.ofInput s0).line st 0 (ts ++ la') c ∧
        (c = B ∨ ((Tape.ofInput s0).line.length < c ∧ (Tape.ofInput s0).line.length < B))) ∧
      ((∃ t ∈ la, t.pos = none) → (Tape.ofInput s0).line.length ≤ B) := by
  obtain ⟨ts, la, B, st, h1, h2, h3, h4, ⟨la', c, g1, g2, g3⟩, h6⟩ := h
  exact ⟨ts, la, B, st, h1, h2, h3, h4, ⟨la', c, g1, g2.toL, g3⟩, h6⟩

end Bashlex.C05

#print axioms Bashlex.C05.TGT.Chain.toL
#print axioms Bashlex.C05.TGT.ChainL.consec
#print axioms Bashlex.C05.TGT.posLay_overapprox
