/-
  C05, character level: the region `gatherheredocuments` consumes, from C10's reader
  equations (`gather_spec`, `specGather_cons`, `specHeredoc_cursor`): continuation pairs skipped by
  `_peekc`, the body (recorded in the store), the newline of the delimiter line -- repeated for
  every queued redirect.  The ids queued must be distinct (C03's `PendOK`), so that no body
  attached is overwritten.
  The region is TIGHT (`TGT.GRegT`): per position a newline, the backslash of a backslash-newline
  pair (`PosPN`) -- NOT "any character after a `#`" as `PosLay` allows --, or a position inside a
  here-document body recorded in the store.  `TG.gather_reg` (regions of `PosLay` positions,
  `GReg`) is what is left of it after `GRegT.loose`.
-/
import Bashlex.Props.C05.TGDefs
import Bashlex.Props.C10
import Bashlex.Props.C03.TokSpans

namespace Bashlex.C05.TG
open Bashlex Bashlex.C04 Bashlex.C10 Bashlex.C11

/-- what `skipCont` drops is a run of pairs -/
theorem skipCont_del : ∀ (s : Str), ∃ pre, s = pre ++ skipCont s ∧ Del pre []
  | [] => ⟨[], rfl, .nil⟩
  | [c] => ⟨[], rfl, .nil⟩
  | c :: d :: rest => by
    simp only [skipCont]
    split
    · rename_i h
      obtain ⟨rfl, rfl⟩ := h
      obtain ⟨pre, h1, h2⟩ := skipCont_del rest
      refine ⟨'\\' :: '\n' :: pre, ?_, .skip h2⟩
      simp only [List.cons_append, List.cons.injEq, true_and]
      exact h1
    · exact ⟨[], rfl, .nil⟩

theorem slice_of_drop {L pre r : Str} {i : Nat} (hi : i ≤ L.length) (h : L.drop i = pre ++ r) :
    Str.slice L i (i + pre.length) = pre := by
  have hL : L = L.take i ++ (pre ++ r) := by rw [← h, List.take_append_drop]
  unfold Str.slice
  have htake : L.take (i + pre.length) = L.take i ++ pre := by
    conv => lhs; rw [hL, ← List.append_assoc]
    rw [List.take_left' (by simp [List.length_take]; omega)]
  rw [htake, List.drop_left' (by simp [List.length_take]; omega)]

/-- the cursor after the pairs `_peekc` skips, and the text skipped -/
theorem skipContIdx_facts (L : Str) {i : Nat} (hi : i ≤ L.length) :
    i ≤ skipContIdx L i ∧ skipContIdx L i ≤ L.length ∧
      Del (Str.slice L i (skipContIdx L i)) [] := by
  obtain ⟨pre, h1, h2⟩ := skipCont_del (L.drop i)
  have hlen : (L.drop i).length = pre.length + (skipCont (L.drop i)).length := by
    conv => lhs; rw [h1]
    rw [List.length_append]
  rw [List.length_drop] at hlen
  have hx : skipContIdx L i = i + pre.length := by
    unfold skipContIdx posOf; omega
  rw [hx]
  refine ⟨Nat.le_add_right _ _, by omega, ?_⟩
  rw [slice_of_drop hi h1]; exact h2

/-- the line is empty or ends in a newline -/
def LastNL (L : Str) : Prop := L ≠ [] → L.getLast? = some '\n'

end Bashlex.C05.TG

namespace Bashlex.C05.TGT
open Bashlex Bashlex.C04 Bashlex.C10 Bashlex.C11 Bashlex.C05 Bashlex.C05.TG

/-- position `p` of the line is a newline or the backslash of a backslash-newline pair -/
def PosPN (L : Str) (p : Nat) : Prop :=
  L[p]? = some '\n' ∨ (L[p]? = some '\\' ∧ L[p + 1]? = some '\n')

/-- the region `gatherheredocuments` consumes, tight -/
def GRegT (L : Str) (st : List RedirCell) (c c' : Nat) : Prop :=
  ∀ p, c ≤ p → p < c' → p < L.length → PosPN L p ∨ InBody st p

theorem GRegT.refl (L : Str) (st : List RedirCell) (c : Nat) : GRegT L st c c :=
  fun p h1 h2 _ => absurd h2 (by omega)

theorem GRegT.trans {L : Str} {st : List RedirCell} {a b c : Nat} (h1 : GRegT L st a b)
    (h2 : GRegT L st b c) : GRegT L st a c := by
  intro p hp1 hp2 hp3
  by_cases h : p < b
  · exact h1 p hp1 h hp3
  · exact h2 p (by omega) hp2 hp3

theorem GRegT.mono {L : Str} {st st' : List RedirCell} {a b : Nat} (h : GRegT L st a b)
    (hs : ∀ p, InBody st p → InBody st' p) : GRegT L st' a b := by
  intro p h1 h2 h3
  rcases h p h1 h2 h3 with h | h
  · exact Or.inl h
  · exact Or.inr (hs p h)

theorem posPN_posLay {L : Str} {p : Nat} (h : PosPN L p) : PosLay L p := by
  rcases h with h | ⟨h1, h2⟩
  · exact Or.inl h
  · exact posLay_of_skip (pair_skip h1 h2) (Nat.le_refl _) (by omega)

/-- forgetting tightness -/
theorem GRegT.loose {L : Str} {st : List RedirCell} {a b : Nat} (h : GRegT L st a b) :
    GReg L st a b := by
  intro p h1 h2 h3
  rcases h p h1 h2 h3 with h | h
  · exact Or.inl (posPN_posLay h)
  · exact Or.inr h

theorem del_nil_pos : ∀ {s w : Str}, Del s w → w = [] → ∀ i, i < s.length →
    s[i]? = some '\n' ∨ (s[i]? = some '\\' ∧ s[i + 1]? = some '\n') := by
  intro s w h
  induction h with
  | nil => intro _ i hi; simp at hi
  | keep c h ih => intro hw; cases hw
  | @skip s w h ih =>
    intro hw i hi
    cases i with
    | zero => exact Or.inr ⟨rfl, rfl⟩
    | succ j =>
      cases j with
      | zero => exact Or.inl rfl
      | succ j =>
        simp only [List.length_cons] at hi
        have := ih hw j (by omega)
        simpa using this

/-- a position inside a run of pairs -/
theorem posPN_of_del {L : Str} {a b p : Nat} (h1 : a ≤ b) (h2 : b ≤ L.length)
    (h3 : Del (Str.slice L a b) []) (hp1 : a ≤ p) (hp2 : p < b) : PosPN L p := by
  have hlen : (Str.slice L a b).length = b - a := C04.slice_length L h2
  have := del_nil_pos h3 rfl (p - a) (by rw [hlen]; omega)
  have e1 : a + (p - a) = p := by omega
  rcases this with hc | ⟨hc1, hc2⟩
  · rw [slice_getElem? L (by omega), e1] at hc
    exact Or.inl hc
  · rw [slice_getElem? L (by omega), e1] at hc1
    have hlt : p - a + 1 < (Str.slice L a b).length := by
      apply Classical.byContradiction
      intro hx
      rw [List.getElem?_eq_none (by omega)] at hc2
      cases hc2
    rw [slice_getElem? L (by rw [hlen] at hlt; omega)] at hc2
    have e2 : a + (p - a + 1) = p + 1 := by omega
    rw [e2] at hc2
    exact Or.inr ⟨hc1, hc2⟩

/-- what a finished call of `gatherheredocuments` did -/
def GOut (L : Str) (q : List (Nat × Bool)) (store : List RedirCell) (idx : Nat) :
    GatherOutI → Prop
  | .done store' idx' => idx ≤ idx' ∧ idx' ≤ L.length ∧ GRegT L store' idx idx' ∧
      ∀ j, j ∉ q.map Prod.fst → store'[j]? = store[j]?
  | .stopped store' _ => GRegT L store' idx (L.length + 1) ∧
      ∀ j, j ∉ q.map Prod.fst → store'[j]? = store[j]?
  | _ => True

theorem attach_heredoc (cell : RedirCell) (x y : Nat) (v : Str) :
    (attach cell x y v).heredoc = some ((x, y), v) := rfl

theorem specGather_reg (L : Str) (hl : LastNL L) (strict : Bool) :
    ∀ (q : List (Nat × Bool)) (store : List RedirCell) (idx : Nat), idx ≤ L.length →
      (q.map Prod.fst).Nodup → GOut L q store idx (specGather L strict q store idx)
  | [], store, idx, hi, _ => by
    rw [specGather_nil L strict store hi]
    exact ⟨Nat.le_refl _, hi, GRegT.refl _ _ _, fun _ _ => rfl⟩
  | (id, kill) :: q, store, idx, hi, hnd => by
    rw [specGather_cons]
    obtain ⟨k1, k2, k3⟩ := skipContIdx_facts L hi
    have hpre : ∀ st, GRegT L st idx (skipContIdx L idx) := fun st p hp1 hp2 _ =>
      Or.inl (posPN_of_del k1 k2 k3 hp1 hp2)
    simp only [List.map_cons, List.nodup_cons] at hnd
    obtain ⟨hid, hnd'⟩ := hnd
    split
    · rename_i hstop
      refine ⟨?_, fun _ _ => rfl⟩
      intro p hp1 hp2 hp3
      exact hpre _ p hp1 (by rw [hstop.1]; exact hp3) hp3
    · cases hcell : store[id]? with
      | none => exact True.intro
      | some cell =>
        simp only []
        cases hh : specHeredoc L (skipContIdx L idx) cell.delim kill with
        | none => exact True.intro
        | some w =>
          obtain ⟨v, i⟩ := w
          simp only []
          obtain ⟨c1, c2, c3⟩ := specHeredoc_cursor hh
          have hnlast : L[i - 1]? = some '\n' := by
            rcases c3 with c3 | c3
            · exact c3
            · have hne : L ≠ [] := by
                intro h0; rw [h0] at c2; simp at c2; omega
              rw [c3, ← List.getLast?_eq_getElem?]; exact hl hne
          have ih := specGather_reg L hl strict q
            (store.set id (attach cell (skipContIdx L idx) (i - 1) v)) i c2 hnd'
          have hidlt : id < store.length := (List.getElem?_eq_some_iff.mp hcell).1
          -- the cell `id` of the final store carries the body
          have hbody : ∀ store' : List RedirCell, (∀ j, j ∉ q.map Prod.fst → store'[j]? =
              (store.set id (attach cell (skipContIdx L idx) (i - 1) v))[j]?) →
              GRegT L store' idx i := by
            intro store' hfr p hp1 hp2 hp3
            by_cases hpx : p < skipContIdx L idx
            · exact hpre _ p hp1 hpx hp3
            · by_cases hpi : p = i - 1
              · left; left; rw [hpi]; exact hnlast
              · right
                have hc : store'[id]? = some (attach cell (skipContIdx L idx) (i - 1) v) := by
                  rw [hfr id hid, List.getElem?_set_self hidlt]
                exact ⟨_, List.mem_of_getElem? hc, _, _, _, attach_heredoc _ _ _ _,
                  by omega, by omega⟩
          have hframe : ∀ store' : List RedirCell, (∀ j, j ∉ q.map Prod.fst → store'[j]? =
              (store.set id (attach cell (skipContIdx L idx) (i - 1) v))[j]?) →
              ∀ j, j ∉ (id :: q.map Prod.fst) → store'[j]? = store[j]? := by
            intro store' hfr j hj
            simp only [List.mem_cons, not_or] at hj
            rw [hfr j hj.2, List.getElem?_set_ne (Ne.symm hj.1)]
          revert ih
          cases specGather L strict q (store.set id (attach cell (skipContIdx L idx) (i - 1) v)) i with
          | done store' idx' =>
            rintro ⟨d1, d2, d3, d4⟩
            exact ⟨by omega, d2, (hbody store' d4).trans d3, hframe store' d4⟩
          | stopped store' q' =>
            rintro ⟨d1, d2⟩
            exact ⟨(hbody store' d2).trans d1, hframe store' d2⟩
          | eof d => exact fun _ => True.intro
          | badId j => exact fun _ => True.intro

/-! ## the triple -/

theorem tapeOf_gres (l : Local) (e : Env) (i : Nat) (q : List (Nat × Bool))
    (st : List RedirCell) :
    tapeOf ({ atL l e i with redirstack := q, store := st }) (atE l e i) =
      { tapeOf l e with idx := i } := by
  unfold atL atE
  cases l with
  | mk tape => cases tape <;> rfl

theorem gres_eol (l : Local) (e : Env) (i : Nat) (q : List (Nat × Bool)) (st : List RedirCell) :
    ({ atL l e i with redirstack := q, store := st } : Local).eolLookahead = l.eolLookahead := by
  unfold atL
  cases l with
  | mk tape => cases tape <;> rfl

theorem gres_positions (l : Local) (e : Env) (i : Nat) (q : List (Nat × Bool))
    (st : List RedirCell) :
    ({ atL l e i with redirstack := q, store := st } : Local).positions = l.positions := by
  unfold atL
  cases l with
  | mk tape => cases tape <;> rfl

/-- the state after `gatherheredocuments` entered at cursor `c` -/
def GathQ (L : Str) (ps : List Nat) (c : Nat) (l : Local) (e : Env) : Prop :=
  (tapeOf l e).line = L ∧ l.eolLookahead = none ∧ l.positions = ps ∧ c ≤ (tapeOf l e).idx ∧
    GRegT L l.store c (tapeOf l e).idx

/-- the line ends in a newline: no final backslash -/
theorem lastNL_nbs {L : Str} (h : LastNL L) : NoFinalBackslash L := by
  unfold NoFinalBackslash
  intro hb
  have hne : L ≠ [] := by intro h0; rw [h0] at hb; cases hb
  rw [h hne] at hb
  cases hb

/-- **`gatherheredocuments`** from an exact cursor `c` inside the line, distinct ids queued:
    the cursor moves forward over a `GRegT` region -/
theorem gather_reg {L : Str} {ps : List Nat} {c : Nat} (hl : LastNL L)
    (hlen : L.length < 1073741824) :
    HT (fun l e => (tapeOf l e).line = L ∧ (tapeOf l e).idx = c ∧ c ≤ L.length ∧
          l.eolLookahead = none ∧ l.positions = ps ∧ (l.redirstack.map Prod.fst).Nodup)
      gatherheredocuments (fun _ l e => GathQ L ps c l e) C03.Tok.ET := by
  rintro l e ⟨a1, a2, a3, a4, a5, a6⟩
  have hready : Ready l e :=
    ⟨a4, by rw [a1, a2]; exact a3, by rw [a1]; exact hlen, by rw [a1]; exact lastNL_nbs hl⟩
  rw [gather_spec hready, a1, a2]
  have key := specGather_reg L hl (strictOf l e) l.redirstack l.store c a3 a6
  revert key
  cases specGather L (strictOf l e) l.redirstack l.store c with
  | done store' idx' =>
    rintro ⟨d1, d2, d3, _⟩
    simp only [gatherResultI]
    refine ⟨?_, ?_, ?_, ?_, ?_⟩
    · rw [tapeOf_gres]; exact a1
    · rw [gres_eol]; exact a4
    · rw [gres_positions]; exact a5
    · rw [tapeOf_gres]; exact d1
    · rw [tapeOf_gres]; exact d3
  | stopped store' q' =>
    rintro ⟨d1, _⟩
    simp only [gatherResultI]
    refine ⟨?_, ?_, ?_, ?_, ?_⟩
    · rw [tapeOf_gres]; exact a1
    · rw [gres_eol]; exact a4
    · rw [gres_positions]; exact a5
    · rw [tapeOf_gres]; show c ≤ (tapeOf l e).line.length + 1; rw [a1]; omega
    · rw [tapeOf_gres]; show GRegT L store' c ((tapeOf l e).line.length + 1); rw [a1]; exact d1
  | eof d => intro _; simp only [gatherResultI]; exact True.intro
  | badId j => intro _; simp only [gatherResultI]; exact True.intro

end Bashlex.C05.TGT

namespace Bashlex.C05.TG
open Bashlex Bashlex.C04 Bashlex.C10 Bashlex.C11

/-- the state after `gatherheredocuments` entered at cursor `c` -/
def GathQ (L : Str) (ps : List Nat) (c : Nat) (l : Local) (e : Env) : Prop :=
  (tapeOf l e).line = L ∧ l.eolLookahead = none ∧ l.positions = ps ∧ c ≤ (tapeOf l e).idx ∧
    GReg L l.store c (tapeOf l e).idx

theorem GathQ.ofTight {L : Str} {ps : List Nat} {c : Nat} {l : Local} {e : Env}
    (h : TGT.GathQ L ps c l e) : GathQ L ps c l e :=
  ⟨h.1, h.2.1, h.2.2.1, h.2.2.2.1, h.2.2.2.2.loose⟩

/-- **`gatherheredocuments`** from an exact cursor `c` inside the line, distinct ids queued:
    the cursor moves forward over a `GReg` region -/
theorem gather_reg {L : Str} {ps : List Nat} {c : Nat} (hl : LastNL L)
    (hlen : L.length < 1073741824) :
    HT (fun l e => (tapeOf l e).line = L ∧ (tapeOf l e).idx = c ∧ c ≤ L.length ∧
          l.eolLookahead = none ∧ l.positions = ps ∧ (l.redirstack.map Prod.fst).Nodup)
      gatherheredocuments (fun _ l e => GathQ L ps c l e) C03.Tok.ET :=
  HT.post (TGT.gather_reg hl hlen) (fun _ _ _ h => GathQ.ofTight h)

end Bashlex.C05.TG
