/-
  C05, conservation of here-document bodies: one checked parser run and the loop of `parse`, with
  conservation of the here-document bodies (`RunOKI`, `PartsI`).  The run theorems are those of
  `Props/C08/RunIT.lean` -- the same pass with the engine's `consumed` linked to the log -- with
  the link forgotten; `parserRun_leaves` is the same run theorem at the plain nested parser,
  under `RootEnds`.
-/
import Bashlex.Props.C08.RunIT

namespace Bashlex.C05
open Bashlex Bashlex.Spec Bashlex.Node Bashlex.M Bashlex.LR Bashlex.C12 Bashlex.C03
  Bashlex.C05.TG
-- see `Props/C08/RunIT.lean`
attribute [local irreducible] M.SatS M.Sat

theorem RunOKIS.toRunOKI {TL : List Token → Nat → Nat → Local → Env → Prop} {s : Str} {n : Node}
    (h : RunOKIS TL s n) : RunOKI TL s n := by
  obtain ⟨h0, ts, la, F, l, e, h1, h2, h3, h4, h5, _⟩ := h
  exact ⟨h0, ts, la, F, l, e, h1, h2, h3, h4, h5⟩

theorem PartsIS.toI {TLf : Str → List Token → Nat → Nat → Local → Env → Prop} {s : Str} :
    ∀ {i : Nat} {ps : List Node}, PartsIS TLf s i ps → PartsI TLf s i ps := by
  intro i ps h
  induction h with
  | done i h => exact .done i h
  | stop i h => exact .stop i h
  | cons hi hrun _ ih => exact .cons hi hrun.toRunOKI ih

section
attribute [local instance] C16.stdEnvRel
variable {TL : List Token → Nat → Nat → Local → Env → Prop}

/-- **one checked parser run**, with conservation of the bodies -/
theorem parserRunK_leavesI (hL : TokLogC TL)
    (hN : ∀ tr d, NPSpans (TL tr) (npK true (parserRunK d))) :
    ∀ d s, SatS (parserRunK d) (fun l e => InitState s l e ∧ TL [] s.length 0 l e)
      (fun r _ _ => (∀ n, r = some n → RunOKI TL s n) ∧ (r = none → RunNone TL s)) :=
  fun d s => SatS.post (parserRunK_leavesIT hL hN d s)
    (fun _ _ _ h => ⟨fun n hn => (h.1 n hn).toRunOKI, h.2⟩)


/-- the plain parser, under `RootEnds` -/
theorem parserRun_leavesIT (hL : TokLog TL) (hR : RootEnds) :
    ∀ d s, SatS (parserRun d) (InitState s)
      (fun r _ _ => (∀ n, r = some n → RunOKIS TL s n) ∧ (r = none → RunNone TL s)) :=
  SatS.parserRun (ι := Str) (P := InitState)
    (Q := fun _ s r _ _ => (∀ n, r = some n → RunOKIS TL s n) ∧ (r = none → RunNone TL s))
    (E := fun _ _ _ => True) (fun _ => trivial)
    (fun d _ s => (level_leavesIT hL.core (npok_npOf d)
      (fun tr => npSpans_npOf_act (hL.act tr) hR d
        (C03.parserRun_spans hL.spans hR (C03.wordContract hL.spans) d)) s).pre
      (fun l e hi => ⟨hi, hL.init s l e hi⟩))

theorem RunOKIS.toRunOK {s : Str} {n : Node} (h : RunOKIS TL s n) : RunOK TL s n := by
  obtain ⟨h0, ts, la, F, l, e, h1, h2, h3, h4, _⟩ := h
  exact ⟨h0, ts, la, F, l, e, h1, h2, h3, h4⟩

theorem parserRun_leaves (hL : TokLog TL) (hR : RootEnds) :
    ∀ d s, SatS (parserRun d) (InitState s) (fun r _ _ => ∀ n, r = some n → RunOK TL s n) :=
  fun d s => (parserRun_leavesIT hL hR d s).post (fun _ _ _ h n hn => (h.1 n hn).toRunOK)


theorem runParser_leaves (hL : TokLog TL) (hR : RootEnds) {s : Str} {o : Opts} {t : List Char}
    {n : Node} (h : (runParser s o t).1 = .ok (some n)) : RunOK TL s n :=
  runParser_sat_ok (parserRun_leaves hL hR _ s) (initState_top s o t) h n rfl


end

section
attribute [local instance] C16.stdEnvRel
variable {TLf : Str → List Token → Nat → Nat → Local → Env → Prop}

theorem parseK_leavesI (hL : ∀ s0, TokLogC (TLf s0))
    (hN : ∀ s0 tr d, NPSpans (TLf s0 tr) (npK true (parserRunK d)))
    (hinit : ∀ s0 l e, InitState s0 l e → TLf s0 [] s0.length 0 l e) (s : Str) (o : Opts)
    (parts : List Node) (h : (parseK s o).1 = .parts parts) : PartsI TLf s 0 parts :=
  (parseK_leavesIT hL hN hinit s o parts h).toI

theorem parseK_leavesC (hL : ∀ s0, TokLogC (TLf s0))
    (hN : ∀ s0 tr d, NPSpans (TLf s0 tr) (npK true (parserRunK d)))
    (hinit : ∀ s0 l e, InitState s0 l e → TLf s0 [] s0.length 0 l e) (s : Str) (o : Opts)
    (parts : List Node) (h : (parseK s o).1 = .parts parts) : PartsC TLf s 0 parts :=
  (parseK_leavesI hL hN hinit s o parts h).toC

end

end Bashlex.C05

#print axioms Bashlex.C05.parseK_leavesI
