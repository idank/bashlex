/-
  C05: CONSERVATION of here-document bodies through the LR engine and the
  parser runs.

  Stack invariant `IdI vs l`: every cell of the redirect store is the cell of a pending redirect
  among the leaves of some stack entry.  It is kept by `token()` (the store keeps its length:
  `StoreStep`), by shifts, and by every semantic action (`act_ids`: the pending redirects of the
  arguments are among the leaves of the result; `act_store`: only `p_redirection_heredoc` appends
  a cell, and it returns that cell's redirect).  At acceptance the stack is the accepted value:
  every cell of the store belongs to a pending redirect of the accepted tree, so after `resolve`
  **every body attached in the store is a leaf of the returned tree** (`RunOKI`).
  Here: the invariant and what the moves of the engine need of it; the hooks themselves are
  `leaves_hooksIT` (`Props/C08/RunIT.lean`), the run theorems `Props/C05/FRun.lean`.

  First, what every semantic action does to the redirect STORE
  (`act_store`, read off `C03.act_spans_store`, whose `StoreCh` lists the three cases):
    * `p_redirection_heredoc` appends ONE cell, and the node it returns is the pending redirect
      of that cell (`sts_redirection_heredoc`, `Actions.lean`);
    * `p_simple_list` (`gatherheredocuments`) keeps the length and every attached body;
    * every other action leaves the store as it is.
-/
import Bashlex.Props.C05.Engine
import Bashlex.Props.C05.TokGapsProof
import Bashlex.Props.C05.FGaps
import Bashlex.LR.SoundOrd
import Bashlex.Proofs.ActionEqns

namespace Bashlex.C03
open Bashlex Bashlex.Spec Bashlex.Node Bashlex.M Bashlex.LR Bashlex.C12 Bashlex.C05
  Bashlex.C05.TG
set_option linter.unusedSimpArgs false
set_option linter.unusedVariables false

/-- the store `st'` after an action that returned `r`, the store before being `st0`: the
    length is kept, or ONE cell was appended whose pending redirect is (a leaf of) the value
    returned; bodies stay -/
def StoreRel (st0 : List RedirCell) (r : SVal × Bool) (st' : List RedirCell) : Prop :=
  (st'.length = st0.length ∨
    (st'.length = st0.length + 1 ∧ st0.length ∈ pends (valLeaves r.1))) ∧
  ∀ p, InBody st0 p → InBody st' p

theorem storeRel_same {st0 st' : List RedirCell} {r : SVal × Bool} (h : st' = st0) :
    StoreRel st0 r st' := by
  subst h
  exact ⟨Or.inl rfl, fun _ hp => hp⟩

section
variable {TI : Nat → Nat → Local → Env → Prop} {len : Nat}

/-- **what every semantic action does to the redirect store** -/
theorem act_store (hT : TokAct TI) {np : NestedParse}
    (hW : ∀ F st, WordSat (StP TI len F st) np len)
    {p lhs : Nat} {rhs : List Nat} {rest args : List (Nat × SVal)} {la : Option (Nat × SVal)}
    (hprod : realTables.prods[p]? = some (lhs, rhs)) (hargs : args.map (·.1) = rhs)
    (hrest : RestHint realTables rest lhs) (hla : LaHint realTables la p) {σ : Srt}
    (hab : absAction (fn p) (rhs.map sortOfSymbol) = some σ)
    (ha : Forall2 HasSort (rhs.map sortOfSymbol) (args.map (·.2))) (st0 : List RedirCell) :
    SatS (actionCore np (fn p) (args.map (·.2)))
      (fun l e => SIs TI len (rest ++ args) la l e ∧ l.store = st0)
      (fun r l e => StoreRel st0 r l.store) := by
  have hA := act_spans_store hT hW hprod hargs hrest hla hab ha st0
  have hB : fn p = "p_redirection_heredoc" →
      SatS (actionCore np (fn p) (args.map (·.2)))
        (fun l e => SIs TI len (rest ++ args) la l e ∧ l.store = st0)
        (fun r l e => st0.length ∈ pends (valLeaves r.1)) := fun hf => by
    rw [hf] at hab ⊢
    exact ((sts_redirection_heredoc hab ha).pre (fun _ _ h => h.2)).post (fun _ _ _ h => h.2)
  by_cases hf : fn p = "p_redirection_heredoc"
  · refine SatS.post (SatS.and hA (hB hf)) ?_
    rintro r l e ⟨⟨_, hch⟩, hid⟩
    rcases hch with h | ⟨_, cell, h⟩ | ⟨f, h⟩
    · exact storeRel_same h
    · refine ⟨Or.inr ⟨by rw [h]; simp, hid⟩, fun p hp => ?_⟩
      rw [h]
      exact hp.mono (fun c hc b hb => ⟨c, List.mem_append_left _ hc, hb⟩)
    · exact ⟨Or.inl h.1, fun p hp => TG.inBody_storeStep hp h⟩
  · refine SatS.post hA ?_
    rintro r l e ⟨_, hch⟩
    rcases hch with h | ⟨h, _⟩ | ⟨f, h⟩
    · exact storeRel_same h
    · exact absurd h hf
    · exact ⟨Or.inl h.1, fun p hp => TG.inBody_storeStep hp h⟩

end

end Bashlex.C03

namespace Bashlex.C05
open Bashlex Bashlex.Spec Bashlex.Node Bashlex.M Bashlex.LR Bashlex.C12 Bashlex.C03
  Bashlex.C05.TG

/-! ## the invariant -/

/-- every cell of the store is the cell of a pending redirect among the leaves of a stack entry -/
def IdI (vs : List (Nat × SVal)) (l : Local) : Prop :=
  ∀ id, id < l.store.length → ∃ x ∈ vs, id ∈ pends (valLeaves x.2)

/-- an `inputunit` entry on top of the stack is alone on the stack (`inputunit` has a goto from
    state 0 only) -/
def IuAlone (vs : List (Nat × SVal)) : Prop :=
  ∀ vs' x, vs = vs' ++ [x] → x.1 = iuSym → vs' = []

/-- what is known when a run returns `None` (the all-newline return of the engine, or the
    `accept` entry with an `inputunit` holding `None`): every token delivered but at most one
    look-ahead was dropped (`Covers lead []`: NEWLINEs), and no here-document was queued -/
def NoneL (TL : List Token → Nat → Nat → Local → Env → Prop) (len : Nat) (l : Local) (e : Env) :
    Prop :=
  ∃ lead la F, TL (lead ++ la) len F l e ∧ la.length ≤ 1 ∧ Covers lead [] ∧ NoEOF lead ∧
    l.store = [] ∧ ∃ t ∈ la, t.ttype = some .EOF

/-- the `accept` entries of the action table are on the end-of-input terminal -/
def acceptEndCheck : Bool :=
  Gen.actionRows.all fun row => row.all fun e =>
    decodeAct (e % 4096) != .accept || e / 4096 == 0

theorem acceptEnd_ok : acceptEndCheck = true := by decide +kernel

theorem accept_end {s la : Nat} (h : realTables.action s la = some .accept) : la = 0 := by
  obtain ⟨e, hmem, hla, hdec⟩ := Raw.action_mem (R := realRaw) h
  obtain ⟨row, hrow, he, _⟩ := mem_getD (l := Gen.actionRows) hmem
  have hg := acceptEnd_ok
  unfold acceptEndCheck at hg
  have := List.all_eq_true.mp (List.all_eq_true.mp hg row hrow) e he
  rw [hdec] at this
  simpa [hla] using this

theorem eof_of_sym : ∀ ty : TokType, ty.sym = 0 → ty = .EOF := by
  intro ty; cases ty <;> decide +kernel

theorem symOfTok_eof_inv {t : Token} (h : symOfTok t = 0) : t.ttype = some .EOF := by
  unfold symOfTok at h
  cases hty : t.ttype with
  | none => rw [hty] at h; simp at h
  | some ty => rw [hty] at h; simp only [] at h; rw [eof_of_sym ty h]

/-- the look-ahead is the end-of-input token -/
theorem la_eof {len g F : Nat} {la : Nat × SVal} (hl : LaIn len g (some la) F) (h0 : la.1 = 0) :
    ∃ t ∈ laToks (some la), t.ttype = some .EOF := by
  obtain ⟨t, a, b, rfl, _⟩ := hl
  exact ⟨t, by simp [laToks], symOfTok_eof_inv h0⟩

theorem store_nil_of_idI {vs : List (Nat × SVal)} {l : Local} (h : IdI vs l)
    (hv : ∀ x ∈ vs, pends (valLeaves x.2) = []) : l.store = [] := by
  cases hs : l.store with
  | nil => rfl
  | cons c cs =>
    obtain ⟨x, hx, hid⟩ := h 0 (by rw [hs]; simp)
    rw [hv x hx] at hid
    cases hid

/-- an accepting action returns a node -/
theorem sl_node {np : NestedParse} {args : List SVal} :
    Sat (actionCore np "p_simple_list" args) (fun r => ∃ n, r.1 = .node n) := by
  rw [actionCore_p_simple_list]
  refine Sat.bind_any (fun _ => ?_)
  refine Sat.bind_any (fun l1 => ?_)
  simp only [pure_bind]
  split
  · split
    · exact Sat.bind_any (fun _ => Sat.bind_any (fun _ => Sat.bind_any (fun _ => Sat.pure ⟨_, rfl⟩)))
    · exact Sat.bind_any (fun _ => Sat.bind_any (fun _ => Sat.pure ⟨_, rfl⟩))
  · split
    · exact Sat.bind_any (fun _ => Sat.pure ⟨_, rfl⟩)
    · exact Sat.bind (Sat.foreign (P := fun _ => False) trivial) (fun _ h => h.elim)

theorem accept_node {np : NestedParse} {fname : String} {args : List SVal} :
    Sat (action np fname args) (fun r => r.2 = true → ∃ n, r.1 = .node n) := by
  by_cases h1 : fname = "p_inputunit"
  · subst h1
    refine sat_action_of_core ((lv_inputunit (np := np) (args := args)).weaken ?_ (fun _ h => h))
    rintro r (⟨rfl, _⟩ | ⟨n, rfl, _⟩)
    · intro h; cases h
    · intro _; exact ⟨n, rfl⟩
  · by_cases h2 : fname = "p_simple_list"
    · subst h2
      exact sat_action_of_core (sl_node.weaken (fun r h _ => h) (fun _ h => h))
    · refine (sat_action_accepts (np := np) (fname := fname) (args := args)).weaken ?_ (fun _ h => h)
      intro r h hr
      rcases h hr with h | h
      · exact absurd h h1
      · exact absurd h h2

theorem mem_pends_flatMap {id : Nat} : ∀ {args : List (Nat × SVal)} {x : Nat × SVal}, x ∈ args →
    id ∈ pends (valLeaves x.2) → id ∈ pends ((args.map (·.2)).flatMap valLeaves)
  | a :: as, x, hx, hid => by
    simp only [List.map_cons, List.flatMap_cons, pends_append, List.mem_append]
    rcases List.mem_cons.mp hx with rfl | hx
    · exact Or.inl hid
    · exact Or.inr (mem_pends_flatMap hx hid)


/-! ## one checked parser run -/

/-- position `p` lies inside a leaf flagged "is (or holds) a here-document body" -/
def InBodyLeaf (ls : List (Span × Bool)) (p : Nat) : Prop :=
  ∃ x ∈ ls, x.2 = true ∧ x.1.1 ≤ p ∧ p < x.1.2

theorem InBodyLeaf.inLeaf {ls : List (Span × Bool)} {p : Nat} (h : InBodyLeaf ls p) :
    InLeafPos ls p := by
  obtain ⟨x, hx, _, h1, h2⟩ := h
  exact ⟨x, hx, h1, h2⟩

/-- `RunOK`, and: **every here-document body attached in the store -- in the state the log was
    known in -- is a leaf of the returned tree** -/
def RunOKI (TL : List Token → Nat → Nat → Local → Env → Prop) (s : Str) (n : Node) : Prop :=
  TopOK s.length n ∧ ∃ ts la F l' e', TL (ts ++ la) s.length F l' e' ∧ la.length ≤ 1 ∧
    NoEOF ts ∧ FCovers s.length ts (Spec.leaves n) ∧
    ∀ p, InBody l'.store p → InBodyLeaf (Spec.leaves n) p

/-- a run that returned `None`: every token delivered but at most one look-ahead was dropped
    (NEWLINEs), no here-document was queued -/
def RunNone (TL : List Token → Nat → Nat → Local → Env → Prop) (s : Str) : Prop :=
  ∃ lead la F l' e', TL (lead ++ la) s.length F l' e' ∧ la.length ≤ 1 ∧ Covers lead [] ∧
    NoEOF lead ∧ l'.store = [] ∧ ∃ t ∈ la, t.ttype = some .EOF

theorem RunOKI.toRunOK {TL : List Token → Nat → Nat → Local → Env → Prop} {s : Str} {n : Node}
    (h : RunOKI TL s n) : RunOK TL s n := by
  obtain ⟨h1, ts, la, F, l', e', h2, h3, h4, h5, _⟩ := h
  exact ⟨h1, ts, la, F, l', e', h2, h3, h4, h5⟩

/-- a body of the store whose cell belongs to a pending redirect of the tree is a leaf of the
    resolved tree -/
theorem body_in_leaf {st : List RedirCell} {n : Node} {p : Nat}
    (hall : ∀ id, id < st.length → id ∈ pends (aleaves n)) (h : InBody st p) :
    InBodyLeaf (Spec.leaves (resolve st n)) p := by
  obtain ⟨c, hc, x, y, v, hh, h1, h2⟩ := h
  obtain ⟨id, hid⟩ := List.getElem?_of_mem hc
  have hlt : id < st.length := (List.getElem?_eq_some_iff.mp hid).1
  obtain ⟨q, hq, hm⟩ := mem_pends.mp (hall id hlt)
  rw [leaves_resolve]
  have hconc : conc st (.pend id q hq) = redirLeaves c.pos (some (x, y)) := by
    simp only [conc, hid, hh, Option.map_some]
  unfold InBodyLeaf
  by_cases hsp : spanIn (x, y) c.pos = true
  · refine ⟨(c.pos, true), ?_, rfl, ?_⟩
    · refine List.mem_flatMap.mpr ⟨_, hm, ?_⟩
      rw [hconc]
      simp [redirLeaves, hsp]
    · simp only [spanIn, Bool.and_eq_true, decide_eq_true_eq] at hsp
      show c.pos.1 ≤ p ∧ p < c.pos.2
      omega
  · refine ⟨((x, y), true), ?_, rfl, ⟨h1, h2⟩⟩
    refine List.mem_flatMap.mpr ⟨_, hm, ?_⟩
    rw [hconc]
    simp [redirLeaves, hsp]


/-- **the parts `parse` returns from index `i` on**, each run with its own invariant, with
    conservation of the bodies -/
inductive PartsI (TLf : Str → List Token → Nat → Nat → Local → Env → Prop) (s : Str) :
    Nat → List Node → Prop
  /-- the loop of `parse` stops at the end of the input … -/
  | done (i : Nat) : s.length ≤ i → PartsI TLf s i []
  /-- … or when a run returns `None`: that run consumed NEWLINE tokens only -/
  | stop (i : Nat) : RunNone (TLf (s.drop i)) (s.drop i) → PartsI TLf s i []
  | cons {i : Nat} {n : Node} {rest : List Node} : i ≤ s.length →
      RunOKI (TLf (s.drop i)) (s.drop i) n →
      PartsI TLf s (max (nextIndex (n.shift i)) (i + 1)) rest →
      PartsI TLf s i (n.shift i :: rest)

theorem PartsI.mem {TLf : Str → List Token → Nat → Nat → Local → Env → Prop} {s : Str} :
    ∀ {i : Nat} {ps : List Node}, PartsI TLf s i ps → ∀ part ∈ ps,
      ∃ k n, i ≤ k ∧ k ≤ s.length ∧ part = n.shift k ∧ RunOKI (TLf (s.drop k)) (s.drop k) n := by
  intro i ps h
  induction h with
  | done i _ => intro part hp; cases hp
  | stop i _ => intro part hp; cases hp
  | @cons i n rest hi hrun _ ih =>
    intro part hp
    rcases List.mem_cons.mp hp with rfl | hp
    · exact ⟨i, n, Nat.le_refl i, hi, rfl, hrun⟩
    · obtain ⟨k, m, h1, h2, h3, h4⟩ := ih part hp
      refine ⟨k, m, ?_, h2, h3, h4⟩
      have : i + 1 ≤ max (nextIndex (n.shift i)) (i + 1) := Nat.le_max_right _ _
      omega

/-- forgetting conservation -/
theorem PartsI.toC {TLf : Str → List Token → Nat → Nat → Local → Env → Prop} {s : Str} :
    ∀ {i : Nat} {ps : List Node}, PartsI TLf s i ps → PartsC TLf s i ps := by
  intro i ps h
  induction h with
  | done i _ => exact .nil i
  | stop i _ => exact .nil i
  | cons hi hrun _ ih => exact .cons hi hrun.toRunOK ih

end Bashlex.C05

#print axioms Bashlex.C05.act_ids
#print axioms Bashlex.C03.act_store
