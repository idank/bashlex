/-
  C05, character level: **the tokenizer skips only layout**.

  `tokGaps_next`: for every call of `token()` from a state whose tape holds the line `L`, with
  the cursor at `i0` inside the line and the `_eol_ungetc_lookahead` slot empty (`TpS`: the
  exact-cursor invariant of `Props/C04/TTGetc.lean` with the redirect store and queue):
    * the token delivered starts at `a` with `Skip L i0 a`: the text `L[i0:a]` is a run of blanks
      (space, tab) and backslash-newline pairs, optionally followed by a comment `#…` that runs up
      to -- not including -- the newline at `a` (that newline is the NEWLINE token delivered);
    * it ends at the cursor (`t.pos = (a, cursor)`): the next call starts where this token ends.
      After the defects D31 / D32 (`a<\⏎ b`: WORD (0,3) `a<\`, NEWLINE (3,4); `a;\`: SEMICOLON
      (1,3)) the characters `_ungetc` could not give back are INSIDE the span of the token, not
      between tokens, so the statement holds without an exclusion for them (C04's `TT` describes
      what the span holds: the residues);
    * a NEWLINE token sits on a newline character; the rest of its span is the region
      `gatherheredocuments` consumed (`GReg`): continuation pairs skipped by `_peekc`, bodies
      recorded in the redirect store, the newline that ends each delimiter line;
    * any other token has a type, neither NEWLINE nor EOF (`NN`), and ends inside the line;
    * EOF: `Skip L i0 |L|`, the cursor is at the end.
  `tokGaps_gather`: `gatherheredocuments` (as called by `p_simple_list`) moves the cursor forward
  over a `GReg` region.
  Hypotheses: the line is empty or ends in a newline and holds no newline-less tail (`NL`,
  `LastNL`: true of every line `tokenizer.__init__` builds), the queued redirect ids are distinct
  (C03's `PendOK`), and `|L| < 2^30` (the model's loop fuel, needed by C10's reader EQUATIONS
  `gather_spec`; beyond it the model -- not the implementation -- gives `outOfFuel`).

  `tokLogG : TokLog TLogG`: the instance of C05's hypothesis on the token source for the logged
  invariant `TLogG` = `TLog` + `Cov`: every position of the line below the cursor lies inside a
  delivered token that is not a NEWLINE, or is layout (`PosLay`), or lies inside a here-document
  body recorded in the store.  (It differs from `TokGaps` of `Props/C05/Gaps.lean`, which is
  stated only: per position, relative to the tokenizer's line, the exact cursor instead of token
  ends -- what
  `p_simple_list`'s `gatherheredocuments` consumes lies between a token's end and the cursor.)
  `tokLogGL L0 : TokLogC (TLogGL L0)`: the same with the line pinned to `L0` and "once EOF was
  delivered the cursor is at the end of the line" (`CovL`); `TokLog`'s `init` holds of it for the
  inputs whose line is `L0` only (`tokLogGL_init`), hence `TokLogC` (`TokLog` without `init`,
  `Props/C05/Hooks.lean`; the parts of `parse` over it: `PartsC`, `Props/C05.lean`).

  Validation by evaluation (9642 inputs, every token of every parser object): `TGValidate.lean`.
-/
import Bashlex.Props.C05.FT3

namespace Bashlex.C05.TG
open Bashlex Bashlex.M Bashlex.C10 Bashlex.C11 Bashlex.C03 Bashlex.C03.Tok Bashlex.C04
  Bashlex.C04.TTP Bashlex.C05

/-! ## `token()` -/

/-- what `token()` did, entered at cursor `i0` (see the header) -/
def GapPost (L : Str) (i0 : Nat) (t : Token) (l : Local) (e : Env) : Prop :=
  (tapeOf l e).line = L ∧ l.eolLookahead = none ∧ l.positions = [] ∧
  ((t = eofTok ∧ Skip L i0 L.length ∧ (tapeOf l e).idx = L.length) ∨
   ∃ a, t.pos = some (a, (tapeOf l e).idx) ∧ a < (tapeOf l e).idx ∧ Skip L i0 a ∧
     ((t.ttype = some .NEWLINE ∧ L[a]? = some '\n' ∧ GReg L l.store (a + 1) (tapeOf l e).idx) ∨
      (NN t ∧ (tapeOf l e).idx ≤ L.length)))

theorem GapPost.ofTight {L : Str} {i0 : Nat} {t : Token} {l : Local} {e : Env}
    (h : TGT.GapPost L i0 t l e) : GapPost L i0 t l e := by
  obtain ⟨h1, h2, h3, h4⟩ := h
  refine ⟨h1, h2, h3, h4.imp id ?_⟩
  rintro ⟨a, a1, a2, a3, a4⟩
  exact ⟨a, a1, a2, a3, a4.imp (fun h => ⟨h.1, h.2.1, h.2.2.loose⟩) id⟩

/-- **the tokenizer skips only layout** (no hypothesis on the scanners left: `scanHyp`) -/
theorem tokGaps_next {L : Str} {sr : List RedirCell} {rk : List (Nat × Bool)} {i0 : Nat}
    (hnl : NL L) (hlast : LastNL L) (hlen : L.length < 1073741824)
    (hnd : (rk.map Prod.fst).Nodup) (hi0 : i0 ≤ L.length) :
    HT (TpS L sr rk [] i0) nextToken (GapPost L i0) ET :=
  HT.post (TGT.tokGaps_next hnl hlast hlen hnd hi0) (fun _ _ _ h => GapPost.ofTight h)

/-- **`gatherheredocuments`** moves the cursor forward over a `GReg` region -/
theorem tokGaps_gather {L : Str} {sr : List RedirCell} {rk : List (Nat × Bool)} {ps : List Nat}
    {c : Nat} (hlast : LastNL L) (hlen : L.length < 1073741824)
    (hnd : (rk.map Prod.fst).Nodup) :
    HT (TpS L sr rk ps c) gatherheredocuments (fun _ l e => GathQ L ps c l e) ET :=
  HT.post (TGT.tokGaps_gather hlast hlen hnd) (fun _ _ _ h => GathQ.ofTight h)

/-! ## the log -/

/-- position `p` lies inside a delivered token that has a type other than NEWLINE, EOF -/
def InTok (ts : List Token) (p : Nat) : Prop :=
  ∃ t ∈ ts, NN t ∧ t.lexpos ≤ p ∧ p < t.endlexpos

/-- **coverage**: every position of the line below the cursor lies inside a delivered token
    other than a NEWLINE, is layout, or lies inside a gathered here-document body -/
def Cov (ts : List Token) (l : Local) (e : Env) : Prop :=
  ∀ p, p < (tapeOf l e).idx → p < (tapeOf l e).line.length →
    InTok ts p ∨ PosLay (tapeOf l e).line p ∨ InBody l.store p

/-- coverage, the line being `L0`; once EOF was delivered the cursor is at the end of the line
    (or beyond) -/
def CovL (L0 : Str) (ts : List Token) (l : Local) (e : Env) : Prop :=
  (tapeOf l e).line = L0 ∧ Cov ts l e ∧
    ((∃ t ∈ ts, t.pos = none) → L0.length ≤ (tapeOf l e).idx)

/-- `TLog` with a further fact about log and state, for inputs below the model's loop fuel -/
def TLogX (C : List Token → Local → Env → Prop) (ts : List Token) (len f : Nat) (l : Local)
    (e : Env) : Prop :=
  TLog ts len f l e ∧ (len + 1 < 1073741824 → C ts l e)

/-- **the logged ghost invariant with coverage** -/
def TLogG : List Token → Nat → Nat → Local → Env → Prop := TLogX Cov

/-- **the logged ghost invariant with coverage, the line pinned** -/
def TLogGL (L0 : Str) : List Token → Nat → Nat → Local → Env → Prop := TLogX (CovL L0)

theorem InTok.mono {ts ts' : List Token} {p : Nat} (h : InTok ts p) (hs : ∀ t ∈ ts, t ∈ ts') :
    InTok ts' p := TGT.InTok.mono h hs

/-- bodies stay: the tokenizer attaches a body to a cell once -/
theorem inBody_storeStep {len f : Nat} {ext : Bool} {st st' : List RedirCell} {p : Nat}
    (h : InBody st p) (hs : StoreStep len f ext st st') : InBody st' p :=
  TGT.inBody_storeStep h hs

theorem lastNL_of_nl {L : Str} (h : NL L) : LastNL L := TGT.lastNL_of_nl h

/-- what the proof of `TokLogC (TLogX C)` needs of `C` -/
structure CovOK (C : List Token → Local → Env → Prop) : Prop where
  /-- after `token()` -/
  next : ∀ {ts : List Token} {t : Token} {L : Str} {i0 len f : Nat} {l0 l : Local} {e0 e : Env},
    C ts l0 e0 → (tapeOf l0 e0).line = L → (tapeOf l0 e0).idx = i0 → GapPost L i0 t l e →
    StoreStep len f false l0.store l.store → C (ts ++ [t]) l e
  /-- after `gatherheredocuments` -/
  gather : ∀ {ts : List Token} {L : Str} {c len f : Nat} {l0 l : Local} {e0 e : Env},
    C ts l0 e0 → (tapeOf l0 e0).line = L → (tapeOf l0 e0).idx = c → GathQ L [] c l e →
    StoreStep len f true l0.store l.store → C ts l e
  /-- when line and cursor stay (or the cursor is beyond the end of the line before and after),
      bodies stay, and the log grows -/
  same : ∀ {ts ts' : List Token} {l0 l : Local} {e0 e : Env}, C ts l0 e0 →
    (tapeOf l e).line = (tapeOf l0 e0).line →
    ((tapeOf l e).idx = (tapeOf l0 e0).idx ∧ ts' = ts ∨
      ((tapeOf l0 e0).line.length < (tapeOf l0 e0).idx ∧
        (tapeOf l0 e0).line.length < (tapeOf l e).idx)) →
    (∀ p, InBody l0.store p → InBody l.store p) → (∀ t ∈ ts, t ∈ ts') → C ts' l e

/-- coverage after `token()` -/
theorem cov_next {ts : List Token} {t : Token} {L : Str} {i0 : Nat} {len f : Nat}
    {l0 l : Local} {e0 e : Env}
    (hc : Cov ts l0 e0) (h1 : (tapeOf l0 e0).line = L) (h2 : (tapeOf l0 e0).idx = i0)
    (hg : GapPost L i0 t l e) (hs : StoreStep len f false l0.store l.store) :
    Cov (ts ++ [t]) l e := by
  obtain ⟨g1, _, _, hcase⟩ := hg
  intro p hp1 hp2
  rw [g1] at hp2 ⊢
  by_cases hpi : p < i0
  · rcases hc p (by rw [h2]; exact hpi) (by rw [h1]; exact hp2) with h | h | h
    · exact Or.inl (h.mono (fun t ht => List.mem_append_left _ ht))
    · rw [h1] at h; exact Or.inr (Or.inl h)
    · exact Or.inr (Or.inr (inBody_storeStep h hs))
  · rcases hcase with ⟨_, hsk, _⟩ | ⟨a, hpos, hak, hsk, hty⟩
    · exact Or.inr (Or.inl (posLay_of_skip hsk (by omega) hp2))
    · by_cases hpa : p < a
      · exact Or.inr (Or.inl (posLay_of_skip hsk (by omega) hpa))
      · rcases hty with ⟨_, hLa, hreg⟩ | ⟨hnn, _⟩
        · by_cases hpe : p = a
          · rw [hpe]; exact Or.inr (Or.inl (Or.inl hLa))
          · rcases hreg p (by omega) hp1 hp2 with h | h
            · exact Or.inr (Or.inl h)
            · exact Or.inr (Or.inr h)
        · obtain ⟨q1, q2⟩ := tok_lexspan hpos
          exact Or.inl ⟨t, by simp, hnn, by rw [q1]; omega, by rw [q2]; exact hp1⟩

/-- coverage after `gatherheredocuments` -/
theorem cov_gather {ts : List Token} {L : Str} {c : Nat} {len f : Nat}
    {l0 l : Local} {e0 e : Env}
    (hc : Cov ts l0 e0) (h1 : (tapeOf l0 e0).line = L) (h2 : (tapeOf l0 e0).idx = c)
    (hg : GathQ L [] c l e) (hs : StoreStep len f true l0.store l.store) : Cov ts l e := by
  obtain ⟨g1, _, _, _, hreg⟩ := hg
  intro p hp1 hp2
  rw [g1] at hp2 ⊢
  by_cases hpi : p < c
  · rcases hc p (by rw [h2]; exact hpi) (by rw [h1]; exact hp2) with h | h | h
    · exact Or.inl h
    · rw [h1] at h; exact Or.inr (Or.inl h)
    · exact Or.inr (Or.inr (inBody_storeStep h hs))
  · rcases hreg p (by omega) hp1 hp2 with h | h
    · exact Or.inr (Or.inl h)
    · exact Or.inr (Or.inr h)

theorem cov_same {ts ts' : List Token} {l0 l : Local} {e0 e : Env} (hc : Cov ts l0 e0)
    (h1 : (tapeOf l e).line = (tapeOf l0 e0).line)
    (h2 : (tapeOf l e).idx = (tapeOf l0 e0).idx ∧ ts' = ts ∨
      ((tapeOf l0 e0).line.length < (tapeOf l0 e0).idx ∧
        (tapeOf l0 e0).line.length < (tapeOf l e).idx))
    (h3 : ∀ p, InBody l0.store p → InBody l.store p) (h4 : ∀ t ∈ ts, t ∈ ts') : Cov ts' l e := by
  intro p hp1 hp2
  rw [h1] at hp2 ⊢
  rcases hc p (by omega) hp2 with h | h | h
  · exact Or.inl (h.mono h4)
  · exact Or.inr (Or.inl h)
  · exact Or.inr (Or.inr (h3 p h))

theorem covOK_cov : CovOK Cov := ⟨cov_next, cov_gather, cov_same⟩

theorem covOK_covL (L0 : Str) : CovOK (CovL L0) := by
  refine ⟨?_, ?_, ?_⟩
  · intro ts t L i0 len f l0 l e0 e hc h1 h2 hg hs
    obtain ⟨c1, c2, c3⟩ := hc
    have hL : L = L0 := by rw [← h1]; exact c1
    refine ⟨by rw [hg.1, hL], cov_next c2 h1 h2 hg hs, ?_⟩
    rintro ⟨t', ht', hpos'⟩
    obtain ⟨_, _, _, hcase⟩ := hg
    rcases hcase with ⟨_, _, hidx⟩ | ⟨a, hpos, hak, hsk, _⟩
    · rw [hidx, hL]; exact Nat.le_refl _
    · rcases List.mem_append.mp ht' with ht' | ht'
      · have := c3 ⟨t', ht', hpos'⟩
        have := hsk.le
        rw [h2] at *
        omega
      · simp only [List.mem_singleton] at ht'
        subst ht'
        rw [hpos] at hpos'; cases hpos'
  · intro ts L c len f l0 l e0 e hc h1 h2 hg hs
    obtain ⟨c1, c2, c3⟩ := hc
    have hL : L = L0 := by rw [← h1]; exact c1
    refine ⟨by rw [hg.1, hL], cov_gather c2 h1 h2 hg hs, fun hx => ?_⟩
    have := c3 hx
    have := hg.2.2.2.1
    rw [h2] at *
    omega
  · intro ts ts' l0 l e0 e hc h1 h2 h3 h4
    obtain ⟨c1, c2, c3⟩ := hc
    refine ⟨by rw [h1]; exact c1, cov_same c2 h1 h2 h3 h4, fun hx => ?_⟩
    rcases h2 with ⟨h2, rfl⟩ | ⟨_, h2⟩
    · rw [h2]; exact c3 hx
    · rw [c1] at h2; exact Nat.le_of_lt h2

/-- the raw facts about `gatherheredocuments` from a fixed state satisfying `TI` -/
theorem gather_raw (len f : Nat) (l0 : Local) (e0 : Env) (hti : TI len f l0 e0)
    (hlen : len + 1 < 1073741824) :
    SatS gatherheredocuments (fun l e => l = l0 ∧ e = e0)
      (fun _ l e => GathQ (tapeOf l0 e0).line [] (tapeOf l0 e0).idx l e ∨
        (((tapeOf l0 e0).line.length < (tapeOf l0 e0).idx ∧
          (tapeOf l0 e0).line.length < (tapeOf l e).idx) ∧
          (tapeOf l e).line = (tapeOf l0 e0).line ∧ l.store = l0.store)) :=
  SatS.post (TGT.gather_raw len f l0 e0 hti hlen)
    (fun _ _ _ h => h.imp (fun h => GathQ.ofTight h.1) id)

/-- a fact closed under the moves with the loose regions is closed under those with the tight -/
theorem CovOK.toTight0 {C : List Token → Local → Env → Prop} (h : CovOK C) : TGT.CovOK0 C :=
  ⟨fun hc h1 h2 hg hs => h.next hc h1 h2 (GapPost.ofTight hg) hs,
   fun hc h1 h2 hg hs => h.gather hc h1 h2 (GathQ.ofTight hg) hs,
   fun hc h1 h2 h3 h4 => h.same hc h1 h2 h3 h4⟩

theorem CovOK.toTight {C : List Token → Local → Env → Prop} (h : CovOK C) : TGT.CovOK C :=
  h.toTight0.toNew

/-- **`TokLog` without `init` holds of the real tokenizer, with a fact `C` closed under the
    tokenizer's moves** -/
theorem tokLogX {C : List Token → Local → Env → Prop} (hC : CovOK C) : TokLogC (TLogX C) :=
  TGT.tokLogX hC.toTight

theorem tokLogGL (L0 : Str) : TokLogC (TLogGL L0) := tokLogX (covOK_covL L0)

theorem initState_tape {s : Str} {l : Local} {e : Env} (hi : InitState s l e) :
    tapeOf l e = Tape.ofInput s := TGT.initState_tape hi

/-- `init`, for the inputs whose line is pinned -/
theorem tokLogGL_init (s : Str) (l : Local) (e : Env) (hi : InitState s l e) :
    TLogGL (Tape.ofInput s).line [] s.length 0 l e := TGT.tokLogGL_init s l e hi

/-- **the hypothesis `TokLog` holds of the real tokenizer, with coverage** -/
theorem tokLogG : TokLog TLogG := by
  have h := tokLogX covOK_cov
  refine ⟨h.next, h.act, ?_⟩
  intro s l e hi
  refine ⟨tokLog.init s l e hi, fun _ => ?_⟩
  intro p hp
  rw [initState_tape hi, ofInput_idx] at hp
  omega

/-! ## the corrected `TokGaps`: between tokens -/

/-- **the corrected form of `TokGaps`** (`Props/C05/Gaps.lean`, stated there with `Spec.isLayout`
    and cut-out bodies, unproved): before the first token, between two consecutive tokens other
    than EOF, and under the span of a NEWLINE token, every position of the line is layout
    (`PosLay`) or lies inside a here-document body recorded in the store (`GReg`); the log is
    ordered.  For inputs below the model's loop fuel. -/
structure TokGapsC (TL : List Token → Nat → Nat → Local → Env → Prop) : Prop where
  first : ∀ t ts len f l e, TL (t :: ts) len f l e → len + 1 < 1073741824 → notEOF t = true →
    GReg (lineOf l e) l.store 0 t.lexpos
  between : ∀ pre t1 t2 post len f l e, TL (pre ++ t1 :: t2 :: post) len f l e →
    len + 1 < 1073741824 → notEOF t1 = true → notEOF t2 = true →
    GReg (lineOf l e) l.store t1.endlexpos t2.lexpos
  newline : ∀ pre t post len f l e, TL (pre ++ t :: post) len f l e → len + 1 < 1073741824 →
    t.ttype = some .NEWLINE → GReg (lineOf l e) l.store t.lexpos t.endlexpos
  sorted : ∀ ts len f l e, TL ts len f l e → LogSorted ts f

theorem lineOf_eq (l : Local) (e : Env) : lineOf l e = (tapeOf l e).line := by
  unfold lineOf tapeOf
  cases l.tape <;> rfl

/-- the cursor is behind every position of the line below the frontier -/
theorem below_cursor {len F : Nat} {l : Local} {e : Env} (h : TI len F l e) {p : Nat}
    (h1 : p < F) (h2 : p < (tapeOf l e).line.length) : p < (tapeOf l e).idx := by
  obtain ⟨L, _, _, hc⟩ := h
  rcases hc with hc | hc
  · obtain ⟨a1, _, _, _, _, _, a7⟩ := hc
    rw [a1] at h2
    simp only [Nat.min_def] at a7
    split at a7 <;> omega
  · have := hc.2.1
    rw [hc.1] at h2
    omega

theorem nn_notEOF {t : Token} (h : NN t) : notEOF t = true := by
  obtain ⟨ty, h1, _, h3⟩ := h
  simp only [notEOF, h1, bne_iff_ne, ne_eq, Option.some.injEq]
  exact h3

/-- a position between the tokens of `A` and the tokens of `B` lies in no token -/
theorem not_inTok_split {A B : List Token} {p : Nat}
    (hA : ∀ t ∈ A, NN t → t.endlexpos ≤ p) (hB : ∀ t ∈ B, NN t → p < t.lexpos) :
    ¬ InTok (A ++ B) p := by
  rintro ⟨t, ht, hnn, h1, h2⟩
  rcases List.mem_append.mp ht with ht | ht
  · have := hA t ht hnn; omega
  · have := hB t ht hnn; omega

theorem greg_of_cov {ts : List Token} {len F : Nat} {l : Local} {e : Env} {a b : Nat}
    (hti : TI len F l e) (hcov : Cov ts l e) (hb : b ≤ F)
    (hno : ∀ p, a ≤ p → p < b → ¬ InTok ts p) : GReg (lineOf l e) l.store a b := by
  intro p hp1 hp2 hp3
  rw [lineOf_eq] at hp3 ⊢
  rcases hcov p (below_cursor hti (by omega) hp3) hp3 with h | h | h
  · exact absurd h (hno p hp1 hp2)
  · exact Or.inl h
  · exact Or.inr h

/-- **the corrected `TokGaps` holds of the real tokenizer** -/
theorem tokGapsC : TokGapsC (TLs TLogG) := by
  refine ⟨?_, ?_, ?_, fun ts len f l e h => h.2⟩
  · -- before the first token
    rintro t ts len f l e ⟨⟨⟨hti, _⟩, hcov⟩, hsort⟩ hlen hne
    have hfil : (t :: ts).filter notEOF = t :: ts.filter notEOF := by
      simp only [List.filter_cons, hne, if_true]
    have hpw := hsort.1.1
    rw [hfil, List.pairwise_cons] at hpw
    have hle := hsort.1.2 t (by rw [hfil]; exact List.mem_cons_self)
    refine greg_of_cov hti (hcov hlen) ?_ ?_
    · have := hsort.2 t List.mem_cons_self hne; omega
    · intro p _ hp2
      have : ¬ InTok ([] ++ t :: ts) p := by
        refine not_inTok_split (fun t' ht' => by cases ht') (fun t' ht' hnn => ?_)
        rcases List.mem_cons.mp ht' with rfl | ht'
        · exact hp2
        · have := hpw.1 t' (List.mem_filter.mpr ⟨ht', nn_notEOF hnn⟩)
          omega
      simpa using this
  · -- between two tokens
    rintro pre t1 t2 post len f l e ⟨⟨⟨hti, _⟩, hcov⟩, hsort⟩ hlen hne1 hne2
    have hfil : (pre ++ t1 :: t2 :: post).filter notEOF =
        pre.filter notEOF ++ t1 :: t2 :: post.filter notEOF := by
      simp only [List.filter_append, List.filter_cons, hne1, hne2, if_true]
    have hpw := hsort.1.1
    rw [hfil, List.pairwise_append] at hpw
    obtain ⟨_, hpw2, hpw3⟩ := hpw
    rw [List.pairwise_cons] at hpw2
    obtain ⟨hpw21, hpw22⟩ := hpw2
    rw [List.pairwise_cons] at hpw22
    have hle1 := hsort.1.2 t1 (by rw [hfil]; simp)
    have hle2 := hsort.1.2 t2 (by rw [hfil]; simp)
    refine greg_of_cov hti (hcov hlen) ?_ ?_
    · have := hsort.2 t2 (by simp) hne2; omega
    · intro p hp1 hp2
      have : ¬ InTok ((pre ++ [t1]) ++ t2 :: post) p := by
        refine not_inTok_split (fun t' ht' hnn => ?_) (fun t' ht' hnn => ?_)
        · rcases List.mem_append.mp ht' with ht' | ht'
          · have := hpw3 t' (List.mem_filter.mpr ⟨ht', nn_notEOF hnn⟩) t1 List.mem_cons_self
            omega
          · simp only [List.mem_singleton] at ht'; subst ht'; exact hp1
        · rcases List.mem_cons.mp ht' with rfl | ht'
          · exact hp2
          · have := hpw22.1 t' (List.mem_filter.mpr ⟨ht', nn_notEOF hnn⟩)
            omega
      simpa using this
  · -- under a NEWLINE token
    rintro pre t post len f l e ⟨⟨⟨hti, _⟩, hcov⟩, hsort⟩ hlen hty
    have hne : notEOF t = true := by simp [notEOF, hty]
    have hfil : (pre ++ t :: post).filter notEOF =
        pre.filter notEOF ++ t :: post.filter notEOF := by
      simp only [List.filter_append, List.filter_cons, hne, if_true]
    have hpw := hsort.1.1
    rw [hfil, List.pairwise_append] at hpw
    obtain ⟨_, hpw2, hpw3⟩ := hpw
    rw [List.pairwise_cons] at hpw2
    refine greg_of_cov hti (hcov hlen) (hsort.2 t (by simp) hne) ?_
    · intro p hp1 hp2
      rintro ⟨t', ht', hnn, h1, h2⟩
      rcases List.mem_append.mp ht' with ht' | ht'
      · have := hpw3 t' (List.mem_filter.mpr ⟨ht', nn_notEOF hnn⟩) t List.mem_cons_self
        omega
      · rcases List.mem_cons.mp ht' with rfl | ht'
        · obtain ⟨ty, q1, q2, _⟩ := hnn
          rw [q1] at hty; cases hty; exact q2 rfl
        · have := hpw2.1 t' (List.mem_filter.mpr ⟨ht', nn_notEOF hnn⟩)
          omega

end Bashlex.C05.TG

namespace Bashlex.C05.TGT
open Bashlex Bashlex.C05

theorem covOK_covL (L0 : Str) : CovOK0 (CovL L0) := (TG.covOK_covL L0).toTight0

theorem tokLogGL (L0 : Str) : TokLogC (TLogGL L0) := tokLogX (covOK_covL L0).toNew

/-- **the hypothesis `TokLog` holds of the real tokenizer, with coverage** -/
theorem tokLogG : TokLog TLogG := TG.tokLogG

end Bashlex.C05.TGT

#print axioms Bashlex.C05.TG.tokGaps_next
#print axioms Bashlex.C05.TG.tokGaps_gather
#print axioms Bashlex.C05.TG.tokLogG
#print axioms Bashlex.C05.TG.tokLogGL
#print axioms Bashlex.C05.TG.tokGapsC
