/-
  C05, character level, TIGHT regions: `token()` and `gatherheredocuments` from an exact
  cursor (`tokGaps_next`, `tokGaps_gather` over the tight `GapPost` / `GathQ`), and the walk
  `tokLogX`: a fact about log and state closed under these moves (`CovOK`) rides along the logged
  tokenizer invariant.  `Props/C05/TokGapsProof.lean` has the same for the loose regions, from here.
-/
import Bashlex.Props.C05.TGRead
import Bashlex.Props.C05Total
import Bashlex.Props.C03.RootEnds

namespace Bashlex.C05.TGT
open Bashlex Bashlex.M Bashlex.C10 Bashlex.C11 Bashlex.C03 Bashlex.C03.Tok Bashlex.C04
  Bashlex.C04.TTP Bashlex.C05 Bashlex.C05.TG
set_option linter.unusedVariables false

/-! ## Step 1: `token()` -/

/-- what `token()` did, entered at cursor `i0` (see the header) -/
def GapPost (L : Str) (i0 : Nat) (t : Token) (l : Local) (e : Env) : Prop :=
  (tapeOf l e).line = L ∧ l.eolLookahead = none ∧ l.positions = [] ∧
  ((t = eofTok ∧ Skip L i0 L.length ∧ (tapeOf l e).idx = L.length) ∨
   ∃ a, t.pos = some (a, (tapeOf l e).idx) ∧ a < (tapeOf l e).idx ∧ Skip L i0 a ∧
     ((t.ttype = some .NEWLINE ∧ L[a]? = some '\n' ∧ GRegT L l.store (a + 1) (tapeOf l e).idx) ∨
      (NN t ∧ (tapeOf l e).idx ≤ L.length)))

section
variable {L : Str} {sr : List RedirCell} {rk : List (Nat × Bool)}

/-- a bare token type: the end is recorded, the token is created -/
theorem bare_tok_g {i0 : Nat} (ty : TokType) :
    HT (ReadG L i0 (.inl ty)) (do recordpos; createtoken ty ty.enumValue : M Token)
      (GapPost L i0) ET := by
  intro l e h
  obtain ⟨a, hsk, hcase⟩ := h
  have hfacts : (tapeOf l e).line = L ∧ l.eolLookahead = none ∧ l.positions = [a] := by
    rcases hcase with ⟨_, _, g1, g2, g3, _⟩ | ⟨_, j, g1, _, _, g4, g5⟩
    · exact ⟨g1, g2, g3⟩
    · exact ⟨g1, g4, g5⟩
  obtain ⟨f1, f2, f3⟩ := hfacts
  simp only [M.run_bind, C11.run_recordpos]
  rw [run_createtoken ty ty.enumValue [] _ e a ((tapeOf l e).idx - 0)
    (by show l.positions ++ _ = _; rw [f3]; rfl)]
  by_cases hab : a < (tapeOf l e).idx - 0
  · rw [if_pos hab]
    refine ⟨f1, f2, rfl, Or.inr ⟨a, rfl, hab, hsk, ?_⟩⟩
    rcases hcase with ⟨rfl, g0, g1, g2, g3, g4, g5⟩ | ⟨hne, j, g1, g2, g3, g4, g5⟩
    · exact Or.inl ⟨rfl, g0, g5⟩
    · refine Or.inr ⟨⟨ty, rfl, hne⟩, ?_⟩
      show (tapeOf l e).idx ≤ L.length
      rw [g2]; exact g3
  · rw [if_neg hab]; exact True.intro

/-- **`token()`**, entered at cursor `i0` inside the line -/
theorem nextToken_g (hS : ScanHyp) (hnl : NL L) (hlast : LastNL L)
    (hlen : L.length < 1073741824) (hnd : (rk.map Prod.fst).Nodup) {i0 : Nat}
    (hi0 : i0 ≤ L.length) :
    HT (TpS L sr rk [] i0) nextToken (GapPost L i0) ET :=
  nextToken_ht (fun _ _ h => h) (readtoken_g hS hnl hlast hlen hnd hi0) (fun ty => bare_tok_g ty)
    (fun t l e h => by
      rcases h with ⟨rfl, hsk, g1, g2, g3, g4, g5⟩ | ⟨a, k, hsk, hpos, hak, hnn, g1, g2, g3, g4, g5⟩
      · exact ⟨g1, g4, g5, Or.inl ⟨rfl, hsk, g2⟩⟩
      · exact ⟨g1, g4, g5, Or.inr ⟨a, by rw [g2]; exact hpos, by rw [g2]; exact hak, hsk,
          Or.inr ⟨hnn, by rw [g2]; exact g3⟩⟩⟩)
    (fun _ _ _ h => h) (fun _ _ _ h => h)

end

/-- **the tokenizer skips only layout** (no hypothesis on the scanners left: `scanHyp`) -/
theorem tokGaps_next {L : Str} {sr : List RedirCell} {rk : List (Nat × Bool)} {i0 : Nat}
    (hnl : NL L) (hlast : LastNL L) (hlen : L.length < 1073741824)
    (hnd : (rk.map Prod.fst).Nodup) (hi0 : i0 ≤ L.length) :
    HT (TpS L sr rk [] i0) nextToken (GapPost L i0) ET :=
  nextToken_g TTP.scanHyp hnl hlast hlen hnd hi0

/-- **`gatherheredocuments`** moves the cursor forward over a `GRegT` region -/
theorem tokGaps_gather {L : Str} {sr : List RedirCell} {rk : List (Nat × Bool)} {ps : List Nat}
    {c : Nat} (hlast : LastNL L) (hlen : L.length < 1073741824)
    (hnd : (rk.map Prod.fst).Nodup) :
    HT (TpS L sr rk ps c) gatherheredocuments (fun _ l e => GathQ L ps c l e) ET := by
  refine HT.pre (gather_reg hlast hlen) ?_
  rintro l e ⟨⟨a1, a2, a3, a4, a5⟩, hs, hr⟩
  exact ⟨a1, a2, a3, a4, a5, by rw [hr]; exact hnd⟩

/-! ## Step 2: the log -/

/-- position `p` lies inside a delivered token that has a type other than NEWLINE, EOF -/
def InTok (ts : List Token) (p : Nat) : Prop :=
  ∃ t ∈ ts, NN t ∧ t.lexpos ≤ p ∧ p < t.endlexpos

/-- **coverage**: every position of the line below the cursor lies inside a delivered token
    other than a NEWLINE, is layout, or lies inside a gathered here-document body -/
def Cov (ts : List Token) (l : Local) (e : Env) : Prop :=
  ∀ p, p < (tapeOf l e).idx → p < (tapeOf l e).line.length →
    InTok ts p ∨ PosLay (tapeOf l e).line p ∨ InBody l.store p

/-- coverage, the line being `L0`; once EOF was delivered the cursor is at the end of the line
    (or beyond) -/
def CovL (L0 : Str) (ts : List Token) (l : Local) (e : Env) : Prop :=
  (tapeOf l e).line = L0 ∧ Cov ts l e ∧
    ((∃ t ∈ ts, t.pos = none) → L0.length ≤ (tapeOf l e).idx)

/-- `TLog` with a further fact about log and state, for inputs below the model's loop fuel -/
def TLogX (C : List Token → Local → Env → Prop) (ts : List Token) (len f : Nat) (l : Local)
    (e : Env) : Prop :=
  TLog ts len f l e ∧ (len + 1 < 1073741824 → C ts l e)

/-- **the logged ghost invariant with coverage** -/
def TLogG : List Token → Nat → Nat → Local → Env → Prop := TLogX Cov

/-- **the logged ghost invariant with coverage, the line pinned** -/
def TLogGL (L0 : Str) : List Token → Nat → Nat → Local → Env → Prop := TLogX (CovL L0)

theorem InTok.mono {ts ts' : List Token} {p : Nat} (h : InTok ts p) (hs : ∀ t ∈ ts, t ∈ ts') :
    InTok ts' p := by
  obtain ⟨t, ht, h1⟩ := h
  exact ⟨t, hs t ht, h1⟩

/-- bodies stay: the tokenizer attaches a body to a cell once -/
theorem inBody_storeStep {len f : Nat} {ext : Bool} {st st' : List RedirCell} {p : Nat}
    (h : InBody st p) (hs : StoreStep len f ext st st') : InBody st' p := by
  refine h.mono (fun c hc b hb => ?_)
  obtain ⟨i, hi⟩ := List.getElem?_of_mem hc
  have hlt : i < st.length := (List.getElem?_eq_some_iff.mp hi).1
  have hlt' : i < st'.length := by rw [hs.1]; exact hlt
  have hi' : st'[i]? = some st'[i] := List.getElem?_eq_getElem hlt'
  refine ⟨st'[i], List.getElem_mem hlt', ?_⟩
  rcases hs.2 i c _ hi hi' with h1 | ⟨h1, _⟩
  · rw [h1]; exact hb
  · rw [h1] at hb; cases hb

theorem lastNL_of_nl {L : Str} (h : NL L) : LastNL L := h.last

/-- what the proof of `TokLogC (TLogX C)` needs of `C` -/
structure CovOK0 (C : List Token → Local → Env → Prop) : Prop where
  /-- after `token()` -/
  next : ∀ {ts : List Token} {t : Token} {L : Str} {i0 len f : Nat} {l0 l : Local} {e0 e : Env},
    C ts l0 e0 → (tapeOf l0 e0).line = L → (tapeOf l0 e0).idx = i0 → GapPost L i0 t l e →
    StoreStep len f false l0.store l.store → C (ts ++ [t]) l e
  /-- after `gatherheredocuments` -/
  gather : ∀ {ts : List Token} {L : Str} {c len f : Nat} {l0 l : Local} {e0 e : Env},
    C ts l0 e0 → (tapeOf l0 e0).line = L → (tapeOf l0 e0).idx = c → GathQ L [] c l e →
    StoreStep len f true l0.store l.store → C ts l e
  /-- when line and cursor stay (or the cursor is beyond the end of the line before and after),
      bodies stay, and the log grows -/
  same : ∀ {ts ts' : List Token} {l0 l : Local} {e0 e : Env}, C ts l0 e0 →
    (tapeOf l e).line = (tapeOf l0 e0).line →
    ((tapeOf l e).idx = (tapeOf l0 e0).idx ∧ ts' = ts ∨
      ((tapeOf l0 e0).line.length < (tapeOf l0 e0).idx ∧
        (tapeOf l0 e0).line.length < (tapeOf l e).idx)) →
    (∀ p, InBody l0.store p → InBody l.store p) → (∀ t ∈ ts, t ∈ ts') → C ts' l e

/-- what the proof of `TokLogC (TLogX C)` needs of `C` (the closure properties of `CovOK0`, with
    what is KNOWN of a dead state -- the cursor beyond the end of the line after the non-strict
    skip over a missing here-document -- made explicit: `gatherheredocuments` is entered inside the
    line; in a dead state `token()` delivers the end-of-input token and the log grows by it
    only) -/
structure CovOK (C : List Token → Local → Env → Prop) : Prop where
  next : ∀ {ts : List Token} {t : Token} {L : Str} {i0 len f : Nat} {l0 l : Local} {e0 e : Env},
    C ts l0 e0 → (tapeOf l0 e0).line = L → (tapeOf l0 e0).idx = i0 → GapPost L i0 t l e →
    StoreStep len f false l0.store l.store → C (ts ++ [t]) l e
  gather : ∀ {ts : List Token} {L : Str} {c len f : Nat} {l0 l : Local} {e0 e : Env},
    C ts l0 e0 → (tapeOf l0 e0).line = L → (tapeOf l0 e0).idx = c → c ≤ L.length →
    GathQ L [] c l e → StoreStep len f true l0.store l.store → C ts l e
  same : ∀ {ts : List Token} {l0 l : Local} {e0 e : Env}, C ts l0 e0 →
    (tapeOf l e).line = (tapeOf l0 e0).line →
    ((tapeOf l e).idx = (tapeOf l0 e0).idx ∨
      ((tapeOf l0 e0).line.length < (tapeOf l0 e0).idx ∧
        (tapeOf l0 e0).line.length < (tapeOf l e).idx)) →
    (∀ p, InBody l0.store p → InBody l.store p) → C ts l e
  deadEof : ∀ {ts : List Token} {l0 l : Local} {e0 e : Env}, C ts l0 e0 →
    (tapeOf l e).line = (tapeOf l0 e0).line →
    ((tapeOf l0 e0).line.length < (tapeOf l0 e0).idx ∧
        (tapeOf l0 e0).line.length < (tapeOf l e).idx) →
    (∀ p, InBody l0.store p → InBody l.store p) → C (ts ++ [eofTok]) l e

theorem CovOK0.toNew {C : List Token → Local → Env → Prop} (h : CovOK0 C) : CovOK C :=
  ⟨h.next, fun hc h1 h2 _ hg hs => h.gather hc h1 h2 hg hs,
   fun hc h1 h2 h3 => h.same hc h1 (h2.imp (fun h => ⟨h, rfl⟩) id) h3 (fun t ht => ht),
   fun hc h1 hd h3 => h.same hc h1 (Or.inr hd) h3 (fun t ht => List.mem_append_left _ ht)⟩

/-- the raw facts about `token()` from a fixed state satisfying `TI` -/
theorem next_raw (len f : Nat) (l0 : Local) (e0 : Env) (hti : TI len f l0 e0)
    (hlen : len + 1 < 1073741824) :
    SatS nextToken (fun l e => l = l0 ∧ e = e0)
      (fun t l e => GapPost (tapeOf l0 e0).line (tapeOf l0 e0).idx t l e ∨
        (((tapeOf l0 e0).line.length < (tapeOf l0 e0).idx ∧
          (tapeOf l0 e0).line.length < (tapeOf l e).idx) ∧
          (tapeOf l e).line = (tapeOf l0 e0).line ∧ l.store = l0.store ∧ t = eofTok)) := by
  obtain ⟨L, ⟨hK, hnl⟩, hp, hc⟩ := hti
  rcases hc with hc | hc
  · obtain ⟨a1, a2, a3, a4, a5, a6, a7⟩ := hc
    refine satS_of_ht (HT.weaken (tokGaps_next (L := L) (sr := l0.store) (rk := l0.redirstack)
      (i0 := (tapeOf l0 e0).idx) hnl (lastNL_of_nl hnl) (by omega) hp.1 a2) ?_ ?_ (fun _ h => h))
    · rintro l e ⟨rfl, rfl⟩
      exact ⟨⟨a1, rfl, a2, a3, a4⟩, rfl, rfl⟩
    · intro t l e h
      left; rw [a1]; exact h
  · refine satS_of_ht (HT.weaken (nextToken_dead (L := L) (sr := l0.store) (rk := l0.redirstack))
      ?_ ?_ (fun _ h => h))
    · rintro l e ⟨rfl, rfl⟩; exact ⟨hc, rfl, rfl⟩
    · rintro t l e ⟨heof, hd, hs, _⟩
      right
      exact ⟨⟨by rw [hc.1]; exact hc.2.1, by rw [hc.1]; exact hd.2.1⟩, by rw [hd.1, hc.1], hs, heof⟩

/-- the raw facts about `gatherheredocuments` from a fixed state satisfying `TI` -/
theorem gather_raw (len f : Nat) (l0 : Local) (e0 : Env) (hti : TI len f l0 e0)
    (hlen : len + 1 < 1073741824) :
    SatS gatherheredocuments (fun l e => l = l0 ∧ e = e0)
      (fun _ l e => (GathQ (tapeOf l0 e0).line [] (tapeOf l0 e0).idx l e ∧
          (tapeOf l0 e0).idx ≤ (tapeOf l0 e0).line.length) ∨
        (((tapeOf l0 e0).line.length < (tapeOf l0 e0).idx ∧
          (tapeOf l0 e0).line.length < (tapeOf l e).idx) ∧
          (tapeOf l e).line = (tapeOf l0 e0).line ∧ l.store = l0.store)) := by
  obtain ⟨L, ⟨hK, hnl⟩, hp, hc⟩ := hti
  rcases hc with hc | hc
  · obtain ⟨a1, a2, a3, a4, a5, a6, a7⟩ := hc
    refine satS_of_ht (HT.weaken (tokGaps_gather (L := L) (sr := l0.store) (rk := l0.redirstack)
      (ps := []) (c := (tapeOf l0 e0).idx) (lastNL_of_nl hnl) (by omega) hp.1) ?_ ?_ (fun _ h => h))
    · rintro l e ⟨rfl, rfl⟩
      exact ⟨⟨a1, rfl, a2, a3, a4⟩, rfl, rfl⟩
    · intro t l e h
      left; rw [a1]; exact ⟨h, a2⟩
  · refine satS_of_ht (HT.weaken (gather_dead (L := L) (ps := []) (sr := l0.store)
      (rk := l0.redirstack)) ?_ ?_ (fun _ h => h))
    · rintro l e ⟨rfl, rfl⟩; exact ⟨hc, rfl, rfl⟩
    · rintro _ l e ⟨hd, hs, _⟩
      right
      exact ⟨⟨by rw [hc.1]; exact hc.2.1, by rw [hc.1]; exact hd.2.1⟩, by rw [hd.1, hc.1], hs⟩

/-- **`TokLog` without `init` holds of the real tokenizer, with a fact `C` closed under the
    tokenizer's moves** -/
theorem tokLogX {C : List Token → Local → Env → Prop} (hC : CovOK C) : TokLogC (TLogX C) := by
  refine ⟨?_, ?_⟩
  · -- `next`
    intro ts len f st
    refine SatS.intro_state (fun l0 e0 h0 => ?_)
    obtain ⟨⟨htl, hcov⟩, hst⟩ := h0
    have hA : SatS nextToken (fun l e => l = l0 ∧ e = e0)
        (fun t l e => ∃ a b, f ≤ a ∧ TokAt len t a b ∧ TLog (ts ++ [t]) len b l e ∧
          StoreStep len f false st l.store) :=
      SatS.pre (tokLog.next ts len f st) (by rintro l e ⟨rfl, rfl⟩; exact ⟨htl, hst⟩)
    by_cases hlen : len + 1 < 1073741824
    · refine SatS.post (SatS.and hA (next_raw len f l0 e0 htl.1 hlen)) ?_
      rintro t l e ⟨⟨a, b, h1, h2, h3, h4⟩, hraw⟩
      refine ⟨a, b, h1, h2, ⟨h3, fun _ => ?_⟩, h4⟩
      rcases hraw with hg | ⟨hd1, hd2, hd3, hd4⟩
      · exact hC.next (hcov hlen) rfl rfl hg (by rw [hst]; exact h4)
      · rw [hd4]
        exact hC.deadEof (hcov hlen) hd2 hd1 (fun p h => by rw [hd3]; exact h)
    · refine SatS.post hA ?_
      rintro t l e ⟨a, b, h1, h2, h3, h4⟩
      exact ⟨a, b, h1, h2, ⟨h3, fun h => absurd h hlen⟩, h4⟩
  · intro ts
    refine ⟨?_, ?_, ?_, ?_⟩
    · -- `gather`
      intro len f st
      refine SatS.intro_state (fun l0 e0 h0 => ?_)
      obtain ⟨⟨htl, hcov⟩, hst⟩ := h0
      have hA : SatS gatherheredocuments (fun l e => l = l0 ∧ e = e0)
          (fun _ l e => TLog ts len f l e ∧ StoreStep len f true st l.store) :=
        SatS.pre ((tokLog.act ts).gather len f st) (by rintro l e ⟨rfl, rfl⟩; exact ⟨htl, hst⟩)
      by_cases hlen : len + 1 < 1073741824
      · refine SatS.post (SatS.and hA (gather_raw len f l0 e0 htl.1 hlen)) ?_
        rintro _ l e ⟨⟨h3, h4⟩, hraw⟩
        refine ⟨⟨h3, fun _ => ?_⟩, h4⟩
        rcases hraw with ⟨hg, hcL⟩ | ⟨hd1, hd2, hd3⟩
        · exact hC.gather (hcov hlen) rfl rfl hcL hg (by rw [hst]; exact h4)
        · exact hC.same (hcov hlen) hd2 (Or.inr hd1)
            (fun p h => by rw [hd3]; exact h)
      · refine SatS.post hA ?_
        rintro _ l e ⟨h3, h4⟩
        exact ⟨⟨h3, fun h => absurd h hlen⟩, h4⟩
    · -- `queue`
      rintro len f l e cell kill ⟨h1, h2⟩ h3 h4 h5
      refine ⟨(tokLog.act ts).queue len f l e cell kill h1 h3 h4 h5, fun hlen => ?_⟩
      refine hC.same (h2 hlen) rfl (Or.inl rfl) (fun p h => ?_)
      exact h.mono (fun c hc b hb => ⟨c, List.mem_append_left _ hc, hb⟩)
    · -- `ps`
      rintro len f l e ps ⟨h1, h2⟩
      exact ⟨(tokLog.act ts).ps len f l e ps h1, fun hlen =>
        hC.same (h2 hlen) rfl (Or.inl rfl) (fun p h => h)⟩
    · -- `nested`
      intro d len f st s b
      refine (SatS.and (((tokLog.act ts).nested d len f st s b).pre
          (P' := fun l e => TLogX C ts len f l e ∧ l.store = st) fun _ _ h => ⟨h.1.1, h.2⟩)
        ((C16.npOf_frame (P := fun l e => len + 1 < 1073741824 → C ts l e)
          (fun l e ps e' h hE hlen => ?_) d s b).pre fun _ _ h => h.1.2)).post
        fun _ _ _ h => ⟨⟨h.1.1, h.2⟩, h.1.2⟩
      have ht : tapeOf ({ l with ps := ps } : Local) e' = tapeOf l e := by
        rw [tapeOf_env hE.1.symm]; rfl
      exact hC.same (h hlen) (by rw [ht]) (Or.inl (by rw [ht])) (fun p h => h)

theorem initState_tape {s : Str} {l : Local} {e : Env} (hi : InitState s l e) :
    tapeOf l e = Tape.ofInput s := by
  obtain ⟨_, _, _, _, h5⟩ := hi
  rcases h5 with h5 | ⟨h5, h6⟩
  · unfold tapeOf; rw [h5]
  · unfold tapeOf; rw [h5]; exact h6

/-- `init`, for the inputs whose line is pinned -/
theorem tokLogGL_init (s : Str) (l : Local) (e : Env) (hi : InitState s l e) :
    TLogGL (Tape.ofInput s).line [] s.length 0 l e := by
  refine ⟨tokLog.init s l e hi, fun _ => ?_⟩
  have ht := initState_tape hi
  refine ⟨by rw [ht], ?_, ?_⟩
  · intro p hp
    rw [ht, ofInput_idx] at hp
    omega
  · rintro ⟨t, ht', _⟩; cases ht'

end Bashlex.C05.TGT
