/-
  C05, character level: what the statements per position are made of (`InLeafPos`, `InToks`,
  `CharsOK`), `PosLay` spelled out per character (`posLay_charLay`) and the link to the
  specification's `isLayout`: `LF L a c` (`L[a:c]` is layout, for every sufficient fuel), a `Skip`
  in front of layout is layout (`LF.skip`; `skip_isLayout` is its case of an empty tail); the
  checked nested parser leaves tape and store alone (`npK_frame`).
-/
import Bashlex.Props.C05.TokGapsProof

namespace Bashlex.C05
open Bashlex Bashlex.Spec Bashlex.Node Bashlex.M Bashlex.LR Bashlex.C12 Bashlex.C03
  Bashlex.C03.Tok Bashlex.C10 Bashlex.C11 Bashlex.C05.TG

section
attribute [local instance] C16.stdEnvRel

/-- the checked nested parser leaves the caller's tape and store alone -/
theorem npK_frame (d : Nat) (s : Str) (b : Bool) (l : Local) (e : Env) :
    match M.run (npK true (parserRunK d) s b) l e with
    | (.ok (_, l'), e') => tapeOf l' e' = tapeOf l e ∧ l'.store = l.store
    | (.error _, _) => True := by
  have h := (npK_keeps (P := fun l' e' => tapeOf l' e' = tapeOf l e ∧ l'.store = l.store)
    (Φ := fun _ => True) (d := d) (s := s)
    (fun _ _ _ _ h hE => ⟨(tapeOf_env hE.1.symm).trans h.1, h.2⟩)
    (fun _ _ _ => by split <;> trivial) b).post (fun _ _ _ h => h.1) l e ⟨rfl, rfl⟩
  revert h
  rcases M.run (npK true (parserRunK d) s b) l e with ⟨r, e'⟩
  cases r <;> exact fun h => h

end

/-! ## the statement per position -/

/-- position `p` lies inside a leaf span -/
def InLeafPos (ls : List (Span × Bool)) (p : Nat) : Prop := ∃ x ∈ ls, x.1.1 ≤ p ∧ p < x.1.2

/-- position `p` lies inside the span of a token of `ts` -/
def InToks (ts : List Token) (p : Nat) : Prop := ∃ t ∈ ts, t.lexpos ≤ p ∧ p < t.endlexpos

/-- what is known of one run, character level (see the header) -/
def CharsOK (L0 : Str) (n : Node) : Prop :=
  ∃ (ts la : List Token) (B : Nat) (st : List RedirCell),
    la.length ≤ 1 ∧ TokSorted ts ∧
    (∀ t ∈ ts, Droppable t ∨ IsTimeTok t ∨ InLeaf t (Spec.leaves n)) ∧
    (∀ t ∈ ts ++ la, t.ttype ≠ some .EOF → min t.endlexpos L0.length ≤ B) ∧
    ((∃ t ∈ la, t.pos = none) → L0.length ≤ B) ∧
    ∀ p, p < B → p < L0.length →
      InLeafPos (Spec.leaves n) p ∨ PosLay L0 p ∨
      (∃ t ∈ ts, IsTimeTok t ∧ t.lexpos ≤ p ∧ p < t.endlexpos) ∨ InToks la p ∨ InBody st p

theorem nn_not_droppable {t : Token} (h : NN t) : ¬ Droppable t := by
  obtain ⟨ty, h1, h2⟩ := h
  rintro (hd | hd)
  · rw [h1] at hd; cases hd; exact h2.1 rfl
  · rw [h1] at hd; cases hd

/-! ## layout, per character -/

/-- **position `p` of the line is a layout character**: a blank, a tab, a newline, the backslash
    of a backslash-newline pair, or a character of a comment (`#` … before the next newline) -/
def CharLay (L : Str) (p : Nat) : Prop :=
  L[p]? = some ' ' ∨ L[p]? = some '\t' ∨ L[p]? = some '\n' ∨
  (L[p]? = some '\\' ∧ L[p + 1]? = some '\n') ∨
  ∃ q, q ≤ p ∧ L[q]? = some '#' ∧ ∀ k, q ≤ k → k ≤ p → L[k]? ≠ some '\n'

theorem del_blank_pos : ∀ {s w : Str}, C04.Del s w → (∀ c ∈ w, shellblank c = true) →
    ∀ i, i < s.length →
      (∃ c, s[i]? = some c ∧ shellblank c = true) ∨
      (s[i]? = some '\\' ∧ s[i + 1]? = some '\n') ∨ s[i]? = some '\n' := by
  intro s w h
  induction h with
  | nil => intro _ i hi; simp at hi
  | @keep c s w h ih =>
    intro hw i hi
    cases i with
    | zero => exact Or.inl ⟨c, rfl, hw c List.mem_cons_self⟩
    | succ j =>
      simp only [List.length_cons] at hi
      have := ih (fun x hx => hw x (List.mem_cons_of_mem _ hx)) j (by omega)
      simpa using this
  | @skip s w h ih =>
    intro hw i hi
    cases i with
    | zero => exact Or.inr (Or.inl ⟨rfl, rfl⟩)
    | succ j =>
      cases j with
      | zero => exact Or.inr (Or.inr rfl)
      | succ j =>
        simp only [List.length_cons] at hi
        have := ih hw j (by omega)
        simpa using this

theorem shellblank_cases {c : Char} (h : shellblank c = true) : c = ' ' ∨ c = '\t' := by
  simpa [shellblank] using h

/-- `PosLay`, spelled out -/
theorem posLay_charLay {L : Str} {p : Nat} (h : PosLay L p) : CharLay L p := by
  rcases h with h | ⟨a, b, h1, h2, m, ⟨b1, b2, w, hd, hw⟩, hm⟩
  · exact Or.inr (Or.inr (Or.inl h))
  · by_cases hpm : p < m
    · have hlen : (Str.slice L a m).length = m - a := C04.slice_length L b2
      have := del_blank_pos hd hw (p - a) (by rw [hlen]; omega)
      have e1 : a + (p - a) = p := by omega
      rcases this with ⟨c, hc, hb⟩ | ⟨hc1, hc2⟩ | hc
      · rw [slice_getElem? L (by omega), e1] at hc
        rcases shellblank_cases hb with rfl | rfl
        · exact Or.inl hc
        · exact Or.inr (Or.inl hc)
      · rw [slice_getElem? L (by omega), e1] at hc1
        have hlt : p - a + 1 < (Str.slice L a m).length := by
          apply Classical.byContradiction
          intro hx
          rw [List.getElem?_eq_none (by omega)] at hc2
          cases hc2
        rw [slice_getElem? L (by rw [hlen] at hlt; omega)] at hc2
        have e2 : a + (p - a + 1) = p + 1 := by omega
        rw [e2] at hc2
        exact Or.inr (Or.inr (Or.inr (Or.inl ⟨hc1, hc2⟩)))
      · rw [slice_getElem? L (by omega), e1] at hc
        exact Or.inr (Or.inr (Or.inl hc))
    · rcases hm with rfl | ⟨c1, c2, c3, c4⟩
      · omega
      · exact Or.inr (Or.inr (Or.inr (Or.inr ⟨m, by omega, c2, fun k hk1 hk2 => c3 k hk1 (by omega)⟩)))

/-! ## link to the specification's `isLayout` -/

theorem isLayout_run : ∀ {s w : Str}, C04.Del s w → (∀ c ∈ w, shellblank c = true) →
    ∀ (t : Str) (k : Nat), (∀ fuel, k ≤ fuel → Spec.isLayout fuel t = true) →
    ∀ fuel, s.length + k ≤ fuel → Spec.isLayout fuel (s ++ t) = true := by
  intro s w h
  induction h with
  | nil => intro _ t k ht fuel hf; exact ht fuel (by simpa using hf)
  | @keep c s w h ih =>
    intro hw t k ht fuel hf
    cases fuel with
    | zero => simp at hf
    | succ f =>
      have hb := hw c List.mem_cons_self
      have hc : (c == ' ' || c == '\t' || c == '\n') = true := by
        rcases shellblank_cases hb with rfl | rfl <;> rfl
      show Spec.isLayout (f + 1) (c :: (s ++ t)) = true
      unfold Spec.isLayout
      rw [if_pos hc]
      exact ih (fun x hx => hw x (List.mem_cons_of_mem _ hx)) t k ht f
        (by simp only [List.length_cons] at hf; omega)
  | @skip s w h ih =>
    intro hw t k ht fuel hf
    cases fuel with
    | zero => simp at hf
    | succ f =>
      show Spec.isLayout (f + 1) ('\\' :: '\n' :: (s ++ t)) = true
      unfold Spec.isLayout
      rw [if_neg (by decide), if_pos (by rfl)]
      exact ih hw t k ht f (by simp only [List.length_cons] at hf; omega)

end Bashlex.C05

namespace Bashlex.C05.TGT
open Bashlex Bashlex.M Bashlex.C04 Bashlex.C05 Bashlex.C05.TG Bashlex.C03.Tok

/-- `L[a:c]` is layout, for every sufficient fuel -/
def LF (L : Str) (a c : Nat) : Prop :=
  a ≤ c ∧ c ≤ L.length ∧ ∀ fuel, c - a ≤ fuel → Spec.isLayout fuel (Str.slice L a c) = true

theorem LF.refl (L : Str) {c : Nat} (h : c ≤ L.length) : LF L c c :=
  ⟨Nat.le_refl _, h, fun fuel _ => by rw [slice_self]; cases fuel <;> rfl⟩

theorem dropWhile_comment : ∀ (u v : Str), (∀ ch ∈ u, ch ≠ '\n') → (v = [] ∨ v.head? = some '\n') →
    (u ++ v).dropWhile (· != '\n') = v
  | [], v, _, hv => by
    rcases hv with rfl | hv
    · rfl
    · cases v with
      | nil => rfl
      | cons d v' =>
        simp only [List.head?_cons, Option.some.injEq] at hv
        subst hv
        simp
  | ch :: u, v, hu, hv => by
    have hc : (ch != '\n') = true := by simpa using hu ch List.mem_cons_self
    simp only [List.cons_append, List.dropWhile_cons, hc, if_true]
    exact dropWhile_comment u v (fun x hx => hu x (List.mem_cons_of_mem _ hx)) hv

/-- a `Skip` in front -/
theorem LF.skip {L : Str} {i a c : Nat} (hs : Skip L i a) (h : LF L a c) : LF L i c := by
  obtain ⟨h1, h2, h3⟩ := h
  obtain ⟨m, ⟨b1, b2, w, hd, hw⟩, hm⟩ := hs
  have hia : i ≤ a := Skip.le ⟨m, ⟨b1, b2, w, hd, hw⟩, hm⟩
  refine ⟨by omega, h2, fun fuel hf => ?_⟩
  have hlen : (Str.slice L i m).length = m - i := C04.slice_length L b2
  rcases hm with rfl | ⟨c1, c2, c3, c4⟩
  · rw [← C04.slice_cat L b1 h1 h2]
    exact isLayout_run hd hw _ (c - m) h3 fuel (by rw [hlen]; omega)
  · have hmc : m ≤ c := by omega
    rw [← C04.slice_cat L b1 hmc h2]
    refine isLayout_run hd hw _ (c - m) (fun f hf' => ?_) fuel (by rw [hlen]; omega)
    cases f with
    | zero => omega
    | succ f =>
      rw [C04.slice_cons L c2 (by omega)]
      unfold Spec.isLayout
      rw [if_neg (by decide), if_neg (by simp), if_neg (by simp), if_pos (by rfl)]
      rw [← C04.slice_cat L (show m + 1 ≤ a by omega) h1 h2]
      rw [dropWhile_comment]
      · exact h3 f (by omega)
      · intro ch hch
        obtain ⟨j, hj⟩ := List.getElem?_of_mem hch
        have hlen2 : (Str.slice L (m + 1) a).length = a - (m + 1) :=
          C04.slice_length L (by omega)
        have hlt : j < a - (m + 1) := by
          rw [← hlen2]; exact (List.getElem?_eq_some_iff.mp hj).1
        rw [slice_getElem? L (by omega)] at hj
        intro hx
        subst hx
        exact c3 (m + 1 + j) (by omega) (by omega) hj
      · by_cases hac : a < c
        · right
          rw [C04.slice_cons L c4 hac]; rfl
        · left
          have : a = c := by omega
          rw [this, slice_self]

end Bashlex.C05.TGT

namespace Bashlex.C05
open Bashlex Bashlex.Spec Bashlex.Node Bashlex.M Bashlex.LR Bashlex.C12 Bashlex.C03
  Bashlex.C03.Tok Bashlex.C10 Bashlex.C11 Bashlex.C05.TG

/-- **what one call of `token()` skips is layout in the sense of `Spec.isLayout`** -/
theorem skip_isLayout {L : Str} {a b : Nat} (h : Skip L a b) :
    Spec.isLayout (L.length + 1) (Str.slice L a b) = true :=
  (TGT.LF.skip h (TGT.LF.refl L h.end_le)).2.2 _ (by have := h.end_le; omega)

end Bashlex.C05

#print axioms Bashlex.C05.posLay_charLay
#print axioms Bashlex.C05.skip_isLayout
