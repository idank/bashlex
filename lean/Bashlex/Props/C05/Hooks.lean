/-
  C05, parts 5 and 6: the hypothesis on the token source with a ghost *log* of the delivered tokens
  (`TokLog`), the stack invariant `SILC` (C03's span invariant, instantiated with the logged
  tokenizer invariant, plus the account of the consumed tokens `tss` and the link
  `consumed = (lead ++ tss.flatten).map symOfTok` to the engine's ghost `consumed`), and its
  closure under the engine's moves for the real hooks (`leaves_hooksT : HooksOrdC …`; the
  witnesses: `next` same; `shift` `tss ++ [[t]]`; dropped NEWLINE `lead ++ [t]`; reduce
  `tssR ++ [tssA.flatten]`).
  Then what one parser run returns (`RunOK`): the leaves of the returned (resolved) tree,
  in tree order, are accounted for -- group by group -- by the tokens the tokenizer delivered, in
  order, except the look-ahead; and the contract of the plain nested parser under `RootEnds`
  (`npSpans_npOf_act`).  The run theorem itself is proved once, for any nested parser, in
  `Props/C08/RunIT.lean` (`level_leavesIT`); `parserRun_leaves` (`Props/C05/FRun.lean`) is its
  instance at `npOf (parserRun d)`.
-/
import Bashlex.Props.C05.Engine

namespace Bashlex.C05
open Bashlex Bashlex.Spec Bashlex.Node Bashlex.M Bashlex.LR Bashlex.C12 Bashlex.C03
set_option linter.unusedSimpArgs false
-- see `Props/C08/RunIT.lean`
attribute [local irreducible] M.SatS M.Sat

/-! ## the token source, with a log -/

/-- **the hypothesis on the token source** (for every parser run, top-level and nested):
    C03's `TokSpans`, for a ghost invariant `TL ts len f l e` that also pins the sequence `ts` of
    tokens `token()` has delivered so far:
    * `next`: `token()` delivers a token at or after the frontier and appends it to the log;
    * `act`: everything else the parser does to the parser object (`gatherheredocuments` from
      `p_simple_list`, queueing a here-document redirect, parser-state flags, nested parser runs)
      keeps the invariant *with the same log*;
    * `init`: a fresh parser object has an empty log.
    Any property of token sequences that is an invariant of the tokenizer can be carried in `TL`
    (e.g. "the text between consecutive tokens is layout", `TokGaps`). -/
structure TokLog (TL : List Token → Nat → Nat → Local → Env → Prop) : Prop where
  next : ∀ ts len f st, SatS nextToken (fun l e => TL ts len f l e ∧ l.store = st)
    (fun t l e => ∃ a b, f ≤ a ∧ TokAt len t a b ∧ TL (ts ++ [t]) len b l e ∧
      StoreStep len f false st l.store)
  act : ∀ ts, TokAct (TL ts)
  init : ∀ s l e, InitState s l e → TL [] s.length 0 l e

/-- forgetting the log gives C03's hypothesis -/
theorem TokLog.spans {TL : List Token → Nat → Nat → Local → Env → Prop} (h : TokLog TL) :
    TokSpans (fun len f l e => ∃ ts, TL ts len f l e) := by
  refine ⟨?_, ?_, ?_, ?_, ?_, ?_⟩
  · intro len f st
    refine SatS.intro_state ?_
    rintro l0 e0 ⟨⟨ts, hti⟩, hst⟩
    refine SatS.weaken (h.next ts len f st) ?_ ?_ (fun _ h => h)
    · rintro l e ⟨rfl, rfl⟩; exact ⟨hti, hst⟩
    · rintro t l e ⟨a, b, h1, h2, h3, h4⟩
      exact ⟨a, b, h1, h2, ⟨_, h3⟩, h4⟩
  · intro len f st
    refine SatS.intro_state ?_
    rintro l0 e0 ⟨⟨ts, hti⟩, hst⟩
    refine SatS.weaken ((h.act ts).gather len f st) ?_ ?_ (fun _ h => h)
    · rintro l e ⟨rfl, rfl⟩; exact ⟨hti, hst⟩
    · rintro _ l e ⟨h1, h2⟩
      exact ⟨⟨_, h1⟩, h2⟩
  · rintro len f l e cell kill ⟨ts, hti⟩ h1 h2 h3
    exact ⟨ts, (h.act ts).queue len f l e cell kill hti h1 h2 h3⟩
  · rintro len f l e ps ⟨ts, hti⟩
    exact ⟨ts, (h.act ts).ps len f l e ps hti⟩
  · intro d len f st s b
    refine SatS.intro_state ?_
    rintro l0 e0 ⟨⟨ts, hti⟩, hst⟩
    refine SatS.weaken ((h.act ts).nested d len f st s b) ?_ ?_ (fun _ h => h)
    · rintro l e ⟨rfl, rfl⟩; exact ⟨hti, hst⟩
    · rintro _ l e ⟨h1, h2⟩
      exact ⟨⟨_, h1⟩, h2⟩
  · intro s l e hi
    exact ⟨[], h.init s l e hi⟩

/-- `TokLog` without `init`: what the engine's moves need.  (`TokLog TL` asks `init` for every
    input, so no `TL` satisfying it can say which line the parser object reads.) -/
structure TokLogC (TL : List Token → Nat → Nat → Local → Env → Prop) : Prop where
  next : ∀ ts len f st, SatS nextToken (fun l e => TL ts len f l e ∧ l.store = st)
    (fun t l e => ∃ a b, f ≤ a ∧ TokAt len t a b ∧ TL (ts ++ [t]) len b l e ∧
      StoreStep len f false st l.store)
  act : ∀ ts, TokAct (TL ts)

theorem TokLog.core {TL : List Token → Nat → Nat → Local → Env → Prop} (h : TokLog TL) :
    TokLogC TL := ⟨h.next, h.act⟩

/-! ## the stack invariant -/

/-- the token of the look-ahead -/
def laToks (la : Option (Nat × SVal)) : List Token :=
  match la with
  | some (_, .tok t) => [t]
  | _ => []

theorem laToks_le (la : Option (Nat × SVal)) : (laToks la).length ≤ 1 := by
  unfold laToks
  split <;> simp

/-! ## symbols of tokens -/

theorem sym_le (ty : TokType) : ty.sym ≤ 59 := by
  unfold TokType.sym
  split
  · omega
  · have : TokType.all.idxOf ty ≤ TokType.all.length := List.idxOf_le_length
    have h57 : TokType.all.length = 57 := rfl
    omega

theorem symOfTok_le (t : Token) : symOfTok t ≤ 59 := by
  unfold symOfTok
  split
  · exact sym_le _
  · omega

theorem timespecSym_eq : timespecSym = 96 := by decide +kernel
theorem iuSym_eq : iuSym = 60 := by decide +kernel

theorem nl_of_sym : ∀ ty : TokType, ty.sym = 55 → ty = .NEWLINE := by
  intro ty; cases ty <;> decide +kernel

theorem symOfTok_nl_inv {t : Token} (h : symOfTok t = realTables.nlTok) :
    t.ttype = some .NEWLINE := by
  have h' : symOfTok t = 55 := h
  unfold symOfTok at h'
  cases hty : t.ttype with
  | none => rw [hty] at h'; simp at h'
  | some ty => rw [hty] at h'; simp only [] at h'; rw [nl_of_sym ty h']

theorem acc_tok (t : Token) : Acc (symOfTok t, .tok t) [t] := by
  have := symOfTok_le t
  refine ⟨rfl, ?_, ?_, fun t' ht' => by cases ht'; rfl, fun h => absurd rfl (h t)⟩
  · intro h; simp only [timespecSym_eq] at h; omega
  · intro h; simp only [iuSym_eq] at h; omega

theorem acc_none_of_iu {x : Nat × SVal} {ts : List Token} (h : Acc x ts) (hx : x.1 = iuSym) :
    x.2 = .none := h.2.2.1 hx

/-! ## acceptance -/

theorem sat_action_accepts {np : NestedParse} {fname : String} {args : List SVal} :
    Sat (action np fname args)
      (fun r => r.2 = true → fname = "p_inputunit" ∨ fname = "p_simple_list") := by
  unfold action
  refine Sat.bind_any (fun r => ?_)
  split
  · exact Sat.foreign trivial
  · rename_i hc
    refine Sat.pure ?_
    intro hr
    have : acceptingActions.contains fname = true := by
      cases h : acceptingActions.contains fname with
      | true => rfl
      | false => exfalso; apply hc; rw [hr, h]; rfl
    simpa [acceptingActions] using this

/-- an accepting reduction happens on an otherwise empty stack -/
theorem rest_nil_of_accept {p lhs : Nat} {rhs : List Nat} {rest : List (Nat × SVal)}
    (hprod : realTables.prods[p]? = some (lhs, rhs)) (hrest : RestHint realTables rest lhs)
    (hf : fn p = "p_inputunit" ∨ fn p = "p_simple_list") : rest = [] := by
  rcases hrest with h | ⟨s, t, hs, hg⟩
  · exact h
  · rcases hf with hf | hf
    · rw [iu_lhs hprod hf] at hg
      exact absurd (goto_iu hg) hs
    · rw [sl_lhs hprod hf] at hg
      exact absurd (goto_sl hg) hs

/-- C05's `SIL`, indexed by what the engine consumed -/
def SILC (TL : List Token → Nat → Nat → Local → Env → Prop) (len : Nat) (cs : List Nat)
    (vs : List (Nat × SVal)) (la : Option (Nat × SVal)) (l : Local) (e : Env) : Prop :=
  ∃ lead tss, cs = (lead ++ tss.flatten).map symOfTok ∧ (Covers lead [] ∧ NoEOF lead) ∧
    Forall2 Acc vs tss ∧ C03.SI (TL (lead ++ tss.flatten ++ laToks la)) len vs la l e

/-- C05's `FinL`, with the link: the tokens accounted for are, as terminals, what was consumed -/
def FinLC (TL : List Token → Nat → Nat → Local → Env → Prop) (len : Nat) (cs : List Nat) (v : SVal)
    (l : Local) (e : Env) : Prop :=
  C03.Fin len v l e ∧ ∀ n, v = .node n → ∃ ts la F l' e', TL (ts ++ la) len F l' e' ∧
    la.length ≤ 1 ∧ NoEOF ts ∧ Covers ts (aleaves n) ∧ ts.map symOfTok = cs

/-! ## the hooks of the real parser are closed under the engine's moves -/

section
variable {TL : List Token → Nat → Nat → Local → Env → Prop} {len : Nat}

theorem si_cast {tr tr' : List Token} {vs : List (Nat × SVal)} {la : Option (Nat × SVal)}
    {l : Local} {e : Env} (h : C03.SI (TL tr) len vs la l e) (he : tr = tr') :
    C03.SI (TL tr') len vs la l e := by subst he; exact h

theorem leaves_hooksT (hL : TokLogC TL) {np : NestedParse} (hnp : NPOK np)
    (hW : ∀ tr F st, C03.WordSat (StP (TL tr) len F st) np len) :
    HooksOrdC realTables (lrHooks np) (SILC TL len) (FinLC TL len) (fun _ _ _ => True)
      (fun _ => True) (fun s => s = iuSym) := by
  have hC := hooks_ok sat_nextToken hnp
  refine ⟨?_, ?_, ?_, ?_, ?_, fun la => Sat.trivial _, fun _ _ _ _ _ _ => trivial⟩
  · -- next: the token delivered is appended to the log
    intro cs vs
    have h1 : SatS (lrHooks np).next (SILC TL len cs vs none)
        (fun la l e => ∃ lead tss, cs = (lead ++ tss.flatten).map symOfTok ∧ (Covers lead [] ∧ NoEOF lead) ∧ Forall2 Acc vs tss ∧
          SIs (TL (lead ++ tss.flatten ++ laToks (some la))) len vs (some la) l e ∧
          ∀ x ∈ vs, VI x.1 x.2) := by
      refine SatS.intro_state ?_
      rintro l e ⟨lead, tss, hcs, hlead, hacc, ⟨g, F, hseg, hlain, hti, hent⟩, hvi, _⟩
      show SatS (nextToken >>= fun t => pure (symOfTok t, SVal.tok t)) _ _
      refine SatS.bind (SatS.pre (hL.next (lead ++ tss.flatten ++ laToks none) len F l.store) ?_) ?_
      · rintro l1 e1 ⟨rfl, rfl⟩; exact ⟨hti, rfl⟩
      · intro t
        refine SatS.pure ?_
        rintro l' e' ⟨a, b, hFa, htok, hti', hstep⟩
        refine ⟨lead, tss, hcs, hlead, hacc, ⟨g, b, hseg, ⟨t, a, b, rfl, ?_, Nat.le_refl _, htok⟩, ?_, ?_⟩,
          hvi⟩
        · have : g ≤ F := hlain
          omega
        · simpa [laToks] using hti'
        · intro x hx; exact entryOK_step hstep (hent x hx)
    refine SatS.post (SatS.and_sat h1 hC.next) ?_
    rintro la l e ⟨⟨lead, tss, hcs, hlead, hacc, hs, hvi⟩, hla⟩
    exact ⟨lead, tss, hcs, hlead, hacc, hs, hvi, by intro x hx; cases hx; exact hla⟩
  · -- shift: the look-ahead becomes an entry accounting for itself
    rintro cs vs la l e ⟨lead, tss, hcs, hlead, hacc, ⟨g, F, hseg, hlain, hti, hent⟩, hvi, hvila⟩
    obtain ⟨t, a, b, rfl, hga, hbF, htok⟩ := hlain
    refine ⟨lead, tss ++ [[t]], (by rw [hcs]; simp), hlead, forall2_snoc hacc (acc_tok t), ⟨F, F,
      Seg.append hseg (seg_single.mpr (tokAt_valIn htok hga hbF)), Nat.le_refl F, ?_, ?_⟩,
      ?_, by intro x hx; cases hx⟩
    · simpa [laToks, List.append_assoc] using hti
    · intro x hx
      rcases List.mem_append.mp hx with hx | hx
      · exact hent x hx
      · simp only [List.mem_singleton] at hx; subst hx; exact Or.inl fresh_tok
    · intro x hx
      rcases List.mem_append.mp hx with hx | hx
      · exact hvi x hx
      · simp only [List.mem_singleton] at hx; subst hx; exact hvila _ rfl
  · -- a NEWLINE shifted in state 0 is dropped
    rintro cs la l e hnl ⟨lead, tss, hcs, hlead, hacc, ⟨g, F, hseg, hlain, hti, hent⟩, hvi, hvila⟩
    obtain ⟨t, a, b, rfl, hga, hbF, htok⟩ := hlain
    have htss : tss = [] := by cases hacc; rfl
    subst htss
    have hd : Droppable t := Or.inl (symOfTok_nl_inv hnl)
    have hlead' : Covers (lead ++ [t]) [] ∧ NoEOF (lead ++ [t]) := by
      refine ⟨?_, ?_⟩
      · have := Covers.append hlead.1 (Covers.drop hd)
        simpa using this
      · intro t' ht'
        rcases List.mem_append.mp ht' with ht' | ht'
        · exact hlead.2 t' ht'
        · simp only [List.mem_singleton] at ht'
          subst ht'
          rw [symOfTok_nl_inv hnl]
          intro hc; cases hc
    refine ⟨lead ++ [t], [], (by rw [hcs]; simp), hlead', .nil, ⟨0, F, Nat.le_refl 0, Nat.zero_le F, ?_,
      (by intro x hx; cases hx)⟩, ⟨(by intro x hx; cases hx), (by intro x hx; cases hx)⟩⟩
    simpa [laToks] using hti
  · -- the semantic actions
    intro cs p lhs rhs rest args la hprod hargs hrest hla
    rw [lrHooks_act]
    refine SatS.intro_state ?_
    rintro l0 e0 ⟨lead, tss, hcs, hlead, hacc, hs0, hvi, hvila⟩
    obtain ⟨tssR, tssA, rfl, haccR, haccA⟩ := forall2_append_left hacc
    have hti0 : ∃ F, TL (lead ++ (tssR ++ tssA).flatten ++ laToks la) len F l0 e0 := by
      obtain ⟨g, F, _, _, hti, _⟩ := hs0
      exact ⟨F, hti⟩
    have hvargs : ∀ x ∈ args, VI x.1 x.2 := fun x hx => hvi x (List.mem_append_right _ hx)
    have hvrest : ∀ x ∈ rest, VI x.1 x.2 := fun x hx => hvi x (List.mem_append_left _ hx)
    have hF2 : Forall2 VI rhs (args.map (·.2)) := by rw [← hargs]; exact forall2_vi args hvargs
    have hCact := hC.act p lhs rhs _ hprod hF2
    rcases sort_ok hprod with he | hab
    · rw [he]
      exact SatS.weaken (SatS.of_sat action_unknown _) (fun _ _ _ => trivial)
        (fun _ _ _ h => h.elim) (fun _ h => h)
    · have hspan := satS_action_of_core
        (act_spans (TI := TL (lead ++ (tssR ++ tssA).flatten ++ laToks la)) (len := len)
          (hL.act _) (hW _) hprod hargs hrest hla hab (forall2_hasSort_of_vi hF2))
      have hleaf : Sat (action np (fn p) (args.map (·.2))) (PostL lhs tssA) :=
        sat_action_of_core (act_leaves hprod hargs hab (forall2_hasSort_of_vi hF2) haccA)
      have hacc' := sat_action_accepts (np := np) (fname := fn p) (args := args.map (·.2))
      refine SatS.weaken (SatS.and_sat (SatS.and_sat (SatS.and_sat hspan
        (hCact.weaken (fun _ h => h.1) (fun _ _ => trivial))) hleaf) hacc') ?_ ?_ (fun _ h => h)
      · rintro l e ⟨rfl, rfl⟩; exact hs0
      · rintro r l e ⟨⟨⟨hpost, hvr⟩, hpl⟩, hfa⟩
        unfold PostS at hpost
        by_cases hacc1 : r.2 = true
        · simp only [hacc1, if_true] at hpost ⊢
          refine ⟨hpost, ?_⟩
          intro n hn
          have hrest0 := rest_nil_of_accept hprod hrest (hfa hacc1)
          subst hrest0
          have htR : tssR = [] := by cases haccR; rfl
          subst htR
          obtain ⟨F, hti⟩ := hti0
          refine ⟨lead ++ tssA.flatten, laToks la, F, l0, e0, by simpa using hti, laToks_le la, ?_, ?_,
            (by rw [hcs]; simp)⟩
          · intro t ht
            rcases List.mem_append.mp ht with ht | ht
            · exact hlead.2 t ht
            · exact hpl.2.2 t ht
          · have := Covers.append hlead.1 (hpl.1 n hn)
            simpa using this
        · simp only [hacc1, if_false] at hpost ⊢
          have hfalse : r.2 = false := by simpa using hacc1
          refine ⟨lead, tssR ++ [tssA.flatten], (by rw [hcs]; simp), hlead, forall2_snoc haccR (hpl.2.1 hfalse),
            ⟨?_, ?_, hvila⟩⟩
          · have he : (tssR ++ [tssA.flatten]).flatten = (tssR ++ tssA).flatten := by simp
            rw [he]
            exact hpost
          · intro x hx
            rcases List.mem_append.mp hx with hx | hx
            · exact hvrest x hx
            · simp only [List.mem_singleton] at hx; subst hx; exact hvr
  · -- the `accept` entry: the top of the stack is an `inputunit` entry, which holds `None`
    rintro cs vs x la l e hx _ ⟨lead, tss, hcs, hlead, hacc, hsi⟩
    obtain ⟨tssR, tssA, rfl, haccR, haccA⟩ := forall2_append_left hacc
    obtain ⟨ts, rfl, hax⟩ := forall2_1 haccA
    have hnone : x.2 = .none := acc_none_of_iu hax hx
    refine ⟨?_, ?_⟩
    · intro n hn; rw [hnone] at hn; cases hn
    · intro n hn; rw [hnone] at hn; cases hn

end

end Bashlex.C05

namespace Bashlex.C05
open Bashlex Bashlex.Spec Bashlex.Node Bashlex.M Bashlex.LR Bashlex.C12 Bashlex.C03

/-- what a parser run over `s` returns: a fine tree (C03), and a token sequence `ts` -- all the
    tokens the tokenizer delivered (`TL` held of `ts ++ la` in some state of the run), but at
    most one look-ahead token `la` -- that covers the leaves of the tree -/
def RunOK (TL : List Token → Nat → Nat → Local → Env → Prop) (s : Str) (n : Node) : Prop :=
  TopOK s.length n ∧ ∃ ts la F l' e', TL (ts ++ la) s.length F l' e' ∧ la.length ≤ 1 ∧
    NoEOF ts ∧ FCovers s.length ts (Spec.leaves n)

section
variable {TL : List Token → Nat → Nat → Local → Env → Prop}

theorem npSpans_npOf_act {TI : Nat → Nat → Local → Env → Prop} (hT : TokAct TI) (hR : RootEnds)
    (d : Nat)
    (ih : ∀ s, SatS (parserRun d) (InitState s) (fun r _ _ => ∀ n, r = some n → TopOK s.length n)) :
    NPSpans TI (npOf (parserRun d)) := by
  intro s b len F st
  have h1 := hT.nested d len F st s b
  have h2 := npOf_result (b := b)
    (Φ := fun r => (∀ n, r = some n → TopOK s.length n) ∧ (∀ n, r = some n → RootEndOK s n))
    (SatS.and (ih s) (hR d s))
  refine SatS.post (SatS.and h1 (SatS.pre h2 (fun _ _ _ => trivial))) ?_
  rintro r l e ⟨hp, h3⟩
  exact ⟨hp, fun n hn => ⟨h3.1 n hn, h3.2 n hn⟩⟩

end
end Bashlex.C05
