/-
  C05, character level, TIGHT form: the line of a parser run, from its start to the tokenizer's
  cursor, is a CHAIN
      Skip  token  Skip  token  …  Skip  token  [regions `gatherheredocuments` consumed]
  in which every `Skip` (a run of blanks / tabs / backslash-newline pairs, optionally a comment up
  to its newline) STARTS WHERE THE PREVIOUS TOKEN ENDS (or where the previous
  `gatherheredocuments` stopped) and ends where the next token starts.

  Why this file exists.  `C05_chars_checked` (`Props/C05Chars.lean`) is a statement per
  POSITION: a position outside the leaves is `PosLay`.  `PosLay L p` is a property of the TEXT
  alone (`∃ a b, a ≤ p < b ∧ Skip L a b`), and it is over-approximate: in `a#b c` the interval
  `[1, 5)` is a `Skip` of the text (an empty blank run, then `#b c` up to the newline), so the
  positions of the word `c` ARE `PosLay` -- the per-position theorem would not notice if the
  token `c` were dropped (witness below, `posLay_overapprox`).  The chain is anchored at the token
  ends, so it has no such slack: what lies between two consecutive tokens IS a `Skip` from the
  end of the first to the start of the second, and `Spec.isLayout` holds of it
  (`C05Chars.skip_isLayout`).

  The regions are TIGHT (`GRegT`, `Props/C05/TGGather.lean`, `TGRead.lean`, `FT3.lean`: per position a newline, the backslash of
  a backslash-newline pair, or a position inside a recorded body).
  The proof reuses the parametric walk `tokLogX` (`Props/C05/TokGapsProof.lean`): only the three
  closure properties `CovOK` have to be shown of the new fact.
-/
import Bashlex.Props.C05.CharsBase
import Bashlex.Props.C05.FT3

namespace Bashlex.C05.TG

theorem Skip.le_len {L : Str} {i a : Nat} (h : Skip L i a) : i ≤ L.length := by
  obtain ⟨m, ⟨h1, h2, _⟩, _⟩ := h
  omega

end Bashlex.C05.TG

namespace Bashlex.C05.TGT
open Bashlex Bashlex.M Bashlex.C10 Bashlex.C11 Bashlex.C03 Bashlex.C03.Tok Bashlex.C04
  Bashlex.C04.TTP Bashlex.C05 Bashlex.C05.TG

/-- **the chain**: `Chain L st ts c`: the tokens `ts` were delivered, in this order, the cursor is
    at `c`, and the text of the line `L` from 0 to `c` is accounted for (see the header) -/
inductive Chain (L : Str) (st : List RedirCell) : List Token → Nat → Prop
  | nil : Chain L st [] 0
  /-- a token with a type other than NEWLINE, EOF: `Skip` from the cursor to its start -/
  | tok {ts : List Token} {i0 a b : Nat} {t : Token} : Chain L st ts i0 → Skip L i0 a →
      t.pos = some (a, b) → a < b → b ≤ L.length → NN t → Chain L st (ts ++ [t]) b
  /-- a NEWLINE token: it sits on a newline; the rest of its span is what
      `gatherheredocuments` consumed -/
  | nl {ts : List Token} {i0 a b : Nat} {t : Token} : Chain L st ts i0 → Skip L i0 a →
      t.pos = some (a, b) → a < b → t.ttype = some .NEWLINE → L[a]? = some '\n' →
      GRegT L st (a + 1) b → Chain L st (ts ++ [t]) b
  /-- the end of the input -/
  | eof {ts : List Token} {i0 : Nat} : Chain L st ts i0 → Skip L i0 L.length →
      Chain L st (ts ++ [eofTok]) L.length
  /-- `gatherheredocuments` called by `p_simple_list` -/
  | gath {ts : List Token} {c c' : Nat} : Chain L st ts c → c ≤ c' → GRegT L st c c' →
      Chain L st ts c'

theorem Chain.mono {L : Str} {st st' : List RedirCell} {ts : List Token} {c : Nat}
    (h : Chain L st ts c) (hs : ∀ p, InBody st p → InBody st' p) : Chain L st' ts c := by
  induction h with
  | nil => exact .nil
  | tok _ h1 h2 h3 h4 h5 ih => exact .tok ih h1 h2 h3 h4 h5
  | nl _ h1 h2 h3 h4 h5 h6 ih => exact .nl ih h1 h2 h3 h4 h5 (h6.mono hs)
  | eof _ h1 ih => exact .eof ih h1
  | gath _ h1 h2 ih => exact .gath ih h1 (h2.mono hs)

/-- the cursor `c` of the chain is the cursor `i` of the tape, or both are beyond the end of the
    line (the non-strict skip over a missing here-document) -/
def CurRel (L0 : Str) (k c i : Nat) : Prop := (k = 0 ∧ c = i) ∨ (L0.length < c ∧ L0.length < i)

/-- the chain fact about log and state, the line being `L0`: the log is a chain `pre`, followed --
    only when the cursor is beyond the end of the line -- by end-of-input tokens (in a dead state
    `token()` delivers nothing else) -/
def ChainC (L0 : Str) (ts : List Token) (l : Local) (e : Env) : Prop :=
  (tapeOf l e).line = L0 ∧
  (∃ pre k c, ts = pre ++ List.replicate k eofTok ∧ Chain L0 l.store pre c ∧
    CurRel L0 k c (tapeOf l e).idx) ∧
  ((∃ t ∈ ts, t.pos = none) → L0.length ≤ (tapeOf l e).idx)

theorem chainC_live {L0 : Str} {ts : List Token} {l : Local} {e : Env} (h : ChainC L0 ts l e)
    (hi : (tapeOf l e).idx ≤ L0.length) : Chain L0 l.store ts (tapeOf l e).idx := by
  obtain ⟨_, ⟨pre, k, c, h1, h2, h3⟩, _⟩ := h
  rcases h3 with ⟨rfl, rfl⟩ | ⟨_, h3⟩
  · simpa [h1] using h2
  · omega

theorem covOK_chain (L0 : Str) : CovOK (ChainC L0) := by
  refine ⟨?_, ?_, ?_, ?_⟩
  · intro ts t L i0 len f l0 l e0 e hc h1 h2 hg hs
    have c1 := hc.1
    have c3 := hc.2.2
    have hL : L = L0 := by rw [← h1]; exact c1
    subst hL
    obtain ⟨g1, _, _, hcase⟩ := hg
    have hmono : ∀ p, InBody l0.store p → InBody l.store p := fun p h => inBody_storeStep h hs
    have hi0 : i0 ≤ L.length := by
      rcases hcase with ⟨_, hsk, _⟩ | ⟨a, _, _, hsk, _⟩ <;> exact hsk.le_len
    have hch := (chainC_live hc (by rw [h2]; exact hi0)).mono hmono
    rw [h2] at hch
    refine ⟨g1, ⟨ts ++ [t], 0, (tapeOf l e).idx, by simp, ?_, Or.inl ⟨rfl, rfl⟩⟩, ?_⟩
    · rcases hcase with ⟨rfl, hsk, hi⟩ | ⟨a, hpos, hak, hsk, hty⟩
      · rw [hi]
        exact .eof hch hsk
      · rcases hty with ⟨hnl, hLa, hreg⟩ | ⟨hnn, hle⟩
        · exact .nl hch hsk hpos hak hnl hLa hreg
        · exact .tok hch hsk hpos hak hle hnn
    · rintro ⟨t', ht', hpos'⟩
      rcases hcase with ⟨_, _, hidx⟩ | ⟨a, hpos, hak, hsk, _⟩
      · rw [hidx]; exact Nat.le_refl _
      · rcases List.mem_append.mp ht' with ht' | ht'
        · have := c3 ⟨t', ht', hpos'⟩
          have := hsk.le
          rw [h2] at *
          omega
        · simp only [List.mem_singleton] at ht'
          subst ht'
          rw [hpos] at hpos'; cases hpos'
  · intro ts L c len f l0 l e0 e hc h1 h2 hcL hg hs
    have c1 := hc.1
    have c3 := hc.2.2
    have hL : L = L0 := by rw [← h1]; exact c1
    subst hL
    obtain ⟨g1, _, _, g4, g5⟩ := hg
    have hmono : ∀ p, InBody l0.store p → InBody l.store p := fun p h => inBody_storeStep h hs
    have hch := (chainC_live hc (by rw [h2]; exact hcL)).mono hmono
    rw [h2] at hch
    refine ⟨g1, ⟨ts, 0, (tapeOf l e).idx, by simp, .gath hch g4 g5, Or.inl ⟨rfl, rfl⟩⟩, fun hx => ?_⟩
    have := c3 hx
    rw [h2] at *
    omega
  · intro ts l0 l e0 e hc h1 h2 h3
    obtain ⟨c1, ⟨pre, k, c, d1, d2, d3⟩, c3⟩ := hc
    refine ⟨by rw [h1]; exact c1, ⟨pre, k, c, d1, d2.mono h3, ?_⟩, fun hx => ?_⟩
    · rcases h2 with h2 | ⟨h2a, h2b⟩
      · rw [h2]; exact d3
      · rw [c1] at h2a h2b
        rcases d3 with ⟨_, rfl⟩ | ⟨d3, _⟩
        · exact Or.inr ⟨h2a, h2b⟩
        · exact Or.inr ⟨d3, h2b⟩
    · rcases h2 with h2 | ⟨_, h2⟩
      · rw [h2]; exact c3 hx
      · rw [c1] at h2; exact Nat.le_of_lt h2
  · intro ts l0 l e0 e hc h1 h2 h3
    obtain ⟨c1, ⟨pre, k, c, d1, d2, d3⟩, c3⟩ := hc
    obtain ⟨h2a, h2b⟩ := h2
    rw [c1] at h2a h2b
    refine ⟨by rw [h1]; exact c1, ⟨pre, k + 1, c, ?_, d2.mono h3, ?_⟩, fun _ => Nat.le_of_lt h2b⟩
    · rw [d1, List.replicate_succ', List.append_assoc]
    · rcases d3 with ⟨_, rfl⟩ | ⟨d3, _⟩
      · exact Or.inr ⟨h2a, h2b⟩
      · exact Or.inr ⟨d3, h2b⟩

/-- the consumed tokens (none is the end-of-input token) and the look-ahead, or the consumed
    tokens alone, are the chain -/
theorem chainC_split {L0 : Str} {ts la : List Token} {l : Local} {e : Env}
    (h : ChainC L0 (ts ++ la) l e) (hno : ∀ t ∈ ts, t.ttype ≠ some .EOF) (hla : la.length ≤ 1) :
    ∃ la' c, (la' = la ∨ la' = []) ∧ Chain L0 l.store (ts ++ la') c ∧
      (c = (tapeOf l e).idx ∨ (L0.length < c ∧ L0.length < (tapeOf l e).idx)) := by
  obtain ⟨_, ⟨pre, k, c, h1, h2, h3⟩, _⟩ := h
  have hcur : c = (tapeOf l e).idx ∨ (L0.length < c ∧ L0.length < (tapeOf l e).idx) := by
    rcases h3 with ⟨_, h⟩ | h
    · exact Or.inl h
    · exact Or.inr h
  cases k with
  | zero =>
    refine ⟨la, c, Or.inl rfl, ?_, hcur⟩
    rw [h1]; simpa using h2
  | succ k =>
    rw [List.replicate_succ', ← List.append_assoc] at h1
    cases la with
    | nil =>
      exfalso
      simp only [List.append_nil] at h1
      exact hno eofTok (by rw [h1]; simp) rfl
    | cons x xs =>
      have hxs : xs = [] := by
        cases xs with
        | nil => rfl
        | cons _ _ => simp at hla
      subst hxs
      obtain ⟨h4, _⟩ := List.append_inj' h1 rfl
      cases k with
      | zero =>
        refine ⟨[], c, Or.inr rfl, ?_, hcur⟩
        rw [List.append_nil, h4]; simpa using h2
      | succ k =>
        exfalso
        exact hno eofTok (by rw [h4]; simp [List.replicate_succ]) rfl

/-- **the logged ghost invariant with the chain, the line pinned** -/
def TLogCh (L0 : Str) : List Token → Nat → Nat → Local → Env → Prop := TLogX (ChainC L0)

theorem tokLogCh_init (s : Str) (l : Local) (e : Env) (hi : InitState s l e) :
    TLogCh (Tape.ofInput s).line [] s.length 0 l e := by
  refine ⟨tokLog.init s l e hi, fun _ => ?_⟩
  have ht := initState_tape hi
  have hc : CurRel (Tape.ofInput s).line 0 0 (tapeOf l e).idx :=
    Or.inl ⟨rfl, by rw [ht, ofInput_idx]⟩
  refine ⟨by rw [ht], ⟨[], 0, 0, rfl, .nil, hc⟩, ?_⟩
  rintro ⟨t, ht', _⟩; cases ht'

end Bashlex.C05.TGT

namespace Bashlex.C05
open Bashlex Bashlex.Spec Bashlex.Node Bashlex.M Bashlex.LR Bashlex.C12 Bashlex.C03
  Bashlex.C03.Tok Bashlex.C10 Bashlex.C11 Bashlex.C05.TG Bashlex.C05.TGT

/-- what is known of one run, in chain form: the consumed tokens `ts` cover the leaves of the
    tree group by group (`FCovers`, token level); `ts` and at most one look-ahead token are ALL
    the tokens delivered; and the line up to the cursor `B` is the chain of these tokens
    (unless the cursor left the line: the non-strict skip over a missing here-document) -/
def ChainOK (s0 : Str) (n : Node) : Prop :=
  ∃ (ts la : List Token) (B : Nat) (st : List RedirCell),
    la.length ≤ 1 ∧ NoEOF ts ∧ TokSorted ts ∧ FCovers s0.length ts (Spec.leaves n) ∧
    (∃ la' c, (la' = la ∨ la' = []) ∧ Chain (Tape.ofInput s0).line st (ts ++ la') c ∧
      (c = B ∨ ((Tape.ofInput s0).line.length < c ∧ (Tape.ofInput s0).line.length < B))) ∧
    ((∃ t ∈ la, t.pos = none) → (Tape.ofInput s0).line.length ≤ B)

end Bashlex.C05

