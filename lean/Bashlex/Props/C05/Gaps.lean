/-
  C05: from the token-level statement towards the character-level one.

  * `token_in_leaf`: spatially, no token is lost: if the consumed tokens have ordered spans (a
    fact of the token source, C03's `TokSpans.next`), every consumed token that is not a dropped
    NEWLINE (or a D19 `time` token) lies inside a leaf of the returned tree;
  * `TokGaps`: the hypothesis on the tokenizer the character-level half of C05 needs in
    addition ("between two delivered tokens the tokenizer skips only layout -- blanks, newlines,
    comments, line continuations -- and gathered here-document bodies").  It is a property of
    the ghost invariant `TL` of `TokLog`; it is stated here and not used: the form proved of
    the real tokenizer is `TokGapsC` (`tokGapsC`, `Props/C05/TokGapsProof.lean`), and the
    character-level theorem is `C05_final` (`Props/C05Final.lean`).
-/
import Bashlex.Props.C05

namespace Bashlex.C05
open Bashlex Bashlex.Spec Bashlex.Node Bashlex.M Bashlex.C03
set_option linter.unusedSimpArgs false

/-! ## no token is lost, spatially -/

/-- the spans of the tokens are non-empty-or-empty intervals in increasing order, disjoint -/
def TokSorted (ts : List Token) : Prop :=
  ts.Pairwise (fun a b => a.endlexpos ≤ b.lexpos) ∧ ∀ t ∈ ts, t.lexpos ≤ t.endlexpos

theorem TokSorted.append {a b : List Token} (h : TokSorted (a ++ b)) : TokSorted a ∧ TokSorted b := by
  obtain ⟨h1, h2⟩ := h
  rw [List.pairwise_append] at h1
  exact ⟨⟨h1.1, fun t ht => h2 t (List.mem_append_left _ ht)⟩,
    ⟨h1.2.1, fun t ht => h2 t (List.mem_append_right _ ht)⟩⟩

def InLeaf (t : Token) (ls : List (Span × Bool)) : Prop :=
  ∃ x ∈ ls, x.1.1 ≤ t.lexpos ∧ t.endlexpos ≤ x.1.2

theorem InLeaf.mono {t : Token} {ls ls' : List (Span × Bool)} (h : InLeaf t ls)
    (hs : ∀ x ∈ ls, x ∈ ls') : InLeaf t ls' := by
  obtain ⟨x, hx, h1⟩ := h
  exact ⟨x, hs x hx, h1⟩

/-- among sorted tokens the first starts first and the last ends last -/
theorem TokSorted.bounds {t1 tk : Token} : ∀ {rest : List Token}, TokSorted (t1 :: rest) →
    (t1 :: rest).getLast? = some tk →
    ∀ t ∈ t1 :: rest, t1.lexpos ≤ t.lexpos ∧ t.endlexpos ≤ tk.endlexpos
  | [], _, hl, t, ht => by
    simp only [List.getLast?_singleton, Option.some.injEq] at hl
    simp only [List.mem_singleton] at ht
    subst hl; subst ht
    exact ⟨Nat.le_refl _, Nat.le_refl _⟩
  | t2 :: rest, hs, hl, t, ht => by
    rw [List.getLast?_cons_cons] at hl
    obtain ⟨hp, hle⟩ := hs
    obtain ⟨hp1, hp2⟩ := List.pairwise_cons.mp hp
    have ih := TokSorted.bounds (t1 := t2) ⟨hp2, fun x hx => hle x (List.mem_cons_of_mem _ hx)⟩ hl
    have h1 := hle t1 List.mem_cons_self
    have hk : tk ∈ t2 :: rest := List.mem_of_getLast? hl
    have := hp1 tk hk
    have := hle tk (List.mem_cons_of_mem _ hk)
    rcases List.mem_cons.mp ht with rfl | ht
    · exact ⟨Nat.le_refl _, by omega⟩
    · exact ⟨by have := hp1 t ht; omega, (ih t ht).2⟩

theorem group_in_leaf {len : Nat} {ts : List Token} {ls : List (Span × Bool)}
    (h : FGroup len ts ls) (hs : TokSorted ts) :
    ∀ t ∈ ts, Droppable t ∨ IsTimeTok t ∨ InLeaf t ls := by
  intro t ht
  rcases h.shape with ⟨t0, rfl, hd, _⟩ | ⟨_, hall, _⟩ | ⟨t1, rest, tk, p', h', rfl, hl, rfl, hok⟩
  · rw [List.mem_singleton.mp ht]; exact .inl hd
  · exact .inr (.inl (hall t ht))
  · -- the leaf at `p'` starts where `t1` starts and ends at or behind the end of `tk`
    obtain ⟨b, hb⟩ := head_redirLeaves p' h'
    have := hs.bounds hl t ht
    have := hok.span
    exact .inr (.inr ⟨_, hb, by simp only [] at *; omega, by simp only [] at *; omega⟩)

/-- **no token is lost, spatially**: every consumed token is a dropped NEWLINE, a `time` token
    (D19), or lies inside a leaf of the returned tree -/
theorem token_in_leaf {len : Nat} {ts : List Token} {ls : List (Span × Bool)}
    (h : FCovers len ts ls) (hs : TokSorted ts) :
    ∀ t ∈ ts, Droppable t ∨ IsTimeTok t ∨ InLeaf t ls := by
  induction h with
  | nil => intro t ht; cases ht
  | @cons ts1 ls1 ts2 ls2 hg _ ih =>
    obtain ⟨hs1, hs2⟩ := hs.append
    intro t ht
    rcases List.mem_append.mp ht with ht | ht
    · rcases group_in_leaf hg hs1 t ht with h | h | h
      · exact Or.inl h
      · exact Or.inr (Or.inl h)
      · exact Or.inr (Or.inr (h.mono (fun x hx => List.mem_append_left _ hx)))
    · rcases ih hs2 t ht with h | h | h
      · exact Or.inl h
      · exact Or.inr (Or.inl h)
      · exact Or.inr (Or.inr (h.mono (fun x hx => List.mem_append_right _ hx)))

/-- … and conversely every leaf that is not a here-document body standing alone, nor D19's
    invented leaf, starts where a consumed token starts -/
theorem leaf_starts_at_token {len : Nat} {ts : List Token} {ls : List (Span × Bool)}
    (h : FCovers len ts ls) :
    ∀ x ∈ ls, (∃ t ∈ ts, x.1.1 = t.lexpos) ∨ x.2 = true ∨ x.1 = (0, 0) := by
  induction h with
  | nil => intro x hx; cases hx
  | @cons ts1 ls1 ts2 ls2 hg _ ih =>
    intro x hx
    rcases List.mem_append.mp hx with hx | hx
    · rcases hg.shape with ⟨_, _, _, rfl⟩ | ⟨_, _, rfl⟩ | ⟨t1, rest, tk, p', h', rfl, _, rfl, hok⟩
      · cases hx
      · rw [List.mem_singleton.mp hx]; exact .inr (.inr rfl)
      · rcases mem_redirLeaves hx with h1 | h1
        · exact .inl ⟨_, List.mem_append_left _ List.mem_cons_self, by rw [h1]; exact hok.span.1⟩
        · exact .inr (.inl h1)
    · rcases ih x hx with ⟨t, ht, h1⟩ | h1
      · exact .inl ⟨t, List.mem_append_right _ ht, h1⟩
      · exact .inr h1

/-! ## the consumed tokens have ordered spans: derived from the hypothesis on the token source -/

def notEOF (t : Token) : Bool := t.ttype != some .EOF

/-- the log, minus end-of-input tokens, has ordered spans, all ending at or before the frontier -/
def LogSorted (ts : List Token) (f : Nat) : Prop :=
  TokSorted (ts.filter notEOF) ∧ ∀ t ∈ ts, notEOF t = true → t.endlexpos ≤ f

/-- the ghost invariant `TL`, strengthened by the order of the log -/
def TLs (TL : List Token → Nat → Nat → Local → Env → Prop) :
    List Token → Nat → Nat → Local → Env → Prop :=
  fun ts len f l e => TL ts len f l e ∧ LogSorted ts f

theorem logSorted_mono {ts : List Token} {f f' : Nat} (h : LogSorted ts f) (hf : f ≤ f') :
    LogSorted ts f' :=
  ⟨h.1, fun t ht hn => Nat.le_trans (h.2 t ht hn) hf⟩

theorem logSorted_snoc {ts : List Token} {t : Token} {len f a b : Nat} (h : LogSorted ts f)
    (hfa : f ≤ a) (ht : TokAt len t a b) : LogSorted (ts ++ [t]) b := by
  obtain ⟨hab, hk⟩ := ht
  have hfb : f ≤ b := by omega
  cases hn : notEOF t with
  | false =>
    refine ⟨?_, ?_⟩
    · rw [List.filter_append]
      simp only [List.filter_cons, hn, List.filter_nil, Bool.false_eq_true, if_false,
        List.append_nil]
      exact h.1
    · intro t' ht' hn'
      rcases List.mem_append.mp ht' with ht' | ht'
      · exact Nat.le_trans (h.2 t' ht' hn') hfb
      · simp only [List.mem_singleton] at ht'; subst ht'; rw [hn] at hn'; cases hn'
  | true =>
    have hpos : t.pos = some (a, b) := by
      rcases hk with ⟨h1, _⟩ | ⟨h1, _⟩
      · simp [notEOF, h1] at hn
      · exact h1
    obtain ⟨hl, he⟩ := tok_lexspan hpos
    refine ⟨?_, ?_⟩
    · rw [List.filter_append]
      simp only [List.filter_cons, hn, List.filter_nil, if_true]
      refine ⟨?_, ?_⟩
      · rw [List.pairwise_append]
        refine ⟨h.1.1, List.pairwise_singleton _ _, ?_⟩
        intro x hx y hy
        simp only [List.mem_singleton] at hy
        subst hy
        have hx' := List.mem_filter.mp hx
        have := h.2 x hx'.1 hx'.2
        rw [hl]; omega
      · intro x hx
        rcases List.mem_append.mp hx with hx | hx
        · exact h.1.2 x hx
        · simp only [List.mem_singleton] at hx; subst hx; rw [hl, he]; omega
    · intro t' ht' hn'
      rcases List.mem_append.mp ht' with ht' | ht'
      · exact Nat.le_trans (h.2 t' ht' hn') hfb
      · simp only [List.mem_singleton] at ht'; subst ht'; rw [he]; exact Nat.le_refl _

/-- a pure fact rides along a state-aware triple -/
theorem satS_with {α : Type} {m : M α} {P : Local → Env → Prop} {Q : α → Local → Env → Prop}
    {C : Prop} (h : SatS m P Q) :
    SatS m (fun l e => C ∧ P l e) (fun a l e => C ∧ Q a l e) := by
  refine SatS.assume (fun hc => ?_)
  exact SatS.post h (fun _ _ _ hq => ⟨hc, hq⟩)

/-- a fact `D` about the log and the frontier alone that every delivered token keeps rides along
    a token source: nothing but `token()` changes log or frontier -/
theorem TokLogC.withLog {TL : List Token → Nat → Nat → Local → Env → Prop}
    {D : List Token → Nat → Nat → Prop} (h : TokLogC TL)
    (hD : ∀ {ts len f t a b}, D ts len f → f ≤ a → TokAt len t a b → D (ts ++ [t]) len b) :
    TokLogC (fun ts len f l e => TL ts len f l e ∧ D ts len f) := by
  refine ⟨?_, ?_⟩
  · intro ts len f st
    have := satS_with (C := D ts len f) (h.next ts len f st)
    refine SatS.weaken this ?_ ?_ (fun _ h => h)
    · rintro l e ⟨⟨h1, h2⟩, h3⟩; exact ⟨h2, h1, h3⟩
    · rintro t l e ⟨hs, a, b, h1, h2, h3, h4⟩
      exact ⟨a, b, h1, h2, ⟨h3, hD hs h1 h2⟩, h4⟩
  · intro ts
    refine ⟨?_, ?_, ?_, ?_⟩
    · intro len f st
      have := satS_with (C := D ts len f) ((h.act ts).gather len f st)
      refine SatS.weaken this ?_ ?_ (fun _ h => h)
      · rintro l e ⟨⟨h1, h2⟩, h3⟩; exact ⟨h2, h1, h3⟩
      · rintro _ l e ⟨hs, h1, h2⟩; exact ⟨⟨h1, hs⟩, h2⟩
    · rintro len f l e cell kill ⟨h1, h2⟩ h3 h4 h5
      exact ⟨(h.act ts).queue len f l e cell kill h1 h3 h4 h5, h2⟩
    · rintro len f l e ps ⟨h1, h2⟩
      exact ⟨(h.act ts).ps len f l e ps h1, h2⟩
    · intro d len f st s b
      have := satS_with (C := D ts len f) ((h.act ts).nested d len f st s b)
      refine SatS.weaken this ?_ ?_ (fun _ h => h)
      · rintro l e ⟨⟨h1, h2⟩, h3⟩; exact ⟨h2, h1, h3⟩
      · rintro _ l e ⟨hs, h1, h2⟩; exact ⟨⟨h1, hs⟩, h2⟩

/-- **the order of the log is an invariant of every token source satisfying `TokLogC`** -/
theorem TokLogC.sorted {TL : List Token → Nat → Nat → Local → Env → Prop} (h : TokLogC TL) :
    TokLogC (TLs TL) :=
  h.withLog (D := fun ts _ f => LogSorted ts f) logSorted_snoc

/-- **the order of the log is an invariant of every token source satisfying `TokLog`** -/
theorem TokLog.sorted {TL : List Token → Nat → Nat → Local → Env → Prop} (h : TokLog TL) :
    TokLog (TLs TL) :=
  ⟨h.core.sorted.next, h.core.sorted.act, fun s l e hi =>
    ⟨h.init s l e hi, ⟨⟨List.Pairwise.nil, fun t ht => by cases ht⟩, fun t ht => by cases ht⟩⟩⟩

theorem filter_noEOF {ts : List Token} (h : NoEOF ts) : ts.filter notEOF = ts := by
  rw [List.filter_eq_self]
  intro t ht
  simp only [notEOF, bne_iff_ne, ne_eq]
  exact h t ht

/-- the consumed tokens of a parser run have ordered spans, and none is lost spatially -/
theorem runOK_sorted {TL : List Token → Nat → Nat → Local → Env → Prop} {s : Str} {n : Node}
    (h : RunOK (TLs TL) s n) :
    ∃ ts la F l e, TL (ts ++ la) s.length F l e ∧ la.length ≤ 1 ∧ NoEOF ts ∧ TokSorted ts ∧
      FCovers s.length ts (Spec.leaves n) ∧
      ∀ t ∈ ts, Droppable t ∨ IsTimeTok t ∨ InLeaf t (Spec.leaves n) := by
  obtain ⟨_, ts, la, F, l, e, ⟨htl, hsort⟩, hla, hno, hc⟩ := h
  have hs : TokSorted ts := by
    have := hsort.1
    rw [List.filter_append, filter_noEOF hno] at this
    exact this.append.1
  exact ⟨ts, la, F, l, e, htl, hla, hno, hs, hc, token_in_leaf hc hs⟩

/-! ## the hypothesis the character-level half needs (stated, not proved, not used) -/

/-- the text the tokenizer of this parser object reads (`_shell_input_line`) -/
def lineOf (l : Local) (e : Env) : Str :=
  match l.tape with
  | some t => t.line
  | none => e.tape.line

/-- the bodies gathered so far -/
def bodiesOf (l : Local) : List Span := l.store.filterMap fun c => c.heredoc.map (·.1)

/-- is the text `src[a:b]` layout, possibly with here-document bodies (and the lines of their
    delimiters) cut out: `cuts` are the spans cut out, in order -/
def LayoutBut (src : Str) (a b : Nat) (bodies : List Span) : Prop :=
  ∃ cuts : List Span, (∀ c ∈ cuts, ∃ y ∈ bodies, y.1 ≤ c.2 ∧ c.1 ≤ y.2) ∧
    Spec.isLayout (src.length + 1)
      ((Spec.maskSpans (Str.slice src a b) a cuts).map fun c => if c == 'x' then ' ' else c) = true

/-- **`TokGaps`**: between two tokens it delivers, and before the first, the tokenizer skips
    only layout (blanks, newlines, comments, line continuations) and here-document bodies it
    gathered; a NEWLINE token is a newline character (possibly extended over gathered bodies).
    A property of the ghost invariant `TL` of `TokLog` -- a statement about tokenizer.py only.
    (This form is stated only.  The form per position of the tokenizer's line, for
    consecutive tokens other than EOF, is proved for the real tokenizer: `TokGapsC`, `tokGapsC`,
    and the tokenizer theorem `tokGaps_next` behind it, in `Props/C05/TokGapsProof.lean`; the
    character-level half of C05 built on it: `Props/C05Chars.lean`.) -/
structure TokGaps (TL : List Token → Nat → Nat → Local → Env → Prop) : Prop where
  first : ∀ t ts len f l e, TL (t :: ts) len f l e →
    LayoutBut (lineOf l e) 0 t.lexpos (bodiesOf l)
  between : ∀ pre t1 t2 post len f l e, TL (pre ++ t1 :: t2 :: post) len f l e →
    LayoutBut (lineOf l e) t1.endlexpos t2.lexpos (bodiesOf l)
  newline : ∀ pre t post len f l e, TL (pre ++ t :: post) len f l e → t.ttype = some .NEWLINE →
    LayoutBut (lineOf l e) t.lexpos t.endlexpos (bodiesOf l)
  sorted : ∀ ts len f l e, TL ts len f l e → LogSorted ts f

end Bashlex.C05

#print axioms Bashlex.C05.token_in_leaf
#print axioms Bashlex.C05.leaf_starts_at_token
#print axioms Bashlex.C05.TokLog.sorted
