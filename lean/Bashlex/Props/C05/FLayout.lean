/-
  C05, character level, tight form: THE LINK TO `Spec.isLayout`, per gap.

  `gap_layout`: in the chain of a run, let `t1` (ending at `b1`) and `t2` (starting at `a2`) be
  two tokens of the log with only NEWLINE tokens between them (the tokens the parser drops).  If
  no position of `[b1, a2)` lies inside a here-document body recorded in the store -- and every
  such body is a leaf of the returned tree (`C05_final`) -- then

        Spec.isLayout (|L| + 1) (L[b1:a2]) = true:

  the text between the two tokens is layout IN THE SENSE OF THE EXECUTABLE SPECIFICATION (the
  predicate `Spec.gapsOK` applies to the gaps between leaves).  `chain_layout`: the same for a
  stretch of the chain that holds dropped NEWLINE tokens only (the text before the first token of
  a run; the whole text of a run that returns `None`).

  This needs the TIGHT regions of `TGGather.lean`, `TGRead.lean`, `FT3.lean` (a character after a `#` inside a region consumed
  by `gatherheredocuments` would not be layout) and the anchoring of every `Skip` at the end of
  the token before it (`FChain.lean`): `isLayout` scans from the left, so a comment must be
  entered at its `#`.
-/
import Bashlex.Props.C05.FGaps

namespace Bashlex.C05.TGT
open Bashlex Bashlex.M Bashlex.C04 Bashlex.C05 Bashlex.C05.TG Bashlex.C03.Tok

/-- stepping over a leading newline -/
theorem LF.tail_nl {L : Str} {a c : Nat} (h : LF L a c) (hlt : a < c) (hn : L[a]? = some '\n') :
    LF L (a + 1) c := by
  obtain ⟨h1, h2, h3⟩ := h
  refine ⟨by omega, h2, fun fuel hf => ?_⟩
  have := h3 (fuel + 1) (by omega)
  rw [slice_cons L hn hlt] at this
  unfold Spec.isLayout at this
  rw [if_pos (by rfl)] at this
  exact this

/-- a newline, or the backslash of a pair, in front -/
theorem LF.cons_pn {L : Str} {a c : Nat} (hp : PosPN L a) (hlt : a < c) (h : LF L (a + 1) c) :
    LF L a c := by
  obtain ⟨h1, h2, h3⟩ := h
  refine ⟨by omega, h2, fun fuel hf => ?_⟩
  cases fuel with
  | zero => omega
  | succ f =>
    rcases hp with hn | ⟨hb, hn⟩
    · rw [slice_cons L hn hlt]
      unfold Spec.isLayout
      rw [if_pos (by rfl)]
      exact h3 f (by omega)
    · rw [slice_cons L hb hlt]
      unfold Spec.isLayout
      rw [if_neg (by decide)]
      by_cases hc : a + 1 < c
      · have h' := LF.tail_nl ⟨h1, h2, h3⟩ hc hn
        rw [slice_cons L hn hc]
        rw [if_pos (by rfl)]
        simp only [List.drop_succ_cons, List.drop_zero]
        exact h'.2.2 f (by omega)
      · have e : a + 1 = c := by omega
        rw [← e, slice_self]
        rfl

/-- a region without a body in front -/
theorem LF.region {L : Str} {st : List RedirCell} {c : Nat} : ∀ (n x y : Nat), y - x = n → x ≤ y →
    y ≤ c → GRegT L st x y → (∀ p, x ≤ p → p < y → ¬ InBody st p) → LF L y c → LF L x c
  | 0, x, y, hn, hxy, _, _, _, h => by
    have : x = y := by omega
    subst this; exact h
  | n + 1, x, y, hn, hxy, hyc, hr, hnb, h => by
    have hx : x < y := by omega
    have ih := LF.region n (x + 1) y (by omega) (by omega) hyc
      (fun p h1 h2 h3 => hr p (by omega) h2 h3) (fun p h1 h2 => hnb p (by omega) h2) h
    have hlen : x < L.length := by have := h.2.1; omega
    rcases hr x (Nat.le_refl _) hx hlen with hp | hb
    · exact LF.cons_pn hp (by omega) ih
    · exact absurd hb (hnb x (Nat.le_refl _) hx)

/-- one dropped NEWLINE token in front -/
theorem LF.deliv_nl {L : Str} {st : List RedirCell} {i e c : Nat} {t : Token}
    (hd : Deliv L st i t e) (hty : t.ttype = some .NEWLINE) (hec : e ≤ c)
    (hnb : ∀ p, i ≤ p → p < e → ¬ InBody st p) (h : LF L e c) : LF L i c := by
  rcases hd with ⟨a, hsk, hpos, hae, hcase⟩ | ⟨rfl, _, _⟩
  · rcases hcase with ⟨hnn, _⟩ | ⟨_, hLa, hreg⟩
    · obtain ⟨ty, h1, h2, _⟩ := hnn
      rw [h1] at hty; cases hty; exact absurd rfl h2
    · have hia : i ≤ a := hsk.le
      have h1 : LF L (a + 1) c :=
        LF.region (e - (a + 1)) (a + 1) e rfl (by omega) hec hreg
          (fun p h1 h2 => hnb p (by omega) h2) h
      exact LF.skip hsk (LF.cons_pn (Or.inl hLa) (by omega) h1)
  · cases hty

/-- **a stretch of the chain that holds dropped NEWLINE tokens only, without a body, is
    layout**, followed by whatever is layout -/
theorem chain_layout {L : Str} {st : List RedirCell} {c : Nat} : ∀ {ts : List Token} {i m : Nat},
    ChainL L st i ts m → (∀ t ∈ ts, t.ttype = some .NEWLINE) → m ≤ c →
    (∀ p, i ≤ p → p < m → ¬ InBody st p) → LF L m c → LF L i c
  | [], i, m, h, _, hmc, hnb, hl =>
    LF.region (m - i) i m rfl h.1 hmc h.2 hnb hl
  | t :: ts, i, m, h, hty, hmc, hnb, hl => by
    obtain ⟨i', e, a1, a2, a3, a4⟩ := h
    have hem : e ≤ m := ChainL.le a4
    have hie : i' ≤ e := by
      rcases a3 with ⟨a, h1, h2, h3, _⟩ | ⟨_, h1, h2⟩
      · have := h1.le; omega
      · have := h1.le; omega
    have h1 : LF L e c := chain_layout a4 (fun t' ht' => hty t' (List.mem_cons_of_mem _ ht')) hmc
      (fun p h1 h2 => hnb p (by omega) h2) hl
    have h2 : LF L i' c := LF.deliv_nl a3 (hty t List.mem_cons_self) (by omega)
      (fun p h1 h2 => hnb p (by omega) (by omega)) h1
    exact LF.region (i' - i) i i' rfl a1 (by omega) a2 (fun p h1 h2 => hnb p h1 (by omega)) h2

/-- from any point `i` of the chain: the text up to the next token `t` that is not a dropped
    NEWLINE, if it holds no here-document body, is layout -/
theorem seg_layout {L : Str} {st : List RedirCell} {mid post : List Token} {t : Token}
    {i c a b : Nat} (h : ChainL L st i (mid ++ t :: post) c) (hp : t.pos = some (a, b))
    (hmid : ∀ t ∈ mid, t.ttype = some .NEWLINE) (ha : a ≤ L.length)
    (hnb : ∀ p, i ≤ p → p < a → ¬ InBody st p) : LF L i a ∧ a < b ∧ ChainL L st b post c := by
  obtain ⟨m, h4, h5⟩ := ChainL.split h
  obtain ⟨i', e, c1, c2, c3, c4⟩ := h5
  obtain ⟨rfl, hab, hsk⟩ := c3.pos hp
  have hia : i' ≤ a := hsk.le
  have him : i ≤ m := ChainL.le h4
  have l1 : LF L i' a := LF.skip hsk (LF.refl L ha)
  have l2 : LF L m a := LF.region (i' - m) m i' rfl c1 hia c2
    (fun p h1 h2 => hnb p (by omega) (by omega)) l1
  exact ⟨chain_layout h4 hmid (by omega) (fun p h1 h2 => hnb p h1 (by omega)) l2, hab, c4⟩

/-- **the text between two tokens with only dropped NEWLINE tokens between them, holding no
    here-document body, is layout in the sense of `Spec.isLayout`** -/
theorem gap_layout {L : Str} {st : List RedirCell} {pre mid post : List Token} {t1 t2 : Token}
    {i c a1 b1 a2 b2 : Nat} (h : ChainL L st i (pre ++ t1 :: (mid ++ t2 :: post)) c)
    (hp1 : t1.pos = some (a1, b1)) (hp2 : t2.pos = some (a2, b2))
    (hmid : ∀ t ∈ mid, t.ttype = some .NEWLINE) (ha2 : a2 ≤ L.length)
    (hnb : ∀ p, b1 ≤ p → p < a2 → ¬ InBody st p) :
    Spec.isLayout (L.length + 1) (Str.slice L b1 a2) = true := by
  obtain ⟨_, _, h2⟩ := ChainL.split h
  exact (seg_layout (h2.first hp1).2 hp2 hmid ha2 hnb).1.2.2 _ (by omega)

/-- the text before the first token that is not a dropped NEWLINE -/
theorem lead_layout {L : Str} {st : List RedirCell} {lead post : List Token} {t : Token}
    {c a b : Nat} (h : ChainL L st 0 (lead ++ t :: post) c) (hp : t.pos = some (a, b))
    (hlead : ∀ t ∈ lead, t.ttype = some .NEWLINE) (ha : a ≤ L.length)
    (hnb : ∀ p, p < a → ¬ InBody st p) :
    Spec.isLayout (L.length + 1) (Str.slice L 0 a) = true :=
  (seg_layout h hp hlead ha (fun p _ => hnb p)).1.2.2 _ (by omega)

/-! ## a run that found layout only -/

/-- once the end-of-input token was delivered the cursor is at the end of the line or beyond -/
theorem Chain.last_eof {L : Str} {st : List RedirCell} {ts : List Token} {c : Nat}
    (h : Chain L st ts c) : ∀ ts' t, ts = ts' ++ [t] → t.ttype = some .EOF → L.length ≤ c := by
  induction h with
  | nil => intro ts' t h; exact absurd h (by simp)
  | tok _ h1 h2 h3 h4 h5 ih =>
    intro ts' t h hty
    obtain ⟨_, h'⟩ := List.append_inj' h rfl
    simp only [List.cons.injEq, and_true] at h'
    subst h'
    obtain ⟨ty, q1, _, q3⟩ := h5
    rw [q1] at hty; cases hty; exact absurd rfl q3
  | nl _ h1 h2 h3 h4 h5 h6 ih =>
    intro ts' t h hty
    obtain ⟨_, h'⟩ := List.append_inj' h rfl
    simp only [List.cons.injEq, and_true] at h'
    subst h'
    rw [h4] at hty; cases hty
  | eof _ h1 ih => intro _ _ _ _; exact Nat.le_refl _
  | gath _ h1 h2 ih =>
    intro ts' t h hty
    have := ih ts' t h hty
    omega

/-- the tokens of a chain have a type: none is "typeless" -/
theorem ChainL.types {L : Str} {st : List RedirCell} : ∀ {ts : List Token} {i c : Nat},
    ChainL L st i ts c → ∀ t ∈ ts, NN t ∨ t.ttype = some .NEWLINE ∨ t = eofTok
  | [], _, _, _, t, ht => by cases ht
  | t0 :: ts, i, c, h, t, ht => by
    obtain ⟨i', e, _, _, a3, a4⟩ := h
    rcases List.mem_cons.mp ht with rfl | ht
    · rcases a3 with ⟨a, _, _, _, hc⟩ | ⟨h1, _⟩
      · rcases hc with ⟨hnn, _⟩ | ⟨hnl, _⟩
        · exact Or.inl hnn
        · exact Or.inr (Or.inl hnl)
      · exact Or.inr (Or.inr h1)
    · exact ChainL.types a4 t ht

theorem droppable_nl {L : Str} {st : List RedirCell} {ts : List Token} {i c : Nat}
    (h : ChainL L st i ts c) {t : Token} (ht : t ∈ ts) (hd : Droppable t) :
    t.ttype = some .NEWLINE := by
  rcases ChainL.types h t ht with h1 | h1 | h1
  · exact absurd hd (nn_not_droppable h1)
  · exact h1
  · subst h1
    rcases hd with hd | hd <;> cases hd

/-- **a run that was delivered dropped NEWLINE tokens and the end-of-input token only, with the
    cursor at the end of its line, ran over layout: `Spec.isLayout` holds of the whole line** -/
theorem none_LF {L : Str} {lead : List Token} {t : Token} {c : Nat}
    (h : ChainL L [] 0 (lead ++ [t]) c) (hd : ∀ x ∈ lead, Droppable x)
    (ht : t.ttype = some .EOF) : LF L 0 L.length := by
  have hnl : ∀ x ∈ lead, x.ttype = some .NEWLINE :=
    fun x hx => droppable_nl h (List.mem_append_left _ hx) (hd x hx)
  have hnb : ∀ p, ¬ InBody ([] : List RedirCell) p := by
    rintro p ⟨c, hc, _⟩; cases hc
  obtain ⟨m, h1, h2⟩ := ChainL.split h
  obtain ⟨i', e, c1, c2, c3, c4⟩ := h2
  have hsk : Skip L i' L.length := by
    rcases c3 with ⟨a, _, _, _, hc⟩ | ⟨_, hs, _⟩
    · rcases hc with ⟨hnn, _⟩ | ⟨hn, _⟩
      · obtain ⟨ty, q1, _, q3⟩ := hnn
        rw [q1] at ht; cases ht; exact absurd rfl q3
      · rw [hn] at ht; cases ht
    · exact hs
  have l1 : LF L i' L.length := LF.skip hsk (LF.refl L (Nat.le_refl _))
  have l2 : LF L m L.length := LF.region (i' - m) m i' rfl c1 hsk.le_len c2 (fun p _ _ => hnb p) l1
  have l3 : LF L 0 L.length := chain_layout h1 hnl (by have := l2.1; omega)
    (fun p _ _ => hnb p) l2
  exact l3

theorem LF.whole {L : Str} (h : LF L 0 L.length) : ∀ fuel, L.length ≤ fuel →
    Spec.isLayout fuel L = true := by
  intro fuel hf
  have := h.2.2 fuel (by omega)
  have e : Str.slice L 0 L.length = L := by simp [Str.slice]
  rw [e] at this
  exact this

theorem none_layout {L : Str} {lead : List Token} {t : Token}
    (h : ChainL L [] 0 (lead ++ [t]) L.length) (hd : ∀ x ∈ lead, Droppable x)
    (ht : t.ttype = some .EOF) : Spec.isLayout (L.length + 1) L = true :=
  (none_LF h hd ht).whole _ (by omega)

/-- a region reaching the end of the line -/
theorem LF.region_trunc {L : Str} {st : List RedirCell} {x y : Nat} (hx : x ≤ L.length)
    (hy : L.length ≤ y) (hr : GRegT L st x y) (hnb : ∀ p, ¬ InBody st p) : LF L x L.length :=
  LF.region (L.length - x) x L.length rfl hx (Nat.le_refl _)
    (fun p h1 h2 h3 => hr p h1 (by omega) h3) (fun p _ _ => hnb p) (LF.refl L (Nat.le_refl _))

/-- a stretch of dropped NEWLINE tokens whose cursor reaches the end of the line or goes beyond
    it (the dead state): the line from `i` on is layout -/
theorem chain_trunc {L : Str} {st : List RedirCell} (hnb : ∀ p, ¬ InBody st p) :
    ∀ {ts : List Token} {i m : Nat}, ChainL L st i ts m → (∀ t ∈ ts, t.ttype = some .NEWLINE) →
      i ≤ L.length → L.length ≤ m → LF L i L.length
  | [], i, m, h, _, hi, hm => LF.region_trunc hi hm h.2 hnb
  | t :: ts, i, m, h, hty, hi, hm => by
    obtain ⟨i', e, a1, a2, a3, a4⟩ := h
    by_cases h1 : L.length ≤ i'
    · exact LF.region_trunc hi h1 a2 hnb
    · have hi' : i' ≤ L.length := by omega
      have hnl := hty t List.mem_cons_self
      have l2 : LF L i' L.length := by
        by_cases h2 : e ≤ L.length
        · have l1 : LF L e L.length :=
            chain_trunc hnb a4 (fun t' ht' => hty t' (List.mem_cons_of_mem _ ht')) h2 hm
          exact LF.deliv_nl a3 hnl h2 (fun p _ _ => hnb p) l1
        · rcases a3 with ⟨a, hsk, hpos, hae, hcase⟩ | ⟨rfl, _, _⟩
          · rcases hcase with ⟨hnn, _⟩ | ⟨_, hLa, hreg⟩
            · obtain ⟨ty, q1, q2, _⟩ := hnn
              rw [q1] at hnl; cases hnl; exact absurd rfl q2
            · have halt : a < L.length := (List.getElem?_eq_some_iff.mp hLa).1
              have l1 : LF L (a + 1) L.length :=
                LF.region_trunc (by omega) (by omega) hreg hnb
              exact LF.skip hsk (LF.cons_pn (Or.inl hLa) halt l1)
          · cases hnl
      exact LF.region (i' - i) i i' rfl a1 hi' a2 (fun p _ _ => hnb p) l2

end Bashlex.C05.TGT

#print axioms Bashlex.C05.TGT.none_layout
#print axioms Bashlex.C05.TGT.chain_trunc
#print axioms Bashlex.C05.TGT.gap_layout
#print axioms Bashlex.C05.TGT.lead_layout
