/-
  Property C05 -- "the leaf tokens of the returned trees read in span order are exactly the tokens
  of the input, each once; every character outside all leaf spans is a blank, a newline, a
  comment or a line continuation; every top-level command of a multi-line input appears as
  exactly one returned part, in order" -- the COMBINED model-level theorem `C05_final`, for the
  real tokenizer, without hypothesis on the token source, under the decidable per-input
  condition `C03.rootEndsChecked s o` (`Props/C03/RootEnds.lean`) and `|s| + 1 < 2^30` (the
  model's loop fuel).

  `parse s o = parts`  ⟹  `PartsFinal s 0 parts`:
    PARTS   the parts are the results of successive parser runs: part `i` is the tree `n` of the
            run over `s[kᵢ:]`, moved by `kᵢ`; `k₀ = 0`, `kᵢ₊₁ = max (nextIndex partᵢ) (kᵢ + 1)`:
            one part per run, in order.  The list ends (`done`) when `kᵢ ≥ |s|`, or (`stop`) when
            the run over `s[kᵢ:]` returns `None`; such a run (`CharsNone`) was delivered NEWLINE
            tokens, which it dropped, and the end-of-input token only, its cursor reached the
            end of its line, every position of the line is layout, and -- the cursor being AT
            the end -- `Spec.isLayout` holds of the whole line: NO COMMAND IS LOST BEHIND THE
            LAST PART.  (Needs the engine theorem `run_sound_ordB`, `LR/SoundOrd.lean`:
            `run_sound_ordH` says nothing of the "everything is a newline" return.)
    For each run (`CharsData`), with `L0 = s[kᵢ:]` plus the newline `tokenizer.__init__` appends,
    the tokens `ts` the run consumed, at most one look-ahead token `la`, the cursor `B`:
    TOKENS  `FCovers`: the leaves of `n` in tree order are accounted for, group by group, by `ts`
            (one token ↦ one leaf; `[fd] op target` ↦ one redirect leaf; NEWLINEs dropped in
            five listed places; D19: the tokens of a `time` specification ↦ one leaf at (0,0));
            `TokSorted ts`; spatially every consumed token is a dropped NEWLINE, a `time` token
            or lies inside a leaf.
    CHARS   per position: every `p < B` of `L0` lies inside a leaf of `n`, or is layout
            (`PosLay`), or lies inside a consumed `time` token (D19), or inside the look-ahead
            token.  **The disjunct "inside a gathered here-document body" of `C05_chars_checked`
            is gone (residual R1): every body attached in the redirect store is a leaf of the
            tree flagged as a body (`InBodyLeaf`; `Props/C05/Actions.lean`, `Engine.lean`,
            `FHooks.lean`, `FRun.lean`: conservation of pending redirects by all 39 action
            functions, `act_ids`; what each action does to the store, `act_store`; the stack
            invariant `IdI`)** -- also for D11 inputs (conservation holds; D11 is about WHICH
            text is the body: the body leaf then overlaps command leaves).
    CHAIN   tight form (`FChain.lean`, `FGaps.lean`, `TGGather.lean`, `TGRead.lean`,
            `FT3.lean`): the line up to `B` is a chain
            `Skip token Skip token …` in which every `Skip` is ANCHORED where the token before
            ends, and the regions `gatherheredocuments` consumed are, per position, a newline,
            the backslash of a backslash-newline pair, or inside a recorded body (`GRegT`).
            (`PosLay` alone is over-approximate: `posLay_overapprox`, witness `a#b c`.)
            `FLayout.lean`: `gap_layout`: between two tokens with only dropped NEWLINEs between
            them, the text -- if it holds no body -- satisfies `Spec.isLayout`.
    TILING  (residual R2, one run, `FTiled.lean`): if no leaf is flagged as a body and no leaf is
            empty (D19): the leaves in tree order tile the line (`Tiled`), hence
            `run_gapsOK`: `Spec.gapsOK`, the walker of the executable `Spec.coverOK`, run over the
            leaves of the run's tree on the run's line reports no `leaf-overlap` and no
            `gap-not-layout`.

  R2 for the WHOLE result of `parse`: see `Props/C05Cover.lean` (`C05_coverOK_plain_nil`:
  `Spec.coverOK s parts = []` for results without here-document body leaves and without D19,
  under the decidable conditions `SortOK`, `plainLeaves`, `rootsAtLeaves`) and
  `Props/C05/FCover.lean` (`coverOK_sound`: under `SortOK` every signature of `Spec.coverOK` has
  an order-free geometric reason; `C05_coverOK_conditional`).  Not proved: `rootsAtLeaves` as a
  theorem (where the ROOT of a top-level tree ends: `Props/C03/RE` proves `EG` only), results with
  here-document bodies (an extended redirect ends where its body ends; classification of the
  D11 overlaps), `Array.qsort` (`SortOK`).
  The chain survives the "dead" state (cursor beyond the line after the non-strict skip over a
  missing here-document, witness `cat <<E`, `strict = false`): the log is then the chain followed
  by end-of-input tokens (`TGT.ChainC`, `chainC_split`), so `CharsData` carries the chain and the
  tiling without a condition on the cursor.
-/
import Bashlex.Props.C05.FRun
import Bashlex.Props.C05.FLayout
import Bashlex.Props.C05.FTiled
import Bashlex.Props.C05.FCover

namespace Bashlex.C05
open Bashlex Bashlex.Spec Bashlex.Node Bashlex.M Bashlex.LR Bashlex.C12 Bashlex.C03
  Bashlex.C03.Tok Bashlex.C10 Bashlex.C11 Bashlex.C05.TG
set_option linter.unusedVariables false

/-! ## both facts about the log at once -/

theorem covOK_and {C1 C2 : List Token → Local → Env → Prop} (h1 : TGT.CovOK C1) (h2 : TGT.CovOK C2) :
    TGT.CovOK (fun ts l e => C1 ts l e ∧ C2 ts l e) := by
  refine ⟨?_, ?_, ?_, ?_⟩
  · intro ts t L i0 len f l0 l e0 e hc a1 a2 a3 a4
    exact ⟨h1.next hc.1 a1 a2 a3 a4, h2.next hc.2 a1 a2 a3 a4⟩
  · intro ts L c len f l0 l e0 e hc a1 a2 a3 a4 a5
    exact ⟨h1.gather hc.1 a1 a2 a3 a4 a5, h2.gather hc.2 a1 a2 a3 a4 a5⟩
  · intro ts l0 l e0 e hc a1 a2 a3
    exact ⟨h1.same hc.1 a1 a2 a3, h2.same hc.2 a1 a2 a3⟩
  · intro ts l0 l e0 e hc a1 a2 a3
    exact ⟨h1.deadEof hc.1 a1 a2 a3, h2.deadEof hc.2 a1 a2 a3⟩

/-- coverage per position and the chain -/
def CovB (L0 : Str) (ts : List Token) (l : Local) (e : Env) : Prop :=
  TGT.CovL L0 ts l e ∧ TGT.ChainC L0 ts l e

theorem covOK_both (L0 : Str) : TGT.CovOK (CovB L0) :=
  covOK_and (TGT.covOK_covL L0).toNew (TGT.covOK_chain L0)

section
attribute [local instance] C16.stdEnvRel

/-- the nested-parser contract, for every fact closed under the tokenizer's moves -/
theorem npSpans_X {C : List Token → Local → Env → Prop} (hC : TGT.CovOK C) (tr : List Token)
    (d : Nat) : NPSpans (TLs (TGT.TLogX C) tr) (npK true (parserRunK d)) := by
  intro s b len F st
  rintro l e ⟨htl, hst⟩
  obtain ⟨⟨⟨hti, hdel⟩, hcov⟩, hsorted⟩ := htl
  have h := npSpans_npK d (parserRunK_spans d) s b len F st l e ⟨hti, hst⟩
  have hf := npK_frame d s b l e
  revert h hf
  rcases M.run (npK true (parserRunK d) s b) l e with ⟨r, e'⟩
  cases r with
  | error x => intro _ _; exact True.intro
  | ok v =>
    obtain ⟨r, l'⟩ := v
    rintro ⟨⟨h1, h2⟩, h3⟩ ⟨f1, f2⟩
    refine ⟨⟨⟨⟨⟨h1, hdel⟩, fun hlen => ?_⟩, hsorted⟩, h2⟩, h3⟩
    exact hC.same (hcov hlen) (by rw [f1]) (Or.inl (by rw [f1]))
      (fun p h => by rw [f2]; exact h)

end

/-- the invariant of the run over `s0` -/
def TLfin (s0 : Str) : List Token → Nat → Nat → Local → Env → Prop :=
  TLs (TGT.TLogX (CovB (Tape.ofInput s0).line))

theorem tokLogC_fin (s0 : Str) : TokLogC (TLfin s0) := (TGT.tokLogX (covOK_both _)).sorted

theorem tlfin_init (s0 : Str) (l : Local) (e : Env) (hi : InitState s0 l e) :
    TLfin s0 [] s0.length 0 l e := by
  have h1 := TGT.tokLogGL_init s0 l e hi
  have h2 := TGT.tokLogCh_init s0 l e hi
  exact ⟨⟨h1.1, fun hlen => ⟨h1.2 hlen, h2.2 hlen⟩⟩,
    ⟨⟨List.Pairwise.nil, fun t ht => by cases ht⟩, fun t ht => by cases ht⟩⟩

/-- the parts of `parse`, each with both facts and conservation of the bodies -/
theorem C05_parts_final (s : Str) (o : Opts) (parts : List Node)
    (hc : C03.rootEndsChecked s o = true) (h : (parse s o).1 = .parts parts) :
    PartsI TLfin s 0 parts :=
  parseK_leavesI tokLogC_fin (fun s0 tr d => npSpans_X (covOK_both _) tr d) tlfin_init s o parts
    (C03.parseK_of_checked hc h)

/-! ## one run -/

/-- what is known of one run (see the header), for the tokens `ts` it consumed, its look-ahead
    `la`, the cursor `B` and the redirect store `st` -/
def CharsData (s0 : Str) (n : Node) (ts la : List Token) (B : Nat) (st : List RedirCell) : Prop :=
    la.length ≤ 1 ∧ NoEOF ts ∧ TokSorted ts ∧
    -- token level
    FCovers s0.length ts (Spec.leaves n) ∧
    (∀ t ∈ ts, Droppable t ∨ IsTimeTok t ∨ InLeaf t (Spec.leaves n)) ∧
    -- the cursor
    (∀ t ∈ ts ++ la, t.ttype ≠ some .EOF → min t.endlexpos (Tape.ofInput s0).line.length ≤ B) ∧
    ((∃ t ∈ la, t.pos = none) → (Tape.ofInput s0).line.length ≤ B) ∧
    -- character level, per position: no disjunct for gathered bodies
    (∀ p, p < B → p < (Tape.ofInput s0).line.length →
      InLeafPos (Spec.leaves n) p ∨ PosLay (Tape.ofInput s0).line p ∨
      (∃ t ∈ ts, IsTimeTok t ∧ t.lexpos ≤ p ∧ p < t.endlexpos) ∨ InToks la p) ∧
    -- character level, tight
    (∃ la' c, (la' = la ∨ la' = []) ∧ TGT.ChainL (Tape.ofInput s0).line st 0 (ts ++ la') c ∧
      (c = B ∨ ((Tape.ofInput s0).line.length < c ∧ (Tape.ofInput s0).line.length < B))) ∧
    -- conservation: the bodies the regions of the chain refer to are leaves
    (∀ p, InBody st p → InBodyLeaf (Spec.leaves n) p) ∧
    -- the link to the specification's walker, for a run without body leaves and without D19
    ((∀ x ∈ Spec.leaves n, x.2 = false) →
      noEmptyLeaf (Spec.leaves n) = true → TGT.Tiled (Tape.ofInput s0).line 0 (Spec.leaves n))

/-- what is known of one run (see the header) -/
def CharsTotal (s0 : Str) (n : Node) : Prop :=
  ∃ (ts la : List Token) (B : Nat) (st : List RedirCell), CharsData s0 n ts la B st

theorem charsData_of_log {s0 : Str} {n : Node} {ts la : List Token} {F : Nat} {l : Local} {e : Env}
    (hlen : s0.length + 1 < 1073741824) (h : TLfin s0 (ts ++ la) s0.length F l e)
    (hla : la.length ≤ 1) (hno : NoEOF ts) (hcv : FCovers s0.length ts (Spec.leaves n))
    (hbody : ∀ p, InBody l.store p → InBodyLeaf (Spec.leaves n) p) :
    CharsData s0 n ts la (tapeOf l e).idx l.store := by
  obtain ⟨htl, hsort⟩ := h
  have hs : TokSorted ts := by
    have := hsort.1
    rw [List.filter_append, filter_noEOF hno] at this
    exact this.append.1
  have hin := token_in_leaf hcv hs
  obtain ⟨⟨hti, hdel⟩, hcov⟩ := htl
  obtain ⟨⟨hline, hcovp, heof⟩, hcc⟩ := hcov hlen
  obtain ⟨la', c, g1, g2, g3⟩ := TGT.chainC_split hcc hno hla
  unfold CharsData
  refine ⟨hla, hno, hs, hcv, hin, ?_, ?_, ?_, ⟨la', c, g1, g2.toL, g3⟩, hbody, ?_⟩
  · intro t ht hne
    have hF : t.endlexpos ≤ F := hsort.2 t ht (by simp [notEOF, hne])
    obtain ⟨L, _, _, hc⟩ := hti
    rcases hc with hc | hc
    · obtain ⟨a1, _, _, _, _, _, a7⟩ := hc
      have hL : L = (Tape.ofInput s0).line := by rw [← a1]; exact hline
      rw [hL] at a7
      simp only [Nat.min_def] at a7 ⊢
      split at a7 <;> split <;> omega
    · have hL : L = (Tape.ofInput s0).line := by rw [← hc.1]; exact hline
      have := hc.2.1
      rw [hL] at this
      simp only [Nat.min_def]
      split <;> omega
  · rintro ⟨t, ht, hp⟩
    exact heof ⟨t, List.mem_append_right _ ht, hp⟩
  · intro p hp1 hp2
    have hcp := hcovp p hp1 (by rw [hline]; exact hp2)
    rw [hline] at hcp
    rcases hcp with ⟨t, ht, hnn, h1, h2⟩ | hl | hb
    · rcases List.mem_append.mp ht with ht | ht
      · rcases hin t ht with hd | htime | ⟨x, hx, hx1, hx2⟩
        · exact absurd hd (nn_not_droppable hnn)
        · exact Or.inr (Or.inr (Or.inl ⟨t, ht, htime, h1, h2⟩))
        · exact Or.inl ⟨x, hx, by omega, by omega⟩
      · exact Or.inr (Or.inr (Or.inr ⟨t, ht, h1, h2⟩))
    · exact Or.inr (Or.inl hl)
    · exact Or.inl (hbody p hb).inLeaf
  · intro hfl hne
    have hnb : ∀ p, ¬ InBody l.store p := by
      intro p hp
      obtain ⟨x, hx, hxt, _⟩ := hbody p hp
      rw [hfl x hx] at hxt
      cases hxt
    exact TGT.tiled_of_covers hnb (fcovers_strict hcv hne) hfl hno 0 []
      (by simpa using g2.toL) (fun t ht => by cases ht)

theorem runOKI_total {s0 : Str} {n : Node} (hlen : s0.length + 1 < 1073741824)
    (h : RunOKI (TLfin s0) s0 n) : CharsTotal s0 n := by
  obtain ⟨_, ts, la, F, l, e, htl, hla, hno, hcv, hbody⟩ := h
  exact ⟨ts, la, _, _, charsData_of_log hlen htl hla hno hcv hbody⟩

/-- **C05, character level, bodies conserved (R1 closed)**: `C05_chars_checked` without the
    "gathered here-document body" disjunct, and with the tight chain -/
theorem C05_chars_total (s : Str) (o : Opts) (parts : List Node)
    (hlen : s.length + 1 < 1073741824)
    (hc : C03.rootEndsChecked s o = true) (h : (parse s o).1 = .parts parts) :
    ∀ part ∈ parts, ∃ k n, k ≤ s.length ∧ part = n.shift k ∧
      Spec.leaves part = (Spec.leaves n).map (shL k) ∧ CharsTotal (s.drop k) n := by
  intro part hp
  obtain ⟨k, n, _, hk, rfl, hrun⟩ := (C05_parts_final s o parts hc h).mem part hp
  refine ⟨k, n, hk, rfl, leaves_shift k n, runOKI_total ?_ hrun⟩
  rw [List.length_drop]; omega

theorem runOKI_chain {s0 : Str} {n : Node} (hlen : s0.length + 1 < 1073741824)
    (h : RunOKI (TLfin s0) s0 n) : ChainOK s0 n := by
  obtain ⟨_, ts, la, F, l, e, ⟨htl, hsort⟩, hla, hno, hcv, _⟩ := h
  have hs : TokSorted ts := by
    have := hsort.1
    rw [List.filter_append, filter_noEOF hno] at this
    exact this.append.1
  obtain ⟨⟨_, _, heof⟩, hcc⟩ := htl.2 hlen
  refine ⟨ts, la, (tapeOf l e).idx, l.store, hla, hno, hs, hcv, TGT.chainC_split hcc hno hla, ?_⟩
  rintro ⟨t, ht, hp⟩
  exact heof ⟨t, List.mem_append_right _ ht, hp⟩

/-- **C05, character level, tight (chain) form, `parse`, for the real tokenizer** -/
theorem C05_chain_checked (s : Str) (o : Opts) (parts : List Node)
    (hlen : s.length + 1 < 1073741824)
    (hc : C03.rootEndsChecked s o = true) (h : (parse s o).1 = .parts parts) :
    ∀ part ∈ parts, ∃ k n, k ≤ s.length ∧ part = n.shift k ∧
      Spec.leaves part = (Spec.leaves n).map (shL k) ∧ ChainOK (s.drop k) n := by
  intro part hp
  obtain ⟨k, n, _, hk, rfl, hrun⟩ := (C05_parts_final s o parts hc h).mem part hp
  refine ⟨k, n, hk, rfl, leaves_shift k n, runOKI_chain ?_ hrun⟩
  rw [List.length_drop]; omega

/-! ## a run that returns `None` -/

theorem covers_nil_droppable {ts : List Token} {ls : List ALeaf} (h : Covers ts ls) :
    ls = [] → ∀ t ∈ ts, Droppable t := by
  induction h with
  | nil => intro _ t ht; cases ht
  | @cons ts1 ls1 ts2 ls2 hg _ ih =>
    intro hnil t ht
    obtain ⟨h1, h2⟩ := List.append_eq_nil_iff.mp hnil
    rcases List.mem_append.mp ht with ht | ht
    · rcases hg.shape with ⟨t0, rfl, hd, _⟩ | ⟨_, rfl⟩ | ⟨_, _, _, rfl, _⟩
      · rw [List.mem_singleton.mp ht]; exact hd
      · cases h1
      · cases h1
    · exact ih h2 t ht

/-- what is known of a run that returned `None` (it ends the loop of `parse`): the tokens it was
    delivered were NEWLINEs it dropped (`lead`) and the end-of-input token `t`; the cursor `B` is
    at the end of its line `L0` (or beyond); every position of the line is layout (per position);
    and -- the cursor being AT the end -- the line is the chain of these tokens and
    **`Spec.isLayout` holds of the whole line**: the rest of the input is layout in the sense of
    the executable specification, no command is lost behind the last part -/
def CharsNone (s0 : Str) : Prop :=
  ∃ (lead : List Token) (t : Token) (B : Nat), (∀ x ∈ lead, Droppable x) ∧ t.ttype = some .EOF ∧
    (Tape.ofInput s0).line.length ≤ B ∧
    (∀ p, p < (Tape.ofInput s0).line.length →
      PosLay (Tape.ofInput s0).line p ∨ InToks [t] p) ∧
    (B = (Tape.ofInput s0).line.length →
      TGT.ChainL (Tape.ofInput s0).line [] 0 (lead ++ [t]) B) ∧
    -- the whole line is layout in the sense of the specification (also when the cursor left it)
    TGT.LF (Tape.ofInput s0).line 0 (Tape.ofInput s0).line.length

theorem runNone_chars {s0 : Str} (hlen : s0.length + 1 < 1073741824)
    (h : RunNone (TLfin s0) s0) : CharsNone s0 := by
  obtain ⟨lead, la, F, l, e, ⟨htl, hsort⟩, hla, hcv, hno, hst, t, htla, hty⟩ := h
  have hla1 : la = [t] := by
    cases la with
    | nil => cases htla
    | cons a as =>
      cases as with
      | nil => simp only [List.mem_singleton] at htla; rw [htla]
      | cons b bs => simp at hla
  subst hla1
  have hdrop := covers_nil_droppable hcv rfl
  obtain ⟨_, hcov⟩ := htl
  obtain ⟨⟨hline, hcovp, heof⟩, hcc⟩ := hcov hlen
  have hch := fun hb => TGT.chainC_live hcc hb
  have hB : (Tape.ofInput s0).line.length ≤ (tapeOf l e).idx := by
    by_cases hb : (tapeOf l e).idx ≤ (Tape.ofInput s0).line.length
    · exact TGT.Chain.last_eof (hch hb) lead t rfl hty
    · omega
  have hnb : ∀ p, ¬ InBody ([] : List RedirCell) p := by
    rintro p ⟨c, hc, _⟩; cases hc
  have hLF : TGT.LF (Tape.ofInput s0).line 0 (Tape.ofInput s0).line.length := by
    obtain ⟨_, ⟨pre, k, c, d1, d2, d3⟩, _⟩ := hcc
    rw [hst] at d2
    cases k with
    | zero =>
      have hpre : pre = lead ++ [t] := by simpa using d1.symm
      rw [hpre] at d2
      exact TGT.none_LF d2.toL hdrop hty
    | succ k =>
      rw [List.replicate_succ', ← List.append_assoc] at d1
      obtain ⟨d4, _⟩ := List.append_inj' d1 rfl
      have hk : k = 0 := by
        cases k with
        | zero => rfl
        | succ k =>
          exfalso
          have hm : C03.Tok.eofTok ∈ lead := by rw [d4]; simp [List.replicate_succ]
          rcases hdrop _ hm with hd | hd <;> cases hd
      subst hk
      have hpre : pre = lead := by simpa using d4.symm
      rw [hpre] at d2
      have hc : (Tape.ofInput s0).line.length < c := by
        rcases d3 with ⟨h0, _⟩ | ⟨h1, _⟩
        · cases h0
        · exact h1
      have hnl : ∀ x ∈ lead, x.ttype = some .NEWLINE :=
        fun x hx => TGT.droppable_nl d2.toL hx (hdrop x hx)
      exact TGT.chain_trunc hnb d2.toL hnl (Nat.zero_le _) (Nat.le_of_lt hc)
  refine ⟨lead, t, (tapeOf l e).idx, hdrop, hty, hB, ?_, ?_, hLF⟩
  · intro p hp2
    have hcp := hcovp p (by omega) (by rw [hline]; exact hp2)
    rw [hline] at hcp
    rcases hcp with ⟨t', ht', hnn, h1, h2⟩ | hl | hb
    · rcases List.mem_append.mp ht' with ht' | ht'
      · exact absurd (hdrop t' ht') (nn_not_droppable hnn)
      · exact Or.inr ⟨t', ht', h1, h2⟩
    · exact Or.inl hl
    · rw [hst] at hb
      obtain ⟨c, hc, _⟩ := hb
      cases hc
  · intro hb
    have hc := (hch (by omega)).toL
    rw [hst] at hc
    exact hc

/-- **the link to the executable specification, one run** (R2 for runs without here-document
    body leaves and without D19): `Spec.gapsOK` -- the walker of `Spec.coverOK` -- run over the
    leaves of the run's tree in tree order, on the run's own line, reports nothing between the
    leaves: no `leaf-overlap`, no `gap-not-layout`.  Conditions, all explicit: no leaf is flagged
    as a here-document body (witness `cat <<E⏎x⏎E⏎`: the body is a leaf), no leaf is empty (D19,
    witness `time a` with `proceedonerror`), the cursor `B` of the run stayed inside the line
    (it leaves it in non-strict mode on a missing here-document, witness `cat <<E`). -/
theorem run_gapsOK {s0 : Str} {n : Node} {ts la : List Token} {B : Nat} {st : List RedirCell}
    (h : CharsData s0 n ts la B st)
    (hfl : ∀ x ∈ Spec.leaves n, x.2 = false) (hne : noEmptyLeaf (Spec.leaves n) = true) :
    ∀ v ∈ Spec.gapsOK (Tape.ofInput s0).line 0 false (Spec.leaves n),
      v = "trailing-text-not-layout" := by
  obtain ⟨_, _, _, _, _, _, _, _, _, _, htile⟩ := h
  exact TGT.gapsOK_of_tiled _ _ 0 false (htile hfl hne)

/-! ## the combined theorem -/

/-- **the parts `parse` returns from index `i` on** (see the header) -/
inductive PartsFinal (s : Str) : Nat → List Node → Prop
  /-- the loop of `parse` stops at the end of the input … -/
  | done (i : Nat) : s.length ≤ i → PartsFinal s i []
  /-- … or when the run over `s[i:]` returns `None`: that run found layout only -/
  | stop (i : Nat) : CharsNone (s.drop i) → PartsFinal s i []
  | cons {i : Nat} {n : Node} {rest : List Node} : i ≤ s.length → TopOK (s.drop i).length n →
      CharsTotal (s.drop i) n →
      PartsFinal s (max (nextIndex (n.shift i)) (i + 1)) rest →
      PartsFinal s i (n.shift i :: rest)

theorem partsFinal_of {s : Str} (hlen : s.length + 1 < 1073741824) :
    ∀ {i : Nat} {ps : List Node}, PartsI TLfin s i ps → PartsFinal s i ps := by
  intro i ps h
  induction h with
  | done i hi => exact .done i hi
  | stop i hrun => exact .stop i (runNone_chars (by rw [List.length_drop]; omega) hrun)
  | @cons i n rest hi hrun _ ih =>
    exact .cons hi hrun.1 (runOKI_total (by rw [List.length_drop]; omega) hrun) ih

/-- **C05 (model level): token level + character level + parts, `parse`, for the real
    tokenizer** -/
theorem C05_final (s : Str) (o : Opts) (parts : List Node)
    (hlen : s.length + 1 < 1073741824)
    (hc : C03.rootEndsChecked s o = true) (h : (parse s o).1 = .parts parts) :
    PartsFinal s 0 parts :=
  partsFinal_of hlen (C05_parts_final s o parts hc h)

/-- every part of `PartsFinal` is a run's tree, moved -/
theorem PartsFinal.mem {s : Str} : ∀ {i : Nat} {ps : List Node}, PartsFinal s i ps →
    ∀ part ∈ ps, ∃ k n, i ≤ k ∧ k ≤ s.length ∧ part = n.shift k ∧
      Spec.leaves part = (Spec.leaves n).map (shL k) ∧ CharsTotal (s.drop k) n := by
  intro i ps h
  induction h with
  | done i _ => intro part hp; cases hp
  | stop i _ => intro part hp; cases hp
  | @cons i n rest hi _ hrun _ ih =>
    intro part hp
    rcases List.mem_cons.mp hp with rfl | hp
    · exact ⟨i, n, Nat.le_refl i, hi, rfl, leaves_shift i n, hrun⟩
    · obtain ⟨k, m, h1, h2, h3, h4⟩ := ih part hp
      refine ⟨k, m, ?_, h2, h3, h4⟩
      have : i + 1 ≤ max (nextIndex (n.shift i)) (i + 1) := Nat.le_max_right _ _
      omega

end Bashlex.C05

#print axioms Bashlex.C05.C05_chars_total
#print axioms Bashlex.C05.C05_final
#print axioms Bashlex.C05.C05_chain_checked
#print axioms Bashlex.C05.TGT.posLay_overapprox
#print axioms Bashlex.C05.run_gapsOK
#print axioms Bashlex.C05.coverOK_sound
#print axioms Bashlex.C05.act_ids
#print axioms Bashlex.C03.act_store
#print axioms Bashlex.LR.run_sound_ordB
#print axioms Bashlex.C05.TGT.tokLogX
#print axioms Bashlex.C05.TGT.gap_layout
#print axioms Bashlex.C05.TGT.none_layout
#print axioms Bashlex.C05.TGT.tiled_of_covers
