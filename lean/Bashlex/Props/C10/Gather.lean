/-
  C10, reader part: `gatherheredocuments` consumes the queue of pending here-document redirects
  first in, first out; body i+1 starts where body i ended (after the continuation pairs `_peekc`
  skips).  Pure specification `specGatherS` (its `(line, idx)` form `specGather` is in
  `Props/C10.lean`) and the exact run theorem `run_gather_st`.
-/
import Bashlex.Props.C10.Reader

namespace Bashlex.C10
open Bashlex
set_option linter.unusedSimpArgs false

/-! ## specification -/

/-- the ways `gatherheredocuments` ends -/
inductive GatherOut where
  /-- the queue is empty; the final store; `rest` remains unread -/
  | done (store : List RedirCell) (rest : Str)
  /-- non-strict mode, the input ended where a body should start: the cursor is bumped one past
      the end of the input and `queue` stays pending (its redirects keep `heredoc = None`) -/
  | stopped (store : List RedirCell) (queue : List (Nat × Bool))
  /-- the input ended before the delimiter line (either mode): ParsingError -/
  | eof (delim : Str)
  /-- an id outside the store (never queued by the parser) -/
  | badId (rest : Str)
  deriving Repr

/-- `gatherheredocuments` on queue, store and unread rest -/
def specGatherS (line : Str) (strict : Bool) : List (Nat × Bool) → List RedirCell → Str → GatherOut
  | [], store, s => .done store s
  | (id, kill) :: q, store, s =>
    if skipCont s = [] ∧ strict = false then .stopped store ((id, kill) :: q)
    else
      match store[id]? with
      | none => .badId (skipCont s)
      | some cell =>
        match specHeredocS cell.delim kill (skipCont s) with
        | none => .eof cell.delim
        | some (v, r) =>
          specGatherS line strict q
            (store.set id (attach cell (posOf line (skipCont s)) (posOf line r - 1) v)) r

/-! ## the two fields the loop writes besides the tape -/

def upd (l : Local) (q : List (Nat × Bool)) (st : List RedirCell) : Local :=
  { l with redirstack := q, store := st }

@[simp] theorem upd_upd (l : Local) (q q' : List (Nat × Bool)) (st st' : List RedirCell) :
    upd (upd l q st) q' st' = upd l q' st' := rfl
@[simp] theorem upd_redirstack (l : Local) (q : List (Nat × Bool)) (st : List RedirCell) :
    (upd l q st).redirstack = q := rfl
@[simp] theorem upd_store (l : Local) (q : List (Nat × Bool)) (st : List RedirCell) :
    (upd l q st).store = st := rfl
@[simp] theorem upd_eol (l : Local) (q : List (Nat × Bool)) (st : List RedirCell) :
    (upd l q st).eolLookahead = l.eolLookahead := rfl
@[simp] theorem tapeOf_upd (l : Local) (e : Env) (q : List (Nat × Bool)) (st : List RedirCell) :
    tapeOf (upd l q st) e = tapeOf l e := rfl
@[simp] theorem strictOf_upd (l : Local) (e : Env) (q : List (Nat × Bool)) (st : List RedirCell) :
    strictOf (upd l q st) e = strictOf l e := rfl
@[simp] theorem putE_upd (l : Local) (e : Env) (t : Tape) (q : List (Nat × Bool))
    (st : List RedirCell) : putE (upd l q st) e t = putE l e t := rfl
theorem putL_upd (l : Local) (t : Tape) (q : List (Nat × Bool)) (st : List RedirCell) :
    putL (upd l q st) t = upd (putL l t) q st := by
  cases l with
  | mk tape => cases tape <;> rfl
@[simp] theorem stE_upd (l : Local) (e : Env) (r : Str) (q : List (Nat × Bool))
    (st : List RedirCell) : stE (upd l q st) e r = stE l e r := rfl
@[simp] theorem stL_upd (l : Local) (e : Env) (r : Str) (q : List (Nat × Bool))
    (st : List RedirCell) : stL (upd l q st) e r = upd (stL l e r) q st := by
  unfold stL; rw [tapeOf_upd, putL_upd]
theorem upd_self (l : Local) {q : List (Nat × Bool)} {st : List RedirCell}
    (h1 : l.redirstack = q) (h2 : l.store = st) : upd l q st = l := by
  subst h1 h2; rfl

/-- outcome of a run of `gatherheredocuments` started in `(l, e)` (any cursor) -/
def gatherResult (l : Local) (e : Env) : GatherOut → Except Exn (Unit × Local) × Env
  | .done store r => (.ok ((), upd (stL l e r) [] store), stE l e r)
  | .stopped store q =>
    let t' : Tape := { tapeOf l e with idx := (tapeOf l e).line.length + 1 }
    (.ok ((), upd (putL l t') q store), putE l e t')
  | .eof d => (.error (eofError d (tapeOf l e).line), stE l e [])
  | .badId r => (.error (.foreign "IndexError" "makeheredoc"), stE l e r)

/-! ## the loop -/

/-- the body of `while tokenizer.redirstack:` -/
def gBody (_ : Unit) : M (Unit ⊕ Unit) := do
    let l ← get
    match l.redirstack with
    | [] => return .inr ()
    | (id, kill) :: rest =>
      let p ← peekc
      if p.isNone then
        if !(← optStrict) then
          bumpIdx
          return .inr ()
      modify fun l => { l with redirstack := rest }
      makeheredoc id kill
      return .inl ()

theorem gather_eq : gatherheredocuments = (do
    let fuel := (← get).redirstack.length + 1
    M.loop "gatherheredocuments" gBody fuel ()) := rfl

theorem run_gBody_nil (l : Local) (e : Env) (h : l.redirstack = []) :
    M.run (gBody ()) l e = (.ok (.inr (), l), e) := by
  unfold gBody
  simp only [M.run_bind, run_get, h, M.run_pure]

theorem head?_isNone_iff (s : Str) : (s.head?).isNone = true ↔ s = [] := by
  cases s <;> simp

theorem run_gTail (l : Local) (e : Env) (id : Nat) (kill : Bool) (rest : List (Nat × Bool)) :
    M.run (do
        modify fun l => { l with redirstack := rest }
        makeheredoc id kill
        pure (Sum.inl () : Unit ⊕ Unit)) l e =
      match M.run (makeheredoc id kill) (upd l rest l.store) e with
      | (.ok (_, l'), e') => (.ok (.inl (), l'), e')
      | (.error x, e') => (.error x, e') := by
  simp only [M.run_bind, run_modify]
  have : ({ l with redirstack := rest } : Local) = upd l rest l.store := rfl
  rw [this]
  rcases M.run (makeheredoc id kill) (upd l rest l.store) e with ⟨r, e'⟩
  cases r <;> rfl

theorem run_gBody_cons (l : Local) (e : Env) (hla : l.eolLookahead = none) {s : Str}
    (hs : s <:+ (tapeOf l e).line) (hbs : NoFinalBackslash s)
    {id : Nat} {kill : Bool} {rest : List (Nat × Bool)} (hq : l.redirstack = (id, kill) :: rest) :
    M.run (gBody ()) (stL l e s) (stE l e s) =
      if skipCont s = [] ∧ strictOf l e = false then
        (.ok (.inr (), putL l { tapeOf l e with idx := (tapeOf l e).line.length + 1 }),
          putE l e { tapeOf l e with idx := (tapeOf l e).line.length + 1 })
      else
        match M.run (makeheredoc id kill) (stL (upd l rest l.store) e (skipCont s))
            (stE (upd l rest l.store) e (skipCont s)) with
        | (.ok (_, l'), e') => (.ok (.inl (), l'), e')
        | (.error x, e') => (.error x, e') := by
  unfold gBody
  simp only [M.run_bind, run_get, stL_redirstack, hq]
  rw [run_peekc_st l e hla hs hbs]
  simp only [head?_isNone_iff]
  by_cases h0 : skipCont s = []
  · simp only [h0, if_true, M.run_bind, run_optStrict, strictOf_st, true_and]
    cases hst : strictOf l e
    · simp only [Bool.not_false, if_true, M.run_bind, run_bumpIdx, M.run_pure, tapeOf_st]
      simp only [seek, posOf, List.length_nil, Nat.sub_zero, stL, stE, putL_putL,
        putE_putE]
    · simp only [Bool.not_true, Bool.false_eq_true, if_false]
      rw [run_gTail, stL_upd, stE_upd, stL_store]
      simp
  · simp only [h0, if_false, false_and]
    rw [run_gTail, stL_upd, stE_upd, stL_store]

theorem gatherResult_st (l : Local) (e : Env) (r : Str) (q : List (Nat × Bool))
    (X : List RedirCell) (o : GatherOut) :
    gatherResult (upd (stL l e r) q X) (stE l e r) o = gatherResult l e o := by
  cases o with
  | done store r' => simp [gatherResult]
  | stopped store q' =>
    simp only [gatherResult, tapeOf_upd, tapeOf_st, putE_upd, putL_upd, upd_upd, seek_line]
    unfold stL stE
    rw [putL_putL, putE_putE]
    rfl
  | eof d => simp [gatherResult]
  | badId r' => simp [gatherResult]

theorem run_gather_loop : ∀ (q : List (Nat × Bool)) (fuel : Nat) (l : Local) (e : Env) (s : Str),
    l.redirstack = q → q.length < fuel → l.eolLookahead = none → s <:+ (tapeOf l e).line →
    NoFinalBackslash s → s.length < 1073741824 →
    M.run (M.loop "gatherheredocuments" gBody fuel ()) (stL l e s) (stE l e s) =
      gatherResult l e (specGatherS (tapeOf l e).line (strictOf l e) q l.store s)
  | _, 0, _, _, _, _, hf, _, _, _, _ => absurd hf (Nat.not_lt_zero _)
  | [], fuel + 1, l, e, s, hq, hf, hla, hs, hbs, hlen => by
    rw [run_loop_succ, run_gBody_nil _ _ (by rw [stL_redirstack]; exact hq)]
    simp only [specGatherS, gatherResult]
    rw [upd_self _ (by rw [stL_redirstack]; exact hq) (stL_store _ _ _)]
  | (id, kill) :: q', fuel + 1, l, e, s, hq, hf, hla, hs, hbs, hlen => by
    rw [run_loop_succ, run_gBody_cons l e hla hs hbs hq]
    simp only [specGatherS]
    by_cases hc : skipCont s = [] ∧ strictOf l e = false
    · simp only [hc, and_self, if_true, gatherResult]
      rw [← hq, upd_self _ (putL_redirstack _ _) (putL_store _ _)]
    · simp only [hc, if_false]
      have hs1 : skipCont s <:+ (tapeOf l e).line := (skipCont_suffix s).trans hs
      have hbs1 : NoFinalBackslash (skipCont s) := hbs.of_suffix (skipCont_suffix s)
      have hlen1 : (skipCont s).length < 1073741824 :=
        Nat.lt_of_le_of_lt (skipCont_suffix s).length_le hlen
      cases hcell : l.store[id]? with
      | none =>
        rw [run_makeheredoc_badId _ _ (by rw [stL_store]; exact hcell)]
        simp [gatherResult]
      | some cell =>
        have hrun := run_makeheredoc_st (upd l q' l.store) e hla (id := id) (cell := cell)
          hs1 hbs1 hlen1 hcell kill
        rw [hrun]
        cases hh : specHeredocS cell.delim kill (skipCont s) with
        | none => simp [gatherResult, hh]
        | some w =>
          obtain ⟨v, r⟩ := w
          have hr : r <:+ skipCont s := specHeredocS_isSuffix hh
          simp only [tapeOf_upd, upd_store, stL_upd, stE_upd]
          have hl3 : ({ upd (stL l e r) q' l.store with
              store := l.store.set id (attach cell (posOf (tapeOf l e).line (skipCont s))
                (posOf (tapeOf l e).line r - 1) v) } : Local) =
              upd (stL l e r) q' (l.store.set id (attach cell (posOf (tapeOf l e).line (skipCont s))
                (posOf (tapeOf l e).line r - 1) v)) := rfl
          rw [hl3]
          have ih := run_gather_loop q' fuel
            (upd (stL l e r) q' (l.store.set id (attach cell (posOf (tapeOf l e).line (skipCont s))
                (posOf (tapeOf l e).line r - 1) v))) (stE l e r) r rfl (by simp at hf; omega)
            (by simp [hla]) (by simp; exact hr.trans hs1) (hbs1.of_suffix hr)
            (Nat.lt_of_le_of_lt hr.length_le hlen1)
          simp only [stL_upd, stE_upd, stL_stL, stE_stE, tapeOf_upd, tapeOf_st, seek_line,
            strictOf_upd, strictOf_st, upd_store, gatherResult_st] at ih
          simp only [hh]
          exact ih


/-- `gatherheredocuments` on the state with `s` unread -/
theorem run_gather_st (l : Local) (e : Env) (hla : l.eolLookahead = none) {s : Str}
    (hs : s <:+ (tapeOf l e).line) (hbs : NoFinalBackslash s) (hlen : s.length < 1073741824) :
    M.run gatherheredocuments (stL l e s) (stE l e s) =
      gatherResult l e (specGatherS (tapeOf l e).line (strictOf l e) l.redirstack l.store s) := by
  rw [gather_eq, M.run_bind, run_get]
  simp only [M.run_pure, stL_redirstack]
  exact run_gather_loop l.redirstack _ l e s rfl (Nat.lt_succ_self _) hla hs hbs hlen

/-! ## FIFO, explicitly -/

/-- FIFO, explicitly: if the queue is emptied, there are cut points `cuts[0] = s, …, cuts[n] = r`
    (unread rests) such that the i-th queued redirect gets the body read from `cuts[i]` (after the
    continuation pairs `_peekc` skips), that body ends at `cuts[i+1]`, and nothing else in the
    store changes.  (Ids are distinct: each redirect node is queued once.) -/
theorem specGatherS_fifo (line : Str) (strict : Bool) :
    ∀ (q : List (Nat × Bool)) (store : List RedirCell) (s : Str) {store' : List RedirCell} {r : Str},
    specGatherS line strict q store s = .done store' r → (q.map Prod.fst).Nodup →
    ∃ cuts : List Str, cuts.length = q.length + 1 ∧ cuts.head? = some s ∧ cuts.getLast? = some r ∧
      (∀ i id kill, q[i]? = some (id, kill) → ∃ cell v a b,
        cuts[i]? = some a ∧ cuts[i + 1]? = some b ∧ store[id]? = some cell ∧
        specHeredocS cell.delim kill (skipCont a) = some (v, b) ∧
        store'[id]? = some (attach cell (posOf line (skipCont a)) (posOf line b - 1) v)) ∧
      (∀ j, j ∉ q.map Prod.fst → store'[j]? = store[j]?) ∧ store'.length = store.length
  | [], store, s, store', r, h, _ => by
    simp only [specGatherS, GatherOut.done.injEq] at h
    obtain ⟨rfl, rfl⟩ := h
    exact ⟨[s], rfl, rfl, rfl, by simp, by simp, rfl⟩
  | (id, kill) :: q', store, s, store', r, h, hnd => by
    simp only [specGatherS] at h
    split at h
    · cases h
    · cases hcell : store[id]? with
      | none => rw [hcell] at h; cases h
      | some cell =>
        rw [hcell] at h
        simp only [] at h
        cases hh : specHeredocS cell.delim kill (skipCont s) with
        | none => rw [hh] at h; cases h
        | some w =>
          obtain ⟨v, b⟩ := w
          rw [hh] at h
          simp only [] at h
          simp only [List.map_cons, List.nodup_cons] at hnd
          obtain ⟨hid, hnd'⟩ := hnd
          obtain ⟨cuts, c1, c2, c3, c4, c5, c6⟩ := specGatherS_fifo line strict q' _ b h hnd'
          have hidlt : id < store.length := (List.getElem?_eq_some_iff.mp hcell).1
          refine ⟨s :: cuts, by simp [c1], rfl, ?_, ?_, ?_, ?_⟩
          · cases cuts with
            | nil => simp at c1
            | cons x xs => rw [List.getLast?_cons_cons]; exact c3
          · intro i id' kill' hi
            cases i with
            | zero =>
              simp only [List.getElem?_cons_zero, Option.some.injEq, Prod.mk.injEq] at hi
              obtain ⟨rfl, rfl⟩ := hi
              refine ⟨cell, v, s, b, rfl, ?_, hcell, hh, ?_⟩
              · cases cuts with
                | nil => simp at c1
                | cons x xs => simp at c2 ⊢; exact c2
              · rw [c5 id hid, List.getElem?_set_self hidlt]
            | succ i =>
              simp only [List.getElem?_cons_succ] at hi
              obtain ⟨cell', v', a', b', d1, d2, d3, d4, d5⟩ := c4 i id' kill' hi
              have hne : id ≠ id' := by
                intro he; subst he
                exact hid (List.mem_map.mpr ⟨(id, kill'), List.mem_of_getElem? hi, rfl⟩)
              refine ⟨cell', v', a', b', by simpa using d1, by simpa using d2, ?_, d4, d5⟩
              rw [List.getElem?_set_ne hne] at d3; exact d3
          · intro j hj
            simp only [List.map_cons, List.mem_cons, not_or] at hj
            rw [c5 j hj.2, List.getElem?_set_ne (Ne.symm hj.1)]
          · rw [c6, List.length_set]

end Bashlex.C10
