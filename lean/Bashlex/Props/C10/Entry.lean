/-
  C10, reader part: the state in which `_readtoken` enters `gatherheredocuments`.
  `readtoken_eq` splits the model's `readtoken` into the part that determines the first character
  of the token (`readtokenHead`) and the rest (`readtokenTail g`, with the call of
  `gatherheredocuments` abstracted); `readtoken_gather_slot_empty`: putting a guard
  "`_eol_ungetc_lookahead` is empty" in front of that call does not change any run, i.e. hypothesis
  `Ready.eol` of the reader theorems holds at this call site in every state.
-/
import Bashlex.Props.C10.Gather

namespace Bashlex.C10
open Bashlex
set_option linter.unusedSimpArgs false

/-- `_getc` always leaves `_eol_ungetc_lookahead` empty (in `_readtoken` the call of
    `gatherheredocuments` follows a `_getc` with only `_recordpos` in between) -/
theorem getc_clears_slot (rqn : Bool) (l : Local) (e : Env) {c : Option Char} {l' : Local} {e' : Env}
    (h : M.run (getc rqn) l e = (.ok (c, l'), e')) : l'.eolLookahead = none := by
  cases hl : l.eolLookahead with
  | some ch =>
    have : M.run (getc rqn) l e = (.ok (some ch, { l with eolLookahead := none }), e) := by
      unfold getc
      simp only [M.run_bind, run_get, hl, run_set, M.run_pure]
    rw [this] at h
    simp only [Prod.mk.injEq, Except.ok.injEq] at h
    rw [← h.1.2]
  | none =>
    rw [run_getc rqn l e hl] at h
    split at h
    · simp only [Prod.mk.injEq, Except.ok.injEq] at h
      rw [← h.1.2, putL_eol]; exact hl
    · simp at h

/-- `_readtoken` after the character that starts the token was determined, with the call of
    `gatherheredocuments` abstracted to `g` -/
def readtokenTail (g : M Unit) (character : Char) : M (TokType ⊕ Token) := do
  recordpos 1
  if character == '\n' then
    g
    modify fun l => { l with ps := { l.ps with assignok := false } }
    return .inl (← tokentypeOfChar character)
  if (← get).ps.regexp then
    return .inr (← readtokenword character)
  if (← shellmeta character) && !(← get).ps.dblparen then
    match ← readtokenMeta character with
    | some t => return .inl t
    | none => pure ()
  let l ← get
  if character == '-' && (l.lastReadToken.is .LESS_AND || l.lastReadToken.is .GREATER_AND) then
    return .inl (← tokentypeOfChar character)
  return .inr (← readtokenword character)

/-- `_readtoken` up to there: skip blanks and a comment; `none` = end of input -/
def readtokenHead : M (Option Char) := do
  let fuel ← loopFuel
  let c0 ← getc true
  let c1 ← M.loop "_readtoken" (fun (c : Option Char) => do
    match c with
    | some ch => if shellblank ch then return .inl (← getc true) else return .inr c
    | none => return .inr c) fuel c0
  match c1 with
  | none => return none
  | some ch =>
    if ch == '#' then
      discardUntil '\n'
      let _ ← getc false
      return some '\n'
    else return some ch

theorem readtoken_eq : readtoken = (do
    match ← readtokenHead with
    | none => return .inr { ttype := some .EOF, value := .none }
    | some character => readtokenTail gatherheredocuments character) := by
  unfold readtoken readtokenHead
  simp only [bind_assoc, pure_bind]
  refine bind_congr (fun fuel => bind_congr (fun c0 => bind_congr (fun c1 => ?_)))
  cases c1 with
  | none => rfl
  | some ch =>
    simp only []
    by_cases hc : (ch == '#') = true
    · simp only [hc, if_true, bind_assoc, pure_bind]
      rfl
    · simp only [hc, if_false, Bool.false_eq_true, bind_assoc, pure_bind]
      rfl


/-! ### the look-ahead slot is empty whenever `_readtoken` enters `gatherheredocuments` -/

/-- every normal return of `m` leaves the look-ahead slot empty -/
def EndsEol {α : Type} (m : M α) : Prop :=
  ∀ l e a l' e', M.run m l e = (.ok (a, l'), e') → l'.eolLookahead = none
/-- `m` started with an empty slot returns with an empty slot -/
def KeepsEol {α : Type} (m : M α) : Prop :=
  ∀ l e a l' e', l.eolLookahead = none → M.run m l e = (.ok (a, l'), e') → l'.eolLookahead = none

/-- both are judgements of `Proofs/HoareS.lean` with the exceptions unconstrained -/
theorem keepsEol_iff_satS {α : Type} {m : M α} : KeepsEol m ↔
    M.SatS m (fun l _ => l.eolLookahead = none) (fun _ l _ => l.eolLookahead = none) :=
  M.SatS.iff_ok.symm

theorem endsEol_iff_satS {α : Type} {m : M α} : EndsEol m ↔
    M.SatS m (fun _ _ => True) (fun _ l _ => l.eolLookahead = none) :=
  ⟨fun h => M.SatS.iff_ok.2 (fun l e a l' e' _ => h l e a l' e'),
   fun h l e a l' e' => M.SatS.iff_ok.1 h l e a l' e' True.intro⟩

theorem EndsEol.keeps {α : Type} {m : M α} (h : EndsEol m) : KeepsEol m :=
  fun l e a l' e' _ hr => h l e a l' e' hr

theorem run_bind_ok {α β : Type} {m : M α} {f : α → M β} {l : Local} {e : Env} {b : β}
    {l2 : Local} {e2 : Env} (h : M.run (m >>= f) l e = (.ok (b, l2), e2)) :
    ∃ a l1 e1, M.run m l e = (.ok (a, l1), e1) ∧ M.run (f a) l1 e1 = (.ok (b, l2), e2) := by
  rw [M.run_bind] at h
  rcases hm : M.run m l e with ⟨r, e1⟩
  rw [hm] at h
  cases r with
  | error x => simp at h
  | ok v => obtain ⟨a, l1⟩ := v; exact ⟨a, l1, e1, rfl, h⟩

theorem KeepsEol.pure {α : Type} (a : α) : KeepsEol (Pure.pure a : M α) :=
  keepsEol_iff_satS.2 (M.SatS.pure (fun _ _ h => h))

theorem KeepsEol.bind {α β : Type} {m : M α} {f : α → M β} (hm : KeepsEol m)
    (hf : ∀ a, KeepsEol (f a)) : KeepsEol (m >>= f) :=
  keepsEol_iff_satS.2 (M.SatS.bind (keepsEol_iff_satS.1 hm) (fun a => keepsEol_iff_satS.1 (hf a)))

theorem EndsEol.bind_right {α β : Type} {m : M α} {f : α → M β} (hf : ∀ a, EndsEol (f a)) :
    EndsEol (m >>= f) :=
  endsEol_iff_satS.2 (M.SatS.bind (M.SatS.of_sat (M.Sat.trivial m) _)
    (fun a => endsEol_iff_satS.1 (hf a)))

theorem EndsEol.bind_left {α β : Type} {m : M α} {f : α → M β} (hm : EndsEol m)
    (hf : ∀ a, KeepsEol (f a)) : EndsEol (m >>= f) :=
  endsEol_iff_satS.2 (M.SatS.bind (endsEol_iff_satS.1 hm) (fun a => keepsEol_iff_satS.1 (hf a)))

theorem KeepsEol.loop {σ α : Type} {site : String} {body : σ → M (σ ⊕ α)}
    (hb : ∀ s, KeepsEol (body s)) : ∀ (fuel : Nat) (s : σ), KeepsEol (M.loop site body fuel s) :=
  fun fuel s => keepsEol_iff_satS.2 (M.SatS.loop (I := fun _ l _ => l.eolLookahead = none) True.intro
    (fun s => (keepsEol_iff_satS.1 (hb s)).post (fun r _ _ h => by cases r <;> exact h)) fuel s)

theorem endsEol_getc (rqn : Bool) : EndsEol (getc rqn) :=
  fun l e _ _ _ hr => getc_clears_slot rqn l e hr

theorem endsEol_readtokenHead : EndsEol readtokenHead := by
  unfold readtokenHead
  refine EndsEol.bind_right (fun fuel => ?_)
  refine EndsEol.bind_left (endsEol_getc true) (fun c0 => ?_)
  refine KeepsEol.bind ?_ (fun c1 => ?_)
  · refine KeepsEol.loop (fun c => ?_) fuel c0
    cases c with
    | none => exact KeepsEol.pure _
    | some ch =>
      simp only []
      split
      · exact ((endsEol_getc true).bind_left (fun a => KeepsEol.pure _)).keeps
      · exact KeepsEol.pure _
  · cases c1 with
    | none => exact KeepsEol.pure _
    | some ch =>
      simp only []
      split
      · exact (EndsEol.bind_right (fun _ =>
          (endsEol_getc false).bind_left (fun _ => KeepsEol.pure _))).keeps
      · exact KeepsEol.pure _

/-- a guard that raises unless `_eol_ungetc_lookahead` is empty -/
def slotGuard : M Unit := do
  if (← get).eolLookahead.isSome then M.foreign "AssertionError" "slotGuard"

theorem run_slotGuard {l : Local} (h : l.eolLookahead = none) (e : Env) :
    M.run slotGuard l e = (.ok ((), l), e) := by
  unfold slotGuard
  simp only [M.run_bind, run_get, h, Option.isSome_none, Bool.false_eq_true, if_false, M.run_pure]

theorem run_readtokenTail_guard {l : Local} (h : l.eolLookahead = none) (e : Env) (ch : Char) :
    M.run (readtokenTail (slotGuard >>= fun _ => gatherheredocuments) ch) l e =
      M.run (readtokenTail gatherheredocuments ch) l e := by
  unfold readtokenTail
  simp only [M.run_bind, C10.run_recordpos]
  split
  · simp only [M.run_bind]
    rw [run_slotGuard (by simpa using h)]
  · rfl

/-- the guard is dead: `_readtoken` enters `gatherheredocuments` only with an empty
    `_eol_ungetc_lookahead` (hypothesis `Ready.eol` holds at this call site, in every state) -/
theorem readtoken_gather_slot_empty (l : Local) (e : Env) :
    M.run readtoken l e = M.run (do
      match ← readtokenHead with
      | none => return .inr { ttype := some .EOF, value := .none }
      | some character =>
        readtokenTail (slotGuard >>= fun _ => gatherheredocuments) character) l e := by
  rw [readtoken_eq, M.run_bind, M.run_bind]
  rcases hh : M.run readtokenHead l e with ⟨r, e1⟩
  cases r with
  | error x => rfl
  | ok v =>
    obtain ⟨o, l1⟩ := v
    cases o with
    | none => rfl
    | some ch =>
      simp only []
      exact (run_readtokenTail_guard (endsEol_readtokenHead l e _ l1 e1 hh) e1 ch).symm

end Bashlex.C10
