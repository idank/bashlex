/-
  C10, reader part: a uniform view of the tape of a parser, for top-level parsers (the tape is
  the environment's, `Local.tape = none`) and nested parsers (`Local.tape = some t`) alike, and
  exact run lemmas for the tape accessors of `Model/Monad.lean` in that view.

  `tapeOf l e` is the tape the parser reads, `(putL l t, putE l e t)` the state after the tape was
  replaced by `t`.  For `l.tape = some _` these are pure state functions, for `l.tape = none`
  they act on the environment; every accessor satisfies ONE equation covering both
  (`run_getc`, `run_ungetc`, `run_curIdx`, `run_bumpIdx`, `run_tapeLine`): this is the
  simulation "a top-level run equals the local-tape run with the tape moved into the state",
  stated per accessor.  All theorems of `Reader.lean` / `Gather.lean` are proved once, in this
  view, and so hold for both kinds of parsers.
-/
import Bashlex.Props.C10.Spec
import Bashlex.Model.Tokenizer
import Bashlex.Proofs.HoareS
import Bashlex.Proofs.QCongr
import Bashlex.Props.C04.TTDel

namespace Bashlex.C10
open Bashlex

/-! ## the uniform view -/

/-- the tape read by a parser in local state `l` and environment `e` -/
def tapeOf (l : Local) (e : Env) : Tape :=
  match l.tape with
  | some t => t
  | none => e.tape

/-- local state after the tape became `t` -/
def putL (l : Local) (t : Tape) : Local :=
  match l.tape with
  | some _ => { l with tape := some t }
  | none => l

/-- environment after the tape became `t` -/
def putE (l : Local) (e : Env) (t : Tape) : Env :=
  match l.tape with
  | some _ => e
  | none => { e with tape := t }

/-- `tokenizer._strictmode` as seen by the parser -/
def strictOf (l : Local) (e : Env) : Bool :=
  match l.opts with
  | some (s, _) => s
  | none => e.strict

theorem tapeOf_put (l : Local) (e : Env) (t : Tape) : tapeOf (putL l t) (putE l e t) = t := by
  cases l with
  | mk tape => cases tape <;> rfl

theorem putL_putL (l : Local) (t t' : Tape) : putL (putL l t) t' = putL l t' := by
  cases l with
  | mk tape => cases tape <;> rfl

theorem putE_putE (l : Local) (e : Env) (t t' : Tape) :
    putE (putL l t) (putE l e t) t' = putE l e t' := by
  cases l with
  | mk tape => cases tape <;> rfl

theorem putL_self (l : Local) (e : Env) : putL l (tapeOf l e) = l := by
  cases l with
  | mk tape => cases tape <;> rfl

theorem putE_self (l : Local) (e : Env) : putE l e (tapeOf l e) = e := by
  cases l with
  | mk tape => cases tape <;> rfl

@[simp] theorem putL_eol (l : Local) (t : Tape) : (putL l t).eolLookahead = l.eolLookahead := by
  cases l with
  | mk tape => cases tape <;> rfl
@[simp] theorem putL_store (l : Local) (t : Tape) : (putL l t).store = l.store := by
  cases l with
  | mk tape => cases tape <;> rfl
@[simp] theorem putL_redirstack (l : Local) (t : Tape) : (putL l t).redirstack = l.redirstack := by
  cases l with
  | mk tape => cases tape <;> rfl
@[simp] theorem putL_opts (l : Local) (t : Tape) : (putL l t).opts = l.opts := by
  cases l with
  | mk tape => cases tape <;> rfl
@[simp] theorem strictOf_put (l : Local) (e : Env) (t : Tape) :
    strictOf (putL l t) (putE l e t) = strictOf l e := by
  cases l with
  | mk tape => cases tape <;> rfl

/-- the fields the reader writes besides the tape -/
theorem putL_setStore (l : Local) (t : Tape) (s : List RedirCell) :
    putL { l with store := s } t = { putL l t with store := s } := by
  cases l with
  | mk tape => cases tape <;> rfl
theorem putL_setRedirstack (l : Local) (t : Tape) (s : List (Nat × Bool)) :
    putL { l with redirstack := s } t = { putL l t with redirstack := s } := by
  cases l with
  | mk tape => cases tape <;> rfl
@[simp] theorem tapeOf_setStore (l : Local) (e : Env) (s : List RedirCell) :
    tapeOf { l with store := s } e = tapeOf l e := rfl
@[simp] theorem tapeOf_setRedirstack (l : Local) (e : Env) (s : List (Nat × Bool)) :
    tapeOf { l with redirstack := s } e = tapeOf l e := rfl
@[simp] theorem putE_setStore (l : Local) (e : Env) (t : Tape) (s : List RedirCell) :
    putE { l with store := s } e t = putE l e t := rfl
@[simp] theorem putE_setRedirstack (l : Local) (e : Env) (t : Tape) (s : List (Nat × Bool)) :
    putE { l with redirstack := s } e t = putE l e t := rfl
@[simp] theorem strictOf_setStore (l : Local) (e : Env) (s : List RedirCell) :
    strictOf { l with store := s } e = strictOf l e := rfl
@[simp] theorem strictOf_setRedirstack (l : Local) (e : Env) (s : List (Nat × Bool)) :
    strictOf { l with redirstack := s } e = strictOf l e := rfl

/-! ## running the primitives -/

export Bashlex.M (run_get run_set run_modify run_ask)

theorem run_foreign {α : Type} (a b : String) (l : Local) (e : Env) :
    M.run (M.foreign a b : M α) l e = (.error (.foreign a b), e) := rfl

theorem run_loop_zero {σ α : Type} (site : String) (body : σ → M (σ ⊕ α)) (s : σ)
    (l : Local) (e : Env) :
    M.run (M.loop site body 0 s) l e = (.error (.outOfFuel site), e) := rfl

theorem run_loop_succ {σ α : Type} (site : String) (body : σ → M (σ ⊕ α)) (fuel : Nat) (s : σ)
    (l : Local) (e : Env) :
    M.run (M.loop site body (fuel + 1) s) l e =
      match M.run (body s) l e with
      | (.ok (.inl s', l'), e') => M.run (M.loop site body fuel s') l' e'
      | (.ok (.inr a, l'), e') => (.ok (a, l'), e')
      | (.error x, e') => (.error x, e') := by
  show M.run (body s >>= _) l e = _
  rw [M.run_bind]
  rcases M.run (body s) l e with ⟨r, e'⟩
  cases r with
  | error x => rfl
  | ok v =>
    obtain ⟨r, l'⟩ := v
    cases r <;> rfl

theorem run_ask_getc (rqn : Bool) (l : Local) (e : Env) :
    M.run (M.ask (.getc rqn)) l e =
      match e.tape.getc rqn (e.tape.line.length + 1) with
      | .ok (c, t) => (.ok (.ok c, l), { e with tape := t })
      | .error () => (.ok (.error (), l), e) := by
  rw [run_ask]; simp only [Env.answer]
  split <;> rename_i hg <;> simp only [hg]

/-! ## the accessors in the uniform view -/

/-- `_getc` with an empty `_eol_ungetc_lookahead` slot -/
theorem run_getc (rqn : Bool) (l : Local) (e : Env) (h : l.eolLookahead = none) :
    M.run (getc rqn) l e =
      match (tapeOf l e).getc rqn ((tapeOf l e).line.length + 1) with
      | .ok (c, t') => (.ok (c, putL l t'), putE l e t')
      | .error () => (.error (.foreign "IndexError" "_getc"), e) := by
  cases l with
  | mk tape opts eol =>
  simp only at h; subst h
  unfold getc
  simp only [M.run_bind, run_get]
  cases tape with
  | none =>
    simp only [tapeOf, putL, putE, M.run_bind]
    rw [run_ask_getc]
    cases hg : e.tape.getc rqn (e.tape.line.length + 1) with
    | ok v => obtain ⟨c, t'⟩ := v; simp only [M.run_pure]
    | error u => cases u; simp only [run_foreign]
  | some t =>
    simp only [tapeOf, putL, putE]
    split <;> rename_i hg <;> simp only [hg, M.run_bind, run_set, M.run_pure, run_foreign]

theorem run_ask_ungetc (l : Local) (e : Env) :
    M.run (M.ask .ungetc) l e = (.ok (e.tape.ungetc.1, l), { e with tape := e.tape.ungetc.2 }) := rfl

theorem ungetc_cases (t : Tape) :
    t.ungetc = (true, { t with idx := t.idx - 1 }) ∨ t.ungetc = (false, t) := by
  unfold Tape.ungetc; split
  · exact Or.inl rfl
  · exact Or.inr rfl

/-- `_ungetc(c)` -/
theorem run_ungetc (c : Option Char) (l : Local) (e : Env) :
    M.run (ungetc c) l e =
      match (tapeOf l e).ungetc with
      | (true, t') => (.ok ((), putL l t'), putE l e t')
      | (false, _) => (.ok ((), { l with eolLookahead := c }), e) := by
  cases l with
  | mk tape opts eol =>
  unfold ungetc
  simp only [M.run_bind, run_get]
  cases tape with
  | none =>
    simp only [tapeOf, putL, putE, M.run_bind]
    rw [run_ask_ungetc]
    rcases ungetc_cases e.tape with hu | hu <;> simp only [hu] <;> rfl
  | some t =>
    simp only [tapeOf, putL, putE]
    rcases ungetc_cases t with hu | hu <;> rw [hu] <;> rfl

theorem run_curIdx (l : Local) (e : Env) : M.run curIdx l e = (.ok ((tapeOf l e).idx, l), e) := by
  cases l with
  | mk tape => cases tape <;> rfl

theorem tapeOf_local {l : Local} {t : Tape} (h : l.tape = some t) (e : Env) : tapeOf l e = t := by
  unfold tapeOf; rw [h]

theorem tapeOf_top {l : Local} (h : l.tape = none) (e : Env) : tapeOf l e = e.tape := by
  unfold tapeOf; rw [h]

/- The four equations below are `protected`: the properties that use them have them under their
   own namespace (`C11.run_tapeSource`, ..), and open `C10` beside it. -/

protected theorem run_tapeSource (l : Local) (e : Env) :
    M.run tapeSource l e = (.ok ((tapeOf l e).source, l), e) := by
  cases l with
  | mk tape => cases tape <;> rfl

protected theorem run_tapeAdded (l : Local) (e : Env) :
    M.run tapeAdded l e = (.ok ((tapeOf l e).added, l), e) := by
  cases l with
  | mk tape => cases tape <;> rfl

protected theorem run_recordpos (rel : Nat) (l : Local) (e : Env) :
    M.run (recordpos rel) l e =
      (.ok ((), { l with positions := l.positions ++ [(tapeOf l e).idx - rel] }), e) := by
  unfold recordpos
  simp only [M.run_bind, run_curIdx, M.run_modify]

/-- `_getc` with a character in the look-ahead slot -/
protected theorem run_getc_some (rqn : Bool) (l : Local) (e : Env) (c : Char)
    (h : l.eolLookahead = some c) :
    M.run (getc rqn) l e = (.ok (some c, { l with eolLookahead := none }), e) := by
  unfold getc
  simp only [M.run_bind, M.run_get, h, M.run_set, M.run_pure]

theorem run_bumpIdx (l : Local) (e : Env) :
    M.run bumpIdx l e =
      (.ok ((), putL l { tapeOf l e with idx := (tapeOf l e).idx + 1 }),
       putE l e { tapeOf l e with idx := (tapeOf l e).idx + 1 }) := by
  cases l with
  | mk tape => cases tape <;> rfl

theorem run_tapeLine (l : Local) (e : Env) :
    M.run tapeLine l e = (.ok ((tapeOf l e).line, l), e) := by
  cases l with
  | mk tape => cases tape <;> rfl

theorem run_optStrict (l : Local) (e : Env) :
    M.run optStrict l e = (.ok (strictOf l e, l), e) := by
  cases l with
  | mk tape opts =>
    cases opts with
    | none => rfl
    | some p => obtain ⟨s, p⟩ := p; rfl

/-! ## positions as unread rests -/

/-- the tape with the cursor where `rest` remains unread -/
def seek (t : Tape) (rest : Str) : Tape := { t with idx := posOf t.line rest }

/-- the state `(l, e)` with the cursor moved to where `rest` remains unread -/
def stL (l : Local) (e : Env) (rest : Str) : Local := putL l (seek (tapeOf l e) rest)
def stE (l : Local) (e : Env) (rest : Str) : Env := putE l e (seek (tapeOf l e) rest)

@[simp] theorem seek_line (t : Tape) (r : Str) : (seek t r).line = t.line := rfl
@[simp] theorem seek_idx (t : Tape) (r : Str) : (seek t r).idx = posOf t.line r := rfl
@[simp] theorem seek_seek (t : Tape) (r r' : Str) : seek (seek t r) r' = seek t r' := rfl

@[simp] theorem tapeOf_st (l : Local) (e : Env) (r : Str) :
    tapeOf (stL l e r) (stE l e r) = seek (tapeOf l e) r := tapeOf_put _ _ _

@[simp] theorem stL_stL (l : Local) (e : Env) (r r' : Str) :
    stL (stL l e r) (stE l e r) r' = stL l e r' := by
  unfold stL stE; rw [tapeOf_put, putL_putL]; rfl

@[simp] theorem stE_stE (l : Local) (e : Env) (r r' : Str) :
    stE (stL l e r) (stE l e r) r' = stE l e r' := by
  unfold stL stE; rw [tapeOf_put, putE_putE]; rfl

@[simp] theorem stL_eol (l : Local) (e : Env) (r : Str) : (stL l e r).eolLookahead = l.eolLookahead :=
  putL_eol _ _
@[simp] theorem stL_store (l : Local) (e : Env) (r : Str) : (stL l e r).store = l.store :=
  putL_store _ _
@[simp] theorem stL_redirstack (l : Local) (e : Env) (r : Str) :
    (stL l e r).redirstack = l.redirstack := putL_redirstack _ _
@[simp] theorem strictOf_st (l : Local) (e : Env) (r : Str) :
    strictOf (stL l e r) (stE l e r) = strictOf l e := strictOf_put _ _ _

theorem posOf_drop {line : Str} {i : Nat} (h : i ≤ line.length) : posOf line (line.drop i) = i := by
  unfold posOf; rw [List.length_drop]; omega

theorem drop_posOf {line r : Str} (h : r <:+ line) : line.drop (posOf line r) = r := by
  obtain ⟨p, rfl⟩ := h
  unfold posOf
  rw [List.length_append, Nat.add_sub_cancel, List.drop_left]

theorem posOf_le (line r : Str) : posOf line r ≤ line.length := Nat.sub_le _ _

/-- a state whose cursor is inside the input is the state "at the rest from the cursor" -/
theorem seek_self {t : Tape} (h : t.idx ≤ t.line.length) : seek t (t.line.drop t.idx) = t := by
  unfold seek; rw [posOf_drop h]

theorem stL_self {l : Local} {e : Env} (h : (tapeOf l e).idx ≤ (tapeOf l e).line.length) :
    stL l e ((tapeOf l e).line.drop (tapeOf l e).idx) = l := by
  unfold stL; rw [seek_self h, putL_self]

theorem stE_self {l : Local} {e : Env} (h : (tapeOf l e).idx ≤ (tapeOf l e).line.length) :
    stE l e ((tapeOf l e).line.drop (tapeOf l e).idx) = e := by
  unfold stE; rw [seek_self h, putE_self]

/-! ## what `Tape.getc` does to the cursor -/

open Bashlex.C04 in
/-- one `_getc` from cursor `i` to cursor `j`: the text `L[i:j]` is a run of backslash-newline
    pairs (none when `remove_quoted_newline` is off) followed by the character delivered, and a
    backslash is delivered only when no newline follows it; `None` is delivered beyond the pairs
    at the end of the line (or where the fuel ran out).  No assumption on cursor and fuel: every
    other fact about `Tape.getc` is read off this one. -/
theorem tape_getc_rel (rqn : Bool) : ∀ (fuel : Nat) (t : Tape) (c : Option Char) (t' : Tape),
    t.getc rqn fuel = .ok (c, t') →
      t'.line = t.line ∧ t'.added = t.added ∧ t.idx ≤ t'.idx ∧
      (t.idx ≤ t.line.length → t'.idx ≤ t.line.length) ∧
      (∀ ch, c = some ch → t.idx < t'.idx ∧ t.line[t'.idx - 1]? = some ch ∧
        Del (Str.slice t.line t.idx (t'.idx - 1)) [] ∧ (rqn = false → t'.idx = t.idx + 1) ∧
        (rqn = true → ch = '\\' → t.line[t'.idx]? ≠ some '\n')) ∧
      (c = none → Del (Str.slice t.line t.idx t'.idx) [] ∧
        (t.line.length ≤ t.idx ∨ rqn = false → t' = t) ∧
        (t.line.length - t.idx < fuel → t.line.length ≤ t'.idx)) := by
  intro fuel
  induction fuel with
  | zero =>
    intro t c t' h
    simp only [Tape.getc] at h
    cases h
    exact ⟨rfl, rfl, Nat.le_refl _, id, (fun _ h => by cases h),
      fun _ => ⟨by rw [slice_self]; exact .nil, fun _ => rfl, fun h => absurd h (Nat.not_lt_zero _)⟩⟩
  | succ fuel ih =>
    intro t c t' h
    unfold Tape.getc at h
    split at h
    · rename_i hlt
      split at h
      · rename_i hn
        have := List.getElem?_eq_none_iff.mp hn
        omega
      · rename_i c0 hc
        simp only [] at h
        -- a pair is skipped, or the character at the cursor is delivered
        have key : (c0 = '\\' ∧ rqn = true ∧ t.line[t.idx + 1]? = some '\n' ∧
              Tape.getc { t with idx := t.idx + 1 + 1 } rqn fuel = .ok (c, t')) ∨
            ((c0 = '\\' → rqn = true → t.line[t.idx + 1]? ≠ some '\n') ∧ c = some c0 ∧
              t' = { t with idx := t.idx + 1 }) := by
          split at h
          · rename_i hbs
            simp only [Bool.and_eq_true, beq_iff_eq] at hbs
            split at h
            · cases h
            · rename_i d hd
              split at h
              · rename_i hdn
                exact Or.inl ⟨hbs.1, hbs.2, by rw [hd]; simpa using hdn, h⟩
              · rename_i hdn
                cases h
                exact Or.inr ⟨fun _ _ => by rw [hd]; simpa using hdn, rfl, rfl⟩
          · rename_i hbs
            cases h
            refine Or.inr ⟨fun hb hr => ?_, rfl, rfl⟩
            subst hb hr
            simp at hbs
        rcases key with ⟨rfl, rfl, hd, h⟩ | ⟨hnp, rfl, rfl⟩
        · obtain ⟨a1, a2, a3, a4, a5, a6⟩ := ih _ _ _ h
          simp only [] at a1 a2 a3 a4 a5 a6
          have hd' : t.idx + 1 < t.line.length := (List.getElem?_eq_some_iff.mp hd).1
          refine ⟨a1, a2, by omega, fun _ => a4 hd', fun ch hch => ?_, fun hn => ?_⟩
          · obtain ⟨b1, b2, b3, _, b5⟩ := a5 ch hch
            refine ⟨by omega, b2, ?_, (fun h => by cases h), fun _ => b5 True.intro⟩
            rw [slice_cons _ hc (by omega), slice_cons _ hd (by omega)]
            exact .skip b3
          · obtain ⟨b1, _, b3⟩ := a6 hn
            refine ⟨?_, fun h => ?_, fun hf => b3 (by omega)⟩
            · rw [slice_cons _ hc (by omega), slice_cons _ hd (by omega)]
              exact .skip b1
            · rcases h with h | h
              · omega
              · cases h
        · refine ⟨rfl, rfl, Nat.le_succ _, fun _ => hlt, fun ch hch => ?_, (fun h => by cases h)⟩
          cases hch
          exact ⟨Nat.lt_succ_self _, by simpa using hc,
            by simp only [Nat.add_sub_cancel, slice_self]; exact .nil, fun _ => rfl,
            fun hr hb => hnp hb hr⟩
    · rename_i hge
      cases h
      exact ⟨rfl, rfl, Nat.le_refl _, id, (fun _ h => by cases h),
        fun _ => ⟨by rw [slice_self]; exact .nil, fun _ => rfl, fun _ => by omega⟩⟩

end Bashlex.C10
