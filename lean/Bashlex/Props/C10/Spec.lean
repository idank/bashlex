/-
  C10, reader part: pure specifications of `tokenizer._getc(True)`, `tokenizer.readline(False)`
  and `heredoc.makeheredoc` on strings, and their structural lemmas (independent of the model
  monad); the facts that make them the RIGHT specification are in `Facts.lean`.

  All functions come in two forms: on the *unread rest* of the input (`…S`, structural recursion,
  used in the proofs) and on `(line, idx)` (the form the theorems about the model are stated in).
-/
import Bashlex.Basic

namespace Bashlex.C10
open Bashlex

/-! ## `_getc(True)` -/

/-- `_getc(True)` on the unread rest: skip backslash-newline pairs, then deliver one character
    (`some none` = end of input, Python `None`).  Outer `none` = IndexError (`line[idx]` after a
    backslash that is the last character of the input). -/
def getcS : Str → Option (Option Char × Str)
  | [] => some (none, [])
  | c :: rest =>
    if c = '\\' then
      match rest with
      | [] => none
      | d :: rest' => if d = '\n' then getcS rest' else some (some c, rest)
    else some (some c, rest)

/-- the input does not end in a backslash (true of every tape built by `Tape.ofInput`, which
    makes the input end in a newline): `_getc` never raises IndexError on such input -/
def NoFinalBackslash (s : Str) : Prop := s.getLast? ≠ some '\\'

instance (s : Str) : Decidable (NoFinalBackslash s) := by unfold NoFinalBackslash; exact inferInstance

theorem NoFinalBackslash.tail {c : Char} {s : Str} (h : NoFinalBackslash (c :: s)) (hs : s ≠ []) :
    NoFinalBackslash s := by
  unfold NoFinalBackslash at *
  cases s with
  | nil => exact absurd rfl hs
  | cons d s' => rwa [List.getLast?_cons_cons] at h

theorem NoFinalBackslash.nil : NoFinalBackslash [] := by simp [NoFinalBackslash]

theorem NoFinalBackslash.drop {s : Str} (h : NoFinalBackslash s) (n : Nat) :
    NoFinalBackslash (s.drop n) := by
  induction n generalizing s with
  | zero => simpa using h
  | succ n ih =>
    cases s with
    | nil => simpa using h
    | cons c s' =>
      rw [List.drop_succ_cons]
      by_cases hs : s' = []
      · subst hs; simp [NoFinalBackslash]
      · exact ih (h.tail hs)

theorem NoFinalBackslash.of_append {p s : Str} (h : NoFinalBackslash (p ++ s)) (hs : s ≠ []) :
    NoFinalBackslash s := by
  unfold NoFinalBackslash at *
  rw [List.getLast?_append] at h
  cases hl : s.getLast? with
  | none => exact absurd (List.getLast?_eq_none_iff.mp hl) hs
  | some c => rw [hl] at h; simpa using h

/-- what `getcS` returns is a suffix of its argument, strictly shorter when a character is read -/
theorem getcS_suffix : ∀ (s : Str) {c : Option Char} {r : Str}, getcS s = some (c, r) →
    ∃ p, s = p ++ r ∧ (c.isSome → p ≠ []) ∧ (c = none → r = [])
  | [], c, r, h => by
    simp only [getcS, Option.some.injEq, Prod.mk.injEq] at h
    obtain ⟨rfl, rfl⟩ := h
    exact ⟨[], rfl, by simp, fun _ => rfl⟩
  | [a], c, r, h => by
    simp only [getcS] at h
    split at h
    · cases h
    · simp only [Option.some.injEq, Prod.mk.injEq] at h
      obtain ⟨rfl, rfl⟩ := h
      exact ⟨[a], rfl, by simp, by simp⟩
  | a :: d :: rest', c, r, h => by
    simp only [getcS] at h
    split at h
    · split at h
      · obtain ⟨p, hp, h1, h2⟩ := getcS_suffix rest' h
        refine ⟨a :: d :: p, by rw [hp]; rfl, by simp, h2⟩
      · simp only [Option.some.injEq, Prod.mk.injEq] at h
        obtain ⟨rfl, rfl⟩ := h
        exact ⟨[a], rfl, by simp, by simp⟩
    · simp only [Option.some.injEq, Prod.mk.injEq] at h
      obtain ⟨rfl, rfl⟩ := h
      exact ⟨[a], rfl, by simp, by simp⟩

theorem getcS_length_le {s : Str} {c : Option Char} {r : Str} (h : getcS s = some (c, r)) :
    r.length ≤ s.length := by
  obtain ⟨p, hp, _, _⟩ := getcS_suffix s h
  rw [hp, List.length_append]; omega

theorem getcS_length_lt {s : Str} {c : Char} {r : Str} (h : getcS s = some (some c, r)) :
    r.length < s.length := by
  obtain ⟨p, hp, h1, _⟩ := getcS_suffix s h
  have : p ≠ [] := h1 rfl
  have : 0 < p.length := List.length_pos_iff.mpr this
  rw [hp, List.length_append]; omega

/-- without a final backslash there is no IndexError -/
theorem getcS_isSome : ∀ (s : Str), NoFinalBackslash s → (getcS s).isSome
  | [], _ => rfl
  | [a], h => by
    have : a ≠ '\\' := by
      intro ha; subst ha; exact h rfl
    simp [getcS, this]
  | a :: d :: rest', h => by
    simp only [getcS]
    split
    · split
      · by_cases hr : rest' = []
        · subst hr; rfl
        · exact getcS_isSome rest' ((h.tail (by simp)).tail hr)
      · rfl
    · rfl

theorem getcS_cons_ne {c : Char} (h : c ≠ '\\') (r : Str) : getcS (c :: r) = some (some c, r) := by
  cases r <;> simp [getcS, h]

/-- drop leading backslash-newline pairs: what `_peekc()` skips before the character it shows -/
def skipCont : Str → Str
  | c :: d :: rest => if c = '\\' ∧ d = '\n' then skipCont rest else c :: d :: rest
  | s => s

theorem skipCont_suffix : ∀ (s : Str), skipCont s <:+ s
  | [] => List.suffix_refl _
  | [_] => List.suffix_refl _
  | c :: d :: rest => by
    simp only [skipCont]
    split
    · exact (skipCont_suffix rest).trans ⟨[c, d], rfl⟩
    · exact List.suffix_refl _

/-- `_getc(True)` delivers the first character after the leading continuation pairs -/
theorem getcS_skipCont : ∀ (s : Str) {c : Option Char} {r : Str}, getcS s = some (c, r) →
    (c = none ∧ r = [] ∧ skipCont s = []) ∨ (∃ ch, c = some ch ∧ skipCont s = ch :: r)
  | [], c, r, h => by
    simp only [getcS, Option.some.injEq, Prod.mk.injEq] at h
    exact Or.inl ⟨h.1.symm, h.2.symm, rfl⟩
  | [a], c, r, h => by
    simp only [getcS] at h
    split at h
    · cases h
    · simp only [Option.some.injEq, Prod.mk.injEq] at h
      exact Or.inr ⟨a, h.1.symm, by rw [← h.2]; rfl⟩
  | a :: d :: rest', c, r, h => by
    simp only [getcS] at h
    simp only [skipCont]
    split at h
    · rename_i ha
      split at h
      · rename_i hd
        rw [if_pos ⟨ha, hd⟩]
        exact getcS_skipCont rest' h
      · rename_i hd
        rw [if_neg (fun hh => hd hh.2)]
        simp only [Option.some.injEq, Prod.mk.injEq] at h
        exact Or.inr ⟨a, h.1.symm, by rw [← h.2]⟩
    · rename_i ha
      rw [if_neg (fun hh => ha hh.1)]
      simp only [Option.some.injEq, Prod.mk.injEq] at h
      exact Or.inr ⟨a, h.1.symm, by rw [← h.2]⟩

theorem NoFinalBackslash.of_suffix {s r : Str} (h : NoFinalBackslash s) (hr : r <:+ s) :
    NoFinalBackslash r := by
  by_cases h0 : r = []
  · subst h0; exact NoFinalBackslash.nil
  · obtain ⟨p, rfl⟩ := hr
    exact h.of_append h0

/-! ## `readline(False)` -/

/-- `readline(False)` on the unread rest: the text of the next line — continuation pairs removed
    (by `_getc(True)` underneath), terminated by a newline which is *added* when the input ends
    without one — and the rest after it.  `none` = Python `None`: the input ended (possibly after
    continuation pairs) before any character was read.  (Also `none` where the code raises
    IndexError; excluded by `NoFinalBackslash`.) -/
def specReadlineS (s : Str) : Option (Str × Str) :=
  match _h : getcS s with
  | none => none
  | some (none, _) => none
  | some (some c, rest) =>
    if c = '\n' then some (['\n'], rest)
    else match specReadlineS rest with
      | some (txt, r) => some (c :: txt, r)
      | none => some ([c, '\n'], [])
termination_by s.length
decreasing_by exact getcS_length_lt _h

/-- `specReadlineS` unfolded once: one iteration of the `while True` loop of `readline` -/
theorem specReadlineS_eq (s : Str) : specReadlineS s =
    match getcS s with
    | none => none
    | some (none, _) => none
    | some (some c, rest) =>
      if c = '\n' then some (['\n'], rest)
      else match specReadlineS rest with
        | some (txt, r) => some (c :: txt, r)
        | none => some ([c, '\n'], []) := by
  rw [specReadlineS]
  split <;> simp_all

/-- the rest after a line is a strict suffix -/
theorem specReadlineS_suffix : ∀ (n : Nat) (s : Str), s.length ≤ n → ∀ {txt r : Str},
    specReadlineS s = some (txt, r) → ∃ p, s = p ++ r ∧ p ≠ []
  | 0, s, hn, txt, r, h => by
    have : s = [] := List.eq_nil_of_length_eq_zero (Nat.le_zero.mp hn)
    subst this; rw [specReadlineS_eq] at h; simp [getcS] at h
  | n + 1, s, hn, txt, r, h => by
    rw [specReadlineS_eq] at h
    split at h
    · cases h
    · cases h
    · rename_i c rest hg
      obtain ⟨p, hp, h1, _⟩ := getcS_suffix s hg
      have hp0 : p ≠ [] := h1 rfl
      have hlt := getcS_length_lt hg
      split at h
      · simp only [Option.some.injEq, Prod.mk.injEq] at h
        obtain ⟨_, rfl⟩ := h
        exact ⟨p, hp, hp0⟩
      · split at h
        · rename_i txt' r' hr
          simp only [Option.some.injEq, Prod.mk.injEq] at h
          obtain ⟨_, rfl⟩ := h
          obtain ⟨p', hp', _⟩ := specReadlineS_suffix n rest (by omega) hr
          refine ⟨p ++ p', by rw [hp, hp', List.append_assoc], by simp [hp0]⟩
        · simp only [Option.some.injEq, Prod.mk.injEq] at h
          obtain ⟨_, rfl⟩ := h
          rename_i hr
          -- the rest was read to the end
          refine ⟨s, by simp, ?_⟩
          intro hs; rw [hs] at hp
          exact hp0 (List.append_eq_nil_iff.mp hp.symm).1

theorem specReadlineS_length_lt {s txt r : Str} (h : specReadlineS s = some (txt, r)) :
    r.length < s.length := by
  obtain ⟨p, hp, hp0⟩ := specReadlineS_suffix s.length s (Nat.le_refl _) h
  have : 0 < p.length := List.length_pos_iff.mpr hp0
  rw [hp, List.length_append]; omega

/-- a line returned by `readline` is a non-empty text without newline followed by one newline -/
theorem specReadlineS_text : ∀ (n : Nat) (s : Str), s.length ≤ n → ∀ {txt r : Str},
    specReadlineS s = some (txt, r) → ∃ body, txt = body ++ ['\n'] ∧ '\n' ∉ body
  | 0, s, hn, txt, r, h => by
    have : s = [] := List.eq_nil_of_length_eq_zero (Nat.le_zero.mp hn)
    subst this; rw [specReadlineS_eq] at h; simp [getcS] at h
  | n + 1, s, hn, txt, r, h => by
    rw [specReadlineS_eq] at h
    split at h
    · cases h
    · cases h
    · rename_i c rest hg
      have hlt := getcS_length_lt hg
      split at h
      · simp only [Option.some.injEq, Prod.mk.injEq] at h
        obtain ⟨rfl, _⟩ := h
        exact ⟨[], rfl, by simp⟩
      · rename_i hc
        split at h
        · rename_i txt' r' hr
          simp only [Option.some.injEq, Prod.mk.injEq] at h
          obtain ⟨rfl, _⟩ := h
          obtain ⟨b, hb, hnb⟩ := specReadlineS_text n rest (by omega) hr
          refine ⟨c :: b, by rw [hb]; rfl, ?_⟩
          simp only [List.mem_cons, not_or]
          exact ⟨fun h => hc h.symm, hnb⟩
        · simp only [Option.some.injEq, Prod.mk.injEq] at h
          obtain ⟨rfl, _⟩ := h
          refine ⟨[c], rfl, ?_⟩
          simp only [List.mem_singleton]
          exact fun h => hc h.symm

/-! ## `makeheredoc` -/

/-- `while fullline[0] == '\t': fullline = fullline[1:]` (total version) -/
def stripTabs : Str → Str
  | [] => []
  | c :: cs => if c = '\t' then stripTabs cs else c :: cs

/-- the line as `makeheredoc` compares and stores it -/
def heredocLine (kill : Bool) (txt : Str) : Str := if kill then stripTabs txt else txt

/-- `makeheredoc` on the unread rest: the document and the rest after the delimiter line.
    The delimiter line is appended without its newline.  `none`: the input ends first. -/
def specHeredocS (delim : Str) (kill : Bool) (s : Str) : Option (Str × Str) :=
  match _h : specReadlineS s with
  | none => none
  | some (txt, rest) =>
    if (heredocLine kill txt).dropLast = delim then some (delim, rest)
    else
      match specHeredocS delim kill rest with
      | none => none
      | some (v, r) => some (heredocLine kill txt ++ v, r)
termination_by s.length
decreasing_by exact specReadlineS_length_lt _h

theorem specHeredocS_eq (delim : Str) (kill : Bool) (s : Str) : specHeredocS delim kill s =
    match specReadlineS s with
    | none => none
    | some (txt, rest) =>
      if (heredocLine kill txt).dropLast = delim then some (delim, rest)
      else
        match specHeredocS delim kill rest with
        | none => none
        | some (v, r) => some (heredocLine kill txt ++ v, r) := by
  rw [specHeredocS]
  split <;> simp_all

/-- the text of a line ends in a newline -/
theorem specReadlineS_last {s txt r : Str} (h : specReadlineS s = some (txt, r)) :
    txt.getLast? = some '\n' := by
  obtain ⟨b, hb, _⟩ := specReadlineS_text s.length s (Nat.le_refl _) h
  rw [hb]; simp

/-- the rest after a here-document is a strict suffix -/
theorem specHeredocS_suffix (delim : Str) (kill : Bool) : ∀ (n : Nat) (s : Str), s.length ≤ n →
    ∀ {v r : Str}, specHeredocS delim kill s = some (v, r) → ∃ p, s = p ++ r ∧ p ≠ []
  | 0, s, hn, v, r, h => by
    have : s = [] := List.eq_nil_of_length_eq_zero (Nat.le_zero.mp hn)
    subst this
    rw [specHeredocS_eq, specReadlineS_eq] at h; simp [getcS] at h
  | n + 1, s, hn, v, r, h => by
    rw [specHeredocS_eq] at h
    cases hr : specReadlineS s with
    | none => rw [hr] at h; cases h
    | some w =>
      obtain ⟨txt, rest⟩ := w
      rw [hr] at h
      obtain ⟨p, hp, hp0⟩ := specReadlineS_suffix s.length s (Nat.le_refl _) hr
      have hlt := specReadlineS_length_lt hr
      simp only [] at h
      split at h
      · simp only [Option.some.injEq, Prod.mk.injEq] at h
        obtain ⟨_, rfl⟩ := h
        exact ⟨p, hp, hp0⟩
      · cases hh : specHeredocS delim kill rest with
        | none => rw [hh] at h; cases h
        | some w =>
          obtain ⟨v', r'⟩ := w
          rw [hh] at h
          simp only [Option.some.injEq, Prod.mk.injEq] at h
          obtain ⟨_, rfl⟩ := h
          obtain ⟨p', hp', _⟩ := specHeredocS_suffix delim kill n rest (by omega) hh
          exact ⟨p ++ p', by rw [hp, hp', List.append_assoc], by simp [hp0]⟩

theorem specHeredocS_isSuffix {delim : Str} {kill : Bool} {s v r : Str}
    (h : specHeredocS delim kill s = some (v, r)) : r <:+ s := by
  obtain ⟨p, hp, _⟩ := specHeredocS_suffix delim kill s.length s (Nat.le_refl _) h
  exact ⟨p, hp.symm⟩

theorem specReadlineS_isSuffix {s txt r : Str} (h : specReadlineS s = some (txt, r)) : r <:+ s := by
  obtain ⟨p, hp, _⟩ := specReadlineS_suffix s.length s (Nat.le_refl _) h
  exact ⟨p, hp.symm⟩

theorem eq_dropLast_append {s : Str} (h : s.getLast? = some '\n') : s = s.dropLast ++ ['\n'] := by
  obtain ⟨ys, rfl⟩ := List.getLast?_eq_some_iff.mp h
  rw [List.dropLast_concat]

/-! ## the `(line, idx)` forms -/

/-- position reached in `line` when `rest` is what remains unread -/
def posOf (line rest : Str) : Nat := line.length - rest.length

/-- `readline(False)` with the cursor at `idx`: the text and the cursor after it -/
def specReadline (line : Str) (idx : Nat) : Option (Str × Nat) :=
  (specReadlineS (line.drop idx)).map fun (txt, rest) => (txt, posOf line rest)

/-- `makeheredoc` with the cursor at `start`: the document value and the cursor after the
    delimiter line -/
def specHeredoc (line : Str) (start : Nat) (delim : Str) (kill : Bool) : Option (Str × Nat) :=
  (specHeredocS delim kill (line.drop start)).map fun (v, rest) => (v, posOf line rest)

end Bashlex.C10
