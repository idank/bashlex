/-
  C10, reader part: `_getc`, `_peekc`, `readline(False)` and `makeheredoc` of the model compute
  the pure specifications of `Spec.lean`, for top-level and nested parsers alike (uniform view of
  `Tape.lean`).  States are written `(stL l e s, stE l e s)`: "the state `(l, e)` with the cursor
  where the suffix `s` of the input remains unread".
-/
import Bashlex.Props.C10.Tape

namespace Bashlex.C10
open Bashlex
set_option linter.unusedSimpArgs false


theorem drop_nil_iff {line : Str} {i : Nat} (h : line.drop i = []) : line[i]? = none := by
  rw [List.getElem?_eq_none_iff]; exact List.drop_eq_nil_iff.mp h

theorem drop_cons {line : Str} {i : Nat} {c : Char} {r : Str} (h : line.drop i = c :: r) :
    line[i]? = some c ∧ line.drop (i + 1) = r ∧ i < line.length := by
  have h1 : (line.drop i).head? = some c := by rw [h]; rfl
  have h2 : (line.drop i).tail = r := by rw [h]; rfl
  rw [List.head?_drop] at h1
  rw [List.tail_drop] at h2
  refine ⟨h1, h2, ?_⟩
  exact (List.getElem?_eq_some_iff.mp h1).1

theorem tape_getc_spec : ∀ (fuel : Nat) (t : Tape), t.idx ≤ t.line.length →
    t.line.length - t.idx < fuel →
    t.getc true fuel = match getcS (t.line.drop t.idx) with
      | none => .error ()
      | some (c, rest) => .ok (c, seek t rest)
  | 0, t, _, hf => absurd hf (Nat.not_lt_zero _)
  | fuel + 1, t, hi, hf => by
    rw [Tape.getc_succ]
    cases hd : t.line.drop t.idx with
    | nil =>
      rw [drop_nil_iff hd]
      have : t.idx = t.line.length := by
        have := List.drop_eq_nil_iff.mp hd; omega
      simp only [getcS]
      congr 2
      unfold seek posOf; rw [List.length_nil, Nat.sub_zero, ← this]
    | cons c r =>
      obtain ⟨h1, h2, h3⟩ := drop_cons hd
      rw [h1]
      simp only [Bool.and_true, beq_iff_eq]
      by_cases hc : c = '\\'
      · subst hc
        simp only [if_true]
        cases hr : r with
        | nil =>
          rw [hr] at h2
          rw [drop_nil_iff h2]
          simp only [getcS, if_true]
        | cons d r' =>
          rw [hr] at h2
          obtain ⟨g1, g2, g3⟩ := drop_cons h2
          rw [g1]
          simp only [getcS, if_true]
          by_cases hdn : d = '\n'
          · subst hdn
            simp only [if_true]
            have ih := tape_getc_spec fuel { t with idx := t.idx + 2 } (by simp only; omega)
              (by simp only; omega)
            simp only at ih
            rw [ih, g2]
            rfl
          · simp only [if_neg hdn]
            congr 2
            unfold seek; rw [← h2, posOf_drop (by omega)]
      · simp only [if_neg hc, getcS_cons_ne hc]
        congr 2
        unfold seek; rw [← h2, posOf_drop (by omega)]


theorem suffix_posOf_le {line s : Str} (h : s <:+ line) : s.length ≤ line.length := h.length_le

theorem run_getc_st (l : Local) (e : Env) (hla : l.eolLookahead = none) {s : Str}
    (hs : s <:+ (tapeOf l e).line) :
    M.run (getc true) (stL l e s) (stE l e s) =
      match getcS s with
      | none => (.error (.foreign "IndexError" "_getc"), stE l e s)
      | some (c, rest) => (.ok (c, stL l e rest), stE l e rest) := by
  rw [run_getc _ _ _ (by rw [stL_eol]; exact hla), tapeOf_st]
  rw [tape_getc_spec _ _ (by simp only [seek_idx, seek_line]; exact posOf_le _ _)
    (by simp only [seek_idx, seek_line]; omega)]
  simp only [seek_idx, seek_line, drop_posOf hs]
  cases getcS s with
  | none => rfl
  | some v =>
    obtain ⟨c, rest⟩ := v
    simp only [seek_seek]
    unfold stL stE
    rw [putL_putL, putE_putE]

def rlBody (removequotenewline : Bool) (st : RLState) : M (RLState ⊕ Option Str) := do
    let c0 ← getc
    if c0.isNone && st.indx == 0 then return .inr none
    let c : Char := c0.getD '\n'
    let mut st := st
    if st.passnext then
      st := { st with linebuffer := st.linebuffer ++ [c], indx := st.indx + 1, passnext := false }
    else if c == '\\' && removequotenewline then
      let peek ← getc
      if peek == some '\n' then
        return .inl st            -- `continue`
      else
        ungetc peek
        st := { st with passnext := true, linebuffer := st.linebuffer ++ [c], indx := st.indx + 1 }
    else
      st := { st with linebuffer := st.linebuffer ++ [c], indx := st.indx + 1 }
    if c == '\n' then return .inr (some st.linebuffer)
    return .inl st

theorem readline_eq (rqn : Bool) :
    readline rqn = (loopFuel >>= fun fuel => M.loop "readline" (rlBody rqn) fuel {}) := rfl

theorem run_rlBody (l : Local) (e : Env) (hla : l.eolLookahead = none) {s : Str}
    (hs : s <:+ (tapeOf l e).line) (acc : Str) (n : Nat) :
    M.run (rlBody false { linebuffer := acc, passnext := false, indx := n }) (stL l e s) (stE l e s) =
      match getcS s with
      | none => (.error (.foreign "IndexError" "_getc"), stE l e s)
      | some (none, rest) =>
        if n = 0 then (.ok (.inr none, stL l e rest), stE l e rest)
        else (.ok (.inr (some (acc ++ ['\n'])), stL l e rest), stE l e rest)
      | some (some c, rest) =>
        if c = '\n' then (.ok (.inr (some (acc ++ ['\n'])), stL l e rest), stE l e rest)
        else (.ok (.inl { linebuffer := acc ++ [c], passnext := false, indx := n + 1 }, stL l e rest),
              stE l e rest) := by
  unfold rlBody
  simp only [M.run_bind]
  rw [run_getc_st l e hla hs]
  cases getcS s with
  | none => rfl
  | some v =>
    obtain ⟨c, rest⟩ := v
    cases c with
    | none =>
      by_cases hn : n = 0
      · subst hn; rfl
      · simp [hn, M.run_pure]
    | some c =>
      by_cases hc : c = '\n'
      · subst hc; simp [M.run_pure]
      · simp [hc, M.run_pure]

/-! ## `_peekc` -/

/-- `_ungetc` right after a character was read moves the cursor back onto it -/
theorem run_ungetc_st (l : Local) (e : Env) (c : Option Char) {ch : Char} {r : Str}
    (hs : ch :: r <:+ (tapeOf l e).line) :
    M.run (ungetc c) (stL l e r) (stE l e r) = (.ok ((), stL l e (ch :: r)), stE l e (ch :: r)) := by
  rw [run_ungetc, tapeOf_st]
  obtain ⟨p, hp⟩ := hs
  have hlen : (tapeOf l e).line.length = p.length + (r.length + 1) := by
    rw [← hp, List.length_append, List.length_cons]
  have h1 : posOf (tapeOf l e).line r = p.length + 1 := by unfold posOf; omega
  have h2 : posOf (tapeOf l e).line (ch :: r) = p.length := by
    unfold posOf; rw [List.length_cons]; omega
  have hne : (tapeOf l e).line ≠ [] := by
    intro h; rw [h] at hlen; simp at hlen
  have : (seek (tapeOf l e) r).ungetc = (true, seek (tapeOf l e) (ch :: r)) := by
    unfold Tape.ungetc
    simp only [seek_line, seek_idx, h1, h2]
    rw [if_pos]
    · simp [seek, h2]
    · simp [hne]; omega
  rw [this]
  simp only [seek_seek]
  unfold stL stE
  rw [putL_putL, putE_putE]

/-- `_peekc()`: shows the first character after leading continuation pairs and leaves the cursor
    on it (the pairs stay consumed) -/
theorem run_peekc_st (l : Local) (e : Env) (hla : l.eolLookahead = none) {s : Str}
    (hs : s <:+ (tapeOf l e).line) (hbs : NoFinalBackslash s) :
    M.run (peekc true) (stL l e s) (stE l e s) =
      (.ok ((skipCont s).head?, stL l e (skipCont s)), stE l e (skipCont s)) := by
  unfold peekc
  simp only [M.run_bind]
  rw [run_getc_st l e hla hs]
  have hsome := getcS_isSome s hbs
  cases hg : getcS s with
  | none => rw [hg] at hsome; cases hsome
  | some v =>
    obtain ⟨c, rest⟩ := v
    rcases getcS_skipCont s hg with ⟨rfl, rfl, h3⟩ | ⟨ch, rfl, h3⟩
    · rw [h3]; rfl
    · rw [h3]
      have hs2 : ch :: rest <:+ (tapeOf l e).line := by
        rw [← h3]; exact (skipCont_suffix s).trans hs
      simp only [Option.isSome_some, if_true]
      rw [M.run_bind, run_ungetc_st l e _ hs2]
      rfl

/-! ## `readline(False)` -/

theorem run_readline_loop (l : Local) (e : Env) (hla : l.eolLookahead = none) :
    ∀ (fuel : Nat) (s : Str), s <:+ (tapeOf l e).line → NoFinalBackslash s → s.length < fuel →
    ∀ (acc : Str) (n : Nat),
    M.run (M.loop "readline" (rlBody false) fuel { linebuffer := acc, passnext := false, indx := n })
        (stL l e s) (stE l e s) =
      match specReadlineS s with
      | some (txt, r) => (.ok (some (acc ++ txt), stL l e r), stE l e r)
      | none =>
        if n = 0 then (.ok (none, stL l e []), stE l e [])
        else (.ok (some (acc ++ ['\n']), stL l e []), stE l e [])
  | 0, s, _, _, hf, _, _ => absurd hf (Nat.not_lt_zero _)
  | fuel + 1, s, hs, hbs, hf, acc, n => by
    rw [run_loop_succ, run_rlBody l e hla hs, specReadlineS_eq s]
    have hsome := getcS_isSome s hbs
    cases hg : getcS s with
    | none => rw [hg] at hsome; cases hsome
    | some v =>
      obtain ⟨c, rest⟩ := v
      obtain ⟨p, hp, _, hnone⟩ := getcS_suffix s hg
      cases c with
      | none =>
        have := hnone rfl; subst this
        by_cases hn : n = 0
        · simp only [hn, if_true]
        · simp only [hn, if_false]
      | some c =>
        by_cases hc : c = '\n'
        · simp only [hc, if_true]
        · simp only [hc, if_false]
          have hrs : rest <:+ s := ⟨p, hp.symm⟩
          have hlt := getcS_length_lt hg
          rw [run_readline_loop l e hla fuel rest (hrs.trans hs) (hbs.of_suffix hrs) (by omega)]
          cases specReadlineS rest with
          | none => simp
          | some w => obtain ⟨txt, r⟩ := w; simp

theorem run_readline_st (l : Local) (e : Env) (hla : l.eolLookahead = none) {s : Str}
    (hs : s <:+ (tapeOf l e).line) (hbs : NoFinalBackslash s) (hlen : s.length < 1073741824) :
    M.run (readline false) (stL l e s) (stE l e s) =
      match specReadlineS s with
      | some (txt, r) => (.ok (some txt, stL l e r), stE l e r)
      | none => (.ok (none, stL l e []), stE l e []) := by
  rw [readline_eq, M.run_bind]
  show M.run (M.loop "readline" (rlBody false) 1073741824 { linebuffer := [], passnext := false, indx := 0 }) _ _ = _
  rw [run_readline_loop l e hla _ s hs hbs hlen]
  cases specReadlineS s with
  | none => simp
  | some w => obtain ⟨txt, r⟩ := w; simp

/-! ## `makeheredoc` -/

/-- the body of the `while fullline:` loop of `makeheredoc` -/
def mhBody (redirword : Str) (killleading : Bool) (st : HDState) : M (HDState ⊕ HDState) := do
    if !strTruthy st.fullline then return .inr st
    let mut fullline : Str := st.fullline.getD []
    if killleading then
      match stripLeadingTabs fullline with
      | none => M.foreign "IndexError" "makeheredoc"
      | some f => fullline := f
    if fullline.isEmpty then return .inl { st with fullline := some fullline }   -- `continue`
    if pyDropLastN fullline 1 == redirword then
      match fullline[redirword.length]? with
      | none => M.foreign "IndexError" "makeheredoc"
      | some ch =>
        if ch == '\n' then
          -- `break` with a truthy `fullline`
          return .inr { fullline := some fullline, document := st.document ++ pyDropLastN fullline 1 }
    let document := st.document ++ fullline
    let next ← readline false
    return .inl { fullline := next, document := document }

/-- what `makeheredoc` does once the loop has ended -/
def mhFinish (id : Nat) (cell : RedirCell) (startpos : Nat) (fin : HDState) : M Unit := do
  if !strTruthy fin.fullline then
    let line ← tapeLine
    let i ← curIdx
    M.raise (mkParsingError
      ("here-document at line 0 delimited by end-of-file (wanted " ++ pyReprStr cell.delim ++ ")")
      line (i : Int))
  let document := fin.document
  let endpos := (← curIdx) - 1
  let l ← get
  let pos := if cell.pos.2 + 1 == startpos then (cell.pos.1, endpos) else cell.pos
  let cell' : RedirCell :=
    { cell with heredoc := some ((startpos, endpos), document), pos := pos }
  set { l with store := l.store.set id cell' }

theorem makeheredoc_eq (id : Nat) (kill : Bool) :
    makeheredoc id kill = (do
      let l ← get
      let cell ← match l.store[id]? with
        | some c => pure c
        | none => M.foreign "IndexError" "makeheredoc"
      let startpos ← curIdx
      let first ← readline false
      let fuel ← loopFuel
      let fin ← M.loop "makeheredoc" (mhBody cell.delim kill) fuel { fullline := first }
      mhFinish id cell startpos fin) := rfl


theorem stripLeadingTabs_eq : ∀ (s : Str), s.getLast? = some '\n' →
    stripLeadingTabs s = some (stripTabs s) ∧ (stripTabs s).getLast? = some '\n'
  | [], h => by simp at h
  | [c], h => by
    simp only [List.getLast?_singleton, Option.some.injEq] at h
    subst h
    exact ⟨rfl, rfl⟩
  | c :: d :: r, h => by
    rw [List.getLast?_cons_cons] at h
    by_cases hc : c = '\t'
    · subst hc
      simp only [stripLeadingTabs, stripTabs, beq_self_eq_true, if_true]
      exact stripLeadingTabs_eq (d :: r) h
    · have hb : (c == '\t') = false := by simpa using hc
      simp only [stripLeadingTabs, stripTabs, hb, if_neg hc, Bool.false_eq_true, if_false]
      exact ⟨trivial, by rw [List.getLast?_cons_cons]; exact h⟩

theorem heredocLine_last (kill : Bool) {txt : Str} (h : txt.getLast? = some '\n') :
    (heredocLine kill txt).getLast? = some '\n' := by
  unfold heredocLine; cases kill
  · exact h
  · exact (stripLeadingTabs_eq txt h).2

theorem mhBody_none (d : Str) (k : Bool) (doc : Str) :
    mhBody d k { fullline := none, document := doc } =
      pure (.inr { fullline := none, document := doc }) := rfl

theorem mhBody_match (d : Str) (k : Bool) (doc : Str) {txt : Str} (h : txt.getLast? = some '\n')
    (hm : (heredocLine k txt).dropLast = d) :
    mhBody d k { fullline := some txt, document := doc } =
      pure (.inr { fullline := some (heredocLine k txt), document := doc ++ d }) := by
  have hl := heredocLine_last k h
  have heq := eq_dropLast_append hl
  rw [hm] at heq
  have hne : txt ≠ [] := by intro h0; subst h0; simp at h
  have htr : strTruthy (some txt) = true := by
    cases txt with
    | nil => exact absurd rfl hne
    | cons => rfl
  have hidx : (heredocLine k txt)[d.length]? = some '\n' := by
    rw [heq]; simp
  have hdl : pyDropLastN (heredocLine k txt) 1 = d := by
    unfold pyDropLastN; rw [← List.dropLast_eq_take, hm]
  have hemp : (heredocLine k txt).isEmpty = false := by
    rw [heq]; simp
  unfold mhBody
  cases k
  · rw [show heredocLine false txt = txt from rfl] at hidx hdl hemp ⊢
    simp [htr, hidx, hdl, hemp]
  · rw [show heredocLine true txt = stripTabs txt from rfl] at hidx hdl hemp ⊢
    simp [htr, hidx, hdl, hemp, (stripLeadingTabs_eq txt h).1]

theorem mhBody_nomatch (d : Str) (k : Bool) (doc : Str) {txt : Str} (h : txt.getLast? = some '\n')
    (hm : (heredocLine k txt).dropLast ≠ d) :
    mhBody d k { fullline := some txt, document := doc } =
      (readline false >>= fun next =>
        pure (.inl { fullline := next, document := doc ++ heredocLine k txt })) := by
  have hl := heredocLine_last k h
  have heq := eq_dropLast_append hl
  have hne : txt ≠ [] := by intro h0; subst h0; simp at h
  have htr : strTruthy (some txt) = true := by
    cases txt with
    | nil => exact absurd rfl hne
    | cons => rfl
  have hdl : (pyDropLastN (heredocLine k txt) 1 == d) = false := by
    unfold pyDropLastN; rw [← List.dropLast_eq_take]; simpa using hm
  have hemp : (heredocLine k txt).isEmpty = false := by
    rw [heq]; simp
  unfold mhBody
  cases k
  · rw [show heredocLine false txt = txt from rfl] at hdl hemp ⊢
    simp [htr, hdl, hemp]
  · rw [show heredocLine true txt = stripTabs txt from rfl] at hdl hemp ⊢
    simp [htr, hdl, hemp, (stripLeadingTabs_eq txt h).1]


theorem mh_loop_nomatch (d : Str) (k : Bool) (doc : Str) (fuel : Nat) {txt : Str}
    (h : txt.getLast? = some '\n') (hm : (heredocLine k txt).dropLast ≠ d) :
    M.loop "makeheredoc" (mhBody d k) (fuel + 1) { fullline := some txt, document := doc } =
      (readline false >>= fun x =>
        M.loop "makeheredoc" (mhBody d k) fuel { fullline := x, document := doc ++ heredocLine k txt }) := by
  show (mhBody d k _ >>= _) = _
  rw [mhBody_nomatch d k doc h hm]
  simp only [bind_assoc, pure_bind]

theorem strTruthy_of_last {txt : Str} (h : txt.getLast? = some '\n') : strTruthy (some txt) = true := by
  cases txt with
  | nil => simp at h
  | cons => rfl

theorem run_mh_loop (l : Local) (e : Env) (hla : l.eolLookahead = none) (d : Str) (k : Bool) :
    ∀ (fuel : Nat) (s : Str), s <:+ (tapeOf l e).line → NoFinalBackslash s → s.length < fuel →
    s.length < 1073741824 → ∀ (doc : Str),
    match specHeredocS d k s with
    | some (v, r) => ∃ fin,
        M.run (readline false >>= fun x =>
            M.loop "makeheredoc" (mhBody d k) fuel { fullline := x, document := doc })
          (stL l e s) (stE l e s) = (.ok (fin, stL l e r), stE l e r) ∧
        strTruthy fin.fullline = true ∧ fin.document = doc ++ v
    | none => ∃ fin,
        M.run (readline false >>= fun x =>
            M.loop "makeheredoc" (mhBody d k) fuel { fullline := x, document := doc })
          (stL l e s) (stE l e s) = (.ok (fin, stL l e []), stE l e []) ∧
        strTruthy fin.fullline = false
  | 0, s, _, _, hf, _, _ => absurd hf (Nat.not_lt_zero _)
  | fuel + 1, s, hs, hbs, hf, hlen, doc => by
    rw [M.run_bind, run_readline_st l e hla hs hbs hlen, specHeredocS_eq]
    cases hr : specReadlineS s with
    | none =>
      simp only [run_loop_succ, mhBody_none, M.run_pure]
      exact ⟨_, rfl, rfl⟩
    | some w =>
      obtain ⟨txt, rest⟩ := w
      have hlast := specReadlineS_last hr
      obtain ⟨p, hp, _⟩ := specReadlineS_suffix s.length s (Nat.le_refl _) hr
      have hrs : rest <:+ s := ⟨p, hp.symm⟩
      have hlt := specReadlineS_length_lt hr
      simp only []
      by_cases hm : (heredocLine k txt).dropLast = d
      · simp only [hm, if_true, run_loop_succ, mhBody_match d k doc hlast hm, M.run_pure]
        exact ⟨_, rfl, strTruthy_of_last (heredocLine_last k hlast), rfl⟩
      · simp only [hm, if_false]
        rw [mh_loop_nomatch d k doc fuel hlast hm]
        have ih := run_mh_loop l e hla d k fuel rest (hrs.trans hs) (hbs.of_suffix hrs) (by omega)
          (by omega) (doc ++ heredocLine k txt)
        cases hh : specHeredocS d k rest with
        | none =>
          rw [hh] at ih
          exact ih
        | some w =>
          obtain ⟨v, r⟩ := w
          rw [hh] at ih
          obtain ⟨fin, h1, h2, h3⟩ := ih
          exact ⟨fin, h1, h2, by rw [h3, List.append_assoc]⟩

/-- `makeheredoc`'s writes to the redirect node: attach the body, and extend the node's span over
    it iff the body starts right after the node -/
def attach (cell : RedirCell) (startpos endpos : Nat) (v : Str) : RedirCell :=
  { cell with
    heredoc := some ((startpos, endpos), v)
    pos := if cell.pos.2 + 1 = startpos then (cell.pos.1, endpos) else cell.pos }

/-- the error of `makeheredoc` when the input ends before the delimiter: the position is the end
    of the tokenizer's input -/
def eofError (delim line : Str) : Exn :=
  .parsing ("here-document at line 0 delimited by end-of-file (wanted " ++ pyReprStr delim ++ ")")
    line line.length

theorem makeheredoc_eq2 (id : Nat) (kill : Bool) :
    makeheredoc id kill = (do
      let l ← get
      let cell ← match l.store[id]? with
        | some c => pure c
        | none => M.foreign "IndexError" "makeheredoc"
      let startpos ← curIdx
      let fin ← (readline false >>= fun first =>
        M.loop "makeheredoc" (mhBody cell.delim kill) 1073741824 { fullline := first })
      mhFinish id cell startpos fin) := by
  rw [makeheredoc_eq]
  simp only [loopFuel, bind_assoc, pure_bind]
  try rfl

theorem run_mhFinish_ok (l : Local) (e : Env) (id : Nat) (cell : RedirCell) (startpos : Nat)
    (fin : HDState) (h : strTruthy fin.fullline = true) :
    M.run (mhFinish id cell startpos fin) l e =
      (.ok ((), { l with
          store := l.store.set id (attach cell startpos ((tapeOf l e).idx - 1) fin.document) }), e) := by
  unfold mhFinish
  simp only [h, Bool.not_true, Bool.false_eq_true, if_false, M.run_bind, run_curIdx, run_get,
    run_set, M.run_pure, pure_bind, attach, beq_iff_eq]

theorem run_mhFinish_eof (l : Local) (e : Env) (id : Nat) (cell : RedirCell) (startpos : Nat)
    (fin : HDState) (h : strTruthy fin.fullline = false)
    (hi : (tapeOf l e).idx = (tapeOf l e).line.length) :
    M.run (mhFinish id cell startpos fin) l e = (.error (eofError cell.delim (tapeOf l e).line), e) := by
  unfold mhFinish
  simp only [h, Bool.not_false, if_true, M.run_bind, run_tapeLine, run_curIdx, M.run_raise,
    mkParsingError, hi, eofError, Int.le_refl]


theorem stL_self' {l : Local} {e : Env} {r : Str}
    (h : (tapeOf l e).idx = posOf (tapeOf l e).line r) : stL l e r = l := by
  unfold stL seek; rw [← h]; exact putL_self l e

theorem stE_self' {l : Local} {e : Env} {r : Str}
    (h : (tapeOf l e).idx = posOf (tapeOf l e).line r) : stE l e r = e := by
  unfold stE seek; rw [← h]; exact putE_self l e

/-- `makeheredoc` on the state with `s` unread -/
theorem run_makeheredoc_st (l : Local) (e : Env) (hla : l.eolLookahead = none) {s : Str}
    (hs : s <:+ (tapeOf l e).line) (hbs : NoFinalBackslash s) (hlen : s.length < 1073741824)
    {id : Nat} {cell : RedirCell} (hcell : l.store[id]? = some cell) (kill : Bool) :
    M.run (makeheredoc id kill) (stL l e s) (stE l e s) =
      match specHeredocS cell.delim kill s with
      | some (v, r) =>
        (.ok ((), { stL l e r with
            store := l.store.set id (attach cell (posOf (tapeOf l e).line s)
              (posOf (tapeOf l e).line r - 1) v) }), stE l e r)
      | none => (.error (eofError cell.delim (tapeOf l e).line), stE l e []) := by
  rw [makeheredoc_eq2]
  simp only [M.run_bind, run_get, stL_store, hcell, M.run_pure, run_curIdx, tapeOf_st, seek_idx]
  have key := run_mh_loop l e hla cell.delim kill 1073741824 s hs hbs hlen hlen []
  rw [M.run_bind] at key
  cases hh : specHeredocS cell.delim kill s with
  | none =>
    rw [hh] at key
    obtain ⟨fin, h1, h2⟩ := key
    simp only [] at h1 ⊢
    rw [h1]
    simp only []
    rw [run_mhFinish_eof _ _ _ _ _ _ h2 (by simp [posOf])]
    simp
  | some w =>
    obtain ⟨v, r⟩ := w
    rw [hh] at key
    obtain ⟨fin, h1, h2, h3⟩ := key
    simp only [] at h1 ⊢
    rw [h1]
    simp only []
    rw [run_mhFinish_ok _ _ _ _ _ _ h2, h3]
    simp


/-- an id outside the store (never the case for ids queued by the parser): an artefact exception
    of the model, raised before anything is read -/
theorem run_makeheredoc_badId (l : Local) (e : Env) {id : Nat} (hcell : l.store[id]? = none)
    (kill : Bool) :
    M.run (makeheredoc id kill) l e = (.error (.foreign "IndexError" "makeheredoc"), e) := by
  rw [makeheredoc_eq2, M.run_bind, run_get]
  simp only [hcell, M.run_bind, run_foreign]

end Bashlex.C10
