/-
  The tape simulation, generically: a top-level run (`Local.tape = none`, tape in the environment)
  and the run with the tape moved into the state (`Local.tape = some t`) proceed in lock step for
  every program that touches the tape only through the uniform accessors of `Model/Monad.lean`.

  `TapeRel l₁ e₁ l₂ e₂`: `(l₂, e₂)` is `(l₁, e₁)` with the tape moved into the state.
  `Sim m₁ m₂ V`: from related states, `m₁` (top) and `m₂` (local) either both return, with
  `V`-related values and related states, or both raise the same exception (environments equal up
  to the tape).  `SimEq m = Sim m m Eq`.
  Rules: `pure`, `bind`, `loop`, `raise`, every accessor (`sim_getc`, `sim_ungetc`, `sim_curIdx`,
  `sim_bumpIdx`, `sim_tapeLine`, `sim_tapeSource`, `sim_tapeAdded`, `sim_optStrict`,
  `sim_optProceed`, `sim_syn`), `modify` with a function that does not look at the tape, and
  `get`/`set` at run level (`Sim.get_bind`, `SimEq.get_bind`, `SimEq.get_set`).
  `SimEq` is a predicate on one program, closed under `pure`, `bind`, `raise` and the readers of
  the tape (`SimEq.builds`): `_peekc`, `readline` and the loop body of `makeheredoc`, which never
  look at the parser object, are instances of the generic walk (`Proofs/ClosedTok.lean`).
  Instances: `simEq_readline`, `simEq_makeheredoc`, `simEq_gatherheredocuments` — with NO
  hypothesis on the state (look-ahead slot, cursor, strictness, input length are arbitrary).
  `SimEq.top_eq_local` turns `SimEq m` into the statement about `M.run m l e` versus
  `M.run m {l with tape := some e.tape} e`.
-/
import Bashlex.Props.C10.Gather
import Bashlex.Proofs.ClosedTok

namespace Bashlex.C10
open Bashlex
set_option linter.unusedSimpArgs false

/-- environments equal up to the tape -/
def SameButTape (e₁ e₂ : Env) : Prop :=
  e₁.strict = e₂.strict ∧ e₁.proceed = e₂.proceed ∧ e₁.touched = e₂.touched

theorem SameButTape.refl (e : Env) : SameButTape e e := ⟨rfl, rfl, rfl⟩

/-- `(l₂, e₂)` is `(l₁, e₁)` with the tape moved into the state -/
structure TapeRel (l₁ : Local) (e₁ : Env) (l₂ : Local) (e₂ : Env) : Prop where
  loc : l₂.tape = some e₁.tape
  leq : l₁ = { l₂ with tape := none }
  env : SameButTape e₁ e₂

theorem TapeRel.init (l : Local) (e : Env) (h : l.tape = none) :
    TapeRel l e { l with tape := some e.tape } e := by
  refine ⟨rfl, ?_, SameButTape.refl e⟩
  cases l with
  | mk tape => simp only at h; subst h; rfl

/-- related outcomes -/
def OutRel {α β : Type} (V : α → β → Prop) :
    Except Exn (α × Local) × Env → Except Exn (β × Local) × Env → Prop
  | (.ok (a₁, l₁), e₁), (.ok (a₂, l₂), e₂) => V a₁ a₂ ∧ TapeRel l₁ e₁ l₂ e₂
  | (.error x₁, e₁), (.error x₂, e₂) => x₁ = x₂ ∧ SameButTape e₁ e₂
  | _, _ => False

def Sim {α β : Type} (m₁ : M α) (m₂ : M β) (V : α → β → Prop) : Prop :=
  ∀ l₁ e₁ l₂ e₂, TapeRel l₁ e₁ l₂ e₂ → OutRel V (M.run m₁ l₁ e₁) (M.run m₂ l₂ e₂)

abbrev SimEq {α : Type} (m : M α) : Prop := Sim m m Eq

/-! ## structural rules -/

theorem Sim.pure {α β : Type} {V : α → β → Prop} {a : α} {b : β} (h : V a b) :
    Sim (Pure.pure a : M α) (Pure.pure b : M β) V := by
  intro l₁ e₁ l₂ e₂ hr
  exact ⟨h, hr⟩

theorem Sim.raise {α β : Type} {V : α → β → Prop} (x : Exn) :
    Sim (M.raise x : M α) (M.raise x : M β) V := by
  intro l₁ e₁ l₂ e₂ hr
  exact ⟨rfl, hr.env⟩

theorem Sim.foreign {α β : Type} {V : α → β → Prop} (a b : String) :
    Sim (M.foreign a b : M α) (M.foreign a b : M β) V := Sim.raise _

theorem Sim.bind {α β γ δ : Type} {m₁ : M α} {m₂ : M β} {f₁ : α → M γ} {f₂ : β → M δ}
    {V : α → β → Prop} {W : γ → δ → Prop}
    (hm : Sim m₁ m₂ V) (hf : ∀ a b, V a b → Sim (f₁ a) (f₂ b) W) :
    Sim (m₁ >>= f₁) (m₂ >>= f₂) W := by
  intro l₁ e₁ l₂ e₂ hr
  rw [M.run_bind, M.run_bind]
  have h := hm l₁ e₁ l₂ e₂ hr
  rcases h1 : M.run m₁ l₁ e₁ with ⟨r₁, e₁'⟩
  rcases h2 : M.run m₂ l₂ e₂ with ⟨r₂, e₂'⟩
  rw [h1, h2] at h
  cases r₁ with
  | error x₁ =>
    cases r₂ with
    | error x₂ => exact h
    | ok v₂ => exact h.elim
  | ok v₁ =>
    obtain ⟨a₁, l₁'⟩ := v₁
    cases r₂ with
    | error x₂ => exact h.elim
    | ok v₂ =>
      obtain ⟨a₂, l₂'⟩ := v₂
      exact hf a₁ a₂ h.1 l₁' e₁' l₂' e₂' h.2

theorem SimEq.bind {α β : Type} {m : M α} {f : α → M β}
    (hm : SimEq m) (hf : ∀ a, SimEq (f a)) : SimEq (m >>= f) :=
  Sim.bind hm (fun a b hab => by subst hab; exact hf a)

theorem SimEq.pure {α : Type} (a : α) : SimEq (Pure.pure a : M α) := Sim.pure rfl

/-- lock-step loops -/
theorem Sim.loop {σ τ α β : Type} {site : String} {b₁ : σ → M (σ ⊕ α)} {b₂ : τ → M (τ ⊕ β)}
    {S : σ → τ → Prop} {V : α → β → Prop}
    (hb : ∀ s t, S s t → Sim (b₁ s) (b₂ t) (fun x y =>
      match x, y with
      | .inl s', .inl t' => S s' t'
      | .inr a, .inr b => V a b
      | _, _ => False)) :
    ∀ (fuel : Nat) (s : σ) (t : τ), S s t → Sim (M.loop site b₁ fuel s) (M.loop site b₂ fuel t) V
  | 0, s, t, _ => Sim.raise _
  | fuel + 1, s, t, hst => by
    show Sim (b₁ s >>= _) (b₂ t >>= _) V
    refine Sim.bind (hb s t hst) ?_
    intro x y hxy
    cases x with
    | inl s' =>
      cases y with
      | inl t' => exact Sim.loop hb fuel s' t' hxy
      | inr b => exact hxy.elim
    | inr a =>
      cases y with
      | inl t' => exact hxy.elim
      | inr b => exact Sim.pure hxy

theorem SimEq.loop {σ α : Type} {site : String} {body : σ → M (σ ⊕ α)}
    (hb : ∀ s, SimEq (body s)) (fuel : Nat) (s : σ) : SimEq (M.loop site body fuel s) := by
  refine Sim.loop (S := Eq) (V := Eq) ?_ fuel s s rfl
  intro s t hst; subst hst
  intro l₁ e₁ l₂ e₂ hr
  have h := hb s l₁ e₁ l₂ e₂ hr
  rcases h1 : M.run (body s) l₁ e₁ with ⟨r₁, e₁'⟩
  rcases h2 : M.run (body s) l₂ e₂ with ⟨r₂, e₂'⟩
  rw [h1, h2] at h
  cases r₁ with
  | error x₁ =>
    cases r₂ with
    | error x₂ => exact h
    | ok v₂ => exact h.elim
  | ok v₁ =>
    obtain ⟨a₁, l₁'⟩ := v₁
    cases r₂ with
    | error x₂ => exact h.elim
    | ok v₂ =>
      obtain ⟨a₂, l₂'⟩ := v₂
      obtain ⟨hv, hrel⟩ := h
      subst hv
      refine ⟨?_, hrel⟩
      cases a₁ <;> rfl

/-- `get >>= k`: the continuations are compared on the two related states themselves -/
theorem Sim.get_bind {α β : Type} {k₁ : Local → M α} {k₂ : Local → M β} {V : α → β → Prop}
    (h : ∀ l₁ e₁ l₂ e₂, TapeRel l₁ e₁ l₂ e₂ →
      OutRel V (M.run (k₁ l₁) l₁ e₁) (M.run (k₂ l₂) l₂ e₂)) :
    Sim (get >>= k₁) (get >>= k₂) V := by
  intro l₁ e₁ l₂ e₂ hr
  exact h l₁ e₁ l₂ e₂ hr

/-- a state update that does not look at the tape -/
theorem SimEq.modify {f : Local → Local} (hf : ∀ l : Local, (f l).tape = l.tape)
    (hc : ∀ l : Local, f { l with tape := none } = { f l with tape := none }) :
    SimEq (modify f : M Unit) := by
  intro l₁ e₁ l₂ e₂ hr
  refine ⟨rfl, ?_, ?_, hr.env⟩
  · rw [hf]; exact hr.loc
  · rw [hr.leq, hc]

/-! ## the accessors -/

/-- destructure related states: the local one is `mk (some e₁.tape) …`, the top one `mk none …` -/
theorem TapeRel.cases {l₁ : Local} {e₁ : Env} {l₂ : Local} {e₂ : Env} (h : TapeRel l₁ e₁ l₂ e₂) :
    l₁.tape = none ∧ tapeOf l₁ e₁ = e₁.tape ∧ tapeOf l₂ e₂ = e₁.tape ∧
    l₁.eolLookahead = l₂.eolLookahead ∧ l₁.opts = l₂.opts := by
  obtain ⟨h1, h2, h3⟩ := h
  subst h2
  refine ⟨rfl, rfl, ?_, rfl, rfl⟩
  unfold tapeOf; rw [h1]

theorem TapeRel.put {l₁ : Local} {e₁ : Env} {l₂ : Local} {e₂ : Env} (h : TapeRel l₁ e₁ l₂ e₂)
    (t : Tape) : TapeRel (putL l₁ t) (putE l₁ e₁ t) (putL l₂ t) (putE l₂ e₂ t) := by
  obtain ⟨h1, h2, h3⟩ := h
  subst h2
  cases l₂ with
  | mk tape =>
    simp only at h1; subst h1
    exact ⟨rfl, rfl, h3⟩

theorem TapeRel.setEol {l₁ : Local} {e₁ : Env} {l₂ : Local} {e₂ : Env} (h : TapeRel l₁ e₁ l₂ e₂)
    (c : Option Char) :
    TapeRel { l₁ with eolLookahead := c } e₁ { l₂ with eolLookahead := c } e₂ := by
  obtain ⟨h1, h2, h3⟩ := h
  subst h2
  exact ⟨h1, rfl, h3⟩

theorem sim_getc (rqn : Bool) : SimEq (getc rqn) := by
  intro l₁ e₁ l₂ e₂ hr
  obtain ⟨_, ht1, ht2, heol, _⟩ := hr.cases
  cases hl : l₂.eolLookahead with
  | some ch =>
    have r1 : M.run (getc rqn) l₁ e₁ = (.ok (some ch, { l₁ with eolLookahead := none }), e₁) := by
      unfold getc
      simp only [M.run_bind, run_get, heol, hl, run_set, M.run_pure]
    have r2 : M.run (getc rqn) l₂ e₂ = (.ok (some ch, { l₂ with eolLookahead := none }), e₂) := by
      unfold getc
      simp only [M.run_bind, run_get, hl, run_set, M.run_pure]
    rw [r1, r2]
    exact ⟨rfl, hr.setEol none⟩
  | none =>
    rw [run_getc rqn l₁ e₁ (by rw [heol, hl]), run_getc rqn l₂ e₂ hl, ht1, ht2]
    cases e₁.tape.getc rqn (e₁.tape.line.length + 1) with
    | error u => exact ⟨rfl, hr.env⟩
    | ok v => obtain ⟨c, t'⟩ := v; exact ⟨rfl, hr.put t'⟩

theorem sim_ungetc (c : Option Char) : SimEq (ungetc c) := by
  intro l₁ e₁ l₂ e₂ hr
  obtain ⟨_, ht1, ht2, _, _⟩ := hr.cases
  rw [run_ungetc, run_ungetc, ht1, ht2]
  rcases ungetc_cases e₁.tape with hu | hu <;> rw [hu]
  · exact ⟨rfl, hr.put _⟩
  · exact ⟨rfl, hr.setEol c⟩

theorem sim_curIdx : SimEq curIdx := by
  intro l₁ e₁ l₂ e₂ hr
  obtain ⟨_, ht1, ht2, _, _⟩ := hr.cases
  rw [run_curIdx, run_curIdx, ht1, ht2]
  exact ⟨rfl, hr⟩

theorem sim_bumpIdx : SimEq bumpIdx := by
  intro l₁ e₁ l₂ e₂ hr
  obtain ⟨_, ht1, ht2, _, _⟩ := hr.cases
  rw [run_bumpIdx, run_bumpIdx, ht1, ht2]
  exact ⟨rfl, hr.put _⟩

theorem sim_tapeLine : SimEq tapeLine := by
  intro l₁ e₁ l₂ e₂ hr
  obtain ⟨_, ht1, ht2, _, _⟩ := hr.cases
  rw [run_tapeLine, run_tapeLine, ht1, ht2]
  exact ⟨rfl, hr⟩

theorem sim_tapeSource : SimEq tapeSource := by
  intro l₁ e₁ l₂ e₂ hr
  obtain ⟨_, ht1, ht2, _, _⟩ := hr.cases
  rw [C10.run_tapeSource, C10.run_tapeSource, ht1, ht2]
  exact ⟨rfl, hr⟩

theorem sim_tapeAdded : SimEq tapeAdded := by
  intro l₁ e₁ l₂ e₂ hr
  obtain ⟨_, ht1, ht2, _, _⟩ := hr.cases
  rw [C10.run_tapeAdded, C10.run_tapeAdded, ht1, ht2]
  exact ⟨rfl, hr⟩

theorem sim_optStrict : SimEq optStrict := by
  intro l₁ e₁ l₂ e₂ hr
  obtain ⟨_, _, _, _, hopts⟩ := hr.cases
  rw [run_optStrict, run_optStrict]
  refine ⟨?_, hr⟩
  unfold strictOf; rw [hopts, hr.env.1]

theorem run_optProceed (l : Local) (e : Env) :
    M.run optProceed l e =
      (.ok ((match l.opts with | some (_, p) => p | none => e.proceed), l), e) := by
  cases l with
  | mk tape opts =>
    cases opts with
    | none => rfl
    | some p => obtain ⟨s, p⟩ := p; rfl

theorem sim_optProceed : SimEq optProceed := by
  intro l₁ e₁ l₂ e₂ hr
  obtain ⟨_, _, _, _, hopts⟩ := hr.cases
  rw [run_optProceed, run_optProceed]
  refine ⟨?_, hr⟩
  rw [hopts, hr.env.2.1]

theorem sim_syn (c : Char) : SimEq (syn c) := by
  intro l₁ e₁ l₂ e₂ hr
  obtain ⟨h1, h2, h3, h4, h5⟩ := hr
  have r : ∀ (l : Local) (e : Env), M.run (syn c) l e =
      (.ok (synClass c, l),
        if e.touched.contains c then e else { e with touched := e.touched ++ [c] }) := by
    intro l e; rfl
  rw [r, r, h5]
  by_cases hc : e₂.touched.contains c = true
  · simp only [hc, if_true]
    exact ⟨rfl, h1, h2, h3, h4, h5⟩
  · simp only [hc, if_false]
    exact ⟨rfl, h1, h2, h3, h4, by simp [h5]⟩

/-- `SimEq` is a predicate on one program, closed under what the code that never looks at the
    parser object is built from: such code is covered by the generic walk -/
theorem SimEq.builds : Builds tokSite (fun {α} (m : M α) => SimEq m) where
  pure := SimEq.pure
  bind := SimEq.bind
  raise _ := Sim.raise _
  syn := sim_syn
  curIdx := sim_curIdx
  tapeSource := sim_tapeSource
  tapeLine := sim_tapeLine
  tapeAdded := sim_tapeAdded

theorem SimEq.tape : TapeAtoms (fun {α} (m : M α) => SimEq m) := ⟨sim_getc, sim_ungetc, sim_bumpIdx⟩

theorem sim_peekc (rqn : Bool) : SimEq (peekc rqn) := wk_peekc SimEq.builds SimEq.tape rqn

/-! ## instances -/

theorem simEq_readline (rqn : Bool) : SimEq (readline rqn) :=
  wk_readline SimEq.builds SimEq.tape rqn

/-- `get >>= k` where `k` does not look at the tape field -/
theorem SimEq.get_bind {α : Type} {k : Local → M α}
    (hk : ∀ l : Local, k { l with tape := none } = k l) (h : ∀ l, SimEq (k l)) :
    SimEq (get >>= k) := by
  refine Sim.get_bind ?_
  intro l₁ e₁ l₂ e₂ hr
  rw [hr.leq, hk]
  have := h l₂ l₁ e₁ l₂ e₂ hr
  rw [hr.leq] at this
  exact this

/-- `let l ← get; set (g l)` where `g` does not look at the tape field -/
theorem SimEq.get_set {g : Local → Local} (hf : ∀ l : Local, (g l).tape = l.tape)
    (hc : ∀ l : Local, g { l with tape := none } = { g l with tape := none }) :
    SimEq (get >>= fun l => (set (g l) : M Unit)) := by
  refine Sim.get_bind ?_
  intro l₁ e₁ l₂ e₂ hr
  refine ⟨rfl, ?_, ?_, hr.env⟩
  · rw [hf]; exact hr.loc
  · rw [hr.leq, hc]

theorem simEq_mhBody (d : Str) (k : Bool) (st : HDState) : SimEq (mhBody d k st) := by
  have C := SimEq.builds
  have At := SimEq.tape
  have hx : ∀ {α : Type}, SimEq (M.foreign "IndexError" "makeheredoc" : M α) := Sim.foreign _ _
  unfold mhBody
  wk_walk

theorem simEq_mhFinish (id : Nat) (cell : RedirCell) (startpos : Nat) (fin : HDState) :
    SimEq (mhFinish id cell startpos fin) := by
  unfold mhFinish
  extract_lets document store
  have hstore : ∀ r, SimEq (store r) := fun r =>
    SimEq.bind sim_curIdx fun _ => SimEq.get_set (fun _ => rfl) (fun _ => rfl)
  clear_value store
  refine SimEq.builds.ite (fun _ => ?_) (fun _ => hstore _)
  refine SimEq.bind sim_tapeLine (fun _ => SimEq.bind sim_curIdx (fun _ => ?_))
  exact SimEq.bind (Sim.raise _) (fun _ => hstore _)

theorem simEq_makeheredoc (id : Nat) (kill : Bool) : SimEq (makeheredoc id kill) := by
  rw [makeheredoc_eq]
  refine SimEq.get_bind (fun _ => rfl) (fun l => ?_)
  have hjp : ∀ cell : RedirCell, SimEq (do
      let startpos ← curIdx
      let first ← readline false
      let fuel ← loopFuel
      let fin ← M.loop "makeheredoc" (mhBody cell.delim kill) fuel { fullline := first }
      mhFinish id cell startpos fin) := by
    intro cell
    refine SimEq.bind sim_curIdx (fun startpos => ?_)
    refine SimEq.bind (simEq_readline false) (fun first => ?_)
    refine SimEq.bind (SimEq.pure _) (fun fuel => ?_)
    refine SimEq.bind (SimEq.loop (simEq_mhBody _ _) fuel _) (fun fin => ?_)
    exact simEq_mhFinish id cell startpos fin
  simp only []
  split
  · exact SimEq.bind (SimEq.pure _) (fun cell => hjp cell)
  · exact SimEq.bind (Sim.foreign _ _) (fun cell => hjp cell)

theorem simEq_gBody (u : Unit) : SimEq (gBody u) := by
  unfold gBody
  refine SimEq.get_bind (fun _ => rfl) (fun l => ?_)
  split
  · exact SimEq.pure _
  · refine SimEq.bind (sim_peekc true) (fun p => ?_)
    simp only []
    have hjp : ∀ rest id kill, SimEq (do
        modify fun l => { l with redirstack := rest }
        makeheredoc id kill
        pure (Sum.inl () : Unit ⊕ Unit)) := by
      intro rest id kill
      refine SimEq.bind (SimEq.modify (fun _ => rfl) (fun _ => rfl)) (fun _ => ?_)
      exact SimEq.bind (simEq_makeheredoc id kill) (fun _ => SimEq.pure _)
    split
    · refine SimEq.bind sim_optStrict (fun b => ?_)
      split
      · exact SimEq.bind sim_bumpIdx (fun _ => SimEq.pure _)
      · exact hjp _ _ _
    · exact hjp _ _ _

theorem simEq_gatherheredocuments : SimEq gatherheredocuments := by
  rw [gather_eq]
  refine SimEq.get_bind (fun _ => rfl) (fun l => ?_)
  exact SimEq.loop simEq_gBody _ _

/-- "the top-level run of `m` from `(l, e)` equals the run with the tape moved into the state":
    same value, same local state (tape field aside), the final local tape is the final
    environment tape; an exception (the local state is lost) is the same exception -/
def TopEqLocal {α : Type} (m : M α) (l : Local) (e : Env) : Prop :=
  match M.run m { l with tape := some e.tape } e with
  | (.ok (a, l'), e') =>
    ∃ t', l'.tape = some t' ∧
      M.run m l e = (.ok (a, { l' with tape := none }), { e' with tape := t' })
  | (.error x, e') => ∃ t', M.run m l e = (.error x, { e' with tape := t' })

/-- what `SimEq m` says about a top-level state and the same state with the tape moved in -/
theorem SimEq.top_eq_local {α : Type} {m : M α} (h : SimEq m) (l : Local) (e : Env)
    (ht : l.tape = none) : TopEqLocal m l e := by
  unfold TopEqLocal
  have hsim := h l e { l with tape := some e.tape } e (TapeRel.init l e ht)
  rcases h1 : M.run m l e with ⟨r₁, e₁'⟩
  rcases h2 : M.run m { l with tape := some e.tape } e with ⟨r₂, e₂'⟩
  rw [h1, h2] at hsim
  cases r₁ with
  | error x₁ =>
    cases r₂ with
    | ok v₂ => exact hsim.elim
    | error x₂ =>
      obtain ⟨hx, h3, h4, h5⟩ := hsim
      subst hx
      refine ⟨e₁'.tape, ?_⟩
      cases e₁'; cases e₂'; simp only at h3 h4 h5; subst h3 h4 h5; rfl
  | ok v₁ =>
    obtain ⟨a₁, l₁'⟩ := v₁
    cases r₂ with
    | error x₂ => exact hsim.elim
    | ok v₂ =>
      obtain ⟨a₂, l₂'⟩ := v₂
      obtain ⟨hv, hloc, hleq, h3, h4, h5⟩ := hsim
      subst hv
      refine ⟨e₁'.tape, hloc, ?_⟩
      rw [hleq]
      cases e₁'; cases e₂'; simp only at h3 h4 h5; subst h3 h4 h5; rfl

end Bashlex.C10
