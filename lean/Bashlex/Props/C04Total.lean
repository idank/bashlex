/-
  Property C04 ("span text fidelity") at model level, with the hypothesis on the token source
  DISCHARGED for the real tokenizer: `tokText : TokText` (`Props/C04/TokTextProof.lean`, files
  `Props/C04/TT*.lean`: a ghost-text argument through the whole tokenizer — operators,
  `_readtokenword`, `_parse_matched_pair`, `_parse_comsub`, `gatherheredocuments`).

  What remains a hypothesis is C03's `RootEnds` alone (`Props/C03/Run.lean`; it only enters
  through "the span lies in the input", `C03.TokSpansAll`).  The theorems of `Props/C04.lean`
  that need `TokText` only are unconditional here.

  NOTE on the statement of `TokText`: the relation `TT` is stated through `Del`, not through
  `stripContinuations` of the value, which is FALSE of the model; see the header of
  `Props/C04/TokText.lean` for the reason and the witnesses (`"\\\⏎⏎"`, `<()<\`).
-/
import Bashlex.Props.C04
import Bashlex.Props.C04.TokTextProof
import Bashlex.Props.C03Total

namespace Bashlex.C04
open Bashlex Bashlex.M Bashlex.Node Bashlex.Spec

/-- **C04, provenance**, for the real tokenizer (no hypotheses) -/
theorem C04_prov_total (s : Str) (o : Opts) (parts : List Node)
    (h : (parse s o).1 = .parts parts) :
    ∀ n ∈ parts, ∃ J, J ≤ s.length ∧
      (∀ m ∈ n.preorder, isTextual m = true → NodeOK (s.drop J) J m) ∧
      (∀ m ∈ spine n, isTextual m = true → LeafOK (Tape.ofInput (s.drop J)).line J m) :=
  C04_prov tokText s o parts h

/-- **C04, reserved-word / operator / pipe nodes**, for the real tokenizer (no hypotheses) -/
theorem C04_leaf_text_total (s : Str) (o : Opts) (parts : List Node)
    (h : (parse s o).1 = .parts parts) :
    ∀ n ∈ parts, ∀ m ∈ n.preorder, ∀ p w,
      (m = .reservedword p w ∨ m = .operator p w ∨ m = .pipe p w) →
      (m = .reservedword p ['!'] ∧ p.1 = p.2) ∨
      ∃ J fr, J ≤ s.length ∧ Src (s.drop J) fr ∧ fr.off + J ≤ p.1 ∧ p.1 < p.2 ∧
        w.contains '\\' = false ∧
        TokTextAt fr.line (p.2 - (fr.off + J))
          (Str.slice fr.line (p.1 - (fr.off + J)) (p.2 - (fr.off + J))) w ∧
        (fr.cont = false → p.2 ≤ s.length →
          Str.slice s p.1 p.2 = Str.slice fr.line (p.1 - (fr.off + J)) (p.2 - (fr.off + J))) ∧
        (fr.nested = false →
          fr.line = (Tape.ofInput (s.drop J)).line ∧ fr.off = 0 ∧ fr.cont = false) :=
  C04_leaf_text tokText s o parts h

/-- **C04, operator nodes outside words**, for the real tokenizer (no hypotheses) -/
theorem C04_spine_operator_total (s : Str) (o : Opts) (parts : List Node)
    (h : (parse s o).1 = .parts parts) :
    ∀ n ∈ parts, ∀ m ∈ spine n, ∀ p op, m = .operator p op → p.2 ≤ s.length →
      ∀ v ∈ localTextViol s m, v = "newline-operator-extended-over-heredoc" ∨
        v = "operator-span-includes-final-backslash" :=
  C04_spine_operator tokText s o parts h

/-- **C04, pipe nodes outside words**, for the real tokenizer (no hypotheses) -/
theorem C04_spine_pipe_total (s : Str) (o : Opts) (parts : List Node)
    (h : (parse s o).1 = .parts parts) :
    ∀ n ∈ parts, ∀ m ∈ spine n, ∀ p w, m = .pipe p w → p.2 ≤ s.length →
      ∀ v ∈ localTextViol s m, v = "operator-span-includes-final-backslash" :=
  C04_spine_pipe tokText s o parts h

/-- **C04 (model level), the clauses linked to `Spec.localTextViol`**, for the real tokenizer
    (no hypotheses) -/
theorem C04_partial_total (s : Str) (o : Opts) (parts : List Node)
    (h : (parse s o).1 = .parts parts) :
    ∀ n ∈ parts, ∀ m ∈ n.preorder, ∀ p w,
      (m = .reservedword p w ∨ m = .operator p w ∨ m = .pipe p w) → p.2 ≤ s.length →
      (∀ v ∈ localTextViol s m, C04_known v = true) ∨ DeepDefect s p w :=
  C04_partial_conditional tokText s o parts h

/-- **C04 (model level)**, for the real tokenizer: for every input and all options, every
    signature `Spec.textOK` raises on a tree returned by `parse` is a recorded defect
    (`C04_known`), or is `Unlinked`.  The only hypothesis left is C03's `RootEnds`. -/
theorem C04_total_conditional (hR : C03.RootEnds) (s : Str) (o : Opts) (parts : List Node)
    (h : (parse s o).1 = .parts parts) :
    ∀ n ∈ parts, ∀ v ∈ Spec.textOK s n, C04_known v = true ∨ Unlinked s n v :=
  C04_partial tokText (C03.tokSpansAll_of_rootEnds hR) s o parts h

/-- nodes outside words, for the real tokenizer; the only hypothesis left is `RootEnds` -/
theorem C04_total_spine_conditional (hR : C03.RootEnds) (s : Str) (o : Opts) (parts : List Node)
    (h : (parse s o).1 = .parts parts) :
    ∀ n ∈ parts, ∀ m ∈ spine n, ∀ p w,
      (m = .reservedword p w ∨ m = .operator p w ∨ m = .pipe p w) →
      ∀ v ∈ localTextViol s m, C04_known v = true :=
  C04_partial_spine tokText (C03.tokSpansAll_of_rootEnds hR) s o parts h

end Bashlex.C04

#print axioms Bashlex.C04.tokText
#print axioms Bashlex.C04.C04_prov_total
#print axioms Bashlex.C04.C04_leaf_text_total
#print axioms Bashlex.C04.C04_spine_operator_total
#print axioms Bashlex.C04.C04_spine_pipe_total
#print axioms Bashlex.C04.C04_partial_total
#print axioms Bashlex.C04.C04_total_conditional
#print axioms Bashlex.C04.C04_total_spine_conditional
