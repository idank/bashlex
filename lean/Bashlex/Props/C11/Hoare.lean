/-
  C11: a Hoare logic for the model monad WITH state assertions.

  `Proofs/Hoare.lean`'s `Sat` quantifies over all local states and environments; the facts C11
  needs ("the cursor is inside the input", "the recorded positions are bounded by the length of
  the line") are facts about the state.  `HT P m Q E`: from any state satisfying `P`, a normal
  return of `m` satisfies `Q` (of the result and the final state), an exception satisfies `E`.
  `HT P m Q E` is `M.SatS m P Q E` of `Proofs/HoareS.lean` with the pre-condition written first
  (`HT_iff_satS`), and its rules are those of `SatS`.
  `SatI I m φ E` is the invariant form (`I` before and after, `φ` of the result); its rules mirror
  those of `Sat`.  `HTAt I l0 m φ E` additionally knows that the current local state is `l0`
  (between a `get` and the `set` that follows it).
-/
import Bashlex.Props.C10.Tape
import Bashlex.Proofs.Closed

namespace Bashlex.C11
open Bashlex Bashlex.M Bashlex.C10

/-- state-aware Hoare triple: `Q` of a normal return, `E` of an exception -/
def HT {α : Type} (P : Local → Env → Prop) (m : M α) (Q : α → Local → Env → Prop)
    (E : Exn → Prop) : Prop :=
  ∀ l e, P l e → match m.run l e with
    | (.ok (a, l'), e') => Q a l' e'
    | (.error x, _) => E x

theorem HT_iff_satS {α : Type} {P : Local → Env → Prop} {m : M α} {Q : α → Local → Env → Prop}
    {E : Exn → Prop} : HT P m Q E ↔ SatS m P Q E := Iff.rfl

namespace HT
variable {α β : Type} {P P' : Local → Env → Prop} {Q Q' : α → Local → Env → Prop}
  {E E' : Exn → Prop}

/- `HT P m Q E` unfolds to the body of `SatS m P Q E`.  Where `m` runs by computation (`pure`,
   `raise`, `get`) the `match` in that body reduces before the two are compared, and the argument
   that only the vanished branch mentions (`E`, resp. `Q`) has to be given. -/
theorem pure {a : α} (h : ∀ l e, P l e → Q a l e) : HT P (Pure.pure a : M α) Q E :=
  SatS.pure (E := E) h

theorem raise {x : Exn} (h : E x) : HT P (M.raise x : M α) Q E := SatS.raise (Q := Q) h

theorem raise' {x : Exn} (h : ∀ l e, P l e → E x) : HT P (M.raise x : M α) Q E :=
  SatS.raise_of_pre (Q := Q) h

theorem foreign {a b : String} (h : E (.foreign a b)) : HT P (M.foreign a b : M α) Q E :=
  raise h

theorem bind {m : M α} {f : α → M β} {R : β → Local → Env → Prop}
    (hm : HT P m Q E) (hf : ∀ a, HT (Q a) (f a) R E) : HT P (m >>= f) R E := SatS.bind hm hf

theorem weaken {m : M α} (hm : HT P m Q E) (hP : ∀ l e, P' l e → P l e)
    (hQ : ∀ a l e, Q a l e → Q' a l e) (hE : ∀ x, E x → E' x) : HT P' m Q' E' :=
  SatS.weaken hm hP hQ hE

theorem pre {m : M α} (hm : HT P m Q E) (hP : ∀ l e, P' l e → P l e) : HT P' m Q E :=
  hm.weaken hP (fun _ _ _ h => h) (fun _ h => h)

theorem post {m : M α} (hm : HT P m Q E) (hQ : ∀ a l e, Q a l e → Q' a l e) : HT P m Q' E :=
  hm.weaken (fun _ _ h => h) hQ (fun _ h => h)

theorem exn {m : M α} (hm : HT P m Q E) (hE : ∀ x, E x → E' x) : HT P m Q E' :=
  hm.weaken (fun _ _ h => h) (fun _ _ _ h => h) hE

/-- a pure fact in the pre-condition moves to the context -/
theorem pre_pure {φ : Prop} {m : M α} (h : φ → HT P m Q E) :
    HT (fun l e => φ ∧ P l e) m Q E := SatS.assume h

theorem pre_false {m : M α} : HT (fun _ _ => False) m Q E :=
  fun _ _ hp => hp.elim

theorem ite {c : Prop} [Decidable c] {a b : M α} (ha : c → HT P a Q E) (hb : ¬ c → HT P b Q E) :
    HT P (if c then a else b) Q E := SatS.ite ha hb

theorem get : HT P (MonadState.get : M Local) (fun a l e => a = l ∧ P l e) E :=
  SatS.get (E := E)

theorem set {Q : Unit → Local → Env → Prop} {l1 : Local} (h : ∀ l e, P l e → Q () l1 e) :
    HT P (MonadStateOf.set l1 : M Unit) Q E :=
  fun l e hp => h l e hp

theorem modify {Q : Unit → Local → Env → Prop} {f : Local → Local}
    (h : ∀ l e, P l e → Q () (f l) e) : HT P (_root_.modify f : M Unit) Q E :=
  fun l e hp => h l e hp

theorem loop {σ : Type} {site : String} {body : σ → M (σ ⊕ α)} (I : σ → Local → Env → Prop)
    (hfuel : E (.outOfFuel site))
    (hbody : ∀ s, HT (I s) (body s)
      (fun r l e => match r with | .inl s' => I s' l e | .inr a => Q a l e) E) :
    ∀ fuel s, HT (I s) (M.loop site body fuel s) Q E :=
  SatS.loop hfuel (fun s => (hbody s).post (fun r _ _ h => by cases r <;> exact h))

/-- a stateless fact joins a triple -/
theorem and_sat {m : M α} {φ : α → Prop} {F : Exn → Prop} (h1 : HT P m Q E) (h2 : Sat m φ F) :
    HT P m (fun a l e => φ a ∧ Q a l e) (fun x => F x ∧ E x) :=
  SatS.both (SatS.of_sat h2 P) h1

theorem ok {m : M α} (h : HT P m Q E) {l e a l' e'} (hp : P l e)
    (hr : m.run l e = (.ok (a, l'), e')) : Q a l' e' := SatS.ok h hp hr

theorem err {m : M α} (h : HT P m Q E) {l e x e'} (hp : P l e)
    (hr : m.run l e = (.error x, e')) : E x := SatS.err h hp hr

/-! ### a first statement followed by a continuation
  (a walk through a program whose binds associate to the right needs no intermediate assertion
  for these; `HTAt`, `HTQAt`, `C03.Tok.AtW` use them under their own names) -/

/-- a raise followed by dead code: after it `False` holds -/
theorem raise_bind {x : Exn} {k : α → M β} {R : β → Local → Env → Prop} (h : E x) :
    HT P ((M.raise x : M α) >>= k) R E :=
  HT.bind (Q := fun _ _ _ => False) (HT.raise h) (fun _ => HT.pre_false)

theorem pure_bind {a : α} {k : α → M β} {R : β → Local → Env → Prop} (h : HT P (k a) R E) :
    HT P ((Pure.pure a : M α) >>= k) R E := by
  rw [LawfulMonad.pure_bind]; exact h

theorem ite_bind {c : Prop} [Decidable c] {a b : M α} {k : α → M β}
    {R : β → Local → Env → Prop} (ha : c → HT P (a >>= k) R E) (hb : ¬ c → HT P (b >>= k) R E) :
    HT P ((if c then a else b) >>= k) R E := by
  split
  · exact ha ‹_›
  · exact hb ‹_›

/-- a `set` where the state is known to be `l0` (between a `get` and the `set` that follows it) -/
theorem set_at {R : Unit → Local → Env → Prop} {l0 l1 : Local} (h : ∀ e, P l0 e → R () l1 e) :
    HT (fun l e => l = l0 ∧ P l e) (MonadStateOf.set l1 : M Unit) R E :=
  HT.set (fun _ e hp => h e (hp.1 ▸ hp.2))

theorem set_bind {R : β → Local → Env → Prop} {l0 l1 : Local} {k : Unit → M β}
    (h : ∀ e, P l0 e → P' l1 e) (hk : HT P' (k ()) R E) :
    HT (fun l e => l = l0 ∧ P l e) ((MonadStateOf.set l1 : M Unit) >>= k) R E :=
  HT.bind (Q := fun _ => P') (set_at h) (fun _ => hk)

end HT

/-! ## invariant form -/

/-- `I` is preserved, the result satisfies `φ` -/
def SatI {α : Type} (I : Local → Env → Prop) (m : M α) (φ : α → Prop) (E : Exn → Prop) : Prop :=
  HT I m (fun a l e => φ a ∧ I l e) E

/-- as `SatI`, knowing that the local state is `l0` -/
def HTAt {α : Type} (I : Local → Env → Prop) (l0 : Local) (m : M α) (φ : α → Prop)
    (E : Exn → Prop) : Prop :=
  HT (fun l e => l = l0 ∧ I l e) m (fun a l e => φ a ∧ I l e) E

theorem SatI_iff_satS {α : Type} {I : Local → Env → Prop} {m : M α} {φ : α → Prop}
    {E : Exn → Prop} : SatI I m φ E ↔ SatS m I (fun a l e => φ a ∧ I l e) E := Iff.rfl

theorem HTAt_iff_satS {α : Type} {I : Local → Env → Prop} {l0 : Local} {m : M α} {φ : α → Prop}
    {E : Exn → Prop} :
    HTAt I l0 m φ E ↔ SatS m (fun l e => l = l0 ∧ I l e) (fun a l e => φ a ∧ I l e) E := Iff.rfl

namespace SatI
variable {α β : Type} {I : Local → Env → Prop} {φ ψ : α → Prop} {E E' : Exn → Prop}

theorem pure {a : α} (h : φ a) : SatI I (Pure.pure a : M α) φ E :=
  HT.pure (fun _ _ hi => ⟨h, hi⟩)

theorem raise {x : Exn} (h : E x) : SatI I (M.raise x : M α) φ E := HT.raise h
theorem foreign {a b : String} (h : E (.foreign a b)) : SatI I (M.foreign a b : M α) φ E :=
  HT.raise h

theorem bind {m : M α} {f : α → M β} {ρ : β → Prop} (hm : SatI I m φ E)
    (hf : ∀ a, φ a → SatI I (f a) ρ E) : SatI I (m >>= f) ρ E :=
  HT.bind hm (fun a => HT.pre_pure (fun ha => hf a ha))

/-- bind when nothing is needed of the intermediate result -/
theorem bindE {m : M α} {f : α → M β} {ρ : β → Prop} (hm : SatI I m (fun _ => True) E)
    (hf : ∀ a, SatI I (f a) ρ E) : SatI I (m >>= f) ρ E :=
  bind hm (fun a _ => hf a)

theorem weaken {m : M α} (hm : SatI I m φ E) (h : ∀ a, φ a → ψ a) (hE : ∀ x, E x → E' x) :
    SatI I m ψ E' :=
  HT.weaken hm (fun _ _ h => h) (fun a _ _ ha => ⟨h a ha.1, ha.2⟩) hE

theorem triv {m : M α} (hm : SatI I m φ E) : SatI I m (fun _ => True) E :=
  hm.weaken (fun _ _ => True.intro) (fun _ h => h)

theorem ite {c : Prop} [Decidable c] {a b : M α} (ha : c → SatI I a φ E) (hb : ¬ c → SatI I b φ E) :
    SatI I (if c then a else b) φ E := HT.ite ha hb

theorem loop {σ : Type} {site : String} {body : σ → M (σ ⊕ α)} (J : σ → Prop)
    (hfuel : E (.outOfFuel site)) (hbody : ∀ s, J s → SatI I (body s) (Sum.elim J φ) E) :
    ∀ fuel s, J s → SatI I (M.loop site body fuel s) φ E := SatS.loop_keep J hfuel hbody

/-- a fuel loop with nothing to remember -/
theorem loopT {σ : Type} {site : String} {body : σ → M (σ ⊕ α)}
    (hfuel : E (.outOfFuel site)) (hbody : ∀ s, SatI I (body s) (fun _ => True) E) (fuel : Nat)
    (s : σ) : SatI I (M.loop site body fuel s) (fun _ => True) E :=
  loop (J := fun _ => True) hfuel
    (fun s _ => (hbody s).weaken (fun r _ => by cases r <;> exact True.intro) (fun _ h => h))
    fuel s True.intro

theorem modifyT {f : Local → Local} (h : ∀ l e, I l e → I (f l) e) :
    SatI I (_root_.modify f : M Unit) (fun _ => True) E :=
  HT.modify (fun l e hi => ⟨True.intro, h l e hi⟩)

theorem get {φ : Local → Prop} (h : ∀ l, φ l) : SatI I (MonadState.get : M Local) φ E :=
  HT.post HT.get (fun a _ _ ha => ⟨h a, ha.2⟩)

theorem forIn_list {γ : Type} {f : γ → β → M (ForInStep β)} {ρ : β → Prop}
    (J : List γ → β → Prop)
    (hstep : ∀ a rest b, J (a :: rest) b →
      SatI I (f a b) (fun r => match r with | .yield b' => J rest b' | .done b' => ρ b') E)
    (hdone : ∀ b, J [] b → ρ b) :
    ∀ (l : List γ) (b : β), J l b → SatI I (forIn l b f) ρ E := SatS.forIn_keep J hstep hdone

/-- a computation that never touches the state -/
theorem of_sat_stateless {m : M α}
    (hs : ∀ l e, (∃ a, m.run l e = (.ok (a, l), e)) ∨ (∃ x, m.run l e = (.error x, e)))
    (h : Sat m φ E) : SatI I m φ E := by
  intro l e hi
  have h1 := h l e
  rcases hs l e with ⟨a, hr⟩ | ⟨x, hr⟩
  · rw [hr] at h1 ⊢; exact ⟨h1, hi⟩
  · rw [hr] at h1 ⊢; exact h1

end SatI

namespace HTAt
variable {α β : Type} {I : Local → Env → Prop} {φ : α → Prop} {E : Exn → Prop} {l0 : Local}

theorem pure {a : α} (h : φ a) : HTAt I l0 (Pure.pure a : M α) φ E :=
  HT.pure (fun _ _ hi => ⟨h, hi.2⟩)

theorem raise {x : Exn} (h : E x) : HTAt I l0 (M.raise x : M α) φ E := HT.raise h
theorem foreign {a b : String} (h : E (.foreign a b)) : HTAt I l0 (M.foreign a b : M α) φ E :=
  HT.raise h

theorem ite {c : Prop} [Decidable c] {a b : M α} (ha : c → HTAt I l0 a φ E)
    (hb : ¬ c → HTAt I l0 b φ E) : HTAt I l0 (if c then a else b) φ E := HT.ite ha hb

theorem ofSatI {m : M α} (h : SatI I m φ E) : HTAt I l0 m φ E := HT.pre h (fun _ _ hp => hp.2)

theorem set_bind {l1 : Local} {k : Unit → M β} {ρ : β → Prop} (h : ∀ e, I l0 e → I l1 e)
    (hk : SatI I (k ()) ρ E) : HTAt I l0 ((MonadStateOf.set l1 : M Unit) >>= k) ρ E :=
  HT.set_bind h hk

theorem setT {l1 : Local} (h : ∀ e, I l0 e → I l1 e) :
    HTAt I l0 (MonadStateOf.set l1 : M Unit) (fun _ => True) E :=
  HT.set_at (fun e hi => ⟨True.intro, h e hi⟩)

theorem ite_bind {c : Prop} [Decidable c] {a b : M α} {k : α → M β} {ρ : β → Prop}
    (ha : c → HTAt I l0 (a >>= k) ρ E) (hb : ¬ c → HTAt I l0 (b >>= k) ρ E) :
    HTAt I l0 ((if c then a else b) >>= k) ρ E := HT.ite_bind ha hb

theorem foreign_bind {a b : String} {k : α → M β} {ρ : β → Prop} (h : E (.foreign a b)) :
    HTAt I l0 ((M.foreign a b : M α) >>= k) ρ E := HT.raise_bind h

theorem pure_bind {a : α} {k : α → M β} {ρ : β → Prop} (h : HTAt I l0 (k a) ρ E) :
    HTAt I l0 ((Pure.pure a : M α) >>= k) ρ E := HT.pure_bind h

end HTAt

/-! ## pre-invariant `I`, arbitrary post-condition -/

/-- as `HT` from the invariant `I`, knowing that the local state is `l0` -/
def HTQAt {α : Type} (I : Local → Env → Prop) (l0 : Local) (m : M α)
    (Q : α → Local → Env → Prop) (E : Exn → Prop) : Prop :=
  HT (fun l e => l = l0 ∧ I l e) m Q E

theorem HTQAt_iff_satS {α : Type} {I : Local → Env → Prop} {l0 : Local} {m : M α}
    {Q : α → Local → Env → Prop} {E : Exn → Prop} :
    HTQAt I l0 m Q E ↔ SatS m (fun l e => l = l0 ∧ I l e) Q E := Iff.rfl

namespace HT
variable {α β : Type} {I J : Local → Env → Prop} {E : Exn → Prop}

/-- bind after a computation that preserves the invariant -/
theorem bind_lE {m : M α} {f : α → M β} {Q : β → Local → Env → Prop}
    (hm : SatI I m (fun _ => True) E) (hf : ∀ a, HT I (f a) Q E) : HT I (m >>= f) Q E :=
  HT.bind hm (fun a => HT.pre_pure (fun _ => hf a))

/-- bind after the computation that moves from invariant `I` to invariant `J` -/
theorem bind_switch {m : M α} {k : α → M β} {ψ : α → Prop} {φ : β → Prop}
    (hm : HT I m (fun a l e => ψ a ∧ J l e) E) (hk : ∀ a, ψ a → SatI J (k a) φ E) :
    HT I (m >>= k) (fun b l e => φ b ∧ J l e) E :=
  HT.bind hm (fun a => HT.pre_pure (fun ha => hk a ha))

theorem get_bind {f : Local → M β} {Q : β → Local → Env → Prop}
    (h : ∀ l0, HTQAt I l0 (f l0) Q E) : HT I ((MonadState.get : M Local) >>= f) Q E :=
  HT.bind HT.get (fun l0 => HT.pre (h l0) (fun _ _ hp => ⟨hp.1.symm, hp.2⟩))

theorem pre_exists {ι : Type} {P : ι → Local → Env → Prop} {m : M α}
    {Q : α → Local → Env → Prop} (h : ∀ i, HT (P i) m Q E) :
    HT (fun l e => ∃ i, P i l e) m Q E := SatS.exists_pre h

end HT

namespace SatI
variable {α β : Type} {I : Local → Env → Prop} {φ ψ : α → Prop} {E E' : Exn → Prop}

/-- `get` followed by a continuation that may `set` -/
theorem get_bind {f : Local → M β} {ρ : β → Prop} (h : ∀ l0, HTAt I l0 (f l0) ρ E) :
    SatI I ((MonadState.get : M Local) >>= f) ρ E := HT.get_bind h

end SatI

namespace HTQAt
variable {α β : Type} {I : Local → Env → Prop} {Q : α → Local → Env → Prop} {E : Exn → Prop}
  {l0 : Local}

theorem ite {c : Prop} [Decidable c] {a b : M α} (ha : c → HTQAt I l0 a Q E)
    (hb : ¬ c → HTQAt I l0 b Q E) : HTQAt I l0 (if c then a else b) Q E := HT.ite ha hb

theorem ite_bind {c : Prop} [Decidable c] {a b : M α} {k : α → M β}
    {R : β → Local → Env → Prop}
    (ha : c → HTQAt I l0 (a >>= k) R E) (hb : ¬ c → HTQAt I l0 (b >>= k) R E) :
    HTQAt I l0 ((if c then a else b) >>= k) R E := HT.ite_bind ha hb

theorem ofHT {m : M α} (h : HT I m Q E) : HTQAt I l0 m Q E := HT.pre h (fun _ _ hp => hp.2)

theorem set_bind {l1 : Local} {k : Unit → M β} {R : β → Local → Env → Prop}
    (h : ∀ e, I l0 e → I l1 e) (hk : HT I (k ()) R E) :
    HTQAt I l0 ((MonadStateOf.set l1 : M Unit) >>= k) R E := HT.set_bind h hk

theorem foreign_bind {a b : String} {k : α → M β} {R : β → Local → Env → Prop}
    (h : E (.foreign a b)) : HTQAt I l0 ((M.foreign a b : M α) >>= k) R E := HT.raise_bind h

theorem foreign {a b : String} (h : E (.foreign a b)) : HTQAt I l0 (M.foreign a b : M α) Q E :=
  HT.raise h

theorem pure_bind {a : α} {k : α → M β} {R : β → Local → Env → Prop}
    (h : HTQAt I l0 (k a) R E) : HTQAt I l0 ((Pure.pure a : M α) >>= k) R E := HT.pure_bind h

end HTQAt

/-! ### invariants that the walked code cannot break -/

/-- a query, for an invariant that no answer of the environment breaks -/
theorem HT.ask {I : Local → Env → Prop} {E : Exn → Prop}
    (hq : ∀ l e q, I l e → I l (e.answer q).2) (q : Query) : HT I (M.ask q) (fun _ => I) E := by
  intro l e h; rw [M.run_ask]; exact hq _ _ q h

theorem HTQAt.ask_bind {β : Type} {I : Local → Env → Prop} {E : Exn → Prop} {l0 : Local}
    {q : Query} {k : Answer q → M β} {Q : β → Local → Env → Prop}
    (hq : ∀ l e q, I l e → I l (e.answer q).2) (h : ∀ a, HTQAt I l0 (k a) Q E) :
    HTQAt I l0 (M.ask q >>= k) Q E := by
  intro l e ⟨hl, hp⟩; rw [M.run_bind, M.run_ask]; exact h _ l _ ⟨hl, hq _ _ q hp⟩

/-- keeping an invariant that reads `Local.stable` only and that no answer of the environment
    breaks, while raising only exceptions of a set that contains the sites, is closed
    (`Proofs/Closed.lean`) -/
theorem HT.closed {site : Exn → Bool} {I : Local → Env → Prop} {E : Exn → Prop}
    (hI : ∀ {l0 l1 : Local} {e : Env}, l1.stable = l0.stable → I l0 e → I l1 e)
    (hq : ∀ l e q, I l e → I l (e.answer q).2)
    (hE : ∀ x, site x = true → E x) :
    Closed site (fun {α} (m : M α) => HT I m (fun _ => I) E)
      (fun {α} l0 (m : M α) => HTQAt I l0 m (fun _ => I) E) where
  pure _ := HT.pure (fun _ _ h => h)
  bind hm hf := HT.bind hm hf
  get_bind h := HT.get_bind h
  forget h := HTQAt.ofHT h
  raise h := HT.raise (hE _ h)
  ask _ := HT.ask hq _
  modify hf := HT.modify (fun l _ h => hI (hf l) h)
  set_bind h hk := HTQAt.set_bind (fun _ hi => hI h hi) hk
  bindA hm hk := HT.bind hm hk
  ask_bind _ h := HTQAt.ask_bind hq h

end Bashlex.C11
