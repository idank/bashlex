/-
  C11: the state invariants of one parser (cursor inside the line, recorded positions), the
  classification `TopE` of what one parser itself may raise, and `getc_spec` (what `Tape.getc`
  does to the cursor, from `C10.tape_getc_rel`); the triples for the tape primitives are in `Prims.lean`.
-/
import Bashlex.Props.C11.Hoare
import Bashlex.Model.Actions

namespace Bashlex.C11
open Bashlex Bashlex.M Bashlex.C10

/-- ghost constants of one parser run: they never change while the parser runs -/
structure Ghost where
  /-- `none`: a top-level parser (its tape is the environment's);
      `some t`: a nested parser (its tape is in its local state), the environment's tape is `t` -/
  env : Option Tape
  /-- `_shell_input_line` -/
  line : Str
  /-- `_added_newline` -/
  added : Bool
  /-- the environment's strict-mode option -/
  strict : Bool

/-- `tokenizer.source` -/
def Ghost.source (g : Ghost) : Str := if g.added then g.line.dropLast else g.line

/-- where the tape lives, and the environment's constants -/
def Frame (g : Ghost) (l : Local) (e : Env) : Prop :=
  (match g.env with
   | none => l.tape = none
   | some t => l.tape.isSome = true ∧ e.tape = t) ∧ e.strict = g.strict

def Base (g : Ghost) (l : Local) (e : Env) : Prop :=
  Frame g l e ∧ (tapeOf l e).line = g.line ∧ (tapeOf l e).added = g.added

/-- the cursor is inside the line; recorded positions are `ps`
    (a character in the `_eol_ungetc_lookahead` slot was read from the line: the line is not empty) -/
def Live (g : Ghost) (ps : List Nat) (l : Local) (e : Env) : Prop :=
  Base g l e ∧ (tapeOf l e).idx ≤ g.line.length ∧ (l.eolLookahead.isSome = true → g.line ≠ []) ∧
  l.positions = ps

/-- the cursor is inside the line, or it was moved past the end by the non-strict here-document
    skip (`_shell_input_line_index += 1` at end of input) and nothing can be read any more -/
def Good (g : Ghost) (ps : List Nat) (l : Local) (e : Env) : Prop :=
  Base g l e ∧ (l.eolLookahead.isSome = true → g.line ≠ []) ∧
  ((tapeOf l e).idx ≤ g.line.length ∨ (l.eolLookahead = none ∧ strictOf l e = false)) ∧
  l.positions = ps

theorem Live.good {g ps l e} (h : Live g ps l e) : Good g ps l e :=
  ⟨h.1, h.2.2.1, Or.inl h.2.1, h.2.2.2⟩

/-! ## what one parser itself may raise -/

/-- the token fact the error positions rely on: a token starts inside the line -/
def TF (g : Ghost) (t : Token) : Prop := t.lexpos ≤ g.line.length - 1

/-- `AssertionError` of `ParsingError.__init__` (`assert position <= len(s)`) -/
def initAssert : Exn := .foreign "AssertionError" "ParsingError.__init__"

def matchedPairMsg (close : Char) : String :=
  s!"unexpected EOF while looking for matching {if close == '\'' then "\"'\"" else "'" ++ String.singleton close ++ "'"}"

def heredocMsg (delim : Str) : String :=
  "here-document at line 0 delimited by end-of-file (wanted " ++ pyReprStr delim ++ ")"

def tokRepr (t : Token) : String :=
  match t.value with
  | .str s => pyReprStr s
  | .int n => toString n
  | .none => "None"

/-- the `ParsingError`s one parser raises itself (not its nested parsers), site by site -/
inductive TopParsing (g : Ghost) : String → Str → Int → Prop
  /-- `MatchedPairError` (tokenizer): at the cursor minus one, after `_getc` returned `None` -/
  | matchedPair (close : Char) (p : Int) : 0 ≤ p → p ≤ (g.source.length : Int) →
      TopParsing g (matchedPairMsg close) g.source p
  /-- here-document delimited by end of file: the source is `_shell_input_line`
      (it carries the appended newline) -/
  | heredoc (delim : Str) (p : Nat) : p ≤ g.line.length →
      TopParsing g (heredocMsg delim) g.line p
  /-- `p_error` on the EOF token -/
  | eof : TopParsing g "unexpected EOF" g.source g.source.length
  /-- `p_error` on another token: at the token's start -/
  | token (t : Token) : TF g t → t.lexpos ≤ g.source.length →
      TopParsing g ("unexpected token " ++ tokRepr t) g.source (t.lexpos : Nat)
  /-- `_expandwordinternal`: unclosed backquote inside the word `t`, at offset `k` -/
  | badSubst (t : Token) (k : Nat) : t.lexpos + k ≤ g.source.length →
      TopParsing g ("bad substitution: no closing \"`\" in " ++ String.ofList t.valueStr) g.source
        ((t.lexpos + k : Nat) : Int)

/-- what one parser itself may raise: classified `ParsingError`s, anything else but the
    `AssertionError` of `ParsingError.__init__` -/
def TopE (g : Ghost) (x : Exn) : Prop :=
  match x with
  | .parsing m src p => TopParsing g m src p
  | x => x ≠ initAssert

theorem topE_foreign {g : Ghost} {a b : String} (h : (a == "AssertionError" && b == "ParsingError.__init__") = false) :
    TopE g (.foreign a b) := by
  intro hx
  cases hx
  simp at h

theorem topE_fuel {g : Ghost} {s : String} : TopE g (.outOfFuel s) := by
  intro hx; cases hx

theorem topE_ni {g : Ghost} {s : String} : TopE g (.notImplemented s) := by
  intro hx; cases hx

theorem TopParsing.le {g m src p} (h : TopParsing g m src p) : 0 ≤ p ∧ p ≤ (src.length : Int) := by
  cases h with
  | matchedPair c p h0 h1 => exact ⟨h0, h1⟩
  | heredoc d p h => exact ⟨Int.natCast_nonneg _, Int.ofNat_le.mpr h⟩
  | eof => exact ⟨Int.natCast_nonneg _, Int.le_refl _⟩
  | token t _ h => exact ⟨Int.natCast_nonneg _, Int.ofNat_le.mpr h⟩
  | badSubst t k h => exact ⟨Int.natCast_nonneg _, Int.ofNat_le.mpr h⟩

theorem source_length (g : Ghost) : g.line.length - 1 ≤ g.source.length := by
  unfold Ghost.source
  split
  · simp
  · omega

theorem source_length_le (g : Ghost) : g.source.length ≤ g.line.length := by
  unfold Ghost.source
  split
  · simp
  · omega

/-! ## the state invariants and changes of the state -/

theorem tapeOf_env {l : Local} {e e' : Env} (h : e'.tape = e.tape) : tapeOf l e' = tapeOf l e := by
  unfold tapeOf; split <;> simp [h]

theorem strictOf_env {l : Local} {e e' : Env} (h : e'.strict = e.strict) :
    strictOf l e' = strictOf l e := by
  unfold strictOf; split <;> simp [h]

theorem Frame.env {g l e e'} (h : Frame g l e) (h1 : e'.tape = e.tape) (h2 : e'.strict = e.strict) :
    Frame g l e' := by
  unfold Frame at h ⊢
  rw [h1, h2]; exact h

theorem Base.env {g l e e'} (h : Base g l e) (h1 : e'.tape = e.tape) (h2 : e'.strict = e.strict) :
    Base g l e' := by
  unfold Base at h ⊢
  rw [tapeOf_env h1]; exact ⟨h.1.env h1 h2, h.2⟩

theorem Live.env {g ps l e e'} (h : Live g ps l e) (h1 : e'.tape = e.tape)
    (h2 : e'.strict = e.strict) : Live g ps l e' := by
  unfold Live at h ⊢
  rw [tapeOf_env h1]; exact ⟨h.1.env h1 h2, h.2⟩

theorem Good.env {g ps l e e'} (h : Good g ps l e) (h1 : e'.tape = e.tape)
    (h2 : e'.strict = e.strict) : Good g ps l e' := by
  unfold Good at h ⊢
  rw [tapeOf_env h1, strictOf_env h2]; exact ⟨h.1.env h1 h2, h.2⟩

/-- the tape was replaced by `t'` (same line) -/
theorem Frame.put {g l e} (h : Frame g l e) (t' : Tape) : Frame g (putL l t') (putE l e t') := by
  unfold Frame at h ⊢
  cases l with
  | mk tape =>
    cases tape with
    | none =>
      simp only [putL, putE]
      cases hg : g.env with
      | none => exact ⟨trivial, h.2⟩
      | some t => rw [hg] at h; exact absurd h.1.1 (by simp)
    | some t0 =>
      simp only [putL, putE]
      cases hg : g.env with
      | none => rw [hg] at h; exact absurd h.1 (by simp)
      | some t => rw [hg] at h; exact ⟨⟨rfl, h.1.2⟩, h.2⟩

theorem Base.put {g l e} (h : Base g l e) {t' : Tape} (h1 : t'.line = (tapeOf l e).line)
    (h2 : t'.added = (tapeOf l e).added) : Base g (putL l t') (putE l e t') := by
  unfold Base at h ⊢
  rw [tapeOf_put]
  exact ⟨h.1.put t', h1.trans h.2.1, h2.trans h.2.2⟩

@[simp] theorem putL_positions (l : Local) (t : Tape) : (putL l t).positions = l.positions := by
  cases l with
  | mk tape => cases tape <;> rfl

theorem Live.put {g ps l e} (h : Live g ps l e) {t' : Tape} (h1 : t'.line = (tapeOf l e).line)
    (h2 : t'.added = (tapeOf l e).added) (h3 : t'.idx ≤ g.line.length) :
    Live g ps (putL l t') (putE l e t') := by
  unfold Live at h ⊢
  rw [tapeOf_put, putL_positions, putL_eol]
  exact ⟨h.1.put h1 h2, h3, h.2.2⟩

/-! ## the tape -/

theorem getc_spec (rqn : Bool) : ∀ (fuel : Nat) (t : Tape) (c : Option Char) (t' : Tape),
    t.getc rqn fuel = .ok (c, t') →
      t'.line = t.line ∧ t'.added = t.added ∧ (t.line.length ≤ t.idx → c = none ∧ t' = t) ∧
      (t.idx ≤ t.line.length → t'.idx ≤ t.line.length) ∧ (c.isSome = true → t.idx < t.line.length) ∧
      (c = none → t.line.length - t.idx < fuel → t.line.length ≤ t'.idx) := by
  intro fuel t c t' h
  obtain ⟨a1, a2, _, a4, a5, a6⟩ := tape_getc_rel rqn fuel t c t' h
  have hsome : c.isSome = true → t.idx < t.line.length := by
    intro hc
    obtain ⟨ch, rfl⟩ := Option.isSome_iff_exists.mp hc
    obtain ⟨b1, b2, _⟩ := a5 ch rfl
    have := (List.getElem?_eq_some_iff.mp b2).1
    omega
  refine ⟨a1, a2, fun hge => ?_, a4, hsome, fun hn => (a6 hn).2.2⟩
  cases c with
  | some ch => have := hsome rfl; omega
  | none => exact ⟨rfl, (a6 rfl).2.1 (Or.inl hge)⟩

end Bashlex.C11
