/-
  C11: tokens.  `recordpos`, `createtoken` and `finishWord` preserve `Live` / `Good`
  (`recordpos_live`, `recordpos_good`, `createtoken_live`, `createtoken_good`, `finishWord_live`);
  a position recorded by `recordpos 1` right after a character was read in a live state is inside
  the line, and the token built from it carries it.  That every token delivered by `nextToken`
  starts inside the line (`TF`) and that `gatherheredocuments` preserves `Good` is in
  `NextToken.lean`.
-/
import Bashlex.Props.C11.Tokenizer
import Bashlex.Proofs.TokShape

namespace Bashlex.C11
open Bashlex Bashlex.M Bashlex.C10

variable {g : Ghost} {ps : List Nat}

/-! ## the position stack -/

theorem run_recordpos (rel : Nat) (l : Local) (e : Env) :
    M.run (recordpos rel) l e =
      (.ok ((), { l with positions := l.positions ++ [(tapeOf l e).idx - rel] }), e) :=
  C10.run_recordpos rel l e

theorem run_createtoken (ty : TokType) (v : TVal) (fl : WordFlags) (l : Local) (e : Env) (a b : Nat)
    (hp : l.positions = [a, b]) :
    M.run (createtoken ty v fl) l e =
      if a < b then
        (.ok ({ ttype := some ty, value := v, pos := some (a, b), flags := fl },
          { l with positions := [] }), e)
      else (.error (.foreign "AssertionError" "token.__init__"), e) := by
  unfold createtoken
  simp only [M.run_bind, run_get, hp]
  have h1 : ¬ ([a, b].length < 2) := by simp
  rw [if_neg h1]
  simp only [M.run_bind, run_set]
  have e1 : [a, b].dropLast.getLast?.getD 0 = a := rfl
  have e2 : [a, b].getLast?.getD 0 = b := rfl
  have e3 : [a, b].dropLast.dropLast = ([] : List Nat) := rfl
  rw [e1, e2, e3]
  by_cases hab : a < b
  · simp only [hab, decide_true, Bool.not_true, Bool.false_eq_true, if_false, if_true, M.run_pure]
  · simp only [hab, decide_false, Bool.not_false, if_true, if_false, M.run_bind, run_foreign]

theorem recordpos_live (rel : Nat) :
    HT (Live g ps) (recordpos rel)
      (fun _ l e => ∃ a, a ≤ g.line.length - rel ∧ Live g (ps ++ [a]) l e) (TopE g) := by
  intro l e hl
  rw [run_recordpos]
  refine ⟨(tapeOf l e).idx - rel, ?_, hl.1, hl.2.1, hl.2.2.1, ?_⟩
  · have := hl.2.1; omega
  · show l.positions ++ _ = _; rw [hl.2.2.2]

theorem recordpos_good (rel : Nat) :
    HT (Good g ps) (recordpos rel) (fun _ l e => ∃ a, Good g (ps ++ [a]) l e) (TopE g) := by
  intro l e hl
  rw [run_recordpos]
  refine ⟨(tapeOf l e).idx - rel, hl.1, hl.2.1, hl.2.2.1, ?_⟩
  show l.positions ++ _ = _; rw [hl.2.2.2]

theorem createtoken_live (ty : TokType) (v : TVal) (fl : WordFlags) (a b : Nat) :
    HT (Live g [a, b]) (createtoken ty v fl)
      (fun t l e => t.pos = some (a, b) ∧ Live g [] l e) (TopE g) := by
  intro l e hl
  rw [run_createtoken ty v fl l e a b hl.2.2.2]
  by_cases hab : a < b
  · rw [if_pos hab]; exact ⟨rfl, hl.1, hl.2.1, hl.2.2.1, rfl⟩
  · rw [if_neg hab]; exact topE_foreign rfl

theorem createtoken_good (ty : TokType) (v : TVal) (fl : WordFlags) (a b : Nat) :
    HT (Good g [a, b]) (createtoken ty v fl)
      (fun t l e => t.pos = some (a, b) ∧ Good g [] l e) (TopE g) := by
  intro l e hl
  rw [run_createtoken ty v fl l e a b hl.2.2.2]
  by_cases hab : a < b
  · rw [if_pos hab]; exact ⟨rfl, hl.1, hl.2.1, hl.2.2.1, rfl⟩
  · rw [if_neg hab]; exact topE_foreign rfl

/-! ## `_readtokenword` -/

theorem fwEnd_live (fn : Bool) (t : Token) : SatI (Live g ps) (fwEnd fn t) (· = t) (TopE g) := by
  unfold fwEnd
  refine SatI.bindE ?_ (fun _ => SatI.pure rfl)
  exact SatI.ite (fun _ => SatI.modifyT (fun _ _ h => h)) (fun _ => SatI.pure True.intro)

/-- the end of `finishWord` keeps the position of the WORD token (`fwToken_pos`) -/
theorem fwWord_live (st : RWState) (tok : Token) :
    SatI (Live g ps) (fwWord st tok) (fun t => t.pos = tok.pos) (TopE g) := by
  unfold fwWord
  refine SatI.bindE ?_ (fun _ => ?_)
  · exact SatI.ite (fun _ => SatI.foreign (topE_foreign rfl)) (fun _ => SatI.pure True.intro)
  refine SatI.bindE (SatI.get (fun _ => True.intro)) (fun l => ?_)
  refine SatI.bindE (live_isAssignment _) (fun asg => ?_)
  exact (fwEnd_live _ _).weaken (fun t h => h ▸ Shape.fwToken_pos st l asg tok) (fun _ h => h)

macro_rules | `(tactic| pre_leaf) => `(tactic| with_reducible exact createtoken_live _ _ _ _ _)

theorem finishWord_live (st : RWState) (a : Nat) :
    HT (Live g [a]) (finishWord st)
      (fun t l e => (∃ b, t.pos = some (a, b)) ∧ Live g [] l e) (TopE g) := by
  rw [finishWord_eq]
  unfold fwHead
  simp only []
  refine HT.bind (recordpos_live 0) (fun _ => HT.pre_exists (fun b => HT.pre_pure (fun _ => ?_)))
  refine HT.post (Q := fun t l e => t.pos = some (a, b) ∧ Live g [] l e) ?_
    (fun t l e h => ⟨⟨b, h.1⟩, h.2⟩)
  have hword : HT (Live g [a, b]) (createtoken .WORD (.str st.tokenword) [] >>= fwWord st)
      (fun t l e => t.pos = some (a, b) ∧ Live g [] l e) (TopE g) :=
    HT.bind_switch (createtoken_live _ _ _ _ _)
      (fun tok htok => (fwWord_live st tok).weaken (fun t h => h.trans htok) (fun _ h => h))
  show HT (Live g [a, b]) _ _ _
  pre_walk

end Bashlex.C11
