/-
  C11: triples for the tape primitives (`getc`, `ungetc`, `curIdx`, `bumpIdx`, …) and the
  two raise sites of the tokenizer; `nextToken_ht`: `token()` is `_readtoken` plus bookkeeping.
-/
import Bashlex.Props.C11.Inv

namespace Bashlex.C11
open Bashlex Bashlex.M Bashlex.C10

variable {g : Ghost} {ps : List Nat}

/-! ## `_getc` -/

theorem run_getc_some (rqn : Bool) (l : Local) (e : Env) (c : Char) (h : l.eolLookahead = some c) :
    M.run (getc rqn) l e = (.ok (some c, { l with eolLookahead := none }), e) :=
  C10.run_getc_some rqn l e c h

/-- everything about one `_getc` -/
theorem getc_facts (rqn : Bool) (l : Local) (e : Env) (hg : Good g ps l e) :
    match M.run (getc rqn) l e with
    | (.ok (c, l'), e') =>
      Good g ps l' e' ∧ (c.isSome = true → Live g ps l' e' ∧ g.line ≠ []) ∧
      (c = none → l'.eolLookahead = none ∧ g.line.length ≤ (tapeOf l' e').idx) ∧
      (Live g ps l e → Live g ps l' e')
    | (.error x, _) => TopE g x := by
  obtain ⟨hb, hla, hidx, hps⟩ := hg
  cases hl : l.eolLookahead with
  | some c =>
    rw [run_getc_some rqn l e c hl]
    have hne : g.line ≠ [] := hla (by rw [hl]; rfl)
    have hi : (tapeOf l e).idx ≤ g.line.length := by
      rcases hidx with h | h
      · exact h
      · rw [hl] at h; cases h.1
    have hlive : Live g ps { l with eolLookahead := none } e := ⟨hb, hi, (fun h => by cases h), hps⟩
    exact ⟨⟨hb, (fun h => by cases h), Or.inl hi, hps⟩, fun _ => ⟨hlive, hne⟩,
      (fun h => by cases h), fun _ => hlive⟩
  | none =>
    rw [run_getc rqn l e hl]
    cases hgc : (tapeOf l e).getc rqn ((tapeOf l e).line.length + 1) with
    | error u => cases u; exact topE_foreign rfl
    | ok v =>
      obtain ⟨c, t'⟩ := v
      obtain ⟨a1, a2, a3, a4, a5, a6⟩ := getc_spec rqn _ _ _ _ hgc
      have hline := hb.2.1
      rw [hline] at a3 a4 a5 a6
      have hb' : Base g (putL l t') (putE l e t') := hb.put a1 a2
      have hla' : (putL l t').eolLookahead.isSome = true → g.line ≠ [] := by
        rw [putL_eol, hl]; intro h; cases h
      simp only []
      refine ⟨⟨hb', hla', ?_, ?_⟩, ?_, ?_, ?_⟩
      · rw [tapeOf_put, putL_eol, strictOf_put]
        rcases hidx with h | h
        · exact Or.inl (a4 h)
        · by_cases hle : (tapeOf l e).idx ≤ g.line.length
          · exact Or.inl (a4 hle)
          · have := (a3 (by omega)).2
            rw [this]; exact Or.inr h
      · rw [putL_positions]; exact hps
      · intro hc
        have hlt := a5 hc
        refine ⟨⟨hb', ?_, hla', ?_⟩, ?_⟩
        · rw [tapeOf_put]; exact a4 (by omega)
        · rw [putL_positions]; exact hps
        · intro hnil; rw [hnil] at hlt; simp at hlt
      · intro hc
        refine ⟨by rw [putL_eol, hl], ?_⟩
        rw [tapeOf_put]
        exact a6 hc (by omega)
      · intro hlive
        refine ⟨hb', ?_, hla', ?_⟩
        · rw [tapeOf_put]; exact a4 hlive.2.1
        · rw [putL_positions]; exact hps

theorem getc_good (rqn : Bool) :
    HT (Good g ps) (getc rqn)
      (fun c l e => Good g ps l e ∧ (c.isSome = true → Live g ps l e ∧ g.line ≠ []) ∧
        (c = none → l.eolLookahead = none ∧ g.line.length ≤ (tapeOf l e).idx)) (TopE g) := by
  intro l e hg
  have := getc_facts rqn l e hg
  revert this
  rcases M.run (getc rqn) l e with ⟨r, e'⟩
  cases r with
  | ok v => obtain ⟨c, l'⟩ := v; exact fun h => ⟨h.1, h.2.1, h.2.2.1⟩
  | error x => exact fun h => h

/-- `_getc` in a live state; when it returns `None` the cursor is at the end of the line -/
theorem getc_live' (rqn : Bool) :
    HT (Live g ps) (getc rqn)
      (fun c l e => Live g ps l e ∧ (c = none → g.line.length ≤ (tapeOf l e).idx)) (TopE g) := by
  intro l e hl
  have := getc_facts rqn l e hl.good
  revert this
  rcases M.run (getc rqn) l e with ⟨r, e'⟩
  cases r with
  | ok v => obtain ⟨c, l'⟩ := v; exact fun h => ⟨h.2.2.2 hl, fun hc => (h.2.2.1 hc).2⟩
  | error x => exact fun h => h

theorem getc_live (rqn : Bool) : SatI (Live g ps) (getc rqn) (fun _ => True) (TopE g) :=
  HT.post (getc_live' rqn) (fun _ _ _ h => ⟨True.intro, h.1⟩)

/-! ## `_ungetc` -/

/-- `_ungetc(c)`: a character put back was read from the line -/
theorem ungetc_live (c : Option Char) (hc : c.isSome = true → g.line ≠ []) :
    SatI (Live g ps) (ungetc c) (fun _ => True) (TopE g) := by
  intro l e hl
  rw [run_ungetc]
  rcases ungetc_cases (tapeOf l e) with hu | hu
  · rw [hu]
    simp only []
    refine ⟨True.intro, hl.put rfl rfl ?_⟩
    have := hl.2.1
    show (tapeOf l e).idx - 1 ≤ _
    omega
  · rw [hu]
    exact ⟨True.intro, hl.1, hl.2.1, hc, hl.2.2.2⟩

/-! ## state-preserving accessors -/

/-- a computation that returns `f l e` and leaves the state alone -/
theorem HT.reader {α : Type} {m : M α} {f : Local → Env → α} {P : Local → Env → Prop}
    {E : Exn → Prop} (h : ∀ l e, M.run m l e = (.ok (f l e, l), e)) :
    HT P m (fun a l e => a = f l e ∧ P l e) E := by
  intro l e hp; rw [h]; exact ⟨rfl, hp⟩

theorem run_tapeSource (l : Local) (e : Env) :
    M.run tapeSource l e = (.ok ((tapeOf l e).source, l), e) :=
  C10.run_tapeSource l e

theorem run_tapeAdded (l : Local) (e : Env) :
    M.run tapeAdded l e = (.ok ((tapeOf l e).added, l), e) :=
  C10.run_tapeAdded l e

theorem run_optProceed (l : Local) (e : Env) :
    ∃ b, M.run optProceed l e = (.ok (b, l), e) := by
  cases l with
  | mk tape opts =>
    cases opts with
    | none => exact ⟨_, rfl⟩
    | some p => obtain ⟨s, p⟩ := p; exact ⟨_, rfl⟩

theorem run_syn (c : Char) (l : Local) (e : Env) :
    ∃ e', M.run (syn c) l e = (.ok (synClass c, l), e') ∧ e'.tape = e.tape ∧ e'.strict = e.strict := by
  refine ⟨(e.answer (.syntab c)).2, rfl, ?_, ?_⟩
  · simp only [Env.answer]; split <;> rfl
  · simp only [Env.answer]; split <;> rfl

/-- invariants that depend on the environment only through its tape and strict flag -/
class EnvStable (I : Local → Env → Prop) : Prop where
  env : ∀ l e e', I l e → e'.tape = e.tape → e'.strict = e.strict → I l e'

instance : EnvStable (Live g ps) := ⟨fun _ _ _ h h1 h2 => h.env h1 h2⟩
instance : EnvStable (Good g ps) := ⟨fun _ _ _ h h1 h2 => h.env h1 h2⟩

variable {I : Local → Env → Prop} {E : Exn → Prop}

theorem sati_reader {α : Type} {m : M α} (h : ∀ l e, ∃ a, M.run m l e = (.ok (a, l), e)) :
    SatI I m (fun _ => True) E := by
  intro l e hi
  obtain ⟨a, ha⟩ := h l e
  rw [ha]; exact ⟨True.intro, hi⟩

theorem sati_curIdx : SatI I curIdx (fun _ => True) E := sati_reader (fun l e => ⟨_, run_curIdx l e⟩)
theorem sati_tapeSource : SatI I tapeSource (fun _ => True) E :=
  sati_reader (fun l e => ⟨_, run_tapeSource l e⟩)
theorem sati_tapeLine : SatI I tapeLine (fun _ => True) E :=
  sati_reader (fun l e => ⟨_, run_tapeLine l e⟩)
theorem sati_tapeAdded : SatI I tapeAdded (fun _ => True) E :=
  sati_reader (fun l e => ⟨_, run_tapeAdded l e⟩)
theorem sati_optStrict : SatI I optStrict (fun _ => True) E :=
  sati_reader (fun l e => ⟨_, run_optStrict l e⟩)
theorem sati_optProceed : SatI I optProceed (fun _ => True) E := sati_reader run_optProceed

theorem sati_syn [EnvStable I] (c : Char) : SatI I (syn c) (fun _ => True) E := by
  intro l e hi
  obtain ⟨e', hr, h1, h2⟩ := run_syn c l e
  rw [hr]; exact ⟨True.intro, EnvStable.env l e e' hi h1 h2⟩

/-! ## the raise sites of the tokenizer -/

/-- `MatchedPairError`, raised right after `_getc` returned `None` in a live state -/
theorem matchedPairError_ht {α : Type} (hne : g.line ≠ []) (close : Char)
    {Q : α → Local → Env → Prop} :
    HT (fun l e => Live g ps l e ∧ g.line.length ≤ (tapeOf l e).idx)
      (matchedPairError close : M α) Q (TopE g) := by
  intro l e ⟨hl, hge⟩
  have hrun : M.run (matchedPairError close : M α) l e =
      (.error (mkParsingError (matchedPairMsg close) (tapeOf l e).source
        (((tapeOf l e).idx : Int) - 1)), e) := by
    unfold matchedPairError
    simp only [M.run_bind, run_tapeSource, run_curIdx, M.run_raise]
    rfl
  rw [hrun]
  obtain ⟨⟨hf, hline, hadd⟩, hidx, _, _⟩ := hl
  have hsrc : (tapeOf l e).source = g.source := by
    unfold Tape.source Ghost.source; rw [hline, hadd]
  have hlen : 0 < g.line.length := List.length_pos_iff.mpr hne
  have heq : (tapeOf l e).idx = g.line.length := by omega
  have hs := source_length g
  rw [hsrc, heq]
  have hle : ((g.line.length : Int) - 1) ≤ (g.source.length : Int) := by omega
  unfold mkParsingError
  rw [if_pos hle]
  exact TopParsing.matchedPair close _ (by omega) hle

/-- the end-of-file error of `makeheredoc` -/
theorem heredocError_sat {α : Type} (delim : Str) {φ : α → Prop} :
    SatI (Live g ps) (do
      let line ← tapeLine
      let i ← curIdx
      (M.raise (mkParsingError
        ("here-document at line 0 delimited by end-of-file (wanted " ++ pyReprStr delim ++ ")")
        line (i : Int)) : M α)) φ (TopE g) := by
  intro l e hl
  simp only [M.run_bind, run_tapeLine, run_curIdx, M.run_raise]
  obtain ⟨⟨hf, hline, hadd⟩, hidx, _, _⟩ := hl
  rw [hline]
  have hle : ((tapeOf l e).idx : Int) ≤ (g.line.length : Int) := Int.ofNat_le.mpr hidx
  unfold mkParsingError
  rw [if_pos hle]
  exact TopParsing.heredoc delim _ hidx

/-- the same, followed by dead code -/
theorem heredocError_bind {α β : Type} (delim : Str) {k : α → M β} {φ : β → Prop} :
    SatI (Live g ps) (do
      let line ← tapeLine
      let i ← curIdx
      let x ← (M.raise (mkParsingError
        ("here-document at line 0 delimited by end-of-file (wanted " ++ pyReprStr delim ++ ")")
        line (i : Int)) : M α)
      k x) φ (TopE g) := by
  intro l e hl
  simp only [M.run_bind, run_tapeLine, run_curIdx, M.run_raise]
  obtain ⟨⟨hf, hline, hadd⟩, hidx, _, _⟩ := hl
  rw [hline]
  have hle : ((tapeOf l e).idx : Int) ≤ (g.line.length : Int) := Int.ofNat_le.mpr hidx
  unfold mkParsingError
  rw [if_pos hle]
  exact TopParsing.heredoc delim _ hidx

/-! ## `token()` above `_readtoken` -/

/-- `token()` shifts the token history, calls `_readtoken`, turns a bare token type into a token
    ending at the cursor, and stores the token: a triple for `_readtoken` (post `R`) and one for
    the bare branch give a triple for `token()`, for state predicates that do not read the token
    history and the parser-state flags. -/
theorem nextToken_ht {P : Local → Env → Prop} {R : TokType ⊕ Token → Local → Env → Prop}
    {Q : Token → Local → Env → Prop} {E : Exn → Prop}
    (hin : ∀ (l : Local) e, P l e → P { l with twoTokensAgo := l.tokenBeforeThat,
                                               tokenBeforeThat := l.lastReadToken,
                                               lastReadToken := l.currentToken } e)
    (hread : HT P readtoken R E)
    (hbare : ∀ ty, HT (R (.inl ty)) (do recordpos; createtoken ty ty.enumValue : M Token) Q E)
    (hword : ∀ t l e, R (.inr t) l e → Q t l e)
    (hcur : ∀ t (l : Local) e, Q t l e → Q t { l with currentToken := t } e)
    (hps : ∀ t (l : Local) e, Q t l e → Q t { l with ps := { l.ps with eoftoken := false } } e) :
    HT P nextToken Q E := by
  unfold nextToken
  simp only []
  refine HT.bind (Q := fun _ l e => P l e) (HT.modify hin) (fun _ => ?_)
  refine HT.bind hread (fun r => ?_)
  have fin : ∀ (cur : Token), HT (Q cur) (do
        modify fun l => { l with currentToken := cur }
        modify fun l => { l with ps := { l.ps with eoftoken := false } }
        pure cur : M Token) Q E := fun cur =>
    HT.bind (Q := fun _ l e => Q cur l e) (HT.modify (hcur cur)) (fun _ =>
      HT.bind (Q := fun _ l e => Q cur l e) (HT.modify (hps cur))
        (fun _ => HT.pure (fun _ _ h => h)))
  cases r with
  | inl ty =>
    have h := HT.bind (hbare ty) fin
    simpa only [bind_assoc] using h
  | inr t =>
    simp only [pure_bind]
    exact HT.pre (fin t) (hword t)

end Bashlex.C11
