/-
  C11: the automatic walk (`live_walk`) through a program of the model monad with the
  invariant `Live` and the exception classification `TopE`.  Same idea as the generic
  walk `wk_walk` (`Proofs/Closed.lean`), in the logic `HT` itself: between a `get` and the `set`
  that follows it the walk knows the local state (`HTAt`).
-/
import Bashlex.Props.C11.Prims
import Bashlex.Props.C11.Tactic
import Bashlex.Model.Tokenizer

namespace Bashlex.C11
open Bashlex Bashlex.M Bashlex.C10

/-- preserves `Live`, raises only `TopE` -/
abbrev LSat {α : Type} (g : Ghost) (ps : List Nat) (m : M α) : Prop :=
  SatI (Live g ps) m (fun _ => True) (TopE g)

/-- discharge `TopE g x` for a literal non-`ParsingError` `x` -/
macro "topexn" : tactic => `(tactic| first
  | exact topE_fuel
  | exact topE_ni
  | exact topE_foreign rfl
  | exact Or.inl topE_fuel
  | exact Or.inl topE_ni
  | exact Or.inl (topE_foreign rfl))

/-- known callees (extended after each lemma) -/
syntax "live_atom" : tactic
macro_rules | `(tactic| live_atom) => `(tactic| assumption)
set_option hygiene false in
macro_rules | `(tactic| live_atom) => `(tactic| exact hnp _ _)
set_option hygiene false in
macro_rules | `(tactic| live_atom) => `(tactic| exact hstep _)
set_option hygiene false in
macro_rules | `(tactic| live_atom) => `(tactic| exact hint _)
set_option hygiene false in
macro_rules | `(tactic| live_atom) => `(tactic| exact hpmp _)
set_option hygiene false in
macro_rules | `(tactic| live_atom) => `(tactic| exact hpcs _)
set_option hygiene false in
macro_rules | `(tactic| live_atom) => `(tactic| exact hd _ _ _)
set_option hygiene false in
macro_rules | `(tactic| live_atom) => `(tactic| exact hpost _ _ _ _)
set_option hygiene false in
macro_rules | `(tactic| live_atom) => `(tactic| exact hcpost _ _ _)
/- join points of a `do` block (`extract_lets` puts them into the context): each is walked once,
   its triple is named `hj1`, `hj2`, …, and its value is cleared so that the walk cannot enter it
   again at every call -/
set_option hygiene false in
macro_rules | `(tactic| live_atom) => `(tactic| exact hj1 ..)
set_option hygiene false in
macro_rules | `(tactic| live_atom) => `(tactic| exact hj2 ..)
set_option hygiene false in
macro_rules | `(tactic| live_atom) => `(tactic| exact hj3 ..)
set_option hygiene false in
macro_rules | `(tactic| live_atom) => `(tactic| exact hj4 ..)
macro_rules | `(tactic| live_atom) => `(tactic| exact getc_live _)
macro_rules | `(tactic| live_atom) => `(tactic| (refine ungetc_live _ (fun _ => ?_); assumption))
macro_rules | `(tactic| live_atom) => `(tactic| exact sati_curIdx)
macro_rules | `(tactic| live_atom) => `(tactic| exact sati_tapeSource)
macro_rules | `(tactic| live_atom) => `(tactic| exact sati_tapeLine)
macro_rules | `(tactic| live_atom) => `(tactic| exact sati_tapeAdded)
macro_rules | `(tactic| live_atom) => `(tactic| exact sati_optStrict)
macro_rules | `(tactic| live_atom) => `(tactic| exact sati_optProceed)
macro_rules | `(tactic| live_atom) => `(tactic| exact sati_syn _)

/-- known `do` blocks (the raise sites that read the tape first) -/
syntax "live_block" : tactic
macro_rules | `(tactic| live_block) => `(tactic| exact heredocError_sat _)
macro_rules | `(tactic| live_block) => `(tactic| exact heredocError_bind _)

/-- `c0 ← _getc()`, then `MatchedPairError` if `c0 is None` (the `do` notation pushes the rest of
    the block into the arms of the `match`) -/
theorem getcOrErr {g : Ghost} {ps : List Nat} (hne : g.line ≠ []) {β : Type} {r : Bool} {cl : Char}
    {F : Option Char → M β} {K : Char → M β} {ρ : β → Prop}
    (h0 : F none = (matchedPairError cl : M Char) >>= K)
    (hk : ∀ c, SatI (Live g ps) (F (some c)) ρ (TopE g)) :
    SatI (Live g ps) (getc r >>= F) ρ (TopE g) := by
  refine HT.bind (getc_live' r) (fun c0 => ?_)
  cases c0 with
  | none =>
    rw [h0]
    refine HT.bind (Q := fun _ _ _ => False) ?_ (fun _ => HT.pre_false)
    exact HT.pre (matchedPairError_ht hne cl) (fun l e h => ⟨h.1, h.2 rfl⟩)
  | some c => exact HT.pre (hk c) (fun l e h => h.1)

/-- one step of the walk through a program: invariant `Live` (any invariant whose atoms are
    known to `live_atom`), exceptions `TopE`.  A known callee (`live_atom`) is a named function
    applied to arguments, never a bind: the callees are tried after `SatI.bindE` has taken a bind
    apart, so that a bind does not pay for a pass through the whole list; the few known `do` blocks
    (`live_block`) come before it. -/
macro "live_step" : tactic => `(tactic| first
  | with_reducible exact SatI.pure True.intro
  | with_reducible exact HTAt.pure True.intro
  | with_reducible refine SatI.ite (fun _ => ?_) (fun _ => ?_)
  | with_reducible refine HTAt.ite (fun _ => ?_) (fun _ => ?_)
  | with_reducible refine HTAt.ite_bind (fun _ => ?_) (fun _ => ?_)
  | with_reducible live_block
  | ((with_reducible refine getcOrErr ?hne (K := ?_) (cl := ?_) ?_ (fun _ => ?_));
     (case hne => assumption); rotate_left 2; (focus with_reducible rfl); dsimp only)
  | with_reducible refine SatI.get_bind (fun _ => ?_)
  | ((with_reducible refine SatI.modifyT ?_); (intro _ _ h; exact h))
  | ((with_reducible refine HTAt.set_bind ?_ ?_); focus (intro _ h; exact h))
  | ((with_reducible refine HTAt.setT ?_); (intro _ h; exact h))
  | ((with_reducible refine HTAt.foreign_bind ?_); topexn)
  | ((with_reducible refine HTAt.foreign ?_); topexn)
  | with_reducible refine HTAt.pure_bind ?_
  | split_head
  | with_reducible refine HTAt.ofSatI ?_
  | with_reducible refine SatI.bindE ?_ (fun _ => ?_)
  | with_reducible live_atom
  | ((with_reducible refine SatI.raise ?_); topexn)
  | ((with_reducible refine SatI.foreign ?_); topexn)
  | ((with_reducible refine SatI.loopT ?_ (fun _ => ?_) _ _); focus topexn))

/-- walk through a program: invariant `Live`, exceptions `TopE` -/
macro "live_walk" : tactic => `(tactic| repeat' live_step)

/-- leaves of a walk with a post-condition of its own (extended per function) -/
syntax "pre_leaf" : tactic
macro_rules | `(tactic| pre_leaf) => `(tactic| with_reducible assumption)

/-- one step of the walk from the invariant `Live` to an arbitrary post-condition: the leaves
    (`pre_leaf`) establish the post-condition, everything before them preserves the invariant -/
macro "pre_step" : tactic => `(tactic| first
  | with_reducible refine HT.ite (fun _ => ?_) (fun _ => ?_)
  | with_reducible refine HTQAt.ite (fun _ => ?_) (fun _ => ?_)
  | with_reducible refine HTQAt.ite_bind (fun _ => ?_) (fun _ => ?_)
  | pre_leaf
  | with_reducible refine HT.get_bind (fun _ => ?_)
  | ((with_reducible refine HTQAt.set_bind ?_ ?_); focus (intro _ h; exact h))
  | ((with_reducible refine HTQAt.foreign_bind ?_); topexn)
  | ((with_reducible refine HTQAt.foreign ?_); topexn)
  | with_reducible refine HTQAt.pure_bind ?_
  | split_head
  | with_reducible refine HTQAt.ofHT ?_
  | ((with_reducible refine HT.bind_lE ?_ (fun _ => ?_)); focus (live_walk; done))
  | ((with_reducible refine HT.foreign ?_); topexn))

macro "pre_walk" : tactic => `(tactic| repeat' pre_step)

end Bashlex.C11
