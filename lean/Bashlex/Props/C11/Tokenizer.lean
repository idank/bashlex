/-
  C11: the walk through `Model/Tokenizer.lean` in a live state (a character has been
  read, the cursor is inside the line): every function below `readtoken` preserves `Live` and
  raises only `TopE` — in particular both `ParsingError` sites of the tokenizer pass a position
  inside their source.
-/
import Bashlex.Props.C11.Walk
import Bashlex.Proofs.TokForms

namespace Bashlex.C11
open Bashlex Bashlex.M Bashlex.C10

variable {g : Ghost} {ps : List Nat}

/-! ### tape access -/

theorem live_shellmeta (c : Char) : LSat g ps (shellmeta c) := by unfold shellmeta; live_walk
theorem live_shellquote (c : Char) : LSat g ps (shellquote c) := by unfold shellquote; live_walk
theorem live_shellexp (c : Char) : LSat g ps (shellexp c) := by unfold shellexp; live_walk
theorem live_shellbreak (c : Char) : LSat g ps (shellbreak c) := by unfold shellbreak; live_walk
macro_rules | `(tactic| live_atom) => `(tactic| exact live_shellmeta _)

macro_rules | `(tactic| live_atom) => `(tactic| exact live_shellquote _)

macro_rules | `(tactic| live_atom) => `(tactic| exact live_shellexp _)

macro_rules | `(tactic| live_atom) => `(tactic| exact live_shellbreak _)


theorem live_peekc (hne : g.line ≠ []) (rqn : Bool) : LSat g ps (peekc rqn) := by
  unfold peekc; (try simp only []); live_walk
macro_rules | `(tactic| live_atom) => `(tactic| (refine live_peekc ?_ _ <;> assumption))

theorem live_loopFuel : LSat g ps loopFuel := SatI.pure True.intro
theorem live_depthFuel : LSat g ps depthFuel := SatI.pure True.intro
macro_rules | `(tactic| live_atom) => `(tactic| exact live_loopFuel)

macro_rules | `(tactic| live_atom) => `(tactic| exact live_depthFuel)


/-! ### here-documents -/

/-- `readline(False)` (the only call: `makeheredoc`) never calls `_ungetc` -/
theorem live_readline_false : LSat g ps (readline false) := by
  unfold readline; simp only [Bool.and_false, Bool.false_eq_true, if_false]; live_walk
macro_rules | `(tactic| live_atom) => `(tactic| exact live_readline_false)



theorem live_makeheredoc (id : Nat) (kill : Bool) : LSat g ps (makeheredoc id kill) := by
  unfold makeheredoc; (try simp only []); live_walk
macro_rules | `(tactic| live_atom) => `(tactic| exact live_makeheredoc _ _)


/-! ### `_parse_matched_pair`, `_parse_comsub` -/

theorem live_pushDelimiter (c : Char) : LSat g ps (pushDelimiter c) := by unfold pushDelimiter; live_walk
theorem live_popDelimiter : LSat g ps popDelimiter := by unfold popDelimiter; (try simp only []); live_walk
theorem live_currentDelimiter : LSat g ps currentDelimiter := by unfold currentDelimiter; live_walk
macro_rules | `(tactic| live_atom) => `(tactic| exact live_pushDelimiter _)

macro_rules | `(tactic| live_atom) => `(tactic| exact live_popDelimiter)

macro_rules | `(tactic| live_atom) => `(tactic| exact live_currentDelimiter)


theorem live_mpInit (P : MPParams) : LSat g ps (mpInit P) := by
  unfold mpInit; (try simp only []); live_walk
macro_rules | `(tactic| live_atom) => `(tactic| exact live_mpInit _)


theorem live_mpPre (hne : g.line ≠ []) (P : MPParams) (lfc : Bool) (st : MPState) : LSat g ps (mpPre P lfc st) := by
  rw [mpPre_eq]; live_walk
macro_rules | `(tactic| live_atom) => `(tactic| (refine live_mpPre ?_ _ _ _ <;> assumption))

theorem live_handledollarword {pmp : MPParams → M Str} {pcs : CSParams → M Str}
    (hpmp : ∀ P, LSat g ps (pmp P)) (hpcs : ∀ P, LSat g ps (pcs P)) (P : MPParams) (rdquote : Bool)
    (c : Char) : LSat g ps (handledollarword pmp pcs P rdquote c) := by
  unfold handledollarword; (try simp only []); live_walk

theorem live_mpPost {pmp : MPParams → M Str} {pcs : CSParams → M Str}
    (hpmp : ∀ P, LSat g ps (pmp P)) (hpcs : ∀ P, LSat g ps (pcs P)) (P : MPParams) (rdquote : Bool)
    (st : MPState) (c : Char) : LSat g ps (mpPost pmp pcs P rdquote st c) := by
  have hd := live_handledollarword hpmp hpcs
  unfold mpPost; (try simp only []); live_walk

theorem live_csDelimMatches (st : CSState) : LSat g ps (csDelimMatches st) := by
  unfold csDelimMatches; (try simp only []); live_walk
macro_rules | `(tactic| live_atom) => `(tactic| exact live_csDelimMatches _)


theorem live_csA (hne : g.line ≠ []) (P : CSParams) (st : CSState) : LSat g ps (csA P st) := by
  unfold csA; (try simp only []); live_walk
theorem live_csB (hne : g.line ≠ []) (b : Bool) (st : CSState) (c : Char) : LSat g ps (csB b st c) := by
  unfold csB
  extract_lets st0 j1 j2 j3 j4 st1 st2
  have hj1 : ∀ r s, LSat g ps (j1 r s) := fun r s => by simp only [j1]; live_walk
  clear_value j1
  have hj2 : ∀ r s, LSat g ps (j2 r s) := fun r s => by simp only [j2]; live_walk
  clear_value j2
  have hj3 : ∀ r s, LSat g ps (j3 r s) := fun r s => by simp only [j3]; live_walk
  clear_value j3
  have hj4 : ∀ r s, LSat g ps (j4 r s) := fun r s => by simp only [j4]; live_walk
  clear_value j4
  live_walk
theorem live_csC (hne : g.line ≠ []) (P : CSParams) (b : Bool) (st : CSState) (c : Char) : LSat g ps (csC P b st c) := by
  unfold csC
  extract_lets cc st0 j1 j2 j3 j4
  have hj1 : ∀ r s, LSat g ps (j1 r s) := fun r s => SatI.pure True.intro
  clear_value j1
  have hj2 : ∀ r s, LSat g ps (j2 r s) := fun r s => SatI.pure True.intro
  clear_value j2
  have hj3 : ∀ r s, LSat g ps (j3 r s) := fun r s => by simp only [j3]; live_walk
  clear_value j3
  have hj4 : ∀ r s, LSat g ps (j4 r s) := fun r s => by simp only [j4]; live_walk
  clear_value j4
  live_walk
theorem live_csD (P : CSParams) (st : CSState) (c : Char) : LSat g ps (csD P st c) := by
  unfold csD; (try simp only []); live_walk
macro_rules | `(tactic| live_atom) => `(tactic| (refine live_csA ?_ _ _ <;> assumption))
macro_rules | `(tactic| live_atom) => `(tactic| (refine live_csB ?_ _ _ _ <;> assumption))
macro_rules | `(tactic| live_atom) => `(tactic| (refine live_csC ?_ _ _ _ _ <;> assumption))
macro_rules | `(tactic| live_atom) => `(tactic| exact live_csD _ _ _)


theorem live_csPre (hne : g.line ≠ []) (P : CSParams) (b : Bool) (st : CSState) : LSat g ps (csPre P b st) := by
  unfold csPre; (try simp only []); live_walk
macro_rules | `(tactic| live_atom) => `(tactic| (refine live_csPre ?_ _ _ _ <;> assumption))

theorem live_csPost {pmp : MPParams → M Str} {pcs : CSParams → M Str}
    (hpmp : ∀ P, LSat g ps (pmp P)) (hpcs : ∀ P, LSat g ps (pcs P)) (P : CSParams)
    (st : CSState) (c : Char) : LSat g ps (csPost pmp pcs P st c) := by
  unfold csPost; (try simp only []); live_walk

/-- the two mutually recursive scanners, by induction on the depth fuel -/
theorem live_pmp_pcs (hne : g.line ≠ []) : ∀ fuel,
    (∀ P, LSat g ps (parseMatchedPair fuel P)) ∧ (∀ P, LSat g ps (parseComsub fuel P)) := by
  intro fuel
  induction fuel with
  | zero =>
    refine ⟨fun P => ?_, fun P => ?_⟩
    · unfold parseMatchedPair; live_walk
    · unfold parseComsub; live_walk
  | succ fuel ih =>
    obtain ⟨hpmp, hpcs⟩ := ih
    have hpost := live_mpPost hpmp hpcs
    have hcpost := live_csPost hpmp hpcs
    refine ⟨fun P => ?_, fun P => ?_⟩
    · unfold parseMatchedPair; (try simp only []); live_walk
    · unfold parseComsub; (try simp only []); live_walk

theorem live_parseMatchedPair (hne : g.line ≠ []) (fuel : Nat) (P : MPParams) : LSat g ps (parseMatchedPair fuel P) :=
  (live_pmp_pcs hne fuel).1 P
theorem live_parseComsub (hne : g.line ≠ []) (fuel : Nat) (P : CSParams) : LSat g ps (parseComsub fuel P) :=
  (live_pmp_pcs hne fuel).2 P
macro_rules | `(tactic| live_atom) => `(tactic| (refine live_parseMatchedPair ?_ _ _ <;> assumption))
macro_rules | `(tactic| live_atom) => `(tactic| (refine live_parseComsub ?_ _ _ <;> assumption))

/-! ### words -/

theorem live_isAssignment (s : Str) : LSat g ps (isAssignment s) := by
  unfold isAssignment; (try simp only []); live_walk
macro_rules | `(tactic| live_atom) => `(tactic| exact live_isAssignment _)


theorem live_specialcasetokens (s : Str) : LSat g ps (specialcasetokens s) := by
  unfold specialcasetokens
  refine SatI.get_bind (fun l => ?_)
  extract_lets last before j1 src j2 j3
  have hj1 : ∀ r, LSat g ps (j1 r) := fun r => by simp only [j1]; live_walk
  clear_value j1
  have hj2 : ∀ r, LSat g ps (j2 r) := fun r => by simp only [j2]; live_walk
  clear_value j2
  have hj3 : ∀ r, LSat g ps (j3 r) := fun r => by simp only [j3]; live_walk
  clear_value j3
  live_walk
macro_rules | `(tactic| live_atom) => `(tactic| exact live_specialcasetokens _)


theorem live_handleshellquote (hne : g.line ≠ []) (st : RWState) (c : Char) : LSat g ps (handleshellquote st c) := by
  unfold handleshellquote; (try simp only []); live_walk
macro_rules | `(tactic| live_atom) => `(tactic| (refine live_handleshellquote ?_ _ _ <;> assumption))

theorem live_handleshellexp (hne : g.line ≠ []) (st : RWState) (c : Char) (cd : Option Char) :
    LSat g ps (handleshellexp st c cd) := by
  unfold handleshellexp; (try simp only []); live_walk
macro_rules | `(tactic| live_atom) => `(tactic| (refine live_handleshellexp ?_ _ _ _ <;> assumption))

theorem live_readtokenwordStep (hne : g.line ≠ []) (st : RWState) : LSat g ps (readtokenwordStep st) := by
  unfold readtokenwordStep
  extract_lets st0 j1 gn0 j2
  have hj1 : ∀ r s c, LSat g ps (j1 r s c) := fun r s c => by simp only [j1]; live_walk
  clear_value j1
  have hj2 : ∀ r s c b, LSat g ps (j2 r s c b) := fun r s c b => by simp only [j2]; live_walk
  clear_value j2
  live_walk
macro_rules | `(tactic| live_atom) => `(tactic| (refine live_readtokenwordStep ?_ _ <;> assumption))

theorem live_discardUntil (hne : g.line ≠ []) (c : Char) : LSat g ps (discardUntil c) := by
  unfold discardUntil; (try simp only []); live_walk
macro_rules | `(tactic| live_atom) => `(tactic| (refine live_discardUntil ?_ _ <;> assumption))

theorem live_tokentypeOfChar (c : Char) : LSat g ps (tokentypeOfChar c) := by
  unfold tokentypeOfChar; (try simp only []); live_walk
macro_rules | `(tactic| live_atom) => `(tactic| exact live_tokentypeOfChar _)


theorem live_readtokenMeta (hne : g.line ≠ []) (c : Char) : LSat g ps (readtokenMeta c) := by
  unfold readtokenMeta
  refine SatI.bindE (SatI.modifyT fun _ _ h => h) (fun _ => SatI.bindE (getc_live _) (fun peek => ?_))
  extract_lets j1 j2 j3
  have hj1 : ∀ r, LSat g ps (j1 r) := fun r => by simp only [j1]; live_walk
  clear_value j1
  have hj2 : ∀ r, LSat g ps (j2 r) := fun r => by simp only [j2]; live_walk
  clear_value j2
  have hj3 : ∀ r, LSat g ps (j3 r) := fun r => by simp only [j3]; live_walk
  clear_value j3
  live_walk
macro_rules | `(tactic| live_atom) => `(tactic| (refine live_readtokenMeta ?_ _ <;> assumption))

end Bashlex.C11
