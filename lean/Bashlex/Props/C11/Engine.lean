/-
  C11: the LR engine carries a state invariant `I` of its hooks and a value invariant
  `VI` of its stack and look-ahead (here: "every token is `TokOK`").  No grammar reasoning: the
  engine only moves values around.
-/
import Bashlex.Props.C11.Hoare
import Bashlex.LR.Engine

namespace Bashlex.C11
open Bashlex Bashlex.M Bashlex.LR

variable {V : Type}

structure HooksOK (I : Local → Env → Prop) (H : Hooks V) (VI : V → Prop) (E : Exn → Prop) : Prop where
  next : SatI I H.next (fun la => VI la.2) E
  act : ∀ p args, (∀ a, a ∈ args → VI a) → SatI I (H.act p args) (fun r => VI r.1) E
  /-- the error function never returns -/
  onError : ∀ la, VI la.2 → HT I (H.onError la) (fun _ _ _ => False) E
  /-- the engine's own raise sites -/
  foreign : ∀ ty, E (.foreign ty "LRParser.parse") ∧ E (.foreign ty "LRParser.parse(error recovery)")
  fuel : E (.outOfFuel "LRParser.parse")

def CfgOK (VI : V → Prop) (c : Cfg V) : Prop :=
  (∀ en, en ∈ c.stack → VI en.val) ∧ (∀ la, c.la = some la → VI la.2)

theorem popN_mem : ∀ (n : Nat) (st : Stack V) (es : List (Entry V)) (rest : Stack V),
    popN n st = some (es, rest) → (∀ x, x ∈ es → x ∈ st) ∧ (∀ x, x ∈ rest → x ∈ st) := by
  intro n
  induction n with
  | zero =>
    intro st es rest h
    simp only [popN] at h
    cases h
    exact ⟨(fun x hx => by cases hx), fun x hx => hx⟩
  | succ k ih =>
    intro st es rest h
    cases st with
    | nil => simp [popN] at h
    | cons e st =>
      simp only [popN] at h
      cases hp : popN k st with
      | none => rw [hp] at h; cases h
      | some v =>
        obtain ⟨es', r'⟩ := v
        rw [hp] at h
        simp only [Option.map] at h
        cases h
        obtain ⟨h1, h2⟩ := ih st es' rest hp
        refine ⟨fun x hx => ?_, fun x hx => List.mem_cons_of_mem _ (h2 x hx)⟩
        rcases List.mem_append.mp hx with hx | hx
        · exact List.mem_cons_of_mem _ (h1 x hx)
        · rw [List.mem_singleton.mp hx]; exact List.mem_cons_self

variable {I : Local → Env → Prop} {VI : V → Prop} {E : Exn → Prop}

theorem doReduce_ok (T : Tables) (H : Hooks V) (hH : HooksOK I H VI E) (c : Cfg V) (p : Nat)
    (hc : CfgOK VI c) :
    SatI I (doReduce T H c p) (Sum.elim (CfgOK VI) (fun _ => True)) E := by
  unfold doReduce
  split
  · exact SatI.foreign (hH.foreign _).1
  · split
    · exact SatI.foreign (hH.foreign _).1
    · rename_i lhs rhs _ es rest hpop
      obtain ⟨hes, hrest⟩ := popN_mem _ _ _ _ hpop
      have hargs : ∀ a, a ∈ es.map (·.val) → VI a := by
        intro a ha
        obtain ⟨en, hen, rfl⟩ := List.mem_map.mp ha
        exact hc.1 en (hes en hen)
      refine SatI.bind (hH.act p _ hargs) (fun r hr => ?_)
      obtain ⟨v, accept⟩ := r
      simp only []
      split
      · exact SatI.foreign (hH.foreign _).1
      · split
        · exact SatI.pure True.intro
        · refine SatI.pure ?_
          refine ⟨fun en hen => ?_, hc.2⟩
          rcases List.mem_cons.mp hen with h | h
          · rw [h]; exact hr
          · exact hc.1 en (hrest en h)

theorem step_ok (T : Tables) (H : Hooks V) (hH : HooksOK I H VI E) (c : Cfg V) (hc : CfgOK VI c) :
    SatI I (step T H c) (Sum.elim (CfgOK VI) (fun _ => True)) E := by
  unfold step
  simp only []
  split
  · exact doReduce_ok T H hH c _ hc
  · refine SatI.bind (φ := fun la => VI la.2) ?_ (fun la hla => ?_)
    · split
      · rename_i la hla
        exact SatI.pure (hc.2 la hla)
      · exact hH.next
    have hc' : CfgOK VI { c with la := some la } :=
      ⟨hc.1, fun la' h => by simp only [Option.some.injEq] at h; rw [← h]; exact hla⟩
    split
    · exact SatI.pure True.intro
    · split
      · exact HT.bind (hH.onError la hla) (fun _ => HT.pre_false)
      · split
        · exact SatI.pure ⟨hc.1, fun la' h => by cases h⟩
        · refine SatI.pure ⟨fun en hen => ?_, fun la' h => by cases h⟩
          rcases List.mem_cons.mp hen with h | h
          · rw [h]; exact hla
          · exact hc.1 en h
      · exact doReduce_ok T H hH _ _ hc'
      · split
        · exact SatI.pure True.intro
        · exact SatI.pure True.intro

/-- the engine preserves the invariant of its hooks and raises only their exceptions -/
theorem run_ok (T : Tables) (H : Hooks V) (hH : HooksOK I H VI E) (fuel : Nat) :
    SatI I (LR.run T H fuel) (fun _ => True) E := by
  unfold LR.run
  exact SatI.loop (J := CfgOK VI) hH.fuel (fun c hc => step_ok T H hH c hc) fuel {}
    ⟨(fun en h => by cases h), (fun la h => by cases h)⟩

end Bashlex.C11
