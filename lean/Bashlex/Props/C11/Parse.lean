/-
  C11: one parser run at every nesting depth, `runParser`, `parse`, `parsesingle`.

  `parserRun (d+1) = parserRunWith (C03.npOf (parserRun d))`.  For ANY nested-parse function `np`
  whose exceptions satisfy `N`, a run of `parserRunWith np` from a `Good` state raises only its
  own exceptions (`TopE g`: every `ParsingError` classified site by site, with the run's own
  source and a position inside it) or those of `np` (`N`).  The lemmas on the way are stated for
  any state invariant that implies `Good` (`hooks_ok_of`, `level_ok`, `npOf_ok`,
  `parserRun_good_of`), so that a stronger invariant goes the same way (`Props/C11Total.lean`).
-/
import Bashlex.Props.C11.Actions
import Bashlex.Props.C11.Engine
import Bashlex.Proofs.ParserLift
import Bashlex.Proofs.PError

namespace Bashlex.C11
open Bashlex Bashlex.M Bashlex.C10 Bashlex.LR
-- see `Proofs/ParserLift.lean`
attribute [local irreducible] M.run runParser parse parsesingle split

/-- `_parser.parse()` over the nested-parse function `np` -/
def parserRunWith (np : NestedParse) : M (Option Node) := do
  let res ← LR.run LR.realTables (lrHooks np) 1073741824
  let store := (← get).store
  match res with
  | .accepted (.node n) _ _ _ => pure (some (resolve store n))
  | _ => pure none

theorem parserRun_succ (d : Nat) :
    parserRun (d + 1) = parserRunWith (C03.npOf (parserRun d)) := rfl

/-! ## ghosts -/

/-- the ghost constants come from `tokenizer.__init__` -/
def WFG (g : Ghost) : Prop :=
  ∃ s, g.line = (Tape.ofInput s).line ∧ g.added = (Tape.ofInput s).added

/-- the ghost of a nested parser over `string`, started in environment `e` -/
def nestedGhost (string : Str) (e : Env) : Ghost :=
  { env := some e.tape, line := (Tape.ofInput string).line, added := (Tape.ofInput string).added
    strict := e.strict }

theorem ofInput_idx (s : Str) : (Tape.ofInput s).idx = 0 := Tape.ofInput_idx s

theorem good_nested (outer : Local) (s : Str) (b : Bool) (e : Env) :
    Good (nestedGhost s e) [] (C16.nestedInit outer s b) e := by
  refine ⟨⟨⟨⟨rfl, rfl⟩, rfl⟩, rfl, rfl⟩, (fun h => by cases h), Or.inl ?_, rfl⟩
  show (Tape.ofInput s).idx ≤ _
  rw [ofInput_idx]; exact Nat.zero_le _

/-! ## the hooks -/

/-- **hypothesis of the conditional theorems** (the one fact about tokens that is not proved
    here): the value of a delivered token is not longer than the rest of the line from the token's
    start -/
def TokLen : Prop :=
  ∀ g, WFG g → HT (Good g []) nextToken (fun t _ _ => TL g t) (fun _ => True)

/-- two triples of one program hold together -/
theorem ht_both {α : Type} {P P' : Local → Env → Prop} {m : M α} {Q Q' : α → Local → Env → Prop}
    {E E' : Exn → Prop} (h1 : HT P m Q E) (h2 : HT P' m Q' E') :
    HT (fun l e => P l e ∧ P' l e) m (fun a l e => Q a l e ∧ Q' a l e) (fun x => E x ∧ E' x) :=
  SatS.both (SatS.pre h1 fun _ _ h => h.1) (SatS.pre h2 fun _ _ h => h.2)

theorem ht_and {α : Type} {P : Local → Env → Prop} {m : M α} {Q Q' : α → Local → Env → Prop}
    {E : Exn → Prop} (h1 : HT P m Q E) (h2 : HT P m Q' (fun _ => True)) :
    HT P m (fun a l e => Q a l e ∧ Q' a l e) E :=
  (SatS.both h1 h2).weaken (fun _ _ h => h) (fun _ _ _ h => h) (fun _ h => h.1)

variable {g : Ghost} {N : Exn → Prop} {np : NestedParse}

/-- the hooks of the model over any invariant `I` that implies `Good`: the error function and the
    engine's own raise sites need nothing else; the two hooks that deliver values remain -/
theorem hooks_ok_of {I : Local → Env → Prop} (hI : ∀ l e, I l e → Good g [] l e)
    (hnext : HT I nextToken (fun t l e => TokOK g t ∧ I l e) (EN g N))
    (hact : ∀ p args, ArgsOK g args → SatI I ((lrHooks np).act p args) (fun r => VI g r.1) (EN g N)) :
    HooksOK I (lrHooks np) (VI g) (EN g N) := by
  refine ⟨?_, hact, ?_, ?_, Or.inl topE_fuel⟩
  · refine HT.bind (m := nextToken) hnext fun t => HT.pure fun l e hp => ⟨fun t' ht' => ?_, hp.2⟩
    cases ht'
    exact hp.1
  · exact fun la hv => satS_onError_of (fun t ht => HT.pre (pError_ht t (hv t ht).1) hI)
      (Or.inl (topE_foreign rfl))
  · intro ty
    exact ⟨Or.inl (topE_foreign (by simp)), Or.inl (topE_foreign (by simp))⟩

theorem hooks_ok (hTL : TokLen) (hg : WFG g) (hnp : NPOK g N np) :
    HooksOK (Good g []) (lrHooks np) (VI g) (EN g N) :=
  hooks_ok_of (fun _ _ h => h)
    ((ht_and nextToken_good (hTL g hg)).weaken (fun _ _ h => h)
      (fun _ _ _ h => ⟨⟨h.1.1, h.2⟩, h.1.2⟩) (fun _ h => Or.inl h))
    (fun _ args hargs => g_action hnp _ args hargs)

/-- one parser run over hooks that keep a state invariant keeps it, and raises what they raise -/
theorem level_ok {I : Local → Env → Prop} {VI : SVal → Prop} {E : Exn → Prop}
    (hH : HooksOK I (lrHooks np) VI E) : SatI I (parserRunWith np) (fun _ => True) E :=
  SatS.level (run_ok _ _ hH _) (fun _ _ _ _ _ _ h => h) (fun _ _ _ h => h)

/-- **one parser run over an arbitrary nested-parse function** -/
theorem parserRunWith_good (hTL : TokLen) (hg : WFG g) (hnp : NPOK g N np) :
    GSat g N (parserRunWith np) :=
  level_ok (hooks_ok hTL hg hnp)

/-- the nested parser over a run `inner` that is fine from the start state of every well-formed
    ghost (`I g'`: any invariant that implies `Good` and holds of a fresh parser object) -/
theorem npOf_ok {I : Ghost → Local → Env → Prop} {inner : M (Option Node)}
    {Ninner : Ghost → Exn → Prop} (hI : ∀ g l e, I g l e → Good g [] l e)
    (hinit : ∀ l s b e, I (nestedGhost s e) (C16.nestedInit l s b) e)
    (hin : ∀ g', WFG g' → SatI (I g') inner (fun _ => True) (Ninner g')) (g : Ghost) :
    NPOK g (fun x => ∃ g', WFG g' ∧ Ninner g' x) (C03.npOf inner) := by
  intro s b
  refine SatS.npOf fun l e hgood => ?_
  have hwf : WFG (nestedGhost s e) := ⟨s, rfl, rfl⟩
  refine SatS.weaken (hin _ hwf) ?_ ?_ (fun x h => Or.inr ⟨_, hwf, h⟩)
  · rintro _ _ ⟨h1, h2⟩; rw [h1, h2]; exact hinit l s b e
  · -- the nested run did not touch the environment's tape or options
    rintro r l' e' ⟨_, h⟩
    obtain ⟨⟨⟨hfr, hstrict⟩, _, _⟩, _⟩ := hI _ _ _ h
    exact ⟨True.intro, Good.env (l := { l with ps := l'.ps }) hgood hfr.2 hstrict⟩

/-! ## every nesting depth -/

/-- the exceptions of a parser run at nesting fuel `d` with ghost `g`: its own, or those of a
    nested run (over some other input) -/
def ExnAt : Nat → Ghost → Exn → Prop
  | 0, _, x => x = .outOfFuel "nesting"
  | d + 1, g, x => TopE g x ∨ ∃ g', WFG g' ∧ ExnAt d g' x

/-- every nesting depth, from hooks that are fine over the nested parser of each depth -/
theorem parserRun_good_of {I : Ghost → Local → Env → Prop}
    (hI : ∀ g l e, I g l e → Good g [] l e)
    (hinit : ∀ l s b e, I (nestedGhost s e) (C16.nestedInit l s b) e)
    (hH : ∀ d g N, WFG g → NPOK g N (C03.npOf (parserRun d)) →
      HooksOK (I g) (lrHooks (C03.npOf (parserRun d))) (VI g) (EN g N)) :
    ∀ d g, WFG g → SatI (I g) (parserRun d) (fun _ => True) (ExnAt d g) :=
  parserRun_ind (J := fun d m => ∀ g, WFG g → SatI (I g) m (fun _ => True) (ExnAt d g))
    (fun _ _ => SatI.raise rfl)
    fun d ih g hg => level_ok (hH d g _ hg (npOf_ok hI hinit ih g))

theorem parserRun_good (hTL : TokLen) :
    ∀ d g, WFG g → SatI (Good g []) (parserRun d) (fun _ => True) (ExnAt d g) :=
  parserRun_good_of (fun _ _ _ h => h) good_nested fun _ _ _ hg hnp => hooks_ok hTL hg hnp

/-- the `AssertionError` of `ParsingError.__init__` is none of them, and every `ParsingError`
    carries a position inside its source -/
theorem exnAt_shape : ∀ d g x, ExnAt d g x →
    x ≠ initAssert ∧ ∀ m src p, x = .parsing m src p → 0 ≤ p ∧ p ≤ (src.length : Int) := by
  intro d
  induction d with
  | zero =>
    intro g x h
    cases h
    exact ⟨(fun h => by cases h), fun m src p h => by cases h⟩
  | succ d ih =>
    intro g x h
    rcases h with h | ⟨g', _, h⟩
    · cases x with
      | parsing m src p =>
        refine ⟨(fun h => by cases h), fun m' src' p' h' => ?_⟩
        cases h'
        exact TopParsing.le h
      | notImplemented w => exact ⟨(fun h => by cases h), fun m src p h => by cases h⟩
      | foreign ty site => exact ⟨h, fun m src p h => by cases h⟩
      | outOfFuel s => exact ⟨(fun h => by cases h), fun m src p h => by cases h⟩
    · exact ih g' x h

/-! ## the entry points -/

/-- the ghost of a top-level run over `s` -/
def topGhost (s : Str) (o : Opts) : Ghost :=
  { env := none, line := (Tape.ofInput s).line, added := (Tape.ofInput s).added, strict := o.strict }

theorem topGhost_wf (s : Str) (o : Opts) : WFG (topGhost s o) := ⟨s, rfl, rfl⟩

theorem good_top (s : Str) (o : Opts) (t : List Char) :
    Good (topGhost s o) [] { limit := o.limit }
      { tape := Tape.ofInput s, strict := o.strict, proceed := o.proceed, touched := t } := by
  refine ⟨⟨⟨rfl, rfl⟩, rfl, rfl⟩, (fun h => by cases h), Or.inl ?_, rfl⟩
  show (Tape.ofInput s).idx ≤ _
  rw [ofInput_idx]; exact Nat.zero_le _

theorem runParser_exn (hTL : TokLen) {s : Str} {o : Opts} {t : List Char} {x : Exn}
    (h : (runParser s o t).1 = .error x) : ExnAt maxDepth (topGhost s o) x :=
  runParser_sat_error (parserRun_good hTL _ _ (topGhost_wf s o)) (good_top s o t) h

/-- where the loop of `parse` takes its errors from: a run over a suffix `s[index:]`, `index > 0` -/
theorem parseLoop_exn (s : Str) (o : Opts) :
    ∀ (fuel index : Nat) (parts : List Node) (touched : List Char) (x : Exn), 0 < index →
      (parseLoop s o fuel index parts touched).1 = .error x →
      x = .outOfFuel "parse" ∨
      ∃ i t, 0 < i ∧ i < s.length ∧ (runParser (s.drop i) o t).1 = .error x := by
  intro fuel index parts touched x hpos h
  rcases parseLoop_error s o fuel index parts touched x h with h | ⟨i, t, hi, h⟩
  · exact Or.inl h.1
  · exact Or.inr ⟨i, t, by omega, h⟩

/-- an exception of `parse` is the exception of its first parser run (over `s`), or of a later
    run over a proper suffix of `s` -/
theorem parse_exn (s : Str) (o : Opts) {x : Exn} (h : (parse s o).1 = .exn x) :
    (runParser s o []).1 = .error x ∨ x = .outOfFuel "parse" ∨
    ∃ i t, 0 < i ∧ i < s.length ∧ (runParser (s.drop i) o t).1 = .error x :=
  (parse_error h).imp_right Or.inr

theorem parsesingle_exn (s : Str) (o : Opts) {x : Exn} (h : (parsesingle s o).1 = .exn x) :
    (runParser s o []).1 = .error x :=
  parsesingle_error h

end Bashlex.C11
