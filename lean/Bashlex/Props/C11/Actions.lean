/-
  C11: the semantic actions and `p_error` from a `Good` state: `Good` is preserved, every
  token handed on satisfies `TokOK`, and every exception is the parser's own (`TopE`) or one of
  the nested parser's (`N`).  No shape reasoning is needed here (that is C01's business): every
  foreign exception but the `AssertionError` of `ParsingError.__init__` is fine for `TopE`.
-/
import Bashlex.Props.C11.Expand
import Bashlex.Proofs.ClosedActions

namespace Bashlex.C11
open Bashlex Bashlex.M Bashlex.C10

/-- what is known of a token delivered by `token()` -/
def TokOK (g : Ghost) (t : Token) : Prop := TF g t ∧ TL g t

/-- the value invariant of the LR stack: tokens are `TokOK` -/
def VI (g : Ghost) (v : SVal) : Prop := ∀ t, v = .tok t → TokOK g t

def ArgsOK (g : Ghost) (args : List SVal) : Prop := ∀ a, a ∈ args → VI g a

variable {g : Ghost} {N : Exn → Prop} {np : NestedParse}

theorem g_gather : GSat g N gatherheredocuments :=
  SatI.weaken gather_good (fun _ h => h) (fun _ h => Or.inl h)

/-! ### the actions -/

theorem topE_of_actionSite {a b : String} (h : actionSite a b = true) : TopE g (.foreign a b) := by
  refine topE_foreign ?_
  simp only [actionSite, Bool.or_eq_true, Bool.and_eq_true, beq_iff_eq, List.contains_cons,
    List.contains_nil, Bool.or_false] at h
  rcases h with (((rfl | rfl) | rfl) | ⟨rfl, h⟩) | ⟨rfl, h⟩
  · rfl
  · rfl
  · rfl
  · rfl
  · rcases h with rfl | rfl | rfl <;> rfl

/-- preserving `Good` and raising within `EN` survives `pure`, `bind` and reading the state -/
theorem gsat_reads : Reads (fun {α} (m : M α) => GSat g N m)
    (fun {α} l0 (m : M α) => HTAt (Good g []) l0 m (fun _ => True) (EN g N)) :=
  ⟨⟨fun _ => SatI.pure True.intro, SatI.bindE⟩, SatI.get_bind, HTAt.ofSatI⟩

/-- a fact about the value that holds from every state joins what holds from `I` -/
theorem SatI.and_sat {α : Type} {I : Local → Env → Prop} {E : Exn → Prop} {m : M α} {ψ : α → Prop}
    (h1 : SatI I m (fun _ => True) E) (h2 : Sat m ψ) : SatI I m ψ E := by
  intro l e hi
  have a1 := h1 l e hi
  have a2 := h2 l e
  revert a1 a2
  rcases m.run l e with ⟨r, e'⟩
  cases r with
  | ok v => exact fun a1 a2 => ⟨a2, a1.2⟩
  | error x => exact fun a1 _ => a1

/-- **every semantic action** preserves `Good`, returns a value satisfying `VI`, and raises only
    the parser's own exceptions or those of the nested parser: the walk of
    `Proofs/ClosedActions.lean` (the tokens it expands are among the arguments), and a token it
    returns is one of the arguments (`nt_actionCore`) -/
theorem g_actionCore (hnp : NPOK g N np) (fname : String) (args : List SVal) (hargs : ArgsOK g args) :
    SatI (Good g []) (actionCore np fname args) (fun r => VI g r.1) (EN g N) :=
  have hF : ∀ {α : Type} {a b : String}, actionSite a b = true → GSat g N (M.foreign a b : M α) :=
    fun h => SatI.foreign (Or.inl (topE_of_actionSite h))
  have hW := fun t (ht : SVal.tok t ∈ args) => g_expandword hnp t (hargs _ ht t rfl).2
  SatI.and_sat
    (rd_actionCore gsat_reads hF hW
      (rd_handleNotImplemented gsat_reads hF hW sati_optProceed (fun _ => SatI.raise (Or.inl topE_ni)))
      fname (fun _ => SatI.modifyT (fun _ _ h => h)) (fun _ => g_gather)
      (fun _ => fun _ _ _ hk => HTAt.set_bind (fun _ h => h) hk))
    ((nt_actionCore np fname).weaken (fun _ h t ht => hargs _ (h t ht) t rfl) (fun _ h => h))

theorem g_action (hnp : NPOK g N np) (fname : String) (args : List SVal) (hargs : ArgsOK g args) :
    SatI (Good g []) (action np fname args) (fun r => VI g r.1) (EN g N) := by
  unfold action
  refine SatI.bind (g_actionCore hnp fname args hargs) (fun r hr => ?_)
  split
  · exact SatI.foreign (Or.inl (topE_foreign rfl))
  · exact SatI.pure hr

/-! ### `p_error` -/

/-- **`p_error` never trips the assertion of `ParsingError.__init__`**: "unexpected EOF" is
    raised at the end of the source, "unexpected token" at the start of the token, which is inside
    the source (`TF`) -/
theorem pError_ht {ps : List Nat} (t : Token) (ht : TF g t) :
    HT (Good g ps) (pError t) (fun _ _ _ => False) (EN g N) := by
  intro l e hl
  obtain ⟨⟨hf, hline, hadd⟩, _⟩ := hl
  have hsrc : (tapeOf l e).source = g.source := by
    unfold Tape.source Ghost.source; rw [hline, hadd]
  unfold pError
  simp only [M.run_bind, run_tapeSource, hsrc]
  by_cases heof : t.is .EOF = true
  · rw [if_pos heof, M.run_raise]
    unfold mkParsingError
    rw [if_pos (Int.le_refl _)]
    exact Or.inl TopParsing.eof
  · rw [if_neg heof, M.run_raise]
    have hle : t.lexpos ≤ g.source.length := Nat.le_trans ht (source_length g)
    unfold mkParsingError
    rw [if_pos (Int.ofNat_le.mpr hle)]
    exact Or.inl (TopParsing.token t ht hle)

end Bashlex.C11
