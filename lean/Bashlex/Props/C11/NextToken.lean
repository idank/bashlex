/-
  C11: `gatherheredocuments`, `_readtoken`, `token()` from a `Good` state: they preserve
  `Good`, raise only `TopE`, and every delivered token starts inside the line (`TF`).
-/
import Bashlex.Props.C11.Tokens

namespace Bashlex.C11
open Bashlex Bashlex.M Bashlex.C10
set_option linter.unusedVariables false

variable {g : Ghost} {ps : List Nat}

/-! ## `gatherheredocuments` -/

theorem peekc_good (rqn : Bool) :
    HT (Good g ps) (peekc rqn)
      (fun p l e => Good g ps l e ∧ (p.isSome = true → Live g ps l e ∧ g.line ≠ []) ∧
        (p = none → l.eolLookahead = none)) (TopE g) := by
  unfold peekc
  simp only []
  refine HT.bind (getc_good rqn) (fun c => ?_)
  cases c with
  | none =>
    refine HT.ite (fun h => by cases h) (fun _ => ?_)
    exact HT.pure (fun l e h => ⟨h.1, (fun h' => by cases h'), fun _ => (h.2.2 rfl).1⟩)
  | some c =>
    refine HT.pre (P := fun l e => g.line ≠ [] ∧ Live g ps l e) (HT.pre_pure (fun hne => ?_))
      (fun l e h => ⟨(h.2.1 rfl).2, (h.2.1 rfl).1⟩)
    refine HT.ite (fun _ => ?_) (fun h => absurd rfl h)
    refine HT.bind_lE (ungetc_live (some c) (fun _ => hne)) (fun _ => ?_)
    exact HT.pure (fun l e h => ⟨h.good, fun _ => ⟨h, hne⟩, fun h' => by cases h'⟩)

theorem bumpIdx_good :
    HT (fun l e => Good g ps l e ∧ l.eolLookahead = none ∧ strictOf l e = false) bumpIdx
      (fun _ l e => Good g ps l e) (TopE g) := by
  intro l e ⟨hg, hla, hs⟩
  rw [run_bumpIdx]
  refine ⟨hg.1.put rfl rfl, ?_, Or.inr ⟨?_, ?_⟩, ?_⟩
  · rw [putL_eol]; exact hg.2.1
  · rw [putL_eol]; exact hla
  · rw [strictOf_put]; exact hs
  · rw [putL_positions]; exact hg.2.2.2

/-- **`gatherheredocuments` preserves `Good`**: it is the only place where the cursor may leave
    the line (`bumpIdx`: non-strict mode, end of input, pending here-document), and then nothing
    can be read any more -/
theorem gather_good : SatI (Good g ps) gatherheredocuments (fun _ => True) (TopE g) := by
  unfold gatherheredocuments
  simp only []
  refine SatI.bindE (SatI.get (fun _ => True.intro)) (fun l0 => ?_)
  refine SatI.loopT topE_fuel (fun _ => ?_) _ _
  refine SatI.bindE (SatI.get (fun _ => True.intro)) (fun l => ?_)
  split
  · exact SatI.pure True.intro
  · rename_i id kill rest _
    -- the common continuation, from a live state
    have hjp : ∀ {P : Local → Env → Prop}, (∀ l e, P l e → Live g ps l e) →
        HT P (do
          modify fun l => { l with redirstack := rest }
          makeheredoc id kill
          pure (Sum.inl ()) : M (Unit ⊕ Unit))
          (fun a l e => True ∧ Good g ps l e) (TopE g) := by
      intro P hP
      have : SatI (Live g ps) (do
          modify fun l => { l with redirstack := rest }
          makeheredoc id kill
          pure (Sum.inl ()) : M (Unit ⊕ Unit)) (fun _ => True) (TopE g) := by live_walk
      exact HT.weaken this hP (fun _ _ _ h => ⟨h.1, h.2.good⟩) (fun _ h => h)
    refine HT.bind (peekc_good true) (fun p => ?_)
    cases p with
    | none =>
      refine HT.ite (fun _ => ?_) (fun h => absurd rfl h)
      refine HT.bind (HT.reader run_optStrict) (fun s => ?_)
      cases s with
      | false =>
        refine HT.ite (fun _ => ?_) (fun h => absurd rfl h)
        refine HT.bind (Q := fun _ l e => Good g ps l e) ?_ (fun _ => HT.pure (fun l e h => ⟨True.intro, h⟩))
        exact HT.pre bumpIdx_good (fun l e h => ⟨h.2.1, h.2.2.2 rfl, h.1.symm⟩)
      | true =>
        refine HT.ite (fun h => by cases h) (fun _ => ?_)
        refine hjp (fun l e h => ?_)
        obtain ⟨hs, hg, _, _⟩ := h
        refine ⟨hg.1, ?_, hg.2.1, hg.2.2.2⟩
        rcases hg.2.2.1 with h | h
        · exact h
        · rw [h.2] at hs; cases hs
    | some c =>
      refine HT.ite (fun h => by cases h) (fun _ => ?_)
      exact hjp (fun l e h => (h.2.1 rfl).1)

/-- from a live state -/
theorem gather_live_good : HT (Live g ps) gatherheredocuments (fun _ l e => Good g ps l e) (TopE g) :=
  HT.weaken gather_good (fun _ _ h => h.good) (fun _ _ _ h => h.2) (fun _ h => h)

/-! ## `_readtoken` -/

theorem tf_of_pos {t : Token} {a : Nat} (ha : a ≤ g.line.length - 1) (h : ∃ b, t.pos = some (a, b)) :
    TF g t := by
  obtain ⟨b, hb⟩ := h
  unfold TF Token.lexpos
  rw [hb]; exact ha

theorem tf_eof : TF g { ttype := some .EOF, value := .none } := Nat.zero_le _

/-- what `_readtoken` returns: a bare token type with the start position on the stack, or a
    token that starts inside the line -/
def ReadPost (g : Ghost) (r : TokType ⊕ Token) (l : Local) (e : Env) : Prop :=
  match r with
  | .inl _ => ∃ a, a ≤ g.line.length - 1 ∧ Good g [a] l e
  | .inr t => TF g t ∧ Good g [] l e

theorem sati_tokentypeOfChar {I : Local → Env → Prop} (c : Char) :
    SatI I (tokentypeOfChar c) (fun _ => True) (TopE g) := by
  unfold tokentypeOfChar
  split
  · exact SatI.pure True.intro
  · exact SatI.foreign (topE_foreign rfl)

/-- the newline branch: `gatherheredocuments`, then the bare NEWLINE type -/
theorem nl_tail {a : Nat} (ha : a ≤ g.line.length - 1) {f : Local → Local} {c : Char}
    (hf : ∀ l e, Good g [a] l e → Good g [a] (f l) e) :
    HT (Live g [a]) (do
      gatherheredocuments
      modify f
      let t ← tokentypeOfChar c
      pure (Sum.inl t) : M (TokType ⊕ Token)) (ReadPost g) (TopE g) := by
  refine HT.bind gather_live_good (fun _ => ?_)
  refine HT.bind_lE (SatI.modifyT hf) (fun _ => ?_)
  refine HT.bind_lE (sati_tokentypeOfChar c) (fun t => ?_)
  exact HT.pure (fun l e h => ⟨a, ha, h⟩)

theorem tt_tail {a : Nat} (ha : a ≤ g.line.length - 1) {c : Char} :
    HT (Live g [a]) (do
      let t ← tokentypeOfChar c
      pure (Sum.inl t) : M (TokType ⊕ Token)) (ReadPost g) (TopE g) := by
  refine HT.bind_lE (sati_tokentypeOfChar c) (fun t => ?_)
  exact HT.pure (fun l e h => ⟨a, ha, h.good⟩)

theorem inl_tail {a : Nat} (ha : a ≤ g.line.length - 1) {t : TokType} :
    HT (Live g [a]) (pure (Sum.inl t) : M (TokType ⊕ Token)) (ReadPost g) (TopE g) :=
  HT.pure (fun l e h => ⟨a, ha, h.good⟩)

theorem readtokenword_live (hne : g.line ≠ []) (c : Char) (a : Nat) :
    HT (Live g [a]) (readtokenword c)
      (fun t l e => (∃ b, t.pos = some (a, b)) ∧ Live g [] l e) (TopE g) := by
  unfold readtokenword
  refine HT.bind_lE live_loopFuel (fun fuel => ?_)
  refine HT.bind_lE ?_ (fun st => finishWord_live st a)
  live_walk

theorem rtw_tail (hne : g.line ≠ []) {a : Nat} (ha : a ≤ g.line.length - 1) {c : Char} :
    HT (Live g [a]) (do
      let t ← readtokenword c
      pure (Sum.inr t) : M (TokType ⊕ Token)) (ReadPost g) (TopE g) := by
  refine HT.bind (readtokenword_live hne c a) (fun t => ?_)
  exact HT.pure (fun l e h => ⟨tf_of_pos ha h.1, h.2.good⟩)

macro_rules | `(tactic| pre_leaf) => `(tactic|
  ((with_reducible refine nl_tail ?hne ?_); (case hne => assumption); (intro _ _ h; exact h)))
macro_rules | `(tactic| pre_leaf) => `(tactic| (with_reducible refine tt_tail ?_ <;> assumption))
macro_rules | `(tactic| pre_leaf) => `(tactic| (with_reducible refine inl_tail ?_ <;> assumption))
macro_rules | `(tactic| pre_leaf) => `(tactic|
  (with_reducible refine rtw_tail ?_ ?_ <;> assumption))
theorem recordpos_bind {β : Type} {k : Unit → M β} {Q : β → Local → Env → Prop}
    (h : ∀ a, a ≤ g.line.length - 1 → HT (Live g [a]) (k ()) Q (TopE g)) :
    HT (Live g []) (recordpos 1 >>= k) Q (TopE g) :=
  HT.bind (recordpos_live 1) (fun _ => HT.pre_exists (fun a => HT.pre_pure (fun ha => h a ha)))

macro_rules | `(tactic| pre_leaf) => `(tactic| with_reducible refine recordpos_bind (fun _ _ => ?_))

theorem readtoken_good : HT (Good g []) readtoken (ReadPost g) (TopE g) := by
  unfold readtoken
  simp only []
  refine HT.bind_lE (SatI.pure True.intro) (fun fuel => ?_)
  refine HT.bind (getc_good true) (fun c0 => ?_)
  -- skipping blanks
  refine HT.bind (Q := fun c l e => Good g [] l e ∧ (c.isSome = true → Live g [] l e ∧ g.line ≠ [])) ?_
    (fun c1 => ?_)
  · refine HT.pre (HT.loop (I := fun c l e => Good g [] l e ∧
        (c.isSome = true → Live g [] l e ∧ g.line ≠ [])) topE_fuel (fun c => ?_) fuel c0)
      (fun l e h => ⟨h.1, h.2.1⟩)
    cases c with
    | none => exact HT.pure (fun l e h => h)
    | some ch =>
      refine HT.ite (fun _ => ?_) (fun _ => HT.pure (fun l e h => h))
      refine HT.bind (HT.pre (getc_good true) (fun l e h => h.1)) (fun c' => ?_)
      exact HT.pure (fun l e h => ⟨h.1, h.2.1⟩)
  cases c1 with
  | none => exact HT.pure (fun l e h => ⟨tf_eof, h.1⟩)
  | some ch =>
    refine HT.pre (P := fun l e => g.line ≠ [] ∧ Live g [] l e) (HT.pre_pure (fun hne => ?_))
      (fun l e h => ⟨(h.2 rfl).2, (h.2 rfl).1⟩)
    simp only [pure_bind]
    pre_walk

/-! ## `token()` -/

/-- **every token `token()` delivers starts inside the line**, and `token()` preserves `Good` -/
theorem nextToken_good :
    HT (Good g []) nextToken (fun t l e => TF g t ∧ Good g [] l e) (TopE g) :=
  nextToken_ht (fun _ _ h => h) readtoken_good
    (fun ty => by
      refine HT.pre_exists (fun a => HT.pre_pure (fun ha => ?_))
      refine HT.bind (recordpos_good 0) (fun _ => HT.pre_exists (fun b => ?_))
      exact HT.post (createtoken_good ty ty.enumValue [] a b)
        (fun cur l e h => ⟨tf_of_pos ha ⟨b, h.1⟩, h.2⟩))
    (fun _ _ _ h => h) (fun _ _ _ h => h) (fun _ _ _ h => h)

end Bashlex.C11
