/-
  C11: word expansion (`Model/Subst.lean`) from a `Good` state, over a nested parser `np`
  whose exceptions satisfy `N`: `Good` is preserved and every exception is one of the parser's own
  (`TopE`) or one of the nested parser's (`N`).  The only raise site here, the "bad substitution"
  error of `_expandwordinternal`, passes `wordtoken.lexpos + index into the token value`: it is
  inside the source because the value of a token is not longer than the text it spans (`TL`).
-/
import Bashlex.Props.C11.NextToken
import Bashlex.Model.Subst

namespace Bashlex.C11
open Bashlex Bashlex.M Bashlex.C10

/-- the exceptions of one parser run: its own, or those of its nested parsers -/
def EN (g : Ghost) (N : Exn → Prop) (x : Exn) : Prop := TopE g x ∨ N x

/-- the second token fact: a backquote at index `k` of the value of a token sits before the last
    character of the line, counted from the token's start.  (Implied by "the value of a token is
    not longer than the rest of the line from the token's start", `tl_of_length`: the value is the
    spanned text with the line continuations removed.) -/
def TL (g : Ghost) (t : Token) : Prop :=
  ∀ k, t.valueStr[k]? = some '`' → t.lexpos + k ≤ g.line.length - 1

theorem tl_of_length {g : Ghost} {t : Token} (h : t.lexpos + t.valueStr.length ≤ g.line.length) :
    TL g t := by
  intro k hk
  have := (List.getElem?_eq_some_iff.mp hk).1
  omega

/-- preserves `Good` (with an empty position stack), raises only `EN` -/
abbrev GSat {α : Type} (g : Ghost) (N : Exn → Prop) (m : M α) : Prop :=
  SatI (Good g []) m (fun _ => True) (EN g N)

/-- the nested parser, seen from the parser that calls it -/
@[reducible] def NPOK (g : Ghost) (N : Exn → Prop) (np : NestedParse) : Prop := ∀ s b, GSat g N (np s b)

variable {g : Ghost} {N : Exn → Prop} {np : NestedParse}

theorem g_adjustpositions (n : Node) (b l : Nat) : GSat g N (adjustpositions n b l) := by
  unfold adjustpositions; live_walk
macro_rules | `(tactic| live_atom) => `(tactic| exact g_adjustpositions _ _ _)


theorem g_recursiveparse (hnp : NPOK g N np) (base : Str) (i : Nat) (b : Bool) :
    GSat g N (recursiveparse np base i b) := by
  unfold recursiveparse; (try simp only []); live_walk
macro_rules | `(tactic| live_atom) => `(tactic| (refine g_recursiveparse ?_ _ _ _ <;> assumption))

theorem g_parsedolparen (hnp : NPOK g N np) (base : Str) (i : Nat) :
    GSat g N (parsedolparen np base i) := by
  unfold parsedolparen; (try simp only []); live_walk
macro_rules | `(tactic| live_atom) => `(tactic| (refine g_parsedolparen ?_ _ _ <;> assumption))

theorem g_paramexpand (hnp : NPOK g N np) (s : Str) (i : Nat) : GSat g N (paramexpand np s i) := by
  unfold paramexpand; (try simp only []); live_walk
macro_rules | `(tactic| live_atom) => `(tactic| (refine g_paramexpand ?_ _ _ <;> assumption))

/-- the "bad substitution" error -/
theorem badSubst_sat {α : Type} {ps : List Nat} (tok : Token) (k : Nat)
    (h : tok.lexpos + k ≤ g.source.length) {φ : α → Prop} :
    SatI (Good g ps) (do
      let src ← tapeSource
      (M.raise (mkParsingError
        ("bad substitution: no closing \"`\" in " ++ String.ofList tok.valueStr) src
        ((tok.lexpos + k : Nat) : Int)) : M α)) φ (EN g N) := by
  intro l e hl
  simp only [M.run_bind, run_tapeSource, M.run_raise]
  obtain ⟨⟨hf, hline, hadd⟩, _⟩ := hl
  have hsrc : (tapeOf l e).source = g.source := by
    unfold Tape.source Ghost.source; rw [hline, hadd]
  rw [hsrc]
  have hle : ((tok.lexpos + k : Nat) : Int) ≤ (g.source.length : Int) := Int.ofNat_le.mpr h
  unfold mkParsingError
  rw [if_pos hle]
  exact Or.inl (TopParsing.badSubst tok k h)

set_option hygiene false in
macro_rules | `(tactic| live_block) => `(tactic| (refine hbad ?_ <;> assumption))

theorem g_expandStep (hnp : NPOK g N np) (tok : Token) (htl : TL g tok) (qd : Bool) (st : ExpSt) :
    GSat g N (expandStep np tok tok.valueStr qd st) := by
  unfold expandStep
  simp only []
  refine SatI.ite (fun _ => SatI.pure True.intro) (fun _ => ?_)
  split
  · exact SatI.foreign (Or.inl (topE_foreign rfl))
  rename_i c hc
  have hbad : (c == '`') = true → SatI (Good g []) (do
      let src ← tapeSource
      (M.raise (mkParsingError
        ("bad substitution: no closing \"`\" in " ++ String.ofList tok.valueStr) src
        ((tok.lexpos + st.sindex : Nat) : Int)) : M (ExpSt ⊕ (List Node × Str × Bool))))
      (fun _ => True) (EN g N) := by
    intro hq
    have hc' : tok.valueStr[st.sindex]? = some '`' := by
      have : c = '`' := by simpa using hq
      rw [← this]; exact hc
    exact badSubst_sat tok st.sindex (Nat.le_trans (htl _ hc') (source_length g))
  live_walk

theorem g_expandwordinternal (hnp : NPOK g N np) (tok : Token) (htl : TL g tok) (qd : Bool) :
    GSat g N (expandwordinternal np tok qd) := by
  have hstep := g_expandStep hnp tok htl qd
  unfold expandwordinternal
  simp only []
  live_walk

theorem g_expandword (hnp : NPOK g N np) (tok : Token) (htl : TL g tok) :
    GSat g N (expandword np tok) := by
  have hint := g_expandwordinternal hnp tok htl
  unfold expandword
  simp only []
  live_walk

end Bashlex.C11
