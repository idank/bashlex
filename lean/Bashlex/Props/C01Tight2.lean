/-
  Property C01, tightened further: `C01_partial_tight2`, `C01_partial_single_tight2`,
  `C01_partial_split_tight2` = `C01_partial_tight` (`Props/C01Tight.lean`) without
  `IndexError|_extractcommandsubst` in the list of foreign exceptions above the tokenizer.

  The site is `string[zindex + 1]` in `_paramexpand` after `$(`: it raises iff the word value ends in
  `$(`.  Proof (`Props/C01/T2*.lean`):
    T2Scan   (state-agnostic) what `_parse_matched_pair` / `_parse_comsub` return is not empty and does
             not end in `(` (walk of `Props/C03/RE/WScan*.lean` with another predicate);
    T2Word   (state-agnostic) `sat_nextToken_tp`: no value of a delivered token ends in `$(` -- the loop of
             `_readtokenword` appends a non-break character, an escaped character right after its `\`,
             `$$`, or what a scanner returned; bare tokens by enumeration;
    T2Act    word expansion and all semantic actions, given tokens with that property (`h9_action`);
             an action returns no token that was not among its arguments (`vt_action`);
    T2Parse  LR engine (`C11.run_ok` with the value invariant `VT`), nested parsers of every depth,
             `parse_e9`, `parsesingle_e9`, `split_e9`.
  Left in `knownForeignTight2`: the three recorded defects (D24, D18, D35: witnesses in
  `Props/C01/Witness.lean`), `AssertionError|visitnode` (needs span bounds of nested parses INSIDE the
  exception discipline) and `IndexError|_expandwordinternal` (needs the alignment of the expander's
  scan with the tokenizer's quoting); no witness found for the last two.

  Termination (partial, `Props/C01/T2Fuel.lean`, at the level of the tokenizer's state, NOT lifted to
  `parse`): with the potential `Phi` = characters left on the tape (+1 for the look-ahead slot),
  `getc_phi` (one `_getc` that returns a character lowers `Phi`), `ht_loop_mu` (measured loops):
  `discardUntil_nofuel`, `readline_nofuel` (`readline(False)`), `readtoken_loop_nofuel`.  The loops of
  `_parse_matched_pair` / `_parse_comsub` / `_readtokenword` / `makeheredoc` are not done: `_ungetc`
  after a `_getc` that returned `None` RAISES `Phi` by one (D32), so they need a finer measure.
-/
import Bashlex.Props.C01Tight
import Bashlex.Props.C01.T2Parse
import Bashlex.Props.C01.T2Fuel

namespace Bashlex.C01
open Bashlex Bashlex.M
-- see `Proofs/ParserLift.lean`
attribute [local irreducible] M.run runParser parse parsesingle split

def knownForeignTight2 : List Exn :=
  [ .foreign "AttributeError" "_recursiveparse",     -- D24, witness "` `"
    .foreign "AssertionError" "handleAssert",        -- D18
    .foreign "IndexError" "_parsedolparen",          -- D35
    .foreign "AssertionError" "visitnode",           -- not excluded, no witness
    .foreign "IndexError" "_expandwordinternal" ]    -- not excluded, no witness

/-- the discipline of `C01_partial_tight2` -/
def Tight2 (x : Exn) : Prop :=
  (∃ m s p, x = .parsing m s p) ∨ (∃ w, x = .notImplemented w) ∨
  x ∈ knownForeignTight2 ∨
  (∃ site, x = .outOfFuel site ∧ (site ∈ fuelSites ∨ site ∈ tokFuelTight))

theorem tight2_of {x : Exn} (h : Tight x) (h9 : E9 x) : Tight2 x := by
  rcases h with h | h | h | h | h
  · exact Or.inl h
  · exact Or.inr (Or.inl h)
  · refine Or.inr (Or.inr (Or.inl ?_))
    simp only [knownForeignTight, List.mem_cons, List.mem_nil_iff, or_false] at h
    rcases h with rfl | rfl | rfl | rfl | rfl | rfl
    all_goals first | exact absurd rfl h9 | simp [knownForeignTight2]
  · simp [tokForeignTight] at h
  · exact Or.inr (Or.inr (Or.inr h))

theorem tight2_tight {x : Exn} (h : Tight2 x) : Tight x := by
  rcases h with h | h | h | h
  · exact Or.inl h
  · exact Or.inr (Or.inl h)
  · refine Or.inr (Or.inr (Or.inl ?_))
    simp only [knownForeignTight2, List.mem_cons, List.mem_nil_iff, or_false] at h
    rcases h with rfl | rfl | rfl | rfl | rfl <;> simp [knownForeignTight]
  · exact Or.inr (Or.inr (Or.inr (Or.inr h)))

/-- **C01 tight 2, `parse`** -/
theorem C01_partial_tight2 (s : Str) (o : Opts) :
    match (parse s o).1 with
    | .parts _ => True
    | .exn x => Tight2 x
    | _ => False :=
  parse_cases fun _ hx => tight2_of (parse_cases_exn (C01_partial_tight s o) hx) (parse_e9 s o hx)

/-- **C01 tight 2, `parsesingle`** -/
theorem C01_partial_single_tight2 (s : Str) (o : Opts) :
    match (parsesingle s o).1 with
    | .single _ => True
    | .exn x => Tight2 x
    | _ => False :=
  parsesingle_cases fun _ hx =>
    tight2_of (parsesingle_cases_exn (C01_partial_single_tight s o) hx) (parsesingle_e9 s o hx)

/-- **C01 tight 2, `split`** -/
theorem C01_partial_split_tight2 (s : Str) :
    match (split s).1 with
    | .strs _ => True
    | .exn x => Tight2 x ∨ x = .outOfFuel "split"
    | _ => False :=
  split_cases fun _ hx =>
    (split_cases_exn (C01_partial_split_tight s) hx).imp_left fun h => tight2_of h (split_e9 s hx)

end Bashlex.C01

#print axioms Bashlex.C01.T2.sat_nextToken_tp
#print axioms Bashlex.C01.h9_action
#print axioms Bashlex.C01.vt_action
#print axioms Bashlex.C01.parserRun9
#print axioms Bashlex.C01.parse_e9
#print axioms Bashlex.C01.split_e9
#print axioms Bashlex.C01.C01_partial_tight2
#print axioms Bashlex.C01.discardUntil_nofuel
#print axioms Bashlex.C01.readline_nofuel
#print axioms Bashlex.C01.readtoken_loop_nofuel
#print axioms Bashlex.C01.C01_partial_single_tight2
#print axioms Bashlex.C01.C01_partial_split_tight2
