/-
  C06, "expansions are kept verbatim": whenever an iteration of `_expandwordinternal` records a
  part (command / process substitution, parameter, tilde), the expanded word grows by exactly
  the source text the iteration covered — for every nested parser.  Read off the scan trace of
  C07: the expanded word is `valOf` of the trace, and a head that emits a part appends the text
  under the part's span (`Visit.piece_part`).
-/
import Bashlex.Props.C07.Word
import Bashlex.Props.C07.Parts
import Bashlex.Props.C03.Expand

namespace Bashlex.C06S
open Bashlex Bashlex.M Bashlex.C07

/-- the expanded word is `o₀ ++ text(p₁) ++ o₁ ++ … ++ text(pₙ) ++ oₙ` for the recorded parts
    `p₁ … pₙ` in order, `text(p)` the source text under the span of `p` -/
inductive Verb (v : Str) : List Node → Str → Prop
  | nil (o : Str) : Verb v [] o
  | snoc (parts : List Node) (s : Str) (p : Node) (o : Str) : Verb v parts s →
      Verb v (parts ++ [p]) (s ++ Str.slice v p.pos.1 p.pos.2 ++ o)

theorem Verb.app {v : Str} {parts : List Node} {s : Str} (h : Verb v parts s) (o : Str) :
    Verb v parts (s ++ o) := by
  cases h with
  | nil o' => exact Verb.nil _
  | snoc parts s p o' h =>
    have := Verb.snoc parts s p (o' ++ o) h
    simpa [List.append_assoc] using this

/-- … in particular the text of every part occurs in the word -/
theorem Verb.mem {v : Str} {parts : List Node} {s : Str} (h : Verb v parts s) :
    ∀ p ∈ parts, ∃ pre post, s = pre ++ Str.slice v p.pos.1 p.pos.2 ++ post := by
  induction h with
  | nil o => intro p hp; cases hp
  | snoc parts s p o h ih =>
    intro p' hp'
    rcases List.mem_append.1 hp' with h1 | h1
    · obtain ⟨pre, post, e⟩ := ih p' h1
      exact ⟨pre, post ++ Str.slice v p.pos.1 p.pos.2 ++ o, by rw [e]; simp⟩
    · simp at h1; subst h1
      exact ⟨s, o, rfl⟩

/-- the shifted parts: spans relative to the word start `k` -/
theorem Verb.shift {v : Str} {parts : List Node} {s : Str} (h : Verb v parts s) (k : Nat) :
    ∃ segs : List (Str × Node), segs.map (·.2) = parts.map (·.shift k) ∧
      ∃ o0, s = o0 ++ (segs.map fun sp =>
        Str.slice v (sp.2.pos.1 - k) (sp.2.pos.2 - k) ++ sp.1).flatten := by
  induction h with
  | nil o => exact ⟨[], rfl, o, by simp⟩
  | snoc parts s p o h ih =>
    obtain ⟨segs, e1, o0, e2⟩ := ih
    refine ⟨segs ++ [(o, p.shift k)], by simp [e1], o0, ?_⟩
    rw [e2]
    simp [C03.pos_shift, List.append_assoc]

variable {R : Str → Bool → Node → Prop}

/-- the expanded word of a trace is the text of its parts, in order, with other text between -/
theorem Reach.verb {v : Str} {q : Bool} {fl0 : WordFlags} {i : Nat} {fl : WordFlags}
    {tr : List (Nat × Option Node)} (h : Reach R v q fl0 i fl tr) :
    Verb v (partsOf tr) (valOf v q tr i) := by
  induction h with
  | start => exact Verb.nil _
  | @step i fl tr out i' fl' _ hv ih =>
    rw [partsOf_snoc, valOf_snoc]
    cases out with
    | none => simpa using ih.app _
    | some n =>
      have := Verb.snoc _ _ n [] ih
      rw [hv.piece_part]
      simpa using this

theorem Scanned.verb {v : Str} {q : Bool} {fl0 : WordFlags} {parts : List Node} {val : Str}
    (h : Scanned R v q fl0 parts val) : Verb v parts val := by
  rcases h with ⟨_, rfl, _⟩ | ⟨fl, tr, hreach, rfl, rfl⟩
  · exact Verb.nil _
  · exact Reach.verb hreach

/-- the text of every part occurs in the expanded word -/
theorem WordSpecV.mem {v : Str} {q : Bool} {fl0 : WordFlags} {k kend : Nat} {r : List Node × Str}
    (h : WordSpecV R v q fl0 k kend r) : ∀ p ∈ r.1, ∃ pre post,
      r.2 = pre ++ Str.slice v (p.pos.1 - k) (p.pos.2 - k) ++ post := by
  obtain ⟨parts, hsc, _, hr⟩ := h
  intro p hp
  rw [hr] at hp
  obtain ⟨p0, hp0, rfl⟩ := List.mem_map.mp hp
  obtain ⟨pre, post, e⟩ := (Scanned.verb hsc).mem p0 hp0
  exact ⟨pre, post, by simpa [C03.pos_shift] using e⟩

/-- **C06_verbatim**: for every nested parser, every token and both values of `qdoublequotes`:
    the expanded word `_expandwordinternal` returns is
    `o₀ ++ text(p₁) ++ o₁ ++ … ++ text(pₙ) ++ oₙ`, where `p₁ … pₙ` are the parts it returns, in
    order — command substitutions (`$(…)`, backquotes), process substitutions, parameters,
    tildes — and `text(p)` is the source text of the token under the span of `p`: every
    expansion is copied as it is. -/
theorem C06_verbatim (np : NestedParse) (tok : Token) (q : Bool) :
    Sat (expandwordinternal np tok q) (fun r =>
      ∃ segs : List (Str × Node), segs.map (·.2) = r.1 ∧
        ∃ o0, r.2 = o0 ++ (segs.map fun sp =>
          Str.slice tok.valueStr (sp.2.pos.1 - tok.lexpos) (sp.2.pos.2 - tok.lexpos) ++ sp.1).flatten) := by
  refine (sat_of_keeps (k_expandwordinternalV (npspec_true np).npk tok q)).weaken ?_ (fun _ h => h)
  rintro ⟨ps, val⟩ ⟨parts, hsc, _, rfl⟩
  exact (Scanned.verb hsc).shift tok.lexpos

/-- corollary: the text of every part occurs in the expanded word -/
theorem C06_verbatim_mem (np : NestedParse) (tok : Token) (q : Bool) :
    Sat (expandwordinternal np tok q) (fun r => ∀ p ∈ r.1, ∃ pre post,
      r.2 = pre ++ Str.slice tok.valueStr (p.pos.1 - tok.lexpos) (p.pos.2 - tok.lexpos) ++ post) :=
  (sat_of_keeps (k_expandwordinternalV (npspec_true np).npk tok q)).weaken
    (fun _ h => WordSpecV.mem h) (fun _ h => h)

/-- the same for the word node `_expandword` builds (expansion limit -1: no parts at all) -/
theorem C06_verbatim_word (np : NestedParse) (tok : Token) :
    Sat (expandword np tok) (fun w => ∃ val parts, w = .word (tok.lexpos, tok.endlexpos) val parts ∧
      ∀ p ∈ parts, ∃ pre post,
        val = pre ++ Str.slice tok.valueStr (p.pos.1 - tok.lexpos) (p.pos.2 - tok.lexpos) ++ post) := by
  refine (sat_of_keeps (k_expandwordV (npspec_true np).npk tok)).weaken ?_ (fun _ h => h)
  rintro w (rfl | ⟨r, hr, rfl | rfl⟩)
  · exact ⟨_, _, rfl, fun p hp => (nomatch hp)⟩
  · exact ⟨_, _, rfl, WordSpecV.mem hr⟩
  · exact ⟨_, _, rfl, fun p hp => WordSpecV.mem hr p (List.mem_filter.1 hp).1⟩

end Bashlex.C06S

#print axioms Bashlex.C06S.C06_verbatim
#print axioms Bashlex.C06S.C06_verbatim_mem
#print axioms Bashlex.C06S.C06_verbatim_word
