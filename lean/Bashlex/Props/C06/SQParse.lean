/-
  C06 for `split`, quoted inputs, parts 8 and 9: a decidable parser for the input class `QInputL`;
  a chunk of the class `Items` has balanced quotes, no line continuation (K8) and no final
  backslash (K9): three hypotheses of `C06_plain` come for free from the shape of the input
  (`Clean` is kept item by item).
-/
import Bashlex.Props.C06.SQChunks

namespace Bashlex.C06S
open Bashlex Bashlex.Spec

/-- after an opening `'`: the body and what follows the closing quote -/
def takeSq : Str → Option (Str × Str)
  | [] => none
  | c :: r => if c == '\'' then some ([], r) else (takeSq r).map fun p => (c :: p.1, p.2)

/-- after an opening `"`: the body (no backquote, no `$`, backslash before anything but a newline
    or `$`) and what follows the closing quote -/
def takeDq : Str → Option (Str × Str)
  | [] => none
  | c :: r =>
    if c == '"' then some ([], r)
    else if c == '\\' then
      match r with
      | d :: r' =>
        if d == '\n' || d == '$' then none else (takeDq r').map fun p => ('\\' :: d :: p.1, p.2)
      | [] => none
    else if c == '`' || c == '$' then none
    else (takeDq r).map fun p => (c :: p.1, p.2)

/-- the chunk at the head of the input, its "holds a quoting character" flag, and the rest -/
def takeChunk : Nat → Str → Option (Str × Bool × Str)
  | 0, _ => none
  | _ + 1, [] => some ([], false, [])
  | n + 1, c :: r =>
    if shellblank c then some ([], false, c :: r)
    else if plainCh c then (takeChunk n r).map fun p => (c :: p.1, p.2.1, p.2.2)
    else if c == '\\' then
      match r with
      | d :: r' =>
        if d == '\n' || d == '$' then none
        else (takeChunk n r').map fun p => ('\\' :: d :: p.1, true, p.2.2)
      | [] => none
    else if c == '\'' then
      (takeSq r).bind fun b => (takeChunk n b.2).map fun p => ('\'' :: (b.1 ++ '\'' :: p.1), true, p.2.2)
    else if c == '"' then
      (takeDq r).bind fun b => (takeChunk n b.2).map fun p => ('"' :: (b.1 ++ '"' :: p.1), true, p.2.2)
    else none

def parseGo : Nat → Str → Option (List (Str × Bool))
  | 0, _ => none
  | _ + 1, [] => some []
  | n + 1, c :: r =>
    if shellblank c then parseGo n r
    else (takeChunk (r.length + 2) (c :: r)).bind fun p =>
      if p.1.isEmpty then none else (parseGo n p.2.2).map fun cs => (p.1, p.2.1) :: cs

/-- the chunks of an input of the class treated here (`none`: outside the class) -/
def parseInput (s : Str) : Option (List (Str × Bool)) := parseGo (s.length + 1) s

theorem takeSq_sound : ∀ (r b r' : Str), takeSq r = some (b, r') →
    r = b ++ '\'' :: r' ∧ ∀ x ∈ b, x ≠ '\''
  | [], b, r', h => by simp [takeSq] at h
  | c :: r, b, r', h => by
    rw [takeSq] at h
    by_cases hc : c = '\''
    · subst hc
      simp at h
      obtain ⟨rfl, rfl⟩ := h
      simp
    · have hc' : (c == '\'') = false := by simp [hc]
      simp only [hc', Bool.false_eq_true, if_false, Option.map_eq_some_iff] at h
      obtain ⟨⟨b0, r0⟩, h0, h1⟩ := h
      simp only [Prod.mk.injEq] at h1
      obtain ⟨rfl, rfl⟩ := h1
      obtain ⟨e1, e2⟩ := takeSq_sound r b0 r0 h0
      refine ⟨by rw [e1]; simp, ?_⟩
      intro x hx
      rcases List.mem_cons.1 hx with rfl | hx
      · exact hc
      · exact e2 x hx

theorem takeDq_sound : ∀ (n : Nat) (r : Str), r.length ≤ n → ∀ (b r' : Str),
    takeDq r = some (b, r') → r = b ++ '"' :: r' ∧ DBody b := by
  intro n
  induction n with
  | zero =>
    intro r hn b r' h
    have : r = [] := List.eq_nil_of_length_eq_zero (by omega)
    subst this; simp [takeDq] at h
  | succ n ih =>
    intro r hn b r' h
    cases r with
    | nil => simp [takeDq] at h
    | cons c r =>
      have hr : r.length ≤ n := by simp at hn; omega
      rw [takeDq.eq_def] at h
      simp only [] at h
      by_cases hq : c = '"'
      · subst hq
        simp at h
        obtain ⟨rfl, rfl⟩ := h
        exact ⟨by simp, DBody.nil⟩
      · have hq' : (c == '"') = false := by simp [hq]
        simp only [hq', Bool.false_eq_true, if_false] at h
        by_cases hb : c = '\\'
        · subst hb
          simp only [beq_self_eq_true, if_true] at h
          cases r with
          | nil => simp at h
          | cons d r2 =>
            simp only [] at h
            by_cases hd : (d == '\n' || d == '$') = true
            · simp [hd] at h
            · have hd' : (d == '\n' || d == '$') = false := by simpa using hd
              simp only [hd', Bool.false_eq_true, if_false, Option.map_eq_some_iff] at h
              obtain ⟨⟨b0, r0⟩, h0, h1⟩ := h
              simp only [Prod.mk.injEq] at h1
              obtain ⟨rfl, rfl⟩ := h1
              obtain ⟨e1, e2⟩ := ih r2 (by simp at hr; omega) b0 r0 h0
              simp only [Bool.or_eq_false_iff, beq_eq_false_iff_ne, ne_eq] at hd'
              exact ⟨by rw [e1]; simp, DBody.esc d b0 hd'.1 hd'.2 e2⟩
        · have hb' : (c == '\\') = false := by simp [hb]
          simp only [hb', Bool.false_eq_true, if_false] at h
          by_cases hx : (c == '`' || c == '$') = true
          · simp [hx] at h
          · have hx' : (c == '`' || c == '$') = false := by simpa using hx
            simp only [hx', Bool.false_eq_true, if_false, Option.map_eq_some_iff] at h
            obtain ⟨⟨b0, r0⟩, h0, h1⟩ := h
            simp only [Prod.mk.injEq] at h1
            obtain ⟨rfl, rfl⟩ := h1
            obtain ⟨e1, e2⟩ := ih r hr b0 r0 h0
            simp only [Bool.or_eq_false_iff, beq_eq_false_iff_ne, ne_eq] at hx'
            exact ⟨by rw [e1]; simp, DBody.ch c b0 hq hb hx'.1 hx'.2 e2⟩

def Bnd (x : Str) : Prop := x = [] ∨ ∃ b x', x = b :: x' ∧ shellblank b = true

theorem takeChunk_sound : ∀ (n : Nat) (r t : Str) (q : Bool) (x : Str),
    takeChunk n r = some (t, q, x) → r = t ++ x ∧ Items t q ∧ Bnd x := by
  intro n
  induction n with
  | zero => intro r t q x h; simp [takeChunk] at h
  | succ n ih =>
    intro r t q x h
    cases r with
    | nil =>
      simp [takeChunk] at h
      obtain ⟨rfl, rfl, rfl⟩ := h
      exact ⟨rfl, Items.nil, Or.inl rfl⟩
    | cons c r =>
      rw [takeChunk.eq_def] at h
      simp only [] at h
      by_cases hbl : shellblank c = true
      · simp only [hbl, if_true, Option.some.injEq, Prod.mk.injEq] at h
        obtain ⟨rfl, rfl, rfl⟩ := h
        exact ⟨rfl, Items.nil, Or.inr ⟨c, r, rfl, hbl⟩⟩
      · simp only [hbl, Bool.false_eq_true, if_false] at h
        by_cases hp : plainCh c = true
        · simp only [hp, if_true, Option.map_eq_some_iff] at h
          obtain ⟨⟨t0, q0, x0⟩, h0, h1⟩ := h
          simp only [Prod.mk.injEq] at h1
          obtain ⟨rfl, rfl, rfl⟩ := h1
          obtain ⟨e1, e2, e3⟩ := ih r t0 q0 x0 h0
          exact ⟨by rw [e1]; simp, Items.plain c t0 q0 hp e2, e3⟩
        · simp only [hp, Bool.false_eq_true, if_false] at h
          by_cases hb : c = '\\'
          · subst hb
            simp only [beq_self_eq_true, if_true] at h
            cases r with
            | nil => simp at h
            | cons d r2 =>
              simp only [] at h
              by_cases hd : (d == '\n' || d == '$') = true
              · simp [hd] at h
              · have hd' : (d == '\n' || d == '$') = false := by simpa using hd
                simp only [hd', Bool.false_eq_true, if_false, Option.map_eq_some_iff] at h
                obtain ⟨⟨t0, q0, x0⟩, h0, h1⟩ := h
                simp only [Prod.mk.injEq] at h1
                obtain ⟨rfl, rfl, rfl⟩ := h1
                obtain ⟨e1, e2, e3⟩ := ih r2 t0 q0 x0 h0
                simp only [Bool.or_eq_false_iff, beq_eq_false_iff_ne, ne_eq] at hd'
                exact ⟨by rw [e1]; simp, Items.esc d t0 q0 hd'.1 hd'.2 e2, e3⟩
          · have hb' : (c == '\\') = false := by simp [hb]
            simp only [hb', Bool.false_eq_true, if_false] at h
            by_cases hs : c = '\''
            · subst hs
              simp only [beq_self_eq_true, if_true, Option.bind_eq_some_iff,
                Option.map_eq_some_iff] at h
              obtain ⟨⟨b0, r0⟩, hsq, ⟨t0, q0, x0⟩, h0, h1⟩ := h
              simp only [Prod.mk.injEq] at h1
              obtain ⟨rfl, rfl, rfl⟩ := h1
              obtain ⟨s1, s2⟩ := takeSq_sound r b0 r0 hsq
              obtain ⟨e1, e2, e3⟩ := ih r0 t0 q0 x0 h0
              exact ⟨by rw [s1, e1]; simp, Items.sq b0 t0 q0 s2 e2, e3⟩
            · have hs' : (c == '\'') = false := by simp [hs]
              simp only [hs', Bool.false_eq_true, if_false] at h
              by_cases hd : c = '"'
              · subst hd
                simp only [beq_self_eq_true, if_true, Option.bind_eq_some_iff,
                  Option.map_eq_some_iff] at h
                obtain ⟨⟨b0, r0⟩, hdq, ⟨t0, q0, x0⟩, h0, h1⟩ := h
                simp only [Prod.mk.injEq] at h1
                obtain ⟨rfl, rfl, rfl⟩ := h1
                obtain ⟨s1, s2⟩ := takeDq_sound r.length r (Nat.le_refl _) b0 r0 hdq
                obtain ⟨e1, e2, e3⟩ := ih r0 t0 q0 x0 h0
                exact ⟨by rw [s1, e1]; simp, Items.dq b0 t0 q0 s2 e2, e3⟩
              · have hd' : (c == '"') = false := by simp [hd]
                simp [hd'] at h

theorem parseGo_sound : ∀ (n : Nat) (s : Str) (cs : List (Str × Bool)),
    parseGo n s = some cs → QInputL s cs := by
  intro n
  induction n with
  | zero => intro s cs h; simp [parseGo] at h
  | succ n ih =>
    intro s cs h
    cases s with
    | nil =>
      simp [parseGo] at h
      subst h
      exact QInputL.nil
    | cons c r =>
      rw [parseGo.eq_def] at h
      simp only [] at h
      by_cases hbl : shellblank c = true
      · simp only [hbl, if_true] at h
        exact QInputL.blank c r cs hbl (ih r cs h)
      · simp only [hbl, Bool.false_eq_true, if_false, Option.bind_eq_some_iff] at h
        obtain ⟨⟨t, q, x⟩, h0, h1⟩ := h
        simp only [] at h1
        by_cases hte : t.isEmpty = true
        · simp [hte] at h1
        · simp only [hte, Bool.false_eq_true, if_false, Option.map_eq_some_iff] at h1
          obtain ⟨cs0, h2, rfl⟩ := h1
          obtain ⟨e1, e2, e3⟩ := takeChunk_sound _ _ t q x h0
          rw [e1]
          exact QInputL.chunk t q x cs0 e2 (by intro h; subst h; simp at hte) e3 (ih x cs0 h2)

theorem parseInput_sound (s : Str) (cs : List (Str × Bool)) (h : parseInput s = some cs) :
    QInputL s cs := parseGo_sound _ s cs h

end Bashlex.C06S

namespace Bashlex.C06S
open Bashlex Bashlex.Spec Bashlex.C06
set_option linter.unusedSimpArgs false

theorem clean_sq (x : Str) : ∀ (body : Str), (∀ c ∈ body, c ≠ '\'') →
    (Clean 1 (body ++ '\'' :: x) ↔ Clean 0 x)
  | [], _ => clean1_close x
  | c :: body, h =>
    (clean1_ch _ (h c (by simp))).trans (clean_sq x body (fun y hy => h y (by simp [hy])))

theorem clean_dq (x : Str) {body : Str} (hb : DBody body) :
    Clean 2 (body ++ '"' :: x) ↔ Clean 0 x := by
  induction hb with
  | nil => exact clean2_close x
  | ch c r c1 c2 _ _ _ ih => exact (clean2_ch _ c1 c2).trans ih
  | esc d r d1 _ _ ih => exact (clean2_esc _ d1).trans ih

theorem clean_items (x : Str) {t : Str} {q : Bool} (ht : Items t q) :
    Clean 0 (t ++ x) ↔ Clean 0 x := by
  induction ht with
  | nil => exact Iff.rfl
  | plain c r q hp _ ih =>
    obtain ⟨_, _, _, _, f5, f6, f7, _⟩ := plainCh_facts hp
    exact (clean0_ch _ f5 f6 f7).trans ih
  | esc d r q d1 _ _ ih => exact (clean0_esc _ d1).trans ih
  | sq body r q h1 _ ih =>
    rw [List.cons_append, List.append_assoc, List.cons_append]
    exact ((clean0_sq _).trans (clean_sq _ body h1)).trans ih
  | dq body r q h1 _ ih =>
    rw [List.cons_append, List.append_assoc, List.cons_append]
    exact ((clean0_dq _).trans (clean_dq _ h1)).trans ih

/-- a chunk of the class has balanced quotes, no line continuation, no final backslash -/
theorem items_shape {t : Str} {q : Bool} (h : Items t q) :
    Balanced t = true ∧ k8 t = false ∧ k9 t = false := by
  have := (clean_items [] h).mpr ⟨rfl, rfl, rfl⟩
  rw [List.append_nil] at this
  exact ⟨by unfold Balanced; rw [this.1]; rfl, this.2.1, this.2.2⟩

end Bashlex.C06S
