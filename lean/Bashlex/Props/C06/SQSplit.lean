/-
  C06 for `split`, quoted inputs: the loop of `split` over an input made of chunks.
-/
import Bashlex.Props.C06.SQNext
import Bashlex.Props.C06.SSplit
import Bashlex.Props.C06.SQSpec
import Bashlex.Props.C06

namespace Bashlex.C06S
open Bashlex Bashlex.M Bashlex.C10 Bashlex.C14 Bashlex.C06 Bashlex.Spec

/-- an input of `split`: blanks and chunks; `cs` lists the chunks with their "holds a quoting
    character" flags -/
inductive QInputL : Str → List (Str × Bool) → Prop
  | nil : QInputL [] []
  | blank (b : Char) (r : Str) (cs : List (Str × Bool)) : shellblank b = true → QInputL r cs →
      QInputL (b :: r) cs
  | chunk (t : Str) (q : Bool) (r : Str) (cs : List (Str × Bool)) : Items t q → t ≠ [] →
      (r = [] ∨ ∃ b r', r = b :: r' ∧ shellblank b = true) → QInputL r cs →
      QInputL (t ++ r) ((t, q) :: cs)

theorem items_false_plain {t : Str} {q : Bool} (h : Items t q) (hq : q = false) :
    ∀ x ∈ t, plainCh x = true := by
  induction h with
  | nil => simp
  | plain c r q hp _ ih =>
    intro x hx
    rcases List.mem_cons.1 hx with rfl | hx
    · exact hp
    · exact ih hq x hx
  | esc => cases hq
  | sq => cases hq
  | dq => cases hq

theorem qr_plain : ∀ (t : Str), (∀ x ∈ t, plainCh x = true) → qr 0 t = t
  | [], _ => by rw [qr.eq_def]
  | c :: t, h => by
    obtain ⟨f1, f2, f3, f4, f5, f6, f7, _⟩ := plainCh_facts (h c (by simp))
    rw [qr0_ch c t f5 f6 f7, qr_plain t (fun x hx => h x (by simp [hx]))]

theorem specWords_qr : ∀ w ∈ specWords, quoteRemove (fun _ => false) w = w := by decide

/-- what `split` requires of a chunk beyond its shape: the hypotheses of `C06_plain` -/
def chunkGood (tq : Str × Bool) : Bool := PlainOK tq.1

/-- a chunk: the string yielded is its quote removal -/
theorem run_body_chunk (s line : Str) (acc : List Str) (l l' : Local) (e e' : Env) (tok : Token)
    (a b : Nat) (t : Str) (q : Bool) (hr : M.run nextToken l e = (.ok (tok, l'), e'))
    (htok : TokOK a b t q tok) (hslice : Str.slice s a b = t) (ht : Items t q) (hne : t ≠ [])
    (hgood : chunkGood (t, q) = true) (hn : a + 1 ≠ line.length) :
    M.run (splitBody s line true acc) l e =
      (.ok (.inl (acc ++ [quoteRemove (fun _ => false) t]), l'), e') := by
  have hpl : PlainOK t = true := hgood
  have hnoexp : noExp t = true := by
    simp only [PlainOK, Bool.and_eq_true] at hpl; exact hpl.1.1.1.1
  have hlex : tok.lexpos = a := by simp [Token.lexpos, htok.pos]
  have hend : tok.endlexpos = b := by simp [Token.endlexpos, htok.pos]
  unfold splitBody
  rw [M.run_bind, hr]
  simp only [htok.neof, hlex, hend, Bool.true_and, Bool.false_or, beq_iff_eq, hn, if_false]
  by_cases hW : wordLike tok = true
  · have hW2 : (tok.is .WORD || tok.is .ASSIGNMENT_WORD) = true := hW
    obtain ⟨hv, hq⟩ := htok.word hW
    have hvs : tok.valueStr = t := by simp [Token.valueStr, hv]
    have hC := C06_plain' t hpl
    cases t with
    | nil => exact absurd rfl hne
    | cons c t' =>
      have hbeq : ((c :: t').head? == some '"') = (c == '"') := by simp
      rw [hbeq] at hC
      cases q with
      | true =>
        simp only [hW2, if_true, hq, hvs, List.head?_cons, pure_bind]
        rw [expandwordinternal_plain splitNP tok _ (by rw [hvs]; exact hnoexp), hvs, hC]
        rfl
      | false =>
        have hc := (plainCh_facts (items_false_plain ht rfl c (by simp))).2.2.2.2.2.2.1
        have hcf : (c == '"') = false := by simp [hc]
        rw [hcf] at hC
        simp only [hW2, if_true, hq, hvs, Bool.false_eq_true, if_false, pure_bind]
        rw [expandwordinternal_plain splitNP tok _ (by rw [hvs]; exact hnoexp), hvs, hC]
        rfl
  · have hW' : wordLike tok = false := by simpa using hW
    have hW2 : (tok.is .WORD || tok.is .ASSIGNMENT_WORD) = false := hW'
    have hval : quoteRemove (fun _ => false) t = t := by
      rcases htok.nonword hW' with h | h
      · rw [quoteRemove_eq_qr, qr_plain t (items_false_plain ht h)]
      · exact specWords_qr t h
    simp only [hW2, Bool.false_eq_true, if_false, hslice, hval]
    rfl

theorem run_split_qloop (s : Str) (hlen : s.length + 3 ≤ 1073741824) :
    ∀ (r : Str) (cs : List (Str × Bool)), QInputL r cs →
    ∀ (bs : Str) (i : Nat) (acc : List Str) (l : Local) (e : Env) (fuel : Nat),
      (∀ x ∈ bs, shellblank x = true) → i + (bs ++ r).length = s.length → s.drop i = bs ++ r →
      InvT l → e.tape.line = s ++ ['\n'] → e.tape.idx = i → (bs ++ r).length + 2 ≤ fuel →
      (∀ tq ∈ cs, chunkGood tq = true) →
      ∃ l' e', M.run (M.loop "split" (splitBody s (s ++ ['\n']) true) fuel acc) l e =
        (.ok (acc ++ cs.map (fun tq => quoteRemove (fun _ => false) tq.1), l'), e') := by
  intro r cs h
  induction h with
  | nil =>
    intro bs i acc l e fuel hbs hi hdrop hinv hline hidx hf hgood
    simp only [List.append_nil] at hi hdrop hf
    obtain ⟨f, rfl⟩ : ∃ f, fuel = f + 1 := ⟨fuel - 1, by omega⟩
    have hile : i ≤ s.length := by omega
    have hld : e.tape.line.drop e.tape.idx = bs ++ ['\n'] := by
      rw [hline, hidx, List.drop_append_of_le_length hile, hdrop]
    have hll : e.tape.line.length + 2 ≤ 1073741824 := by rw [hline]; simp; omega
    have h1 := run_nextToken_end l hinv bs hbs e hld hll
    refine ⟨afterNL l (e.tape.idx + bs.length), envAt e (e.tape.idx + bs.length + 1), ?_⟩
    rw [run_loop_succ, run_body_end s _ acc l _ e _ _ h1 (by rw [hidx]; simp; omega)]
    simp
  | blank b r cs hb _ ih =>
    intro bs i acc l e fuel hbs hi hdrop hinv hline hidx hf hgood
    have e1 : bs ++ b :: r = (bs ++ [b]) ++ r := by simp
    refine ih (bs ++ [b]) i acc l e fuel ?_ (by rw [← e1]; exact hi) (by rw [← e1]; exact hdrop) hinv
      hline hidx (by rw [← e1]; exact hf) hgood
    intro x hx
    rcases List.mem_append.1 hx with hx | hx
    · exact hbs x hx
    · simp at hx; rw [hx]; exact hb
  | chunk t q r cs ht hne hr _ ih =>
    intro bs i acc l e fuel hbs hi hdrop hinv hline hidx hf hgood
    obtain ⟨f, rfl⟩ : ∃ f, fuel = f + 1 := ⟨fuel - 1, by omega⟩
    have hile : i ≤ s.length := by omega
    have hld : e.tape.line.drop e.tape.idx = (bs ++ (t ++ r)) ++ ['\n'] := by
      rw [hline, hidx, List.drop_append_of_le_length hile, hdrop]
    have hll : e.tape.line.length + 2 ≤ 1073741824 := by rw [hline]; simp; omega
    obtain ⟨x, t', rfl⟩ : ∃ x t', t = x :: t' := by
      cases t with
      | nil => exact absurd rfl hne
      | cons x t' => exact ⟨x, t', rfl⟩
    obtain ⟨b, rest, hbrest, hb⟩ : ∃ b rest, r ++ ['\n'] = b :: rest ∧ endCh b = true := by
      rcases hr with rfl | ⟨y, r', rfl, hy⟩
      · exact ⟨'\n', [], rfl, by decide⟩
      · exact ⟨y, r' ++ ['\n'], rfl, blank_endCh hy⟩
    have hld' : e.tape.line.drop e.tape.idx = bs ++ x :: (t' ++ b :: rest) := by
      rw [hld, ← hbrest]; simp
    obtain ⟨tok, l', e', hrun, hinv', he', htok⟩ :=
      run_nextToken_chunk l hinv x b bs t' rest q hbs ht hb e hld' hll
    have hsl : Str.slice s (e.tape.idx + bs.length) (e.tape.idx + bs.length + (x :: t').length) =
        x :: t' := by
      have := slice_word s i bs (x :: t') r hdrop
      rw [hidx]; exact this
    have hlens : (bs ++ (x :: t' ++ r)).length = bs.length + (x :: t').length + r.length := by
      simp; omega
    have hg1 : chunkGood (x :: t', q) = true := hgood _ (by simp)
    have hbody := run_body_chunk s (s ++ ['\n']) acc l l' e e' tok _ _ (x :: t') q hrun htok hsl ht hne hg1
      (by rw [hidx]; simp at hi ⊢; omega)
    have hidx' : e'.tape.idx = i + bs.length + (x :: t').length := by rw [he', hidx]
    obtain ⟨l2, e2, hfin⟩ := ih [] (i + bs.length + (x :: t').length)
      (acc ++ [quoteRemove (fun _ => false) (x :: t')]) l' e' f (by simp)
      (by simp only [List.nil_append]; rw [hlens] at hi; omega)
      (by
        simp only [List.nil_append]
        have : i + bs.length + (x :: t').length = i + (bs ++ (x :: t')).length := by simp; omega
        rw [this, ← List.drop_drop, hdrop]
        have : bs ++ (x :: t' ++ r) = (bs ++ x :: t') ++ r := by simp
        rw [this, List.drop_left])
      hinv' (by rw [he']; exact hline) hidx'
      (by simp only [List.nil_append]; rw [hlens] at hf; simp at hf ⊢; omega)
      (fun tq htq => hgood tq (by simp [htq]))
    refine ⟨l2, e2, ?_⟩
    rw [run_loop_succ, hbody]
    simp only []
    rw [hfin]
    simp

end Bashlex.C06S
