/-
  C06 for `split`: `_getc` in general position; `token()`: skipping blanks, the final newline.
-/
import Bashlex.Props.C06.SFinish

namespace Bashlex.C06S
open Bashlex Bashlex.M Bashlex.C10 Bashlex.C14
set_option linter.unusedSimpArgs false

/-! ## `_getc` -/

/-- a character that `_getc(remove_quoted_newline=True)` returns as it is: not a backslash that
    is followed by a newline -/
def NextOK (y : Char) (z : Str) : Prop := y = '\\' → ∃ d z', z = d :: z' ∧ d ≠ '\n'

theorem run_getc_false (l : Local) (hl : l.tape = none) (heol : l.eolLookahead = none) (e : Env)
    (y : Char) (z : Str) (hd : e.tape.line.drop e.tape.idx = y :: z) :
    M.run (getc false) l e = (.ok (some y, l), envAt e (e.tape.idx + 1)) := by
  obtain ⟨h1, h2, h3⟩ := drop_cons_facts hd
  exact run_getc_plain false l e y hl heol h1 h2 (by simp)

theorem run_getc_true (l : Local) (hl : l.tape = none) (heol : l.eolLookahead = none) (e : Env)
    (y : Char) (z : Str) (hd : e.tape.line.drop e.tape.idx = y :: z) (hy : NextOK y z) :
    M.run (getc true) l e = (.ok (some y, l), envAt e (e.tape.idx + 1)) := by
  obtain ⟨h1, h2, h3⟩ := drop_cons_facts hd
  by_cases hb : y = '\\'
  · obtain ⟨d, z', hz, hdn⟩ := hy hb
    subst hb
    rw [hz] at h3
    obtain ⟨g1, g2, g3⟩ := drop_cons_facts h3
    rw [run_getc true l e heol, tapeOf_none hl,
      tgetc_bs_other _ _ _ '\\' d h1 h2 rfl g2 (by simp [hdn])]
    simp only [putL_none hl, putE_none hl]
    rfl
  · exact run_getc_plain true l e y hl heol h1 h2 (by simp [hb])

/-! ## skipping blanks -/

theorem blank_not_bs {b : Char} (h : shellblank b = true) : (b == '\\' && true) = false := by
  unfold shellblank at h
  rcases Bool.or_eq_true_iff.1 h with h | h <;> rw [beq_iff_eq.1 h] <;> rfl

theorem loop_blank_step (b : Char) (hb : shellblank b = true) (f : Nat) (l : Local) (e : Env) :
    M.run (M.loop "_readtoken" blankBody (f + 1) (some b)) l e =
      M.run (getc true >>= fun c0 => M.loop "_readtoken" blankBody f c0) l e := by
  show M.run (blankBody (some b) >>= _) l e = _
  unfold blankBody
  simp only [hb, if_true, bind_assoc, pure_bind]

/-- the loop at the head of `_readtoken` skips the blanks `bs` and stops at `c` -/
theorem run_skip (l : Local) (hl : l.tape = none) (heol : l.eolLookahead = none) (c : Char)
    (rest : Str) (hc : shellblank c = false) (hcb : NextOK c rest) :
    ∀ (bs : Str) (F : Nat) (e : Env), (∀ x ∈ bs, shellblank x = true) →
      e.tape.line.drop e.tape.idx = bs ++ c :: rest → bs.length + 1 ≤ F →
      M.run (getc true >>= fun c0 => M.loop "_readtoken" blankBody F c0) l e =
        (.ok (some c, l), envAt e (e.tape.idx + bs.length + 1)) := by
  intro bs
  induction bs with
  | nil =>
    intro F e _ hd hF
    obtain ⟨f, rfl⟩ : ∃ f, F = f + 1 := ⟨F - 1, by simp at hF; omega⟩
    rw [M.run_bind, run_getc_true l hl heol e c rest hd hcb]
    simp only []
    rw [run_blankLoop_nonblank c hc f]
    rfl
  | cons b bs ih =>
    intro F e hbs hd hF
    obtain ⟨f, rfl⟩ : ∃ f, F = f + 1 := ⟨F - 1, by simp at hF; omega⟩
    obtain ⟨h1, h2, h3⟩ := drop_cons_facts hd
    have hb : shellblank b = true := hbs b (by simp)
    rw [M.run_bind, run_getc_plain true l e b hl heol h1 h2 (blank_not_bs hb)]
    simp only []
    rw [loop_blank_step b hb f]
    rw [ih f (envAt e (e.tape.idx + 1)) (fun x hx => hbs x (by simp [hx])) (by simpa [envAt] using h3)
      (by simp at hF ⊢; omega)]
    have : e.tape.idx + 1 + bs.length + 1 = e.tape.idx + (bs.length + 1) + 1 := by omega
    simp only [envAt, List.length_cons, this]

/-! ## `_readtoken` after its loop, on the first character of a plain word -/

theorem drop_len {L : Str} {i : Nat} {w : Str} {b : Char} {r : Str} (h : L.drop i = w ++ b :: r) :
    i + w.length + 1 ≤ L.length := by
  have := congrArg List.length h
  simp at this
  omega

/-! ## `token()` -/

/-- the tokenizer of `split` between two tokens -/
structure InvT (l : Local) : Prop where
  tape : l.tape = none
  eol : l.eolLookahead = none
  dstack : l.dstack = []
  pos : l.positions = []
  rs : l.redirstack = []
  regexp : l.ps.regexp = false
  dblparen : l.ps.dblparen = false
  cur : noLA l.currentToken

theorem InvT.hist {l : Local} (h : InvT l) : Inv [] (histStep l) :=
  ⟨h.tape, h.eol, h.dstack, h.pos, h.rs, h.regexp, h.dblparen, h.cur⟩

theorem readtoken_eq' : readtoken =
    (getc true >>= fun c0 => M.loop "_readtoken" blankBody 1073741824 c0) >>= readtokenRest := by
  rw [readtoken_eq]; simp only [bind_assoc]

theorem run_readtoken_skip (l : Local) (hl : l.tape = none) (heol : l.eolLookahead = none)
    (c : Char) (rest bs : Str) (hc : shellblank c = false) (hcb : NextOK c rest) (e : Env)
    (hbs : ∀ x ∈ bs, shellblank x = true) (hd : e.tape.line.drop e.tape.idx = bs ++ c :: rest)
    (hlen : e.tape.line.length + 2 ≤ 1073741824) :
    M.run readtoken l e = M.run (readtokenRest (some c)) l (envAt e (e.tape.idx + bs.length + 1)) := by
  have := drop_len hd
  rw [readtoken_eq', M.run_bind, run_skip l hl heol c rest hc hcb bs _ e hbs hd (by omega)]

theorem nextToken_eq : nextToken = (do
    modify histStep
    let cur ← match ← readtoken with
      | .inl ty => do
        recordpos
        createtoken ty ty.enumValue
      | .inr t => pure t
    modify fun l => { l with currentToken := cur }
    modify fun l => { l with ps := { l.ps with eoftoken := false } }
    return cur) := rfl

/-- `token()` on trailing blanks and the final newline: the NEWLINE token -/
theorem run_nextToken_end (l : Local) (hinv : InvT l) (bs : Str)
    (hbs : ∀ x ∈ bs, shellblank x = true) (e : Env)
    (hd : e.tape.line.drop e.tape.idx = bs ++ ['\n'])
    (hlen : e.tape.line.length + 2 ≤ 1073741824) :
    M.run nextToken l e =
      (.ok (tokNL (e.tape.idx + bs.length), afterNL l (e.tape.idx + bs.length)),
        envAt e (e.tape.idx + bs.length + 1)) := by
  have hd2 : (envAt e (e.tape.idx + bs.length)).tape.line.drop
      (envAt e (e.tape.idx + bs.length)).tape.idx = [] ++ '\n' :: [] := by
    show e.tape.line.drop (e.tape.idx + bs.length) = _
    rw [← List.drop_drop, hd]
    simp
  have h1 := run_readtoken_skip (histStep l) hinv.hist.tape hinv.hist.eol '\n' [] bs (by decide)
    (fun h => absurd h (by decide)) e hbs hd hlen
  have h2 := run_readtoken_skip (histStep l) hinv.hist.tape hinv.hist.eol '\n' [] [] (by decide)
    (fun h => absurd h (by decide)) (envAt e (e.tape.idx + bs.length)) (by simp) hd2 (by simpa [envAt] using hlen)
  have h3 : M.run readtoken (histStep l) e =
      M.run readtoken (histStep l) (envAt e (e.tape.idx + bs.length)) := by
    rw [h1, h2]; rfl
  have h4 : M.run nextToken l e = M.run nextToken l (envAt e (e.tape.idx + bs.length)) := by
    rw [nextToken_eq, M.run_bind, C10.run_modify, M.run_bind, C10.run_modify]
    simp only []
    exact run_bind_congr _ h3
  obtain ⟨q1, q2, q3⟩ := drop_cons_facts hd2
  rw [h4, run_nextToken_nl l _ hinv.tape hinv.eol hinv.rs hinv.pos q1 q2]
  rfl

end Bashlex.C06S
