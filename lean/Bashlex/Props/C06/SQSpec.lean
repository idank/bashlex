/-
  C06 for `split`, specification side, quoted inputs: POSIX `shlex.split` computes, for every raw
  chunk of the input, its shell quote removal — wherever the two state machines agree.
-/
import Bashlex.Props.C06.SWords

namespace Bashlex.C06S
open Bashlex Bashlex.Spec
set_option linter.unusedSimpArgs false

/-- `Spec.quoteRemoveGo` without fuel, index and verbatim mask -/
def qr : QState → Str → Str
  | _, [] => []
  | 1, c :: rest => if c == '\'' then qr 0 rest else c :: qr 1 rest
  | 2, c :: rest =>
    if c == '"' then qr 0 rest
    else if c == '\\' then
      match rest with
      | d :: rest' =>
        if d == '\n' then qr 2 rest'
        else if d == '$' || d == '`' || d == '"' || d == '\\' then d :: qr 2 rest'
        else c :: d :: qr 2 rest'
      | [] => [c]
    else c :: qr 2 rest
  | _, c :: rest =>
    if c == '\\' then
      match rest with
      | d :: rest' => if d == '\n' then qr 0 rest' else d :: qr 0 rest'
      | [] => []
    else if c == '\'' then qr 1 rest
    else if c == '"' then qr 2 rest
    else c :: qr 0 rest

theorem quoteRemoveGo_nil' (fuel : Nat) (st : QState) (i : Nat) :
    quoteRemoveGo (fun _ => false) fuel st i [] = [] := by
  cases fuel <;> simp [quoteRemoveGo]

theorem quoteRemoveGo_eq_qr : ∀ (n : Nat) (t : Str) (fuel : Nat) (st : QState) (i : Nat),
    t.length ≤ n → t.length < fuel → quoteRemoveGo (fun _ => false) fuel st i t = qr st t := by
  intro n
  induction n with
  | zero =>
    intro t fuel st i hn hf
    have : t = [] := List.eq_nil_of_length_eq_zero (by omega)
    subst this
    rw [quoteRemoveGo_nil']; rw [qr.eq_def]
  | succ n ih =>
    intro t fuel st i hn hf
    cases t with
    | nil => rw [quoteRemoveGo_nil']; rw [qr.eq_def]
    | cons c rest =>
      obtain ⟨f, rfl⟩ : ∃ f, fuel = f + 1 := ⟨fuel - 1, by simp at hf; omega⟩
      have hr : rest.length ≤ n := by simp at hn; omega
      have hrf : rest.length < f := by simp at hf; omega
      have ih0 := fun st i => ih rest f st i hr hrf
      cases rest with
      | nil =>
        rcases st with _ | _ | _ | st <;>
          simp [quoteRemoveGo, qr, quoteRemoveGo_nil']
      | cons d rest' =>
        have hr' : rest'.length ≤ n := by simp at hr; omega
        have hrf' : rest'.length < f := by simp at hrf; omega
        have ih1 := fun st i => ih rest' f st i hr' hrf'
        rcases st with _ | _ | _ | st
        · conv => rhs; rw [qr.eq_def]
          simp only [quoteRemoveGo, Bool.false_eq_true, if_false, ih0, ih1]
        · conv => rhs; rw [qr.eq_def]
          simp only [quoteRemoveGo, Bool.false_eq_true, if_false, ih0, ih1, Nat.zero_add]
        · conv => rhs; rw [qr.eq_def]
          simp only [quoteRemoveGo, Bool.false_eq_true, if_false, ih0, ih1, Nat.zero_add, Nat.reduceAdd]
          have key : (d == '$' || d == '`' || d == '"' || d == '\\') = false →
              qr 2 (d :: rest') = d :: qr 2 rest' := by
            intro h
            simp only [Bool.or_eq_false_iff] at h
            rw [qr.eq_def]; simp [h.1.2, h.2]
          cases hq : (d == '$' || d == '`' || d == '"' || d == '\\')
          · simp only [key hq, Bool.false_eq_true, if_false]
          · simp only [if_true]
        · conv => rhs; rw [qr.eq_def]
          simp only [quoteRemoveGo, Bool.false_eq_true, if_false, ih0, ih1]

theorem quoteRemove_eq_qr (t : Str) : quoteRemove (fun _ => false) t = qr 0 t :=
  quoteRemoveGo_eq_qr t.length t _ 0 0 (Nat.le_refl _) (by omega)

/-! ## one step of `qr` -/

theorem qr1_close (x : Str) : qr 1 ('\'' :: x) = qr 0 x := by rw [qr.eq_def]; simp
theorem qr1_ch (c : Char) (x : Str) (h : c ≠ '\'') : qr 1 (c :: x) = c :: qr 1 x := by
  rw [qr.eq_def]; simp [h]
theorem qr2_close (x : Str) : qr 2 ('"' :: x) = qr 0 x := by rw [qr.eq_def]; simp
theorem qr2_ch (c : Char) (x : Str) (h1 : c ≠ '"') (h2 : c ≠ '\\') : qr 2 (c :: x) = c :: qr 2 x := by
  rw [qr.eq_def]; simp [h1, h2]
theorem qr2_esc_q (d : Char) (x : Str) (h : d = '"' ∨ d = '\\') :
    qr 2 ('\\' :: d :: x) = d :: qr 2 x := by
  rw [qr.eq_def]; rcases h with rfl | rfl <;> simp
theorem qr2_esc_o (d : Char) (x : Str) (h1 : d ≠ '"') (h2 : d ≠ '\\') (h3 : d ≠ '\n')
    (h4 : d ≠ '$') (h5 : d ≠ '`') : qr 2 ('\\' :: d :: x) = '\\' :: d :: qr 2 x := by
  rw [qr.eq_def]; simp [h1, h2, h3, h4, h5]
theorem qr0_esc (d : Char) (x : Str) (h : d ≠ '\n') : qr 0 ('\\' :: d :: x) = d :: qr 0 x := by
  rw [qr.eq_def]; simp [h]
theorem qr0_sq (x : Str) : qr 0 ('\'' :: x) = qr 1 x := by rw [qr.eq_def]; simp
theorem qr0_dq (x : Str) : qr 0 ('"' :: x) = qr 2 x := by rw [qr.eq_def]; simp
theorem qr0_ch (c : Char) (x : Str) (h1 : c ≠ '\\') (h2 : c ≠ '\'') (h3 : c ≠ '"') :
    qr 0 (c :: x) = c :: qr 0 x := by
  rw [qr.eq_def]; simp [h1, h2, h3]

/-- where POSIX `shlex` and shell quote removal agree: no unquoted newline / carriage return
    (white space for `shlex`), no line continuation, inside "…" no backslash before `$`,
    backquote or newline (`shlex` keeps the backslash), quotes closed, no final backslash -/
def shOK : QState → Str → Bool
  | st, [] => st == 0
  | 1, c :: rest => if c == '\'' then shOK 0 rest else shOK 1 rest
  | 2, c :: rest =>
    if c == '"' then shOK 0 rest
    else if c == '\\' then
      match rest with
      | d :: rest' => !(d == '$' || d == '`' || d == '\n') && shOK 2 rest'
      | [] => false
    else shOK 2 rest
  | _, c :: rest =>
    if c == '\n' || c == '\r' then false
    else if c == '\\' then
      match rest with
      | d :: rest' => d != '\n' && shOK 0 rest'
      | [] => false
    else if c == '\'' then shOK 1 rest
    else if c == '"' then shOK 2 rest
    else shOK 0 rest

theorem app_cons (raw : Str) (c : Char) (x : Str) : raw ++ [c] ++ x = raw ++ c :: x := by simp
theorem app_cons2 (raw : Str) (c d : Char) (x : Str) : raw ++ [c, d] ++ x = raw ++ c :: d :: x := by
  simp
theorem isEmpty_app (raw : Str) (c : Char) : (raw ++ [c]).isEmpty = false := by cases raw <;> rfl
theorem isEmpty_app2 (raw : Str) (c d : Char) : (raw ++ [c, d]).isEmpty = false := by
  cases raw <;> rfl

/-- `shlex.split` and (raw chunks, quote removal) in lock step: `raw` is the chunk read so far,
    `cur` its quote-removed value, `st` the common quote state -/
theorem shlex_chunks : ∀ (n : Nat) (rest : Str), rest.length ≤ n →
    ∀ (fuel fuel' : Nat) (st : QState) (inTok : Bool) (cur raw : Str) (acc racc : List Str),
      rest.length < fuel → rest.length < fuel' → (st = 0 ∨ st = 1 ∨ st = 2) →
      shOK st rest = true → (∀ x, qr 0 (raw ++ x) = cur ++ qr st x) → inTok = !raw.isEmpty →
      acc = racc.map (qr 0) →
      shlexGo fuel st inTok cur rest acc =
        some ((rawChunksGo fuel' st raw rest racc).map (qr 0)) := by
  intro n
  induction n with
  | zero =>
    intro rest hn fuel fuel' st inTok cur raw acc racc hf hf' hst hok hinv hin hacc
    have : rest = [] := List.eq_nil_of_length_eq_zero (by omega)
    subst this
    obtain ⟨f, rfl⟩ : ∃ f, fuel = f + 1 := ⟨fuel - 1, by simp at hf; omega⟩
    obtain ⟨f', rfl⟩ : ∃ f', fuel' = f' + 1 := ⟨fuel' - 1, by simp at hf'; omega⟩
    have h0 : st = 0 := by rw [shOK.eq_def] at hok; simpa using hok
    subst h0
    have hc : cur = qr 0 raw := by have := hinv []; simp [qr] at this; exact this.symm
    rw [shlexGo.eq_def, rawChunksGo.eq_def]
    subst hin hacc hc
    cases raw <;> simp
  | succ n ih =>
    intro rest hn fuel fuel' st inTok cur raw acc racc hf hf' hst hok hinv hin hacc
    cases rest with
    | nil => exact ih [] (Nat.zero_le _) fuel fuel' st inTok cur raw acc racc hf hf' hst hok hinv hin hacc
    | cons c rest =>
      obtain ⟨f, rfl⟩ : ∃ f, fuel = f + 1 := ⟨fuel - 1, by simp at hf; omega⟩
      obtain ⟨f', rfl⟩ : ∃ f', fuel' = f' + 1 := ⟨fuel' - 1, by simp at hf'; omega⟩
      have hr : rest.length ≤ n := by simp at hn; omega
      have hrf : rest.length < f := by simp at hf; omega
      have hrf' : rest.length < f' := by simp at hf'; omega
      have step := fun st' inTok' cur' raw' acc' racc' => ih rest hr f f' st' inTok' cur' raw' acc' racc' hrf hrf'
      rw [shOK.eq_def] at hok
      rw [shlexGo.eq_def, rawChunksGo.eq_def]
      rcases hst with rfl | rfl | rfl
      · -- unquoted
        simp only [] at hok ⊢
        have hcur : cur = qr 0 raw := by have := hinv []; simp [qr] at this; exact this.symm
        by_cases hnl : (c == '\n' || c == '\r') = true
        · simp [hnl] at hok
        · have hnl' : (c == '\n' || c == '\r') = false := by simpa using hnl
          simp only [hnl', Bool.false_eq_true, if_false] at hok
          by_cases hbl : (c == ' ' || c == '\t') = true
          · have hbl4 : (c == ' ' || c == '\t' || c == '\n' || c == '\r') = true := by
              simp only [Bool.or_eq_true] at hbl ⊢; rcases hbl with h | h <;> simp [h]
            have hcs : (c == '\\') = false ∧ (c == '\'') = false ∧ (c == '"') = false := by
              simp only [Bool.or_eq_true, beq_iff_eq] at hbl
              rcases hbl with rfl | rfl <;> decide
            simp only [hcs.1, hcs.2.1, hcs.2.2, Bool.false_eq_true, if_false] at hok
            simp only [hbl4, hbl, if_true]
            refine step 0 false [] [] _ _ (Or.inl rfl) hok (fun x => by simp) rfl ?_
            subst hin hacc hcur
            cases raw <;> simp
          · have hbl' : (c == ' ' || c == '\t') = false := by simpa using hbl
            have hbl4 : (c == ' ' || c == '\t' || c == '\n' || c == '\r') = false := by
              simp only [Bool.or_eq_false_iff] at hbl' hnl' ⊢
              exact ⟨⟨hbl', hnl'.1⟩, hnl'.2⟩
            have hn12 : (c == '\n') = false ∧ (c == '\r') = false := by
              simp only [Bool.or_eq_false_iff] at hnl'; exact hnl'
            simp only [hbl4, hbl', hn12.1, hn12.2, Bool.or_false, Bool.false_eq_true, if_false]
            by_cases hb : c = '\\'
            · subst hb
              simp only [beq_self_eq_true, if_true] at hok ⊢
              cases rest with
              | nil => simp at hok
              | cons d rest' =>
                simp only [Bool.and_eq_true, bne_iff_ne, ne_eq] at hok
                obtain ⟨d1, hok'⟩ := hok
                have hr' : rest'.length ≤ n := by simp at hr; omega
                have hrf2 : rest'.length < f := by simp at hrf; omega
                have hrf2' : rest'.length < f' := by simp at hrf'; omega
                simp only [List.take_succ_cons, List.take_zero, List.drop_succ_cons, List.drop_zero]
                refine ih rest' hr' f f' 0 true (cur ++ [d]) (raw ++ ['\\', d]) acc racc hrf2 hrf2'
                  (Or.inl rfl) hok' ?_ (by rw [isEmpty_app2]; rfl) hacc
                intro x; rw [app_cons2, hinv, qr0_esc d x d1]; simp
            · have hb' : (c == '\\') = false := by simp [hb]
              simp only [hb', Bool.false_eq_true, if_false] at hok ⊢
              by_cases hs : c = '\''
              · subst hs
                simp only [beq_self_eq_true, if_true] at hok ⊢
                refine step 1 true cur (raw ++ ['\'']) acc racc (Or.inr (Or.inl rfl)) hok ?_
                  (by rw [isEmpty_app]; rfl) hacc
                intro x; rw [app_cons, hinv, qr0_sq]
              · have hs' : (c == '\'') = false := by simp [hs]
                simp only [hs', Bool.false_eq_true, if_false] at hok ⊢
                by_cases hd : c = '"'
                · subst hd
                  simp only [beq_self_eq_true, if_true] at hok ⊢
                  refine step 2 true cur (raw ++ ['"']) acc racc (Or.inr (Or.inr rfl)) hok ?_
                    (by rw [isEmpty_app]; rfl) hacc
                  intro x; rw [app_cons, hinv, qr0_dq]
                · have hd' : (c == '"') = false := by simp [hd]
                  simp only [hd', Bool.false_eq_true, if_false] at hok ⊢
                  refine step 0 true (cur ++ [c]) (raw ++ [c]) acc racc (Or.inl rfl) hok ?_
                    (by rw [isEmpty_app]; rfl) hacc
                  intro x; rw [app_cons, hinv, qr0_ch c x hb hs hd]; simp
      · -- inside '…'
        simp only [] at hok ⊢
        by_cases hc : c = '\''
        · subst hc
          simp only [beq_self_eq_true, if_true] at hok ⊢
          refine step 0 true cur (raw ++ ['\'']) acc racc (Or.inl rfl) hok ?_ (by rw [isEmpty_app]; rfl) hacc
          intro x; rw [app_cons, hinv, qr1_close]
        · have hc' : (c == '\'') = false := by simp [hc]
          simp only [hc', Bool.false_eq_true, if_false] at hok ⊢
          refine step 1 true (cur ++ [c]) (raw ++ [c]) acc racc (Or.inr (Or.inl rfl)) hok ?_
            (by rw [isEmpty_app]; rfl) hacc
          intro x; rw [app_cons, hinv, qr1_ch c x hc]; simp
      · -- inside "…"
        simp only [] at hok ⊢
        by_cases hq : c = '"'
        · subst hq
          simp only [beq_self_eq_true, if_true] at hok ⊢
          have hnb : ('"' == '\\') = false := by decide
          simp only [hnb, Bool.false_eq_true, if_false]
          refine step 0 true cur (raw ++ ['"']) acc racc (Or.inl rfl) hok ?_ (by rw [isEmpty_app]; rfl) hacc
          intro x; rw [app_cons, hinv, qr2_close]
        · have hq' : (c == '"') = false := by simp [hq]
          simp only [hq', Bool.false_eq_true, if_false] at hok ⊢
          by_cases hb : c = '\\'
          · subst hb
            simp only [beq_self_eq_true, if_true] at hok ⊢
            cases rest with
            | nil => simp at hok
            | cons d rest' =>
              simp only [Bool.and_eq_true, Bool.not_eq_true', Bool.or_eq_false_iff, beq_eq_false_iff_ne,
                ne_eq] at hok
              obtain ⟨⟨⟨d1, d2⟩, d3⟩, hok'⟩ := hok
              have hr' : rest'.length ≤ n := by simp at hr; omega
              have hrf2 : rest'.length < f := by simp at hrf; omega
              have hrf2' : rest'.length < f' := by simp at hrf'; omega
              simp only [List.take_succ_cons, List.take_zero, List.drop_succ_cons, List.drop_zero]
              by_cases hd : d = '"' ∨ d = '\\'
              · have hd' : (d == '"' || d == '\\') = true := by rcases hd with rfl | rfl <;> rfl
                simp only [hd', if_true]
                refine ih rest' hr' f f' 2 true (cur ++ [d]) (raw ++ ['\\', d]) acc racc hrf2 hrf2'
                  (Or.inr (Or.inr rfl)) hok' ?_ (by rw [isEmpty_app2]; rfl) hacc
                intro x; rw [app_cons2, hinv, qr2_esc_q d x hd]; simp
              · have hd' : (d == '"' || d == '\\') = false := by
                  simp only [not_or] at hd; simp [hd.1, hd.2]
                simp only [hd', Bool.false_eq_true, if_false]
                simp only [not_or] at hd
                refine ih rest' hr' f f' 2 true (cur ++ ['\\', d]) (raw ++ ['\\', d]) acc racc hrf2 hrf2'
                  (Or.inr (Or.inr rfl)) hok' ?_ (by rw [isEmpty_app2]; rfl) hacc
                intro x; rw [app_cons2, hinv, qr2_esc_o d x hd.1 hd.2 d3 d1 d2]; simp
          · have hb' : (c == '\\') = false := by simp [hb]
            simp only [hb', Bool.false_eq_true, if_false] at hok ⊢
            refine step 2 true (cur ++ [c]) (raw ++ [c]) acc racc (Or.inr (Or.inr rfl)) hok ?_
              (by rw [isEmpty_app]; rfl) hacc
            intro x; rw [app_cons, hinv, qr2_ch c x hq hb]; simp

/-- the raw chunks of `s` -/
def rawChunks (s : Str) : List Str := rawChunksGo (s.length + 1) 0 [] s []

/-- **the specification-level lemma**: on an input where the two state machines agree (`shOK`),
    POSIX `shlex.split` yields the shell quote removal of every raw chunk -/
theorem shlexSplit_chunks (s : Str) (h : shOK 0 s = true) :
    shlexSplit s = some ((rawChunks s).map (quoteRemove (fun _ => false))) := by
  unfold shlexSplit rawChunks
  have := shlex_chunks s.length s (Nat.le_refl _) (s.length + 1) (s.length + 1) 0 false [] [] [] []
    (by omega) (by omega) (Or.inl rfl) h (fun x => by simp) rfl rfl
  rw [this]
  congr 2
  funext t
  exact (quoteRemove_eq_qr t).symm

end Bashlex.C06S
