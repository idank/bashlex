/-
  C06: the quote logic of `_expandwordinternal` as a pure function.

  On a word without expansion characters (`$`, backquote, `<`, `>`, `~`) one iteration of the
  expander's loop is `pure` of a function of the loop state: the nested parser is never called,
  no query is made, the state of the parser object is not touched.  `stripPure string qdq` is
  what the loop computes (`none`: the IndexError the implementation raises when the word ends
  in a backslash that the scan reaches as an escape character).

  The statements are *equations* in the model monad (stronger than `Sat`): they also say that the
  fuel of the model loop suffices and that nothing is raised.
-/
import Bashlex.Model.Subst
import Bashlex.Proofs.HoareS

namespace Bashlex.C06
open Bashlex Bashlex.M

/-- characters at which `_expandwordinternal` leaves the plain quote logic -/
def isExpChar (c : Char) : Bool := c == '$' || c == '`' || c == '<' || c == '>' || c == '~'

/-- no expansion character occurs -/
def noExp (t : Str) : Bool := t.all fun c => !isExpChar c

/-- `string[0] == "'" and string[-1] == "'"`: the expander returns `string[1:-1]` unscanned -/
def wholeSQ (s : Str) : Bool := s.head? == some '\'' && s.getLast? == some '\''

/-- the scan of `_expandwordinternal` over a suffix without expansion characters:
    every `"` disappears; a `'` disappears unless `qdq`; a backslash disappears and the next
    character is copied (`none`: there is no next character — `sindex` runs past the end and
    `string[sindex]` raises IndexError) -/
def stripGo (qdq : Bool) : Str → Option Str
  | [] => some []
  | c :: rest =>
    if c == '\\' then
      match rest with
      | [] => none
      | d :: rest' => (stripGo qdq rest').map (d :: ·)
    else if c == '"' then stripGo qdq rest
    else if c == '\'' && !qdq then stripGo qdq rest
    else (stripGo qdq rest).map (c :: ·)

/-- the expanded word of `_expandwordinternal(…, qdoublequotes = qdq, …)` for a word without
    expansion characters; `none` = IndexError -/
def stripPure (string : Str) (qdq : Bool) : Option Str :=
  if wholeSQ string then some (string.drop 1).dropLast else stripGo qdq string

theorem stripGo_nil (q : Bool) : stripGo q [] = some [] := by rw [stripGo]
theorem stripGo_bs_nil (q : Bool) : stripGo q ['\\'] = none := by rw [stripGo]; simp
theorem stripGo_bs_cons (q : Bool) (d : Char) (r : Str) :
    stripGo q ('\\' :: d :: r) = (stripGo q r).map (d :: ·) := by
  conv => lhs; rw [stripGo.eq_def]
  simp
theorem stripGo_dq (q : Bool) (r : Str) : stripGo q ('"' :: r) = stripGo q r := by
  conv => lhs; rw [stripGo.eq_def]
  simp
theorem stripGo_sq (q : Bool) (r : Str) :
    stripGo q ('\'' :: r) = if q then (stripGo q r).map ('\'' :: ·) else stripGo q r := by
  conv => lhs; rw [stripGo.eq_def]
  cases q <;> simp
theorem stripGo_plain (q : Bool) (c : Char) (r : Str) (h1 : c ≠ '\\') (h2 : c ≠ '"')
    (h3 : c ≠ '\'') : stripGo q (c :: r) = (stripGo q r).map (c :: ·) := by
  conv => lhs; rw [stripGo.eq_def]
  simp [h1, h2, h3]

/-! ### the loop body is pure on plain characters -/

theorem loop_succ {σ α : Type} (site : String) (body : σ → M (σ ⊕ α)) (fuel : Nat) (s : σ) :
    M.loop site body (fuel + 1) s =
      body s >>= fun r => match r with
        | .inl s' => M.loop site body fuel s'
        | .inr a => pure a := rfl

variable (np : NestedParse) (tok : Token) (string : Str) (q : Bool)

theorem step_end (st : ExpSt) (h : st.sindex = string.length) :
    expandStep np tok string q st = pure (.inr (st.parts, st.istring, false)) := by
  unfold expandStep
  simp [h]

theorem step_oob (st : ExpSt) (h : string.length < st.sindex) :
    expandStep np tok string q st = M.foreign "IndexError" "_expandwordinternal" := by
  unfold expandStep
  have h1 : st.sindex ≠ string.length := by omega
  have h2 : string[st.sindex]? = none := List.getElem?_eq_none (by omega)
  simp [h1, h2]

theorem step_backslash (st : ExpSt) (h : string[st.sindex]? = some '\\') :
    expandStep np tok string q st = pure (.inl { st with
        istring := st.istring ++ Str.slice string (st.sindex + 1) (st.sindex + 2)
        sindex := st.sindex + 2 }) := by
  have hne : st.sindex ≠ string.length := by
    intro h'; rw [h', List.getElem?_eq_none (Nat.le_refl _)] at h; cases h
  unfold expandStep
  simp [h, hne]

theorem step_dquote (st : ExpSt) (h : string[st.sindex]? = some '"') :
    expandStep np tok string q st = pure (.inl { st with sindex := st.sindex + 1 }) := by
  have hne : st.sindex ≠ string.length := by
    intro h'; rw [h', List.getElem?_eq_none (Nat.le_refl _)] at h; cases h
  unfold expandStep
  simp [h, hne]

theorem step_squote_whole (st : ExpSt) (h : string[st.sindex]? = some '\'')
    (h0 : st.sindex = 0) (hl : string.getLast? = some '\'') :
    expandStep np tok string q st = pure (.inr ([], (string.drop 1).dropLast, true)) := by
  have hne : st.sindex ≠ string.length := by
    intro h'; rw [h', List.getElem?_eq_none (Nat.le_refl _)] at h; cases h
  unfold expandStep
  rw [h0] at h hne
  simp [h, hne, h0, hl]

theorem step_squote (st : ExpSt) (h : string[st.sindex]? = some '\'')
    (h0 : ¬ (st.sindex = 0 ∧ string.getLast? = some '\'')) :
    expandStep np tok string q st = pure (.inl
      (if q then { st with istring := st.istring ++ ['\''], sindex := st.sindex + 1 }
       else { st with sindex := st.sindex + 1 })) := by
  have hne : st.sindex ≠ string.length := by
    intro h'; rw [h', List.getElem?_eq_none (Nat.le_refl _)] at h; cases h
  unfold expandStep
  cases q <;> simp [h, hne, h0]

theorem step_plain (st : ExpSt) (c : Char) (h : string[st.sindex]? = some c)
    (he : isExpChar c = false) (h1 : c ≠ '\\') (h2 : c ≠ '"') (h3 : c ≠ '\'') :
    expandStep np tok string q st = pure (.inl { st with
        istring := st.istring ++ [c], sindex := st.sindex + 1 }) := by
  have hne : st.sindex ≠ string.length := by
    intro h'; rw [h', List.getElem?_eq_none (Nat.le_refl _)] at h; cases h
  simp only [isExpChar, Bool.or_eq_false_iff, beq_eq_false_iff_ne, ne_eq] at he
  obtain ⟨⟨⟨⟨e1, e2⟩, e3⟩, e4⟩, e5⟩ := he
  unfold expandStep
  simp [h, hne, e1, e2, e3, e4, e5, h1, h2, h3]

end Bashlex.C06

namespace Bashlex.C06
open Bashlex Bashlex.M

theorem getElem?_mid (pre : Str) (c : Char) (rest : Str) :
    (pre ++ c :: rest)[pre.length]? = some c := by simp

theorem slice_next (pre : Str) (c d : Char) (rest : Str) :
    Str.slice (pre ++ c :: d :: rest) (pre.length + 1) (pre.length + 2) = [d] := by
  unfold Str.slice
  have : pre ++ c :: d :: rest = (pre ++ [c, d]) ++ rest := by simp
  rw [this, List.take_left' (by simp)]
  have : pre ++ [c, d] = (pre ++ [c]) ++ [d] := by simp
  rw [this, List.drop_left' (by simp)]

theorem slice_next_end (pre : Str) (c : Char) :
    Str.slice (pre ++ [c]) (pre.length + 1) (pre.length + 2) = [] := by
  unfold Str.slice
  rw [List.take_of_length_le (by simp), List.drop_of_length_le (by simp)]

theorem noExp_cons {c : Char} {t : Str} : noExp (c :: t) = true ↔ isExpChar c = false ∧ noExp t = true := by
  simp [noExp]

/-- the model loop from a state standing at the start of the suffix `suf` -/
theorem loop_strip (np : NestedParse) (tok : Token) (string : Str) (q : Bool) :
    ∀ (suf pre : Str) (st : ExpSt) (fuel : Nat), string = pre ++ suf → st.sindex = pre.length →
      noExp suf = true → (pre = [] → wholeSQ string = false) → suf.length < fuel →
      M.loop "_expandwordinternal" (expandStep np tok string q) fuel st =
        match stripGo q suf with
        | some v => pure (st.parts, st.istring ++ v, false)
        | none => M.foreign "IndexError" "_expandwordinternal"
  | [], pre, st, fuel + 1, hs, hi, _, _, _ => by
    rw [loop_succ, step_end np tok string q st (by rw [hi, hs]; simp), pure_bind]
    simp [stripGo_nil]
  | c :: rest, pre, st, fuel + 1, hs, hi, hn, hw, hf => by
    have hc : string[st.sindex]? = some c := by rw [hs, hi]; exact getElem?_mid pre c rest
    obtain ⟨hce, hn'⟩ := noExp_cons.mp hn
    have hs' : string = (pre ++ [c]) ++ rest := by rw [hs]; simp
    have hne : pre ++ [c] = [] → wholeSQ string = false := by intro h; simp at h
    have hf' : rest.length < fuel := by simp at hf; omega
    rw [loop_succ]
    by_cases h1 : c = '\\'
    · subst h1
      rw [step_backslash np tok string q st hc, pure_bind]
      simp only []
      cases rest with
      | nil =>
        cases fuel with
        | zero => simp at hf
        | succ fuel =>
          rw [loop_succ, step_oob np tok string q _ (by simp [hs, hi])]
          rw [stripGo_bs_nil]
          rfl
      | cons d rest' =>
        obtain ⟨hde, hn''⟩ := noExp_cons.mp hn'
        have := loop_strip np tok string q rest' (pre ++ ['\\', d])
          { st with istring := st.istring ++ Str.slice string (st.sindex + 1) (st.sindex + 2)
                    sindex := st.sindex + 2 } fuel (by rw [hs]; simp) (by simp [hi]) hn''
          (by intro h; simp at h) (by simp at hf'; omega)
        rw [this, hs, hi, slice_next]
        rw [stripGo_bs_cons]
        cases stripGo q rest' <;> simp
    · by_cases h2 : c = '"'
      · subst h2
        rw [step_dquote np tok string q st hc, pure_bind]
        simp only []
        rw [loop_strip np tok string q rest (pre ++ ['"']) _ fuel hs' (by simp [hi]) hn' hne hf']
        rw [stripGo_dq]
      · by_cases h3 : c = '\''
        · subst h3
          have h0 : ¬ (st.sindex = 0 ∧ string.getLast? = some '\'') := by
            rintro ⟨a, b⟩
            have hp : pre = [] := List.eq_nil_of_length_eq_zero (by omega)
            have := hw hp
            rw [hp] at hs
            simp [wholeSQ, hs] at this
            rw [hs] at b
            exact this b
          rw [step_squote np tok string q st hc h0, pure_bind]
          simp only []
          rw [loop_strip np tok string q rest (pre ++ ['\'']) _ fuel hs' (by cases q <;> simp [hi]) hn' hne hf']
          rw [stripGo_sq]
          cases q <;> simp
          cases stripGo true rest <;> simp
        · rw [step_plain np tok string q st c hc hce h1 h2 h3, pure_bind]
          simp only []
          rw [loop_strip np tok string q rest (pre ++ [c]) _ fuel hs' (by simp [hi]) hn' hne hf']
          rw [stripGo_plain q c rest h1 h2 h3]
          cases stripGo q rest <;> simp

end Bashlex.C06

namespace Bashlex.C06
open Bashlex Bashlex.M

theorem raise_bind {α β : Type} (x : Exn) (f : α → M β) : (M.raise x : M α) >>= f = M.raise x := rfl
theorem foreign_bind {α β : Type} (a b : String) (f : α → M β) :
    (M.foreign a b : M α) >>= f = M.foreign a b := rfl

/-- **Part 1**: on a word without expansion characters `_expandwordinternal` is the pure function
    `stripPure` of the word's text, for every nested parser, in every state and environment:
    no parts, no exception other than the IndexError of a final escape character, fuel suffices. -/
theorem expandwordinternal_plain (np : NestedParse) (tok : Token) (q : Bool)
    (h : noExp tok.valueStr = true) :
    expandwordinternal np tok q =
      match stripPure tok.valueStr q with
      | some v => pure ([], v)
      | none => M.foreign "IndexError" "_expandwordinternal" := by
  unfold expandwordinternal stripPure
  simp only []
  by_cases hw : wholeSQ tok.valueStr = true
  · rw [if_pos hw]
    have hw' := hw
    simp only [wholeSQ, Bool.and_eq_true, beq_iff_eq] at hw'
    have hc : tok.valueStr[0]? = some '\'' := by
      rw [← List.head?_eq_getElem?]; exact hw'.1
    have h2 : 2 * tok.valueStr.length + 4 = (2 * tok.valueStr.length + 3) + 1 := rfl
    rw [h2, loop_succ, step_squote_whole np tok _ q _ hc rfl hw'.2, pure_bind]
    simp
  · rw [if_neg hw]
    have hw' : wholeSQ tok.valueStr = false := by simpa using hw
    rw [loop_strip np tok tok.valueStr q tok.valueStr [] { flags := tok.flags } _ rfl rfl h
      (fun _ => hw') (by omega)]
    cases stripGo q tok.valueStr with
    | none => exact foreign_bind _ _ _
    | some v => simp

/-- the `Sat` form of part 1 -/
theorem sat_expandwordinternal_plain (np : NestedParse) (tok : Token) (q : Bool)
    (h : noExp tok.valueStr = true) :
    Sat (expandwordinternal np tok q) (fun r => stripPure tok.valueStr q = some r.2 ∧ r.1 = [])
      (fun x => stripPure tok.valueStr q = none ∧ x = .foreign "IndexError" "_expandwordinternal") := by
  rw [expandwordinternal_plain np tok q h]
  cases stripPure tok.valueStr q with
  | none => exact Sat.foreign ⟨rfl, rfl⟩
  | some v => exact Sat.pure ⟨rfl, rfl⟩

end Bashlex.C06
