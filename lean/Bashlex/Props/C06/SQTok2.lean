/-
  C06 for `split`, quoted inputs: `_parse_matched_pair` on a double-quoted string.
-/
import Bashlex.Props.C06.SQTok

namespace Bashlex.C06S
open Bashlex Bashlex.M Bashlex.C10 Bashlex.C14
set_option linter.unusedSimpArgs false

/-- the body of a double-quoted string as the tokenizer of `split` can read it: ordinary
    characters (no `"`, backslash, backquote, `$`), and backslash-character pairs -/
inductive DBody : Str → Prop
  | nil : DBody []
  | ch (c : Char) (r : Str) : c ≠ '"' → c ≠ '\\' → c ≠ '`' → c ≠ '$' → DBody r → DBody (c :: r)
  | esc (d : Char) (r : Str) : d ≠ '\n' → d ≠ '$' → DBody r → DBody ('\\' :: d :: r)

theorem run_mpPost_dq (pmp : MPParams → M Str) (pcs : CSParams → M Str) (s : MPState) (c : Char)
    (hs : s.sawdollar = false) (c3 : c ≠ '`') (c4 : c ≠ '$') (l : Local) (e : Env) :
    M.run (mpPost pmp pcs (PQ '"') true s c) l e = (.ok (s, l), e) := by
  rw [mpPost_dq pmp pcs s c hs c3 c4]; rfl

variable (F : Nat) (l : Local) (hl : l.tape = none) (heol : l.eolLookahead = none)
include hl heol

theorem run_pmpBody_dq_ch (st : MPState) (e : Env) (c : Char) (z : Str)
    (hd : e.tape.line.drop e.tape.idx = c :: z) (c1 : c ≠ '"') (c2 : c ≠ '\\') (c3 : c ≠ '`')
    (c4 : c ≠ '$')
    (h1 : st.insidecomment = false) (h2 : st.passnextchar = false) (h3 : st.count = 1)
    (h4 : st.sawdollar = false) :
    M.run (pmpBody F (PQ '"') false true st) l e =
      (.ok (.inl { st with ret := st.ret ++ [c] }, l), envAt e (e.tape.idx + 1)) := by
  rw [pmpBody_count1 F _ _ _ st h3, M.run_bind, run_mpPre_dq_ch st l hl heol e c z hd c1 c2 h1 h2 h3]
  simp only []
  rw [M.run_bind, run_mpPost_dq _ _ { st with ret := st.ret ++ [c] } c h4 c3 c4]
  rfl

theorem run_pmpBody_dq_bs (st : MPState) (e : Env) (d : Char) (z : Str)
    (hd : e.tape.line.drop e.tape.idx = '\\' :: d :: z) (hdn : d ≠ '\n')
    (h1 : st.insidecomment = false) (h2 : st.passnextchar = false) (h3 : st.count = 1)
    (h4 : st.sawdollar = false) :
    M.run (pmpBody F (PQ '"') false true st) l e =
      (.ok (.inl { st with ret := st.ret ++ ['\\'], passnextchar := true }, l),
        envAt e (e.tape.idx + 1)) := by
  rw [pmpBody_count1 F _ _ _ st h3, M.run_bind, run_mpPre_dq_bs st l hl heol e d z hd hdn h1 h2 h3]
  simp only []
  rw [M.run_bind, run_mpPost_dq _ _ { st with ret := st.ret ++ ['\\'], passnextchar := true } '\\' h4
    (by decide) (by decide)]
  rfl

theorem run_pmpBody_dq_pass (st : MPState) (e : Env) (d : Char) (z : Str)
    (hd : e.tape.line.drop e.tape.idx = d :: z)
    (h1 : st.insidecomment = false) (h2 : st.passnextchar = true) (h3 : st.count = 1) :
    M.run (pmpBody F (PQ '"') false true st) l e =
      (.ok (.inl { st with ret := st.ret ++ [d], passnextchar := false }, l),
        envAt e (e.tape.idx + 1)) := by
  rw [pmpBody_count1 F _ _ _ st h3, M.run_bind, run_mpPre_dq_pass st l hl heol e d z hd h1 h2]
  rfl

theorem run_pmpBody_dq_close (st : MPState) (e : Env) (z : Str)
    (hd : e.tape.line.drop e.tape.idx = '"' :: z)
    (h1 : st.insidecomment = false) (h2 : st.passnextchar = false) (h3 : st.count = 1) :
    M.run (pmpBody F (PQ '"') false true st) l e =
      (.ok (.inr (st.ret ++ ['"']), l), envAt e (e.tape.idx + 1)) := by
  rw [pmpBody_count1 F _ _ _ st h3, M.run_bind, run_mpPre_dq_close st l hl heol e z hd h1 h2 h3]
  rfl

theorem run_pmp_dq_loop (z : Str) : ∀ (body : Str), DBody body →
    ∀ (st : MPState) (fuel : Nat) (e : Env),
      st.insidecomment = false → st.passnextchar = false → st.count = 1 → st.sawdollar = false →
      e.tape.line.drop e.tape.idx = body ++ '"' :: z → body.length + 1 ≤ fuel →
      M.run (M.loop "_parse_matched_pair" (pmpBody F (PQ '"') false true) fuel st) l e =
        (.ok (st.ret ++ body ++ ['"'], l), envAt e (e.tape.idx + body.length + 1)) := by
  intro body hb
  induction hb with
  | nil =>
    intro st fuel e h1 h2 h3 h4 hd hf
    obtain ⟨f, rfl⟩ : ∃ f, fuel = f + 1 := ⟨fuel - 1, by simp at hf; omega⟩
    rw [run_loop_succ, run_pmpBody_dq_close F l hl heol st e z hd h1 h2 h3]
    simp
  | ch c r c1 c2 c3 c4 _ ih =>
    intro st fuel e h1 h2 h3 h4 hd hf
    obtain ⟨f, rfl⟩ : ∃ f, fuel = f + 1 := ⟨fuel - 1, by simp at hf; omega⟩
    obtain ⟨q1, q2, q3⟩ := drop_cons_facts hd
    rw [run_loop_succ, run_pmpBody_dq_ch F l hl heol st e c _ hd c1 c2 c3 c4 h1 h2 h3 h4]
    simp only []
    rw [ih { st with ret := st.ret ++ [c] } f (envAt e (e.tape.idx + 1)) h1 h2 h3 h4
      (by simpa [envAt] using q3) (by simp at hf; omega)]
    have : e.tape.idx + 1 + r.length + 1 = e.tape.idx + (r.length + 1) + 1 := by omega
    simp [envAt, this]
  | esc d r d1 d2 _ ih =>
    intro st fuel e h1 h2 h3 h4 hd hf
    obtain ⟨f, rfl⟩ : ∃ f, fuel = f + 2 := ⟨fuel - 2, by simp at hf; omega⟩
    obtain ⟨q1, q2, q3⟩ := drop_cons_facts hd
    obtain ⟨p1, p2, p3⟩ := drop_cons_facts q3
    rw [run_loop_succ, run_pmpBody_dq_bs F l hl heol st e d _ hd d1 h1 h2 h3 h4]
    simp only []
    rw [run_loop_succ, run_pmpBody_dq_pass F l hl heol
      { st with ret := st.ret ++ ['\\'], passnextchar := true } (envAt e (e.tape.idx + 1)) d _
      (by simpa [envAt] using q3) h1 rfl h3]
    simp only []
    have henv : envAt (envAt e (e.tape.idx + 1)) ((envAt e (e.tape.idx + 1)).tape.idx + 1) =
        envAt e (e.tape.idx + 1 + 1) := rfl
    rw [henv]
    rw [ih { st with ret := st.ret ++ ['\\'] ++ [d], passnextchar := false }
      f (envAt e (e.tape.idx + 1 + 1)) h1 rfl h3 h4 (by simpa [envAt] using p3)
      (by simp at hf; omega)]
    have : e.tape.idx + 1 + 1 + r.length + 1 = e.tape.idx + (r.length + 1 + 1) + 1 := by omega
    simp [envAt, this]

/-- **`_parse_matched_pair` on a double-quoted string** -/
theorem run_pmp_dq (body z : Str) (e : Env) (hb : DBody body)
    (hd : e.tape.line.drop e.tape.idx = body ++ '"' :: z)
    (hlen : e.tape.line.length + 2 ≤ 1073741824) :
    M.run (parseMatchedPair (F + 1) (PQ '"')) l e =
      (.ok (body ++ ['"'], l), envAt e (e.tape.idx + body.length + 1)) := by
  have := drop_len hd
  rw [pmp_succ, M.run_bind, run_mpInit_dq]
  simp only [loopFuel, pure_bind]
  rw [run_pmp_dq_loop F l hl heol z body hb _ 1073741824 e rfl rfl rfl rfl hd (by omega)]
  simp

end Bashlex.C06S
