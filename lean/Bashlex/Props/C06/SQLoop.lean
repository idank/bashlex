/-
  C06 for `split`, quoted inputs: the loop of `_readtokenword` over a chunk.  The chunk is a
  sequence of items (`Items`); each item is read in one or two iterations (`item_plain`, `item_esc`,
  `item_quote`), and `ReadsTo.item` puts an item in front of what the loop reads after it.
-/
import Bashlex.Props.C06.SQWord

namespace Bashlex.C06S
open Bashlex Bashlex.M Bashlex.C10 Bashlex.C14
set_option linter.unusedSimpArgs false

theorem contains_snoc (l : Str) (a c : Char) : (l ++ [a]).contains c = (l.contains c || decide (c = a)) := by
  induction l with
  | nil => simp
  | cons x l ih => simp [List.contains_cons, ih, Bool.or_assoc]

theorem items_plainW : ∀ (w : Str), (∀ x ∈ w, plainCh x = true) → Items w false
  | [], _ => .nil
  | c :: w, h => .plain c w false (h c (by simp)) (items_plainW w fun x hx => h x (by simp [hx]))

/-- the loop of `_readtokenword`, holding the first character of `t ++ b :: rest` with the others
    on the tape, reads `t`: it stops at the break character `b` with `t` added to the word.
    `Len` is what is known of the length of the line: only a quoted string needs a bound, for the
    fuel of `_parse_matched_pair` -/
def ReadsTo (Len : Nat → Prop) (l : Local) (b : Char) (rest t : Str) (q : Bool) : Prop :=
  ∀ (st : RWState) (x : Char) (z : Str) (fuel : Nat) (e : Env) (p : Nat),
    st.c = some x → st.passNext = false → x :: z = t ++ b :: rest →
    e.tape.line.drop e.tape.idx = z → e.tape.idx = p + 1 → e.tape.idx ≤ e.tape.line.length →
    Len e.tape.line.length → t.length + 1 ≤ fuel →
    ∃ st' e', M.run (wloop fuel st) l e = (.ok (st', l), e') ∧
      e'.tape = { e.tape with idx := p + t.length } ∧ WStep st st' t q b

variable {Len : Nat → Prop} {ps : List Nat} {l : Local} {b : Char} {rest r : Str} {q : Bool}

theorem ReadsTo.nil (hinv : Inv ps l) (hb : endCh b = true) : ReadsTo Len l b rest [] false := by
  intro st x z fuel e p hc hpn hxz hd hidx hle hlen hf
  simp at hxz
  obtain ⟨rfl, rfl⟩ := hxz
  obtain ⟨f, rfl⟩ : ∃ f, fuel = f + 1 := ⟨fuel - 1, by simp at hf; omega⟩
  obtain ⟨e', hr, he'⟩ := run_step_end st x ps l e hinv hc hpn hb (by omega) hle
  refine ⟨st, e', ?_, ?_, ⟨hc, by simp, rfl, by simp, hpn, rfl⟩⟩
  · rw [show wloop (f + 1) st = _ from rfl, run_loop_succ, hr]
  · rw [he', hidx]; simp

/-- an item `x :: a` that the loop reads in `k` iterations, in front of `r` -/
theorem ReadsTo.item {qa : Bool} {x : Char} {a : Str} (k : Nat) (hk : k ≤ a.length + 1)
    (hitem : ∀ (st : RWState) (y : Char) (z' : Str) (e : Env), st.c = some x → st.passNext = false →
      e.tape.line.drop e.tape.idx = a ++ y :: z' → y :: z' = r ++ b :: rest →
      Len e.tape.line.length →
      ∃ st' e', (∀ f, M.run (wloop (f + k) st) l e = M.run (wloop f st') l e') ∧
        e'.tape = { e.tape with idx := e.tape.idx + a.length + 1 } ∧ WStep st st' (x :: a) qa y)
    (ih : ReadsTo Len l b rest r q) : ReadsTo Len l b rest (x :: a ++ r) (qa || q) := by
  intro st x' z fuel e p hc hpn hxz hd hidx hle hlen hf
  obtain ⟨y, z', hz⟩ := cons_of_app r b rest
  simp only [List.cons_append, List.append_assoc, List.cons.injEq] at hxz
  obtain ⟨rfl, rfl⟩ := hxz
  rw [hz] at hd
  obtain ⟨f, rfl⟩ : ∃ f, fuel = f + k := ⟨fuel - k, by simp at hf; omega⟩
  obtain ⟨st1, e1, hl1, he1, w1⟩ := hitem st y z' e hc hpn hd hz.symm hlen
  have hlen' := congrArg List.length hd
  have hd1 : e1.tape.line.drop e1.tape.idx = z' := by
    rw [he1]
    show e.tape.line.drop (e.tape.idx + a.length + 1) = z'
    have : e.tape.idx + a.length + 1 = e.tape.idx + (a ++ [y]).length := by simp; omega
    rw [this, ← List.drop_drop, hd]
    have : a ++ y :: z' = (a ++ [y]) ++ z' := by simp
    rw [this, List.drop_left]
  obtain ⟨st2, e2, hl2, he2, w2⟩ := ih st1 y z' f e1 (p + a.length + 1) w1.c w1.pn hz.symm hd1
    (by rw [he1]; simp; omega) (by rw [he1]; simp at hlen' ⊢; omega) (by rw [he1]; exact hlen)
    (by simp at hf ⊢; omega)
  refine ⟨st2, e2, by rw [hl1, hl2], ?_, ?_⟩
  · rw [he2, he1]; simp; omega
  · simpa using w1.trans w2

theorem ReadsTo.plain (hinv : Inv ps l) (hb : endCh b = true) {c : Char} (hp : plainCh c = true)
    (hr : Items r q) (ih : ReadsTo Len l b rest r q) : ReadsTo Len l b rest (c :: r) q :=
  ReadsTo.item (qa := false) (a := []) 1 (by simp)
    (fun st y z' e hc hpn hd hz _ => item_plain st c y z' ps l e hinv hc hpn hp hd (items_next hr hb hz)) ih

/-- a quoted string `qc body qc` in front of `r` -/
theorem ReadsTo.quote (hinv : Inv ps l) (hb : endCh b = true) (hL : ∀ n, Len n → n + 2 ≤ 1073741824)
    (hr : Items r q) (qc : Char) (hq : qc = '\'' ∨ qc = '"') (body : Str)
    (hpmp : ∀ (l1 : Local) (e1 : Env) (z : Str), l1.tape = none → l1.eolLookahead = none →
      e1.tape.line.drop e1.tape.idx = body ++ qc :: z → e1.tape.line.length + 2 ≤ 1073741824 →
      M.run (parseMatchedPair (1048575 + 1) (PQ qc)) l1 e1 =
        (.ok (body ++ [qc], l1), envAt e1 (e1.tape.idx + body.length + 1)))
    (hnd : (qc == '"' && (body ++ [qc]).contains '$') = false)
    (ih : ReadsTo Len l b rest r q) : ReadsTo Len l b rest (qc :: (body ++ qc :: r)) true := by
  have := ReadsTo.item (qa := true) (x := qc) (a := body ++ [qc]) 1 (by simp)
    (fun st y z' e hc hpn hd hz hlen => ?_) ih
  · simpa using this
  · have hd' : e.tape.line.drop e.tape.idx = body ++ qc :: y :: z' := by simpa using hd
    obtain ⟨st', e', h1, h2, h3⟩ := item_quote qc hq st body y z' ps l e hinv hc hpn
      (fun l1 e1 a1 a2 a3 => hpmp l1 e1 (y :: z') a1 a2 (by rw [a3]; exact hd')
        (by rw [a3]; exact hL _ hlen))
      hd' (items_next hr hb hz) hnd
    exact ⟨st', e', h1, by rw [h2]; simp; omega, h3⟩

theorem run_items_loop (ps : List Nat) (l : Local) (hinv : Inv ps l) (b : Char) (rest : Str)
    (hb : endCh b = true) : ∀ (t : Str) (q : Bool), Items t q →
    ∀ (st : RWState) (x : Char) (z : Str) (fuel : Nat) (e : Env) (p : Nat),
      st.c = some x → st.passNext = false → x :: z = t ++ b :: rest →
      e.tape.line.drop e.tape.idx = z → e.tape.idx = p + 1 → e.tape.idx ≤ e.tape.line.length →
      e.tape.line.length + 2 ≤ 1073741824 → t.length + 2 ≤ fuel →
      ∃ st' e', M.run (wloop fuel st) l e = (.ok (st', l), e') ∧
        e'.tape = { e.tape with idx := p + t.length } ∧ WStep st st' t q b := by
  intro t q ht
  have : ReadsTo (· + 2 ≤ 1073741824) l b rest t q := by
    induction ht with
    | nil => exact ReadsTo.nil hinv hb
    | plain c r q hp hr ih => exact ReadsTo.plain hinv hb hp hr ih
    | esc d r q h1 h2 hr ih =>
      refine ReadsTo.item (qa := true) (a := [d]) 2 (by simp) (fun st y z' e hc hpn hd hz _ => ?_) ih
      exact item_esc st d y z' ps l e hinv hc hpn hd h1 h2 (items_next hr hb hz)
    | sq body r q h1 hr ih =>
      exact ReadsTo.quote hinv hb (fun _ h => h) hr '\'' (Or.inl rfl) body
        (fun l1 e1 z a1 a2 hd hl => run_pmp_sq 1048575 l1 a1 a2 body z e1 h1 hd hl) (by simp) ih
    | dq body r q h1 hr ih =>
      exact ReadsTo.quote hinv hb (fun _ h => h) hr '"' (Or.inr rfl) body
        (fun l1 e1 z a1 a2 hd hl => run_pmp_dq 1048575 l1 a1 a2 body z e1 h1 hd hl)
        (by rw [contains_snoc, dbody_no_dollar h1]; decide) ih
  exact fun st x z fuel e p h1 h2 h3 h4 h5 h6 h7 h8 => this st x z fuel e p h1 h2 h3 h4 h5 h6 h7 (by omega)

/-- a word of plain characters, from any cursor and without a bound on the line: the first
    character by hand (after it the cursor is not at the start of the line), the others as items -/
theorem run_word_loop (ps : List Nat) (l : Local) (hinv : Inv ps l) (b : Char) (rest : Str)
    (hb : endCh b = true) :
    ∀ (w : Str) (st : RWState) (c : Char) (fuel : Nat) (e : Env),
      st.c = some c → st.passNext = false → plainCh c = true → (∀ x ∈ w, plainCh x = true) →
      e.tape.line.drop e.tape.idx = w ++ b :: rest → w.length + 2 ≤ fuel →
      ∃ st' e', M.run (M.loop "_readtokenword" readtokenwordStep fuel st) l e = (.ok (st', l), e') ∧
        e'.tape = { e.tape with idx := e.tape.idx + w.length } ∧ WStep st st' (c :: w) false b := by
  intro w st c fuel e hc hpn hp hw hd hf
  have hread : ∀ w : Str, (∀ x ∈ w, plainCh x = true) → ReadsTo (fun _ => True) l b rest w false := by
    intro w
    induction w with
    | nil => exact fun _ => ReadsTo.nil hinv hb
    | cons x w ih =>
      exact fun h => ReadsTo.plain hinv hb (h x (by simp))
        (items_plainW w fun y hy => h y (by simp [hy])) (ih fun y hy => h y (by simp [hy]))
  obtain ⟨y, z, hz⟩ := cons_of_app w b rest
  rw [hz] at hd
  obtain ⟨f, rfl⟩ : ∃ f, fuel = f + 1 := ⟨fuel - 1, by omega⟩
  obtain ⟨g1, _, g3⟩ := drop_cons_facts hd
  obtain ⟨st1, e1, hl1, he1, w1⟩ := item_plain st c y z ps l e hinv hc hpn hp hd
    (items_next (items_plainW w hw) hb hz.symm)
  obtain ⟨st2, e2, hl2, he2, w2⟩ := hread w hw st1 y z f e1 e.tape.idx w1.c w1.pn hz.symm
    (by rw [he1]; exact g3) (by rw [he1]) (by rw [he1]; simp; omega) trivial (by omega)
  exact ⟨st2, e2, (hl1 f).trans hl2, by rw [he2, he1], by simpa using w1.trans w2⟩

end Bashlex.C06S
