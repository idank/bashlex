/-
  C06 for `split`: the body of the loop of `split`: what it does with a word token whose
  expansion is known, and at the final NEWLINE.
-/
import Bashlex.Props.C06.SNext
import Bashlex.Props.C06.SWords
import Bashlex.Props.C06.Strip

namespace Bashlex.C06S
open Bashlex Bashlex.M Bashlex.C10 Bashlex.C14 Bashlex.C06

/-- the nested parser `split` hands to the expander -/
def splitNP : NestedParse := fun string dolparen => do
  let outer ← get
  let ps := if dolparen then { outer.ps with cmdsubst := true, eoftoken := true } else outer.ps
  set ({ tape := some (Tape.ofInput string), opts := some (true, false)
         lastReadToken := outer.lastReadToken, tokenBeforeThat := outer.tokenBeforeThat
         twoTokensAgo := outer.twoTokensAgo, ps := ps
         eofToken := if dolparen then some rparenEofToken else none
         limit := outer.limit.map (· - 1) } : Local)
  let r ← parserRun maxDepth
  let inner ← get
  set { outer with ps := inner.ps }
  pure r

/-- one iteration of the loop of `split` -/
def splitBody (s line : Str) (added : Bool) (acc : List Str) : M (List Str ⊕ List Str) := do
  let t ← nextToken
  if t.is .EOF || (added && t.lexpos + 1 == line.length) then return .inr acc
  if t.is .WORD || t.is .ASSIGNMENT_WORD then
    let quoted := t.flags.contains .QUOTED
    let doublequoted ←
      if quoted then
        match t.valueStr.head? with
        | none => M.foreign "IndexError" "split"
        | some c => pure (c == '"')
      else pure false
    let (_, w) ← expandwordinternal splitNP t doublequoted
    return .inl (acc ++ [w])
  else
    return .inl (acc ++ [Str.slice s t.lexpos t.endlexpos])

theorem splitM_eq (s : Str) : splitM s = (do
    let line ← tapeLine
    let added ← tapeAdded
    M.loop "split" (splitBody s line added) (line.length + 4) []) := rfl

/-! ## the expander on a plain word -/

theorem plain_noExp : ∀ (w : Str), (∀ x ∈ w, plainCh x = true) → noExp w = true
  | [], _ => rfl
  | c :: w, h => by
    rw [noExp_cons]
    refine ⟨?_, plain_noExp w (fun x hx => h x (by simp [hx]))⟩
    obtain ⟨f1, f2, f3, f4, f5, f6, f7, f8, f9, f10, f11, f12, f13, f14, f15, f16, f17, f18⟩ :=
      plainCh_facts (h c (by simp))
    simp [isExpChar, f8, f9, f17, f18, f10]

/-- the final NEWLINE token ends the loop -/
theorem run_body_end (s line : Str) (acc : List Str) (l l' : Local) (e e' : Env) (i : Nat)
    (hr : M.run nextToken l e = (.ok (tokNL i, l'), e')) (hi : i + 1 = line.length) :
    M.run (splitBody s line true acc) l e = (.ok (.inr acc, l'), e') := by
  unfold splitBody
  rw [M.run_bind, hr]
  have h1 : (tokNL i).lexpos = i := rfl
  simp only [h1, hi, beq_self_eq_true, Bool.and_self, Bool.or_true, if_true]
  rfl

/-! ## the loop -/

theorem spanP (p : Char → Bool) : ∀ r : Str, ∃ a b, r = a ++ b ∧ (∀ x ∈ a, p x = true) ∧
    (b = [] ∨ ∃ y b', b = y :: b' ∧ p y = false)
  | [] => ⟨[], [], rfl, by simp, Or.inl rfl⟩
  | x :: r => by
    by_cases hx : p x = true
    · obtain ⟨a, b, h1, h2, h3⟩ := spanP p r
      refine ⟨x :: a, b, by rw [h1]; rfl, ?_, h3⟩
      intro y hy
      rcases List.mem_cons.1 hy with rfl | hy
      · exact hx
      · exact h2 y hy
    · exact ⟨[], x :: r, rfl, by simp, Or.inr ⟨x, r, rfl, by simpa using hx⟩⟩

theorem plainC_eq : plainC = plainCh := rfl

theorem plain_nonblank {c : Char} (h : plainCh c = true) : shellblank c = false := by
  obtain ⟨f1, f2, _⟩ := plainCh_facts h
  simp [shellblank, f1, f2]

theorem blank_endCh {c : Char} (h : shellblank c = true) : endCh c = true := by
  simp only [shellblank, Bool.or_eq_true] at h
  simp only [endCh, Bool.or_eq_true]
  exact Or.inl h

theorem slice_word (s : Str) (i : Nat) (bs w r3 : Str) (h : s.drop i = bs ++ (w ++ r3)) :
    Str.slice s (i + bs.length) (i + bs.length + w.length) = w := by
  unfold Str.slice
  rw [List.drop_take, ← List.drop_drop, h]
  simp

end Bashlex.C06S
