/-
  C06: the entry point `parser._expandword` on words without expansion characters.
-/
import Bashlex.Props.C06.Plain

namespace Bashlex.C06
open Bashlex Bashlex.Spec Bashlex.M

theorem run_get_bind {α : Type} (f : Local → M α) (l : Local) (e : Env) :
    ((get : M Local) >>= f).run l e = (f l).run l e := rfl

/-- what `_expandword` needs of the QUOTED flag: it is set when the value starts with `"`, and
    it is not set on an empty value (`tokenword.value[0]` would raise IndexError).  The tokenizer
    sets QUOTED when it meets a quote character or an unquoted backslash. -/
def QuotedOK (tok : Token) : Prop :=
  (tok.valueStr.head? = some '"' → tok.flags.contains .QUOTED = true) ∧
  (tok.flags.contains .QUOTED = true → tok.valueStr ≠ [])

/-- QUOTED iff the value contains a quote character or a backslash -/
theorem QuotedOK.of_iff {tok : Token}
    (h : tok.flags.contains .QUOTED = tok.valueStr.any (fun c => c == '\'' || c == '"' || c == '\\')) :
    QuotedOK tok := by
  constructor
  · intro hh
    rw [h]
    cases hv : tok.valueStr with
    | nil => rw [hv] at hh; cases hh
    | cons c r => rw [hv] at hh; simp at hh; subst hh; simp
  · intro hq hv
    rw [h, hv] at hq
    cases hq

/-- `_expandword` for a token whose QUOTED flag fits its value: `qdoublequotes` is "the value
    starts with a double quote" -/
theorem expandword_eq (np : NestedParse) (tok : Token) (hq : QuotedOK tok) :
    expandword np tok = (do
      let l ← get
      if l.limit == some (-1) then pure (.word (tok.lexpos, tok.endlexpos) tok.valueStr [])
      else do
        let x ← expandwordinternal np tok (tok.valueStr.head? == some '"')
        pure (.word (tok.lexpos, tok.endlexpos) x.2
          (if l.limit == some 0 then x.1.filter (fun n => !isSubstitution n) else x.1))) := by
  unfold expandword
  by_cases hqq : tok.flags.contains .QUOTED = true
  · cases hvs : tok.valueStr with
    | nil => exact absurd hvs (hq.2 hqq)
    | cons c r =>
      simp only [hqq, if_true, List.head?_cons, pure_bind]
      rfl
  · have hh : (tok.valueStr.head? == some '"') = false := by
      cases hh : (tok.valueStr.head? == some '"') with
      | false => rfl
      | true => exact absurd (hq.1 (by simpa using hh)) hqq
    simp only [hqq, hh, pure_bind]
    rfl

/-- `_expandword` on a word without expansion characters: total, pure, state unchanged -/
theorem expandword_plain_run (np : NestedParse) (tok : Token) (v : Str)
    (hn : noExp tok.valueStr = true) (hq : QuotedOK tok)
    (hv : stripPure tok.valueStr (tok.valueStr.head? == some '"') = some v)
    (l : Local) (e : Env) (hl : l.limit ≠ some (-1)) :
    (expandword np tok).run l e = (.ok (.word (tok.lexpos, tok.endlexpos) v [], l), e) := by
  have hl' : (l.limit == some (-1)) = false := by simpa using hl
  rw [expandword_eq np tok hq, run_get_bind]
  simp only [hl', Bool.false_eq_true, if_false]
  rw [expandwordinternal_plain np tok _ hn, hv]
  simp
  rfl

end Bashlex.C06
