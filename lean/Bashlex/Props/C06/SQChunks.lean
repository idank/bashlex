/-
  C06 for `split`, quoted inputs: `Spec.rawChunksGo` on an input made of chunks.
-/
import Bashlex.Props.C06.SQSplit

namespace Bashlex.C06S
open Bashlex Bashlex.Spec

theorem rc_nil (F : Nat) (st : QState) (cur : Str) (acc : List Str) :
    rawChunksGo (F + 1) st cur [] acc = if cur.isEmpty then acc else acc ++ [cur] := by
  rw [rawChunksGo.eq_def]

theorem rc_sq (rest : Str) (acc : List Str) : ∀ (body : Str) (f : Nat) (cur : Str),
    (∀ x ∈ body, x ≠ '\'') →
    rawChunksGo (f + body.length + 1) 1 cur (body ++ '\'' :: rest) acc =
      rawChunksGo f 0 (cur ++ body ++ ['\'']) rest acc
  | [], f, cur, _ => by
    rw [rawChunksGo.eq_def]; simp
  | c :: body, f, cur, h => by
    have hc : (c == '\'') = false := by simp [h c (by simp)]
    have := rc_sq rest acc body f (cur ++ [c]) (fun x hx => h x (by simp [hx]))
    rw [show f + (c :: body).length + 1 = (f + body.length + 1) + 1 from by simp; omega]
    rw [rawChunksGo.eq_def]
    simp only [List.cons_append, hc, Bool.false_eq_true, if_false]
    rw [this]; simp

theorem rc_dq (rest : Str) (acc : List Str) : ∀ (body : Str), DBody body →
    ∀ (F n : Nat) (cur : Str), body.length + 1 + n ≤ F →
    ∃ F', n ≤ F' ∧ rawChunksGo F 2 cur (body ++ '"' :: rest) acc =
      rawChunksGo F' 0 (cur ++ body ++ ['"']) rest acc := by
  intro body hb
  induction hb with
  | nil =>
    intro F n cur hF
    obtain ⟨f, rfl⟩ : ∃ f, F = f + 1 := ⟨F - 1, by simp at hF; omega⟩
    refine ⟨f, by simp at hF; omega, ?_⟩
    rw [rawChunksGo.eq_def]; simp
  | ch c r c1 c2 c3 c4 _ ih =>
    intro F n cur hF
    obtain ⟨f, rfl⟩ : ∃ f, F = f + 1 := ⟨F - 1, by simp at hF; omega⟩
    obtain ⟨F', h1, h2⟩ := ih f n (cur ++ [c]) (by simp at hF; omega)
    refine ⟨F', h1, ?_⟩
    rw [rawChunksGo.eq_def]
    have e1 : (c == '\\') = false := by simp [c2]
    have e2 : (c == '"') = false := by simp [c1]
    simp only [List.cons_append, e1, e2, Bool.false_eq_true, if_false]
    rw [h2]; simp
  | esc d r d1 d2 _ ih =>
    intro F n cur hF
    obtain ⟨f, rfl⟩ : ∃ f, F = f + 1 := ⟨F - 1, by simp at hF; omega⟩
    obtain ⟨F', h1, h2⟩ := ih f n (cur ++ ['\\', d]) (by simp at hF; omega)
    refine ⟨F', h1, ?_⟩
    rw [rawChunksGo.eq_def]
    simp only [List.cons_append, beq_self_eq_true, if_true, List.take_succ_cons, List.take_zero,
      List.drop_succ_cons, List.drop_zero]
    rw [h2]; simp

theorem rc_items (rest : Str) (acc : List Str) : ∀ (t : Str) (q : Bool), Items t q →
    ∀ (F n : Nat) (cur : Str), t.length + n ≤ F →
    ∃ F', n ≤ F' ∧ rawChunksGo F 0 cur (t ++ rest) acc = rawChunksGo F' 0 (cur ++ t) rest acc := by
  intro t q ht
  induction ht with
  | nil =>
    intro F n cur hF
    exact ⟨F, by simpa using hF, by simp⟩
  | plain c r q hp _ ih =>
    intro F n cur hF
    obtain ⟨f, rfl⟩ : ∃ f, F = f + 1 := ⟨F - 1, by simp at hF; omega⟩
    obtain ⟨F', h1, h2⟩ := ih f n (cur ++ [c]) (by simp at hF; omega)
    refine ⟨F', h1, ?_⟩
    obtain ⟨f1, f2, f3, f4, f5, f6, f7, _⟩ := plainCh_facts hp
    rw [rawChunksGo.eq_def]
    have e1 : (c == ' ' || c == '\t') = false := by simp [f1, f2]
    have e2 : (c == '\\') = false := by simp [f5]
    have e3 : (c == '\'') = false := by simp [f6]
    have e4 : (c == '"') = false := by simp [f7]
    simp only [List.cons_append, e1, e2, e3, e4, Bool.false_eq_true, if_false]
    rw [h2]; simp
  | esc d r q d1 d2 _ ih =>
    intro F n cur hF
    obtain ⟨f, rfl⟩ : ∃ f, F = f + 1 := ⟨F - 1, by simp at hF; omega⟩
    obtain ⟨F', h1, h2⟩ := ih f n (cur ++ ['\\', d]) (by simp at hF; omega)
    refine ⟨F', h1, ?_⟩
    rw [rawChunksGo.eq_def]
    have e1 : ('\\' == ' ' || '\\' == '\t') = false := by decide
    simp only [List.cons_append, e1, beq_self_eq_true, if_true, Bool.false_eq_true, if_false,
      List.take_succ_cons, List.take_zero, List.drop_succ_cons, List.drop_zero]
    rw [h2]; simp
  | sq body r q h1 _ ih =>
    intro F n cur hF
    obtain ⟨f, rfl⟩ : ∃ f, F = (f + body.length + 1) + 1 :=
      ⟨F - (body.length + 2), by simp at hF; omega⟩
    obtain ⟨F', g1, g2⟩ := ih f n (cur ++ ['\''] ++ body ++ ['\'']) (by simp at hF; omega)
    refine ⟨F', g1, ?_⟩
    rw [rawChunksGo.eq_def]
    have e1 : ('\'' == ' ' || '\'' == '\t') = false := by decide
    have e2 : ('\'' == '\\') = false := by decide
    simp only [List.cons_append, e1, e2, beq_self_eq_true, if_true, Bool.false_eq_true, if_false]
    rw [show (body ++ '\'' :: r) ++ rest = body ++ '\'' :: (r ++ rest) from by simp,
      rc_sq (r ++ rest) acc body f (cur ++ ['\'']) h1, g2]
    simp
  | dq body r q h1 _ ih =>
    intro F n cur hF
    obtain ⟨f, rfl⟩ : ∃ f, F = f + 1 := ⟨F - 1, by simp at hF; omega⟩
    obtain ⟨F1, k1, k2⟩ := rc_dq (r ++ rest) acc body h1 f (r.length + n) (cur ++ ['"'])
      (by simp at hF; omega)
    obtain ⟨F', g1, g2⟩ := ih F1 n (cur ++ ['"'] ++ body ++ ['"']) k1
    refine ⟨F', g1, ?_⟩
    rw [rawChunksGo.eq_def]
    have e1 : ('"' == ' ' || '"' == '\t') = false := by decide
    have e2 : ('"' == '\\') = false := by decide
    have e3 : ('"' == '\'') = false := by decide
    simp only [List.cons_append, e1, e2, e3, beq_self_eq_true, if_true, Bool.false_eq_true, if_false]
    rw [show (body ++ '"' :: r) ++ rest = body ++ '"' :: (r ++ rest) from by simp, k2, g2]
    simp

theorem rc_blank (f : Nat) (cur : Str) (b : Char) (r : Str) (acc : List Str)
    (hb : shellblank b = true) :
    rawChunksGo (f + 1) 0 cur (b :: r) acc =
      rawChunksGo f 0 [] r (if cur.isEmpty then acc else acc ++ [cur]) := by
  rw [rawChunksGo.eq_def]
  have : (b == ' ' || b == '\t') = true := hb
  simp only [this, if_true]

theorem rc_input : ∀ (s : Str) (cs : List (Str × Bool)), QInputL s cs →
    ∀ (F : Nat) (acc : List Str), s.length < F →
      rawChunksGo F 0 [] s acc = acc ++ cs.map (·.1) := by
  intro s cs h
  induction h with
  | nil =>
    intro F acc hF
    obtain ⟨f, rfl⟩ : ∃ f, F = f + 1 := ⟨F - 1, by simp at hF; omega⟩
    rw [rc_nil]; simp
  | blank b r cs hb _ ih =>
    intro F acc hF
    obtain ⟨f, rfl⟩ : ∃ f, F = f + 1 := ⟨F - 1, by simp at hF; omega⟩
    rw [rc_blank f [] b r acc hb]
    simp only [List.isEmpty_nil, if_true]
    exact ih f acc (by simp at hF; omega)
  | chunk t q r cs ht hne hr _ ih =>
    intro F acc hF
    obtain ⟨F', g1, g2⟩ := rc_items r acc t q ht F (r.length + 1) [] (by simp at hF; omega)
    rw [g2]
    simp only [List.nil_append]
    obtain ⟨f', rfl⟩ : ∃ f', F' = f' + 1 := ⟨F' - 1, by omega⟩
    have hte : t.isEmpty = false := by cases t with
      | nil => exact absurd rfl hne
      | cons a t => rfl
    rcases hr with rfl | ⟨b, r', rfl, hb⟩
    · have := ih 1 (acc ++ [t]) (by simp)
      rw [rc_nil] at this
      simp only [List.isEmpty_nil, if_true] at this
      rw [rc_nil, hte]
      simp only [Bool.false_eq_true, if_false, List.map_cons]
      rw [show acc ++ t :: List.map (·.1) cs = (acc ++ [t]) ++ List.map (·.1) cs from by simp, ← this]
    · have := ih (f' + 1) (acc ++ [t]) (by simp at g1 ⊢; omega)
      rw [rc_blank f' [] b r' _ hb] at this
      simp only [List.isEmpty_nil, if_true] at this
      rw [rc_blank f' t b r' acc hb, hte]
      simp only [Bool.false_eq_true, if_false, List.map_cons]
      rw [this]; simp

theorem rawChunks_input (s : Str) (cs : List (Str × Bool)) (h : QInputL s cs) :
    rawChunks s = cs.map (·.1) := by
  unfold rawChunks
  rw [rc_input s cs h (s.length + 1) [] (by omega)]
  simp

end Bashlex.C06S
