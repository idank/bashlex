/-
  C06 for `split`: the part of `_readtokenword` after `# got_token`, as a total statement.
-/
import Bashlex.Props.C06.STok
import Bashlex.Proofs.TokShape

namespace Bashlex.C06S
open Bashlex Bashlex.M Bashlex.C10 Bashlex.C14
set_option linter.unusedSimpArgs false

theorem Inv.upd {ps : List Nat} {l l' : Local} (h : Inv ps l) (h1 : l'.tape = l.tape)
    (h2 : l'.eolLookahead = l.eolLookahead) (h3 : l'.dstack = l.dstack)
    (h4 : l'.positions = l.positions) (h5 : l'.redirstack = l.redirstack)
    (h6 : l'.ps.regexp = l.ps.regexp) (h7 : l'.ps.dblparen = l.ps.dblparen)
    (h8 : l'.lastReadToken = l.lastReadToken) : Inv ps l' :=
  ⟨h1 ▸ h.tape, h2 ▸ h.eol, h3 ▸ h.dstack, h4 ▸ h.pos, h5 ▸ h.rs, h6 ▸ h.regexp, h7 ▸ h.dblparen,
   h8 ▸ h.last⟩

theorem Inv.setPos {ps : List Nat} {l : Local} (h : Inv ps l) (ps' : List Nat) :
    Inv ps' { l with positions := ps' } :=
  ⟨h.tape, h.eol, h.dstack, rfl, h.rs, h.regexp, h.dblparen, h.last⟩

/-- the types `_specialcasetokens` may answer -/
def specTy (ty : TokType) : Prop :=
  ty ≠ .LESS_AND ∧ ty ≠ .GREATER_AND ∧ ty ≠ .WORD ∧ ty ≠ .EOF ∧ ty ≠ .ASSIGNMENT_WORD

/-- the spellings `_specialcasetokens` recognises -/
def specWords : List Str :=
  [['i', 'n'], ['d', 'o'], ['e', 's', 'a', 'c'], ['{'], ['}'], ['-', 'p'], ['-', '-'], [']', ']']]

/-- outcome of a state-only program: a normal return, the environment untouched -/
def OkSt {α : Type} (e : Env) (Q : α → Local → Prop) (x : Except Exn (α × Local) × Env) : Prop :=
  ∃ a l', x = (.ok (a, l'), e) ∧ Q a l'

theorem OkSt.mk {α : Type} {e : Env} {Q : α → Local → Prop} {a : α} {l' : Local} (h : Q a l') :
    OkSt e Q (.ok (a, l'), e) := ⟨a, l', rfl, h⟩

theorem OkSt.mono {α : Type} {e : Env} {P Q : α → Local → Prop} {x : Except Exn (α × Local) × Env}
    (h : OkSt e P x) (hPQ : ∀ a l, P a l → Q a l) : OkSt e Q x := by
  obtain ⟨a, l', hx, hp⟩ := h
  exact ⟨a, l', hx, hPQ a l' hp⟩

theorem OkSt.ite {α : Type} {e : Env} {Q : α → Local → Prop} {c : Prop} [Decidable c] {a b : M α}
    {l : Local} (ha : c → OkSt e Q (M.run a l e)) (hb : ¬ c → OkSt e Q (M.run b l e)) :
    OkSt e Q (M.run (if c then a else b) l e) := by
  split
  · exact ha ‹_›
  · exact hb ‹_›

/-- `_specialcasetokens` raises nothing, asks nothing and keeps the invariant -/
theorem run_specialcasetokens (w : Str) (ps : List Nat) (l : Local) (e : Env) (hinv : Inv ps l) :
    OkSt e (fun r l' => Inv ps l' ∧ (∀ ty, r = some ty → specTy ty ∧ w ∈ specWords))
      (M.run (specialcasetokens w) l e) := by
  unfold specialcasetokens
  rw [M.run_bind, C10.run_get]
  dsimp -zeta only
  -- The `if`s without `else` that fall through share their continuation: `tail` is the function
  -- from `ARITH_FOR_EXPRS` on, `mid` the one from `allowopnbrc` on.  Each is walked once, in any
  -- state satisfying the invariant; unfolded in place, every fall-through would copy it.
  -- At a return the state differs from the one at entry in fields `Inv` does not read, and the
  -- spelling of the type returned has just been tested.
  extract_lets last before retIn src tail mid
  have htail : ∀ l2, Inv ps l2 →
      OkSt e (fun r l' => Inv ps l' ∧ (∀ ty, r = some ty → specTy ty ∧ w ∈ specWords))
        (M.run (tail ()) l2 e) := by
    intro l2 h2
    simp only [tail]
    repeat' first
      | with_reducible refine OkSt.ite (fun _ => ?_) (fun _ => ?_)
      | simp only [M.run_bind, C10.run_get, C10.run_set, C10.run_modify, M.run_pure]
    all_goals
      refine OkSt.mk ⟨h2.upd rfl rfl rfl rfl rfl rfl rfl rfl, ?_⟩
      intro ty h
      cases h <;> refine ⟨⟨by decide, by decide, by decide, by decide, by decide⟩, ?_⟩ <;>
        simp_all [specWords]
  have hmid : ∀ l2, Inv ps l2 →
      OkSt e (fun r l' => Inv ps l' ∧ (∀ ty, r = some ty → specTy ty ∧ w ∈ specWords))
        (M.run (mid ()) l2 e) := by
    intro l2 h2
    simp only [mid]
    repeat' first
      | with_reducible exact htail _ (h2.upd rfl rfl rfl rfl rfl rfl rfl rfl)
      | with_reducible refine OkSt.ite (fun _ => ?_) (fun _ => ?_)
      | simp only [M.run_bind, C10.run_get, C10.run_set, C10.run_modify, M.run_pure]
    all_goals
      refine OkSt.mk ⟨h2.upd rfl rfl rfl rfl rfl rfl rfl rfl, ?_⟩
      intro ty h
      cases h <;> refine ⟨⟨by decide, by decide, by decide, by decide, by decide⟩, ?_⟩ <;>
        simp_all [specWords]
  simp only [retIn]
  repeat' first
    | with_reducible exact hmid _ (hinv.upd rfl rfl rfl rfl rfl rfl rfl rfl)
    | with_reducible refine OkSt.ite (fun _ => ?_) (fun _ => ?_)
    | simp only [M.run_bind, C10.run_get, C10.run_set, C10.run_modify, M.run_pure]
  all_goals
    refine OkSt.mk ⟨hinv.upd rfl rfl rfl rfl rfl rfl rfl rfl, ?_⟩
    intro ty h
    cases h <;> refine ⟨⟨by decide, by decide, by decide, by decide, by decide⟩, ?_⟩ <;>
      simp_all [specWords]

theorem OkSt.bind {α β : Type} {e : Env} {P : α → Local → Prop} {Q : β → Local → Prop}
    {m : M α} {f : α → M β} {l : Local} (hm : OkSt e P (M.run m l e))
    (hf : ∀ a l', P a l' → OkSt e Q (M.run (f a) l' e)) : OkSt e Q (M.run (m >>= f) l e) := by
  obtain ⟨a, l', h, hp⟩ := hm
  rw [M.run_bind, h]
  exact hf a l' hp

theorem run_ct (ty : TokType) (v : TVal) (fl : WordFlags) (l : Local) (e : Env) (a b : Nat)
    (hp : l.positions = [a, b]) (hab : a < b) :
    M.run (createtoken ty v fl) l e =
      (.ok ({ ttype := some ty, value := v, pos := some (a, b), flags := fl },
          { l with positions := [] }), e) := by
  rw [C11.run_createtoken ty v fl l e a b hp, if_pos hab]

/-- the answer of `_is_assignment` on a non-empty string -/
def isAsgB : Str → Bool
  | [] => false
  | c :: r => if !isAlpha c && c != '_' then false else isAssignmentLoop (c :: r)

theorem run_isAssignment (w : Str) (h : w ≠ []) (l : Local) (e : Env) :
    M.run (isAssignment w) l e = (.ok (isAsgB w, l), e) := by
  cases w with
  | nil => exact absurd rfl h
  | cons c r =>
    unfold isAssignment isAsgB
    simp only []
    split <;> rfl

theorem lookup_facts {s : Str} {ty : TokType}
    (h : List.lookup s reservedFirstCommandChars = some ty) :
    ty ≠ .LESS_AND ∧ ty ≠ .GREATER_AND ∧ ty ≠ .WORD ∧ ty ≠ .EOF ∧ ty ≠ .ASSIGNMENT_WORD := by
  have hmem := C12.mem_of_lookup h
  have hall : ∀ kv, kv ∈ reservedFirstCommandChars →
      kv.2 ≠ .LESS_AND ∧ kv.2 ≠ .GREATER_AND ∧ kv.2 ≠ .WORD ∧ kv.2 ≠ .EOF ∧
        kv.2 ≠ .ASSIGNMENT_WORD := by decide
  exact hall _ hmem

/-- the tokens `split` hands to the expander -/
def wordLike (tok : Token) : Bool := tok.is .WORD || tok.is .ASSIGNMENT_WORD

/-- what `split` needs to know of a delivered word-like token -/
structure TokOK (a b : Nat) (w : Str) (q : Bool) (tok : Token) : Prop where
  pos : tok.pos = some (a, b)
  la : noLA tok
  neof : tok.is .EOF = false
  nonword : wordLike tok = false → q = false ∨ w ∈ specWords
  word : wordLike tok = true → tok.value = .str w ∧ tok.flags.contains .QUOTED = q

theorem contains_addFlag (fs : WordFlags) (f g : WordFlag) :
    (addFlag fs g).contains f = (fs.contains f || f == g) := by
  unfold addFlag
  split
  next h =>
    cases hfg : f == g
    · rw [Bool.or_false]
    · have : f = g := by simpa using hfg
      subst this; rw [h]; rfl
  next => rw [List.contains_append, List.contains_cons, List.contains_nil, Bool.or_false]

/-- of the flags `fwToken` sets on a word without `$`, QUOTED depends on the text alone -/
theorem fwToken_quoted (st : RWState) (l : Local) (asg : Bool) (t0 : Token) (h0 : t0.flags = [])
    (hdp : st.dollarPresent = false) :
    (fwToken st l asg t0).flags.contains .QUOTED = st.quoted := by
  unfold fwToken
  simp only [Id.run, legalIdentifier, Bool.false_eq_true, if_false, pure, hdp,
    apply_ite Token.flags, apply_ite (fun fl : WordFlags => fl.contains WordFlag.QUOTED), ite_self,
    contains_addFlag, h0]
  cases st.quoted <;> simp

/-- the WORD token of a word without `$`: still at its position, WORD or ASSIGNMENT_WORD, with
    the word as value -/
theorem fwToken_ok (st : RWState) (l : Local) (asg : Bool) (a b : Nat)
    (hdp : st.dollarPresent = false) :
    TokOK a b st.tokenword st.quoted (fwToken st l asg
      { ttype := some .WORD, value := .str st.tokenword, pos := some (a, b), flags := [] }) := by
  have hty := Shape.fwToken_ttype st l asg
    { ttype := some .WORD, value := .str st.tokenword, pos := some (a, b), flags := [] }
  refine ⟨Shape.fwToken_pos .., ?_, ?_, ?_,
    fun _ => ⟨Shape.fwToken_value .., fwToken_quoted st l asg _ rfl hdp⟩⟩
  · rcases hty with h | h <;> simp [noLA, Token.is, h]
  · rcases hty with h | h <;> simp [Token.is, h]
  · rcases hty with h | h <;> simp [wordLike, Token.is, h]

theorem run_fwWord (st : RWState) (tok : Token) (ps : List Nat) (l : Local) (e : Env)
    (hinv : Inv ps l) (hne : st.tokenword ≠ []) (hca : st.compoundAssignment = false) :
    OkSt e (fun t l' => Inv ps l' ∧ t = fwToken st l (isAsgB st.tokenword) tok)
      (M.run (fwWord st tok) l e) := by
  unfold fwWord fwEnd
  cases hfn : (!fwBraceRedir st && l.lastReadToken.is .FUNCTION) <;>
    simp only [hca, hfn, Bool.false_eq_true, if_false, if_true, pure_bind, M.run_bind, C10.run_get,
      run_isAssignment _ hne, C10.run_modify, M.run_pure]
  · exact OkSt.mk ⟨hinv, rfl⟩
  · exact OkSt.mk ⟨hinv.upd rfl rfl rfl rfl rfl rfl rfl rfl, rfl⟩

theorem run_finishWord (st : RWState) (a b : Nat) (l : Local) (e : Env) (hinv : Inv [a] l)
    (hidx : e.tape.idx = b) (hab : a < b) (hne : st.tokenword ≠ [])
    (hca : st.compoundAssignment = false) (hdp : st.dollarPresent = false)
    (hc1 : st.c ≠ some '<') (hc2 : st.c ≠ some '>') (q : Bool) (hq : st.quoted = q) :
    OkSt e (fun tok l' => Inv [] l' ∧ TokOK a b st.tokenword q tok)
      (M.run (finishWord st) l e) := by
  have hcr : (st.c == some '<' || st.c == some '>') = false := by simp [hc1, hc2]
  rw [finishWord_eq]
  unfold fwHead
  rw [M.run_bind, run_recordpos]
  simp only [tapeOf_none hinv.tape, hidx, Nat.sub_zero, hinv.pos, List.cons_append, List.nil_append]
  rw [M.run_bind, C10.run_get]
  simp only [hcr, hdp, beq_iff_eq, Bool.or_false, Bool.false_or, hinv.last.1, hinv.last.2,
    Bool.and_false, Bool.false_and, Bool.false_eq_true, if_false, Bool.not_false, Bool.true_and]
  refine OkSt.bind (run_specialcasetokens st.tokenword [a, b] _ e
    (hinv.setPos [a, b])) ?_
  intro r l1 ⟨hinv1, hr⟩
  cases r with
  | some ty =>
    simp only []
    rw [run_ct _ _ _ _ e a b hinv1.pos hab]
    obtain ⟨⟨t1, t2, t3, t4, t6⟩, t5⟩ := hr ty rfl
    refine OkSt.mk ⟨⟨hinv1.tape, hinv1.eol, hinv1.dstack, rfl, hinv1.rs, hinv1.regexp,
      hinv1.dblparen, hinv1.last⟩, ⟨rfl, ?_, ?_, ?_, ?_⟩⟩
    · simp [noLA, Token.is, t1, t2]
    · simp [Token.is, t4]
    · exact fun _ => Or.inr t5
    · intro h; simp [wordLike, Token.is, t3, t6] at h
  | none =>
    simp only [pure_bind]
    rw [M.run_bind, C10.run_get]
    simp only []
    have hct := fun ty v fl (l : Local) (hp : l.positions = [a, b]) =>
      run_ct ty v fl l e a b hp hab
    -- an ordinary word: the WORD token, then `fwWord`
    have hword : OkSt e (fun tok l' => Inv [] l' ∧ TokOK a b st.tokenword q tok)
        (M.run (createtoken .WORD (.str st.tokenword) [] >>= fwWord st) l1 e) := by
      rw [M.run_bind, hct _ _ _ _ hinv1.pos]
      refine (run_fwWord st _ [] _ e (hinv1.setPos []) hne hca).mono ?_
      rintro tok l' ⟨hl', rfl⟩
      exact ⟨hl', hq ▸ fwToken_ok st _ _ a b hdp⟩
    refine OkSt.ite (fun hc => ?_) (fun _ => hword)
    have hq0 : q = false := by rw [hq] at hc; cases q <;> simp_all
    split
    next ttype hlk =>
      -- a reserved word: some flags of the parser state change, then the token is created
      have hty := lookup_facts hlk
      have hres : ∀ l2, Inv [a, b] l2 → OkSt e (fun tok l' => Inv [] l' ∧ TokOK a b st.tokenword q tok)
          (M.run (createtoken ttype (.str st.tokenword)) l2 e) := by
        intro l2 h2
        rw [hct _ _ _ _ h2.pos]
        refine OkSt.mk ⟨h2.setPos [], rfl, ?_, ?_, fun _ => Or.inl hq0, ?_⟩
        · simp [noLA, Token.is, hty]
        · simp [Token.is, hty]
        · intro h; simp [wordLike, Token.is, hty] at h
      repeat' first
        | with_reducible refine OkSt.ite (fun _ => ?_) (fun _ => ?_)
        | with_reducible exact hres _ (hinv1.upd rfl rfl rfl rfl rfl rfl rfl rfl)
        | simp only [pure_bind, M.run_bind, C10.run_set]
    next => exact hword

end Bashlex.C06S
