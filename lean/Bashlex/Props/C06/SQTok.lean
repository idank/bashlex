/-
  C06 for `split`, quoted inputs: `_parse_matched_pair` on a single-quoted and on a
  double-quoted string.
-/
import Bashlex.Props.C06.SNext
import Bashlex.Proofs.TokForms

namespace Bashlex.C06S
open Bashlex Bashlex.M Bashlex.C10 Bashlex.C14

/-! ## `_parse_matched_pair` -/

/-- one iteration of the loop of `_parse_matched_pair` -/
def pmpBody (fuel : Nat) (P : MPParams) (lookforcomments rdquote : Bool) (st : MPState) :
    M (MPState ⊕ Str) := do
  if st.count == 0 then return .inr st.ret
  match ← mpPre P lookforcomments st with
  | .cont s => return .inl s
  | .done r => return .inr r
  | .next s c =>
    let s' ← mpPost (parseMatchedPair fuel) (parseComsub fuel) P rdquote s c
    return .inl s'

theorem pmp_succ (fuel : Nat) (P : MPParams) : parseMatchedPair (fuel + 1) P = (do
    let x ← mpInit P
    let lf ← loopFuel
    M.loop "_parse_matched_pair" (pmpBody fuel P x.1 x.2) lf
      { dolbracestate := if P.dolbrace then .param else .empty }) := by
  rw [parseMatchedPair]
  rfl

/-- an iteration with the closing character still to come: `mpPre`, then the nested scanners -/
theorem pmpBody_pos (F : Nat) (P : MPParams) (a b : Bool) (st : MPState) (h : st.count ≠ 0) :
    pmpBody F P a b st = (mpPre P a st >>= fun r =>
      match r with
      | .cont s => pure (.inl s)
      | .done r => pure (.inr r)
      | .next s c => do
        let s' ← mpPost (parseMatchedPair F) (parseComsub F) P b s c
        pure (.inl s')) := by
  unfold pmpBody; simp [h]

theorem pmpBody_count1 (F : Nat) (P : MPParams) (a b : Bool) (st : MPState) (h3 : st.count = 1) :
    pmpBody F P a b st = (mpPre P a st >>= fun r =>
      match r with
      | .cont s => pure (.inl s)
      | .done r => pure (.inr r)
      | .next s c => do
        let s' ← mpPost (parseMatchedPair F) (parseComsub F) P b s c
        pure (.inl s')) :=
  pmpBody_pos F P a b st (by rw [h3]; exact Nat.one_ne_zero)

/-- the parameters `handleshellquote` passes for the quote character `qc` -/
def PQ (qc : Char) : MPParams :=
  { doublequotes := some qc, opn := qc, close := qc, parsingcommand := qc == '`' }

theorem run_mpInit_sq (l : Local) (e : Env) :
    M.run (mpInit (PQ '\'')) l e = (.ok ((false, false), l), e) := rfl
theorem run_mpInit_dq (l : Local) (e : Env) :
    M.run (mpInit (PQ '"')) l e = (.ok ((false, true), l), e) := rfl

/-- `mpPre` when `_getc` (called with the flag `b`) delivers a character: the pure step on that
    character -/
theorem run_mpPre (P : MPParams) (lfc : Bool) (st : MPState) {b : Bool}
    (hb : (P.doublequotes != some '\'' && !st.passnextchar) = b) {l l' : Local} {e e' : Env}
    {c : Char} (hg : M.run (getc b) l e = (.ok (some c, l'), e')) :
    M.run (mpPre P lfc st) l e = (.ok (mpStep P lfc st c, l'), e') := by
  rw [mpPre_eq, M.run_bind, hb, hg]
  rfl

theorem getc_flag_sq (st : MPState) :
    ((PQ '\'').doublequotes != some '\'' && !st.passnextchar) = false := rfl

theorem mpStep_sq_ch (st : MPState) (c : Char) (hc : c ≠ '\'')
    (h1 : st.insidecomment = false) (h2 : st.passnextchar = false) (h3 : st.count = 1) :
    mpStep (PQ '\'') false st c = .cont { st with ret := st.ret ++ [c] } := by
  unfold mpStep mpStepM mpTailM
  simp [Id.run, PQ, h1, h2, h3, hc]
  rfl

theorem mpStep_sq_close (st : MPState)
    (h1 : st.insidecomment = false) (h2 : st.passnextchar = false) (h3 : st.count = 1) :
    mpStep (PQ '\'') false st '\'' = .done (st.ret ++ ['\'']) := by
  unfold mpStep mpStepM mpTailM
  simp [Id.run, PQ, h1, h2, h3]
  rfl

/-- inside '…': an ordinary character -/
theorem run_mpPre_sq_ch (st : MPState) (l : Local) (hl : l.tape = none)
    (heol : l.eolLookahead = none) (e : Env) (c : Char) (z : Str)
    (hd : e.tape.line.drop e.tape.idx = c :: z) (hc : c ≠ '\'')
    (h1 : st.insidecomment = false) (h2 : st.passnextchar = false) (h3 : st.count = 1) :
    M.run (mpPre (PQ '\'') false st) l e =
      (.ok (.cont { st with ret := st.ret ++ [c] }, l), envAt e (e.tape.idx + 1)) := by
  rw [run_mpPre _ _ st (getc_flag_sq st) (run_getc_false l hl heol e c z hd),
    mpStep_sq_ch st c hc h1 h2 h3]

/-- inside '…': the closing quote -/
theorem run_mpPre_sq_close (st : MPState) (l : Local) (hl : l.tape = none)
    (heol : l.eolLookahead = none) (e : Env) (z : Str)
    (hd : e.tape.line.drop e.tape.idx = '\'' :: z)
    (h1 : st.insidecomment = false) (h2 : st.passnextchar = false) (h3 : st.count = 1) :
    M.run (mpPre (PQ '\'') false st) l e =
      (.ok (.done (st.ret ++ ['\'']), l), envAt e (e.tape.idx + 1)) := by
  rw [run_mpPre _ _ st (getc_flag_sq st) (run_getc_false l hl heol e '\'' z hd),
    mpStep_sq_close st h1 h2 h3]

theorem run_pmpBody_sq_ch (F : Nat) (st : MPState) (l : Local) (hl : l.tape = none)
    (heol : l.eolLookahead = none) (e : Env) (c : Char) (z : Str)
    (hd : e.tape.line.drop e.tape.idx = c :: z) (hc : c ≠ '\'')
    (h1 : st.insidecomment = false) (h2 : st.passnextchar = false) (h3 : st.count = 1) :
    M.run (pmpBody F (PQ '\'') false false st) l e =
      (.ok (.inl { st with ret := st.ret ++ [c] }, l), envAt e (e.tape.idx + 1)) := by
  rw [pmpBody_count1 F _ _ _ st h3, M.run_bind, run_mpPre_sq_ch st l hl heol e c z hd hc h1 h2 h3]
  rfl

theorem run_pmpBody_sq_close (F : Nat) (st : MPState) (l : Local) (hl : l.tape = none)
    (heol : l.eolLookahead = none) (e : Env) (z : Str)
    (hd : e.tape.line.drop e.tape.idx = '\'' :: z)
    (h1 : st.insidecomment = false) (h2 : st.passnextchar = false) (h3 : st.count = 1) :
    M.run (pmpBody F (PQ '\'') false false st) l e =
      (.ok (.inr (st.ret ++ ['\'']), l), envAt e (e.tape.idx + 1)) := by
  rw [pmpBody_count1 F _ _ _ st h3, M.run_bind, run_mpPre_sq_close st l hl heol e z hd h1 h2 h3]
  rfl

theorem run_pmp_sq_loop (F : Nat) (l : Local) (hl : l.tape = none) (heol : l.eolLookahead = none)
    (z : Str) : ∀ (body : Str) (st : MPState) (fuel : Nat) (e : Env),
      st.insidecomment = false → st.passnextchar = false → st.count = 1 →
      (∀ x ∈ body, x ≠ '\'') → e.tape.line.drop e.tape.idx = body ++ '\'' :: z →
      body.length + 1 ≤ fuel →
      M.run (M.loop "_parse_matched_pair" (pmpBody F (PQ '\'') false false) fuel st) l e =
        (.ok (st.ret ++ body ++ ['\''], l), envAt e (e.tape.idx + body.length + 1)) := by
  intro body
  induction body with
  | nil =>
    intro st fuel e h1 h2 h3 _ hd hf
    obtain ⟨f, rfl⟩ : ∃ f, fuel = f + 1 := ⟨fuel - 1, by simp at hf; omega⟩
    rw [run_loop_succ, run_pmpBody_sq_close F st l hl heol e z hd h1 h2 h3]
    simp
  | cons c body ih =>
    intro st fuel e h1 h2 h3 hb hd hf
    obtain ⟨f, rfl⟩ : ∃ f, fuel = f + 1 := ⟨fuel - 1, by simp at hf; omega⟩
    obtain ⟨q1, q2, q3⟩ := drop_cons_facts hd
    rw [run_loop_succ, run_pmpBody_sq_ch F st l hl heol e c _ hd (hb c (by simp)) h1 h2 h3]
    simp only []
    rw [ih { st with ret := st.ret ++ [c] } f (envAt e (e.tape.idx + 1)) h1 h2 h3
      (fun x hx => hb x (by simp [hx])) (by simpa [envAt] using q3) (by simp at hf; omega)]
    have : e.tape.idx + 1 + body.length + 1 = e.tape.idx + (body.length + 1) + 1 := by omega
    simp [envAt, this]

/-- **`_parse_matched_pair` on a single-quoted string**: the text up to and including the
    closing quote -/
theorem run_pmp_sq (F : Nat) (l : Local) (hl : l.tape = none) (heol : l.eolLookahead = none)
    (body z : Str) (e : Env) (hb : ∀ x ∈ body, x ≠ '\'')
    (hd : e.tape.line.drop e.tape.idx = body ++ '\'' :: z)
    (hlen : e.tape.line.length + 2 ≤ 1073741824) :
    M.run (parseMatchedPair (F + 1) (PQ '\'')) l e =
      (.ok (body ++ ['\''], l), envAt e (e.tape.idx + body.length + 1)) := by
  have := drop_len hd
  rw [pmp_succ, M.run_bind, run_mpInit_sq]
  simp only [loopFuel, pure_bind]
  rw [run_pmp_sq_loop F l hl heol z body _ 1073741824 e rfl rfl rfl hb hd (by omega)]
  simp

/-! ### double quotes -/

theorem mpStep_dq_ch (st : MPState) (c : Char) (c1 : c ≠ '"') (c2 : c ≠ '\\')
    (h1 : st.insidecomment = false) (h2 : st.passnextchar = false) (h3 : st.count = 1) :
    mpStep (PQ '"') false st c = .next { st with ret := st.ret ++ [c] } c := by
  unfold mpStep mpStepM mpTailM
  simp [Id.run, PQ, h1, h2, h3, c1, c2]
  rfl

theorem mpStep_dq_bs (st : MPState)
    (h1 : st.insidecomment = false) (h2 : st.passnextchar = false) (h3 : st.count = 1) :
    mpStep (PQ '"') false st '\\' =
      .next { st with ret := st.ret ++ ['\\'], passnextchar := true } '\\' := by
  unfold mpStep mpStepM mpTailM
  simp [Id.run, PQ, h1, h2, h3]
  rfl

theorem mpStep_pass (P : MPParams) (st : MPState) (d : Char)
    (h1 : st.insidecomment = false) (h2 : st.passnextchar = true) :
    mpStep P false st d = .cont { st with ret := st.ret ++ [d], passnextchar := false } := by
  unfold mpStep mpStepM mpTailM
  simp [Id.run, h1, h2]
  rfl

theorem mpStep_dq_close (st : MPState)
    (h1 : st.insidecomment = false) (h2 : st.passnextchar = false) (h3 : st.count = 1) :
    mpStep (PQ '"') false st '"' = .done (st.ret ++ ['"']) := by
  unfold mpStep mpStepM mpTailM
  simp [Id.run, PQ, h1, h2, h3]
  rfl

/-- the flag `_getc` is called with inside "…" -/
theorem getc_flag_dq (st : MPState) :
    ((PQ '"').doublequotes != some '\'' && !st.passnextchar) = !st.passnextchar := by
  cases st.passnextchar <;> rfl

/-- inside "…": an ordinary character -/
theorem run_mpPre_dq_ch (st : MPState) (l : Local) (hl : l.tape = none)
    (heol : l.eolLookahead = none) (e : Env) (c : Char) (z : Str)
    (hd : e.tape.line.drop e.tape.idx = c :: z) (c1 : c ≠ '"') (c2 : c ≠ '\\')
    (h1 : st.insidecomment = false) (h2 : st.passnextchar = false) (h3 : st.count = 1) :
    M.run (mpPre (PQ '"') false st) l e =
      (.ok (.next { st with ret := st.ret ++ [c] } c, l), envAt e (e.tape.idx + 1)) := by
  rw [run_mpPre _ _ st (b := true) (by rw [getc_flag_dq, h2]; rfl)
      (run_getc_true l hl heol e c z hd (fun h => absurd h c2)),
    mpStep_dq_ch st c c1 c2 h1 h2 h3]

/-- inside "…": a backslash (followed by something other than a newline) -/
theorem run_mpPre_dq_bs (st : MPState) (l : Local) (hl : l.tape = none)
    (heol : l.eolLookahead = none) (e : Env) (d : Char) (z : Str)
    (hd : e.tape.line.drop e.tape.idx = '\\' :: d :: z) (hdn : d ≠ '\n')
    (h1 : st.insidecomment = false) (h2 : st.passnextchar = false) (h3 : st.count = 1) :
    M.run (mpPre (PQ '"') false st) l e =
      (.ok (.next { st with ret := st.ret ++ ['\\'], passnextchar := true } '\\', l),
        envAt e (e.tape.idx + 1)) := by
  rw [run_mpPre _ _ st (b := true) (by rw [getc_flag_dq, h2]; rfl)
      (run_getc_true l hl heol e '\\' (d :: z) hd (fun _ => ⟨d, z, rfl, hdn⟩)),
    mpStep_dq_bs st h1 h2 h3]

/-- inside "…": the character after a backslash -/
theorem run_mpPre_dq_pass (st : MPState) (l : Local) (hl : l.tape = none)
    (heol : l.eolLookahead = none) (e : Env) (d : Char) (z : Str)
    (hd : e.tape.line.drop e.tape.idx = d :: z)
    (h1 : st.insidecomment = false) (h2 : st.passnextchar = true) :
    M.run (mpPre (PQ '"') false st) l e =
      (.ok (.cont { st with ret := st.ret ++ [d], passnextchar := false }, l),
        envAt e (e.tape.idx + 1)) := by
  rw [run_mpPre _ _ st (b := false) (by rw [getc_flag_dq, h2]; rfl)
      (run_getc_false l hl heol e d z hd),
    mpStep_pass _ st d h1 h2]

/-- inside "…": the closing quote -/
theorem run_mpPre_dq_close (st : MPState) (l : Local) (hl : l.tape = none)
    (heol : l.eolLookahead = none) (e : Env) (z : Str)
    (hd : e.tape.line.drop e.tape.idx = '"' :: z)
    (h1 : st.insidecomment = false) (h2 : st.passnextchar = false) (h3 : st.count = 1) :
    M.run (mpPre (PQ '"') false st) l e =
      (.ok (.done (st.ret ++ ['"']), l), envAt e (e.tape.idx + 1)) := by
  rw [run_mpPre _ _ st (b := true) (by rw [getc_flag_dq, h2]; rfl)
      (run_getc_true l hl heol e '"' z hd (fun h => absurd h (by decide))),
    mpStep_dq_close st h1 h2 h3]

/-- after an ordinary character inside "…" the second half of the iteration does nothing -/
theorem mpPost_dq (pmp : MPParams → M Str) (pcs : CSParams → M Str) (s : MPState) (c : Char)
    (hs : s.sawdollar = false) (c3 : c ≠ '`') (c4 : c ≠ '$') :
    mpPost pmp pcs (PQ '"') true s c = pure s := by
  obtain ⟨cnt, dbs, ic, sd, pn, ret⟩ := s
  simp only at hs
  subst hs
  unfold mpPost
  simp only [PQ, bne_self_eq_false, Bool.false_eq_true, if_false, beq_self_eq_true, Bool.true_and,
    beq_iff_eq, c3, Bool.false_and, Bool.and_false]
  have : (c == '$') = false := by simp [c4]
  rw [this]

end Bashlex.C06S
