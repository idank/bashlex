/-
  C06 for `split`, quoted inputs: `_readtokenword` on a chunk made of plain characters,
  backslash escapes, '…' and "…".
-/
import Bashlex.Props.C06.SQTok2

namespace Bashlex.C06S
open Bashlex Bashlex.M Bashlex.C10 Bashlex.C14
set_option linter.unusedSimpArgs false

/-- the effect of one item of a word on the dictionary `d` of `_readtokenword` -/
structure WStep (st st' : RWState) (added : Str) (q : Bool) (y : Char) : Prop where
  c : st'.c = some y
  tw : st'.tokenword = st.tokenword ++ added
  dp : st'.dollarPresent = st.dollarPresent
  qd : st'.quoted = (st.quoted || q)
  pn : st'.passNext = false
  ca : st'.compoundAssignment = st.compoundAssignment

abbrev wloop := M.loop "_readtokenword" readtokenwordStep

/-- an iteration on a character that is no backslash, quote, expansion or break character, outside
    any delimiter: the character is taken into the word and the next one read, whatever `_getc`
    delivers -/
theorem run_step_ordinary (st : RWState) (c : Char) (l : Local) (e : Env) (hds : l.dstack = [])
    (hc : st.c = some c) (hpn : st.passNext = false) (hbs : c ≠ '\\')
    (q1 : (synClass c).quote = false) (q2 : (synClass c).exp = false)
    (q3 : (synClass c).brk = false) {y : Option Char} {l' : Local} {e' : Env}
    (hg : M.run (getc true) l (touch (touch (touch e c) c) c) = (.ok (y, l'), e')) :
    M.run (readtokenwordStep st) l e = (.ok (.inl { handleescapedchar st c with c := y }, l'), e') := by
  unfold readtokenwordStep
  simp only [hc, hpn, Bool.false_eq_true, if_false, bind_assoc, pure_bind]
  rw [M.run_bind, run_currentDelimiter]
  simp only [hds, List.getLast?_nil, beq_iff_eq, hbs, if_false]
  rw [M.run_bind, run_shellquote]
  simp only [q1, Bool.false_eq_true, if_false]
  rw [M.run_bind, run_shellexp]
  simp only [q2, Bool.false_eq_true, if_false, Bool.not_false, if_true, pure_bind]
  rw [M.run_bind, run_shellbreak]
  simp only [q3, Bool.false_eq_true, if_false, pure_bind]
  rw [M.run_bind, run_currentDelimiter]
  simp only [hds, List.getLast?_nil]
  have hflag : ((none : Option Char) != some '\'' && !(handleescapedchar st c).passNext) = true := by
    simp [handleescapedchar, hpn]
  rw [M.run_bind, hflag, hg]
  simp only [M.run_pure]

/-- a plain character; the next character is `y` -/
theorem item_plain (st : RWState) (c y : Char) (z : Str) (ps : List Nat) (l : Local) (e : Env)
    (hinv : Inv ps l) (hc : st.c = some c) (hpn : st.passNext = false) (hp : plainCh c = true)
    (hd : e.tape.line.drop e.tape.idx = y :: z) (hy : NextOK y z) :
    ∃ st' e', (∀ f, M.run (wloop (f + 1) st) l e = M.run (wloop f st') l e') ∧
      e'.tape = { e.tape with idx := e.tape.idx + 1 } ∧ WStep st st' [c] false y := by
  obtain ⟨q1, q2, q3, q4⟩ := plain_syn hp
  obtain ⟨f1, f2, f3, f4, f5, f6, f7, f8, f9⟩ := plainCh_facts hp
  have hrun := run_step_ordinary st c l e hinv.dstack hc hpn f5 q1 q2 q3
    (run_getc_true l hinv.tape hinv.eol _ y z (by simpa using hd) hy)
  refine ⟨_, _, fun f => by rw [show wloop (f + 1) st = _ from rfl, run_loop_succ, hrun], ?_, ?_⟩
  · simp [envAt]
  · have hd' : (c == '$') = false := by simp [f8]
    constructor <;> simp [handleescapedchar, hpn, hd']

/-- a backslash: the escape character is recorded, the next character is read raw -/
theorem run_step_bs (st : RWState) (d : Char) (z : Str) (ps : List Nat) (l : Local) (e : Env)
    (hinv : Inv ps l) (hc : st.c = some '\\') (hpn : st.passNext = false)
    (hd : e.tape.line.drop e.tape.idx = d :: z) (hdn : d ≠ '\n') :
    M.run (readtokenwordStep st) l e =
      (.ok (.inl { handleescapedchar { st with passNext := true, quoted := true } '\\' with c := some d },
        l), envAt e (e.tape.idx + 1)) := by
  obtain ⟨h1, h2, h3⟩ := drop_cons_facts hd
  obtain ⟨c0, ad, dp, q, pn, ca, tw⟩ := st
  simp only at hc hpn
  subst hc hpn
  unfold readtokenwordStep
  simp only [Bool.false_eq_true, if_false, bind_assoc, pure_bind]
  rw [M.run_bind, run_currentDelimiter]
  simp only [hinv.dstack, List.getLast?_nil, beq_self_eq_true, if_true]
  rw [M.run_bind, run_getc_false l hinv.tape hinv.eol e d z hd]
  have hdn' : (some d == some '\n') = false := by simp [hdn]
  simp only [hdn', Bool.false_eq_true, if_false]
  rw [M.run_bind, run_ungetc_top _ _ _ hinv.tape (by simp [envAt]) (by simp [envAt]; omega)]
  simp only [Option.isNone_none, Bool.true_or, if_true, pure_bind, Bool.not_true, Bool.false_eq_true,
    if_false]
  rw [M.run_bind, run_currentDelimiter]
  simp only [hinv.dstack, List.getLast?_nil]
  simp only [handleescapedchar, Bool.not_true, Bool.and_false]
  rw [M.run_bind, run_getc_false l hinv.tape hinv.eol _ d z (by simpa [envAt] using hd)]
  simp only [M.run_pure]
  simp [envAt]

/-- the character after a backslash is copied; the next character is `y` -/
theorem run_step_pass (st : RWState) (d y : Char) (z : Str) (ps : List Nat) (l : Local) (e : Env)
    (hinv : Inv ps l) (hc : st.c = some d) (hpn : st.passNext = true)
    (hd : e.tape.line.drop e.tape.idx = y :: z) (hy : NextOK y z) :
    M.run (readtokenwordStep st) l e =
      (.ok (.inl { handleescapedchar { st with passNext := false } d with c := some y }, l),
        envAt e (e.tape.idx + 1)) := by
  obtain ⟨c0, ad, dp, q, pn, ca, tw⟩ := st
  simp only at hc hpn
  subst hc hpn
  unfold readtokenwordStep
  simp only [if_true, bind_assoc, pure_bind]
  rw [M.run_bind, run_currentDelimiter]
  simp only [hinv.dstack, List.getLast?_nil]
  simp only [handleescapedchar, Bool.not_false, Bool.and_true,
    show ((none : Option Char) != some '\'') = true from rfl]
  rw [M.run_bind, run_getc_true l hinv.tape hinv.eol _ y z hd hy]
  simp only [M.run_pure]

/-- a backslash and the character it protects -/
theorem item_esc (st : RWState) (d y : Char) (z : Str) (ps : List Nat) (l : Local) (e : Env)
    (hinv : Inv ps l) (hc : st.c = some '\\') (hpn : st.passNext = false)
    (hd : e.tape.line.drop e.tape.idx = d :: y :: z) (hdn : d ≠ '\n') (hdd : d ≠ '$')
    (hy : NextOK y z) :
    ∃ st' e', (∀ f, M.run (wloop (f + 2) st) l e = M.run (wloop f st') l e') ∧
      e'.tape = { e.tape with idx := e.tape.idx + 2 } ∧ WStep st st' ['\\', d] true y := by
  obtain ⟨h1, h2, h3⟩ := drop_cons_facts hd
  have r1 := run_step_bs st d (y :: z) ps l e hinv hc hpn hd hdn
  have r2 := run_step_pass
    { handleescapedchar { st with passNext := true, quoted := true } '\\' with c := some d } d y z ps l
    (envAt e (e.tape.idx + 1)) hinv rfl (by simp [handleescapedchar]) (by simpa [envAt] using h3) hy
  refine ⟨{ handleescapedchar { (
      { handleescapedchar { st with passNext := true, quoted := true } '\\' with c := some d } : RWState)
        with passNext := false } d with c := some y },
    envAt (envAt e (e.tape.idx + 1)) ((envAt e (e.tape.idx + 1)).tape.idx + 1), fun f => ?_, ?_, ?_⟩
  · rw [show wloop (f + 2) st = M.loop "_readtokenword" readtokenwordStep (f + 1 + 1) st from rfl,
      run_loop_succ, r1]
    simp only []
    rw [run_loop_succ, r2]
  · simp [envAt]
  · have hd' : (d == '$') = false := by simp [hdd]
    constructor <;> simp [handleescapedchar, hpn, hd']

theorem inv_push_pop {ps : List Nat} {l : Local} (hinv : Inv ps l) (c : Char) :
    ({ l with dstack := ({ l with dstack := l.dstack ++ [c] } : Local).dstack.dropLast } : Local) = l := by
  have := hinv.dstack
  cases l
  simp_all

/-- a quoted string `qc body qc`; the next character is `y` -/
theorem item_quote (qc : Char) (hq : qc = '\'' ∨ qc = '"') (st : RWState) (body : Str) (y : Char)
    (z : Str) (ps : List Nat) (l : Local) (e : Env) (hinv : Inv ps l) (hc : st.c = some qc)
    (hpn : st.passNext = false)
    (hpmp : ∀ (l1 : Local) (e1 : Env), l1.tape = none → l1.eolLookahead = none → e1.tape = e.tape →
      M.run (parseMatchedPair (1048575 + 1) (PQ qc)) l1 e1 =
        (.ok (body ++ [qc], l1), envAt e1 (e1.tape.idx + body.length + 1)))
    (hd : e.tape.line.drop e.tape.idx = body ++ qc :: y :: z) (hy : NextOK y z)
    (hnd : (qc == '"' && (body ++ [qc]).contains '$') = false) :
    ∃ st' e', (∀ f, M.run (wloop (f + 1) st) l e = M.run (wloop f st') l e') ∧
      e'.tape = { e.tape with idx := e.tape.idx + body.length + 2 } ∧
      WStep st st' (qc :: body ++ [qc]) true y := by
  have hsyn : (synClass qc).quote = true ∧ qc ≠ '\\' := by
    rcases hq with rfl | rfl <;> decide
  have hdy : (envAt (touch e qc) ((touch e qc).tape.idx + body.length + 1)).tape.line.drop
      (envAt (touch e qc) ((touch e qc).tape.idx + body.length + 1)).tape.idx = y :: z := by
    show (touch e qc).tape.line.drop ((touch e qc).tape.idx + body.length + 1) = _
    rw [touch_tape]
    have : e.tape.idx + body.length + 1 = e.tape.idx + (body ++ [qc]).length := by simp; omega
    rw [this, ← List.drop_drop, hd]
    have : body ++ qc :: y :: z = (body ++ [qc]) ++ y :: z := by simp
    rw [this, List.drop_left]
  obtain ⟨c0, ad, dp, q, pn, ca, tw⟩ := st
  simp only at hc hpn
  subst hc hpn
  have hrun : M.run (readtokenwordStep
        { c := some qc, allDigit := ad, dollarPresent := dp, quoted := q, passNext := false,
          compoundAssignment := ca, tokenword := tw }) l e =
      (.ok (.inl { c := some y, allDigit := false, dollarPresent := dp, quoted := true,
                   passNext := false, compoundAssignment := ca,
                   tokenword := tw ++ [qc] ++ (body ++ [qc]) }, l),
        envAt (envAt (touch e qc) ((touch e qc).tape.idx + body.length + 1))
          ((envAt (touch e qc) ((touch e qc).tape.idx + body.length + 1)).tape.idx + 1)) := by
    unfold readtokenwordStep
    simp only [Bool.false_eq_true, if_false, bind_assoc, pure_bind]
    rw [M.run_bind, run_currentDelimiter]
    simp only [hinv.dstack, List.getLast?_nil, beq_iff_eq, hsyn.2, if_false]
    rw [M.run_bind, run_shellquote]
    simp only [hsyn.1, if_true]
    unfold handleshellquote pushDelimiter popDelimiter depthFuel
    simp only [bind_assoc, pure_bind]
    rw [M.run_bind, C10.run_modify]
    simp only []
    rw [M.run_bind]
    have := hpmp { l with dstack := l.dstack ++ [qc] } (touch e qc) hinv.tape hinv.eol (touch_tape e qc)
    rw [show (1048576 : Nat) = 1048575 + 1 from rfl]
    rw [show ({ doublequotes := some qc, opn := qc, close := qc, parsingcommand := qc == '`' } : MPParams)
      = PQ qc from rfl, this]
    simp only []
    rw [M.run_bind, C10.run_get]
    simp only [hinv.dstack, List.nil_append, List.isEmpty_cons, Bool.false_eq_true, if_false]
    rw [M.run_bind, C10.run_set]
    have hdl : ([qc] : List Char).dropLast = [] := rfl
    simp only [hdl, pure_bind, Bool.not_true, Bool.false_eq_true, if_false]
    rw [M.run_bind, run_currentDelimiter]
    simp only [List.getLast?_nil, Bool.not_false, Bool.and_true,
      show ((none : Option Char) != some '\'') = true from rfl]
    rw [M.run_bind]
    have hl2 : ({ l with dstack := [] } : Local) = l := by
      have := hinv.dstack; cases l; simp_all
    rw [hl2]
    rw [run_getc_true l hinv.tape hinv.eol _ y z hdy hy]
    simp only [M.run_pure, hnd]
    cases dp <;> rfl
  refine ⟨_, _, fun f => by rw [show wloop (f + 1) _ = _ from rfl, run_loop_succ, hrun], ?_, ?_⟩
  · simp [envAt]
  · constructor <;> simp

/-! ## chunks -/

/-- the text of one word of a `split` input: plain characters, backslash-character pairs,
    '…' strings and "…" strings; the flag says whether any quoting occurs -/
inductive Items : Str → Bool → Prop
  | nil : Items [] false
  | plain (c : Char) (r : Str) (q : Bool) : plainCh c = true → Items r q → Items (c :: r) q
  | esc (d : Char) (r : Str) (q : Bool) : d ≠ '\n' → d ≠ '$' → Items r q →
      Items ('\\' :: d :: r) true
  | sq (body r : Str) (q : Bool) : (∀ x ∈ body, x ≠ '\'') → Items r q →
      Items ('\'' :: (body ++ '\'' :: r)) true
  | dq (body r : Str) (q : Bool) : DBody body → Items r q → Items ('"' :: (body ++ '"' :: r)) true

theorem items_next {t : Str} {q : Bool} (h : Items t q) {b : Char} (hb : endCh b = true)
    {rest : Str} {y : Char} {z : Str} (hyz : y :: z = t ++ b :: rest) : NextOK y z := by
  intro hy
  cases h with
  | nil =>
    simp at hyz
    have := (end_syn hb).2.2.2
    rw [← hyz.1, hy] at this; exact absurd rfl this
  | plain c r q hp hr =>
    simp at hyz
    have := (plainCh_facts hp).2.2.2.2.1
    rw [← hyz.1, hy] at this; exact absurd rfl this
  | esc d r q h1 h2 hr =>
    simp at hyz
    exact ⟨d, r ++ b :: rest, hyz.2, h1⟩
  | sq body r q h1 hr =>
    simp at hyz
    rw [hy] at hyz; exact absurd hyz.1 (by decide)
  | dq body r q h1 hr =>
    simp at hyz
    rw [hy] at hyz; exact absurd hyz.1 (by decide)

theorem dbody_no_dollar {body : Str} (h : DBody body) : body.contains '$' = false := by
  induction h with
  | nil => rfl
  | ch c r c1 c2 c3 c4 _ ih =>
    simp only [List.contains_cons, Bool.or_eq_false_iff]
    exact ⟨by simp [Ne.symm c4], ih⟩
  | esc d r d1 d2 _ ih =>
    simp only [List.contains_cons, Bool.or_eq_false_iff]
    exact ⟨by decide, by simp [Ne.symm d2], ih⟩

theorem WStep.trans {st st1 st2 : RWState} {a1 a2 : Str} {q1 q2 : Bool} {y1 y2 : Char}
    (h1 : WStep st st1 a1 q1 y1) (h2 : WStep st1 st2 a2 q2 y2) :
    WStep st st2 (a1 ++ a2) (q1 || q2) y2 :=
  ⟨h2.c, by rw [h2.tw, h1.tw]; simp, by rw [h2.dp, h1.dp], by rw [h2.qd, h1.qd]; simp [Bool.or_assoc],
   h2.pn, by rw [h2.ca, h1.ca]⟩

theorem cons_of_app (r : Str) (b : Char) (rest : Str) : ∃ y z, r ++ b :: rest = y :: z := by
  cases r with
  | nil => exact ⟨b, rest, rfl⟩
  | cons a r => exact ⟨a, r ++ b :: rest, rfl⟩

theorem drop_idx_le {L : Str} {i : Nat} {z : Str} (h : L.drop i = z) (hz : z ≠ []) :
    i + z.length = L.length := by
  have := congrArg List.length h
  simp at this
  have : z.length ≠ 0 := by intro h0; exact hz (List.eq_nil_of_length_eq_zero h0)
  omega

end Bashlex.C06S
