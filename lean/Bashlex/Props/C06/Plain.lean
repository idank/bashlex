/-
  C06: where the quote stripping of `_expandwordinternal` (`stripPure`) coincides with
  shell quote removal (`Spec.quoteRemove`).  `C06_plain` is a statement about two pure functions
  and needs no restriction of the alphabet (`$` and the other expansion characters are ordinary
  characters for both); the alphabet matters only for `stripPure` being what the model computes.
-/
import Bashlex.Props.C06.Strip
import Bashlex.Spec.Quote

namespace Bashlex.C06
open Bashlex Bashlex.Spec
set_option linter.unusedSimpArgs false
set_option linter.unusedVariables false

/-! ### the hypotheses: balanced quotes, and two deviation classes not among K1…K7 -/

/-- the state in which the state machine of `quoteRemove` ends (0 unquoted, 1 in '…', 2 in "…") -/
def endState : QState → Str → QState
  | st, [] => st
  | 1, c :: rest => if c == '\'' then endState 0 rest else endState 1 rest
  | 2, c :: rest =>
    if c == '"' then endState 0 rest
    else if c == '\\' then (match rest with | [] => 2 | _ :: rest' => endState 2 rest')
    else endState 2 rest
  | _, c :: rest =>
    if c == '\\' then (match rest with | [] => 0 | _ :: rest' => endState 0 rest')
    else if c == '\'' then endState 1 rest
    else if c == '"' then endState 2 rest
    else endState 0 rest

/-- every quote is closed -/
def Balanced (t : Str) : Bool := endState 0 t == 0

/-- K8: a backslash-newline pair outside single quotes (where the backslash is not itself
    quoted).  Quote removal deletes the pair, the expander keeps the newline.
    (Such a pair is a line continuation, which the tokenizer deletes before a word value is
    formed; `Spec.hasContinuation` — context `+cont` of the executable spec — covers it.) -/
def contGo : QState → Str → Bool
  | _, [] => false
  | 1, c :: rest => if c == '\'' then contGo 0 rest else contGo 1 rest
  | 2, c :: rest =>
    if c == '"' then contGo 0 rest
    else if c == '\\' then (match rest with | [] => false | d :: rest' => d == '\n' || contGo 2 rest')
    else contGo 2 rest
  | _, c :: rest =>
    if c == '\\' then (match rest with | [] => false | d :: rest' => d == '\n' || contGo 0 rest')
    else if c == '\'' then contGo 1 rest
    else if c == '"' then contGo 2 rest
    else contGo 0 rest

def k8 (t : Str) : Bool := contGo 0 t

/-- K9: the word ends in an unquoted backslash that quotes nothing.  Quote removal drops it,
    the expander raises IndexError (`sindex` runs past the end of the string). -/
def dangGo : QState → Str → Bool
  | _, [] => false
  | 1, c :: rest => if c == '\'' then dangGo 0 rest else dangGo 1 rest
  | 2, c :: rest =>
    if c == '"' then dangGo 0 rest
    else if c == '\\' then (match rest with | [] => false | _ :: rest' => dangGo 2 rest')
    else dangGo 2 rest
  | _, c :: rest =>
    if c == '\\' then (match rest with | [] => true | _ :: rest' => dangGo 0 rest')
    else if c == '\'' then dangGo 1 rest
    else if c == '"' then dangGo 2 rest
    else dangGo 0 rest

def k9 (t : Str) : Bool := dangGo 0 t

/-- none of the deviation features K1…K5 of `Spec.quoteFeatures`.
    (K6, `$'…'`/`$"…"`, is no deviation from `Spec.quoteRemove`, which like the expander reads it
    as `$` followed by a quoted string; K7 is never set by `Spec.featGo`.) -/
def noK (f : QFeat) : Bool := !f.k1 && !f.k2 && !f.k3 && !f.k4 && !f.k5

/-! ### balanced, no K8, no K9: one notion, step by step -/

/-- from quote state `st` the text closes its quotes, holds no line continuation outside '…'
    (K8) and no final unquoted backslash (K9) -/
def Clean (st : QState) (t : Str) : Prop :=
  endState st t = 0 ∧ contGo st t = false ∧ dangGo st t = false

theorem clean0_ch {c : Char} (r : Str) (h1 : c ≠ '\\') (h2 : c ≠ '\'') (h3 : c ≠ '"') :
    Clean 0 (c :: r) ↔ Clean 0 r := by
  unfold Clean
  rw [endState.eq_def, contGo.eq_def, dangGo.eq_def]
  simp [h1, h2, h3]

theorem clean0_esc {d : Char} (r : Str) (hd : d ≠ '\n') : Clean 0 ('\\' :: d :: r) ↔ Clean 0 r := by
  unfold Clean
  rw [endState.eq_def, contGo.eq_def, dangGo.eq_def]
  simp [hd]

theorem clean0_sq (r : Str) : Clean 0 ('\'' :: r) ↔ Clean 1 r := by
  unfold Clean
  rw [endState.eq_def, contGo.eq_def, dangGo.eq_def]
  simp

theorem clean0_dq (r : Str) : Clean 0 ('"' :: r) ↔ Clean 2 r := by
  unfold Clean
  rw [endState.eq_def, contGo.eq_def, dangGo.eq_def]
  simp

theorem clean1_ch {c : Char} (r : Str) (h : c ≠ '\'') : Clean 1 (c :: r) ↔ Clean 1 r := by
  unfold Clean
  rw [endState.eq_def, contGo.eq_def, dangGo.eq_def]
  simp [h]

theorem clean1_close (r : Str) : Clean 1 ('\'' :: r) ↔ Clean 0 r := by
  unfold Clean
  rw [endState.eq_def, contGo.eq_def, dangGo.eq_def]
  simp

theorem clean2_ch {c : Char} (r : Str) (h1 : c ≠ '"') (h2 : c ≠ '\\') : Clean 2 (c :: r) ↔ Clean 2 r := by
  unfold Clean
  rw [endState.eq_def, contGo.eq_def, dangGo.eq_def]
  simp [h1, h2]

theorem clean2_esc {d : Char} (r : Str) (hd : d ≠ '\n') : Clean 2 ('\\' :: d :: r) ↔ Clean 2 r := by
  unfold Clean
  rw [endState.eq_def, contGo.eq_def, dangGo.eq_def]
  simp [hd]

theorem clean2_close (r : Str) : Clean 2 ('"' :: r) ↔ Clean 0 r := by
  unfold Clean
  rw [endState.eq_def, contGo.eq_def, dangGo.eq_def]
  simp

theorem not_clean0_bs_end : ¬ Clean 0 ['\\'] := by
  unfold Clean; rw [dangGo.eq_def]; simp
theorem not_clean0_bs_nl (r : Str) : ¬ Clean 0 ('\\' :: '\n' :: r) := by
  unfold Clean; rw [contGo.eq_def]; simp
theorem not_clean2_bs_end : ¬ Clean 2 ['\\'] := by
  unfold Clean; rw [endState.eq_def]; simp
theorem not_clean2_bs_nl (r : Str) : ¬ Clean 2 ('\\' :: '\n' :: r) := by
  unfold Clean; rw [contGo.eq_def]; simp

/-! ### features, once set, stay set -/

def Fle (f g : QFeat) : Prop :=
  (f.k2 = true → g.k2 = true) ∧ (f.k3 = true → g.k3 = true) ∧
  (f.k4 = true → g.k4 = true) ∧ (f.k5 = true → g.k5 = true)

theorem Fle.refl (f : QFeat) : Fle f f := ⟨id, id, id, id⟩
theorem Fle.trans {f g h : QFeat} (a : Fle f g) (b : Fle g h) : Fle f h :=
  ⟨fun x => b.1 (a.1 x), fun x => b.2.1 (a.2.1 x), fun x => b.2.2.1 (a.2.2.1 x),
   fun x => b.2.2.2 (a.2.2.2 x)⟩

theorem featGo_mono (vo : Nat → Bool) (sd : Bool) :
    ∀ (fuel : Nat) (st : QState) (i : Nat) (suf : Str) (f : QFeat),
      Fle f (featGo vo sd fuel st i suf f) := by
  intro fuel
  induction fuel with
  | zero => intro st i suf f; simp only [featGo]; exact Fle.refl f
  | succ fuel ih =>
    intro st i suf f
    cases suf with
    | nil => simp only [featGo]; exact Fle.refl f
    | cons c rest =>
      simp only [featGo]
      have step : ∀ (g : QFeat) st' i' r, Fle f g → Fle f (featGo vo sd fuel st' i' r g) :=
        fun g st' i' r h => Fle.trans h (ih st' i' r g)
      split
      · split
        · exact ih _ _ _ _
        · apply step; split <;> simp [Fle]
      · split
        · exact ih _ _ _ _
        · split
          · split
            · apply step; split <;> simp [Fle]
            · exact Fle.refl f
          · apply step; split
            · split <;> simp [Fle]
            · simp [Fle]
      · split
        · exact ih _ _ _ _
        · split
          · apply step; simp [Fle]
          · split
            · apply step; split <;> simp [Fle]
            · split
              · exact ih _ _ _ _
              · exact ih _ _ _ _

end Bashlex.C06

namespace Bashlex.C06
open Bashlex Bashlex.Spec
set_option linter.unusedSimpArgs false
set_option linter.unusedVariables false

/-- nothing is verbatim: there are no expansions in the words of this file -/
abbrev V0 : Nat → Bool := fun _ => false

theorem isExpChar_false {c : Char} (h : isExpChar c = false) :
    c ≠ '$' ∧ c ≠ '`' ∧ c ≠ '<' ∧ c ≠ '>' ∧ c ≠ '~' := by
  simp only [isExpChar, Bool.or_eq_false_iff, beq_eq_false_iff_ne, ne_eq] at h
  obtain ⟨⟨⟨⟨e1, e2⟩, e3⟩, e4⟩, e5⟩ := h
  exact ⟨e1, e2, e3, e4, e5⟩

/-- the scan of the expander and the state machine of quote removal, in lock step -/
theorem strip_eq_quoteRemoveGo (sd : Bool) :
    ∀ (fuel : Nat) (st : QState) (i : Nat) (suf : Str) (f : QFeat),
      suf.length < fuel → (st = 0 ∨ st = 1 ∨ st = 2) →
      Clean st suf →
      (featGo V0 sd fuel st i suf f).k2 = false →
      (sd = true → (featGo V0 sd fuel st i suf f).k3 = false) →
      (featGo V0 sd fuel st i suf f).k4 = false →
      (featGo V0 sd fuel st i suf f).k5 = false →
      (st = 1 → sd = false) →
      (sd = true → i = 0 → suf.head? = some '"') →
      stripGo sd suf = some (quoteRemoveGo V0 fuel st i suf) := by
  intro fuel
  induction fuel with
  | zero => intro st i suf f hl; simp at hl
  | succ fuel ih =>
    intro st i suf f hl hst hcl hk2 hk3 hk4 hk5 hsd hi
    cases suf with
    | nil => simp [stripGo_nil, quoteRemoveGo]
    | cons c rest =>
      have hl' : rest.length < fuel := by simp at hl; omega
      have hi' : sd = true → i + 1 = 0 → rest.head? = some '"' := fun _ h => by omega
      have hi'' : ∀ r : Str, sd = true → i + 2 = 0 → r.head? = some '"' := fun _ _ h => by omega
      rcases hst with rfl | rfl | rfl
      · -- unquoted
        by_cases h1 : c = '\\'
        · subst h1
          cases rest with
          | nil => exact absurd hcl not_clean0_bs_end
          | cons d rest' =>
            by_cases hd : d = '\n'
            · subst hd; exact absurd hcl (not_clean0_bs_nl _)
            · simp [featGo] at hk2 hk3 hk4 hk5
              have hcl' := (clean0_esc _ hd).mp hcl
              have := ih 0 (i + 2) rest' f (by simp at hl'; omega) (Or.inl rfl) hcl'
                hk2 hk3 hk4 hk5 (by simp) (hi'' rest')
              rw [stripGo_bs_cons, this]
              simp [quoteRemoveGo, hd]
        · by_cases h2 : c = '"'
          · subst h2
            simp [featGo] at hk2 hk3 hk4 hk5
            have hcl' := (clean0_dq _).mp hcl
            have := ih 2 (i + 1) rest f hl' (Or.inr (Or.inr rfl)) hcl'
              hk2 hk3 hk4 hk5 (by simp) hi'
            rw [stripGo_dq, this]
            simp [quoteRemoveGo]
          · by_cases h3 : c = '\''
            · subst h3
              have hsd0 : sd = false := by
                cases sd with
                | false => rfl
                | true =>
                  exfalso
                  by_cases hi0 : i = 0
                  · have := hi rfl hi0; simp at this
                  · have hk3' := hk3 rfl
                    simp [featGo, hi0] at hk3'
                    have hpos : 0 < i := by omega
                    simp [hpos] at hk3'
                    have := (featGo_mono V0 true fuel 1 (i + 1) rest { f with k3 := true }).2.1 rfl
                    rw [this] at hk3'; cases hk3'
              subst hsd0
              simp [featGo] at hk2 hk4 hk5
              have hcl' := (clean0_sq _).mp hcl
              have := ih 1 (i + 1) rest f hl' (Or.inr (Or.inl rfl)) hcl'
                hk2 (by simp) hk4 hk5 (by simp) (by simp)
              rw [stripGo_sq]
              simp [quoteRemoveGo]
              exact this
            · have key : ∃ f', featGo V0 sd (fuel + 1) 0 i (c :: rest) f =
                  featGo V0 sd fuel 0 (i + 1) rest f' := by
                by_cases h6 : c = '$' ∧ (rest.head? = some '\'' ∨ rest.head? = some '"')
                · exact ⟨{ f with k6 := true }, by simp [featGo, h1, h6]⟩
                · exact ⟨f, by simp [featGo, h1, h2, h3, h6]⟩
              obtain ⟨f', hf'⟩ := key
              rw [hf'] at hk2 hk3 hk4 hk5
              have hcl' := (clean0_ch _ h1 h3 h2).mp hcl
              have := ih 0 (i + 1) rest f' hl' (Or.inl rfl) hcl'
                hk2 hk3 hk4 hk5 (by simp) hi'
              rw [stripGo_plain sd c rest h1 h2 h3, this]
              simp [quoteRemoveGo, h1, h2, h3]
      · -- inside '…'
        have hsd' : sd = false := hsd rfl
        subst hsd'
        by_cases h1 : c = '\''
        · subst h1
          simp [featGo] at hk2 hk4 hk5
          have hcl' := (clean1_close _).mp hcl
          rw [stripGo_sq]
          simp [quoteRemoveGo]
          exact ih 0 (i + 1) rest f hl' (Or.inl rfl) hcl' hk2 (by simp) hk4 hk5
            (by simp) (by simp)
        · by_cases h2 : c = '\\' ∨ c = '"'
          · exfalso
            simp [featGo, h1, h2] at hk2
            have := (featGo_mono V0 false fuel 1 (i + 1) rest { f with k2 := true }).1 rfl
            rw [this] at hk2; cases hk2
          · have h2a : c ≠ '\\' := fun h => h2 (Or.inl h)
            have h2b : c ≠ '"' := fun h => h2 (Or.inr h)
            simp [featGo, h1, h2a, h2b] at hk2 hk4 hk5
            have hcl' := (clean1_ch _ h1).mp hcl
            have := ih 1 (i + 1) rest f hl' (Or.inr (Or.inl rfl)) hcl'
              hk2 (by simp) hk4 hk5 (by simp) (by simp)
            rw [stripGo_plain false c rest h2a h2b h1, this]
            simp [quoteRemoveGo, h1]
      · -- inside "…"
        by_cases h2 : c = '"'
        · subst h2
          simp [featGo] at hk2 hk3 hk4 hk5
          have hcl' := (clean2_close _).mp hcl
          have := ih 0 (i + 1) rest f hl' (Or.inl rfl) hcl'
            hk2 hk3 hk4 hk5 (by simp) hi'
          rw [stripGo_dq, this]
          simp [quoteRemoveGo]
        · by_cases h1 : c = '\\'
          · subst h1
            cases rest with
            | nil => exact absurd hcl not_clean2_bs_end
            | cons d rest' =>
              by_cases hd : d = '\n'
              · subst hd; exact absurd hcl (not_clean2_bs_nl _)
              · by_cases hq : ((d = '$' ∨ d = '`') ∨ d = '"') ∨ d = '\\'
                · have hq5 : (((d = '$' ∨ d = '`') ∨ d = '"') ∨ d = '\\') ∨ d = '\n' := Or.inl hq
                  simp [featGo, hq5] at hk2 hk3 hk4 hk5
                  have hcl' := (clean2_esc _ hd).mp hcl
                  have := ih 2 (i + 2) rest' f (by simp at hl'; omega) (Or.inr (Or.inr rfl))
                    hcl' hk2 hk3 hk4 hk5 (by simp) (hi'' rest')
                  rw [stripGo_bs_cons, this]
                  simp [quoteRemoveGo, hd, hq]
                · exfalso
                  have hq' : ¬ ((((d = '$' ∨ d = '`') ∨ d = '"') ∨ d = '\\') ∨ d = '\n') := by
                    intro h
                    rcases h with h | h
                    · exact hq h
                    · exact hd h
                  simp [featGo, hq'] at hk5
                  have := (featGo_mono V0 sd fuel 2 (i + 2) rest' { f with k5 := true }).2.2.2 rfl
                  rw [this] at hk5; cases hk5
          · by_cases h3 : c = '\''
            · subst h3
              cases sd with
              | false =>
                exfalso
                simp [featGo] at hk4
                have := (featGo_mono V0 false fuel 2 (i + 1) rest { f with k4 := true }).2.2.1 rfl
                rw [this] at hk4; cases hk4
              | true =>
                simp [featGo] at hk2 hk3 hk4 hk5
                have hcl' := (clean2_ch (c := '\'') _ (by decide) (by decide)).mp hcl
                have := ih 2 (i + 1) rest f hl' (Or.inr (Or.inr rfl)) hcl'
                  hk2 (fun _ => hk3) hk4 hk5 (by simp) hi'
                rw [stripGo_sq]
                simp [quoteRemoveGo, this]
            · simp [featGo, h1, h2, h3] at hk2 hk3 hk4 hk5
              have hcl' := (clean2_ch _ h2 h1).mp hcl
              have := ih 2 (i + 1) rest f hl' (Or.inr (Or.inr rfl)) hcl'
                hk2 hk3 hk4 hk5 (by simp) hi'
              rw [stripGo_plain sd c rest h1 h2 h3, this]
              simp [quoteRemoveGo, h1, h2, h3]

end Bashlex.C06

namespace Bashlex.C06
open Bashlex Bashlex.Spec
set_option linter.unusedSimpArgs false
set_option linter.unusedVariables false

/-! ### the features of `Spec.quoteFeatures` in terms of the scan `featGo` -/

theorem qf_k4 (t : Str) : (quoteFeatures t).k4 =
    (featGo V0 (t.head? == some '"') (t.length + 1) 0 0 t {}).k4 := by
  simp only [quoteFeatures]
  split <;> split <;> split <;> rfl

theorem qf_k5 (t : Str) : (quoteFeatures t).k5 =
    (featGo V0 (t.head? == some '"') (t.length + 1) 0 0 t {}).k5 := by
  simp only [quoteFeatures]
  split <;> split <;> split <;> rfl

theorem qf_k3 (t : Str) (h : (t.head? == some '"') = true) : (quoteFeatures t).k3 =
    (featGo V0 (t.head? == some '"') (t.length + 1) 0 0 t {}).k3 := by
  simp only [quoteFeatures]
  split <;> split <;> split <;> first | rfl | contradiction

theorem qf_k2 (t : Str) (h : wholeSQ t = false) : (quoteFeatures t).k2 =
    (featGo V0 (t.head? == some '"') (t.length + 1) 0 0 t {}).k2 := by
  have hc : ¬ ((t.head? == some '\'' && t.getLast? == some '\'' &&
      !((t.drop 1).dropLast).contains '\'') = true) := by
    intro hc
    rw [Bool.and_eq_true] at hc
    rw [wholeSQ, hc.1] at h
    cases h
  simp only [quoteFeatures]
  rw [if_neg hc]
  split <;> split <;> rfl

theorem qf_k1 (t : Str) (h : (quoteFeatures t).k1 = false) :
    ¬ ((t.head? == some '\'' && t.getLast? == some '\'' && decide (t.length ≥ 2) &&
        ((t.drop 1).dropLast).contains '\'') = true) := by
  intro hc
  simp only [quoteFeatures] at h
  rw [if_pos hc] at h
  revert h
  split <;> split <;> simp

/-! ### wholly single-quoted words -/

theorem quoteRemoveGo_nil (v : Nat → Bool) (fuel : Nat) (st : QState) (i : Nat) :
    quoteRemoveGo v fuel st i [] = [] := by
  cases fuel <;> simp [quoteRemoveGo]

theorem quoteRemoveGo_sq_inner : ∀ (inner : Str) (fuel i : Nat), inner.length < fuel →
    inner.contains '\'' = false →
    quoteRemoveGo V0 fuel 1 i (inner ++ ['\'']) = inner
  | [], fuel + 1, i, _, _ => by simp [quoteRemoveGo, quoteRemoveGo_nil]
  | c :: inner, fuel + 1, i, hl, hc => by
    have hc1 : c ≠ '\'' := by intro h; subst h; simp at hc
    have hc2 : inner.contains '\'' = false := by
      simp at hc ⊢; exact hc.2
    have := quoteRemoveGo_sq_inner inner fuel (i + 1) (by simp at hl; omega) hc2
    simp [quoteRemoveGo, hc1, this]

theorem wholeSQ_shape {t : Str} (hw : wholeSQ t = true) (hb : Balanced t = true) :
    t = '\'' :: ((t.drop 1).dropLast ++ ['\'']) := by
  simp only [wholeSQ, Bool.and_eq_true, beq_iff_eq] at hw
  obtain ⟨h1, h2⟩ := hw
  cases t with
  | nil => simp at h1
  | cons c r =>
    simp at h1; subst h1
    cases r with
    | nil => simp [Balanced, endState] at hb
    | cons d r' =>
      have hne : d :: r' ≠ [] := by simp
      have hl : (d :: r').getLast hne = '\'' := by
        have := List.getLast?_eq_some_getLast hne
        rw [List.getLast?_cons_cons] at h2
        rw [this] at h2
        exact Option.some.inj h2
      simp only [List.drop_one, List.tail_cons]
      conv => lhs; rw [← List.dropLast_concat_getLast hne, hl]


/-- **C06_plain**: on a word with balanced quotes and none of the deviation features K1…K5,
    K8 (backslash-newline outside '…') and K9 (final unquoted backslash), the quote stripping of
    `_expandwordinternal` *is* shell quote removal. -/
theorem C06_plain (t : Str) (hb : Balanced t = true)
    (hk : noK (quoteFeatures t) = true) (h8 : k8 t = false) (h9 : k9 t = false) :
    stripPure t (t.head? == some '"') = some (quoteRemove (fun _ => false) t) := by
  simp only [noK, Bool.and_eq_true, Bool.not_eq_true'] at hk
  obtain ⟨⟨⟨⟨hk1, hk2⟩, hk3⟩, hk4⟩, hk5⟩ := hk
  unfold stripPure
  by_cases hw : wholeSQ t = true
  · rw [if_pos hw]
    have hshape := wholeSQ_shape hw hb
    have h1 := qf_k1 t hk1
    generalize (t.drop 1).dropLast = inner at hshape h1
    subst hshape
    have hin : inner.contains '\'' = false := by
      cases hc : inner.contains '\'' with
      | false => rfl
      | true =>
        exfalso; apply h1
        have hl : ('\'' :: (inner ++ ['\''])).getLast? = some '\'' := by
          rw [← List.cons_append, List.getLast?_concat]
        rw [hl, hc]; simp
    congr 1
    unfold quoteRemove
    simp [quoteRemoveGo]
    exact (quoteRemoveGo_sq_inner inner (inner.length + 1 + 1) 1 (by omega) hin).symm
  · have hw' : wholeSQ t = false := by simpa using hw
    rw [if_neg hw]
    unfold quoteRemove
    rw [qf_k2 t hw'] at hk2
    rw [qf_k4] at hk4
    rw [qf_k5] at hk5
    exact strip_eq_quoteRemoveGo (t.head? == some '"') (t.length + 1) 0 0 t {} (by omega)
      (Or.inl rfl) ⟨by simpa [Balanced] using hb, h8, h9⟩ hk2
      (fun h => by rw [← qf_k3 t h]; exact hk3) hk4 hk5 (by simp)
      (fun h _ => by simpa using h)

/-! ### K8 and the specification's `+cont` context -/

theorem hasCont_cons (c : Char) (r : Str) (h : hasContinuation r = true) :
    hasContinuation (c :: r) = true := by
  rw [hasContinuation.eq_def]
  split
  · rfl
  · rename_i heq; cases heq; exact h
  · rename_i heq; cases heq

/-- K8 lies inside the context `+cont` (`Spec.hasContinuation`) of the executable specification -/
theorem contGo_hasContinuation : ∀ (t : Str) (st : QState), contGo st t = true →
    hasContinuation t = true
  | [], st, h => by rw [contGo.eq_def] at h; simp at h
  | [c], st, h => by
    exfalso
    have hnil : ∀ st, contGo st [] = false := fun st => by rw [contGo.eq_def]
    rw [contGo.eq_def] at h
    split at h
    · cases h
    · rename_i heq; cases heq
      split at h <;> simp [hnil] at h
    · rename_i heq; cases heq
      split at h
      · simp [hnil] at h
      · split at h <;> simp [hnil] at h
    · rename_i heq; cases heq
      split at h
      · simp [hnil] at h
      · split at h
        · simp [hnil] at h
        · split at h <;> simp [hnil] at h
  | c :: d :: rest, st, h => by
    have ih1 := contGo_hasContinuation (d :: rest)
    have ih2 := contGo_hasContinuation rest
    rw [contGo.eq_def] at h
    split at h
    · cases h
    · rename_i heq; cases heq
      split at h
      · exact hasCont_cons _ _ (ih1 _ h)
      · exact hasCont_cons _ _ (ih1 _ h)
    · rename_i heq; cases heq
      split at h
      · exact hasCont_cons _ _ (ih1 _ h)
      · split at h
        · rename_i hc
          simp at hc; subst hc
          simp at h
          rcases h with h | h
          · subst h; rfl
          · exact hasCont_cons _ _ (hasCont_cons _ _ (ih2 _ h))
        · exact hasCont_cons _ _ (ih1 _ h)
    · rename_i heq; cases heq
      split at h
      · rename_i hc
        simp at hc; subst hc
        simp at h
        rcases h with h | h
        · subst h; rfl
        · exact hasCont_cons _ _ (hasCont_cons _ _ (ih2 _ h))
      · split at h
        · exact hasCont_cons _ _ (ih1 _ h)
        · split at h
          · exact hasCont_cons _ _ (ih1 _ h)
          · exact hasCont_cons _ _ (ih1 _ h)
end Bashlex.C06
