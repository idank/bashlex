/-
  C06: words with parameters `$name`, `$1`, `$?`, `${…}` (no command, process, arithmetic
  substitution, no tilde).  Value part only: which nodes are recorded is property C07.

  At a `$` (in *every* quote state, single quotes included) the expander calls `_paramexpand`
  and copies the text it consumed, `string[tindex:sindex]`, as it is.

  The model is not walked here: C07 says that value and parts are those of a scan trace
  (`WordSpecV`); on these words every visit of a trace is a plain one, and `visit_param` follows
  the pure scan `stripXGo` along it.
-/
import Bashlex.Props.C06.Word
import Bashlex.Props.C07.Trace
import Bashlex.Props.C07.Protected

namespace Bashlex.C06
open Bashlex Bashlex.Spec Bashlex.M Bashlex.C07
set_option linter.unusedSimpArgs false

/-! ### how far `_paramexpand` reads -/

/-- number of leading name characters -/
def nameLen : Str → Nat
  | [] => 0
  | c :: r => if !isAlnum c && c != '_' then 0 else nameLen r + 1

/-- index of the first `}` -/
def findClose : Str → Option Nat
  | [] => none
  | x :: xs => if x == '}' then some 0 else (findClose xs).map (· + 1)

def specials : List Char := "0123456789$#?-!*@".toList

/-- the length of the text `_paramexpand` consumes at a `$`, as a function of the text `rest`
    after the `$` (which must not start with `(` or `[`): `$` alone when no name follows or a
    `${` is not closed -/
def paramLen (rest : Str) : Nat :=
  match rest with
  | [] => 1
  | c :: r =>
    if specials.contains c then 2
    else if c == '{' then (match findClose r with | none => 1 | some k => k + 3)
    else nameLen rest + 1

theorem nameLen_le : ∀ r : Str, nameLen r ≤ r.length
  | [] => by simp [nameLen]
  | c :: r => by
    have := nameLen_le r
    simp only [nameLen]; split <;> simp <;> omega

theorem findClose_lt : ∀ (r : Str) (k : Nat), findClose r = some k → k < r.length
  | [], k, h => by simp [findClose] at h
  | x :: xs, k, h => by
    simp only [findClose] at h
    split at h
    · cases h; simp
    · cases hx : findClose xs with
      | none => rw [hx] at h; cases h
      | some j =>
        rw [hx] at h; simp at h; subst h
        have := findClose_lt xs j hx
        simp; omega

theorem paramLen_pos (rest : Str) : 1 ≤ paramLen rest := by
  unfold paramLen
  split
  · exact Nat.le_refl _
  · split
    · omega
    · split
      · split <;> omega
      · omega

theorem paramLen_le (rest : Str) : paramLen rest ≤ rest.length + 1 := by
  unfold paramLen
  split
  · simp
  · rename_i c r
    split
    · simp
    · split
      · split
        · simp
        · rename_i k hk
          have := findClose_lt r k hk
          simp; omega
      · have := nameLen_le (c :: r); omega

theorem scanName_eq (string : Str) : ∀ (fuel : Nat) (pre rest : Str), string = pre ++ rest →
    nameLen rest < fuel → scanName string fuel pre.length = pre.length + nameLen rest := by
  intro fuel
  induction fuel with
  | zero => intro pre rest _ h; omega
  | succ fuel ih =>
    intro pre rest hs hf
    cases rest with
    | nil =>
      have : string[pre.length]? = none := by rw [hs]; simp
      simp [scanName, this, nameLen]
    | cons c r =>
      have hc : string[pre.length]? = some c := by rw [hs]; simp
      simp only [scanName, hc, nameLen]
      split
      · simp
      · have := ih (pre ++ [c]) r (by rw [hs]; simp) (by
          simp only [nameLen] at hf
          rename_i hcc
          rw [if_neg hcc] at hf; omega)
        simp at this
        rw [this]; omega

theorem findFrom_go_eq : ∀ (r : Str) (i : Nat),
    Str.findFrom.go '}' r i = (findClose r).map (· + i)
  | [], i => by simp [Str.findFrom.go, findClose]
  | x :: xs, i => by
    simp only [Str.findFrom.go, findClose]
    split
    · simp
    · rw [findFrom_go_eq xs (i + 1)]
      cases findClose xs <;> simp <;> omega

theorem drop_mid (pre suf : Str) : (pre ++ suf).drop pre.length = suf := by simp

/-- at a `$` not followed by `(` or `[` the index `_paramexpand` returns is `paramLen` past the `$` -/
theorem paramPlain_len (pre rest : Str) {r : Option Node × Nat}
    (h : paramPlain (pre ++ '$' :: rest) pre.length = some r) : r.2 = pre.length + paramLen rest := by
  unfold paramPlain at h
  cases rest with
  | nil =>
    have hz : (pre ++ ['$'])[pre.length + 1]? = none := by simp
    simp only [hz, Option.some.injEq] at h
    subst h
    have := scanName_eq (pre ++ ['$']) ((pre ++ ['$']).length + 1) (pre ++ ['$']) [] (by simp)
      (by simp [nameLen])
    simp [nameLen] at this
    simp [paramLen, this]
  | cons c r' =>
    have hz : (pre ++ '$' :: c :: r')[pre.length + 1]? = some c := by
      have : pre ++ '$' :: c :: r' = (pre ++ ['$']) ++ c :: r' := by simp
      rw [this]
      have h := getElem?_mid (pre ++ ['$']) c r'
      simp at h ⊢
    simp only [hz] at h
    by_cases hs : specials.contains c = true
    · have hs' : "0123456789$#?-!*@".toList.contains c = true := hs
      rw [if_pos hs'] at h
      simp only [Option.some.injEq] at h
      subst h
      have hm : c ∈ specials := by simpa using hs
      simp [paramLen, hm]
    · have hs' : ¬ "0123456789$#?-!*@".toList.contains c = true := hs
      rw [if_neg hs'] at h
      have hm : ¬ c ∈ specials := by simpa using hs
      by_cases hb : c = '{'
      · subst hb
        simp only [beq_self_eq_true, if_true] at h
        have hf : Str.findFrom (pre ++ '$' :: '{' :: r') '}' (pre.length + 2) =
            (findClose r').map (· + (pre.length + 2)) := by
          unfold Str.findFrom
          have : pre ++ '$' :: '{' :: r' = (pre ++ ['$', '{']) ++ r' := by simp
          have hd : (pre ++ '$' :: '{' :: r').drop (pre.length + 2) = r' := by
            rw [this]
            exact List.drop_left' (by simp)
          rw [hd, findFrom_go_eq]
        rw [hf] at h
        cases hk : findClose r' with
        | none =>
          rw [hk] at h
          simp only [Option.map_none, Option.some.injEq] at h
          subst h
          simp [paramLen, hm, hk]
        | some k =>
          rw [hk] at h
          simp only [Option.map_some, Option.some.injEq] at h
          subst h
          simp [paramLen, hm, hk]
          omega
      · have hb' : (c == '{') = false := by simpa using hb
        simp only [hb', Bool.false_eq_true, if_false] at h
        split at h
        · cases h
        split at h
        · cases h
        simp only [Option.some.injEq] at h
        subst h
        have := scanName_eq (pre ++ '$' :: c :: r') ((pre ++ '$' :: c :: r').length + 1)
          (pre ++ ['$']) (c :: r') (by simp) (by
            have := nameLen_le (c :: r'); simp at this ⊢; omega)
        simp at this
        simp [paramLen, hm, hb, this]
        omega

theorem paramPlain_node {v : Str} {i : Nat} {r : Option Node × Nat} (h : paramPlain v i = some r) :
    ∀ n, r.1 = some n → ∃ val, n = .parameter (i, r.2) val := by
  unfold paramPlain at h
  intro n hn
  split at h
  · cases h; cases hn; exact ⟨_, rfl⟩
  split at h
  · cases h; cases hn; exact ⟨_, rfl⟩
  split at h
  · split at h
    · cases h; cases hn
    · cases h; cases hn; exact ⟨_, rfl⟩
  split at h
  · cases h
  split at h
  · cases h
  · cases h; cases hn; exact ⟨_, rfl⟩

/-! ### the pure scan with parameters -/

/-- characters at which the expander may start a nested parse or a tilde scan -/
def isSubChar (c : Char) : Bool := c == '`' || c == '<' || c == '>' || c == '~'

/-- no backquote, `<`, `>`, `~`, and no `$(`, `$[` -/
def alphaOK : Str → Bool
  | [] => true
  | c :: r => !isSubChar c && !(c == '$' && (r.head? == some '(' || r.head? == some '[')) && alphaOK r

/-- the expander's scan over a word satisfying `alphaOK`; the first argument counts the
    characters still to be copied as part of the parameter text being consumed -/
def stripXGo (qdq : Bool) : Nat → Str → Option Str
  | _, [] => some []
  | k + 1, c :: rest => (stripXGo qdq k rest).map (c :: ·)
  | 0, c :: rest =>
    if c == '$' then (stripXGo qdq (paramLen rest - 1) rest).map (c :: ·)
    else if c == '\\' then
      match rest with
      | [] => none
      | d :: rest' => (stripXGo qdq 0 rest').map (d :: ·)
    else if c == '"' then stripXGo qdq 0 rest
    else if c == '\'' && !qdq then stripXGo qdq 0 rest
    else (stripXGo qdq 0 rest).map (c :: ·)

def stripX (string : Str) (qdq : Bool) : Option Str :=
  if wholeSQ string then some (string.drop 1).dropLast else stripXGo qdq 0 string

theorem stripXGo_nil (q : Bool) (k : Nat) : stripXGo q k [] = some [] := by
  rw [stripXGo.eq_def]
theorem stripXGo_succ (q : Bool) (k : Nat) (c : Char) (r : Str) :
    stripXGo q (k + 1) (c :: r) = (stripXGo q k r).map (c :: ·) := by
  conv => lhs; rw [stripXGo.eq_def]
theorem stripXGo_dollar (q : Bool) (r : Str) :
    stripXGo q 0 ('$' :: r) = (stripXGo q (paramLen r - 1) r).map ('$' :: ·) := by
  conv => lhs; rw [stripXGo.eq_def]
  simp
theorem stripXGo_bs_nil (q : Bool) : stripXGo q 0 ['\\'] = none := by
  rw [stripXGo.eq_def]; simp
theorem stripXGo_bs_cons (q : Bool) (d : Char) (r : Str) :
    stripXGo q 0 ('\\' :: d :: r) = (stripXGo q 0 r).map (d :: ·) := by
  conv => lhs; rw [stripXGo.eq_def]
  simp
theorem stripXGo_dq (q : Bool) (r : Str) : stripXGo q 0 ('"' :: r) = stripXGo q 0 r := by
  conv => lhs; rw [stripXGo.eq_def]
  simp
theorem stripXGo_sq (q : Bool) (r : Str) :
    stripXGo q 0 ('\'' :: r) = if q then (stripXGo q 0 r).map ('\'' :: ·) else stripXGo q 0 r := by
  conv => lhs; rw [stripXGo.eq_def]
  cases q <;> simp
theorem stripXGo_plain (q : Bool) (c : Char) (r : Str) (h0 : c ≠ '$') (h1 : c ≠ '\\') (h2 : c ≠ '"')
    (h3 : c ≠ '\'') : stripXGo q 0 (c :: r) = (stripXGo q 0 r).map (c :: ·) := by
  conv => lhs; rw [stripXGo.eq_def]
  simp [h0, h1, h2, h3]

theorem stripXGo_skip (q : Bool) : ∀ (seg : Str) (k : Nat) (rest : Str),
    stripXGo q (seg.length + k) (seg ++ rest) = (stripXGo q k rest).map (seg ++ ·)
  | [], k, rest => by simp
  | c :: seg, k, rest => by
    have : (c :: seg).length + k = (seg.length + k) + 1 := by simp; omega
    rw [this, List.cons_append, stripXGo_succ, stripXGo_skip q seg k rest]
    cases stripXGo q k rest <;> simp

/-- at a `$` the scan copies `paramLen` characters -/
theorem stripXGo_dollar_jump (q : Bool) (r : Str) :
    stripXGo q 0 ('$' :: r) =
      (stripXGo q 0 (('$' :: r).drop (paramLen r))).map (('$' :: r).take (paramLen r) ++ ·) := by
  rw [stripXGo_dollar]
  have h1 := paramLen_pos r
  have h2 := paramLen_le r
  obtain ⟨n, hn⟩ : ∃ n, paramLen r = n + 1 := ⟨paramLen r - 1, by omega⟩
  rw [hn]
  simp only [Nat.add_sub_cancel, List.take_succ_cons, List.drop_succ_cons]
  have hlen : (r.take n).length = n := by simp; omega
  have := stripXGo_skip q (r.take n) 0 (r.drop n)
  rw [List.take_append_drop, hlen, Nat.add_zero] at this
  rw [this]
  cases stripXGo q 0 (r.drop n) <;> simp

theorem alphaOK_cons {c : Char} {r : Str} (h : alphaOK (c :: r) = true) :
    isSubChar c = false ∧ (c = '$' → r.head? ≠ some '(' ∧ r.head? ≠ some '[') ∧ alphaOK r = true := by
  simp only [alphaOK, Bool.and_eq_true, Bool.not_eq_true', Bool.and_eq_false_iff,
    Bool.or_eq_false_iff] at h
  refine ⟨h.1.1, ?_, h.2⟩
  intro hc
  subst hc
  rcases h.1.2 with h' | h'
  · simp at h'
  · simp at h'; exact h'

theorem alphaOK_drop : ∀ (n : Nat) (t : Str), alphaOK t = true → alphaOK (t.drop n) = true
  | 0, t, h => by simpa using h
  | n + 1, [], h => by simp [alphaOK]
  | n + 1, c :: r, h => by
    simp only [List.drop_succ_cons]
    exact alphaOK_drop n r (alphaOK_cons h).2.2

theorem slice_take (pre suf : Str) (n : Nat) :
    Str.slice (pre ++ suf) pre.length (pre.length + n) = suf.take n := by
  unfold Str.slice
  rw [List.take_append, List.drop_append]
  simp

/-! ### the scan with parameters against the scan without -/

def isQuoting (c : Char) : Bool := c == '\\' || c == '\'' || c == '"'

/-- K7′ (generalises K7): a quote character or a backslash inside a text that `_paramexpand`
    consumes — necessarily inside `${…}`, the other forms consist of name characters and the
    special parameters.  (`Spec.featGo` ignores its `verbatimOpen` argument and scans through
    `${…}`, so the features K1…K5 are not meaningful for such words.) -/
def segQuoteGo : Nat → Str → Bool
  | _, [] => false
  | k + 1, c :: rest => isQuoting c || segQuoteGo k rest
  | 0, c :: rest =>
    if c == '$' then segQuoteGo (paramLen rest - 1) rest
    else if c == '\\' then (match rest with | [] => false | _ :: rest' => segQuoteGo 0 rest')
    else segQuoteGo 0 rest

def k7x (t : Str) : Bool := segQuoteGo 0 t


theorem segQuoteGo_nil (k : Nat) : segQuoteGo k [] = false := by rw [segQuoteGo.eq_def]
theorem segQuoteGo_succ (k : Nat) (c : Char) (r : Str) :
    segQuoteGo (k + 1) (c :: r) = (isQuoting c || segQuoteGo k r) := by
  conv => lhs; rw [segQuoteGo.eq_def]
theorem segQuoteGo_dollar (r : Str) : segQuoteGo 0 ('$' :: r) = segQuoteGo (paramLen r - 1) r := by
  conv => lhs; rw [segQuoteGo.eq_def]
  simp
theorem segQuoteGo_bs_cons (d : Char) (r : Str) : segQuoteGo 0 ('\\' :: d :: r) = segQuoteGo 0 r := by
  conv => lhs; rw [segQuoteGo.eq_def]
  simp
theorem segQuoteGo_other (c : Char) (r : Str) (h0 : c ≠ '$') (h1 : c ≠ '\\') :
    segQuoteGo 0 (c :: r) = segQuoteGo 0 r := by
  conv => lhs; rw [segQuoteGo.eq_def]
  simp [h0, h1]

theorem segQuoteGo_skip : ∀ (seg : Str) (k : Nat) (rest : Str),
    segQuoteGo (seg.length + k) (seg ++ rest) = (seg.any isQuoting || segQuoteGo k rest)
  | [], k, rest => by simp
  | c :: seg, k, rest => by
    have : (c :: seg).length + k = (seg.length + k) + 1 := by simp; omega
    rw [this, List.cons_append, segQuoteGo_succ, segQuoteGo_skip seg k rest]
    simp [Bool.or_assoc]

/-- at a `$` the text consumed is free of quote characters, and the scan goes on behind it -/
theorem segQuoteGo_dollar_jump (r : Str) (h : segQuoteGo 0 ('$' :: r) = false) :
    (('$' :: r).take (paramLen r)).any isQuoting = false ∧
    segQuoteGo 0 (('$' :: r).drop (paramLen r)) = false := by
  rw [segQuoteGo_dollar] at h
  have h1 := paramLen_pos r
  have h2 := paramLen_le r
  obtain ⟨n, hn⟩ : ∃ n, paramLen r = n + 1 := ⟨paramLen r - 1, by omega⟩
  rw [hn] at h ⊢
  simp only [Nat.add_sub_cancel, List.take_succ_cons, List.drop_succ_cons] at h ⊢
  have hlen : (r.take n).length = n := by simp; omega
  have := segQuoteGo_skip (r.take n) 0 (r.drop n)
  rw [List.take_append_drop, hlen, Nat.add_zero, h] at this
  have := this.symm
  simp only [Bool.or_eq_false_iff] at this
  refine ⟨?_, this.2⟩
  simp only [List.any_cons, this.1, Bool.or_false]
  decide

/-- a parameter node (positions relative to `base`) over a stretch of `string` without quote
    characters and backslashes -/
def PlainParam (string : Str) (base : Nat) (p : Node) : Prop :=
  ∃ a b v, p = .parameter (a + base, b + base) v ∧
    ∀ j c, a ≤ j → j < b → string[j]? = some c → isQuoting c = false

theorem plain_seg (pre suf : Str) (n : Nat) (h : (suf.take n).any isQuoting = false) :
    ∀ j c, pre.length ≤ j → j < pre.length + n → (pre ++ suf)[j]? = some c → isQuoting c = false := by
  intro j c h1 h2 h3
  rw [List.getElem?_append_right h1] at h3
  have h4 : (suf.take n)[j - pre.length]? = some c := by
    rw [List.getElem?_take_of_lt (by omega)]; exact h3
  have hm : c ∈ suf.take n := List.mem_of_getElem? h4
  cases hq : isQuoting c with
  | false => rfl
  | true =>
    have : (suf.take n).any isQuoting = true := List.any_eq_true.mpr ⟨c, hm, hq⟩
    rw [h] at this; cases this

/-- the scan stands at cursor `i` with expanded word `val` and parts `parts`: the cursor is past
    the end (the next iteration raises IndexError), or it stands at the start of a suffix from
    which the pure scan yields the rest of the value; and, when K7′ is absent, the parts so far are
    parameters over plain text -/
def Inv (string : Str) (q : Bool) (i : Nat) (val : Str) (parts : List Node) : Prop :=
  (string.length < i ∨
    ∃ pre suf, string = pre ++ suf ∧ i = pre.length ∧ alphaOK suf = true ∧
      (stripXGo q 0 suf).map (val ++ ·) = stripXGo q 0 string ∧
      (k7x string = false → segQuoteGo 0 suf = false)) ∧
  (k7x string = false → ∀ p ∈ parts, PlainParam string 0 p)

theorem Inv.mk' {string : Str} {q : Bool} {i : Nat} {val : Str} {parts : List Node} (pre suf : Str)
    (h1 : string = pre ++ suf) (h2 : i = pre.length) (h3 : alphaOK suf = true)
    (h4 : (stripXGo q 0 suf).map (val ++ ·) = stripXGo q 0 string)
    (h5 : k7x string = false → segQuoteGo 0 suf = false)
    (h6 : k7x string = false → ∀ p ∈ parts, PlainParam string 0 p) : Inv string q i val parts :=
  ⟨Or.inr ⟨pre, suf, h1, h2, h3, h4, h5⟩, h6⟩

variable {R : Str → Bool → Node → Prop}

/-- one visit of a scan trace keeps the invariant: on these words no head is an opener, and at
    every other head `piece` is what the pure scan `stripXGo` copies -/
theorem visit_param {v : Str} {q : Bool} {i : Nat} {fl : WordFlags} {out : Option Node} {i' : Nat}
    {fl' : WordFlags} (hv : Visit R v q i fl out i' fl') {val : Str} {parts : List Node}
    (hI : Inv v q i val parts) : Inv v q i' (val ++ piece v q i i') (parts ++ out.toList) := by
  obtain ⟨hI, hP⟩ := hI
  have hlt := (Visit.spec hv).1
  rcases hI with hI | ⟨pre, suf, hs, rfl, ha, hval, hk⟩
  · omega
  cases suf with
  | nil => rw [hs] at hlt; simp at hlt
  | cons c rest =>
    have hc : v[pre.length]? = some c := by rw [hs]; exact getElem?_mid pre c rest
    obtain ⟨hsub, hdol, ha'⟩ := alphaOK_cons ha
    have hs' : v = (pre ++ [c]) ++ rest := by rw [hs]; simp
    simp only [isSubChar, Bool.or_eq_false_iff] at hsub
    obtain ⟨⟨⟨s1, s2⟩, s3⟩, s4⟩ := hsub
    have hno : opener v q pre.length fl = none := by
      have hz : v[pre.length + 1]? = rest.head? := by
        rw [hs', List.getElem?_append_right (by simp)]
        cases rest <;> simp
      unfold opener
      simp only [hc, s2, s3, s4, s1, Bool.or_self, Bool.false_eq_true, if_false]
      split
      · rename_i hd
        simp only [Bool.and_eq_true, beq_iff_eq] at hd
        rw [hz]
        simp [(hdol hd.1).1]
      · rfl
    have hP0 : k7x v = false → ∀ p ∈ parts ++ (none : Option Node).toList, PlainParam v 0 p := by
      simpa using hP
    cases hv with
    | procsub ho _ => rw [hno] at ho; cases ho
    | comsub ho _ _ => rw [hno] at ho; cases ho
    | backquote ho _ _ _ _ => rw [hno] at ho; cases ho
    | plain hp =>
      cases plainStep_cases hp with
      | angle hc' ha _ => rw [hc] at hc'; cases hc'; simp only [s2, s3, Bool.or_self] at ha; cases ha
      | tildeOff hc' => rw [hc] at hc'; cases hc'; cases s4
      | tilde hc' _ => rw [hc] at hc'; cases hc'; cases s4
      | bqPair hc' _ => rw [hc] at hc'; cases hc'; cases s1
      | @param hc' r hpp =>
        rw [hc] at hc'; cases hc'
        obtain ⟨hp1, hp2⟩ := hdol rfl
        have hlen : r.2 = pre.length + paramLen rest := paramPlain_len pre rest (hs ▸ hpp)
        have hle := paramLen_le rest
        have hjump := segQuoteGo_dollar_jump rest
        rw [piece_exp hc (by decide), hlen, hs, slice_take]
        refine Inv.mk' (pre ++ ('$' :: rest).take (paramLen rest)) (('$' :: rest).drop (paramLen rest))
          (by rw [List.append_assoc, List.take_append_drop]) (by simp; omega) (alphaOK_drop _ _ ha) ?_
          (fun h7 => (hjump (hk (hs ▸ h7))).2) (fun h7 p hp => ?_)
        · rw [← hs, ← hval, stripXGo_dollar_jump]
          cases stripXGo q 0 (List.drop (paramLen rest) ('$' :: rest)) <;> simp
        · rw [← hs] at h7 ⊢
          rcases List.mem_append.mp hp with hp | hp
          · exact hP h7 p hp
          · obtain ⟨val', rfl⟩ := paramPlain_node hpp p (by simpa using hp)
            refine ⟨pre.length, r.2, val', rfl, fun j c' hj1 hj2 hj3 => ?_⟩
            rw [hs] at hj3
            exact plain_seg pre ('$' :: rest) (paramLen rest) (hjump (hk h7)).1 j c' hj1 (by omega) hj3
      | backslash hc' =>
        rw [hc] at hc'; cases hc'
        rw [piece_bs hc]
        cases rest with
        | nil => exact ⟨Or.inl (by simp [hs]), hP0⟩
        | cons d rest' =>
          refine Inv.mk' (pre ++ ['\\', d]) rest' (by rw [hs]; simp) (by simp)
            (alphaOK_cons ha').2.2 ?_ (fun h7 => by rw [← segQuoteGo_bs_cons d rest']; exact hk h7) hP0
          rw [← hval, stripXGo_bs_cons, hs, slice_next]
          cases stripXGo q 0 rest' <;> simp
      | other hc' h1 h2 h3 h4 =>
        rw [hc] at hc'; cases hc'
        have hb : c ≠ '\\' := by
          rintro rfl
          have := plainStep_backslash (q := q) fl hc
          rw [hp] at this; simp at this
        by_cases h0 : c = '$'
        · -- `$` as the whole word
          subst h0
          have hl : v.length ≤ 1 := by simpa using h3
          have hr : rest = [] := List.eq_nil_of_length_eq_zero (by rw [hs] at hl; simp at hl; omega)
          have hp : pre = [] := List.eq_nil_of_length_eq_zero (by rw [hs] at hl; simp at hl; omega)
          subst hr hp
          rw [piece_exp hc (by decide), C04.slice_one v hc]
          refine Inv.mk' ['$'] [] hs rfl rfl ?_ (fun _ => segQuoteGo_nil 0) hP0
          rw [← hval, stripXGo_dollar, stripXGo_nil, stripXGo_nil]
          simp
        · have hexp : (c == '<' || c == '>' || c == '~' || c == '$' || c == '`') = false := by
            simp [s1, s2, s3, s4, h0]
          have hk' : k7x v = false → segQuoteGo 0 rest = false :=
            fun h7 => by rw [← segQuoteGo_other c rest h0 hb]; exact hk h7
          have fin : ∀ o : Str, (stripXGo q 0 rest).map ((val ++ o) ++ ·) = stripXGo q 0 v →
              Inv v q (pre.length + 1) (val ++ o) (parts ++ (none : Option Node).toList) :=
            fun o h => Inv.mk' (pre ++ [c]) rest hs' (by simp) ha' h hk' hP0
          by_cases h2' : c = '"'
          · subst h2'
            rw [piece_dq hc]
            exact fin [] (by rw [← hval, stripXGo_dq]; simp)
          · by_cases h3' : c = '\''
            · subst h3'
              rw [piece_sq hc]
              refine fin _ ?_
              rw [← hval, stripXGo_sq]
              cases q <;> simp
              cases stripXGo true 0 rest <;> simp
            · rw [piece_ch hc hexp hb h2' h3']
              refine fin _ ?_
              rw [← hval, stripXGo_plain q c rest h0 hb h2' h3']
              cases stripXGo q 0 rest <;> simp

theorem reach_param {v : Str} {q : Bool} (ha : alphaOK v = true) {fl0 : WordFlags} {i : Nat}
    {fl : WordFlags} {tr : List (Nat × Option Node)} (h : Reach R v q fl0 i fl tr) :
    Inv v q i (valOf v q tr i) (partsOf tr) := by
  induction h with
  | start =>
    refine Inv.mk' [] v rfl rfl ha ?_ (fun h => h) (fun _ p hp => nomatch hp)
    show (stripXGo q 0 v).map ([] ++ ·) = _
    cases stripXGo q 0 v <;> simp
  | @step i fl tr out i' fl' _ hv ih =>
    rw [valOf_snoc, partsOf_snoc]
    exact visit_param hv ih

theorem plainParam_shift {string : Str} {p : Node} (k : Nat) (h : PlainParam string 0 p) :
    PlainParam string k (p.shift k) := by
  obtain ⟨a, b, v, rfl, hab⟩ := h
  exact ⟨a, b, v, by simp [Node.shift, Node.mapPos], hab⟩

/-- what `WordSpecV` says of a word with parameters (but without nested parses and tildes): the
    value is the pure scan `stripX`; without K7′ the parts are parameter nodes over text free of
    quote characters -/
theorem wordSpecV_param {v : Str} {q : Bool} {fl0 : WordFlags} {k kend : Nat} {r : List Node × Str}
    (ha : alphaOK v = true) (h : WordSpecV R v q fl0 k kend r) :
    stripX v q = some r.2 ∧ (k7x v = false → ∀ p ∈ r.1, PlainParam v k p) := by
  obtain ⟨parts, hsc, _, hr⟩ := h
  rw [hr]
  rcases hsc with ⟨hw, rfl, hval⟩ | ⟨fl, tr, hreach, rfl, hval⟩
  · exact ⟨by simp [stripX, hw, hval], fun _ p hp => nomatch hp⟩
  · have hw : wholeSQ v = false := by
      -- a wholly single-quoted word leaves the loop at its first head: no trace reaches its end
      cases hw : wholeSQ v with
      | false => rfl
      | true =>
        obtain ⟨_, h0, _⟩ := hreach.of_no_first (fun _ _ _ => wholeSQ_no_visit hw)
        rw [List.eq_nil_of_length_eq_zero h0] at hw
        exact absurd hw (by decide)
    obtain ⟨hI, hP⟩ := reach_param ha hreach
    rcases hI with hI | ⟨pre, suf, hs, hi, _, hval', _⟩
    · exact absurd hI (Nat.lt_irrefl _)
    · have : suf = [] := by
        have := congrArg List.length hs
        simp only [List.length_append] at this
        exact List.eq_nil_of_length_eq_zero (by omega)
      subst this
      refine ⟨?_, fun h7 p hp => ?_⟩
      · simp only [stripX, hw, Bool.false_eq_true, if_false]
        rw [← hval', stripXGo_nil, hval]; simp
      · obtain ⟨p0, hp0, rfl⟩ := List.mem_map.mp hp
        exact plainParam_shift _ (hP h7 p0 hp0)

/-- **Part 4, model side**: the value `_expandwordinternal` returns for a word with parameters
    (but without nested parses and tildes) is the pure scan `stripX`; without K7′ the parts are
    parameter nodes over text free of quote characters -/
theorem sat_expandwordinternal_param (np : NestedParse) (tok : Token) (q : Bool)
    (ha : alphaOK tok.valueStr = true) :
    Sat (expandwordinternal np tok q) (fun r => stripX tok.valueStr q = some r.2 ∧
      (k7x tok.valueStr = false → ∀ p ∈ r.1, PlainParam tok.valueStr tok.lexpos p)) :=
  (sat_of_keeps (k_expandwordinternalV (npspec_true np).npk tok q)).weaken
    (fun _ h => wordSpecV_param ha h) (fun _ h => h)

theorem stripXGo_eq_stripGo (q : Bool) : ∀ (t : Str) (k : Nat), segQuoteGo k t = false →
    stripXGo q k t = stripGo q t
  | [], k, _ => by rw [stripXGo_nil, stripGo_nil]
  | c :: rest, k + 1, h => by
    rw [segQuoteGo.eq_def] at h
    simp only [Bool.or_eq_false_iff] at h
    obtain ⟨hc, hr⟩ := h
    simp only [isQuoting, Bool.or_eq_false_iff, beq_eq_false_iff_ne, ne_eq] at hc
    rw [stripXGo_succ, stripGo_plain q c rest hc.1.1 hc.2 hc.1.2, stripXGo_eq_stripGo q rest k hr]
  | [c], 0, h => by
    by_cases h0 : c = '$'
    · subst h0
      rw [stripXGo_dollar, stripXGo_nil, stripGo_plain q '$' [] (by decide) (by decide) (by decide),
        stripGo_nil]
    · by_cases h1 : c = '\\'
      · subst h1; rw [stripXGo_bs_nil, stripGo_bs_nil]
      · by_cases h2 : c = '"'
        · subst h2; rw [stripXGo_dq, stripGo_dq, stripXGo_nil, stripGo_nil]
        · by_cases h3 : c = '\''
          · subst h3; rw [stripXGo_sq, stripGo_sq, stripXGo_nil, stripGo_nil]
          · rw [stripXGo_plain q c [] h0 h1 h2 h3, stripGo_plain q c [] h1 h2 h3, stripXGo_nil,
              stripGo_nil]
  | c :: d :: rest, 0, h => by
    have ih1 := stripXGo_eq_stripGo q (d :: rest)
    have ih2 := stripXGo_eq_stripGo q rest
    rw [segQuoteGo.eq_def] at h
    by_cases h0 : c = '$'
    · subst h0
      simp at h
      rw [stripXGo_dollar, stripGo_plain q '$' _ (by decide) (by decide) (by decide), ih1 _ h]
    · by_cases h1 : c = '\\'
      · subst h1
        simp at h
        rw [stripXGo_bs_cons, stripGo_bs_cons, ih2 0 h]
      · simp [h0, h1] at h
        by_cases h2 : c = '"'
        · subst h2; rw [stripXGo_dq, stripGo_dq, ih1 0 h]
        · by_cases h3 : c = '\''
          · subst h3; rw [stripXGo_sq, stripGo_sq, ih1 0 h]
          · rw [stripXGo_plain q c _ h0 h1 h2 h3, stripGo_plain q c _ h1 h2 h3, ih1 0 h]

theorem stripX_eq_stripPure (t : Str) (q : Bool) (h : k7x t = false) :
    stripX t q = stripPure t q := by
  unfold stripX stripPure
  split
  · rfl
  · exact stripXGo_eq_stripGo q t 0 h


/-- positions marked verbatim that carry no quote character or backslash do not matter -/
theorem quoteRemoveGo_verbatim (vb : Nat → Bool) : ∀ (fuel : Nat) (st : QState) (i : Nat) (suf : Str),
    (st = 0 ∨ st = 1 ∨ st = 2) →
    (∀ j c, vb (i + j) = true → suf[j]? = some c → isQuoting c = false) →
    quoteRemoveGo vb fuel st i suf = quoteRemoveGo V0 fuel st i suf := by
  intro fuel
  induction fuel with
  | zero => intros; simp [quoteRemoveGo]
  | succ fuel ih =>
    intro st i suf hst h
    cases suf with
    | nil => simp [quoteRemoveGo]
    | cons c rest =>
      have hrest : ∀ j c', vb (i + 1 + j) = true → rest[j]? = some c' → isQuoting c' = false :=
        fun j c' h1 h2 => h (j + 1) c' (by rw [← h1]; congr 1; omega) (by simpa using h2)
      have ih1 := fun st hst => ih st (i + 1) rest hst hrest
      have ih2 : ∀ st d rest', rest = d :: rest' → (st = 0 ∨ st = 1 ∨ st = 2) →
          quoteRemoveGo vb fuel st (i + 2) rest' = quoteRemoveGo V0 fuel st (i + 2) rest' := by
        intro st d rest' hr hst
        refine ih st (i + 2) rest' hst (fun j c' h1 h2 => h (j + 2) c' (by rw [← h1]; congr 1; omega) ?_)
        rw [hr]; simpa using h2
      by_cases hv : vb i = true
      · have hc := h 0 c (by simpa using hv) (by simp)
        simp only [isQuoting, Bool.or_eq_false_iff, beq_eq_false_iff_ne, ne_eq] at hc
        obtain ⟨⟨c1, c2⟩, c3⟩ := hc
        rcases hst with rfl | rfl | rfl
        · simp [quoteRemoveGo, hv, c1, c2, c3, ih1 0 (Or.inl rfl)]
        · simp [quoteRemoveGo, hv, c1, c2, c3, ih1 1 (Or.inr (Or.inl rfl))]
        · simp [quoteRemoveGo, hv, c1, c2, c3, ih1 2 (Or.inr (Or.inr rfl))]
      · have hv' : vb i = false := by simpa using hv
        rcases hst with rfl | rfl | rfl
        · cases rest with
          | nil => simp [quoteRemoveGo, hv', ih1 0 (Or.inl rfl), ih1 1 (Or.inr (Or.inl rfl)), ih1 2 (Or.inr (Or.inr rfl))]
          | cons d rest' =>
            simp [quoteRemoveGo, hv', ih1 0 (Or.inl rfl), ih1 1 (Or.inr (Or.inl rfl)), ih1 2 (Or.inr (Or.inr rfl)), ih2 0 d rest' rfl (Or.inl rfl)]
        · simp [quoteRemoveGo, hv', ih1 0 (Or.inl rfl), ih1 1 (Or.inr (Or.inl rfl))]
        · cases rest with
          | nil => simp [quoteRemoveGo, hv', ih1 0 (Or.inl rfl), ih1 2 (Or.inr (Or.inr rfl))]
          | cons d rest' =>
            simp [quoteRemoveGo, hv', ih1 0 (Or.inl rfl), ih1 2 (Or.inr (Or.inr rfl)), ih2 2 d rest' rfl (Or.inr (Or.inr rfl))]


theorem quoteRemove_verbatim (vb : Nat → Bool) (t : Str)
    (h : ∀ j c, vb j = true → t[j]? = some c → isQuoting c = false) :
    quoteRemove vb t = quoteRemove (fun _ => false) t := by
  unfold quoteRemove
  exact quoteRemoveGo_verbatim vb _ 0 0 t (Or.inl rfl) (fun j c h1 h2 => h j c (by simpa using h1) h2)

/-- the verbatim positions computed from parameter parts over plain text are irrelevant -/
theorem verbatimOf_plain (t : Str) (base : Nat) (src : Str) (parts : List Node)
    (h : ∀ p ∈ parts, PlainParam t base p) :
    ∀ j c, verbatimOf base src parts j = true → t[j]? = some c → isQuoting c = false := by
  intro j c hv hc
  unfold verbatimOf at hv
  obtain ⟨p, hp, hpv⟩ := List.any_eq_true.mp hv
  obtain ⟨a, b, v, rfl, hab⟩ := h p hp
  simp only [Node.pos, Bool.and_eq_true, decide_eq_true_eq] at hpv
  obtain ⟨⟨_, h1⟩, h2⟩ := hpv
  have h1' := of_decide_eq_true h1
  have h2' := of_decide_eq_true h2
  exact hab j c (by omega) (by omega) hc

/-- with a QUOTED flag that fits the value, `qdoublequotes` is "the value starts with `"`" -/
theorem qOf_eq {tok : Token} (hq : QuotedOK tok) : qOf tok = (tok.valueStr.head? == some '"') := by
  unfold qOf
  cases hf : tok.flags.contains .QUOTED
  · cases hh : (tok.valueStr.head? == some '"')
    · rfl
    · rw [hq.1 (by simpa using hh)] at hf; cases hf
  · rfl

/-- all hypotheses on the source text of a word with parameters -/
def ParamOK (t : Str) : Bool :=
  alphaOK t && Balanced t && noK (quoteFeatures t) && !k8 t && !k9 t && !k7x t

/-- **C06_param**: `parser._expandword` on a token whose value may contain `$name`, `$1`, `$?`,
    `${…}` (no nested parses, no tilde): the word node's value is the quote-removed source —
    with nothing verbatim, and equally with the verbatim positions the executable specification
    derives from the node's own parts, over any source `src`.  (Second disjunct: expansion
    limit -1, the node carries the raw token value.) -/
theorem C06_param (np : NestedParse) (tok : Token) (h : ParamOK tok.valueStr = true)
    (hq : QuotedOK tok) :
    Sat (expandword np tok) (fun n => ∃ v parts, n = .word (tok.lexpos, tok.endlexpos) v parts ∧
      ((v = quoteRemove (fun _ => false) tok.valueStr ∧
        ∀ src, v = quoteRemove (verbatimOf tok.lexpos src parts) tok.valueStr) ∨
       (v = tok.valueStr ∧ parts = []))) := by
  simp only [ParamOK, Bool.and_eq_true, Bool.not_eq_true'] at h
  obtain ⟨⟨⟨⟨⟨ha, hb⟩, hk⟩, h8⟩, h9⟩, h7⟩ := h
  refine (sat_of_keeps (k_expandwordV (npspec_true np).npk tok)).weaken ?_ (fun _ h => h)
  rintro n (rfl | ⟨r, hr, hn⟩)
  · exact ⟨_, _, rfl, Or.inr ⟨rfl, rfl⟩⟩
  · rw [qOf_eq hq] at hr
    obtain ⟨hv, hparts⟩ := wordSpecV_param ha hr
    have hval : r.2 = quoteRemove (fun _ => false) tok.valueStr := by
      rw [stripX_eq_stripPure _ _ h7, C06_plain _ hb hk h8 h9] at hv
      exact (Option.some.inj hv).symm
    have fin : ∀ parts : List Node, (∀ p ∈ parts, p ∈ r.1) →
        ∀ src, r.2 = quoteRemove (verbatimOf tok.lexpos src parts) tok.valueStr := by
      intro parts hsub src
      rw [hval]
      exact (quoteRemove_verbatim _ _
        (verbatimOf_plain tok.valueStr tok.lexpos src parts (fun p hp => hparts h7 p (hsub p hp)))).symm
    rcases hn with rfl | rfl
    · exact ⟨_, _, rfl, Or.inl ⟨hval, fin _ (fun _ h => h)⟩⟩
    · exact ⟨_, _, rfl, Or.inl ⟨hval, fin _ (fun _ h => (List.mem_filter.mp h).1)⟩⟩

end Bashlex.C06
