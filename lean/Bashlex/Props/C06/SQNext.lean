/-
  C06 for `split`, quoted inputs: `token()` on a chunk.
-/
import Bashlex.Props.C06.SQLoop

namespace Bashlex.C06S
open Bashlex Bashlex.M Bashlex.C10 Bashlex.C14
set_option linter.unusedSimpArgs false

/-- the first character of a chunk -/
theorem items_head {x : Char} {r : Str} {q : Bool} (h : Items (x :: r) q) :
    (synClass x).metac = false ∧ x ≠ '#' ∧ x ≠ '\n' ∧ shellblank x = false := by
  cases h with
  | plain _ _ _ hp _ =>
    obtain ⟨f1, f2, f3, f4, f5, f6, f7, f8, f9, f10, f11, _⟩ := plainCh_facts hp
    exact ⟨(plain_syn hp).2.2.2, f11, f3, by simp [shellblank, f1, f2]⟩
  | esc => decide
  | sq => decide
  | dq => decide

theorem run_rest_chunk (l : Local) (hinv : Inv [] l) (x b : Char) (t' rest : Str) (q : Bool)
    (ht : Items (x :: t') q) (hb : endCh b = true) (e : Env) (p : Nat) (hidx : e.tape.idx = p + 1)
    (hd : e.tape.line.drop e.tape.idx = t' ++ b :: rest)
    (hlen : e.tape.line.length + 2 ≤ 1073741824) :
    ∃ tok l' e', M.run (readtokenRest (some x)) l e = (.ok (.inr tok, l'), e') ∧ Inv [] l' ∧
      e'.tape = { e.tape with idx := p + (x :: t').length } ∧
      TokOK p (p + (x :: t').length) (x :: t') q tok := by
  obtain ⟨q4, f11, f3, _⟩ := items_head ht
  have hle : e.tape.idx ≤ e.tape.line.length := by
    have := drop_len hd; omega
  have hwl := drop_len hd
  unfold readtokenRest
  simp only [pure_bind, beq_iff_eq, f11, f3, if_false, bind_assoc]
  rw [M.run_bind, run_recordpos]
  simp only [tapeOf_none hinv.tape, hinv.pos, List.nil_append]
  rw [M.run_bind, C10.run_get]
  simp only [hinv.regexp, Bool.false_eq_true, if_false]
  rw [M.run_bind, run_shellmeta]
  simp only [q4, Bool.false_and, Bool.false_eq_true, if_false]
  rw [M.run_bind, C10.run_get]
  simp only [hinv.last.1, hinv.last.2, Bool.or_false, Bool.and_false, Bool.false_eq_true, if_false]
  rw [M.run_bind, C10.run_get]
  simp only [hinv.last.1, hinv.last.2, Bool.or_false, Bool.and_false, Bool.false_eq_true, if_false]
  have hinv1 : Inv [e.tape.idx - 1] { l with positions := [e.tape.idx - 1] } := hinv.setPos _
  obtain ⟨st', e2, hr2, he2, hst⟩ := run_items_loop [e.tape.idx - 1] _ hinv1 b rest hb (x :: t') q ht
    { c := some x, allDigit := isDigit x } x (t' ++ b :: rest) 1073741824 (touch e x) p rfl rfl rfl
    (by simpa using hd) (by simpa using hidx) (by simpa using hle) (by simpa using hlen)
    (by simp only [List.length_cons] at hwl ⊢; omega)
  unfold readtokenword loopFuel
  simp only [pure_bind]
  rw [M.run_bind, M.run_bind, show M.loop "_readtokenword" readtokenwordStep = wloop from rfl, hr2]
  simp only []
  have hidx2 : e2.tape.idx = p + (x :: t').length := by rw [he2]
  have hp1 : e.tape.idx - 1 = p := by omega
  obtain ⟨tok, l', hr3, hinv3, htok⟩ := run_finishWord st' (e.tape.idx - 1) (p + (x :: t').length) _ e2
    hinv1 hidx2 (by simp; omega) (by rw [hst.tw]; simp) hst.ca hst.dp
    (by rw [hst.c]; intro h; injection h with h; subst h; revert hb; decide)
    (by rw [hst.c]; intro h; injection h with h; subst h; revert hb; decide) q (by rw [hst.qd]; simp)
  rw [hr3]
  refine ⟨tok, l', e2, rfl, hinv3, ?_, ?_⟩
  · rw [he2]; simp
  · have : st'.tokenword = x :: t' := by rw [hst.tw]; simp
    rw [this, hp1] at htok; exact htok

/-- `token()` on a chunk after blanks: a token over exactly the chunk, `QUOTED` iff it holds a
    quoting character -/
theorem run_nextToken_chunk (l : Local) (hinv : InvT l) (x b : Char) (bs t' rest : Str) (q : Bool)
    (hbs : ∀ y ∈ bs, shellblank y = true) (ht : Items (x :: t') q) (hb : endCh b = true) (e : Env)
    (hd : e.tape.line.drop e.tape.idx = bs ++ x :: (t' ++ b :: rest))
    (hlen : e.tape.line.length + 2 ≤ 1073741824) :
    ∃ tok l' e', M.run nextToken l e = (.ok (tok, l'), e') ∧ InvT l' ∧
      e'.tape = { e.tape with idx := e.tape.idx + bs.length + (x :: t').length } ∧
      TokOK (e.tape.idx + bs.length) (e.tape.idx + bs.length + (x :: t').length) (x :: t') q tok := by
  obtain ⟨_, _, _, hxb⟩ := items_head ht
  have hd2 : (envAt e (e.tape.idx + bs.length + 1)).tape.line.drop
      (envAt e (e.tape.idx + bs.length + 1)).tape.idx = t' ++ b :: rest := by
    show e.tape.line.drop (e.tape.idx + bs.length + 1) = _
    rw [Nat.add_assoc, ← List.drop_drop, hd]
    simp
  obtain ⟨tok, l1, e1, hr1, hinv1, he1, htok⟩ := run_rest_chunk (histStep l) hinv.hist x b t' rest q ht hb
    (envAt e (e.tape.idx + bs.length + 1)) (e.tape.idx + bs.length) rfl hd2
    (by simpa [envAt] using hlen)
  rw [nextToken_eq, M.run_bind, C10.run_modify]
  simp only []
  rw [M.run_bind,
    run_readtoken_skip (histStep l) hinv.hist.tape hinv.hist.eol x _ bs hxb
      (items_next ht hb rfl) e hbs hd hlen, hr1]
  simp only [M.run_pure, M.run_bind, C10.run_modify]
  refine ⟨tok, _, e1, rfl, ⟨hinv1.tape, hinv1.eol, hinv1.dstack, hinv1.pos, hinv1.rs, hinv1.regexp,
    hinv1.dblparen, htok.la⟩, ?_, ?_⟩
  · rw [he1]; simp [envAt]
  · exact htok

/-- `token()` on a plain word after blanks: a token over exactly the word -/
theorem run_nextToken_word (l : Local) (hinv : InvT l) (c b : Char) (bs w rest : Str)
    (hbs : ∀ x ∈ bs, shellblank x = true) (hp : plainCh c = true)
    (hw : ∀ x ∈ w, plainCh x = true) (hb : endCh b = true) (e : Env)
    (hd : e.tape.line.drop e.tape.idx = bs ++ c :: (w ++ b :: rest))
    (hlen : e.tape.line.length + 2 ≤ 1073741824) :
    ∃ tok l' e', M.run nextToken l e = (.ok (tok, l'), e') ∧ InvT l' ∧
      e'.tape = { e.tape with idx := e.tape.idx + bs.length + 1 + w.length } ∧
      TokOK (e.tape.idx + bs.length) (e.tape.idx + bs.length + 1 + w.length) (c :: w) false tok := by
  have := run_nextToken_chunk l hinv c b bs w rest false hbs
    (.plain c w false hp (items_plainW w hw)) hb e hd hlen
  simpa [Nat.add_assoc, Nat.add_comm 1] using this

end Bashlex.C06S
