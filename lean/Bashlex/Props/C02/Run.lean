/-
  C02 (round trip): single steps of the LR engine over the REAL tables (`R_reduce`, `R_shift`,
  `R_fetch`), spellings and nodes of word items, the invariant `POK`, and the run on a blank line.
-/
import Bashlex.Props.C02.Engine
import Bashlex.Props.C02.Actions

namespace Bashlex.C02
open Bashlex Bashlex.M Bashlex.LR
set_option linter.unusedSimpArgs false

/-! ## the step rules, specialised to the real tables and hooks -/

section
variable {np : NestedParse} {l : Local} {Tp : Tape} {P : Cfg SVal ⊕ Res SVal → Local → Tape → Prop}

theorem R_reduce {s : Nat} {tr : Tree} {v : SVal} {rest : Stack SVal} {la : Nat × SVal}
    {p lhs : Nat} {rhs : List Nat} {es : List (Entry SVal)} {rest' : Stack SVal} {t : Nat}
    {f : String} {nl : Nat} {cons : List Nat}
    (hd : Tab.T.dflt s = none) (hs : (s == 0) = false)
    (ha : Tab.T.action s la.1 = some (.reduce p))
    (hp : Tab.T.prods[p]? = some (lhs, rhs))
    (hpop : popN rhs.length (⟨s, tr, v⟩ :: rest) = some (es, rest'))
    (hg : Tab.T.goto (topState rest') lhs = some t) (hf : Gen.prodFuncs.getD p "" = f)
    (h : Tot (action np f (es.map (·.val))) l Tp (fun r l' T' =>
      if r.2 = true then
        P (.inr (.accepted r.1 (Tree.node p lhs (es.map (·.tree))) cons false)) l' T'
      else P (.inl { stack := ⟨t, Tree.node p lhs (es.map (·.tree)), r.1⟩ :: rest', la := some la,
                     nlShifted := nl, consumed := cons }) l' T')) :
    Tot (step Tab.T (lrHooks np)
      { stack := ⟨s, tr, v⟩ :: rest, la := some la, nlShifted := nl, consumed := cons }) l Tp P := by
  rw [step_reduce (c := { stack := ⟨s, tr, v⟩ :: rest, la := some la, nlShifted := nl, consumed := cons })
    (la := la) hd rfl hs ha]
  refine tot_doReduce hp hpop hg ?_
  show Tot (action np (Gen.prodFuncs.getD p "") _) _ _ _
  rw [hf]
  exact h

theorem R_dflt {s : Nat} {tr : Tree} {v : SVal} {rest : Stack SVal} {la : Option (Nat × SVal)}
    {p lhs : Nat} {rhs : List Nat} {es : List (Entry SVal)} {rest' : Stack SVal} {t : Nat}
    {f : String} {nl : Nat} {cons : List Nat}
    (hd : Tab.T.dflt s = some p)
    (hp : Tab.T.prods[p]? = some (lhs, rhs))
    (hpop : popN rhs.length (⟨s, tr, v⟩ :: rest) = some (es, rest'))
    (hg : Tab.T.goto (topState rest') lhs = some t) (hf : Gen.prodFuncs.getD p "" = f)
    (h : Tot (action np f (es.map (·.val))) l Tp (fun r l' T' =>
      if r.2 = true then
        P (.inr (.accepted r.1 (Tree.node p lhs (es.map (·.tree))) cons false)) l' T'
      else P (.inl { stack := ⟨t, Tree.node p lhs (es.map (·.tree)), r.1⟩ :: rest', la := la,
                     nlShifted := nl, consumed := cons }) l' T')) :
    Tot (step Tab.T (lrHooks np)
      { stack := ⟨s, tr, v⟩ :: rest, la := la, nlShifted := nl, consumed := cons }) l Tp P := by
  rw [step_dflt (c := { stack := ⟨s, tr, v⟩ :: rest, la := la, nlShifted := nl, consumed := cons })
    (p := p) hd]
  refine tot_doReduce hp hpop hg ?_
  show Tot (action np (Gen.prodFuncs.getD p "") _) _ _ _
  rw [hf]
  exact h

theorem R_shift {s : Nat} {tr : Tree} {v : SVal} {rest : Stack SVal} {la : Nat × SVal}
    {t : Nat} {nl : Nat} {cons : List Nat}
    (hd : Tab.T.dflt s = none) (hs : (s == 0) = false)
    (ha : Tab.T.action s la.1 = some (.shift t))
    (h : P (.inl { stack := ⟨t, .leaf la.1, la.2⟩ :: ⟨s, tr, v⟩ :: rest, la := none,
                   nlShifted := nl, consumed := cons ++ [la.1] }) l Tp) :
    Tot (step Tab.T (lrHooks np)
      { stack := ⟨s, tr, v⟩ :: rest, la := some la, nlShifted := nl, consumed := cons }) l Tp P := by
  rw [step_shift (c := { stack := ⟨s, tr, v⟩ :: rest, la := some la, nlShifted := nl, consumed := cons })
    (la := la) hd rfl hs ha]
  exact Tot.pure h

theorem R_fetch' {st : Stack SVal} {nl : Nat} {cons : List Nat}
    (hd : Tab.T.dflt (topState st) = none)
    (h : Tot nextToken l Tp (fun t l' T' => Tot (step Tab.T (lrHooks np)
      { stack := st, la := some (symOfTok t, .tok t), nlShifted := nl, consumed := cons }) l' T' P)) :
    Tot (step Tab.T (lrHooks np)
      { stack := st, la := none, nlShifted := nl, consumed := cons }) l Tp P := by
  rw [step_fetch (c := { stack := st, la := none, nlShifted := nl, consumed := cons }) hd rfl]
  show Tot ((do let t ← nextToken; pure (symOfTok t, SVal.tok t)) >>= _) _ _ _
  rw [bind_assoc]
  refine Tot.bind (h.mono ?_)
  intro t l' T' ht
  rw [pure_bind]
  exact ht

theorem R_fetch {s : Nat} {tr : Tree} {v : SVal} {rest : Stack SVal} {nl : Nat} {cons : List Nat}
    (hd : Tab.T.dflt s = none)
    (h : Tot nextToken l Tp (fun t l' T' => Tot (step Tab.T (lrHooks np)
      { stack := ⟨s, tr, v⟩ :: rest, la := some (symOfTok t, .tok t), nlShifted := nl,
        consumed := cons }) l' T' P)) :
    Tot (step Tab.T (lrHooks np)
      { stack := ⟨s, tr, v⟩ :: rest, la := none, nlShifted := nl, consumed := cons }) l Tp P :=
  R_fetch' (st := ⟨s, tr, v⟩ :: rest) hd h

theorem R_fetch0 {nl : Nat} {cons : List Nat}
    (h : Tot nextToken l Tp (fun t l' T' => Tot (step Tab.T (lrHooks np)
      { stack := [], la := some (symOfTok t, .tok t), nlShifted := nl, consumed := cons }) l' T' P)) :
    Tot (step Tab.T (lrHooks np)
      { stack := [], la := none, nlShifted := nl, consumed := cons }) l Tp P :=
  R_fetch' (st := []) Tab.d0 h

/-- state 0, a WORD in hand: shift -/
theorem R_shift0 {v : SVal} {nl : Nat} {cons : List Nat}
    (h : P (.inl { stack := [⟨29, .leaf 24, v⟩], la := none, nlShifted := nl,
                   consumed := cons ++ [24] }) l Tp) :
    Tot (step Tab.T (lrHooks np)
      { stack := [], la := some (24, v), nlShifted := nl, consumed := cons }) l Tp P := by
  rw [step_shift0 (c := { stack := [], la := some (24, v), nlShifted := nl, consumed := cons })
    (la := (24, v)) rfl Tab.d0 rfl (show ((24 : Nat) == Tab.T.endTok) = false by decide)
    (show ((24 : Nat) == Tab.T.nlTok) = false by decide) Tab.a0w]
  exact Tot.pure h

end

/-- the engine accepted with the node `N` as value -/
def ResIs (N : Node) (r : Res SVal) : Prop :=
  match r with
  | .accepted (.node n) _ _ _ => n = N
  | _ => False

abbrev engineLoop (np : NestedParse) (fuel : Nat) (c : Cfg SVal) : M (Res SVal) :=
  M.loop "LRParser.parse" (step Tab.T (lrHooks np)) fuel c

/-! ## the line: items = (gap, word) pairs -/

def spellI : List (Str × Str) → Str
  | [] => []
  | (g, w) :: r => g ++ w ++ spellI r

/-- the word nodes of the items spelled from offset `off` -/
def nodesI (off : Nat) : List (Str × Str) → List Node
  | [] => []
  | (g, w) :: r =>
    .word (off + g.length, off + g.length + w.length) w [] :: nodesI (off + g.length + w.length) r

/-- where the last word ends -/
def endI (off : Nat) : List (Str × Str) → Nat
  | [] => off
  | (g, w) :: r => endI (off + g.length + w.length) r

def Blank (g : Str) : Prop := ∀ y ∈ g, shellblank y = true

instance (g : Str) : Decidable (Blank g) := by unfold Blank; exact inferInstance

/-- every gap is a non-empty run of blanks/tabs, every word is plain -/
def ItemsOK (items : List (Str × Str)) : Prop :=
  ∀ it ∈ items, (it.1 ≠ [] ∧ Blank it.1) ∧ PlainWord it.2

instance (items : List (Str × Str)) : Decidable (ItemsOK items) := by
  unfold ItemsOK; exact inferInstance

theorem WOK.afterTok {l : Local} (h : WOK l) (t : Token) : WOK (afterTok l t) :=
  ⟨h.tape, h.eol, h.pos, h.regexp, h.esacs, h.brc, h.redir⟩

theorem WOK.afterNL {l : Local} (h : WOK l) (t : Token) : WOK (afterNL l t) :=
  ⟨h.tape, h.eol, h.pos, h.regexp, h.esacs, h.brc, h.redir⟩

theorem symOfTok_nl (a : Nat) : symOfTok (nlTok a) = 55 := Tab.symNL
theorem symOfTok_word (a k : Nat) (w : Str) : symOfTok (wordTok a k w) = 24 := Tab.symWORD

theorem blank_endChar {y : Char} (h : shellblank y = true) : endChar y = true := by
  simp only [shellblank, Bool.or_eq_true, beq_iff_eq] at h
  rcases h with rfl | rfl <;> decide

/-- after a plain word, in a plain history, no reserved word is acceptable -/
theorem racc_word {l : Local} {a k : Nat} {w : Str} (hw : PlainWord w)
    (hh : histOK l.tokenBeforeThat = true) : reservedWordAcceptable l (wordTok a k w) = false := by
  obtain ⟨_, _, _, _, _, _, b7, _, _⟩ := histOK_is hh
  obtain ⟨hne, hp⟩ := hw
  match w, hp with
  | [], _ => simp [reservedWordAcceptable, wordTok, Token.truthy, b7, reservedTypes]
  | [ch], hp =>
    have hc : plainChar ch = true := hp ch (List.mem_cons_self ..)
    have hrc : reservedChars.contains ch = false := by
      simp only [reservedChars, List.contains_cons, List.contains_nil, Bool.or_false,
        plain_ne (by decide : plainChar '\n' = false) hc, plain_ne (by decide : plainChar ';' = false) hc,
        plain_ne (by decide : plainChar '(' = false) hc, plain_ne (by decide : plainChar ')' = false) hc,
        plain_ne (by decide : plainChar '|' = false) hc, plain_ne (by decide : plainChar '&' = false) hc,
        plain_ne (by decide : plainChar '{' = false) hc, plain_ne (by decide : plainChar '}' = false) hc,
        Bool.or_self]
    have hrc' : ¬ ch ∈ reservedChars := by
      intro hm
      have := List.contains_iff_mem.mpr hm
      rw [hrc] at this; cases this
    simp [reservedWordAcceptable, wordTok, Token.truthy, b7, reservedTypes, hrc']
  | _ :: _ :: _, _ => simp [reservedWordAcceptable, wordTok, Token.truthy, b7, reservedTypes]

/-- parser-object invariant between the tokens of a plain line -/
structure POK (l : Local) : Prop where
  wok : WOK l
  cs : l.ps.cmdsubst = false
  hist : histOK l.lastReadToken = true
  dp : l.ps.dblparen = false
  ps : PSOK l

theorem head_append_ne {α : Type} {xs ys : List α} {x : α} (h : xs.head? = some x) :
    (xs ++ ys).head? = some x := by
  cases xs with
  | nil => cases h
  | cons a t => exact h

theorem POK.afterTok {l : Local} (h : POK l) (hc : histOK l.currentToken = true) (t : Token) :
    POK (afterTok l t) :=
  ⟨h.wok.afterTok t, h.cs, hc, h.dp, ⟨h.ps.cp, h.ps.rl, h.ps.ca⟩⟩

theorem symOfTok_eof : symOfTok eofTok = 0 := by decide

/-- **a line of blanks only**: NEWLINE is counted in state 0, then `$end` gives the all-newline
    return (`_parser.parse()` returns None) -/
theorem run_blank {np : NestedParse} {L : Str} {adn : Bool} {tail : Str}
    {P : Res SVal → Local → Tape → Prop} {l : Local} {i fuel : Nat}
    (htail : Blank tail) (hlen : L.length + 2 ≤ 1073741824) (hl : WOK l)
    (hL : L.drop i = tail ++ ['\n']) (hf : 2 ≤ fuel)
    (h : ∀ a b l' T', P (.blank a b) l' T') :
    Tot (engineLoop np fuel {}) l ⟨L, i, adn⟩ P := by
  obtain ⟨f, rfl⟩ : ∃ f, fuel = f + 2 := ⟨fuel - 2, by omega⟩
  refine Tot.loop_step ?_
  refine R_fetch0 ?_
  refine tot_nextToken_nl hl htail hL hlen ?_
  rw [symOfTok_nl]
  rw [step_nl0 (c := { stack := [], la := some (55, _), nlShifted := 0, consumed := [] })
    (la := (55, _)) rfl Tab.d0 rfl (show ((55 : Nat) == Tab.T.endTok) = false by decide)
    (show ((55 : Nat) == Tab.T.nlTok) = true by decide) Tab.a0n]
  refine Tot.pure ?_
  refine Tot.loop_step ?_
  refine R_fetch0 ?_
  have hend : L.length ≤ i + tail.length + 1 := by
    have := congrArg List.length hL
    simp at this
    omega
  refine tot_nextToken_eof (hl.afterNL _) hend ?_
  rw [symOfTok_eof]
  rw [step_blank0 (c := { stack := [], la := some (0, _), nlShifted := 0 + 1, consumed := [] ++ [55] })
    (la := (0, _)) rfl Tab.d0 rfl (show ((0 : Nat) == Tab.T.endTok) = true by decide)]
  exact Tot.pure (h _ _ _ _)

end Bashlex.C02
