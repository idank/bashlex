/-
  C02 (round trip): GENERAL simple commands — a sequence of ITEMS (assignments in command
  position, words — possibly of the form `a=b` outside command position; further kinds are added by
  extending `Item`), redirections, and the run over one such command, in two layers: the engine
  over the tokens that are about to come (`redir_stepsF`, `elem_stepF`, `itemsF`, `first_stepF`,
  `g_run13F`, `base_firstF`, `nl_firstF`), and the tokenizer over the text, delivering them
  (`feeds_more`, `follows_elem`, `follows_items`, `feeds_cmd_more`, `feeds_first`, `feeds_cmd`).
  The runs stated over the text (`elem_step`, `g_run13`, `base_first`, `nl_first`) are the two put
  together.
-/
import Bashlex.Props.C02.Cmd
import Bashlex.Props.C02.TokG
import Bashlex.Props.C02.TokNum
import Bashlex.Props.C02.SeqOps
import Bashlex.Props.C02.Feeds
import Bashlex.Props.C02.PipeE

namespace Bashlex.C02
open Bashlex Bashlex.M Bashlex.LR
set_option linter.unusedSimpArgs false

/-- an element of a simple command -/
inductive Item where
  /-- a WORD: `w` over the class (it may look like an assignment outside command position) -/
  | word (w : Str)
  /-- an ASSIGNMENT_WORD `name=value` (only in command position) -/
  | assign (w : Str)
  deriving DecidableEq, Repr

namespace Item
def text : Item → Str
  | word w => w
  | assign w => w
/-- its node when its text starts at offset `a` -/
def node (a : Nat) : Item → Node
  | word w => Node.word (a, a + w.length) w []
  | assign w => Node.assignment (a, a + w.length) w []
/-- its token -/
def tok (a : Nat) : Item → Token
  | word w => genTok a (a + w.length) w false
  | assign w => awTok a (a + w.length) w
def sym : Item → Nat
  | word _ => 24
  | assign _ => 25
/-- the state after its token is shifted over a base / over `simple_command` (state 13) -/
def shB : Item → Nat
  | word _ => 29
  | assign _ => 33
def sh13 : Item → Nat
  | word _ => 75
  | assign _ => 33
def prod : Item → Nat
  | word _ => 51
  | assign _ => 52
/-- is an assignment acceptable right after it -/
def after : Item → Bool
  | word _ => false
  | assign _ => true
/-- engine steps it takes -/
def cost : Item → Nat
  | word _ => 3
  | assign _ => 3
/-- valid where assignments are (`pos = true`) / are not acceptable -/
def OK (pos : Bool) : Item → Prop
  | word w => GenWord w ∧ (pos = true → looksAssign w = false)
  | assign w => pos = true ∧ GenWord w ∧ looksAssign w = true

instance (pos : Bool) (it : Item) : Decidable (it.OK pos) := by
  cases it <;> (unfold OK; exact inferInstance)

theorem gen {pos : Bool} {it : Item} (h : it.OK pos) : GenWord it.text := by
  cases it with
  | word w => exact h.1
  | assign w => exact h.2.1

theorem tok_eq {pos : Bool} {it : Item} (h : it.OK pos) (a : Nat) :
    genTok a (a + it.text.length) it.text pos = it.tok a := by
  cases it with
  | word w =>
    obtain ⟨_, h2⟩ := h
    cases hl : looksAssign w with
    | false => simp [genTok, tok, text, hl]
    | true =>
      cases pos with
      | false => rfl
      | true => rw [h2 rfl] at hl; cases hl
  | assign w =>
    obtain ⟨rfl, _, h3⟩ := h
    simp [genTok, tok, text, h3]

theorem tok_sym (it : Item) (a : Nat) : symOfTok (it.tok a) = it.sym := by
  cases it with
  | word w =>
    show symOfTok (genTok a (a + w.length) w false) = 24
    unfold genTok
    split
    · exact Tab.symWORD
    · exact Tab.symWORD
  | assign w => exact Tab.symAW

theorem tok_hist (it : Item) (a : Nat) : histOK (it.tok a) = true := by
  cases it with
  | word w =>
    show histOK (genTok a (a + w.length) w false) = true
    unfold genTok
    split <;> rfl
  | assign w => rfl

theorem nodePos_node (it : Item) (a : Nat) : nodePos (it.node a) = pure (a, a + it.text.length) := by
  cases it <;> rfl

theorem sym_ne_end (it : Item) : (it.sym == Tab.T.endTok) = false := by cases it <;> rfl
theorem sym_ne_nl (it : Item) : (it.sym == Tab.T.nlTok) = false := by cases it <;> rfl
theorem d13 (it : Item) : Tab.T.dflt it.sh13 = none := by
  cases it
  · exact Tab.d75
  · exact Tab.d33
theorem dB (it : Item) : Tab.T.dflt it.shB = none := by
  cases it
  · exact Tab.d29
  · exact Tab.d33
theorem ne13 (it : Item) : (it.sh13 == 0) = false := by cases it <;> rfl
theorem neB (it : Item) : (it.shB == 0) = false := by cases it <;> rfl
theorem a13 (it : Item) : Tab.T.action 13 it.sym = some (.shift it.sh13) := by
  cases it
  · exact Tab.a13w
  · exact Tab.a13A
theorem pprod (it : Item) : Tab.T.prods[it.prod]? = some (63, [it.sym]) := by
  cases it
  · exact Tab.p51
  · exact Tab.p52
theorem fprod (it : Item) : Gen.prodFuncs.getD it.prod "" = "p_simple_command_element" := by
  cases it
  · exact Tab.f51
  · exact Tab.f52
end Item

/-- what the word-level states do on a terminal (a terminator, or the first terminal of the next
    item) -/
structure TermG (ts : Nat) : Prop where
  w : TermW ts
  a33 : Tab.T.action 33 ts = some (.reduce 52)
  r118 : Tab.T.action 118 ts = some (.reduce 13)
  r119 : Tab.T.action 119 ts = some (.reduce 14)
  r120 : Tab.T.action 120 ts = some (.reduce 19)
  a34 : Tab.T.action 34 ts = some (.reduce 53)
  r165 : Tab.T.action 165 ts = some (.reduce 15)
  r166 : Tab.T.action 166 ts = some (.reduce 16)
  r167 : Tab.T.action 167 ts = some (.reduce 20)

theorem Item.red13 (it : Item) {ts : Nat} (h : TermG ts) :
    Tab.T.action it.sh13 ts = some (.reduce it.prod) := by
  cases it
  · exact h.w.a75
  · exact h.a33
theorem Item.redB (it : Item) {ts : Nat} (h : TermG ts) :
    Tab.T.action it.shB ts = some (.reduce it.prod) := by
  cases it
  · exact h.w.a29
  · exact h.a33

instance (ts : Nat) : Decidable (TermW ts) :=
  decidable_of_iff (Tab.T.action 29 ts = some (.reduce 51) ∧ Tab.T.action 17 ts = some (.reduce 56) ∧
      Tab.T.action 75 ts = some (.reduce 51) ∧ Tab.T.action 74 ts = some (.reduce 57))
    ⟨fun ⟨a, b, c, d⟩ => ⟨a, b, c, d⟩, fun h => ⟨h.a29, h.a17, h.a75, h.a74⟩⟩

instance (ts : Nat) : Decidable (TermG ts) :=
  decidable_of_iff (TermW ts ∧ Tab.T.action 33 ts = some (.reduce 52) ∧
      Tab.T.action 118 ts = some (.reduce 13) ∧ Tab.T.action 119 ts = some (.reduce 14) ∧
      Tab.T.action 120 ts = some (.reduce 19) ∧ Tab.T.action 34 ts = some (.reduce 53) ∧
      Tab.T.action 165 ts = some (.reduce 15) ∧ Tab.T.action 166 ts = some (.reduce 16) ∧
      Tab.T.action 167 ts = some (.reduce 20))
    ⟨fun ⟨a, b, c, d, e, f, g, h, i⟩ => ⟨a, b, c, d, e, f, g, h, i⟩,
     fun h => ⟨h.w, h.a33, h.r118, h.r119, h.r120, h.a34, h.r165, h.r166, h.r167⟩⟩

/-- a terminal on which a complete WORD element is reduced is one on which every complete
    `simple_command_element` is (an assignment word, a redirection): in the LALR tables these states
    carry the same lookahead set.  Decided over the terminals of row 29. -/
theorem TermW.g {ts : Nat} (h : TermW ts) : TermG ts :=
  (by decide +kernel : ∀ ts ∈ Tab.actionOn 29, TermW ts → TermG ts) ts (Tab.mem_actionOn h.a29) h

theorem termG24 : TermG 24 := TermW.g ⟨Tab.a29w, Tab.a17w, Tab.a75w, Tab.a74w⟩
theorem termG25 : TermG 25 := TermW.g ⟨Tab.a29A, Tab.a17A, Tab.a75A, Tab.a74A⟩
theorem termG57 : TermG 57 := TermW.g ⟨Tab.a29g, Tab.a17g, Tab.a75g, Tab.a74g⟩
theorem termG56 : TermG 56 := TermW.g ⟨Tab.a29l, Tab.a17l, Tab.a75l, Tab.a74l⟩
theorem termG33 : TermG 33 := TermW.g ⟨Tab.a29G, Tab.a17G, Tab.a75G, Tab.a74G⟩
theorem termG27 : TermG 27 := TermW.g ⟨Tab.a29N, Tab.a17N, Tab.a75N, Tab.a74N⟩
theorem Item.termG (it : Item) : TermG it.sym := by
  cases it
  · exact termG24
  · exact termG25
theorem termGNL : TermG 55 := termNL.w.g
theorem termGBAR : TermG 52 := TermW.g ⟨Tab.a29b, Tab.a17b, Tab.a75b, Tab.a74b⟩
theorem Op.termG (o : Op) : TermG o.sym := o.term.w.g

/-! ## acceptability bookkeeping -/

/-- the token before a command: a reserved word / an assignment is acceptable after it, whatever
    the rest of the parser object says -/
def startOK (t : Token) : Bool := commandTokenPosition ({} : Local) t

theorem start_cmdpos {t : Token} (h : startOK t = true) (l : Local) :
    commandTokenPosition l t = true := by
  unfold startOK commandTokenPosition reservedWordAcceptable at h
  unfold commandTokenPosition reservedWordAcceptable
  simp only [Bool.or_eq_true, Bool.and_eq_true, Bool.not_eq_true'] at h ⊢
  rcases h with (h | h) | ⟨h1, h2⟩
  · exact Or.inl (Or.inl h)
  · cases h
  · refine Or.inr ⟨h1, ?_⟩
    rcases h2 with h2 | h2
    · exact Or.inl h2
    · simp [Token.is, Token.null] at h2

theorem start_acc {t : Token} (h : startOK t = true) {l : Local} (hps : PSOK l) :
    assignmentAcceptable l t = true := by
  unfold assignmentAcceptable
  rw [start_cmdpos h l, hps.cp]; rfl

theorem gen_not_reservedChar {ch : Char} (hc : wordChar ch = true) : ¬ ch ∈ reservedChars := by
  intro hm
  have hcon := List.contains_iff_mem.mpr hm
  have : reservedChars.contains ch = false := by
    simp only [reservedChars, List.contains_cons, List.contains_nil, Bool.or_false,
      wc_ne (by decide : wordChar '\n' = false) hc, wc_ne (by decide : wordChar ';' = false) hc,
      wc_ne (by decide : wordChar '(' = false) hc, wc_ne (by decide : wordChar ')' = false) hc,
      wc_ne (by decide : wordChar '|' = false) hc, wc_ne (by decide : wordChar '&' = false) hc,
      wc_ne (by decide : wordChar '{' = false) hc, wc_ne (by decide : wordChar '}' = false) hc,
      Bool.or_self]
  rw [this] at hcon; cases hcon

/-- after an item no reserved word is acceptable -/
theorem racc_item {pos : Bool} {it : Item} (h : it.OK pos) (a : Nat) {l : Local}
    (hh : histOK l.tokenBeforeThat = true) : reservedWordAcceptable l (it.tok a) = false := by
  obtain ⟨_, _, _, _, _, _, b7, _, _⟩ := histOK_is hh
  obtain ⟨hne, hp⟩ := Item.gen h
  unfold reservedWordAcceptable
  cases it with
  | word w =>
    have e1 : (Item.tok a (.word w)).truthy = true := by
      show (genTok a (a + w.length) w false).truthy = true
      unfold genTok; split <;> rfl
    have e2 : (Item.tok a (.word w)).ttype = some .WORD := by
      show (genTok a (a + w.length) w false).ttype = some .WORD
      unfold genTok; split <;> rfl
    have e3 : (Item.tok a (.word w)).value = .str w := by
      show (genTok a (a + w.length) w false).value = .str w
      unfold genTok; split <;> rfl
    rw [e1, e2, e3, b7]
    simp only [Item.text] at hp
    match w, hp with
    | [], _ => simp [reservedTypes]
    | [ch], hp => simp [reservedTypes, gen_not_reservedChar (hp ch (List.mem_cons_self ..))]
    | _ :: _ :: _, _ => simp [reservedTypes]
  | assign w =>
    have e1 : (Item.tok a (.assign w)).truthy = true := rfl
    have e2 : (Item.tok a (.assign w)).ttype = some .ASSIGNMENT_WORD := rfl
    have e3 : (Item.tok a (.assign w)).value = .str w := rfl
    rw [e1, e2, e3, b7]
    simp only [Item.text] at hp
    match w, hp with
    | [], _ => simp [reservedTypes]
    | [ch], hp => simp [reservedTypes, gen_not_reservedChar (hp ch (List.mem_cons_self ..))]
    | _ :: _ :: _, _ => simp [reservedTypes]

/-- is an assignment acceptable after an item: yes after an assignment, no after a word -/
theorem acc_item {pos : Bool} {it : Item} (h : it.OK pos) (a : Nat) {l : Local} (hps : PSOK l)
    (hh : histOK l.tokenBeforeThat = true) : assignmentAcceptable l (it.tok a) = it.after := by
  have hr := racc_item h a hh
  unfold assignmentAcceptable commandTokenPosition
  rw [hr, hps.rl, hps.cp]
  cases it with
  | word w =>
    have : (Item.tok a (.word w)).is .ASSIGNMENT_WORD = false := by
      show (genTok a (a + w.length) w false).is .ASSIGNMENT_WORD = false
      unfold genTok; split <;> rfl
    rw [this]; simp [Item.after]
  | assign w =>
    have : (Item.tok a (.assign w)).is .ASSIGNMENT_WORD = true := rfl
    rw [this]; simp [Item.after]

theorem lookup_mem {α β : Type} [BEq α] {a : α} {b : β} : ∀ {l : List (α × β)},
    List.lookup a l = some b → ∃ k, (k, b) ∈ l ∧ (a == k) = true
  | [], h => by simp [List.lookup] at h
  | (k, v) :: r, h => by
    rw [List.lookup] at h
    cases hk : a == k with
    | true =>
      rw [hk] at h
      simp only [Option.some.injEq] at h
      subst h
      exact ⟨k, List.mem_cons_self .., hk⟩
    | false =>
      rw [hk] at h
      obtain ⟨k', hm, hk'⟩ := lookup_mem h
      exact ⟨k', List.mem_cons_of_mem _ hm, hk'⟩

/-- no reserved word looks like an assignment -/
theorem looks_not_reserved {w : Str} (h : looksAssign w = true) :
    reservedFirstCommandChars.lookup w = none := by
  cases hl : reservedFirstCommandChars.lookup w with
  | none => rfl
  | some t =>
    obtain ⟨k, hm, hk⟩ := lookup_mem hl
    have : w = k := eq_of_beq hk
    subst this
    have hall : reservedFirstCommandChars.all (fun p => !looksAssign p.1) = true := by decide
    have := List.all_eq_true.mp hall _ hm
    simp [h] at this

/-! ## the action on an item -/

/-- the WORD token of `Item.word w` at offset `a`, field by field -/
theorem Item.wordTok_is (a : Nat) (w : Str) : (Item.tok a (.word w)).is .WORD = true := by
  show (genTok a (a + w.length) w false).is .WORD = true
  unfold genTok; split <;> rfl
theorem Item.wordTok_notAssign (a : Nat) (w : Str) :
    (Item.tok a (.word w)).is .ASSIGNMENT_WORD = false := by
  show (genTok a (a + w.length) w false).is .ASSIGNMENT_WORD = false
  unfold genTok; split <;> rfl
theorem Item.wordTok_valueStr (a : Nat) (w : Str) : (Item.tok a (.word w)).valueStr = w := by
  show (genTok a (a + w.length) w false).valueStr = w
  unfold genTok; split <;> rfl
theorem Item.wordTok_pos (a : Nat) (w : Str) :
    (Item.tok a (.word w)).pos = some (a, a + w.length) := by
  show (genTok a (a + w.length) w false).pos = _
  unfold genTok; split <;> rfl
theorem Item.wordTok_unquoted (a : Nat) (w : Str) :
    (Item.tok a (.word w)).flags.contains .QUOTED = false := by
  show (genTok a (a + w.length) w false).flags.contains .QUOTED = false
  unfold genTok; split <;> rfl
theorem Item.wordTok_endlexpos (a : Nat) (w : Str) :
    (Item.tok a (.word w)).endlexpos = a + w.length := by
  show (genTok a (a + w.length) w false).endlexpos = _
  unfold genTok; split <;> rfl

/-- `parser._expandword` on the WORD token of `Item.word w`: the part-less word node -/
theorem tot_expandword_word {np : NestedParse} {a : Nat} {w : Str} {l : Local} {T : Tape}
    {P : Node → Local → Tape → Prop} (hw : GenWord w) (h : P (.word (a, a + w.length) w []) l T) :
    Tot (expandword np (Item.tok a (.word w))) l T P :=
  tot_expandword_gen hw (Item.wordTok_valueStr a w) (Item.wordTok_pos a w) (Item.wordTok_unquoted a w) h

theorem act_item {np : NestedParse} {pos : Bool} {it : Item} (hok : it.OK pos) {a : Nat} {l : Local}
    {T : Tape} {P : SVal × Bool → Local → Tape → Prop}
    (h : P (.nodes [it.node a], false) l T) :
    Tot (action np "p_simple_command_element" [.tok (it.tok a)]) l T P := by
  refine tot_action_of_core ?_
  simp only [actionCore_p_simple_command_element]
  simp only [PCtx.slice, PCtx.tokAt, List.getD_cons_zero, Nat.sub_self]
  refine Tot.bind (Tot.pure ?_)
  cases it with
  | word w =>
    refine Tot.bind (tot_expandword_word hok.1 ?_)
    simp only [Item.wordTok_notAssign, Bool.false_eq_true, if_false]
    exact Tot.pure ⟨rfl, h⟩
  | assign w =>
    refine Tot.bind (tot_expandword_gen (t := Item.tok a (.assign w)) hok.2.1 rfl rfl rfl ?_)
    have hi : (Item.tok a (.assign w)).is .ASSIGNMENT_WORD = true := rfl
    simp only [hi, if_true]
    exact Tot.pure ⟨rfl, h⟩

/-- **`tokenizer.token()` on blanks followed by an item** -/
theorem tot_nextToken_item {l : Local} {L : Str} {adn : Bool} {b : Char} {g rest : Str} {i : Nat}
    {pos : Bool} {it : Item} {P : Token → Local → Tape → Prop}
    (hl : POK l) (hok : it.OK pos) (hacc : assignmentAcceptable (shiftH l) l.currentToken = pos)
    (h1 : histOK l.currentToken = true)
    (hb : endChar b = true) (hg : Blank g)
    (hL : L.drop i = g ++ it.text ++ b :: rest) (hlen : L.length + 2 ≤ 1073741824)
    (hres : reservedWordAcceptable (shiftH l) l.currentToken = true →
      reservedFirstCommandChars.lookup it.text = none)
    (h : P (it.tok (i + g.length)) (afterTok l (it.tok (i + g.length)))
      ⟨L, i + g.length + it.text.length, adn⟩) :
    Tot nextToken l ⟨L, i, adn⟩ P := by
  refine tot_nextToken_gen hl.wok hl.ps hacc h1 hl.hist (Item.gen hok) hb hg hL hlen hres ?_
  rw [Item.tok_eq hok]
  exact h

/-! ## redirections and the elements of a command after its first item -/

inductive ROp where
  | gt | lt | gg
  deriving DecidableEq, Repr

namespace ROp
def txt : ROp → Str
  | gt => ['>'] | lt => ['<'] | gg => ['>', '>']
def sym : ROp → Nat
  | gt => 57 | lt => 56 | gg => 33
def s1 : ROp → Nat
  | gt => 46 | lt => 47 | gg => 48
def s2 : ROp → Nat
  | gt => 118 | lt => 119 | gg => 120
def prod : ROp → Nat
  | gt => 13 | lt => 14 | gg => 19
def tok (o : ROp) (a : Nat) : Token :=
  match o with
  | gt => gtTok a | lt => ltTok a | gg => ggTok a
theorem tok_sym (o : ROp) (a : Nat) : symOfTok (o.tok a) = o.sym := by
  cases o
  · exact Tab.symGT
  · exact Tab.symLT
  · exact Tab.symGG
theorem tok_hist (o : ROp) (a : Nat) : histOK (o.tok a) = true := by cases o <;> rfl
theorem tok_lexpos (o : ROp) (a : Nat) : (o.tok a).lexpos = a := by cases o <;> rfl
theorem tok_valueStr (o : ROp) (a : Nat) : (o.tok a).valueStr = o.txt := by cases o <;> rfl
theorem a13 (o : ROp) : Tab.T.action 13 o.sym = some (.shift o.s1) := by
  cases o
  · exact Tab.a13r57
  · exact Tab.a13r56
  · exact Tab.a13r33
theorem d1 (o : ROp) : Tab.T.dflt o.s1 = none := by
  cases o
  · exact Tab.d46
  · exact Tab.d47
  · exact Tab.d48
theorem d2 (o : ROp) : Tab.T.dflt o.s2 = none := by
  cases o
  · exact Tab.d118
  · exact Tab.d119
  · exact Tab.d120
theorem ne1 (o : ROp) : (o.s1 == 0) = false := by cases o <;> rfl
theorem ne2 (o : ROp) : (o.s2 == 0) = false := by cases o <;> rfl
theorem a1w (o : ROp) : Tab.T.action o.s1 24 = some (.shift o.s2) := by
  cases o
  · exact Tab.a46w
  · exact Tab.a47w
  · exact Tab.a48w
theorem pp (o : ROp) : Tab.T.prods[o.prod]? = some (62, [o.sym, 24]) := by
  cases o
  · exact Tab.p13
  · exact Tab.p14
  · exact Tab.p19
theorem fp (o : ROp) : Gen.prodFuncs.getD o.prod "" = "p_redirection" := by
  cases o
  · exact Tab.f13
  · exact Tab.f14
  · exact Tab.f19
theorem red2 (o : ROp) {ts : Nat} (h : TermG ts) : Tab.T.action o.s2 ts = some (.reduce o.prod) := by
  cases o
  · exact h.r118
  · exact h.r119
  · exact h.r120
theorem termG (o : ROp) : TermG o.sym := by
  cases o
  · exact termG57
  · exact termG56
  · exact termG33
theorem txt_pos (o : ROp) : 0 < o.txt.length := by cases o <;> decide
def n1 : ROp → Nat
  | gt => 99 | lt => 100 | gg => 101
def n2 : ROp → Nat
  | gt => 165 | lt => 166 | gg => 167
def nprod : ROp → Nat
  | gt => 15 | lt => 16 | gg => 20
theorem a43 (o : ROp) : Tab.T.action 43 o.sym = some (.shift o.n1) := by
  cases o
  · exact Tab.a43g
  · exact Tab.a43l
  · exact Tab.a43G
theorem dn1 (o : ROp) : Tab.T.dflt o.n1 = none := by
  cases o
  · exact Tab.d99
  · exact Tab.d100
  · exact Tab.d101
theorem dn2 (o : ROp) : Tab.T.dflt o.n2 = none := by
  cases o
  · exact Tab.d165
  · exact Tab.d166
  · exact Tab.d167
theorem nen1 (o : ROp) : (o.n1 == 0) = false := by cases o <;> rfl
theorem nen2 (o : ROp) : (o.n2 == 0) = false := by cases o <;> rfl
theorem an1w (o : ROp) : Tab.T.action o.n1 24 = some (.shift o.n2) := by
  cases o
  · exact Tab.a99w
  · exact Tab.a100w
  · exact Tab.a101w
theorem npp (o : ROp) : Tab.T.prods[o.nprod]? = some (62, [27, o.sym, 24]) := by
  cases o
  · exact Tab.p15
  · exact Tab.p16
  · exact Tab.p20
theorem nfp (o : ROp) : Gen.prodFuncs.getD o.nprod "" = "p_redirection" := by
  cases o
  · exact Tab.f15
  · exact Tab.f16
  · exact Tab.f20
theorem redn2 (o : ROp) {ts : Nat} (h : TermG ts) : Tab.T.action o.n2 ts = some (.reduce o.nprod) := by
  cases o
  · exact h.r165
  · exact h.r166
  · exact h.r167
end ROp

/-- an element of a command after its first item: an item, or a redirection `op w` (blanks
    allowed between the operator and the word) -/
inductive Elem where
  | simple (it : Item)
  | redir (op : ROp) (g2 : Str) (w : Str)
  | nredir (n : Str) (op : ROp) (g2 : Str) (w : Str)
  deriving DecidableEq, Repr

namespace Elem
def text : Elem → Str
  | simple it => it.text
  | redir o g2 w => o.txt ++ g2 ++ w
  | nredir n o g2 w => n ++ o.txt ++ g2 ++ w
def node (a : Nat) : Elem → Node
  | simple it => it.node a
  | redir o g2 w =>
    Node.redirect (a, a + o.txt.length + g2.length + w.length) .none o.txt
      (some (Node.word (a + o.txt.length + g2.length, a + o.txt.length + g2.length + w.length) w []))
      .none none none
  | nredir n o g2 w =>
    Node.redirect (a, a + n.length + o.txt.length + g2.length + w.length) (.num (digitsToNat n)) o.txt
      (some (Node.word (a + n.length + o.txt.length + g2.length,
        a + n.length + o.txt.length + g2.length + w.length) w []))
      .none none none
/-- its first token -/
def tok (a : Nat) : Elem → Token
  | simple it => it.tok a
  | redir o _ _ => o.tok a
  | nredir n _ _ _ => numTok a (a + n.length) n
def sym : Elem → Nat
  | simple it => it.sym
  | redir o _ _ => o.sym
  | nredir _ _ _ _ => 27
/-- the length of the text of its first token, and the rest of its text -/
def tlen : Elem → Nat
  | simple it => it.text.length
  | redir o _ _ => o.txt.length
  | nredir n _ _ _ => n.length
def rest : Elem → Str
  | simple _ => []
  | redir _ g2 w => g2 ++ w
  | nredir _ o g2 w => o.txt ++ g2 ++ w
def after : Elem → Bool
  | simple it => it.after
  | redir _ _ _ => false
  | nredir _ _ _ _ => false
def cost : Elem → Nat
  | simple _ => 3
  | redir _ _ _ => 5
  | nredir _ _ _ _ => 6
def OK (pos : Bool) : Elem → Prop
  | simple it => it.OK pos
  | redir _ g2 w => Blank g2 ∧ GenWord w
  | nredir n _ g2 w => DigWord n ∧ Blank g2 ∧ GenWord w
instance (pos : Bool) (el : Elem) : Decidable (el.OK pos) := by
  cases el <;> (unfold OK; exact inferInstance)
def shB : Elem → Nat
  | simple it => it.shB
  | redir o _ _ => o.s1
  | nredir _ _ _ _ => 43
theorem sym_ne_end (el : Elem) : (el.sym == Tab.T.endTok) = false := by
  cases el with
  | simple it => exact it.sym_ne_end
  | redir o g2 w => cases o <;> rfl
  | nredir n o g2 w => rfl
theorem sym_ne_nl (el : Elem) : (el.sym == Tab.T.nlTok) = false := by
  cases el with
  | simple it => exact it.sym_ne_nl
  | redir o g2 w => cases o <;> rfl
  | nredir n o g2 w => rfl
theorem cost_ge (el : Elem) : 3 ≤ el.cost := by cases el <;> simp [cost]
theorem tok_sym (el : Elem) (a : Nat) : symOfTok (el.tok a) = el.sym := by
  cases el with
  | simple it => exact Item.tok_sym it a
  | redir o g2 w => exact ROp.tok_sym o a
  | nredir n o g2 w => exact Tab.symNUM
theorem tok_hist (el : Elem) (a : Nat) : histOK (el.tok a) = true := by
  cases el with
  | simple it => exact Item.tok_hist it a
  | redir o g2 w => exact ROp.tok_hist o a
  | nredir n o g2 w => rfl
theorem termG (el : Elem) : TermG el.sym := by
  cases el with
  | simple it => exact it.termG
  | redir o g2 w => exact o.termG
  | nredir n o g2 w => exact termG27
theorem text_len (el : Elem) : el.text.length = el.tlen + el.rest.length := by
  cases el <;> simp [text, tlen, rest, Nat.add_assoc]
theorem nodePos_node (el : Elem) (a : Nat) : nodePos (el.node a) = pure (a, a + el.text.length) := by
  cases el with
  | simple it => exact Item.nodePos_node it a
  | redir o g2 w =>
    show pure (a, a + o.txt.length + g2.length + w.length) = pure (a, a + (o.txt ++ g2 ++ w).length)
    simp [Nat.add_assoc]
  | nredir n o g2 w =>
    show pure (a, a + n.length + o.txt.length + g2.length + w.length) =
      pure (a, a + (n ++ o.txt ++ g2 ++ w).length)
    simp [Nat.add_assoc]
theorem text_pos {pos : Bool} {el : Elem} (h : el.OK pos) : 0 < el.text.length := by
  cases el with
  | simple it => exact List.length_pos_iff.mpr (Item.gen h).1
  | redir o g2 w => have := o.txt_pos; simp [text]; omega
  | nredir n o g2 w => have := o.txt_pos; simp [text]; omega
end Elem

/-! ## lists of elements -/

def spellJ : List (Str × Elem) → Str
  | [] => []
  | (g, it) :: r => g ++ it.text ++ spellJ r

def nodesJ (off : Nat) : List (Str × Elem) → List Node
  | [] => []
  | (g, it) :: r => it.node (off + g.length) :: nodesJ (off + g.length + it.text.length) r

def endJ (off : Nat) : List (Str × Elem) → Nat
  | [] => off
  | (g, it) :: r => endJ (off + g.length + it.text.length) r

def icost : List (Str × Elem) → Nat
  | [] => 0
  | (_, it) :: r => it.cost + icost r

/-- the elements are valid from a position where assignments are / are not acceptable; every gap
    is a non-empty run of blanks/tabs -/
def ItemsJ : Bool → List (Str × Elem) → Prop
  | _, [] => True
  | pos, (g, it) :: r => (g ≠ [] ∧ Blank g) ∧ it.OK pos ∧ ItemsJ it.after r

instance : ∀ (pos : Bool) (items : List (Str × Elem)), Decidable (ItemsJ pos items)
  | _, [] => isTrue trivial
  | pos, (g, it) :: r =>
    have := instDecidableItemsJ it.after r
    by unfold ItemsJ; exact inferInstance

theorem endJ_eq : ∀ (items : List (Str × Elem)) (off : Nat), endJ off items = off + (spellJ items).length
  | [], off => by simp [endJ, spellJ]
  | (g, it) :: r, off => by
    simp only [endJ, spellJ, List.length_append, endJ_eq r]
    omega

theorem after_itemJ : ∀ (rest : List (Str × Elem)) {pos : Bool} {R : Str} {b0 : Char} {r0 : Str},
    ItemsJ pos rest → R = b0 :: r0 → endChar b0 = true →
    ∃ b r, spellJ rest ++ R = b :: r ∧ endChar b = true
  | [], _, _, b0, r0, _, hR, hb0 => ⟨b0, r0, by simp [spellJ, hR], hb0⟩
  | (g, it) :: r, _, R, _, _, hi, _, _ => by
    have := hi.1
    cases g with
    | nil => exact absurd rfl this.1
    | cons y g' =>
      exact ⟨y, g' ++ it.text ++ spellJ r ++ R, by simp [spellJ],
        blank_endChar (this.2 y (List.mem_cons_self ..))⟩

theorem drop_into {L : Str} {p : Nat} {g : Str} {el' : Elem} {X : Str}
    (h : L.drop p = g ++ el'.text ++ X) : L.drop (p + g.length + el'.tlen) = el'.rest ++ X := by
  have := congrArg (List.drop (g.length + el'.tlen)) h
  rw [List.drop_drop] at this
  rw [Nat.add_assoc, this]
  have e6 : g ++ el'.text ++ X = (g ++ (el'.text.take el'.tlen)) ++ (el'.rest ++ X) := by
    cases el' <;> simp [Elem.text, Elem.tlen, Elem.rest]
  rw [e6]
  exact List.drop_left' (by cases el' <;> simp [Elem.text, Elem.tlen])

/-! ## the engine over the elements of one command -/

theorem Item.cost3 (it : Item) : it.cost = 3 := by cases it <;> rfl

theorem racc_op (o : ROp) (a : Nat) {l : Local} (hh : histOK l.tokenBeforeThat = true) :
    reservedWordAcceptable l (o.tok a) = false := by
  obtain ⟨_, _, _, _, _, _, b7, _, _⟩ := histOK_is hh
  unfold reservedWordAcceptable
  cases o <;> simp [ROp.tok, gtTok, ltTok, ggTok, Token.truthy, b7, reservedTypes, reservedChars]

theorem acc_op (o : ROp) (a : Nat) {l : Local} (hps : PSOK l) (hh : histOK l.tokenBeforeThat = true) :
    assignmentAcceptable l (o.tok a) = false := by
  have hr := racc_op o a hh
  unfold assignmentAcceptable commandTokenPosition
  rw [hr, hps.rl, hps.cp]
  cases o <;> simp [ROp.tok, gtTok, ltTok, ggTok, Token.is]

theorem bw_ne {d : Char} (h : shellblank d = true ∨ wordChar d = true) :
    d ≠ '>' ∧ d ≠ '<' ∧ d ≠ '&' ∧ d ≠ '|' ∧ d ≠ '(' ∧ d ≠ '\\' := by
  rcases h with h | h
  · refine ⟨?_, ?_, ?_, ?_, ?_, blank_ne_bs h⟩ <;> (intro hd; subst hd; revert h; decide)
  · exact ⟨wc_ne' (by decide) h, wc_ne' (by decide) h, wc_ne' (by decide) h, wc_ne' (by decide) h,
      wc_ne' (by decide) h, wc_ne' (by decide) h⟩

theorem redir_head {g2 w : Str} (hg : Blank g2) (hw : GenWord w) (X : Str) :
    ∃ d r, g2 ++ w ++ X = d :: r ∧ (shellblank d = true ∨ wordChar d = true) := by
  cases g2 with
  | nil =>
    obtain ⟨hne, hp⟩ := hw
    cases w with
    | nil => exact absurd rfl hne
    | cons c r => exact ⟨c, r ++ X, rfl, Or.inr (hp c (List.mem_cons_self ..))⟩
  | cons y t => exact ⟨y, t ++ w ++ X, by simp, Or.inl (hg y (List.mem_cons_self ..))⟩

section
variable {L : Str} {adn : Bool}

/-- **`tokenizer.token()` on blanks followed by an element** (its first token) -/
theorem tot_nextToken_elem {l : Local} {b : Char} {g rest : Str} {i : Nat}
    {pos : Bool} {el : Elem} {P : Token → Local → Tape → Prop}
    (hl : POK l) (hok : el.OK pos) (hacc : assignmentAcceptable (shiftH l) l.currentToken = pos)
    (h1 : histOK l.currentToken = true) (hb : endChar b = true) (hg : Blank g)
    (hL : L.drop i = g ++ el.text ++ b :: rest) (hlen : L.length + 2 ≤ 1073741824)
    (hres : ∀ it, el = .simple it → reservedWordAcceptable (shiftH l) l.currentToken = true →
      reservedFirstCommandChars.lookup it.text = none)
    (h : ∀ l'', POK l'' → l''.currentToken = el.tok (i + g.length) →
      P (el.tok (i + g.length)) l'' ⟨L, i + g.length + el.tlen, adn⟩) :
    Tot nextToken l ⟨L, i, adn⟩ P := by
  cases el with
  | simple it =>
    exact tot_nextToken_item hl hok hacc h1 hb hg hL hlen (hres it rfl)
      (h _ (hl.afterTok h1 _) rfl)
  | redir o g2 w =>
    obtain ⟨d, r, hd, hdw⟩ := redir_head hok.1 hok.2 (b :: rest)
    obtain ⟨d1, d2, d3, d4, d5, d6⟩ := bw_ne hdw
    cases o with
    | gt =>
      have hL' : L.drop i = g ++ '>' :: d :: r := by
        rw [hL, ← hd]; simp [Elem.text, ROp.txt]
      exact tot_nextToken_gt hl.wok hl.dp hg hL' d1 d3 d6 d4 d5 hlen (h _ (hl.afterNL h1 _) rfl)
    | lt =>
      have hL' : L.drop i = g ++ '<' :: d :: r := by
        rw [hL, ← hd]; simp [Elem.text, ROp.txt]
      exact tot_nextToken_lt hl.wok hl.dp hg hL' d2 d3 d6 d1 d5 hlen (h _ (hl.afterNL h1 _) rfl)
    | gg =>
      have hL' : L.drop i = g ++ '>' :: '>' :: (g2 ++ w ++ b :: rest) := by
        rw [hL]; simp [Elem.text, ROp.txt]
      exact tot_nextToken_gg hl.wok hl.dp hg hL' hlen (h _ (hl.afterNL h1 _) rfl)
  | nredir n o g2 w =>
    obtain ⟨d, r, hd, hdw⟩ := redir_head hok.2.1 hok.2.2 (b :: rest)
    obtain ⟨d1, d2, d3, d4, d5, d6⟩ := bw_ne hdw
    cases o with
    | gt =>
      have hL' : L.drop i = g ++ n ++ '>' :: d :: r := by
        rw [hL, ← hd]; simp [Elem.text, ROp.txt]
      exact tot_nextToken_num hl.wok h1 hok.1 (b := '>') rfl d6 d5 hg hL' hlen
        (h _ (hl.afterTok h1 _) rfl)
    | lt =>
      have hL' : L.drop i = g ++ n ++ '<' :: d :: r := by
        rw [hL, ← hd]; simp [Elem.text, ROp.txt]
      exact tot_nextToken_num hl.wok h1 hok.1 (b := '<') rfl d6 d5 hg hL' hlen
        (h _ (hl.afterTok h1 _) rfl)
    | gg =>
      have hL' : L.drop i = g ++ n ++ '>' :: '>' :: (g2 ++ w ++ b :: rest) := by
        rw [hL]; simp [Elem.text, ROp.txt]
      exact tot_nextToken_num hl.wok h1 hok.1 (b := '>') rfl (by decide) (by decide) hg hL' hlen
        (h _ (hl.afterTok h1 _) rfl)

end

/-! ## the tokens of an element and of a list of elements; the tokenizer delivers them -/

namespace Elem
/-- its tokens after the first -/
def more (a : Nat) : Elem → List Token
  | simple _ => []
  | redir o g2 w => [Item.tok (a + o.txt.length + g2.length) (.word w)]
  | nredir n o g2 w =>
    [o.tok (a + n.length), Item.tok (a + n.length + o.txt.length + g2.length) (.word w)]
def toks (a : Nat) (el : Elem) : List Token := el.tok a :: el.more a
end Elem

/-- the tokens of the elements `items`, the first gap starting at `off` -/
def toksJ (off : Nat) : List (Str × Elem) → List Token
  | [] => []
  | (g, el) :: r => el.toks (off + g.length) ++ toksJ (off + g.length + el.text.length) r

/-- are assignments acceptable after the last of the elements -/
def afterJ : Bool → List (Str × Elem) → Bool
  | aft, [] => aft
  | _, (_, el) :: r => afterJ el.after r

section
variable {L : Str} {adn : Bool} {R : Local → Tape → Prop}

/-- the token after an element is fetched from a state whose current token is the last token
    (a WORD or an ASSIGNMENT_WORD) of the element -/
def NextTok (L : Str) (adn : Bool) (aft : Bool) (term : Token) (iE iT : Nat) : Prop :=
  ∀ (l1 : Local) (Q : Token → Local → Tape → Prop), POK l1 →
    (∃ itL posL bL, Item.OK posL itL ∧ l1.currentToken = Item.tok bL itL ∧ itL.after = aft) →
    (∀ l'', POK l'' → l''.currentToken = term → Q term l'' ⟨L, iT, adn⟩) →
    Tot nextToken l1 ⟨L, iE, adn⟩ Q

/-- where the runs up to a terminator end: the terminator is the current token, the cursor right
    after it -/
def AtTerm (L : Str) (adn : Bool) (term : Token) (iT : Nat) (l : Local) (Tp : Tape) : Prop :=
  POK l ∧ l.currentToken = term ∧ Tp = ⟨L, iT, adn⟩

/-- the parser object after an item token that leaves assignments acceptable (`aft`) or not -/
def AfterItem (aft : Bool) (l : Local) : Prop :=
  POK l ∧ ∃ it pos b, Item.OK pos it ∧ l.currentToken = Item.tok b it ∧ it.after = aft

/-- from the cursor `i`, right after an item, the tokenizer delivers `ts` -/
def Follows (L : Str) (adn : Bool) (aft : Bool) (i : Nat) (ts : List Token)
    (R : Local → Tape → Prop) : Prop :=
  ∀ l, AfterItem aft l → Feeds ts l ⟨L, i, adn⟩ R

theorem AfterItem.hist {aft : Bool} {l : Local} (h : AfterItem aft l) :
    histOK l.currentToken = true := by
  obtain ⟨_, it, _, b, _, hc, _⟩ := h
  rw [hc]; exact Item.tok_hist it b

/-- a token that can be fetched after anything, then whatever follows it -/
theorem Follows.fetch {aft : Bool} {term : Token} {ts : List Token} {iE iT : Nat}
    (h : FetchTerm L adn term iE iT)
    (hk : ∀ l', POK l' → l'.currentToken = term → Feeds ts l' ⟨L, iT, adn⟩ R) :
    Follows L adn aft iE (term :: ts) R := fun l hl =>
  Feeds.cons (S := fun l' Tp' => POK l' ∧ l'.currentToken = term ∧ Tp' = ⟨L, iT, adn⟩)
    (fun Q hQ => h l Q hl.1 hl.hist fun l'' h1 h2 => hQ l'' _ ⟨h1, h2, rfl⟩)
    fun l' _ ⟨h1, h2, h3⟩ => h3 ▸ hk l' h1 h2

theorem Follows.of_nextTok {aft : Bool} {term : Token} {iE iT : Nat}
    (h : NextTok L adn aft term iE iT) : Follows L adn aft iE [term] (AtTerm L adn term iT) :=
  fun l hl Q hQ => h l Q hl.1 hl.2 fun l'' h1 h2 => hQ l'' _ ⟨h1, h2, rfl⟩

/-- the tokens of an element after its first, then what follows the element -/
theorem feeds_more (hlen : L.length + 2 ≤ 1073741824) {el : Elem} {pos : Bool} {a : Nat} {l : Local}
    {bb : Char} {r' : Str} {ts : List Token}
    (hok : el.OK pos) (hl : POK l) (hcur : l.currentToken = el.tok a)
    (hLr : L.drop (a + el.tlen) = el.rest ++ bb :: r') (hbb : endChar bb = true)
    (hfol : Follows L adn el.after (a + el.text.length) ts R) :
    Feeds (el.more a ++ ts) l ⟨L, a + el.tlen, adn⟩ R := by
  have hcurh : histOK l.currentToken = true := by rw [hcur]; exact Elem.tok_hist el a
  have last : ∀ {l1 : Local} {w : Str} {bL iE : Nat}, POK l1 → GenWord w →
      l1.currentToken = Item.tok bL (.word w) → Follows L adn false iE ts R →
      Feeds ts l1 ⟨L, iE, adn⟩ R := fun {_ w _ _} hl1 hw hc hf =>
    hf _ ⟨hl1, .word w, false, _, ⟨hw, fun h => by cases h⟩, hc, rfl⟩
  cases el with
  | simple it => exact hfol l ⟨hl, it, pos, a, hok, hcur, rfl⟩
  | redir o g2 w =>
    have hwok : (Item.word w).OK false := ⟨hok.2, fun h => by cases h⟩
    have hLw : L.drop (a + o.txt.length) = g2 ++ (Item.word w).text ++ bb :: r' := by
      simpa [Elem.tlen, Elem.rest, Item.text] using hLr
    have hacc : assignmentAcceptable (shiftH l) l.currentToken = false := by
      rw [hcur]; exact acc_op o a ⟨hl.ps.cp, hl.ps.rl, hl.ps.ca⟩ hl.hist
    intro Q hQ
    refine tot_nextToken_item hl hwok hacc hcurh hbb hok.1 hLw hlen ?_ (hQ _ _ ?_)
    · intro h'
      have hcur' : l.currentToken = o.tok a := hcur
      rw [hcur', racc_op o a (l := shiftH l) hl.hist] at h'
      cases h'
    have e1 : a + (Elem.redir o g2 w).text.length =
        a + o.txt.length + g2.length + (Item.word w).text.length := by
      simp [Elem.text, Item.text]; omega
    rw [e1] at hfol
    exact last (hl.afterTok hcurh _) hok.2 rfl hfol
  | nredir n o g2 w =>
    have hwok : (Item.word w).OK false := ⟨hok.2.2, fun h => by cases h⟩
    have etl : (Elem.nredir n o g2 w).tlen = n.length := rfl
    simp only [etl] at hLr ⊢
    have hLo : L.drop (a + n.length) = [] ++ (Elem.redir o g2 w).text ++ bb :: r' := by
      simpa [Elem.tlen, Elem.rest, Elem.text] using hLr
    have hLw : L.drop (a + n.length + o.txt.length) = g2 ++ (Item.word w).text ++ bb :: r' := by
      simpa [Elem.tlen, Elem.rest, Item.text] using drop_into hLo
    intro Q hQ
    refine tot_nextToken_elem (g := []) (pos := assignmentAcceptable (shiftH l) l.currentToken) hl
      (show (Elem.redir o g2 w).OK _ from ⟨hok.2.1, hok.2.2⟩) rfl hcurh hbb (fun _ h => by cases h)
      hLo hlen (fun it e => by cases e) fun l1 hl1 hcur1 => ?_
    have hcur1' : l1.currentToken = o.tok (a + n.length) := by simpa [Elem.tok] using hcur1
    have hcurh1 : histOK l1.currentToken = true := by rw [hcur1']; exact ROp.tok_hist o _
    have hacc1 : assignmentAcceptable (shiftH l1) l1.currentToken = false := by
      rw [hcur1']; exact acc_op o _ ⟨hl1.ps.cp, hl1.ps.rl, hl1.ps.ca⟩ hl1.hist
    have ep : a + n.length + ([] : Str).length + (Elem.redir o g2 w).tlen =
        a + n.length + o.txt.length := by simp [Elem.tlen]
    have et : (Elem.redir o g2 w).tok (a + n.length + ([] : Str).length) = o.tok (a + n.length) := rfl
    rw [ep, et]
    refine hQ _ _ fun Q2 hQ2 => ?_
    refine tot_nextToken_item hl1 hwok hacc1 hcurh1 hbb hok.2.1 hLw hlen ?_ (hQ2 _ _ ?_)
    · intro h'
      rw [hcur1', racc_op o _ (l := shiftH l1) hl1.hist] at h'
      cases h'
    have e1 : a + (Elem.nredir n o g2 w).text.length =
        a + n.length + o.txt.length + g2.length + (Item.word w).text.length := by
      simp [Elem.text, Item.text]; omega
    rw [e1] at hfol
    exact last (hl1.afterTok hcurh1 _) hok.2.2 rfl hfol

theorem Follows.term {aft : Bool} {term : Token} {iE iT : Nat} (h : FetchTerm L adn term iE iT) :
    Follows L adn aft iE [term] (AtTerm L adn term iT) :=
  .fetch h fun _ h1 h2 => show AtTerm L adn term iT _ _ from ⟨h1, h2, rfl⟩

/-- blanks and an element after an item, then what follows the element -/
theorem follows_elem (hlen : L.length + 2 ≤ 1073741824) {aft : Bool} {el : Elem} (hok : el.OK aft)
    {g : Str} (hg : Blank g) {i : Nat} {bb : Char} {r' : Str} {ts : List Token}
    (hL : L.drop i = g ++ el.text ++ bb :: r') (hbb : endChar bb = true)
    (hfol : Follows L adn el.after (i + g.length + el.text.length) ts R) :
    Follows L adn aft i (el.toks (i + g.length) ++ ts) R := by
  intro l ⟨hl, itL, posL, bL, hokL, hcurL, haft⟩
  have h1 : histOK l.currentToken = true := by rw [hcurL]; exact Item.tok_hist itL bL
  have hacc : assignmentAcceptable (shiftH l) l.currentToken = aft := by
    rw [hcurL, ← haft]; exact acc_item hokL bL ⟨hl.ps.cp, hl.ps.rl, hl.ps.ca⟩ hl.hist
  have hres : reservedWordAcceptable (shiftH l) l.currentToken = false := by
    rw [hcurL]; exact racc_item hokL bL (l := shiftH l) hl.hist
  exact fun Q hQ => tot_nextToken_elem hl hok hacc h1 hbb hg hL hlen
    (fun _ _ h' => by rw [hres] at h'; cases h')
    fun l'' h1 h2 => hQ l'' _ (feeds_more hlen hok h1 h2 (drop_into hL) hbb hfol)

/-- the elements of a command after an item, then what follows the last of them -/
theorem follows_items (hlen : L.length + 2 ≤ 1073741824) {Y : Str} {y : Char} {yr : Str}
    (hY : Y = y :: yr) (hy : endChar y = true) {ts : List Token} :
    ∀ (items : List (Str × Elem)) (aft : Bool) (i : Nat), ItemsJ aft items →
      L.drop i = spellJ items ++ Y →
      Follows L adn (afterJ aft items) (endJ i items) ts R →
      Follows L adn aft i (toksJ i items ++ ts) R
  | [], _, _, _, _, hfol => hfol
  | (g, el) :: r, aft, i, hi, hL, hfol => by
    obtain ⟨hg, hok, hr⟩ := hi
    obtain ⟨bb, r', hbr, hb⟩ := after_itemJ r hr hY hy
    have hL' : L.drop i = g ++ el.text ++ bb :: r' := by rw [hL, ← hbr]; simp [spellJ]
    have hLn : L.drop (i + g.length + el.text.length) = spellJ r ++ Y := by
      have := congrArg (List.drop (g.length + el.text.length)) hL
      rw [List.drop_drop] at this
      rw [Nat.add_assoc, this]
      simp [spellJ]
    have := follows_elem hlen hok hg.2 hL' hb
      (follows_items hlen hY hy r el.after _ hr hLn (by simpa [afterJ, endJ] using hfol))
    simpa [toksJ, List.append_assoc] using this

end

/-! ## the engine over the elements of one command -/

section
variable {np : NestedParse} {P : Res SVal → Local → Tape → Prop} {R : Local → Tape → Prop}
  {base : Stack SVal} {b : Nat}

/-- **a redirection**, with or without a file-descriptor prefix, its first token already shifted over
    any stack `st` on which `redirection` and `simple_command_element` can be reduced: the operator
    (after a prefix) and the target word are read, `redirection` and `simple_command_element` are
    reduced; afterwards `simple_command_element` (state `g63`) holds the redirect node and the next
    token `t` is in hand -/
theorem redir_stepsF {st : Stack SVal} {s g63 : Nat} (hst : topState st = s)
    (h62 : Tab.T.goto s 62 = some 34) (h63 : Tab.T.goto s 63 = some g63)
    {el : Elem} {pos : Bool} {a : Nat} {l : Local} {Tp : Tape} {f' nl : Nat} {cons : List Nat}
    {tr : Tree} {t : Token} {ts : List Token}
    (hns : ∀ it, el ≠ .simple it) (hok : el.OK pos) (hT : TermG (symOfTok t))
    (hF : Feeds (el.more a ++ t :: ts) l Tp R)
    (hk : ∀ tr' nl' cons' l' Tp', Feeds ts l' Tp' R → Tot (engineLoop np f'
        { stack := ⟨g63, tr', .nodes [el.node a]⟩ :: st,
          la := some (symOfTok t, .tok t), nlShifted := nl', consumed := cons' }) l' Tp' P) :
    Tot (engineLoop np (f' + (el.cost - 2))
      { stack := ⟨el.shB, tr, .tok (el.tok a)⟩ :: st, la := none,
        nlShifted := nl, consumed := cons }) l Tp P := by
  cases el with
  | simple it => exact absurd rfl (hns it)
  | redir o g2 w =>
    show Tot (engineLoop np (f' + 3) _) _ _ _
    refine Tot.loop_step ?_
    refine R_next o.d1 hF fun l1 Tp1 hF1 => ?_
    rw [Item.tok_sym]
    refine R_shift o.d1 o.ne1 o.a1w ?_
    refine Tot.loop_step ?_
    refine R_next o.d2 hF1 fun l2 Tp2 hF2 => ?_
    refine R_reduce o.d2 o.ne2 (o.red2 hT) o.pp rfl (by rw [hst]; exact h62) o.fp ?_
    refine act_redir (Item.wordTok_is _ w) (fun Q hQ => tot_expandword_word hok.2 hQ) ?_
    simp only [Bool.false_eq_true, if_false]
    refine Tot.loop_step ?_
    refine R_reduce Tab.d34 rfl hT.a34 Tab.p53 rfl (by rw [hst]; exact h63) Tab.f53 ?_
    refine act_sce_node ?_
    simp only [Bool.false_eq_true, if_false]
    have hlx : (Elem.tok a (Elem.redir o g2 w)).lexpos = a := ROp.tok_lexpos o a
    have hvs : (Elem.tok a (Elem.redir o g2 w)).valueStr = o.txt := ROp.tok_valueStr o a
    rw [hlx, hvs, Item.wordTok_endlexpos]
    exact hk _ _ _ _ _ hF2
  | nredir n o g2 w =>
    show Tot (engineLoop np (f' + 4) _) _ _ _
    refine Tot.loop_step ?_
    refine R_next Tab.d43 hF fun l1 Tp1 hF1 => ?_
    rw [ROp.tok_sym]
    refine R_shift Tab.d43 rfl o.a43 ?_
    refine Tot.loop_step ?_
    refine R_next o.dn1 hF1 fun l2 Tp2 hF2 => ?_
    rw [Item.tok_sym]
    refine R_shift o.dn1 o.nen1 o.an1w ?_
    refine Tot.loop_step ?_
    refine R_next o.dn2 hF2 fun l3 Tp3 hF3 => ?_
    refine R_reduce o.dn2 o.nen2 (o.redn2 hT) o.npp rfl (by rw [hst]; exact h62) o.nfp ?_
    refine act_redirN (k := digitsToNat n) (Item.wordTok_is _ w) rfl
      (fun Q hQ => tot_expandword_word hok.2.2 hQ) ?_
    simp only [Bool.false_eq_true, if_false]
    refine Tot.loop_step ?_
    refine R_reduce Tab.d34 rfl hT.a34 Tab.p53 rfl (by rw [hst]; exact h63) Tab.f53 ?_
    refine act_sce_node ?_
    simp only [Bool.false_eq_true, if_false]
    have hlx : (Elem.tok a (Elem.nredir n o g2 w)).lexpos = a := rfl
    rw [hlx, ROp.tok_valueStr, Item.wordTok_endlexpos]
    exact hk _ _ _ _ _ hF3

/-- **one element**, its first token in hand in state 13: its other tokens and the token `t` after
    it are fetched; afterwards `simple_command` holds its node too and `t` is in hand -/
theorem elem_stepF (hbase : topState base = b) (hB : BaseW b)
    {el : Elem} {pos : Bool} {ns : List Node} {a : Nat} {l : Local} {Tp : Tape} {f' nl : Nat}
    {cons : List Nat} {tr : Tree} {t : Token} {ts : List Token}
    (hok : el.OK pos) (hT : TermG (symOfTok t)) (hF : Feeds (el.more a ++ t :: ts) l Tp R)
    (hk : ∀ tr' nl' cons' l' Tp', Feeds ts l' Tp' R → Tot (engineLoop np f'
        { stack := ⟨13, tr', .nodes (ns ++ [el.node a])⟩ :: base,
          la := some (symOfTok t, .tok t), nlShifted := nl', consumed := cons' }) l' Tp' P) :
    Tot (engineLoop np (f' + el.cost)
      { stack := ⟨13, tr, .nodes ns⟩ :: base, la := some (el.sym, .tok (el.tok a)),
        nlShifted := nl, consumed := cons }) l Tp P := by
  -- `simple_command → simple_command simple_command_element`, the same for every kind of element
  have hsc : ∀ {tr9 nl9 cons9 l9 Tp9}, Feeds ts l9 Tp9 R → Tot (engineLoop np (f' + 1)
      { stack := ⟨74, tr9, .nodes [el.node a]⟩ :: ⟨13, tr, .nodes ns⟩ :: base,
        la := some (symOfTok t, .tok t), nlShifted := nl9, consumed := cons9 }) l9 Tp9 P := by
    intro tr9 nl9 cons9 l9 Tp9 hF9
    refine Tot.loop_step ?_
    refine R_reduce Tab.d74 rfl hT.w.a74 Tab.p57 rfl (by rw [hbase]; exact hB.g65) Tab.f57 ?_
    refine act_sc2 ?_
    simp only [Bool.false_eq_true, if_false]
    exact hk _ _ _ _ _ hF9
  cases el with
  | simple it =>
    show Tot (engineLoop np (((f' + 1) + 1) + 1) _) _ _ _
    refine Tot.loop_step ?_
    refine R_shift Tab.d13 rfl it.a13 ?_
    refine Tot.loop_step ?_
    refine R_next it.d13 hF fun l1 Tp1 hF1 => ?_
    refine R_reduce it.d13 it.ne13 (it.red13 hT) it.pprod rfl Tab.g13_63 it.fprod ?_
    refine act_item hok ?_
    simp only [Bool.false_eq_true, if_false]
    exact hsc hF1
  | redir o g2 w =>
    show Tot (engineLoop np (((f' + 1) + 3) + 1) _) _ _ _
    refine Tot.loop_step ?_
    refine R_shift Tab.d13 rfl o.a13 ?_
    exact redir_stepsF (el := .redir o g2 w) (st := ⟨13, tr, .nodes ns⟩ :: base) rfl Tab.g13_62 Tab.g13_63
      (fun it h => by cases h) hok hT hF fun _ _ _ _ _ h => hsc h
  | nredir n o g2 w =>
    show Tot (engineLoop np (((f' + 1) + 4) + 1) _) _ _ _
    refine Tot.loop_step ?_
    refine R_shift Tab.d13 rfl Tab.a13N ?_
    exact redir_stepsF (el := .nredir n o g2 w) (st := ⟨13, tr, .nodes ns⟩ :: base) rfl Tab.g13_62 Tab.g13_63
      (fun it h => by cases h) hok hT hF fun _ _ _ _ _ h => hsc h

/-- the tokens still to come after some elements and a token `t` start with a token on which the
    states of a command reduce -/
theorem toksJ_head {t : Token} (hT : TermG (symOfTok t)) (ts : List Token) :
    ∀ (items : List (Str × Elem)) (j : Nat),
      ∃ t' ts', toksJ j items ++ t :: ts = t' :: ts' ∧ TermG (symOfTok t')
  | [], _ => ⟨t, ts, rfl, hT⟩
  | (g, el) :: r, j => ⟨el.tok (j + g.length), _, rfl, by rw [Elem.tok_sym]; exact el.termG⟩

/-- **the elements after the first of a command**: `simple_command` (state 13) holds the nodes `ns`,
    the first of the tokens still to come is in hand -/
theorem itemsF (hbase : topState base = b) (hB : BaseW b) {t : Token} (hT : TermG (symOfTok t))
    {ts : List Token} :
    ∀ (items : List (Str × Elem)) (pos : Bool) (ns : List Node) (j : Nat) (u : Token)
      (us : List Token) (l : Local) (Tp : Tape) (f' nl : Nat) (cons : List Nat) (tr : Tree),
      ItemsJ pos items → toksJ j items ++ t :: ts = u :: us → Feeds us l Tp R →
      (∀ tr' nl' cons' l' Tp', Feeds ts l' Tp' R → Tot (engineLoop np f'
        { stack := ⟨13, tr', .nodes (ns ++ nodesJ j items)⟩ :: base,
          la := some (symOfTok t, .tok t), nlShifted := nl', consumed := cons' }) l' Tp' P) →
      Tot (engineLoop np (f' + icost items)
        { stack := ⟨13, tr, .nodes ns⟩ :: base, la := some (symOfTok u, .tok u),
          nlShifted := nl, consumed := cons }) l Tp P
  | [], _, ns, j, u, us, l, Tp, f', nl, cons, tr, _, hu, hF, hk => by
    cases hu
    simpa [nodesJ, icost] using hk tr nl cons l Tp hF
  | (g, el) :: r, _, ns, j, u, us, l, Tp, f', nl, cons, tr, hi, hu, hF, hk => by
    obtain ⟨_, hok, hr⟩ := hi
    obtain ⟨t', ts', e, hT'⟩ := toksJ_head hT ts r (j + g.length + el.text.length)
    have hu' : el.tok (j + g.length) :: (el.more (j + g.length) ++ t' :: ts') = u :: us := by
      rw [← hu, ← e]; simp [toksJ, Elem.toks]
    cases hu'
    have e3 : f' + icost ((g, el) :: r) = (f' + icost r) + el.cost := by simp only [icost]; omega
    rw [e3, Elem.tok_sym]
    refine elem_stepF hbase hB hok hT' hF fun tr' nl' cons' l' Tp' hF' => ?_
    refine itemsF hbase hB hT r el.after (ns ++ [el.node (j + g.length)]) _ t' ts' l' Tp' _ nl'
      cons' tr' hr e hF' fun tr2 nl2 cons2 l2 Tp2 hF2 => ?_
    simpa [nodesJ, List.append_assoc] using hk tr2 nl2 cons2 l2 Tp2 hF2

end

section
variable {np : NestedParse} {L : Str} {adn : Bool} {P : Res SVal → Local → Tape → Prop}
  {base : Stack SVal} {b ts : Nat} {term : Token} {iT : Nat}

/-- **one element**: its first token in hand in state 13; afterwards `simple_command` holds its
    node too and the next token is in hand -/
theorem elem_step (hbase : topState base = b) (hB : BaseW b) (hlen : L.length + 2 ≤ 1073741824)
    {el : Elem} {pos : Bool} {ns : List Node} {a : Nat} {l : Local} {f' nl : Nat} {cons : List Nat}
    {tr : Tree} {bb : Char} {r' : Str}
    (hok : el.OK pos) (hl : POK l) (hcur : l.currentToken = el.tok a)
    (hLr : L.drop (a + el.tlen) = el.rest ++ bb :: r') (hbb : endChar bb = true)
    (hT : TermG ts) (hts : symOfTok term = ts)
    (hnext : NextTok L adn el.after term (a + el.text.length) iT)
    (hk : ∀ tr' nl' cons' l', POK l' → l'.currentToken = term → Tot (engineLoop np f'
        { stack := ⟨13, tr', .nodes (ns ++ [el.node a])⟩ :: base,
          la := some (ts, .tok term), nlShifted := nl', consumed := cons' }) l' ⟨L, iT, adn⟩ P) :
    Tot (engineLoop np (f' + el.cost)
      { stack := ⟨13, tr, .nodes ns⟩ :: base, la := some (el.sym, .tok (el.tok a)),
        nlShifted := nl, consumed := cons }) l ⟨L, a + el.tlen, adn⟩ P := by
  subst hts
  exact elem_stepF hbase hB hok hT (feeds_more hlen hok hl hcur hLr hbb (.of_nextTok hnext))
    fun tr' nl' cons' l' Tp' ⟨h1, h2, h3⟩ => h3 ▸ hk tr' nl' cons' l' h1 h2

end

/-- what the state under a command does on the first token of the command -/
structure BaseG (b : Nat) : Prop where
  w : BaseW b
  d : Tab.T.dflt b = none
  a24 : Tab.T.action b 24 = some (.shift 29)
  a25 : Tab.T.action b 25 = some (.shift 33)
  a57 : Tab.T.action b 57 = some (.shift 46)
  a56 : Tab.T.action b 56 = some (.shift 47)
  a33 : Tab.T.action b 33 = some (.shift 48)
  g62 : Tab.T.goto b 62 = some 34
  a27 : Tab.T.action b 27 = some (.shift 43)

instance (b : Nat) : Decidable (BaseG b) :=
  decidable_of_iff ((Tab.T.goto b 63 = some 17 ∧ Tab.T.goto b 65 = some 13) ∧ Tab.T.dflt b = none ∧
      Tab.T.action b 24 = some (.shift 29) ∧ Tab.T.action b 25 = some (.shift 33) ∧
      Tab.T.action b 57 = some (.shift 46) ∧ Tab.T.action b 56 = some (.shift 47) ∧
      Tab.T.action b 33 = some (.shift 48) ∧ Tab.T.goto b 62 = some 34 ∧
      Tab.T.action b 27 = some (.shift 43))
    ⟨fun ⟨⟨a, a'⟩, b, c, d, e, f, g, h, i⟩ => ⟨⟨a, a'⟩, b, c, d, e, f, g, h, i⟩,
     fun h => ⟨⟨h.w.g63, h.w.g65⟩, h.d, h.a24, h.a25, h.a57, h.a56, h.a33, h.g62, h.a27⟩⟩

/-- a state from which `simple_command` can start shifts every first token of a command, and in the
    same way: such states share the closure of `simple_command → . simple_command_element`.
    Decided over the states with the goto entry 63 ↦ 17. -/
theorem BaseW.g {b : Nat} (h : BaseW b) : BaseG b :=
  (by decide +kernel : ∀ b ∈ Tab.gotoInto 63 17, Tab.T.goto b 65 = some 13 → BaseG b) b
    (Tab.mem_gotoInto h.g63) h.g65

theorem baseG0 : BaseG 0 := base0.w.g
theorem baseG61 : BaseG 61 := base61.w.g
theorem baseG134 : BaseG 134 := BaseW.g ⟨Tab.g134_63, Tab.g134_65⟩
theorem baseG135 : BaseG 135 := BaseW.g ⟨Tab.g135_63, Tab.g135_65⟩
theorem baseG136 : BaseG 136 := BaseW.g ⟨Tab.g136_63, Tab.g136_65⟩

theorem Item.shiftB (it : Item) {b : Nat} (h : BaseG b) :
    Tab.T.action b it.sym = some (.shift it.shB) := by
  cases it
  · exact h.a24
  · exact h.a25

/-- the states after an operator that takes a `newline_list` (`|`: 64/136, `&&`: 62/134,
    `||`: 63/135) -/
structure NLG (s1 s2 : Nat) : Prop where
  d1 : Tab.T.dflt s1 = none
  n1 : (s1 == 0) = false
  r24 : Tab.T.action s1 24 = some (.reduce 167)
  r25 : Tab.T.action s1 25 = some (.reduce 167)
  r57 : Tab.T.action s1 57 = some (.reduce 167)
  r56 : Tab.T.action s1 56 = some (.reduce 167)
  r33 : Tab.T.action s1 33 = some (.reduce 167)
  r27 : Tab.T.action s1 27 = some (.reduce 167)
  g97 : Tab.T.goto s1 97 = some 81
  g91 : Tab.T.goto s1 91 = some s2
  n2 : (s2 == 0) = false
  base : BaseG s2

theorem nlg64 : NLG 64 136 := ⟨Tab.d64, rfl, Tab.a64w, Tab.a64A, Tab.a64g, Tab.a64l, Tab.a64G, Tab.a64N, Tab.g64_97, Tab.g64_91, rfl, baseG136⟩
theorem nlg62 : NLG 62 134 := ⟨Tab.d62, rfl, Tab.a62w, Tab.a62A, Tab.a62g, Tab.a62l, Tab.a62G, Tab.a62N, Tab.g62_97, Tab.g62_91, rfl, baseG134⟩
theorem nlg63 : NLG 63 135 := ⟨Tab.d63, rfl, Tab.a63w, Tab.a63A, Tab.a63g, Tab.a63l, Tab.a63G, Tab.a63N, Tab.g63_97, Tab.g63_91, rfl, baseG135⟩

theorem Item.r167 (it : Item) {s1 s2 : Nat} (h : NLG s1 s2) :
    Tab.T.action s1 it.sym = some (.reduce 167) := by
  cases it
  · exact h.r24
  · exact h.r25
theorem Item.r146 (it : Item) : Tab.T.action 81 it.sym = some (.reduce 146) := by
  cases it
  · exact Tab.a81w
  · exact Tab.a81A

theorem Elem.shiftB (el : Elem) {b : Nat} (h : BaseG b) :
    Tab.T.action b el.sym = some (.shift el.shB) := by
  cases el with
  | simple it => exact it.shiftB h
  | redir o g2 w =>
    cases o
    · exact h.a57
    · exact h.a56
    · exact h.a33
  | nredir n o g2 w => exact h.a27
theorem Elem.r167 (el : Elem) {s1 s2 : Nat} (h : NLG s1 s2) :
    Tab.T.action s1 el.sym = some (.reduce 167) := by
  cases el with
  | simple it => exact it.r167 h
  | redir o g2 w =>
    cases o
    · exact h.r57
    · exact h.r56
    · exact h.r33
  | nredir n o g2 w => exact h.r27
theorem Elem.r146 (el : Elem) : Tab.T.action 81 el.sym = some (.reduce 146) := by
  cases el with
  | simple it => exact it.r146
  | redir o g2 w =>
    cases o
    · exact Tab.a81g
    · exact Tab.a81l
    · exact Tab.a81G
  | nredir n o g2 w => exact Tab.a81N

section
variable {np : NestedParse} {P : Res SVal → Local → Tape → Prop} {R : Local → Tape → Prop}
  {base : Stack SVal} {b : Nat}

/-- **the first element of a command**, its first token already shifted over the base: its other
    tokens and the token `t` after it are fetched; afterwards `simple_command` (state 13) holds its
    node and `t` is in hand -/
theorem first_stepF (hbase : topState base = b) (hB : BaseG b)
    {el : Elem} {pos : Bool} {a : Nat} {l : Local} {Tp : Tape} {f' nl : Nat} {cons : List Nat}
    {tr : Tree} {t : Token} {ts : List Token}
    (hok : el.OK pos) (hT : TermG (symOfTok t)) (hF : Feeds (el.more a ++ t :: ts) l Tp R)
    (hk : ∀ tr' nl' cons' l' Tp', Feeds ts l' Tp' R → Tot (engineLoop np f'
        { stack := ⟨13, tr', .nodes [el.node a]⟩ :: base,
          la := some (symOfTok t, .tok t), nlShifted := nl', consumed := cons' }) l' Tp' P) :
    Tot (engineLoop np (f' + (el.cost - 1))
      { stack := ⟨el.shB, tr, .tok (el.tok a)⟩ :: base, la := none,
        nlShifted := nl, consumed := cons }) l Tp P := by
  -- `simple_command → simple_command_element`, the same for every kind of element
  have hsc : ∀ {tr9 nl9 cons9 l9 Tp9}, Feeds ts l9 Tp9 R → Tot (engineLoop np (f' + 1)
      { stack := ⟨17, tr9, .nodes [el.node a]⟩ :: base,
        la := some (symOfTok t, .tok t), nlShifted := nl9, consumed := cons9 }) l9 Tp9 P := by
    intro tr9 nl9 cons9 l9 Tp9 hF9
    refine Tot.loop_step ?_
    refine R_reduce Tab.d17 rfl hT.w.a17 Tab.p56 rfl (by rw [hbase]; exact hB.w.g65) Tab.f56 ?_
    refine act_sc1 ?_
    simp only [Bool.false_eq_true, if_false]
    exact hk _ _ _ _ _ hF9
  cases el with
  | simple it =>
    show Tot (engineLoop np ((f' + 1) + 1) _) _ _ _
    refine Tot.loop_step ?_
    refine R_next it.dB hF fun l1 Tp1 hF1 => ?_
    refine R_reduce it.dB it.neB (it.redB hT) it.pprod rfl (by rw [hbase]; exact hB.w.g63) it.fprod ?_
    refine act_item hok ?_
    simp only [Bool.false_eq_true, if_false]
    exact hsc hF1
  | redir o g2 w =>
    show Tot (engineLoop np ((f' + 1) + 3) _) _ _ _
    exact redir_stepsF (el := .redir o g2 w) hbase hB.g62 hB.w.g63 (fun it h => by cases h) hok hT hF
      fun _ _ _ _ _ h => hsc h
  | nredir n o g2 w =>
    show Tot (engineLoop np ((f' + 1) + 4) _) _ _ _
    exact redir_stepsF (el := .nredir n o g2 w) hbase hB.g62 hB.w.g63 (fun it h => by cases h) hok hT hF
      fun _ _ _ _ _ h => hsc h

end

/-! ## general simple commands -/

/-- a first word is no reserved word -/
def Item.nrOK : Item → Prop
  | .word w => reservedFirstCommandChars.lookup w = none
  | .assign _ => True

instance (it : Item) : Decidable it.nrOK := by
  cases it <;> (unfold Item.nrOK; exact inferInstance)

theorem Item.nr_lookup {it : Item} (h1 : it.OK true) (h2 : it.nrOK) :
    reservedFirstCommandChars.lookup it.text = none := by
  cases it with
  | word w => exact h2
  | assign w => exact looks_not_reserved h1.2.2

/-- a simple command with its spelling: leading blanks, first item, (gap, item) pairs, trailing
    blanks -/
def Elem.nrOK : Elem → Prop
  | .simple it => it.nrOK
  | .redir _ _ _ => True
  | .nredir _ _ _ _ => True

instance (el : Elem) : Decidable el.nrOK := by
  cases el <;> (unfold Elem.nrOK; exact inferInstance)

structure GCmd where
  lead : Str
  first : Elem
  items : List (Str × Elem)
  trail : Str

namespace GCmd
def text (c : GCmd) : Str := c.lead ++ c.first.text ++ spellJ c.items ++ c.trail
/-- blanks are blanks; the first item stands in command position (a word there is no reserved
    word and does not look like an assignment); the items are valid in their positions -/
structure OK (c : GCmd) : Prop where
  lead : Blank c.lead
  first : c.first.OK true
  nr : c.first.nrOK
  items : ItemsJ c.first.after c.items
  trail : Blank c.trail

instance (c : GCmd) : Decidable c.OK :=
  decidable_of_iff (Blank c.lead ∧ c.first.OK true ∧ c.first.nrOK ∧
      ItemsJ c.first.after c.items ∧ Blank c.trail)
    ⟨fun ⟨a, b, c', d, e⟩ => ⟨a, b, c', d, e⟩, fun h => ⟨h.lead, h.first, h.nr, h.items, h.trail⟩⟩

/-- the nodes of its items, its text starting at offset `off` -/
def nodes (off : Nat) (c : GCmd) : List Node :=
  c.first.node (off + c.lead.length) ::
    nodesJ (off + c.lead.length + c.first.text.length) c.items
/-- where its last item ends -/
def endPos (off : Nat) (c : GCmd) : Nat := endJ (off + c.lead.length + c.first.text.length) c.items
/-- the command node -/
def node (off : Nat) (c : GCmd) : Node :=
  Node.command (off + c.lead.length, c.endPos off) (c.nodes off)
def cost (c : GCmd) : Nat := icost c.items + (c.first.cost - 3)
end GCmd

/-- the last node of a command's item list is positioned and ends where the items end -/
theorem gnodes_lastE (a : Nat) (el : Elem) : ∀ (items : List (Str × Elem)),
    ∃ nl pl, (el.node a :: nodesJ (a + el.text.length) items).getLast? = some nl ∧
      nodePos nl = pure pl ∧ pl.2 = endJ (a + el.text.length) items := by
  intro items
  induction items generalizing a el with
  | nil => exact ⟨el.node a, (a, a + el.text.length), rfl, Elem.nodePos_node el a, rfl⟩
  | cons git r ih =>
    obtain ⟨g, el'⟩ := git
    obtain ⟨nl, pl, h1, h2, h3⟩ := ih (a + el.text.length + g.length) el'
    exact ⟨nl, pl, by simpa [nodesJ, List.getLast?_cons_cons] using h1, h2, by simpa [endJ] using h3⟩

theorem gnodes_last (a : Nat) (it : Item) (items : List (Str × Elem)) :
    ∃ nl pl, (it.node a :: nodesJ (a + it.text.length) items).getLast? = some nl ∧
      nodePos nl = pure pl ∧ pl.2 = endJ (a + it.text.length) items :=
  gnodes_lastE a (.simple it) items

namespace GCmd
/-- its tokens after the first -/
def more (off : Nat) (c : GCmd) : List Token :=
  c.first.more (off + c.lead.length) ++ toksJ (off + c.lead.length + c.first.text.length) c.items
def toks (off : Nat) (c : GCmd) : List Token := c.first.tok (off + c.lead.length) :: c.more off
end GCmd

section
variable {np : NestedParse} {P : Res SVal → Local → Tape → Prop} {R : Local → Tape → Prop}
  {base : Stack SVal} {b : Nat}

/-- **one general simple command**, its first token already shifted over `base`: its other tokens and
    the token `t` after it are fetched; `k` goes on from `simple_command` (state 13) with `t` in hand -/
theorem g_run13F (hbase : topState base = b) (hB : BaseG b) {t : Token} (hT : TermG (symOfTok t))
    {c : GCmd} {off : Nat} {l : Local} {Tp : Tape} {fuel f' nl : Nat} {cons : List Nat} {tr : Tree}
    {ts : List Token} (hc : c.OK) (hF : Feeds (c.more off ++ t :: ts) l Tp R)
    (hf : fuel = f' + (c.cost + 2))
    (hk : ∀ tr' nl' cons' l' Tp', Feeds ts l' Tp' R → Tot (engineLoop np f'
        { stack := ⟨13, tr', .nodes (c.nodes off)⟩ :: base,
          la := some (symOfTok t, .tok t), nlShifted := nl', consumed := cons' }) l' Tp' P) :
    Tot (engineLoop np fuel
      { stack := ⟨c.first.shB, tr, .tok (c.first.tok (off + c.lead.length))⟩ :: base, la := none,
        nlShifted := nl, consumed := cons }) l Tp P := by
  obtain ⟨t', ts', e, hT'⟩ := toksJ_head hT ts c.items (off + c.lead.length + c.first.text.length)
  have hge := c.first.cost_ge
  have e1 : fuel = (f' + icost c.items) + (c.first.cost - 1) := by rw [hf, GCmd.cost]; omega
  rw [GCmd.more, List.append_assoc, e] at hF
  rw [e1]
  refine first_stepF hbase hB hc.first hT' hF fun tr' nl' cons' l' Tp' hF' => ?_
  exact itemsF hbase hB.w hT c.items c.first.after _ _ t' ts' l' Tp' f' nl' cons' tr' hc.items e hF' hk

end

section
variable {L : Str} {adn : Bool} {R : Local → Tape → Prop}

/-- the tokens of a command after its first, then what follows the command -/
theorem feeds_cmd_more (hlen : L.length + 2 ≤ 1073741824) {Y : Str} {b0 : Char} {r0 : Str}
    (hY : Y = b0 :: r0) (hb0 : endChar b0 = true) {c : GCmd} {off : Nat} {l : Local}
    {ts : List Token} (hc : c.OK) (hl : POK l)
    (hcur : l.currentToken = c.first.tok (off + c.lead.length))
    (hL : L.drop (off + c.lead.length + c.first.tlen) = c.first.rest ++ (spellJ c.items ++ Y))
    (hfol : Follows L adn (afterJ c.first.after c.items) (c.endPos off) ts R) :
    Feeds (c.more off ++ ts) l ⟨L, off + c.lead.length + c.first.tlen, adn⟩ R := by
  obtain ⟨bb, r', hbr, hb⟩ := after_itemJ c.items hc.items hY hb0
  have hLe : L.drop (off + c.lead.length + c.first.text.length) = spellJ c.items ++ Y := by
    have := congrArg (List.drop c.first.rest.length) hL
    rw [List.drop_drop] at this
    rw [Elem.text_len, ← Nat.add_assoc, this]
    simp
  rw [GCmd.more, List.append_assoc]
  exact feeds_more hlen hc.first hl hcur (by rw [hL, hbr]) hb
    (follows_items hlen hY hb0 c.items _ _ hc.items hLe hfol)

end

section
variable {np : NestedParse} {L : Str} {adn : Bool} {P : Res SVal → Local → Tape → Prop}
  {base : Stack SVal} {b g93 ts : Nat} {term : Token} {iT : Nat}

/-- one general simple command, its first token already shifted over `base`, up to its terminator;
    `k` goes on from `simple_command` (state 13) -/
theorem g_run13 (hbase : topState base = b) (hB : BaseG b) (hT : TermG ts)
    (hts : symOfTok term = ts) (hlen : L.length + 2 ≤ 1073741824)
    {R : Str} {b0 : Char} {r0 : Str} (hR : R = b0 :: r0) (hb0 : endChar b0 = true)
    {c : GCmd} {off : Nat} {l : Local} {fuel f' nl : Nat} {cons : List Nat} {tr : Tree}
    (hc : c.OK) (hl : POK l) (hcur : l.currentToken = c.first.tok (off + c.lead.length))
    (hL : L.drop (off + c.lead.length + c.first.tlen) = c.first.rest ++ (spellJ c.items ++ R))
    (hfetch : FetchTerm L adn term (c.endPos off) iT)
    (hf : fuel = f' + (c.cost + 2))
    (hk : ∀ tr' nl' cons' l', POK l' → l'.currentToken = term → Tot (engineLoop np f'
        { stack := ⟨13, tr', .nodes (c.nodes off)⟩ :: base,
          la := some (ts, .tok term), nlShifted := nl', consumed := cons' }) l' ⟨L, iT, adn⟩ P) :
    Tot (engineLoop np fuel
      { stack := ⟨c.first.shB, tr, .tok (c.first.tok (off + c.lead.length))⟩ :: base, la := none,
        nlShifted := nl, consumed := cons }) l
      ⟨L, off + c.lead.length + c.first.tlen, adn⟩ P := by
  subst hts
  refine g_run13F (ts := []) hbase hB hT hc
    (feeds_cmd_more hlen hR hb0 hc hl hcur hL (.term hfetch)) hf ?_
  exact fun tr' nl' cons' l' Tp' ⟨h1, h2, h3⟩ => h3 ▸ hk tr' nl' cons' l' h1 h2

/-- the end of a general command: four reductions up to `simple_list1` -/
theorem g_end {l : Local} {Tp : Tape} (hbase : topState base = b) (hB : BaseOK b g93)
    (hT : TermOK ts) {c : GCmd} {off : Nat} {tr : Tree} {nl : Nat} {cons : List Nat} {fuel f' : Nat}
    (hf : fuel = f' + 4)
    (hk : ∀ tr', Tot (engineLoop np f'
      { stack := ⟨g93, tr', .nodes [c.node off]⟩ :: base,
        la := some (ts, .tok term), nlShifted := nl, consumed := cons }) l Tp P) :
    Tot (engineLoop np fuel
      { stack := ⟨13, tr, .nodes (c.nodes off)⟩ :: base, la := some (ts, .tok term), nlShifted := nl,
        consumed := cons }) l Tp P := by
  obtain ⟨nl', pl, hlast, hpl, hpl2⟩ := gnodes_lastE (off + c.lead.length) c.first c.items
  refine cmd_end (nh := c.first.node (off + c.lead.length)) hbase hB hT rfl hlast
    (Elem.nodePos_node _ _) hpl hf ?_
  rw [hpl2]
  exact hk

end

/-! ## fetching and shifting the first token of a command -/

section
variable {np : NestedParse} {L : Str} {adn : Bool} {l : Local}

/-- the first token of a command, in command position -/
theorem g_first {P : Token → Local → Tape → Prop} {c : GCmd} {off : Nat} {bb : Char} {r' : Str}
    (hc : c.OK) (hl : POK l) (hst : startOK l.currentToken = true)
    (hcurh : histOK l.currentToken = true)
    (hL1 : L.drop off = c.lead ++ c.first.text ++ bb :: r') (hb : endChar bb = true)
    (hlen : L.length + 2 ≤ 1073741824)
    (h : ∀ l'', POK l'' → l''.currentToken = c.first.tok (off + c.lead.length) →
      P (c.first.tok (off + c.lead.length)) l'' ⟨L, off + c.lead.length + c.first.tlen, adn⟩) :
    Tot nextToken l ⟨L, off, adn⟩ P :=
  tot_nextToken_elem hl hc.first
    (start_acc hst (l := shiftH l) ⟨hl.ps.cp, hl.ps.rl, hl.ps.ca⟩) hcurh hb hc.lead hL1 hlen
    (fun it e _ => by
      have h1 := hc.first
      have h2 := hc.nr
      rw [e] at h1 h2
      exact Item.nr_lookup h1 h2) h

variable {P : Cfg SVal ⊕ Res SVal → Local → Tape → Prop} {Tp : Tape}

theorem R_shiftG {st : Stack SVal} {la : Nat × SVal} {t nl : Nat} {cons : List Nat}
    (hd : Tab.T.dflt (topState st) = none) (ha : Tab.T.action (topState st) la.1 = some (.shift t))
    (he : (la.1 == Tab.T.endTok) = false) (hn : (la.1 == Tab.T.nlTok) = false)
    (h : P (.inl { stack := ⟨t, .leaf la.1, la.2⟩ :: st, la := none, nlShifted := nl,
                   consumed := cons ++ [la.1] }) l Tp) :
    Tot (step Tab.T (lrHooks np)
      { stack := st, la := some la, nlShifted := nl, consumed := cons }) l Tp P := by
  rw [step_shiftG (c := { stack := st, la := some la, nlShifted := nl, consumed := cons })
    (la := la) hd rfl he hn ha]
  exact Tot.pure h

end

section
variable {np : NestedParse} {P : Res SVal → Local → Tape → Prop} {R : Local → Tape → Prop}

/-- the first token of a command is fetched and shifted over a base -/
theorem base_firstF {st : Stack SVal} {b : Nat} (hst : topState st = b) (hB : BaseG b) {el : Elem}
    {a : Nat} {ts : List Token} {l : Local} {Tp : Tape} {f nl : Nat} {cons : List Nat}
    (hF : Feeds (el.tok a :: ts) l Tp R)
    (hk : ∀ cons' l' Tp', Feeds ts l' Tp' R → Tot (engineLoop np f
      { stack := ⟨el.shB, .leaf el.sym, .tok (el.tok a)⟩ :: st,
        la := none, nlShifted := nl, consumed := cons' }) l' Tp' P) :
    Tot (engineLoop np (f + 1) { stack := st, la := none, nlShifted := nl, consumed := cons })
      l Tp P := by
  refine Tot.loop_step ?_
  refine R_next' (by rw [hst]; exact hB.d) hF fun l' Tp' hF' => ?_
  rw [Elem.tok_sym]
  refine R_shiftG (by rw [hst]; exact hB.d) (by rw [hst]; exact el.shiftB hB)
    el.sym_ne_end el.sym_ne_nl ?_
  exact hk _ l' Tp' hF'

/-- after an operator that takes a `newline_list`: the first token of the next command is fetched,
    the empty `newline_list` reduced, the token shifted -/
theorem nl_firstF {s1 s2 : Nat} (hN : NLG s1 s2) {t1 : Tree} {v1 : SVal} {rest : Stack SVal}
    {el : Elem} {a : Nat} {ts : List Token} {l : Local} {Tp : Tape} {f nl : Nat} {cons : List Nat}
    (hF : Feeds (el.tok a :: ts) l Tp R)
    (hk : ∀ t2 cons' l' Tp', Feeds ts l' Tp' R → Tot (engineLoop np f
      { stack := ⟨el.shB, .leaf el.sym, .tok (el.tok a)⟩ :: ⟨s2, t2, .none⟩ :: ⟨s1, t1, v1⟩ :: rest,
        la := none, nlShifted := nl, consumed := cons' }) l' Tp' P) :
    Tot (engineLoop np (f + 3)
      { stack := ⟨s1, t1, v1⟩ :: rest, la := none, nlShifted := nl, consumed := cons }) l Tp P := by
  refine Tot.loop_step ?_
  refine R_next hN.d1 hF fun l' Tp' hF' => ?_
  rw [Elem.tok_sym]
  refine R_reduce hN.d1 hN.n1 (el.r167 hN) Tab.p167 rfl hN.g97 Tab.f167 ?_
  refine act_empty ?_
  simp only [Bool.false_eq_true, if_false]
  refine Tot.loop_step ?_
  refine R_reduce Tab.d81 rfl el.r146 Tab.p146 rfl hN.g91 Tab.f146 ?_
  refine act_newline_list ?_
  simp only [Bool.false_eq_true, if_false]
  refine Tot.loop_step ?_
  refine R_shift hN.base.d hN.n2 (el.shiftB hN.base) ?_
  exact hk _ _ l' Tp' hF'

end

/-! ## facts about the text of a general command -/

theorem Item.text_pos {pos : Bool} {it : Item} (h : it.OK pos) : 0 < it.text.length :=
  List.length_pos_iff.mpr (Item.gen h).1

theorem Item.text_head {pos : Bool} {it : Item} (h : it.OK pos) :
    ∃ d r, it.text = d :: r ∧ wordChar d = true := by
  obtain ⟨hne, hp⟩ := Item.gen h
  cases ht : it.text with
  | nil => exact absurd ht hne
  | cons d r => exact ⟨d, r, rfl, hp d (by rw [ht]; exact List.mem_cons_self ..)⟩

theorem Elem.text_head {pos : Bool} {el : Elem} (h : el.OK pos) :
    ∃ d r, el.text = d :: r ∧ d ≠ ';' ∧ d ≠ '&' ∧ d ≠ '\\' ∧ d ≠ '|' := by
  cases el with
  | simple it =>
    obtain ⟨d, r, hd, hw⟩ := Item.text_head h
    exact ⟨d, r, hd, wc_ne' (by decide) hw, wc_ne' (by decide) hw, wc_ne' (by decide) hw,
      wc_ne' (by decide) hw⟩
  | redir o g2 w =>
    cases o
    · exact ⟨'>', g2 ++ w, by simp [Elem.text, ROp.txt], by decide, by decide, by decide, by decide⟩
    · exact ⟨'<', g2 ++ w, by simp [Elem.text, ROp.txt], by decide, by decide, by decide, by decide⟩
    · exact ⟨'>', '>' :: (g2 ++ w), by simp [Elem.text, ROp.txt], by decide, by decide, by decide, by decide⟩
  | nredir n o g2 w =>
    obtain ⟨hne, hp⟩ := h.1
    cases n with
    | nil => exact absurd rfl hne
    | cons d r =>
      have hw : wordChar d = true := by
        have := digit_plain (hp d (List.mem_cons_self ..))
        simp [wordChar, this]
      exact ⟨d, r ++ o.txt ++ g2 ++ w, by simp [Elem.text], wc_ne' (by decide) hw,
        wc_ne' (by decide) hw, wc_ne' (by decide) hw, wc_ne' (by decide) hw⟩

theorem GCmd.text_head {c : GCmd} (hc : c.OK) :
    ∃ d r, c.text = d :: r ∧ d ≠ ';' ∧ d ≠ '&' ∧ d ≠ '\\' ∧ d ≠ '|' := by
  unfold GCmd.text
  cases hl : c.lead with
  | nil =>
    obtain ⟨d, r, hd, h1, h2, h3, h4⟩ := Elem.text_head hc.first
    exact ⟨d, r ++ (spellJ c.items ++ c.trail), by simp [hd], h1, h2, h3, h4⟩
  | cons d r =>
    have hd : shellblank d = true := hc.lead d (by rw [hl]; exact List.mem_cons_self ..)
    refine ⟨d, r ++ (c.first.text ++ (spellJ c.items ++ c.trail)), by simp, ?_, ?_, blank_ne_bs hd, ?_⟩
    · intro h; subst h; revert hd; decide
    · intro h; subst h; revert hd; decide
    · intro h; subst h; revert hd; decide

theorem GCmd.endPos_trail (c : GCmd) (off : Nat) :
    c.endPos off + c.trail.length = off + c.text.length := by
  simp only [GCmd.endPos, endJ_eq, GCmd.text, List.length_append]
  omega

theorem GCmd.endPos_shift (c : GCmd) (k off : Nat) : c.endPos (off + k) = c.endPos off + k := by
  unfold GCmd.endPos
  rw [endJ_eq, endJ_eq]; omega

theorem GCmd.drop_text {L : Str} {c : GCmd} {X : Str} {off : Nat} (h : L.drop off = c.text ++ X) :
    L.drop (off + c.lead.length + c.first.tlen) =
      c.first.rest ++ (spellJ c.items ++ (c.trail ++ X)) :=
  drop_into (p := off) (g := c.lead) (el' := c.first) (by rw [h]; simp [GCmd.text])

theorem GCmd.drop_text_end {L : Str} {c : GCmd} {X : Str} {off : Nat} (h : L.drop off = c.text ++ X) :
    L.drop (c.endPos off) = c.trail ++ X := by
  have := congrArg (List.drop (c.lead.length + c.first.text.length + (spellJ c.items).length)) h
  rw [List.drop_drop] at this
  have e : c.endPos off = off + (c.lead.length + c.first.text.length + (spellJ c.items).length) := by
    simp only [GCmd.endPos, endJ_eq]; omega
  rw [e, this]
  have : c.text ++ X = (c.lead ++ c.first.text ++ spellJ c.items) ++ (c.trail ++ X) := by
    simp [GCmd.text]
  rw [this]
  exact List.drop_left' (by simp; omega)

theorem wc_ne_nl {c : Char} (h : wordChar c = true) : c ≠ '\n' := wc_ne' (by decide) h

theorem Elem.text_noNL {pos : Bool} {el : Elem} (h : el.OK pos) : ∀ c ∈ el.text, c ≠ '\n' := by
  intro c hc
  cases el with
  | simple it => exact wc_ne_nl ((Item.gen h).2 c hc)
  | redir o g2 w =>
    simp only [Elem.text, List.mem_append] at hc
    rcases hc with (hc | hc) | hc
    · intro hn; subst hn; cases o <;> simp [ROp.txt] at hc
    · intro hn; subst hn
      have := h.1 _ hc
      revert this; decide
    · exact wc_ne_nl (h.2.2 c hc)
  | nredir n o g2 w =>
    simp only [Elem.text, List.mem_append] at hc
    rcases hc with ((hc | hc) | hc) | hc
    · have := digit_plain (h.1.2 c hc)
      exact plain_ne' (by decide) this
    · intro hn; subst hn; cases o <;> simp [ROp.txt] at hc
    · intro hn; subst hn
      have := h.2.1 _ hc
      revert this; decide
    · exact wc_ne_nl (h.2.2.2 c hc)

theorem spellJ_noNL : ∀ (items : List (Str × Elem)) (pos : Bool), ItemsJ pos items →
    ∀ c ∈ spellJ items, c ≠ '\n'
  | [], _, _ => fun c hc => by cases hc
  | (g, it) :: r, _, hi => by
    intro c hc
    simp only [spellJ, List.mem_append] at hc
    rcases hc with (hc | hc) | hc
    · intro h; subst h
      have := hi.1.2 _ hc
      revert this; decide
    · exact Elem.text_noNL hi.2.1 c hc
    · exact spellJ_noNL r _ hi.2.2 c hc

theorem GCmd.text_noNL {c : GCmd} (hc : c.OK) : ∀ x ∈ c.text, x ≠ '\n' := by
  intro x hx
  simp only [GCmd.text, List.mem_append] at hx
  rcases hx with ((hx | hx) | hx) | hx
  · intro h; subst h
    have := hc.lead _ hx
    revert this; decide
  · exact Elem.text_noNL hc.first x hx
  · exact spellJ_noNL c.items _ hc.items x hx
  · intro h; subst h
    have := hc.trail _ hx
    revert this; decide

theorem Elem.cost_le {pos : Bool} {el : Elem} (h : el.OK pos) : el.cost + 1 ≤ 3 * el.text.length + 1 ∧
    el.cost ≤ 3 + 3 * el.text.length - 1 := by
  cases el with
  | simple it =>
    have := Elem.text_pos (el := .simple it) h
    simp only [Elem.cost, Elem.text] at *; omega
  | redir o g2 w =>
    have h1 := o.txt_pos
    have h2 : 0 < w.length := List.length_pos_iff.mpr h.2.1
    simp only [Elem.cost, Elem.text, List.length_append]; omega
  | nredir n o g2 w =>
    have h1 := o.txt_pos
    have h2 : 0 < w.length := List.length_pos_iff.mpr h.2.2.1
    have h3 : 0 < n.length := List.length_pos_iff.mpr h.1.1
    simp only [Elem.cost, Elem.text, List.length_append]; omega

theorem icost_le : ∀ (items : List (Str × Elem)) (pos : Bool), ItemsJ pos items →
    icost items ≤ 3 * (spellJ items).length
  | [], _, _ => Nat.le_refl _
  | (g, it) :: r, _, hi => by
    have ih := icost_le r _ hi.2.2
    have h1 := (Elem.cost_le hi.2.1).2
    have hg : 0 < g.length := List.length_pos_iff.mpr hi.1.1
    simp only [icost, spellJ, List.length_append]
    omega

theorem GCmd.cost_le {c : GCmd} (hc : c.OK) : c.cost + 3 ≤ 3 * c.text.length := by
  have h1 := icost_le c.items _ hc.items
  have h2 := (Elem.cost_le hc.first).1
  have h3 := c.first.cost_ge
  simp only [GCmd.cost, GCmd.text, List.length_append]
  omega

theorem GCmd.text_pos {c : GCmd} (hc : c.OK) : 0 < c.text.length := by
  have h2 := Elem.text_pos hc.first
  simp only [GCmd.text, List.length_append]; omega

/-! ## the first token of a command; a whole command -/

section
variable {np : NestedParse} {L : Str} {adn : Bool} {P : Res SVal → Local → Tape → Prop}
  {R : Local → Tape → Prop}

/-- the state right after the first token of the command `c` was delivered -/
def AtFirst (L : Str) (adn : Bool) (c : GCmd) (off : Nat) (l : Local) (Tp : Tape) : Prop :=
  POK l ∧ l.currentToken = c.first.tok (off + c.lead.length) ∧
    Tp = ⟨L, off + c.lead.length + c.first.tlen, adn⟩

theorem feeds_first {l : Local} {c : GCmd} {off : Nat} {bb : Char} {r' : Str}
    (hc : c.OK) (hl : POK l) (hso : startOK l.currentToken = true)
    (hcurh : histOK l.currentToken = true)
    (hL1 : L.drop off = c.lead ++ c.first.text ++ bb :: r') (hb : endChar bb = true)
    (hlen : L.length + 2 ≤ 1073741824) :
    Feeds [c.first.tok (off + c.lead.length)] l ⟨L, off, adn⟩ (AtFirst L adn c off) :=
  fun _ hQ => g_first hc hl hso hcurh hL1 hb hlen fun l'' h1 h2 => hQ l'' _ ⟨h1, h2, rfl⟩

/-- a command in command position, then what follows it -/
theorem feeds_cmd (hlen : L.length + 2 ≤ 1073741824) {c : GCmd} {off : Nat} {l : Local} {Y : Str}
    {b0 : Char} {r0 : Str} {ts : List Token} (hc : c.OK) (hl : POK l)
    (hso : startOK l.currentToken = true) (hcurh : histOK l.currentToken = true)
    (hL : L.drop off = c.text ++ Y) (hY : c.trail ++ Y = b0 :: r0) (hb0 : endChar b0 = true)
    (hfol : ∀ aft, Follows L adn aft (c.endPos off) ts R) :
    Feeds (c.toks off ++ ts) l ⟨L, off, adn⟩ R := by
  obtain ⟨bb, r', hbr, hb⟩ := after_itemJ c.items hc.items hY hb0
  have hL1 : L.drop off = c.lead ++ c.first.text ++ bb :: r' := by
    rw [hL, ← hbr]; simp [GCmd.text]
  exact Feeds.append (xs := [_]) <| (feeds_first hc hl hso hcurh hL1 hb hlen).mono
    fun _ _ ⟨h1, h2, h3⟩ => h3 ▸ feeds_cmd_more hlen hY hb0 hc h1 h2 (GCmd.drop_text hL) (hfol _)

/-- fetch and shift the first token of a command over a base -/
theorem base_first {st : Stack SVal} {b : Nat} (hst : topState st = b) (hB : BaseG b) {c : GCmd}
    {off : Nat} {bb : Char} {r' : Str} {l : Local} {f nl : Nat} {cons : List Nat}
    (hc : c.OK) (hl : POK l) (hso : startOK l.currentToken = true)
    (hcurh : histOK l.currentToken = true)
    (hL1 : L.drop off = c.lead ++ c.first.text ++ bb :: r') (hb : endChar bb = true)
    (hlen : L.length + 2 ≤ 1073741824)
    (hk : ∀ cons' l', POK l' → l'.currentToken = c.first.tok (off + c.lead.length) →
      Tot (engineLoop np f
      { stack := ⟨c.first.shB, .leaf c.first.sym, .tok (c.first.tok (off + c.lead.length))⟩ :: st,
        la := none, nlShifted := nl, consumed := cons' }) l'
      ⟨L, off + c.lead.length + c.first.tlen, adn⟩ P) :
    Tot (engineLoop np (f + 1) { stack := st, la := none, nlShifted := nl, consumed := cons })
      l ⟨L, off, adn⟩ P :=
  base_firstF hst hB (feeds_first hc hl hso hcurh hL1 hb hlen)
    fun cons' l' _ ⟨h1, h2, h3⟩ => h3 ▸ hk cons' l' h1 h2

/-- after an operator that takes a `newline_list`: fetch the first token of the next command,
    reduce the empty `newline_list`, shift the token -/
theorem nl_first {s1 s2 : Nat} (hN : NLG s1 s2) {t1 : Tree} {v1 : SVal} {rest : Stack SVal}
    {c : GCmd} {off : Nat} {bb : Char} {r' : Str} {l : Local} {f nl : Nat} {cons : List Nat}
    (hc : c.OK) (hl : POK l) (hso : startOK l.currentToken = true)
    (hcurh : histOK l.currentToken = true)
    (hL1 : L.drop off = c.lead ++ c.first.text ++ bb :: r') (hb : endChar bb = true)
    (hlen : L.length + 2 ≤ 1073741824)
    (hk : ∀ t2 cons' l', POK l' → l'.currentToken = c.first.tok (off + c.lead.length) →
      Tot (engineLoop np f
      { stack := ⟨c.first.shB, .leaf c.first.sym, .tok (c.first.tok (off + c.lead.length))⟩ ::
          ⟨s2, t2, .none⟩ :: ⟨s1, t1, v1⟩ :: rest,
        la := none, nlShifted := nl, consumed := cons' }) l'
      ⟨L, off + c.lead.length + c.first.tlen, adn⟩ P) :
    Tot (engineLoop np (f + 3)
      { stack := ⟨s1, t1, v1⟩ :: rest, la := none, nlShifted := nl, consumed := cons })
      l ⟨L, off, adn⟩ P :=
  nl_firstF hN (feeds_first hc hl hso hcurh hL1 hb hlen)
    fun t2 cons' l' _ ⟨h1, h2, h3⟩ => h3 ▸ hk t2 cons' l' h1 h2

end

end Bashlex.C02
