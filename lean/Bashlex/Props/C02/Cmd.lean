/-
  C02 (round trip): one simple command in the middle of the engine's run — over any base
  stack whose top state is 0 (start of the line) or 61 (after `simple_list1 ;`), up to any
  terminator token (`;` or NEWLINE), in continuation-passing form: what the run needs of the state
  under it (`BaseOK`) and of the terminator (`TermOK`), the end of a command up to `pipeline`
  (`cmd_to_pipe`; `cmd_end`, up to `simple_list1`, is in PipeE.lean), the rule for fetching the
  terminator (`FetchTerm`).  The run itself (`cmd_run`) is in ToG.lean.
-/
import Bashlex.Props.C02.Run
import Bashlex.Props.C02.TokOp
import Bashlex.Props.C02.TokG

namespace Bashlex.C02
open Bashlex Bashlex.M Bashlex.LR
set_option linter.unusedSimpArgs false

/-- what the run of a simple command needs of the state under it -/
structure BaseOK (b g93 : Nat) : Prop where
  g63 : Tab.T.goto b 63 = some 17
  g65 : Tab.T.goto b 65 = some 13
  g66 : Tab.T.goto b 66 = some 11
  g95 : Tab.T.goto b 95 = some 8
  g94 : Tab.T.goto b 94 = some 7
  g93 : Tab.T.goto b 93 = some g93

/-- the word-level part -/
structure BaseW (b : Nat) : Prop where
  g63 : Tab.T.goto b 63 = some 17
  g65 : Tab.T.goto b 65 = some 13

theorem BaseOK.w {b g93 : Nat} (h : BaseOK b g93) : BaseW b := ⟨h.g63, h.g65⟩

theorem base0 : BaseOK 0 6 := ⟨Tab.g0_63, Tab.g0_65, Tab.g0_66, Tab.g0_95, Tab.g0_94, Tab.g0_93⟩
theorem base61 : BaseOK 61 133 :=
  ⟨Tab.g61_63, Tab.g61_65, Tab.g61_66, Tab.g61_95, Tab.g61_94, Tab.g61_93⟩

/-- what it needs of the terminal that ends it -/
structure TermOK (ts : Nat) : Prop where
  a29 : Tab.T.action 29 ts = some (.reduce 51)
  a17 : Tab.T.action 17 ts = some (.reduce 56)
  a75 : Tab.T.action 75 ts = some (.reduce 51)
  a74 : Tab.T.action 74 ts = some (.reduce 57)
  a13 : Tab.T.action 13 ts = some (.reduce 58)
  a11 : Tab.T.action 11 ts = some (.reduce 163)
  a8 : Tab.T.action 8 ts = some (.reduce 156)
  a7 : Tab.T.action 7 ts = some (.reduce 155)

/-- the word-level part: what the states 29, 17, 75, 74 do on the terminator -/
structure TermW (ts : Nat) : Prop where
  a29 : Tab.T.action 29 ts = some (.reduce 51)
  a17 : Tab.T.action 17 ts = some (.reduce 56)
  a75 : Tab.T.action 75 ts = some (.reduce 51)
  a74 : Tab.T.action 74 ts = some (.reduce 57)

theorem TermOK.w {ts : Nat} (h : TermOK ts) : TermW ts := ⟨h.a29, h.a17, h.a75, h.a74⟩

theorem termNL : TermOK 55 :=
  ⟨Tab.a29n, Tab.a17n, Tab.a75n, Tab.a74n, Tab.a13n, Tab.a11n, Tab.a8n, Tab.a7n⟩
theorem termSEMI : TermOK 53 :=
  ⟨Tab.a29s, Tab.a17s, Tab.a75s, Tab.a74s, Tab.a13s, Tab.a11s, Tab.a8s, Tab.a7s⟩
theorem termWORD : Tab.T.action 29 24 = some (.reduce 51) ∧ Tab.T.action 17 24 = some (.reduce 56) ∧
    Tab.T.action 75 24 = some (.reduce 51) ∧ Tab.T.action 74 24 = some (.reduce 57) :=
  ⟨Tab.a29w, Tab.a17w, Tab.a75w, Tab.a74w⟩

section
variable {np : NestedParse} {L : Str} {adn : Bool} {P : Res SVal → Local → Tape → Prop}
  {base : Stack SVal} {b g93 ts : Nat} {term : Token} {iT : Nat}

/-- the end of a command: `simple_command` on the stack (its nodes `ns`, the first and the last of
    them positioned), a token in hand on which `command` and `pipeline` are reduced — two reductions
    up to `pipeline` -/
theorem cmd_to_pipe {l : Local} {Tp : Tape} (hbase : topState base = b) {s95 : Nat}
    (h13 : Tab.T.action 13 ts = some (.reduce 58)) (h11 : Tab.T.action 11 ts = some (.reduce 163))
    (g66 : Tab.T.goto b 66 = some 11) (g95 : Tab.T.goto b 95 = some s95)
    {ns : List Node} {nh nl : Node} {ph pl : Span} {tr : Tree} {n0 : Nat} {cons : List Nat} {f : Nat}
    (hh : ns.head? = some nh) (hl : ns.getLast? = some nl) (hph : nodePos nh = pure ph)
    (hpl : nodePos nl = pure pl)
    (hk : ∀ tr', Tot (engineLoop np f
      { stack := ⟨s95, tr', .nodes [Node.command (ph.1, pl.2) ns]⟩ :: base,
        la := some (ts, .tok term), nlShifted := n0, consumed := cons }) l Tp P) :
    Tot (engineLoop np (f + 2)
      { stack := ⟨13, tr, .nodes ns⟩ :: base, la := some (ts, .tok term), nlShifted := n0,
        consumed := cons }) l Tp P := by
  refine Tot.loop_step ?_
  refine R_reduce Tab.d13 rfl h13 Tab.p58 rfl (by rw [hbase]; exact g66) Tab.f58 ?_
  refine act_commandG hh hl hph hpl ?_
  simp only [Bool.false_eq_true, if_false]
  refine Tot.loop_step ?_
  refine R_reduce Tab.d11 rfl h11 Tab.p163 rfl (by rw [hbase]; exact g95) Tab.f163 ?_
  refine act_pipeline1 ?_
  simp only [Bool.false_eq_true, if_false]
  exact hk _

theorem POK.afterNL {l : Local} (h : POK l) (hc : histOK l.currentToken = true) (t : Token) :
    POK (afterNL l t) :=
  ⟨h.wok.afterNL t, h.cs, hc, h.dp, ⟨h.ps.cp, h.ps.rl, h.ps.ca⟩⟩

/-- the tokenizer delivers the terminator `term` after the last word of the command -/
def FetchTerm (L : Str) (adn : Bool) (term : Token) (iE iT : Nat) : Prop :=
  ∀ (l0 : Local) (Q : Token → Local → Tape → Prop), POK l0 → histOK l0.currentToken = true →
    (∀ l'', POK l'' → l''.currentToken = term → Q term l'' ⟨L, iT, adn⟩) →
    Tot nextToken l0 ⟨L, iE, adn⟩ Q

theorem after_word' (rest : List (Str × Str)) {R : Str} {b0 : Char} {r0 : Str} (hi : ItemsOK rest)
    (hR : R = b0 :: r0) (hb0 : endChar b0 = true) :
    ∃ b r, spellI rest ++ R = b :: r ∧ endChar b = true := by
  cases rest with
  | nil => exact ⟨b0, r0, by simp [spellI, hR], hb0⟩
  | cons it r =>
    obtain ⟨g, w⟩ := it
    have := (hi (g, w) (List.mem_cons_self ..)).1
    cases g with
    | nil => exact absurd rfl this.1
    | cons y g' =>
      exact ⟨y, g' ++ w ++ spellI r ++ R, by simp [spellI],
        blank_endChar (this.2 y (List.mem_cons_self ..))⟩

theorem nodesI_last (w : Node) : ∀ (items : List (Str × Str)) (off : Nat),
    ∃ p2 s2, (w :: nodesI off items).getLast? = some (Node.word p2 s2 []) ∨
      (items = [] ∧ (w :: nodesI off items).getLast? = some w)
  | [], off => ⟨(0, 0), [], Or.inr ⟨rfl, rfl⟩⟩
  | (g, x) :: r, off => by
    obtain ⟨p2, s2, h | ⟨hr, h⟩⟩ := nodesI_last
      (Node.word (off + g.length, off + g.length + x.length) x []) r (off + g.length + x.length)
    · exact ⟨p2, s2, Or.inl (by simpa [nodesI, List.getLast?_cons_cons] using h)⟩
    · exact ⟨_, _, Or.inl (by simpa [nodesI, List.getLast?_cons_cons] using h)⟩

/-- the last node of a command's word list is a word ending where the items end -/
theorem words_last (a i : Nat) (w1 : Str) : ∀ (items : List (Str × Str)),
    ∃ p2 s2, (Node.word (a, i) w1 [] :: nodesI i items).getLast? = some (Node.word p2 s2 []) ∧
      p2.2 = endI i items := by
  intro items
  induction items generalizing a i w1 with
  | nil => exact ⟨(a, i), w1, rfl, rfl⟩
  | cons it r ih =>
    obtain ⟨g, x⟩ := it
    obtain ⟨p2, s2, h1, h2⟩ := ih (i + g.length) (i + g.length + x.length) x
    exact ⟨p2, s2, by simpa [nodesI, List.getLast?_cons_cons] using h1, by simpa [endI] using h2⟩

end

end Bashlex.C02
