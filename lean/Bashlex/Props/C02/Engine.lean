/-
  C02 (round trip): the LR engine, one step at a time, as total-correctness rules.
-/
import Bashlex.Props.C02.Tot
import Bashlex.Props.C02.Tables

namespace Bashlex.C02
open Bashlex Bashlex.M Bashlex.LR
set_option linter.unusedSimpArgs false

variable {V : Type} {T : Tables} {H : Hooks V} {l : Local} {Tp : Tape}

/-- a reduction -/
theorem tot_doReduce {c : Cfg V} {p lhs : Nat} {rhs : List Nat} {es : List (Entry V)}
    {rest : Stack V} {t : Nat} {P : Cfg V ⊕ Res V → Local → Tape → Prop}
    (hp : T.prods[p]? = some (lhs, rhs)) (hpop : popN rhs.length c.stack = some (es, rest))
    (hg : T.goto (topState rest) lhs = some t)
    (h : Tot (H.act p (es.map (·.val))) l Tp (fun r l' T' =>
      if r.2 = true then
        P (.inr (.accepted r.1 (Tree.node p lhs (es.map (·.tree))) c.consumed false)) l' T'
      else P (.inl { c with stack := { state := t, tree := Tree.node p lhs (es.map (·.tree)), val := r.1 } :: rest }) l' T')) :
    Tot (doReduce T H c p) l Tp P := by
  unfold doReduce
  simp only [hp, hpop]
  refine Tot.bind (h.mono ?_)
  intro r l' T' hr
  obtain ⟨v, acc⟩ := r
  simp only [hg]
  cases acc with
  | true => simp only [if_true] at hr ⊢; exact Tot.pure hr
  | false => simp only [Bool.false_eq_true, if_false] at hr ⊢; exact Tot.pure hr

/-- a defaulted state reduces without looking at the input -/
theorem step_dflt {c : Cfg V} {p : Nat} (hd : T.dflt (topState c.stack) = some p) :
    step T H c = doReduce T H c p := by
  unfold step
  simp only [hd]

/-- a state that needs the look-ahead fetches it -/
theorem step_fetch {c : Cfg V} (hd : T.dflt (topState c.stack) = none) (hla : c.la = none) :
    step T H c = H.next >>= fun la => step T H { c with la := some la } := by
  unfold step
  simp only [hd, hla, pure_bind]

/-- with the look-ahead in hand, outside state 0: shift -/
theorem step_shift {c : Cfg V} {la : Nat × V} {t : Nat} (hd : T.dflt (topState c.stack) = none)
    (hla : c.la = some la) (h0 : (topState c.stack == 0) = false)
    (ha : T.action (topState c.stack) la.1 = some (.shift t)) :
    step T H c = pure (.inl { c with la := none, stack := { state := t, tree := .leaf la.1, val := la.2 } :: c.stack, consumed := c.consumed ++ [la.1] }) := by
  unfold step
  simp only [hd, hla, pure_bind, h0, Bool.false_and, Bool.false_eq_true, if_false, ha]

/-- with the look-ahead in hand, outside state 0: reduce -/
theorem step_reduce {c : Cfg V} {la : Nat × V} {p : Nat} (hd : T.dflt (topState c.stack) = none)
    (hla : c.la = some la) (h0 : (topState c.stack == 0) = false)
    (ha : T.action (topState c.stack) la.1 = some (.reduce p)) :
    step T H c = doReduce T H { c with la := some la } p := by
  unfold step
  simp only [hd, hla, pure_bind, h0, Bool.false_and, Bool.false_eq_true, if_false, ha]

/-- state 0 with a look-ahead that is neither `$end` nor NEWLINE: shift -/
theorem step_shift0 {c : Cfg V} {la : Nat × V} {t : Nat} (hs : c.stack = [])
    (hd : T.dflt 0 = none) (hla : c.la = some la) (he : (la.1 == T.endTok) = false)
    (hn : (la.1 == T.nlTok) = false) (ha : T.action 0 la.1 = some (.shift t)) :
    step T H c = pure (.inl { c with la := none, stack := [{ state := t, tree := .leaf la.1, val := la.2 }], consumed := c.consumed ++ [la.1] }) := by
  unfold step
  simp only [hs, topState, hd, hla, pure_bind, he, hn, Bool.false_and, Bool.and_false,
    Bool.false_eq_true, if_false, ha]

/-- state 0, NEWLINE in hand: counted, not pushed -/
theorem step_nl0 {c : Cfg V} {la : Nat × V} {t : Nat} (hs : c.stack = [])
    (hd : T.dflt 0 = none) (hla : c.la = some la) (he : (la.1 == T.endTok) = false)
    (hn : (la.1 == T.nlTok) = true) (ha : T.action 0 la.1 = some (.shift t)) :
    step T H c = pure (.inl { c with la := none, nlShifted := c.nlShifted + 1, consumed := c.consumed ++ [la.1] }) := by
  unfold step
  simp only [hs, topState, hd, hla, pure_bind, he, hn, Bool.false_and, Bool.and_false,
    Bool.false_eq_true, if_false, ha, beq_self_eq_true, Bool.true_and, if_true]

/-- state 0, `$end` in hand, nothing on the stack: the all-newline return -/
theorem step_blank0 {c : Cfg V} {la : Nat × V} (hs : c.stack = [])
    (hd : T.dflt 0 = none) (hla : c.la = some la) (he : (la.1 == T.endTok) = true) :
    step T H c = pure (.inr (.blank c.nlShifted c.consumed)) := by
  unfold step
  simp only [hs, topState, hd, hla, pure_bind, he, beq_self_eq_true, Bool.true_and, List.all_nil,
    if_true]

/-- with a look-ahead that is neither `$end` nor NEWLINE in hand, in any state: shift -/
theorem step_shiftG {c : Cfg V} {la : Nat × V} {t : Nat} (hd : T.dflt (topState c.stack) = none)
    (hla : c.la = some la) (he : (la.1 == T.endTok) = false) (hn : (la.1 == T.nlTok) = false)
    (ha : T.action (topState c.stack) la.1 = some (.shift t)) :
    step T H c = pure (.inl { c with la := none, stack := { state := t, tree := .leaf la.1, val := la.2 } :: c.stack, consumed := c.consumed ++ [la.1] }) := by
  unfold step
  simp only [hd, hla, pure_bind, he, hn, Bool.false_and, Bool.and_false, Bool.false_eq_true,
    if_false, ha]

end Bashlex.C02
