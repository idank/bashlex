/-
  C02 (round trip): `posshifter` on the ASTs of general commands, their pipelines and lists.
-/
import Bashlex.Props.C02.PGGlue

namespace Bashlex.C02
open Bashlex
set_option linter.unusedSimpArgs false

theorem Item.node_shift (it : Item) (k a : Nat) :
    Node.mapPos (sh k) (it.node a) = it.node (a + k) := by
  have e : a + it.text.length + k = a + k + it.text.length := by omega
  cases it <;> simp only [Item.node, Node.mapPos, Node.mapPosL, sh, Item.text] at * <;> rw [e]

theorem Elem.node_shift (el : Elem) (k a : Nat) :
    Node.mapPos (sh k) (el.node a) = el.node (a + k) := by
  cases el with
  | simple it => exact Item.node_shift it k a
  | redir o g2 w =>
    have e1 : a + o.txt.length + g2.length + w.length + k = a + k + o.txt.length + g2.length + w.length := by
      omega
    have e2 : a + o.txt.length + g2.length + k = a + k + o.txt.length + g2.length := by omega
    simp only [Elem.node, Node.mapPos, Node.mapPosO, Node.mapPosL, sh, e1, e2]
  | nredir n o g2 w =>
    have e1 : a + n.length + o.txt.length + g2.length + w.length + k =
        a + k + n.length + o.txt.length + g2.length + w.length := by omega
    have e2 : a + n.length + o.txt.length + g2.length + k = a + k + n.length + o.txt.length + g2.length := by
      omega
    simp only [Elem.node, Node.mapPos, Node.mapPosO, Node.mapPosL, sh, e1, e2]

theorem nodesJ_shift (k : Nat) : ∀ (items : List (Str × Elem)) (off : Nat),
    Node.mapPosL (sh k) (nodesJ off items) = nodesJ (off + k) items
  | [], _ => by simp [nodesJ, Node.mapPosL]
  | (g, it) :: r, off => by
    have ih := nodesJ_shift k r (off + g.length + it.text.length)
    have e1 : off + g.length + it.text.length + k = off + k + g.length + it.text.length := by omega
    have e2 : off + g.length + k = off + k + g.length := by omega
    simp only [nodesJ, Node.mapPosL, Elem.node_shift, ih, e1, e2]

theorem GCmd.node_shift (c : GCmd) (k off : Nat) : (c.node off).shift k = c.node (off + k) := by
  have ih := nodesJ_shift k c.items (off + c.lead.length + c.first.text.length)
  have e1 : off + c.lead.length + c.first.text.length + k =
      off + k + c.lead.length + c.first.text.length := by omega
  have e2 : off + c.lead.length + k = off + k + c.lead.length := by omega
  simp only [Node.shift, GCmd.node, GCmd.nodes, Node.mapPos, Node.mapPosL, Elem.node_shift, ih, e1, e2,
    GCmd.endPos_shift, sh]

theorem gprestNodes_shift (k : Nat) : ∀ (cs : List GCmd) (a : Nat),
    Node.mapPosL (sh k) (gprestNodes a cs) = gprestNodes (a + k) cs
  | [], _ => by simp [gprestNodes, Node.mapPosL]
  | c :: cs, a => by
    have ih := gprestNodes_shift k cs (a + 1 + c.text.length)
    have hc := GCmd.node_shift c k (a + 1)
    have e1 : a + 1 + c.text.length + k = a + k + 1 + c.text.length := by omega
    have e2 : a + 1 + k = a + k + 1 := by omega
    simp only [Node.shift] at hc
    simp only [gprestNodes, Node.mapPosL, Node.mapPos, sh, hc, ih, e1, e2]

theorem GPE.endPos_shift (e : GPE) (k off : Nat) : e.endPos (off + k) = e.endPos off + k := by
  unfold GPE.endPos
  have := glastEnd_shift k e.cs (e.c1.endPos off) (off + e.c1.text.length)
  have e1 : off + k + e.c1.text.length = off + e.c1.text.length + k := by omega
  rw [e1, GCmd.endPos_shift, this]

theorem GPE.node_shift (e : GPE) (k off : Nat) : (e.node off).shift k = e.node (off + k) := by
  have hc := GCmd.node_shift e.c1 k off
  simp only [Node.shift] at hc
  have hr := gprestNodes_shift k e.cs (off + e.c1.text.length)
  have e1 : off + e.c1.text.length + k = off + k + e.c1.text.length := by omega
  have e2 : off + e.c1.lead.length + k = off + k + e.c1.lead.length := by omega
  unfold GPE.node
  rw [mkPipe_shift]
  simp only [Node.mapPosL, hc, hr, GPE.endPos_shift, e1, e2]

theorem hrestNodes_shift (k : Nat) : ∀ (es : List (Op × GPE)) (a : Nat),
    Node.mapPosL (sh k) (hrestNodes a es) = hrestNodes (a + k) es
  | [], _ => by simp [hrestNodes, Node.mapPosL]
  | (o, e) :: es, a => by
    have ih := hrestNodes_shift k es (a + o.txt.length + e.text.length)
    have hc := GPE.node_shift e k (a + o.txt.length)
    have e1 : a + o.txt.length + e.text.length + k = a + k + o.txt.length + e.text.length := by omega
    have e2 : a + o.txt.length + k = a + k + o.txt.length := by omega
    simp only [Node.shift] at hc
    simp only [hrestNodes, Node.mapPosL, Node.mapPos, sh, hc, ih, e1, e2]

theorem hlastEnd_shift (k : Nat) : ∀ (es : List (Op × GPE)) (e0 a : Nat),
    hlastEnd (e0 + k) (a + k) es = hlastEnd e0 a es + k
  | [], _, _ => rfl
  | (o, e) :: es, e0, a => by
    have ih := hlastEnd_shift k es (e.endPos (a + o.txt.length)) (a + o.txt.length + e.text.length)
    have e1 : a + k + o.txt.length + e.text.length = a + o.txt.length + e.text.length + k := by omega
    have e2 : a + k + o.txt.length = a + o.txt.length + k := by omega
    show hlastEnd (e.endPos (a + k + o.txt.length)) (a + k + o.txt.length + e.text.length) es =
      hlastEnd (e.endPos (a + o.txt.length)) (a + o.txt.length + e.text.length) es + k
    rw [e1, e2, GPE.endPos_shift e k (a + o.txt.length)]
    exact ih

/-- **shifting the AST of a line** -/
theorem hlineNode_shift (k i : Nat) (p1 : GPE) (es : List (Op × GPE)) :
    (hlineNode i p1 es).shift k = hlineNode (i + k) p1 es := by
  have hc := GPE.node_shift p1 k i
  simp only [Node.shift] at hc
  have hr := hrestNodes_shift k es (i + p1.text.length)
  have hl := hlastEnd_shift k es (p1.endPos i) (i + p1.text.length)
  have e1 : i + p1.text.length + k = i + k + p1.text.length := by omega
  have e2 : i + p1.c1.lead.length + k = i + k + p1.c1.lead.length := by omega
  unfold hlineNode
  rw [mkSeq_shift]
  simp only [Node.mapPosL, hc, hr, ← hl, GPE.endPos_shift, e1, e2]

end Bashlex.C02
