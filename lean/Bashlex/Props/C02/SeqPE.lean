/-
  C02 (round trip): lists `p₁ op₂ p₂ op₃ p₃ …` of PIPELINES `c | c | …` of simple
  commands, operators `;`, `&&`, `||` mixed: texts, expected nodes, step counts, and the last steps
  of the engine on a list (`finalE`).
  Last, the texts and the expected ASTs of the sub-languages of plain words — sequences,
  pipelines, mixed lists, lists of pipelines.
-/
import Bashlex.Props.C02.PipeE
import Bashlex.Props.C02.Pipe

namespace Bashlex.C02
open Bashlex Bashlex.M Bashlex.LR

/-! ## facts about one pipeline -/

/-- after the first word of a pipeline comes a character that ends the word -/
theorem PE.after_first {e : PE} (he : e.OK) {X : Str} {x0 : Char} {xr : Str} (hX : X = x0 :: xr)
    (hx0 : endChar x0 = true) :
    ∃ bb r', e.text ++ X = e.c1.lead ++ e.c1.w1 ++ bb :: r' ∧ endChar bb = true := by
  have hrest : ∃ y yr, prestText e.cs ++ X = y :: yr ∧ endChar y = true := by
    cases hcs : e.cs with
    | nil => exact ⟨x0, xr, by simp [prestText, hX], hx0⟩
    | cons c cs' => exact ⟨'|', c.text ++ (prestText cs' ++ X), by simp [prestText], by decide⟩
  obtain ⟨y, yr, hy, hye⟩ := hrest
  obtain ⟨b1, r1, h1, hb1⟩ := head_app he.1.trail hye yr
  obtain ⟨bb, r', hbr, hb⟩ := after_word' e.c1.items he.1.items h1.symm.symm hb1
  refine ⟨bb, r', ?_, hb⟩
  rw [← hbr, ← hy]
  simp [PE.text, SCmd.text, lineText]

theorem nodePos_pipeline (p : Span) (ps : List Node) : nodePos (.pipeline p ps) = pure p := rfl

/-- the node of a pipeline is positioned: from its first word to the end of its last word -/
theorem PE.node_pos (e : PE) (off : Nat) :
    nodePos (e.node off) = pure (off + e.c1.lead.length, e.endPos off) := by
  obtain ⟨c1, cs⟩ := e
  cases cs with
  | nil => rfl
  | cons c cs' => rfl

/-! ## the text and the nodes of the list -/

def erestText : List (Op × PE) → Str
  | [] => []
  | (o, e) :: es => o.txt ++ (e.text ++ erestText es)

def erestNodes (a : Nat) : List (Op × PE) → List Node
  | [] => []
  | (o, e) :: es =>
    Node.operator (a, a + o.txt.length) o.txt :: e.node (a + o.txt.length) ::
      erestNodes (a + o.txt.length + e.text.length) es

def elastEnd (e0 a : Nat) : List (Op × PE) → Nat
  | [] => e0
  | (o, e) :: es => elastEnd (e.endPos (a + o.txt.length)) (a + o.txt.length + e.text.length) es

section
variable {L : Str} {adn : Bool}

end

/-! ## the engine -/

section
variable {np : NestedParse} {L : Str} {adn : Bool} {P : Res SVal → Local → Tape → Prop} {nlr : Str}

/-- the end of the line from the flat configuration -/
theorem finalE {l : Local} {Tp : Tape} {term : Token} {acc : List Node} {nh nl : Node}
    {ph pl : Span} {tr : Tree} {n0 f : Nat} {cons : List Nat} (hl : POK l)
    (hh : acc.head? = some nh) (hla : acc.getLast? = some nl) (hph : nodePos nh = pure ph)
    (hpl : nodePos nl = pure pl)
    (h : ∀ r l' T', ResIs (mkSeq ph.1 pl.2 acc) r → P r l' T') :
    Tot (engineLoop np (f + 4)
      { stack := [⟨6, tr, .nodes acc⟩], la := some (55, .tok term), nlShifted := n0,
        consumed := cons }) l Tp P := by
  refine Tot.loop_step ?_
  refine R_reduce Tab.d6 rfl Tab.a6n Tab.p148 rfl Tab.g0_92 Tab.f148 ?_
  match acc, hh, hla, h with
  | [], hh, _, _ => cases hh
  | [n], _, _, h =>
    refine act_simple_list_1 hl.wok.redir hl.cs ?_
    simp only [Bool.false_eq_true, if_false]
    exact run_tail2 hl.cs (by simpa [mkSeq] using h)
  | x :: y :: rs, hh, hla, h =>
    refine act_simple_list_manyG hl.wok.redir hl.cs (by simp) hh hla hph hpl ?_
    simp only [Bool.false_eq_true, if_false]
    exact run_tail2 hl.cs (by simpa [mkSeq] using h)

def PE.OKl (es : List (Op × PE)) : Prop := ∀ x ∈ es, x.2.OK

def ecost : Nat → List (Op × PE) → Nat
  | k, [] => k + 4
  | k, (o, e) :: es =>
    match o with
    | .semi => k + (2 + e.cost) + ecost 1 es
    | _ => (5 + e.cost) + ecost k es

end

/-- the AST of `c₁ ; c₂ ; …` (n ≥ 2) whose text starts at offset `i` -/
def seqNode (i : Nat) (c1 : SCmd) (cs : List SCmd) : Node :=
  Node.list (i + c1.lead.length, lastEnd (c1.endPos i) (i + c1.text.length) cs)
    (c1.node i :: restNodes (i + c1.text.length) cs)

/-- the AST of a line: the command node (n = 1) or the list node (n ≥ 2) -/
def lineNode (i : Nat) (c1 : SCmd) (cs : List SCmd) : Node :=
  mkSeq (i + c1.lead.length) (lastEnd (c1.endPos i) (i + c1.text.length) cs)
    (c1.node i :: restNodes (i + c1.text.length) cs)

theorem lineNode_nil (i : Nat) (c1 : SCmd) : lineNode i c1 [] = c1.node i := rfl

theorem lineNode_of_ne (i : Nat) (c1 : SCmd) {cs : List SCmd} (h : cs ≠ []) :
    lineNode i c1 cs = seqNode i c1 cs := by
  cases cs with
  | nil => exact absurd rfl h
  | cons c cs' => rfl

/-- the text of the sequence -/
def seqText (c1 : SCmd) (cs : List SCmd) : Str := c1.text ++ restText cs

/-- the AST of `c₁ | c₂ | …` (n ≥ 2) whose text starts at offset `i` -/
def pipeNode (i : Nat) (c1 : SCmd) (cs : List SCmd) : Node :=
  Node.pipeline (i + c1.lead.length, lastEnd (c1.endPos i) (i + c1.text.length) cs)
    (c1.node i :: prestNodes (i + c1.text.length) cs)

theorem mkPipe_of_ne (i : Nat) (c1 : SCmd) {cs : List SCmd} (h : cs ≠ []) :
    mkPipe (i + c1.lead.length) (lastEnd (c1.endPos i) (i + c1.text.length) cs)
      (c1.node i :: prestNodes (i + c1.text.length) cs) = pipeNode i c1 cs := by
  cases cs with
  | nil => exact absurd rfl h
  | cons c cs' => rfl

/-- the text of the pipeline -/
def pipeText (c1 : SCmd) (cs : List SCmd) : Str := c1.text ++ prestText cs

/-- the AST of `c₁ op₂ c₂ …` (n ≥ 2) whose text starts at offset `i`: ONE flat list node -/
def opsNode (i : Nat) (c1 : SCmd) (cs : List (Op × SCmd)) : Node :=
  Node.list (i + c1.lead.length, olastEnd (c1.endPos i) (i + c1.text.length) cs)
    (c1.node i :: orestNodes (i + c1.text.length) cs)

/-- the text -/
def opsText (c1 : SCmd) (cs : List (Op × SCmd)) : Str := c1.text ++ orestText cs

/-- the AST of a line `c₁ op₂ c₂ …` (n ≥ 1): the command node or the flat list node -/
def olineNode (i : Nat) (c1 : SCmd) (cs : List (Op × SCmd)) : Node :=
  mkSeq (i + c1.lead.length) (olastEnd (c1.endPos i) (i + c1.text.length) cs)
    (c1.node i :: orestNodes (i + c1.text.length) cs)

theorem olineNode_nil (i : Nat) (c1 : SCmd) : olineNode i c1 [] = c1.node i := rfl

theorem olineNode_of_ne (i : Nat) (c1 : SCmd) {cs : List (Op × SCmd)} (h : cs ≠ []) :
    olineNode i c1 cs = opsNode i c1 cs := by
  cases cs with
  | nil => exact absurd rfl h
  | cons oc cs' => obtain ⟨o, c⟩ := oc; rfl

/-- the AST of a line `p₁ op₂ p₂ …` of pipelines (n ≥ 1): the node of the single pipeline, or the
    flat list node -/
def elineNode (i : Nat) (p1 : PE) (es : List (Op × PE)) : Node :=
  mkSeq (i + p1.c1.lead.length) (elastEnd (p1.endPos i) (i + p1.text.length) es)
    (p1.node i :: erestNodes (i + p1.text.length) es)

end Bashlex.C02
