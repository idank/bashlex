/-
  C02 (round trip): simple commands of plain words are general simple commands (`SCmd.toG`), their
  pipelines and lists likewise (`PE.toG`, `esToG`); texts, expected nodes, end positions and step
  counts agree.  So the runs on plain commands are the general runs on the images: `pe_run` is
  `gpe_run`, `andor_step` is `andor_stepF` on the tokens of the image (the side conditions on states and terminals that the
  general runs ask in addition follow from the plain ones: `BaseW.g`, `TermW.g`, `TermOK.out`,
  `AOF.nlg`), and `run_seqE` is `run_seqH_shifted` after the first word, which is fetched here (no
  assumption on the position of the token before it is needed for a plain word).
-/
import Bashlex.Props.C02.SeqPG

namespace Bashlex.C02
open Bashlex Bashlex.M Bashlex.LR

def SCmd.toG (c : SCmd) : GCmd :=
  ⟨c.lead, .simple (.word c.w1), c.items.map (fun p => (p.1, Elem.simple (Item.word p.2))), c.trail⟩

theorem spellJ_map : ∀ (items : List (Str × Str)),
    spellJ (items.map (fun p => (p.1, Elem.simple (Item.word p.2)))) = spellI items
  | [] => rfl
  | (g, w) :: r => by simp [spellJ, spellI, Elem.text, Item.text, spellJ_map r]

theorem nodesJ_map : ∀ (items : List (Str × Str)) (off : Nat),
    nodesJ off (items.map (fun p => (p.1, Elem.simple (Item.word p.2)))) = nodesI off items
  | [], _ => rfl
  | (g, w) :: r, off => by simp [nodesJ, nodesI, Elem.text, Elem.node, Item.text, Item.node, nodesJ_map r]

theorem endJ_map : ∀ (items : List (Str × Str)) (off : Nat),
    endJ off (items.map (fun p => (p.1, Elem.simple (Item.word p.2)))) = endI off items
  | [], _ => rfl
  | (g, w) :: r, off => by simp [endJ, endI, Elem.text, Item.text, endJ_map r]

theorem plain_item {w : Str} (h : PlainWord w) (pos : Bool) : (Item.word w).OK pos :=
  ⟨h.gen, fun _ => looksAssign_plain h⟩

theorem ItemsJ_map : ∀ (items : List (Str × Str)), ItemsOK items →
    ItemsJ false (items.map (fun p => (p.1, Elem.simple (Item.word p.2))))
  | [], _ => trivial
  | (g, w) :: r, h => by
    have h1 := h (g, w) (List.mem_cons_self ..)
    exact ⟨h1.1, plain_item h1.2 _, ItemsJ_map r (fun x hx => h x (List.mem_cons_of_mem _ hx))⟩

theorem SCmd.toG_text (c : SCmd) : c.toG.text = c.text := by
  simp [SCmd.toG, GCmd.text, SCmd.text, lineText, spellJ_map, Item.text, Elem.text]

theorem SCmd.toG_node (c : SCmd) (off : Nat) : c.toG.node off = c.node off := by
  simp [SCmd.toG, GCmd.node, GCmd.nodes, GCmd.endPos, SCmd.node, cmdNode, nodesJ_map, endJ_map,
    Item.text, Item.node, Elem.text, Elem.node]

theorem SCmd.toG_endPos (c : SCmd) (off : Nat) : c.toG.endPos off = c.endPos off := by
  simp [SCmd.toG, GCmd.endPos, SCmd.endPos, endJ_map, Item.text, Elem.text]

theorem SCmd.toG_OK {c : SCmd} (h : c.OK) : c.toG.OK :=
  ⟨h.lead, plain_item h.w1 _, h.nr, ItemsJ_map c.items h.items, h.trail⟩

def PE.toG (e : PE) : GPE := ⟨e.c1.toG, e.cs.map SCmd.toG⟩

theorem gprestText_map : ∀ (cs : List SCmd), gprestText (cs.map SCmd.toG) = prestText cs
  | [] => rfl
  | c :: cs => by simp [gprestText, prestText, SCmd.toG_text, gprestText_map cs]

theorem gprestNodes_map : ∀ (cs : List SCmd) (a : Nat),
    gprestNodes a (cs.map SCmd.toG) = prestNodes a cs
  | [], _ => rfl
  | c :: cs, a => by simp [gprestNodes, prestNodes, SCmd.toG_text, SCmd.toG_node, gprestNodes_map cs]

theorem glastEnd_map : ∀ (cs : List SCmd) (e a : Nat), glastEnd e a (cs.map SCmd.toG) = lastEnd e a cs
  | [], _, _ => rfl
  | c :: cs, e, a => by simp [glastEnd, lastEnd, SCmd.toG_text, SCmd.toG_endPos, glastEnd_map cs]

theorem PE.toG_text (e : PE) : e.toG.text = e.text := by
  simp [PE.toG, GPE.text, PE.text, SCmd.toG_text, gprestText_map]

theorem PE.toG_endPos (e : PE) (off : Nat) : e.toG.endPos off = e.endPos off := by
  simp [PE.toG, GPE.endPos, PE.endPos, SCmd.toG_text, SCmd.toG_endPos, glastEnd_map]

theorem PE.toG_node (e : PE) (off : Nat) : e.toG.node off = e.node off := by
  show mkPipe (off + e.c1.toG.lead.length) (e.toG.endPos off)
    (e.c1.toG.node off :: gprestNodes (off + e.c1.toG.text.length) (e.cs.map SCmd.toG)) = _
  rw [PE.toG_endPos, SCmd.toG_node, SCmd.toG_text, gprestNodes_map]
  rfl

theorem PE.toG_OK {e : PE} (h : e.OK) : e.toG.OK :=
  ⟨SCmd.toG_OK h.1, List.forall_mem_map.2 fun c hc => SCmd.toG_OK (h.2 c hc)⟩

theorem gptrail_map : ∀ (cs : List SCmd) (t0 : Str), gptrail t0 (cs.map SCmd.toG) = ptrail t0 cs
  | [], _ => rfl
  | c :: cs, _ => by simp only [List.map_cons, gptrail, ptrail, gptrail_map cs]; rfl

theorem PE.toG_trail (e : PE) : e.toG.trail = e.trail := gptrail_map e.cs _

theorem PE.endPos_trail {e : PE} (he : e.OK) (off : Nat) :
    e.endPos off + e.trail.length = off + e.text.length := by
  have := GPE.endPos_trail (PE.toG_OK he) off
  rwa [PE.toG_endPos, PE.toG_trail, PE.toG_text] at this

def esToG (es : List (Op × PE)) : List (Op × GPE) := es.map (fun x => (x.1, x.2.toG))

theorem hrestText_map : ∀ (es : List (Op × PE)), hrestText (esToG es) = erestText es
  | [] => rfl
  | (o, e) :: es => by
    have := hrestText_map es
    simp only [esToG] at this
    simp [esToG, hrestText, erestText, PE.toG_text, this]

theorem hrestNodes_map : ∀ (es : List (Op × PE)) (a : Nat), hrestNodes a (esToG es) = erestNodes a es
  | [], _ => rfl
  | (o, e) :: es, a => by
    have := hrestNodes_map es
    simp only [esToG] at this
    simp [esToG, hrestNodes, erestNodes, PE.toG_text, PE.toG_node, this]

theorem hlastEnd_map : ∀ (es : List (Op × PE)) (e0 a : Nat),
    hlastEnd e0 a (esToG es) = elastEnd e0 a es
  | [], _, _ => rfl
  | (o, e) :: es, e0, a => by
    have := hlastEnd_map es
    simp only [esToG] at this
    simp [esToG, hlastEnd, elastEnd, PE.toG_text, PE.toG_endPos, this]

theorem Item.tok_word_plain {w : Str} (hw : PlainWord w) (a : Nat) :
    Item.tok a (.word w) = wordTok a (a + w.length) w := by
  show genTok a (a + w.length) w false = _
  simp [genTok, looksAssign_plain hw]

theorem icost_map : ∀ (items : List (Str × Str)),
    icost (items.map (fun p => (p.1, Elem.simple (Item.word p.2)))) = 3 * items.length
  | [] => rfl
  | p :: r => by simp only [List.map_cons, icost, icost_map r, Elem.cost, List.length_cons]; omega

theorem SCmd.toG_cost (c : SCmd) : c.toG.cost = 3 * c.items.length := by
  simp [SCmd.toG, GCmd.cost, icost_map, Elem.cost]

/-! ## one simple command of plain words -/

section
variable {np : NestedParse} {L : Str} {adn : Bool} {P : Res SVal → Local → Tape → Prop}
  {base : Stack SVal} {b g93 ts : Nat} {term : Token} {iT : Nat}

/-- the tokens after a plain word (whose token may carry any span): the words that follow, as
    elements, and the terminator -/
theorem feeds_words (hlen : L.length + 2 ≤ 1073741824) {R : Str} {b0 : Char} {r0 : Str}
    (hR : R = b0 :: r0) (hb0 : endChar b0 = true) {items : List (Str × Str)} {a i : Nat} {w1 : Str}
    {l : Local} (hi : ItemsOK items) (hw : PlainWord w1) (hl : POK l)
    (hcur : l.currentToken = wordTok a i w1) (hL : L.drop i = spellI items ++ R)
    (hfetch : FetchTerm L adn term (endI i items) iT) :
    Feeds (toksJ i (items.map fun p => (p.1, Elem.simple (Item.word p.2))) ++ [term]) l ⟨L, i, adn⟩
      (AtTerm L adn term iT) := by
  have hcurh : histOK l.currentToken = true := by rw [hcur]; rfl
  cases items with
  | nil => exact fun Q hQ => hfetch l Q hl hcurh fun l'' h1 h2 => hQ l'' _ ⟨h1, h2, rfl⟩
  | cons it rest =>
    obtain ⟨g, w'⟩ := it
    have hit := hi (g, w') (List.mem_cons_self ..)
    have hrest : ItemsOK rest := fun x hx => hi x (List.mem_cons_of_mem _ hx)
    obtain ⟨bb, r', hbr, hb⟩ := after_word' rest hrest hR hb0
    have hL' : L.drop i = g ++ w' ++ bb :: r' := by rw [hL, ← hbr]; simp [spellI]
    have hLn : L.drop (i + g.length + w'.length) =
        spellJ (rest.map fun p => (p.1, Elem.simple (Item.word p.2))) ++ R := by
      have := congrArg (List.drop (g.length + w'.length)) hL
      rw [List.drop_drop] at this
      rw [Nat.add_assoc, this, spellJ_map]
      simp [spellI]
    have hF : Feeds (wordTok (i + g.length) (i + g.length + w'.length) w' ::
        (toksJ (i + g.length + w'.length) (rest.map fun p => (p.1, Elem.simple (Item.word p.2))) ++
          [term])) l ⟨L, i, adn⟩ (AtTerm L adn term iT) := by
      intro Q hQ
      refine tot_nextToken_word hl.wok hcurh hl.hist hit.2 hb hit.1.2 hL' hlen ?_ (hQ _ _ ?_)
      · intro hacc
        rw [hcur, racc_word hw (by exact hl.hist)] at hacc
        cases hacc
      exact follows_items hlen hR hb0 _ false _ (ItemsJ_map rest hrest) hLn
        (.term (by simpa [endJ_map, endI] using hfetch)) _
        ⟨hl.afterTok hcurh _, .word w', false, _, plain_item hit.2 _,
          (Item.tok_word_plain hit.2 _).symm, rfl⟩
    simpa [toksJ, Elem.toks, Elem.more, Elem.tok, Item.tok_word_plain hit.2, Elem.text, Item.text]
      using hF

/-- one simple command, its first word already shifted (state 29 over `base`), up to its
    terminator; then `k` goes on from `simple_command` (state 13) over `base` with the terminator
    in hand -/
theorem cmd_run13 (hbase : topState base = b) (hB : BaseW b) (hT : TermW ts)
    (hts : symOfTok term = ts) (hlen : L.length + 2 ≤ 1073741824)
    {R : Str} {b0 : Char} {r0 : Str} (hR : R = b0 :: r0) (hb0 : endChar b0 = true)
    {items : List (Str × Str)} {a i : Nat} {w1 : Str} {l : Local} {fuel f' nl : Nat}
    {cons : List Nat} {tr : Tree}
    (hi : ItemsOK items) (hw : PlainWord w1) (hl : POK l) (hcur : l.currentToken = wordTok a i w1)
    (hL : L.drop i = spellI items ++ R)
    (hfetch : FetchTerm L adn term (endI i items) iT)
    (hf : fuel = f' + (3 * items.length + 2))
    (hk : ∀ tr' nl' cons' l', POK l' → l'.currentToken = term → Tot (engineLoop np f'
        { stack := ⟨13, tr', .nodes (Node.word (a, i) w1 [] :: nodesI i items)⟩ :: base,
          la := some (ts, .tok term), nlShifted := nl', consumed := cons' }) l' ⟨L, iT, adn⟩ P) :
    Tot (engineLoop np fuel
      { stack := ⟨29, tr, .tok (wordTok a i w1)⟩ :: base, la := none,
        nlShifted := nl, consumed := cons }) l ⟨L, i, adn⟩ P := by
  subst hf
  subst hts
  obtain ⟨u, us, e, hTu⟩ := toksJ_head (t := term) hT.g []
    (items.map fun p => (p.1, Elem.simple (Item.word p.2))) i
  have hF := feeds_words hlen hR hb0 hi hw hl hcur hL hfetch
  rw [e] at hF
  have e1 : f' + (3 * items.length + 2) =
      ((f' + icost (items.map fun p => (p.1, Elem.simple (Item.word p.2)))) + 1) + 1 := by
    rw [icost_map]; omega
  rw [e1]
  refine Tot.loop_step ?_
  refine R_next Tab.d29 hF fun l1 Tp1 hF1 => ?_
  refine R_reduce Tab.d29 rfl hTu.w.a29 Tab.p51 rfl (by rw [hbase]; exact hB.g63) Tab.f51 ?_
  refine act_sce hw ?_
  simp only [Bool.false_eq_true, if_false]
  refine Tot.loop_step ?_
  refine R_reduce Tab.d17 rfl hTu.w.a17 Tab.p56 rfl (by rw [hbase]; exact hB.g65) Tab.f56 ?_
  refine act_sc1 ?_
  simp only [Bool.false_eq_true, if_false]
  refine itemsF hbase hB hT.g _ false _ i u us l1 Tp1 f' _ _ _ (ItemsJ_map items hi) e hF1 ?_
  intro tr' nl' cons' l' Tp' ⟨h1, h2, h3⟩
  rw [nodesJ_map]
  exact h3 ▸ hk tr' nl' cons' l' h1 h2

/-- **one simple command**, its first word already shifted (state 29 over `base`), up to its
    terminator; then `k` goes on from `simple_list1` over `base` with the terminator in hand -/
theorem cmd_run (hbase : topState base = b) (hB : BaseOK b g93) (hT : TermOK ts)
    (hts : symOfTok term = ts) (hlen : L.length + 2 ≤ 1073741824)
    {R : Str} {b0 : Char} {r0 : Str} (hR : R = b0 :: r0) (hb0 : endChar b0 = true)
    {items : List (Str × Str)} {a i : Nat} {w1 : Str} {l : Local} {fuel f' nl : Nat}
    {cons : List Nat} {tr : Tree}
    (hi : ItemsOK items) (hw : PlainWord w1) (hl : POK l) (hcur : l.currentToken = wordTok a i w1)
    (hL : L.drop i = spellI items ++ R)
    (hfetch : FetchTerm L adn term (endI i items) iT)
    (hf : fuel = f' + (3 * items.length + 6))
    (hk : ∀ tr' nl' cons' l', POK l' → l'.currentToken = term → Tot (engineLoop np f'
        { stack := ⟨g93, tr', .nodes [Node.command (a, endI i items)
            (Node.word (a, i) w1 [] :: nodesI i items)]⟩ :: base,
          la := some (ts, .tok term), nlShifted := nl', consumed := cons' }) l' ⟨L, iT, adn⟩ P) :
    Tot (engineLoop np fuel
      { stack := ⟨29, tr, .tok (wordTok a i w1)⟩ :: base, la := none,
        nlShifted := nl, consumed := cons }) l ⟨L, i, adn⟩ P := by
  obtain ⟨p2, s2, hlast, hp2⟩ := words_last a i w1 items
  refine cmd_run13 (f' := f' + 4) hbase hB.w hT.w hts hlen hR hb0 hi hw hl hcur hL hfetch
    (by rw [hf]; omega) ?_
  intro tr' nl' cons' l' hl' hcur'
  refine cmd_end (nh := Node.word (a, i) w1 []) (ph := (a, i)) (pl := p2) hbase hB hT rfl hlast rfl
    rfl rfl ?_
  rw [hp2]
  exact fun tr'' => hk tr'' nl' cons' l' hl' hcur'

end

theorem gpcostB_map : ∀ (cs : List SCmd) (k : Nat), gpcostB k (cs.map SCmd.toG) = pcostB k cs
  | [], _ => rfl
  | c :: cs, k => by simp only [List.map_cons, gpcostB, pcostB, SCmd.toG_cost, gpcostB_map cs]

theorem PE.toG_cost (e : PE) : e.toG.cost = e.cost := by
  simp only [PE.toG, GPE.cost, PE.cost, gpcostB_map, SCmd.toG_cost]

theorem hcost_map : ∀ (es : List (Op × PE)) (k : Nat), hcost k (esToG es) = ecost k es
  | [], _ => rfl
  | (o, e) :: es, k => by
    have := hcost_map es
    simp only [esToG] at this
    cases o <;> simp [esToG, hcost, ecost, PE.toG_cost, this]

/-! ## the runs of plain pipelines and of an and-or step, read through the embedding -/

section
variable {np : NestedParse} {L : Str} {adn : Bool} {P : Res SVal → Local → Tape → Prop}
  {base : Stack SVal} {b g93 : Nat}
variable {tsO : Nat} {termO : Token} {iTO : Nat} {X : Str} {b0 : Char} {r0 : Str}

/-- **one pipeline as an element of a list**, its first word already shifted (state 29 over
    `base`), up to the list-level terminator; then `k` goes on from `simple_list1` over `base` -/
theorem pe_run (hbase : topState base = b) (hB : BaseOK b g93) (hO : OutT tsO)
    (htsO : symOfTok termO = tsO) (hhO : histOK termO = true) (hb0 : endChar b0 = true)
    (hlen : L.length + 2 ≤ 1073741824)
    {e : PE} {off : Nat} {l : Local} {fuel f' nl : Nat} {cons : List Nat} {tr : Tree}
    (he : e.OK) (hl : POK l)
    (hcur : l.currentToken = wordTok (off + e.c1.lead.length)
      (off + e.c1.lead.length + e.c1.w1.length) e.c1.w1)
    (hLc : L.drop off = e.text ++ X) (hR : e.trail ++ X = b0 :: r0)
    (hfetch : FetchTerm L adn termO (e.endPos off) iTO)
    (hf : fuel = f' + e.cost)
    (hk : ∀ tr' nl' cons' l', POK l' → l'.currentToken = termO → Tot (engineLoop np f'
        { stack := ⟨g93, tr', .nodes [e.node off]⟩ :: base, la := some (tsO, .tok termO),
          nlShifted := nl', consumed := cons' }) l' ⟨L, iTO, adn⟩ P) :
    Tot (engineLoop np fuel
      { stack := ⟨29, tr, .tok (wordTok (off + e.c1.lead.length)
          (off + e.c1.lead.length + e.c1.w1.length) e.c1.w1)⟩ :: base, la := none,
        nlShifted := nl, consumed := cons }) l
      ⟨L, off + e.c1.lead.length + e.c1.w1.length, adn⟩ P := by
  -- `hhO` is not needed: the terminator is only handed on to `hk`
  rw [← Item.tok_word_plain he.1.w1] at hcur ⊢
  refine gpe_run (e := e.toG) hbase hB hB.w.g hO hO.t.w.g htsO hb0 hlen (PE.toG_OK he) hl hcur
    (by rw [PE.toG_text]; exact hLc) (by rw [PE.toG_trail]; exact hR)
    (by rw [PE.toG_endPos]; exact hfetch) (by rw [PE.toG_cost]; exact hf) ?_
  rw [PE.toG_node]; exact hk

end

/-- the entries that `AOF` names fix the states: `&&` goes through 62 and 134, `||` through 63 and
    135, and `;` has no such entries (after it the next word is shifted, not `newline_list` reduced) -/
theorem AOF.nlg {o : Op} {s1 s2 s3 prod : Nat} (hA : AOF o s1 s2 s3 prod) : NLG s1 s2 := by
  have h1 := hA.a6
  have h2 := hA.g91
  cases o with
  | semi =>
    rw [show Op.semi.sym = 53 from rfl, Tab.a6s] at h1
    cases h1
    have := hA.aw
    rw [Tab.a61w] at this
    cases this
  | andand =>
    rw [show Op.andand.sym = 31 from rfl, Tab.a6a] at h1
    cases h1
    rw [Tab.g62_91] at h2
    cases h2
    exact nlg62
  | oror =>
    rw [show Op.oror.sym = 32 from rfl, Tab.a6o] at h1
    cases h1
    rw [Tab.g63_91] at h2
    cases h2
    exact nlg63

section
variable {L : Str} {adn : Bool}
variable {np : NestedParse} {P : Res SVal → Local → Tape → Prop}

/-- **one and-or step**: `op` in hand on top of the group `G`; the next command is read and the
    group becomes `G ++ [op, cmd]` -/
theorem andor_step (hlen : L.length + 2 ≤ 1073741824) {o : Op} {s1 s2 s3 prod : Nat}
    (hA : AOF o s1 s2 s3 prod) {B : Under} {G : List Node} {c : SCmd} {l : Local} {a f' nl : Nat}
    {cons : List Nat} {tr : Tree} {ts' : Nat} {term' : Token} {iT : Nat} {X : Str} {b0 : Char}
    {r0 : Str}
    (hc : c.OK) (hl : POK l) (hcur : l.currentToken = o.tok a)
    (hLc : L.drop (a + o.txt.length) = c.text ++ X)
    (hT' : TermOK ts') (hts' : symOfTok term' = ts')
    (h3 : Tab.T.action s3 ts' = some (.reduce prod))
    (hR : c.trail ++ X = b0 :: r0) (hb0 : endChar b0 = true)
    (hfetch' : FetchTerm L adn term' (c.endPos (a + o.txt.length)) iT)
    (hk : ∀ tr' nl' cons' l', POK l' → l'.currentToken = term' → Tot (engineLoop np f'
      { stack := ⟨slOf B, tr', .nodes (G ++ [Node.operator (a, a + o.txt.length) o.txt] ++
          [c.node (a + o.txt.length)])⟩ :: bstack B,
        la := some (ts', .tok term'), nlShifted := nl', consumed := cons' }) l' ⟨L, iT, adn⟩ P) :
    Tot (engineLoop np (f' + (5 + (3 * c.items.length + 6)))
      { stack := ⟨slOf B, tr, .nodes G⟩ :: bstack B, la := some (o.sym, .tok (o.tok a)),
        nlShifted := nl, consumed := cons }) l ⟨L, a + o.txt.length, adn⟩ P := by
  have ec : 3 * c.items.length + 6 = (PE.toG ⟨c, []⟩).cost := by
    rw [PE.toG_cost]; simp only [PE.cost, pcostB]; omega
  have hG : (PE.toG ⟨c, []⟩).OK := PE.toG_OK ⟨hc, fun _ h => by cases h⟩
  rw [ec]
  subst hts'
  refine andor_stepF (e := PE.toG ⟨c, []⟩) (ts := []) hA hA.nlg hG hT'.out h3
    (feeds_pipe hlen hG hl (by rw [hcur]; exact Op.tok_start o a) (by rw [hcur]; exact Op.tok_hist o a)
      (by rw [PE.toG_text]; simpa [PE.text, prestText] using hLc) (by rw [PE.toG_trail]; exact hR) hb0
      fun _ => .term (by rw [PE.toG_endPos]; exact hfetch')) ?_
  rw [PE.toG_node]
  exact fun tr' nl' cons' l' _ ⟨h1, h2, h3⟩ => h3 ▸ hk tr' nl' cons' l' h1 h2

end

/-- a text `op₂ p₂ … NEWLINE …` starts with a character that ends a word -/
theorem erest_head (es : List (Op × PE)) (nlr : Str) :
    ∃ x0 xr, erestText es ++ '\n' :: nlr = x0 :: xr ∧ endChar x0 = true := by
  rw [← hrestText_map]; exact hrest_head _ _

section
variable {np : NestedParse} {L : Str} {adn : Bool} {P : Res SVal → Local → Tape → Prop} {nlr : Str}

/-- **the whole line `p₁ op₂ p₂ …`** of pipelines from an empty stack -/
theorem run_seqE (hlen : L.length + 2 ≤ 1073741824) {p1 : PE} {es : List (Op × PE)} {l : Local}
    {i f nl0 : Nat} {cons0 : List Nat} (hp1 : p1.OK) (hes : ∀ x ∈ es, x.2.OK) (hl : POK l)
    (hcur : histOK l.currentToken = true)
    (hL : L.drop i = p1.text ++ (erestText es ++ '\n' :: nlr))
    (h : ∀ r l' T', ResIs (mkSeq (i + p1.c1.lead.length) (elastEnd (p1.endPos i) (i + p1.text.length) es)
        (p1.node i :: erestNodes (i + p1.text.length) es)) r → P r l' T') :
    Tot (engineLoop np ((f + ecost 0 es) + p1.cost + 1)
      { stack := [], la := none, nlShifted := nl0, consumed := cons0 }) l ⟨L, i, adn⟩ P := by
  obtain ⟨x0, xr, hX, hx0⟩ := erest_head es nlr
  obtain ⟨bb, r', hbr, hb⟩ := PE.after_first hp1 hX hx0
  have hL1 : L.drop i = p1.c1.lead ++ p1.c1.w1 ++ bb :: r' := by rw [hL, hbr]
  refine Tot.loop_step ?_
  refine R_fetch0 ?_
  refine tot_nextToken_word hl.wok hcur hl.hist hp1.1.w1 hb hp1.1.lead hL1 hlen (fun _ => hp1.1.nr) ?_
  rw [symOfTok_word, ← Item.tok_word_plain hp1.1.w1]
  refine R_shift0 ?_
  rw [← hcost_map, ← PE.toG_cost]
  refine run_seqH_shifted (nlr := nlr) (p1 := p1.toG) (es := esToG es) hlen (PE.toG_OK hp1)
    (List.forall_mem_map.2 fun y hy => PE.toG_OK (hes y hy)) (hl.afterTok hcur _) rfl ?_ ?_
  · rw [PE.toG_text, hrestText_map]; exact hL
  · rw [PE.toG_text, PE.toG_endPos, PE.toG_node, hrestNodes_map, hlastEnd_map]; exact h

end

end Bashlex.C02
