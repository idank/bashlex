/-
  C02 (round trip), step (4b): the real tokenizer on the redirection operators `>`, `<` (single)
  and `>>`, and on a file-descriptor prefix — a non-empty run of digits directly followed by `>`
  or `<` is the token NUMBER: the walk over a word of the class (`tot_nextToken_classG`), ended by
  the iteration on `>`/`<` (`step_rend`) and by `# got_token` on digits (`tot_finishNum`).
-/
import Bashlex.Props.C02.TokOp
import Bashlex.Props.C02.Actions
import Bashlex.Props.C02.TokG

namespace Bashlex.C02
open Bashlex Bashlex.M
set_option linter.unusedSimpArgs false

def gtTok (a : Nat) : Token :=
  { ttype := some .GREATER, value := .str ['>'], pos := some (a, a + 1), flags := [] }

/-- **`tokenizer.token()` on blanks followed by a single `>`** (the next character is none of `> & | ( \`) -/
theorem tot_nextToken_gt {l : Local} {L : Str} {adn : Bool} {g rest : Str} {d : Char} {i : Nat}
    {P : Token → Local → Tape → Prop}
    (hk : WOK l) (hdp : l.ps.dblparen = false) (hg : ∀ y ∈ g, shellblank y = true)
    (hL : L.drop i = g ++ '>' :: d :: rest) (hd1 : d ≠ '>') (hd2 : d ≠ '&') (hd3 : d ≠ '\\')
    (hd4 : d ≠ '|') (hd5 : d ≠ '(')
    (hlen : L.length + 2 ≤ 1073741824)
    (h : P (gtTok (i + g.length)) (afterNL l (gtTok (i + g.length))) ⟨L, i + g.length + 1, adn⟩) :
    Tot nextToken l ⟨L, i, adn⟩ P :=
  tot_nextToken_op1 {}
    { bs := hd3, twice := by simpa using hd1, ga := by simpa using hd2, gb := by simpa using hd4, sub := by simpa using hd5 }
    hk hdp hg hL hlen h

def ltTok (a : Nat) : Token :=
  { ttype := some .LESS, value := .str ['<'], pos := some (a, a + 1), flags := [] }

/-- **`tokenizer.token()` on blanks followed by a single `<`** (the next character is none of `< & > ( \`) -/
theorem tot_nextToken_lt {l : Local} {L : Str} {adn : Bool} {g rest : Str} {d : Char} {i : Nat}
    {P : Token → Local → Tape → Prop}
    (hk : WOK l) (hdp : l.ps.dblparen = false) (hg : ∀ y ∈ g, shellblank y = true)
    (hL : L.drop i = g ++ '<' :: d :: rest) (hd1 : d ≠ '<') (hd2 : d ≠ '&') (hd3 : d ≠ '\\')
    (hd4 : d ≠ '>') (hd5 : d ≠ '(')
    (hlen : L.length + 2 ≤ 1073741824)
    (h : P (ltTok (i + g.length)) (afterNL l (ltTok (i + g.length))) ⟨L, i + g.length + 1, adn⟩) :
    Tot nextToken l ⟨L, i, adn⟩ P :=
  tot_nextToken_op1 {}
    { bs := hd3, twice := by simpa using hd1, la := by simpa using hd2, lg := by simpa using hd4, sub := by simpa using hd5 }
    hk hdp hg hL hlen h

def ggTok (a : Nat) : Token :=
  { ttype := some .GREATER_GREATER, value := .str ['>', '>'], pos := some (a, a + 2), flags := [] }

/-- **`tokenizer.token()` on blanks followed by `>>`** -/
theorem tot_nextToken_gg {l : Local} {L : Str} {adn : Bool} {g rest : Str} {i : Nat}
    {P : Token → Local → Tape → Prop}
    (hk : WOK l) (hdp : l.ps.dblparen = false) (hg : ∀ y ∈ g, shellblank y = true)
    (hL : L.drop i = g ++ '>' :: '>' :: rest)
    (hlen : L.length + 2 ≤ 1073741824)
    (h : P (ggTok (i + g.length)) (afterNL l (ggTok (i + g.length))) ⟨L, i + g.length + 2, adn⟩) :
    Tot nextToken l ⟨L, i, adn⟩ P :=
  tot_nextToken_op2 {} (by decide) hk hdp hg hL hlen h

/-- a non-empty run of digits -/
def DigWord (w : Str) : Prop := w ≠ [] ∧ ∀ c ∈ w, isDigit c = true
instance (w : Str) : Decidable (DigWord w) := by unfold DigWord; exact inferInstance

theorem digit_plain {c : Char} (h : isDigit c = true) : plainChar c = true := by
  simp [plainChar, isAlnum, h]

def numTok (a k : Nat) (w : Str) : Token :=
  { ttype := some .NUMBER, value := .int (digitsToNat w), pos := some (a, k), flags := [] }

def redirChar (b : Char) : Bool := b == '>' || b == '<'

/-- the iteration on the `>`/`<` that ends a number: `handleshellexp` peeks one character and puts
    it back, the character itself is put back -/
theorem step_rend {l : Local} {L : Str} {i : Nat} {adn : Bool} {b d : Char} {ad : Bool} {tw : Str}
    {P : RWState ⊕ RWState → Local → Tape → Prop}
    (ht : l.tape = none) (hl : l.eolLookahead = none) (hb : redirChar b = true)
    (hd : L[i + 1]? = some d) (hdb : d ≠ '\\') (hdp : d ≠ '(')
    (h : P (.inr (rwSt (some b) ad tw)) l ⟨L, i, adn⟩) :
    Tot (readtokenwordStep (rwSt (some b) ad tw)) l ⟨L, i + 1, adn⟩ P := by
  have hi : i + 1 < L.length := by
    rcases Nat.lt_or_ge (i + 1) L.length with h1 | h1
    · exact h1
    · rw [List.getElem?_eq_none h1] at hd; cases hd
  have hbs : (b == '\\') = false := by
    simp only [redirChar, Bool.or_eq_true, beq_iff_eq] at hb
    rcases hb with rfl | rfl <;> rfl
  have hq : (synClass b).quote = false := by
    simp only [redirChar, Bool.or_eq_true, beq_iff_eq] at hb
    rcases hb with rfl | rfl <;> rfl
  have he : (synClass b).exp = true := by
    simp only [redirChar, Bool.or_eq_true, beq_iff_eq] at hb
    rcases hb with rfl | rfl <;> rfl
  have hk : (synClass b).brk = true := by
    simp only [redirChar, Bool.or_eq_true, beq_iff_eq] at hb
    rcases hb with rfl | rfl <;> rfl
  have hdol : (b == '$') = false := by
    simp only [redirChar, Bool.or_eq_true, beq_iff_eq] at hb
    rcases hb with rfl | rfl <;> rfl
  have hdp' : (some d == some '(') = false := by simpa using hdp
  rw [C04.TTP.readtokenwordStep_eq]
  simp only [rwSt, Bool.false_eq_true, if_false]
  refine Tot.bind (currentDelimiter_tot ?_)
  simp only [hbs, Bool.false_eq_true, if_false]
  refine Tot.bind (tot_shellquote ?_)
  simp only [hq, Bool.false_eq_true, if_false]
  refine Tot.bind (tot_shellexp ?_)
  simp only [he, if_true]
  refine Tot.bind ?_
  unfold handleshellexp
  refine Tot.bind (tot_getc ht hl hd hdb ?_)
  simp only [hdp', hdol, Bool.false_and, Bool.or_self, Bool.false_eq_true, if_false]
  refine Tot.bind (tot_ungetc ht hi ?_)
  refine Tot.pure ?_
  unfold C04.TTP.rwBreak
  simp only [Bool.not_true, Bool.not_false, if_true]
  refine Tot.bind (tot_shellbreak ?_)
  simp only [hk, if_true]
  refine Tot.bind (tot_ungetc ht (by omega) ?_)
  exact Tot.pure h

theorem redir_ne_bs {b : Char} (hb : redirChar b = true) : b ≠ '\\' := by
  simp only [redirChar, Bool.or_eq_true, beq_iff_eq] at hb
  rcases hb with rfl | rfl <;> decide

theorem dig_legal {w : Str} (hw : DigWord w) : legalNumber w = true := by
  obtain ⟨hne, hp⟩ := hw
  cases w with
  | nil => exact absurd rfl hne
  | cons c r =>
    simp only [legalNumber, List.isEmpty_cons, Bool.not_false, Bool.true_and, List.all_eq_true]
    exact hp

theorem redir_isRedir {b : Char} (hb : redirChar b = true) :
    (some b == some '<' || some b == some '>') = true := by
  simp only [redirChar, Bool.or_eq_true, beq_iff_eq] at hb
  rcases hb with rfl | rfl <;> rfl

/-- the part of `_readtokenword` after `# got_token`, on digits before `>`/`<` -/
theorem tot_finishNum {l0 : Local} {T : Tape} {b : Char} {w : Str} {a : Nat}
    {P : Token → Local → Tape → Prop}
    (hk : WOK l0) (hw : DigWord w) (hb : redirChar b = true) (hak : a < T.idx)
    (h : P (numTok a T.idx w) l0 T) :
    Tot (finishWord (rwSt (some b) true w)) { l0 with positions := [a] } T P := by
  unfold finishWord
  refine Tot.bind (tot_recordpos hk.tape ?_)
  refine Tot.bind (Tot.get ?_)
  simp only [rwSt, redir_isRedir hb, Bool.true_or, Bool.and_self, Bool.true_and, dig_legal hw,
    if_true, List.singleton_append, Nat.sub_zero]
  refine tot_createtoken (l := { l0 with positions := [a, T.idx] }) rfl hak ?_
  rw [pos_eta l0 hk.pos]
  exact h

/-- **`tokenizer.token()` on blanks followed by digits and `>`/`<`**: `NUMBER n` with the exact span -/
theorem tot_nextToken_num {l : Local} {L : Str} {adn : Bool} {b d : Char} {g w rest : Str} {i : Nat}
    {P : Token → Local → Tape → Prop}
    (hk : WOK l) (h1 : histOK l.currentToken = true)
    (hw : DigWord w) (hb : redirChar b = true) (hdb : d ≠ '\\') (hdp : d ≠ '(')
    (hg : ∀ y ∈ g, shellblank y = true)
    (hL : L.drop i = g ++ w ++ b :: d :: rest) (hlen : L.length + 2 ≤ 1073741824)
    (h : P (numTok (i + g.length) (i + g.length + w.length) w)
      (afterTok l (numTok (i + g.length) (i + g.length + w.length) w))
      ⟨L, i + g.length + w.length, adn⟩) :
    Tot nextToken l ⟨L, i, adn⟩ P := by
  have hLb : L.drop (i + g.length + w.length) = b :: d :: rest := by
    have := congrArg (List.drop (g.length + w.length)) hL
    rw [List.drop_drop, ← List.length_append] at this
    rw [Nat.add_assoc, ← List.length_append, this]
    exact List.drop_left' rfl
  have hgw : 0 < w.length := List.length_pos_iff.mpr hw.1
  refine tot_nextToken_classG hk h1 hw.1 (fun x hx => plain_wc (digit_plain (hw.2 x hx)))
    (redir_ne_bs hb) hg hL hlen
    (fun _ _ _ _ ht hl h => step_rend ht hl hb (drop_head (drop_tail hLb)) hdb hdp h)
    (fun ad1 had => ?_) h
  rw [had hw.2]
  exact tot_finishNum (T := ⟨L, i + g.length + w.length, adn⟩) hk.shiftH hw hb
    (by show i + g.length < i + g.length + w.length; omega) ⟨rfl, rfl, rfl⟩

end Bashlex.C02
