/-
  C02 (round trip): the real tokenizer on operators.  One walk of `tokenizer.token()` for any
  operator (`tot_nextToken_op`), over a rule for what the metacharacter block of `_readtoken` does
  with its first character (`MetaIs`); the two rules used: a single character that the next one does
  not extend (`Op1.metaIs`), a doubled one (`metaIs_twice`).  Then `;`, `|`, `&&`, `||`.
  Last, groundwork for step (5): the single `&` (not yet used by a round-trip theorem).
-/
import Bashlex.Props.C02.Tok

namespace Bashlex.C02
open Bashlex Bashlex.M
set_option linter.unusedSimpArgs false

/-- an operator token of type `ty` over `[a, k)`; its value is the spelling the type stands for -/
def opTok (ty : TokType) (a k : Nat) : Token :=
  { ttype := some ty, value := ty.enumValue, pos := some (a, k), flags := [] }

/-- on the line `L`, the metacharacter block of `_readtoken`, entered with `c` read and the cursor
    at `j`, returns the type `ty` with the cursor at `k`, and changes nothing but `assignok` -/
def MetaIs (L : Str) (adn : Bool) (c : Char) (ty : TokType) (j k : Nat) : Prop :=
  ∀ (l : Local) (Q : Option TokType → Local → Tape → Prop), l.tape = none → l.eolLookahead = none →
    Q (some ty) { l with ps := { l.ps with assignok := false } } ⟨L, k, adn⟩ →
    Tot (readtokenMeta c) l ⟨L, j, adn⟩ Q

/-- `c` followed by `d` is the one-character operator `ty`: the tests the metacharacter block makes
    on the two characters -/
structure Op1 (c d : Char) (ty : TokType) : Prop where
  bs : d ≠ '\\'
  twice : (some d == some c) = false
  la : (c == '<' && some d == some '&') = false := by rfl
  ga : (c == '>' && some d == some '&') = false := by rfl
  lg : (c == '<' && some d == some '>') = false := by rfl
  gb : (c == '>' && some d == some '|') = false := by rfl
  ag : (c == '&' && some d == some '>') = false := by rfl
  ba : (c == '|' && some d == some '&') = false := by rfl
  sa : (c == ';' && some d == some '&') = false := by rfl
  rp : (c == ')') = false := by rfl
  lp : (c == '(') = false := by rfl
  sub : (!(c == '<' || c == '>') || some d != some '(') = true := by rfl
  ty : TokType.ofChar c = some ty := by rfl

/-- a one-character operator: the next character is looked at and put back -/
theorem Op1.metaIs {c d : Char} {ty : TokType} (ho : Op1 c d ty) {L : Str} {adn : Bool} {j : Nat}
    (hd : L[j]? = some d) (hj : j < L.length) : MetaIs L adn c ty j j := by
  intro l Q ht he h
  unfold readtokenMeta
  refine Tot.bind (Tot.modify ?_)
  refine Tot.bind (tot_getc ht he hd ho.bs ?_)
  simp only [ho.twice, ho.la, ho.ga, ho.lg, ho.gb, ho.ag, ho.ba, ho.sa, ho.rp, ho.lp,
    Bool.false_and, Bool.and_false, Bool.false_eq_true, if_false]
  refine Tot.bind (tot_ungetc ht hj ?_)
  refine Tot.bind (Tot.get ?_)
  refine Tot.bind (Tot.get ?_)
  simp only [ho.sub, if_true]
  unfold tokentypeOfChar
  simp only [ho.ty]
  refine Tot.bind (Tot.pure ?_)
  exact Tot.pure h

/-- the doubled operators `>>`, `&&`, `||`: the second character is read and that is all -/
theorem metaIs_twice {c : Char} {ty : TokType}
    (hc : (c, ty) ∈ [('>', TokType.GREATER_GREATER), ('&', .AND_AND), ('|', .OR_OR)])
    {L : Str} {adn : Bool} {j : Nat} (hd : L[j]? = some c) : MetaIs L adn c ty j (j + 1) := by
  intro l Q ht he h
  have hbs : c ≠ '\\' := by
    simp only [List.mem_cons, Prod.mk.injEq, List.not_mem_nil, or_false] at hc
    rcases hc with ⟨rfl, _⟩ | ⟨rfl, _⟩ | ⟨rfl, _⟩ <;> decide
  unfold readtokenMeta
  refine Tot.bind (Tot.modify ?_)
  refine Tot.bind (tot_getc ht he hd hbs ?_)
  simp only [List.mem_cons, Prod.mk.injEq, List.not_mem_nil, or_false] at hc
  rcases hc with ⟨rfl, rfl⟩ | ⟨rfl, rfl⟩ | ⟨rfl, rfl⟩
  all_goals
    simp only [beq_self_eq_true, if_true, show ('&' == '<') = false by decide,
      show ('&' == '>') = false by decide, show ('&' == ';') = false by decide,
      show ('|' == '<') = false by decide, show ('|' == '>') = false by decide,
      show ('|' == ';') = false by decide, show ('|' == '&') = false by decide,
      show ('>' == '<') = false by decide, Bool.false_eq_true, if_false]
    exact Tot.pure h

/-- **`tokenizer.token()` on blanks followed by an operator** that starts with the metacharacter
    `c` and ends at `k` -/
theorem tot_nextToken_op {l : Local} {L : Str} {adn : Bool} {g rest : Str} {c : Char} {ty : TokType}
    {i k : Nat} {P : Token → Local → Tape → Prop}
    (hk : WOK l) (hdp : l.ps.dblparen = false) (hg : ∀ y ∈ g, shellblank y = true)
    (hL : L.drop i = g ++ c :: rest) (hlen : L.length + 2 ≤ 1073741824)
    (hcb : shellblank c = false) (hcs : c ≠ '\\') (hch : c ≠ '#') (hnl : (c == '\n') = false)
    (hm : (synClass c).metac = true) (hik : i + g.length < k)
    (hmeta : MetaIs L adn c ty (i + g.length + 1) k)
    (h : P (opTok ty (i + g.length) k) (afterNL l (opTok ty (i + g.length) k)) ⟨L, k, adn⟩) :
    Tot nextToken l ⟨L, i, adn⟩ P := by
  have hlenL : (L.drop i).length ≤ L.length := by rw [List.length_drop]; omega
  have hlen2 : g.length + 2 ≤ 1073741824 := by
    rw [hL] at hlenL; simp at hlenL; omega
  have hp := hk.pos
  have hreg := hk.regexp
  cases l
  simp only at hp hdp hreg
  subst hp
  unfold nextToken
  refine Tot.bind (Tot.modify ?_)
  rw [C10.readtoken_eq]
  refine Tot.bind (Tot.bind (tot_readtokenHead hk.tape hk.eol hcb hcs hch hL hg hlen2 ?_))
  simp only []
  unfold C10.readtokenTail
  refine Tot.bind (tot_recordpos hk.tape ?_)
  simp only [hnl, Bool.false_eq_true, if_false]
  refine Tot.bind (Tot.get ?_)
  simp only [shiftH, hreg, Bool.false_eq_true, if_false]
  refine Tot.bind (tot_shellmeta ?_)
  refine Tot.bind (Tot.get ?_)
  simp only [hm, hdp, Bool.not_false, Bool.and_self, if_true]
  refine Tot.bind (hmeta _ _ hk.tape hk.eol ?_)
  simp only []
  refine Tot.pure ?_
  simp only []
  refine Tot.bind (tot_recordpos hk.tape ?_)
  simp only [List.nil_append, Nat.add_sub_cancel, Nat.sub_zero, List.cons_append]
  refine Tot.bind (tot_createtoken rfl hik ?_)
  refine Tot.bind (Tot.modify ?_)
  refine Tot.bind (Tot.modify ?_)
  refine Tot.pure ?_
  exact h

/-- what `_readtoken` tests on the first character of an operator before it enters the
    metacharacter block -/
structure OpChar (c : Char) : Prop where
  blank : shellblank c = false := by decide
  bs : c ≠ '\\' := by decide
  hash : c ≠ '#' := by decide
  nl : (c == '\n') = false := by decide
  metac : (synClass c).metac = true := by decide

theorem drop_second {L g rest : Str} {c d : Char} {i : Nat} (hL : L.drop i = g ++ c :: d :: rest) :
    L[i + g.length + 1]? = some d ∧ i + g.length + 1 < L.length := by
  have hLa : L.drop (i + g.length) = c :: d :: rest := by
    have := congrArg (List.drop g.length) hL
    simpa [List.drop_drop, Nat.add_comm] using this
  exact ⟨drop_head (drop_tail hLa), drop_lt (drop_tail hLa)⟩

/-- a one-character operator `c`, the character `d` after it -/
theorem tot_nextToken_op1 {l : Local} {L : Str} {adn : Bool} {g rest : Str} {c d : Char}
    {ty : TokType} {i : Nat} {P : Token → Local → Tape → Prop} (hc : OpChar c) (ho : Op1 c d ty)
    (hk : WOK l) (hdp : l.ps.dblparen = false) (hg : ∀ y ∈ g, shellblank y = true)
    (hL : L.drop i = g ++ c :: d :: rest) (hlen : L.length + 2 ≤ 1073741824)
    (h : P (opTok ty (i + g.length) (i + g.length + 1))
      (afterNL l (opTok ty (i + g.length) (i + g.length + 1))) ⟨L, i + g.length + 1, adn⟩) :
    Tot nextToken l ⟨L, i, adn⟩ P :=
  tot_nextToken_op hk hdp hg hL hlen hc.blank hc.bs hc.hash hc.nl hc.metac (Nat.lt_succ_self _)
    (ho.metaIs (drop_second hL).1 (drop_second hL).2) h

/-- a doubled operator `cc` -/
theorem tot_nextToken_op2 {l : Local} {L : Str} {adn : Bool} {g rest : Str} {c : Char}
    {ty : TokType} {i : Nat} {P : Token → Local → Tape → Prop} (hc : OpChar c)
    (ho : (c, ty) ∈ [('>', TokType.GREATER_GREATER), ('&', .AND_AND), ('|', .OR_OR)])
    (hk : WOK l) (hdp : l.ps.dblparen = false) (hg : ∀ y ∈ g, shellblank y = true)
    (hL : L.drop i = g ++ c :: c :: rest) (hlen : L.length + 2 ≤ 1073741824)
    (h : P (opTok ty (i + g.length) (i + g.length + 2))
      (afterNL l (opTok ty (i + g.length) (i + g.length + 2))) ⟨L, i + g.length + 2, adn⟩) :
    Tot nextToken l ⟨L, i, adn⟩ P :=
  tot_nextToken_op hk hdp hg hL hlen hc.blank hc.bs hc.hash hc.nl hc.metac (by omega)
    (metaIs_twice ho (drop_second hL).1) h

def semiTok (a : Nat) : Token :=
  { ttype := some .SEMICOLON, value := .str [';'], pos := some (a, a + 1), flags := [] }

/-- **`tokenizer.token()` on blanks followed by a single `;`** (the next character is neither `;`
    nor `&` nor a backslash) -/
theorem tot_nextToken_semi {l : Local} {L : Str} {adn : Bool} {g rest : Str} {d : Char} {i : Nat}
    {P : Token → Local → Tape → Prop}
    (hk : WOK l) (hdp : l.ps.dblparen = false) (hg : ∀ y ∈ g, shellblank y = true)
    (hL : L.drop i = g ++ ';' :: d :: rest) (hd1 : d ≠ ';') (hd2 : d ≠ '&') (hd3 : d ≠ '\\')
    (hlen : L.length + 2 ≤ 1073741824)
    (h : P (semiTok (i + g.length)) (afterNL l (semiTok (i + g.length))) ⟨L, i + g.length + 1, adn⟩) :
    Tot nextToken l ⟨L, i, adn⟩ P :=
  tot_nextToken_op1 {}
    { bs := hd3, twice := by simpa using hd1, sa := by simpa using hd2 }
    hk hdp hg hL hlen h

def barTok (a : Nat) : Token :=
  { ttype := some .BAR, value := .str ['|'], pos := some (a, a + 1), flags := [] }

/-- **`tokenizer.token()` on blanks followed by a single `|`** (the next character is neither `|`
    nor `&` nor a backslash) -/
theorem tot_nextToken_bar {l : Local} {L : Str} {adn : Bool} {g rest : Str} {d : Char} {i : Nat}
    {P : Token → Local → Tape → Prop}
    (hk : WOK l) (hdp : l.ps.dblparen = false) (hg : ∀ y ∈ g, shellblank y = true)
    (hL : L.drop i = g ++ '|' :: d :: rest) (hd1 : d ≠ '|') (hd2 : d ≠ '&') (hd3 : d ≠ '\\')
    (hlen : L.length + 2 ≤ 1073741824)
    (h : P (barTok (i + g.length)) (afterNL l (barTok (i + g.length))) ⟨L, i + g.length + 1, adn⟩) :
    Tot nextToken l ⟨L, i, adn⟩ P :=
  tot_nextToken_op1 {}
    { bs := hd3, twice := by simpa using hd1, ba := by simpa using hd2 }
    hk hdp hg hL hlen h

def andTok (a : Nat) : Token :=
  { ttype := some .AND_AND, value := .str ['&', '&'], pos := some (a, a + 2), flags := [] }

/-- **`tokenizer.token()` on blanks followed by `&&`** -/
theorem tot_nextToken_and {l : Local} {L : Str} {adn : Bool} {g rest : Str} {i : Nat}
    {P : Token → Local → Tape → Prop}
    (hk : WOK l) (hdp : l.ps.dblparen = false) (hg : ∀ y ∈ g, shellblank y = true)
    (hL : L.drop i = g ++ '&' :: '&' :: rest)
    (hlen : L.length + 2 ≤ 1073741824)
    (h : P (andTok (i + g.length)) (afterNL l (andTok (i + g.length))) ⟨L, i + g.length + 2, adn⟩) :
    Tot nextToken l ⟨L, i, adn⟩ P :=
  tot_nextToken_op2 {} (by decide) hk hdp hg hL hlen h

def orTok (a : Nat) : Token :=
  { ttype := some .OR_OR, value := .str ['|', '|'], pos := some (a, a + 2), flags := [] }

/-- **`tokenizer.token()` on blanks followed by `||`** -/
theorem tot_nextToken_or {l : Local} {L : Str} {adn : Bool} {g rest : Str} {i : Nat}
    {P : Token → Local → Tape → Prop}
    (hk : WOK l) (hdp : l.ps.dblparen = false) (hg : ∀ y ∈ g, shellblank y = true)
    (hL : L.drop i = g ++ '|' :: '|' :: rest)
    (hlen : L.length + 2 ≤ 1073741824)
    (h : P (orTok (i + g.length)) (afterNL l (orTok (i + g.length))) ⟨L, i + g.length + 2, adn⟩) :
    Tot nextToken l ⟨L, i, adn⟩ P :=
  tot_nextToken_op2 {} (by decide) hk hdp hg hL hlen h

def ampTok (a : Nat) : Token :=
  { ttype := some .AMPERSAND, value := .str ['&'], pos := some (a, a + 1), flags := [] }

/-- **`tokenizer.token()` on blanks followed by a single `&`** (the next character is neither `&`
    nor `>` nor a backslash) -/
theorem tot_nextToken_amp {l : Local} {L : Str} {adn : Bool} {g rest : Str} {d : Char} {i : Nat}
    {P : Token → Local → Tape → Prop}
    (hk : WOK l) (hdp : l.ps.dblparen = false) (hg : ∀ y ∈ g, shellblank y = true)
    (hL : L.drop i = g ++ '&' :: d :: rest) (hd1 : d ≠ '&') (hd2 : d ≠ '>') (hd3 : d ≠ '\\')
    (hlen : L.length + 2 ≤ 1073741824)
    (h : P (ampTok (i + g.length)) (afterNL l (ampTok (i + g.length))) ⟨L, i + g.length + 1, adn⟩) :
    Tot nextToken l ⟨L, i, adn⟩ P :=
  tot_nextToken_op1 {}
    { bs := hd3, twice := by simpa using hd1, ag := by simpa using hd2 }
    hk hdp hg hL hlen h

end Bashlex.C02
