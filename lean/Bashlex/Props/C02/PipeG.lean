/-
  C02 (round trip): a pipeline of GENERAL simple commands as one element of a list
  (`PipeE` over `GCmd`), in two layers: the engine over the tokens to come (`pipe_fwdF`,
  `gpe_runF`), the tokenizer over the text (`follows_prest`, `feeds_pipe_more`); `gpe_run`, stated
  over the text, is the two put together.
-/
import Bashlex.Props.C02.CmdG
import Bashlex.Props.C02.PipeE

namespace Bashlex.C02
open Bashlex Bashlex.M Bashlex.LR

def gprestText : List GCmd → Str
  | [] => []
  | c :: cs => '|' :: (c.text ++ gprestText cs)

def gprestNodes (a : Nat) : List GCmd → List Node
  | [] => []
  | c :: cs =>
    Node.pipe (a, a + 1) ['|'] :: c.node (a + 1) :: gprestNodes (a + 1 + c.text.length) cs

def glastEnd (e a : Nat) : List GCmd → Nat
  | [] => e
  | c :: cs => glastEnd (c.endPos (a + 1)) (a + 1 + c.text.length) cs

def gptrail (t0 : Str) : List GCmd → Str
  | [] => t0
  | c :: cs => gptrail c.trail cs

def gpcostB (k : Nat) : List GCmd → Nat
  | [] => k + 2
  | c :: cs => c.cost + 8 + gpcostB (k + 1) cs

/-- the tokens of `| c₂ | c₃ …`, the first `|` at `a` -/
def gprestToks (a : Nat) : List GCmd → List Token
  | [] => []
  | c :: cs => barTok a :: (c.toks (a + 1) ++ gprestToks (a + 1 + c.text.length) cs)

/-- a pipeline of general simple commands -/
structure GPE where
  c1 : GCmd
  cs : List GCmd

namespace GPE
def text (e : GPE) : Str := e.c1.text ++ gprestText e.cs
def OK (e : GPE) : Prop := e.c1.OK ∧ ∀ c ∈ e.cs, c.OK
instance (e : GPE) : Decidable e.OK := by unfold OK; exact inferInstance
def endPos (off : Nat) (e : GPE) : Nat := glastEnd (e.c1.endPos off) (off + e.c1.text.length) e.cs
def trail (e : GPE) : Str := gptrail e.c1.trail e.cs
def node (off : Nat) (e : GPE) : Node :=
  mkPipe (off + e.c1.lead.length) (e.endPos off)
    (e.c1.node off :: gprestNodes (off + e.c1.text.length) e.cs)
def cost (e : GPE) : Nat := gpcostB 0 e.cs + (e.c1.cost + 2) + 2
/-- its tokens after the first -/
def more (off : Nat) (e : GPE) : List Token :=
  e.c1.more off ++ gprestToks (off + e.c1.text.length) e.cs
def toks (off : Nat) (e : GPE) : List Token := e.c1.first.tok (off + e.c1.lead.length) :: e.more off
end GPE

section
variable {np : NestedParse} {L : Str} {adn : Bool} {P : Res SVal → Local → Tape → Prop}
  {base : Stack SVal} {b g93 : Nat}

/-- from `simple_command` to `pipeline` (two reductions) -/
theorem g_to_pipe {l : Local} {Tp : Tape} (hbase : topState base = b) {s95 ts : Nat} {term : Token}
    (h13 : Tab.T.action 13 ts = some (.reduce 58)) (h11 : Tab.T.action 11 ts = some (.reduce 163))
    (g66 : Tab.T.goto b 66 = some 11) (g95 : Tab.T.goto b 95 = some s95)
    {c : GCmd} {off : Nat} {tr : Tree} {nl : Nat} {cons : List Nat} {f : Nat}
    (hk : ∀ tr', Tot (engineLoop np f
      { stack := ⟨s95, tr', .nodes [c.node off]⟩ :: base,
        la := some (ts, .tok term), nlShifted := nl, consumed := cons }) l Tp P) :
    Tot (engineLoop np (f + 2)
      { stack := ⟨13, tr, .nodes (c.nodes off)⟩ :: base, la := some (ts, .tok term), nlShifted := nl,
        consumed := cons }) l Tp P := by
  obtain ⟨nl', pl, hlast, hpl, hpl2⟩ := gnodes_lastE (off + c.lead.length) c.first c.items
  refine cmd_to_pipe (nh := c.first.node (off + c.lead.length)) hbase h13 h11 g66 g95 rfl hlast
    (Elem.nodePos_node _ _) hpl ?_
  rw [hpl2]
  exact hk

/-- a token after a command of a pipeline: the command is closed on it -/
structure PipeT (s : Nat) : Prop where
  g : TermG s
  a13 : Tab.T.action 13 s = some (.reduce 58)
  a11 : Tab.T.action 11 s = some (.reduce 163)

theorem OutT.pipeT {s : Nat} (h : OutT s) : PipeT s := ⟨h.t.w.g, h.t.a13, h.t.a11⟩

/-- the tokens still to come after the commands `| c …` and a token `t` start with `|` or `t` -/
theorem gprest_head {t : Token} (hO : OutT (symOfTok t)) (ts : List Token) :
    ∀ (cs : List GCmd) (a : Nat), ∃ t' ts', gprestToks a cs ++ t :: ts = t' :: ts' ∧
      PipeT (symOfTok t')
  | [], _ => ⟨t, ts, rfl, hO.pipeT⟩
  | c :: cs, a => ⟨barTok a, _, rfl, by
    rw [show symOfTok (barTok a) = 52 from Tab.symBAR]; exact ⟨termGBAR, Tab.a13b, Tab.a11b⟩⟩

variable {R : Local → Tape → Prop} {t : Token} {ts : List Token}

/-- **the commands after the first of a pipeline inside a list** (general commands): `command` holds
    the last command read, the first of the tokens still to come is in hand -/
theorem pipe_fwdF (hbase : topState base = b) (hB : BaseOK b g93) (hO : OutT (symOfTok t))
    {pF : Span} {nF : List Node} {f : Nat} :
    ∀ (cs : List GCmd) (pend : List Pend) (pk : Span) (nk : List Node) (a : Nat) (u : Token)
      (us : List Token) (l : Local) (Tp : Tape) (nl : Nat) (cons : List Nat) (tr : Tree),
      (∀ c ∈ cs, c.OK) → gprestToks a cs ++ t :: ts = u :: us → Feeds us l Tp R →
      (∀ Y, (flat pend (Node.command pk nk :: Y)).head? = some (Node.command pF nF)) →
      (∀ tr' nl' cons' l' Tp', Feeds ts l' Tp' R → Tot (engineLoop np f
        { stack := ⟨g93, tr', .nodes [mkPipe pF.1 (glastEnd pk.2 a cs)
            (flat pend (Node.command pk nk :: gprestNodes a cs))]⟩ :: base,
          la := some (symOfTok t, .tok t), nlShifted := nl', consumed := cons' }) l' Tp' P) →
      Tot (engineLoop np (f + gpcostB pend.length cs)
        { stack := ⟨sOf pend, tr, .nodes [Node.command pk nk]⟩ :: pstackB base pend,
          la := some (symOfTok u, .tok u), nlShifted := nl, consumed := cons }) l Tp P
  | [], pend, pk, nk, a, u, us, l, Tp, nl, cons, tr, _, hu, hF, hhd, hk => by
    cases hu
    have e : f + gpcostB pend.length [] = (f + 2) + pend.length := by simp only [gpcostB]; omega
    rw [e]
    refine unwindB hbase hB hO.a195 pend _ tr fun tr' => ?_
    refine from8B (pF := pF) (nF := nF) (pL := pk) (nL := nk) hbase hB hO.t (hhd []) ?_ fun tr'' => ?_
    · rw [flat_last pend _ (by simp)]; rfl
    · simpa [gprestNodes, glastEnd] using hk tr'' nl cons l Tp hF
  | c :: cs', pend, pk, nk, a, u, us, l, Tp, nl, cons, tr, hcs, hu, hF, hhd, hk => by
    have hc := hcs c (List.mem_cons_self ..)
    obtain ⟨t', ts', e, hT'⟩ := gprest_head hO ts cs' (a + 1 + c.text.length)
    have hu' : barTok a :: c.first.tok (a + 1 + c.lead.length) :: (c.more (a + 1) ++ t' :: ts') =
        u :: us := by
      rw [← hu, ← e]; simp [gprestToks, GCmd.toks]
    cases hu'
    have ea : c.endPos (a + 1) + c.trail.length = a + 1 + c.text.length := GCmd.endPos_trail c (a + 1)
    have e1 : f + gpcostB pend.length (c :: cs') =
        ((((f + gpcostB (pend.length + 1) cs') + 2) + (c.cost + 2)) + 3) + 1 := by
      simp only [gpcostB]; omega
    rw [e1, show symOfTok (barTok a) = 52 from Tab.symBAR]
    refine Tot.loop_step ?_
    refine R_shift (sOf_dflt pend) (sOf_ne0 pend) (sOf_bar pend) ?_
    refine nl_firstF nlg64 hF fun t2 cons1 l1 Tp1 hF1 => ?_
    refine g_run13F (b := 136) rfl baseG136 hT'.g hc hF1 rfl fun tr' nl' cons' l' Tp' hF' => ?_
    refine g_to_pipe (b := 136) rfl hT'.a13 hT'.a11 Tab.g136_66 Tab.g136_95 fun tr'' => ?_
    refine pipe_fwdF (pF := pF) (nF := nF) hbase hB hO cs'
      (⟨Node.command pk nk, barTok a, tr, _, t2⟩ :: pend)
      (a + 1 + c.lead.length, c.endPos (a + 1)) (c.nodes (a + 1)) (a + 1 + c.text.length) t' ts'
      l' Tp' nl' cons' tr'' (fun x hx => hcs x (List.mem_cons_of_mem _ hx)) e hF' ?_ ?_
    · intro Y
      have := hhd (Node.pipe ((barTok a).lexpos, (barTok a).endlexpos) (barTok a).valueStr ::
        Node.command (a + 1 + c.lead.length, c.endPos (a + 1)) (c.nodes (a + 1)) :: Y)
      simpa [flat] using this
    · intro tr3 nl3 cons3 l3 Tp3 hF3
      have := hk tr3 nl3 cons3 l3 Tp3 hF3
      simpa [gprestNodes, glastEnd, flat, GCmd.node, barTok, Token.lexpos,
        Token.endlexpos, Token.valueStr] using this

/-- **one pipeline of general commands as an element of a list**, its first token already shifted:
    its other tokens and the token `t` after it are fetched; `k` goes on from `simple_list1` -/
theorem gpe_runF (hbase : topState base = b) (hB : BaseOK b g93) (hBG : BaseG b)
    (hO : OutT (symOfTok t)) {e : GPE} {off : Nat} {l : Local} {Tp : Tape} {fuel f' nl : Nat}
    {cons : List Nat} {tr : Tree} (he : e.OK) (hF : Feeds (e.more off ++ t :: ts) l Tp R)
    (hf : fuel = f' + e.cost)
    (hk : ∀ tr' nl' cons' l' Tp', Feeds ts l' Tp' R → Tot (engineLoop np f'
        { stack := ⟨g93, tr', .nodes [e.node off]⟩ :: base, la := some (symOfTok t, .tok t),
          nlShifted := nl', consumed := cons' }) l' Tp' P) :
    Tot (engineLoop np fuel
      { stack := ⟨e.c1.first.shB, tr, .tok (e.c1.first.tok (off + e.c1.lead.length))⟩ :: base,
        la := none, nlShifted := nl, consumed := cons }) l Tp P := by
  obtain ⟨c1, cs⟩ := e
  obtain ⟨t', ts', e, hT'⟩ := gprest_head hO ts cs (off + c1.text.length)
  have ea : c1.endPos off + c1.trail.length = off + c1.text.length := GCmd.endPos_trail c1 off
  have e1 : fuel = ((f' + gpcostB 0 cs) + 2) + (c1.cost + 2) := by
    rw [hf]; simp only [GPE.cost]; omega
  rw [GPE.more, List.append_assoc, e] at hF
  refine g_run13F hbase hBG hT'.g he.1 hF e1 fun tr' nl' cons' l' Tp' hF' => ?_
  refine g_to_pipe hbase hT'.a13 hT'.a11 hB.g66 hB.g95 fun tr'' => ?_
  refine pipe_fwdF (pF := (off + c1.lead.length, c1.endPos off)) hbase hB hO cs []
    (off + c1.lead.length, c1.endPos off) (c1.nodes off) (off + c1.text.length) t' ts' l' Tp' nl'
    cons' tr'' he.2 e hF' (fun Y => rfl) fun tr3 nl3 cons3 l3 Tp3 hF3 => ?_
  simpa [GPE.node, GPE.endPos, flat, GCmd.node] using hk tr3 nl3 cons3 l3 Tp3 hF3

end

/-! ## the tokenizer on the rest of a pipeline -/

section
variable {L : Str} {adn : Bool} {R : Local → Tape → Prop}

/-- after the trailing blanks of a command of a pipeline comes `|` or what follows the pipeline -/
theorem gprest_after {trail X : Str} {b0 : Char} {r0 : Str} (htrail : Blank trail) :
    ∀ (cs : List GCmd), gptrail trail cs ++ X = b0 :: r0 → endChar b0 = true →
      ∃ b1 r1, trail ++ (gprestText cs ++ X) = b1 :: r1 ∧ endChar b1 = true
  | [], h, hb => ⟨b0, r0, by simpa [gprestText, gptrail] using h, hb⟩
  | c :: cs, _, _ => by
    obtain ⟨b1, r1, h1, hb1⟩ := head_app htrail (x := '|') (by decide) (c.text ++ (gprestText cs ++ X))
    exact ⟨b1, r1, by rw [← h1]; simp [gprestText], hb1⟩

/-- the commands `| c …` after a command of a pipeline, then what follows the pipeline -/
theorem follows_prest (hlen : L.length + 2 ≤ 1073741824) {X : Str} {b0 : Char} {r0 : Str}
    (hb0 : endChar b0 = true) {ts : List Token} :
    ∀ (cs : List GCmd) (trail : Str) (e : Nat) (aft : Bool), (∀ c ∈ cs, c.OK) → Blank trail →
      L.drop e = trail ++ (gprestText cs ++ X) → gptrail trail cs ++ X = b0 :: r0 →
      (∀ aft', Follows L adn aft' (glastEnd e (e + trail.length) cs) ts R) →
      Follows L adn aft e (gprestToks (e + trail.length) cs ++ ts) R
  | [], _, _, aft, _, _, _, _, hfol => hfol aft
  | c :: cs, trail, e, aft, hcs, htrail, hL, hR, hfol => by
    have hc := hcs c (List.mem_cons_self ..)
    obtain ⟨d, r, hd, _, hd2, hd3, hd1⟩ := GCmd.text_head hc
    have hL' : L.drop e = trail ++ '|' :: d :: (r ++ (gprestText cs ++ X)) := by
      rw [hL]; simp [gprestText, hd]
    have hnext : L.drop (e + trail.length + 1) = c.text ++ (gprestText cs ++ X) := by
      have := congrArg (List.drop (trail.length + 1)) hL'
      rw [List.drop_drop] at this
      rw [Nat.add_assoc, this, hd]
      simp
    obtain ⟨b1, r1, h1, hb1⟩ := gprest_after hc.trail cs (by simpa [gptrail] using hR) hb0
    have ea := GCmd.endPos_trail c (e + trail.length + 1)
    have := Follows.fetch (aft := aft) (fetchTerm_bar hlen htrail hL' hd1 hd2 hd3)
      fun l' hl' hcur' => feeds_cmd hlen hc hl' (by rw [hcur']; rfl) (by rw [hcur']; rfl) hnext h1 hb1
        fun aft' => follows_prest hlen hb0 cs c.trail _ aft'
          (fun x hx => hcs x (List.mem_cons_of_mem _ hx)) hc.trail (GCmd.drop_text_end hnext)
          (by simpa [gptrail] using hR) (by rw [ea]; simpa [glastEnd] using hfol)
    simpa [gprestToks, ea, List.append_assoc] using this

/-- the tokens of a pipeline after its first, then what follows the pipeline -/
theorem feeds_pipe_more (hlen : L.length + 2 ≤ 1073741824) {e : GPE} {off : Nat} {l : Local}
    {X : Str} {b0 : Char} {r0 : Str} {ts : List Token} (he : e.OK) (hl : POK l)
    (hcur : l.currentToken = e.c1.first.tok (off + e.c1.lead.length))
    (hLc : L.drop off = e.text ++ X) (hR : e.trail ++ X = b0 :: r0) (hb0 : endChar b0 = true)
    (hfol : ∀ aft, Follows L adn aft (e.endPos off) ts R) :
    Feeds (e.more off ++ ts) l ⟨L, off + e.c1.lead.length + e.c1.first.tlen, adn⟩ R := by
  obtain ⟨c1, cs⟩ := e
  have hLc' : L.drop off = c1.text ++ (gprestText cs ++ X) := by simpa [GPE.text] using hLc
  obtain ⟨b1, r1, h1, hb1⟩ := gprest_after he.1.trail cs hR hb0
  have ea := GCmd.endPos_trail c1 off
  rw [GPE.more, List.append_assoc]
  refine feeds_cmd_more hlen h1 hb1 he.1 hl hcur (GCmd.drop_text hLc') ?_
  have := follows_prest (R := R) (ts := ts) hlen hb0 cs c1.trail (c1.endPos off)
    (afterJ c1.first.after c1.items) he.2 he.1.trail (GCmd.drop_text_end hLc') hR
    (by rw [ea]; exact hfol)
  rwa [ea] at this

/-- a pipeline in command position, then what follows it -/
theorem feeds_pipe (hlen : L.length + 2 ≤ 1073741824) {e : GPE} {off : Nat} {l : Local}
    {X : Str} {b0 : Char} {r0 : Str} {ts : List Token} (he : e.OK) (hl : POK l)
    (hso : startOK l.currentToken = true) (hcurh : histOK l.currentToken = true)
    (hLc : L.drop off = e.text ++ X) (hR : e.trail ++ X = b0 :: r0) (hb0 : endChar b0 = true)
    (hfol : ∀ aft, Follows L adn aft (e.endPos off) ts R) :
    Feeds (e.toks off ++ ts) l ⟨L, off, adn⟩ R := by
  obtain ⟨c1, cs⟩ := e
  have hLc' : L.drop off = c1.text ++ (gprestText cs ++ X) := by simpa [GPE.text] using hLc
  obtain ⟨b1, r1, h1, hb1⟩ := gprest_after he.1.trail cs hR hb0
  have ea := GCmd.endPos_trail c1 off
  have := feeds_cmd (R := R) (ts := gprestToks (off + c1.text.length) cs ++ ts) hlen he.1 hl hso hcurh
    hLc' h1 hb1 fun aft => by
      have := follows_prest (R := R) (ts := ts) hlen hb0 cs c1.trail (c1.endPos off) aft he.2
        he.1.trail (GCmd.drop_text_end hLc') hR (by rw [ea]; exact hfol)
      rwa [ea] at this
  simpa [GPE.toks, GPE.more, GCmd.toks, List.append_assoc] using this

end

section
variable {np : NestedParse} {L : Str} {adn : Bool} {P : Res SVal → Local → Tape → Prop}
  {base : Stack SVal} {b g93 : Nat}
variable {tsO : Nat} {termO : Token} {iTO : Nat} {X : Str} {b0 : Char} {r0 : Str}

/-- **one pipeline of general commands as an element of a list**, its first token already shifted -/
theorem gpe_run (hbase : topState base = b) (hB : BaseOK b g93) (hBG : BaseG b) (hO : OutT tsO) (hOG : TermG tsO)
    (htsO : symOfTok termO = tsO)
    (hb0 : endChar b0 = true) (hlen : L.length + 2 ≤ 1073741824)
    {e : GPE} {off : Nat} {l : Local} {fuel f' nl : Nat} {cons : List Nat} {tr : Tree}
    (he : e.OK) (hl : POK l)
    (hcur : l.currentToken = e.c1.first.tok (off + e.c1.lead.length))
    (hLc : L.drop off = e.text ++ X) (hR : e.trail ++ X = b0 :: r0)
    (hfetch : FetchTerm L adn termO (e.endPos off) iTO)
    (hf : fuel = f' + e.cost)
    (hk : ∀ tr' nl' cons' l', POK l' → l'.currentToken = termO → Tot (engineLoop np f'
        { stack := ⟨g93, tr', .nodes [e.node off]⟩ :: base, la := some (tsO, .tok termO),
          nlShifted := nl', consumed := cons' }) l' ⟨L, iTO, adn⟩ P) :
    Tot (engineLoop np fuel
      { stack := ⟨e.c1.first.shB, tr, .tok (e.c1.first.tok (off + e.c1.lead.length))⟩ :: base,
        la := none, nlShifted := nl, consumed := cons }) l
      ⟨L, off + e.c1.lead.length + e.c1.first.tlen, adn⟩ P := by
  subst htsO
  refine gpe_runF (ts := []) hbase hB hBG hO he
    (feeds_pipe_more hlen he hl hcur hLc hR hb0 fun _ => .term hfetch) hf ?_
  exact fun tr' nl' cons' l' _ ⟨h1, h2, h3⟩ => h3 ▸ hk tr' nl' cons' l' h1 h2

end

end Bashlex.C02
