/-
  C02 (round trip): lists of pipelines of GENERAL simple commands (`SeqPE` over `GCmd`), in
  two layers: the tokenizer over the text of the rest of a line (`follows_hrest`, `feeds_after_op`,
  `feeds_line_more`), the engine over the tokens to come (`andor_stepF`, `semi_stepF`, `run_restF`,
  `run_seq_shiftedF`); `run_seqH_shifted` and `run_seqH`, stated over the text, are the two put
  together.
-/
import Bashlex.Props.C02.PipeG
import Bashlex.Props.C02.SeqPE

namespace Bashlex.C02
open Bashlex Bashlex.M Bashlex.LR

theorem Op.tok_start (o : Op) (a : Nat) : startOK (o.tok a) = true := by cases o <;> rfl

theorem glastEnd_shift (k : Nat) : ∀ (cs : List GCmd) (e a : Nat),
    glastEnd (e + k) (a + k) cs = glastEnd e a cs + k
  | [], _, _ => rfl
  | c :: cs, e, a => by
    have ih := glastEnd_shift k cs (c.endPos (a + 1)) (a + 1 + c.text.length)
    have e1 : a + k + 1 + c.text.length = a + 1 + c.text.length + k := by omega
    have e2 : a + k + 1 = a + 1 + k := by omega
    show glastEnd (c.endPos (a + k + 1)) (a + k + 1 + c.text.length) cs =
      glastEnd (c.endPos (a + 1)) (a + 1 + c.text.length) cs + k
    rw [e1, e2, GCmd.endPos_shift c k (a + 1)]
    exact ih

/-! ## facts about one pipeline -/

theorem gptrail_blank : ∀ (cs : List GCmd) (t0 : Str), Blank t0 → (∀ c ∈ cs, c.OK) →
    Blank (gptrail t0 cs)
  | [], _, h, _ => h
  | c :: cs, _, _, hcs =>
    gptrail_blank cs c.trail (hcs c (List.mem_cons_self ..)).trail
      (fun x hx => hcs x (List.mem_cons_of_mem _ hx))

theorem GPE.trail_blank {e : GPE} (he : e.OK) : Blank e.trail := gptrail_blank e.cs _ he.1.trail he.2

theorem gpsplit : ∀ (cs : List GCmd) (pre t0 : Str) (e a : Nat), pre.length = e →
    e + t0.length = a →
    ∃ Y, pre ++ t0 ++ gprestText cs = Y ++ gptrail t0 cs ∧ Y.length = glastEnd e a cs
  | [], pre, t0, e, a, he, _ => ⟨pre, by simp [gprestText, gptrail], by simpa [glastEnd] using he⟩
  | c :: cs, pre, t0, e, a, he, ha => by
    obtain ⟨Y, hY, hYl⟩ := gpsplit cs (pre ++ t0 ++ ['|'] ++ c.lead ++ c.first.text ++ spellJ c.items) c.trail
      (c.endPos (a + 1)) (a + 1 + c.text.length)
      (by simp only [GCmd.endPos, endJ_eq, List.length_append, List.length_cons, List.length_nil]; omega)
      (GCmd.endPos_trail c (a + 1))
    refine ⟨Y, ?_, by simpa [glastEnd] using hYl⟩
    show pre ++ t0 ++ gprestText (c :: cs) = Y ++ gptrail c.trail cs
    rw [← hY]
    simp [gprestText, GCmd.text]

theorem glastEnd_pos : ∀ (cs : List GCmd) (e a : Nat), 1 ≤ e → 1 ≤ glastEnd e a cs
  | [], _, _, h => h
  | c :: cs, _, a, _ => glastEnd_pos cs _ _ (by simp only [GCmd.endPos, endJ_eq]; omega)

/-- a pipeline's text splits into everything up to the end of its last word, and its last
    trailing blanks -/
theorem GPE.split (e : GPE) (he : e.OK) :
    ∃ Y, e.text = Y ++ e.trail ∧ 1 ≤ Y.length ∧ ∀ off, e.endPos off = off + Y.length := by
  have hw : 0 < e.c1.first.text.length := Elem.text_pos he.1.first
  obtain ⟨Y, hY, hYl⟩ := gpsplit e.cs (e.c1.lead ++ e.c1.first.text ++ spellJ e.c1.items) e.c1.trail
    (e.c1.endPos 0) (0 + e.c1.text.length)
    (by simp only [GCmd.endPos, endJ_eq, List.length_append]; omega) (GCmd.endPos_trail e.c1 0)
  refine ⟨Y, ?_, ?_, ?_⟩
  · rw [GPE.trail, ← hY]; simp [GPE.text, GCmd.text]
  · rw [hYl]; exact glastEnd_pos e.cs _ _ (by simp only [GCmd.endPos, endJ_eq]; omega)
  · intro off
    rw [GPE.endPos, hYl]
    have := glastEnd_shift off e.cs (e.c1.endPos 0) (0 + e.c1.text.length)
    have e1 : e.c1.endPos off = e.c1.endPos 0 + off := by rw [← GCmd.endPos_shift]; simp
    have e2 : off + e.c1.text.length = 0 + e.c1.text.length + off := by omega
    rw [e1, e2, this]
    omega

theorem GPE.endPos_trail {e : GPE} (he : e.OK) (off : Nat) :
    e.endPos off + e.trail.length = off + e.text.length := by
  obtain ⟨Y, hY, _, hYe⟩ := GPE.split e he
  rw [hYe off, hY]; simp; omega

theorem GPE.drop_text_end {L : Str} {e : GPE} (he : e.OK) {X : Str} {off : Nat}
    (h : L.drop off = e.text ++ X) : L.drop (e.endPos off) = e.trail ++ X := by
  obtain ⟨Y, hY, _, hYe⟩ := GPE.split e he
  rw [hYe off, ← List.drop_drop, h, hY]
  have : Y ++ e.trail ++ X = Y ++ (e.trail ++ X) := by simp
  rw [this]
  exact List.drop_left' rfl

theorem GPE.text_head {e : GPE} (he : e.OK) :
    ∃ d r, e.text = d :: r ∧ d ≠ ';' ∧ d ≠ '&' ∧ d ≠ '\\' := by
  obtain ⟨d, r, hd, h1, h2, h3, _⟩ := GCmd.text_head he.1
  exact ⟨d, r ++ gprestText e.cs, by simp [GPE.text, hd], h1, h2, h3⟩

/-- the node of a pipeline is positioned: from its first word to the end of its last word -/
theorem GPE.node_pos (e : GPE) (off : Nat) :
    nodePos (e.node off) = pure (off + e.c1.lead.length, e.endPos off) := by
  obtain ⟨c1, cs⟩ := e
  cases cs with
  | nil => rfl
  | cons c cs' => rfl

/-! ## the text and the nodes of the list -/

def hrestText : List (Op × GPE) → Str
  | [] => []
  | (o, e) :: es => o.txt ++ (e.text ++ hrestText es)

def hrestNodes (a : Nat) : List (Op × GPE) → List Node
  | [] => []
  | (o, e) :: es =>
    Node.operator (a, a + o.txt.length) o.txt :: e.node (a + o.txt.length) ::
      hrestNodes (a + o.txt.length + e.text.length) es

def hlastEnd (e0 a : Nat) : List (Op × GPE) → Nat
  | [] => e0
  | (o, e) :: es => hlastEnd (e.endPos (a + o.txt.length)) (a + o.txt.length + e.text.length) es

/-- the tokens of `op₂ p₂ op₃ p₃ …`, the first operator at `a` -/
def hrestToks (a : Nat) : List (Op × GPE) → List Token
  | [] => []
  | (o, e) :: es =>
    o.tok a :: (e.toks (a + o.txt.length) ++ hrestToks (a + o.txt.length + e.text.length) es)

/-- where the NEWLINE after `op₂ p₂ …` stands -/
def hnlPos (a : Nat) : List (Op × GPE) → Nat
  | [] => a
  | (o, e) :: es => hnlPos (a + o.txt.length + e.text.length) es

/-! ## the tokenizer on the rest of a list -/

section
variable {L : Str} {adn : Bool}

/-- a text `op₂ p₂ … NEWLINE …` starts with a character that ends a word -/
theorem hrest_head (es : List (Op × GPE)) (nlr : Str) :
    ∃ x0 xr, hrestText es ++ '\n' :: nlr = x0 :: xr ∧ endChar x0 = true := by
  cases es with
  | nil => exact ⟨'\n', nlr, rfl, by decide⟩
  | cons oc es' =>
    obtain ⟨o, p⟩ := oc
    obtain ⟨x, r, hx, hxe⟩ := op_endChar o
    exact ⟨x, r ++ (p.text ++ hrestText es') ++ '\n' :: nlr, by simp [hrestText, hx], hxe⟩

/-- after the trailing blanks of a pipeline of a line comes a character that ends a word -/
theorem hrest_after {trail : Str} (htrail : Blank trail) (es : List (Op × GPE)) (nlr : Str) :
    ∃ b0 r0, trail ++ (hrestText es ++ '\n' :: nlr) = b0 :: r0 ∧ endChar b0 = true := by
  obtain ⟨x0, xr, hX, hx0⟩ := hrest_head es nlr
  rw [hX]; exact head_app htrail hx0 xr

/-- the pipelines `op p …` after a pipeline of a line, and the NEWLINE -/
theorem follows_hrest (hlen : L.length + 2 ≤ 1073741824) {nlr : Str} :
    ∀ (es : List (Op × GPE)) (trail : Str) (e : Nat) (aft : Bool), (∀ x ∈ es, x.2.OK) → Blank trail →
      L.drop e = trail ++ (hrestText es ++ '\n' :: nlr) →
      Follows L adn aft e
        (hrestToks (e + trail.length) es ++ [nlTok (hnlPos (e + trail.length) es)])
        (AtTerm L adn (nlTok (hnlPos (e + trail.length) es)) (hnlPos (e + trail.length) es + 1))
  | [], trail, e, aft, _, htrail, hL =>
    .term (fetchTerm_nl hlen htrail (by simpa [hrestText] using hL))
  | (o, p) :: es, trail, e, aft, hes, htrail, hL => by
    have hp := hes (o, p) (List.mem_cons_self ..)
    obtain ⟨d, r, hd, hd1, hd2, hd3⟩ := GPE.text_head hp
    have hL' : L.drop e = trail ++ (o.txt ++ d :: (r ++ (hrestText es ++ '\n' :: nlr))) := by
      rw [hL]; simp [hrestText, hd]
    have hnext : L.drop (e + trail.length + o.txt.length) =
        p.text ++ (hrestText es ++ '\n' :: nlr) := by
      have := congrArg (List.drop (trail.length + o.txt.length)) hL'
      rw [List.drop_drop] at this
      rw [Nat.add_assoc, this, hd]
      have e2 : trail ++ (o.txt ++ d :: (r ++ (hrestText es ++ '\n' :: nlr))) =
          (trail ++ o.txt) ++ (d :: (r ++ (hrestText es ++ '\n' :: nlr))) := by simp
      rw [e2, List.drop_left' (by simp)]
      simp
    obtain ⟨b0, r0, hR, hb0⟩ := hrest_after (GPE.trail_blank hp) es nlr
    have ea := GPE.endPos_trail hp (e + trail.length + o.txt.length)
    have := Follows.fetch (aft := aft) (fetchTerm_op hlen o htrail hL' hd1 hd2 hd3)
      fun l' hl' hcur' => feeds_pipe hlen hp hl' (by rw [hcur']; exact Op.tok_start o _)
        (by rw [hcur']; exact Op.tok_hist o _) hnext hR hb0
        fun aft' => follows_hrest hlen es p.trail _ aft'
          (fun x hx => hes x (List.mem_cons_of_mem _ hx)) (GPE.trail_blank hp)
          (GPE.drop_text_end hp hnext)
    simpa [hrestToks, hnlPos, ea, List.append_assoc] using this

/-- after an operator of a line: its pipeline, the pipelines after that and the NEWLINE -/
theorem feeds_after_op (hlen : L.length + 2 ≤ 1073741824) {nlr : Str} {o : Op} {p : GPE}
    {es : List (Op × GPE)} {l : Local} {a : Nat} (hp : p.OK) (hes : ∀ x ∈ es, x.2.OK) (hl : POK l)
    (hcur : l.currentToken = o.tok a)
    (hL : L.drop (a + o.txt.length) = p.text ++ (hrestText es ++ '\n' :: nlr)) :
    Feeds (p.toks (a + o.txt.length) ++ (hrestToks (a + o.txt.length + p.text.length) es ++
        [nlTok (hnlPos (a + o.txt.length + p.text.length) es)])) l ⟨L, a + o.txt.length, adn⟩
      (AtTerm L adn (nlTok (hnlPos (a + o.txt.length + p.text.length) es))
        (hnlPos (a + o.txt.length + p.text.length) es + 1)) := by
  obtain ⟨b0, r0, hR, hb0⟩ := hrest_after (GPE.trail_blank hp) es nlr
  have ea := GPE.endPos_trail hp (a + o.txt.length)
  refine feeds_pipe hlen hp hl (by rw [hcur]; exact Op.tok_start o a)
    (by rw [hcur]; exact Op.tok_hist o a) hL hR hb0 fun aft => ?_
  have := follows_hrest (adn := adn) hlen es p.trail _ aft hes (GPE.trail_blank hp)
    (GPE.drop_text_end hp hL)
  rwa [ea] at this

end

/-! ## the engine -/

section
variable {np : NestedParse} {P : Res SVal → Local → Tape → Prop} {R : Local → Tape → Prop}
  {t : Token} {ts : List Token}

/-- a token after a pipeline of a list: the pipeline is closed on it, and so is an and-or group -/
structure ListT (s : Nat) : Prop where
  out : OutT s
  a193 : Tab.T.action 193 s = some (.reduce 151)
  a194 : Tab.T.action 194 s = some (.reduce 152)

/-- the tokens still to come after the pipelines `op p …` and the NEWLINE start with an operator or
    the NEWLINE -/
theorem hrestToks_head (ht : symOfTok t = 55) (ts : List Token) :
    ∀ (es : List (Op × GPE)) (a : Nat), ∃ t' ts', hrestToks a es ++ t :: ts = t' :: ts' ∧
      ListT (symOfTok t')
  | [], _ => ⟨t, ts, rfl, by rw [ht]; exact ⟨outNL, Tab.a193n, Tab.a194n⟩⟩
  | (o, p) :: es, a => ⟨o.tok a, _, rfl, by rw [Op.tok_sym]; exact ⟨o.out, o.a193, o.a194⟩⟩

/-- **one and-or step** with a pipeline as right operand -/
theorem andor_stepF {o : Op} {s1 s2 s3 prod : Nat} (hA : AOF o s1 s2 s3 prod) (hN : NLG s1 s2)
    {B : Under} {G : List Node} {e : GPE} {l : Local} {Tp : Tape} {a f' n0 : Nat}
    {cons : List Nat} {tr : Tree} (he : e.OK) (hO : OutT (symOfTok t))
    (h3 : Tab.T.action s3 (symOfTok t) = some (.reduce prod))
    (hF : Feeds (e.toks (a + o.txt.length) ++ t :: ts) l Tp R)
    (hk : ∀ tr' nl' cons' l' Tp', Feeds ts l' Tp' R → Tot (engineLoop np f'
      { stack := ⟨slOf B, tr', .nodes (G ++ [Node.operator (a, a + o.txt.length) o.txt] ++
          [e.node (a + o.txt.length)])⟩ :: bstack B,
        la := some (symOfTok t, .tok t), nlShifted := nl', consumed := cons' }) l' Tp' P) :
    Tot (engineLoop np (f' + (5 + e.cost))
      { stack := ⟨slOf B, tr, .nodes G⟩ :: bstack B, la := some (o.sym, .tok (o.tok a)),
        nlShifted := n0, consumed := cons }) l Tp P := by
  have e1 : f' + (5 + e.cost) = (((f' + 1) + e.cost) + 3) + 1 := by omega
  rw [e1]
  refine Tot.loop_step ?_
  refine R_shift (slOf_dflt B) (slOf_ne0 B) (slOf_shift hA B) ?_
  refine nl_firstF hN hF fun t2 cons1 l1 Tp1 hF1 => ?_
  refine gpe_runF (b := s2) (g93 := s3) rfl hA.base hN.base hO he hF1 rfl
    fun tr' nl' cons' l' Tp' hF' => ?_
  refine Tot.loop_step ?_
  refine R_reduce hA.d3 hA.n3 h3 hA.p rfl (goto_bstack B) hA.f ?_
  refine act_simple_list1_4 ?_
  simp only [Bool.false_eq_true, if_false]
  rw [Op.tok_lexpos, Op.tok_endlexpos, Op.tok_valueStr]
  exact hk _ nl' cons' l' Tp' hF'

/-- **one `;` step** with a pipeline as right operand -/
theorem semi_stepF {acc : List Node} {e : GPE} {l : Local} {Tp : Tape} {a f' n0 : Nat}
    {cons : List Nat} {tr : Tree} (he : e.OK) (hO : OutT (symOfTok t))
    (hF : Feeds (e.toks (a + 1) ++ t :: ts) l Tp R)
    (hk : ∀ tr' t2 nl' cons' l' Tp', Feeds ts l' Tp' R → Tot (engineLoop np f'
      { stack := ⟨slOf (some (acc, semiTok a, tr, t2)), tr', .nodes [e.node (a + 1)]⟩ ::
          bstack (some (acc, semiTok a, tr, t2)),
        la := some (symOfTok t, .tok t), nlShifted := nl', consumed := cons' }) l' Tp' P) :
    Tot (engineLoop np (f' + (2 + e.cost))
      { stack := [⟨6, tr, .nodes acc⟩], la := some (53, .tok (semiTok a)),
        nlShifted := n0, consumed := cons }) l Tp P := by
  have e1 : f' + (2 + e.cost) = ((f' + e.cost) + 1) + 1 := by omega
  rw [e1]
  refine Tot.loop_step ?_
  refine R_shift Tab.d6 rfl Tab.a6s ?_
  refine base_firstF (b := 61) rfl baseG61 hF fun cons1 l1 Tp1 hF1 => ?_
  refine gpe_runF (b := 61) (g93 := 133) rfl base61 baseG61 hO he hF1 rfl
    fun tr' nl' cons' l' Tp' hF' => ?_
  have hk' := fun tr'' t2 => hk tr'' t2 nl' cons' l' Tp' hF'
  simp only [slOf, bstack] at hk'
  exact hk' _ _

def hcost : Nat → List (Op × GPE) → Nat
  | k, [] => k + 4
  | k, (o, e) :: es =>
    match o with
    | .semi => k + (2 + e.cost) + hcost 1 es
    | _ => (5 + e.cost) + hcost k es

/-- **the pipelines after the first**, operators `;`, `&&`, `||` mixed: the and-or group under
    construction on the stack, the first of the tokens still to come (an operator, or the NEWLINE
    `t`) in hand -/
theorem run_restF (hR : ∀ l Tp, R l Tp → POK l) (ht : symOfTok t = 55) {nh : Node} {ph : Span}
    (hph : nodePos nh = pure ph) :
    ∀ (es : List (Op × GPE)) (B : Under) (G : List Node) (a : Nat) (u : Token) (us : List Token)
      (l : Local) (Tp : Tape) (f n0 : Nat) (cons : List Nat) (tr : Tree) (nl : Node) (pl : Span),
      (∀ x ∈ es, x.2.OK) → hrestToks a es ++ [t] = u :: us → Feeds us l Tp R →
      (total B G).head? = some nh → G.getLast? = some nl → nodePos nl = pure pl →
      (∀ r l' T', ResIs (mkSeq ph.1 (hlastEnd pl.2 a es) (total B G ++ hrestNodes a es)) r →
        P r l' T') →
      Tot (engineLoop np (f + hcost (bcost B) es)
        { stack := ⟨slOf B, tr, .nodes G⟩ :: bstack B, la := some (symOfTok u, .tok u),
          nlShifted := n0, consumed := cons }) l Tp P
  | [], B, G, a, u, us, l, Tp, f, n0, cons, tr, nl, pl, _, hu, hF, hh, hla, hpl, h => by
    cases hu
    have e : f + hcost (bcost B) [] = (f + 4) + bcost B := by simp only [hcost]; omega
    rw [e, ht]
    refine collapse Tab.a133n fun tr' => ?_
    refine finalE (hR _ _ hF) hh (total_last hla) hph hpl fun r l' T' hr => ?_
    exact h r l' T' (by simpa [hrestNodes, hlastEnd] using hr)
  | (o, p) :: es', B, G, a, u, us, l, Tp, f, n0, cons, tr, nl, pl, hes, hu, hF, hh, hla, hpl, h => by
    have hp : p.OK := hes (o, p) (List.mem_cons_self ..)
    have hes' : ∀ x ∈ es', x.2.OK := fun x hx => hes x (List.mem_cons_of_mem _ hx)
    obtain ⟨t', ts', e, hT'⟩ := hrestToks_head ht [] es' (a + o.txt.length + p.text.length)
    have hu' : o.tok a :: (p.toks (a + o.txt.length) ++ t' :: ts') = u :: us := by
      rw [← hu, ← e]; simp [hrestToks]
    cases hu'
    have ea : p.endPos (a + o.txt.length) + p.trail.length = a + o.txt.length + p.text.length :=
      GPE.endPos_trail hp (a + o.txt.length)
    rw [Op.tok_sym]
    -- `&&` and `||` differ in the states and the production only
    have andor : ∀ {s1 s2 s3 prod : Nat}, AOF o s1 s2 s3 prod → NLG s1 s2 →
        Tab.T.action s3 (symOfTok t') = some (.reduce prod) →
        hcost (bcost B) ((o, p) :: es') = (5 + p.cost) + hcost (bcost B) es' →
        Tot (engineLoop np (f + hcost (bcost B) ((o, p) :: es'))
          { stack := ⟨slOf B, tr, .nodes G⟩ :: bstack B, la := some (o.sym, .tok (o.tok a)),
            nlShifted := n0, consumed := cons }) l Tp P := by
      intro s1 s2 s3 prod hA hN h3 hc
      have e1 : f + hcost (bcost B) ((o, p) :: es') = (f + hcost (bcost B) es') + (5 + p.cost) := by
        rw [hc]; omega
      rw [e1]
      refine andor_stepF hA hN hp hT'.out h3 hF fun tr2 nl' cons' l' Tp' hF' => ?_
      refine run_restF hR ht hph es' B _ (a + o.txt.length + p.text.length) t' ts' l' Tp' f
        nl' cons' tr2 (p.node (a + o.txt.length))
        (a + o.txt.length + p.c1.lead.length, p.endPos (a + o.txt.length)) hes' e hF'
        (by rw [total_append, total_append]; exact head_append_ne (head_append_ne hh))
        (by simp) (GPE.node_pos p _) fun r l'' T'' hr => ?_
      refine h r l'' T'' ?_
      rw [total_append, total_append] at hr
      simpa [hrestNodes, hlastEnd, List.append_assoc] using hr
    cases o with
    | semi =>
      have e1 : f + hcost (bcost B) ((Op.semi, p) :: es') =
          ((f + hcost 1 es') + (2 + p.cost)) + bcost B := by
        simp only [hcost]; omega
      rw [e1]
      refine collapse Tab.a133s fun tr' => ?_
      refine semi_stepF hp hT'.out hF fun tr2 t2 nl' cons' l' Tp' hF' => ?_
      refine run_restF hR ht hph es' (some (total B G, semiTok a, tr', t2)) [p.node (a + 1)]
        (a + 1 + p.text.length) t' ts' l' Tp' f nl' cons' tr2 (p.node (a + 1))
        (a + 1 + p.c1.lead.length, p.endPos (a + 1)) hes' e hF'
        (head_append_ne (head_append_ne hh)) rfl (GPE.node_pos p (a + 1)) fun r l'' T'' hr => ?_
      refine h r l'' T'' ?_
      simpa [total, hrestNodes, hlastEnd, Op.txt, semiTok, Token.lexpos, Token.endlexpos,
        Token.valueStr, List.append_assoc] using hr
    | andand => exact andor aofAnd nlg62 hT'.a193 rfl
    | oror => exact andor aofOr nlg63 hT'.a194 rfl

/-- **the line `p₁ op₂ p₂ …`** of pipelines of general commands, the first token of `p₁` already
    shifted over the empty stack -/
theorem run_seq_shiftedF (hR : ∀ l Tp, R l Tp → POK l) (ht : symOfTok t = 55) {p1 : GPE}
    {es : List (Op × GPE)} {l : Local} {Tp : Tape} {i f nl0 : Nat} {cons0 : List Nat} {tr : Tree}
    (hp1 : p1.OK) (hes : ∀ x ∈ es, x.2.OK)
    (hF : Feeds (p1.more i ++ (hrestToks (i + p1.text.length) es ++ [t])) l Tp R)
    (h : ∀ r l' T', ResIs (mkSeq (i + p1.c1.lead.length) (hlastEnd (p1.endPos i) (i + p1.text.length) es)
        (p1.node i :: hrestNodes (i + p1.text.length) es)) r → P r l' T') :
    Tot (engineLoop np ((f + hcost 0 es) + p1.cost)
      { stack := [⟨p1.c1.first.shB, tr, .tok (p1.c1.first.tok (i + p1.c1.lead.length))⟩], la := none,
        nlShifted := nl0, consumed := cons0 }) l Tp P := by
  obtain ⟨t', ts', e, hT'⟩ := hrestToks_head ht [] es (i + p1.text.length)
  rw [e] at hF
  refine gpe_runF (base := []) (b := 0) (g93 := 6) rfl base0 baseG0 hT'.out hp1 hF rfl
    fun tr' nl' cons' l' Tp' hF' => ?_
  refine run_restF hR ht (nh := p1.node i) (ph := (i + p1.c1.lead.length, p1.endPos i))
    (GPE.node_pos p1 i) es none [p1.node i] (i + p1.text.length) t' ts' l' Tp' f nl' cons' tr'
    (p1.node i) (i + p1.c1.lead.length, p1.endPos i) hes e hF' rfl rfl (GPE.node_pos p1 i)
    fun r l'' T'' hr => ?_
  refine h r l'' T'' ?_
  simpa [total] using hr

end

section
variable {np : NestedParse} {L : Str} {adn : Bool} {P : Res SVal → Local → Tape → Prop} {nlr : Str}

/-- the tokens of a line after the first token of its first pipeline -/
theorem feeds_line_more (hlen : L.length + 2 ≤ 1073741824) {p1 : GPE} {es : List (Op × GPE)}
    {l : Local} {i : Nat} (hp1 : p1.OK) (hes : ∀ x ∈ es, x.2.OK) (hl : POK l)
    (hcur : l.currentToken = p1.c1.first.tok (i + p1.c1.lead.length))
    (hL : L.drop i = p1.text ++ (hrestText es ++ '\n' :: nlr)) :
    Feeds (p1.more i ++ (hrestToks (i + p1.text.length) es ++ [nlTok (hnlPos (i + p1.text.length) es)]))
      l ⟨L, i + p1.c1.lead.length + p1.c1.first.tlen, adn⟩
      (AtTerm L adn (nlTok (hnlPos (i + p1.text.length) es)) (hnlPos (i + p1.text.length) es + 1)) := by
  obtain ⟨b0, r0, hR, hb0⟩ := hrest_after (GPE.trail_blank hp1) es nlr
  have ea := GPE.endPos_trail hp1 i
  refine feeds_pipe_more hlen hp1 hl hcur hL hR hb0 fun aft => ?_
  have := follows_hrest (adn := adn) hlen es p1.trail (p1.endPos i) aft hes (GPE.trail_blank hp1)
    (GPE.drop_text_end hp1 hL)
  rwa [ea] at this

/-- **the line `p₁ op₂ p₂ …`** of pipelines of general commands, the first token of `p₁` already shifted
    over the empty stack -/
theorem run_seqH_shifted (hlen : L.length + 2 ≤ 1073741824) {p1 : GPE} {es : List (Op × GPE)} {l : Local}
    {i f nl0 : Nat} {cons0 : List Nat} {tr : Tree} (hp1 : p1.OK) (hes : ∀ x ∈ es, x.2.OK) (hl : POK l)
    (hcur : l.currentToken = p1.c1.first.tok (i + p1.c1.lead.length))
    (hL : L.drop i = p1.text ++ (hrestText es ++ '\n' :: nlr))
    (h : ∀ r l' T', ResIs (mkSeq (i + p1.c1.lead.length) (hlastEnd (p1.endPos i) (i + p1.text.length) es)
        (p1.node i :: hrestNodes (i + p1.text.length) es)) r → P r l' T') :
    Tot (engineLoop np ((f + hcost 0 es) + p1.cost)
      { stack := [⟨p1.c1.first.shB, tr, .tok (p1.c1.first.tok (i + p1.c1.lead.length))⟩], la := none,
        nlShifted := nl0, consumed := cons0 }) l
      ⟨L, i + p1.c1.lead.length + p1.c1.first.tlen, adn⟩ P :=
  run_seq_shiftedF (fun _ _ h => h.1) (symOfTok_nl _) hp1 hes (feeds_line_more hlen hp1 hes hl hcur hL) h

/-- **the whole line `p₁ op₂ p₂ …`** of pipelines from an empty stack -/
theorem run_seqH (hlen : L.length + 2 ≤ 1073741824) {p1 : GPE} {es : List (Op × GPE)} {l : Local}
    {i f nl0 : Nat} {cons0 : List Nat} (hp1 : p1.OK) (hes : ∀ x ∈ es, x.2.OK) (hl : POK l)
    (hcur : histOK l.currentToken = true) (hso : startOK l.currentToken = true)
    (hL : L.drop i = p1.text ++ (hrestText es ++ '\n' :: nlr))
    (h : ∀ r l' T', ResIs (mkSeq (i + p1.c1.lead.length) (hlastEnd (p1.endPos i) (i + p1.text.length) es)
        (p1.node i :: hrestNodes (i + p1.text.length) es)) r → P r l' T') :
    Tot (engineLoop np ((f + hcost 0 es) + p1.cost + 1)
      { stack := [], la := none, nlShifted := nl0, consumed := cons0 }) l ⟨L, i, adn⟩ P := by
  obtain ⟨b0, r0, hR, hb0⟩ := hrest_after (GPE.trail_blank hp1) es nlr
  have ea := GPE.endPos_trail hp1 i
  have hF := feeds_pipe (adn := adn) hlen hp1 hl hso hcur hL hR hb0 fun aft => by
    have := follows_hrest (adn := adn) hlen es p1.trail (p1.endPos i) aft hes (GPE.trail_blank hp1)
      (GPE.drop_text_end hp1 hL)
    rwa [ea] at this
  refine base_firstF (st := []) (b := 0) rfl baseG0 hF fun cons1 l1 Tp1 hF1 => ?_
  exact run_seq_shiftedF (fun _ _ h => h.1) (symOfTok_nl _) hp1 hes hF1 h

end

end Bashlex.C02
