/-
  C02 (round trip): from the engine to `_parser.parse()` (`parserRun`) and to one top-level
  parser run (`runParser`); texts without a newline.
-/
import Bashlex.Props.C02.Run
import Bashlex.Props.C07.Nested

namespace Bashlex.C02
open Bashlex Bashlex.M Bashlex.LR
set_option linter.unusedSimpArgs false

/-- the AST of the line: one command node over the word nodes -/
def cmdNode (i : Nat) (g1 w1 : Str) (items : List (Str × Str)) : Node :=
  Node.command (i + g1.length, endI (i + g1.length + w1.length) items)
    (Node.word (i + g1.length, i + g1.length + w1.length) w1 [] ::
      nodesI (i + g1.length + w1.length) items)

/-- what the engine's result becomes in `_parser.parse()` -/
theorem finish_parserRun {N : Node} {l' : Local} {T' : Tape} {r : Res SVal} (hr : ResIs N r)
    (hres : ∀ store, resolve store N = N) :
    Tot (do
      let store := (← get).store
      match r with
      | .accepted (.node n) _ _ _ => pure (some (resolve store n))
      | _ => pure none : M (Option Node)) l' T' (fun r _ _ => r = some N) := by
  refine Tot.bind (Tot.get ?_)
  cases r with
  | blank a b => exact hr.elim
  | accepted v tr c b =>
    cases v with
    | node n =>
      have hn : n = N := hr
      subst hn
      refine Tot.pure ?_
      show some (resolve l'.store n) = _
      rw [hres]
    | none => exact hr.elim
    | tok _ => exact hr.elim
    | nodes _ => exact hr.elim

/-- from a run of the engine on its whole fuel to `_parser.parse()` -/
theorem tot_parserRun_of_run {N : Node} {l : Local} {T : Tape} {d : Nat}
    (hres : ∀ store, resolve store N = N)
    (hrun : ∀ P : Res SVal → Local → Tape → Prop, (∀ r l' T', ResIs N r → P r l' T') →
      Tot (engineLoop (C07.nestedOf d) 1073741824 {}) l T P) :
    Tot (parserRun (d + 1)) l T (fun r _ _ => r = some N) := by
  rw [C07.parserRun_succ]
  refine Tot.bind ?_
  show Tot (engineLoop (C07.nestedOf d) 1073741824 {}) _ _ _
  exact hrun _ fun _ _ _ hr => finish_parserRun hr hres

/-! ## one top-level parser run -/

theorem blank_ne_nl {y : Char} (h : shellblank y = true) : y ≠ '\n' := by
  intro hy; subst hy; revert h; decide

theorem spellI_noNL : ∀ (items : List (Str × Str)), ItemsOK items → ∀ c ∈ spellI items, c ≠ '\n'
  | [], _ => fun c hc => by cases hc
  | (g, w) :: r, hi => by
    intro c hc
    have hit := hi (g, w) (List.mem_cons_self ..)
    simp only [spellI, List.mem_append] at hc
    rcases hc with (hc | hc) | hc
    · exact blank_ne_nl (hit.1.2 c hc)
    · exact plain_ne' (by decide) (hit.2.2 c hc)
    · exact spellI_noNL r (fun x hx => hi x (List.mem_cons_of_mem _ hx)) c hc

theorem spellI_length : ∀ (items : List (Str × Str)), ItemsOK items →
    items.length ≤ (spellI items).length
  | [], _ => Nat.le_refl _
  | (g, w) :: r, hi => by
    have hit := hi (g, w) (List.mem_cons_self ..)
    have ih := spellI_length r (fun x hx => hi x (List.mem_cons_of_mem _ hx))
    have : 0 < w.length := List.length_pos_iff.mpr hit.2.1
    simp only [spellI, List.length_cons, List.length_append]
    omega

theorem endI_eq : ∀ (items : List (Str × Str)) (off : Nat), endI off items = off + (spellI items).length
  | [], off => by simp [endI, spellI]
  | (g, w) :: r, off => by
    simp only [endI, spellI, List.length_append, endI_eq r]
    omega

theorem ofInput_noNL {s : Str} (hne : s ≠ []) (h : ∀ c ∈ s, c ≠ '\n') :
    Tape.ofInput s = { line := s ++ ['\n'], idx := 0, added := true } := by
  cases hl : s.getLast? with
  | none => exact absurd (List.getLast?_eq_none_iff.1 hl) hne
  | some c => exact Tape.ofInput_of_ne hl (h c (List.mem_of_getLast? hl))

/-- the text of a line: leading blanks, first word, further items, trailing blanks -/
def lineText (g1 w1 : Str) (items : List (Str × Str)) (tail : Str) : Str :=
  g1 ++ w1 ++ spellI items ++ tail

theorem lineText_noNL {g1 w1 : Str} {items : List (Str × Str)} {tail : Str}
    (hg1 : Blank g1) (hw1 : PlainWord w1) (hi : ItemsOK items) (htail : Blank tail) :
    ∀ c ∈ lineText g1 w1 items tail, c ≠ '\n' := by
  intro c hc
  simp only [lineText, List.mem_append] at hc
  rcases hc with ((hc | hc) | hc) | hc
  · exact blank_ne_nl (hg1 c hc)
  · exact plain_ne' (by decide) (hw1.2 c hc)
  · exact spellI_noNL items hi c hc
  · exact blank_ne_nl (htail c hc)

theorem initial_POK (lim : Option Int) : POK { limit := lim } :=
  ⟨⟨rfl, rfl, rfl, rfl, rfl, rfl, rfl⟩, rfl, rfl, rfl, ⟨rfl, rfl, rfl⟩⟩

/-- from `_parser.parse()` to one top-level parser run -/
theorem runParser_of_tot {S : Str} {o : Opts} {t : List Char} {N : Option Node} {L : Str} {adn : Bool}
    (hof : Tape.ofInput S = ⟨L, 0, adn⟩)
    (h : Tot (parserRun (63 + 1)) { limit := o.limit } ⟨L, 0, adn⟩ (fun r _ _ => r = N)) :
    ∃ t', runParser S o t = (.ok N, t') := by
  obtain ⟨a, l', e', hrun, ha⟩ := h.elim
    { tape := Tape.ofInput S, strict := o.strict, proceed := o.proceed, touched := t } hof
  refine ⟨e'.touched, ?_⟩
  have hrun' : (parserRun maxDepth).run { limit := o.limit }
      { tape := Tape.ofInput S, strict := o.strict, proceed := o.proceed, touched := t } =
      (.ok (a, l'), e') := hrun
  unfold runParser
  simp only [hrun', ha]
  rfl

/-- `_parser.parse()` on a line of blanks: None -/
theorem tot_parserRun_blank {L : Str} {adn : Bool} {tail : Str} {l : Local} {i d : Nat}
    (htail : Blank tail) (hlen : L.length + 2 ≤ 1073741824) (hl : WOK l)
    (hL : L.drop i = tail ++ ['\n']) :
    Tot (parserRun (d + 1)) l ⟨L, i, adn⟩ (fun r _ _ => r = none) := by
  rw [C07.parserRun_succ]
  refine Tot.bind ?_
  show Tot (engineLoop (C07.nestedOf d) 1073741824 {}) _ _ _
  refine run_blank htail hlen hl hL (by omega) ?_
  intro a b l' T'
  refine Tot.bind (Tot.get ?_)
  exact Tot.pure rfl

/-- one top-level parser run on a non-empty run of blanks returns None -/
theorem runParser_blank {tail : Str} (o : Opts) (t : List Char) (hne : tail ≠ [])
    (htail : Blank tail) (hsz : tail.length + 3 ≤ 1073741824) :
    ∃ t', runParser tail o t = (.ok none, t') := by
  refine runParser_of_tot (ofInput_noNL hne (fun c hc => blank_ne_nl (htail c hc))) ?_
  exact tot_parserRun_blank (d := 63) htail (by simp; omega) (initial_POK _).wok (by simp)

end Bashlex.C02
