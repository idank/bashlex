/-
  C02 (round trip): pipelines `c₁ | c₂ | … | cₙ` of simple commands — texts, nodes, and
  the pending segments.  `|` is right-nested on the engine's stack (state 195 shifts a further `|`):
  the run (`PipeE`) pushes one pending segment `pipeline | newline_list` per command and unwinds
  them all at the end of the pipeline.
  Last, `posshifter` on the expected ASTs — what is common to all command types.
-/
import Bashlex.Props.C02.Seq

namespace Bashlex.C02
open Bashlex Bashlex.M Bashlex.LR

/-- a pending segment: the command node, the `|` token, and the three ghost trees -/
structure Pend where
  n : Node
  bar : Token
  t1 : Tree
  t2 : Tree
  t3 : Tree

/-- the state on top of a `pipeline`: 8 at the bottom, 195 after `pipeline | newline_list` -/
def sOf : List Pend → Nat
  | [] => 8
  | _ :: _ => 195

/-- the flat list the unwinding builds -/
def flat : List Pend → List Node → List Node
  | [], acc => acc
  | p :: r, acc => flat r ([p.n] ++ [Node.pipe (p.bar.lexpos, p.bar.endlexpos) p.bar.valueStr] ++ acc)

theorem sOf_ne0 (r : List Pend) : (sOf r == 0) = false := by cases r <;> rfl
theorem sOf_dflt (r : List Pend) : Tab.T.dflt (sOf r) = none := by
  cases r with
  | nil => exact Tab.d8
  | cons _ _ => exact Tab.d195
theorem sOf_bar (r : List Pend) : Tab.T.action (sOf r) 52 = some (.shift 64) := by
  cases r with
  | nil => exact Tab.a8b
  | cons _ _ => exact Tab.a195b

theorem base136 : BaseW 136 := ⟨Tab.g136_63, Tab.g136_65⟩

section
variable {np : NestedParse} {L : Str} {adn : Bool} {P : Res SVal → Local → Tape → Prop}

/-- the value of `pipeline_command`: the single command, or the pipeline node over the flat list -/
def mkPipe (s e : Nat) : List Node → Node
  | [n] => n
  | ns => Node.pipeline (s, e) ns

/-- from `simple_list` (state 2) with NEWLINE in hand: shift, two default reductions, accept -/
theorem run_tail2 {l : Local} {Tp : Tape} {term : Token} {n : Node} {tr : Tree} {nl f : Nat}
    {cons : List Nat} (hc : l.ps.cmdsubst = false) (h : ∀ r l' T', ResIs n r → P r l' T') :
    Tot (engineLoop np (f + 3)
      { stack := [⟨2, tr, .node n⟩], la := some (55, .tok term), nlShifted := nl,
        consumed := cons }) l Tp P := by
  refine Tot.loop_step ?_
  refine R_shift Tab.d2 rfl Tab.a2n ?_
  refine Tot.loop_step ?_
  refine R_dflt Tab.d57 Tab.p141 rfl Tab.g2_89 Tab.f141 ?_
  refine act_terminator ?_
  simp only [Bool.false_eq_true, if_false]
  refine Tot.loop_step ?_
  refine R_dflt Tab.d56 Tab.p1 rfl Tab.g0_60 Tab.f1 ?_
  refine act_inputunit hc ?_
  simp only [if_true]
  exact h _ _ _ rfl

theorem flat_last : ∀ (pend : List Pend) (X : List Node), X ≠ [] →
    (flat pend X).getLast? = X.getLast?
  | [], _, _ => rfl
  | p :: r, X, hX => by
    rw [flat, flat_last r _ (by simp)]
    cases X with
    | nil => exact absurd rfl hX
    | cons x xs => simp [List.getLast?_cons_cons]

/-- the text `| c₂ | c₃ …` -/
def prestText : List SCmd → Str
  | [] => []
  | c :: cs => '|' :: (c.text ++ prestText cs)

/-- the nodes of `| c₂ | c₃ …`, the first `|` at offset `a` -/
def prestNodes (a : Nat) : List SCmd → List Node
  | [] => []
  | c :: cs =>
    Node.pipe (a, a + 1) ['|'] :: c.node (a + 1) :: prestNodes (a + 1 + c.text.length) cs

def pcost (k : Nat) : List SCmd → Nat
  | [] => k + 6
  | c :: cs => 3 * c.items.length + 8 + pcost (k + 1) cs

theorem fetchTerm_bar (hlen : L.length + 2 ≤ 1073741824) {trail rest : Str} {d : Char}
    (htrail : Blank trail) {e : Nat} (hL : L.drop e = trail ++ '|' :: d :: rest)
    (hd1 : d ≠ '|') (hd2 : d ≠ '&') (hd3 : d ≠ '\\') :
    FetchTerm L adn (barTok (e + trail.length)) e (e + trail.length + 1) := by
  intro l0 Q hl0 hc hQ
  exact tot_nextToken_bar hl0.wok hl0.dp htrail hL hd1 hd2 hd3 hlen (hQ _ (hl0.afterNL hc _) rfl)

theorem termWBAR : TermW 52 := ⟨Tab.a29b, Tab.a17b, Tab.a75b, Tab.a74b⟩

end

end Bashlex.C02

namespace Bashlex.C02
open Bashlex

abbrev sh (k : Nat) : Span → Span := fun p => (p.1 + k, p.2 + k)

theorem endPos_shift (c : SCmd) (k off : Nat) : c.endPos (off + k) = c.endPos off + k := by
  unfold SCmd.endPos
  rw [endI_eq, endI_eq]; omega

theorem mkSeq_shift (k s e : Nat) : ∀ (ns : List Node),
    (mkSeq s e ns).shift k = mkSeq (s + k) (e + k) (Node.mapPosL (sh k) ns)
  | [] => by simp [mkSeq, Node.shift, Node.mapPos, Node.mapPosL]
  | [n] => by simp [mkSeq, Node.shift, Node.mapPosL]
  | a :: b :: r => by simp [mkSeq, Node.shift, Node.mapPos, Node.mapPosL]

theorem mkPipe_shift (k s e : Nat) : ∀ (ns : List Node),
    (mkPipe s e ns).shift k = mkPipe (s + k) (e + k) (Node.mapPosL (sh k) ns)
  | [] => by simp [mkPipe, Node.shift, Node.mapPos, Node.mapPosL]
  | [n] => by simp [mkPipe, Node.shift, Node.mapPosL]
  | a :: b :: r => by simp [mkPipe, Node.shift, Node.mapPos, Node.mapPosL]

end Bashlex.C02
