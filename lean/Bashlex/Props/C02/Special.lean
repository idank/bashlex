/-
  C02 (round trip): the runs of the smaller sub-languages as special cases of `run_seqE`.  A simple
  command is a pipeline of one (`SCmd.toPE`), a `;`-sequence is a list whose operators are all `;`
  (`csToO`); texts, expected nodes, end positions and step counts agree under these embeddings, so
  `run_seqO`, `run_seq` and `run_pipe` are `run_seqE` read through them, and `run_rest` is `run_restF`
  on the tokens of the image.
-/
import Bashlex.Props.C02.ToG

namespace Bashlex.C02
open Bashlex Bashlex.M Bashlex.LR

def SCmd.toPE (c : SCmd) : PE := ⟨c, []⟩

theorem SCmd.toPE_text (c : SCmd) : c.toPE.text = c.text := by simp [SCmd.toPE, PE.text, prestText]
theorem SCmd.toPE_node (c : SCmd) (off : Nat) : c.toPE.node off = c.node off := rfl
theorem SCmd.toPE_endPos (c : SCmd) (off : Nat) : c.toPE.endPos off = c.endPos off := rfl
theorem SCmd.toPE_OK {c : SCmd} (h : c.OK) : c.toPE.OK := ⟨h, fun _ hx => by cases hx⟩
theorem SCmd.toPE_cost (c : SCmd) : c.toPE.cost = 3 * c.items.length + 6 := by
  simp only [SCmd.toPE, PE.cost, pcostB]; omega

def osToE (cs : List (Op × SCmd)) : List (Op × PE) := cs.map (fun x => (x.1, x.2.toPE))

theorem erestText_map : ∀ (cs : List (Op × SCmd)), erestText (osToE cs) = orestText cs
  | [] => rfl
  | (o, c) :: cs => by
    have := erestText_map cs
    simp only [osToE] at this
    simp [osToE, erestText, orestText, SCmd.toPE_text, this]

theorem erestNodes_map : ∀ (cs : List (Op × SCmd)) (a : Nat), erestNodes a (osToE cs) = orestNodes a cs
  | [], _ => rfl
  | (o, c) :: cs, a => by
    have := erestNodes_map cs
    simp only [osToE] at this
    simp [osToE, erestNodes, orestNodes, SCmd.toPE_text, SCmd.toPE_node, this]

theorem elastEnd_map : ∀ (cs : List (Op × SCmd)) (e a : Nat), elastEnd e a (osToE cs) = olastEnd e a cs
  | [], _, _ => rfl
  | (o, c) :: cs, e, a => by
    have := elastEnd_map cs
    simp only [osToE] at this
    simp [osToE, elastEnd, olastEnd, SCmd.toPE_text, SCmd.toPE_endPos, this]

theorem ecost_map : ∀ (cs : List (Op × SCmd)) (k : Nat), ecost k (osToE cs) = ocost k cs
  | [], _ => rfl
  | (o, c) :: cs, k => by
    have := ecost_map cs
    simp only [osToE] at this
    cases o <;> simp [osToE, ecost, ocost, SCmd.toPE_cost, this]

def csToO (cs : List SCmd) : List (Op × SCmd) := cs.map (fun c => (Op.semi, c))

theorem orestText_map : ∀ (cs : List SCmd), orestText (csToO cs) = restText cs
  | [] => rfl
  | c :: cs => by
    have := orestText_map cs
    simp only [csToO] at this
    simp [csToO, orestText, restText, Op.txt, this]

theorem orestNodes_map : ∀ (cs : List SCmd) (a : Nat), orestNodes a (csToO cs) = restNodes a cs
  | [], _ => rfl
  | c :: cs, a => by
    have := orestNodes_map cs
    simp only [csToO] at this
    simp [csToO, orestNodes, restNodes, Op.txt, this]

theorem olastEnd_map : ∀ (cs : List SCmd) (e a : Nat), olastEnd e a (csToO cs) = lastEnd e a cs
  | [], _, _ => rfl
  | c :: cs, e, a => by
    have := olastEnd_map cs
    simp only [csToO] at this
    simp [csToO, olastEnd, lastEnd, Op.txt, this]

theorem ocost_one_map : ∀ (cs : List SCmd), ocost 1 (csToO cs) = cost cs + 1
  | [] => rfl
  | c :: cs => by
    have := ocost_one_map cs
    simp only [csToO] at this
    simp only [csToO, List.map_cons, ocost, cost, this]; omega

theorem ocost_map : ∀ (cs : List SCmd), ocost 0 (csToO cs) = cost cs
  | [] => rfl
  | c :: cs => by
    have := ocost_one_map cs
    simp only [csToO] at this
    simp only [csToO, List.map_cons, ocost, cost, this]; omega

theorem pcost_eq : ∀ (cs : List SCmd) (k : Nat), pcost k cs = pcostB k cs + 4
  | [], _ => rfl
  | c :: cs, k => by simp only [pcost, pcostB, pcost_eq cs]; omega

section
variable {np : NestedParse} {L : Str} {adn : Bool} {P : Res SVal → Local → Tape → Prop}

/-- **the whole pipeline line `c₁ | c₂ | … | cₙ`** (n ≥ 1) from an empty stack: a list of one pipeline -/
theorem run_pipe (hlen : L.length + 2 ≤ 1073741824) {nlr : Str} {c1 : SCmd} {cs : List SCmd}
    {l : Local} {i f nl0 : Nat} {cons0 : List Nat} (hc1 : c1.OK) (hcs : ∀ c ∈ cs, c.OK) (hl : POK l)
    (hcur : histOK l.currentToken = true)
    (hL : L.drop i = c1.text ++ (prestText cs ++ '\n' :: nlr))
    (h : ∀ r l' T', ResIs (mkPipe (i + c1.lead.length) (lastEnd (c1.endPos i) (i + c1.text.length) cs)
        (c1.node i :: prestNodes (i + c1.text.length) cs)) r → P r l' T') :
    Tot (engineLoop np (((f + pcost 0 cs) + 2) + (3 * c1.items.length + 2) + 1)
      { stack := [], la := none, nlShifted := nl0, consumed := cons0 }) l ⟨L, i, adn⟩ P := by
  have e : ((f + pcost 0 cs) + 2) + (3 * c1.items.length + 2) + 1 =
      (f + ecost 0 []) + PE.cost ⟨c1, cs⟩ + 1 := by
    simp only [pcost_eq, ecost, PE.cost]; omega
  rw [e]
  exact run_seqE (nlr := nlr) (p1 := ⟨c1, cs⟩) (es := []) hlen ⟨hc1, hcs⟩ (fun _ hx => by cases hx) hl hcur
    (by simpa [PE.text, erestText] using hL) h

end

section
variable {L : Str} {adn : Bool}
variable {np : NestedParse} {P : Res SVal → Local → Tape → Prop} {nlr : Str}

/-- **the whole line `c₁ op₂ c₂ op₃ c₃ …`** (operators `;`, `&&`, `||`) from an empty stack -/
theorem run_seqO (hlen : L.length + 2 ≤ 1073741824) {c1 : SCmd} {cs : List (Op × SCmd)} {l : Local}
    {i f nl0 : Nat} {cons0 : List Nat} (hc1 : c1.OK) (hcs : ∀ x ∈ cs, x.2.OK) (hl : POK l)
    (hcur : histOK l.currentToken = true)
    (hL : L.drop i = c1.text ++ (orestText cs ++ '\n' :: nlr))
    (h : ∀ r l' T', ResIs (mkSeq (i + c1.lead.length) (olastEnd (c1.endPos i) (i + c1.text.length) cs)
        (c1.node i :: orestNodes (i + c1.text.length) cs)) r → P r l' T') :
    Tot (engineLoop np ((f + ocost 0 cs) + (3 * c1.items.length + 6) + 1)
      { stack := [], la := none, nlShifted := nl0, consumed := cons0 }) l ⟨L, i, adn⟩ P := by
  rw [← ecost_map, ← SCmd.toPE_cost]
  refine run_seqE (nlr := nlr) (p1 := c1.toPE) (es := osToE cs) hlen (SCmd.toPE_OK hc1)
    (List.forall_mem_map.2 fun y hy => SCmd.toPE_OK (hcs y hy)) hl hcur ?_ ?_
  · rw [SCmd.toPE_text, erestText_map]; exact hL
  · rw [SCmd.toPE_text, SCmd.toPE_endPos, SCmd.toPE_node, erestNodes_map, elastEnd_map]; exact h

/-- **the whole line `c₁ ; c₂ ; … ; cₙ`** (n ≥ 1) from a configuration of the engine with an empty
    stack (leading NEWLINE tokens may have been counted); any text may follow the newline -/
theorem run_seq (hlen : L.length + 2 ≤ 1073741824) {c1 : SCmd} {cs : List SCmd} {l : Local}
    {i f nl0 : Nat} {cons0 : List Nat} (hc1 : c1.OK) (hcs : ∀ c ∈ cs, c.OK) (hl : POK l)
    (hcur : histOK l.currentToken = true)
    (hL : L.drop i = c1.text ++ (restText cs ++ '\n' :: nlr))
    (h : ∀ r l' T', ResIs (mkSeq (i + c1.lead.length) (lastEnd (c1.endPos i) (i + c1.text.length) cs)
        (c1.node i :: restNodes (i + c1.text.length) cs)) r → P r l' T') :
    Tot (engineLoop np ((f + cost cs) + (3 * c1.items.length + 6) + 1)
      { stack := [], la := none, nlShifted := nl0, consumed := cons0 }) l ⟨L, i, adn⟩ P := by
  rw [← ocost_map]
  refine run_seqO (nlr := nlr) (cs := csToO cs) hlen hc1 (List.forall_mem_map.2 fun y hy => hcs y hy) hl hcur ?_ ?_
  · rw [orestText_map]; exact hL
  · rw [orestNodes_map, olastEnd_map]; exact h

/-- **the commands after the first** of a `;`-line: `simple_list1` on the stack (value: the flat list
    `acc`), the terminator in hand; `run_restF` on the image, over the flat stack -/
theorem run_rest (hlen : L.length + 2 ≤ 1073741824) :
    ∀ (cs : List SCmd) (acc : List Node) (ts : Nat) (term : Token) (l : Local) (idx a f nl : Nat)
      (cons : List Nat) (tr : Tree) (pF pL : Span) (nF nL : List Node),
      (∀ c ∈ cs, c.OK) → POK l → l.currentToken = term → histOK term = true → symOfTok term = ts →
      (cs = [] → ts = 55) →
      (∀ c cs', cs = c :: cs' → ts = 53 ∧ term = semiTok a ∧ idx = a + 1 ∧
        L.drop idx = c.text ++ (restText cs' ++ '\n' :: nlr)) →
      acc.head? = some (Node.command pF nF) → acc.getLast? = some (Node.command pL nL) →
      (∀ r l' T', ResIs (mkSeq pF.1 (lastEnd pL.2 a cs) (acc ++ restNodes a cs)) r → P r l' T') →
      Tot (engineLoop np (f + cost cs)
        { stack := [⟨6, tr, .nodes acc⟩], la := some (ts, .tok term), nlShifted := nl,
          consumed := cons }) l ⟨L, idx, adn⟩ P := by
  intro cs acc ts term l idx a f nl cons tr pF pL nF nL hcs hl hcur _ hts hnil hcons hh hla h
  rw [← ocost_map, ← ecost_map, ← hcost_map]
  subst hts
  have hG : ∀ y ∈ esToG (osToE (csToO cs)), y.2.OK := by
    have hO : ∀ z ∈ csToO cs, z.2.OK := List.forall_mem_map.2 fun c hc => hcs c hc
    have hE : ∀ y ∈ osToE (csToO cs), y.2.OK := List.forall_mem_map.2 fun z hz => SCmd.toPE_OK (hO z hz)
    exact List.forall_mem_map.2 fun y hy => PE.toG_OK (hE y hy)
  have h' : ∀ r l' T', ResIs (mkSeq pF.1 (hlastEnd pL.2 a (esToG (osToE (csToO cs))))
      (total none acc ++ hrestNodes a (esToG (osToE (csToO cs))))) r → P r l' T' := by
    rw [hlastEnd_map, elastEnd_map, olastEnd_map, hrestNodes_map, erestNodes_map, orestNodes_map]
    exact h
  cases cs with
  | nil =>
    exact run_restF (R := fun l _ => POK l) (t := term) (fun _ _ h => h) (hnil rfl)
      (nodePos_command pF nF) [] none acc a term [] l _ f nl cons tr (.command pL nL) pL hG rfl hl
      hh hla (nodePos_command pL nL) h'
  | cons c cs' =>
    obtain ⟨_, rfl, rfl, h4⟩ := hcons c cs' rfl
    have hF := feeds_after_op (adn := adn) (nlr := nlr) (o := .semi) (p := c.toPE.toG)
      (es := esToG (osToE (csToO cs'))) (a := a) hlen (hG _ (List.mem_cons_self ..))
      (fun x hx => hG x (List.mem_cons_of_mem _ hx)) hl hcur (by
        show L.drop (a + 1) = c.toPE.toG.text ++ (hrestText (esToG (osToE (csToO cs'))) ++ '\n' :: nlr)
        rw [hrestText_map, erestText_map, orestText_map, PE.toG_text, SCmd.toPE_text]
        exact h4)
    rw [← List.append_assoc] at hF
    refine run_restF ?_ (symOfTok_nl _) (nodePos_command pF nF) _ none acc a (semiTok a) _ l _ f nl
      cons tr (.command pL nL) pL hG rfl hF hh hla (nodePos_command pL nL) h'
    exact fun _ _ h => h.1
end

/-- **the whole line**: from the initial configuration of the engine, on blanks, a first plain
    word that is no reserved word, further gap-separated plain words, trailing blanks, newline -/
theorem run_line {np : NestedParse} {L : Str} {adn : Bool} {tail : Str}
    {P : Res SVal → Local → Tape → Prop} (htail : Blank tail) (hlen : L.length + 2 ≤ 1073741824)
    {g1 w1 : Str} {items : List (Str × Str)} {l : Local} {i fuel : Nat}
    (hg1 : Blank g1) (hw1 : PlainWord w1) (hnr : reservedFirstCommandChars.lookup w1 = none)
    (hi : ItemsOK items) (hl : POK l) (hcur : histOK l.currentToken = true)
    (hL : L.drop i = g1 ++ w1 ++ spellI items ++ tail ++ ['\n'])
    (hf : 3 * items.length + 14 ≤ fuel)
    (h : ∀ r l' T', ResIs (Node.command (i + g1.length, endI (i + g1.length + w1.length) items)
        (Node.word (i + g1.length, i + g1.length + w1.length) w1 [] ::
          nodesI (i + g1.length + w1.length) items)) r → P r l' T') :
    Tot (engineLoop np fuel {}) l ⟨L, i, adn⟩ P := by
  obtain ⟨f, rfl⟩ : ∃ f, fuel = (f + cost []) + (3 * items.length + 6) + 1 :=
    ⟨fuel - (3 * items.length + 11), by simp only [cost]; omega⟩
  exact run_seq (nlr := []) (c1 := ⟨g1, w1, items, tail⟩) (cs := []) hlen ⟨hg1, hw1, hnr, hi, htail⟩
    (fun _ hx => by cases hx) hl hcur (by simpa [SCmd.text, lineText, restText] using hL) h

end Bashlex.C02
