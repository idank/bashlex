/-
  C02 (round trip): the engine fetches its tokens one at a time, so a run of the engine over a piece
  of text is a run over the TOKENS the tokenizer is about to deliver.  `Feeds ts l Tp R` says that
  from the parser object `l` and the tape `Tp` the next calls of `tokenizer.token()` deliver exactly
  the tokens `ts` and end in a state satisfying `R`.  The lemmas about the engine (`*F`) assume such a
  judgement and never look at the text; the lemmas about the tokenizer (`feeds_*`, `follows_*`)
  establish it and never look at the engine.
-/
import Bashlex.Props.C02.Run

namespace Bashlex.C02
open Bashlex Bashlex.M Bashlex.LR

/-- by recursion on the tokens, in the continuation form of `Tot`: `token()` run from `l`, `Tp`
    terminates normally with the first token, in a state from which the rest is fed (stated as:
    it establishes every `Q` that holds of that token and all such states) -/
def Feeds : List Token → Local → Tape → (Local → Tape → Prop) → Prop
  | [], l, Tp, R => R l Tp
  | t :: ts, l, Tp, R => ∀ Q : Token → Local → Tape → Prop,
      (∀ l' Tp', Feeds ts l' Tp' R → Q t l' Tp') → Tot nextToken l Tp Q

variable {R : Local → Tape → Prop}

theorem Feeds.append : ∀ {xs ys : List Token} {l : Local} {Tp : Tape},
    Feeds xs l Tp (fun l' Tp' => Feeds ys l' Tp' R) → Feeds (xs ++ ys) l Tp R
  | [], _, _, _, h => h
  | _ :: _, _, _, _, h => fun Q hQ => h Q fun l' Tp' h' => hQ l' Tp' (Feeds.append h')

theorem Feeds.mono {R' : Local → Tape → Prop} (h : ∀ l Tp, R l Tp → R' l Tp) :
    ∀ {ts : List Token} {l : Local} {Tp : Tape}, Feeds ts l Tp R → Feeds ts l Tp R'
  | [], _, _, hF => h _ _ hF
  | _ :: _, _, _, hF => fun Q hQ => hF Q fun l' Tp' h' => hQ l' Tp' (Feeds.mono h h')

/-- one token more, by a rule for `tokenizer.token()` in continuation form -/
theorem Feeds.cons {t : Token} {ts : List Token} {l : Local} {Tp : Tape}
    {S : Local → Tape → Prop}
    (h : ∀ Q : Token → Local → Tape → Prop, (∀ l' Tp', S l' Tp' → Q t l' Tp') → Tot nextToken l Tp Q)
    (hS : ∀ l' Tp', S l' Tp' → Feeds ts l' Tp' R) : Feeds (t :: ts) l Tp R :=
  fun Q hQ => h Q fun l' Tp' hs => hQ l' Tp' (hS l' Tp' hs)

/-- the engine fetches the next token (`R_`: a step of the engine over the REAL tables, as in
    `Props/C02/Run.lean`) -/
theorem R_next' {np : NestedParse} {P : Cfg SVal ⊕ Res SVal → Local → Tape → Prop}
    {st : Stack SVal} {nl : Nat} {cons : List Nat} {t : Token} {ts : List Token} {l : Local}
    {Tp : Tape} (hd : Tab.T.dflt (topState st) = none) (hF : Feeds (t :: ts) l Tp R)
    (h : ∀ l' Tp', Feeds ts l' Tp' R → Tot (step Tab.T (lrHooks np)
      { stack := st, la := some (symOfTok t, .tok t), nlShifted := nl, consumed := cons })
      l' Tp' P) :
    Tot (step Tab.T (lrHooks np) { stack := st, la := none, nlShifted := nl, consumed := cons })
      l Tp P :=
  R_fetch' hd (hF _ h)

theorem R_next {np : NestedParse} {P : Cfg SVal ⊕ Res SVal → Local → Tape → Prop} {s : Nat}
    {tr : Tree} {v : SVal} {rest : Stack SVal} {nl : Nat} {cons : List Nat} {t : Token}
    {ts : List Token} {l : Local} {Tp : Tape} (hd : Tab.T.dflt s = none)
    (hF : Feeds (t :: ts) l Tp R)
    (h : ∀ l' Tp', Feeds ts l' Tp' R → Tot (step Tab.T (lrHooks np)
      { stack := ⟨s, tr, v⟩ :: rest, la := some (symOfTok t, .tok t), nlShifted := nl,
        consumed := cons }) l' Tp' P) :
    Tot (step Tab.T (lrHooks np)
      { stack := ⟨s, tr, v⟩ :: rest, la := none, nlShifted := nl, consumed := cons }) l Tp P :=
  R_next' (st := ⟨s, tr, v⟩ :: rest) hd hF h

end Bashlex.C02
