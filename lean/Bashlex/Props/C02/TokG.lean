/-
  C02 (round trip): the real tokenizer on words, which may contain `=` — ASSIGNMENT_WORD in
  command position (`a=b cmd`), WORD with the ASSIGNMENT flag elsewhere (`cmd a=b`), plain WORD
  otherwise.  From a cursor on the blanks before a word that is followed by a break character,
  `tokenizer.token()` delivers the token with the exact span and leaves the cursor right after the
  word; the token history is shifted by one (`tot_nextToken_wordG`; `tot_nextToken_gen` and, for
  plain words, `tot_nextToken_word` are its instances).  The walk through `token()`, `_readtoken`
  and the loop of `_readtokenword` is made once, for any character that ends the word (`EndsAt`)
  and whatever `# got_token` makes of the word (`tot_nextToken_classG`); the NUMBER before `>`/`<`
  (TokNum.lean) is its other instance.
-/
import Bashlex.Props.C02.Tok
import Bashlex.Proofs.TokForms

namespace Bashlex.C02
open Bashlex Bashlex.M

/-- the safe class plus `=` -/
def wordChar (c : Char) : Bool := plainChar c || c == '='

theorem wc_ne {c d : Char} (hd : wordChar d = false) (hc : wordChar c = true) : (c == d) = false := by
  cases h : c == d with
  | false => rfl
  | true =>
    have := eq_of_beq h
    subst this
    rw [hd] at hc; cases hc

theorem wc_ne' {c d : Char} (hd : wordChar d = false) (hc : wordChar c = true) : c ≠ d := by
  intro h; subst h; rw [hd] at hc; cases hc

theorem wc_syn {c : Char} (hc : wordChar c = true) : synClass c = {} := by
  cases hp : plainChar c with
  | true => exact plain_syn hp
  | false =>
    have : c = '=' := by simpa [wordChar, hp] using hc
    subst this; decide

theorem wc_blank {c : Char} (hc : wordChar c = true) : shellblank c = false := by
  cases hp : plainChar c with
  | true => exact plain_blank hp
  | false =>
    have : c = '=' := by simpa [wordChar, hp] using hc
    subst this; decide

theorem plain_wc {c : Char} (h : plainChar c = true) : wordChar c = true := by simp [wordChar, h]

/-- one iteration on a character of the class followed by another character `d` (not a backslash) -/
theorem step_plainG {l : Local} {L : Str} {i : Nat} {adn : Bool} {c d : Char} {ad : Bool} {tw : Str}
    {P : RWState ⊕ RWState → Local → Tape → Prop}
    (ht : l.tape = none) (hl : l.eolLookahead = none) (hc : wordChar c = true)
    (hd : L[i]? = some d) (hdb : d ≠ '\\')
    (h : P (.inl (rwSt (some d) (ad && isDigit c) (tw ++ [c]))) l ⟨L, i + 1, adn⟩) :
    Tot (readtokenwordStep (rwSt (some c) ad tw)) l ⟨L, i, adn⟩ P :=
  step_char ht hl (wc_syn hc) (wc_ne (by decide) hc) (wc_ne (by decide) hc) hd hdb h

/-- the iteration of `_readtokenword` on the character `b` at `i` ends the word: `b` is put back
    and the loop stops -/
def EndsAt (L : Str) (adn : Bool) (b : Char) (i : Nat) : Prop :=
  ∀ (l : Local) (ad : Bool) (tw : Str) (P : RWState ⊕ RWState → Local → Tape → Prop),
    l.tape = none → l.eolLookahead = none → P (.inr (rwSt (some b) ad tw)) l ⟨L, i, adn⟩ →
    Tot (readtokenwordStep (rwSt (some b) ad tw)) l ⟨L, i + 1, adn⟩ P

theorem EndsAt.of_endChar {L : Str} {adn : Bool} {b : Char} {i : Nat} (hb : endChar b = true)
    (hi : i < L.length) : EndsAt L adn b i :=
  fun _ _ _ _ ht _ h => step_end ht hb hi h

/-- **the loop of `_readtokenword`** over a word of the class followed by a character `b` that ends
    it: it collects exactly the word and stops on `b`, which is put back; `all_digit_token` (`ad1`)
    stays true over digits -/
theorem tot_wordLoopG {l : Local} {L : Str} {adn : Bool} {b : Char} {rest : Str}
    {P : RWState → Local → Tape → Prop}
    (ht : l.tape = none) (hl : l.eolLookahead = none) (hbs : b ≠ '\\') :
    ∀ (w' : Str) (tw : Str) (c : Char) (i : Nat) (ad : Bool) (fuel : Nat),
      L.drop i = c :: (w' ++ b :: rest) → wordChar c = true → (∀ x ∈ w', wordChar x = true) →
      w'.length + 2 ≤ fuel → EndsAt L adn b (i + 1 + w'.length) →
      (∀ ad1, ((∀ x ∈ c :: w', isDigit x = true) → ad = true → ad1 = true) →
        P (rwSt (some b) ad1 (tw ++ c :: w')) l ⟨L, i + 1 + w'.length, adn⟩) →
      Tot (M.loop "_readtokenword" readtokenwordStep fuel (rwSt (some c) ad tw)) l ⟨L, i + 1, adn⟩ P := by
  intro w'
  induction w' with
  | nil =>
    intro tw c i ad fuel hL hc hw hf hend h
    obtain ⟨f1, rfl⟩ : ∃ f1, fuel = f1 + 1 := ⟨fuel - 1, by omega⟩
    refine Tot.loop_step ?_
    have hL1 := drop_tail hL
    refine step_plainG ht hl hc (drop_head hL1) hbs ?_
    obtain ⟨f2, rfl⟩ : ∃ f2, f1 = f2 + 1 := ⟨f1 - 1, by simp at hf; omega⟩
    refine Tot.loop_step ?_
    refine hend l _ _ _ ht hl ?_
    exact h _ fun hd ha => by rw [ha, hd c (List.mem_cons_self ..)]; rfl
  | cons c' w'' ih =>
    intro tw c i ad fuel hL hc hw hf hend h
    obtain ⟨f1, rfl⟩ : ∃ f1, fuel = f1 + 1 := ⟨fuel - 1, by omega⟩
    refine Tot.loop_step ?_
    have hL1 := drop_tail hL
    have hc' : wordChar c' = true := hw c' (List.mem_cons_self ..)
    have e : i + 1 + 1 + w''.length = i + 1 + (w''.length + 1) := by omega
    refine step_plainG ht hl hc (drop_head hL1) (wc_ne' (by decide) hc') ?_
    refine ih (tw ++ [c]) c' (i + 1) _ f1 hL1 hc' (fun x hx => hw x (List.mem_cons_of_mem _ hx))
      (by simp at hf; omega) (by rw [e]; exact hend) ?_
    intro ad1 had
    have := h ad1 fun hd ha => had (fun x hx => hd x (List.mem_cons_of_mem _ hx))
      (by rw [ha, hd c (List.mem_cons_self ..)]; rfl)
    simp only [List.length_cons, List.append_assoc, List.singleton_append] at this ⊢
    rw [e]; exact this

/-! ## words over the class -/

def GenWord (w : Str) : Prop := w ≠ [] ∧ ∀ x ∈ w, wordChar x = true
instance (w : Str) : Decidable (GenWord w) := by unfold GenWord; exact inferInstance

theorem PlainWord.gen {w : Str} (h : PlainWord w) : GenWord w := ⟨h.1, fun x hx => plain_wc (h.2 x hx)⟩

/-- `_is_assignment(value)` (truthiness) -/
def looksAssign : Str → Bool
  | [] => false
  | c :: r => (isAlpha c || c == '_') && isAssignmentLoop (c :: r)

theorem isAssignment_gen {w : Str} (hw : GenWord w) : isAssignment w = pure (looksAssign w) := by
  obtain ⟨hne, hp⟩ := hw
  cases w with
  | nil => exact absurd rfl hne
  | cons c r =>
    unfold isAssignment looksAssign
    cases h : (isAlpha c || c == '_') with
    | true =>
      have : (!isAlpha c && c != '_') = false := by
        simp only [Bool.or_eq_true, beq_iff_eq] at h
        rcases h with h | h <;> simp [h]
      simp [this, h]
    | false =>
      have : (!isAlpha c && c != '_') = true := by
        simp only [Bool.or_eq_false_iff, beq_eq_false_iff_ne] at h
        simp [h.1, h.2]
      simp [this, h]

theorem looksAssign_plain {w : Str} (hw : PlainWord w) : looksAssign w = false := by
  obtain ⟨hne, hp⟩ := hw
  cases w with
  | nil => rfl
  | cons c r => simp [looksAssign, isAssignmentLoop_plain _ hp]

theorem gen_ne_single {w : Str} (hw : GenWord w) {d : Char} (hd : wordChar d = false) :
    (w == [d]) = false := by
  cases h : w == [d] with
  | false => rfl
  | true =>
    have := eq_of_beq h
    subst this
    have := hw.2 d (List.mem_cons_self ..)
    rw [hd] at this; cases this

theorem gen_ne_pair {w : Str} (hw : GenWord w) {d d' : Char} (hd : wordChar d = false) :
    (w == [d, d']) = false := by
  cases h : w == [d, d'] with
  | false => rfl
  | true =>
    have := eq_of_beq h
    subst this
    have := hw.2 d (List.mem_cons_self ..)
    rw [hd] at this; cases this

theorem tot_specialG {l : Local} {T : Tape} {w : Str} {P : Option TokType → Local → Tape → Prop}
    (hke : l.esacsNeeded = 0) (hkb : l.ps.allowopnbrc = false)
    (h1 : histOK l.lastReadToken = true) (h2 : histOK l.tokenBeforeThat = true)
    (hw : GenWord w) (h : P none l T) : Tot (specialcasetokens w) l T P := by
  obtain ⟨a1, a2, a3, a4, a5, a6, a7, a8, a9⟩ := histOK_is h1
  obtain ⟨b1, b2, b3, b4, b5, b6, b7, b8, b9⟩ := histOK_is h2
  unfold specialcasetokens
  refine Tot.bind (Tot.get ?_)
  simp only [b1, b2, b3, Bool.or_self, Bool.and_false, Bool.false_and, Bool.false_eq_true, if_false,
    hke, bne_self_eq_false, a4, a5, a6,
    gen_ne_single hw (by decide : wordChar '}' = false),
    gen_ne_single hw (by decide : wordChar '{' = false),
    gen_ne_pair hw (d' := ']') (by decide : wordChar ']' = false)]
  refine Tot.bind (Tot.get ?_)
  simp only [hkb, Bool.false_eq_true, if_false]
  refine Tot.bind (Tot.get ?_)
  exact Tot.pure h

theorem gen_head_brace {w : Str} (hw : GenWord w) : (w.head? == some '{') = false := by
  obtain ⟨hne, hp⟩ := hw
  cases w with
  | nil => rfl
  | cons c r =>
    simp only [List.head?_cons]
    have := wc_ne' (by decide : wordChar '{' = false) (hp c (List.mem_cons_self ..))
    simpa using this

/-- the token `_readtokenword` builds for a word over the class; `acc`: is an assignment
    acceptable here (`_assignment_acceptable(last_read_token)`) -/
def awTok (a k : Nat) (w : Str) : Token :=
  { ttype := some .ASSIGNMENT_WORD, value := .str w, pos := some (a, k), flags := [.ASSIGNMENT, .NOSPLIT] }
/-- the WORD token of a word that looks like an assignment, outside command position -/
def eqTok (a k : Nat) (w : Str) : Token :=
  { ttype := some .WORD, value := .str w, pos := some (a, k), flags := [.ASSIGNMENT] }
def genTok (a k : Nat) (w : Str) (acc : Bool) : Token :=
  if looksAssign w then (if acc then awTok a k w else eqTok a k w) else wordTok a k w


theorem fwToken_gen {l : Local} {b : Char} {ad1 : Bool} {w : Str} {a k : Nat} {acc : Bool}
    (hw : GenWord w) (hca : looksAssign w = true → l.ps.compassign = false)
    (hacc : assignmentAcceptable l l.lastReadToken = acc) :
    fwToken (rwSt (some b) ad1 w) l (looksAssign w) (wordTok a k w) = genTok a k w acc := by
  have hb : fwBraceRedir (rwSt (some b) ad1 w) = false := by
    simp [fwBraceRedir, rwSt, gen_head_brace hw]
  unfold fwToken
  simp only [hb, Bool.false_eq_true, if_false]
  simp only [Id.run, rwSt, Bool.false_eq_true, if_false]
  cases hla : looksAssign w with
  | false => simp [genTok, hla, wordTok] <;> rfl
  | true =>
    have hca := hca hla
    cases acc <;> simp [genTok, hla, hacc, hca, wordTok, awTok, eqTok, addFlag] <;> rfl

theorem tot_fwWordG {l : Local} {T : Tape} {b : Char} {ad1 : Bool} {w : Str} {a k : Nat}
    {P : Token → Local → Tape → Prop} {acc : Bool}
    (hca : looksAssign w = true → l.ps.compassign = false) (h1 : histOK l.lastReadToken = true)
    (hw : GenWord w)
    (hacc : assignmentAcceptable l l.lastReadToken = acc)
    (h : P (genTok a k w acc) l T) :
    Tot (fwWord (rwSt (some b) ad1 w) (wordTok a k w)) l T P := by
  obtain ⟨a1, a2, a3, a4, a5, a6, a7, a8, a9⟩ := histOK_is h1
  unfold fwWord fwEnd
  have hc : (rwSt (some b) ad1 w).compoundAssignment = false := rfl
  simp only [hc, Bool.false_eq_true, if_false]
  refine Tot.bind (Tot.pure ?_)
  refine Tot.bind (Tot.get ?_)
  have htw : (rwSt (some b) ad1 w).tokenword = w := rfl
  rw [htw, isAssignment_gen hw]
  refine Tot.bind (Tot.pure ?_)
  simp only [a7, Bool.and_false, Bool.false_eq_true, if_false]
  refine Tot.bind (Tot.pure ?_)
  rw [fwToken_gen hw hca hacc]
  exact Tot.pure h

theorem tot_finishWordG {l0 : Local} {T : Tape} {b : Char} {ad1 : Bool} {w : Str} {a : Nat}
    {P : Token → Local → Tape → Prop} {acc : Bool}
    (hk : WOK l0) (hca : looksAssign w = true → l0.ps.compassign = false)
    (h1 : histOK l0.lastReadToken = true) (h2 : histOK l0.tokenBeforeThat = true)
    (hw : GenWord w) (hb : endChar b = true) (hak : a < T.idx)
    (hres : reservedWordAcceptable l0 l0.lastReadToken = true →
      reservedFirstCommandChars.lookup w = none)
    (hacc : assignmentAcceptable l0 l0.lastReadToken = acc)
    (h : P (genTok a T.idx w acc) l0 T) :
    Tot (finishWord (rwSt (some b) ad1 w)) { l0 with positions := [a] } T P := by
  obtain ⟨a1, a2, a3, a4, a5, a6, a7, a8, a9⟩ := histOK_is h1
  rw [finishWord_eq]
  unfold fwHead
  refine Tot.bind (tot_recordpos hk.tape ?_)
  refine Tot.bind (Tot.get ?_)
  simp only [rwSt, endChar_not_redir hb, a8, a9, Bool.or_self, Bool.and_false, Bool.false_and,
    Bool.false_eq_true, if_false, List.singleton_append, Nat.sub_zero]
  refine Tot.bind (tot_specialG (l := { l0 with positions := [a, T.idx] })
    hk.esacs hk.brc h1 h2 hw ?_)
  simp only []
  refine Tot.bind (Tot.get ?_)
  have hres' : reservedWordAcceptable { l0 with positions := [a, T.idx] } l0.lastReadToken = true →
      reservedFirstCommandChars.lookup w = none := hres
  have hacc' : assignmentAcceptable { l0 with positions := [] } l0.lastReadToken = acc := hacc
  have fin : Tot (pure (genTok a T.idx w acc) : M Token) { l0 with positions := [] } T P := by
    rw [pos_eta l0 hk.pos]; exact Tot.pure h
  by_cases hr : reservedWordAcceptable { l0 with positions := [a, T.idx] } l0.lastReadToken = true
  · simp only [hr, hres' hr, Bool.not_false, Bool.and_self, if_true]
    refine Tot.bind (tot_createtoken rfl hak ?_)
    exact tot_fwWordG hca h1 hw hacc' (by rw [pos_eta l0 hk.pos]; exact h)
  · simp only [hr, Bool.and_false, Bool.false_eq_true, if_false]
    refine Tot.bind (tot_createtoken rfl hak ?_)
    exact tot_fwWordG hca h1 hw hacc' (by rw [pos_eta l0 hk.pos]; exact h)

section
variable {L : Str} {adn : Bool} {b c : Char} {w' rest : Str}

/-- `_readtokenword(c)` on a word over the class `c :: w'` followed by a character that ends it: the
    loop, then whatever `# got_token` makes of the word -/
theorem tot_readtokenwordG {l0 : Local} {a : Nat} {P : Token → Local → Tape → Prop}
    (hk : WOK l0) (hw : ∀ x ∈ c :: w', wordChar x = true) (hbs : b ≠ '\\')
    (hL : L.drop a = c :: (w' ++ b :: rest)) (hlen : w'.length + 2 ≤ 1073741824)
    (hend : EndsAt L adn b (a + 1 + w'.length))
    (hfin : ∀ ad1, ((∀ x ∈ c :: w', isDigit x = true) → ad1 = true) →
      Tot (finishWord (rwSt (some b) ad1 (c :: w'))) { l0 with positions := [a] }
        ⟨L, a + 1 + w'.length, adn⟩ P) :
    Tot (readtokenword c) { l0 with positions := [a] } ⟨L, a + 1, adn⟩ P := by
  unfold readtokenword loopFuel
  refine Tot.bind (Tot.pure ?_)
  refine Tot.bind ?_
  show Tot (M.loop "_readtokenword" readtokenwordStep 1073741824 (rwSt (some c) (isDigit c) []))
    { l0 with positions := [a] } ⟨L, a + 1, adn⟩ _
  refine tot_wordLoopG (l := { l0 with positions := [a] }) hk.tape hk.eol hbs w' [] c a _ _ hL
    (hw c (List.mem_cons_self ..)) (fun x hx => hw x (List.mem_cons_of_mem _ hx)) hlen hend ?_
  intro ad1 had
  simp only [List.nil_append]
  exact hfin ad1 fun hd => had hd (hd c (List.mem_cons_self ..))

/-- `_readtoken` on blanks followed by a word over the class -/
theorem tot_readtoken_wordG {l0 : Local} {g : Str} {i : Nat}
    {P : TokType ⊕ Token → Local → Tape → Prop}
    (hk : WOK l0) (h1 : histOK l0.lastReadToken = true)
    (hw : ∀ x ∈ c :: w', wordChar x = true) (hbs : b ≠ '\\') (hg : ∀ y ∈ g, shellblank y = true)
    (hL : L.drop i = g ++ c :: (w' ++ b :: rest)) (hlen : L.length + 2 ≤ 1073741824)
    (hend : EndsAt L adn b (i + g.length + 1 + w'.length))
    (hfin : ∀ ad1, ((∀ x ∈ c :: w', isDigit x = true) → ad1 = true) →
      Tot (finishWord (rwSt (some b) ad1 (c :: w'))) { l0 with positions := [i + g.length] }
        ⟨L, i + g.length + 1 + w'.length, adn⟩ fun t l T => P (.inr t) l T) :
    Tot readtoken l0 ⟨L, i, adn⟩ P := by
  have hc : wordChar c = true := hw c (List.mem_cons_self ..)
  obtain ⟨a1, a2, a3, a4, a5, a6, a7, a8, a9⟩ := histOK_is h1
  have hlenL : (L.drop i).length ≤ L.length := by rw [List.length_drop]; omega
  have hlen2 : g.length + (w'.length + 2) ≤ L.length := by
    rw [hL] at hlenL; simp at hlenL; omega
  rw [C10.readtoken_eq]
  refine Tot.bind (tot_readtokenHead hk.tape hk.eol (wc_blank hc)
    (wc_ne' (by decide) hc) (wc_ne' (by decide) hc) hL hg (by omega) ?_)
  simp only []
  unfold C10.readtokenTail
  refine Tot.bind (tot_recordpos hk.tape ?_)
  simp only [wc_ne (by decide : wordChar '\n' = false) hc, Bool.false_eq_true, if_false,
    hk.pos, List.nil_append, Nat.add_sub_cancel]
  refine Tot.bind (Tot.get ?_)
  simp only [hk.regexp, Bool.false_eq_true, if_false]
  refine Tot.bind (tot_shellmeta ?_)
  refine Tot.bind (Tot.get ?_)
  simp only [wc_syn hc, Bool.false_and, Bool.false_eq_true, if_false]
  refine Tot.bind (Tot.get ?_)
  simp only [a8, a9, Bool.or_self, Bool.and_false, Bool.false_eq_true, if_false]
  have hLa : L.drop (i + g.length) = c :: (w' ++ b :: rest) := by
    have := congrArg (List.drop g.length) hL
    simpa [List.drop_drop, Nat.add_comm] using this
  refine Tot.bind (tot_readtokenwordG hk hw hbs hLa (by omega) hend fun ad1 had => ?_)
  exact (hfin ad1 had).mono fun _ _ _ h => Tot.pure h

end

/-- **`tokenizer.token()` on blanks followed by a word over the class** and a character `b` that ends
    it, whatever kind of token `# got_token` makes of such a word before such a character (`hfin`:
    it returns `tok` and leaves the parser object as it found it): the cursor stands right after
    the word, the token history is shifted by one -/
theorem tot_nextToken_classG {l : Local} {L : Str} {adn : Bool} {b : Char} {g w rest : Str} {i : Nat}
    {tok : Token} {P : Token → Local → Tape → Prop}
    (hk : WOK l) (h1 : histOK l.currentToken = true) (hne : w ≠ [])
    (hw : ∀ x ∈ w, wordChar x = true) (hbs : b ≠ '\\') (hg : ∀ y ∈ g, shellblank y = true)
    (hL : L.drop i = g ++ w ++ b :: rest) (hlen : L.length + 2 ≤ 1073741824)
    (hend : EndsAt L adn b (i + g.length + w.length))
    (hfin : ∀ ad1, ((∀ x ∈ w, isDigit x = true) → ad1 = true) →
      Tot (finishWord (rwSt (some b) ad1 w)) { shiftH l with positions := [i + g.length] }
        ⟨L, i + g.length + w.length, adn⟩
        fun t l' T' => t = tok ∧ l' = shiftH l ∧ T' = ⟨L, i + g.length + w.length, adn⟩)
    (h : P tok (afterTok l tok) ⟨L, i + g.length + w.length, adn⟩) :
    Tot nextToken l ⟨L, i, adn⟩ P := by
  cases w with
  | nil => exact absurd rfl hne
  | cons c w' =>
    unfold nextToken
    refine Tot.bind (Tot.modify ?_)
    have hL' : L.drop i = g ++ c :: (w' ++ b :: rest) := by
      rw [hL]; simp
    have e : i + g.length + (c :: w').length = i + g.length + 1 + w'.length := by
      simp only [List.length_cons]; omega
    rw [e] at hend hfin h
    refine Tot.bind (tot_readtoken_wordG (l0 := shiftH l) hk.shiftH h1 hw hbs hg hL' hlen hend
      fun ad1 had => (hfin ad1 had).mono ?_)
    rintro _ _ _ ⟨rfl, rfl, rfl⟩
    simp only []
    refine Tot.bind (Tot.pure ?_)
    refine Tot.bind (Tot.modify ?_)
    refine Tot.bind (Tot.modify ?_)
    exact Tot.pure h

/-- **`tokenizer.token()` on blanks followed by a word over the class**: the token with the exact
    span, the cursor right after the word, the history shifted.  `compassign` matters only for a
    word that looks like an assignment. -/
theorem tot_nextToken_wordG {l : Local} {L : Str} {adn : Bool} {b : Char} {g w rest : Str} {i : Nat}
    {P : Token → Local → Tape → Prop}
    (hk : WOK l) (hca : looksAssign w = true → l.ps.compassign = false) {acc : Bool}
    (hacc : assignmentAcceptable (shiftH l) l.currentToken = acc)
    (h1 : histOK l.currentToken = true) (h2 : histOK l.lastReadToken = true)
    (hw : GenWord w) (hb : endChar b = true) (hg : ∀ y ∈ g, shellblank y = true)
    (hL : L.drop i = g ++ w ++ b :: rest) (hlen : L.length + 2 ≤ 1073741824)
    (hres : reservedWordAcceptable (shiftH l) l.currentToken = true →
      reservedFirstCommandChars.lookup w = none)
    (h : P (genTok (i + g.length) (i + g.length + w.length) w acc)
      (afterTok l (genTok (i + g.length) (i + g.length + w.length) w acc))
      ⟨L, i + g.length + w.length, adn⟩) :
    Tot nextToken l ⟨L, i, adn⟩ P := by
  have hLb : L.drop (i + g.length + w.length) = b :: rest := by
    have := congrArg (List.drop (g.length + w.length)) hL
    rw [List.drop_drop, ← List.length_append] at this
    rw [Nat.add_assoc, ← List.length_append, this]
    exact List.drop_left' rfl
  have hgw : 0 < w.length := List.length_pos_iff.mpr hw.1
  refine tot_nextToken_classG hk h1 hw.1 hw.2 (endChar_ne_bs hb) hg hL hlen
    (.of_endChar hb (drop_lt hLb)) (fun ad1 _ => ?_) h
  exact tot_finishWordG (T := ⟨L, i + g.length + w.length, adn⟩) hk.shiftH hca h1 h2 hw hb
    (by show i + g.length < i + g.length + w.length; omega) hres hacc ⟨rfl, rfl, rfl⟩

/-- **`tokenizer.token()` on blanks followed by a word over the class**: `WORD w` with the exact span; the
    cursor stands right after the word; the history is shifted -/
theorem tot_nextToken_gen {l : Local} {L : Str} {adn : Bool} {b : Char} {g w rest : Str} {i : Nat}
    {P : Token → Local → Tape → Prop}
    (hk : WOK l) (hps : PSOK l) {acc : Bool}
    (hacc : assignmentAcceptable (shiftH l) l.currentToken = acc)
    (h1 : histOK l.currentToken = true) (h2 : histOK l.lastReadToken = true)
    (hw : GenWord w) (hb : endChar b = true) (hg : ∀ y ∈ g, shellblank y = true)
    (hL : L.drop i = g ++ w ++ b :: rest) (hlen : L.length + 2 ≤ 1073741824)
    (hres : reservedWordAcceptable (shiftH l) l.currentToken = true →
      reservedFirstCommandChars.lookup w = none)
    (h : P (genTok (i + g.length) (i + g.length + w.length) w acc)
      (afterTok l (genTok (i + g.length) (i + g.length + w.length) w acc))
      ⟨L, i + g.length + w.length, adn⟩) :
    Tot nextToken l ⟨L, i, adn⟩ P :=
  tot_nextToken_wordG hk (fun _ => hps.ca) hacc h1 h2 hw hb hg hL hlen hres h

/-- **`tokenizer.token()` on blanks followed by a plain word**: `WORD w` with the exact span; the
    cursor stands right after the word; the history is shifted -/
theorem tot_nextToken_word {l : Local} {L : Str} {adn : Bool} {b : Char} {g w rest : Str} {i : Nat}
    {P : Token → Local → Tape → Prop}
    (hk : WOK l) (h1 : histOK l.currentToken = true) (h2 : histOK l.lastReadToken = true)
    (hw : PlainWord w) (hb : endChar b = true) (hg : ∀ y ∈ g, shellblank y = true)
    (hL : L.drop i = g ++ w ++ b :: rest) (hlen : L.length + 2 ≤ 1073741824)
    (hres : reservedWordAcceptable (shiftH l) l.currentToken = true →
      reservedFirstCommandChars.lookup w = none)
    (h : P (wordTok (i + g.length) (i + g.length + w.length) w)
      (afterTok l (wordTok (i + g.length) (i + g.length + w.length) w))
      ⟨L, i + g.length + w.length, adn⟩) :
    Tot nextToken l ⟨L, i, adn⟩ P := by
  have hla := looksAssign_plain hw
  refine tot_nextToken_wordG hk (fun h' => by rw [hla] at h'; cases h') rfl h1 h2 hw.gen hb hg hL hlen
    hres ?_
  simp only [genTok, hla, Bool.false_eq_true, if_false]
  exact h

end Bashlex.C02
