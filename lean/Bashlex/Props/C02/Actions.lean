/-
  C02 (round trip): the semantic actions on the paths of a simple command, of sequences,
  pipelines, general commands and redirections, as total-correctness rules with exact results (generic in the nested parser, which is not called).
-/
import Bashlex.Props.C02.TokG
import Bashlex.Props.C06.Word
import Bashlex.Proofs.ActionEqns

namespace Bashlex.C02
open Bashlex Bashlex.M
set_option linter.unusedSimpArgs false

/-! ## word expansion on a word over the class -/

theorem noExp_gen : ∀ (w : Str), (∀ x ∈ w, wordChar x = true) → C06.noExp w = true
  | [], _ => rfl
  | c :: r, h => by
    have hc : wordChar c = true := h c (List.mem_cons_self ..)
    rw [C06.noExp_cons]
    refine ⟨?_, noExp_gen r (fun x hx => h x (List.mem_cons_of_mem _ hx))⟩
    simp only [C06.isExpChar, wc_ne (by decide : wordChar '$' = false) hc,
      wc_ne (by decide : wordChar '`' = false) hc, wc_ne (by decide : wordChar '<' = false) hc,
      wc_ne (by decide : wordChar '>' = false) hc, wc_ne (by decide : wordChar '~' = false) hc,
      Bool.or_self]

theorem stripGo_genWord (q : Bool) : ∀ (w : Str), (∀ x ∈ w, wordChar x = true) →
    C06.stripGo q w = some w
  | [], _ => C06.stripGo_nil q
  | c :: r, h => by
    have hc : wordChar c = true := h c (List.mem_cons_self ..)
    rw [C06.stripGo_plain q c r (wc_ne' (by decide) hc) (wc_ne' (by decide) hc)
      (wc_ne' (by decide) hc), stripGo_genWord q r (fun x hx => h x (List.mem_cons_of_mem _ hx))]
    rfl

theorem stripPure_gen (q : Bool) {w : Str} (hw : GenWord w) : C06.stripPure w q = some w := by
  obtain ⟨hne, hp⟩ := hw
  unfold C06.stripPure
  have : C06.wholeSQ w = false := by
    cases w with
    | nil => exact absurd rfl hne
    | cons c r =>
      have hc : wordChar c = true := hp c (List.mem_cons_self ..)
      have := wc_ne' (by decide : wordChar '\'' = false) hc
      simp [C06.wholeSQ, this]
  rw [this]
  simp only [Bool.false_eq_true, if_false]
  exact stripGo_genWord q w hp

/-- `parser._expandword` on an unquoted token over the class -/
theorem tot_expandword_gen {np : NestedParse} {t : Token} {a k : Nat} {w : Str} {l : Local}
    {T : Tape} {P : Node → Local → Tape → Prop} (hw : GenWord w) (hv : t.valueStr = w)
    (hp : t.pos = some (a, k)) (hq : t.flags.contains .QUOTED = false)
    (h : P (.word (a, k) w []) l T) : Tot (expandword np t) l T P := by
  have hlp : t.lexpos = a := by simp [Token.lexpos, hp]
  have hep : t.endlexpos = k := by simp [Token.endlexpos, hp]
  by_cases hl : l.limit = some (-1)
  · unfold expandword
    refine Tot.bind (Tot.get ?_)
    simp only [hl, beq_self_eq_true, if_true, hlp, hep, hv]
    exact Tot.pure h
  · have := fun e => C06.expandword_plain_run np t w (by rw [hv]; exact noExp_gen w hw.2)
      ⟨fun hh => ?_, fun hq' => by rw [hq] at hq'; cases hq'⟩ (by rw [hv]; exact stripPure_gen _ hw) l e hl
    · rw [hlp, hep] at this
      exact Tot.of_run this h
    · rw [hv] at hh
      obtain ⟨hne, hpp⟩ := hw
      cases w with
      | nil => cases hh
      | cons c r =>
        have hc : wordChar c = true := hpp c (List.mem_cons_self ..)
        simp only [List.head?_cons, Option.some.injEq] at hh
        exact absurd hh (wc_ne' (by decide) hc)

/-! ## the actions -/

/-- `action` is `actionCore` when the accept flag comes out `false` -/
theorem tot_action_of_core {np : NestedParse} {f : String} {args : List SVal} {l : Local} {T : Tape}
    {P : SVal × Bool → Local → Tape → Prop}
    (h : Tot (actionCore np f args) l T (fun r l' T' => r.2 = false ∧ P r l' T')) :
    Tot (action np f args) l T P := by
  unfold action
  refine Tot.bind (h.mono ?_)
  intro r l' T' ⟨h1, h2⟩
  simp only [h1, Bool.false_and, Bool.false_eq_true, if_false]
  exact Tot.pure h2

theorem act_sce {np : NestedParse} {a k : Nat} {w : Str} {l : Local} {T : Tape}
    {P : SVal × Bool → Local → Tape → Prop} (hw : PlainWord w)
    (h : P (.nodes [.word (a, k) w []], false) l T) :
    Tot (action np "p_simple_command_element" [.tok (wordTok a k w)]) l T P := by
  refine tot_action_of_core ?_
  simp only [actionCore_p_simple_command_element]
  simp only [PCtx.slice, PCtx.tokAt, List.getD_cons_zero, Nat.sub_self]
  refine Tot.bind (Tot.pure ?_)
  refine Tot.bind (tot_expandword_gen (t := wordTok a k w) hw.gen rfl rfl rfl ?_)
  have : (wordTok a k w).is TokType.ASSIGNMENT_WORD = false := rfl
  simp only [this, Bool.false_eq_true, if_false]
  exact Tot.pure ⟨rfl, h⟩

theorem act_sc1 {np : NestedParse} {ns : List Node} {l : Local} {T : Tape}
    {P : SVal × Bool → Local → Tape → Prop} (h : P (.nodes ns, false) l T) :
    Tot (action np "p_simple_command" [.nodes ns]) l T P := by
  refine tot_action_of_core ?_
  simp only [actionCore_p_simple_command]
  simp only [PCtx.len, PCtx.slice, List.length_cons, List.length_nil, List.getD_cons_zero,
    Nat.sub_self]
  exact Tot.pure ⟨rfl, h⟩

theorem act_sc2 {np : NestedParse} {ns ms : List Node} {l : Local} {T : Tape}
    {P : SVal × Bool → Local → Tape → Prop} (h : P (.nodes (ns ++ ms), false) l T) :
    Tot (action np "p_simple_command" [.nodes ns, .nodes ms]) l T P := by
  refine tot_action_of_core ?_
  simp only [actionCore_p_simple_command]
  simp [PCtx.len, PCtx.slice, PCtx.nodesAt]
  exact Tot.pure ⟨rfl, h⟩

theorem nodePos_word (p : Span) (s : Str) (ps : List Node) : nodePos (.word p s ps) = pure p := rfl

theorem act_command {np : NestedParse} {ns : List Node} {p1 p2 : Span} {s1 s2 : Str}
    {q1 q2 : List Node} {l : Local} {T : Tape} {P : SVal × Bool → Local → Tape → Prop}
    (hh : ns.head? = some (.word p1 s1 q1)) (hl : ns.getLast? = some (.word p2 s2 q2))
    (h : P (.node (.command (p1.1, p2.2) ns), false) l T) :
    Tot (action np "p_command" [.nodes ns]) l T P := by
  refine tot_action_of_core ?_
  simp only [actionCore_p_command]
  simp only [PCtx.len, PCtx.slice, PCtx.nodesAt, List.length_cons, List.length_nil,
    List.getD_cons_zero, Nat.sub_self, partsspan, hh, hl, nodePos_word, pure_bind]
  exact Tot.pure ⟨rfl, h⟩

theorem act_pipeline1 {np : NestedParse} {n : Node} {l : Local} {T : Tape}
    {P : SVal × Bool → Local → Tape → Prop} (h : P (.nodes [n], false) l T) :
    Tot (action np "p_pipeline" [.node n]) l T P := by
  refine tot_action_of_core ?_
  simp only [actionCore_p_pipeline]
  simp [joinLists, PCtx.len, PCtx.slice, PCtx.nodeAt]
  exact Tot.pure ⟨rfl, h⟩

theorem act_pipeline_command1 {np : NestedParse} {n : Node} {l : Local} {T : Tape}
    {P : SVal × Bool → Local → Tape → Prop} (h : P (.node n, false) l T) :
    Tot (action np "p_pipeline_command" [.nodes [n]]) l T P := by
  refine tot_action_of_core ?_
  simp only [actionCore_p_pipeline_command]
  simp [PCtx.len, PCtx.slice, PCtx.nodesAt]
  exact Tot.pure ⟨rfl, h⟩

theorem act_simple_list1_1 {np : NestedParse} {n : Node} {l : Local} {T : Tape}
    {P : SVal × Bool → Local → Tape → Prop} (h : P (.nodes [n], false) l T) :
    Tot (action np "p_simple_list1" [.node n]) l T P := by
  refine tot_action_of_core ?_
  simp only [actionCore_p_simple_list1]
  simp [joinLists, PCtx.len, PCtx.slice, PCtx.nodeAt]
  exact Tot.pure ⟨rfl, h⟩

theorem act_terminator {np : NestedParse} {args : List SVal} {l : Local} {T : Tape}
    {P : SVal × Bool → Local → Tape → Prop} (h : P (.none, false) l T) :
    Tot (action np "p_simple_list_terminator" args) l T P := by
  refine tot_action_of_core ?_
  simp only [actionCore_p_simple_list_terminator]
  exact Tot.pure ⟨rfl, h⟩

theorem tot_gather_nil {l : Local} {T : Tape} {P : Unit → Local → Tape → Prop}
    (hr : l.redirstack = []) (h : P () l T) : Tot gatherheredocuments l T P := by
  unfold gatherheredocuments
  refine Tot.bind (Tot.get ?_)
  show Tot (M.loop "gatherheredocuments" _ (l.redirstack.length + 1) ()) _ _ _
  refine Tot.loop_step ?_
  refine Tot.bind (Tot.get ?_)
  simp only [hr]
  exact Tot.pure h

theorem act_simple_list_1 {np : NestedParse} {n : Node} {l : Local} {T : Tape}
    {P : SVal × Bool → Local → Tape → Prop} (hr : l.redirstack = []) (hc : l.ps.cmdsubst = false)
    (h : P (.node n, false) l T) :
    Tot (action np "p_simple_list" [.nodes [n]]) l T P := by
  refine tot_action_of_core ?_
  simp only [actionCore_p_simple_list]
  refine Tot.bind (tot_gather_nil hr ?_)
  simp [PCtx.len, PCtx.slice, PCtx.nodesAt]
  rw [map_eq_pure_bind]
  refine Tot.bind (Tot.get ?_)
  simp only [hc, Bool.false_and, Bool.and_false]
  exact Tot.pure ⟨rfl, h⟩

theorem act_inputunit {np : NestedParse} {n : Node} {x : SVal} {l : Local} {T : Tape}
    {P : SVal × Bool → Local → Tape → Prop} (hc : l.ps.cmdsubst = false)
    (h : P (.node n, true) l T) :
    Tot (action np "p_inputunit" [.node n, x]) l T P := by
  unfold action
  refine Tot.bind ?_
  simp only [actionCore_p_inputunit]
  refine Tot.bind (Tot.get ?_)
  simp only [hc, Bool.false_eq_true, if_false]
  simp only [PCtx.slice, List.getD_cons_zero, Nat.sub_self]
  refine Tot.pure ?_
  have : acceptingActions.contains "p_inputunit" = true := by decide
  simp only [this, Bool.not_true, Bool.and_false, Bool.false_eq_true, if_false]
  exact Tot.pure h

/-! ## actions for sequences -/

theorem nodePos_command (p : Span) (ps : List Node) : nodePos (.command p ps) = pure p := rfl

theorem act_simple_list1_3 {np : NestedParse} {xs ys : List Node} {t : Token} {l : Local} {T : Tape}
    {P : SVal × Bool → Local → Tape → Prop}
    (h : P (.nodes (xs ++ [Node.operator (t.lexpos, t.endlexpos) t.valueStr] ++ ys), false) l T) :
    Tot (action np "p_simple_list1" [.nodes xs, .tok t, .nodes ys]) l T P := by
  refine tot_action_of_core ?_
  simp only [actionCore_p_simple_list1]
  simp [joinLists, PCtx.len, PCtx.slice, PCtx.nodesAt, PCtx.strAt, PCtx.tokAt, PCtx.lexspan,
    SVal.lexspan]
  exact Tot.pure ⟨rfl, by simpa using h⟩

theorem act_simple_list_manyG {np : NestedParse} {ns : List Node} {nh nl : Node} {ph pl : Span}
    {l : Local} {T : Tape} {P : SVal × Bool → Local → Tape → Prop} (hr : l.redirstack = [])
    (hc : l.ps.cmdsubst = false) (hlen : 1 < ns.length) (hh : ns.head? = some nh)
    (hl : ns.getLast? = some nl) (hph : nodePos nh = pure ph) (hpl : nodePos nl = pure pl)
    (h : P (.node (.list (ph.1, pl.2) ns), false) l T) :
    Tot (action np "p_simple_list" [.nodes ns]) l T P := by
  refine tot_action_of_core ?_
  simp only [actionCore_p_simple_list]
  refine Tot.bind (tot_gather_nil hr ?_)
  simp [PCtx.len, PCtx.slice, PCtx.nodesAt, hlen, partsspan, hh, hl, hph, hpl]
  rw [map_eq_pure_bind]
  refine Tot.bind (Tot.get ?_)
  simp only [hc, Bool.false_and, Bool.and_false]
  exact Tot.pure ⟨rfl, h⟩

/-! ## actions for pipelines -/

theorem act_empty {np : NestedParse} {args : List SVal} {l : Local} {T : Tape}
    {P : SVal × Bool → Local → Tape → Prop} (h : P (.none, false) l T) :
    Tot (action np "p_empty" args) l T P := by
  refine tot_action_of_core ?_
  simp only [actionCore_p_empty]
  exact Tot.pure ⟨rfl, h⟩

theorem act_newline_list {np : NestedParse} {args : List SVal} {l : Local} {T : Tape}
    {P : SVal × Bool → Local → Tape → Prop} (h : P (.none, false) l T) :
    Tot (action np "p_newline_list" args) l T P := by
  refine tot_action_of_core ?_
  simp only [actionCore_p_newline_list]
  exact Tot.pure ⟨rfl, h⟩

theorem act_pipeline4 {np : NestedParse} {xs ys : List Node} {t : Token} {x3 : SVal} {l : Local}
    {T : Tape} {P : SVal × Bool → Local → Tape → Prop}
    (h : P (.nodes (xs ++ [Node.pipe (t.lexpos, t.endlexpos) t.valueStr] ++ ys), false) l T) :
    Tot (action np "p_pipeline" [.nodes xs, .tok t, x3, .nodes ys]) l T P := by
  refine tot_action_of_core ?_
  simp only [actionCore_p_pipeline]
  simp [joinLists, PCtx.len, PCtx.slice, PCtx.nodesAt, PCtx.strAt, PCtx.tokAt, PCtx.lexspan,
    SVal.lexspan]
  exact Tot.pure ⟨rfl, by simpa using h⟩

theorem act_pipeline_command_many {np : NestedParse} {x y : Node} {rs : List Node} {pF pL : Span}
    {nF nL : List Node} {l : Local} {T : Tape}
    {P : SVal × Bool → Local → Tape → Prop}
    (hh : (x :: y :: rs).head? = some (.command pF nF))
    (hl : (x :: y :: rs).getLast? = some (.command pL nL))
    (h : P (.node (.pipeline (pF.1, pL.2) (x :: y :: rs)), false) l T) :
    Tot (action np "p_pipeline_command" [.nodes (x :: y :: rs)]) l T P := by
  refine tot_action_of_core ?_
  simp only [actionCore_p_pipeline_command]
  simp only [PCtx.len, PCtx.slice, PCtx.nodesAt, List.length_cons, List.length_nil,
    List.getD_cons_zero, Nat.sub_self, if_true, pure_bind, hh, hl, nodePos_command]
  exact Tot.pure ⟨rfl, h⟩

theorem act_simple_list1_4 {np : NestedParse} {xs ys : List Node} {t : Token} {x3 : SVal} {l : Local}
    {T : Tape} {P : SVal × Bool → Local → Tape → Prop}
    (h : P (.nodes (xs ++ [Node.operator (t.lexpos, t.endlexpos) t.valueStr] ++ ys), false) l T) :
    Tot (action np "p_simple_list1" [.nodes xs, .tok t, x3, .nodes ys]) l T P := by
  refine tot_action_of_core ?_
  simp only [actionCore_p_simple_list1]
  simp [joinLists, PCtx.len, PCtx.slice, PCtx.nodesAt, PCtx.strAt, PCtx.tokAt, PCtx.lexspan,
    SVal.lexspan]
  exact Tot.pure ⟨rfl, by simpa using h⟩

/-! ## general forms (assignments, …) -/

theorem nodePos_assignment (p : Span) (s : Str) (ps : List Node) :
    nodePos (.assignment p s ps) = pure p := rfl

/-- `p_command` on a list of positioned nodes -/
theorem act_commandG {np : NestedParse} {ns : List Node} {nh nl : Node} {ph pl : Span}
    {l : Local} {T : Tape} {P : SVal × Bool → Local → Tape → Prop}
    (hh : ns.head? = some nh) (hl : ns.getLast? = some nl) (hph : nodePos nh = pure ph)
    (hpl : nodePos nl = pure pl)
    (h : P (.node (.command (ph.1, pl.2) ns), false) l T) :
    Tot (action np "p_command" [.nodes ns]) l T P := by
  refine tot_action_of_core ?_
  simp only [actionCore_p_command]
  simp only [PCtx.len, PCtx.slice, PCtx.nodesAt, List.length_cons, List.length_nil,
    List.getD_cons_zero, Nat.sub_self, partsspan, hh, hl, hph, hpl, pure_bind]
  exact Tot.pure ⟨rfl, h⟩

/-! ## redirections -/

theorem act_sce_node {np : NestedParse} {n : Node} {l : Local} {T : Tape}
    {P : SVal × Bool → Local → Tape → Prop} (h : P (.nodes [n], false) l T) :
    Tot (action np "p_simple_command_element" [.node n]) l T P := by
  refine tot_action_of_core ?_
  simp only [actionCore_p_simple_command_element]
  simp only [PCtx.slice, List.getD_cons_zero, Nat.sub_self]
  exact Tot.pure ⟨rfl, h⟩

theorem act_redir {np : NestedParse} {t wt : Token} {wn : Node} {l : Local} {T : Tape}
    {P : SVal × Bool → Local → Tape → Prop}
    (hwt : wt.is .WORD = true)
    (hexp : ∀ Q : Node → Local → Tape → Prop, Q wn l T → Tot (expandword np wt) l T Q)
    (h : P (.node (.redirect (t.lexpos, wt.endlexpos) .none t.valueStr (some wn) .none none none),
      false) l T) :
    Tot (action np "p_redirection" [.tok t, .tok wt]) l T P := by
  refine tot_action_of_core ?_
  simp only [actionCore_p_redirection]
  simp only [PCtx.len, PCtx.slice, PCtx.tokAt, List.length_cons, List.length_nil,
    List.getD_cons_zero, List.getD_cons_succ, Nat.sub_self, Nat.add_one_sub_one, pure_bind, hwt, if_true]
  refine Tot.bind (hexp _ ?_)
  simp only [show ((0 + 1 + 1 + 1 : Nat) == 3) = true from rfl, if_true, PCtx.strAt, PCtx.tokAt,
    PCtx.slice, PCtx.lexspan, SVal.lexspan, List.getD_cons_zero, List.getD_cons_succ, Nat.sub_self,
    Nat.add_one_sub_one, pure_bind]
  exact Tot.pure ⟨rfl, h⟩

/-- `p_redirection` on the four-symbol productions `NUMBER op WORD` -/
theorem act_redirN {np : NestedParse} {nt t wt : Token} {wn : Node} {k : Nat} {l : Local} {T : Tape}
    {P : SVal × Bool → Local → Tape → Prop}
    (hwt : wt.is .WORD = true) (hnv : nt.value = .int k)
    (hexp : ∀ Q : Node → Local → Tape → Prop, Q wn l T → Tot (expandword np wt) l T Q)
    (h : P (.node (.redirect (nt.lexpos, wt.endlexpos) (.num k) t.valueStr (some wn) .none none none),
      false) l T) :
    Tot (action np "p_redirection" [.tok nt, .tok t, .tok wt]) l T P := by
  refine tot_action_of_core ?_
  simp only [actionCore_p_redirection]
  simp only [PCtx.len, PCtx.slice, PCtx.tokAt, List.length_cons, List.length_nil,
    List.getD_cons_zero, List.getD_cons_succ, Nat.sub_self, Nat.add_one_sub_one, pure_bind, hwt, if_true]
  refine Tot.bind (hexp _ ?_)
  simp only [show ((0 + 1 + 1 + 1 + 1 : Nat) == 3) = false from rfl, Bool.false_eq_true, if_false,
    PCtx.strAt, PCtx.tokAt,
    PCtx.slice, PCtx.lexspan, SVal.lexspan, List.getD_cons_zero, List.getD_cons_succ, Nat.sub_self,
    Nat.add_one_sub_one, pure_bind, hnv]
  exact Tot.pure ⟨rfl, h⟩

end Bashlex.C02
