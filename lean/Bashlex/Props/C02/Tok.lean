/-
  C02 (round trip): the real tokenizer, groundwork: the class of plain characters, one
  iteration of the loop of `_readtokenword`, what the tokenizer needs of the parser object (`WOK`,
  the token history), the head of `_readtoken` (blanks are skipped), `_createtoken`; then
  `tokenizer.token()` on a newline and at the end of the input.  Words are read in `TokG`.
-/
import Bashlex.Props.C02.Tot
import Bashlex.Props.C10.Entry
import Bashlex.Props.C04.TTWord

namespace Bashlex.C02
open Bashlex Bashlex.M
set_option linter.unusedSimpArgs false

/-! ## the safe character class -/

/-- letters, digits and `_ - . / , : + @ %`: no quoting, expansion, glob-brace, `=`, `~`, `#`,
    `!`, `{`, `}`, blank or operator character -/
def plainChar (c : Char) : Bool :=
  isAlnum c || c == '_' || c == '-' || c == '.' || c == '/' || c == ',' || c == ':' || c == '+'
    || c == '@' || c == '%'

theorem plain_ne {c d : Char} (hd : plainChar d = false) (hc : plainChar c = true) :
    (c == d) = false := by
  cases h : c == d with
  | false => rfl
  | true =>
    have := eq_of_beq h
    subst this
    rw [hd] at hc; cases hc

theorem plain_ne' {c d : Char} (hd : plainChar d = false) (hc : plainChar c = true) : c ≠ d := by
  intro h; subst h; rw [hd] at hc; cases hc

theorem plain_syn {c : Char} (hc : plainChar c = true) : synClass c = {} := by
  simp only [synClass,
    plain_ne (by decide : plainChar '\\' = false) hc, plain_ne (by decide : plainChar '`' = false) hc,
    plain_ne (by decide : plainChar '$' = false) hc, plain_ne (by decide : plainChar '"' = false) hc,
    plain_ne (by decide : plainChar '\n' = false) hc, plain_ne (by decide : plainChar '(' = false) hc,
    plain_ne (by decide : plainChar ')' = false) hc, plain_ne (by decide : plainChar '<' = false) hc,
    plain_ne (by decide : plainChar '>' = false) hc, plain_ne (by decide : plainChar ';' = false) hc,
    plain_ne (by decide : plainChar '&' = false) hc, plain_ne (by decide : plainChar '|' = false) hc,
    plain_ne (by decide : plainChar '\'' = false) hc, plain_ne (by decide : plainChar ' ' = false) hc,
    plain_ne (by decide : plainChar '\t' = false) hc, Bool.or_self]

theorem plain_blank {c : Char} (hc : plainChar c = true) : shellblank c = false := by
  simp only [shellblank, plain_ne (by decide : plainChar ' ' = false) hc,
    plain_ne (by decide : plainChar '\t' = false) hc, Bool.or_self]

/-! ## list helpers -/

theorem drop_head {L : Str} {i : Nat} {x : Char} {xs : Str} (h : L.drop i = x :: xs) :
    L[i]? = some x := (C10.drop_cons h).1

theorem drop_tail {L : Str} {i : Nat} {x : Char} {xs : Str} (h : L.drop i = x :: xs) :
    L.drop (i + 1) = xs := (C10.drop_cons h).2.1

theorem drop_lt {L : Str} {i : Nat} {x : Char} {xs : Str} (h : L.drop i = x :: xs) :
    i < L.length := (C10.drop_cons h).2.2

/-! ## the loop of `_readtokenword` on plain characters -/

/-- a character that ends a word without further ado: a break character that is neither a quote
    nor an expansion character (blank, tab, newline, `; & | ( )`) -/
def endChar (b : Char) : Bool :=
  (synClass b).brk && !(synClass b).quote && !(synClass b).exp && b != '\\'

/-- the loop state while a plain word is read -/
def rwSt (c : Option Char) (ad : Bool) (tw : Str) : RWState :=
  { c := c, allDigit := ad, tokenword := tw }

theorem currentDelimiter_tot {l : Local} {T : Tape} {P : Option Char → Local → Tape → Prop}
    (h : P l.dstack.getLast? l T) : Tot currentDelimiter l T P := by
  unfold currentDelimiter
  exact Tot.bind (Tot.get (Tot.pure h))

/-- one iteration on a character without syntactic class (no quote, expansion or break character,
    neither `\\` nor `$`) followed by another character `d` (not a backslash) -/
theorem step_char {l : Local} {L : Str} {i : Nat} {adn : Bool} {c d : Char} {ad : Bool} {tw : Str}
    {P : RWState ⊕ RWState → Local → Tape → Prop}
    (ht : l.tape = none) (hl : l.eolLookahead = none) (hsyn : synClass c = {})
    (hbs : (c == '\\') = false) (hdol : (c == '$') = false)
    (hd : L[i]? = some d) (hdb : d ≠ '\\')
    (h : P (.inl (rwSt (some d) (ad && isDigit c) (tw ++ [c]))) l ⟨L, i + 1, adn⟩) :
    Tot (readtokenwordStep (rwSt (some c) ad tw)) l ⟨L, i, adn⟩ P := by
  rw [C04.TTP.readtokenwordStep_eq]
  simp only [rwSt, Bool.false_eq_true, if_false]
  refine Tot.bind (currentDelimiter_tot ?_)
  simp only [hbs, Bool.false_eq_true, if_false]
  refine Tot.bind (tot_shellquote ?_)
  simp only [hsyn, Bool.false_eq_true, if_false]
  refine Tot.bind (tot_shellexp ?_)
  simp only [hsyn, Bool.false_eq_true, if_false]
  unfold C04.TTP.rwBreak
  simp only [Bool.not_false, if_true]
  refine Tot.bind (tot_shellbreak ?_)
  simp only [hsyn, Bool.false_eq_true, if_false]
  unfold C04.TTP.rwTail
  refine Tot.bind (currentDelimiter_tot ?_)
  refine Tot.bind (tot_getc ht hl hd hdb ?_)
  refine Tot.pure ?_
  simp only [handleescapedchar, Bool.not_false, if_true, hdol]
  exact h

/-- one iteration on a plain character followed by another character `d` (not a backslash) -/
theorem step_plain {l : Local} {L : Str} {i : Nat} {adn : Bool} {c d : Char} {ad : Bool} {tw : Str}
    {P : RWState ⊕ RWState → Local → Tape → Prop}
    (ht : l.tape = none) (hl : l.eolLookahead = none) (hc : plainChar c = true)
    (hd : L[i]? = some d) (hdb : d ≠ '\\')
    (h : P (.inl (rwSt (some d) (ad && isDigit c) (tw ++ [c]))) l ⟨L, i + 1, adn⟩) :
    Tot (readtokenwordStep (rwSt (some c) ad tw)) l ⟨L, i, adn⟩ P :=
  step_char ht hl (plain_syn hc) (plain_ne (by decide) hc) (plain_ne (by decide) hc) hd hdb h

/-- the iteration on the character that ends the word -/
theorem step_end {l : Local} {L : Str} {i : Nat} {adn : Bool} {b : Char} {ad : Bool} {tw : Str}
    {P : RWState ⊕ RWState → Local → Tape → Prop}
    (ht : l.tape = none) (hb : endChar b = true) (hi : i < L.length)
    (h : P (.inr (rwSt (some b) ad tw)) l ⟨L, i, adn⟩) :
    Tot (readtokenwordStep (rwSt (some b) ad tw)) l ⟨L, i + 1, adn⟩ P := by
  simp only [endChar, Bool.and_eq_true, Bool.not_eq_true', bne_iff_ne, ne_eq] at hb
  obtain ⟨⟨⟨h1, h2⟩, h3⟩, h4⟩ := hb
  have h4' : (b == '\\') = false := by simpa using h4
  rw [C04.TTP.readtokenwordStep_eq]
  simp only [rwSt, Bool.false_eq_true, if_false]
  refine Tot.bind (currentDelimiter_tot ?_)
  simp only [h4', Bool.false_eq_true, if_false]
  refine Tot.bind (tot_shellquote ?_)
  simp only [h2, Bool.false_eq_true, if_false]
  refine Tot.bind (tot_shellexp ?_)
  simp only [h3, Bool.false_eq_true, if_false]
  unfold C04.TTP.rwBreak
  simp only [Bool.not_false, if_true]
  refine Tot.bind (tot_shellbreak ?_)
  simp only [h1, if_true]
  refine Tot.bind (tot_ungetc ht hi ?_)
  exact Tot.pure h

theorem endChar_ne_bs {b : Char} (hb : endChar b = true) : b ≠ '\\' := by
  simp only [endChar, Bool.and_eq_true, bne_iff_ne, ne_eq] at hb
  exact hb.2

/-! ## what the tokenizer needs of the parser object -/

/-- the parser object is in the plain state: top-level tape, empty look-ahead slot, empty position
    stack, no pending here-document, no `case`/`[[`/function-brace bookkeeping pending -/
structure WOK (l : Local) : Prop where
  tape : l.tape = none
  eol : l.eolLookahead = none
  pos : l.positions = []
  regexp : l.ps.regexp = false
  esacs : l.esacsNeeded = 0
  brc : l.ps.allowopnbrc = false
  redir : l.redirstack = []

/-- token types that may sit in the token history while plain commands are read -/
def histOK (t : Token) : Bool :=
  match t.ttype with
  | none => true
  | some ty => ty == .WORD || ty == .ASSIGNMENT_WORD || ty == .SEMICOLON || ty == .AND_AND
      || ty == .OR_OR || ty == .BAR || ty == .NEWLINE || ty == .AMPERSAND || ty == .GREATER
      || ty == .LESS || ty == .GREATER_GREATER || ty == .NUMBER

theorem histOK_is {t : Token} (h : histOK t = true) :
    t.is .FOR = false ∧ t.is .CASE = false ∧ t.is .SELECT = false ∧ t.is .ARITH_FOR_EXPRS = false ∧
    t.is .TIME = false ∧ t.is .TIMEOPT = false ∧ t.is .FUNCTION = false ∧ t.is .LESS_AND = false ∧
    t.is .GREATER_AND = false := by
  unfold histOK at h
  unfold Token.is
  revert h
  rcases t.ttype with _ | x
  · decide
  · cases x <;> decide

/-- the history shift at the head of `tokenizer.token()` -/
def shiftH (l : Local) : Local :=
  { l with twoTokensAgo := l.tokenBeforeThat, tokenBeforeThat := l.lastReadToken,
           lastReadToken := l.currentToken }

/-- the parser object after `tokenizer.token()` delivered `tok` -/
def afterTok (l : Local) (tok : Token) : Local :=
  { shiftH l with currentToken := tok, ps := { l.ps with eoftoken := false } }

/-- the parser-state flags the assignment bookkeeping reads -/
structure PSOK (l : Local) : Prop where
  cp : l.ps.casepat = false
  rl : l.ps.redirlist = false
  ca : l.ps.compassign = false

theorem WOK.shiftH {l : Local} (h : WOK l) : WOK (shiftH l) :=
  ⟨h.tape, h.eol, h.pos, h.regexp, h.esacs, h.brc, h.redir⟩

/-! ## skipping blanks -/

def skipBody (c : Option Char) : M (Option Char ⊕ Option Char) := do
  match c with
  | some ch => if shellblank ch then return .inl (← getc true) else return .inr c
  | none => return .inr c

theorem blank_ne_bs {x : Char} (h : shellblank x = true) : x ≠ '\\' := by
  intro hx; subst hx; revert h; decide

theorem tot_skipLoop {l : Local} {L : Str} {adn : Bool} {c : Char} {rest : Str}
    {P : Option Char → Local → Tape → Prop}
    (ht : l.tape = none) (hl : l.eolLookahead = none) (hc : shellblank c = false) (hcb : c ≠ '\\') :
    ∀ (g : Str) (x : Char) (i fuel : Nat), L.drop i = g ++ c :: rest → shellblank x = true →
      (∀ y ∈ g, shellblank y = true) → g.length + 2 ≤ fuel →
      P (some c) l ⟨L, i + g.length + 1, adn⟩ →
      Tot (M.loop "_readtoken" skipBody fuel (some x)) l ⟨L, i, adn⟩ P := by
  intro g
  induction g with
  | nil =>
    intro x i fuel hL hx hg hf h
    obtain ⟨f1, rfl⟩ : ∃ f1, fuel = f1 + 1 := ⟨fuel - 1, by omega⟩
    refine Tot.loop_step ?_
    simp only [skipBody, hx, if_true]
    refine Tot.bind (tot_getc ht hl (drop_head hL) hcb ?_)
    refine Tot.pure ?_
    obtain ⟨f2, rfl⟩ : ∃ f2, f1 = f2 + 1 := ⟨f1 - 1, by simp at hf; omega⟩
    refine Tot.loop_step ?_
    simp only [skipBody, hc, Bool.false_eq_true, if_false]
    exact Tot.pure h
  | cons y g' ih =>
    intro x i fuel hL hx hg hf h
    obtain ⟨f1, rfl⟩ : ∃ f1, fuel = f1 + 1 := ⟨fuel - 1, by omega⟩
    refine Tot.loop_step ?_
    simp only [skipBody, hx, if_true]
    have hy : shellblank y = true := hg y (List.mem_cons_self ..)
    refine Tot.bind (tot_getc ht hl (drop_head hL) (blank_ne_bs hy) ?_)
    refine Tot.pure ?_
    refine ih y (i + 1) f1 (drop_tail hL) hy (fun z hz => hg z (List.mem_cons_of_mem _ hz))
      (by simp at hf; omega) ?_
    have e : i + 1 + g'.length + 1 = i + (y :: g').length + 1 := by simp; omega
    rw [e]; exact h

/-- the head of `_readtoken`: blanks are skipped, the first other character is in hand -/
theorem tot_readtokenHead {l : Local} {L : Str} {adn : Bool} {c : Char} {rest g : Str} {i : Nat}
    {P : Option Char → Local → Tape → Prop}
    (ht : l.tape = none) (hl : l.eolLookahead = none) (hc : shellblank c = false) (hcb : c ≠ '\\')
    (hch : c ≠ '#') (hL : L.drop i = g ++ c :: rest) (hg : ∀ y ∈ g, shellblank y = true)
    (hlen : g.length + 2 ≤ 1073741824)
    (h : P (some c) l ⟨L, i + g.length + 1, adn⟩) :
    Tot C10.readtokenHead l ⟨L, i, adn⟩ P := by
  unfold C10.readtokenHead loopFuel
  refine Tot.bind (Tot.pure ?_)
  have hch' : (c == '#') = false := by simpa using hch
  have fin : Tot (match some c with
      | none => (pure none : M (Option Char))
      | some ch => if (ch == '#') = true then (do discardUntil '\n'; let _ ← getc false; pure (some '\n'))
                   else pure (some ch)) l ⟨L, i + g.length + 1, adn⟩ P := by
    simp only [hch', Bool.false_eq_true, if_false]
    exact Tot.pure h
  cases g with
  | nil =>
    refine Tot.bind (tot_getc ht hl (drop_head hL) hcb ?_)
    refine Tot.bind ?_
    show Tot (M.loop "_readtoken" skipBody (1073741823 + 1) (some c)) _ _ _
    refine Tot.loop_step ?_
    simp only [skipBody, hc, Bool.false_eq_true, if_false]
    exact Tot.pure fin
  | cons y g' =>
    have hy : shellblank y = true := hg y (List.mem_cons_self ..)
    refine Tot.bind (tot_getc ht hl (drop_head hL) (blank_ne_bs hy) ?_)
    refine Tot.bind ?_
    refine tot_skipLoop ht hl hc hcb g' y (i + 1) _ (drop_tail hL) hy
      (fun z hz => hg z (List.mem_cons_of_mem _ hz)) (by simp at hlen; omega) ?_
    have e : i + 1 + g'.length + 1 = i + (y :: g').length + 1 := by simp; omega
    rw [e]; exact fin

/-! ## plain words -/

/-- a non-empty word over the safe class -/
def PlainWord (w : Str) : Prop := w ≠ [] ∧ ∀ x ∈ w, plainChar x = true

instance (w : Str) : Decidable (PlainWord w) := by unfold PlainWord; exact inferInstance

theorem isAssignmentLoop_plain : ∀ (w : Str), (∀ x ∈ w, plainChar x = true) → isAssignmentLoop w = false
  | [], _ => rfl
  | c :: r, h => by
    have hc : plainChar c = true := h c (List.mem_cons_self ..)
    have ih := isAssignmentLoop_plain r (fun x hx => h x (List.mem_cons_of_mem _ hx))
    have hr : (r.head? == some '=') = false := by
      cases r with
      | nil => rfl
      | cons d r' =>
        have hd : plainChar d = true := h d (List.mem_cons_of_mem _ (List.mem_cons_self ..))
        simp only [List.head?_cons]
        have := plain_ne' (by decide : plainChar '=' = false) hd
        simpa using this
    unfold isAssignmentLoop
    simp only [plain_ne (by decide : plainChar '=' = false) hc, Bool.false_eq_true, if_false, hr,
      Bool.and_false, ih]
    split <;> rfl

/-- the token `_readtokenword` builds for a plain word -/
def wordTok (a k : Nat) (w : Str) : Token :=
  { ttype := some .WORD, value := .str w, pos := some (a, k), flags := [] }

theorem endChar_not_redir {b : Char} (hb : endChar b = true) :
    (some b == some '<' || some b == some '>') = false := by
  cases h1 : (some b == some '<') with
  | true =>
    have : b = '<' := by simpa using h1
    subst this; revert hb; decide
  | false =>
    cases h2 : (some b == some '>') with
    | true =>
      have : b = '>' := by simpa using h2
      subst this; revert hb; decide
    | false => rfl

theorem tot_createtoken {l : Local} {T : Tape} {ty : TokType} {v : TVal} {fl : WordFlags}
    {a k : Nat} {P : Token → Local → Tape → Prop} (hp : l.positions = [a, k]) (hak : a < k)
    (h : P { ttype := some ty, value := v, pos := some (a, k), flags := fl }
      { l with positions := [] } T) : Tot (createtoken ty v fl) l T P := by
  unfold createtoken
  refine Tot.bind (Tot.get ?_)
  simp only [hp, List.length_cons, List.length_nil, Nat.lt_irrefl, if_false]
  refine Tot.bind (Tot.set ?_)
  simp only [List.getLast?_cons_cons, List.getLast?_singleton, Option.getD_some, List.dropLast,
    hak, not_true_eq_false, Bool.not_true, Bool.false_eq_true, if_false, decide_true]
  exact Tot.pure h

theorem plain_head_brace {w : Str} (hw : PlainWord w) : (w.head? == some '{') = false := by
  obtain ⟨hne, hp⟩ := hw
  cases w with
  | nil => rfl
  | cons c r =>
    simp only [List.head?_cons]
    have := plain_ne' (by decide : plainChar '{' = false) (hp c (List.mem_cons_self ..))
    simpa using this

theorem pos_eta (l0 : Local) (h : l0.positions = []) : { l0 with positions := [] } = l0 := by
  cases l0; cases h; rfl

/-- the parser object after `tokenizer.token()` delivered the NEWLINE token `tok` -/
def afterNL (l : Local) (tok : Token) : Local :=
  { shiftH l with currentToken := tok, ps := { l.ps with assignok := false, eoftoken := false } }

def nlTok (a : Nat) : Token :=
  { ttype := some .NEWLINE, value := .str ['\n'], pos := some (a, a + 1), flags := [] }

/-- **`tokenizer.token()` on blanks followed by a newline** (no here-document pending) -/
theorem tot_nextToken_nl {l : Local} {L : Str} {adn : Bool} {g rest : Str} {i : Nat}
    {P : Token → Local → Tape → Prop}
    (hk : WOK l) (hg : ∀ y ∈ g, shellblank y = true)
    (hL : L.drop i = g ++ '\n' :: rest) (hlen : L.length + 2 ≤ 1073741824)
    (h : P (nlTok (i + g.length)) (afterNL l (nlTok (i + g.length))) ⟨L, i + g.length + 1, adn⟩) :
    Tot nextToken l ⟨L, i, adn⟩ P := by
  have hlenL : (L.drop i).length ≤ L.length := by rw [List.length_drop]; omega
  have hlen2 : g.length + 1 ≤ L.length := by
    rw [hL] at hlenL; simp at hlenL; omega
  have hr := hk.redir
  have hp := hk.pos
  cases l
  simp only at hr hp
  subst hr
  subst hp
  unfold nextToken
  refine Tot.bind (Tot.modify ?_)
  rw [C10.readtoken_eq]
  refine Tot.bind (Tot.bind (tot_readtokenHead hk.tape hk.eol (by decide)
    (by decide) (by decide) hL hg (by omega) ?_))
  simp only []
  unfold C10.readtokenTail
  refine Tot.bind (tot_recordpos hk.tape ?_)
  simp only [beq_self_eq_true, if_true]
  refine Tot.bind ?_
  · unfold gatherheredocuments
    refine Tot.bind (Tot.get ?_)
    show Tot (M.loop "gatherheredocuments" _ (0 + 1) ()) _ _ _
    refine Tot.loop_step ?_
    refine Tot.bind (Tot.get ?_)
    simp only [shiftH]
    refine Tot.pure ?_
    refine Tot.bind (Tot.modify ?_)
    unfold tokentypeOfChar
    simp only [TokType.ofChar]
    refine Tot.bind (Tot.pure ?_)
    refine Tot.pure ?_
    simp only []
    refine Tot.bind (tot_recordpos hk.tape ?_)
    simp only [List.nil_append, Nat.add_sub_cancel, Nat.sub_zero, List.cons_append]
    refine Tot.bind (tot_createtoken rfl (by omega) ?_)
    refine Tot.bind (Tot.modify ?_)
    refine Tot.bind (Tot.modify ?_)
    refine Tot.pure ?_
    exact h

def eofTok : Token := { ttype := some .EOF, value := .none }

/-- **`tokenizer.token()` at the end of the input**: the EOF token (no span) -/
theorem tot_nextToken_eof {l : Local} {L : Str} {adn : Bool} {i : Nat}
    {P : Token → Local → Tape → Prop}
    (hk : WOK l) (hi : L.length ≤ i)
    (h : P eofTok (afterTok l eofTok) ⟨L, i, adn⟩) :
    Tot nextToken l ⟨L, i, adn⟩ P := by
  unfold nextToken
  refine Tot.bind (Tot.modify ?_)
  rw [C10.readtoken_eq]
  refine Tot.bind (Tot.bind ?_)
  · unfold C10.readtokenHead loopFuel
    refine Tot.bind (Tot.pure ?_)
    refine Tot.bind (tot_getc_end hk.tape hk.eol hi ?_)
    refine Tot.bind ?_
    show Tot (M.loop "_readtoken" skipBody (1073741823 + 1) none) _ _ _
    refine Tot.loop_step ?_
    simp only [skipBody]
    refine Tot.pure ?_
    simp only []
    refine Tot.pure ?_
    simp only []
    refine Tot.pure ?_
    simp only []
    refine Tot.bind (Tot.pure ?_)
    refine Tot.bind (Tot.modify ?_)
    refine Tot.bind (Tot.modify ?_)
    exact Tot.pure h

end Bashlex.C02
