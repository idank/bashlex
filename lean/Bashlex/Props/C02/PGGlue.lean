/-
  C02 (round trip): from the engine to `_parser.parse()`, for lists of pipelines of
  GENERAL simple commands; `resolve` and `_endfinder` on the expected ASTs.
-/
import Bashlex.Props.C02.SeqPG
import Bashlex.Proofs.NodeResolve

namespace Bashlex.C02
open Bashlex Bashlex.M Bashlex.LR
set_option linter.unusedSimpArgs false

/-! ## the expected ASTs are settled: node by node, level by level -/

theorem Elem.node_settled (el : Elem) (a : Nat) : (el.node a).Settled := by
  cases el with
  | simple it => cases it <;> exact .leaf trivial rfl
  | redir o g2 w => exact .of_children trivial (List.forall_mem_singleton.2 (.leaf trivial rfl))
  | nredir n o g2 w => exact .of_children trivial (List.forall_mem_singleton.2 (.leaf trivial rfl))

theorem nodesJ_settled : ∀ (items : List (Str × Elem)) (off : Nat), ∀ n ∈ nodesJ off items, n.Settled
  | [], _ => fun _ h => by cases h
  | (_, el) :: r, _ => List.forall_mem_cons.2 ⟨Elem.node_settled el _, nodesJ_settled r _⟩

theorem GCmd.node_settled (c : GCmd) (off : Nat) : (c.node off).Settled :=
  .of_children trivial (List.forall_mem_cons.2 ⟨Elem.node_settled _ _, nodesJ_settled _ _⟩)

theorem gprestNodes_settled : ∀ (cs : List GCmd) (a : Nat), ∀ n ∈ gprestNodes a cs, n.Settled
  | [], _ => fun _ h => by cases h
  | c :: cs, _ => List.forall_mem_cons.2 ⟨.leaf trivial rfl,
      List.forall_mem_cons.2 ⟨GCmd.node_settled c _, gprestNodes_settled cs _⟩⟩

/-- the value of `pipeline_command` over settled parts -/
theorem mkPipe_settled {s e : Nat} : ∀ {ns : List Node}, (∀ n ∈ ns, n.Settled) → (mkPipe s e ns).Settled
  | [], h => .of_children trivial h
  | [n], h => h n (List.mem_singleton_self n)
  | _ :: _ :: _, h => .of_children trivial h

/-- the value of `simple_list` over settled parts -/
theorem mkSeq_settled {s e : Nat} : ∀ {ns : List Node}, (∀ n ∈ ns, n.Settled) → (mkSeq s e ns).Settled
  | [], h => .of_children trivial h
  | [n], h => h n (List.mem_singleton_self n)
  | _ :: _ :: _, h => .of_children trivial h

theorem GPE.nodes_settled (c1 : GCmd) (cs : List GCmd) (off a : Nat) :
    ∀ n ∈ c1.node off :: gprestNodes a cs, n.Settled :=
  List.forall_mem_cons.2 ⟨GCmd.node_settled c1 off, gprestNodes_settled cs a⟩

theorem GPE.node_settled (e : GPE) (off : Nat) : (e.node off).Settled :=
  mkPipe_settled (GPE.nodes_settled e.c1 e.cs off _)

theorem GPE.node_pos2 (e : GPE) (off : Nat) : (e.node off).pos.2 = e.endPos off := by
  obtain ⟨c1, cs⟩ := e
  cases cs with
  | nil => rfl
  | cons c cs' => rfl

theorem hrestNodes_settled : ∀ (es : List (Op × GPE)) (a : Nat), ∀ n ∈ hrestNodes a es, n.Settled
  | [], _ => fun _ h => by cases h
  | (_, e) :: es, _ => List.forall_mem_cons.2 ⟨.leaf trivial rfl,
      List.forall_mem_cons.2 ⟨GPE.node_settled e _, hrestNodes_settled es _⟩⟩

theorem hlineNodes_settled (p1 : GPE) (es : List (Op × GPE)) (i a : Nat) :
    ∀ n ∈ p1.node i :: hrestNodes a es, n.Settled :=
  List.forall_mem_cons.2 ⟨GPE.node_settled p1 i, hrestNodes_settled es a⟩

/-- the AST of a line `p₁ op₂ p₂ …` of pipelines of general commands (n ≥ 1) -/
def hlineNode (i : Nat) (p1 : GPE) (es : List (Op × GPE)) : Node :=
  mkSeq (i + p1.c1.lead.length) (hlastEnd (p1.endPos i) (i + p1.text.length) es)
    (p1.node i :: hrestNodes (i + p1.text.length) es)

theorem hlineNode_settled (i : Nat) (p1 : GPE) (es : List (Op × GPE)) : (hlineNode i p1 es).Settled :=
  mkSeq_settled (hlineNodes_settled p1 es i _)

theorem nextIndex_hlineNode (i : Nat) (p1 : GPE) (es : List (Op × GPE)) :
    nextIndex (hlineNode i p1 es) = hlastEnd (p1.endPos i) (i + p1.text.length) es := by
  rw [(hlineNode_settled i p1 es).nextIndex]
  cases es with
  | nil => exact GPE.node_pos2 p1 i
  | cons oe es' => rfl

/-- `_parser.parse()` on a line of pipelines of general commands (n ≥ 1) -/
theorem tot_parserRun_H {L : Str} {adn : Bool} {p1 : GPE} {es : List (Op × GPE)} {l : Local}
    {i d : Nat} {nlr : Str}
    (hlen : L.length + 2 ≤ 1073741824) (hp1 : p1.OK) (hes : ∀ x ∈ es, x.2.OK)
    (hl : POK l) (hcur : histOK l.currentToken = true) (hso : startOK l.currentToken = true)
    (hL : L.drop i = p1.text ++ (hrestText es ++ '\n' :: nlr))
    (hf : hcost 0 es + p1.cost + 1 ≤ 1073741824) :
    Tot (parserRun (d + 1)) l ⟨L, i, adn⟩ (fun r _ _ => r = some (hlineNode i p1 es)) := by
  refine tot_parserRun_of_run (fun st => (hlineNode_settled i p1 es).resolve st) fun P h => ?_
  obtain ⟨f, hf'⟩ : ∃ f, 1073741824 = (f + hcost 0 es) + p1.cost + 1 :=
    ⟨1073741824 - (hcost 0 es + p1.cost + 1), by omega⟩
  rw [hf']
  exact run_seqH (nlr := nlr) hlen hp1 hes hl hcur hso hL h

/-- the same after the trailing blanks and the newline of the previous line -/
theorem tot_parserRun_H_nl {L : Str} {adn : Bool} {p1 : GPE} {es : List (Op × GPE)} {l : Local}
    {i d : Nat} {nlr pre : Str}
    (hlen : L.length + 2 ≤ 1073741824) (hp1 : p1.OK) (hes : ∀ x ∈ es, x.2.OK)
    (hl : POK l) (hcur : histOK l.currentToken = true) (hpre : Blank pre)
    (hL : L.drop i = pre ++ '\n' :: (p1.text ++ (hrestText es ++ '\n' :: nlr)))
    (hf : hcost 0 es + p1.cost + 2 ≤ 1073741824) :
    Tot (parserRun (d + 1)) l ⟨L, i, adn⟩
      (fun r _ _ => r = some (hlineNode (i + pre.length + 1) p1 es)) := by
  refine tot_parserRun_of_run (fun st => (hlineNode_settled _ p1 es).resolve st) fun P h => ?_
  obtain ⟨f, hf'⟩ : ∃ f, 1073741824 = ((f + hcost 0 es) + p1.cost + 1) + 1 :=
    ⟨1073741824 - (hcost 0 es + p1.cost + 2), by omega⟩
  rw [hf']
  refine Tot.loop_step ?_
  refine R_fetch0 ?_
  refine tot_nextToken_nl hl.wok hpre hL hlen ?_
  rw [symOfTok_nl]
  rw [step_nl0 (c := { stack := [], la := some (55, _), nlShifted := 0, consumed := [] })
    (la := (55, _)) rfl Tab.d0 rfl (show ((55 : Nat) == Tab.T.endTok) = false by decide)
    (show ((55 : Nat) == Tab.T.nlTok) = true by decide) Tab.a0n]
  refine Tot.pure ?_
  have hL2 : L.drop (i + pre.length + 1) = p1.text ++ (hrestText es ++ '\n' :: nlr) := by
    have := congrArg (List.drop (pre.length + 1)) hL
    rw [List.drop_drop] at this
    rw [Nat.add_assoc, this]
    simp
  exact run_seqH (nlr := nlr) hlen hp1 hes (hl.afterNL hcur _) rfl rfl hL2 h

end Bashlex.C02
