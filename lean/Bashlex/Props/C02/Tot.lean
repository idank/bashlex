/-
  C02 (round trip): a TOTAL-correctness calculus for the model monad over the pair
  (parser object, tape of the environment).

  `Tot m l T P`: in every environment whose tape is `T`, the run of `m` from the local state `l`
  returns NORMALLY, with a result, final state and final tape satisfying `P`.  The other
  components of the environment (options, the growing key set of `sh_syntaxtab`) are quantified
  away: the fragment of the model the round trip walks through never reads the options.
-/
import Bashlex.Proofs.HoareS
import Bashlex.Model.Parse

namespace Bashlex.C02
open Bashlex Bashlex.M
set_option linter.unusedSimpArgs false

def Tot {α : Type} (m : M α) (l : Local) (T : Tape) (P : α → Local → Tape → Prop) : Prop :=
  ∀ e : Env, e.tape = T → match m.run l e with
    | (.ok (a, l'), e') => P a l' e'.tape
    | (.error _, _) => False

variable {α β : Type} {l : Local} {T : Tape}

theorem Tot.pure {P : α → Local → Tape → Prop} {a : α} (h : P a l T) :
    Tot (Pure.pure a : M α) l T P := by
  intro e he; rw [run_pure]; show P a l e.tape; rw [he]; exact h

theorem Tot.bind {m : M α} {f : α → M β} {P : β → Local → Tape → Prop}
    (h : Tot m l T (fun a l' T' => Tot (f a) l' T' P)) : Tot (m >>= f) l T P := by
  intro e he
  rw [run_bind]
  have h1 := h e he
  rcases hr : m.run l e with ⟨r, e'⟩
  rw [hr] at h1
  cases r with
  | ok v => obtain ⟨a, l'⟩ := v; exact h1 e' rfl
  | error x => exact h1

theorem Tot.mono {m : M α} {P Q : α → Local → Tape → Prop} (h : Tot m l T P)
    (hpq : ∀ a l' T', P a l' T' → Q a l' T') : Tot m l T Q := by
  intro e he
  have h1 := h e he
  rcases hr : m.run l e with ⟨r, e'⟩
  rw [hr] at h1
  cases r with
  | ok v => exact hpq _ _ _ h1
  | error x => exact h1

/-- what `Tot` says about a run -/
theorem Tot.elim {m : M α} {P : α → Local → Tape → Prop} (h : Tot m l T P) (e : Env)
    (he : e.tape = T) : ∃ a l' e', m.run l e = (.ok (a, l'), e') ∧ P a l' e'.tape := by
  have h1 := h e he
  rcases hr : m.run l e with ⟨r, e'⟩
  rw [hr] at h1
  cases r with
  | ok v => exact ⟨v.1, v.2, e', rfl, h1⟩
  | error x => exact h1.elim

/-- an equation on runs that leaves the environment alone -/
theorem Tot.of_run {m : M α} {P : α → Local → Tape → Prop} {a : α} {l' : Local}
    (hr : ∀ e : Env, m.run l e = (.ok (a, l'), e)) (h : P a l' T) : Tot m l T P := by
  intro e he; rw [hr e]; show P a l' e.tape; rw [he]; exact h

theorem Tot.get {P : Local → Local → Tape → Prop} (h : P l l T) : Tot (get : M Local) l T P :=
  Tot.of_run (fun _ => rfl) h

theorem Tot.getThe {P : Local → Local → Tape → Prop} (h : P l l T) :
    Tot (getThe Local : M Local) l T P :=
  Tot.of_run (fun _ => rfl) h

theorem Tot.set {P : Unit → Local → Tape → Prop} {l0 : Local} (h : P () l0 T) :
    Tot (set l0 : M Unit) l T P :=
  Tot.of_run (fun _ => rfl) h

theorem Tot.modify {P : Unit → Local → Tape → Prop} {f : Local → Local} (h : P () (f l) T) :
    Tot (modify f : M Unit) l T P :=
  Tot.of_run (fun _ => rfl) h

theorem Tot.ask {q : Query} {P : Answer q → Local → Tape → Prop}
    (h : ∀ e : Env, e.tape = T → P (e.answer q).1 l (e.answer q).2.tape) : Tot (M.ask q) l T P := by
  intro e he; rw [run_ask]; exact h e he

theorem loop_succ {σ α : Type} (site : String) (body : σ → M (σ ⊕ α)) (fuel : Nat) (s : σ) :
    M.loop site body (fuel + 1) s =
      body s >>= fun r => match r with
        | .inl s' => M.loop site body fuel s'
        | .inr a => pure a := rfl

theorem Tot.loop_step {σ : Type} {site : String} {body : σ → M (σ ⊕ α)} {fuel : Nat} {s : σ}
    {P : α → Local → Tape → Prop}
    (h : Tot (body s) l T (fun r l' T' => match r with
        | .inl s' => Tot (M.loop site body fuel s') l' T' P
        | .inr a => P a l' T')) : Tot (M.loop site body (fuel + 1) s) l T P := by
  rw [loop_succ]
  refine Tot.bind (h.mono ?_)
  intro r l' T' hr
  cases r with
  | inl s' => exact hr
  | inr a => exact Tot.pure hr

/-! ## the tape -/

theorem tape_getc_plain {L : Str} {i : Nat} {ad rqn : Bool} {c : Char} (n : Nat)
    (hc : L[i]? = some c) (hb : c ≠ '\\') :
    Tape.getc ⟨L, i, ad⟩ rqn (n + 1) = .ok (some c, ⟨L, i + 1, ad⟩) := by
  have hi : i < L.length := by
    rcases Nat.lt_or_ge i L.length with h | h
    · exact h
    · rw [List.getElem?_eq_none h] at hc; cases hc
  have hb' : (c == '\\') = false := by simpa using hb
  simp only [Tape.getc, hi, if_true, hc, hb', Bool.false_and, Bool.false_eq_true, if_false]

theorem tape_getc_end {L : Str} {i : Nat} {ad rqn : Bool} (n : Nat) (hi : L.length ≤ i) :
    Tape.getc ⟨L, i, ad⟩ rqn (n + 1) = .ok (none, ⟨L, i, ad⟩) := by
  have : ¬ i < L.length := Nat.not_lt.mpr hi
  simp only [Tape.getc, this, if_false]

/-- `_getc` of a top-level parser with an empty look-ahead slot, on a character other than `\` -/
theorem tot_getc {L : Str} {i : Nat} {ad rqn : Bool} {c : Char}
    {P : Option Char → Local → Tape → Prop}
    (ht : l.tape = none) (hl : l.eolLookahead = none) (hc : L[i]? = some c) (hb : c ≠ '\\')
    (h : P (some c) l ⟨L, i + 1, ad⟩) : Tot (getc rqn) l ⟨L, i, ad⟩ P := by
  unfold getc
  refine Tot.bind (Tot.get ?_)
  simp only [hl, ht]
  refine Tot.bind (Tot.ask ?_)
  intro e he
  simp only [Env.answer, he, tape_getc_plain _ hc hb]
  exact Tot.pure h

/-- `_getc` at the end of the line -/
theorem tot_getc_end {L : Str} {i : Nat} {ad rqn : Bool}
    {P : Option Char → Local → Tape → Prop}
    (ht : l.tape = none) (hl : l.eolLookahead = none) (hi : L.length ≤ i)
    (h : P none l ⟨L, i, ad⟩) : Tot (getc rqn) l ⟨L, i, ad⟩ P := by
  unfold getc
  refine Tot.bind (Tot.get ?_)
  simp only [hl, ht]
  refine Tot.bind (Tot.ask ?_)
  intro e he
  simp only [Env.answer, he, tape_getc_end _ hi]
  exact Tot.pure h

/-- `_ungetc` right after a `_getc` that returned a character -/
theorem tot_ungetc {L : Str} {i : Nat} {ad : Bool} {x : Option Char}
    {P : Unit → Local → Tape → Prop}
    (ht : l.tape = none) (hi : i < L.length)
    (h : P () l ⟨L, i, ad⟩) : Tot (ungetc x) l ⟨L, i + 1, ad⟩ P := by
  unfold ungetc
  refine Tot.bind (Tot.get ?_)
  simp only [ht]
  refine Tot.bind (Tot.ask ?_)
  intro e he
  have hne : L.isEmpty = false := by
    cases L with
    | nil => cases hi
    | cons _ _ => rfl
  have hle : i + 1 ≤ L.length := hi
  simp only [Env.answer, he, Tape.ungetc, hne, Bool.not_false, Bool.true_and,
    Nat.add_one_ne_zero, bne_iff_ne, ne_eq, not_false_eq_true, decide_true, hle, if_true,
    Nat.add_sub_cancel, Bool.not_true, Bool.false_eq_true, if_false]
  exact Tot.pure h

theorem tot_curIdx {P : Nat → Local → Tape → Prop} (ht : l.tape = none) (h : P T.idx l T) :
    Tot curIdx l T P := by
  unfold curIdx
  refine Tot.bind (Tot.get ?_)
  simp only [ht]
  refine Tot.ask ?_
  intro e he
  simp only [Env.answer, he]; exact h

theorem tot_syn {c : Char} {P : SynClass → Local → Tape → Prop} (h : P (synClass c) l T) :
    Tot (syn c) l T P := by
  unfold syn
  refine Tot.ask ?_
  intro e he
  simp only [Env.answer]
  split <;> (simp only [he]; exact h)

theorem tot_shellbreak {c : Char} {P : Bool → Local → Tape → Prop} (h : P (synClass c).brk l T) :
    Tot (shellbreak c) l T P := by
  unfold shellbreak; exact Tot.bind (tot_syn (Tot.pure h))
theorem tot_shellquote {c : Char} {P : Bool → Local → Tape → Prop} (h : P (synClass c).quote l T) :
    Tot (shellquote c) l T P := by
  unfold shellquote; exact Tot.bind (tot_syn (Tot.pure h))
theorem tot_shellexp {c : Char} {P : Bool → Local → Tape → Prop} (h : P (synClass c).exp l T) :
    Tot (shellexp c) l T P := by
  unfold shellexp; exact Tot.bind (tot_syn (Tot.pure h))
theorem tot_shellmeta {c : Char} {P : Bool → Local → Tape → Prop} (h : P (synClass c).metac l T) :
    Tot (shellmeta c) l T P := by
  unfold shellmeta; exact Tot.bind (tot_syn (Tot.pure h))

theorem tot_recordpos {rel : Nat} {P : Unit → Local → Tape → Prop} (ht : l.tape = none)
    (h : P () { l with positions := l.positions ++ [T.idx - rel] } T) :
    Tot (recordpos rel) l T P := by
  unfold recordpos
  refine Tot.bind (tot_curIdx ht ?_)
  exact Tot.modify h

end Bashlex.C02

