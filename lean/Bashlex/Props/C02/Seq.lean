/-
  C02 (round trip): simple commands with their spelling (`SCmd`), the text and the nodes
  of a sequence `c₁ ; c₂ ; … ; cₙ`, the terminators NEWLINE and `;`.
-/
import Bashlex.Props.C02.Cmd
import Bashlex.Props.C02.Glue

namespace Bashlex.C02
open Bashlex Bashlex.M Bashlex.LR

/-- a simple command with its spelling: leading blanks, first word, (gap, word) items, trailing
    blanks -/
structure SCmd where
  lead : Str
  w1 : Str
  items : List (Str × Str)
  trail : Str

namespace SCmd
def text (c : SCmd) : Str := lineText c.lead c.w1 c.items c.trail
/-- blanks are blanks, words are plain, the first word is no reserved word -/
structure OK (c : SCmd) : Prop where
  lead : Blank c.lead
  w1 : PlainWord c.w1
  nr : reservedFirstCommandChars.lookup c.w1 = none
  items : ItemsOK c.items
  trail : Blank c.trail
instance (c : SCmd) : Decidable c.OK :=
  decidable_of_iff (Blank c.lead ∧ PlainWord c.w1 ∧ reservedFirstCommandChars.lookup c.w1 = none ∧
      ItemsOK c.items ∧ Blank c.trail)
    ⟨fun ⟨a, b, c', d, e⟩ => ⟨a, b, c', d, e⟩, fun h => ⟨h.lead, h.w1, h.nr, h.items, h.trail⟩⟩

/-- the command node, the command's text starting at offset `off` -/
def node (off : Nat) (c : SCmd) : Node := cmdNode off c.lead c.w1 c.items
/-- where its last word ends -/
def endPos (off : Nat) (c : SCmd) : Nat := endI (off + c.lead.length + c.w1.length) c.items
end SCmd

/-- the text `; c₂ ; c₃ …` -/
def restText : List SCmd → Str
  | [] => []
  | c :: cs => ';' :: (c.text ++ restText cs)

/-- the nodes of `; c₂ ; c₃ …`, the first `;` at offset `a` -/
def restNodes (a : Nat) : List SCmd → List Node
  | [] => []
  | c :: cs =>
    Node.operator (a, a + 1) [';'] :: c.node (a + 1) :: restNodes (a + 1 + c.text.length) cs

/-- the end of the last command (`e`: end of the command before `; c₂ …`) -/
def lastEnd (e a : Nat) : List SCmd → Nat
  | [] => e
  | c :: cs => lastEnd (c.endPos (a + 1)) (a + 1 + c.text.length) cs

/-- the first character of a command's text is a blank or a word character: no operator character -/
theorem text_head {c : SCmd} (hc : c.OK) :
    ∃ d r, c.text = d :: r ∧ d ≠ ';' ∧ d ≠ '&' ∧ d ≠ '\\' ∧ d ≠ '|' := by
  unfold SCmd.text lineText
  cases hl : c.lead with
  | nil =>
    cases hw : c.w1 with
    | nil => exact absurd hw hc.w1.1
    | cons d r =>
      have hd : plainChar d = true := hc.w1.2 d (by rw [hw]; exact List.mem_cons_self ..)
      exact ⟨d, r ++ (spellI c.items ++ c.trail), by simp, plain_ne' (by decide) hd,
        plain_ne' (by decide) hd, plain_ne' (by decide) hd, plain_ne' (by decide) hd⟩
  | cons d r =>
    have hd : shellblank d = true := hc.lead d (by rw [hl]; exact List.mem_cons_self ..)
    refine ⟨d, r ++ (c.w1 ++ (spellI c.items ++ c.trail)), by simp, ?_, ?_, blank_ne_bs hd, ?_⟩
    · intro h; subst h; revert hd; decide
    · intro h; subst h; revert hd; decide
    · intro h; subst h; revert hd; decide

section
variable {L : Str} {adn : Bool}

theorem fetchTerm_nl (hlen : L.length + 2 ≤ 1073741824) {trail nlr : Str} (htrail : Blank trail)
    {e : Nat} (hL : L.drop e = trail ++ '\n' :: nlr) :
    FetchTerm L adn (nlTok (e + trail.length)) e (e + trail.length + 1) := by
  intro l0 Q hl0 hc hQ
  exact tot_nextToken_nl hl0.wok htrail hL hlen (hQ _ (hl0.afterNL hc _) rfl)

theorem head_app {trail : Str} (htrail : Blank trail) {x : Char} (hx : endChar x = true) (r : Str) :
    ∃ b0 r0, trail ++ x :: r = b0 :: r0 ∧ endChar b0 = true := by
  cases trail with
  | nil => exact ⟨x, r, rfl, hx⟩
  | cons y t => exact ⟨y, t ++ x :: r, rfl, blank_endChar (htrail y (List.mem_cons_self ..))⟩

/-- number of engine steps for `; c₂ ; c₃ … NEWLINE` -/
def cost : List SCmd → Nat
  | [] => 4
  | c :: cs => 3 * c.items.length + 9 + cost cs

theorem endPos_trail (c : SCmd) (off : Nat) : c.endPos off + c.trail.length = off + c.text.length := by
  simp only [SCmd.endPos, endI_eq, SCmd.text, lineText, List.length_append]
  omega

theorem drop_text {c : SCmd} {X : Str} {off : Nat} (h : L.drop off = c.text ++ X) :
    L.drop (off + c.lead.length + c.w1.length) = spellI c.items ++ (c.trail ++ X) := by
  have := congrArg (List.drop (c.lead.length + c.w1.length)) h
  rw [List.drop_drop] at this
  rw [Nat.add_assoc, this]
  simp [SCmd.text, lineText]

theorem drop_text_end {c : SCmd} {X : Str} {off : Nat} (h : L.drop off = c.text ++ X) :
    L.drop (c.endPos off) = c.trail ++ X := by
  have := congrArg (List.drop (c.lead.length + c.w1.length + (spellI c.items).length)) h
  rw [List.drop_drop] at this
  have e : c.endPos off = off + (c.lead.length + c.w1.length + (spellI c.items).length) := by
    simp only [SCmd.endPos, endI_eq]; omega
  rw [e, this]
  have : c.text ++ X = (c.lead ++ c.w1 ++ spellI c.items) ++ (c.trail ++ X) := by
    simp [SCmd.text, lineText]
  rw [this]
  exact List.drop_left' (by simp; omega)

variable {np : NestedParse} {P : Res SVal → Local → Tape → Prop} {nlr : Str}

/-- the value of `simple_list`: the single command, or the list node over the flat list -/
def mkSeq (s e : Nat) : List Node → Node
  | [n] => n
  | ns => Node.list (s, e) ns

theorem mkSeq_many {s e : Nat} : ∀ {ns : List Node}, 1 < ns.length → mkSeq s e ns = Node.list (s, e) ns
  | [], h => by simp at h
  | [_], h => by simp at h
  | _ :: _ :: _, _ => rfl

end

end Bashlex.C02
