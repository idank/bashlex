/-
  C02 (round trip): the entries of the REAL tables (`LR.realTables`, regenerated from the
  implementation) that the engine consults on the sub-language of C02 (words, `;`, `|`, `&&`, `||`,
  ASSIGNMENT_WORD, `>` `<` `>>`, NUMBER prefixes); each is decided by the kernel.  At the end: where
  a state with a given goto entry, or a terminal with an action entry in a given state, is to be
  found, so that a fact about all of them is decided by one pass over those few.
-/
import Bashlex.Model.Parse
import Bashlex.LR.Check

namespace Bashlex.C02.Tab
open Bashlex Bashlex.LR

abbrev T := realTables

theorem endTok : T.endTok = 0 := rfl
theorem nlTokE : T.nlTok = 55 := rfl
theorem symWORD : TokType.WORD.sym = 24 := by decide
theorem symNL : TokType.NEWLINE.sym = 55 := by decide

theorem d0 : T.dflt 0 = none := by decide
theorem d29 : T.dflt 29 = none := by decide
theorem d17 : T.dflt 17 = none := by decide
theorem d13 : T.dflt 13 = none := by decide
theorem d75 : T.dflt 75 = none := by decide
theorem d74 : T.dflt 74 = none := by decide
theorem d11 : T.dflt 11 = none := by decide
theorem d8 : T.dflt 8 = none := by decide
theorem d7 : T.dflt 7 = none := by decide
theorem d6 : T.dflt 6 = none := by decide
theorem d2 : T.dflt 2 = none := by decide
theorem d57 : T.dflt 57 = some 141 := by decide
theorem d56 : T.dflt 56 = some 1 := by decide

theorem a0w : T.action 0 24 = some (.shift 29) := by decide
theorem a0n : T.action 0 55 = some (.shift 3) := by decide
theorem a29w : T.action 29 24 = some (.reduce 51) := by decide
theorem a29n : T.action 29 55 = some (.reduce 51) := by decide
theorem a17w : T.action 17 24 = some (.reduce 56) := by decide
theorem a17n : T.action 17 55 = some (.reduce 56) := by decide
theorem a13w : T.action 13 24 = some (.shift 75) := by decide
theorem a13n : T.action 13 55 = some (.reduce 58) := by decide
theorem a75w : T.action 75 24 = some (.reduce 51) := by decide
theorem a75n : T.action 75 55 = some (.reduce 51) := by decide
theorem a74w : T.action 74 24 = some (.reduce 57) := by decide
theorem a74n : T.action 74 55 = some (.reduce 57) := by decide
theorem a11n : T.action 11 55 = some (.reduce 163) := by decide
theorem a8n : T.action 8 55 = some (.reduce 156) := by decide
theorem a7n : T.action 7 55 = some (.reduce 155) := by decide
theorem a6n : T.action 6 55 = some (.reduce 148) := by decide
theorem a2n : T.action 2 55 = some (.shift 57) := by decide

theorem p51 : T.prods[51]? = some (63, [24]) := by decide
theorem p56 : T.prods[56]? = some (65, [63]) := by decide
theorem p57 : T.prods[57]? = some (65, [65, 63]) := by decide
theorem p58 : T.prods[58]? = some (66, [65]) := by decide
theorem p163 : T.prods[163]? = some (95, [66]) := by decide
theorem p156 : T.prods[156]? = some (94, [95]) := by decide
theorem p155 : T.prods[155]? = some (93, [94]) := by decide
theorem p148 : T.prods[148]? = some (92, [93]) := by decide
theorem p141 : T.prods[141]? = some (89, [55]) := by decide
theorem p1 : T.prods[1]? = some (60, [92, 89]) := by decide

theorem g0_63 : T.goto 0 63 = some 17 := by decide
theorem g0_65 : T.goto 0 65 = some 13 := by decide
theorem g13_63 : T.goto 13 63 = some 74 := by decide
theorem g0_66 : T.goto 0 66 = some 11 := by decide
theorem g0_95 : T.goto 0 95 = some 8 := by decide
theorem g0_94 : T.goto 0 94 = some 7 := by decide
theorem g0_93 : T.goto 0 93 = some 6 := by decide
theorem g0_92 : T.goto 0 92 = some 2 := by decide
theorem g2_89 : T.goto 2 89 = some 56 := by decide
theorem g0_60 : T.goto 0 60 = some 1 := by decide

theorem f51 : Gen.prodFuncs.getD 51 "" = "p_simple_command_element" := by decide
theorem f56 : Gen.prodFuncs.getD 56 "" = "p_simple_command" := by decide
theorem f57 : Gen.prodFuncs.getD 57 "" = "p_simple_command" := by decide
theorem f58 : Gen.prodFuncs.getD 58 "" = "p_command" := by decide
theorem f163 : Gen.prodFuncs.getD 163 "" = "p_pipeline" := by decide
theorem f156 : Gen.prodFuncs.getD 156 "" = "p_pipeline_command" := by decide
theorem f155 : Gen.prodFuncs.getD 155 "" = "p_simple_list1" := by decide
theorem f148 : Gen.prodFuncs.getD 148 "" = "p_simple_list" := by decide
theorem f141 : Gen.prodFuncs.getD 141 "" = "p_simple_list_terminator" := by decide
theorem f1 : Gen.prodFuncs.getD 1 "" = "p_inputunit" := by decide

/-! entries for `;` (terminal 53) and the states 61 (after `simple_list1 ;`), 133 -/
theorem symSEMI : TokType.SEMICOLON.sym = 53 := by decide
theorem d133 : T.dflt 133 = none := by decide
theorem a29s : T.action 29 53 = some (.reduce 51) := by decide
theorem a17s : T.action 17 53 = some (.reduce 56) := by decide
theorem a13s : T.action 13 53 = some (.reduce 58) := by decide
theorem a75s : T.action 75 53 = some (.reduce 51) := by decide
theorem a74s : T.action 74 53 = some (.reduce 57) := by decide
theorem a11s : T.action 11 53 = some (.reduce 163) := by decide
theorem a8s : T.action 8 53 = some (.reduce 156) := by decide
theorem a7s : T.action 7 53 = some (.reduce 155) := by decide
theorem a6s : T.action 6 53 = some (.shift 61) := by decide
theorem a61w : T.action 61 24 = some (.shift 29) := by decide
theorem a133s : T.action 133 53 = some (.reduce 154) := by decide
theorem a133n : T.action 133 55 = some (.reduce 154) := by decide
theorem p154 : T.prods[154]? = some (93, [93, 53, 93]) := by decide
theorem g61_63 : T.goto 61 63 = some 17 := by decide
theorem g61_65 : T.goto 61 65 = some 13 := by decide
theorem g61_66 : T.goto 61 66 = some 11 := by decide
theorem g61_95 : T.goto 61 95 = some 8 := by decide
theorem g61_94 : T.goto 61 94 = some 7 := by decide
theorem g61_93 : T.goto 61 93 = some 133 := by decide
theorem f154 : Gen.prodFuncs.getD 154 "" = "p_simple_list1" := by decide

/-! entries for `|` (terminal 52) and the states 64, 81, 136, 195 -/
theorem symBAR : TokType.BAR.sym = 52 := by decide
theorem d64 : T.dflt 64 = none := by decide
theorem d81 : T.dflt 81 = none := by decide
theorem d195 : T.dflt 195 = none := by decide
theorem a29b : T.action 29 52 = some (.reduce 51) := by decide
theorem a17b : T.action 17 52 = some (.reduce 56) := by decide
theorem a75b : T.action 75 52 = some (.reduce 51) := by decide
theorem a74b : T.action 74 52 = some (.reduce 57) := by decide
theorem a13b : T.action 13 52 = some (.reduce 58) := by decide
theorem a11b : T.action 11 52 = some (.reduce 163) := by decide
theorem a8b : T.action 8 52 = some (.shift 64) := by decide
theorem a195b : T.action 195 52 = some (.shift 64) := by decide
theorem a64w : T.action 64 24 = some (.reduce 167) := by decide
theorem a81w : T.action 81 24 = some (.reduce 146) := by decide
theorem p167 : T.prods[167]? = some (97, []) := by decide
theorem p146 : T.prods[146]? = some (91, [97]) := by decide
theorem p161 : T.prods[161]? = some (95, [95, 52, 91, 95]) := by decide
theorem g64_97 : T.goto 64 97 = some 81 := by decide
theorem g64_91 : T.goto 64 91 = some 136 := by decide
theorem g136_63 : T.goto 136 63 = some 17 := by decide
theorem g136_65 : T.goto 136 65 = some 13 := by decide
theorem g136_66 : T.goto 136 66 = some 11 := by decide
theorem g136_95 : T.goto 136 95 = some 195 := by decide
theorem f167 : Gen.prodFuncs.getD 167 "" = "p_empty" := by decide
theorem f146 : Gen.prodFuncs.getD 146 "" = "p_newline_list" := by decide
theorem f161 : Gen.prodFuncs.getD 161 "" = "p_pipeline" := by decide

/-! entries for `&&` (31) and `||` (32) and the states 62, 63, 134, 135, 193, 194 -/
theorem symAND : TokType.AND_AND.sym = 31 := by decide
theorem symOR : TokType.OR_OR.sym = 32 := by decide
theorem d62 : T.dflt 62 = none := by decide
theorem d63 : T.dflt 63 = none := by decide
theorem d134 : T.dflt 134 = none := by decide
theorem d135 : T.dflt 135 = none := by decide
theorem d193 : T.dflt 193 = none := by decide
theorem d194 : T.dflt 194 = none := by decide
theorem a29a : T.action 29 31 = some (.reduce 51) := by decide
theorem a17a : T.action 17 31 = some (.reduce 56) := by decide
theorem a75a : T.action 75 31 = some (.reduce 51) := by decide
theorem a74a : T.action 74 31 = some (.reduce 57) := by decide
theorem a13a : T.action 13 31 = some (.reduce 58) := by decide
theorem a11a : T.action 11 31 = some (.reduce 163) := by decide
theorem a8a : T.action 8 31 = some (.reduce 156) := by decide
theorem a7a : T.action 7 31 = some (.reduce 155) := by decide
theorem a29o : T.action 29 32 = some (.reduce 51) := by decide
theorem a17o : T.action 17 32 = some (.reduce 56) := by decide
theorem a75o : T.action 75 32 = some (.reduce 51) := by decide
theorem a74o : T.action 74 32 = some (.reduce 57) := by decide
theorem a13o : T.action 13 32 = some (.reduce 58) := by decide
theorem a11o : T.action 11 32 = some (.reduce 163) := by decide
theorem a8o : T.action 8 32 = some (.reduce 156) := by decide
theorem a7o : T.action 7 32 = some (.reduce 155) := by decide
theorem a6a : T.action 6 31 = some (.shift 62) := by decide
theorem a6o : T.action 6 32 = some (.shift 63) := by decide
theorem a133a : T.action 133 31 = some (.shift 62) := by decide
theorem a133o : T.action 133 32 = some (.shift 63) := by decide
theorem a62w : T.action 62 24 = some (.reduce 167) := by decide
theorem a63w : T.action 63 24 = some (.reduce 167) := by decide
theorem g62_97 : T.goto 62 97 = some 81 := by decide
theorem g63_97 : T.goto 63 97 = some 81 := by decide
theorem g62_91 : T.goto 62 91 = some 134 := by decide
theorem g63_91 : T.goto 63 91 = some 135 := by decide
theorem a134w : T.action 134 24 = some (.shift 29) := by decide
theorem a135w : T.action 135 24 = some (.shift 29) := by decide
theorem g134_63 : T.goto 134 63 = some 17 := by decide
theorem g134_65 : T.goto 134 65 = some 13 := by decide
theorem g134_66 : T.goto 134 66 = some 11 := by decide
theorem g134_95 : T.goto 134 95 = some 8 := by decide
theorem g134_94 : T.goto 134 94 = some 7 := by decide
theorem g134_93 : T.goto 134 93 = some 193 := by decide
theorem g135_63 : T.goto 135 63 = some 17 := by decide
theorem g135_65 : T.goto 135 65 = some 13 := by decide
theorem g135_66 : T.goto 135 66 = some 11 := by decide
theorem g135_95 : T.goto 135 95 = some 8 := by decide
theorem g135_94 : T.goto 135 94 = some 7 := by decide
theorem g135_93 : T.goto 135 93 = some 194 := by decide
theorem a193a : T.action 193 31 = some (.reduce 151) := by decide
theorem a193o : T.action 193 32 = some (.reduce 151) := by decide
theorem a193s : T.action 193 53 = some (.reduce 151) := by decide
theorem a193n : T.action 193 55 = some (.reduce 151) := by decide
theorem a194a : T.action 194 31 = some (.reduce 152) := by decide
theorem a194o : T.action 194 32 = some (.reduce 152) := by decide
theorem a194s : T.action 194 53 = some (.reduce 152) := by decide
theorem a194n : T.action 194 55 = some (.reduce 152) := by decide
theorem p151 : T.prods[151]? = some (93, [93, 31, 91, 93]) := by decide
theorem p152 : T.prods[152]? = some (93, [93, 32, 91, 93]) := by decide
theorem f151 : Gen.prodFuncs.getD 151 "" = "p_simple_list1" := by decide
theorem f152 : Gen.prodFuncs.getD 152 "" = "p_simple_list1" := by decide

theorem a8a' : T.action 8 31 = some (.reduce 156) := a8a

/-! entries for ASSIGNMENT_WORD (terminal 25) and state 33 -/
theorem symAW : TokType.ASSIGNMENT_WORD.sym = 25 := by decide
theorem d33 : T.dflt 33 = none := by decide
theorem p52 : T.prods[52]? = some (63, [25]) := by decide
theorem f52 : Gen.prodFuncs.getD 52 "" = "p_simple_command_element" := by decide
theorem a13A : T.action 13 25 = some (.shift 33) := by decide
theorem a29A : T.action 29 25 = some (.reduce 51) := by decide
theorem a17A : T.action 17 25 = some (.reduce 56) := by decide
theorem a75A : T.action 75 25 = some (.reduce 51) := by decide
theorem a74A : T.action 74 25 = some (.reduce 57) := by decide
theorem a62A : T.action 62 25 = some (.reduce 167) := by decide
theorem a63A : T.action 63 25 = some (.reduce 167) := by decide
theorem a64A : T.action 64 25 = some (.reduce 167) := by decide
theorem a81A : T.action 81 25 = some (.reduce 146) := by decide

/-! redirections `>` (57: 46, 118, p13), `<` (56: 47, 119, p14), `>>` (33: 48, 120, p19); state 34, p53 -/
theorem symGT : TokType.GREATER.sym = 57 := by decide
theorem symLT : TokType.LESS.sym = 56 := by decide
theorem symGG : TokType.GREATER_GREATER.sym = 33 := by decide
theorem g13_62 : T.goto 13 62 = some 34 := by decide
theorem d34 : T.dflt 34 = none := by decide
theorem p53 : T.prods[53]? = some (63, [62]) := by decide
theorem f53 : Gen.prodFuncs.getD 53 "" = "p_simple_command_element" := by decide
theorem a13r57 : T.action 13 57 = some (.shift 46) := by decide
theorem d46 : T.dflt 46 = none := by decide
theorem d118 : T.dflt 118 = none := by decide
theorem a46w : T.action 46 24 = some (.shift 118) := by decide
theorem p13 : T.prods[13]? = some (62, [57, 24]) := by decide
theorem f13 : Gen.prodFuncs.getD 13 "" = "p_redirection" := by decide
theorem a13r56 : T.action 13 56 = some (.shift 47) := by decide
theorem d47 : T.dflt 47 = none := by decide
theorem d119 : T.dflt 119 = none := by decide
theorem a47w : T.action 47 24 = some (.shift 119) := by decide
theorem p14 : T.prods[14]? = some (62, [56, 24]) := by decide
theorem f14 : Gen.prodFuncs.getD 14 "" = "p_redirection" := by decide
theorem a13r33 : T.action 13 33 = some (.shift 48) := by decide
theorem d48 : T.dflt 48 = none := by decide
theorem d120 : T.dflt 120 = none := by decide
theorem a48w : T.action 48 24 = some (.shift 120) := by decide
theorem p19 : T.prods[19]? = some (62, [33, 24]) := by decide
theorem f19 : Gen.prodFuncs.getD 19 "" = "p_redirection" := by decide
theorem a29g : T.action 29 57 = some (.reduce 51) := by decide
theorem a17g : T.action 17 57 = some (.reduce 56) := by decide
theorem a75g : T.action 75 57 = some (.reduce 51) := by decide
theorem a74g : T.action 74 57 = some (.reduce 57) := by decide
theorem a29l : T.action 29 56 = some (.reduce 51) := by decide
theorem a17l : T.action 17 56 = some (.reduce 56) := by decide
theorem a75l : T.action 75 56 = some (.reduce 51) := by decide
theorem a74l : T.action 74 56 = some (.reduce 57) := by decide
theorem a29G : T.action 29 33 = some (.reduce 51) := by decide
theorem a17G : T.action 17 33 = some (.reduce 56) := by decide
theorem a75G : T.action 75 33 = some (.reduce 51) := by decide
theorem a74G : T.action 74 33 = some (.reduce 57) := by decide

/-! first-item redirections -/
theorem a62g : T.action 62 57 = some (.reduce 167) := by decide
theorem a62l : T.action 62 56 = some (.reduce 167) := by decide
theorem a62G : T.action 62 33 = some (.reduce 167) := by decide
theorem a63g : T.action 63 57 = some (.reduce 167) := by decide
theorem a63l : T.action 63 56 = some (.reduce 167) := by decide
theorem a63G : T.action 63 33 = some (.reduce 167) := by decide
theorem a64g : T.action 64 57 = some (.reduce 167) := by decide
theorem a64l : T.action 64 56 = some (.reduce 167) := by decide
theorem a64G : T.action 64 33 = some (.reduce 167) := by decide
theorem a81g : T.action 81 57 = some (.reduce 146) := by decide
theorem a81l : T.action 81 56 = some (.reduce 146) := by decide
theorem a81G : T.action 81 33 = some (.reduce 146) := by decide

/-! file-descriptor prefixes -/
theorem a29N : T.action 29 27 = some (.reduce 51) := by decide
theorem a75N : T.action 75 27 = some (.reduce 51) := by decide
theorem a74N : T.action 74 27 = some (.reduce 57) := by decide
theorem a17N : T.action 17 27 = some (.reduce 56) := by decide
theorem d165 : T.dflt 165 = none := by decide
theorem d166 : T.dflt 166 = none := by decide
theorem d167 : T.dflt 167 = none := by decide
theorem a13N : T.action 13 27 = some (.shift 43) := by decide
theorem a62N : T.action 62 27 = some (.reduce 167) := by decide
theorem a63N : T.action 63 27 = some (.reduce 167) := by decide
theorem a64N : T.action 64 27 = some (.reduce 167) := by decide
theorem a81N : T.action 81 27 = some (.reduce 146) := by decide
theorem d43 : T.dflt 43 = none := by decide
theorem a43g : T.action 43 57 = some (.shift 99) := by decide
theorem d99 : T.dflt 99 = none := by decide
theorem a99w : T.action 99 24 = some (.shift 165) := by decide
theorem a43l : T.action 43 56 = some (.shift 100) := by decide
theorem d100 : T.dflt 100 = none := by decide
theorem a100w : T.action 100 24 = some (.shift 166) := by decide
theorem a43G : T.action 43 33 = some (.shift 101) := by decide
theorem d101 : T.dflt 101 = none := by decide
theorem a101w : T.action 101 24 = some (.shift 167) := by decide
theorem p15 : T.prods[15]? = some (62, [27, 57, 24]) := by decide
theorem f15 : Gen.prodFuncs.getD 15 "" = "p_redirection" := by decide
theorem p16 : T.prods[16]? = some (62, [27, 56, 24]) := by decide
theorem f16 : Gen.prodFuncs.getD 16 "" = "p_redirection" := by decide
theorem p20 : T.prods[20]? = some (62, [27, 33, 24]) := by decide
theorem f20 : Gen.prodFuncs.getD 20 "" = "p_redirection" := by decide
theorem symNUM : TokType.NUMBER.sym = 27 := by decide

/-! ## all states, all terminals -/

/-- the states whose goto row sends `X` to `t`, in one pass over the rows (looking a state up costs
    its number, so a pass by index would be quadratic) -/
def gotoInto (X t : Nat) : List Nat :=
  (Gen.gotoRows.zipIdx.filter fun p => rowLookup p.1 X == some t).map (·.2)

theorem mem_gotoInto {b X t : Nat} (h : T.goto b X = some t) : b ∈ gotoInto X t := by
  have h' : rowLookup (Gen.gotoRows.getD b []) X = some t := h
  have hb : b < Gen.gotoRows.length := by
    refine Nat.lt_of_not_le fun hb => ?_
    rw [List.getD_eq_getElem?_getD, List.getElem?_eq_none hb] at h'
    cases h'
  rw [List.getD_eq_getElem?_getD, List.getElem?_eq_getElem hb] at h'
  refine List.mem_map.2 ⟨(Gen.gotoRows[b], b), List.mem_filter.2 ⟨?_, by simpa using h'⟩, rfl⟩
  exact List.mem_zipIdx_iff_getElem?.2 (by simp [hb])

/-- the terminals with an entry in the action row of `s` -/
def actionOn (s : Nat) : List Nat := (Gen.actionRows.getD s []).map (· / 4096)

theorem mem_actionOn {s ts : Nat} {a : Act} (h : T.action s ts = some a) : ts ∈ actionOn s := by
  obtain ⟨e, he, hk, _⟩ := Raw.action_mem (R := realRaw) h
  exact List.mem_map.2 ⟨e, he, hk⟩

end Bashlex.C02.Tab
