/-
  C02 (round trip): sequences with MIXED operators `;`, `&&`, `||` between simple
  commands.  `&&` and `||` bind tighter than `;` (and are left-associative): while an and-or group
  after a `;` is under construction the engine keeps `simple_list1 ;` below it (state 133), and
  folds it into the flat list when the next `;` or the newline arrives.
-/
import Bashlex.Props.C02.Seq

namespace Bashlex.C02
open Bashlex Bashlex.M Bashlex.LR
set_option linter.unusedSimpArgs false

inductive Op where
  | semi | andand | oror
  deriving DecidableEq, Repr

namespace Op
def txt : Op → Str
  | semi => [';'] | andand => ['&', '&'] | oror => ['|', '|']
def sym : Op → Nat
  | semi => 53 | andand => 31 | oror => 32
def tok (o : Op) (a : Nat) : Token :=
  match o with
  | semi => semiTok a | andand => andTok a | oror => orTok a

theorem tok_lexpos (o : Op) (a : Nat) : (o.tok a).lexpos = a := by cases o <;> rfl
theorem tok_endlexpos (o : Op) (a : Nat) : (o.tok a).endlexpos = a + o.txt.length := by
  cases o <;> rfl
theorem tok_valueStr (o : Op) (a : Nat) : (o.tok a).valueStr = o.txt := by cases o <;> rfl
theorem tok_sym (o : Op) (a : Nat) : symOfTok (o.tok a) = o.sym := by
  cases o
  · exact Tab.symSEMI
  · exact Tab.symAND
  · exact Tab.symOR
theorem tok_hist (o : Op) (a : Nat) : histOK (o.tok a) = true := by cases o <;> rfl
theorem txt_pos (o : Op) : 0 < o.txt.length := by cases o <;> decide
end Op

theorem op_noNL (o : Op) : ∀ x ∈ o.txt, x ≠ '\n' := by
  cases o <;> decide

theorem termAND : TermOK 31 :=
  ⟨Tab.a29a, Tab.a17a, Tab.a75a, Tab.a74a, Tab.a13a, Tab.a11a, Tab.a8a, Tab.a7a⟩
theorem termOR : TermOK 32 :=
  ⟨Tab.a29o, Tab.a17o, Tab.a75o, Tab.a74o, Tab.a13o, Tab.a11o, Tab.a8o, Tab.a7o⟩
theorem Op.term (o : Op) : TermOK o.sym := by
  cases o
  · exact termSEMI
  · exact termAND
  · exact termOR

/-- the text `op₂ c₂ op₃ c₃ …` -/
def orestText : List (Op × SCmd) → Str
  | [] => []
  | (o, c) :: cs => o.txt ++ (c.text ++ orestText cs)

/-- its nodes, the first operator at offset `a` -/
def orestNodes (a : Nat) : List (Op × SCmd) → List Node
  | [] => []
  | (o, c) :: cs =>
    Node.operator (a, a + o.txt.length) o.txt :: c.node (a + o.txt.length) ::
      orestNodes (a + o.txt.length + c.text.length) cs

def olastEnd (e a : Nat) : List (Op × SCmd) → Nat
  | [] => e
  | (o, c) :: cs => olastEnd (c.endPos (a + o.txt.length)) (a + o.txt.length + c.text.length) cs

section
variable {L : Str} {adn : Bool}

theorem fetchTerm_op (hlen : L.length + 2 ≤ 1073741824) (o : Op) {trail rest : Str} {d : Char}
    (htrail : Blank trail) {e : Nat} (hL : L.drop e = trail ++ (o.txt ++ d :: rest))
    (hd1 : d ≠ ';') (hd2 : d ≠ '&') (hd3 : d ≠ '\\') :
    FetchTerm L adn (o.tok (e + trail.length)) e (e + trail.length + o.txt.length) := by
  intro l0 Q hl0 hc hQ
  cases o with
  | semi =>
    exact tot_nextToken_semi hl0.wok hl0.dp htrail (by simpa [Op.txt] using hL) hd1 hd2 hd3 hlen
      (hQ _ (hl0.afterNL hc _) rfl)
  | andand =>
    exact tot_nextToken_and hl0.wok hl0.dp htrail (by simpa [Op.txt] using hL) hlen
      (hQ _ (hl0.afterNL hc _) rfl)
  | oror =>
    exact tot_nextToken_or hl0.wok hl0.dp htrail (by simpa [Op.txt] using hL) hlen
      (hQ _ (hl0.afterNL hc _) rfl)

theorem op_endChar (o : Op) : ∃ x r, o.txt = x :: r ∧ endChar x = true := by
  cases o
  · exact ⟨';', [], rfl, by decide⟩
  · exact ⟨'&', ['&'], rfl, by decide⟩
  · exact ⟨'|', ['|'], rfl, by decide⟩

theorem Op.a193 (o : Op) : Tab.T.action 193 o.sym = some (.reduce 151) := by
  cases o
  · exact Tab.a193s
  · exact Tab.a193a
  · exact Tab.a193o
theorem Op.a194 (o : Op) : Tab.T.action 194 o.sym = some (.reduce 152) := by
  cases o
  · exact Tab.a194s
  · exact Tab.a194a
  · exact Tab.a194o

variable {np : NestedParse} {P : Res SVal → Local → Tape → Prop} {nlr : Str}

/-- what lies under the and-or group under construction: nothing, or `simple_list1 ;` -/
abbrev Under := Option (List Node × Token × Tree × Tree)

def bstack : Under → Stack SVal
  | none => []
  | some (Lacc, s, t1, t2) => [⟨61, t2, .tok s⟩, ⟨6, t1, .nodes Lacc⟩]

def slOf : Under → Nat
  | none => 6
  | some _ => 133

/-- the flat list so far -/
def total : Under → List Node → List Node
  | none, G => G
  | some (Lacc, s, _, _), G => Lacc ++ [Node.operator (s.lexpos, s.endlexpos) s.valueStr] ++ G

def bcost : Under → Nat
  | none => 0
  | some _ => 1

theorem goto_bstack (B : Under) : Tab.T.goto (topState (bstack B)) 93 = some (slOf B) := by
  cases B with
  | none => exact Tab.g0_93
  | some x => exact Tab.g61_93

theorem slOf_dflt (B : Under) : Tab.T.dflt (slOf B) = none := by
  cases B with
  | none => exact Tab.d6
  | some x => exact Tab.d133

theorem slOf_ne0 (B : Under) : (slOf B == 0) = false := by cases B <;> rfl

/-- fold `simple_list1 ; group` into the flat list (on `;` or NEWLINE) -/
theorem collapse {l : Local} {Tp : Tape} {B : Under} {G : List Node} {tr : Tree} {ts : Nat}
    {term : Token} {nl : Nat} {cons : List Nat} {f' : Nat}
    (hts : Tab.T.action 133 ts = some (.reduce 154))
    (hk : ∀ tr', Tot (engineLoop np f'
      { stack := [⟨6, tr', .nodes (total B G)⟩], la := some (ts, .tok term), nlShifted := nl,
        consumed := cons }) l Tp P) :
    Tot (engineLoop np (f' + bcost B)
      { stack := ⟨slOf B, tr, .nodes G⟩ :: bstack B, la := some (ts, .tok term), nlShifted := nl,
        consumed := cons }) l Tp P := by
  cases B with
  | none => exact hk tr
  | some x =>
    obtain ⟨Lacc, s, t1, t2⟩ := x
    show Tot (engineLoop np (f' + 1) _) _ _ _
    refine Tot.loop_step ?_
    refine R_reduce Tab.d133 rfl hts Tab.p154 rfl Tab.g0_93 Tab.f154 ?_
    refine act_simple_list1_3 ?_
    simp only [Bool.false_eq_true, if_false]
    exact hk _

/-- the table entries for an and-or operator -/
structure AOF (o : Op) (s1 s2 s3 prod : Nat) : Prop where
  a6 : Tab.T.action 6 o.sym = some (.shift s1)
  a133 : Tab.T.action 133 o.sym = some (.shift s1)
  d1 : Tab.T.dflt s1 = none
  n1 : (s1 == 0) = false
  aw : Tab.T.action s1 24 = some (.reduce 167)
  g97 : Tab.T.goto s1 97 = some 81
  g91 : Tab.T.goto s1 91 = some s2
  d2 : Tab.T.dflt s2 = none
  n2 : (s2 == 0) = false
  a2w : Tab.T.action s2 24 = some (.shift 29)
  base : BaseOK s2 s3
  d3 : Tab.T.dflt s3 = none
  n3 : (s3 == 0) = false
  p : Tab.T.prods[prod]? = some (93, [93, o.sym, 91, 93])
  f : Gen.prodFuncs.getD prod "" = "p_simple_list1"

theorem aofAnd : AOF .andand 62 134 193 151 :=
  ⟨Tab.a6a, Tab.a133a, Tab.d62, rfl, Tab.a62w, Tab.g62_97, Tab.g62_91, Tab.d134, rfl, Tab.a134w,
   ⟨Tab.g134_63, Tab.g134_65, Tab.g134_66, Tab.g134_95, Tab.g134_94, Tab.g134_93⟩, Tab.d193, rfl,
   Tab.p151, Tab.f151⟩
theorem aofOr : AOF .oror 63 135 194 152 :=
  ⟨Tab.a6o, Tab.a133o, Tab.d63, rfl, Tab.a63w, Tab.g63_97, Tab.g63_91, Tab.d135, rfl, Tab.a135w,
   ⟨Tab.g135_63, Tab.g135_65, Tab.g135_66, Tab.g135_95, Tab.g135_94, Tab.g135_93⟩, Tab.d194, rfl,
   Tab.p152, Tab.f152⟩

theorem slOf_shift {o : Op} {s1 s2 s3 prod : Nat} (hA : AOF o s1 s2 s3 prod) (B : Under) :
    Tab.T.action (slOf B) o.sym = some (.shift s1) := by
  cases B with
  | none => exact hA.a6
  | some x => exact hA.a133

def ocost : Nat → List (Op × SCmd) → Nat
  | k, [] => k + 4
  | k, (o, c) :: cs =>
    match o with
    | .semi => k + (2 + (3 * c.items.length + 6)) + ocost 1 cs
    | _ => (5 + (3 * c.items.length + 6)) + ocost k cs

theorem total_last {B : Under} {G : List Node} {x : Node} (h : G.getLast? = some x) :
    (total B G).getLast? = some x := by
  cases B with
  | none => exact h
  | some y =>
    obtain ⟨Lacc, s, t1, t2⟩ := y
    have hne : G ≠ [] := by intro h0; rw [h0] at h; cases h
    simp only [total]
    rw [List.getLast?_append, h]
    rfl

theorem total_append (B : Under) (G X : List Node) : total B (G ++ X) = total B G ++ X := by
  cases B with
  | none => rfl
  | some y => obtain ⟨Lacc, s, t1, t2⟩ := y; simp [total]

end

end Bashlex.C02
