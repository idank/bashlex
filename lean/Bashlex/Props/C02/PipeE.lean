/-
  C02 (round trip): a pipeline `c₁ | … | cₙ` (n ≥ 1) as ONE element of a list — over any
  base stack (top state 0, 61, 134, 135), up to any list-level terminator (`;`, `&&`, `||`, NEWLINE),
  in continuation-passing form: its input type `PE` with text, node and step count, and the steps that
  close a pipeline (`unwindB`, `from8B`; `cmd_end` for a command that is a pipeline of its own).  The run itself, `pe_run`, is the run of a pipeline of
  general commands (`gpe_run`) read through `PE.toG` (ToG.lean).
-/
import Bashlex.Props.C02.Pipe
import Bashlex.Props.C02.SeqOps

namespace Bashlex.C02
open Bashlex Bashlex.M Bashlex.LR

/-- the trailing blanks of the last command -/
def ptrail (t0 : Str) : List SCmd → Str
  | [] => t0
  | c :: cs => ptrail c.trail cs

/-- a pipeline of simple commands -/
structure PE where
  c1 : SCmd
  cs : List SCmd

namespace PE
def text (e : PE) : Str := e.c1.text ++ prestText e.cs
def OK (e : PE) : Prop := e.c1.OK ∧ ∀ c ∈ e.cs, c.OK
instance (e : PE) : Decidable e.OK := by unfold OK; exact inferInstance
def endPos (off : Nat) (e : PE) : Nat := lastEnd (e.c1.endPos off) (off + e.c1.text.length) e.cs
def trail (e : PE) : Str := ptrail e.c1.trail e.cs
/-- its AST: the command node (n = 1) or the pipeline node -/
def node (off : Nat) (e : PE) : Node :=
  mkPipe (off + e.c1.lead.length) (e.endPos off)
    (e.c1.node off :: prestNodes (off + e.c1.text.length) e.cs)
end PE

/-- what a pipeline needs of the list-level terminator that ends it -/
structure OutT (ts : Nat) : Prop where
  t : TermOK ts
  a195 : Tab.T.action 195 ts = some (.reduce 161)

/-- a terminal that ends a command inside a list ends a pipeline there as well (`pipeline` and
    `pipeline_command` are reduced on the same lookaheads).  Decided over the terminals of row 7. -/
theorem TermOK.out {ts : Nat} (h : TermOK ts) : OutT ts :=
  ⟨h, (by decide +kernel : ∀ ts ∈ Tab.actionOn 7, Tab.T.action 7 ts = some (.reduce 155) →
      Tab.T.action 195 ts = some (.reduce 161)) ts (Tab.mem_actionOn h.a7) h.a7⟩

theorem outNL : OutT 55 := termNL.out
theorem Op.out (o : Op) : OutT o.sym := o.term.out

/-- the pending segments over a base stack -/
def pstackB (base : Stack SVal) : List Pend → Stack SVal
  | [] => base
  | p :: r =>
    ⟨136, p.t3, .none⟩ :: ⟨64, p.t2, .tok p.bar⟩ :: ⟨sOf r, p.t1, .nodes [p.n]⟩ :: pstackB base r

def pcostB (k : Nat) : List SCmd → Nat
  | [] => k + 2
  | c :: cs => 3 * c.items.length + 8 + pcostB (k + 1) cs

def PE.cost (e : PE) : Nat := pcostB 0 e.cs + (3 * e.c1.items.length + 2) + 2

section
variable {np : NestedParse} {L : Str} {adn : Bool} {P : Res SVal → Local → Tape → Prop}
  {base : Stack SVal} {b g93 : Nat}

theorem goto_pstackB (hbase : topState base = b) (hB : BaseOK b g93) (r : List Pend) :
    Tab.T.goto (topState (pstackB base r)) 95 = some (sOf r) := by
  cases r with
  | nil => show Tab.T.goto (topState base) 95 = some 8; rw [hbase]; exact hB.g95
  | cons p r' => exact Tab.g136_95

/-- unwinding over a base, on any terminator that reduces in state 195 -/
theorem unwindB (hbase : topState base = b) (hB : BaseOK b g93) {l : Local} {Tp : Tape} {ts : Nat}
    {term : Token} (h195 : Tab.T.action 195 ts = some (.reduce 161)) {nl : Nat} {cons : List Nat}
    {f' : Nat} :
    ∀ (pend : List Pend) (acc : List Node) (tr : Tree),
      (∀ tr', Tot (engineLoop np f'
        { stack := ⟨8, tr', .nodes (flat pend acc)⟩ :: base, la := some (ts, .tok term),
          nlShifted := nl, consumed := cons }) l Tp P) →
      Tot (engineLoop np (f' + pend.length)
        { stack := ⟨sOf pend, tr, .nodes acc⟩ :: pstackB base pend, la := some (ts, .tok term),
          nlShifted := nl, consumed := cons }) l Tp P := by
  intro pend
  induction pend with
  | nil => intro acc tr hk; exact hk tr
  | cons p r ih =>
    intro acc tr hk
    show Tot (engineLoop np ((f' + r.length) + 1) _) _ _ _
    refine Tot.loop_step ?_
    refine R_reduce Tab.d195 rfl h195 Tab.p161 rfl (goto_pstackB hbase hB r) Tab.f161 ?_
    refine act_pipeline4 ?_
    simp only [Bool.false_eq_true, if_false]
    exact ih _ _ hk

/-- from `pipeline` (state 8) over the base: `pipeline_command`, `simple_list1` -/
theorem from8B (hbase : topState base = b) (hB : BaseOK b g93) {l : Local} {Tp : Tape} {ts : Nat}
    {term : Token} (hT : TermOK ts) {FL : List Node} {pF pL : Span} {nF nL : List Node} {tr : Tree}
    {nl f : Nat} {cons : List Nat}
    (hh : FL.head? = some (.command pF nF)) (hla : FL.getLast? = some (.command pL nL))
    (hk : ∀ tr', Tot (engineLoop np f
      { stack := ⟨g93, tr', .nodes [mkPipe pF.1 pL.2 FL]⟩ :: base, la := some (ts, .tok term),
        nlShifted := nl, consumed := cons }) l Tp P) :
    Tot (engineLoop np (f + 2)
      { stack := ⟨8, tr, .nodes FL⟩ :: base, la := some (ts, .tok term), nlShifted := nl,
        consumed := cons }) l Tp P := by
  have rest : ∀ (n : Node) (tr2 : Tree), n = mkPipe pF.1 pL.2 FL →
      Tot (engineLoop np (f + 1)
        { stack := ⟨7, tr2, .node n⟩ :: base, la := some (ts, .tok term), nlShifted := nl,
          consumed := cons }) l Tp P := by
    intro n tr2 hn
    refine Tot.loop_step ?_
    refine R_reduce Tab.d7 rfl hT.a7 Tab.p155 rfl (by rw [hbase]; exact hB.g93) Tab.f155 ?_
    refine act_simple_list1_1 ?_
    simp only [Bool.false_eq_true, if_false]
    rw [hn]
    exact hk _
  refine Tot.loop_step ?_
  refine R_reduce Tab.d8 rfl hT.a8 Tab.p156 rfl (by rw [hbase]; exact hB.g94) Tab.f156 ?_
  match FL, hh, hla with
  | [], hh, _ => cases hh
  | [n], _, _ =>
    refine act_pipeline_command1 ?_
    simp only [Bool.false_eq_true, if_false]
    exact rest n _ rfl
  | x :: y :: rs, hh, hla =>
    refine act_pipeline_command_many hh hla ?_
    simp only [Bool.false_eq_true, if_false]
    exact rest _ _ rfl

/-- the end of a command that is a pipeline of its own: four reductions up to `simple_list1` -/
theorem cmd_end {l : Local} {Tp : Tape} (hbase : topState base = b) (hB : BaseOK b g93) {ts : Nat}
    {term : Token} (hT : TermOK ts) {ns : List Node} {nh nl : Node} {ph pl : Span} {tr : Tree}
    {n0 : Nat} {cons : List Nat} {fuel f' : Nat}
    (hh : ns.head? = some nh) (hl : ns.getLast? = some nl) (hph : nodePos nh = pure ph)
    (hpl : nodePos nl = pure pl) (hf : fuel = f' + 4)
    (hk : ∀ tr', Tot (engineLoop np f'
      { stack := ⟨g93, tr', .nodes [Node.command (ph.1, pl.2) ns]⟩ :: base,
        la := some (ts, .tok term), nlShifted := n0, consumed := cons }) l Tp P) :
    Tot (engineLoop np fuel
      { stack := ⟨13, tr, .nodes ns⟩ :: base, la := some (ts, .tok term), nlShifted := n0,
        consumed := cons }) l Tp P := by
  subst hf
  refine cmd_to_pipe (f := f' + 2) hbase hT.a13 hT.a11 hB.g66 hB.g95 hh hl hph hpl fun tr' => ?_
  exact from8B (pF := (ph.1, pl.2)) (pL := (ph.1, pl.2)) hbase hB hT rfl rfl hk

end

end Bashlex.C02
