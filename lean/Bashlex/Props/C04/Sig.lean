/-
  C04, parts 9 and 10: the link to the executable specification `Spec.localTextViol` for operator and
  pipe nodes (for reserved words every signature `localTextViol` can raise is a recorded defect,
  see `C04.lean`).
  Then where the signatures of `Spec.textOK` come from.  `textOKN` walks the spine with
  the empty context and reports `localTextViol` of every node there; below a word, assignment or
  substitution node the context may change (`+cont`, `+mlsub`, …): `textOKN_spine` stops there.
-/
import Bashlex.Props.C04.Text

namespace Bashlex.C04
open Bashlex Bashlex.M Bashlex.Node Bashlex.Spec

theorem strip_head_nl {t : Str} (h : t.head? = some '\n') :
    (stripContinuations t).head? = some '\n' := by
  cases t with
  | nil => cases h
  | cons c rest =>
    simp only [List.head?_cons, Option.some.injEq] at h
    subst h
    cases rest with
    | nil => simp [stripContinuations]
    | cons d r => simp [stripContinuations]

theorem listOps_facts {op : Str} (h : listOps.contains op = true) :
    wordPathV op = false ∧ op.contains '\\' = false := by
  have : ∀ x ∈ listOps, wordPathV x = false ∧ x.contains '\\' = false := by decide
  exact this op (by simpa using h)

theorem pipeOps_facts {op : Str} (h : pipeOps.contains op = true) :
    wordPathV op = false ∧ op.contains '\\' = false ∧ op ≠ ['\n'] := by
  have : ∀ x ∈ pipeOps, wordPathV x = false ∧ x.contains '\\' = false ∧ x ≠ ['\n'] := by decide
  exact this op (by simpa using h)

/-- the shape that is not excused by the specification: D31 at the end of a *nested* parser's
    input (the backslash of a continuation ending the substitution body is covered, but the
    caller's input goes on) -/
def NestedD31 (s : Str) (p : Span) (w : Str) : Prop :=
  stripContinuations (Str.slice s p.1 p.2) = w ++ ['\\'] ∧
    ¬ (s.drop p.2 = [] ∨ s.drop p.2 = ['\n'])

theorem localTextViol_operator (s : Str) (p : Span) (op : Str) :
    localTextViol s (.operator p op) =
      if stripContinuations (Str.slice s p.1 p.2) == op then []
      else if op == ['\n'] && (stripContinuations (Str.slice s p.1 p.2)).head? == some '\n' then
        ["newline-operator-extended-over-heredoc"]
      else if stripContinuations (Str.slice s p.1 p.2) == op ++ ['\\'] &&
          (s.drop p.2 == [] || s.drop p.2 == ['\n']) then
        ["operator-span-includes-final-backslash"]
      else ["operator-text"] := rfl

theorem localTextViol_pipe (s : Str) (p : Span) (w : Str) :
    localTextViol s (.pipe p w) =
      if stripContinuations (Str.slice s p.1 p.2) == w then []
      else if stripContinuations (Str.slice s p.1 p.2) == w ++ ['\\'] &&
          (s.drop p.2 == [] || s.drop p.2 == ['\n']) then
        ["operator-span-includes-final-backslash"]
      else ["pipe-text"] := rfl

/-- **operator nodes**: given the token-text relation for the text of the input under the span -/
theorem operator_sig {s : Str} {p : Span} {op line : Str} {e : Nat}
    (hop : listOps.contains op = true) (ht : TokTextAt line e (Str.slice s p.1 p.2) op) :
    ∀ v ∈ localTextViol s (.operator p op),
      v = "newline-operator-extended-over-heredoc" ∨
      v = "operator-span-includes-final-backslash" ∨
      (v = "operator-text" ∧ NestedD31 s p op ∧ line.drop e = ['\n']) := by
  obtain ⟨hwp, hnb⟩ := listOps_facts hop
  have hstrip := stripContinuations_of_no_backslash op hnb
  intro v hv
  rw [localTextViol_operator] at hv
  by_cases hne : (stripContinuations (Str.slice s p.1 p.2) == op) = true
  · rw [if_pos hne] at hv; cases hv
  rw [if_neg hne] at hv
  by_cases hnl : (op == ['\n'] && (stripContinuations (Str.slice s p.1 p.2)).head? == some '\n') = true
  · rw [if_pos hnl] at hv
    simp only [List.mem_cons, List.mem_nil_iff, or_false] at hv
    exact Or.inl hv
  rw [if_neg hnl] at hv
  by_cases hbs : (stripContinuations (Str.slice s p.1 p.2) == op ++ ['\\'] &&
      (s.drop p.2 == [] || s.drop p.2 == ['\n'])) = true
  · rw [if_pos hbs] at hv
    simp only [List.mem_cons, List.mem_nil_iff, or_false] at hv
    exact Or.inr (Or.inl hv)
  rw [if_neg hbs] at hv
  simp only [List.mem_cons, List.mem_nil_iff, or_false] at hv
  refine Or.inr (Or.inr ⟨hv, ?_⟩)
  rcases ht with ⟨r, hr, hrel, _⟩ | ⟨hw, hh⟩
  · rw [hwp] at hr
    rw [hstrip] at hrel
    rcases residues_op hr with rfl | ⟨rfl, hd⟩
    · exfalso; apply hne; simp [hrel]
    · refine ⟨⟨hrel, ?_⟩, hd⟩
      intro hrest
      apply hbs
      simp only [Bool.and_eq_true, beq_iff_eq, Bool.or_eq_true]
      exact ⟨hrel, hrest⟩
  · exfalso
    apply hnl
    simp only [Bool.and_eq_true, beq_iff_eq]
    exact ⟨hw, strip_head_nl hh⟩

/-- **pipe nodes** -/
theorem pipe_sig {s : Str} {p : Span} {w line : Str} {e : Nat}
    (hop : pipeOps.contains w = true) (ht : TokTextAt line e (Str.slice s p.1 p.2) w) :
    ∀ v ∈ localTextViol s (.pipe p w),
      v = "operator-span-includes-final-backslash" ∨
      (v = "pipe-text" ∧ NestedD31 s p w ∧ line.drop e = ['\n']) := by
  obtain ⟨hwp, hnb, hnl⟩ := pipeOps_facts hop
  have hstrip := stripContinuations_of_no_backslash w hnb
  intro v hv
  rw [localTextViol_pipe] at hv
  by_cases hne : (stripContinuations (Str.slice s p.1 p.2) == w) = true
  · rw [if_pos hne] at hv; cases hv
  rw [if_neg hne] at hv
  by_cases hbs : (stripContinuations (Str.slice s p.1 p.2) == w ++ ['\\'] &&
      (s.drop p.2 == [] || s.drop p.2 == ['\n'])) = true
  · rw [if_pos hbs] at hv
    simp only [List.mem_cons, List.mem_nil_iff, or_false] at hv
    exact Or.inl hv
  rw [if_neg hbs] at hv
  simp only [List.mem_cons, List.mem_nil_iff, or_false] at hv
  refine Or.inr ⟨hv, ?_⟩
  rcases ht with ⟨r, hr, hrel, _⟩ | ⟨hw, _⟩
  · rw [hwp] at hr
    rw [hstrip] at hrel
    rcases residues_op hr with rfl | ⟨rfl, hd⟩
    · exfalso; apply hne; simp [hrel]
    · refine ⟨⟨hrel, ?_⟩, hd⟩
      intro hrest
      apply hbs
      simp only [Bool.and_eq_true, beq_iff_eq, Bool.or_eq_true]
      exact ⟨hrel, hrest⟩
  · exact absurd hw hnl

/-- in the root frame D31 is the shape the specification excuses: the continuation ends the
    caller's input -/
theorem root_rest {s : Str} {J e : Nat} (hJ : J ≤ s.length) (he : e + J ≤ s.length)
    (h : (Tape.ofInput (s.drop J)).line.drop e = ['\n']) :
    s.drop (e + J) = [] ∨ s.drop (e + J) = ['\n'] := by
  have hd : s.drop (e + J) = (s.drop J).drop e := by rw [List.drop_drop, Nat.add_comm]
  rw [hd]
  rcases C13.ofInput_line (s.drop J) with hl | hl
  · rw [hl] at h; exact Or.inr h
  · rw [hl] at h
    have hle : e ≤ (s.drop J).length := by rw [List.length_drop]; omega
    rw [List.drop_append_of_le_length hle] at h
    left
    have := congrArg List.length h
    simp only [List.length_append, List.length_cons, List.length_nil] at this
    exact List.eq_nil_of_length_eq_zero (by omega)

end Bashlex.C04

namespace Bashlex.C04
open Bashlex Bashlex.Node Bashlex.Spec

/-- the walk of `textOKN` with the empty context stops here (the context may change below) -/
def stops : Node → Bool
  | .word .. | .assignment .. | .commandsubstitution .. | .processsubstitution .. => true
  | _ => false

/-- where a signature of `textOK` comes from: the local clause of a spine node (reported as it
    is: the context is empty), or — for a word, assignment or substitution node — that node's
    subtree -/
def Origin (s : Str) (v : String) (m : Node) : Prop :=
  (stops m = true ∧ v ∈ textOKN false s "" m) ∨ (stops m = false ∧ v ∈ localTextViol s m)

theorem mem_map_tag {s : Str} {n : Node} {v : String}
    (h : v ∈ (localTextViol s n).map (· ++ "" ++ tag false n)) : v ∈ localTextViol s n := by
  obtain ⟨x, hx, rfl⟩ := List.mem_map.mp h
  simpa [tag] using hx

theorem textOKL_eq (dbg : Bool) (s : Str) (ctx : String) (l : List Node) :
    textOKL dbg s ctx l = l.flatMap (textOKN dbg s ctx) := by
  induction l with
  | nil => rfl
  | cons a l ih => simp [textOKL, ih]

/-- where the walk goes on, it reports the node's own clause and walks the children in the same
    context -/
theorem textOKN_of_not_stops {dbg : Bool} {s : Str} {ctx : String} {n : Node} (h : stops n = false) :
    textOKN dbg s ctx n =
      (localTextViol s n).map (· ++ ctx ++ tag dbg n) ++ n.children.flatMap (textOKN dbg s ctx) := by
  cases n <;> simp [stops] at h <;> simp [textOKN, textOKL_eq, children]
  case redirect o _ hd _ => cases o <;> cases hd <;> simp [textOKN]

theorem mem_spine_child {n c m : Node} (h : stops n = false) (hc : c ∈ n.children)
    (hm : m ∈ spine c) : m ∈ spine n := by
  rw [spine_eq]
  refine List.mem_cons_of_mem _ (mem_spineL.mpr ⟨c, ?_, hm⟩)
  cases n <;> simp [stops] at h <;> exact hc

theorem textOKN_spine (s : Str) (n : Node) : ∀ v, v ∈ textOKN false s "" n →
    ∃ m ∈ spine n, Origin s v m := by
  induction n using Node.children_induction with
  | hP n ih =>
    intro v h
    have hn : n ∈ spine n := by rw [spine_eq]; exact List.mem_cons_self
    cases hs : stops n with
    | true => exact ⟨n, hn, Or.inl ⟨hs, h⟩⟩
    | false =>
      rw [textOKN_of_not_stops hs, List.mem_append, List.mem_flatMap] at h
      rcases h with h | ⟨c, hc, h⟩
      · exact ⟨n, hn, Or.inr ⟨hs, mem_map_tag h⟩⟩
      · obtain ⟨m, hm, ho⟩ := ih c hc v h
        exact ⟨m, mem_spine_child hs hc hm, ho⟩

theorem textOKL_spine (s : Str) : ∀ (l : List Node) (v : String), v ∈ textOKL false s "" l →
    ∃ m ∈ spineL l, Origin s v m := by
  intro l v h
  rw [textOKL_eq, List.mem_flatMap] at h
  obtain ⟨c, hc, h⟩ := h
  obtain ⟨m, hm, ho⟩ := textOKN_spine s c v h
  exact ⟨m, mem_spineL.mpr ⟨c, hc, hm⟩, ho⟩

/-- **every signature of `Spec.textOK`** is the local clause of a spine node, or comes from the
    subtree of a word, assignment or substitution node of the spine -/
theorem textOK_origin (s : Str) (n : Node) : ∀ v ∈ Spec.textOK s n, ∃ m ∈ spine n, Origin s v m :=
  textOKN_spine s n

end Bashlex.C04
