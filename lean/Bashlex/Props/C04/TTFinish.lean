/-
  C04, token text: the position stack, `_createtoken`, the part of `_readtokenword` after
  `# got_token`, `_readtokenword`: the token delivered spans from the recorded start to the cursor
  and its value is `tokenword` (or the number it denotes).
-/
import Bashlex.Props.C04.TTWord3
import Bashlex.Proofs.TokShape

namespace Bashlex.C04.TTP
open Bashlex Bashlex.M Bashlex.C10 Bashlex.C11 Bashlex.C03.Tok Bashlex.C04
set_option linter.unusedVariables false

section
variable {L : Str} {ps : List Nat} {k : Nat}

theorem recordpos_tp (rel : Nat) :
    HT (Tp L ps k) (recordpos rel) (fun _ l e => Tp L (ps ++ [k - rel]) k l e) ET := by
  intro l e h
  rw [C11.run_recordpos]
  obtain ⟨a1, a2, a3, a4, a5⟩ := h
  refine ⟨a1, a2, a3, a4, ?_⟩
  show l.positions ++ _ = _
  rw [a5, a2]

/-- position and value of a token made by `_createtoken` -/
def CT (a b : Nat) (v : TVal) (t : Token) : Prop := t.pos = some (a, b) ∧ a < b ∧ t.value = v

theorem createtoken_tp (ty : TokType) (v : TVal) (fl : WordFlags) (a b : Nat) :
    HT (Tp L [a, b] k) (createtoken ty v fl)
      (fun t l e => (CT a b v t ∧ t.ttype = some ty) ∧ Tp L [] k l e) ET := by
  intro l e h
  obtain ⟨a1, a2, a3, a4, a5⟩ := h
  rw [run_createtoken ty v fl l e a b a5]
  by_cases hab : a < b
  · rw [if_pos hab]; exact ⟨⟨⟨rfl, hab, rfl⟩, rfl⟩, a1, a2, a3, a4, rfl⟩
  · rw [if_neg hab]; exact True.intro

theorem CT.of_eq {a b : Nat} {v : TVal} {t t' : Token} (h : CT a b v t) (hp : t'.pos = t.pos)
    (hv : t'.value = t.value) : CT a b v t' := by
  unfold CT at h ⊢
  rw [hp, hv]; exact h

end

section
variable {L : Str} {ps : List Nat} {k : Nat}

/-- `fwWord` keeps the cursor and returns some `fwToken .. tok` -/
theorem k_fwWord (st : RWState) (tok : Token) {φ : Token → Prop}
    (h : ∀ l asg, φ (fwToken st l asg tok)) :
    SatW (Tp L ps k) (Tp L ps k) (fwWord st tok) φ := by
  unfold fwWord fwEnd
  w_walk
  all_goals exact SatW.pure (fun _ _ h => h) (h _ _)

theorem fwWord_ct (st : RWState) {tok : Token} {a b : Nat} {v : TVal} (h : CT a b v tok) :
    SatW (Tp L ps k) (Tp L ps k) (fwWord st tok) (CT a b v) :=
  k_fwWord st tok (fun l asg => h.of_eq (Shape.fwToken_pos st l asg tok) (Shape.fwToken_value st l asg tok))

end

section
variable {L : Str} {k : Nat}

/-- the value of a token read by `_readtokenword` -/
def WordVal (tw : Str) (t : Token) : Prop :=
  t.value = .str tw ∨
    (t.value = .int (digitsToNat tw) ∧ legalNumber tw = true ∧ t.ttype = some .NUMBER)

/-- a token read by `_readtokenword` -/
def WordTok (a k : Nat) (tw : Str) (t : Token) : Prop :=
  t.pos = some (a, k) ∧ a < k ∧ WordVal tw t

theorem wordTok_of_ct {a b : Nat} {tw : Str} {t : Token} (h : CT a b (.str tw) t) :
    WordTok a b tw t := ⟨h.1, h.2.1, Or.inl h.2.2⟩

theorem ct_str {ty : TokType} {tw : Str} {fl : WordFlags} {a b : Nat} :
    HT (Tp L [a, b] k) (createtoken ty (.str tw) fl)
      (fun t l e => WordTok a b tw t ∧ Tp L [] k l e) ET :=
  HT.post (createtoken_tp ty (.str tw) fl a b) (fun t l e h => ⟨wordTok_of_ct h.1.1, h.2⟩)

/-- `_createtoken`, then code that only decorates the token -/
theorem ct_switch_tp {ty : TokType} {tw : Str} {fl : WordFlags} {a b : Nat}
    {f : Token → M Token}
    (h : ∀ tok, CT a b (.str tw) tok →
      SatW (Tp L [] k) (Tp L [] k) (f tok) (CT a b (.str tw))) :
    HT (Tp L [a, b] k) (createtoken ty (.str tw) fl >>= f)
      (fun t l e => WordTok a b tw t ∧ Tp L [] k l e) ET :=
  HT.bind (createtoken_tp ty (.str tw) fl a b) (fun tok => HT.pre_pure (fun ht =>
    HT.post (h tok ht.1) (fun t l e h => ⟨wordTok_of_ct h.1, h.2⟩)))

end

macro_rules | `(tactic| q_leaf) => `(tactic| with_reducible exact ct_str)
macro_rules | `(tactic| q_leaf) => `(tactic|
  with_reducible exact ct_switch_tp (fun _ h => fwWord_ct _ h))

section
variable {L : Str} {k : Nat}

/-- the part of `_readtokenword` after `# got_token` -/
theorem finishWord_tt (st : RWState) (a : Nat) :
    HT (Tp L [a] k) (finishWord st)
      (fun t l e => WordTok a k st.tokenword t ∧ Tp L [] k l e) ET := by
  rw [finishWord_eq]
  unfold fwHead
  refine HT.bind (recordpos_tp 0) (fun _ => ?_)
  show HT (Tp L [a, k] k) _ _ _
  jp_step
  jp_step
  refine HT.get_bind (fun l0 => ?_)
  refine HTQAt.ite (fun hnum => ?_) (fun hnum => ?_)
  · -- NUMBER
    have hleg : legalNumber st.tokenword = true := by
      simp only [Bool.and_eq_true] at hnum
      exact hnum.2
    refine HTQAt.ofHT ?_
    refine HT.post (createtoken_tp .NUMBER _ [] a k) (fun t l e h => ?_)
    exact ⟨⟨h.1.1.1, h.1.1.2.1, Or.inr ⟨h.1.1.2.2, hleg, h.1.2⟩⟩, h.2⟩
  · q_walk

/-- **`_readtokenword(c)`** above its loop: whatever the loop establishes of the word read and
    the cursor at its end (`X`) holds of the token delivered -/
theorem readtokenword_of {P : Local → Env → Prop} {X : Nat → Str → Prop} (c : Char) (a : Nat)
    (hloop : ∀ fuel, HT P
      (M.loop "_readtokenword" readtokenwordStep fuel { c := some c, allDigit := isDigit c })
      (fun st l e => ∃ k, X k st.tokenword ∧ Tp L [a] k l e) ET) :
    HT P (readtokenword c)
      (fun t l e => ∃ k, (∃ tw, X k tw ∧ WordTok a k tw t) ∧ Tp L [] k l e) ET := by
  unfold readtokenword
  refine HT.bind (Q := fun _ l e => P l e) (HT.pure (fun _ _ h => h)) (fun fuel => ?_)
  refine HT.bind (hloop fuel) (fun st => ?_)
  refine HT.pre_exists (fun k => HT.pre_pure (fun hk => ?_))
  refine HT.post (finishWord_tt st a) ?_
  intro t l e h
  exact ⟨k, ⟨st.tokenword, hk, h.1⟩, h.2⟩

/-- **`_readtokenword(c)`**, entered with the invariant of its loop -/
theorem readtokenword_tt (hS : ScanHyp) (hnl : NL L) (c : Char) (a : Nat) :
    HT (RWI L a { c := some c, allDigit := isDigit c }) (readtokenword c)
      (fun t l e => ∃ k, (∃ tw, SpanW L a k tw ∧ WordTok a k tw t) ∧ Tp L [] k l e) ET :=
  readtokenword_of c a (fun fuel => HT.post (rtwLoop_tt hS hnl fuel _)
    (fun _ _ _ ⟨k, hk, h⟩ => ⟨k, hk.1, h⟩))

end

end Bashlex.C04.TTP
