/-
  C04, token text (layer D): `_parse_matched_pair`.

  One iteration: `_getc` (the only tape access of `mpPre`), then a PURE computation on the
  scanner's state, `mpStep` of `Proofs/TokForms.lean`: the character read is appended to `ret`; the
  iteration ends the scan (`done`) only on the closing character (`mpStep_R`).  `mpPost`: nested
  scanners, whose return value is appended.
-/
import Bashlex.Props.C04.TTScan1
import Bashlex.Proofs.TokForms

namespace Bashlex.C04.TTP
open Bashlex Bashlex.M Bashlex.C10 Bashlex.C11 Bashlex.C03.Tok Bashlex.C04

/-! ## one iteration -/

section
variable {L : Str} {ps : List Nat}

/-- `MatchedPairError` always raises -/
theorem mpe_bind_ht {α β : Type} {I : Local → Env → Prop} {Q : β → Local → Env → Prop}
    (close : Char) {k : α → M β} : HT I ((matchedPairError close : M α) >>= k) Q ET := by
  refine HT.bind (Q := fun _ _ _ => False) ?_ (fun _ => HT.pre_false)
  intro l e _
  have hrun : ∃ x, M.run (matchedPairError close : M α) l e = (.error x, e) := by
    unfold matchedPairError
    simp only [M.run_bind, run_tapeSource, run_curIdx, M.run_raise]
    exact ⟨_, rfl⟩
  obtain ⟨x, hx⟩ := hrun
  rw [hx]; exact True.intro

/-- **`mpPre`**: one `_getc`, the character is appended -/
theorem mpPre_tt (P : MPParams) (lfc : Bool) (st : MPState) {k : Nat} :
    HT (Tp L ps k) (mpPre P lfc st)
      (fun r l e => ∃ k', (∃ rqn c, GetcR rqn L k k' (some c) ∧ MPreR P st c r) ∧ Tp L ps k' l e)
      ET := by
  rw [mpPre_eq]
  refine getc_bind (fun c0 k' hg => ?_)
  cases c0 with
  | none => simp only []; exact mpe_bind_ht _
  | some c =>
    simp only [pure_bind]
    exact HT.pure (fun l e h => ⟨k', ⟨_, c, hg, mpStep_R P lfc st c⟩, h⟩)

/-- the scanners of the next depth (induction hypothesis) -/
structure ScanIH (L : Str) (ps : List Nat) (pmp : MPParams → M Str) (pcs : CSParams → M Str) :
    Prop where
  pmp : ∀ i P, i < L.length → MPGood P → HT (Tp L ps i) (pmp P) (ScanQ L ps i) ET
  pcs : ∀ i P, i < L.length → CSGood P → HT (Tp L ps i) (pcs P) (ScanQ L ps i) ET

/-- what the second half of an iteration (nested scanners) does: nothing, or the value of a
    nested scanner is appended -/
def PostR (L : Str) (k : Nat) (c : Char) (ret0 : Str) (cnt0 : Nat) (ret1 : Str) (cnt1 : Nat)
    (k'' : Nat) : Prop :=
  k ≤ k'' ∧ ((ret1 = ret0 ∧ k'' = k ∧ cnt1 = cnt0) ∨
    (c ≠ '\n' ∧ k'' < L.length ∧ ∃ x, ret1 = ret0 ++ x ∧ Sp L k k'' x))

theorem rec_leaf {σ : Type} {m : M Str} {k : Nat} (hm : HT (Tp L ps k) m (ScanQ L ps k) ET)
    {f : Str → σ} {Q : σ → Local → Env → Prop}
    (hQ : ∀ r j, k ≤ j → j < L.length → Sp L k j r → ∀ l e, Tp L ps j l e → Q (f r) l e) :
    HT (Tp L ps k) (m >>= fun r => pure (f r)) Q ET := by
  refine HT.bind hm (fun r => ?_)
  refine HT.pre_exists (fun j => HT.pre_pure (fun hj => ?_))
  exact HT.pure (fun l e h => hQ r j hj.1 hj.2.1 hj.2.2 l e h)

theorem rec_leaf_pop {σ : Type} {m : M Str} {k : Nat} (hm : HT (Tp L ps k) m (ScanQ L ps k) ET)
    {f : Str → σ} {Q : σ → Local → Env → Prop} {d : Char}
    (hQ : ∀ r j, k ≤ j → j < L.length → Sp L k j r → ∀ l e, Tp L ps j l e → Q (f r) l e) :
    HT (Tp L ps k) (do pushDelimiter d; let r ← m; popDelimiter; pure (f r)) Q ET := by
  refine keep_bind (k_pushDelimiter d) (fun _ _ => ?_)
  refine HT.bind hm (fun r => ?_)
  refine HT.pre_exists (fun j => HT.pre_pure (fun hj => ?_))
  refine keep_bind k_popDelimiter (fun _ _ => ?_)
  exact HT.pure (fun l e h => hQ r j hj.1 hj.2.1 hj.2.2 l e h)

theorem dolOpen_ne_nl {c : Char} (h : isDolOpen c = true) : c ≠ '\n' := by
  rintro rfl; revert h; decide

theorem handledollarword_tt {pmp : MPParams → M Str} {pcs : CSParams → M Str}
    (ih : ScanIH L ps pmp pcs) (P : MPParams) (rdq : Bool) (c : Char) {k : Nat} (hk : k < L.length) :
    HT (Tp L ps k) (handledollarword pmp pcs P rdq c) (ScanQ L ps k) ET := by
  unfold handledollarword
  simp only []
  refine HT.ite (fun _ => HT.foreign True.intro) (fun _ => ?_)
  refine HT.ite (fun _ => ?_) (fun _ => ?_)
  · exact ih.pcs k _ hk (csgood (c := ')') (o := '(') rfl rfl (by decide) (by decide))
  refine HT.ite (fun _ => ?_) (fun _ => ?_)
  · exact ih.pmp k _ hk (mpgood (c := '}') (o := '{') rfl rfl (by decide) (by decide))
  refine HT.ite (fun _ => ?_) (fun _ => HT.foreign True.intro)
  · exact ih.pmp k _ hk (mpgood (c := ']') (o := '[') rfl rfl (by decide) (by decide))

/-- **`mpPost`** -/
theorem mpPost_tt {pmp : MPParams → M Str} {pcs : CSParams → M Str} (ih : ScanIH L ps pmp pcs)
    (P : MPParams) (rdq : Bool) (st : MPState) (c : Char) {k : Nat}
    (hlt : c ≠ '\n' → k < L.length) :
    HT (Tp L ps k) (mpPost pmp pcs P rdq st c)
      (fun s' l e => ∃ k'', PostR L k c st.ret st.count s'.ret s'.count k'' ∧ Tp L ps k'' l e)
      ET := by
  unfold mpPost
  simp only []
  have same : ∀ (s' : MPState), s'.ret = st.ret → s'.count = st.count →
      HT (Tp L ps k) (pure s' : M MPState)
        (fun s' l e => ∃ k'', PostR L k c st.ret st.count s'.ret s'.count k'' ∧ Tp L ps k'' l e)
        ET := by
    intro s' h1 h2
    exact HT.pure (fun l e h => ⟨k, ⟨Nat.le_refl _, Or.inl ⟨h1, rfl, h2⟩⟩, h⟩)
  have recq : ∀ (hc : c ≠ '\n') (f : Str → MPState), (∀ r, (f r).ret = st.ret ++ r) →
      ∀ r j, k ≤ j → j < L.length → Sp L k j r → ∀ l e, Tp L ps j l e →
        ∃ k'', PostR L k c st.ret st.count (f r).ret (f r).count k'' ∧ Tp L ps k'' l e := by
    intro hc f hf r j h1 h2 h3 l e h
    exact ⟨j, ⟨h1, Or.inr ⟨hc, h2, r, hf r, h3⟩⟩, h⟩
  refine HT.ite (fun _ => ?_) (fun _ => ?_)
  · refine keep_bind (v_shellquote c) (fun b hb => ?_)
    subst hb
    refine HT.ite (fun hq => ?_) (fun _ => ?_)
    · have hc := quote_ne_nl hq
      exact rec_leaf_pop (ih.pmp k _ (hlt hc) (mpgood (c := c) (o := c) rfl rfl hc hc))
        (recq hc _ (fun r => rfl))
    refine HT.ite (fun hd => ?_) (fun _ => same _ rfl rfl)
    have hc : c ≠ '\n' := by
      simp only [Bool.and_eq_true] at hd
      exact dolOpen_ne_nl hd.2
    exact rec_leaf (handledollarword_tt ih P rdq c (hlt hc)) (recq hc _ (fun r => rfl))
  refine HT.ite (fun hb => ?_) (fun _ => ?_)
  · have hc : c ≠ '\n' := by
      simp only [Bool.and_eq_true, beq_iff_eq] at hb
      rw [hb.2]; decide
    exact rec_leaf (ih.pmp k _ (hlt hc) (mpgood (c := '`') (o := '`') rfl rfl (by decide) (by decide)))
      (recq hc _ (fun r => rfl))
  refine HT.ite (fun hd => ?_) (fun _ => same _ rfl rfl)
  have hc : c ≠ '\n' := by
    simp only [Bool.and_eq_true] at hd
    exact dolOpen_ne_nl hd.2
  exact rec_leaf (handledollarword_tt ih P rdq c (hlt hc)) (recq hc _ (fun r => rfl))

end

end Bashlex.C04.TTP
