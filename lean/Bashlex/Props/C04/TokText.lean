/-
  C04: the token-text relation `TT` and the statement `TokText` about the token source
  (PROVED in `Props/C04/TokTextProof.lean`, see there for what is proved and what is left).

  `TT line t`: the text of `line` (the tokenizer's `_shell_input_line`: the parser's input plus the
  newline `tokenizer.__init__` appends) under the span of the delivered token `t` is the token's
  spelling, up to line continuations and up to the recorded defect shapes, which are spelled out
  as alternatives (`residues`, `nlOver`):

    * a token with a string value `v` spanning `sl = line[a:e]`:
        `Del sl (v ++ r)`: the value followed by the *residue* `r` is the text with some
        backslash-newline pairs deleted (`TTDel.lean`: the ghost relation of `_getc`; it implies
        `stripContinuations sl = v ++ r` when the value holds no adjacent backslash-newline, and
        `sl = v ++ r` when `sl` holds no line continuation), where `r` is empty, or
          D31      `r = "\"`            and the rest of the line is the final newline
                   (a continuation that ends the input: the backslash is covered),
          D32      `r = "<\"`, `">\"`   and the next character is a newline (word glued to a
                   redirection operator and a continuation: the double unget),
          D31+D32  `r = "<"`, `">"`     and the rest of the line is backslash newline;
        D32 residues only occur after tokens read by `_readtokenword` (recognisable by their
        value: not made of metacharacters only, or a process substitution `<(`…, `>(`…);
    * the NEWLINE token read while here-documents were pending spans the newline *and the bodies*
      (`newline-operator-extended-over-heredoc`): `sl` starts with the newline (in non-strict
      mode at the end of the input the span even ends one past the line: the here-document skip
      `_shell_input_line_index += 1`);
    * a NUMBER token `k`: the stripped text (minus a residue) is a string of digits denoting `k`;
    * the EOF token has no position.
  Values are not longer than the text they span; a token value holding a backslash belongs to a
  WORD / ASSIGNMENT_WORD token; only the value of a NEWLINE token reaches the last character of
  the line.

  Why the relation is `Del`, and `wordPathV` what it is: each simpler formulation is FALSE of the
  model (the witnesses are evaluated in `Props/C04/Validate.lean`; a grid without double quotes and
  parentheses does not find them):
    * the formulation `stripContinuations sl = stripContinuations v ++ r` fails on the 7-character
      input `"\\\⏎⏎"` (double quote, three backslashes, two newlines, double quote): the WORD value is
      `"\\⏎"` (the third backslash and the first newline are a continuation and are skipped by
      `_getc`); the naive strip of the VALUE removes its `\⏎`, which is not a continuation of the
      text.  Same for `$(\\\⏎⏎)` and `$(cat <<E⏎\\⏎⏎E⏎)`.
    * `wordPathV "<()"` has to be `true` (a process-substitution word is made of metacharacters
      only, and is read by `_readtokenword`); witness `<()<\`: WORD `<()` at (0,4) on the line
      `<()<\⏎`, residue `<` (D31+D32).
    * `wordPathV []` is `true`: with `ps.regexp` / `ps.dblparen` set (states that the invariant
      does not exclude; unreachable) `_readtokenword` may deliver an empty word: `<\⏎x` gives the
      value `""` spanning `<\`.

  `TokText` says that `token()` delivers only such tokens, from every `Good` state of a parser
  object over `line` (C11's state invariant: the tape holds `line`, cursor inside) with an empty
  `_eol_ungetc_lookahead` slot, and that the slot stays empty.  It is a statement about the
  tokenizer alone.  Validation by evaluation of the model: `Props/C04/Validate.lean`.
-/
import Bashlex.Spec.Tree
import Bashlex.Props.C11.Parse
import Bashlex.Props.C12.Tokens
import Bashlex.Props.C10.Entry
import Bashlex.Props.C04.TTDel

namespace Bashlex.C04
open Bashlex Bashlex.Spec

/-- may a token with this value have been read by `_readtokenword` (reserved words, words) rather
    than returned bare by `_readtoken` (operators: metacharacters and newline only)?  Words made
    of metacharacters only are process substitutions (`<()`); the empty value only occurs with
    `ps.regexp` / `ps.dblparen` set. -/
def wordPathV (v : Str) : Bool :=
  v.isEmpty || !(v.all isBreakChar) || ['<', '('].isPrefixOf v || ['>', '('].isPrefixOf v

/-- what may follow the token's spelling inside its span -/
def residues (wordPath : Bool) (line : Str) (e : Nat) : List Str :=
  [[]] ++ (if line.drop e == ['\n'] then [['\\']] else []) ++
  (if wordPath && line[e]? == some '\n' then [['<', '\\'], ['>', '\\']] else []) ++
  (if wordPath && line.drop e == ['\\', '\n'] then [['<'], ['>']] else [])

/-- the residues after a token made of metacharacters only: nothing, or (D31) the backslash of a
    continuation that ends the line -/
theorem residues_op {line : Str} {e : Nat} {r : Str} (h : r ∈ residues false line e) :
    r = [] ∨ (r = ['\\'] ∧ line.drop e = ['\n']) := by
  unfold residues at h
  simp only [Bool.false_and, Bool.false_eq_true, if_false, List.append_nil, List.mem_append,
    List.mem_cons, List.mem_nil_iff, or_false] at h
  rcases h with h | h
  · exact Or.inl h
  · split at h
    · rename_i hd
      simp only [List.mem_cons, List.mem_nil_iff, or_false] at h
      exact Or.inr ⟨h, by simpa using hd⟩
    · cases h

theorem residues_noNL {b : Bool} {line : Str} {e : Nat} {r : Str} (h : r ∈ residues b line e) :
    r.contains '\n' = false := by
  unfold residues at h
  simp only [List.mem_append, List.mem_cons, List.mem_nil_iff, or_false] at h
  rcases h with ((rfl | h) | h) | h
  · rfl
  · split at h
    · simp only [List.mem_cons, List.mem_nil_iff, or_false] at h; subst h; decide
    · cases h
  · split at h
    · simp only [List.mem_cons, List.mem_nil_iff, or_false] at h
      rcases h with rfl | rfl <;> decide
    · cases h
  · split at h
    · simp only [List.mem_cons, List.mem_nil_iff, or_false] at h
      rcases h with rfl | rfl <;> decide
    · cases h

/-- text relation between the spanned text `sl`, the value `v` and a residue `r`: the value and
    the residue are the text with some backslash-newline pairs deleted -/
def textRel (sl v r : Str) : Bool := delB sl (v ++ r)

def isWordTy (t : Token) : Bool := t.is .WORD || t.is .ASSIGNMENT_WORD

/-- the NEWLINE token that was extended over here-document bodies -/
def nlOver (t : Token) (v sl : Str) : Bool := t.is .NEWLINE && v == ['\n'] && sl.head? == some '\n'

/-- **the token-text relation** (decidable: it is evaluated on the model in `Validate.lean`) -/
def ttOK (line : Str) (t : Token) : Bool :=
  match t.value, t.pos with
  | .none, none => t.is .EOF
  | .int k, some (a, e) =>
    t.is .NUMBER && a < e && e ≤ line.length &&
    (residues true line e).any fun r =>
      let d := stripContinuations (Str.slice line a e)
      r.length ≤ d.length && d.drop (d.length - r.length) == r &&
      legalNumber (d.take (d.length - r.length)) && digitsToNat (d.take (d.length - r.length)) == k
  | .str v, some (a, e) =>
    !(t.is .NUMBER) && !(t.is .EOF) && t.ttype.isSome && a < e && a + v.length ≤ line.length &&
    (isWordTy t || !v.contains '\\') &&
    ((e ≤ line.length && v.length ≤ e - a && (v == ['\n'] || a + v.length < line.length) &&
        (residues (wordPathV v) line e).any (textRel (Str.slice line a e) v)) ||
      nlOver t v (Str.slice line a e))
  | _, _ => false

def TT (line : Str) (t : Token) : Prop := ttOK line t = true

instance (line : Str) (t : Token) : Decidable (TT line t) := inferInstanceAs (Decidable (_ = true))

/-- **the hypothesis on the token source**.
    `next`: from every `Good` state of a parser object whose tape holds `g.line` and whose
    `_eol_ungetc_lookahead` slot is empty, every token `token()` delivers satisfies `TT g.line`,
    and the slot is empty again.  (With a character in the slot that did not come from the tape
    the relation is plainly false; the slot is written by `_ungetc` only, when the cursor cannot
    move back, and read back by the next `_getc`.)
    `gather`: `gatherheredocuments` (called by `p_simple_list`) leaves an empty slot empty. -/
structure TokText : Prop where
  next : ∀ g, C11.WFG g →
    C11.HT (fun l e => C11.Good g [] l e ∧ l.eolLookahead = none) nextToken
      (fun t l _ => TT g.line t ∧ l.eolLookahead = none) (fun _ => True)
  gather : C10.KeepsEol gatherheredocuments

/-! ## consequences -/

theorem TT.str {line : Str} {t : Token} {v : Str} (h : TT line t) (hv : t.value = .str v) :
    ∃ a e, t.pos = some (a, e) ∧ a < e ∧ a + v.length ≤ line.length ∧
      t.is .NUMBER = false ∧ t.is .EOF = false ∧ t.ttype.isSome = true ∧
      (isWordTy t = true ∨ v.contains '\\' = false) ∧
      ((e ≤ line.length ∧ v.length ≤ e - a ∧ (v = ['\n'] ∨ a + v.length < line.length) ∧
          ∃ r ∈ residues (wordPathV v) line e, textRel (Str.slice line a e) v r = true) ∨
        nlOver t v (Str.slice line a e) = true) := by
  unfold TT ttOK at h
  rw [hv] at h
  cases hp : t.pos with
  | none => rw [hp] at h; simp at h
  | some p =>
    obtain ⟨a, e⟩ := p
    rw [hp] at h
    simp only [Bool.and_eq_true, Bool.or_eq_true, Bool.not_eq_true', decide_eq_true_eq,
      List.any_eq_true] at h
    obtain ⟨⟨⟨⟨⟨⟨h1, h2⟩, h3⟩, h4⟩, h5⟩, h7⟩, h8⟩ := h
    refine ⟨a, e, rfl, h4, h5, h1, h2, h3, ?_, ?_⟩
    · rcases h7 with h7 | h7
      · exact Or.inl h7
      · exact Or.inr h7
    · rcases h8 with ⟨⟨⟨g1, g2⟩, g3⟩, r, hr, hrel⟩ | h8
      · refine Or.inl ⟨g1, g2, ?_, r, hr, hrel⟩
        rcases g3 with g3 | g3
        · exact Or.inl (by simpa using g3)
        · exact Or.inr g3
      · exact Or.inr h8

theorem TT.int {line : Str} {t : Token} {k : Nat} (h : TT line t) (hv : t.value = .int k) :
    t.is .NUMBER = true ∧ ∃ a e, t.pos = some (a, e) ∧ a < e ∧ e ≤ line.length := by
  unfold TT ttOK at h
  rw [hv] at h
  cases hp : t.pos with
  | none => rw [hp] at h; simp at h
  | some p =>
    obtain ⟨a, e⟩ := p
    rw [hp] at h
    simp only [Bool.and_eq_true, decide_eq_true_eq] at h
    exact ⟨h.1.1.1, a, e, rfl, h.1.1.2, h.1.2⟩

theorem TT.none {line : Str} {t : Token} (h : TT line t) (hv : t.value = .none) :
    t.is .EOF = true ∧ t.pos = none := by
  unfold TT ttOK at h
  rw [hv] at h
  cases hp : t.pos with
  | none => rw [hp] at h; exact ⟨h, rfl⟩
  | some p => rw [hp] at h; simp at h

/-- a token that is not NUMBER / EOF has a string value -/
theorem TT.value_str {line : Str} {t : Token} (h : TT line t) (h1 : t.is .NUMBER = false)
    (h2 : t.is .EOF = false) : ∃ v, t.value = .str v := by
  cases hv : t.value with
  | none => rw [(h.none hv).1] at h2; cases h2
  | int k => rw [(h.int hv).1] at h1; cases h1
  | str v => exact ⟨v, rfl⟩

/-- the value of a delivered token is not longer than the rest of the line from its start -/
theorem TT.len {line : Str} {t : Token} (h : TT line t) :
    t.lexpos + t.valueStr.length ≤ line.length := by
  cases hv : t.value with
  | none =>
    have := (h.none hv).2
    simp [Token.lexpos, Token.valueStr, hv, this]
  | int k =>
    obtain ⟨_, a, e, hp, hae, hel⟩ := h.int hv
    simp only [Token.lexpos, Token.valueStr, hv, hp, Option.getD_some, List.length_nil]
    omega
  | str v =>
    obtain ⟨a, e, hp, hae, hlen, _⟩ := h.str hv
    simp only [Token.lexpos, Token.valueStr, hv, hp, Option.getD_some]
    omega

/-- C11's second token fact (`TL`: a backquote of the value sits inside the line) -/
theorem TT.tl {g : C11.Ghost} {t : Token} (h : TT g.line t) : C11.TL g t :=
  C11.tl_of_length h.len

end Bashlex.C04
