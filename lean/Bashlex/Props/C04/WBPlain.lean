/-
  C04, word boundaries: a token value without quoting characters holds no break character
  (towards the clause `word-not-whole` of `Spec.localTextViol` for PLAIN words).

  `plainV v`: none of `\ ' " backquote $ < >` occurs in `v`.  The loop of `_readtokenword` appends
  a break character to `tokenword` only after a backslash (`passNext`), inside what a quote or an
  expansion returns, or as the `<` / `>` of a process substitution — so, in a value without these
  characters, every character was appended by the plain branch and is no break character.
  The invariant `PInv` speaks about the loop state only, from any state of the tokenizer: each
  case of what an iteration appends (`Grows`, `WBStep.lean`) keeps it.
-/
import Bashlex.Props.C04.WBStep

namespace Bashlex.C04
open Bashlex Bashlex.Spec

/-- the characters that quote, expand or open a process substitution -/
def specialC (c : Char) : Bool :=
  c == '\\' || c == '\'' || c == '"' || c == '`' || c == '$' || c == '<' || c == '>'

/-- none of them occurs -/
def plainV (v : Str) : Bool := v.all (fun c => !specialC c)

/-- no break character occurs -/
def nbV (v : Str) : Bool := v.all (fun c => !isBreakChar c)

/-- a value without quoting characters holds no break character -/
def plainOKB (v : Str) : Bool := !plainV v || nbV v

theorem plainV_append (a b : Str) : plainV (a ++ b) = (plainV a && plainV b) := by
  unfold plainV; rw [List.all_append]

theorem nbV_append (a b : Str) : nbV (a ++ b) = (nbV a && nbV b) := by
  unfold nbV; rw [List.all_append]

end Bashlex.C04

namespace Bashlex.C04.WB
open Bashlex Bashlex.M Bashlex.C10 Bashlex.C11 Bashlex.C03.Tok Bashlex.C04 Bashlex.C04.TTP

/-- the invariant of the loop of `_readtokenword` -/
structure PInv (st : RWState) : Prop where
  nb : plainV st.tokenword = true → nbV st.tokenword = true
  pn : st.passNext = true → plainV st.tokenword = false

theorem pinv_special {st st' : RWState} {c : Char} {x : Str} (hc : specialC c = true)
    (htw : st'.tokenword = st.tokenword ++ [c] ++ x) (hpn : st'.passNext = false) : PInv st' := by
  have hp : plainV st'.tokenword = false := by
    rw [htw, plainV_append, plainV_append]
    simp [plainV, hc]
  exact ⟨fun h => (by rw [hp] at h; cases h), fun h => (by rw [hpn] at h; cases h)⟩

theorem pinv_of_false {st' : RWState} (hp : plainV st'.tokenword = false) : PInv st' :=
  ⟨fun h => (by rw [hp] at h; cases h), fun _ => hp⟩

theorem special_of_quote {c : Char} (h : (synClass c).quote = true) : specialC c = true := by
  simp only [synClass, Bool.or_eq_true, beq_iff_eq] at h
  rcases h with (rfl | rfl) | rfl <;> decide

theorem special_of_exp {c : Char} (h : (synClass c).exp = true) : specialC c = true := by
  rcases exp_cases h with rfl | rfl | rfl <;> decide

/-- each thing an iteration can append keeps `PInv`: a break character comes only after a
    backslash or inside a quotation or expansion, whose first character is special -/
theorem pinv_grows {T : Str → Prop} {st st' : RWState} (h : PInv st)
    (g : Grows T st st'.tokenword st'.passNext) : PInv st' := by
  cases g with
  | same htw hpn => exact ⟨by rw [htw]; exact h.nb, by rw [htw, hpn]; exact h.pn⟩
  | escaped c _ hp htw _ => exact pinv_of_false (by rw [htw, plainV_append, h.pn hp]; rfl)
  | backslash _ htw _ => exact pinv_of_false (by rw [htw, plainV_append]; simp [plainV, specialC])
  | plain c _ hb htw hpn =>
    refine ⟨fun hp => ?_, fun hp => (by rw [hpn] at hp; cases hp)⟩
    rw [htw, plainV_append, Bool.and_eq_true] at hp
    rw [htw, nbV_append, h.nb hp.1]
    simp [nbV, Spec.isBreakChar, hb]
  | dollars _ htw hpn =>
    exact pinv_special (st := st) (c := '$') (x := ['$']) (by decide) (by rw [htw]; simp) hpn
  | scanned c x t _ hc _ _ htw hpn =>
    exact pinv_special (st := st) (x := x ++ t) (hc.elim special_of_quote special_of_exp)
      (by rw [htw]; simp) hpn

/-! ## one iteration -/

/-- the post-condition of one iteration -/
def PStep (r : RWState ⊕ RWState) : Prop :=
  match r with
  | .inl s => PInv s
  | .inr s => PInv s

/-- **one iteration of the loop of `_readtokenword`** keeps `PInv` -/
theorem sat_step_p (st : RWState) (h : PInv st) : Sat (readtokenwordStep st) PStep :=
  (sat_step_g (T := fun _ => True) (fun _ _ _ => Sat.trivial _) (fun _ _ _ => Sat.trivial _)
    st).weaken (fun r g => by cases r <;> exact pinv_grows h g) (fun _ h => h)

/-- the loop of `_readtokenword` -/
theorem sat_rtwLoop_p (fuel : Nat) (st : RWState) (h : PInv st) :
    Sat (M.loop "_readtokenword" readtokenwordStep fuel st) PInv := by
  refine Sat.loop (I := PInv) (R := PInv) True.intro (fun s hs => ?_) fuel st h
  refine (sat_step_p s hs).weaken ?_ (fun _ h => h)
  intro r hr
  cases r with
  | inl s' => exact hr
  | inr s' => exact hr

theorem pinv_init (c : Char) : PInv { c := some c, allDigit := isDigit c } :=
  ⟨fun _ => rfl, fun h => (by cases h)⟩

theorem plainOKB_of {st : RWState} (h : PInv st) : plainOKB st.tokenword = true := by
  unfold plainOKB
  cases hp : plainV st.tokenword with
  | false => rfl
  | true => simp [h.nb hp]

end Bashlex.C04.WB
