/-
  C04, word boundaries: definitions (all decidable; the same definitions are evaluated on
  the model in `WBValidate.lean`) over `peekC L i` (`TTGetc.lean`: what one `_getc()` delivers from
  cursor `i`), the three ways `exitB` comes about, and generic rules of the Hoare logic.

    brkAt L i       the character at `i` is a shell break character
    procSubAtB L i  `<` / `>` at `i`, then (after line continuations) `(`
    bndB L i        the cursor `i` is at a token boundary
    startsB L a     a word may start at `a`
    exitB L k       how the loop of `_readtokenword` is left at `k`
    endsB L k       a word may end at `k` (weaker than `exitB`)
-/
import Bashlex.Props.C04.TTGetc

namespace Bashlex.C04
open Bashlex Bashlex.Spec

def brkAt (L : Str) (i : Nat) : Bool := match L[i]? with | some c => isBreakChar c | none => false

/-- `<` / `>` at `i`, then (after continuations) `(` -/
def procSubAtB (L : Str) (i : Nat) : Bool :=
  (L[i]? == some '<' || L[i]? == some '>') && peekC L (i + 1) == some '('

/-- the cursor is at a token boundary: the start, the end, after a break character, after a `-`
    (DASH, `<<-`), on a break character that does not open a process substitution, or before the
    final continuation (D31 + D32) -/
def bndB (L : Str) (i : Nat) : Bool :=
  i == 0 || decide (L.length ≤ i) || brkAt L (i - 1) || L[i - 1]? == some '-' ||
  (brkAt L i && !procSubAtB L i) || L.drop i == ['\\', '\n']

/-- a word may start at `a`: the character before it is a break character, or a `-` -/
def startsB (L : Str) (a : Nat) : Bool := a == 0 || brkAt L (a - 1) || L[a - 1]? == some '-'

/-- how the loop of `_readtokenword` is left: at the end, on a break character that does not open
    a process substitution, or before the final continuation (D31 + D32) -/
def exitB (L : Str) (k : Nat) : Bool :=
  decide (L.length ≤ k) || (brkAt L k && !procSubAtB L k) || L.drop k == ['\\', '\n']

/-- a word may end at `k` -/
def endsB (L : Str) (k : Nat) : Bool :=
  decide (L.length ≤ k) || brkAt L k || L.drop k == ['\\', '\n']

theorem endsB_of_exitB {L : Str} {k : Nat} (h : exitB L k = true) : endsB L k = true := by
  unfold exitB at h
  unfold endsB
  simp only [Bool.or_eq_true, Bool.and_eq_true] at h ⊢
  rcases h with (h | h) | h
  · exact Or.inl (Or.inl h)
  · exact Or.inl (Or.inr h.1)
  · exact Or.inr h

theorem bndB_of_exitB {L : Str} {k : Nat} (h : exitB L k = true) : bndB L k = true := by
  unfold exitB at h
  unfold bndB
  simp only [Bool.or_eq_true, Bool.and_eq_true] at h ⊢
  rcases h with (h | h) | h
  · exact Or.inl (Or.inl (Or.inl (Or.inl (Or.inr h))))
  · exact Or.inl (Or.inr h)
  · exact Or.inr h

theorem bndB_zero (L : Str) : bndB L 0 = true := by unfold bndB; simp

theorem bndB_of_len {L : Str} {i : Nat} (h : L.length ≤ i) : bndB L i = true := by
  unfold bndB; simp [h]

theorem brkAt_of {L : Str} {i : Nat} {c : Char} (h : L[i]? = some c) (hc : (synClass c).brk = true) :
    brkAt L i = true := by
  unfold brkAt; rw [h]; exact hc

theorem bndB_of_prev {L : Str} {i : Nat} {c : Char} (h : L[i - 1]? = some c)
    (hc : (synClass c).brk = true ∨ c = '-') : bndB L i = true := by
  unfold bndB
  simp only [Bool.or_eq_true]
  rcases hc with hc | rfl
  · exact Or.inl (Or.inl (Or.inl (Or.inr (brkAt_of h hc))))
  · exact Or.inl (Or.inl (Or.inr (by rw [h]; rfl)))

end Bashlex.C04

namespace Bashlex.C04.WB
open Bashlex Bashlex.M Bashlex.C10 Bashlex.C11 Bashlex.C03.Tok Bashlex.C04 Bashlex.C04.TTP
set_option linter.unusedVariables false

/-! ## the three ways the loop of `_readtokenword` is left -/

section
variable {L : Str}

theorem exitB_brk {k : Nat} {c : Char} (h : L[k]? = some c) (hb : (synClass c).brk = true)
    (hp : (c ≠ '<' ∧ c ≠ '>') ∨ peekC L (k + 1) ≠ some '(') : exitB L k = true := by
  unfold exitB
  simp only [Bool.or_eq_true, Bool.and_eq_true, Bool.not_eq_true']
  refine Or.inl (Or.inr ⟨brkAt_of h hb, ?_⟩)
  unfold procSubAtB
  rw [h]
  rcases hp with ⟨h1, h2⟩ | hp
  · have e1 : (some c == some '<') = false := by simpa using h1
    have e2 : (some c == some '>') = false := by simpa using h2
    rw [e1, e2]; rfl
  · have : (peekC L (k + 1) == some '(') = false := by simpa using hp
    rw [this]; simp

theorem exitB_pair {k : Nat} (h : L.drop k = ['\\', '\n']) : exitB L k = true := by
  unfold exitB; rw [h]; simp

theorem exitB_len {k : Nat} (h : L.length ≤ k) : exitB L k = true := by
  unfold exitB; simp [h]

theorem nexp_ne {c : Char} (h : (synClass c).exp = false) : c ≠ '<' ∧ c ≠ '>' := by
  constructor <;> (rintro rfl; revert h; decide)

end

/-! ## generic rules -/

/-- every program satisfies the trivial post-condition -/
theorem HT.triv {α : Type} {P : Local → Env → Prop} {m : M α} :
    HT P m (fun _ _ _ => True) ET := by
  intro l e _
  rcases m.run l e with ⟨r, e'⟩
  cases r with
  | ok v => exact True.intro
  | error x => exact True.intro

/-- a pure fact of the pre-condition; the state is forgotten -/
theorem HT.forget {α : Type} {φ : Prop} {P : Local → Env → Prop} {m : M α}
    {Q : α → Local → Env → Prop} (h : φ → HT (fun _ _ => True) m Q ET) :
    HT (fun l e => φ ∧ P l e) m Q ET := by
  intro l e hp
  exact h hp.1 l e True.intro

/-- skip a computation whose result and effect do not matter -/
theorem HT.skip {α β : Type} {P : Local → Env → Prop} {m : M α} {f : α → M β}
    {Q : β → Local → Env → Prop} (hf : ∀ a, HT (fun _ _ => True) (f a) Q ET) :
    HT P (m >>= f) Q ET :=
  HT.bind (HT.triv (P := P)) hf

end Bashlex.C04.WB
