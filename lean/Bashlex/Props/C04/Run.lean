/-
  C04: the LR engine, one parser run at every nesting budget, `parse`.

  The pass over the engine is stated once, for any state invariant `I` and token fact `T` that
  `token()` and the semantic actions keep (`StateOK`) and any traversal / predicate `W` with its
  closure conditions: `hooks_prov`, `level_prov`.  C04 uses it at `I4` / `Tk` for `deepP` and
  `spineP`; `Props/C04Words.lean` at `I5` / `TkW` for `spineW`.
-/
import Bashlex.Proofs.ParseG
import Bashlex.Proofs.PError
import Bashlex.Props.C04.Tree
import Bashlex.Props.C04.ActionInv

namespace Bashlex.C04
open Bashlex Bashlex.M Bashlex.Node Bashlex.LR
set_option linter.unusedVariables false
set_option linter.unnecessarySimpa false


/-! ## the engine pass, for any state invariant `I`, token fact `T` and traversal/predicate `W` -/

/-- the state invariant: C11's `Good` (the tape holds the line, cursor inside) and an empty
    `_eol_ungetc_lookahead` slot -/
def I4 (g : C11.Ghost) (l : Local) (e : Env) : Prop := C11.Good g [] l e ∧ l.eolLookahead = none

/-- what the pass needs of the state invariant `I` and of the fact `T line t` known of the tokens
    delivered from states satisfying it: `T` is above `Tk`, `token()` and every semantic action
    keep `I` -/
structure StateOK (I : C11.Ghost → Local → Env → Prop) (T : Str → Token → Prop) : Prop where
  tk : ∀ {line t}, T line t → Tk line t
  next : ∀ {g src}, C11.WFG g → g.line = (Tape.ofInput src).line →
    C11.HT (I g) nextToken
      (fun t l e => I g l e ∧ C11.TokOK g t ∧ T (Tape.ofInput src).line t) (fun _ => True)
  act : ∀ {g d}, C11.NPOK g (fun _ => True) (C07.nestedOf d) → ∀ f args, C11.ArgsOK g args →
    C11.HT (I g) (action (C07.nestedOf d) f args)
      (fun r l e => I g l e ∧ C11.VI g r.1) (fun _ => True)

/-- the value invariant: C11's (tokens start inside the line), C12's sort of the grammar symbol,
    and the provenance of textual nodes / the token fact -/
def VIall (g : C11.Ghost) (W : Pred) (T : Token → Prop) (sym : Nat) (v : SVal) : Prop :=
  C11.VI g v ∧ C12.VI sym v ∧ GV W T v

theorem forall2_of_mem {VI : Nat → SVal → Prop} :
    ∀ (args : List (Nat × SVal)), (∀ x ∈ args, VI x.1 x.2) →
      Forall2 VI (args.map (·.1)) (args.map (·.2))
  | [], _ => .nil
  | x :: xs, h => .cons (h x List.mem_cons_self)
      (forall2_of_mem xs (fun y hy => h y (List.mem_cons_of_mem _ hy)))

theorem forall2_imp {α β} {R S : α → β → Prop} (hRS : ∀ a b, R a b → S a b) {l₁ : List α}
    {l₂ : List β} (h : Forall2 R l₁ l₂) : Forall2 S l₁ l₂ :=
  LR.forall2_imp hRS h

/-- a delivered token that has a string value has a type other than EOF -/
theorem tk_str {line : Str} {t : Token} (h : Tk line t) (v : Str) (hv : t.value = .str v) :
    ∃ ty, t.ttype = some ty ∧ ty ≠ .EOF := by
  obtain ⟨a, e, _, _, _, _, heof, hsome, _⟩ := h.1.str hv
  cases hty : t.ttype with
  | none => rw [hty] at hsome; cases hsome
  | some ty =>
    refine ⟨ty, rfl, ?_⟩
    rintro rfl
    simp [Token.is, hty] at heof

section hooks
variable {I : C11.Ghost → Local → Env → Prop} {T : Str → Token → Prop} {W : Pred}
  {g : C11.Ghost} {src : Str} {d : Nat}

/-- the hooks of the real parser keep, entry by entry along the LR stack, the conjunction of C11's
    value invariant, C12's sorts and the provenance invariant, and `I` of the state -/
theorem hooks_prov (S : StateOK I T) (hg : C11.WFG g) (hline : g.line = (Tape.ofInput src).line)
    (hC : Ctx W (T (Tape.ofInput src).line) (C07.nestedOf d))
    (hnp11 : C11.NPOK g (fun _ => True) (C07.nestedOf d)) :
    HooksOrd realTables (lrHooks (C07.nestedOf d))
      (SIpt (I g) fun x => VIall g W (T (Tape.ofInput src).line) x.1 x.2)
      (fun v _ _ => ∃ sym, VIall g W (T (Tape.ofInput src).line) sym v) (fun _ => True) := by
  have hnp12 : C12.NPOK (C07.nestedOf d) := by
    intro s b
    refine Sat.bind_any (fun _ => Sat.bind_any (fun _ => Sat.bind (C12.parserRun_ok C12.sat_nextToken d)
      (fun r hr => ?_)))
    exact Sat.bind_any (fun _ => Sat.bind_any (fun _ => Sat.pure hr))
  have h12 := C12.hooks_ok C12.sat_nextToken hnp12
  refine HooksOrdR.toOrd (HooksOrdR.pointwise (P := I g)
    (VI := fun x => VIall g W (T (Tape.ofInput src).line) x.1 x.2) ?_ ?_
    (fun x _ _ _ _ hv => ⟨x.1, hv⟩)) (fun la => Sat.trivial _)
  · -- the token source: `token()` from `I`, and C12's sort of the token (stateless)
    intro vs
    have a3 : M.SatS (lrHooks (C07.nestedOf d)).next (I g)
        (fun la l e => I g l e ∧ C11.VI g la.2 ∧ GV W (T (Tape.ofInput src).line) la.2)
        (fun _ => True) :=
      C11.HT.bind (S.next (src := src) hg hline) fun t => C11.HT.pure fun l e hp =>
        ⟨hp.1, fun t' ht' => by cases ht'; exact hp.2.1, hp.2.2⟩
    exact M.SatS.weaken (M.SatS.and a3 (M.SatS.of_sat h12.next _)) (fun _ _ h => h.1)
      (fun la l e h => ⟨h.1.1, h.1.2.1, h.2, h.1.2.2⟩) (fun _ h => h)
  · -- the actions: the state (`S.act`), C12's sort, the provenance (`sat_action`)
    intro p lhs rhs rest args la hp hargs hA
    have hf12 : Forall2 C12.VI rhs (args.map (·.2)) := by
      rw [← hargs]; exact forall2_imp (fun _ _ h => h.2.1) (forall2_of_mem args hA)
    have of_map : ∀ {P : SVal → Prop}, (∀ x ∈ args, P x.2) → ∀ a ∈ args.map (·.2), P a := by
      intro P h a ha
      obtain ⟨x, hx, rfl⟩ := List.mem_map.mp ha
      exact h x hx
    refine M.SatS.weaken (M.SatS.and (M.SatS.and
        (S.act hnp11 (Gen.prodFuncs.getD p "") _ (of_map fun x hx => (hA x hx).1))
        (M.SatS.of_sat (h12.act p lhs rhs _ hp hf12) _))
        (M.SatS.of_sat (sat_action hC (fun t ht => (S.tk ht).2) (fun t ht => tk_str (S.tk ht)) hp
          hf12 (of_map fun x hx => (hA x hx).2.2)) _))
      (fun _ _ h => h.1) ?_ (fun _ h => h)
    rintro r l e ⟨⟨a1, a2⟩, a3⟩
    have hall : VIall g W (T (Tape.ofInput src).line) lhs r.1 := ⟨a1.2, a2.1, a3⟩
    split
    · exact ⟨lhs, hall⟩
    · exact ⟨a1.1, hall⟩

/-- the engine keeps the state invariant on every normal return (C11's engine lemma) -/
theorem hooksOK_state (S : StateOK I T) (hg : C11.WFG g) (hline : g.line = (Tape.ofInput src).line)
    (hnp11 : C11.NPOK g (fun _ => True) (C07.nestedOf d)) :
    C11.HooksOK (I g) (lrHooks (C07.nestedOf d)) (C11.VI g) (fun _ => True) := by
  refine ⟨?_, ?_, ?_, fun _ => ⟨trivial, trivial⟩, trivial⟩
  · show C11.SatI (I g) (nextToken >>= fun t => pure (symOfTok t, SVal.tok t)) _ _
    refine C11.HT.bind (S.next (src := src) hg hline) (fun t => C11.HT.pure (fun l e hp => ⟨?_, hp.1⟩))
    intro t' ht'; cases ht'; exact hp.2.1
  · intro p args hargs
    exact C11.HT.post (S.act hnp11 _ args hargs) (fun r l e h => ⟨h.2, h.1⟩)
  · exact fun la _ => satS_onError (fun _ _ _ => trivial) trivial la

end hooks

/-! ## one parser run -/

/-- a node value of a sort of the grammar is a conformant tree -/
theorem treeOK_of_vi {sym : Nat} {n : Node} (h : C12.VI sym (.node n)) : C12.TreeOK n := by
  unfold C12.VI at h
  cases hσ : C12.sortOfSymbol sym with
  | none => rw [hσ] at h; cases h
  | tok ty => rw [hσ] at h; obtain ⟨t, ht, _⟩ := h; cases ht
  | node c => rw [hσ] at h; obtain ⟨n', hn', hin⟩ := h; cases hn'; exact hin.tree
  | optNode c =>
    rw [hσ] at h
    rcases h with h | ⟨n', hn', hin⟩
    · cases h
    · cases hn'; exact hin.tree
  | nodes k => rw [hσ] at h; obtain ⟨l, hl, _⟩ := h; cases hl

/-! From here on the triples are used through their rules only.  Left unfoldable, a triple over a
    concrete program (`C16.level ..`, `parserRun maxDepth`) makes every elaboration step that meets
    it in the goal or in a hypothesis slow. -/
section rules
attribute [local irreducible] C11.HT M.SatS

/-- **one level of `parserRun`** (the LR engine, then `resolve`), from a state satisfying `I`: the
    textual nodes of the returned tree (reached by `W`'s traversal) are `W`, and `I` holds again -/
theorem level_prov {I : C11.Ghost → Local → Env → Prop} {T : Str → Token → Prop} {W : Pred}
    {g : C11.Ghost} {src : Str} {d : Nat} (S : StateOK I T) (hg : C11.WFG g)
    (hline : g.line = (Tape.ofInput src).line)
    (hC : Ctx W (T (Tape.ofInput src).line) (C07.nestedOf d)) (hR : ResolveOK W)
    (hnp11 : C11.NPOK g (fun _ => True) (C07.nestedOf d)) :
    C11.HT (I g) (C16.level (C07.nestedOf d))
      (fun r l e => (∀ n, r = some n → G W n) ∧ I g l e) (fun _ => True) := by
  have hrun := M.SatS.and
    ((run_sound_ord real_WF (lrHooks (C07.nestedOf d)) (hooks_prov S hg hline hC hnp11)
      1073741824).weaken (P' := I g) (F := fun _ => True)
      (fun _ _ hI => ⟨hI, fun _ h => (by cases h), fun _ h => (by cases h)⟩) (fun _ _ _ h => h)
      (fun _ _ => trivial))
    (M.SatS.post (C11.SatI_iff_satS.mp (C11.run_ok realTables (lrHooks (C07.nestedOf d))
      (hooksOK_state (src := src) S hg hline hnp11) 1073741824)) fun _ _ _ h => h.2)
  refine C11.HT_iff_satS.mpr (M.SatS.level hrun ?_ fun _ _ _ h => ⟨nofun, h.2⟩)
  rintro n a b c l e ⟨⟨sym, _, h12, h4⟩, hI⟩
  refine ⟨fun m hm => ?_, hI⟩
  cases hm
  exact G_resolve hR _ n h4 (hidT_of_treeOK (treeOK_of_vi h12))

end rules

/-! ## C04's instance: `I4`, `Tk`, and the two provenance predicates -/

section
variable {g : C11.Ghost} {src : Str} {d : Nat}

/-- the nested parser runs on a parser object of its own: the caller's slot is untouched -/
theorem keepsEol_nestedOf (d : Nat) (s : Str) (b : Bool) : C10.KeepsEol (C07.nestedOf d s b) := by
  unfold C07.nestedOf
  refine KeepsEol.get_bind (fun outer ho => ?_)
  refine C10.EndsEol.keeps ?_
  refine C10.EndsEol.bind_right (fun _ => C10.EndsEol.bind_right (fun r =>
    C10.EndsEol.bind_right (fun inner => ?_)))
  exact endsEol_set_bind ho (C10.KeepsEol.pure _)

/-- what `token()` delivers from a state satisfying the invariant -/
theorem next_C04 (hT : TokText) (hg : C11.WFG g) (hline : g.line = (Tape.ofInput src).line) :
    C11.HT (I4 g) nextToken
      (fun t l e => I4 g l e ∧ C11.TokOK g t ∧ Tk (Tape.ofInput src).line t) (fun _ => True) := by
  intro l e hI
  have a1 := C11.nextToken_good (g := g) l e hI.1
  have a2 := hT.next g hg l e hI
  have a3 := C12.sat_nextToken l e
  rcases hr : nextToken.run l e with ⟨r, e'⟩
  rw [hr] at a1 a2 a3
  cases r with
  | error x => trivial
  | ok v =>
    obtain ⟨t, l'⟩ := v
    simp only [] at a1 a2 a3 ⊢
    refine ⟨⟨a1.2, a2.2⟩, ⟨a1.1, a2.1.tl⟩, ?_, a3⟩
    rw [← hline]; exact a2.1

/-- what a semantic action does to the state, given C11's facts about its arguments -/
theorem act_state (hT : TokText) (hnp11 : C11.NPOK g (fun _ => True) (C07.nestedOf d))
    (f : String) (args : List SVal) (hv11 : C11.ArgsOK g args) :
    C11.HT (I4 g) (action (C07.nestedOf d) f args)
      (fun r l e => I4 g l e ∧ C11.VI g r.1) (fun _ => True) := by
  intro l e hI
  have a1 := C11.g_action hnp11 f args hv11 l e hI.1
  have a2 := keepsEol_action (keepsEol_nestedOf d) hT.gather f args l e
  rcases hr : (action (C07.nestedOf d) f args).run l e with ⟨r, e'⟩
  rw [hr] at a1
  cases r with
  | error x => trivial
  | ok v =>
    obtain ⟨r, l'⟩ := v
    exact ⟨⟨a1.2, a2 r l' e' hI.2 hr⟩, a1.1⟩

theorem stateOK4 (hT : TokText) : StateOK I4 Tk :=
  ⟨fun h => h, next_C04 hT, act_state hT⟩

end

theorem nestedStart_eq (outer : Local) (body : Str) (dp : Bool) :
    C07.nestedStart outer body dp = C16.nestedInit outer body dp := rfl

/-- the nested-parse function seen from the calling parser (C11's `NPOK`), from a run that keeps
    `Good` from every start state satisfying the invariant -/
theorem npok_of_run {d : Nat}
    (hin : ∀ g', C11.WFG g' →
      C11.HT (I4 g') (parserRun d) (fun _ l e => C11.Good g' [] l e) (fun _ => True))
    (g : C11.Ghost) : C11.NPOK g (fun _ => True) (C07.nestedOf d) := by
  intro s b l e hgood
  have hrw : M.run (C07.nestedOf d s b) l e =
      match M.run (parserRun d) (C16.nestedInit l s b) e with
      | (.ok (r, l'), e') => (.ok (r, { l with ps := l'.ps }), e')
      | (.error x, e') => (.error x, e') := C03.npOf_run (parserRun d) s b l e
  rw [hrw]
  have hwf : C11.WFG (C11.nestedGhost s e) := ⟨s, rfl, rfl⟩
  have h := hin (C11.nestedGhost s e) hwf (C16.nestedInit l s b) e
    ⟨C11.good_nested l s b e, rfl⟩
  rcases hr : M.run (parserRun d) (C16.nestedInit l s b) e with ⟨r, e'⟩
  rw [hr] at h
  cases r with
  | error x => exact Or.inr trivial
  | ok v =>
    obtain ⟨r, l'⟩ := v
    obtain ⟨⟨⟨hfr, hstrict⟩, _, _⟩, _⟩ := h
    have htape : e'.tape = e.tape := hfr.2
    have hst : e'.strict = e.strict := hstrict
    exact ⟨True.intro, C11.Good.env (l := { l with ps := l'.ps }) hgood htape hst⟩

section rules
attribute [local irreducible] C11.HT M.SatS

/-- **every parser run, at every nesting budget**: from a `Good` state of a parser object over
    the source `src` with an empty look-ahead slot, every textual node of the returned tree — at
    any depth — has its provenance (`Tree4`), the nodes outside words in the root frame
    (`Spine4`); the state stays `Good` -/
theorem parserRun_C04 (hT : TokText) : ∀ d src g, C11.WFG g → g.line = (Tape.ofInput src).line →
    C11.HT (I4 g) (parserRun d)
      (fun r l e => (∀ n, r = some n → Tree4 src 0 n ∧ Spine4 (Tape.ofInput src).line 0 n) ∧
        C11.Good g [] l e)
      (fun _ => True) := by
  refine parserRun_ind (J := fun _ m => ∀ src g, C11.WFG g → g.line = (Tape.ofInput src).line →
    C11.HT (I4 g) m (fun r l e => (∀ n, r = some n → Tree4 src 0 n ∧
      Spine4 (Tape.ofInput src).line 0 n) ∧ C11.Good g [] l e) (fun _ => True))
    (fun _ _ _ _ => C11.HT.raise trivial) fun d ih src g hg hline => ?_
  have ih' : ∀ body dp n, C07.RNested d body dp n → Tree4 body 0 n := by
    rintro body dp n ⟨outer, e, l', e', hrun⟩
    have hwf : C11.WFG (C11.nestedGhost body e) := ⟨body, rfl, rfl⟩
    have := ih body (C11.nestedGhost body e) hwf rfl
    rw [nestedStart_eq] at hrun
    exact ((C11.HT.ok this ⟨C11.good_nested outer body dp e, rfl⟩ hrun).1 n rfl).1
  have hnp11 : C11.NPOK g (fun _ => True) (C07.nestedOf d) := by
    refine npok_of_run (fun g' hg' => ?_) g
    obtain ⟨s', hl', _⟩ := hg'
    exact C11.HT.post (ih s' g' ⟨s', hl', by assumption⟩ hl') (fun _ _ _ h => h.2)
  exact C11.HT.post (C11.HT_iff_satS.mpr (M.SatS.and
    (C11.HT_iff_satS.mp
      (level_prov (stateOK4 hT) hg hline (ctx_C04 src d ih') (resolveOK_deep src 0) hnp11))
    (C11.HT_iff_satS.mp
      (level_prov (stateOK4 hT) hg hline (ctx_spine _ d) (resolveOK_spine _ 0) hnp11))))
    fun r l e h => ⟨fun n hn => ⟨h.1.1 n hn, h.2.1 n hn⟩, h.1.2.1⟩

/-! ## the entry points -/

theorem runParser_C04 (hT : TokText) {s : Str} {o : Opts} {t : List Char} {n : Node}
    (h : (runParser s o t).1 = .ok (some n)) : Tree4 s 0 n ∧ Spine4 (Tape.ofInput s).line 0 n :=
  runParser_sat_ok (M.SatS.post (C11.HT_iff_satS.mp
      (parserRun_C04 hT maxDepth s (C11.topGhost s o) (C11.topGhost_wf s o) rfl))
    fun _ _ _ h => h.1) ⟨C11.good_top s o t, rfl⟩ h n rfl

end rules

/-- the provenance of a top-level part of `parse s`: it was found by a parser run over the suffix
    `s.drop index` and moved by `index` -/
def PartOK (s : Str) (n : Node) : Prop :=
  ∃ index, index ≤ s.length ∧ Tree4 (s.drop index) index n ∧
    Spine4 (Tape.ofInput (s.drop index)).line index n

/-- **provenance for `parse`** (all inputs, all options, under `TokText`) -/
theorem parse_C04 (hT : TokText) (s : Str) (o : Opts) (parts : List Node)
    (h : (parse s o).1 = .parts parts) : ∀ n ∈ parts, PartOK s n :=
  parse_parts (PartOK s) s o
    (fun index t p hi hp => by
      have h := runParser_C04 hT (s := s.drop index) (n := p) hp
      exact ⟨index, hi, by simpa using h.1.shift index,
        by simpa using h.2.shift index⟩)
    parts h

theorem parsesingle_C04 (hT : TokText) (s : Str) (o : Opts) (n : Node)
    (h : (parsesingle s o).1 = .single (some n)) :
    Tree4 s 0 n ∧ Spine4 (Tape.ofInput s).line 0 n :=
  runParser_C04 hT (parsesingle_result h)

end Bashlex.C04
