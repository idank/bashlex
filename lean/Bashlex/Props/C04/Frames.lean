/-
  C04: the concrete provenance predicate.

  A parser run over the source `src` reads the line `(Tape.ofInput src).line`; the nodes it builds
  from its own tokens live in the *root frame*.  A substitution inside a word token `tok` is
  parsed by a nested parser over a piece `body` of the token's VALUE (`IsBody`), whose nodes are
  shifted to `tok.lexpos + k`: they live in a *nested frame* (`Src.sub`), and so on.  `Frame.cont`
  records whether, on the way down, some enclosing word's value is not a prefix of the text the
  word spans (a line continuation inside the word, D10): then offsets below are offsets into the
  value, not into the source.

  `LeafOK line j m`: the textual node `m` was built from tokens delivered on `line` (`Tk`), its
  span being the tokens' span moved by `j`:
    * reserved word / operator / pipe: one token of a reserved type, span and value
      (or, D19, the `!` of a pipeline built from a `timespec`, at `(j, j)`);
    * redirect: `first` (file-descriptor NUMBER or the operator), `op`, `out`; `type` is the
      operator's value; the output word sits at `out`'s span; unless it is a here-document
      redirect (whose `pos` is read back from the redirect store after `makeheredoc`), the span
      runs from the start of `first` to the end of `out`;
    * word / assignment: the token's span, and C07's `PartsOK` for the parts with respect to the
      VALUE of that same token (substitution parts at explicit offsets into the value).
  `NodeOK src J m`: `m` is `LeafOK` in some frame of `src`, everything moved by `J`.
-/
import Bashlex.Props.C04.Engine
import Bashlex.Props.C04.TokText
import Bashlex.Props.C13.Shift

namespace Bashlex.C04
open Bashlex Bashlex.M Bashlex.Node Bashlex.Spec
set_option linter.unusedVariables false

/-- what is known of a token delivered on `line` -/
def Tk (line : Str) (t : Token) : Prop := TT line t ∧ C12.TokWF t

/-- a leaf built from one token of a reserved type -/
def FromTok (line : Str) (j : Nat) (p : Span) (w : Str) : Prop :=
  ∃ tok, Tk line tok ∧ Reserved tok ∧ tok.value = .str w ∧ p = (tok.lexpos + j, tok.endlexpos + j)

def hereTy (ty : Str) : Prop := ty = ['<', '<'] ∨ ty = ['<', '<', '-']

def LeafOK (line : Str) (j : Nat) : Node → Prop
  | .reservedword p w => FromTok line j p w ∨ (p = (j, j) ∧ w = ['!'])
  | .operator p w => FromTok line j p w
  | .pipe p w => FromTok line j p w
  | .redirect p inp ty o oa _ hid =>
    ∃ first op out, Tk line first ∧ Tk line op ∧ Tk line out ∧ ty = op.valueStr ∧
      ((first = op ∧ inp = .none) ∨ inp = redirIn first.value) ∧
      (match o with
       | some w => w.pos = (out.lexpos + j, out.endlexpos + j) ∧ oa = .none
       | none => oa = redirIn out.value) ∧
      (hid = none → ¬ hereTy ty → p = (first.lexpos + j, out.endlexpos + j))
  | .word p _ ps => ∃ tok, Tk line tok ∧ p = (tok.lexpos + j, tok.endlexpos + j) ∧
      ∃ d, C07.PartsOK (C07.RNested d) tok.valueStr (C07.qOf tok) p.1 p.2 ps
  | .assignment p _ ps => ∃ tok, Tk line tok ∧ p = (tok.lexpos + j, tok.endlexpos + j) ∧
      ∃ d, C07.PartsOK (C07.RNested d) tok.valueStr (C07.qOf tok) p.1 p.2 ps
  | _ => True

/-- the text a nested parser runs over: a piece of the token value `v`, at offset `k` -/
def IsBody (v body : Str) (k : Nat) : Prop := ∃ rest, v.drop k = body ++ rest

/-- the value of `tok` is a prefix of the text it spans -/
def faithful (line : Str) (tok : Token) : Bool :=
  tok.valueStr.isPrefixOf (Str.slice line tok.lexpos tok.endlexpos)

structure Frame where
  /-- the tokenizer's line of the parser run -/
  line : Str
  /-- where the run's input starts, in the coordinates of the outermost run -/
  off : Nat
  /-- where it ends (`off` + length of the run's input) -/
  lim : Nat
  /-- some enclosing word's value is not a prefix of its source text -/
  cont : Bool
  nested : Bool

/-- the frames of a parser run over `src` -/
inductive Src (src : Str) : Frame → Prop
  | root : Src src ⟨(Tape.ofInput src).line, 0, src.length, false, false⟩
  | sub {fr fr' : Frame} {tok : Token} {body : Str} {k : Nat} : Src src fr → Tk fr.line tok →
      IsBody tok.valueStr body k → tok.valueStr ≠ ['\n'] →
      fr'.line = (Tape.ofInput body).line → fr'.off = fr.off + tok.lexpos + k →
      fr'.lim = fr.off + tok.lexpos + k + body.length →
      fr'.cont = (fr.cont || !faithful fr.line tok) → fr'.nested = true → Src src fr'

/-- the node ends at or before `lim` (not claimed for a here-document redirect, whose `pos` is
    rewritten by `makeheredoc`) -/
def EndsBy (lim : Nat) : Node → Prop
  | .redirect p _ ty _ _ _ _ => hereTy ty ∨ p.2 ≤ lim
  | m => m.pos.2 ≤ lim

theorem endsBy_of_le {lim : Nat} {m : Node} (h : m.pos.2 ≤ lim) : EndsBy lim m := by
  cases m <;> first | exact Or.inr h | exact h

theorem EndsBy.shift {lim : Nat} {m : Node} (h : EndsBy lim m) (k : Nat) :
    EndsBy (lim + k) (m.shift k) := by
  cases m with
  | redirect p i t o oa hd hid =>
    simp only [Node.shift, Node.mapPos, EndsBy] at h ⊢
    rcases h with h | h
    · exact Or.inl h
    · exact Or.inr (by omega)
  | _ =>
    simp only [Node.shift, Node.mapPos, EndsBy, Node.pos] at h ⊢
    omega

def NodeOK (src : Str) (J : Nat) (m : Node) : Prop :=
  ∃ fr, Src src fr ∧ LeafOK fr.line (fr.off + J) m ∧ (fr.nested = true → EndsBy (fr.lim + J) m)

/-- all nodes (pre-order): provenance in some frame -/
def deepP (src : Str) (J : Nat) : Pred := ⟨true, NodeOK src J⟩
/-- the spine (words are leaves): provenance in the root frame, i.e. from tokens of the running
    parser itself, delivered on `line` -/
def spineP (line : Str) (J : Nat) : Pred := ⟨false, LeafOK line J⟩

/-- the provenance invariant of a tree built by a parser run over `src` -/
abbrev Tree4 (src : Str) (J : Nat) (n : Node) : Prop := G (deepP src J) n
/-- the same for the nodes the running parser built itself -/
abbrev Spine4 (line : Str) (J : Nat) (n : Node) : Prop := G (spineP line J) n

/-! ## moving nodes -/

theorem LeafOK.shift {line : Str} {j : Nat} {m : Node} (h : LeafOK line j m) (k : Nat) :
    LeafOK line (j + k) (m.shift k) := by
  cases m with
  | reservedword p w =>
    simp only [Node.shift, Node.mapPos, LeafOK] at h ⊢
    rcases h with ⟨tok, h1, h2, h3, rfl⟩ | ⟨rfl, rfl⟩
    · exact Or.inl ⟨tok, h1, h2, h3, by simp [Nat.add_assoc]⟩
    · exact Or.inr ⟨rfl, rfl⟩
  | operator p w =>
    simp only [Node.shift, Node.mapPos, LeafOK] at h ⊢
    obtain ⟨tok, h1, h2, h3, rfl⟩ := h
    exact ⟨tok, h1, h2, h3, by simp [Nat.add_assoc]⟩
  | pipe p w =>
    simp only [Node.shift, Node.mapPos, LeafOK] at h ⊢
    obtain ⟨tok, h1, h2, h3, rfl⟩ := h
    exact ⟨tok, h1, h2, h3, by simp [Nat.add_assoc]⟩
  | redirect p inp ty o oa hd hid =>
    simp only [Node.shift, Node.mapPos, LeafOK] at h ⊢
    obtain ⟨first, op, out, h1, h2, h3, h4, h5, h6, h7⟩ := h
    refine ⟨first, op, out, h1, h2, h3, h4, h5, ?_, ?_⟩
    · cases o with
      | none => simpa [Node.mapPosO] using h6
      | some w =>
        simp only [Node.mapPosO] at h6 ⊢
        refine ⟨?_, h6.2⟩
        rw [Node.pos_mapPos, h6.1]
        simp [Nat.add_assoc]
    · intro hh ht
      rw [h7 hh ht]
      simp [Nat.add_assoc]
  | word p w ps =>
    simp only [Node.shift, Node.mapPos, LeafOK] at h ⊢
    obtain ⟨tok, h1, rfl, d, hp⟩ := h
    refine ⟨tok, h1, by simp [Nat.add_assoc], d, ?_⟩
    rw [Node.mapPosL_eq_map]
    exact hp.shift k
  | assignment p w ps =>
    simp only [Node.shift, Node.mapPos, LeafOK] at h ⊢
    obtain ⟨tok, h1, rfl, d, hp⟩ := h
    refine ⟨tok, h1, by simp [Nat.add_assoc], d, ?_⟩
    rw [Node.mapPosL_eq_map]
    exact hp.shift k
  | _ => simp [Node.shift, Node.mapPos, LeafOK]

theorem NodeOK.shift {src : Str} {J : Nat} {m : Node} (h : NodeOK src J m) (k : Nat) :
    NodeOK src (J + k) (m.shift k) := by
  obtain ⟨fr, hs, hl, hb⟩ := h
  refine ⟨fr, hs, ?_, ?_⟩
  · have := hl.shift k
    simpa [Nat.add_assoc] using this
  · intro hn
    have := (hb hn).shift k
    simpa [Nat.add_assoc] using this

theorem isTextual_shift (j : Nat) (w : Node) : isTextual (w.shift j) = isTextual w := by
  cases w <;> simp [Node.shift, Node.mapPos, isTextual]

theorem kidsOf_mapPos (deep : Bool) (f : Span → Span) (n : Node) :
    kidsOf deep (mapPos f n) = (kidsOf deep n).map (mapPos f) := by
  cases n with
  | word _ _ ps | assignment _ _ ps => cases deep <;> simp [kidsOf, mapPos, Node.mapPosL_eq]
  | _ => simp only [mapPos, kidsOf]; rw [← Node.children_mapPos]; simp only [mapPos]

/-- both traversals commute with re-spanning -/
theorem nodesOf_mapPos (deep : Bool) (f : Span → Span) (n : Node) :
    nodesOf deep (mapPos f n) = (nodesOf deep n).map (mapPos f) := by
  induction n using Node.children_induction with
  | hP n ih =>
    rw [nodesOf_eq, kidsOf_mapPos, nodesOf_eq deep n, nodesOfL_eq, nodesOfL_eq, List.map_cons,
      List.flatMap_map, List.map_flatMap]
    exact congrArg _ (Node.flatMap_congr fun c hc => ih c (kidsOf_sub hc))

theorem spineL_mapPos_eq (f : Span → Span) : ∀ l : List Node,
    spineL (mapPosL f l) = (spineL l).map (mapPos f) := by
  intro l
  have h := nodesOf_mapPos false f
  simp only [nodesOf, Bool.false_eq_true, if_false] at h
  simp [spineL_eq, Node.mapPosL_eq, List.flatMap_map, List.map_flatMap, h]

theorem spineO_mapPos_eq (f : Span → Span) : ∀ o : Option Node,
    spineO (mapPosO f o) = (spineO o).map (mapPos f) := by
  intro o
  cases o with
  | none => rfl
  | some n => exact nodesOf_mapPos false f n

theorem G_shift {W W' : Pred} {j : Nat} (hd : W'.deep = W.deep)
    (hW : ∀ w, W w → W' (Node.shift j w)) {n : Node} (hn : G W n) : G W' (n.shift j) := by
  intro w hw hww
  rw [hd, Node.shift, nodesOf_mapPos] at hw
  obtain ⟨w0, hw0, rfl⟩ := List.mem_map.mp hw
  have hww' : isTextual w0 = true := by
    have := isTextual_shift j w0
    rw [Node.shift] at this; rw [← this]; exact hww
  exact hW w0 (hn w0 hw0 hww')

theorem Tree4.shift {src : Str} {J : Nat} {n : Node} (h : Tree4 src J n) (k : Nat) :
    Tree4 src (J + k) (n.shift k) :=
  G_shift (W := deepP src J) (W' := deepP src (J + k)) rfl (fun w hw => NodeOK.shift hw k) h

theorem Spine4.shift {line : Str} {J : Nat} {n : Node} (h : Spine4 line J n) (k : Nat) :
    Spine4 line (J + k) (n.shift k) :=
  G_shift (W := spineP line J) (W' := spineP line (J + k)) rfl (fun w hw => LeafOK.shift hw k) h

/-! ## composing frames -/

/-- a frame of a run over `body`, seen from the run over `src` one of whose word tokens holds
    `body` (frame `frA` of `src`) -/
theorem Src.trans {src body : Str} {frA : Frame} (hA : Src src frA)
    (hline : frA.line = (Tape.ofInput body).line) (hlim : frA.lim = frA.off + body.length)
    (hnest : frA.nested = true) {fr : Frame} (h : Src body fr) :
    ∃ fr', Src src fr' ∧ fr'.line = fr.line ∧ fr'.off = fr.off + frA.off ∧
      fr'.lim = fr.lim + frA.off ∧ fr'.nested = true := by
  induction h with
  | root =>
    refine ⟨frA, hA, hline, by simp, ?_, hnest⟩
    rw [hlim]; simp only []; omega
  | @sub fr0 fr1 tok b k h0 hT hB hne e1 e2 e3 e4 e5 ih =>
    obtain ⟨fr0', hs0, l0, o0, m0, n0⟩ := ih
    refine ⟨⟨fr1.line, fr1.off + frA.off, fr1.lim + frA.off,
      (fr0'.cont || !faithful fr0'.line tok), true⟩, ?_, rfl, rfl, rfl, rfl⟩
    refine Src.sub hs0 (by rw [l0]; exact hT) hB hne e1 ?_ ?_ ?_ rfl
    · simp only []; rw [e2, o0]; omega
    · simp only []; rw [e3, o0]; omega
    · simp only []

/-- a node of the tree a nested parser returned for the piece `body` of the value of the word
    token `tok` of the run over `src`, moved to its place -/
theorem NodeOK.sub {src body : Str} {tok : Token} {k : Nat}
    (hT : Tk (Tape.ofInput src).line tok) (hB : IsBody tok.valueStr body k)
    (hne : tok.valueStr ≠ ['\n']) {m : Node} (h : NodeOK body 0 m) (hfit : m.pos.2 ≤ body.length) :
    NodeOK src 0 (m.shift (tok.lexpos + k)) := by
  obtain ⟨fr, hs, hl, hb⟩ := h
  let frA : Frame := ⟨(Tape.ofInput body).line, 0 + tok.lexpos + k, 0 + tok.lexpos + k + body.length,
    (false || !faithful (Tape.ofInput src).line tok), true⟩
  have hA : Src src frA := Src.sub Src.root hT hB hne rfl rfl rfl rfl rfl
  obtain ⟨fr', hs', l', o', m', n'⟩ := Src.trans hA rfl (by simp [frA]) rfl hs
  refine ⟨fr', hs', ?_, ?_⟩
  · have := hl.shift (tok.lexpos + k)
    rw [l', o']
    simp only [frA, Nat.add_zero, Nat.zero_add] at this ⊢
    exact this
  · intro _
    rw [m']
    simp only [frA, Nat.add_zero, Nat.zero_add]
    cases hn : fr.nested with
    | true =>
      have := (hb hn).shift (tok.lexpos + k)
      simpa using this
    | false =>
      -- the root frame of the nested run: its limit is the length of the body
      cases hs with
      | root =>
        have := (endsBy_of_le hfit).shift (tok.lexpos + k)
        simpa using this
      | sub _ _ _ _ _ _ _ _ e5 => rw [e5] at hn; cases hn

end Bashlex.C04
