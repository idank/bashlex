/-
  C04, token text: the residues.  What the text between a position and the cursor looks
  like after `_ungetc` moved the cursor back into a run of backslash-newline pairs that `_getc`
  had skipped (D31: at the end of the line; D32: the second `_ungetc`).
-/
import Bashlex.Props.C04.TTTape

namespace Bashlex.C04.TTP
open Bashlex Bashlex.M Bashlex.C10 Bashlex.C11 Bashlex.C03.Tok Bashlex.C04

/-! ## membership in `residues` -/

theorem res_nil (b : Bool) (L : Str) (e : Nat) : [] ∈ residues b L e := by
  unfold residues; simp

theorem res_d31 {b : Bool} {L : Str} {e : Nat} (h : L.drop e = ['\n']) :
    ['\\'] ∈ residues b L e := by
  unfold residues
  rw [h]
  simp

theorem res_d32 {L : Str} {e : Nat} {c : Char} (h : L[e]? = some '\n') (hc : c = '<' ∨ c = '>') :
    [c, '\\'] ∈ residues true L e := by
  unfold residues
  rw [h]
  rcases hc with rfl | rfl <;> simp

theorem res_d3132 {L : Str} {e : Nat} {c : Char} (h : L.drop e = ['\\', '\n'])
    (hc : c = '<' ∨ c = '>') : [c] ∈ residues true L e := by
  unfold residues
  rw [h]
  rcases hc with rfl | rfl <;> simp

theorem residues_mono {b : Bool} {L : Str} {e : Nat} {r : Str} (h : r ∈ residues false L e) :
    r ∈ residues b L e := by
  unfold residues at h ⊢
  simp only [Bool.false_and, Bool.false_eq_true, if_false, List.append_nil, List.mem_append] at h
  simp only [List.mem_append]
  rcases h with h | h
  · exact Or.inl (Or.inl (Or.inl h))
  · exact Or.inl (Or.inl (Or.inr h))

theorem res_noNL {b : Bool} {L : Str} {e : Nat} {r : Str} (h : r ∈ residues b L e) :
    r.contains '\n' = false :=
  residues_noNL h

/-! ## runs of pairs -/

/-- a non-empty run of pairs ends in a pair -/
theorem del_nil_snoc : ∀ {s : Str}, Del s [] → s ≠ [] → ∃ s', s = s' ++ ['\\', '\n'] ∧ Del s' []
  | _, .skip (s := s) h, _ => by
    by_cases hs : s = []
    · subst hs; exact ⟨[], rfl, .nil⟩
    · obtain ⟨s', e1, e2⟩ := del_nil_snoc h hs
      exact ⟨'\\' :: '\n' :: s', by rw [e1]; rfl, .skip e2⟩

theorem drop_last_one {L : Str} {k : Nat} (h : L[k]? = some '\n') (hk : k + 1 = L.length) :
    L.drop k = ['\n'] := by
  have hlt : k < L.length := by omega
  rw [List.drop_eq_getElem_cons hlt]
  have := (List.getElem?_eq_some_iff.mp h).2
  rw [this, List.drop_eq_nil_of_le (by omega)]

theorem drop_last_two {L : Str} {k : Nat} (h1 : L[k]? = some '\\') (h2 : L[k + 1]? = some '\n')
    (hk : k + 2 = L.length) : L.drop k = ['\\', '\n'] := by
  have hlt : k < L.length := by omega
  rw [List.drop_eq_getElem_cons hlt]
  have := (List.getElem?_eq_some_iff.mp h1).2
  rw [this, drop_last_one h2 (by omega)]

/-- moving back into a non-empty run of pairs `L[i:k]` -/
theorem pairs_back {L : Str} {i k : Nat} (h : Del (Str.slice L i k) []) (hik : i < k)
    (hk : k ≤ L.length) :
    i + 2 ≤ k ∧ L[k - 1]? = some '\n' ∧ L[k - 2]? = some '\\' ∧
      Del (Str.slice L i (k - 1)) ['\\'] ∧ Del (Str.slice L i (k - 2)) [] := by
  have hlen := slice_length L (a := i) hk
  have hne : Str.slice L i k ≠ [] := by
    intro h0; rw [h0] at hlen; simp at hlen; omega
  obtain ⟨s', e1, e2⟩ := del_nil_snoc h hne
  have hl' : s'.length + 2 = k - i := by
    rw [← hlen, e1]; simp
  have hk2 : i + 2 ≤ k := by omega
  -- the two last characters
  have hx : (k - 2) < L.length := by omega
  have hy : (k - 1) < L.length := by omega
  have gx : L[k - 2]? = some L[k - 2] := List.getElem?_eq_getElem hx
  have gy : L[k - 1]? = some L[k - 1] := List.getElem?_eq_getElem hy
  have s1 : Str.slice L i (k - 1) = Str.slice L i (k - 2) ++ [L[k - 2]] := by
    have := slice_snoc L gx (a := i) (by omega)
    have e : k - 2 + 1 = k - 1 := by omega
    rwa [e] at this
  have s2 : Str.slice L i k = Str.slice L i (k - 1) ++ [L[k - 1]] := by
    have := slice_snoc L gy (a := i) (by omega)
    have e : k - 1 + 1 = k := by omega
    rwa [e] at this
  have s3 : Str.slice L i (k - 2) ++ [L[k - 2], L[k - 1]] = s' ++ ['\\', '\n'] := by
    rw [← e1, s2, s1]; simp
  have hl2 : (Str.slice L i (k - 2)).length = s'.length := by
    rw [slice_length L (by omega)]; omega
  obtain ⟨q1, q2⟩ := List.append_inj s3 hl2
  simp only [List.cons.injEq, and_true] at q2
  refine ⟨hk2, by rw [gy, q2.2], by rw [gx, q2.1], ?_, by rw [q1]; exact e2⟩
  rw [s1, q1, q2.1]
  exact e2.snoc '\\'

/-! ## the cursor after `_getc` … `_ungetc` -/

/-- what `_ungetc` leaves after a `_getc` from `i < |L|` (the character before `i` is not the
    last one): the cursor `j - 1` is inside the line, the text `L[i:j-1]` is a run of pairs — or,
    when `_getc` ran into the end of the line (D31), a run of pairs and the backslash of the last
    pair, the rest of the line being its newline -/
theorem back1 {L : Str} {rqn : Bool} {i j : Nat} {x : Option Char} (hg : GetcR rqn L i j x)
    (hi : i < L.length) :
    0 < j ∧ i ≤ j - 1 ∧ j - 1 < L.length ∧
      ((∃ p, x = some p ∧ L[j - 1]? = some p ∧ Del (Str.slice L i (j - 1)) []) ∨
       (x = none ∧ j = L.length ∧ L.drop (j - 1) = ['\n'] ∧ Del (Str.slice L i (j - 1)) ['\\'])) := by
  cases x with
  | some p =>
    obtain ⟨h1, h2, h3⟩ := hg.char p rfl
    have hlt : j - 1 < L.length := (List.getElem?_eq_some_iff.mp h2).1
    exact ⟨by omega, by omega, hlt, Or.inl ⟨p, rfl, h2, h3⟩⟩
  | none =>
    obtain ⟨h1, h2⟩ := hg.atEnd rfl
    obtain ⟨b1, b2, b3, b4, b5⟩ := pairs_back h2 (by omega) (by omega)
    refine ⟨by omega, by omega, by omega, Or.inr ⟨rfl, h1, ?_, b4⟩⟩
    exact drop_last_one b2 (by omega)

/-- the residue form of `back1` -/
theorem back1_res {L : Str} {rqn : Bool} {i j : Nat} {x : Option Char} (hg : GetcR rqn L i j x)
    (hi : i < L.length) :
    0 < j ∧ i ≤ j - 1 ∧ j - 1 < L.length ∧
      ∃ r ∈ residues false L (j - 1), Del (Str.slice L i (j - 1)) r ∧ r.length ≤ 1 := by
  obtain ⟨h1, h2, h3, h4⟩ := back1 hg hi
  refine ⟨h1, h2, h3, ?_⟩
  rcases h4 with ⟨p, _, _, hd⟩ | ⟨_, _, hdrop, hd⟩
  · exact ⟨[], res_nil _ _ _, hd, by simp⟩
  · exact ⟨['\\'], res_d31 hdrop, hd, by simp⟩

/-- text consumed up to `i`, then `_getc` … `_ungetc` -/
theorem del_back1 {L : Str} {rqn : Bool} {a i j : Nat} {x : Option Char} {v : Str}
    (hv : Del (Str.slice L a i) v) (hai : a ≤ i) (hg : GetcR rqn L i j x) (hi : i < L.length) :
    0 < j ∧ j - 1 < L.length ∧
      ∃ r ∈ residues false L (j - 1), Del (Str.slice L a (j - 1)) (v ++ r) ∧
        a + v.length + r.length ≤ j - 1 := by
  obtain ⟨h1, h2, h3, r, hr, hd, _⟩ := back1_res hg hi
  refine ⟨h1, h3, r, hr, ?_, ?_⟩
  · rw [← slice_cat L hai h2 (by omega)]
    exact hv.append hd
  · have l1 := hv.length_le
    have l2 := hd.length_le
    rw [slice_length L (by omega)] at l1 l2
    omega

end Bashlex.C04.TTP
