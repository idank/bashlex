/-
  C04, token text (layer D): `_parse_comsub`, one iteration.

  `csA`, `csB`, `csC` in the cuts of `Proofs/TokForms.lean`: heads without tape access and tails
  with the look-aheads: `csA` = `_getc` + `csArest`; `csB` = `csBhead`, `csBmid` + `csBpeek` (one
  `_getc`, `_ungetc` of the look-ahead, possibly `None`); `csC` = `csChead` + `csCtail` (`<<`,
  `<<-`: two `_getc`, one `_ungetc`).  The ghost relation between the cursor and `ret`:
    `Mid L i k ret`     `L[i:k]` spells `ret` (`Sp`), or the state is doomed (`Dm`);
    `Pend L i k ret c`  the same for `ret ++ [c]`, `c` being the character read but not yet
                        appended; in a doomed state `c` is the final newline.
-/
import Bashlex.Props.C04.TTScanMP

namespace Bashlex.C04.TTP
open Bashlex Bashlex.M Bashlex.C10 Bashlex.C11 Bashlex.C03.Tok Bashlex.C04

/-! ## the ghost relation -/

def Mid (L : Str) (i k : Nat) (ret : Str) : Prop := Sp L i k ret ∨ Dm L k
def Pend (L : Str) (i k : Nat) (ret : Str) (c : Char) : Prop :=
  Sp L i k (ret ++ [c]) ∨ (Dm L k ∧ c = '\n')

/-- result of `csA`, `csB`, `csC` at cursor `k` -/
def PQ (L : Str) (i cnt : Nat) (r : Step CSState) (k : Nat) : Prop :=
  match r with
  | .cont s => Mid L i k s.ret ∧ s.count = cnt
  | .next s c => Pend L i k s.ret c ∧ s.count = cnt ∧ (c ≠ '\n' → k < L.length)
  | .done _ => False

section
variable {L : Str} {ps : List Nat}

theorem Pend.mid {i k : Nat} {ret : Str} {c : Char} (h : Pend L i k ret c) :
    Mid L i k (ret ++ [c]) := by
  rcases h with h | h
  · exact Or.inl h
  · exact Or.inr h.1

theorem mid_getc (hnl : NL L) {rqn : Bool} {i k k' : Nat} {ret : Str} {c : Char}
    (h : Mid L i k ret) (hik : i ≤ k) (hg : GetcR rqn L k k' (some c)) : Pend L i k' ret c := by
  rcases h with h | h
  · exact sp_getc h hik hg
  · exact Or.inr (dm_getc hnl h hg)

theorem mid_back {rqn : Bool} {i k j : Nat} {ret : Str} {x : Option Char} (h : Mid L i k ret)
    (hik : i ≤ k) (hiL : i < L.length) (hkL : k ≤ L.length) (hg : GetcR rqn L k j x) :
    Mid L i (j - 1) ret ∧ 0 < j ∧ i ≤ j - 1 := by
  have hpos : 0 < L.length := by omega
  have hkj := hg.le
  by_cases hk : k < L.length
  · rcases h with h | h
    · obtain ⟨a1, a2, a3, a4⟩ := sp_back h hik hk hg
      exact ⟨Or.inl a1, a2, by omega⟩
    · obtain ⟨a1, a2⟩ := dm_back h hpos hg
      have a1' := a1
      unfold Dm at a1'
      exact ⟨Or.inr a1, a2, by omega⟩
  · have hD : Dm L k := by unfold Dm; omega
    obtain ⟨a1, a2⟩ := dm_back hD hpos hg
    have a1' := a1
    unfold Dm at a1'
    exact ⟨Or.inr a1, a2, by omega⟩

theorem foreign_bind_ht {α β : Type} {I : Local → Env → Prop} {Q : β → Local → Env → Prop}
    {a b : String} {k : α → M β} : HT I ((M.foreign a b : M α) >>= k) Q ET :=
  C03.Tok.foreign_bind_ht

theorem pyDropLastN_snoc (w : Str) (c : Char) : pyDropLastN (w ++ [c]) 1 = w := by
  unfold pyDropLastN
  simp

/-! ## `csA` -/

abbrev CAR (st : CSState) (c : Char) (r : Step CSState) : Prop :=
  match r with
  | .cont s => s.ret = st.ret ++ [c] ∧ s.count = st.count
  | .next s c' => c' = c ∧ s.ret = st.ret ∧ s.count = st.count
  | .done _ => False

/-- `csA3`, entered with the `ret` and `count` of `st0`, returns `CAR st0 c` -/
theorem k_csA3 {k : Nat} (st0 st : CSState) (c : Char) (h1 : st.ret = st0.ret)
    (h2 : st.count = st0.count) : SatW (Tp L ps k) (Tp L ps k) (csA3 st c) (CAR st0 c) := by
  unfold csA3
  simp only []
  repeat' (first
    | with_reducible refine SatW.ite (fun _ => ?_) (fun _ => ?_)
    | with_reducible refine SatW.pure (fun _ _ h => h) ?_
    | with_reducible split)
  all_goals first | exact ⟨congrArg (· ++ [c]) h1, h2⟩ | exact ⟨rfl, h1, h2⟩

theorem k_csA2 {k : Nat} (P : CSParams) (st0 st : CSState) (c : Char) (h1 : st.ret = st0.ret)
    (h2 : st.count = st0.count) : SatW (Tp L ps k) (Tp L ps k) (csA2 P st c) (CAR st0 c) := by
  unfold csA2
  simp only []
  repeat' (first
    | with_reducible refine k_csA3 st0 _ c ?_ ?_
    | with_reducible refine SatW.ite (fun _ => ?_) (fun _ => ?_)
    | with_reducible refine SatW.bindE (k_csDelimMatches _) (fun _ => ?_)
    | with_reducible split)
  all_goals first | exact h1 | exact h2

/-- `csArest` keeps the cursor (its one callee, `csDelimMatches`, does) and returns `CAR` -/
theorem k_csArest {k : Nat} (P : CSParams) (st : CSState) (c : Char) :
    SatW (Tp L ps k) (Tp L ps k) (csArest P st c) (CAR st c) := by
  unfold csArest
  simp only []
  repeat' (first
    | with_reducible refine k_csA2 P st _ c ?_ ?_
    | with_reducible refine SatW.ite (fun _ => ?_) (fun _ => ?_)
    | with_reducible refine SatW.bindE (k_csDelimMatches _) (fun _ => ?_)
    | with_reducible split)
  all_goals rfl

/-- **`csA`** -/
theorem csA_tt (hnl : NL L) (P : CSParams) (st : CSState) {i k : Nat} (hM : Mid L i k st.ret)
    (hik : i ≤ k) :
    HT (Tp L ps k) (csA P st)
      (fun r l e => ∃ k', (k < k' ∧ PQ L i st.count r k') ∧ Tp L ps k' l e) ET := by
  rw [csA_eq]
  refine getc_bind (fun c0 k' hg => ?_)
  cases c0 with
  | none => simp only []; exact mpe_bind_ht _
  | some c =>
    simp only [pure_bind]
    have hP := mid_getc hnl hM hik hg
    have hkk : k < k' := (hg.char c rfl).1
    refine HT.post (k_csArest (k := k') P st c) (fun r l e h => ⟨k', ⟨hkk, ?_⟩, h.2⟩)
    obtain ⟨hr, _⟩ := h
    cases r with
    | cont s =>
      refine ⟨?_, hr.2⟩
      show Mid L i k' s.ret
      rw [hr.1]; exact hP.mid
    | next s c' =>
      obtain ⟨rfl, h1, h2⟩ := hr
      refine ⟨?_, h2, fun hc => lt_of_some hnl hg hc⟩
      show Pend L i k' s.ret c'
      rw [h1]; exact hP
    | done r => exact hr.elim

/-! ## `csB` -/

/-- the head of `csB` (no tape access): a blank is appended, or the tail is entered with `ret` and
    `count` unchanged -/
theorem csBhead_walk {Q : Step CSState → Local → Env → Prop} (b : Bool) (st : CSState) (c : Char)
    {k : Nat}
    (hcont : ∀ s', s'.ret = st.ret ++ [c] → s'.count = st.count →
      HT (Tp L ps k) (pure (Step.cont s') : M (Step CSState)) Q ET)
    (hpeek : ∀ s', s'.ret = st.ret → s'.count = st.count → HT (Tp L ps k) (csBpeek b s' c) Q ET) :
    HT (Tp L ps k) (csBhead b st c) Q ET := by
  unfold csBhead csBmid
  simp only []
  repeat' (first
    | with_reducible exact hcont _ rfl rfl
    | with_reducible exact hpeek _ rfl rfl
    | with_reducible exact foreign_bind_ht
    | jp_step
    | with_reducible refine HT.ite (fun _ => ?_) (fun _ => ?_)
    | with_reducible use_hyp
    | with_reducible refine keep_bind (k_shellbreak _) (fun _ _ => ?_)
    | split_head)

/-- the tail of `csB`: the look-ahead for `;;`, `&&`, `||` -/
theorem csBpeek_tt (hnl : NL L) (b : Bool) (st : CSState) (c : Char) {i k : Nat}
    (hP : Pend L i k st.ret c) (hlt : c ≠ '\n' → k < L.length) (hik : i ≤ k) (hiL : i < L.length) :
    HT (Tp L ps k) (csBpeek b st c)
      (fun r l e => ∃ k', (i ≤ k' ∧ PQ L i st.count r k') ∧ Tp L ps k' l e) ET := by
  unfold csBpeek
  simp only []
  refine keep_bind (k_shellmeta c) (fun m _ => ?_)
  refine HT.ite (fun _ => ?_) (fun _ => ?_)
  · refine HT.pre (P := fun l e => k ≤ L.length ∧ Tp L ps k l e) (HT.pre_pure (fun hkL => ?_))
      (fun l e h => ⟨h.2.2.1, h⟩)
    refine getc_bind (fun peek j hg => ?_)
    have hkj := hg.le
    refine HT.ite (fun h1 => ?_) (fun h1 => ?_)
    · -- the doubled operator
      have hpk : peek = some c := by
        simp only [Bool.and_eq_true, beq_iff_eq] at h1
        exact h1.1.symm
      subst hpk
      have := mid_getc hnl hP.mid hik hg
      refine HT.pure (fun l e h => ⟨j, ⟨by omega, ?_, rfl⟩, h⟩)
      exact this.mid
    refine HT.ite (fun h2 => ?_) (fun h2 => ?_)
    · obtain ⟨a1, a2, a3⟩ := mid_back hP.mid hik hiL hkL hg
      refine ungetc_bind a2 ?_
      exact HT.pure (fun l e h => ⟨j - 1, ⟨a3, a1, rfl⟩, h⟩)
    · have hc : c ≠ '\n' := by
        intro hc; apply h2; rw [hc]; rfl
      have hk := hlt hc
      have hsp : Sp L i k (st.ret ++ [c]) := by
        rcases hP with h | h
        · exact h
        · exact absurd h.2 hc
      obtain ⟨a1, a2, a3, a4⟩ := sp_back hsp hik hk hg
      refine ungetc_bind a2 ?_
      refine HT.pure (fun l e h => ⟨j - 1, ⟨by omega, ?_, rfl, fun _ => a4⟩, h⟩)
      show Pend L i (j - 1) (pyDropLastN (st.ret ++ [c]) 1) c
      rw [pyDropLastN_snoc]
      exact Or.inl a1
  · exact HT.pure (fun l e h => ⟨k, ⟨hik, hP, rfl, hlt⟩, h⟩)

/-- **`csB`** -/
theorem csB_tt (hnl : NL L) (b : Bool) (st : CSState) (c : Char) {i k : Nat}
    (hP : Pend L i k st.ret c) (hlt : c ≠ '\n' → k < L.length) (hik : i ≤ k) (hiL : i < L.length) :
    HT (Tp L ps k) (csB b st c)
      (fun r l e => ∃ k', (i ≤ k' ∧ PQ L i st.count r k') ∧ Tp L ps k' l e) ET := by
  rw [csB_eq]
  refine csBhead_walk b st c ?_ ?_
  · intro s' h1 h2
    refine HT.pure (fun l e h => ⟨k, ⟨hik, ?_, h2⟩, h⟩)
    show Mid L i k s'.ret
    rw [h1]; exact hP.mid
  · intro s' h1 h2
    have := csBpeek_tt (ps := ps) hnl b s' c (i := i) (k := k) (by rw [h1]; exact hP) hlt hik hiL
    rw [h2] at this
    exact this

end

end Bashlex.C04.TTP
