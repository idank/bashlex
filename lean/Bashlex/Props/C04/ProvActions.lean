/-
  C04: every semantic action returns a value whose textual nodes are `W`.

  The walk (`Leaves.sat_actionCore`) is over what an action builds from the tokens among its
  arguments (`Leaves`): words by `_expandword`, reserved-word / operator / pipe leaves with a
  token's span and value, the redirect node.  C04 derives `Leaves` from `Ctx` and from what the
  generated grammar says about those tokens (`ArgsOK` — discharged in `C04/Engine.lean` from C12's
  sorts of the grammar symbols by a kernel-decided check of the production table): `leaves_of_ctx`,
  `sat_actionCore`.  C07's judgement is the instance `C07.ofWord`, where every leaf clause is
  vacuous and `Leaves` holds of all arguments (`C07/ProvActions.lean`).
-/
import Bashlex.Props.C04.Prov
import Bashlex.Props.C07.Word

namespace Bashlex.C04
open Bashlex Bashlex.M Bashlex.Node
set_option linter.unusedVariables false

variable {W : Pred} {T : Token → Prop} {np : NestedParse} {args : List SVal}

/-- the slots an action turns into a reserved-word / operator / pipe node without looking at the
    token's type (union over the right-hand-side lengths) -/
def resSlots (f : String) : List Nat :=
  match f with
  | "p_subshell" | "p_group_command" => [1, 3]
  | "p_pattern_list" => [2, 3, 4]
  | "p_case_clause_sequence" => [2, 3]
  | "p_pattern" => [2]
  | "p_list0" | "p_simple_list" | "p_list1" | "p_simple_list1" | "p_pipeline" => [2]
  | _ => []

/-- the slots an action hands to `_expandword` without looking at the token's type (union over
    the right-hand-side lengths; a slot that holds a node is harmless) -/
def wordSlots (f : String) : List Nat :=
  match f with
  | "p_word_list" => [1, 2]
  | "p_pattern" => [1, 3]
  | "p_simple_command_element" => [1]
  | _ => []

def isRedirF (f : String) : Bool := f == "p_redirection" || f == "p_redirection_heredoc"
/-- actions that build nothing from the tokens among their arguments but what they check
    themselves, or (the redirections) take any token -/
def isFreeF (f : String) : Bool :=
  isRedirF f || f == "p_inputunit" || f == "p_simple_list_terminator" || f == "p_list_terminator"
def isSce (f : String) : Bool := f == "p_simple_command_element"

/-- the arguments of `f` are as `argCheck1` (`C04/Engine.lean`) says -/
structure ArgsOK (T : Token → Prop) (f : String) (args : List SVal) : Prop where
  parts : isFreeF f = false → isSce f = false → PartToks args
  res : ∀ i ∈ resSlots f, ResSlot args i
  len : isRedirF f = true → args.length = 2 ∨ args.length = 3
  elif : f = "p_elif_clause" → ∀ a ∈ args, a ≠ .none ∧ ∀ t, a = .tok t → Reserved t
  bang : f = "p_pipeline_command" → ∀ t, args.getD 0 .none = .tok t → t.ttype = some .BANG
  semi : f = "p_list_terminator" →
    ∀ t, args.getD 0 .none = .tok t → t.value = .str [';'] → Reserved t
  words : ∀ i ∈ wordSlots f, WordSlot args i
  here : f = "p_redirection_heredoc" →
    ∀ t, args.getD (args.length - 1) .none = .tok t → t.is .WORD = true

/-- the type of the token handed to `_expandword`, from the slot facts in the context -/
macro "word_ty" : tactic => `(tactic| first
  | exact ‹WordSlot _ 1› _ (And.right ‹_ ∧ _›)
  | exact ‹WordSlot _ 2› _ (And.right ‹_ ∧ _›)
  | exact ‹WordSlot _ 3› _ (And.right ‹_ ∧ _›))

/-- one step of the walk through an action -/
macro "c04_walk_step" W:ident T:ident hC:ident hwf:ident ha:ident hR:ident : tactic => `(tactic| first
  | exact Sat.foreign trivial
  | exact Sat.raise trivial
  | refine Sat.pure ?_
  | refine Sat.map ?_
  | refine Sat.bind (sat_nodeAt (W := $W) $ha _ _) (fun _ _ => ?_)
  | refine Sat.bind (sat_nodesAt (W := $W) $ha _ _) (fun _ _ => ?_)
  | refine Sat.bind (sat_reservedAt (W := $W) $hC $hwf $ha (by exact $hR _ (by decide))) (fun _ _ => ?_)
  | refine Sat.bind (sat_operatorAt (W := $W) $hC $hwf $ha (by exact $hR _ (by decide))) (fun _ _ => ?_)
  | refine Sat.bind (sat_makeparts (W := $W) $hC $hwf $ha (by assumption)) (fun _ _ => ?_)
  | refine Sat.bind (sat_handleNotImplemented (W := $W) $hC $hwf $ha (by assumption) _) (fun _ _ => ?_)
  | refine Sat.bind (sat_tokAt2 (W := $W) $ha _) (fun _ _ => ?_)
  | refine Sat.bind (Ctx.word (W := $W) $hC _ (by simp_all) (by word_ty)) (fun _ _ => ?_)
  | refine Sat.bind (sat_addRedirects (W := $W) (by simp_all) (by simp_all)) (fun _ _ => ?_)
  | refine Sat.bind (sat_mkCompound1 (W := $W) (T := $T) (by intro sp; simp_all)) (fun _ _ => ?_)
  | refine Sat.bind (sat_joinLists_op (W := $W) $hC $hwf $ha (by exact $hR _ (by decide)) _) (fun _ _ => ?_)
  | refine Sat.bind (sat_joinLists_pipe (W := $W) $hC $hwf $ha (by exact $hR _ (by decide)) _) (fun _ _ => ?_)
  | refine Sat.bind_any (fun _ => ?_)
  | refine Sat.ite (fun _ => ?_) (fun _ => ?_)
  | refine Sat.weaken (sat_nodeAt (W := $W) $ha _ _) (fun _ _ => ?_) (fun _ h => h)
  | refine Sat.weaken (sat_nodesAt (W := $W) $ha _ _) (fun _ _ => ?_) (fun _ h => h)
  | refine Sat.weaken (sat_reservedAt (W := $W) $hC $hwf $ha (by exact $hR _ (by decide))) (fun _ _ => ?_) (fun _ h => h)
  | refine Sat.weaken (sat_operatorAt (W := $W) $hC $hwf $ha (by exact $hR _ (by decide))) (fun _ _ => ?_) (fun _ h => h)
  | refine Sat.weaken (sat_makeparts (W := $W) $hC $hwf $ha (by assumption)) (fun _ _ => ?_) (fun _ h => h)
  | refine Sat.weaken (sat_handleNotImplemented (W := $W) $hC $hwf $ha (by assumption) _) (fun _ _ => ?_) (fun _ h => h)
  | refine Sat.weaken (sat_tokAt2 (W := $W) $ha _) (fun _ _ => ?_) (fun _ h => h)
  | refine Sat.weaken (Ctx.word (W := $W) $hC _ (by simp_all) (by word_ty)) (fun _ _ => ?_) (fun _ h => h)
  | refine Sat.weaken (sat_addRedirects (W := $W) (by simp_all) (by simp_all)) (fun _ _ => ?_) (fun _ h => h)
  | refine Sat.weaken (sat_mkCompound1 (W := $W) (T := $T) (by intro sp; simp_all)) (fun _ _ => ?_) (fun _ h => h)
  | refine Sat.weaken (sat_joinLists_op (W := $W) $hC $hwf $ha (by exact $hR _ (by decide)) _) (fun _ _ => ?_) (fun _ h => h)
  | refine Sat.weaken (sat_joinLists_pipe (W := $W) $hC $hwf $ha (by exact $hR _ (by decide)) _) (fun _ _ => ?_) (fun _ h => h)
  | (show M.Sat _ _ _; split)
  | refine Sat.weaken (Sat.trivial _) (fun _ _ => ?_) (fun _ h => h))

/-- the part of `p_redirection` after the output has been computed -/
macro "redir_tail" hC:ident ha:ident hlen:ident hTo:ident hso:ident hout:term : tactic => `(tactic|
  (refine Sat.ite (fun h3 => ?_) (fun h3 => ?_)
   · have h3' : PCtx.len ⟨np, args⟩ = 3 := by simpa using h3
     rw [h3'] at $hso:ident
     refine Sat.bind (sat_strAt' $ha 1) (fun s hs => Sat.pure ?_)
     obtain ⟨t1, hT1, hs1, hseq⟩ := hs
     subst hseq
     show G W _
     rw [G_redirect, lexspan_tok hs1, lexspan_tok $hso]
     refine ⟨?_, ($hout).1, by simp⟩
     exact Ctx.redir $hC t1 t1 _ _ _ none none hT1 hT1 $hTo ($hout).2 _ (fun _ => rfl) _ (Or.inl ⟨rfl, rfl⟩)
   · have h4 : PCtx.len ⟨np, args⟩ = 4 := by
       have : PCtx.len ⟨np, args⟩ ≠ 3 := by simpa using h3
       unfold PCtx.len at this ⊢
       simp only [] at this ⊢
       omega
     rw [h4] at $hso:ident
     refine Sat.bind (sat_tokAt' $ha 1) (fun t1 ht1 => ?_)
     obtain ⟨hT1, hs1⟩ := ht1
     refine Sat.bind (sat_strAt' $ha 2) (fun s hs => Sat.pure ?_)
     obtain ⟨t2, hT2, hs2, hseq⟩ := hs
     subst hseq
     show G W _
     rw [G_redirect, lexspan_tok hs1, lexspan_tok $hso]
     refine ⟨?_, ($hout).1, by simp⟩
     exact Ctx.redir $hC t1 t2 _ _ _ none none hT1 hT2 $hTo ($hout).2 _ (fun _ => rfl) _ (Or.inr rfl)))

/-- `p_pipeline_command`, given its `!` (a BANG token in slot 1, or D19) -/
theorem sound_pipeline_commandOf (ha : ∀ a ∈ args, GV W T a)
    (hbang : G W (.reservedword (PCtx.lexspan ⟨np, args⟩ 1) ['!'])) :
    Sat (actionCore np "p_pipeline_command" args) (Post W T) := by
  unfold actionCore; simp only []
  refine Sat.ite (fun _ => (sat_nodesAt ha _ _).bind fun l hl => ?_) (fun _ => ?_)
  · split
    next n => exact Sat.pure (GL_cons.mp hl).1
    next =>
      split
      next => exact Sat.bind_any fun _ => Sat.bind_any fun _ => Sat.pure (G_pipeline.mpr hl)
      next => exact Sat.foreign trivial
  · split
    next => exact Sat.pure (G_pipeline.mpr (GL_one hbang))
    next pos parts h2 =>
      have hparts : GL W parts := G_pipeline.mp (GV_of_slice ha h2)
      split
      next => exact Sat.bind_any fun _ => Sat.pure (G_pipeline.mpr (GL_cons.mpr ⟨hbang, hparts⟩))
      next => exact Sat.foreign trivial
    next n _ h2 =>
      exact Sat.bind_any fun _ =>
        Sat.pure (G_pipeline.mpr (GL_cons.mpr ⟨hbang, GL_one (GV_of_slice ha h2)⟩))
    next => exact Sat.foreign trivial

section actions
variable (hC : Ctx W T np) (hwf : ∀ t, T t → C12.TokWF t) (ha : ∀ a ∈ args, GV W T a)
include hC

theorem GL_fix {l : List Node} (h : GL W l) : GL W (actionCore.fix l) := by
  induction l with
  | nil => simp [actionCore.fix]
  | cons n rest ih =>
    simp only [GL_cons] at h
    cases n <;> simp only [actionCore.fix] <;> try (simp [h.1, ih h.2])
    rename_i pos op
    split
    · simp only [GL_cons]
      refine ⟨?_, h.2⟩
      rename_i hop
      have : op = [';'] := by simpa using hop
      subst this
      exact G_reservedword.mpr (hC.semi _ _ (G_operator.mp h.1))
    · simp only [GL_cons]; exact ⟨h.1, ih h.2⟩


include hwf ha

/-- the `!` of `p_pipeline_command`: a token in slot 1 is BANG; otherwise (a `timespec` value)
    the reserved word sits at (0,0) (D19) -/
theorem bang_ok (hB : ∀ t, args.getD 0 .none = .tok t → t.ttype = some .BANG) :
    G W (.reservedword (PCtx.lexspan ⟨np, args⟩ 1) ['!']) := by
  rw [G_reservedword]
  cases hs : PCtx.slice ⟨np, args⟩ 1 with
  | tok t =>
    have hT : T t := by
      have := slice_ok (W := W) (np := np) ha 1
      rw [hs] at this; exact this
    have hty := hB t hs
    have hres : Reserved t := ⟨_, hty, rfl⟩
    obtain ⟨s, hs', _, hval⟩ := (hwf t hT _ hty).1 rfl
    have : s = ['!'] := (hval ['!'] rfl).symm
    subst this
    have hsp : PCtx.lexspan ⟨np, args⟩ 1 = (t.lexpos, t.endlexpos) := by
      unfold PCtx.lexspan; rw [hs]; rfl
    rw [hsp]
    exact (hC.res t _ hT hres hs').1
  | none => unfold PCtx.lexspan; rw [hs]; exact hC.d19
  | node n => unfold PCtx.lexspan; rw [hs]; exact hC.d19
  | nodes l => unfold PCtx.lexspan; rw [hs]; exact hC.d19



theorem sound_pipeline_command
    (hB : ∀ t, args.getD 0 .none = .tok t → t.ttype = some .BANG) :
    Sat (actionCore np "p_pipeline_command" args) (Post W T) :=
  sound_pipeline_commandOf ha (bang_ok hC hwf ha hB)

/-! The two redirections use nothing of `hwf`. -/

omit hwf in
theorem sound_redirection_heredoc (hlen : args.length = 2 ∨ args.length = 3)
    (hHere : ∀ t, args.getD (args.length - 1) .none = .tok t → t.is .WORD = true) :
    Sat (actionCore np "p_redirection_heredoc" args) (Post W T) := by
  unfold actionCore; simp only []
  refine Sat.bind (sat_tokAt' ha _) (fun wtok hot => ?_)
  obtain ⟨hTo, hso⟩ := hot
  have hwt : wtok.is .WORD = true := by
    apply hHere
    simpa [PCtx.slice, PCtx.len] using hso
  have hout : GL W (some (Node.word (wtok.lexpos, wtok.endlexpos) wtok.valueStr [])).toList := by
    simp [G_bare hC hTo hwt]
  refine Sat.ite (fun h3 => ?_) (fun h3 => ?_)
  · refine Sat.bind (sat_strAt' ha 1) (fun s hs => ?_)
    obtain ⟨t1, hT1, hs1, rfl⟩ := hs
    simp only [pure_bind]
    refine Sat.bind_any (fun l => Sat.bind_any (fun _ => Sat.pure ?_))
    show G W _
    rw [G_redirect]
    refine ⟨?_, hout, by simp⟩
    exact hC.redir t1 t1 wtok (some (Node.word (wtok.lexpos, wtok.endlexpos) wtok.valueStr []))
      RedirIn.none none _ hT1 hT1 hTo ⟨rfl, rfl⟩ _ (fun h => by cases h) _ (Or.inl ⟨rfl, rfl⟩)
  · refine Sat.bind (sat_tokAt' ha 1) (fun t1 ht1 => ?_)
    obtain ⟨hT1, hs1⟩ := ht1
    refine Sat.bind (sat_strAt' ha 2) (fun s hs => ?_)
    obtain ⟨t2, hT2, hs2, rfl⟩ := hs
    simp only [pure_bind]
    refine Sat.bind_any (fun l => Sat.bind_any (fun _ => Sat.pure ?_))
    show G W _
    rw [G_redirect]
    refine ⟨?_, hout, by simp⟩
    exact hC.redir t1 t2 wtok (some (Node.word (wtok.lexpos, wtok.endlexpos) wtok.valueStr []))
      RedirIn.none none _ hT1 hT2 hTo ⟨rfl, rfl⟩ _ (fun h => by cases h) _ (Or.inr rfl)

omit hwf in
theorem sound_redirection (hlen : args.length = 2 ∨ args.length = 3) :
    Sat (actionCore np "p_redirection" args) (Post W T) := by
  unfold actionCore; simp only []
  refine Sat.bind (sat_tokAt' ha _) (fun otok hot => ?_)
  obtain ⟨hTo, hso⟩ := hot
  refine Sat.ite (fun hw => ?_) (fun hw => ?_)
  · refine Sat.bind (Sat.and (hC.word _ hTo (Or.inl hw)) (C07.sat_expandword_pos np otok)) (fun w hw => ?_)
    have hout : GL W (some w).toList ∧ (w.pos = (otok.lexpos, otok.endlexpos) ∧ RedirIn.none = RedirIn.none) :=
      ⟨by simp [hw.1], hw.2, rfl⟩
    redir_tail hC ha hlen hTo hso hout
  · have hout : GL W (none : Option Node).toList ∧
        (match otok.value with | .int k => RedirIn.num k | .str s => .str s | .none => .none) =
          redirIn otok.value := ⟨by simp, rfl⟩
    redir_tail hC ha hlen hTo hso hout

end actions

/-- what the action `f` builds from the tokens among its arguments -/
structure Leaves (W : Pred) (T : Token → Prop) (np : NestedParse) (f : String) (args : List SVal) :
    Prop where
  words : ∀ i ∈ wordSlots f, ∀ t, PCtx.slice ⟨np, args⟩ i = .tok t → WordTok W np t
  res : ∀ i ∈ resSlots f, ∀ t, PCtx.slice ⟨np, args⟩ i = .tok t → LeafTok W t
  parts : isFreeF f = false → isSce f = false → ∀ t, SVal.tok t ∈ args → PartTok W np t
  /-- `p_elif_clause` turns every token into a reserved word (and `None` into one at (0,0)) -/
  elif : f = "p_elif_clause" → ∀ a ∈ args,
    (a = .none → W (.reservedword (0, 0) "None".toList)) ∧
    ∀ t, a = .tok t → W (.reservedword (t.lexpos, t.endlexpos) (tvalStr t.value))
  bang : f = "p_pipeline_command" → W (.reservedword (PCtx.lexspan ⟨np, args⟩ 1) ['!'])
  semi : f = "p_list_terminator" → ∀ t, PCtx.slice ⟨np, args⟩ 1 = .tok t → t.value = .str [';'] →
    W (.operator (t.lexpos, t.endlexpos) [';'])
  /-- the two redirections pick the tokens of the redirect node by the number of arguments: what
      they build is said per instance, as the arm itself -/
  redir : f = "p_redirection" → Sat (actionCore np "p_redirection" args) (Post W T)
  heredoc : f = "p_redirection_heredoc" →
    Sat (actionCore np "p_redirection_heredoc" args) (Post W T)

namespace Leaves
variable {f : String} (hL : Leaves W T np f args)
include hL

theorem leafAt {i : Nat} (hi : i ∈ resSlots f) {t : Token} (ht : PCtx.slice ⟨np, args⟩ i = .tok t) :
    W (.reservedword (PCtx.lexspan ⟨np, args⟩ i) t.valueStr) ∧
    W (.operator (PCtx.lexspan ⟨np, args⟩ i) t.valueStr) ∧
    W (.pipe (PCtx.lexspan ⟨np, args⟩ i) t.valueStr) := by
  rw [lexspan_tok ht]; exact hL.res i hi t ht

variable (ha : ∀ a ∈ args, GV W T a)
include ha

theorem sat_reservedAt {i : Nat} (hi : i ∈ resSlots f) : Sat (reservedAt ⟨np, args⟩ i) (G W) :=
  sat_leafAt ha fun _ ht => G_reservedword.mpr (hL.leafAt hi ht).1

theorem sat_operatorAt {i : Nat} (hi : i ∈ resSlots f) : Sat (operatorAt ⟨np, args⟩ i) (G W) :=
  sat_leafAt ha fun _ ht => G_operator.mpr (hL.leafAt hi ht).2.1

/-- the word node of the token in slot `i` -/
theorem sat_wordAt {β : Type} {R : β → Prop} {k : Token → Node → M β} {i : Nat}
    (hi : i ∈ wordSlots f) (hk : ∀ t w, G W w → Sat (k t w) R) :
    Sat (PCtx.tokAt ⟨np, args⟩ i >>= fun t => expandword np t >>= k t) R :=
  (sat_tokAt' ha i).bind fun t ht => (hL.words i hi t ht.2).bind (hk t)

end Leaves

/-- **every semantic action** returns a value whose textual nodes are `W` (one case per action
    function, in the order of `actionCore`); `hC` serves `asg` and `semi` -/
theorem Leaves.sat_actionCore {fname : String} (hC : Ctx W T np) (hL : Leaves W T np fname args)
    (ha : ∀ a ∈ args, GV W T a) :
    Sat (actionCore np fname args) (Post W T) := by
  unfold actionCore
  simp only []
  split
  · -- p_inputunit
    refine Sat.bind_any fun l => ?_
    refine Sat.ite (fun _ => Sat.bind_any fun _ => ?_) (fun _ => ?_) <;>
    · split
      next n hn => exact Sat.pure (GV_of_slice ha hn)
      next => exact Sat.pure trivial
  · -- p_word_list
    refine Sat.ite (fun _ => ?_) (fun _ => ?_)
    · exact hL.sat_wordAt ha (i := 1) (by decide) fun _ w hw => Sat.pure (GL_one hw)
    · exact (sat_nodesAt ha _ _).bind fun l hl =>
        hL.sat_wordAt ha (i := 2) (by decide) fun _ w hw => Sat.pure (GL_snoc hl hw)
  · -- p_redirection_heredoc
    exact hL.heredoc rfl
  · -- p_redirection
    exact hL.redir rfl
  · -- p_simple_command_element
    split
    next n hn => exact Sat.pure (GL_one (GV_of_slice ha hn))
    next =>
      refine hL.sat_wordAt ha (i := 1) (by decide) fun t w hw => ?_
      refine Sat.ite (fun _ => ?_) (fun _ => Sat.pure (GL_one hw))
      split
      next => exact Sat.pure (GL_one (G_asg_of_word hC hw))
      next => exact Sat.pure (GL_one hw)
  · -- p_redirection_list
    exact Sat.ite (fun _ => (sat_nodeAt ha _ _).bind fun n hn => Sat.pure (GL_one hn))
      (fun _ => (sat_nodesAt ha _ _).bind fun l hl => (sat_nodeAt ha _ _).bind fun n hn =>
        Sat.pure (GL_snoc hl hn))
  · -- p_simple_command
    exact Sat.ite
      (fun _ => (sat_nodesAt ha _ _).bind fun l hl => (sat_nodesAt ha _ _).bind fun r hr =>
        Sat.pure (GL_append.mpr ⟨hl, hr⟩))
      (fun _ => Sat.pure (slice_ok ha 1))
  · -- p_command
    split
    next n hn =>
      have hn : G W n := GV_of_slice ha hn
      exact Sat.ite
        (fun _ => (sat_nodesAt ha _ _).bind fun r hr => (sat_addRedirects hn hr).bind fun _ hm =>
          Sat.pure hm)
        (fun _ => Sat.pure hn)
    next =>
      exact (sat_nodesAt ha _ _).bind fun l hl => Sat.bind_any fun _ => Sat.pure (G_command.mpr hl)
  · -- p_shell_command
    refine Sat.ite (fun _ => ?_) (fun _ => ?_)
    · exact (sat_nodeAt ha _ _).bind fun n hn => Sat.bind_any fun _ => Sat.pure hn
    · refine (sat_makepartsOf ha (hL.parts rfl rfl)).bind fun parts hparts => ?_
      split
      · refine Sat.bind_any fun sp => Sat.ite (fun _ => Sat.pure ?_)
          (fun _ => Sat.ite (fun _ => Sat.pure ?_) (fun _ => Sat.foreign trivial))
        · exact G_compound.mpr ⟨GL_one (G_whileN.mpr hparts), GL_nil⟩
        · exact G_compound.mpr ⟨GL_one (G_untilN.mpr hparts), GL_nil⟩
      · exact Sat.foreign trivial
  · -- p_for_command
    exact (sat_makepartsOf ha (hL.parts rfl rfl)).bind fun parts hparts =>
      sat_ret (sat_mkCompound1 fun _ => G_forN.mpr (GL_fix hC hparts))
  · -- p_arith_for_command
    exact sat_ret (sat_handleNotImplementedOf ha (hL.parts rfl rfl) _)
  · -- p_select_command
    exact sat_ret (sat_handleNotImplementedOf ha (hL.parts rfl rfl) _)
  · -- p_case_command
    exact (sat_makepartsOf ha (hL.parts rfl rfl)).bind fun parts hparts =>
      sat_ret (sat_mkCompound1 fun _ => G_caseN.mpr hparts)
  · -- p_function_def
    refine (sat_makepartsOf ha (hL.parts rfl rfl)).bind fun parts hparts => ?_
    refine Sat.ite (fun _ => Sat.bind_any fun _ => ?_) (fun _ => ?_) <;>
      exact Sat.bind_any fun _ => Sat.pure (G_function.mpr hparts)
  · -- p_function_body
    refine (sat_nodeAt ha _ _).bind fun n hn => Sat.bind_any fun _ => ?_
    exact Sat.ite
      (fun _ => (sat_nodesAt ha _ _).bind fun r hr => (sat_addRedirects hn hr).bind fun _ hm =>
        Sat.pure hm)
      (fun _ => Sat.pure hn)
  · -- p_subshell
    exact (hL.sat_reservedAt ha (i := 1) (by decide)).bind fun l hl =>
      (hL.sat_reservedAt ha (i := 3) (by decide)).bind fun r hr =>
      (sat_nodeAt ha _ _).bind fun m hm => Sat.bind_any fun _ =>
        Sat.pure (G_compound.mpr ⟨GL_cons.mpr ⟨hl, GL_cons.mpr ⟨hm, GL_one hr⟩⟩, GL_nil⟩)
  · -- p_group_command
    exact (hL.sat_reservedAt ha (i := 1) (by decide)).bind fun l hl =>
      (hL.sat_reservedAt ha (i := 3) (by decide)).bind fun r hr =>
      (sat_nodeAt ha _ _).bind fun m hm => Sat.bind_any fun _ =>
        Sat.pure (G_compound.mpr ⟨GL_cons.mpr ⟨hl, GL_cons.mpr ⟨hm, GL_one hr⟩⟩, GL_nil⟩)
  · -- p_coproc
    exact sat_ret (sat_handleNotImplementedOf ha (hL.parts rfl rfl) _)
  · -- p_if_command
    exact (sat_makepartsOf ha (hL.parts rfl rfl)).bind fun parts hparts =>
      sat_ret (sat_mkCompound1 fun _ => G_ifN.mpr hparts)
  · -- p_arith_command
    exact sat_ret (sat_handleNotImplementedOf ha (hL.parts rfl rfl) _)
  · -- p_cond_command
    exact sat_ret (sat_handleNotImplementedOf ha (hL.parts rfl rfl) _)
  · -- p_elif_clause: every token among the arguments is of a reserved type, none is `None`
    have hE := hL.elif rfl
    refine Sat.bind (P := GL W) ?_ (fun parts hp => Sat.pure hp)
    refine Sat.forIn_list (I := fun rest acc => (∀ a ∈ rest, GV W T a ∧ a ∈ args) ∧ GL W acc) ?_ ?_
      args [] ⟨fun a h => ⟨ha a h, h⟩, GL_nil⟩
    · rintro a rest b ⟨hrest, hb⟩
      have hr : ∀ a' ∈ rest, GV W T a' ∧ a' ∈ args := fun a' h => hrest a' (List.mem_cons_of_mem _ h)
      have hav : GV W T a := (hrest a List.mem_cons_self).1
      have hmem : a ∈ args := (hrest a List.mem_cons_self).2
      split
      · exact Sat.pure ⟨hr, GL_snoc hb hav⟩
      · exact Sat.pure ⟨hr, GL_append.mpr ⟨hb, hav⟩⟩
      · exact Sat.pure ⟨hr, GL_snoc hb (G_reservedword.mpr ((hE _ hmem).2 _ rfl))⟩
      · exact Sat.pure ⟨hr, GL_snoc hb (G_reservedword.mpr ((hE _ hmem).1 rfl))⟩
    · rintro b ⟨_, hb⟩; exact hb
  · -- p_case_clause
    exact Sat.ite (fun _ => (sat_nodeAt ha _ _).bind fun n hn => Sat.pure (GL_one hn))
      (fun _ => (sat_nodesAt ha _ _).bind fun l hl => (sat_nodeAt ha _ _).bind fun n hn =>
        Sat.pure (GL_snoc hl hn))
  · -- p_pattern_list
    have hcompound : ∀ {parts : List Node}, GL W parts →
        Sat (partsspan parts >>= fun sp => pure (SVal.node (.compound sp parts []), false))
          (Post W T) :=
      fun h => Sat.bind_any fun _ => Sat.pure (G_compound.mpr ⟨h, GL_nil⟩)
    refine Sat.ite (fun _ => ?_) (fun _ => ?_)
    · refine (sat_nodesAt ha _ _).bind fun pat hpat => Sat.bind_any fun sp =>
        (hL.sat_reservedAt ha (i := 3) (by decide)).bind fun r hr => ?_
      have base : GL W [pattern sp pat, r] := GL_cons.mpr ⟨G_pattern.mpr hpat, GL_one hr⟩
      rw [pure_bind]
      split
      next n hn => exact hcompound (GL_snoc base (GV_of_slice ha hn))
      next => exact hcompound base
    · refine (sat_nodesAt ha _ _).bind fun pat hpat =>
        (hL.sat_reservedAt ha (i := 2) (by decide)).bind fun l hl => Sat.bind_any fun sp =>
        (hL.sat_reservedAt ha (i := 4) (by decide)).bind fun r hr => ?_
      have base : GL W [l, pattern sp pat, r] :=
        GL_cons.mpr ⟨hl, GL_cons.mpr ⟨G_pattern.mpr hpat, GL_one hr⟩⟩
      rw [pure_bind]
      split
      next n hn => exact hcompound (GL_snoc base (GV_of_slice ha hn))
      next => exact hcompound base
  · -- p_case_clause_sequence
    refine Sat.ite (fun _ => ?_) (fun _ => ?_)
    · exact (sat_nodeAt ha _ _).bind fun n hn =>
        (hL.sat_reservedAt ha (i := 2) (by decide)).bind fun r hr =>
        Sat.pure (GL_cons.mpr ⟨hn, GL_one hr⟩)
    · exact (sat_nodesAt ha _ _).bind fun l hl => (sat_nodeAt ha _ _).bind fun n hn =>
        (hL.sat_reservedAt ha (i := 3) (by decide)).bind fun r hr =>
        Sat.pure (GL_append.mpr ⟨hl, GL_cons.mpr ⟨hn, GL_one hr⟩⟩)
  · -- p_pattern
    refine Sat.ite (fun _ => ?_) (fun _ => ?_)
    · exact hL.sat_wordAt ha (i := 1) (by decide) fun _ w hw => Sat.pure (GL_one hw)
    · exact (sat_nodesAt ha _ _).bind fun l hl =>
        (hL.sat_reservedAt ha (i := 2) (by decide)).bind fun r hr =>
        hL.sat_wordAt ha (i := 3) (by decide) fun _ w hw =>
          Sat.pure (GL_append.mpr ⟨hl, GL_cons.mpr ⟨hr, GL_one hw⟩⟩)
  · -- p_list
    exact Sat.pure (slice_ok ha 2)
  · -- p_compound_list
    refine Sat.ite (fun _ => Sat.pure (slice_ok ha 1))
      (fun _ => (sat_nodesAt ha _ _).bind fun parts hparts => ?_)
    refine Sat.ite (fun _ => Sat.bind_any fun _ => Sat.pure (G_list.mpr hparts)) (fun _ => ?_)
    split
    next n hn => exact Sat.pure (G_of_head? hparts hn)
    next => exact Sat.foreign trivial
  · -- p_list0
    refine (sat_nodesAt ha _ _).bind fun parts hparts => Sat.ite (fun _ => ?_) (fun _ => ?_)
    · exact (hL.sat_operatorAt ha (i := 2) (by decide)).bind fun o ho =>
        Sat.bind_any fun _ => Sat.pure (G_list.mpr (GL_snoc hparts ho))
    · split
      next n hn => exact Sat.pure (G_of_head? hparts hn)
      next => exact Sat.foreign trivial
  · -- p_list1
    exact sat_ret (sat_joinLists ha
      (fun _ ht => G_operator.mpr (hL.leafAt (i := 2) (by decide) ht).2.1) _)
  · -- p_simple_list_terminator
    exact Sat.pure trivial
  · -- p_list_terminator: a token valued `;` in slot 1 is of a reserved type
    split
    next t ht =>
      refine Sat.ite (fun hv => Sat.pure ?_) (fun _ => Sat.pure trivial)
      have hv : t.value = .str [';'] := by simpa using hv
      show G W (.operator (PCtx.lexspan ⟨np, args⟩ 1) [';'])
      rw [lexspan_tok ht]
      exact G_operator.mpr (hL.semi rfl t ht hv)
    next => exact Sat.pure trivial
  · -- p_newline_list
    exact Sat.pure trivial
  · -- p_simple_list
    simp only [pure_bind]
    refine Sat.bind_any fun _ => (sat_nodesAt ha _ _).bind fun l1 hl1 => ?_
    refine Sat.ite (fun _ => Sat.ite (fun _ => ?_) (fun _ => ?_)) (fun _ => ?_)
    · exact (hL.sat_operatorAt ha (i := 2) (by decide)).bind fun o ho =>
        Sat.bind_any fun _ => Sat.bind_any fun _ => Sat.pure (G_list.mpr (GL_snoc hl1 ho))
    · exact Sat.bind_any fun _ => Sat.bind_any fun _ => Sat.pure (G_list.mpr hl1)
    · split
      next n => exact Sat.bind_any fun _ => Sat.pure (GL_cons.mp hl1).1
      next => exact sat_foreign_bind
  · -- p_simple_list1
    exact sat_ret (sat_joinLists ha
      (fun _ ht => G_operator.mpr (hL.leafAt (i := 2) (by decide) ht).2.1) _)
  · -- p_pipeline_command
    exact sound_pipeline_commandOf ha (G_reservedword.mpr (hL.bang rfl))
  · -- p_pipeline
    exact sat_ret (sat_joinLists ha
      (fun _ ht => G_pipe.mpr (hL.leafAt (i := 2) (by decide) ht).2.2) _)
  · -- p_timespec
    exact sat_ret (sat_handleNotImplementedOf ha (hL.parts rfl rfl) _)
  · -- p_empty
    exact Sat.pure trivial
  · exact Sat.foreign trivial



/-- C04: the leaves from the closure conditions and the slot types -/
theorem leaves_of_ctx {f : String} (hC : Ctx W T np) (hwf : ∀ t, T t → C12.TokWF t)
    (ha : ∀ a ∈ args, GV W T a) (hA : ArgsOK T f args) : Leaves W T np f args where
  words i hi t ht := hC.word t (GV_of_slice ha ht) (hA.words i hi t ht)
  res i hi t ht := by
    have := leaf_slot hC hwf ha (hA.res i hi) ht
    rwa [lexspan_tok ht] at this
  parts hf hs t hmem := partTok_of_ctx hC hwf (ha _ hmem) (hA.parts hf hs t hmem)
  elif hf a ha' := by
    refine ⟨fun h => absurd h (hA.elif hf a ha').1, fun t ht => ?_⟩
    subst ht
    exact res_tvalStr hC hwf (ha _ ha') ((hA.elif hf _ ha').2 t rfl)
  bang hf := G_reservedword.mp (bang_ok hC hwf ha (hA.bang hf))
  semi hf t ht hv := (hC.res t _ (GV_of_slice ha ht) (hA.semi hf t ht hv) hv).2.1
  redir hf := sound_redirection hC ha (hA.len (by rw [hf]; rfl))
  heredoc hf := sound_redirection_heredoc hC ha (hA.len (by rw [hf]; rfl)) (hA.here hf)

theorem sat_actionCore (hC : Ctx W T np) (hwf : ∀ t, T t → C12.TokWF t)
    (ha : ∀ a ∈ args, GV W T a) {fname : String} (hA : ArgsOK T fname args) :
    Sat (actionCore np fname args) (Post W T) :=
  (leaves_of_ctx hC hwf ha hA).sat_actionCore hC ha

end Bashlex.C04
