/-
  C04: cross-check of the statement `TokText` (proved in `TokTextProof.lean`) by evaluation of
  the model.

  `chkRun` is `parserRun` with one change: the token source checks `ttOK line t` on every token it
  delivers (`line` read from the tape the tokenizer reads) and raises a marked exception when the
  check fails; it also checks that the `_eol_ungetc_lookahead` slot is empty before and after
  every `token()` and after every semantic action (`TokText.gather`).  Nested parsers (substitution bodies) run the same check on their own line, so
  every token of every parser object involved in a run is checked, in the parser states that
  really occur.  `chkInput s` runs it on `s` and on suffixes of `s` (all suffixes for `|s| ≤ 40`,
  otherwise the suffixes starting after a newline: the restarts of the loop of `parse`).

  Inputs: `corpus` (1173 strings: bashlex's tests, the harness's hand-written list and regression
  corpus, 600 generated / mutated scripts) and `gridInputs` (3730 strings: all strings of length
  ≤ 4 over `a 1 < & ; \ ⏎ ␣ $ '` that contain a backslash — the alphabet of the defect shapes
  D31 / D32).  The `#eval`s below print the number of failing inputs: `0`.
-/
import Bashlex.Props.C04.TokText
import Bashlex.Props.C04.Corpus
import Bashlex.Model.Parse

namespace Bashlex.C04
open Bashlex

def chkHooks (np : NestedParse) : LR.Hooks SVal :=
  { lrHooks np with
    next := do
      -- the pre-condition of `TokText.next`: the look-ahead slot is empty whenever the parser
      -- asks for a token (this also checks `TokText.gather` and `keepsEol_action`)
      if (← get).eolLookahead.isSome then M.raise (.foreign "TT" "slot not empty before token()")
      let t ← nextToken
      let line ← tapeLine
      if (← get).eolLookahead.isSome then M.raise (.foreign "TT" "slot not empty after token()")
      if ttOK line t then pure (symOfTok t, .tok t)
      else M.raise (.foreign "TT" s!"{repr t} line={repr (String.ofList line)}")
    act := fun p args => do
      let r ← (lrHooks np).act p args
      if (← get).eolLookahead.isSome then M.raise (.foreign "TT" "slot not empty after an action")
      pure r }

def chkRun : Nat → M (Option Node)
  | 0 => M.raise (.outOfFuel "nesting")
  | depth + 1 => do
    let np : NestedParse := fun string dolparen => do
      let outer ← get
      let ps := if dolparen then { outer.ps with cmdsubst := true, eoftoken := true } else outer.ps
      set ({ tape := some (Tape.ofInput string), opts := some (true, false)
             lastReadToken := outer.lastReadToken, tokenBeforeThat := outer.tokenBeforeThat
             twoTokensAgo := outer.twoTokensAgo, ps := ps
             eofToken := if dolparen then some rparenEofToken else none
             limit := outer.limit.map (· - 1) } : Local)
      let r ← chkRun depth
      let inner ← get
      set { outer with ps := inner.ps }
      pure r
    let res ← LR.run LR.realTables (chkHooks np) 1073741824
    let store := (← get).store
    match res with
    | .accepted (.node n) _ _ _ => pure (some (resolve store n))
    | _ => pure none

/-- one checked run; `some msg` if a delivered token failed `ttOK` -/
def chkOne (s : Str) (o : Opts) : Option String :=
  let env : Env := { tape := Tape.ofInput s, strict := o.strict, proceed := o.proceed }
  match (chkRun 8).run { limit := o.limit } env with
  | (.error (.foreign "TT" m), _) => some m
  | _ => none

def suffixStarts (l : Str) : List Nat :=
  if l.length ≤ 40 then List.range (l.length + 1)
  else 0 :: (l.zipIdx.filterMap fun (c, i) => if c == '\n' then some (i + 1) else none)

def chkInput (s : String) : List String :=
  let l := s.toList
  (suffixStarts l).filterMap fun i =>
    ((chkOne (l.drop i) {}).map (fun m => s!"[{i}] {m}")).orElse fun _ =>
      (chkOne (l.drop i) { strict := false, proceed := true }).map (fun m => s!"[{i},proceed] {m}")

def gridAlpha : List Char := ['a', '1', '<', '&', ';', '\\', '\n', ' ', '$', '\'']
def gridN : Nat → List (List Char)
  | 0 => [[]]
  | n+1 => (gridN n).flatMap fun w => gridAlpha.map fun c => c :: w
def gridInputs : List String :=
  ((List.range 5).flatMap gridN).filter (·.contains '\\') |>.map String.ofList

def failing (l : List String) : List (String × List String) :=
  (l.map fun s => (s, chkInput s)).filter (fun p => !p.2.isEmpty)

/-- number of inputs, number of failing inputs, the first failures (truncated) -/
def report (l : List String) : Nat × Nat × List (String × List String) :=
  let f := failing l
  (l.length, f.length, (f.take 5).map fun p => (p.1, (p.2.take 1).map fun m => (m.take 240).toString))

#eval report corpus
#eval report gridInputs

/-! ## second grid, and the witnesses against the relation without `Del`

  `TokText` is proved (`Props/C04/TokTextProof.lean`); the evaluation is a cross-check of
  the statement.  `gridInputs2`: all strings of length ≤ 4 over `a < ; \ ⏎ $ " ( ) backquote` that
  contain a backslash (the first grid has no double quote and no parentheses, and so does not
  hold the witnesses below).  `oldOK`: the relation
  (`stripContinuations sl == stripContinuations v ++ r`, `wordPathV v := !(v.all isBreakChar)`)
  FAILS on the three witnesses; `TT` holds on them. -/

def gridAlpha2 : List Char := ['a', '<', ';', '\\', '\n', '$', '"', '(', ')', '`']
def gridM : Nat → List (List Char)
  | 0 => [[]]
  | n+1 => (gridM n).flatMap fun w => gridAlpha2.map fun c => c :: w
def gridInputs2 : List String :=
  ((List.range 5).flatMap gridM).filter (·.contains '\\') |>.map String.ofList

def witnesses : List String :=
  ["\"\\\\\\\n\n\"", "$(\\\\\\\n\n)", "$(cat <<E\n\\\\\n\nE\n)", "<()<\\", "<()<\\\nb",
   "a<\\\nb", "a<\\", "a &\\", "$\\", "$(A)\\", "a;\\"]

/-- the text relation through `stripContinuations` of the value, which the witnesses refute
    (`Props/C04/TokText.lean`, head comment) -/
def textRelOld (sl v r : Str) : Bool :=
  Spec.stripContinuations sl == Spec.stripContinuations v ++ r &&
    (Spec.hasContinuation sl || sl == v ++ r)

/-- does the first token of the input satisfy `textRelOld`? -/
def oldOK (s : String) : Bool :=
  let env : Env := { tape := Tape.ofInput s.toList }
  match (do let t ← nextToken; let line ← tapeLine; pure (t, line) : M (Token × Str)).run {} env with
  | (.ok ((t, line), _), _) =>
    (match t.value, t.pos with
     | .str v, some (a, e) =>
       (residues (!(v.all Spec.isBreakChar)) line e).any (textRelOld (Str.slice line a e) v)
     | _, _ => true)
  | _ => true

#eval report gridInputs2
#eval report witnesses
-- `textRelOld` fails on the first four witnesses: [false, false, false, false]
#eval (witnesses.take 4).map oldOK

end Bashlex.C04
