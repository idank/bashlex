/-
  C04, token text (layers B and C): the loop of `_readtokenword`, above the hypothesis
  `ScanHyp` on the two recursive scanners (layer D).

  The ghost relation: while a word is read, the text between the token's start `a` and the cursor
  spells `tokenword` followed by the character in hand, up to deleted backslash-newline pairs
  (`Hand.read`).  Two more shapes of "the character in hand": the `<` / `>` of a process
  substitution, handed over by `_readtoken` with the cursor on the `(` after skipped pairs
  (`Hand.procsub`), and the final newline of the line re-read after an `_ungetc(None)` left the
  cursor inside the last continuation pair (`Hand.d31`).  The loop is left
    * at the end of the line (`c is None`),
    * through `_ungetc(c)` of a break character (residue: none, or D31),
    * through the DOUBLE `_ungetc` after `<` / `>` (`handleshellexp` looked ahead): residue none,
      D32 (`<\`: the look-ahead skipped continuation pairs) or D31+D32 (`<`: it ran into the end).
  In each case the cursor is left where `exitB` (`WBDefs.lean`) holds: the end of the line, a
  break character that opens no process substitution, or the final continuation.  `ExitQ` says
  both, so the word-boundary facts need no walk of their own.
-/
import Bashlex.Props.C04.TTOps
import Bashlex.Props.C04.WBDefs
import Bashlex.Proofs.TokForms

namespace Bashlex.C04.TTP
open Bashlex Bashlex.M Bashlex.C10 Bashlex.C11 Bashlex.C03.Tok Bashlex.C04

/-! ## the hypothesis on the scanners (layer D) -/

def MPGood (P : MPParams) : Prop := P.close ≠ '\n' ∧ P.opn ≠ '\n'
def CSGood (P : CSParams) : Prop := P.close ≠ '\n' ∧ P.opn ≠ '\n'

/-- what a scanner called at cursor `i` returns: at cursor `j`, inside the line, the text
    consumed spells the value returned up to deleted backslash-newline pairs, followed by nothing
    or by the D31 residue (the scanner's last look-ahead ran through a continuation into the end of
    the line and `_ungetc(None)` left the cursor on the newline of that pair) -/
def ScanQ (L : Str) (ps : List Nat) (i : Nat) (r : Str) (l : Local) (e : Env) : Prop :=
  ∃ j, (i ≤ j ∧ j < L.length ∧ ∃ res ∈ residues false L j, Del (Str.slice L i j) (r ++ res)) ∧
    Tp L ps j l e

/-- **hypothesis (layer D)**: `_parse_matched_pair` and `_parse_comsub` return exactly the text
    they consume, continuations removed, up to the D31 residue -/
structure ScanHyp : Prop where
  pmp : ∀ (L : Str) (ps : List Nat) (i fuel : Nat) (P : MPParams), NL L → i < L.length → MPGood P →
    HT (Tp L ps i) (parseMatchedPair fuel P) (ScanQ L ps i) ET
  pcs : ∀ (L : Str) (ps : List Nat) (i fuel : Nat) (P : CSParams), NL L → i < L.length → CSGood P →
    HT (Tp L ps i) (parseComsub fuel P) (ScanQ L ps i) ET

/-! ## `wordPathV` -/

theorem wp_nonbreak {c : Char} {x : Str} (h : (synClass c).brk = false) : wordPathV (c :: x) = true := by
  unfold wordPathV
  simp [Spec.isBreakChar, h]

theorem wp_procsub {c : Char} {x : Str} (h : c = '<' ∨ c = '>') : wordPathV (c :: '(' :: x) = true := by
  unfold wordPathV
  rcases h with rfl | rfl <;> simp [List.isPrefixOf]

theorem wp_append {tw x : Str} (h : wordPathV tw = true) (hne : tw ≠ []) :
    wordPathV (tw ++ x) = true := by
  unfold wordPathV at h ⊢
  cases tw with
  | nil => exact absurd rfl hne
  | cons t ts =>
    simp only [List.isEmpty_cons, Bool.false_or, Bool.or_eq_true, Bool.not_eq_true',
      List.cons_append] at h ⊢
    rcases h with (h | h) | h
    · left; left
      rw [← List.cons_append, List.all_append, h, Bool.false_and]
    · left; right
      cases ts with
      | nil => simp [List.isPrefixOf] at h
      | cons s ss => simpa [List.isPrefixOf] using h
    · right
      cases ts with
      | nil => simp [List.isPrefixOf] at h
      | cons s ss => simpa [List.isPrefixOf] using h

theorem wp_ext {tw x : Str} (h : wordPathV tw = true) (hx : wordPathV x = true) :
    wordPathV (tw ++ x) = true := by
  by_cases hne : tw = []
  · subst hne; exact hx
  · exact wp_append h hne

theorem exp_brk {c : Char} (h1 : (synClass c).exp = true) (h2 : (synClass c).brk = true) :
    c = '<' ∨ c = '>' := by
  simp only [synClass, Bool.or_eq_true, beq_iff_eq] at h1 h2
  rcases h1 with (rfl | h) | h
  · revert h2; decide
  · exact Or.inl h
  · exact Or.inr h

theorem exp_cases {c : Char} (h1 : (synClass c).exp = true) : c = '$' ∨ c = '<' ∨ c = '>' := by
  simp only [synClass, Bool.or_eq_true, beq_iff_eq] at h1
  rcases h1 with (h | h) | h
  · exact Or.inl h
  · exact Or.inr (Or.inl h)
  · exact Or.inr (Or.inr h)

theorem brk_nl : (synClass '\n').brk = true := by decide

theorem drop_single {L : Str} {k : Nat} {c : Char} (h : L.drop k = [c]) :
    L[k]? = some c ∧ k + 1 = L.length := by
  have h1 : (L.drop k).length = 1 := by rw [h]; rfl
  rw [List.length_drop] at h1
  refine ⟨?_, by omega⟩
  have := List.head?_drop (l := L) (i := k)
  rw [h] at this
  exact this.symm

theorem res_false_cases {L : Str} {k : Nat} {r : Str} (h : r ∈ residues false L k) :
    r = [] ∨ (r = ['\\'] ∧ L.drop k = ['\n']) :=
  residues_op h

/-! ## the invariant of the loop -/

/-- the character in hand (see the header) -/
inductive Hand (L : Str) (a : Nat) (tw : Str) (i : Nat) : Option Char → Prop
  | read (i0 : Nat) (rqn : Bool) (c : Option Char) : a ≤ i0 → Del (Str.slice L a i0) tw →
      GetcR rqn L i0 i c → Hand L a tw i c
  | procsub (c : Char) : tw = [] → (c = '<' ∨ c = '>') → L[a]? = some c → a + 1 ≤ i →
      Del (Str.slice L (a + 1) i) [] → L[i]? = some '(' → Hand L a tw i (some c)
  | d31 : i = L.length → L.drop (i - 1) = ['\n'] → a ≤ i - 1 →
      Del (Str.slice L a (i - 1)) (tw ++ ['\\']) → Hand L a tw i (some '\n')

structure WInv (L : Str) (a : Nat) (st : RWState) (i : Nat) : Prop where
  hand : Hand L a st.tokenword i st.c
  len : a + st.tokenword.length < L.length
  wp : wordPathV st.tokenword = true
  pn : st.passNext = true → ∃ i0 rqn p, p ≠ '\n' ∧ st.c = some p ∧ a ≤ i0 ∧
    Del (Str.slice L a i0) st.tokenword ∧ GetcR rqn L i0 i (some p) ∧ st.tokenword ≠ []

def RWI (L : Str) (a : Nat) (st : RWState) (l : Local) (e : Env) : Prop :=
  ∃ i, WInv L a st i ∧ Tp L [a] i l e

/-- the word read, with the cursor at its end `k` -/
def SpanW (L : Str) (a k : Nat) (tw : Str) : Prop :=
  a ≤ k ∧ k ≤ L.length ∧ a + tw.length < L.length ∧ wordPathV tw = true ∧
  ∃ r ∈ residues true L k, Del (Str.slice L a k) (tw ++ r)

/-- how the loop is left: the word read, the cursor at its end `k`, where `exitB` holds -/
def ExitQ (L : Str) (a : Nat) (st : RWState) (l : Local) (e : Env) : Prop :=
  ∃ k, (SpanW L a k st.tokenword ∧ exitB L k = true) ∧ Tp L [a] k l e

def StepQ (L : Str) (a : Nat) (r : RWState ⊕ RWState) (l : Local) (e : Env) : Prop :=
  match r with
  | .inl st => RWI L a st l e
  | .inr st => ExitQ L a st l e

/-- the state after a branch that goes on to the next character (`gotonext`) -/
def GoQ (L : Str) (a : Nat) (st : RWState) (l : Local) (e : Env) : Prop :=
  ∃ j, (a ≤ j ∧ j < L.length ∧ st.passNext = false ∧ wordPathV st.tokenword = true ∧
    ∃ res ∈ residues false L j, Del (Str.slice L a j) (st.tokenword ++ res)) ∧ Tp L [a] j l e

section
variable {L : Str} {a : Nat}

/-- the end of an iteration -/
theorem rwTail_tt (st : RWState) {k : Nat} (hak : a ≤ k)
    (hlen : a + st.tokenword.length < L.length) (hwp : wordPathV st.tokenword = true)
    (hmid : (Del (Str.slice L a k) st.tokenword ∧
              (st.passNext = true → st.tokenword ≠ [] ∧ ∃ p, L[k]? = some p ∧ p ≠ '\n')) ∨
            (st.passNext = false ∧ L.drop k = ['\n'] ∧
              Del (Str.slice L a k) (st.tokenword ++ ['\\']))) :
    HT (Tp L [a] k) (rwTail st) (StepQ L a) ET := by
  unfold rwTail
  refine keep_bind k_currentDelimiter (fun cd _ => ?_)
  refine getc_bind (fun nc i hg => ?_)
  refine HT.pure (fun l e h => ?_)
  show RWI L a { st with c := nc } l e
  refine ⟨i, ?_, h⟩
  rcases hmid with ⟨hd, hp⟩ | ⟨hp, hdrop, hd⟩
  · refine ⟨Hand.read k _ nc hak hd hg, hlen, hwp, ?_⟩
    intro hpass
    have hpass' : st.passNext = true := hpass
    obtain ⟨hne, p, hp1, hp2⟩ := hp hpass'
    have hr : (cd != some '\'' && !st.passNext) = false := by rw [hpass']; simp
    obtain ⟨e1, e2⟩ := hg.exact hp1 (Or.inr hr)
    subst e1
    exact ⟨k, _, p, hp2, rfl, hak, hd, hg, hne⟩
  · obtain ⟨q1, q2⟩ := drop_single hdrop
    obtain ⟨e1, e2⟩ := hg.exact q1 (Or.inl (by decide))
    subst e1
    have hi : i = L.length := by omega
    refine ⟨?_, hlen, hwp, fun hpass => ?_⟩
    · refine Hand.d31 hi ?_ (by omega) ?_
      · have : i - 1 = k := by omega
        rw [this]; exact hdrop
      · have : i - 1 = k := by omega
        rw [this]; exact hd
    · have hpass' : st.passNext = true := hpass
      rw [hp] at hpass'; cases hpass'

theorem rwTail_of_go (st : RWState) {j : Nat} (h1 : a ≤ j) (h2 : j < L.length)
    (h3 : st.passNext = false) (h4 : wordPathV st.tokenword = true) {res : Str}
    (hr : res ∈ residues false L j) (hd : Del (Str.slice L a j) (st.tokenword ++ res)) :
    HT (Tp L [a] j) (rwTail st) (StepQ L a) ET := by
  have hl := hd.length_le
  rw [slice_length L (by omega), List.length_append] at hl
  refine rwTail_tt st h1 (by omega) h4 ?_
  rcases res_false_cases hr with rfl | ⟨rfl, hdrop⟩
  · left
    exact ⟨by simpa using hd, fun hp => by rw [h3] at hp; cases hp⟩
  · right
    exact ⟨h3, hdrop, hd⟩

theorem rwBreak_true (st : RWState) (c : Char) : rwBreak st c true = rwTail st := by
  unfold rwBreak; simp

/-- a character in hand that is no expansion character: `_ungetc` and leave if it is a break
    character, else append it -/
theorem plain_tt (hnl : NL L) (st : RWState) (c : Char) {i : Nat} (hc : st.c = some c)
    (hw : WInv L a st i) (hpn : st.passNext = false) (hnexp : (synClass c).exp = false) :
    HT (Tp L [a] i) (rwBreak st c false) (StepQ L a) ET := by
  obtain ⟨hhand, hlen, hwp, _⟩ := hw
  unfold rwBreak
  simp only [Bool.not_false, if_true]
  refine keep_bind (v_shellbreak c) (fun b hb => ?_)
  subst hb
  rw [hc] at hhand
  refine HT.ite (fun hbrk => ?_) (fun hbrk => ?_)
  · -- a break character: put back
    cases hhand with
    | read i0 rqn _ h0 hdel hg =>
      obtain ⟨g1, g2, g3⟩ := hg.char c rfl
      refine ungetc_bind (by omega) ?_
      refine HT.pure (fun l e h => ⟨i - 1, ⟨⟨by omega, by have := hg.le'; omega, hlen, hwp, [],
        res_nil _ _ _, ?_⟩, WB.exitB_brk g2 hbrk (Or.inl (WB.nexp_ne hnexp))⟩, h⟩)
      rw [List.append_nil, ← slice_cat L h0 (by omega : i0 ≤ i - 1) (by have := hg.le'; omega)]
      simpa using hdel.append g3
    | procsub _ _ hcc =>
      exfalso
      rcases hcc with rfl | rfl <;> revert hnexp <;> decide
    | d31 hi hdrop hai hd =>
      have hpos : 0 < L.length := by
        have := congrArg List.length hdrop
        rw [List.length_drop] at this; simp at this; omega
      refine ungetc_bind (by omega) ?_
      exact HT.pure (fun l e h => ⟨i - 1, ⟨⟨hai, by omega, hlen, hwp, ['\\'], res_d31 hdrop, hd⟩,
        WB.exitB_brk (drop_single hdrop).1 brk_nl (Or.inl ⟨by decide, by decide⟩)⟩, h⟩)
  · -- an ordinary character: append
    have hbrk' : (synClass c).brk = false := by simpa using hbrk
    have hcn : c ≠ '\n' := by rintro rfl; rw [brk_nl] at hbrk'; cases hbrk'
    cases hhand with
    | read i0 rqn _ h0 hdel hg =>
      obtain ⟨g1, g2, g3⟩ := hg.char c rfl
      have hi : i < L.length := nl_lt hnl g2 hcn (by omega)
      have hd : Del (Str.slice L a i) (st.tokenword ++ [c]) := by
        rw [← slice_cat L h0 hg.le hg.le']
        exact hdel.append hg.del
      have hl := hd.length_le
      rw [slice_length L (by omega), List.length_append] at hl
      simp only [List.length_cons, List.length_nil] at hl
      refine rwTail_tt (handleescapedchar st c) (by omega) ?_ ?_ (Or.inl ⟨hd, fun hp => ?_⟩)
      · show a + (st.tokenword ++ [c]).length < L.length
        rw [List.length_append]; simp only [List.length_cons, List.length_nil]; omega
      · show wordPathV (st.tokenword ++ [c]) = true
        exact wp_ext hwp (wp_nonbreak hbrk')
      · have : st.passNext = true := hp
        rw [hpn] at this; cases this
    | procsub _ _ hcc =>
      exfalso
      rcases hcc with rfl | rfl <;> revert hnexp <;> decide
    | d31 _ _ _ _ => exact absurd rfl hcn

/-! ## quotes (layer C) -/

theorem quote_ne_nl {c : Char} (h : (synClass c).quote = true) : c ≠ '\n' := by
  rintro rfl; revert h; decide

theorem quote_nonbreak {c : Char} (h : (synClass c).quote = true) : (synClass c).brk = false := by
  simp only [synClass, Bool.or_eq_true, beq_iff_eq] at h
  rcases h with (rfl | rfl) | rfl <;> decide

/-- closure `handleshellquote`: the opening quote, then what `_parse_matched_pair` returns -/
theorem handleshellquote_tt (hS : ScanHyp) (hnl : NL L) (st : RWState) (c : Char)
    (hq : (synClass c).quote = true) {i : Nat} (hai : a ≤ i) (hi : i < L.length)
    (hd : Del (Str.slice L a i) (st.tokenword ++ [c])) (hpn : st.passNext = false)
    (hwp : wordPathV st.tokenword = true) :
    HT (Tp L [a] i) (handleshellquote st c) (GoQ L a) ET := by
  unfold handleshellquote
  refine keep_bind (k_pushDelimiter c) (fun _ _ => ?_)
  refine keep_bind w_depthFuel (fun fuel _ => ?_)
  refine HT.bind (hS.pmp L [a] i fuel _ hnl hi ⟨quote_ne_nl hq, quote_ne_nl hq⟩) (fun ttok => ?_)
  refine HT.pre_exists (fun j => HT.pre_pure (fun hj => ?_))
  obtain ⟨h1, h2, res, hr, hdel⟩ := hj
  refine keep_bind k_popDelimiter (fun _ _ => ?_)
  refine HT.pure (fun l e h => ⟨j, ⟨by omega, h2, hpn, ?_, res, hr, ?_⟩, h⟩)
  · show wordPathV (st.tokenword ++ [c] ++ ttok) = true
    rw [List.append_assoc]
    exact wp_ext hwp (wp_nonbreak (quote_nonbreak hq))
  · show Del (Str.slice L a j) (st.tokenword ++ [c] ++ ttok ++ res)
    rw [← slice_cat L hai h1 (by omega), List.append_assoc]
    exact hd.append hdel

end

end Bashlex.C04.TTP
