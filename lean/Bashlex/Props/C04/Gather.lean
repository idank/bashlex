/-
  C04: `gatherheredocuments` from ANY cursor.

  It keeps the line, the empty `_eol_ungetc_lookahead` slot and the position stack (`G2`: no
  constraint on the cursor), and it leaves the cursor where a line ends: `readline(False)` stops
  behind a newline character or at the end of the line, `makeheredoc` reads at least one line and
  nothing moves the cursor after its last `readline`, and the non-strict skip
  (`_shell_input_line_index += 1`) happens at the end of the line only.  So it keeps every
  predicate `C` on the cursor that holds at these places (`AtEnds`): `gather_c`.  With `C` trivial
  this is `gather_g2` (and `TokText.gather`); with `C` "the cursor is at a token boundary" it is
  `WB.gather_b`.
-/
import Bashlex.Props.C04.TTFinish

namespace Bashlex.C04.TTP
open Bashlex Bashlex.M Bashlex.C10 Bashlex.C11 Bashlex.C03.Tok Bashlex.C04
set_option linter.unusedSimpArgs false

/-- line, empty slot, positions (no constraint on the cursor) -/
def G2 (L : Str) (ps : List Nat) (l : Local) (e : Env) : Prop :=
  (tapeOf l e).line = L ∧ l.eolLookahead = none ∧ l.positions = ps

/-- `G2` with the cursor in `C` -/
def G2C (C : Nat → Prop) (L : Str) (ps : List Nat) (l : Local) (e : Env) : Prop :=
  G2 L ps l e ∧ C (tapeOf l e).idx

/-- `C` holds of the cursor at the end of the line and behind a newline character -/
structure AtEnds (L : Str) (C : Nat → Prop) : Prop where
  len : ∀ j, L.length ≤ j → C j
  nl : ∀ j, 0 < j → L[j - 1]? = some '\n' → C j

/-- where the cursor is after `_getc` delivered `c` -/
def AfterC (L : Str) (c : Option Char) (j : Nat) : Prop :=
  match c with
  | none => L.length ≤ j
  | some ch => 0 < j ∧ L[j - 1]? = some ch

/-- state after a `_getc` that delivered `c` -/
def GC (L : Str) (ps : List Nat) (c : Option Char) (l : Local) (e : Env) : Prop :=
  AfterC L c (tapeOf l e).idx ∧ G2 L ps l e

section
variable {L : Str} {ps : List Nat} {C : Nat → Prop}

theorem G2.env {l : Local} {e e' : Env} (h : G2 L ps l e) (h1 : e'.tape = e.tape) :
    G2 L ps l e' := by
  unfold G2 at h ⊢
  rw [tapeOf_env h1]; exact h

instance : EnvStable (G2 L ps) := ⟨fun _ _ _ h h1 _ => h.env h1⟩

theorem G2C.env {l : Local} {e e' : Env} (h : G2C C L ps l e) (h1 : e'.tape = e.tape) :
    G2C C L ps l e' := by
  unfold G2C at h ⊢
  rw [tapeOf_env h1]; exact ⟨h.1.env h1, h.2⟩

instance : EnvStable (G2C C L ps) := ⟨fun _ _ _ h h1 _ => h.env h1⟩

theorem G2.put {l : Local} {e : Env} (h : G2 L ps l e) {t' : Tape} (h1 : t'.line = L) :
    G2 L ps (putL l t') (putE l e t') := by
  obtain ⟨a1, a2, a3⟩ := h
  unfold G2
  rw [tapeOf_put, putL_eol, C11.putL_positions]
  exact ⟨h1, a2, a3⟩

theorem Tp.g2 {i : Nat} {l : Local} {e : Env} (h : Tp L ps i l e) : G2 L ps l e :=
  ⟨h.1, h.2.2.2.1, h.2.2.2.2⟩

theorem getc_gc (rqn : Bool) : HT (G2 L ps) (getc rqn) (fun c l e => GC L ps c l e) ET := by
  intro l e h
  have h0 := h
  obtain ⟨a1, a2, a3⟩ := h
  rw [run_getc rqn l e a2]
  cases hgc : (tapeOf l e).getc rqn ((tapeOf l e).line.length + 1) with
  | error u => cases u; exact True.intro
  | ok v =>
    obtain ⟨c, t'⟩ := v
    obtain ⟨b1, b2, b3, b4, b5, b6⟩ := getc_spec rqn _ _ _ _ hgc
    obtain ⟨m1, m2⟩ := tape_getc_mono rqn _ _ _ _ hgc
    refine ⟨?_, h0.put (b1.trans a1)⟩
    rw [tapeOf_put]
    cases c with
    | none =>
      show L.length ≤ t'.idx
      have := b6 rfl (by omega)
      rw [a1] at this; exact this
    | some ch =>
      obtain ⟨n1, n2⟩ := m2 ch rfl
      rw [a1] at n2
      exact ⟨by omega, n2⟩

theorem GC.none (hC : AtEnds L C) {l : Local} {e : Env} (h : GC L ps none l e) : G2C C L ps l e :=
  ⟨h.2, hC.len _ h.1⟩

theorem GC.nl (hC : AtEnds L C) {l : Local} {e : Env} (h : GC L ps (some '\n') l e) :
    G2C C L ps l e :=
  ⟨h.2, hC.nl _ h.1.1 h.1.2⟩

/-- `readline(False)` ends where a line ends -/
theorem readline_up (hC : AtEnds L C) :
    SatW (G2 L ps) (G2C C L ps) (readline false) (fun _ => True) := by
  unfold readline
  simp only [Bool.and_false, Bool.false_eq_true, if_false]
  refine HT.bind (Q := fun _ l e => G2 L ps l e) (HT.pure (fun _ _ h => h)) (fun fuel => ?_)
  refine HT.loop (E := ET) (I := fun _ l e => G2 L ps l e) True.intro (fun st => ?_) fuel _
  refine HT.bind (getc_gc true) (fun c0 => ?_)
  cases c0 with
  | none =>
    simp only [Option.isNone_none, Bool.true_and, Option.getD_none]
    refine HT.ite (fun _ => ?_) (fun _ => ?_)
    · exact HT.pure (fun l e h => ⟨True.intro, h.none hC⟩)
    · refine HT.ite (fun _ => ?_) (fun _ => ?_)
      · refine HT.ite (fun _ => ?_) (fun hc => absurd rfl hc)
        exact HT.pure (fun l e h => ⟨True.intro, h.none hC⟩)
      · refine HT.ite (fun _ => ?_) (fun hc => absurd rfl hc)
        exact HT.pure (fun l e h => ⟨True.intro, h.none hC⟩)
  | some ch =>
    simp only [Option.isNone_some, Bool.false_and, Option.getD_some, Bool.false_eq_true, if_false]
    refine HT.ite (fun _ => ?_) (fun _ => ?_)
    · refine HT.ite (fun hc => ?_) (fun hc => ?_)
      · have : ch = '\n' := by simpa using hc
        subst this
        exact HT.pure (fun l e h => ⟨True.intro, h.nl hC⟩)
      · exact HT.pure (fun l e h => h.2)
    · refine HT.ite (fun hc => ?_) (fun hc => ?_)
      · have : ch = '\n' := by simpa using hc
        subst this
        exact HT.pure (fun l e h => ⟨True.intro, h.nl hC⟩)
      · exact HT.pure (fun l e h => h.2)

theorem readline_keep (hC : AtEnds L C) :
    SatW (G2C C L ps) (G2C C L ps) (readline false) (fun _ => True) :=
  SatW.pre (readline_up hC) (fun _ _ h => h.1)

end

/-- one step of the walk through `makeheredoc` -/
macro "g_step" : tactic => `(tactic| first
  | with_reducible refine SatW.bindE (readline_up ‹_›) (fun _ => ?_)
  | with_reducible refine SatW.bindE (readline_keep ‹_›) (fun _ => ?_)
  | w_step)

section
variable {L : Str} {ps : List Nat} {C : Nat → Prop}

/-- `makeheredoc` ends where a line ends (its last `readline`) -/
theorem makeheredoc_up (hC : AtEnds L C) (id : Nat) (kill : Bool) :
    SatW (G2 L ps) (G2C C L ps) (makeheredoc id kill) (fun _ => True) := by
  unfold makeheredoc
  (try simp only [])
  repeat' g_step

/-- `_peekc()`: when nothing is delivered the cursor is at the end of the line -/
theorem peekc_gc : HT (G2 L ps) (peekc true)
    (fun p l e => (p = none → L.length ≤ (tapeOf l e).idx) ∧ G2 L ps l e) ET := by
  unfold peekc
  refine HT.bind (getc_gc true) (fun c => ?_)
  cases c with
  | none =>
    simp only [Option.isSome_none, Bool.false_eq_true, if_false, pure_bind]
    exact HT.pure (fun l e h => ⟨fun _ => h.1, h.2⟩)
  | some ch =>
    simp only [Option.isSome_some, if_true]
    refine HT.bind (Q := fun _ l e => G2 L ps l e) ?_ (fun _ => ?_)
    rotate_left
    · refine HT.pure (fun l e h => ⟨fun hh => ?_, h⟩)
      cases hh
    intro l e h
    obtain ⟨⟨hpos, hch⟩, hg⟩ := h
    have hg0 := hg
    obtain ⟨a1, a2, a3⟩ := hg
    have hlt : (tapeOf l e).idx - 1 < L.length := (List.getElem?_eq_some_iff.mp hch).1
    rw [run_ungetc]
    have hu : (tapeOf l e).ungetc = (true, { tapeOf l e with idx := (tapeOf l e).idx - 1 }) := by
      unfold Tape.ungetc
      rw [if_pos]
      rw [a1]
      have hne : L ≠ [] := by
        intro hl; rw [hl] at hlt; simp at hlt
      simp only [Bool.and_eq_true, Bool.not_eq_true', List.isEmpty_eq_false_iff, ne_eq, bne_iff_ne,
        decide_eq_true_eq]
      exact ⟨⟨hne, by omega⟩, by omega⟩
    rw [hu]
    exact hg0.put a1

/-- **`gatherheredocuments`** keeps line, empty slot, position stack, and the cursor in `C` -/
theorem gather_c (hC : AtEnds L C) :
    SatW (G2C C L ps) (G2C C L ps) gatherheredocuments (fun _ => True) := by
  unfold gatherheredocuments
  simp only []
  refine HT.get_bind (fun l00 => HTQAt.ofHT ?_)
  refine HT.loop (E := ET) (I := fun _ l e => G2C C L ps l e) True.intro (fun _ => ?_) _ ()
  refine HT.get_bind (fun l0 => ?_)
  split
  · exact HT.pure (fun l e h => ⟨True.intro, h.2⟩)
  · rename_i id kill rest _
    refine HTQAt.ofHT ?_
    refine HT.bind (HT.pre peekc_gc (fun l e h => h.1)) (fun p => ?_)
    have htail : HT (G2 L ps) (do
        modify fun l => { l with redirstack := rest }
        makeheredoc id kill
        pure (Sum.inl ()) : M (Unit ⊕ Unit))
        (fun r l e => ∃ u, r = .inl u ∧ G2C C L ps l e) ET := by
      refine HT.bind (Q := fun _ l e => G2 L ps l e) (HT.modify (fun l e h => h)) (fun _ => ?_)
      refine HT.bind (makeheredoc_up hC id kill) (fun _ => ?_)
      exact HT.pure (fun l e h => ⟨(), rfl, h.2⟩)
    cases p with
    | some ch =>
      simp only [Option.isNone_some, Bool.false_eq_true, if_false, pure_bind]
      refine HT.post (HT.pre htail (fun l e h => h.2)) ?_
      rintro r l e ⟨u, rfl, h⟩
      exact h
    | none =>
      simp only [Option.isNone_none, if_true]
      refine HT.bind (HT.reader run_optStrict) (fun s => ?_)
      cases s with
      | true =>
        simp only [Bool.not_true, Bool.false_eq_true, if_false, pure_bind]
        refine HT.post (HT.pre htail (fun l e h => h.2.2)) ?_
        rintro r l e ⟨u, rfl, h⟩
        exact h
      | false =>
        simp only [Bool.not_false, if_true]
        refine HT.bind (Q := fun _ l e => G2C C L ps l e) ?_
          (fun _ => HT.pure (fun l e h => ⟨True.intro, h⟩))
        intro l e h
        obtain ⟨_, hlen, hg⟩ := h
        rw [run_bumpIdx]
        refine ⟨hg.put hg.1, ?_⟩
        rw [tapeOf_put]
        exact hC.len _ (by have := hlen (by trivial); show L.length ≤ (tapeOf l e).idx + 1; omega)

/-- `gatherheredocuments` keeps the line, the empty slot and the position stack -/
theorem gather_g2 : SatW (G2 L ps) (G2 L ps) gatherheredocuments (fun _ => True) :=
  HT.post (HT.pre (gather_c (C := fun _ => True) ⟨fun _ _ => True.intro, fun _ _ _ => True.intro⟩)
    (fun _ _ h => ⟨h, True.intro⟩)) (fun _ _ _ h => ⟨True.intro, h.2.1⟩)

/-- **`TokText.gather`** -/
theorem keepsEol_gather : C10.KeepsEol gatherheredocuments := by
  intro l e a l' e' hl hr
  have h := gather_g2 (L := (tapeOf l e).line) (ps := l.positions) l e ⟨rfl, hl, rfl⟩
  rw [hr] at h
  exact h.2.2.1

end

end Bashlex.C04.TTP
