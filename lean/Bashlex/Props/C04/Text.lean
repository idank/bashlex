/-
  C04: from provenance to text.

  `Src.slice_eq`: in a frame below which no enclosing word's value differs from its source text
  (`fr.cont = false`), slices of the frame's line that end within the frame are slices of the
  source of the outermost run, moved by the frame's offset.  (Above it: `TT` — the value of a
  word token is a prefix of the text it spans when that text holds no line continuation — and
  `IsBody`: a nested parser runs over a piece of the token value.)
-/
import Bashlex.Props.C04.Run
import Bashlex.Props.C13.Indep

namespace Bashlex.C04
open Bashlex Bashlex.M Bashlex.Node Bashlex.Spec
set_option linter.unusedSimpArgs false

/-! ## slices -/

theorem slice_nil_of_le (l : Str) {a b : Nat} (h : b ≤ a) : Str.slice l a b = [] := by
  unfold Str.slice
  apply List.drop_eq_nil_of_le
  exact Nat.le_trans (List.length_take_le _ _) h

theorem slice_append_left (x y : Str) {a b : Nat} (h : b ≤ x.length) :
    Str.slice (x ++ y) a b = Str.slice x a b := by
  unfold Str.slice
  rw [List.take_append_of_le_length h]

theorem slice_drop (v : Str) (k a b : Nat) :
    Str.slice (v.drop k) a b = Str.slice v (a + k) (b + k) := by
  unfold Str.slice
  rw [List.take_drop, List.drop_drop, Nat.add_comm k b, Nat.add_comm k a]

theorem slice_slice (l : Str) (x y a b : Nat) (h : b + x ≤ y) :
    Str.slice (Str.slice l x y) a b = Str.slice l (a + x) (b + x) := by
  unfold Str.slice
  rw [List.take_drop, List.drop_drop, List.take_take, Nat.add_comm x b, Nat.min_eq_left h,
    Nat.add_comm x a]

theorem slice_of_prefix {v sl : Str} (h : v.isPrefixOf sl = true) {a b : Nat} (hb : b ≤ v.length) :
    Str.slice v a b = Str.slice sl a b := by
  obtain ⟨t, rfl⟩ := List.isPrefixOf_iff_prefix.mp h
  exact (slice_append_left v t hb).symm

theorem slice_length_le (l : Str) (a b : Nat) : (Str.slice l a b).length ≤ b - a := by
  unfold Str.slice
  rw [List.length_drop]
  have := List.length_take_le b l
  omega

theorem slice_ofInput (s : Str) {a b : Nat} (h : b ≤ s.length) :
    Str.slice (Tape.ofInput s).line a b = Str.slice s a b := by
  rcases C13.ofInput_line s with e | e <;> rw [e]
  exact slice_append_left s _ h

/-! ## frames -/

theorem Src.bound {src : Str} {fr : Frame} (h : Src src fr) :
    fr.off ≤ fr.lim ∧ fr.line.length ≤ fr.lim - fr.off + 1 := by
  cases h with
  | root => exact ⟨Nat.zero_le _, by simpa using Tape.ofInput_length_le src⟩
  | sub _ _ _ _ e1 e2 e3 _ _ =>
    rw [e1, e2, e3]
    refine ⟨by omega, ?_⟩
    have := Tape.ofInput_length_le ‹Str›
    omega

/-- the value of a delivered token other than NEWLINE ends before the last character of the line -/
theorem Tk.value_bound {line : Str} {tok : Token} (h : Tk line tok) (hne : tok.valueStr ≠ ['\n']) :
    tok.valueStr = [] ∨
      (tok.lexpos + tok.valueStr.length < line.length ∧
        tok.valueStr.length ≤ tok.endlexpos - tok.lexpos) := by
  cases hv : tok.value with
  | none => left; simp [Token.valueStr, hv]
  | int k => left; simp [Token.valueStr, hv]
  | str v =>
    right
    have hvs : tok.valueStr = v := by simp [Token.valueStr, hv]
    obtain ⟨a, e, hp, _, _, _, _, _, _, halt⟩ := h.1.str hv
    have hl : tok.lexpos = a := by simp [Token.lexpos, hp]
    have he : tok.endlexpos = e := by simp [Token.endlexpos, hp]
    rw [hvs, hl, he]
    rw [hvs] at hne
    rcases halt with ⟨_, g2, g3, _⟩ | hnl
    · rcases g3 with g3 | g3
      · exact absurd g3 hne
      · exact ⟨g3, g2⟩
    · unfold nlOver at hnl
      simp only [Bool.and_eq_true, beq_iff_eq] at hnl
      exact absurd hnl.1.2 hne

/-- **transport of slices**: in a frame with `cont = false`, a slice of the frame's line that
    ends within the frame is the corresponding slice of the source -/
theorem Src.slice_eq {src : Str} {fr : Frame} (h : Src src fr) (hc : fr.cont = false) :
    ∀ a b, b + fr.off ≤ fr.lim → Str.slice fr.line a b = Str.slice src (a + fr.off) (b + fr.off) := by
  induction h with
  | root =>
    intro a b hb
    simp only [Nat.add_zero] at hb ⊢
    exact slice_ofInput src hb
  | @sub fr fr' tok body k h0 hT hB hne e1 e2 e3 e4 e5 ih =>
    intro a b hb
    rw [e4] at hc
    simp only [Bool.or_eq_false_iff, Bool.not_eq_false'] at hc
    obtain ⟨hc0, hfaith⟩ := hc
    by_cases hab : b ≤ a
    · rw [slice_nil_of_le _ hab, slice_nil_of_le _ (by omega)]
    have hab' : a < b := by omega
    have hbl : b ≤ body.length := by omega
    obtain ⟨rest, hrest⟩ := hB
    have hvl : k + body.length ≤ tok.valueStr.length := by
      have := congrArg List.length hrest
      rw [List.length_drop, List.length_append] at this
      omega
    have hvne : tok.valueStr ≠ [] := by
      intro h; rw [h] at hvl; simp only [List.length_nil] at hvl; omega
    rcases hT.value_bound hne with h | ⟨hv1, hv2⟩
    · exact absurd h hvne
    rw [e1, slice_ofInput body hbl]
    -- body → value
    have s1 : Str.slice body a b = Str.slice (tok.valueStr.drop k) a b := by
      rw [hrest]; exact (slice_append_left body rest hbl).symm
    rw [s1, slice_drop]
    -- value → spanned text
    rw [slice_of_prefix hfaith (by omega)]
    -- spanned text → line
    rw [slice_slice _ _ _ _ _ (by omega)]
    -- line → source
    have hbd := h0.bound
    rw [ih hc0 _ _ (by omega), e2]
    congr 1 <;> omega

theorem Src.root_of {src : Str} {fr : Frame} (h : Src src fr) (hn : fr.nested = false) :
    fr.line = (Tape.ofInput src).line ∧ fr.off = 0 ∧ fr.lim = src.length ∧ fr.cont = false := by
  cases h with
  | root => exact ⟨rfl, rfl, rfl, rfl⟩
  | sub _ _ _ _ _ _ _ _ e5 => rw [e5] at hn; cases hn

/-- a span of the input that lies in a frame with `cont = false`: the text of the input under it
    is the text of the frame's line under the span moved back -/
theorem slice_in_frame {s : Str} {J : Nat} {fr : Frame} (hs : Src (s.drop J) fr)
    (hc : fr.cont = false) {p : Span} (h1 : fr.off + J ≤ p.1) (h2 : p.2 ≤ fr.lim + J) :
    Str.slice s p.1 p.2 = Str.slice fr.line (p.1 - (fr.off + J)) (p.2 - (fr.off + J)) := by
  by_cases hp : p.2 ≤ p.1
  · rw [slice_nil_of_le _ hp, slice_nil_of_le _ (by omega)]
  rw [hs.slice_eq hc _ _ (by omega), slice_drop]
  congr 1 <;> omega

/-! ## the text under a token-built leaf -/

/-- the text `t` (a slice of `line` ending at `e`) spells `w`, up to the defect shapes:
    line continuations are removed; a residue (`residues`: D31, D32) may follow; the NEWLINE
    operator read while here-documents were pending extends over their bodies -/
def TokTextAt (line : Str) (e : Nat) (t w : Str) : Prop :=
  (∃ r ∈ residues (wordPathV w) line e,
      stripContinuations t = stripContinuations w ++ r ∧ (hasContinuation t = false → t = w ++ r)) ∨
  (w = ['\n'] ∧ t.head? = some '\n')

/-- the text `t` is `w` followed by a residue, up to deleted backslash-newline pairs (`Del`);
    this is what holds of EVERY delivered token with a string value.  `TokTextAt` follows when
    the value holds no adjacent backslash-newline (`TokDelAt.textAt`); witness that it does not
    hold in general: the word `"\\\⏎⏎"`, see `TokText.lean`. -/
def TokDelAt (line : Str) (e : Nat) (t w : Str) : Prop :=
  (∃ r ∈ residues (wordPathV w) line e, Del t (w ++ r)) ∨ (w = ['\n'] ∧ t.head? = some '\n')

theorem TokDelAt.textAt {line : Str} {e : Nat} {t w : Str} (h : TokDelAt line e t w)
    (hw : hasContinuation w = false) : TokTextAt line e t w := by
  rcases h with ⟨r, hr, hd⟩ | h
  · left
    have hc : hasContinuation (w ++ r) = false := hasCont_append_of_noNL hw (residues_noNL hr)
    refine ⟨r, hr, ?_, fun ht => hd.eq_of_noCont ht⟩
    rw [hd.strip hc, strip_of_noCont w hw]
  · exact Or.inr h

theorem stripContinuations_of_no_backslash : ∀ (w : Str), w.contains '\\' = false →
    stripContinuations w = w
  | [], _ => rfl
  | [c], h => by
    have : c ≠ '\\' := by intro hc; subst hc; simp at h
    simp [stripContinuations, this]
  | c :: d :: rest, h => by
    have hc : c ≠ '\\' := by intro hc; subst hc; simp at h
    have hr : (d :: rest).contains '\\' = false := by
      simp only [List.contains_cons, Bool.or_eq_false_iff] at h ⊢
      exact h.2
    unfold stripContinuations
    split
    · rename_i heq; cases heq; exact absurd rfl hc
    · rename_i heq
      cases heq
      rw [stripContinuations_of_no_backslash _ hr]
    · rename_i heq; cases heq

theorem Reserved.notWord {t : Token} (h : Reserved t) : isWordTy t = false := by
  obtain ⟨ty, hty, hres⟩ := h
  unfold isWordTy Token.is
  rw [hty]
  cases ty <;> first | rfl | (exfalso; revert hres; decide)

/-- **the text under a leaf built from one token** -/
theorem FromTok.text {line : Str} {j : Nat} {p : Span} {w : Str} (h : FromTok line j p w) :
    j ≤ p.1 ∧ p.1 < p.2 ∧ w.contains '\\' = false ∧
      TokTextAt line (p.2 - j) (Str.slice line (p.1 - j) (p.2 - j)) w := by
  obtain ⟨tok, hT, hres, hw, rfl⟩ := h
  obtain ⟨a, e, hp, hae, _, _, _, _, hbs, halt⟩ := hT.1.str hw
  have hl : tok.lexpos = a := by simp [Token.lexpos, hp]
  have he : tok.endlexpos = e := by simp [Token.endlexpos, hp]
  have hnb : w.contains '\\' = false := by
    rcases hbs with h | h
    · rw [hres.notWord] at h; cases h
    · exact h
  simp only [hl, he, Nat.add_sub_cancel]
  refine ⟨Nat.le_add_left _ _, by omega, hnb, ?_⟩
  refine TokDelAt.textAt ?_ (hasCont_of_noBackslash w hnb)
  rcases halt with ⟨_, _, _, r, hr, hrel⟩ | hnl
  · left
    exact ⟨r, hr, Del.of_delB _ _ hrel⟩
  · right
    unfold nlOver at hnl
    simp only [Bool.and_eq_true, beq_iff_eq] at hnl
    exact ⟨hnl.1.2, hnl.2⟩

/-- **reserved-word, operator and pipe nodes** in a given frame -/
theorem leaf_text_fr {line : Str} {j : Nat} {m : Node} {p : Span} {w : Str}
    (hm : m = .reservedword p w ∨ m = .operator p w ∨ m = .pipe p w) (hl : LeafOK line j m) :
    (m = .reservedword p ['!'] ∧ p.1 = p.2) ∨
    (j ≤ p.1 ∧ p.1 < p.2 ∧ w.contains '\\' = false ∧
      TokTextAt line (p.2 - j) (Str.slice line (p.1 - j) (p.2 - j)) w) := by
  rcases hm with rfl | rfl | rfl
  · simp only [LeafOK] at hl
    rcases hl with hl | ⟨hp, rfl⟩
    · exact Or.inr hl.text
    · left; rw [hp]; exact ⟨rfl, rfl⟩
  · simp only [LeafOK] at hl
    exact Or.inr hl.text
  · simp only [LeafOK] at hl
    exact Or.inr hl.text

/-- **reserved-word, operator and pipe nodes**: what `NodeOK` says about their text -/
theorem leaf_text {src : Str} {J : Nat} {m : Node} {p : Span} {w : Str}
    (hm : m = .reservedword p w ∨ m = .operator p w ∨ m = .pipe p w) (h : NodeOK src J m) :
    (m = .reservedword p ['!'] ∧ p.1 = p.2) ∨
    ∃ fr, Src src fr ∧ fr.off + J ≤ p.1 ∧ p.1 < p.2 ∧ w.contains '\\' = false ∧
      (fr.nested = true → p.2 ≤ fr.lim + J) ∧
      TokTextAt fr.line (p.2 - (fr.off + J))
        (Str.slice fr.line (p.1 - (fr.off + J)) (p.2 - (fr.off + J))) w := by
  obtain ⟨fr, hs, hl, hb⟩ := h
  have hpos : fr.nested = true → p.2 ≤ fr.lim + J := by
    intro hn
    have := hb hn
    rcases hm with rfl | rfl | rfl <;> exact this
  rcases leaf_text_fr hm hl with h | ⟨h1, h2, h3, h4⟩
  · exact Or.inl h
  · exact Or.inr ⟨fr, hs, h1, h2, h3, hpos, h4⟩

/-! ## tokens of redirects and words -/

/-- the text under a delivered token with a string value (any type) -/
theorem Tk.del {line : Str} {tok : Token} {v : Str} (h : Tk line tok) (hv : tok.value = .str v) :
    tok.lexpos < tok.endlexpos ∧
      TokDelAt line tok.endlexpos (Str.slice line tok.lexpos tok.endlexpos) v := by
  obtain ⟨a, e, hp, hae, _, _, _, _, _, halt⟩ := h.1.str hv
  have hl : tok.lexpos = a := by simp [Token.lexpos, hp]
  have he : tok.endlexpos = e := by simp [Token.endlexpos, hp]
  rw [hl, he]
  refine ⟨hae, ?_⟩
  rcases halt with ⟨_, _, _, r, hr, hrel⟩ | hnl
  · left
    exact ⟨r, hr, Del.of_delB _ _ hrel⟩
  · right
    unfold nlOver at hnl
    simp only [Bool.and_eq_true, beq_iff_eq] at hnl
    exact ⟨hnl.1.2, hnl.2⟩

/-- the same in the `stripContinuations` form, for a value that holds no adjacent
    backslash-newline -/
theorem Tk.text {line : Str} {tok : Token} {v : Str} (h : Tk line tok) (hv : tok.value = .str v)
    (hc : hasContinuation v = false) :
    tok.lexpos < tok.endlexpos ∧
      TokTextAt line tok.endlexpos (Str.slice line tok.lexpos tok.endlexpos) v :=
  ⟨(h.del hv).1, (h.del hv).2.textAt hc⟩

/-- the text `t` is a string of digits denoting `k` (continuations removed, possibly followed by
    a residue) -/
def NumTextAt (line : Str) (e : Nat) (t : Str) (k : Nat) : Prop :=
  ∃ r ∈ residues true line e, ∃ d, stripContinuations t = d ++ r ∧ legalNumber d = true ∧
    digitsToNat d = k

/-- the text under a NUMBER token -/
theorem Tk.num {line : Str} {tok : Token} {k : Nat} (h : Tk line tok) (hv : tok.value = .int k) :
    tok.lexpos < tok.endlexpos ∧
      NumTextAt line tok.endlexpos (Str.slice line tok.lexpos tok.endlexpos) k := by
  have h1 := h.1
  unfold TT ttOK at h1
  rw [hv] at h1
  cases hp : tok.pos with
  | none => rw [hp] at h1; simp at h1
  | some p =>
    obtain ⟨a, e⟩ := p
    rw [hp] at h1
    have hl : tok.lexpos = a := by simp [Token.lexpos, hp]
    have he : tok.endlexpos = e := by simp [Token.endlexpos, hp]
    rw [hl, he]
    simp only [Bool.and_eq_true, decide_eq_true_eq, List.any_eq_true, beq_iff_eq] at h1
    obtain ⟨⟨⟨_, hae⟩, _⟩, r, hr, ⟨⟨hlen, hdrop⟩, hleg⟩, hdig⟩ := h1
    refine ⟨hae, r, hr, _, ?_, hleg, hdig⟩
    conv => lhs; rw [← List.take_append_drop ((stripContinuations (Str.slice line a e)).length - r.length)
      (stripContinuations (Str.slice line a e))]
    rw [hdrop]

/-- the output of a redirect built from the token `out`, moved by `j`: a word at the token's
    span, or a file descriptor / `-` taken from the token's value -/
def OutAt (j : Nat) (out : Token) (o : Option Node) (oa : RedirIn) : Prop :=
  match o with
  | some w => w.pos = (out.lexpos + j, out.endlexpos + j) ∧ oa = .none
  | none => oa = redirIn out.value

/-- **redirect nodes** -/
theorem redirect_prov {src : Str} {J : Nat} {p : Span} {inp : RedirIn} {ty : Str} {o : Option Node}
    {oa : RedirIn} {hd : Option Node} {hid : Option Nat}
    (h : NodeOK src J (.redirect p inp ty o oa hd hid)) :
    ∃ fr first op out, Src src fr ∧ Tk fr.line first ∧ Tk fr.line op ∧ Tk fr.line out ∧
      ty = op.valueStr ∧ ((first = op ∧ inp = .none) ∨ inp = redirIn first.value) ∧
      OutAt (fr.off + J) out o oa ∧
      (hid = none → ¬ hereTy ty →
        p = (first.lexpos + (fr.off + J), out.endlexpos + (fr.off + J))) ∧
      (fr.nested = true → hereTy ty ∨ p.2 ≤ fr.lim + J) := by
  obtain ⟨fr, hs, hl, hb⟩ := h
  simp only [LeafOK] at hl
  obtain ⟨first, op, out, h1, h2, h3, h4, h5, h6, h7⟩ := hl
  exact ⟨fr, first, op, out, hs, h1, h2, h3, h4, h5, h6, h7, hb⟩

/-- **word and assignment nodes** -/
theorem word_prov {src : Str} {J : Nat} {m : Node} {p : Span} {w : Str} {ps : List Node}
    (hm : m = .word p w ps ∨ m = .assignment p w ps) (h : NodeOK src J m) :
    ∃ fr tok, Src src fr ∧ Tk fr.line tok ∧
      p = (tok.lexpos + (fr.off + J), tok.endlexpos + (fr.off + J)) ∧
      (∃ d, C07.PartsOK (C07.RNested d) tok.valueStr (C07.qOf tok) p.1 p.2 ps) ∧
      (fr.nested = true → p.2 ≤ fr.lim + J) := by
  obtain ⟨fr, hs, hl, hb⟩ := h
  rcases hm with rfl | rfl
  · simp only [LeafOK] at hl
    obtain ⟨tok, hT, hp, hparts⟩ := hl
    exact ⟨fr, tok, hs, hT, hp, hparts, hb⟩
  · simp only [LeafOK] at hl
    obtain ⟨tok, hT, hp, hparts⟩ := hl
    exact ⟨fr, tok, hs, hT, hp, hparts, hb⟩

end Bashlex.C04
