/-
  C04, word boundaries: `_readtokenword` entered ON a break character that does not open
  a process substitution delivers no token (whatever the parser-state flags are: with
  `ps.regexp` / `ps.dblparen` set `_readtoken` would enter it so).

  The first iteration of the loop leaves it with an empty `tokenword` (`<` / `>`: the look-ahead
  of `handleshellexp` is put back, then the character itself), and `_readtokenword` raises on an
  empty word (`_is_assignment` indexes `value[0]`; the NUMBER, special-case and reserved-word
  exits need a non-empty word).
-/
import Bashlex.Proofs.TokShape
import Bashlex.Props.C04.TTFinish
import Bashlex.Props.C03.TokWNE

namespace Bashlex.C04.WB
open Bashlex Bashlex.M Bashlex.C10 Bashlex.C11 Bashlex.C03.Tok Bashlex.C04 Bashlex.C04.TTP

/-! ## an empty word is not delivered -/

theorem specialTokens_ne : ∀ p ∈ Shape.specialTokens, p.2 ≠ [] := by decide

/-- the part of `_readtokenword` after `# got_token` returns only for a non-empty word: a number
    has a digit, the reserved words are not empty, and `_is_assignment` indexes `value[0]` -/
theorem sat_finishWord_ne (st : RWState) : Sat (finishWord st) (fun _ => st.tokenword ≠ []) := by
  refine (Shape.sat_finishWord st).weaken (fun tok h => ?_) (fun _ h => h)
  rcases h with ⟨hnum, _⟩ | ⟨ty, hty | ⟨hlook, _⟩, _⟩ | ⟨hne, _⟩
  · intro h0
    rw [h0] at hnum
    simp [legalNumber] at hnum
  · exact specialTokens_ne _ hty
  · exact C03.lookup_ne hlook
  · exact hne

/-! ## the first iteration -/

instance : EnvStable (fun (_ : Local) (_ : Env) => True) := ⟨fun _ _ _ _ _ _ => True.intro⟩

/-- a break character in hand: put back, the loop is left -/
theorem rwBreak_brk {P : Local → Env → Prop} (st : RWState) (c : Char)
    (hb : (synClass c).brk = true) :
    HT P (rwBreak st c false)
      (fun r _ _ => ∃ st1, r = .inr st1 ∧ st1.tokenword = st.tokenword) ET := by
  unfold rwBreak
  simp only [Bool.not_false, if_true]
  have hv : SatW (fun _ _ => True) (fun _ _ => True) (shellbreak c)
      (fun r => r = (synClass c).brk) := by
    unfold shellbreak
    exact SatW.bind (syn_val c) (fun r hr => SatW.pure (fun _ _ h => h) (by rw [hr]))
  refine HT.pre (P := fun _ _ => True) ?_ (fun _ _ _ => True.intro)
  refine HT.bind hv (fun b => ?_)
  refine HT.forget (fun hbv => ?_)
  subst hbv
  rw [hb]
  simp only [if_true]
  refine HT.skip (fun _ => ?_)
  exact HT.pure (fun _ _ _ => ⟨_, rfl, rfl⟩)

/-- `handleshellexp` on `<` / `>` not followed by `(`: the look-ahead is put back -/
theorem hse_back {L : Str} {ps : List Nat} {i : Nat} (st : RWState) (c : Char) (cd : Option Char)
    (hc : c ≠ '$') (hpk : peekC L i ≠ some '(') :
    HT (Tp L ps i) (handleshellexp st c cd) (fun x _ _ => x = (st, true)) ET := by
  unfold handleshellexp
  simp only []
  refine HT.bind getc_peek (fun peek => ?_)
  refine HT.forget (fun hp => ?_)
  have hcd : (c == '$') = false := by simpa using hc
  have hpp : (peek == some '(') = false := by
    rw [hp]; simpa using hpk
  rw [hcd, hpp]
  simp only [Bool.false_and, Bool.or_false, Bool.false_eq_true, if_false]
  refine HT.skip (fun _ => ?_)
  exact HT.pure (fun _ _ _ => rfl)

section
variable {L : Str} {a : Nat}

theorem brk_nquote {c : Char} (h : (synClass c).brk = true) : (synClass c).quote = false := by
  cases hq : (synClass c).quote with
  | false => rfl
  | true => rw [quote_nonbreak hq] at h; cases h

/-- the first iteration of the loop, entered on a break character that does not open a process
    substitution: the loop is left with the empty word -/
theorem first_step_brk (st : RWState) (ch : Char) (hc : st.c = some ch)
    (hpn : st.passNext = false) (htw : st.tokenword = [])
    (hch : L[a]? = some ch) (hbrk : (synClass ch).brk = true) (hnp : procSubAtB L a = false) :
    HT (Tp L [a] (a + 1)) (readtokenwordStep st)
      (fun r _ _ => ∃ st1, r = .inr st1 ∧ st1.tokenword = []) ET := by
  have hfin : ∀ {P : Local → Env → Prop}, HT P (rwBreak st ch false)
      (fun r _ _ => ∃ st1, r = .inr st1 ∧ st1.tokenword = []) ET := by
    intro P
    refine HT.post (rwBreak_brk st ch hbrk) ?_
    rintro r _ _ ⟨st1, h1, h2⟩
    exact ⟨st1, h1, by rw [h2, htw]⟩
  rw [readtokenwordStep_eq, hc]
  simp only []
  rw [if_neg (by rw [hpn]; exact Bool.false_ne_true)]
  refine keep_bind k_currentDelimiter (fun cd _ => ?_)
  refine HT.ite (fun hbs => ?_) (fun hbs => ?_)
  · exfalso
    have : ch = '\\' := by simpa using hbs
    subst this
    revert hbrk; decide
  refine keep_bind (v_shellquote ch) (fun b hb => ?_)
  subst hb
  rw [brk_nquote hbrk]
  simp only [Bool.false_eq_true, if_false]
  refine keep_bind (v_shellexp ch) (fun b hb => ?_)
  subst hb
  refine HT.ite (fun hx => ?_) (fun hx => hfin)
  have hcc := exp_brk hx hbrk
  have hpk : peekC L (a + 1) ≠ some '(' := by
    intro hp
    unfold procSubAtB at hnp
    rw [hch, hp] at hnp
    rcases hcc with rfl | rfl <;> simp at hnp
  have hne : ch ≠ '$' := by rcases hcc with rfl | rfl <;> decide
  refine HT.bind (hse_back st ch cd hne hpk) (fun x => ?_)
  refine HT.pre (P := fun _ _ => x = (st, true) ∧ True) ?_ (fun _ _ h => ⟨h, True.intro⟩)
  refine HT.forget (fun hx' => ?_)
  subst hx'
  show HT _ (rwBreak st ch (!true)) _ _
  rw [Bool.not_true]
  exact hfin

/-- **`_readtokenword(c)` entered on a break character that does not open a process
    substitution delivers no token** -/
theorem readtokenword_brk (ch : Char) (hch : L[a]? = some ch)
    (hbrk : (synClass ch).brk = true) (hnp : procSubAtB L a = false) {β : Type}
    {k : Token → M β} {Q : β → Local → Env → Prop} :
    HT (Tp L [a] (a + 1)) (readtokenword ch >>= k) Q ET := by
  refine HT.bind (Q := fun _ _ _ => False) ?_ (fun _ => HT.pre_false)
  unfold readtokenword
  refine HT.bind (Q := fun _ l e => Tp L [a] (a + 1) l e) (HT.pure (fun _ _ h => h)) (fun fuel => ?_)
  refine HT.bind (Q := fun st _ _ => st.tokenword = []) ?_ (fun st => ?_)
  · refine HT.pre (HT.loop (E := ET)
      (I := fun st l e => (st.c = some ch ∧ st.passNext = false ∧ st.tokenword = []) ∧
        Tp L [a] (a + 1) l e) True.intro (fun st => ?_) fuel _) (fun l e h => ⟨⟨rfl, rfl, rfl⟩, h⟩)
    refine HT.pre_pure (fun hst => ?_)
    refine HT.post (first_step_brk st ch hst.1 hst.2.1 hst.2.2 hch hbrk hnp) ?_
    rintro r l e ⟨st1, rfl, h⟩
    exact h
  · intro l e h
    have := sat_finishWord_ne st l e
    rcases hr : (finishWord st).run l e with ⟨r, e'⟩
    rw [hr] at this
    cases r with
    | ok v => exact absurd h this
    | error x => exact True.intro

end

end Bashlex.C04.WB
