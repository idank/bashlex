/-
  C04, token text (layer D): the ghost relation of the two recursive scanners.

  `Sp L i k w`: the text `L[i:k]` spells `w` up to deleted backslash-newline pairs, possibly
  followed by the D31 residue (`_ungetc(None)` after a look-ahead that ran through a continuation
  into the end of the line left the cursor on the newline of that pair).
  `Dm L k`: the cursor is on the last character of the line or behind it ("doomed": a scanner in
  such a state reads the final newline, then `None`, and raises `MatchedPairError`; it is entered
  through `_ungetc(None)`, after which the relation `Sp` may be lost — the newline is read twice).
-/
import Bashlex.Props.C04.TTWord3

namespace Bashlex.C04.TTP
open Bashlex Bashlex.M Bashlex.C10 Bashlex.C11 Bashlex.C03.Tok Bashlex.C04

def Sp (L : Str) (i k : Nat) (w : Str) : Prop :=
  ∃ res ∈ residues false L k, Del (Str.slice L i k) (w ++ res)

def Dm (L : Str) (k : Nat) : Prop := L.length ≤ k + 1

section
variable {L : Str}

theorem nl_last (hnl : NL L) (hpos : 0 < L.length) : L[L.length - 1]? = some '\n' := by
  have hlt : L.length - 1 < L.length := by omega
  have h := List.getElem?_eq_getElem hlt
  by_cases hc : L[L.length - 1] = '\n'
  · rw [h, hc]
  · have := hnl _ _ h hc
    omega

theorem sp_nil (i : Nat) : Sp L i i [] :=
  ⟨[], res_nil _ _ _, by rw [slice_self]; exact .nil⟩

/-- the D31 residue sits at the last character -/
theorem sp_cases {i k : Nat} {w : Str} (h : Sp L i k w) :
    Del (Str.slice L i k) w ∨
      (k + 1 = L.length ∧ L[k]? = some '\n' ∧ L.drop k = ['\n'] ∧
        Del (Str.slice L i k) (w ++ ['\\'])) := by
  obtain ⟨res, hr, hd⟩ := h
  rcases res_false_cases hr with rfl | ⟨rfl, hdrop⟩
  · exact Or.inl (by simpa using hd)
  · obtain ⟨q1, q2⟩ := drop_single hdrop
    exact Or.inr ⟨q2, q1, hdrop, hd⟩

/-- one `_getc` that delivers a character -/
theorem sp_getc {rqn : Bool} {i k k' : Nat} {w : Str} {c : Char} (h : Sp L i k w) (hik : i ≤ k)
    (hg : GetcR rqn L k k' (some c)) : Sp L i k' (w ++ [c]) ∨ (Dm L k' ∧ c = '\n') := by
  rcases sp_cases h with hd | ⟨h1, h2, _, _⟩
  · left
    refine ⟨[], res_nil _ _ _, ?_⟩
    rw [List.append_nil, ← slice_cat L hik hg.le hg.le']
    exact hd.append hg.del
  · right
    obtain ⟨e1, e2⟩ := hg.exact h2 (Or.inl (by decide))
    cases e1
    exact ⟨by unfold Dm; omega, rfl⟩

theorem dm_getc (hnl : NL L) {rqn : Bool} {k k' : Nat} {c : Char} (h : Dm L k)
    (hg : GetcR rqn L k k' (some c)) : Dm L k' ∧ c = '\n' := by
  obtain ⟨g1, g2, _⟩ := hg.char c rfl
  have := hg.le'
  unfold Dm at h ⊢
  have hk' : k' = L.length := by omega
  refine ⟨by omega, ?_⟩
  have hl := nl_last hnl (by omega)
  rw [hk'] at g2
  rw [hl] at g2
  cases g2; rfl

/-- `_getc` … `_ungetc` -/
theorem sp_back {rqn : Bool} {i k j : Nat} {w : Str} {x : Option Char} (h : Sp L i k w)
    (hik : i ≤ k) (hk : k < L.length) (hg : GetcR rqn L k j x) :
    Sp L i (j - 1) w ∧ 0 < j ∧ k ≤ j - 1 ∧ j - 1 < L.length := by
  rcases sp_cases h with hd | ⟨h1, h2, h3, h4⟩
  · obtain ⟨b1, b2, r, hr, hd', _⟩ := del_back1 hd hik hg hk
    obtain ⟨c1, c2, c3, _⟩ := back1 hg hk
    exact ⟨⟨r, hr, hd'⟩, b1, c2, b2⟩
  · obtain ⟨e1, e2⟩ := hg.exact h2 (Or.inl (by decide))
    have : j - 1 = k := by omega
    rw [this]
    exact ⟨h, by omega, Nat.le_refl _, hk⟩

theorem dm_back {rqn : Bool} {k j : Nat} {x : Option Char} (h : Dm L k) (hpos : 0 < L.length)
    (hg : GetcR rqn L k j x) : Dm L (j - 1) ∧ 0 < j := by
  have h1 := hg.le
  have h2 := hg.le'
  unfold Dm at h ⊢
  have hj : j = L.length := by
    cases x with
    | none => exact (hg.atEnd rfl).1
    | some ch => have := (hg.char ch rfl).1; omega
  exact ⟨by omega, by omega⟩

/-- a nested scanner -/
theorem sp_scan {i k j : Nat} {w x : Str} (h : Sp L i k w) (hik : i ≤ k) (hkj : k ≤ j)
    (hj : j < L.length) (hx : Sp L k j x) : Sp L i j (w ++ x) := by
  rcases sp_cases h with hd | ⟨h1, h2, h3, h4⟩
  · obtain ⟨res, hr, hd'⟩ := hx
    refine ⟨res, hr, ?_⟩
    rw [← slice_cat L hik hkj (by omega), List.append_assoc]
    exact hd.append hd'
  · -- the cursor was on the last character: the nested scanner consumed nothing
    have hjk : j = k := by omega
    subst hjk
    obtain ⟨res, hr, hd'⟩ := hx
    rw [slice_self] at hd'
    have hnil := hd'.nil_left
    have hx0 : x = [] := (List.append_eq_nil_iff.mp hnil).1
    subst hx0
    exact ⟨['\\'], res_d31 h3, by simpa using h4⟩

theorem sp_append_nil {i k : Nat} {w : Str} (h : Sp L i k w) : Sp L i k (w ++ []) := by
  simpa using h

end

end Bashlex.C04.TTP
