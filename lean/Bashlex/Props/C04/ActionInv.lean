/-
  The semantic actions keep every invariant of the tokenizer's state that the nested parser and
  `gatherheredocuments` keep: above the tokenizer nothing else writes the state, but for the
  `eoftoken` flag (`p_inputunit`) and the pending here-document redirects
  (`p_redirection_heredoc`).  One pass through word expansion, every step a rule of `Inv`; the
  actions by the walk of `Proofs/ClosedActions.lean`; instances: the empty
  `_eol_ungetc_lookahead` slot and a predicate on the store (both below), the cursor at a token
  boundary (`C04/WBGather.lean`).
-/
import Bashlex.Props.C03.TokInv
import Bashlex.Proofs.ClosedActions
import Bashlex.Props.C10.Entry
import Bashlex.Model.Actions

namespace Bashlex.C04.WB
open Bashlex Bashlex.M Bashlex.C10 Bashlex.C11 Bashlex.C03.Tok

/-- `m` keeps the invariant `I` of local state and environment -/
abbrev Inv {α : Type} (I : Local → Env → Prop) (m : M α) : Prop :=
  SatW I I m (fun _ => True)

theorem Inv_iff_satS {α : Type} {I : Local → Env → Prop} {m : M α} :
    Inv I m ↔ SatS m I (fun _ => I) :=
  ⟨fun h => SatS.post h (fun _ _ _ h => h.2), fun h => SatS.post h (fun _ _ _ h => ⟨True.intro, h⟩)⟩

theorem satw_map {α β : Type} {I : Local → Env → Prop} {m : M α} {f : α → β}
    (h : SatW I I m (fun _ => True)) : SatW I I (f <$> m) (fun _ => True) := SatS.map h

variable {I : Local → Env → Prop}

theorem Inv.pure {α : Type} {a : α} : Inv I (Pure.pure a : M α) := SatW.pure (fun _ _ h => h) True.intro
theorem Inv.bind {α β : Type} {m : M α} {f : α → M β} (hm : Inv I m) (hf : ∀ a, Inv I (f a)) :
    Inv I (m >>= f) := SatW.bindE hm hf
theorem Inv.ite {α : Type} {c : Prop} [Decidable c] {a b : M α} (ha : Inv I a) (hb : Inv I b) :
    Inv I (if c then a else b) := SatW.ite (fun _ => ha) (fun _ => hb)
theorem Inv.get : Inv I (get : M Local) := SatW.reader (fun l _ => ⟨l, rfl⟩)

/-! ## word expansion -/

theorem inv_adjustpositions (n : Node) (a b : Nat) : Inv I (adjustpositions n a b) := by
  unfold adjustpositions
  exact .ite .pure SatW.foreign

section
variable {np : NestedParse} (hnp : ∀ s b, Inv I (np s b))
include hnp

theorem inv_recursiveparse (base : Str) (i : Nat) (b : Bool) :
    Inv I (recursiveparse np base i b) := by
  unfold recursiveparse
  refine (hnp _ _).bind fun r => ?_
  split
  · exact SatW.foreign
  · exact (inv_adjustpositions _ _ _).bind fun _ => .pure

theorem inv_parsedolparen (base : Str) (i : Nat) : Inv I (parsedolparen np base i) := by
  unfold parsedolparen
  refine (inv_recursiveparse hnp _ _ _).bind fun ⟨node, endp⟩ => ?_
  dsimp only
  split
  · exact SatW.foreign
  · exact .pure

theorem inv_paramexpand (s : Str) (i : Nat) : Inv I (paramexpand np s i) := by
  unfold paramexpand
  dsimp only
  split
  · exact .pure
  · refine .ite .pure (.ite ?_ (.ite ?_ (.ite SatW.raise .pure)))
    · split <;> exact Inv.pure
    · split
      · exact SatW.foreign
      · exact .ite SatW.raise ((inv_parsedolparen hnp _ _).bind fun _ => .pure)

theorem inv_expandStep (tok : Token) (s : Str) (qd : Bool) (st : ExpSt) :
    Inv I (expandStep np tok s qd st) := by
  unfold expandStep
  refine .ite .pure ?_
  split
  · exact SatW.foreign
  dsimp only
  refine .ite (.ite .pure ?procsub) (.ite (.ite .pure ?tilde) (.ite ?dollar (.ite (.ite .pure ?bq)
    (.ite .pure (.ite .pure (.ite (.ite .pure (.ite .pure .pure)) .pure))))))
  case procsub => exact (inv_parsedolparen hnp _ _).bind fun _ => .pure
  case tilde => exact .pure
  case dollar => exact (inv_paramexpand hnp _ _).bind fun _ => .pure
  case bq =>
    split
    · exact Inv.bind w_tapeSource fun _ => SatW.raise
    · exact (inv_recursiveparse hnp _ _ _).bind fun _ =>
        (inv_adjustpositions _ _ _).bind fun _ => .pure

theorem inv_expandwordinternal (tok : Token) (qd : Bool) :
    Inv I (expandwordinternal np tok qd) := by
  unfold expandwordinternal
  refine Inv.bind (SatW.loopT (fun st => inv_expandStep hnp tok _ qd st) _ _)
    fun ⟨parts, istring, early⟩ => ?_
  dsimp only
  exact .ite .pure (.ite (Inv.bind SatW.foreign fun _ => .pure) .pure)

theorem inv_expandword (tok : Token) : Inv I (expandword np tok) := by
  unfold expandword
  refine Inv.get.bind fun l => .ite .pure ?_
  extract_lets quoted word
  have hword : ∀ dq, Inv I (word dq) := fun dq =>
    (inv_expandwordinternal hnp tok dq).bind fun ⟨_, _⟩ => .pure
  refine .ite ?_ (Inv.pure.bind hword)
  split
  · exact Inv.bind SatW.foreign hword
  · exact Inv.pure.bind hword

end

/-! ## the actions -/

/-- keeping `I` is closed under `pure`, `bind` and reading the state -/
theorem Inv.reads : Reads (fun {α} (m : M α) => Inv I m)
    (fun {α} l0 (m : M α) => AtW I I l0 m (fun _ => True)) where
  pure _ := Inv.pure
  bind := Inv.bind
  get_bind := SatW.get_bind
  forget := AtW.ofSatW

section
variable {np : NestedParse} (hnp : ∀ s b, Inv I (np s b))
include hnp

/-- **every semantic action keeps `I`**, given that the nested parser and
    `gatherheredocuments` (needed for `p_simple_list` only) do and that the two writes of the
    actions keep it: the `eoftoken` flag (`p_inputunit`) and the new pending redirect
    (`p_redirection_heredoc`). -/
theorem inv_actionCore (fname : String)
    (hg : fname = "p_simple_list" → Inv I gatherheredocuments)
    (heof : fname = "p_inputunit" →
      ∀ l e, I l e → I { l with ps := { l.ps with eoftoken := true } } e)
    (hredir : fname = "p_redirection_heredoc" → ∀ l e (c : RedirCell) (kill : Bool), I l e →
      I { l with store := l.store ++ [c], redirstack := l.redirstack ++ [(l.store.length, kill)] } e)
    (args : List SVal) : Inv I (actionCore np fname args) :=
  have hW := fun t (_ : SVal.tok t ∈ args) => inv_expandword hnp t
  rd_actionCore Inv.reads (fun _ => SatW.foreign) hW
    (rd_handleNotImplemented Inv.reads (fun _ => SatW.foreign) hW w_optProceed (fun _ => SatW.raise))
    fname (fun h => SatW.modifyT (heof h)) hg
    (fun h => fun l0 c k hk => AtW.set_bind (fun e hi => hredir h l0 e c k hi) hk)

theorem inv_action (hg : Inv I gatherheredocuments)
    (heof : ∀ l e, I l e → I { l with ps := { l.ps with eoftoken := true } } e)
    (hredir : ∀ l e (c : RedirCell) (kill : Bool), I l e →
      I { l with store := l.store ++ [c], redirstack := l.redirstack ++ [(l.store.length, kill)] } e)
    (fname : String) (args : List SVal) : Inv I (action np fname args) := by
  unfold action
  exact (inv_actionCore hnp fname (fun _ => hg) (fun _ => heof) (fun _ => hredir) args).bind
    fun _ => .ite SatW.foreign .pure

end


end Bashlex.C04.WB

/-! ## C04: the semantic actions keep the tokenizer's `_eol_ungetc_lookahead` slot empty

  `TokText` speaks about `token()` called with an empty slot (with a character in the slot that
  did not come from the tape the token text relation is plainly false).  The slot is written by
  `_ungetc` only; above the tokenizer nothing touches it but `gatherheredocuments` (called by
  `p_simple_list`; hypothesis `TokText.gather`) and the nested parsers, which run on a parser
  object of their own.  `keepsEol_action`: the walk through all action functions above,
  for the invariant "the slot is empty".
-/

namespace Bashlex.C04
open Bashlex Bashlex.C10

variable {α β γ : Type}

theorem KeepsEol.get_bind {f : Local → M β} (h : ∀ l0, l0.eolLookahead = none → KeepsEol (f l0)) :
    KeepsEol ((get : M Local) >>= f) :=
  keepsEol_iff_satS.2 (M.SatS.bind M.SatS.get (fun l0 l e hp =>
    keepsEol_iff_satS.1 (h l0 (hp.1 ▸ hp.2)) l e hp.2))

theorem keepsEol_get : KeepsEol (get : M Local) :=
  keepsEol_iff_satS.2 (M.SatS.get.post (fun _ _ _ h => h.2))

theorem KeepsEol.map {m : M α} {f : α → β} (h : KeepsEol m) : KeepsEol (f <$> m) :=
  keepsEol_iff_satS.2 (M.SatS.map (keepsEol_iff_satS.1 h))

theorem keepsEol_of_ends {m : M α} (h : EndsEol m) : KeepsEol m := h.keeps

/-- a `set` after which the slot is empty, followed by anything that keeps it so -/
theorem endsEol_set_bind {l1 : Local} {k : Unit → M β} (h : l1.eolLookahead = none)
    (hk : KeepsEol (k ())) : EndsEol ((set l1 : M Unit) >>= k) :=
  endsEol_iff_satS.2 (M.SatS.bind (Q := fun _ l _ => l.eolLookahead = none)
    (M.SatS.set.post (fun _ _ _ hq => hq.1 ▸ h)) (fun _ => keepsEol_iff_satS.1 hk))

/-! ## the actions: the walk of `C04/ActionInv.lean` with the invariant "the slot is empty" -/

/-- the slot is empty -/
def EolFree (l : Local) (_ : Env) : Prop := l.eolLookahead = none

theorem keepsEol_iff {m : M α} : KeepsEol m ↔ WB.Inv EolFree m :=
  keepsEol_iff_satS.trans WB.Inv_iff_satS.symm

section
variable {np : NestedParse} (hnp : ∀ s b, KeepsEol (np s b))
include hnp

theorem keepsEol_expandwordinternal (tok : Token) (qd : Bool) :
    KeepsEol (expandwordinternal np tok qd) :=
  keepsEol_iff.mpr (WB.inv_expandwordinternal (fun s b => keepsEol_iff.mp (hnp s b)) tok qd)

/-- **every semantic action keeps the slot empty**, given that the nested parser and
    `gatherheredocuments` do -/
theorem keepsEol_action (hg : KeepsEol gatherheredocuments) (fname : String) (args : List SVal) :
    KeepsEol (action np fname args) :=
  keepsEol_iff.mpr (WB.inv_action (fun s b => keepsEol_iff.mp (hnp s b)) (keepsEol_iff.mp hg)
    (fun _ _ h => h) (fun _ _ _ _ h => h) fname args)

end

end Bashlex.C04

/-! ## RootEnds, part 1: the frame

  `KeepsQ Q m`: every normal return of `m` started in a state whose
  redirect store satisfies `Q` ends in such a state.  It is the invariant `fun l _ => Q l.store`
  of the walk above, whose pass over word expansion and the action functions gives
  all that is needed here: above the tokenizer the store is written by `p_redirection_heredoc`
  (a new cell) and by `gatherheredocuments` (called by `p_simple_list`) only; the nested parsers
  run on a parser object of their own.
-/

namespace Bashlex.C03.RE
open Bashlex Bashlex.C10

variable {α β γ : Type}

/-- `m` keeps a predicate on the redirect store -/
def KeepsQ (Q : List RedirCell → Prop) {α : Type} (m : M α) : Prop :=
  ∀ l e a l' e', Q l.store → M.run m l e = (.ok (a, l'), e') → Q l'.store

variable {Q : List RedirCell → Prop}

/-- a predicate on the redirect store as an invariant of the state -/
def OnStore (Q : List RedirCell → Prop) : Local → Env → Prop := fun l _ => Q l.store

/-- `KeepsQ` is a judgement of `Proofs/HoareS.lean` with the exceptions unconstrained -/
theorem keepsQ_iff_satS {m : M α} : KeepsQ Q m ↔ M.SatS m (OnStore Q) (fun _ => OnStore Q) :=
  M.SatS.iff_ok.symm

theorem keepsQ_iff_inv {m : M α} : KeepsQ Q m ↔ C04.WB.Inv (OnStore Q) m :=
  keepsQ_iff_satS.trans C04.WB.Inv_iff_satS.symm

theorem keepsQ_get : KeepsQ Q (get : M Local) := keepsQ_iff_inv.2 C04.WB.Inv.get

theorem keepsQ_set {l1 : Local} (h : Q l1.store) : KeepsQ Q (set l1 : M Unit) :=
  keepsQ_iff_satS.2 (M.SatS.set.post (fun _ _ _ hq => hq.1 ▸ h))

theorem KeepsQ.map {m : M α} {f : α → β} (h : KeepsQ Q m) : KeepsQ Q (f <$> m) :=
  keepsQ_iff_inv.2 (C04.WB.satw_map (keepsQ_iff_inv.1 h))

theorem keepsQ_optProceed : KeepsQ Q optProceed := keepsQ_iff_inv.2 C03.Tok.w_optProceed

theorem keepsQ_nodePos (n : Node) : KeepsQ Q (nodePos n) := keepsQ_iff_inv.2 (rd_nodePos C04.WB.Inv.reads n)
theorem keepsQ_tokAt (p : PCtx) (i : Nat) : KeepsQ Q (p.tokAt i) :=
  keepsQ_iff_inv.2 (rd_tokAt C04.WB.Inv.reads (fun _ => C03.Tok.SatW.foreign) p i)
theorem keepsQ_strAt (p : PCtx) (i : Nat) : KeepsQ Q (p.strAt i) :=
  keepsQ_iff_inv.2 (rd_strAt C04.WB.Inv.reads (fun _ => C03.Tok.SatW.foreign) p i)
theorem keepsQ_nodeAt (p : PCtx) (i : Nat) (s : String) : KeepsQ Q (p.nodeAt i s) :=
  keepsQ_iff_inv.2 (rd_nodeAt C04.WB.Inv.reads (fun _ => C03.Tok.SatW.foreign) p i s)
theorem keepsQ_nodesAt (p : PCtx) (i : Nat) (s : String) : KeepsQ Q (p.nodesAt i s) :=
  keepsQ_iff_inv.2 (rd_nodesAt C04.WB.Inv.reads (fun _ => C03.Tok.SatW.foreign) p i s)
theorem keepsQ_reservedAt (p : PCtx) (i : Nat) : KeepsQ Q (reservedAt p i) :=
  keepsQ_iff_inv.2 (rd_reservedAt C04.WB.Inv.reads (fun _ => C03.Tok.SatW.foreign) p i)
theorem keepsQ_operatorAt (p : PCtx) (i : Nat) : KeepsQ Q (operatorAt p i) :=
  keepsQ_iff_inv.2 (rd_operatorAt C04.WB.Inv.reads (fun _ => C03.Tok.SatW.foreign) p i)
theorem keepsQ_handleAssert (b : Bool) : KeepsQ Q (handleAssert b) :=
  keepsQ_iff_inv.2 (rd_handleAssert C04.WB.Inv.reads (fun _ => C03.Tok.SatW.foreign) b)

section
variable {np : NestedParse} (hnp : ∀ s b, KeepsQ Q (np s b))
include hnp

theorem keepsQ_expandword (tok : Token) : KeepsQ Q (expandword np tok) :=
  keepsQ_iff_inv.2 (C04.WB.inv_expandword (fun s b => keepsQ_iff_inv.1 (hnp s b)) tok)

/-- **every semantic action but `p_redirection_heredoc` (a new cell) and `p_simple_list`
    (`gatherheredocuments`) keeps the store predicate**, given that the nested parser does -/
theorem keepsQ_actionCore (fname : String)
    (hne : fname ≠ "p_redirection_heredoc") (hne2 : fname ≠ "p_simple_list")
    (args : List SVal) : KeepsQ Q (actionCore np fname args) :=
  keepsQ_iff_inv.2 (C04.WB.inv_actionCore (fun s b => keepsQ_iff_inv.1 (hnp s b)) fname
    (fun h => absurd h hne2) (fun _ _ _ h => h) (fun h => absurd h hne) args)

end

end Bashlex.C03.RE
