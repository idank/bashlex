/-
  C04: provenance of the textual nodes.

  `G W n`: every *textual* node of the tree `n` (reserved word, operator, pipe, redirect, word,
  assignment — at any depth, substitution commands included) satisfies `W`.  `Ctx W T np` lists
  what the walk through the semantic actions needs of `W` (`T`: what is known of a token on the
  LR stack): a reserved-word / operator / pipe node may be built from a token of a reserved type
  with the token's span and value; a redirect node from its two or three tokens; word nodes are
  built by `expandword` only (or are the part-less delimiter word of a here-document redirect,
  or the assignment copy of a word).  The invariant is the same for every grammar symbol.
  (Same architecture as `C07/Prov.lean`, with more node kinds.)
-/
import Bashlex.Props.C12.Tree
import Bashlex.Props.C12.Sorts
import Bashlex.Model.Actions
import Bashlex.Proofs.HoareS

namespace Bashlex.C04
open Bashlex Bashlex.M Bashlex.Node
set_option linter.unusedSimpArgs false

/-- the node kinds whose text C04 speaks about and that the parser builds from tokens -/
def isTextual : Node → Bool
  | .reservedword .. | .operator .. | .pipe .. | .redirect .. | .word .. | .assignment .. => true
  | _ => false

/-- token types of reserved words and operators: everything but WORD, ASSIGNMENT_WORD, NUMBER, EOF -/
def Reserved (t : Token) : Prop := ∃ ty, t.ttype = some ty ∧ C12.resOK ty = true

/-- `input` / `output` of a redirect node from a token value -/
def redirIn (v : TVal) : RedirIn :=
  match v with | .int k => .num k | .str s => .str s | .none => .none

/-! ## two traversals

  `deep = true`: the visitor's pre-order (every node, substitution commands inside words
  included).  `deep = false`: the *spine*: words and assignments are leaves — exactly the nodes
  the running parser builds itself, in its own coordinates. -/

mutual
/-- pre-order that does not descend into the parts of words and assignments -/
def spine : Node → List Node
  | n@(.operator ..) | n@(.reservedword ..) | n@(.pipe ..) | n@(.parameter ..) | n@(.tilde ..)
  | n@(.heredoc ..) | n@(.word ..) | n@(.assignment ..) => [n]
  | n@(.list _ ps) | n@(.pipeline _ ps) | n@(.ifN _ ps) | n@(.forN _ ps) | n@(.whileN _ ps)
  | n@(.untilN _ ps) | n@(.caseN _ ps) | n@(.pattern _ ps) | n@(.command _ ps)
  | n@(.unimplemented _ ps) | n@(.function _ _ _ ps) => n :: spineL ps
  | n@(.compound _ l r) => n :: (spineL l ++ spineL r)
  | n@(.redirect _ _ _ o _ h _) => n :: (spineO o ++ spineO h)
  | n@(.commandsubstitution _ c) | n@(.processsubstitution _ c) => n :: spine c
def spineL : List Node → List Node
  | [] => []
  | n :: ns => spine n ++ spineL ns
def spineO : Option Node → List Node
  | none => []
  | some n => spine n
end

/-- the children the traversal descends into -/
def kidsOf (deep : Bool) : Node → List Node
  | .word _ _ ps => if deep then ps else []
  | .assignment _ _ ps => if deep then ps else []
  | n => n.children

def nodesOf (deep : Bool) (n : Node) : List Node := if deep then n.preorder else spine n
def nodesOfL (deep : Bool) (l : List Node) : List Node := if deep then preorderL l else spineL l

theorem spineL_eq (l : List Node) : spineL l = l.flatMap spine := by
  induction l with
  | nil => rfl
  | cons a l ih => simp [spineL, ih]

theorem mem_spineL {m : Node} {l : List Node} : m ∈ spineL l ↔ ∃ c, c ∈ l ∧ m ∈ spine c := by
  rw [spineL_eq, List.mem_flatMap]

theorem spine_eq (n : Node) : spine n = n :: spineL (kidsOf false n) := by
  cases n <;> simp [spine, kidsOf, children, spineL_eq]
  case redirect p i t o oa h hid => cases o <;> cases h <;> simp [spineO]

theorem kidsOf_sub {deep : Bool} {n c : Node} (h : c ∈ kidsOf deep n) : c ∈ n.children := by
  cases n <;> first
    | exact h
    | (simp only [kidsOf] at h; split at h <;> first | exact h | cases h)

theorem kidsOf_true (n : Node) : kidsOf true n = n.children := by
  cases n <;> simp [kidsOf, children]

theorem nodesOf_eq (deep : Bool) (n : Node) :
    nodesOf deep n = n :: nodesOfL deep (kidsOf deep n) := by
  cases deep with
  | true => simp only [nodesOf, nodesOfL, if_true, kidsOf_true]; rw [Node.preorder_eq, Node.preorderL_eq]
  | false => simp only [nodesOf, nodesOfL, Bool.false_eq_true, if_false]; exact spine_eq n

theorem nodesOfL_eq (deep : Bool) (l : List Node) : nodesOfL deep l = l.flatMap (nodesOf deep) := by
  cases deep
  · exact spineL_eq l
  · exact Node.preorderL_eq l

theorem mem_nodesOfL {deep : Bool} {m : Node} {l : List Node} :
    m ∈ nodesOfL deep l ↔ ∃ c, c ∈ l ∧ m ∈ nodesOf deep c := by
  rw [nodesOfL_eq, List.mem_flatMap]

/-- a traversal and a predicate on its textual nodes -/
structure Pred where
  deep : Bool
  W : Node → Prop

instance : CoeFun Pred (fun _ => Node → Prop) := ⟨Pred.W⟩

section
variable (W : Pred)

/-- every textual node of the tree (reached by the traversal) is `W` -/
def G (n : Node) : Prop := ∀ m ∈ nodesOf W.deep n, isTextual m = true → W m
def GL (l : List Node) : Prop := ∀ n ∈ l, G W n
/-- the invariant of a semantic value: nodes are good trees, tokens satisfy `T` -/
def GV (T : Token → Prop) : SVal → Prop
  | .node n => G W n
  | .nodes l => GL W l
  | .tok t => T t
  | .none => True
end

variable {W : Pred} {T : Token → Prop}

theorem G_iff {n : Node} : G W n ↔ (isTextual n = true → W n) ∧ GL W (kidsOf W.deep n) := by
  unfold G GL G
  rw [nodesOf_eq]
  constructor
  · intro h
    refine ⟨h n List.mem_cons_self, fun c hc w hw => h w (List.mem_cons_of_mem _ ?_)⟩
    exact mem_nodesOfL.mpr ⟨c, hc, hw⟩
  · rintro ⟨h1, h2⟩ w hw
    rcases List.mem_cons.mp hw with rfl | hw
    · exact h1
    · obtain ⟨c, hc, hwc⟩ := mem_nodesOfL.mp hw
      exact h2 c hc w hwc

@[simp] theorem GL_nil : GL W [] := fun _ h => absurd h List.not_mem_nil
@[simp] theorem GL_cons {n : Node} {l : List Node} : GL W (n :: l) ↔ G W n ∧ GL W l := by
  simp [GL]
@[simp] theorem GL_append {a b : List Node} : GL W (a ++ b) ↔ GL W a ∧ GL W b := by
  simp only [GL, List.mem_append]
  exact ⟨fun h => ⟨fun n hn => h n (Or.inl hn), fun n hn => h n (Or.inr hn)⟩,
    fun h n hn => hn.elim (h.1 n) (h.2 n)⟩

theorem GL_one {n : Node} (h : G W n) : GL W [n] := GL_cons.mpr ⟨h, GL_nil⟩
theorem GL_snoc {l : List Node} {n : Node} (hl : GL W l) (hn : G W n) : GL W (l ++ [n]) :=
  GL_append.mpr ⟨hl, GL_one hn⟩

theorem G_operator {p a} : G W (.operator p a) ↔ W (.operator p a) := by
  rw [G_iff]; simp [isTextual, kidsOf, children]
theorem G_reservedword {p a} : G W (.reservedword p a) ↔ W (.reservedword p a) := by
  rw [G_iff]; simp [isTextual, kidsOf, children]
theorem G_pipe {p a} : G W (.pipe p a) ↔ W (.pipe p a) := by rw [G_iff]; simp [isTextual, kidsOf, children]
@[simp] theorem G_parameter {p a} : G W (.parameter p a) := by rw [G_iff]; simp [isTextual, kidsOf, children]
@[simp] theorem G_tilde {p a} : G W (.tilde p a) := by rw [G_iff]; simp [isTextual, kidsOf, children]
@[simp] theorem G_heredoc {p a} : G W (.heredoc p a) := by rw [G_iff]; simp [isTextual, kidsOf, children]
@[simp] theorem G_list {p ps} : G W (.list p ps) ↔ GL W ps := by rw [G_iff]; simp [isTextual, kidsOf, children]
@[simp] theorem G_pipeline {p ps} : G W (.pipeline p ps) ↔ GL W ps := by rw [G_iff]; simp [isTextual, kidsOf, children]
@[simp] theorem G_ifN {p ps} : G W (.ifN p ps) ↔ GL W ps := by rw [G_iff]; simp [isTextual, kidsOf, children]
@[simp] theorem G_forN {p ps} : G W (.forN p ps) ↔ GL W ps := by rw [G_iff]; simp [isTextual, kidsOf, children]
@[simp] theorem G_whileN {p ps} : G W (.whileN p ps) ↔ GL W ps := by rw [G_iff]; simp [isTextual, kidsOf, children]
@[simp] theorem G_untilN {p ps} : G W (.untilN p ps) ↔ GL W ps := by rw [G_iff]; simp [isTextual, kidsOf, children]
@[simp] theorem G_caseN {p ps} : G W (.caseN p ps) ↔ GL W ps := by rw [G_iff]; simp [isTextual, kidsOf, children]
@[simp] theorem G_pattern {p ps} : G W (.pattern p ps) ↔ GL W ps := by rw [G_iff]; simp [isTextual, kidsOf, children]
@[simp] theorem G_command {p ps} : G W (.command p ps) ↔ GL W ps := by rw [G_iff]; simp [isTextual, kidsOf, children]
@[simp] theorem G_unimplemented {p ps} : G W (.unimplemented p ps) ↔ GL W ps := by
  rw [G_iff]; simp [isTextual, kidsOf, children]
@[simp] theorem G_function {p a b ps} : G W (.function p a b ps) ↔ GL W ps := by
  rw [G_iff]; simp [isTextual, kidsOf, children]
@[simp] theorem G_compound {p l r} : G W (.compound p l r) ↔ GL W l ∧ GL W r := by
  rw [G_iff]; simp [isTextual, kidsOf, children]
theorem G_redirect {p i t o oa h hid} :
    G W (.redirect p i t o oa h hid) ↔
      W (.redirect p i t o oa h hid) ∧ GL W o.toList ∧ GL W h.toList := by
  rw [G_iff]; simp [isTextual, kidsOf, children]
@[simp] theorem G_commandsubstitution {p c} : G W (.commandsubstitution p c) ↔ G W c := by
  rw [G_iff]; simp [isTextual, kidsOf, children]
@[simp] theorem G_processsubstitution {p c} : G W (.processsubstitution p c) ↔ G W c := by
  rw [G_iff]; simp [isTextual, kidsOf, children]
theorem G_word {p s ps} :
    G W (.word p s ps) ↔ W (.word p s ps) ∧ (W.deep = true → GL W ps) := by
  rw [G_iff]
  cases hd : W.deep <;> simp [isTextual, kidsOf, children, hd]
theorem G_assignment {p s ps} :
    G W (.assignment p s ps) ↔ W (.assignment p s ps) ∧ (W.deep = true → GL W ps) := by
  rw [G_iff]
  cases hd : W.deep <;> simp [isTextual, kidsOf, children, hd]

@[simp] theorem GV_none : GV W T .none := trivial
@[simp] theorem GV_tok {t} : GV W T (.tok t) ↔ T t := Iff.rfl
@[simp] theorem GV_node {n} : GV W T (.node n) ↔ G W n := Iff.rfl
@[simp] theorem GV_nodes {l} : GV W T (.nodes l) ↔ GL W l := Iff.rfl

/-- what the walk needs of `W`, of the tokens and of the nested parser -/
structure Ctx (W : Pred) (T : Token → Prop) (np : NestedParse) : Prop where
  /-- words are built from tokens satisfying `T` only, of type WORD / ASSIGNMENT_WORD -/
  word : ∀ tok, T tok → (tok.is .WORD = true ∨ tok.is .ASSIGNMENT_WORD = true) →
    Sat (expandword np tok) (G W)
  asg : ∀ p s ps, W (.word p s ps) → W (.assignment p s ps)
  /-- the delimiter word of a here-document redirect (a WORD token) -/
  bare : ∀ tok, T tok → tok.is .WORD = true →
    W (.word (tok.lexpos, tok.endlexpos) tok.valueStr [])
  /-- a reserved-word / operator / pipe node with the span and the value of a reserved token -/
  res : ∀ tok w, T tok → Reserved tok → tok.value = .str w →
    W (.reservedword (tok.lexpos, tok.endlexpos) w) ∧ W (.operator (tok.lexpos, tok.endlexpos) w) ∧
    W (.pipe (tok.lexpos, tok.endlexpos) w)
  /-- the operator `;` of a `for` clause becomes a reserved word -/
  semi : ∀ p w, W (.operator p w) → W (.reservedword p w)
  /-- D19: the `!` of a pipeline built from a `timespec` sits at (0,0) -/
  d19 : W (.reservedword (0, 0) ['!'])
  /-- a redirect node from its tokens: `first` (file descriptor or operator), `op`, `out` -/
  redir : ∀ first op out o oa hd hid, T first → T op → T out →
    (match o with
     | some w => w.pos = (out.lexpos, out.endlexpos) ∧ oa = .none
     | none => oa = redirIn out.value) →
    ∀ p, (hid = none → p = (first.lexpos, out.endlexpos)) →
    ∀ inp, (first = op ∧ inp = .none) ∨ inp = redirIn first.value →
    W (.redirect p inp op.valueStr o oa hd hid)

/-- the token may be handed to `_expandword` -/
def WordTok (W : Pred) (np : NestedParse) (t : Token) : Prop := Sat (expandword np t) (G W)

/-- the token may become a reserved-word / operator / pipe leaf with its span and value -/
def LeafTok (W : Pred) (t : Token) : Prop :=
  W (.reservedword (t.lexpos, t.endlexpos) t.valueStr) ∧
  W (.operator (t.lexpos, t.endlexpos) t.valueStr) ∧ W (.pipe (t.lexpos, t.endlexpos) t.valueStr)

/-- what `_makeparts` does with a token: a WORD is expanded, any other becomes a reserved word -/
def PartTok (W : Pred) (np : NestedParse) (t : Token) : Prop :=
  (t.is .WORD = true → WordTok W np t) ∧
  (¬ t.is .WORD = true → W (.reservedword (t.lexpos, t.endlexpos) (tvalStr t.value)))

variable {np : NestedParse} {args : List SVal}

/-- the token in slot `i` (if it is one) is of a reserved type -/
def ResSlot (args : List SVal) (i : Nat) : Prop :=
  ∀ t, args.getD (i - 1) .none = .tok t → Reserved t

/-- the token in slot `i` (if it is one) is a WORD / ASSIGNMENT_WORD -/
def WordSlot (args : List SVal) (i : Nat) : Prop :=
  ∀ t, args.getD (i - 1) .none = .tok t → (t.is .WORD = true ∨ t.is .ASSIGNMENT_WORD = true)

/-- every token among the arguments is of a reserved type or a WORD -/
def PartToks (args : List SVal) : Prop :=
  ∀ t, SVal.tok t ∈ args → Reserved t ∨ t.ttype = some .WORD

theorem slice_ok (ha : ∀ a ∈ args, GV W T a) (i : Nat) : GV W T (PCtx.slice ⟨np, args⟩ i) := by
  unfold PCtx.slice
  simp only [List.getD_eq_getElem?_getD]
  cases h : args[i - 1]? with
  | none => exact trivial
  | some a => exact ha a (List.mem_of_getElem? h)

theorem GV_of_slice (ha : ∀ a ∈ args, GV W T a) {i : Nat} {v : SVal}
    (h : PCtx.slice ⟨np, args⟩ i = v) : GV W T v := h ▸ slice_ok ha i

/-- an exception in front: nothing to show about the rest -/
theorem sat_foreign_bind {α β : Type} {a b : String} {k : α → M β} {R : β → Prop} :
    Sat (M.foreign a b >>= k) R :=
  Sat.bind (P := fun _ => False) (Sat.foreign trivial) (fun _ h => h.elim)

/-- an action that returns `p[0]` without `p.accept()` -/
theorem sat_ret {m : M SVal} (h : Sat m (GV W T)) :
    Sat (m >>= fun v => pure (v, false)) (fun r : SVal × Bool => GV W T r.1) :=
  h.bind fun _ hv => Sat.pure hv

theorem sat_nodeAt (ha : ∀ a ∈ args, GV W T a) (i : Nat) (site : String) :
    Sat (PCtx.nodeAt ⟨np, args⟩ i site) (G W) := by
  unfold PCtx.nodeAt
  split
  next n h => exact Sat.pure (GV_of_slice ha h)
  next => exact Sat.foreign trivial

theorem sat_nodesAt (ha : ∀ a ∈ args, GV W T a) (i : Nat) (site : String) :
    Sat (PCtx.nodesAt ⟨np, args⟩ i site) (GL W) := by
  unfold PCtx.nodesAt
  split
  next l h => exact Sat.pure (GV_of_slice ha h)
  next => exact Sat.foreign trivial

/-- the token in slot `i`, with its slot -/
theorem sat_tokAt' (ha : ∀ a ∈ args, GV W T a) (i : Nat) :
    Sat (PCtx.tokAt ⟨np, args⟩ i) (fun t => T t ∧ PCtx.slice ⟨np, args⟩ i = .tok t) := by
  unfold PCtx.tokAt
  split
  next t h => exact Sat.pure ⟨GV_of_slice ha h, h⟩
  next => exact Sat.foreign trivial

theorem sat_tokAt (ha : ∀ a ∈ args, GV W T a) (i : Nat) :
    Sat (PCtx.tokAt ⟨np, args⟩ i) T :=
  (sat_tokAt' ha i).weaken (fun _ h => h.1) (fun _ h => h)

theorem sat_strAt' (ha : ∀ a ∈ args, GV W T a) (i : Nat) :
    Sat (PCtx.strAt ⟨np, args⟩ i)
      (fun s => ∃ t, T t ∧ PCtx.slice ⟨np, args⟩ i = .tok t ∧ s = t.valueStr) := by
  unfold PCtx.strAt
  exact (sat_tokAt' ha i).bind fun t ht => Sat.pure ⟨t, ht.1, ht.2, rfl⟩

theorem lexspan_tok {i : Nat} {t : Token} (h : PCtx.slice ⟨np, args⟩ i = .tok t) :
    PCtx.lexspan ⟨np, args⟩ i = (t.lexpos, t.endlexpos) := by
  unfold PCtx.lexspan; rw [h]; rfl

/-- a token of a reserved type has a string value -/
theorem Reserved.str {t : Token} (hr : Reserved t) (hwf : C12.TokWF t) : ∃ w, t.value = .str w := by
  obtain ⟨ty, hty, hres⟩ := hr
  obtain ⟨s, hs, _, _⟩ := (hwf ty hty).1 hres
  exact ⟨s, hs⟩

/-- the three leaf kinds from the token in slot `i` -/
theorem leaf_slot (hC : Ctx W T np) (hwf : ∀ t, T t → C12.TokWF t) (ha : ∀ a ∈ args, GV W T a)
    {i : Nat} (hr : ResSlot args i) {t : Token} (ht : PCtx.slice ⟨np, args⟩ i = .tok t) :
    W (.reservedword (PCtx.lexspan ⟨np, args⟩ i) t.valueStr) ∧
    W (.operator (PCtx.lexspan ⟨np, args⟩ i) t.valueStr) ∧
    W (.pipe (PCtx.lexspan ⟨np, args⟩ i) t.valueStr) := by
  have hT : T t := GV_of_slice ha ht
  have hres : Reserved t := hr t ht
  obtain ⟨w, hw⟩ := hres.str (hwf t hT)
  have hv : t.valueStr = w := by unfold Token.valueStr; rw [hw]
  rw [lexspan_tok ht, hv]
  exact hC.res t w hT hres hw

/-- a leaf `mk (span of slot i) (value of slot i)` of one of the three kinds -/
theorem sat_leafAt (ha : ∀ a ∈ args, GV W T a) {i : Nat} {mk : Span → Str → Node}
    (hmk : ∀ t, PCtx.slice ⟨np, args⟩ i = .tok t → G W (mk (PCtx.lexspan ⟨np, args⟩ i) t.valueStr)) :
    Sat (PCtx.strAt ⟨np, args⟩ i >>= fun s => pure (mk (PCtx.lexspan ⟨np, args⟩ i) s)) (G W) :=
  (sat_strAt' ha i).bind fun _ ⟨t, _, ht, hs⟩ => Sat.pure (hs ▸ hmk t ht)

theorem sat_reservedAt (hC : Ctx W T np) (hwf : ∀ t, T t → C12.TokWF t)
    (ha : ∀ a ∈ args, GV W T a) {i : Nat} (hr : ResSlot args i) :
    Sat (reservedAt ⟨np, args⟩ i) (G W) :=
  sat_leafAt ha fun _ ht => G_reservedword.mpr (leaf_slot hC hwf ha hr ht).1

theorem sat_operatorAt (hC : Ctx W T np) (hwf : ∀ t, T t → C12.TokWF t)
    (ha : ∀ a ∈ args, GV W T a) {i : Nat} (hr : ResSlot args i) :
    Sat (operatorAt ⟨np, args⟩ i) (G W) :=
  sat_leafAt ha fun _ ht => G_operator.mpr (leaf_slot hC hwf ha hr ht).2.1

/-- a token of a reserved type as a reserved word, by the value `_makeparts` reads -/
theorem res_tvalStr (hC : Ctx W T np) (hwf : ∀ t, T t → C12.TokWF t) {t : Token} (hT : T t)
    (hres : Reserved t) : W (.reservedword (t.lexpos, t.endlexpos) (tvalStr t.value)) := by
  obtain ⟨w, hw⟩ := hres.str (hwf t hT)
  rw [hw]
  exact (hC.res t w hT hres hw).1

theorem partTok_of_ctx (hC : Ctx W T np) (hwf : ∀ t, T t → C12.TokWF t) {t : Token} (hT : T t)
    (h : Reserved t ∨ t.ttype = some .WORD) : PartTok W np t :=
  ⟨fun hw => hC.word t hT (Or.inl hw),
   fun hnw => res_tvalStr hC hwf hT (h.resolve_right fun h => hnw (by simp [Token.is, h]))⟩

theorem sat_makepartsOf (ha : ∀ a ∈ args, GV W T a)
    (hp : ∀ t, SVal.tok t ∈ args → PartTok W np t) : Sat (makeparts ⟨np, args⟩) (GL W) := by
  unfold makeparts
  simp only [bind_pure]
  refine Sat.forIn_list (I := fun rest acc => (∀ a ∈ rest, GV W T a ∧ a ∈ args) ∧ GL W acc) ?_ ?_
    args [] ⟨fun a h => ⟨ha a h, h⟩, GL_nil⟩
  · rintro a rest b ⟨hrest, hb⟩
    have hr : ∀ a' ∈ rest, GV W T a' ∧ a' ∈ args :=
      fun a' h => hrest a' (List.mem_cons_of_mem _ h)
    have hav : GV W T a := (hrest a List.mem_cons_self).1
    have hmem : a ∈ args := (hrest a List.mem_cons_self).2
    split
    · exact Sat.pure ⟨hr, GL_append.mpr ⟨hb, GL_cons.mpr ⟨hav, GL_nil⟩⟩⟩
    · exact Sat.pure ⟨hr, GL_append.mpr ⟨hb, hav⟩⟩
    · rename_i t
      split
      · rename_i hisw
        exact Sat.bind ((hp t hmem).1 hisw)
          (fun w hw => Sat.pure ⟨hr, GL_append.mpr ⟨hb, GL_cons.mpr ⟨hw, GL_nil⟩⟩⟩)
      · rename_i hnw
        exact Sat.pure ⟨hr, GL_append.mpr ⟨hb, GL_cons.mpr
          ⟨G_reservedword.mpr ((hp t hmem).2 hnw), GL_nil⟩⟩⟩
    · exact Sat.pure ⟨hr, hb⟩
  · rintro b ⟨_, hb⟩; exact hb

theorem sat_makeparts (hC : Ctx W T np) (hwf : ∀ t, T t → C12.TokWF t)
    (ha : ∀ a ∈ args, GV W T a) (hp : PartToks args) :
    Sat (makeparts ⟨np, args⟩) (GL W) :=
  sat_makepartsOf ha fun t h => partTok_of_ctx hC hwf (ha _ h) (hp t h)

theorem sat_addRedirects {n : Node} {reds : List Node} (hn : G W n) (hr : GL W reds) :
    Sat (addRedirects n reds) (G W) := by
  unfold addRedirects
  refine Sat.bind_any (fun _ => ?_)
  split
  · simp only []
    split
    · exact Sat.foreign trivial
    · refine Sat.bind_any (fun _ => Sat.bind_any (fun _ => Sat.pure ?_))
      simp_all
  · exact Sat.foreign trivial

theorem sat_mkCompound1 {inner : Span → List Node → Node} {parts : List Node}
    (hi : ∀ sp, G W (inner sp parts)) : Sat (mkCompound1 inner parts) (GV W T) := by
  unfold mkCompound1
  exact Sat.bind_any (fun sp => Sat.pure (by simp [hi sp]))

/-- `x ++ [sep] ++ y`, the separator built from the token in slot 2 -/
theorem sat_joinLists (ha : ∀ a ∈ args, GV W T a) {mk : Span → Str → Node}
    (hmk : ∀ t, PCtx.slice ⟨np, args⟩ 2 = .tok t → G W (mk (PCtx.lexspan ⟨np, args⟩ 2) t.valueStr))
    (site : String) : Sat (joinLists ⟨np, args⟩ mk site) (GV W T) := by
  unfold joinLists
  refine Sat.ite (fun _ => ?_) (fun _ => ?_)
  · exact (sat_nodeAt ha _ _).bind fun n hn => Sat.pure (GL_one hn)
  · exact (sat_nodesAt ha _ _).bind fun l hl => (sat_nodesAt ha _ _).bind fun r hr =>
      (sat_strAt' ha 2).bind fun _ ⟨t, _, ht, hs⟩ =>
        Sat.pure (GL_append.mpr ⟨GL_snoc hl (hs ▸ hmk t ht), hr⟩)

theorem sat_handleNotImplementedOf (ha : ∀ a ∈ args, GV W T a)
    (hp : ∀ t, SVal.tok t ∈ args → PartTok W np t) (ty : String) :
    Sat (handleNotImplemented ⟨np, args⟩ ty) (GV W T) := by
  unfold handleNotImplemented
  refine Sat.bind_any (fun b => ?_)
  split
  · exact Sat.bind (sat_makepartsOf ha hp)
      (fun parts hp => Sat.bind_any (fun sp => Sat.pure (by simp [hp])))
  · exact Sat.raise trivial

theorem sat_handleNotImplemented (hC : Ctx W T np) (hwf : ∀ t, T t → C12.TokWF t)
    (ha : ∀ a ∈ args, GV W T a) (hp : PartToks args) (ty : String) :
    Sat (handleNotImplemented ⟨np, args⟩ ty) (GV W T) :=
  sat_handleNotImplementedOf ha (fun t h => partTok_of_ctx hC hwf (ha _ h) (hp t h)) ty

theorem G_asg_of_word (hC : Ctx W T np) {p s ps} (h : G W (.word p s ps)) : G W (.assignment p s ps) := by
  rw [G_word] at h
  rw [G_assignment]
  exact ⟨hC.asg p s ps h.1, h.2⟩

theorem G_bare (hC : Ctx W T np) {tok : Token} (ht : T tok) (hw : tok.is .WORD = true) :
    G W (.word (tok.lexpos, tok.endlexpos) tok.valueStr []) := by
  rw [G_word]; exact ⟨hC.bare tok ht hw, fun _ => GL_nil⟩

theorem G_of_head? {l : List Node} {n : Node} (hl : GL W l) (h : l.head? = some n) : G W n :=
  hl n (List.mem_of_head? h)

/-- the post-condition of an action -/
abbrev Post (W : Pred) (T : Token → Prop) (r : SVal × Bool) : Prop := GV W T r.1

end Bashlex.C04
