/-
  C04, word boundaries, parts 2 and 4: `gatherheredocuments` leaves the cursor at a token boundary
  (`gather_b`: the cursor is left where a line ends, `Gather.lean`), and the semantic actions keep
  the cursor at a token boundary.

  Above the tokenizer nothing moves the cursor but `gatherheredocuments` (called by
  `p_simple_list`) and the nested parsers, which run on a parser object of their own (hypothesis
  `hnp`, discharged in `C04Words.lean`): the walk of `C04/ActionInv.lean` with the invariant
  `GB L []`.
-/
import Bashlex.Props.C04.TTRead
import Bashlex.Props.C04.ActionInv

namespace Bashlex.C04.WB
open Bashlex Bashlex.M Bashlex.C10 Bashlex.C11 Bashlex.C03.Tok Bashlex.C04 Bashlex.C04.TTP
set_option linter.unusedSimpArgs false

/-- line, empty slot, positions, and the cursor at a token boundary -/
def GB (L : Str) (ps : List Nat) (l : Local) (e : Env) : Prop :=
  G2 L ps l e ∧ bndB L (tapeOf l e).idx = true

section
variable {L : Str} {ps : List Nat}

theorem GB.env {l : Local} {e e' : Env} (h : GB L ps l e) (h1 : e'.tape = e.tape) :
    GB L ps l e' :=
  G2C.env (C := fun j => bndB L j = true) h h1

instance : EnvStable (GB L ps) := ⟨fun _ _ _ h h1 _ => h.env h1⟩

/-- **`gatherheredocuments`** keeps the cursor at a token boundary -/
theorem gather_b : SatW (GB L ps) (GB L ps) gatherheredocuments (fun _ => True) :=
  gather_c ⟨fun _ h => bndB_of_len h, fun _ _ h => bndB_of_prev h (Or.inl (by decide))⟩

end

/-- keeps line, empty slot, empty position stack and the cursor at a token boundary -/
abbrev BSat {α : Type} (L : Str) (m : M α) : Prop :=
  SatW (GB L []) (GB L []) m (fun _ => True)

/-- **every semantic action keeps the cursor at a token boundary**, given that the nested parser
    does -/
theorem b_action {L : Str} {np : NestedParse} (hnp : ∀ s b, BSat L (np s b)) (fname : String)
    (args : List SVal) : BSat L (action np fname args) :=
  inv_action hnp gather_b (fun _ _ h => h) (fun _ _ _ _ h => h) fname args

end Bashlex.C04.WB
