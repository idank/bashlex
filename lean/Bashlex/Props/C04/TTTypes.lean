/-
  C04, token text: the stateless facts about tokens read by `_readtokenword`: a type other
  than EOF; a string value goes with a type other than NUMBER; a value holding a backslash
  belongs to a WORD / ASSIGNMENT_WORD token (the words `_specialcasetokens` and the reserved-word
  table recognise hold none).
-/
import Bashlex.Props.C12.Tokens
import Bashlex.Props.C04.TokText
import Bashlex.Proofs.TokShape

namespace Bashlex.C04.TTP
open Bashlex Bashlex.M Bashlex.C04
set_option linter.tactic.unusedName false

/-- the type of a token read by `_readtokenword` -/
def WTy (t : Token) : Prop :=
  ∃ ty, t.ttype = some ty ∧ ty ≠ .EOF ∧
    ∀ v, t.value = .str v → ty ≠ .NUMBER ∧ (isWordTy t = true ∨ v.contains '\\' = false)

theorem wty_reserved {t : Token} {ty : TokType} {s : Str} (ht : t.ttype = some ty)
    (hv : t.value = .str s) (h : ty ≠ .EOF ∧ ty ≠ .NUMBER ∧ s.contains '\\' = false) : WTy t := by
  refine ⟨ty, ht, h.1, fun v hs => ?_⟩
  rw [hv] at hs
  cases hs
  exact ⟨h.2.1, Or.inr h.2.2⟩

theorem wty_word {t : Token} (h : t.ttype = some .WORD ∨ t.ttype = some .ASSIGNMENT_WORD) :
    WTy t := by
  rcases h with h | h
  · exact ⟨.WORD, h, by decide, fun v _ => ⟨by decide, Or.inl (by simp [isWordTy, Token.is, h])⟩⟩
  · exact ⟨.ASSIGNMENT_WORD, h, by decide,
      fun v _ => ⟨by decide, Or.inl (by simp [isWordTy, Token.is, h])⟩⟩

/-- the reserved words -/
theorem lookup_facts {s : Str} {ty : TokType}
    (h : List.lookup s reservedFirstCommandChars = some ty) :
    ty ≠ .EOF ∧ ty ≠ .NUMBER ∧ s.contains '\\' = false := by
  have hmem := C12.mem_of_lookup h
  have hall : ∀ kv, kv ∈ reservedFirstCommandChars →
      kv.2 ≠ .EOF ∧ kv.2 ≠ .NUMBER ∧ kv.1.contains '\\' = false := by decide
  exact hall _ hmem

theorem ofChar_ne_eof {c : Char} {t : TokType} (h : TokType.ofChar c = some t) : t ≠ .EOF := by
  unfold TokType.ofChar at h
  split at h <;> first | (cases h; decide) | cases h

/-- the words `_specialcasetokens` recognises -/
theorem special_facts {s : Str} {ty : TokType} (h : (ty, s) ∈ Shape.specialTokens) :
    ty ≠ .EOF ∧ ty ≠ .NUMBER ∧ s.contains '\\' = false := by
  have hall : ∀ p ∈ Shape.specialTokens, p.1 ≠ .EOF ∧ p.1 ≠ .NUMBER ∧ p.2.contains '\\' = false := by
    decide
  exact hall _ h

/-- every shape of token `finishWord` builds (`FWShape`) has a type as `WTy` says -/
theorem sat_finishWord_ty (st : RWState) : Sat (finishWord st) WTy := by
  refine (Shape.sat_finishWord st).weaken (fun t h => ?_) (fun _ h => h)
  rcases h with ⟨_, hty, hv, _⟩ | ⟨ty, hty, ht, hv, _⟩ | ⟨_, l, asg, t0, h0, _, _, rfl⟩
  · exact ⟨.NUMBER, hty, by decide, fun v hs => by rw [hv] at hs; cases hs⟩
  · rcases hty with hty | hty
    · exact wty_reserved ht hv (special_facts hty)
    · exact wty_reserved ht hv (lookup_facts hty.1)
  · refine wty_word ((Shape.fwToken_ttype st l asg t0).imp (fun h => ?_) (fun h => h))
    rw [h, h0]

theorem sat_readtokenword_ty (c : Char) : Sat (readtokenword c) WTy := by
  unfold readtokenword
  exact Sat.bind_any (fun _ => Sat.bind_any (fun st => sat_finishWord_ty st))

/-- `readtokenMeta` never returns the type EOF -/
theorem sat_readtokenMeta_ne (c : Char) :
    Sat (readtokenMeta c) (fun r => ∀ t, r = some t → t ≠ .EOF) := by
  refine (Shape.sat_readtokenMeta c).weaken (fun r h t ht => ?_) (fun _ h => h)
  have hops : ∀ t ∈ Shape.metaOps, t ≠ .EOF := by decide
  exact (h t ht).elim (hops t) ofChar_ne_eof

/-- the spelling of a bare token type holds no backslash -/
theorem bare_noBackslash {ty : TokType} {v : Str} (h : ty.strValueChars = some v) :
    v.contains '\\' = false ∧ ty ≠ .NUMBER ∧ ty ≠ .WORD ∧ ty ≠ .ASSIGNMENT_WORD := by
  have hall : ∀ ty ∈ TokType.all, ∀ v, ty.strValueChars = some v →
      v.contains '\\' = false ∧ ty ≠ .NUMBER ∧ ty ≠ .WORD ∧ ty ≠ .ASSIGNMENT_WORD := by decide
  exact hall ty (by cases ty <;> decide) v h

end Bashlex.C04.TTP
