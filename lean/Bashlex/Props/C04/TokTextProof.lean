/-
  C04: **proof of `TokText`** for the real tokenizer.

  `tokText_of (hD : ScanHyp) : TokText` — layers A (operators, NEWLINE, EOF, `gather`), B (plain
  words, reserved words, NUMBER, assignment words) and C (quotes, backslashes, `$…`, `<(`: the
  words around what the scanners return) are proved; what is used of the two recursive scanners
  `_parse_matched_pair` / `_parse_comsub` is the hypothesis `ScanHyp` (layer D, `TTWord.lean`):
  called at cursor `i` they return, at a cursor `j` inside the line, a string that spells the text
  `L[i:j]` up to deleted backslash-newline pairs, possibly followed by the D31 residue.
  `TTScan*.lean` proves `ScanHyp` (`scanHyp`), hence `tokText : TokText` without hypotheses.

  How the proof goes (files `TT*.lean`): an exact-cursor tape invariant `Tp L ps i`
  (`TTGetc.lean`), the relation `GetcR` for one `_getc` (a run of backslash-newline pairs, then the
  character delivered), `_ungetc` = cursor - 1; the residues arise where `_ungetc` follows a
  `_getc` that skipped pairs or ran into the end of the line (`TTRes.lean`: `back1`,
  `pairs_back`); operators `TTOps.lean`; the loop of `_readtokenword` with the ghost invariant
  `WInv` (`TTWord*.lean`); `finishWord` (`TTFinish.lean`); token types (`TTTypes.lean`, stateless);
  `gatherheredocuments`, `_readtoken`, `token()` (`TTNext.lean`, `TTRead.lean`).
-/
import Bashlex.Props.C04.TTRead
import Bashlex.Props.C04.TTScan

namespace Bashlex.C04
open Bashlex Bashlex.M Bashlex.C10 Bashlex.C11 Bashlex.C03.Tok Bashlex.C04.TTP

section
variable {L : Str}

theorem enumValue_str {ty : TokType} {v : Str} (h : ty.strValueChars = some v) :
    ty.enumValue = .str v := by
  unfold TokType.enumValue; rw [h]

/-- a bare token type: the end is recorded, the token is created -/
theorem bare_tok_tt (ty : TokType) :
    HT (BareQ L ty) (do recordpos; createtoken ty ty.enumValue : M Token)
      (fun t l _ => TT L t ∧ l.eolLookahead = none) ET := by
  intro l e h
  obtain ⟨a, v, ⟨hv, hne⟩, ⟨g1, g2, g3⟩, hcase⟩ := h
  simp only [M.run_bind, C11.run_recordpos]
  rw [run_createtoken ty ty.enumValue [] _ e a ((tapeOf l e).idx - 0)
    (by show l.positions ++ _ = _; rw [g3]; rfl)]
  by_cases hab : a < (tapeOf l e).idx - 0
  · rw [if_pos hab]
    refine ⟨tt_bare (ty := ty) (v := v) rfl hab (enumValue_str hv) rfl hv hne ?_, g2⟩
    simpa using hcase
  · rw [if_neg hab]; exact True.intro

/-- **`token()`** from a state with the cursor inside the line -/
theorem nextToken_tt (hS : ScanHyp) (hnl : NL L) (hlast : L ≠ [] → L.getLast? = some '\n')
    {i0 : Nat} :
    HT (Tp L [] i0) nextToken (fun t l _ => TT L t ∧ l.eolLookahead = none) ET :=
  nextToken_ht (fun _ _ h => h) (readtoken_tt hS hnl hlast) (fun ty => bare_tok_tt ty)
    (fun t l e h => by
      rcases h with ⟨rfl, hg⟩ | ⟨⟨hty, a, k, tw, h1, h2⟩, hg⟩
      · exact ⟨tt_eof L, hg.2.1⟩
      · exact ⟨tt_word h1 h2 hty, hg.2.1⟩)
    (fun _ _ _ h => h) (fun _ _ _ h => h)

end

/-- `token()` from a `Good` state with an empty look-ahead slot: the cursor is inside the line
    (then the line is empty or ends in a newline, and the exact-cursor triples apply), or it was
    moved beyond the line by the non-strict here-document skip, and `token()` delivers EOF -/
theorem nextToken_of_good {g : C11.Ghost} (hg : C11.WFG g) {P : Local → Env → Prop}
    {Q : Token → Local → Env → Prop}
    (hlive : NL g.line → (g.line ≠ [] → g.line.getLast? = some '\n') →
      ∀ i, HT (fun l e => Tp g.line [] i l e ∧ P l e) nextToken Q ET)
    (hdead : ∀ l e, C03.Tok.Dead g.line [] l e → Q eofTok l e) :
    HT (fun l e => C11.Good g [] l e ∧ l.eolLookahead = none ∧ P l e) nextToken Q ET := by
  refine HT.pre (P := fun l e => (∃ i, Tp g.line [] i l e ∧ P l e) ∨
    C03.DeadS g.line [] l.store l.redirstack l e) ?_ ?_
  · intro l e hp
    rcases hp with ⟨i, hp⟩ | hp
    · have hfacts : NL g.line ∧ (g.line ≠ [] → g.line.getLast? = some '\n') := by
        rcases wfg_line hg with hl | ⟨hnl, hlast⟩
        · rw [hl]
          exact ⟨fun i ch h => by simp at h, fun h => absurd rfl h⟩
        · exact ⟨hnl, fun _ => hlast⟩
      exact hlive hfacts.1 hfacts.2 i l e hp
    · exact HT.post (C03.nextToken_dead (L := g.line) (sr := l.store) (rk := l.redirstack))
        (fun t l e h => h.1 ▸ hdead l e h.2.1) l e hp
  · intro l e ⟨hgood, hslot, hP⟩
    obtain ⟨⟨_, hline, _⟩, _, hidx, hps⟩ := hgood
    by_cases hle : (tapeOf l e).idx ≤ g.line.length
    · exact Or.inl ⟨(tapeOf l e).idx, ⟨hline, rfl, hle, hslot, hps⟩, hP⟩
    · rcases hidx with hidx | ⟨_, hstrict⟩
      · exact absurd hidx hle
      · exact Or.inr ⟨⟨hline, by omega, hslot, hps, hstrict⟩, rfl, rfl⟩

/-- **`TokText`, above the hypothesis on the recursive scanners (layer D)** -/
theorem tokText_of (hD : ScanHyp) : TokText where
  gather := keepsEol_gather
  next := fun g hg =>
    HT.pre (nextToken_of_good (P := fun _ _ => True) hg
      (fun hnl hlast i => HT.pre (nextToken_tt hD hnl hlast) (fun _ _ h => h.1))
      (fun l e hd => ⟨tt_eof _, hd.2.2.1⟩)) (fun l e h => ⟨h.1, h.2, True.intro⟩)

/-- **`TokText` holds of the real tokenizer** (no hypotheses) -/
theorem tokText : TokText := tokText_of TTP.scanHyp

end Bashlex.C04

#print axioms Bashlex.C04.TTP.scanHyp
#print axioms Bashlex.C04.tokText_of
#print axioms Bashlex.C04.tokText
