/-
  C04, token text (layer A, end): the relation `TT` from the facts collected.
-/
import Bashlex.Props.C04.Gather
import Bashlex.Props.C04.TTTypes

namespace Bashlex.C04.TTP
open Bashlex Bashlex.M Bashlex.C10 Bashlex.C11 Bashlex.C03.Tok Bashlex.C04
set_option linter.unusedSimpArgs false

/-! ## the relation `TT` from the facts collected -/

theorem tt_eof (L : Str) : TT L eofTok := by
  unfold TT ttOK eofTok
  rfl

theorem all_digit_noBackslash : ∀ (s : Str), s.all isDigit = true → s.contains '\\' = false
  | [], _ => rfl
  | c :: s, h => by
    simp only [List.all_cons, Bool.and_eq_true] at h
    simp only [List.contains_cons, Bool.or_eq_false_iff, beq_eq_false_iff_ne, ne_eq]
    refine ⟨?_, all_digit_noBackslash s h.2⟩
    rintro rfl
    have h1 := h.1
    revert h1; decide

/-- a bare token -/
theorem tt_bare {L : Str} {a e : Nat} {ty : TokType} {v : Str} {t : Token}
    (hp : t.pos = some (a, e)) (hae : a < e) (hval : t.value = .str v) (hty : t.ttype = some ty)
    (hv : ty.strValueChars = some v) (hne : ty ≠ .EOF)
    (h : (ty = .NEWLINE ∧ L[a]? = some '\n') ∨
      (e ≤ L.length ∧ a + v.length < L.length ∧
        ∃ r ∈ residues false L e, Del (Str.slice L a e) (v ++ r))) : TT L t := by
  obtain ⟨b1, b2, b3, b4⟩ := bare_noBackslash hv
  unfold TT ttOK
  rw [hval, hp]
  simp only [Bool.and_eq_true, Bool.or_eq_true, Bool.not_eq_true', decide_eq_true_eq,
    List.any_eq_true, beq_iff_eq]
  have hlen : a + v.length ≤ L.length := by
    rcases h with ⟨rfl, hl⟩ | ⟨_, hl, _⟩
    · have := (List.getElem?_eq_some_iff.mp hl).1
      cases hv
      simp only [List.length_cons, List.length_nil]; omega
    · omega
  refine ⟨⟨⟨⟨⟨⟨?_, ?_⟩, ?_⟩, hae⟩, hlen⟩, Or.inr b1⟩, ?_⟩
  · simp [Token.is, hty, b2]
  · simp [Token.is, hty, hne]
  · rw [hty]; rfl
  · rcases h with ⟨rfl, hl⟩ | ⟨h1, h2, r, hr, hd⟩
    · right
      cases hv
      unfold nlOver
      simp only [Bool.and_eq_true, beq_iff_eq]
      exact ⟨by simp [Token.is, hty], slice_head L hl hae⟩
    · left
      have hl := hd.length_le
      rw [slice_length L h1, List.length_append] at hl
      exact ⟨⟨⟨h1, by omega⟩, Or.inr h2⟩, r, residues_mono hr, hd.delB⟩

/-- a token read by `_readtokenword` -/
theorem tt_word {L : Str} {a k : Nat} {tw : Str} {t : Token} (hs : SpanW L a k tw)
    (hw : WordTok a k tw t) (hty : WTy t) : TT L t := by
  obtain ⟨s1, s2, s3, s4, r, hr, hd⟩ := hs
  obtain ⟨hp, hak, hval⟩ := hw
  obtain ⟨ty, hty1, hty2, hty3⟩ := hty
  have hl := hd.length_le
  rw [slice_length L s2, List.length_append] at hl
  unfold TT ttOK
  rcases hval with hval | ⟨hval, hleg, htyn⟩
  · obtain ⟨q1, q2⟩ := hty3 tw hval
    rw [hval, hp]
    simp only [Bool.and_eq_true, Bool.or_eq_true, Bool.not_eq_true', decide_eq_true_eq,
      List.any_eq_true, beq_iff_eq]
    refine ⟨⟨⟨⟨⟨⟨?_, ?_⟩, ?_⟩, hak⟩, by omega⟩, q2⟩, Or.inl ?_⟩
    · simp [Token.is, hty1, q1]
    · simp [Token.is, hty1, hty2]
    · rw [hty1]; rfl
    · refine ⟨⟨⟨s2, by omega⟩, Or.inr s3⟩, r, ?_, hd.delB⟩
      rw [s4]; exact hr
  · rw [hval, hp]
    simp only [Bool.and_eq_true, decide_eq_true_eq, List.any_eq_true, beq_iff_eq]
    refine ⟨⟨⟨by simp [Token.is, htyn], hak⟩, s2⟩, r, hr, ?_⟩
    have hdig : tw.all isDigit = true := by
      unfold legalNumber at hleg
      simp only [Bool.and_eq_true] at hleg
      exact hleg.2
    have hc : Spec.hasContinuation (tw ++ r) = false :=
      hasCont_append_of_noNL (hasCont_of_noBackslash tw (all_digit_noBackslash tw hdig))
        (res_noNL hr)
    have hstrip := hd.strip hc
    simp only [hstrip, List.length_append, Nat.add_sub_cancel, List.take_left', List.drop_left',
      Nat.le_add_left, hleg, and_self, true_and]

end Bashlex.C04.TTP
