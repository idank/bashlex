/-
  The tape with an EXACT cursor, below every walk of the tokenizer.

  `Tp L ps i`: the parser object reads the line `L`, the cursor is at `i ≤ |L|`, the
  `_eol_ungetc_lookahead` slot is empty, the position stack is `ps`; `TpS L sr rk ps i`: the same
  with the redirect store `sr` and the queue `rk`.  (The invariants of the other walks are this one
  with the cursor partly forgotten: C03's `W` keeps a lower bound.)

  `GetcR rqn L i j c`: what one `_getc(remove_quoted_newline = rqn)` does from cursor `i`: it ends
  at `j`, the text `L[i:j]` is a run of backslash-newline pairs (none when `rqn = false`)
  followed by the character delivered; `None` is delivered at the end of the line only.  The
  character delivered with `rqn` is `peekC L i`, the first character after the pairs at `i`.
  `_ungetc` moves the cursor back by ONE, whatever `_getc` skipped (the source of D31 / D32).
  All of it is read off `C10.tape_getc_rel`.
-/
import Bashlex.Props.C11.Prims

namespace Bashlex.C03.Tok

/-- exceptions are unconstrained in `TokSpans` -/
abbrev ET : Exn → Prop := fun _ => True

end Bashlex.C03.Tok

namespace Bashlex.C04
open Bashlex

/-- drop leading backslash-newline pairs -/
def skipPairs : Str → Str
  | '\\' :: '\n' :: r => skipPairs r
  | r => r

/-- what `_getc(remove_quoted_newline=True)` delivers from cursor `i` (when it does not raise) -/
def peekC (L : Str) (i : Nat) : Option Char := (skipPairs (L.drop i)).head?

/-! ## `skipPairs` -/

theorem skipPairs_pair (r : Str) : skipPairs ('\\' :: '\n' :: r) = skipPairs r := by
  simp [skipPairs]

theorem skipPairs_nil : skipPairs [] = [] := by simp [skipPairs]

theorem skipPairs_cons {c : Char} {r : Str} (h : ¬ (c = '\\' ∧ r.head? = some '\n')) :
    skipPairs (c :: r) = c :: r := by
  cases r with
  | nil => simp [skipPairs]
  | cons d r' =>
    unfold skipPairs
    split
    · rename_i heq
      cases heq
      exact absurd ⟨rfl, rfl⟩ h
    · rfl

theorem skipPairs_of_del : ∀ {s : Str}, Del s [] → ∀ (r : Str), skipPairs (s ++ r) = skipPairs r
  | _, .nil, r => rfl
  | _, .skip h, r => by
    rw [List.cons_append, List.cons_append, skipPairs_pair]
    exact skipPairs_of_del h r

end Bashlex.C04

namespace Bashlex.C04.TTP
open Bashlex Bashlex.M Bashlex.C10 Bashlex.C11 Bashlex.C03.Tok Bashlex.C04

/-- the tape with an exact cursor -/
def Tp (L : Str) (ps : List Nat) (i : Nat) (l : Local) (e : Env) : Prop :=
  (tapeOf l e).line = L ∧ (tapeOf l e).idx = i ∧ i ≤ L.length ∧ l.eolLookahead = none ∧
  l.positions = ps

section
variable {L : Str} {ps : List Nat} {i : Nat}

theorem Tp.env {l : Local} {e e' : Env} (h : Tp L ps i l e) (h1 : e'.tape = e.tape) :
    Tp L ps i l e' := by
  unfold Tp at h ⊢
  rw [tapeOf_env h1]; exact h

instance : EnvStable (Tp L ps i) := ⟨fun _ _ _ h h1 _ => h.env h1⟩

theorem Tp.put {l : Local} {e : Env} (h : Tp L ps i l e) {t' : Tape} {j : Nat}
    (h1 : t'.line = L) (h2 : t'.idx = j) (h3 : j ≤ L.length) :
    Tp L ps j (putL l t') (putE l e t') := by
  obtain ⟨a1, a2, a3, a4, a5⟩ := h
  unfold Tp
  rw [tapeOf_put, putL_eol, C11.putL_positions]
  exact ⟨h1, h2, h3, a4, a5⟩

end

/-- what one `_getc` does from cursor `i` (see the header) -/
structure GetcR (rqn : Bool) (L : Str) (i j : Nat) (c : Option Char) : Prop where
  le : i ≤ j
  le' : j ≤ L.length
  atEnd : c = none → j = L.length ∧ Del (Str.slice L i j) []
  char : ∀ ch, c = some ch → i < j ∧ L[j - 1]? = some ch ∧ Del (Str.slice L i (j - 1)) []
  raw : rqn = false → j = min (i + 1) L.length

theorem GetcR.del {rqn : Bool} {L : Str} {i j : Nat} {c : Option Char} (h : GetcR rqn L i j c) :
    Del (Str.slice L i j) c.toList := by
  cases c with
  | none => exact (h.atEnd rfl).2
  | some ch =>
    obtain ⟨h1, h2, h3⟩ := h.char ch rfl
    have hj : j = (j - 1) + 1 := by omega
    rw [hj, slice_snoc L h2 (by omega)]
    exact h3.snoc ch

/-- a character that is not a backslash (or any character when `rqn = false`) is delivered as
    it stands -/
theorem GetcR.exact {rqn : Bool} {L : Str} {i j : Nat} {c : Option Char} (h : GetcR rqn L i j c)
    {ch : Char} (hi : L[i]? = some ch) (hne : ch ≠ '\\' ∨ rqn = false) : c = some ch ∧ j = i + 1 := by
  have hlt : i < L.length := (List.getElem?_eq_some_iff.mp hi).1
  cases c with
  | none =>
    exfalso
    obtain ⟨h1, h2⟩ := h.atEnd rfl
    rw [h1, slice_cons L hi hlt] at h2
    obtain ⟨e1, e2⟩ := h2.nil_head
    rcases hne with hne | hne
    · exact hne e1
    · have := h.raw hne
      have hl := slice_length L (a := i + 1) (b := L.length) (Nat.le_refl _)
      cases hs : Str.slice L (i + 1) L.length with
      | nil => rw [hs] at e2; cases e2
      | cons x xs => rw [hs] at hl; simp only [List.length_cons] at hl; omega
  | some c' =>
    obtain ⟨h1, h2, h3⟩ := h.char c' rfl
    by_cases hj : j - 1 = i
    · rw [hj] at h2
      rw [hi] at h2
      exact ⟨by rw [← h2], by omega⟩
    · exfalso
      rw [slice_cons L hi (by omega)] at h3
      obtain ⟨e1, e2⟩ := h3.nil_head
      rcases hne with hne | hne
      · exact hne e1
      · have := h.raw hne; omega

theorem tape_getc_R (rqn : Bool) : ∀ (fuel : Nat) (t : Tape) (c : Option Char) (t' : Tape),
    t.getc rqn fuel = .ok (c, t') → t.idx ≤ t.line.length → t.line.length - t.idx < fuel →
      t'.line = t.line ∧ GetcR rqn t.line t.idx t'.idx c := by
  intro fuel t c t' h hle hf
  obtain ⟨a1, _, a3, a4, a5, a6⟩ := tape_getc_rel rqn fuel t c t' h
  refine ⟨a1, a3, a4 hle, fun hn => ?_, fun ch hch => ?_, fun hr => ?_⟩
  · obtain ⟨b1, _, b3⟩ := a6 hn
    have : t'.idx = t.line.length := Nat.le_antisymm (a4 hle) (b3 hf)
    exact ⟨this, this ▸ b1⟩
  · obtain ⟨b1, b2, b3, _⟩ := a5 ch hch
    exact ⟨b1, b2, b3⟩
  · cases c with
    | some ch => have := (a5 ch rfl).2.2.2.1 hr; omega
    | none =>
      have := (a6 rfl).2.1 (Or.inr hr)
      have := (a6 rfl).2.2 hf
      subst t'
      omega

end Bashlex.C04.TTP

namespace Bashlex.C04.WB
open Bashlex Bashlex.C10 Bashlex.C04

section
variable {L : Str} {i : Nat}

/-- a run of pairs from `i`, then the character `c` at `j`: that is what `_getc` delivers -/
theorem peekC_of_del {j : Nat} {c : Char} (hij : i ≤ j) (hd : Del (Str.slice L i j) [])
    (hc : L[j]? = some c) (hnp : ¬ (c = '\\' ∧ L[j + 1]? = some '\n')) : peekC L i = some c := by
  have hlt : j < L.length := (List.getElem?_eq_some_iff.mp hc).1
  unfold peekC
  have e1 : L.drop i = Str.slice L i j ++ L.drop j := by
    rw [← slice_full_drop L i, ← slice_full_drop L j]
    exact (slice_cat L hij (by omega) (Nat.le_refl _)).symm
  have e2 : L.drop j = c :: L.drop (j + 1) := by
    rw [List.drop_eq_getElem_cons hlt]
    congr 1
    exact (List.getElem?_eq_some_iff.mp hc).2
  rw [e1, skipPairs_of_del hd, e2, skipPairs_cons]
  · rfl
  · rintro ⟨h1, h2⟩
    apply hnp
    refine ⟨h1, ?_⟩
    rw [← h2, List.head?_drop]


end

/-- `_getc()` is a function of the line and the cursor -/
theorem tape_getc_skip (fuel : Nat) (t : Tape) (c : Option Char) (t' : Tape)
    (h : t.getc true fuel = .ok (c, t')) (hf : t.line.length - t.idx < fuel) :
    c = peekC t.line t.idx := by
  obtain ⟨_, _, a3, a4, a5, a6⟩ := tape_getc_rel true fuel t c t' h
  cases c with
  | some ch =>
    obtain ⟨b1, b2, b3, _, b5⟩ := a5 ch rfl
    refine (peekC_of_del (by omega) b3 b2 ?_).symm
    rintro ⟨h1, h2⟩
    have e : t'.idx - 1 + 1 = t'.idx := by omega
    rw [e] at h2
    exact b5 rfl h1 h2
  | none =>
    obtain ⟨b1, _, b3⟩ := a6 rfl
    unfold peekC
    rcases Nat.lt_or_ge t.line.length t.idx with hgt | hle
    · rw [List.drop_eq_nil_of_le (by omega)]; rfl
    · have : t'.idx = t.line.length := Nat.le_antisymm (a4 hle) (b3 hf)
      rw [this, slice_full_drop] at b1
      have := skipPairs_of_del b1 []
      rw [List.append_nil] at this
      rw [this]; rfl

end Bashlex.C04.WB

namespace Bashlex.C05.TG
open Bashlex Bashlex.M Bashlex.C10 Bashlex.C11 Bashlex.C03.Tok Bashlex.C04 Bashlex.C04.TTP

/-- the exact-cursor tape invariant with the redirect store and queue -/
def TpS (L : Str) (sr : List RedirCell) (rk : List (Nat × Bool)) (ps : List Nat) (i : Nat)
    (l : Local) (e : Env) : Prop :=
  Tp L ps i l e ∧ l.store = sr ∧ l.redirstack = rk

section
variable {L : Str} {sr : List RedirCell} {rk : List (Nat × Bool)} {ps : List Nat} {i j : Nat}

instance : EnvStable (TpS L sr rk ps i) := ⟨fun _ _ _ h h1 _ => ⟨h.1.env h1, h.2⟩⟩

theorem TpS.put {l : Local} {e : Env} (h : TpS L sr rk ps i l e) {t' : Tape} {j : Nat}
    (h1 : t'.line = L) (h2 : t'.idx = j) (h3 : j ≤ L.length) :
    TpS L sr rk ps j (putL l t') (putE l e t') :=
  ⟨h.1.put h1 h2 h3, by rw [putL_store]; exact h.2.1, by rw [putL_redirstack]; exact h.2.2⟩

/-- **`_getc`** from an exact cursor -/
theorem getc_tps (rqn : Bool) :
    HT (TpS L sr rk ps i) (getc rqn)
      (fun c l e => ∃ j, (GetcR rqn L i j c ∧ (rqn = true → c = peekC L i)) ∧
        TpS L sr rk ps j l e) ET := by
  intro l e h
  obtain ⟨a1, a2, a3, a4, _⟩ := h.1
  rw [run_getc rqn l e a4]
  cases hgc : (tapeOf l e).getc rqn ((tapeOf l e).line.length + 1) with
  | error u => cases u; exact True.intro
  | ok v =>
    obtain ⟨c, t'⟩ := v
    obtain ⟨b1, b2⟩ := tape_getc_R rqn _ _ _ _ hgc (by rw [a1, a2]; exact a3) (by omega)
    have b3 : rqn = true → c = peekC (tapeOf l e).line (tapeOf l e).idx := fun hr =>
      WB.tape_getc_skip _ _ _ _ (hr ▸ hgc) (by omega)
    rw [a1, a2] at b2 b3
    exact ⟨t'.idx, ⟨b2, b3⟩, h.put (b1.trans a1) rfl b2.le'⟩

/-- **`_ungetc`**: the cursor moves back by one -/
theorem ungetc_tps (c : Option Char) (hj : 0 < j) :
    HT (TpS L sr rk ps j) (ungetc c) (fun _ l e => TpS L sr rk ps (j - 1) l e) ET := by
  intro l e h
  obtain ⟨a1, a2, a3, _, _⟩ := h.1
  rw [run_ungetc]
  have hu : (tapeOf l e).ungetc = (true, { tapeOf l e with idx := (tapeOf l e).idx - 1 }) := by
    unfold Tape.ungetc
    rw [if_pos]
    rw [a1, a2]
    have hne : L ≠ [] := by
      intro hl; rw [hl] at a3; simp at a3; omega
    simp only [Bool.and_eq_true, Bool.not_eq_true', List.isEmpty_eq_false_iff, ne_eq, bne_iff_ne,
      decide_eq_true_eq]
    exact ⟨⟨hne, by omega⟩, a3⟩
  rw [hu]
  exact h.put a1 (by show (tapeOf l e).idx - 1 = j - 1; rw [a2]) (by omega)

theorem getc_binds {β : Type} {rqn : Bool} {f : Option Char → M β} {Q : β → Local → Env → Prop}
    (h : ∀ c j, GetcR rqn L i j c → HT (TpS L sr rk ps j) (f c) Q ET) :
    HT (TpS L sr rk ps i) (getc rqn >>= f) Q ET :=
  HT.bind (getc_tps rqn) (fun c => HT.pre_exists (fun j => HT.pre_pure (fun hg => h c j hg.1)))

end

end Bashlex.C05.TG

namespace Bashlex.C04.TTP
open Bashlex Bashlex.M Bashlex.C10 Bashlex.C11 Bashlex.C03.Tok Bashlex.C04 Bashlex.C05.TG

section
variable {L : Str} {ps : List Nat} {i j : Nat}

/-- a triple that holds whatever the store and the queue are -/
theorem HT.of_tps {α : Type} {m : M α} {Q : α → Local → Env → Prop}
    (h : ∀ sr rk, HT (TpS L sr rk ps i) m Q ET) : HT (Tp L ps i) m Q ET :=
  fun l e hp => h l.store l.redirstack l e ⟨hp, rfl, rfl⟩

theorem getc_tp (rqn : Bool) :
    HT (Tp L ps i) (getc rqn) (fun c l e => ∃ j, GetcR rqn L i j c ∧ Tp L ps j l e) ET :=
  HT.of_tps (fun _ _ => HT.post (getc_tps rqn) (fun _ _ _ ⟨j, hg, ht⟩ => ⟨j, hg.1, ht.1⟩))

theorem ungetc_tp (c : Option Char) (hj : 0 < j) :
    HT (Tp L ps j) (ungetc c) (fun _ l e => Tp L ps (j - 1) l e) ET :=
  HT.of_tps (fun _ _ => HT.post (ungetc_tps c hj) (fun _ _ _ h => h.1))

theorem getc_bind {β : Type} {rqn : Bool} {f : Option Char → M β} {Q : β → Local → Env → Prop}
    (h : ∀ c j, GetcR rqn L i j c → HT (Tp L ps j) (f c) Q ET) :
    HT (Tp L ps i) (getc rqn >>= f) Q ET :=
  HT.bind (getc_tp rqn) (fun c => HT.pre_exists (fun j => HT.pre_pure (fun hg => h c j hg)))

theorem ungetc_bind {β : Type} {c : Option Char} {f : Unit → M β} {Q : β → Local → Env → Prop}
    (hj : 0 < j) (h : HT (Tp L ps (j - 1)) (f ()) Q ET) :
    HT (Tp L ps j) (ungetc c >>= f) Q ET :=
  HT.bind (ungetc_tp c hj) (fun _ => h)

end

end Bashlex.C04.TTP

namespace Bashlex.C04.WB
open Bashlex Bashlex.M Bashlex.C10 Bashlex.C11 Bashlex.C03.Tok Bashlex.C04 Bashlex.C04.TTP
  Bashlex.C05.TG

/-- two triples about the same program -/
theorem HT.and {α : Type} {P P' : Local → Env → Prop} {m : M α} {Q Q' : α → Local → Env → Prop}
    (h1 : HT P m Q ET) (h2 : HT P' m Q' ET) :
    HT (fun l e => P l e ∧ P' l e) m (fun a l e => Q a l e ∧ Q' a l e) ET := by
  intro l e hp
  have a1 := h1 l e hp.1
  have a2 := h2 l e hp.2
  rcases hr : m.run l e with ⟨r, e'⟩
  rw [hr] at a1 a2
  cases r with
  | ok v => exact ⟨a1, a2⟩
  | error x => exact True.intro

section
variable {L : Str} {ps : List Nat} {i : Nat}

/-- **`_getc()`** from an exact cursor: the character delivered is `peekC L i` -/
theorem getc_peek :
    HT (Tp L ps i) (getc true)
      (fun c l e => c = peekC L i ∧ ∃ j, GetcR true L i j c ∧ Tp L ps j l e) ET :=
  HT.of_tps (fun _ _ => HT.post (getc_tps true)
    (fun _ _ _ ⟨j, hg, ht⟩ => ⟨hg.2 rfl, j, hg.1, ht.1⟩))

theorem getc_peek_bind {β : Type} {f : Option Char → M β} {Q : β → Local → Env → Prop}
    (h : ∀ c j, c = peekC L i → GetcR true L i j c → HT (Tp L ps j) (f c) Q ET) :
    HT (Tp L ps i) (getc true >>= f) Q ET :=
  HT.bind getc_peek (fun c => HT.pre_pure (fun hc =>
    HT.pre_exists (fun j => HT.pre_pure (fun hg => h c j hc hg))))

end

end Bashlex.C04.WB
