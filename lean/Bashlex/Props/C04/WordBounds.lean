/-
  C04, word boundaries (the clauses `word-starts-late`, `word-cut-short` and — for plain words —
  `word-not-whole` of `Spec.localTextViol`) at TOKEN level.

  `nextToken_wb`: from a cursor at a token boundary (`bndB L i0`) `token()` delivers a token such
  that
    * a WORD / ASSIGNMENT_WORD token at `(a, k)` satisfies `WBTok`:
        `tokStartsOK`  it starts at the start of the line, after a break character (a blank, a
                       metacharacter, the newline of a skipped line continuation), or after a `-`
                       (DASH after `<&` / `>&`, `<<-`): `startsB L a`;
        `tokEndsOK`    it ends at the end of the line, on a break character that does not open a
                       process substitution (the character `_readtokenword` put back; after the
                       double `_ungetc` of D32 — `a<\⏎b` — this is the NEWLINE of the
                       continuation and the span keeps `<\`), or before the final continuation
                       (D31 + D32, `a<\`): `exitB L k`;
        `tokWhole_plain`  a value in which none of `\ ' " backquote $ < >` occurs holds no break
                       character (`plainOKB`; `WBPlain.lean`: a break character enters
                       `tokenword` only after a backslash, inside what a quote or an expansion
                       returns, or as the `<` / `>` of a process substitution);
      every token read by `_readtokenword` (reserved words, NUMBER, … too) satisfies these: `wbOK`
      excuses the operators `_readtoken` returns bare (`opTyB`) and EOF only;
    * the cursor after the token is at a token boundary again (`BI`); a token is never read
      starting ON a break character that does not open a process substitution (`WBOdd.lean`:
      whatever `ps.regexp` / `ps.dblparen` are, `_readtokenword` delivers nothing then).
  `TokWB`: the statement about the token source used by `Props/C04Words.lean`, with
  `tokWB : TokWB` for the real tokenizer.

  Validation by evaluation of the model: `WBValidate.lean` (corpus and three grids: 0 failures).
-/
import Bashlex.Props.C04.WBRead
import Bashlex.Props.C04.TokTextProof

namespace Bashlex.C04
open Bashlex Bashlex.M Bashlex.C10 Bashlex.C11 Bashlex.C03.Tok Bashlex.C04.TTP Bashlex.C04.WB
set_option linter.unusedVariables false

/-- the token is an operator returned bare by `_readtoken` (its spelling ends in a break
    character or `-`), or EOF -/
def opTyB (t : Token) : Bool :=
  match t.ttype with
  | some ty => opEnd ty || ty == .EOF
  | none => false

/-- **the word-boundary facts of a delivered token** (decidable): every token that is not an
    operator or EOF — i.e. every token read by `_readtokenword` — starts and ends at a boundary -/
def wbOK (L : Str) (t : Token) : Bool :=
  opTyB t || (startsB L t.lexpos && exitB L t.endlexpos && plainOKB t.valueStr)

def WBTok (L : Str) (t : Token) : Prop := wbOK L t = true

instance (L : Str) (t : Token) : Decidable (WBTok L t) := inferInstanceAs (Decidable (_ = true))

theorem opTyB_word {t : Token} (hw : isWordTy t = true) : opTyB t = false := by
  unfold isWordTy Token.is at hw
  unfold opTyB
  cases hty : t.ttype with
  | none => rfl
  | some ty =>
    rw [hty] at hw
    simp only [Bool.or_eq_true, beq_iff_eq, Option.some.injEq] at hw
    rcases hw with rfl | rfl <;> decide

theorem WBTok.facts {L : Str} {t : Token} (h : WBTok L t) (hw : opTyB t = false) :
    startsB L t.lexpos = true ∧ exitB L t.endlexpos = true ∧ plainOKB t.valueStr = true := by
  unfold WBTok wbOK at h
  rw [hw] at h
  simp only [Bool.false_or, Bool.and_eq_true] at h
  exact ⟨h.1.1, h.1.2, h.2⟩

theorem WBTok.word {L : Str} {t : Token} (h : WBTok L t) (hw : isWordTy t = true) :
    startsB L t.lexpos = true ∧ exitB L t.endlexpos = true ∧ plainOKB t.valueStr = true :=
  h.facts (opTyB_word hw)

theorem wbTok_of_ty {L : Str} {t : Token} {ty : TokType} (h : t.ttype = some ty)
    (h1 : opEnd ty = true) : WBTok L t := by
  unfold WBTok wbOK opTyB
  rw [h]
  simp only [h1, Bool.true_or]

theorem wbTok_eof (L : Str) : WBTok L eofTok := by
  unfold WBTok wbOK opTyB eofTok
  rfl

theorem wbTok_word {L : Str} {t : Token} {a k : Nat} {tw : Str} (h : WordTok a k tw t)
    (hs : startsB L a = true) (he : exitB L k = true) (hp : plainOKB tw = true) : WBTok L t := by
  unfold WBTok wbOK
  have e1 : t.lexpos = a := by simp [Token.lexpos, h.1]
  have e2 : t.endlexpos = k := by simp [Token.endlexpos, h.1]
  have e3 : plainOKB t.valueStr = true := by
    rcases h.2.2 with hv | ⟨hv, _, _⟩
    · simp only [Token.valueStr, hv]; exact hp
    · simp only [Token.valueStr, hv]; rfl
  rw [e1, e2, he, hs, e3]
  simp

section
variable {L : Str}

theorem bi_recordpos (rel : Nat) : SatW (BI L) (BI L) (recordpos rel) (fun _ => True) := by
  unfold recordpos; w_walk

theorem bi_createtoken (ty : TokType) (v : TVal) (fl : WordFlags) :
    SatW (BI L) (BI L) (createtoken ty v fl) (fun _ => True) := by
  unfold createtoken; (try simp only []); w_walk

/-- **`token()`** from a cursor at a token boundary -/
theorem nextToken_wb (hS : ScanHyp) (hnl : NL L) (hlast : L ≠ [] → L.getLast? = some '\n')
    {i0 : Nat} (hb : bndB L i0 = true) :
    HT (Tp L [] i0) nextToken (fun t l e => WBTok L t ∧ BI L l e) ET := by
  refine nextToken_ht (fun _ _ h => h) (readtoken_w hS hnl hlast hb) (fun ty => ?_)
    (fun t l e h => ?_) (fun _ _ _ h => h) (fun _ _ _ h => h)
  · refine HT.pre (P := fun l e => opEnd ty = true ∧ BI L l e)
      (HT.pre_pure (fun hty => ?_)) (fun l e h => ⟨h.2, h.1⟩)
    refine HT.bind (Q := fun _ l e => BI L l e) (HT.post (bi_recordpos 0) (fun _ _ _ h => h.2))
      (fun _ => ?_)
    exact HT.post (HT.exn (HT.and_sat (HT.post (bi_createtoken ty _ []) (fun _ _ _ h => h.2))
      C12.sat_createtoken) (fun _ _ => True.intro)) (fun t l e h => ⟨wbTok_of_ty h.1.1 hty, h.2⟩)
  · obtain ⟨hbi, hcase⟩ := h
    refine ⟨?_, hbi⟩
    rcases hcase with rfl | ⟨a, k, ⟨tw, hw, hp⟩, hs, he⟩
    · exact wbTok_eof L
    · exact wbTok_word hw hs he hp

end

/-! ## the statement about the token source -/

/-- **the token source and word boundaries**.
    `next`: from every `Good` state of a parser object over the line `g.line` with an empty
    look-ahead slot and the cursor at a token boundary (`BI`), every token `token()` delivers
    satisfies `WBTok g.line`, and the cursor is at a token boundary again.
    (`gatherheredocuments` and the semantic actions keep `BI`: `WB.gather_b`, `WB.b_action`.) -/
structure TokWB : Prop where
  next : ∀ g, C11.WFG g →
    C11.HT (fun l e => C11.Good g [] l e ∧ l.eolLookahead = none ∧ BI g.line l e) nextToken
      (fun t l e => WBTok g.line t ∧ BI g.line l e) (fun _ => True)

theorem bi_of_dead {L : Str} {ps : List Nat} {l : Local} {e : Env} (h : C03.Tok.Dead L ps l e) :
    BI L l e := by
  obtain ⟨a1, a2, _⟩ := h
  exact ⟨a1, bndB_of_len (by omega)⟩

/-- **`TokWB` holds of the real tokenizer** (no hypotheses) -/
theorem tokWB : TokWB where
  next := fun g hg =>
    nextToken_of_good hg
      (fun hnl hlast i l e h =>
        nextToken_wb scanHyp hnl hlast (by rw [← h.1.2.1]; exact h.2.2) l e h.1)
      (fun l e hd => ⟨wbTok_eof _, bi_of_dead hd⟩)

/-! ## the two token-level theorems, spelled out -/

/-- **`tokStartsOK`** -/
theorem tokStartsOK (g : C11.Ghost) (hg : C11.WFG g) :
    C11.HT (fun l e => C11.Good g [] l e ∧ l.eolLookahead = none ∧ BI g.line l e) nextToken
      (fun t _ _ => isWordTy t = true → startsB g.line t.lexpos = true) (fun _ => True) :=
  HT.post (tokWB.next g hg) (fun t _ _ h hw => (h.1.word hw).1)

/-- **`tokEndsOK`** -/
theorem tokEndsOK (g : C11.Ghost) (hg : C11.WFG g) :
    C11.HT (fun l e => C11.Good g [] l e ∧ l.eolLookahead = none ∧ BI g.line l e) nextToken
      (fun t l e => (isWordTy t = true → exitB g.line t.endlexpos = true) ∧ BI g.line l e)
      (fun _ => True) :=
  HT.post (tokWB.next g hg) (fun t _ _ h => ⟨fun hw => (h.1.word hw).2.1, h.2⟩)

/-- **`tokWhole_plain`**: the value of a WORD / ASSIGNMENT_WORD token in which none of
    `\ ' " backquote $ < >` occurs holds no break character -/
theorem tokWhole_plain (g : C11.Ghost) (hg : C11.WFG g) :
    C11.HT (fun l e => C11.Good g [] l e ∧ l.eolLookahead = none ∧ BI g.line l e) nextToken
      (fun t _ _ => isWordTy t = true → plainV t.valueStr = true → nbV t.valueStr = true)
      (fun _ => True) := by
  refine HT.post (tokWB.next g hg) (fun t _ _ h hw hp => ?_)
  have := (h.1.word hw).2.2
  unfold plainOKB at this
  rw [hp] at this
  simpa using this

end Bashlex.C04

#print axioms Bashlex.C04.tokWB
#print axioms Bashlex.C04.tokStartsOK
#print axioms Bashlex.C04.tokEndsOK
#print axioms Bashlex.C04.tokWhole_plain
