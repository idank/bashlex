/-
  C04, token text: the ghost relation of `_getc`.

  `Del s w`: the string `w` is the text `s` with some backslash-newline pairs (line continuations)
  deleted.  This is what `_getc` does to the text it consumes: with `remove_quoted_newline` it
  skips such pairs, without it (inside single quotes, after a backslash, in comments) it delivers
  them.  `delB` is the decidable form used in `ttOK`.

  Consequences used downstream: a value is not longer than its text; when the VALUE holds no
  adjacent backslash-newline, the naive `stripContinuations` of the text is the value; when the
  TEXT holds no continuation, text and value coincide.

  The naive equation `stripContinuations s = stripContinuations w` is FALSE in general
  (witness: the word `"\\\⏎⏎"`: value `"\\⏎"`; the backslash-newline of the value was not
  adjacent in the text, a real continuation stood between them): see `TokText.lean`.
-/
import Bashlex.Spec.Tree

namespace Bashlex.C04
open Bashlex Bashlex.Spec

/-- `w` is `s` with some backslash-newline pairs deleted -/
inductive Del : Str → Str → Prop
  | nil : Del [] []
  | keep (c : Char) {s w : Str} : Del s w → Del (c :: s) (c :: w)
  | skip {s w : Str} : Del s w → Del ('\\' :: '\n' :: s) w

/-- decidable form of `Del` -/
def delB : Str → Str → Bool
  | [], w => w.isEmpty
  | [c], w => w == [c]
  | c :: d :: s, w =>
    (match w with
     | x :: w' => c == x && delB (d :: s) w'
     | [] => false) ||
    (c == '\\' && d == '\n' && delB s w)

namespace Del

theorem refl : ∀ (s : Str), Del s s
  | [] => .nil
  | c :: s => .keep c (refl s)

theorem append {s w s' w' : Str} (h : Del s w) (h' : Del s' w') : Del (s ++ s') (w ++ w') := by
  induction h with
  | nil => exact h'
  | keep c _ ih => exact .keep c ih
  | skip _ ih => exact .skip ih

theorem length_le {s w : Str} (h : Del s w) : w.length ≤ s.length := by
  induction h with
  | nil => exact Nat.le_refl _
  | keep c _ ih => simp only [List.length_cons]; omega
  | skip _ ih => simp only [List.length_cons]; omega

theorem nil_left {w : Str} (h : Del [] w) : w = [] := by cases h; rfl

/-- the text of an empty value is made of pairs: it starts with a backslash -/
theorem nil_head {c : Char} {s : Str} (h : Del (c :: s) []) : c = '\\' ∧ s.head? = some '\n' := by
  cases h; exact ⟨rfl, rfl⟩

theorem snoc {s w : Str} (h : Del s w) (c : Char) : Del (s ++ [c]) (w ++ [c]) :=
  h.append (.keep c .nil)

theorem snoc_pair {s w : Str} (h : Del s w) : Del (s ++ ['\\', '\n']) w := by
  have := h.append (.skip .nil : Del ['\\', '\n'] [])
  simpa using this

theorem of_delB : ∀ (s w : Str), delB s w = true → Del s w
  | [], w, h => by
    have : w = [] := by simpa [delB] using h
    subst this; exact .nil
  | [c], w, h => by
    have : w = [c] := by simpa [delB] using h
    subst this; exact .keep c .nil
  | c :: d :: s, w, h => by
    unfold delB at h
    rw [Bool.or_eq_true] at h
    rcases h with h | h
    · cases w with
      | nil => simp at h
      | cons x w' =>
        simp only [Bool.and_eq_true, beq_iff_eq] at h
        obtain ⟨rfl, h2⟩ := h
        exact .keep c (of_delB (d :: s) w' h2)
    · simp only [Bool.and_eq_true, beq_iff_eq] at h
      obtain ⟨⟨rfl, rfl⟩, h2⟩ := h
      exact .skip (of_delB s w h2)

theorem delB {s w : Str} (h : Del s w) : delB s w = true := by
  induction h with
  | nil => rfl
  | @keep c s w h ih =>
    cases s with
    | nil => cases h; simp [C04.delB]
    | cons d s' =>
      unfold C04.delB
      simp only [beq_self_eq_true, Bool.true_and, ih, Bool.true_or]
  | @skip s w h ih =>
    unfold C04.delB
    simp only [beq_self_eq_true, Bool.true_and, ih, Bool.or_true]

end Del

theorem delB_iff {s w : Str} : delB s w = true ↔ Del s w := ⟨Del.of_delB s w, Del.delB⟩

/-! ## `stripContinuations`, `hasContinuation` -/

theorem strip_pair (s : Str) : stripContinuations ('\\' :: '\n' :: s) = stripContinuations s := by
  simp [stripContinuations]

theorem strip_cons {c : Char} {s : Str} (h : ¬ (c = '\\' ∧ s.head? = some '\n')) :
    stripContinuations (c :: s) = c :: stripContinuations s := by
  cases s with
  | nil => simp [stripContinuations]
  | cons d s' =>
    conv => lhs; unfold stripContinuations
    split
    · rename_i heq
      cases heq
      exact absurd ⟨rfl, rfl⟩ h
    · rename_i heq
      cases heq
      rfl
    · rename_i heq; cases heq

theorem hasCont_pair (s : Str) : hasContinuation ('\\' :: '\n' :: s) = true := by
  simp [hasContinuation]

theorem hasCont_cons {c : Char} {s : Str} (h : ¬ (c = '\\' ∧ s.head? = some '\n')) :
    hasContinuation (c :: s) = hasContinuation s := by
  cases s with
  | nil => simp [hasContinuation]
  | cons d s' =>
    conv => lhs; unfold hasContinuation
    split
    · rename_i heq
      cases heq
      exact absurd ⟨rfl, rfl⟩ h
    · rename_i heq
      cases heq
      rfl
    · rename_i heq; cases heq

theorem hasCont_cons_false {c : Char} {s : Str} (h : hasContinuation (c :: s) = false) :
    ¬ (c = '\\' ∧ s.head? = some '\n') ∧ hasContinuation s = false := by
  by_cases hc : c = '\\' ∧ s.head? = some '\n'
  · exfalso
    obtain ⟨rfl, hs⟩ := hc
    cases s with
    | nil => cases hs
    | cons d s' =>
      simp only [List.head?_cons, Option.some.injEq] at hs
      subst hs
      rw [hasCont_pair] at h; cases h
  · exact ⟨hc, by rw [hasCont_cons hc] at h; exact h⟩

theorem strip_of_noCont : ∀ (w : Str), hasContinuation w = false → stripContinuations w = w
  | [], _ => rfl
  | c :: s, h => by
    obtain ⟨h1, h2⟩ := hasCont_cons_false h
    rw [strip_cons h1, strip_of_noCont s h2]

/-- when the VALUE holds no adjacent backslash-newline, the naive strip of the text is the value -/
theorem Del.strip {s w : Str} (h : Del s w) (hw : hasContinuation w = false) :
    stripContinuations s = w := by
  induction h with
  | nil => rfl
  | @keep c s w h ih =>
    obtain ⟨h1, h2⟩ := hasCont_cons_false hw
    have h1' : ¬ (c = '\\' ∧ s.head? = some '\n') := by
      rintro ⟨rfl, hs⟩
      apply h1
      refine ⟨rfl, ?_⟩
      cases s with
      | nil => cases hs
      | cons d s' =>
        simp only [List.head?_cons, Option.some.injEq] at hs
        subst hs
        -- `Del ('\n' :: s') w`: the newline is kept
        cases h with
        | keep _ _ => rfl
    rw [strip_cons h1', ih h2]
  | skip _ ih => rw [strip_pair]; exact ih hw

/-- when the TEXT holds no continuation, nothing was deleted -/
theorem Del.eq_of_noCont {s w : Str} (h : Del s w) (hs : hasContinuation s = false) : s = w := by
  induction h with
  | nil => rfl
  | keep c _ ih =>
    obtain ⟨_, h2⟩ := hasCont_cons_false hs
    rw [ih h2]
  | skip _ _ => rw [hasCont_pair] at hs; cases hs

theorem hasCont_of_noBackslash : ∀ (w : Str), w.contains '\\' = false → hasContinuation w = false
  | [], _ => rfl
  | c :: s, h => by
    simp only [List.contains_cons, Bool.or_eq_false_iff, beq_eq_false_iff_ne, ne_eq] at h
    have hc : ¬ (c = '\\' ∧ s.head? = some '\n') := fun hh => h.1 hh.1.symm
    rw [hasCont_cons hc]
    exact hasCont_of_noBackslash s h.2

theorem hasCont_append_of_noNL {v r : Str} (hv : hasContinuation v = false)
    (hr : r.contains '\n' = false) : hasContinuation (v ++ r) = false := by
  induction v with
  | nil =>
    induction r with
    | nil => rfl
    | cons c r ih =>
      simp only [List.contains_cons, Bool.or_eq_false_iff, beq_eq_false_iff_ne, ne_eq] at hr
      have hc : ¬ (c = '\\' ∧ r.head? = some '\n') := by
        rintro ⟨_, hh⟩
        cases r with
        | nil => cases hh
        | cons d r' =>
          simp only [List.head?_cons, Option.some.injEq] at hh
          subst hh
          simp at hr
      simp only [List.nil_append] at ih ⊢
      rw [hasCont_cons hc]; exact ih hr.2
  | cons c v ih =>
    obtain ⟨h1, h2⟩ := hasCont_cons_false hv
    have hc : ¬ (c = '\\' ∧ (v ++ r).head? = some '\n') := by
      rintro ⟨rfl, hh⟩
      cases v with
      | nil =>
        simp only [List.nil_append] at hh
        cases r with
        | nil => cases hh
        | cons d r' =>
          simp only [List.head?_cons, Option.some.injEq] at hh
          subst hh
          simp at hr
      | cons d v' =>
        simp only [List.cons_append, List.head?_cons, Option.some.injEq] at hh
        subst hh
        exact h1 ⟨rfl, rfl⟩
    rw [List.cons_append, hasCont_cons hc]
    exact ih h2

/-! ## slices -/

theorem slice_self (L : Str) (i : Nat) : Str.slice L i i = [] := by
  unfold Str.slice
  apply List.drop_eq_nil_of_le
  exact List.length_take_le _ _

theorem slice_cat (L : Str) {a i j : Nat} (h1 : a ≤ i) (h2 : i ≤ j) (h3 : j ≤ L.length) :
    Str.slice L a i ++ Str.slice L i j = Str.slice L a j := by
  unfold Str.slice
  have e1 : L.take j = L.take i ++ (L.take j).drop i := by
    conv => lhs; rw [← List.take_append_drop i (L.take j)]
    rw [List.take_take, Nat.min_eq_left h2]
  conv => rhs; rw [e1]
  rw [List.drop_append_of_le_length (by rw [List.length_take]; omega)]

theorem slice_cons (L : Str) {i j : Nat} {c : Char} (h : L[i]? = some c) (hij : i < j) :
    Str.slice L i j = c :: Str.slice L (i + 1) j := by
  unfold Str.slice
  have hlt : i < L.length := (List.getElem?_eq_some_iff.mp h).1
  have h' : (L.take j)[i]? = some c := by rw [List.getElem?_take_of_lt hij]; exact h
  have hlt' : i < (L.take j).length := (List.getElem?_eq_some_iff.mp h').1
  rw [List.drop_eq_getElem_cons hlt']
  congr 1
  exact (List.getElem?_eq_some_iff.mp h').2

theorem slice_one (L : Str) {i : Nat} {c : Char} (h : L[i]? = some c) :
    Str.slice L i (i + 1) = [c] := by
  rw [slice_cons L h (Nat.lt_succ_self i), slice_self]

theorem slice_snoc (L : Str) {a j : Nat} {c : Char} (h : L[j]? = some c) (haj : a ≤ j) :
    Str.slice L a (j + 1) = Str.slice L a j ++ [c] := by
  have hlt : j < L.length := (List.getElem?_eq_some_iff.mp h).1
  rw [← slice_cat L haj (Nat.le_succ j) (by omega), slice_one L h]

theorem slice_length (L : Str) {a b : Nat} (h : b ≤ L.length) : (Str.slice L a b).length = b - a := by
  unfold Str.slice
  rw [List.length_drop, List.length_take, Nat.min_eq_left h]

theorem slice_head (L : Str) {a b : Nat} {c : Char} (h : L[a]? = some c) (hab : a < b) :
    (Str.slice L a b).head? = some c := by
  rw [slice_cons L h hab]; rfl

theorem slice_full_drop (L : Str) (e : Nat) : Str.slice L e L.length = L.drop e := by
  unfold Str.slice; rw [List.take_length]

end Bashlex.C04
