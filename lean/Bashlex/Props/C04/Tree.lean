/-
  C04: from tokens to trees.

  `ctx_C04`: the concrete provenance predicate `NodeOK src 0` satisfies `Ctx` over the real nested
  parser (word nodes: `C07_nested` + the induction hypothesis on the nesting budget for the
  substitution commands, moved into a nested frame).
  `hooks_prov` (`C04/Run.lean`): the hooks of the real parser maintain, along the LR stack, the conjunction of
  C11's state invariant (`Good g []`: the tape holds the line; needed to apply `TokText`), C12's
  sorts of the grammar symbols, and the provenance invariant (`LR.run_sound_ord`).
  `G_resolve`: resolving pending here-document redirects keeps it.
  `parserRun_C04` (induction on the nesting budget), `parse_C04`.
-/
import Bashlex.Props.C04.Frames
import Bashlex.Props.C11
import Bashlex.LR.SoundOrd

namespace Bashlex.C04
open Bashlex Bashlex.M Bashlex.Node Bashlex.LR

/-! ## the context of the action lemmas -/

theorem G_shift_mem {W W' : Pred} {j : Nat} {n : Node} (hd : W'.deep = true) (hd' : W.deep = true)
    (hW : ∀ w ∈ n.preorder, W w → W' (Node.shift j w)) (hn : G W n) : G W' (n.shift j) := by
  intro w hw hww
  rw [hd, Node.shift, nodesOf_mapPos] at hw
  obtain ⟨w0, hw0, rfl⟩ := List.mem_map.mp hw
  have hww' : isTextual w0 = true := by
    have := isTextual_shift j w0
    rw [Node.shift] at this; rw [← this]; exact hww
  have hw0' : w0 ∈ nodesOf W.deep n := by rw [hd']; exact hw0
  have hw0p : w0 ∈ n.preorder := by simpa [nodesOf] using hw0
  exact hW w0 hw0p (hn w0 hw0' hww')

theorem isBody_drop (v : Str) (k : Nat) : IsBody v (v.drop k) k := ⟨[], by simp⟩

theorem isBody_slice (v : Str) (a b : Nat) : IsBody v (Str.slice v a b) a := by
  refine ⟨(v.drop b).drop (a - (v.take b).length), ?_⟩
  unfold Str.slice
  have h := List.drop_append (l₁ := v.take b) (l₂ := v.drop b) (i := a)
  rw [List.take_append_drop] at h
  exact h

/-- a value holding a substitution opener is not the value of a NEWLINE token -/
theorem ne_nl_of_getElem {v : Str} {i : Nat} {c : Char} (h : v[i + 1]? = some c) : v ≠ ['\n'] := by
  rintro rfl
  simp at h

theorem ne_nl_of_getElem0 {v : Str} {i : Nat} {c : Char} (h : v[i]? = some c) (hc : c ≠ '\n') :
    v ≠ ['\n'] := by
  rintro rfl
  cases i with
  | zero => simp at h; exact hc h.symm
  | succ i => simp at h

theorem ctx_C04 (src : Str) (d : Nat)
    (ih : ∀ body dp n, C07.RNested d body dp n → Tree4 body 0 n) :
    Ctx (deepP src 0) (Tk (Tape.ofInput src).line) (C07.nestedOf d) := by
  have hroot : ∀ m, LeafOK (Tape.ofInput src).line 0 m → NodeOK src 0 m :=
    fun m h => ⟨_, Src.root, by simpa using h, fun hn => by cases hn⟩
  refine ⟨?_, ?_, ?_, ?_, ?_, ?_, ?_⟩
  · -- words
    intro tok hT _
    refine (C07.C07_nested d tok).weaken ?_ (fun _ h => h)
    rintro w ⟨expanded, parts, rfl, hp⟩
    rw [G_word]
    refine ⟨hroot _ ⟨tok, hT, by simp, d, by simpa using hp⟩, fun _ => ?_⟩
    intro p hpm
    cases hs : isSubstitution p with
    | true =>
      have hnode : ∀ {body : Str} {dp : Bool} {n : Node} (k : Nat), C07.RNested d body dp n →
          IsBody tok.valueStr body k → tok.valueStr ≠ ['\n'] →
          (∀ m ∈ n.preorder, m.pos.2 ≤ body.length) →
          G (deepP src 0) (n.shift (tok.lexpos + k)) := by
        intro body dp n k hR hB hne hfit
        exact G_shift_mem (W := deepP body 0) (W' := deepP src 0) rfl rfl
          (fun m hm hok => NodeOK.sub hT hB hne hok (hfit m hm)) (ih body dp n hR)
      cases hp.subst p hpm hs with
      | @dollar i fl n ho hR hfit hlt =>
        rw [G_commandsubstitution]
        have h2 := (C07.opener_dollar_iff.mp ho).2
        have := hnode (i + 2) hR (isBody_drop _ _) (ne_nl_of_getElem h2) (by
          intro m hm
          have := hfit m hm
          rw [List.length_drop]; omega)
        rwa [Nat.add_comm] at this
      | @proc i fl n ho hR hfit hlt =>
        rw [G_processsubstitution]
        have h2 := (C07.opener_proc_iff.mp ho).2.1
        have := hnode (i + 2) hR (isBody_drop _ _) (ne_nl_of_getElem h2) (by
          intro m hm
          have := hfit m hm
          rw [List.length_drop]; omega)
        rwa [Nat.add_comm] at this
      | @backquote i fl x n ho hx hR hfit0 =>
        rw [G_commandsubstitution]
        have h1 := (C07.opener_backquote_iff.mp ho).1
        obtain ⟨_, hix, hxl, _⟩ := C07.stringextract_first hx
        have := hnode (i + 1) hR (isBody_slice _ _ _) (ne_nl_of_getElem0 h1 (by decide)) (by
          intro m hm
          have := hfit0 m hm
          rw [C07.slice_length _ _ _ (Nat.le_of_lt hxl)]; omega)
        rwa [Nat.add_comm] at this
    | false =>
      have := hp.other p hpm hs
      cases p <;> simp [C07.isParamOrTilde] at this <;> simp
  · -- assignment from word
    rintro p s ps ⟨fr, hs, hl, hb⟩
    exact ⟨fr, hs, hl, hb⟩
  · -- bare delimiter word
    intro tok hT _
    exact hroot _ ⟨tok, hT, by simp, 0, C07.PartsOK.nil⟩
  · -- leaves
    intro tok w hT hres hw
    exact ⟨hroot _ (Or.inl ⟨tok, hT, hres, hw, by simp⟩), hroot _ ⟨tok, hT, hres, hw, by simp⟩,
      hroot _ ⟨tok, hT, hres, hw, by simp⟩⟩
  · -- `;` of `for`
    rintro p w ⟨fr, hs, hl, hb⟩
    exact ⟨fr, hs, Or.inl hl, hb⟩
  · -- D19
    exact hroot _ (Or.inr ⟨rfl, rfl⟩)
  · -- redirects
    intro first op out o oa hd hid h1 h2 h3 ho p hp inp hi
    refine hroot _ ⟨first, op, out, h1, h2, h3, rfl, hi, ?_, ?_⟩
    · cases o with
      | none => simpa using ho
      | some w => simpa using ho
    · intro hh _
      simpa using hp hh

/-- the context for the spine: everything the running parser builds itself comes from its own
    tokens (root frame, no induction hypothesis needed) -/
theorem ctx_spine (line : Str) (d : Nat) : Ctx (spineP line 0) (Tk line) (C07.nestedOf d) := by
  refine ⟨?_, ?_, ?_, ?_, ?_, ?_, ?_⟩
  · intro tok hT _
    refine (C07.C07_nested d tok).weaken ?_ (fun _ h => h)
    rintro w ⟨expanded, parts, rfl, hp⟩
    rw [G_word]
    exact ⟨⟨tok, hT, by simp, d, by simpa using hp⟩, fun h => by cases h⟩
  · rintro p s ps h; exact h
  · intro tok hT _
    exact ⟨tok, hT, by simp, 0, C07.PartsOK.nil⟩
  · intro tok w hT hres hw
    exact ⟨Or.inl ⟨tok, hT, hres, hw, by simp⟩, ⟨tok, hT, hres, hw, by simp⟩,
      ⟨tok, hT, hres, hw, by simp⟩⟩
  · rintro p w h; exact Or.inl h
  · exact Or.inr ⟨rfl, rfl⟩
  · intro first op out o oa hd hid h1 h2 h3 ho p hp inp hi
    refine ⟨first, op, out, h1, h2, h3, rfl, hi, ?_, ?_⟩
    · cases o with
      | none => simpa using ho
      | some w => simpa using ho
    · intro hh _
      simpa using hp hh

/-! ## `resolve` -/

/-- every pending here-document redirect of the tree has a here-document operator as its type
    (C12's `hidOK`, for every node) -/
def HidT (n : Node) : Prop := ∀ m ∈ n.preorder, C12.hidOK m

theorem hidT_iff {n : Node} : HidT n ↔ C12.hidOK n ∧ ∀ c ∈ n.children, HidT c :=
  Node.forall_preorder_iff

theorem hidT_of_treeOK {n : Node} (h : C12.TreeOK n) : HidT n := fun m hm => (h m hm).2

/-- what `resolve` needs of the predicate: a pending here-document redirect may get any `pos`
    and body -/
def ResolveOK (W : Pred) : Prop :=
  ∀ p i t o oa hd id (p' : Span) (hd' : Option Node),
    W (.redirect p i t o oa hd (some id)) → C12.hidOK (.redirect p i t o oa hd (some id)) →
    W (.redirect p' i t o oa hd' none)

theorem resolveOK_deep (src : Str) (J : Nat) : ResolveOK (deepP src J) := by
  intro p i t o oa hd id p' hd' h hh
  obtain ⟨fr, hs, hl, hb⟩ := h
  simp only [LeafOK] at hl
  obtain ⟨first, op, out, h1, h2, h3, h4, h5, h6, h7⟩ := hl
  have hty : hereTy t := hh
  refine ⟨fr, hs, ?_, fun _ => Or.inl hty⟩
  simp only [LeafOK]
  exact ⟨first, op, out, h1, h2, h3, h4, h5, h6, fun _ hne => absurd hty hne⟩

theorem resolveOK_spine (line : Str) (J : Nat) : ResolveOK (spineP line J) := by
  intro p i t o oa hd id p' hd' h hh
  have hl : LeafOK line J (.redirect p i t o oa hd (some id)) := h
  simp only [LeafOK] at hl
  obtain ⟨first, op, out, h1, h2, h3, h4, h5, h6, h7⟩ := hl
  have hty : hereTy t := hh
  show LeafOK line J (.redirect p' i t o oa hd' none)
  simp only [LeafOK]
  exact ⟨first, op, out, h1, h2, h3, h4, h5, h6, fun _ hne => absurd hty hne⟩

def HidL (l : List Node) : Prop := ∀ c ∈ l, HidT c

theorem hidL_cons {n : Node} {l : List Node} : HidL (n :: l) ↔ HidT n ∧ HidL l := by
  simp [HidL]

theorem HidT.kids {n : Node} (h : HidT n) : HidL n.children := (hidT_iff.mp h).2

variable {W : Pred}

/-- the kinds `resolve` descends into are not textual and hide none of their children -/
theorem descends_kids {deep : Bool} {n : Node} (h : C03.descends n = true) :
    isTextual n = false ∧ kidsOf deep n = n.children := by
  cases n <;> simp [C03.descends] at h <;> exact ⟨rfl, rfl⟩

theorem G_resolve (hW : ResolveOK W) (st : List RedirCell) :
    (n : Node) → G W n → HidT n → G W (resolve st n) := by
  refine resolve_induction (R := fun n n' => G W n → HidT n → G W n') ?_ ?_ ?_
  · intro n hd ih h hh
    have hd' := descends_kids (deep := W.deep)
      ((descends_map1 (fun p => p) (resolve st) n).trans hd)
    rw [G_iff, (descends_kids hd).2] at h
    rw [G_iff, hd'.2, hd'.1, Node.children_map1]
    refine ⟨fun ht => (by cases ht), fun c hc => ?_⟩
    obtain ⟨c0, hc0, rfl⟩ := List.mem_map.mp hc
    exact ih c0 hc0 (h.2 c0 hc0) (hh.kids c0 hc0)
  · intro p i t o oa hd hid h hh
    rw [G_redirect] at h
    cases hid with
    | none => simp only [resolve]; rw [G_redirect]; exact h
    | some id =>
      have h0 : C12.hidOK (.redirect p i t o oa hd (some id)) := hh _ (Node.self_mem_preorder _)
      simp only [resolve]
      cases hs : st[id]? with
      | none =>
        simp only []
        rw [G_redirect]
        exact ⟨hW _ _ _ _ _ _ _ p hd h.1 h0, h.2.1, h.2.2⟩
      | some cell =>
        simp only []
        rw [G_redirect]
        refine ⟨hW _ _ _ _ _ _ _ _ _ h.1 h0, h.2.1, ?_⟩
        cases cell.heredoc <;> simp
  · intro n _ _ h _; exact h

theorem GL_resolveL (hW : ResolveOK W) (st : List RedirCell) :
    (l : List Node) → GL W l → HidL l → GL W (resolveL st l) := by
  intro l h hh c hc
  rw [resolveL_eq] at hc
  obtain ⟨c0, hc0, rfl⟩ := List.mem_map.mp hc
  exact G_resolve hW st c0 (h c0 hc0) (hh c0 hc0)

end Bashlex.C04
