/-
  C04, token text: `_discard_until` and `_readtoken` from an exact cursor.

  `readtoken_m` is the one walk through the body of `_readtoken`, for an arbitrary post-condition
  given at its four kinds of exit; it records what is skipped before the token (`Skip`, `Start`)
  and the text under an operator.  Four instances: `readtoken_tt` (the text relation), C05's
  `readtoken_g` (what is skipped is layout), the word-boundary walk `WB.readtoken_w`, and C03's
  `Tok.readtoken_w` (the token starts at or after the cursor at entry).

  The file opens in namespace `C05.TG`: `_discard_until` and the comment and newline branches are
  stated over `Skip` and `TpS`, which C05 defines (`Props/C05/TGDefs.lean`) and its later files use
  under these names; the walk itself is `C04.TTP.readtoken_m`.
-/
import Bashlex.Props.C04.TTNext
import Bashlex.Props.C05.TGDefs

namespace Bashlex.C05.TG
open Bashlex Bashlex.M Bashlex.C10 Bashlex.C11 Bashlex.C03.Tok Bashlex.C04 Bashlex.C04.TTP
set_option linter.unusedSimpArgs false
set_option linter.unusedVariables false

section
variable {L : Str} {sr : List RedirCell} {rk : List (Nat × Bool)} {ps : List Nat} {i j : Nat}

theorem recordpos_tps (rel : Nat) :
    HT (TpS L sr rk ps i) (recordpos rel) (fun _ l e => TpS L sr rk (ps ++ [i - rel]) i l e) ET := by
  intro l e h
  obtain ⟨h0, hs, hr⟩ := h
  have h1 := recordpos_tp (L := L) (ps := ps) (k := i) rel l e h0
  rw [C11.run_recordpos] at h1 ⊢
  exact ⟨h1, hs, hr⟩

/-- `_discard_until('\n')`: the cursor is on a newline, or at the end of the line; no newline
    was passed -/
theorem discardUntil_g :
    HT (TpS L sr rk [] i) (discardUntil '\n')
      (fun _ l e => ∃ j, (i ≤ j ∧ (∀ k, i ≤ k → k < j → L[k]? ≠ some '\n') ∧
        (L[j]? = some '\n' ∨ j = L.length)) ∧ TpS L sr rk [] j l e) ET := by
  unfold discardUntil
  refine keep_bind w_loopFuel (fun fuel _ => ?_)
  refine getc_binds (fun c0 i1 hg0 => ?_)
  -- the character `c` was read from `j'`; no newline before `j'`
  let Inv : Option Char → Nat → Prop := fun c j =>
    ∃ j', GetcR false L j' j c ∧ i ≤ j' ∧ ∀ k, i ≤ k → k < j' → L[k]? ≠ some '\n'
  refine HT.bind (Q := fun c l e => ∃ j, (Inv c j ∧ ∀ ch, c = some ch → ch = '\n') ∧
      TpS L sr rk [] j l e) ?_ (fun c1 => ?_)
  · refine HT.pre (HT.loop (E := ET)
      (I := fun c l e => ∃ j, Inv c j ∧ TpS L sr rk [] j l e) True.intro
      (fun c => ?_) fuel c0) (fun l e h => ⟨i1, ⟨i, hg0, Nat.le_refl _, fun k h1 h2 => by omega⟩, h⟩)
    refine HT.pre_exists (fun j => HT.pre_pure (fun hj => ?_))
    cases c with
    | none => exact HT.pure (fun l e h => ⟨j, ⟨hj, fun ch hch => by cases hch⟩, h⟩)
    | some ch =>
      simp only []
      refine HT.ite (fun hne => ?_) (fun hne => ?_)
      · refine getc_binds (fun c' j2 hg' => ?_)
        refine HT.pure (fun l e h => ⟨j2, ⟨j, hg', ?_, ?_⟩, h⟩)
        · obtain ⟨j', hg, h1, _⟩ := hj
          have := hg.le; omega
        · obtain ⟨j', hg, h1, h2⟩ := hj
          intro k hk1 hk2
          by_cases hk : k < j'
          · exact h2 k hk1 hk
          · obtain ⟨g1, g2, _⟩ := hg.char ch rfl
            have hraw := hg.raw rfl
            have hkj : k = j - 1 := by omega
            rw [hkj, g2]
            intro hx
            have : ch = '\n' := by simpa using hx
            subst this
            simp at hne
      · refine HT.pure (fun l e h => ⟨j, ⟨hj, fun ch' hch => ?_⟩, h⟩)
        cases hch
        simpa using hne
  refine HT.pre_exists (fun j => HT.pre_pure (fun hj => ?_))
  obtain ⟨⟨j', hg, h1, h2⟩, hch⟩ := hj
  cases c1 with
  | none =>
    simp only [Option.isSome_none, Bool.false_eq_true, if_false]
    have hjL := (hg.atEnd rfl).1
    have hj' : j' = j := by
      apply Classical.byContradiction
      intro hne
      have hlt : j' < L.length := by have := hg.le; omega
      obtain ⟨x, hx⟩ : ∃ x, L[j']? = some x := ⟨L[j'], List.getElem?_eq_getElem hlt⟩
      have := (hg.exact hx (Or.inr rfl)).1
      cases this
    subst hj'
    exact HT.pure (fun l e h => ⟨j', ⟨h1, h2, Or.inr hjL⟩, h⟩)
  | some ch =>
    simp only [Option.isSome_some, if_true]
    have := hch ch rfl
    subst this
    obtain ⟨g1, g2, g3⟩ := hg.char '\n' rfl
    have hraw := hg.raw rfl
    have hjj : j - 1 = j' := by omega
    refine HT.post (ungetc_tps (j := j) _ (by omega)) (fun _ l e h => ⟨j - 1, ⟨?_, ?_, Or.inl g2⟩, h⟩)
    · omega
    · rw [hjj]; exact h2

end

end Bashlex.C05.TG

namespace Bashlex.C04.TTP
open Bashlex Bashlex.M Bashlex.C10 Bashlex.C11 Bashlex.C03.Tok Bashlex.C04 Bashlex.C05.TG
set_option linter.unusedVariables false

section
variable {L : Str}

/-- `_discard_until('\n')`: the cursor is on a newline, or at the end of the line -/
theorem discardUntil_tt {i : Nat} :
    HT (Tp L [] i) (discardUntil '\n')
      (fun _ l e => ∃ j, (L[j]? = some '\n' ∨ j = L.length) ∧ Tp L [] j l e) ET :=
  HT.of_tps (fun _ _ => HT.post discardUntil_g (fun _ _ _ ⟨j, hj, ht⟩ => ⟨j, hj.2.2, ht.1⟩))

/-- the first character of a word: read at `a`, the cursor behind it -/
theorem winv_init {a : Nat} {c : Char} (hc : L[a]? = some c) (hne : c ≠ '\n') (hnl : NL L) :
    WInv L a { c := some c, allDigit := isDigit c } (a + 1) := by
  have hlt := hnl _ _ hc hne
  refine ⟨Hand.read a false (some c) (Nat.le_refl _) (by rw [slice_self]; exact .nil) ?_,
    by show a + 0 < L.length; omega, rfl, fun h => by cases h⟩
  refine ⟨Nat.le_succ _, by omega, (fun h => by cases h), (fun ch hch => ?_), (fun _ => by omega)⟩
  cases hch
  refine ⟨Nat.lt_succ_self _, by simpa using hc, ?_⟩
  simp only [Nat.add_sub_cancel, slice_self]
  exact .nil

end

/-! ## `_readtoken`, once -/

/-- the token starts at `a` on the character `ch`: after the blanks skipped from `i0` (up to
    `m`) the next `_getc` passed the continuation pairs `L[m:a]` and delivered `ch` -/
def Start (L : Str) (i0 a : Nat) (ch : Char) : Prop :=
  ∃ m, BlankRun L i0 m ∧ m ≤ a ∧ Del (Str.slice L m a) [] ∧ L[a]? = some ch ∧ some ch = peekC L m

theorem Start.skip {L : Str} {i0 a : Nat} {ch : Char} (h : Start L i0 a ch) : Skip L i0 a := by
  obtain ⟨m, hm, hma, hd, hch, _⟩ := h
  have hlt := (List.getElem?_eq_some_iff.mp hch).1
  exact Skip.ofBlank (hm.trans (BlankRun.ofDel hma (by omega) hd))

section
variable {L : Str} {sr : List RedirCell} {rk : List (Nat × Bool)} {i0 : Nat}
  {R : TokType ⊕ Token → Local → Env → Prop}

/-- **`_readtoken`**, entered at the exact cursor `i0`, for any post-condition `R`: the walk
    through its body (blanks, comment, `recordpos`, newline, `ps.regexp`, metacharacter, dash,
    word) done once.  What a property has to supply is `R` at the four kinds of exit:
    end of input; the newline, after `gatherheredocuments` (the only place where the redirect
    store, the queue and the non-strict skip matter); an operator returned bare, spelled by the
    text `L[a:j]` up to a residue; and `_readtokenword`, entered right behind the first character
    or, for `<(` / `>(`, on the parenthesis. -/
theorem readtoken_m (hnl : NL L) (hlast : L ≠ [] → L.getLast? = some '\n') (hi0 : i0 ≤ L.length)
    (heof : ∀ l e, Skip L i0 L.length → TpS L sr rk [] L.length l e → R (.inr eofTok) l e)
    (hgath : ∀ a, Skip L i0 a → L[a]? = some '\n' →
      HT (TpS L sr rk [a] (a + 1)) gatherheredocuments
        (fun _ l e => ∀ ps', R (.inl .NEWLINE) { l with ps := ps' } e) ET)
    (hbare : ∀ a ch ty j v r l e, Start L i0 a ch → ch ≠ '\n' →
      (((synClass ch).metac = true ∧ (ty ∈ Shape.metaOps ∨ TokType.ofChar ch = some ty)) ∨
        (ch = '-' ∧ TokType.ofChar ch = some ty)) →
      ty.strValueChars = some v → a + v.length < L.length → r ∈ residues false L j →
      Del (Str.slice L a j) (v ++ r) → a + 1 ≤ j → TpS L sr rk [a] j l e → R (.inl ty) l e)
    (hword : ∀ a ch i, Start L i0 a ch → ch ≠ '\n' →
      WInv L a { c := some ch, allDigit := isDigit ch } i →
      (i = a + 1 ∨ ((ch = '<' ∨ ch = '>') ∧ a + 1 ≤ i ∧ Del (Str.slice L (a + 1) i) [] ∧
        L[i]? = some '(')) →
      HT (TpS L sr rk [a] i)
        (do let t ← readtokenword ch; pure (Sum.inr t) : M (TokType ⊕ Token)) R ET) :
    HT (TpS L sr rk [] i0) readtoken R ET := by
  unfold readtoken
  simp only []
  refine keep_bind w_loopFuel (fun fuel _ => ?_)
  -- `c` was delivered by the `_getc` from `m`, behind the blanks skipped so far
  let Inv : Option Char → Nat → Prop := fun c i =>
    ∃ m, BlankRun L i0 m ∧ GetcR true L m i c ∧ c = peekC L m
  have getc : ∀ {β : Type} {i : Nat} {f : Option Char → M β} {Q : β → Local → Env → Prop},
      (∀ c j, GetcR true L i j c → c = peekC L i → HT (TpS L sr rk [] j) (f c) Q ET) →
      HT (TpS L sr rk [] i) (getc true >>= f) Q ET := fun h =>
    HT.bind (getc_tps true) (fun c => HT.pre_exists (fun j =>
      HT.pre_pure (fun hg => h c j hg.1 (hg.2 rfl))))
  refine getc (fun c0 i1 hg0 hp0 => ?_)
  refine HT.bind (Q := fun c l e => ∃ i, Inv c i ∧ TpS L sr rk [] i l e) ?_ (fun c1 => ?_)
  · -- skipping blanks
    refine HT.pre (HT.loop (E := ET)
      (I := fun c l e => ∃ i, Inv c i ∧ TpS L sr rk [] i l e) True.intro
      (fun c => ?_) fuel c0) (fun l e h => ⟨i1, ⟨i0, BlankRun.refl L hi0, hg0, hp0⟩, h⟩)
    refine HT.pre_exists (fun i => HT.pre_pure (fun hi => ?_))
    cases c with
    | none => exact HT.pure (fun l e h => ⟨i, hi, h⟩)
    | some ch =>
      simp only []
      refine HT.ite (fun hb => ?_) (fun _ => HT.pure (fun l e h => ⟨i, hi, h⟩))
      refine getc (fun c' i' hg' hp' => ?_)
      refine HT.pure (fun l e h => ⟨i', ⟨i, ?_, hg', hp'⟩, h⟩)
      obtain ⟨m, hm, hg, _⟩ := hi
      obtain ⟨g1, g2, g3⟩ := hg.char ch rfl
      have hlt := (List.getElem?_eq_some_iff.mp g2).1
      have b1 : BlankRun L m (i - 1) := BlankRun.ofDel (by omega) (by omega) g3
      have b2 : BlankRun L (i - 1) (i - 1 + 1) := BlankRun.one g2 hb
      have e1 : i - 1 + 1 = i := by omega
      rw [e1] at b2
      exact hm.trans (b1.trans b2)
  refine HT.pre_exists (fun i => HT.pre_pure (fun hi => ?_))
  obtain ⟨m, hm, hg, hpk⟩ := hi
  -- the newline branch, from a state with the start recorded on a newline
  have nlTail : ∀ (a : Nat) (u : Local → Local),
      (∀ l e, (∀ ps', R (.inl .NEWLINE) { l with ps := ps' } e) → R (.inl .NEWLINE) (u l) e) →
      Skip L i0 a → L[a]? = some '\n' →
      HT (TpS L sr rk [a] (a + 1)) (do
        gatherheredocuments
        modify u
        let t ← tokentypeOfChar '\n'
        pure (Sum.inl t) : M (TokType ⊕ Token)) R ET := by
    intro a u hu hsk hLa
    refine HT.bind (hgath a hsk hLa) (fun _ => ?_)
    refine HT.bind (Q := fun _ l e => R (.inl .NEWLINE) l e) (HT.modify hu) (fun _ => ?_)
    refine keep_bind (v_tokentypeOfChar '\n') (fun t ht => ?_)
    have : t = .NEWLINE := by
      have : TokType.ofChar '\n' = some .NEWLINE := rfl
      rw [this] at ht; cases ht; rfl
    subst this
    exact HT.pure (fun l e h => h)
  cases c1 with
  | none =>
    have hend := hg.atEnd rfl
    have hsk : Skip L i0 L.length := by
      refine Skip.ofBlank (hm.trans (BlankRun.ofDel ?_ (Nat.le_refl _) ?_))
      · have := hg.le; have := hg.le'; omega
      · rw [← hend.1]; exact hend.2
    exact HT.pure (fun l e h => heof l e hsk (hend.1 ▸ h))
  | some ch =>
    simp only [pure_bind]
    obtain ⟨g1, g2, g3⟩ := hg.char ch rfl
    have hlt := (List.getElem?_eq_some_iff.mp g2).1
    have hB : BlankRun L i0 (i - 1) := hm.trans (BlankRun.ofDel (by omega) (by omega) g3)
    refine HT.ite (fun hsharp => ?_) (fun hsharp => ?_)
    · -- a comment: skipped, then the newline
      have hch : ch = '#' := by simpa using hsharp
      subst hch
      refine HT.bind discardUntil_g (fun _ => ?_)
      refine HT.pre_exists (fun j => HT.pre_pure (fun hj => ?_))
      obtain ⟨hij, hnn, hj⟩ := hj
      refine getc_binds (fun c2 j2 hg2 => ?_)
      refine HT.bind (recordpos_tps 1) (fun _ => ?_)
      show HT (TpS L sr rk [j2 - 1] j2) _ _ _
      have hpos : 0 < L.length := by omega
      have hLne : L ≠ [] := by intro h0; rw [h0] at hpos; simp at hpos
      have hLlast : L[L.length - 1]? = some '\n' := by
        rw [← List.getLast?_eq_getElem?]; exact hlast hLne
      -- the start recorded: on the newline that ends the comment, behind it the cursor
      have hfacts : L[j2 - 1]? = some '\n' ∧ j2 = (j2 - 1) + 1 ∧ i - 1 < j2 - 1 ∧ j2 - 1 ≤ j := by
        rcases hj with hj | hj
        · obtain ⟨e1, e2⟩ := hg2.exact hj (Or.inr rfl)
          rw [e2]
          refine ⟨by simpa using hj, by omega, by omega, by omega⟩
        · have hj2 : j2 = L.length := by
            have := hg2.le; have := hg2.le'; omega
          rw [hj2]
          refine ⟨hLlast, by omega, ?_, by omega⟩
          -- the `#` is not the last character
          have hne : i - 1 ≠ L.length - 1 := by
            intro he; rw [he, hLlast] at g2; cases g2
          omega
      obtain ⟨hLa, hj2, hlt2, hle2⟩ := hfacts
      have hsk : Skip L i0 (j2 - 1) := by
        refine ⟨i - 1, hB, Or.inr ⟨hlt2, g2, fun k hk1 hk2 => ?_, hLa⟩⟩
        by_cases hk : k = i - 1
        · rw [hk, g2]; intro hx; cases hx
        · exact hnn k (by omega) (by omega)
      refine HT.ite (fun _ => ?_) (fun h => absurd rfl h)
      generalize j2 - 1 = a at hLa hj2 hsk
      subst hj2
      exact nlTail a _ (fun l e h => h _) hsk hLa
    · refine HT.bind (recordpos_tps 1) (fun _ => ?_)
      show HT (TpS L sr rk [i - 1] i) _ _ _
      have hst : Start L i0 (i - 1) ch := ⟨m, hm, by omega, g3, g2, hpk⟩
      have hii : i = i - 1 + 1 := by omega
      generalize i - 1 = a at g2 hii hst
      subst hii
      refine HT.ite (fun hn => ?_) (fun hn => ?_)
      · have : ch = '\n' := by simpa using hn
        subst this
        exact nlTail a _ (fun l e h => h _) hst.skip g2
      have hne : ch ≠ '\n' := by simpa using hn
      have hlt' : a + 2 ≤ L.length := hnl _ _ g2 hne
      have hw : HT (TpS L sr rk [a] (a + 1))
          (do let t ← readtokenword ch; pure (Sum.inr t) : M (TokType ⊕ Token)) R ET :=
        hword a ch (a + 1) hst hne (winv_init g2 hne hnl) (Or.inl rfl)
      have hdash : ch = '-' → HT (TpS L sr rk [a] (a + 1))
          (do let t ← tokentypeOfChar ch; pure (Sum.inl t) : M (TokType ⊕ Token)) R ET := by
        intro hd
        refine keep_bind (v_tokentypeOfChar ch) (fun t ht => ?_)
        refine HT.pure (fun l e h => hbare a ch t (a + 1) [ch] [] l e hst hne (Or.inr ⟨hd, ht⟩)
          (ofChar_str ht) (by simp only [List.length_cons, List.length_nil]; omega)
          (res_nil _ _ _) ?_ (Nat.le_refl _) h)
        rw [slice_one L g2]; exact Del.refl _
      refine HT.get_bind (fun l1 => ?_)
      refine HTQAt.ite (fun _ => HTQAt.ofHT hw) (fun _ => HTQAt.ofHT ?_)
      refine keep_bind (shellmeta_val ch) (fun b hb => ?_)
      subst hb
      refine HT.get_bind (fun l2 => ?_)
      refine HTQAt.ite (fun hm => HTQAt.ofHT ?_) (fun _ => HTQAt.ofHT ?_)
      · have hmeta : (synClass ch).metac = true := by
          simp only [Bool.and_eq_true] at hm; exact hm.1
        -- the exact cursor and the text from C04's walk of `readtokenMeta`, store and queue
        -- from C03's
        refine HT.bind (HT.pre (WB.HT.and (HT.exn (HT.and_sat (readtokenMeta_tt hnl g2 hne)
          (Shape.sat_readtokenMeta ch)) (fun _ _ => True.intro))
          (w_readtokenMeta (sr := sr) (rk := rk) (ps := [a]) (k := a + 1) (by omega) ch))
          (fun l e h => ⟨h.1, W.iff_tps.mpr ⟨a + 1, Nat.le_refl _, h⟩⟩)) (fun r => ?_)
        refine HT.pre (P := fun l e => (∀ t, r = some t → t ∈ Shape.metaOps ∨
            TokType.ofChar ch = some t) ∧ ∃ j, a + 1 ≤ j ∧
            (match r with
              | some ty => ∃ v, ty.strValueChars = some v ∧ a + v.length < L.length ∧
                  ∃ r ∈ residues false L j, Del (Str.slice L a j) (v ++ r)
              | none => (ch = '<' ∨ ch = '>') ∧ a + 1 ≤ j ∧ Del (Str.slice L (a + 1) j) [] ∧
                  L[j]? = some '(') ∧
            TpS L sr rk [a] j l e) ?_ (by
          rintro l e ⟨⟨hty, j, ht, hq⟩, _, hw⟩
          have hj : (tapeOf l e).idx = j := ht.2.1
          exact ⟨hty, j, by rw [← hj]; exact hw.2.2.2.2.2.2, hq,
            ht, hw.2.2.2.2.1, hw.2.2.2.2.2.1⟩)
        refine HT.pre_pure (fun hty => ?_)
        refine HT.pre_exists (fun j => HT.pre_pure (fun hj => HT.pre_pure (fun hq => ?_)))
        cases r with
        | some ty =>
          simp only []
          obtain ⟨v, h1, h2, r, h3, h4⟩ := hq
          exact HT.pure (fun l e h =>
            hbare a ch ty j v r l e hst hne (Or.inl ⟨hmeta, hty ty rfl⟩) h1 h2 h3 h4 hj h)
        | none =>
          simp only []
          obtain ⟨hcc, h1, h2, h3⟩ := hq
          refine HT.get_bind (fun l3 => ?_)
          refine HTQAt.ite (fun hd => ?_) (fun _ => HTQAt.ofHT ?_)
          · exfalso
            simp only [Bool.and_eq_true, beq_iff_eq] at hd
            rcases hcc with rfl | rfl <;> exact absurd hd.1 (by decide)
          · refine hword a ch j hst hne ?_ (Or.inr ⟨hcc, h1, h2, h3⟩)
            exact ⟨Hand.procsub ch rfl hcc g2 h1 h2 h3, by show a + 0 < L.length; omega, rfl,
              fun h => by cases h⟩
      · refine HT.get_bind (fun l3 => ?_)
        refine HTQAt.ite (fun hd => HTQAt.ofHT (hdash ?_)) (fun _ => HTQAt.ofHT hw)
        simp only [Bool.and_eq_true, beq_iff_eq] at hd
        exact hd.1

end

section
variable {L : Str}

/-! ## the text relation -/

/-- what `_readtoken` returns bare: the start `a` is on the position stack; a NEWLINE at `a`
    (`gatherheredocuments` may have moved the cursor anywhere), or an operator spelled by the text
    up to the cursor (up to the D31 residue) -/
def BareQ (L : Str) (ty : TokType) (l : Local) (e : Env) : Prop :=
  ∃ a v, (ty.strValueChars = some v ∧ ty ≠ .EOF) ∧ G2 L [a] l e ∧
    ((ty = .NEWLINE ∧ L[a]? = some '\n') ∨
     ((tapeOf l e).idx ≤ L.length ∧ a + v.length < L.length ∧
        ∃ r ∈ residues false L (tapeOf l e).idx,
          Del (Str.slice L a (tapeOf l e).idx) (v ++ r)))

/-- the stateful and the stateless facts about a token read by `_readtokenword` -/
def WordQ (L : Str) (t : Token) (l : Local) (e : Env) : Prop :=
  (WTy t ∧ ∃ a k tw, SpanW L a k tw ∧ WordTok a k tw t) ∧ G2 L [] l e

def ReadQ2 (L : Str) (r : TokType ⊕ Token) (l : Local) (e : Env) : Prop :=
  match r with
  | .inl ty => BareQ L ty l e
  | .inr t => (t = eofTok ∧ G2 L [] l e) ∨ WordQ L t l e


theorem readtokenword_leaf (hS : ScanHyp) (hnl : NL L) (c : Char) (a : Nat) :
    HT (RWI L a { c := some c, allDigit := isDigit c })
      (do let t ← readtokenword c; pure (Sum.inr t) : M (TokType ⊕ Token)) (ReadQ2 L) ET := by
  have h := HT.and_sat (readtokenword_tt hS hnl c a) (sat_readtokenword_ty c)
  refine HT.bind (HT.exn h (fun _ _ => True.intro)) (fun t => ?_)
  refine HT.pure (fun l e h => Or.inr ?_)
  obtain ⟨hty, k, ⟨tw, h1, h2⟩, h3⟩ := h
  exact ⟨⟨hty, a, k, tw, h1, h2⟩, h3.g2⟩

/-- **`_readtoken`** -/
theorem readtoken_tt (hS : ScanHyp) (hnl : NL L) (hlast : L ≠ [] → L.getLast? = some '\n')
    {i0 : Nat} :
    HT (Tp L [] i0) readtoken (ReadQ2 L) ET := by
  refine HT.of_tps (fun sr rk l e h => readtoken_m (R := ReadQ2 L) hnl hlast h.1.2.2.1
    (fun l e _ h => Or.inl ⟨rfl, h.1.g2⟩) (fun a _ hLa => ?_)
    (fun a ch ty j v r l e _ _ hty hv hlen hr hd _ h => ?_) (fun a ch i _ _ hw _ => ?_) l e h)
  · refine HT.pre (HT.post gather_g2 (fun _ l e h ps' => ?_)) (fun l e h => h.1.g2)
    exact ⟨a, ['\n'], ⟨rfl, by decide⟩, h.2, Or.inl ⟨rfl, hLa⟩⟩
  · have hne : ty ≠ .EOF := by
      rcases hty with ⟨_, h | h⟩ | ⟨_, h⟩
      · exact (by decide : ∀ t ∈ Shape.metaOps, t ≠ .EOF) ty h
      · exact ofChar_ne_eof h
      · exact ofChar_ne_eof h
    refine ⟨a, v, ⟨hv, hne⟩, h.1.g2, Or.inr ?_⟩
    rw [h.1.2.1]
    exact ⟨h.1.2.2.1, hlen, r, hr, hd⟩
  · exact HT.pre (readtokenword_leaf hS hnl ch a) (fun l e h => ⟨i, hw, h.1⟩)

end

end Bashlex.C04.TTP
