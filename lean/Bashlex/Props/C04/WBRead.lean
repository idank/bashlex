/-
  C04, word boundaries: `_readtoken` and `token()`.

  From a cursor `i0` at a token boundary (`bndB L i0`):
    * the cursor after the token is at a token boundary again;
    * a token read by `_readtokenword` at `(a, k)` starts after a break character, a `-`, or at
      the start (`startsB L a`) — it does not start ON a break character that does not open a
      process substitution (`oddStartB`; with `ps.regexp` / `ps.dblparen` set `_readtoken` would
      enter `_readtokenword` so: no token is delivered then, `WBOdd.lean`) — and the loop was left
      as `exitB L k` says.
-/
import Bashlex.Proofs.TokShape
import Bashlex.Props.C04.WBGather
import Bashlex.Props.C04.WBOdd
import Bashlex.Props.C04.WBPlain

namespace Bashlex.C04
open Bashlex Bashlex.Spec

/-- the word starts ON a break character that does not open a process substitution -/
def oddStartB (L : Str) (a : Nat) : Bool := brkAt L a && !procSubAtB L a

end Bashlex.C04

namespace Bashlex.C04.WB
open Bashlex Bashlex.M Bashlex.C10 Bashlex.C11 Bashlex.C03.Tok Bashlex.C04 Bashlex.C04.TTP

/-! ## operators end in a break character or `-` -/

/-- the spelling of the token type ends in a break character or `-` -/
def opEnd (ty : TokType) : Bool :=
  match ty.strValueChars with
  | some v => (match v.getLast? with
    | some c => Spec.isBreakChar c || c == '-'
    | none => false)
  | none => false

theorem opEnd_facts {ty : TokType} (h : opEnd ty = true) :
    ty ≠ .WORD ∧ ty ≠ .ASSIGNMENT_WORD ∧ ∃ v c, ty.strValueChars = some v ∧ v.getLast? = some c ∧
      ((synClass c).brk = true ∨ c = '-') := by
  cases ty <;> first
    | (exfalso; revert h; decide)
    | exact ⟨by decide, by decide, _, _, rfl, rfl, by decide⟩

/-- the operator of a single metacharacter (or `-`, newline) ends in it -/
theorem ofChar_opEnd {c : Char} {t : TokType}
    (hm : (synClass c).metac = true ∨ c = '-' ∨ c = '\n') (ht : TokType.ofChar c = some t) :
    opEnd t = true := by
  have hc : c = '(' ∨ c = ')' ∨ c = '<' ∨ c = '>' ∨ c = ';' ∨ c = '&' ∨ c = '|' ∨ c = '-' ∨
      c = '\n' := by
    rcases hm with hm | hm | hm
    · simp only [synClass, Bool.or_eq_true, beq_iff_eq] at hm
      rcases hm with (((((h | h) | h) | h) | h) | h) | h <;> simp [h]
    · simp [hm]
    · simp [hm]
  rcases hc with rfl | rfl | rfl | rfl | rfl | rfl | rfl | rfl | rfl <;>
    (simp only [TokType.ofChar] at ht
     cases ht
     decide)

theorem metaOps_opEnd : ∀ t ∈ Shape.metaOps, opEnd t = true := by decide

/-! ## the cursor after an operator -/

theorem getLast?_cons_ne {c : Char} {s : Str} (hs : s ≠ []) : (c :: s).getLast? = s.getLast? := by
  cases s with
  | nil => exact absurd rfl hs
  | cons d s' => rw [List.getLast?_cons_cons]

/-- the last character of a text with pairs deleted is the last character of the text, unless the
    text ends in a pair -/
theorem del_last : ∀ {s w : Str}, Del s w → w ≠ [] →
    s.getLast? = w.getLast? ∨ s.getLast? = some '\n'
  | _, _, .nil, h => absurd rfl h
  | _, _, .keep c (s := s) (w := w) h, _ => by
    by_cases hw : w = []
    · subst hw
      by_cases hs : s = []
      · subst hs; exact Or.inl rfl
      · obtain ⟨s', e1, _⟩ := del_nil_snoc h hs
        right
        rw [e1]
        simp [List.getLast?_cons]
    · have hs : s ≠ [] := by
        intro hs; subst hs; exact hw h.nil_left
      rcases del_last h hw with ih | ih
      · left
        rw [getLast?_cons_ne hs, getLast?_cons_ne hw]
        exact ih
      · right
        rw [getLast?_cons_ne hs]
        exact ih
  | _, _, .skip (s := s) (w := w) h, hw => by
    have hs : s ≠ [] := by
      intro hs; subst hs; exact hw h.nil_left
    have e : ('\\' :: '\n' :: s).getLast? = s.getLast? := by
      rw [getLast?_cons_ne (by simp), getLast?_cons_ne hs]
    rw [e]
    exact del_last h hw

theorem slice_getLast {L : Str} {a j : Nat} (haj : a < j) (hj : j ≤ L.length) :
    (Str.slice L a j).getLast? = L[j - 1]? := by
  have hlt : j - 1 < L.length := by omega
  have g : L[j - 1]? = some L[j - 1] := List.getElem?_eq_getElem hlt
  have := slice_snoc L g (a := a) (by omega)
  have e : j - 1 + 1 = j := by omega
  rw [e] at this
  rw [this, g]
  simp

/-- the cursor after an operator is at a token boundary -/
theorem bnd_of_op {L : Str} {a j : Nat} {ty : TokType} {v r : Str} (hop : opEnd ty = true)
    (hv : ty.strValueChars = some v) (hr : r ∈ residues false L j) (hj : j ≤ L.length)
    (hd : Del (Str.slice L a j) (v ++ r)) : bndB L j = true := by
  obtain ⟨_, _, v', c, hv', hc, hcb⟩ := opEnd_facts hop
  rw [hv] at hv'
  cases hv'
  have hvne : v ≠ [] := by
    intro h; rw [h] at hc; cases hc
  rcases res_false_cases hr with rfl | ⟨rfl, hdrop⟩
  · rw [List.append_nil] at hd
    have hlen := hd.length_le
    rw [slice_length L hj] at hlen
    have hvl : 0 < v.length := List.length_pos_iff.mpr hvne
    have haj : a < j := by omega
    have hl := slice_getLast haj hj
    rcases del_last hd hvne with h | h
    · rw [hl, hc] at h
      exact bndB_of_prev h hcb
    · rw [hl] at h
      exact bndB_of_prev h (Or.inl (by decide))
  · obtain ⟨q1, q2⟩ := drop_single hdrop
    exact bndB_of_exitB (exitB_brk q1 (by decide) (Or.inl ⟨by decide, by decide⟩))

/-! ## `_readtoken` -/

/-- line and cursor at a token boundary (nothing else: this is what survives `recordpos`,
    `_createtoken` and the writes of `token()`) -/
def BI (L : Str) (l : Local) (e : Env) : Prop :=
  (tapeOf l e).line = L ∧ bndB L (tapeOf l e).idx = true

theorem BI.env {L : Str} {l : Local} {e e' : Env} (h : BI L l e) (h1 : e'.tape = e.tape) :
    BI L l e' := by
  unfold BI at h ⊢
  rw [tapeOf_env h1]; exact h

instance {L : Str} : EnvStable (BI L) := ⟨fun _ _ _ h h1 _ => h.env h1⟩

theorem GB.bi {L : Str} {ps : List Nat} {l : Local} {e : Env} (h : GB L ps l e) : BI L l e :=
  ⟨h.1.1, h.2⟩

theorem bi_of_tp {L : Str} {ps : List Nat} {k : Nat} {l : Local} {e : Env} (h : Tp L ps k l e)
    (hb : bndB L k = true) : BI L l e := ⟨h.1, by rw [h.2.1]; exact hb⟩

/-- what `_readtoken` returns -/
def ReadW (L : Str) (r : TokType ⊕ Token) (l : Local) (e : Env) : Prop :=
  BI L l e ∧
  match r with
  | .inl ty => opEnd ty = true
  | .inr t => t = eofTok ∨
      ∃ a k, (∃ tw, WordTok a k tw t ∧ plainOKB tw = true) ∧ startsB L a = true ∧
        exitB L k = true

section
variable {L : Str}

/-- **`_readtokenword(c)`**: the text relation, how the loop was left, and the plain-word fact -/
theorem readtokenword_wbp (hS : ScanHyp) (hnl : NL L) (c : Char) (a : Nat) :
    HT (RWI L a { c := some c, allDigit := isDigit c }) (readtokenword c)
      (fun t l e => ∃ k, (∃ tw, SpanW L a k tw ∧ WordTok a k tw t ∧ exitB L k = true ∧
        plainOKB tw = true) ∧ Tp L [] k l e) ET := by
  refine HT.post (readtokenword_of (X := fun k tw => (SpanW L a k tw ∧ exitB L k = true) ∧
    plainOKB tw = true) c a (fun fuel => ?_))
    (fun _ _ _ ⟨k, ⟨tw, ⟨hk, hp⟩, hw⟩, h⟩ => ⟨k, ⟨tw, hk.1, hw, hk.2, hp⟩, h⟩)
  refine HT.post (HT.exn (HT.and_sat (rtwLoop_tt hS hnl fuel _)
    (sat_rtwLoop_p fuel _ (pinv_init c))) (fun _ _ => True.intro)) ?_
  rintro st l e ⟨hpi, k, hk, h⟩
  exact ⟨k, ⟨hk, plainOKB_of hpi⟩, h⟩

/-- **`_readtokenword(c)`**, entered with the invariant of its loop -/
theorem readtokenword_wb (hS : ScanHyp) (hnl : NL L) (c : Char) (a : Nat) :
    HT (RWI L a { c := some c, allDigit := isDigit c }) (readtokenword c)
      (fun t l e => ∃ k, (∃ tw, SpanW L a k tw ∧ WordTok a k tw t ∧ exitB L k = true) ∧
        Tp L [] k l e) ET :=
  HT.post (readtokenword_wbp hS hnl c a)
    (fun _ _ _ ⟨k, ⟨tw, h1, h2, h3, _⟩, h⟩ => ⟨k, ⟨tw, h1, h2, h3⟩, h⟩)

theorem word_leaf_w (hS : ScanHyp) (hnl : NL L) (c : Char) (a : Nat)
    (hst : startsB L a = true) :
    HT (RWI L a { c := some c, allDigit := isDigit c })
      (do let t ← readtokenword c; pure (Sum.inr t) : M (TokType ⊕ Token)) (ReadW L) ET := by
  refine HT.bind (readtokenword_wbp hS hnl c a) (fun t => ?_)
  refine HT.pure (fun l e h => ?_)
  obtain ⟨k, ⟨tw, h1, h2, h3, h5⟩, h4⟩ := h
  exact ⟨bi_of_tp h4 (bndB_of_exitB h3), Or.inr ⟨a, k, ⟨tw, h2, h5⟩, hst, h3⟩⟩

/-- a run of pairs before `a`: the character before `a` is the newline of the last pair -/
theorem nl_before {i' a : Nat} (hd : Del (Str.slice L i' a) []) (hlt : i' < a) (ha : a ≤ L.length) :
    brkAt L (a - 1) = true := by
  obtain ⟨_, q2, _⟩ := pairs_back hd hlt ha
  exact brkAt_of q2 (by decide)

/-- behind a non-empty run of blanks and continuation pairs the cursor follows a break
    character: a blank, or the newline of a pair -/
theorem BlankRun.brk {i0 m : Nat} (h : C05.TG.BlankRun L i0 m) :
    m = i0 ∨ (i0 < m ∧ brkAt L (m - 1) = true) := by
  obtain ⟨h1, h2, w, hd, hw⟩ := h
  rcases Nat.eq_or_lt_of_le h1 with h | hlt
  · exact Or.inl h.symm
  refine Or.inr ⟨hlt, ?_⟩
  by_cases hne : w = []
  · subst hne; exact nl_before hd hlt h2
  · have hl := slice_getLast (L := L) hlt h2
    obtain ⟨c, hc⟩ : ∃ c, L[m - 1]? = some c :=
      ⟨L[m - 1]'(by omega), List.getElem?_eq_getElem (by omega)⟩
    rcases del_last hd hne with h | h
    · rw [hl, hc] at h
      have hcw : c ∈ w := List.mem_of_getLast? h.symm
      have hb := hw c hcw
      simp only [shellblank, Bool.or_eq_true, beq_iff_eq] at hb
      exact brkAt_of hc (by rcases hb with rfl | rfl <;> decide)
    · rw [hl, hc] at h
      cases h
      exact brkAt_of hc (by decide)

/-- where a token may start -/
theorem start_ok {i0 a : Nat} {ch : Char} (hb : bndB L i0 = true) (hst : Start L i0 a ch) :
    startsB L a = true ∨ oddStartB L a = true := by
  obtain ⟨m, hm, hma, hd, hch, hpk⟩ := hst
  have halt : a < L.length := (List.getElem?_eq_some_iff.mp hch).1
  rcases Nat.lt_or_ge m a with hlt | hge
  · left
    unfold startsB
    simp only [Bool.or_eq_true]
    exact Or.inl (Or.inr (nl_before hd hlt (by omega)))
  · have hma' : m = a := by omega
    subst hma'
    rcases BlankRun.brk hm with rfl | ⟨_, hbr⟩
    · unfold bndB at hb
      simp only [Bool.or_eq_true, Bool.and_eq_true, decide_eq_true_eq, beq_iff_eq] at hb
      rcases hb with ((((h | h) | h) | h) | h) | h
      · left; unfold startsB; simp [h]
      · omega
      · left; unfold startsB; simp [h]
      · left; unfold startsB; simp [h]
      · right; unfold oddStartB; simp [h.1, h.2]
      · exfalso
        unfold peekC at hpk
        rw [h, skipPairs_pair, skipPairs_nil] at hpk
        cases hpk
    · left; unfold startsB; simp [hbr]

/-- **`_readtoken`** from a cursor at a token boundary -/
theorem readtoken_w (hS : ScanHyp) (hnl : NL L) (hlast : L ≠ [] → L.getLast? = some '\n')
    {i0 : Nat} (hb : bndB L i0 = true) :
    HT (Tp L [] i0) readtoken (ReadW L) ET := by
  refine HT.of_tps (fun sr rk l e h => readtoken_m (R := ReadW L) hnl hlast h.1.2.2.1
    (fun l e _ h => ⟨bi_of_tp h.1 (bndB_of_len (Nat.le_refl _)), Or.inl rfl⟩)
    (fun a _ hLa => ?_) (fun a ch ty j v r l e hst hne hty hv _ hr hd _ h => ?_)
    (fun a ch i hst hne hw hi => ?_) l e h)
  · -- the cursor behind the newline is at a boundary, and `gatherheredocuments` keeps that
    refine HT.pre (HT.post gather_b (fun _ l e h ps' => ⟨h.2.bi, (by decide : opEnd .NEWLINE = true)⟩))
      (fun l e h => ⟨h.1.g2, ?_⟩)
    rw [h.1.2.1]
    exact bndB_of_prev (by simpa using hLa) (Or.inl (by decide))
  · have hop : opEnd ty = true := by
      rcases hty with ⟨hm, h | h⟩ | ⟨hd', h⟩
      · exact metaOps_opEnd ty h
      · exact ofChar_opEnd (Or.inl hm) h
      · exact ofChar_opEnd (Or.inr (Or.inl hd')) h
    exact ⟨bi_of_tp h.1 (bnd_of_op hop hv hr h.1.2.2.1 hd), hop⟩
  · have g2 : L[a]? = some ch := by obtain ⟨_, _, _, _, h, _⟩ := hst; exact h
    have hso := start_ok hb hst
    have hodd : oddStartB L a = true → (synClass ch).brk = true ∧ procSubAtB L a = false := by
      intro ho
      unfold oddStartB brkAt at ho
      rw [g2] at ho
      simp only [Bool.and_eq_true, Bool.not_eq_true'] at ho
      exact ⟨ho.1, ho.2⟩
    rcases hi with rfl | ⟨hcc, h1, h2, h3⟩
    · rcases hso with hs | ho
      · exact HT.pre (word_leaf_w hS hnl ch a hs) (fun l e h => ⟨a + 1, hw, h.1⟩)
      · exact HT.pre (readtokenword_brk ch g2 (hodd ho).1 (hodd ho).2) (fun l e h => h.1)
    · have hps : procSubAtB L a = true := by
        unfold procSubAtB
        rw [g2, peekC_of_del h1 h2 h3 (by rintro ⟨hx, _⟩; cases hx)]
        rcases hcc with rfl | rfl <;> rfl
      have hs : startsB L a = true := by
        rcases hso with hs | ho
        · exact hs
        · rw [(hodd ho).2] at hps; cases hps
      exact HT.pre (word_leaf_w hS hnl ch a hs) (fun l e h => ⟨i, hw, h.1⟩)

end

end Bashlex.C04.WB
