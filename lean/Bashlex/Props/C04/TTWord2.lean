/-
  C04, token text (layers B and C, continued): `handleshellexp`, one iteration of the loop
  of `_readtokenword`, the loop.
-/
import Bashlex.Props.C04.TTWord

namespace Bashlex.C04.TTP
open Bashlex Bashlex.M Bashlex.C10 Bashlex.C11 Bashlex.C03.Tok Bashlex.C04

theorem HT.pre_or {α : Type} {P1 P2 : Local → Env → Prop} {m : M α} {Q : α → Local → Env → Prop}
    {E : Exn → Prop} (h1 : HT P1 m Q E) (h2 : HT P2 m Q E) :
    HT (fun l e => P1 l e ∨ P2 l e) m Q E := by
  intro l e hp
  rcases hp with hp | hp
  · exact h1 l e hp
  · exact h2 l e hp

/-- what `handleshellexp` returns: an expansion was appended (`gotonext`), or nothing was
    consumed but the look-ahead, which was put back -/
def ExpQ (L : Str) (a i : Nat) (st : RWState) (x : RWState × Bool) (l : Local) (e : Env) : Prop :=
  (x.2 = false ∧ GoQ L a x.1 l e) ∨
  (x.2 = true ∧ x.1 = st ∧
    ∃ j1, (GetcR true L i j1 (peekC L i) ∧ peekC L i ≠ some '(' ∧ 0 < j1) ∧ Tp L [a] (j1 - 1) l e)

theorem mpgood {P : MPParams} {c o : Char} (h1 : P.close = c) (h2 : P.opn = o) (hc : c ≠ '\n')
    (ho : o ≠ '\n') : MPGood P := ⟨by rw [h1]; exact hc, by rw [h2]; exact ho⟩
theorem csgood {P : CSParams} {c o : Char} (h1 : P.close = c) (h2 : P.opn = o) (hc : c ≠ '\n')
    (ho : o ≠ '\n') : CSGood P := ⟨by rw [h1]; exact hc, by rw [h2]; exact ho⟩

section
variable {L : Str} {a : Nat}

/-- a scanner called at `j1`, the text up to `j1` spelling `w1` -/
theorem scan_then {β : Type} {w1 : Str} {j1 : Nat} (hd1 : Del (Str.slice L a j1) w1) (haj : a ≤ j1)
    {m : M Str} (hm : HT (Tp L [a] j1) m (ScanQ L [a] j1) ET) {k : Str → M β}
    {Q : β → Local → Env → Prop}
    (hk : ∀ ttok j res, j1 ≤ j → j < L.length → res ∈ residues false L j →
      Del (Str.slice L a j) (w1 ++ ttok ++ res) → HT (Tp L [a] j) (k ttok) Q ET) :
    HT (Tp L [a] j1) (m >>= k) Q ET := by
  refine HT.bind hm (fun ttok => ?_)
  refine HT.pre_exists (fun j => HT.pre_pure (fun hj => ?_))
  obtain ⟨h1, h2, res, hr, hdel⟩ := hj
  refine hk ttok j res h1 h2 hr ?_
  rw [← slice_cat L haj h1 (by omega), List.append_assoc]
  exact hd1.append hdel

/-- closure `handleshellexp` -/
theorem handleshellexp_tt (hS : ScanHyp) (hnl : NL L) (st : RWState) (c : Char) (cd : Option Char)
    (hexp : (synClass c).exp = true) {i : Nat} (hai : a ≤ i) (hi : i < L.length)
    (hd : Del (Str.slice L a i) (st.tokenword ++ [c])) (hpn : st.passNext = false)
    (hwp : wordPathV st.tokenword = true) :
    HT (Tp L [a] i) (handleshellexp st c cd) (ExpQ L a i st) ET := by
  unfold handleshellexp
  simp only []
  refine WB.getc_peek_bind (fun peek j1 hpc hg => ?_)
  have hij := hg.le
  -- the text up to the cursor when a character was looked at
  have hd2 : ∀ p, peek = some p → Del (Str.slice L a j1) (st.tokenword ++ [c] ++ [p]) := by
    intro p hp
    subst hp
    rw [← slice_cat L hai hg.le hg.le']
    exact hd.append hg.del
  -- the result of an expansion
  have leaf : ∀ (st' : RWState) (j : Nat) (res : Str), a ≤ j → j < L.length →
      st'.passNext = false → wordPathV st'.tokenword = true → res ∈ residues false L j →
      Del (Str.slice L a j) (st'.tokenword ++ res) →
      HT (Tp L [a] j) (pure (st', false) : M (RWState × Bool)) (ExpQ L a i st) ET := by
    intro st' j res h1 h2 h3 h4 h5 h6
    exact HT.pure (fun l e h => Or.inl ⟨rfl, j, ⟨h1, h2, h3, h4, res, h5, h6⟩, h⟩)
  -- `c` is `$`, or `(` follows
  have hwp1 : ∀ (p : Char) (x : Str), (c = '$' ∨ p = '(') →
      wordPathV (st.tokenword ++ [c] ++ [p] ++ x) = true := by
    intro p x hcp
    rw [List.append_assoc, List.append_assoc]
    refine wp_ext hwp ?_
    rcases exp_cases hexp with rfl | hc
    · exact wp_nonbreak (by decide)
    · rcases hcp with rfl | rfl
      · rcases hc with h | h <;> cases h
      · exact wp_procsub hc
  refine HT.ite (fun h1 => ?_) (fun h1 => ?_)
  · -- `$(`, `<(`, `>(`, `${`, `$[`
    have hpk : ∃ p, peek = some p ∧ p ≠ '\n' ∧ (c = '$' ∨ p = '(') := by
      simp only [Bool.or_eq_true, Bool.and_eq_true, beq_iff_eq] at h1
      rcases h1 with h | ⟨hc, h | h⟩
      · exact ⟨'(', h, by decide, Or.inr rfl⟩
      · exact ⟨'{', h, by decide, Or.inl hc⟩
      · exact ⟨'[', h, by decide, Or.inl hc⟩
    obtain ⟨p, rfl, hpn', hcp⟩ := hpk
    have hj1 : j1 < L.length := lt_of_some hnl hg hpn'
    have fin : ∀ (st' : RWState) ttok j res, j1 ≤ j → j < L.length → res ∈ residues false L j →
        Del (Str.slice L a j) (st.tokenword ++ [c] ++ [p] ++ ttok ++ res) →
        st'.passNext = false → st'.tokenword = st.tokenword ++ [c] ++ [p] ++ ttok →
        HT (Tp L [a] j) (pure (st', false) : M (RWState × Bool)) (ExpQ L a i st) ET := by
      intro st' ttok j res g1 g2 g3 g4 g5 g6
      refine leaf st' j res (by omega) g2 g5 ?_ g3 ?_
      · rw [g6]; exact hwp1 p ttok hcp
      · rw [g6]; exact g4
    refine HT.ite (fun h2 => ?_) (fun h2 => ?_)
    · refine keep_bind w_depthFuel (fun fuel _ => ?_)
      exact scan_then (hd2 p rfl) (by omega)
        (hS.pmp L [a] j1 fuel _ hnl hj1 (mpgood (c := '}') (o := '{') rfl rfl (by decide) (by decide)))
        (fun ttok j res g1 g2 g3 g4 => fin _ ttok j res g1 g2 g3 g4 hpn rfl)
    refine HT.ite (fun h3 => ?_) (fun h3 => ?_)
    · refine keep_bind (k_pushDelimiter '(') (fun _ _ => ?_)
      refine keep_bind w_depthFuel (fun fuel _ => ?_)
      refine scan_then (hd2 p rfl) (by omega)
        (hS.pcs L [a] j1 fuel _ hnl hj1 (csgood (c := ')') (o := '(') rfl rfl (by decide) (by decide))) ?_
      intro ttok j res g1 g2 g3 g4
      refine keep_bind k_popDelimiter (fun _ _ => ?_)
      rw [pure_bind]
      exact fin _ ttok j res g1 g2 g3 g4 hpn rfl
    · refine keep_bind w_depthFuel (fun fuel _ => ?_)
      exact scan_then (hd2 p rfl) (by omega)
        (hS.pmp L [a] j1 fuel _ hnl hj1 (mpgood (c := ']') (o := '[') rfl rfl (by decide) (by decide)))
        (fun ttok j res g1 g2 g3 g4 => fin _ ttok j res g1 g2 g3 g4 hpn rfl)
  refine HT.ite (fun h2 => ?_) (fun h2 => ?_)
  · -- `$'`, `$"`
    have hpk : c = '$' ∧ ∃ p, peek = some p ∧ (p = '\'' ∨ p = '"') := by
      simp only [Bool.and_eq_true, Bool.or_eq_true, beq_iff_eq] at h2
      obtain ⟨hc, h | h⟩ := h2
      · exact ⟨hc, '\'', h, Or.inl rfl⟩
      · exact ⟨hc, '"', h, Or.inr rfl⟩
    obtain ⟨hc, p, rfl, hp⟩ := hpk
    have hpn' : p ≠ '\n' := by rcases hp with rfl | rfl <;> decide
    have hj1 : j1 < L.length := lt_of_some hnl hg hpn'
    show HT _ (pushDelimiter p >>= _) _ _
    refine keep_bind (k_pushDelimiter p) (fun _ _ => ?_)
    refine keep_bind w_depthFuel (fun fuel _ => ?_)
    refine scan_then (hd2 p rfl) (by omega)
      (hS.pmp L [a] j1 fuel _ hnl hj1 ⟨hpn', hpn'⟩) ?_
    intro ttok j res g1 g2 g3 g4
    refine keep_bind k_popDelimiter (fun _ _ => ?_)
    refine leaf _ j res (by omega) g2 hpn ?_ g3 ?_
    · show wordPathV (st.tokenword ++ [c, p] ++ ttok) = true
      have := hwp1 p ttok (Or.inl hc)
      simpa using this
    · show Del (Str.slice L a j) (st.tokenword ++ [c, p] ++ ttok ++ res)
      simpa using g4
  refine HT.ite (fun h3 => ?_) (fun h3 => ?_)
  · -- `$$`
    simp only [Bool.and_eq_true, beq_iff_eq] at h3
    obtain ⟨hc, rfl⟩ := h3
    subst hc
    have hj1 : j1 < L.length := lt_of_some hnl hg (by decide)
    refine leaf _ j1 [] (by omega) hj1 hpn ?_ (res_nil _ _ _) ?_
    · show wordPathV (st.tokenword ++ ['$', '$']) = true
      exact wp_ext hwp (wp_nonbreak (by decide))
    · show Del (Str.slice L a j1) (st.tokenword ++ ['$', '$'] ++ [])
      have := hd2 '$' rfl
      simpa using this
  · -- nothing: put the look-ahead back
    have hne : peek ≠ some '(' := by
      intro h; apply h1; rw [h]; rfl
    obtain ⟨b1, _⟩ := back1 hg hi
    refine ungetc_bind b1 ?_
    subst hpc
    exact HT.pure (fun l e h => Or.inr ⟨rfl, rfl, j1, ⟨hg, hne, b1⟩, h⟩)

/-- after `handleshellexp` put its look-ahead back: the SECOND `_ungetc` if the character in hand
    is a break character (`<`, `>`: no `(` follows, so no process substitution opens where the loop
    is left), else (`$`) it is appended -/
theorem expBack_tt (hnl : NL L) (st : RWState) (c : Char) {i : Nat} (hc : st.c = some c)
    (hw : WInv L a st i) (hpn : st.passNext = false) (hexp : (synClass c).exp = true)
    {j1 : Nat} (hg : GetcR true L i j1 (peekC L i)) (hne : peekC L i ≠ some '(') :
    HT (Tp L [a] (j1 - 1)) (rwBreak st c false) (StepQ L a) ET := by
  -- the case split on the look-ahead below needs a variable; `hpk` keeps the fact for `exitB`
  have hpk := hne
  generalize peekC L i = peek at hg hne
  obtain ⟨hhand, hlen, hwp, _⟩ := hw
  rw [hc] at hhand
  -- the character in hand was read
  have hread : ∃ i0 rqn, a ≤ i0 ∧ Del (Str.slice L a i0) st.tokenword ∧ GetcR rqn L i0 i (some c) := by
    cases hhand with
    | read i0 rqn _ h0 hdel hg0 => exact ⟨i0, rqn, h0, hdel, hg0⟩
    | procsub _ _ _ _ _ _ hpar =>
      exfalso
      exact hne (hg.exact hpar (Or.inl (by decide))).1
    | d31 _ _ _ _ => exfalso; revert hexp; decide
  obtain ⟨i0, rqn, h0, hdel, hg0⟩ := hread
  obtain ⟨g1, g2, g3⟩ := hg0.char c rfl
  have hcn : c ≠ '\n' := by rintro rfl; revert hexp; decide
  have hi : i < L.length := nl_lt hnl g2 hcn (by omega)
  have hdc : Del (Str.slice L a i) (st.tokenword ++ [c]) := by
    rw [← slice_cat L h0 hg0.le hg0.le']
    exact hdel.append hg0.del
  have hlc := hdc.length_le
  rw [slice_length L (by omega), List.length_append] at hlc
  simp only [List.length_cons, List.length_nil] at hlc
  obtain ⟨b1, b2, b3, b4⟩ := back1 hg hi
  unfold rwBreak
  simp only [Bool.not_false, if_true]
  refine keep_bind (v_shellbreak c) (fun b hb => ?_)
  subst hb
  refine HT.ite (fun hbrk => ?_) (fun hbrk => ?_)
  · -- `<` / `>`: the second `_ungetc`
    have hcc := exp_brk hexp hbrk
    refine ungetc_bind (by omega) ?_
    have hleaf : ∀ (r : Str), a ≤ j1 - 1 - 1 → r ∈ residues true L (j1 - 1 - 1) →
        Del (Str.slice L a (j1 - 1 - 1)) (st.tokenword ++ r) → exitB L (j1 - 1 - 1) = true →
        HT (Tp L [a] (j1 - 1 - 1))
          (pure (Sum.inr { st with c := some c }) : M (RWState ⊕ RWState)) (StepQ L a) ET := by
      intro r h1 h2 h3 hx
      exact HT.pure (fun l e h => ⟨j1 - 1 - 1, ⟨⟨h1, by omega, hlen, hwp, r, h2, h3⟩, hx⟩, h⟩)
    rcases b4 with ⟨p, rfl, hp1, hp2⟩ | ⟨rfl, hj, hdrop, hp2⟩
    · by_cases hji : j1 - 1 = i
      · -- no pair was skipped: back before the character
        have e1 : j1 - 1 - 1 = i - 1 := by omega
        have e2 : i - 1 + 1 = i := by omega
        rw [e1] at hleaf ⊢
        refine hleaf [] (by omega) (res_nil _ _ _) ?_
          (WB.exitB_brk g2 hbrk (Or.inr (by rw [e2]; exact hpk)))
        rw [List.append_nil, ← slice_cat L h0 (by omega : i0 ≤ i - 1) (by omega)]
        simpa using hdel.append g3
      · -- D32: back inside the last pair
        obtain ⟨q1, q2, q3, q4, q5⟩ := pairs_back hp2 (by omega) (by omega)
        refine hleaf [c, '\\'] (by omega) (res_d32 q2 hcc) ?_
          (WB.exitB_brk q2 brk_nl (Or.inl ⟨by decide, by decide⟩))
        rw [← slice_cat L (by omega : a ≤ i) (by omega : i ≤ j1 - 1 - 1) (by omega)]
        have := hdc.append q4
        simpa using this
    · -- D31 + D32: the look-ahead ran into the end of the line
      obtain ⟨q0, q00⟩ := hg.atEnd rfl
      rw [q0] at q00
      obtain ⟨q1, q2, q3, q4, q5⟩ := pairs_back q00 (by omega) (Nat.le_refl _)
      have e1 : j1 - 1 - 1 = L.length - 2 := by omega
      rw [e1]
      rw [e1] at hleaf
      have hlast : L.drop (L.length - 2) = ['\\', '\n'] := by
        refine drop_last_two q3 ?_ (by omega)
        have : L.length - 2 + 1 = L.length - 1 := by omega
        rw [this]; exact q2
      refine hleaf [c] (by omega) (res_d3132 hlast hcc) ?_ (WB.exitB_pair hlast)
      rw [← slice_cat L (by omega : a ≤ i) (by omega : i ≤ L.length - 2) (by omega)]
      have := hdc.append q5
      simpa using this
  · -- `$`: appended
    have hbrk' : (synClass c).brk = false := by simpa using hbrk
    refine rwTail_tt (handleescapedchar st c) (by omega) ?_ ?_ ?_
    · show a + (st.tokenword ++ [c]).length < L.length
      rw [List.length_append]; simp only [List.length_cons, List.length_nil]; omega
    · show wordPathV (st.tokenword ++ [c]) = true
      exact wp_ext hwp (wp_nonbreak hbrk')
    · rcases b4 with ⟨p, rfl, hp1, hp2⟩ | ⟨rfl, hj, hdrop, hp2⟩
      · left
        refine ⟨?_, fun hp => ?_⟩
        · show Del (Str.slice L a (j1 - 1)) (st.tokenword ++ [c])
          rw [← slice_cat L (by omega : a ≤ i) b2 (by omega)]
          simpa using hdc.append hp2
        · have : st.passNext = true := hp
          rw [hpn] at this; cases this
      · right
        refine ⟨hpn, hdrop, ?_⟩
        show Del (Str.slice L a (j1 - 1)) (st.tokenword ++ [c] ++ ['\\'])
        rw [← slice_cat L (by omega : a ≤ i) b2 (by omega)]
        exact hdc.append hp2

end

end Bashlex.C04.TTP
