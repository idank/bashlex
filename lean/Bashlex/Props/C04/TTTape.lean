/-
  C04, token text: functions that do not touch the tape keep the exact-cursor invariant
  `Tp L ps i` of `TTGetc.lean` (`KSat`); `specialcasetokens` as a function of the local state; the
  facts about the line that the walks use (`wfg_line`, `nl_lt`).
-/
import Bashlex.Props.C03.TokHeredoc
import Bashlex.Props.C04.TokText
import Bashlex.Props.C04.TTGetc

namespace Bashlex.C04.TTP
open Bashlex Bashlex.M Bashlex.C10 Bashlex.C11 Bashlex.C03.Tok Bashlex.C04

/-- bind after a computation that keeps the invariant and yields a fact -/
theorem keep_bind {α β : Type} {I : Local → Env → Prop} {m : M α} {f : α → M β} {φ : α → Prop}
    {Q : β → Local → Env → Prop} (hm : SatW I I m φ) (hf : ∀ a, φ a → HT I (f a) Q ET) :
    HT I (m >>= f) Q ET :=
  HT.bind hm (fun a => HT.pre_pure (fun ha => hf a ha))

/-! ## `specialcasetokens`: the local state alone -/

/-- the text of `specialcasetokens`, for any monad with the parser's local state -/
def sctM {m : Type → Type} [Monad m] [MonadStateOf Local m] (tokstr : Str) : m (Option TokType) := do
  let l ← get
  let last := l.lastReadToken
  let before := l.tokenBeforeThat
  if last.is .WORD && (before.is .FOR || before.is .CASE || before.is .SELECT) &&
      tokstr == ['i', 'n'] then
    if before.is .CASE then
      set { l with ps := { l.ps with casepat := true }, esacsNeeded := l.esacsNeeded + 1 }
    return some .IN
  if last.is .WORD && (before.is .FOR || before.is .SELECT) && tokstr == ['d', 'o'] then
    return some .DO
  if l.esacsNeeded != 0 then
    modify fun l => { l with esacsNeeded := l.esacsNeeded - 1 }
    if tokstr == ['e', 's', 'a', 'c'] then
      modify fun l => { l with ps := { l.ps with casepat := false } }
      return some .ESAC
  if (← get).ps.allowopnbrc then
    modify fun l => { l with ps := { l.ps with allowopnbrc := false } }
    if tokstr == ['{'] then
      modify fun l => { l with openBraceCount := l.openBraceCount + 1 }
      return some .LEFT_CURLY
  if last.is .ARITH_FOR_EXPRS && tokstr == ['d', 'o'] then
    return some .DO
  if last.is .ARITH_FOR_EXPRS && tokstr == ['{'] then
    modify fun l => { l with openBraceCount := l.openBraceCount + 1 }
    return some .LEFT_CURLY
  let l ← get
  if l.openBraceCount != 0 && reservedWordAcceptable l l.lastReadToken && tokstr == ['}'] then
    set { l with openBraceCount := l.openBraceCount - 1 }
    return some .RIGHT_CURLY
  if last.is .TIME && tokstr == ['-', 'p'] then return some .TIMEOPT
  if last.is .TIMEOPT && tokstr == ['-', '-'] then return some .TIMEIGN
  if l.ps.condexpr && tokstr == [']', ']'] then return some .COND_END
  return none

/-- a computation on the local state alone, as a computation of the model monad -/
def ofState {α : Type} (x : StateM Local α) : M α := fun l => pure (x.run l)

theorem ofState_pure {α : Type} (a : α) : ofState (pure a) = pure a := rfl
theorem ofState_bind {α β : Type} (x : StateM Local α) (f : α → StateM Local β) :
    ofState (x >>= f) = ofState x >>= fun a => ofState (f a) := by
  funext l
  show _ = (pure (x.run l) >>= fun p => ofState (f p.1) p.2 : ExceptT Exn Q _)
  rw [pure_bind]
  rfl
theorem ofState_get : ofState (get : StateM Local Local) = get := rfl
theorem ofState_set (l : Local) : ofState (set l : StateM Local PUnit) = set l := rfl
theorem ofState_modify (f : Local → Local) : ofState (modify f : StateM Local PUnit) = modify f := rfl

/-- `specialcasetokens` works on the local state alone: `ofState` moves through the text -/
theorem specialcasetokens_eq (s : Str) : specialcasetokens s = ofState (sctM s) := by
  rw [show specialcasetokens s = sctM s by unfold specialcasetokens sctM; rfl]
  unfold sctM
  simp only [ofState_bind, ofState_pure, ofState_get, ofState_set, ofState_modify, apply_ite ofState]

/-- `l'` is `l` up to the parser flags and the two counters -/
def Fr (l l' : Local) : Prop :=
  ∃ ps ob en, l' = { l with ps := ps, openBraceCount := ob, esacsNeeded := en }

/-- `x` stays in the class of `l0` -/
def FrAt {α : Type} (l0 : Local) (x : StateM Local α) : Prop := ∀ l, Fr l0 l → Fr l0 (x.run l).2

namespace FrAt
variable {α β : Type} {l0 : Local}

theorem pure (a : α) : FrAt l0 (Pure.pure a : StateM Local α) := fun _ h => h

theorem bind {x : StateM Local α} {f : α → StateM Local β} (hx : FrAt l0 x)
    (hf : ∀ a, FrAt l0 (f a)) : FrAt l0 (x >>= f) :=
  fun l h => hf _ _ (hx l h)

theorem get_bind {f : Local → StateM Local β} (hf : ∀ l, Fr l0 l → FrAt l0 (f l)) :
    FrAt l0 (get >>= f) :=
  fun l h => hf l h l h

theorem set {l' : Local} (h : Fr l0 l') : FrAt l0 (set l' : StateM Local PUnit) := fun _ _ => h

theorem modify {f : Local → Local} (h : ∀ l, Fr l0 l → Fr l0 (f l)) :
    FrAt l0 (modify f : StateM Local PUnit) := fun l hl => h l hl

theorem ite {c : Prop} [Decidable c] {a b : StateM Local α} (ha : FrAt l0 a) (hb : FrAt l0 b) :
    FrAt l0 (if c then a else b) := by
  split
  · exact ha
  · exact hb

end FrAt

theorem sctM_fr (s : Str) (l0 : Local) : FrAt l0 (sctM s) := by
  unfold sctM
  simp only []
  repeat' (first
    | with_reducible exact FrAt.pure _
    | with_reducible refine FrAt.ite ?_ ?_
    | with_reducible refine FrAt.get_bind (fun l hl => ?_)
    | with_reducible refine FrAt.set ?_
    | with_reducible refine FrAt.modify (fun l hl => ?_)
    | with_reducible refine FrAt.bind ?_ (fun _ => ?_))
  all_goals (obtain ⟨ps, ob, en, rfl⟩ := hl; exact ⟨_, _, _, rfl⟩)

/-- a state-only computation that stays in the class of its initial state keeps every invariant
    that does not read the flags and the two counters -/
theorem ofState_keep {α : Type} {I : Local → Env → Prop} {x : StateM Local α}
    (hI : ∀ l l' e, I l e → Fr l l' → I l' e) (hx : ∀ l0, FrAt l0 x) :
    SatW I I (ofState x) (fun _ => True) := by
  intro l e h
  exact ⟨True.intro, hI l _ e h (hx l l ⟨_, _, _, rfl⟩)⟩

/-! ## functions that do not touch the tape -/

/-- `m` keeps the exact cursor -/
abbrev KSat {α : Type} (L : Str) (ps : List Nat) (i : Nat) (m : M α) : Prop :=
  SatW (Tp L ps i) (Tp L ps i) m (fun _ => True)

macro_rules | `(tactic| w_atom) => `(tactic| exact SatW.pure (fun _ _ h => h) True.intro)
macro_rules | `(tactic| w_atom) => `(tactic| exact AtW.pure (fun _ _ h => h) True.intro)

section
variable {L : Str} {ps : List Nat} {i : Nat}

theorem k_shellmeta (c : Char) : KSat L ps i (shellmeta c) := by unfold shellmeta; w_walk
theorem k_shellquote (c : Char) : KSat L ps i (shellquote c) := by unfold shellquote; w_walk
theorem k_shellexp (c : Char) : KSat L ps i (shellexp c) := by unfold shellexp; w_walk
theorem k_shellbreak (c : Char) : KSat L ps i (shellbreak c) := by unfold shellbreak; w_walk
theorem k_pushDelimiter (c : Char) : KSat L ps i (pushDelimiter c) := by unfold pushDelimiter; w_walk
theorem k_popDelimiter : KSat L ps i popDelimiter := by unfold popDelimiter; w_walk
theorem k_currentDelimiter : KSat L ps i currentDelimiter := by unfold currentDelimiter; w_walk
theorem k_mpInit (P : MPParams) : KSat L ps i (mpInit P) := by
  unfold mpInit; w_walk
theorem k_csDelimMatches (st : CSState) : KSat L ps i (csDelimMatches st) := by
  unfold csDelimMatches; w_walk
theorem k_isAssignment (s : Str) : KSat L ps i (isAssignment s) := by
  unfold isAssignment; w_walk
theorem Tp.fr {l l' : Local} {e : Env} (h : Tp L ps i l e) (hl : Fr l l') : Tp L ps i l' e := by
  obtain ⟨_, _, _, rfl⟩ := hl
  exact h
theorem k_specialcasetokens (s : Str) : KSat L ps i (specialcasetokens s) := by
  rw [specialcasetokens_eq]
  exact ofState_keep (fun _ _ _ h hl => h.fr hl) (sctM_fr s)
theorem k_tokentypeOfChar (c : Char) : KSat L ps i (tokentypeOfChar c) := by
  unfold tokentypeOfChar; w_walk

/-- the values of the syntax-class queries -/
theorem shellmeta_val {I : Local → Env → Prop} [EnvStable I] (c : Char) :
    SatW I I (shellmeta c) (fun r => r = (synClass c).metac) := by
  unfold shellmeta
  exact SatW.bind (syn_val c) (fun r hr => SatW.pure (fun _ _ h => h) (by rw [hr]))
theorem v_shellmeta (c : Char) :
    SatW (Tp L ps i) (Tp L ps i) (shellmeta c) (fun r => r = (synClass c).metac) :=
  shellmeta_val c
theorem v_shellquote (c : Char) :
    SatW (Tp L ps i) (Tp L ps i) (shellquote c) (fun r => r = (synClass c).quote) := by
  unfold shellquote
  exact SatW.bind (syn_val c) (fun r hr => SatW.pure (fun _ _ h => h) (by rw [hr]))
theorem v_shellexp (c : Char) :
    SatW (Tp L ps i) (Tp L ps i) (shellexp c) (fun r => r = (synClass c).exp) := by
  unfold shellexp
  exact SatW.bind (syn_val c) (fun r hr => SatW.pure (fun _ _ h => h) (by rw [hr]))
theorem v_shellbreak (c : Char) :
    SatW (Tp L ps i) (Tp L ps i) (shellbreak c) (fun r => r = (synClass c).brk) := by
  unfold shellbreak
  exact SatW.bind (syn_val c) (fun r hr => SatW.pure (fun _ _ h => h) (by rw [hr]))

end

macro_rules | `(tactic| w_atom) => `(tactic| exact k_shellmeta _)
macro_rules | `(tactic| w_atom) => `(tactic| exact k_shellquote _)
macro_rules | `(tactic| w_atom) => `(tactic| exact k_shellexp _)
macro_rules | `(tactic| w_atom) => `(tactic| exact k_shellbreak _)
macro_rules | `(tactic| w_atom) => `(tactic| exact k_pushDelimiter _)
macro_rules | `(tactic| w_atom) => `(tactic| exact k_popDelimiter)
macro_rules | `(tactic| w_atom) => `(tactic| exact k_currentDelimiter)
macro_rules | `(tactic| w_atom) => `(tactic| exact k_mpInit _)
macro_rules | `(tactic| w_atom) => `(tactic| exact k_csDelimMatches _)
macro_rules | `(tactic| w_atom) => `(tactic| exact k_isAssignment _)
macro_rules | `(tactic| w_atom) => `(tactic| exact k_specialcasetokens _)
macro_rules | `(tactic| w_atom) => `(tactic| exact k_tokentypeOfChar _)

/-! ## the line -/

/-- the line of a parser object: empty, or ending in a newline -/
theorem wfg_line {g : Ghost} (hg : WFG g) : g.line = [] ∨ (NL g.line ∧ g.line.getLast? = some '\n') := by
  obtain ⟨s, h1, _⟩ := hg
  rw [h1]
  obtain ⟨_, k2⟩ := C03.ofInput_line s
  cases hl : (Tape.ofInput s).line.getLast? with
  | none => exact Or.inl (List.getLast?_eq_none_iff.mp hl)
  | some c =>
    have := k2 c hl
    subst this
    exact Or.inr ⟨C03.nl_of_getLast k2, rfl⟩

/-- the character before the cursor is not a newline: the cursor is not at the end -/
theorem nl_lt {L : Str} (hnl : NL L) {j : Nat} {ch : Char} (h : L[j - 1]? = some ch)
    (hne : ch ≠ '\n') (hj : 0 < j) : j < L.length := by
  have := hnl _ _ h hne; omega

end Bashlex.C04.TTP
