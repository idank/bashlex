/-
  C04, token text (layer A): the operators.  `readtokenMeta` from the state right after the
  metacharacter `ch` was read at `a`: the type returned spells the text consumed, up to a D31
  residue (the look-ahead ran into the end of the line through a continuation and was put back
  with `_ungetc(None)`); `None` (a process substitution follows) leaves the cursor on the `(`.
-/
import Bashlex.Props.C04.TTRes

namespace Bashlex.C04.TTP
open Bashlex Bashlex.M Bashlex.C10 Bashlex.C11 Bashlex.C03.Tok Bashlex.C04
set_option linter.unusedVariables false

/-- one step of a walk through code that keeps the cursor, towards an arbitrary post-condition;
    pieces proved beforehand are picked up by `assumption` -/
macro "t_step" : tactic => `(tactic| first
  | assumption
  | ((with_reducible refine HTQAt.ofHT ?_); assumption)
  | jp_step
  | with_reducible refine HT.ite (fun _ => ?_) (fun _ => ?_)
  | with_reducible refine HTQAt.ite (fun _ => ?_) (fun _ => ?_)
  | with_reducible refine HTQAt.ite_bind (fun _ => ?_) (fun _ => ?_)
  | with_reducible use_hyp
  | with_reducible refine HT.get_bind (fun _ => ?_)
  | ((with_reducible refine QW.modify ?_ ?_); focus (intro _ _ h; exact h))
  | ((with_reducible refine HTQAt.set_bind ?_ ?_); focus (intro _ h; exact h))
  | with_reducible exact HTQAt.foreign_bind True.intro
  | with_reducible exact HTQAt.foreign True.intro
  | with_reducible refine HTQAt.pure_bind ?_
  | split_head
  | with_reducible refine HTQAt.ofHT ?_
  | with_reducible exact HT.foreign True.intro
  | with_reducible exact HT.raise True.intro
  | ((with_reducible refine QW.bindSame ?_ (fun _ => ?_)); focus (with_reducible w_atom; done)))

macro "t_walk" : tactic => `(tactic| repeat' t_step)

theorem ofChar_str {c : Char} {t : TokType} (h : TokType.ofChar c = some t) :
    t.strValueChars = some [c] := by
  unfold TokType.ofChar at h
  split at h <;> first | (cases h; rfl) | cases h

theorem v_tokentypeOfChar {I : Local → Env → Prop} (c : Char) :
    SatW I I (tokentypeOfChar c) (fun t => TokType.ofChar c = some t) := by
  unfold tokentypeOfChar
  split
  · rename_i t ht; exact SatW.pure (fun _ _ h => h) ht
  · exact SatW.foreign

/-- what `readtokenMeta` returns (see the header) -/
def MetaQ (L : Str) (a : Nat) (ch : Char) (r : Option TokType) (l : Local) (e : Env) : Prop :=
  ∃ j, Tp L [a] j l e ∧
    match r with
    | some ty => ∃ v, ty.strValueChars = some v ∧ a + v.length < L.length ∧
        ∃ r ∈ residues false L j, Del (Str.slice L a j) (v ++ r)
    | none => (ch = '<' ∨ ch = '>') ∧ a + 1 ≤ j ∧ Del (Str.slice L (a + 1) j) [] ∧
        L[j]? = some '('

section
variable {L : Str} {a : Nat} {ch : Char}

theorem metaQ_leaf {ty : TokType} {v r : Str} {j : Nat} (hv : ty.strValueChars = some v)
    (hlen : a + v.length < L.length) (hr : r ∈ residues false L j)
    (hd : Del (Str.slice L a j) (v ++ r)) :
    HT (Tp L [a] j) (pure (some ty) : M (Option TokType)) (MetaQ L a ch) ET :=
  HT.pure (fun l e h => ⟨j, h, v, hv, hlen, r, hr, hd⟩)

/-- an operator that ends at the cursor, its last character not being a newline -/
theorem metaQ_exact {ty : TokType} {v : Str} {j : Nat} (hv : ty.strValueChars = some v)
    (hd : Del (Str.slice L a j) v) (hj : j < L.length) (haj : a ≤ j) :
    HT (Tp L [a] j) (pure (some ty) : M (Option TokType)) (MetaQ L a ch) ET := by
  refine metaQ_leaf hv ?_ (res_nil _ _ _) (by simpa using hd)
  have := hd.length_le
  rw [slice_length L (by omega)] at this
  omega

/-- an operator, then `_getc` … `_ungetc` -/
theorem metaQ_back {rqn : Bool} {ty : TokType} {v : Str} {i j : Nat} {x : Option Char}
    (hv : ty.strValueChars = some v) (hd : Del (Str.slice L a i) v) (hai : a ≤ i)
    (hg : GetcR rqn L i j x) (hi : i < L.length) :
    HT (Tp L [a] j) (do ungetc x; pure (some ty) : M (Option TokType)) (MetaQ L a ch) ET := by
  obtain ⟨h1, h2, r, hr, hd', hl⟩ := del_back1 hd hai hg hi
  refine ungetc_bind h1 ?_
  exact metaQ_leaf hv (by omega) hr hd'

theorem del2 {p : Char} {j1 : Nat} (hch : L[a]? = some ch) (hg : GetcR true L (a + 1) j1 (some p)) :
    Del (Str.slice L a j1) [ch, p] := by
  have := hg.le
  rw [← slice_cat L (Nat.le_succ a) hg.le hg.le', slice_one L hch]
  exact (Del.keep ch .nil).append hg.del

theorem del3 {p q : Char} {j1 j2 : Nat} (hch : L[a]? = some ch)
    (hg : GetcR true L (a + 1) j1 (some p)) (hg2 : GetcR true L j1 j2 (some q)) :
    Del (Str.slice L a j2) [ch, p, q] := by
  have := hg.le
  have := hg2.le
  rw [← slice_cat L (by omega : a ≤ j1) hg2.le hg2.le']
  exact (del2 hch hg).append hg2.del

theorem lt_of_some (hnl : NL L) {rqn : Bool} {i j : Nat} {p : Char} (hg : GetcR rqn L i j (some p))
    (hp : p ≠ '\n') : j < L.length := by
  obtain ⟨h1, h2, _⟩ := hg.char p rfl
  exact nl_lt hnl h2 hp (by omega)

/-- **`readtokenMeta`** -/
theorem readtokenMeta_tt (hnl : NL L) (hch : L[a]? = some ch) (hne : ch ≠ '\n') :
    HT (Tp L [a] (a + 1)) (readtokenMeta ch) (MetaQ L a ch) ET := by
  have ha2 : a + 2 ≤ L.length := hnl _ _ hch hne
  have d1 : Del (Str.slice L a (a + 1)) [ch] := by rw [slice_one L hch]; exact Del.refl _
  unfold readtokenMeta
  refine keep_bind (SatW.modifyT (fun _ _ h => h)) (fun _ _ => ?_)
  refine getc_bind (fun peek j1 hg => ?_)
  jp_step
  · -- the tail: `_ungetc(peek)`, parser-state flags, the one-character operator
    rename_i u
    obtain ⟨h1, h2, r, hr, hd', hl⟩ := del_back1 d1 (Nat.le_succ a) hg (by omega)
    refine ungetc_bind h1 ?_
    have hfin : HT (Tp L [a] (j1 - 1))
        (if (!(ch == '<' || ch == '>') || peek != some '(') = true then do
            let t ← tokentypeOfChar ch
            pure (some t)
          else pure none : M (Option TokType)) (MetaQ L a ch) ET := by
      refine HT.ite (fun hc => ?_) (fun hc => ?_)
      · refine keep_bind (v_tokentypeOfChar ch) (fun t ht => ?_)
        exact metaQ_leaf (ofChar_str ht) (by simp only [List.length_cons, List.length_nil]; omega)
          hr hd'
      · have hpk : peek = some '(' := by
          apply Classical.byContradiction
          intro hp
          apply hc
          simp [hp]
        have hcc : ch = '<' ∨ ch = '>' := by
          apply Classical.byContradiction
          intro hcc
          apply hc
          simp only [not_or] at hcc
          simp [hcc.1, hcc.2]
        subst hpk
        obtain ⟨b1, b2, b3⟩ := hg.char '(' rfl
        exact HT.pure (fun l e h => ⟨j1 - 1, h, hcc, by omega, b3, b2⟩)
    t_walk
  · rename_i jp hjp
    have hjp' : HT (Tp L [a] j1) (jp ()) (MetaQ L a ch) ET := hjp ()
    refine HT.ite (fun hpk => ?_) (fun hpk => ?_)
    · -- a doubled character
      have hpk' : peek = some ch := by simpa using hpk
      subst hpk'
      have hj1 : j1 < L.length := lt_of_some hnl hg hne
      have haj : a + 1 ≤ j1 := hg.le
      refine HT.ite (fun h1 => ?_) (fun h1 => ?_)
      · have : ch = '<' := by simpa using h1
        subst this
        refine getc_bind (fun p j2 hg2 => ?_)
        have := hg2.le
        refine HT.ite (fun h2 => ?_) (fun h2 => ?_)
        · have : p = some '-' := by simpa using h2
          subst this
          exact metaQ_exact rfl (del3 hch hg hg2) (lt_of_some hnl hg2 (by decide)) (by omega)
        refine HT.ite (fun h3 => ?_) (fun h3 => ?_)
        · have : p = some '<' := by simpa using h3
          subst this
          exact metaQ_exact rfl (del3 hch hg hg2) (lt_of_some hnl hg2 (by decide)) (by omega)
        · exact metaQ_back rfl (del2 hch hg) (by omega) hg2 hj1
      refine HT.ite (fun h2 => ?_) (fun h2 => ?_)
      · have : ch = '>' := by simpa using h2
        subst this
        exact metaQ_exact rfl (del2 hch hg) hj1 (by omega)
      refine HT.ite (fun h3 => ?_) (fun h3 => ?_)
      · have : ch = ';' := by simpa using h3
        subst this
        refine QW.modify (fun _ _ h => h) ?_
        refine getc_bind (fun p j2 hg2 => ?_)
        have := hg2.le
        refine HT.ite (fun h4 => ?_) (fun h4 => ?_)
        · have : p = some '&' := by simpa using h4
          subst this
          exact metaQ_exact rfl (del3 hch hg hg2) (lt_of_some hnl hg2 (by decide)) (by omega)
        · exact metaQ_back rfl (del2 hch hg) (by omega) hg2 hj1
      refine HT.ite (fun h4 => ?_) (fun h4 => ?_)
      · have : ch = '&' := by simpa using h4
        subst this
        exact metaQ_exact rfl (del2 hch hg) hj1 (by omega)
      refine HT.ite (fun h5 => ?_) (fun h5 => hjp')
      · have : ch = '|' := by simpa using h5
        subst this
        exact metaQ_exact rfl (del2 hch hg) hj1 (by omega)
    · -- two different characters
      have two : ∀ (c p : Char) (ty : TokType), (ch == c && peek == some p) = true →
          ty.strValueChars = some [c, p] → p ≠ '\n' →
          HT (Tp L [a] j1) (pure (some ty) : M (Option TokType)) (MetaQ L a ch) ET := by
        intro c p ty hc hty hp
        simp only [Bool.and_eq_true, beq_iff_eq] at hc
        obtain ⟨rfl, rfl⟩ := hc
        have := hg.le
        exact metaQ_exact hty (del2 hch hg) (lt_of_some hnl hg hp) (by omega)
      refine HT.ite (fun h1 => two _ _ _ h1 rfl (by decide)) (fun _ => ?_)
      refine HT.ite (fun h1 => two _ _ _ h1 rfl (by decide)) (fun _ => ?_)
      refine HT.ite (fun h1 => two _ _ _ h1 rfl (by decide)) (fun _ => ?_)
      refine HT.ite (fun h1 => two _ _ _ h1 rfl (by decide)) (fun _ => ?_)
      refine HT.ite (fun h1 => ?_) (fun _ => ?_)
      · simp only [Bool.and_eq_true, beq_iff_eq] at h1
        obtain ⟨rfl, rfl⟩ := h1
        have hj1 : j1 < L.length := lt_of_some hnl hg (by decide)
        have haj : a + 1 ≤ j1 := hg.le
        refine getc_bind (fun p j2 hg2 => ?_)
        have := hg2.le
        refine HT.ite (fun h4 => ?_) (fun h4 => ?_)
        · have : p = some '>' := by simpa using h4
          subst this
          exact metaQ_exact rfl (del3 hch hg hg2) (lt_of_some hnl hg2 (by decide)) (by omega)
        · exact metaQ_back rfl (del2 hch hg) (by omega) hg2 hj1
      refine HT.ite (fun h1 => two _ _ _ h1 rfl (by decide)) (fun _ => ?_)
      refine HT.ite (fun h1 => two _ _ _ h1 rfl (by decide)) (fun _ => hjp')

end

end Bashlex.C04.TTP
