/-
  C04, token text (layer D, end): the loops of `_parse_matched_pair` and `_parse_comsub`,
  induction on the depth fuel: **`scanHyp : ScanHyp`**.

  Invariant of both loops at cursor `k` (`SInv`): the text `L[i:k]` spells `ret` (`Sp`, up to the
  D31 residue), and the cursor is inside the line when `count` is `0`; or the state is doomed
  (`Dm`: the cursor is on the last character or behind it) and `count` is not `0` — from then on
  every `_getc` delivers the final newline or `None`, `count` stays, and the scanner raises.
-/
import Bashlex.Props.C04.TTScanCS2

namespace Bashlex.C04.TTP
open Bashlex Bashlex.M Bashlex.C10 Bashlex.C11 Bashlex.C03.Tok Bashlex.C04
set_option linter.unusedVariables false

def SInv (L : Str) (i k : Nat) (ret : Str) (cnt : Nat) : Prop :=
  i ≤ k ∧ ((Sp L i k ret ∧ (cnt = 0 → k < L.length)) ∨ (Dm L k ∧ cnt ≠ 0))

section
variable {L : Str} {ps : List Nat}

theorem scanQ_of {i k : Nat} {r : Str} (h1 : i ≤ k) (h2 : k < L.length) (h3 : Sp L i k r)
    {l : Local} {e : Env} (h : Tp L ps k l e) : ScanQ L ps i r l e :=
  ⟨k, ⟨h1, h2, h3⟩, h⟩

/-- the state after the second half of an iteration -/
theorem sinv_post {i k k'' : Nat} {c : Char} {ret0 ret1 : Str} {cnt0 cnt1 : Nat} (hik : i ≤ k)
    (hA : Sp L i k ret0 ∨ (Dm L k ∧ c = '\n')) (hcnt : cnt0 ≠ 0)
    (hpost : PostR L k c ret0 cnt0 ret1 cnt1 k'') : SInv L i k'' ret1 cnt1 := by
  obtain ⟨hk, hcase⟩ := hpost
  refine ⟨by omega, ?_⟩
  rcases hcase with ⟨r1, r2, r3⟩ | ⟨hc, hlt, x, r1, r2⟩
  · rw [r1, r2, r3]
    rcases hA with h | h
    · exact Or.inl ⟨h, fun h0 => absurd h0 hcnt⟩
    · exact Or.inr ⟨h.1, hcnt⟩
  · rw [r1]
    rcases hA with h | h
    · exact Or.inl ⟨sp_scan h hik hk hlt r2, fun _ => hlt⟩
    · exact absurd h.2 hc

/-- **`_parse_matched_pair`**, one more level of depth -/
theorem pmp_succ_tt (hnl : NL L) {fuel : Nat}
    (ih : ScanIH L ps (parseMatchedPair fuel) (parseComsub fuel)) (P : MPParams) (hP : MPGood P) {i : Nat} :
    HT (Tp L ps i) (parseMatchedPair (fuel + 1) P) (ScanQ L ps i) ET := by
  unfold parseMatchedPair
  refine keep_bind (k_mpInit P) (fun x _ => ?_)
  obtain ⟨lfc, rdq⟩ := x
  simp only []
  refine keep_bind w_loopFuel (fun lf _ => ?_)
  refine HT.pre (HT.loop (E := ET)
    (I := fun st l e => ∃ k, SInv L i k st.ret st.count ∧ Tp L ps k l e) True.intro
    (fun st => ?_) lf _) ?_
  · -- one iteration
    refine HT.pre_exists (fun k => HT.pre_pure (fun hinv => ?_))
    obtain ⟨hik, hcase⟩ := hinv
    refine HT.ite (fun hz => ?_) (fun hz => ?_)
    · have hz' : st.count = 0 := by simpa using hz
      rcases hcase with ⟨hsp, hlt⟩ | ⟨_, hne⟩
      · exact HT.pure (fun l e h => scanQ_of hik (hlt hz') hsp h)
      · exact absurd hz' hne
    · have hcnt : st.count ≠ 0 := by simpa using hz
      refine HT.bind (mpPre_tt P lfc st) (fun r => ?_)
      refine HT.pre_exists (fun k' => HT.pre_pure (fun hr => ?_))
      obtain ⟨rqn, c, hg, hR⟩ := hr
      have hkk := hg.le
      have hA : Sp L i k' (st.ret ++ [c]) ∨ (Dm L k' ∧ c = '\n') := by
        rcases hcase with ⟨hsp, _⟩ | ⟨hdm, _⟩
        · exact sp_getc hsp hik hg
        · exact Or.inr (dm_getc hnl hdm hg)
      cases r with
      | cont s =>
        simp only []
        obtain ⟨e1, e2⟩ := hR
        refine HT.pure (fun l e h => ⟨k', ⟨by omega, ?_⟩, h⟩)
        rw [e1]
        rcases hA with h | h
        · exact Or.inl ⟨h, fun h0 => absurd h0 (e2 hcnt)⟩
        · exact Or.inr ⟨h.1, e2 hcnt⟩
      | done ret =>
        simp only []
        obtain ⟨e1, e2⟩ := hR
        have hc : c ≠ '\n' := by rw [e2 hcnt]; exact hP.1
        refine HT.pure (fun l e h => scanQ_of (by omega) (lt_of_some hnl hg hc) ?_ h)
        rw [e1]
        rcases hA with h | h
        · exact h
        · exact absurd h.2 hc
      | next s c' =>
        simp only []
        obtain ⟨rfl, e1, e2⟩ := hR
        refine HT.bind (mpPost_tt ih P rdq s c' (fun hc => lt_of_some hnl hg hc)) (fun s' => ?_)
        refine HT.pre_exists (fun k'' => HT.pre_pure (fun hpost => ?_))
        refine HT.pure (fun l e h => ⟨k'', ?_, h⟩)
        exact sinv_post (by omega) (by rw [e1]; exact hA) (e2 hcnt) hpost
  · intro l e h
    exact ⟨i, ⟨Nat.le_refl _, Or.inl ⟨sp_nil i, fun h0 => by cases h0⟩⟩, h⟩

/-- **`_parse_comsub`**, one more level of depth -/
theorem pcs_succ_tt (hnl : NL L) {fuel : Nat}
    (ih : ScanIH L ps (parseMatchedPair fuel) (parseComsub fuel)) (P : CSParams) (hP : CSGood P)
    {i : Nat} (hiL : i < L.length) :
    HT (Tp L ps i) (parseComsub (fuel + 1) P) (ScanQ L ps i) ET := by
  unfold parseComsub
  -- the look-ahead for `((`
  refine getc_bind (fun peek j hg => ?_)
  have hp' : L[i]? = some L[i] := List.getElem?_eq_getElem hiL
  obtain ⟨e1, e2⟩ := hg.exact hp' (Or.inr rfl)
  subst e1 e2
  refine ungetc_bind (Nat.succ_pos i) ?_
  show HT (Tp L ps i) _ _ _
  refine HT.ite (fun _ => ?_) (fun _ => ?_)
  · exact ih.pmp i _ hiL (mpgood (c := P.close) (o := P.opn) rfl rfl hP.1 hP.2)
  simp only []
  refine keep_bind w_loopFuel (fun lf _ => ?_)
  refine HT.pre (HT.loop (E := ET)
    (I := fun st l e => ∃ k, SInv L i k st.ret st.count ∧ Tp L ps k l e) True.intro
    (fun st => ?_) lf _) ?_
  · -- one iteration
    refine HT.pre_exists (fun k => HT.pre_pure (fun hinv => ?_))
    obtain ⟨hik, hcase⟩ := hinv
    refine HT.ite (fun hz => ?_) (fun hz => ?_)
    · have hz' : st.count = 0 := by simpa using hz
      rcases hcase with ⟨hsp, hlt⟩ | ⟨_, hne⟩
      · exact HT.pure (fun l e h => scanQ_of hik (hlt hz') hsp h)
      · exact absurd hz' hne
    · have hcnt : st.count ≠ 0 := by simpa using hz
      have hM : Mid L i k st.ret := by
        rcases hcase with ⟨hsp, _⟩ | ⟨hdm, _⟩
        · exact Or.inl hsp
        · exact Or.inr hdm
      refine HT.bind (csPre_tt hnl P hP _ st hM hcnt hik hiL) (fun r => ?_)
      refine HT.pre_exists (fun k' => HT.pre_pure (fun hr => ?_))
      obtain ⟨hk', hR⟩ := hr
      cases r with
      | cont s =>
        simp only []
        obtain ⟨e1, e2⟩ := hR
        refine HT.pure (fun l e h => ⟨k', ⟨hk', ?_⟩, h⟩)
        rcases e1 with h | h
        · exact Or.inl ⟨h, fun h0 => absurd h0 e2⟩
        · exact Or.inr ⟨h, e2⟩
      | done ret =>
        simp only []
        exact HT.pure (fun l e h => scanQ_of hk' hR.2 hR.1 h)
      | next s c =>
        simp only []
        obtain ⟨e1, e2, e3⟩ := hR
        refine HT.bind (csPost_tt ih P s c e3) (fun s' => ?_)
        refine HT.pre_exists (fun k'' => HT.pre_pure (fun hpost => ?_))
        refine HT.pure (fun l e h => ⟨k'', ?_, h⟩)
        exact sinv_post hk' e1 e2 hpost
  · intro l e h
    exact ⟨i, ⟨Nat.le_refl _, Or.inl ⟨sp_nil i, fun h0 => by cases h0⟩⟩, h⟩

/-- both scanners, at every depth -/
theorem scan_all (hnl : NL L) : ∀ fuel, ScanIH L ps (parseMatchedPair fuel) (parseComsub fuel)
  | 0 => by
    refine ⟨fun i P _ _ => ?_, fun i P _ _ => ?_⟩
    · unfold parseMatchedPair; exact HT.raise True.intro
    · unfold parseComsub; exact HT.raise True.intro
  | fuel + 1 =>
    have ih := scan_all hnl fuel
    ⟨fun i P _ hP => pmp_succ_tt hnl ih P hP, fun i P hi hP => pcs_succ_tt hnl ih P hP hi⟩

end

/-- **layer D**: `_parse_matched_pair` and `_parse_comsub` return exactly the text they consume,
    continuations removed, up to the D31 residue -/
theorem scanHyp : ScanHyp where
  pmp := fun L ps i fuel P hnl hi hP => (scan_all hnl fuel).pmp i P hi hP
  pcs := fun L ps i fuel P hnl hi hP => (scan_all hnl fuel).pcs i P hi hP

end Bashlex.C04.TTP
