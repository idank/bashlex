/-
  C04, the loop of `_readtokenword`: what one iteration makes of `tokenword` and `passNext`
  (`Grows`), walked once, from any state (`Sat`).  An invariant of the loop state alone is kept by
  the loop if each case of `Grows` keeps it.  Of what the nested scanners return the walk knows `T`,
  a parameter: an invariant that does not look inside a quotation takes `fun _ => True`.
-/
import Bashlex.Props.C04.TTRead

namespace Bashlex.C04.WB
open Bashlex Bashlex.M Bashlex.C10 Bashlex.C11 Bashlex.C03.Tok Bashlex.C04 Bashlex.C04.TTP

/-! ## values of the syntax-class queries, state-agnostic -/

theorem sat_syn (c : Char) : Sat (syn c) (fun r => r = synClass c) := by
  intro l e
  show match (M.ask (.syntab c)).run l e with | (.ok (a, _), _) => a = synClass c | (.error x, _) => True
  rw [C10.run_ask]
  rfl

theorem sat_shellbreak (c : Char) : Sat (shellbreak c) (fun r => r = (synClass c).brk) := by
  unfold shellbreak
  exact Sat.bind (sat_syn c) (fun r hr => Sat.pure (by rw [hr]))
theorem sat_shellquote (c : Char) : Sat (shellquote c) (fun r => r = (synClass c).quote) := by
  unfold shellquote
  exact Sat.bind (sat_syn c) (fun r hr => Sat.pure (by rw [hr]))
theorem sat_shellexp (c : Char) : Sat (shellexp c) (fun r => r = (synClass c).exp) := by
  unfold shellexp
  exact Sat.bind (sat_syn c) (fun r hr => Sat.pure (by rw [hr]))

/-! ## what an iteration appends -/

/-- `tw`, `pn`: `tokenword` and `passNext` after one iteration entered in `st` -/
inductive Grows (T : Str → Prop) (st : RWState) (tw : Str) (pn : Bool) : Prop
  /-- end of input, a break character put back, backslash-newline -/
  | same (htw : tw = st.tokenword) (hpn : pn = st.passNext)
  /-- the character after a backslash -/
  | escaped (c : Char) (hc : st.c = some c) (hp : st.passNext = true)
      (htw : tw = st.tokenword ++ [c]) (hpn : pn = false)
  | backslash (hp : st.passNext = false) (htw : tw = st.tokenword ++ ['\\']) (hpn : pn = true)
  | plain (c : Char) (hp : st.passNext = false) (hb : (synClass c).brk = false)
      (htw : tw = st.tokenword ++ [c]) (hpn : pn = false)
  | dollars (hp : st.passNext = false) (htw : tw = st.tokenword ++ ['$', '$']) (hpn : pn = false)
  /-- a quotation or an expansion: the characters that open it (no newline at their end), then
      what the scanner returned -/
  | scanned (c : Char) (x t : Str) (hp : st.passNext = false)
      (hc : (synClass c).quote = true ∨ (synClass c).exp = true)
      (hx : ([c] ++ x).getLast? ≠ some '\n') (ht : T t)
      (htw : tw = st.tokenword ++ [c] ++ x ++ t) (hpn : pn = false)

section
variable {T : Str → Prop}
  (hpmp : ∀ fuel (P : MPParams), P.close ≠ '\n' → Sat (parseMatchedPair fuel P) T)
  (hpcs : ∀ fuel (P : CSParams), P.close ≠ '\n' → Sat (parseComsub fuel P) T)

/-! ## the closures -/

include hpmp in
theorem sat_handleshellquote_g (st : RWState) (c : Char) (hq : (synClass c).quote = true)
    (hpn : st.passNext = false) :
    Sat (handleshellquote st c) (fun s => Grows T st s.tokenword s.passNext) := by
  unfold handleshellquote
  refine Sat.bind_any (fun _ => Sat.bind_any (fun fuel => ?_))
  refine Sat.bind (hpmp fuel _ (quote_ne_nl hq)) (fun ttok ht => ?_)
  refine Sat.bind_any (fun _ => Sat.pure ?_)
  exact .scanned c [] ttok hpn (.inl hq) (by simpa using quote_ne_nl hq) ht (by simp) hpn

/-- what `handleshellexp` returns: the state untouched and `True`, or the state grown -/
def ExpG (T : Str → Prop) (st : RWState) (x : RWState × Bool) : Prop :=
  (x.2 = true → x.1 = st) ∧ (x.2 = false → Grows T st x.1.tokenword x.1.passNext)

include hpmp hpcs in
theorem sat_handleshellexp_g (st : RWState) (c : Char) (cd : Option Char)
    (hx : (synClass c).exp = true) (hpn : st.passNext = false) :
    Sat (handleshellexp st c cd) (ExpG T st) := by
  have hcne : c ≠ '\n' := by rcases exp_cases hx with rfl | rfl | rfl <;> decide
  unfold handleshellexp
  simp only []
  refine Sat.bind_any (fun peek => ?_)
  refine Sat.ite (fun h1 => ?_) (fun h1 => ?_)
  · -- `$(`, `${`, `$[`, `<(`, `>(`
    have hpre : ([c] ++ peek.toList).getLast? ≠ some '\n' := by
      cases peek with
      | none => simpa using hcne
      | some p =>
        have hp : p ≠ '\n' := by
          intro hp; subst hp
          simp at h1
        simpa using hp
    have fin : ∀ ttok, T ttok → Sat (pure ({ st with
        tokenword := st.tokenword ++ [c] ++ peek.toList ++ ttok,
        dollarPresent := true, allDigit := false }, false) : M (RWState × Bool)) (ExpG T st) :=
      fun ttok ht => Sat.pure ⟨fun h => (by cases h),
        fun _ => .scanned c peek.toList ttok hpn (.inr hx) hpre ht rfl hpn⟩
    refine Sat.ite (fun _ => ?_) (fun _ => Sat.ite (fun _ => ?_) (fun _ => ?_))
    · exact Sat.bind_any fun fuel => Sat.bind (hpmp fuel _ (show '}' ≠ '\n' by decide)) fin
    · exact Sat.bind_any fun _ => Sat.bind_any fun fuel =>
        Sat.bind (hpcs fuel _ (show ')' ≠ '\n' by decide)) fun _ ht =>
          Sat.bind_any fun _ => Sat.bind (P := T) (Sat.pure ht) fin
    · exact Sat.bind_any fun fuel => Sat.bind (hpmp fuel _ (show ']' ≠ '\n' by decide)) fin
  · refine Sat.ite (fun h2 => ?_) (fun h2 => ?_)
    · -- `$'…'`, `$"…"`
      have hp : peek.getD '"' ≠ '\n' := by
        cases peek with
        | none => decide
        | some p =>
          intro hp
          have : p = '\n' := hp
          subst this
          simp at h2
      refine Sat.bind_any (fun _ => Sat.bind_any (fun fuel => ?_))
      refine Sat.bind (hpmp fuel _ hp) (fun ttok ht => ?_)
      refine Sat.bind_any (fun _ => Sat.pure ⟨fun h => (by cases h), fun _ => ?_⟩)
      exact .scanned c [peek.getD '"'] ttok hpn (.inr hx) (by simpa using hp) ht (by simp) hpn
    · refine Sat.ite (fun h3 => ?_) (fun h3 => ?_)
      · exact Sat.pure ⟨fun h => (by cases h), fun _ => .dollars hpn rfl hpn⟩
      · exact Sat.bind_any (fun _ => Sat.pure ⟨fun _ => rfl, fun h => (by cases h)⟩)

/-! ## one iteration -/

def GStep (T : Str → Prop) (st : RWState) (r : RWState ⊕ RWState) : Prop :=
  match r with
  | .inl s => Grows T st s.tokenword s.passNext
  | .inr s => Grows T st s.tokenword s.passNext

theorem sat_rwTail_g (st0 st : RWState) (h : Grows T st0 st.tokenword st.passNext) :
    Sat (rwTail st) (GStep T st0) := by
  unfold rwTail
  exact Sat.bind_any (fun _ => Sat.bind_any (fun nc => Sat.pure h))

theorem sat_rwBreak_true_g (st0 st : RWState) (c : Char)
    (h : Grows T st0 st.tokenword st.passNext) : Sat (rwBreak st c true) (GStep T st0) := by
  rw [rwBreak_true]; exact sat_rwTail_g st0 st h

/-- a plain character in hand: put back (a break character), or appended (no break character) -/
theorem sat_rwBreak_false_g (st : RWState) (c : Char) (hpn : st.passNext = false) :
    Sat (rwBreak st c false) (GStep T st) := by
  unfold rwBreak
  simp only [Bool.not_false, if_true]
  refine Sat.bind (sat_shellbreak c) (fun b hb => ?_)
  subst hb
  refine Sat.ite (fun hbrk => ?_) (fun hbrk => ?_)
  · exact Sat.bind_any (fun _ => Sat.pure (.same rfl rfl))
  · exact sat_rwTail_g st _ (.plain c hpn (by simpa using hbrk) rfl hpn)

include hpmp hpcs in
/-- **one iteration of the loop of `_readtokenword`** -/
theorem sat_step_g (st : RWState) : Sat (readtokenwordStep st) (GStep T st) := by
  rw [readtokenwordStep_eq]
  cases hc : st.c with
  | none => exact Sat.pure (.same rfl rfl)
  | some c0 =>
    simp only []
    by_cases hp : st.passNext = true
    · rw [if_pos hp]
      exact sat_rwTail_g st _ (.escaped c0 hc hp rfl rfl)
    · rw [if_neg hp]
      have hpf : st.passNext = false := by simpa using hp
      refine Sat.bind_any (fun cd => ?_)
      refine Sat.ite (fun hbs => ?_) (fun hbs => ?_)
      · have hc0 : c0 = '\\' := by simpa using hbs
        subst hc0
        refine Sat.bind_any (fun peek => ?_)
        refine Sat.ite (fun _ => sat_rwBreak_true_g st st _ (.same rfl rfl)) (fun _ => ?_)
        refine Sat.bind_any (fun _ => Sat.bind_any (fun cond => ?_))
        refine Sat.ite (fun _ => ?_) (fun _ => sat_rwBreak_false_g st '\\' hpf)
        exact sat_rwBreak_true_g st _ _ (.backslash hpf rfl rfl)
      · refine Sat.bind (sat_shellquote c0) (fun b hb => ?_)
        subst hb
        refine Sat.ite (fun hq => ?_) (fun hq => ?_)
        · exact Sat.bind (sat_handleshellquote_g hpmp st c0 hq hpf)
            (fun st' hst' => sat_rwBreak_true_g st st' c0 hst')
        · refine Sat.bind (sat_shellexp c0) (fun b hb => ?_)
          subst hb
          refine Sat.ite (fun hx => ?_) (fun hx => sat_rwBreak_false_g st c0 hpf)
          refine Sat.bind (sat_handleshellexp_g hpmp hpcs st c0 cd hx hpf) (fun x hx' => ?_)
          obtain ⟨st', r⟩ := x
          cases r with
          | false => exact sat_rwBreak_true_g st st' c0 (hx'.2 rfl)
          | true =>
            cases hx'.1 rfl
            exact sat_rwBreak_false_g _ c0 hpf

end

end Bashlex.C04.WB
