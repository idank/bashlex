/-
  C04, token text (layers B and C, end): one iteration of the loop of `_readtokenword`,
  the loop, the part after `# got_token`, `_readtokenword`.
-/
import Bashlex.Props.C04.TTWord2

namespace Bashlex.C04.TTP
open Bashlex Bashlex.M Bashlex.C10 Bashlex.C11 Bashlex.C03.Tok Bashlex.C04

section
variable {L : Str} {a : Nat}

theorem k_rwCond {ps : List Nat} {i : Nat} (cd peek : Option Char) : KSat L ps i (rwCond cd peek) := by
  unfold rwCond; w_walk

/-- a character in hand other than `<`, `>`, newline was read by the last `_getc` -/
theorem Hand.read_of {tw : Str} {i : Nat} {c : Char} (h : Hand L a tw i (some c)) (h1 : c ≠ '<')
    (h2 : c ≠ '>') (h3 : c ≠ '\n') :
    ∃ i0 rqn, a ≤ i0 ∧ Del (Str.slice L a i0) tw ∧ GetcR rqn L i0 i (some c) := by
  cases h with
  | read i0 rqn _ h0 hdel hg => exact ⟨i0, rqn, h0, hdel, hg⟩
  | procsub _ _ hcc => rcases hcc with rfl | rfl <;> contradiction
  | d31 _ _ _ _ => contradiction

/-- the text up to the cursor spells `tokenword` and the character in hand -/
theorem Hand.del_some (hnl : NL L) {tw : Str} {i : Nat} {c : Char} (h : Hand L a tw i (some c))
    (hc : c ≠ '\n') : a ≤ i ∧ i < L.length ∧ Del (Str.slice L a i) (tw ++ [c]) := by
  cases h with
  | read i0 rqn _ h0 hdel hg =>
    obtain ⟨g1, g2, g3⟩ := hg.char c rfl
    refine ⟨by omega, nl_lt hnl g2 hc (by omega), ?_⟩
    rw [← slice_cat L h0 hg.le hg.le']
    exact hdel.append hg.del
  | procsub _ htw hcc hca hai hp hpar =>
    subst htw
    have hlt : i < L.length := (List.getElem?_eq_some_iff.mp hpar).1
    refine ⟨by omega, hlt, ?_⟩
    rw [slice_cons L hca (by omega)]
    exact .keep c hp
  | d31 _ _ _ _ => exact absurd rfl hc

/-- **one iteration of the loop of `_readtokenword`** -/
theorem step_tt (hS : ScanHyp) (hnl : NL L) (st : RWState) {i : Nat} (hw : WInv L a st i) :
    HT (Tp L [a] i) (readtokenwordStep st) (StepQ L a) ET := by
  rw [readtokenwordStep_eq]
  have hw0 := hw
  obtain ⟨hhand, hlen, hwp, hpn⟩ := hw
  cases hc : st.c with
  | none =>
    simp only []
    rw [hc] at hhand
    cases hhand with
    | read i0 rqn _ h0 hdel hg =>
      obtain ⟨e1, e2⟩ := hg.atEnd rfl
      refine HT.pure (fun l e h => ⟨i, ⟨⟨by have := hg.le; omega, hg.le', hlen, hwp, [],
        res_nil _ _ _, ?_⟩, WB.exitB_len (by omega)⟩, h⟩)
      rw [List.append_nil, ← slice_cat L h0 hg.le hg.le']
      simpa using hdel.append e2
  | some c0 =>
    simp only []
    rw [hc] at hhand
    by_cases hp : st.passNext = true
    · -- the character after a backslash
      rw [if_pos hp]
      obtain ⟨i0, rqn, p, hpne, hcp, h0, hdel, hg, htne⟩ := hpn hp
      rw [hc] at hcp
      cases hcp
      have hi : i < L.length := lt_of_some hnl hg hpne
      have hd : Del (Str.slice L a i) (st.tokenword ++ [c0]) := by
        rw [← slice_cat L h0 hg.le hg.le']
        exact hdel.append hg.del
      have hl := hd.length_le
      rw [slice_length L (by omega), List.length_append] at hl
      simp only [List.length_cons, List.length_nil] at hl
      have := hg.le
      refine rwTail_tt (handleescapedchar { st with passNext := false } c0) (by omega) ?_ ?_
        (Or.inl ⟨hd, fun h => by cases h⟩)
      · show a + (st.tokenword ++ [c0]).length < L.length
        rw [List.length_append]; simp only [List.length_cons, List.length_nil]; omega
      · show wordPathV (st.tokenword ++ [c0]) = true
        exact wp_append hwp htne
    · rw [if_neg hp]
      have hpf : st.passNext = false := by
        cases h : st.passNext with
        | true => exact absurd h hp
        | false => rfl
      refine keep_bind k_currentDelimiter (fun cd _ => ?_)
      refine HT.ite (fun hbs => ?_) (fun hbs => ?_)
      · -- a backslash
        have hc0 : c0 = '\\' := by simpa using hbs
        subst hc0
        obtain ⟨i0, rqn, h0, hdel, hg⟩ := hhand.read_of (by decide) (by decide) (by decide)
        obtain ⟨g1, g2, g3⟩ := hg.char '\\' rfl
        have hi : i < L.length := nl_lt hnl g2 (by decide) (by omega)
        refine getc_bind (fun peek j2 hg2 => ?_)
        have hp' : L[i]? = some L[i] := List.getElem?_eq_getElem hi
        obtain ⟨e1, e2⟩ := hg2.exact hp' (Or.inr rfl)
        subst e1 e2
        refine HT.ite (fun hn => ?_) (fun hn => ?_)
        · -- a continuation (read without `remove_quoted_newline`): both characters dropped
          have hn' : L[i] = '\n' := by simpa using hn
          rw [rwBreak_true]
          refine rwTail_tt st (by omega) hlen hwp (Or.inl ⟨?_, fun h => by rw [hpf] at h; cases h⟩)
          rw [← slice_cat L h0 (by omega : i0 ≤ i + 1) (by omega)]
          have s1 : Str.slice L i0 (i + 1) = Str.slice L i0 (i - 1) ++ ['\\', '\n'] := by
            have e1 : i - 1 + 1 = i := by omega
            have t1 := slice_snoc L g2 (a := i0) (by omega)
            rw [e1] at t1
            rw [slice_snoc L hp' (by omega), t1, hn']
            simp
          rw [s1]
          simpa using hdel.append g3.snoc_pair
        · have hn' : L[i] ≠ '\n' := by simpa using hn
          refine ungetc_bind (Nat.succ_pos i) ?_
          show HT (Tp L [a] i) _ _ _
          refine keep_bind (k_rwCond cd _) (fun cond _ => ?_)
          refine HT.ite (fun _ => ?_) (fun _ => ?_)
          · -- quoted: the next character is taken as it stands
            rw [rwBreak_true]
            have hd : Del (Str.slice L a i) (st.tokenword ++ ['\\']) := by
              rw [← slice_cat L h0 hg.le hg.le']
              exact hdel.append hg.del
            have hl := hd.length_le
            rw [slice_length L (by omega), List.length_append] at hl
            simp only [List.length_cons, List.length_nil] at hl
            refine rwTail_tt (handleescapedchar { st with passNext := true, quoted := true } '\\')
              (by omega) ?_ ?_ (Or.inl ⟨hd, fun _ => ⟨by simp [handleescapedchar], L[i], hp', hn'⟩⟩)
            · show a + (st.tokenword ++ ['\\']).length < L.length
              rw [List.length_append]; simp only [List.length_cons, List.length_nil]; omega
            · show wordPathV (st.tokenword ++ ['\\']) = true
              exact wp_ext hwp (wp_nonbreak (by decide))
          · exact plain_tt hnl st '\\' hc hw0 hpf (by decide)
      · refine keep_bind (v_shellquote c0) (fun b hb => ?_)
        subst hb
        refine HT.ite (fun hq => ?_) (fun hq => ?_)
        · -- a quote
          have hcn : c0 ≠ '\n' := quote_ne_nl hq
          obtain ⟨d1, d2, d3⟩ := hhand.del_some hnl hcn
          refine HT.bind (handleshellquote_tt hS hnl st c0 hq d1 d2 d3 hpf hwp) (fun st' => ?_)
          refine HT.pre_exists (fun j => HT.pre_pure (fun hj => ?_))
          obtain ⟨j1, j2, j3, j4, res, j5, j6⟩ := hj
          rw [rwBreak_true]
          exact rwTail_of_go st' j1 j2 j3 j4 j5 j6
        · refine keep_bind (v_shellexp c0) (fun b hb => ?_)
          subst hb
          refine HT.ite (fun hx => ?_) (fun hx => ?_)
          · -- `$`, `<`, `>`
            have hcn : c0 ≠ '\n' := by rintro rfl; revert hx; decide
            obtain ⟨d1, d2, d3⟩ := hhand.del_some hnl hcn
            refine HT.bind (handleshellexp_tt hS hnl st c0 cd hx d1 d2 d3 hpf hwp) (fun x => ?_)
            obtain ⟨st', r⟩ := x
            refine HT.pre_or ?_ ?_
            · refine HT.pre_pure (fun hr => ?_)
              simp only [] at hr
              subst hr
              refine HT.pre_exists (fun j => HT.pre_pure (fun hj => ?_))
              obtain ⟨j1, j2, j3, j4, res, j5, j6⟩ := hj
              show HT _ (rwBreak st' c0 (!false)) _ _
              rw [Bool.not_false, rwBreak_true]
              exact rwTail_of_go st' j1 j2 j3 j4 j5 j6
            · refine HT.pre_pure (fun hr => ?_)
              simp only [] at hr
              subst hr
              refine HT.pre_pure (fun hst => ?_)
              simp only [] at hst
              refine HT.pre_exists (fun j1 => HT.pre_pure (fun hj => ?_))
              obtain ⟨hg, hne, _⟩ := hj
              show HT _ (rwBreak st' c0 (!true)) _ _
              rw [Bool.not_true, hst]
              exact expBack_tt hnl st c0 hc hw0 hpf hx hg hne
          · exact plain_tt hnl st c0 hc hw0 hpf (by simpa using hx)

/-- the loop of `_readtokenword` -/
theorem rtwLoop_tt (hS : ScanHyp) (hnl : NL L) (fuel : Nat) (st : RWState) :
    HT (RWI L a st) (M.loop "_readtokenword" readtokenwordStep fuel st) (ExitQ L a) ET := by
  refine HT.loop (I := RWI L a) True.intro (fun s => ?_) fuel st
  refine HT.pre_exists (fun i => HT.pre_pure (fun hw => ?_))
  refine HT.post (step_tt hS hnl s hw) ?_
  intro r l e h
  cases r with
  | inl s' => exact h
  | inr s' => exact h

end

end Bashlex.C04.TTP
