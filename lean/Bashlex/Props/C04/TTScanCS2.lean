/-
  C04, token text (layer D): `_parse_comsub`, one iteration (continued): `csC`, `csD`,
  `csPre`, `csPost`.
-/
import Bashlex.Props.C04.TTScanCS

namespace Bashlex.C04.TTP
open Bashlex Bashlex.M Bashlex.C10 Bashlex.C11 Bashlex.C03.Tok Bashlex.C04
set_option linter.unusedSimpArgs false
set_option linter.unusedVariables false

section
variable {L : Str} {ps : List Nat}

theorem ite_bind_ht {α β : Type} {I : Local → Env → Prop} {Q : β → Local → Env → Prop}
    {c : Prop} [Decidable c] {a b : M α} {k : α → M β}
    (ha : c → HT I (a >>= k) Q ET) (hb : ¬ c → HT I (b >>= k) Q ET) :
    HT I ((if c then a else b) >>= k) Q ET := by
  split
  · exact ha ‹_›
  · exact hb ‹_›

theorem pure_bind_ht {α β : Type} {I : Local → Env → Prop} {Q : β → Local → Env → Prop}
    {a : α} {k : α → M β} (h : HT I (k a) Q ET) : HT I ((Pure.pure a : M α) >>= k) Q ET := by
  have : ((Pure.pure a : M α) >>= k) = k a := by simp
  rw [this]; exact h

macro "c_step" : tactic => `(tactic| first
  | exact foreign_bind_ht
  | with_reducible refine ite_bind_ht (fun _ => ?_) (fun _ => ?_)
  | with_reducible refine pure_bind_ht ?_
  | t_step)

/-! ## `csC` -/

/-- the head of `csC` (no tape access): a lower-case letter of a reserved word is appended, or the
    tail is entered with `ret` and `count` unchanged -/
theorem csChead_walk {Q : Step CSState → Local → Env → Prop} (P : CSParams) (b : Bool)
    (st : CSState) (c : Char) {k : Nat}
    (hcont : ∀ s', s'.ret = st.ret ++ [c] → s'.count = st.count →
      HT (Tp L ps k) (pure (Step.cont s') : M (Step CSState)) Q ET)
    (htail : ∀ s', s'.ret = st.ret → s'.count = st.count → HT (Tp L ps k) (csCtail P b s' c) Q ET) :
    HT (Tp L ps k) (csChead P b st c) Q ET := by
  unfold csChead
  simp only []
  repeat' (first
    | with_reducible exact hcont _ rfl rfl
    | with_reducible exact htail _ rfl rfl
    | with_reducible exact foreign_bind_ht
    | jp_step
    | with_reducible refine HT.ite (fun _ => ?_) (fun _ => ?_)
    | with_reducible use_hyp
    | with_reducible refine keep_bind (k_shellbreak _) (fun _ _ => ?_)
    | split_head)

/-- the tail of `csC`: `<<`, `<<-`, `<<<` (two look-aheads), comments -/
theorem csCtail_tt (hnl : NL L) (P : CSParams) (b : Bool) (st : CSState) (c : Char) {i k : Nat}
    (hP : Pend L i k st.ret c) (hlt : c ≠ '\n' → k < L.length) (hik : i ≤ k) :
    HT (Tp L ps k) (csCtail P b st c)
      (fun r l e => ∃ k', (i ≤ k' ∧ PQ L i st.count r k') ∧ Tp L ps k' l e) ET := by
  have hnext : ∀ s', s'.ret = st.ret → s'.count = st.count →
      HT (Tp L ps k) (pure (Step.next s' c) : M (Step CSState))
        (fun r l e => ∃ k', (i ≤ k' ∧ PQ L i st.count r k') ∧ Tp L ps k' l e) ET := by
    intro s' h1 h2
    refine HT.pure (fun l e h => ⟨k, ⟨hik, ?_, h2, hlt⟩, h⟩)
    show Pend L i k s'.ret c
    rw [h1]; exact hP
  unfold csCtail
  simp only []
  refine HT.ite (fun hlt' => ?_) (fun _ => ?_)
  · -- `<`
    have hc : c = '<' := by
      simp only [Bool.and_eq_true, beq_iff_eq] at hlt'
      exact hlt'.2
    subst hc
    have hsp : Sp L i k (st.ret ++ ['<']) := by
      rcases hP with h | h
      · exact h
      · exact absurd h.2 (by decide)
    refine getc_bind (fun peek0 j hg => ?_)
    cases peek0 with
    | none => simp only []; exact mpe_bind_ht _
    | some p =>
      simp only [pure_bind]
      have hkj : k < j := (hg.char p rfl).1
      have hA := sp_getc hsp hik hg
      refine HT.ite (fun hpc => ?_) (fun hpc => ?_)
      · -- `<<`
        have hp : p = '<' := by simpa using hpc
        subst hp
        have hsp2 : Sp L i j (st.ret ++ ['<'] ++ ['<']) := by
          rcases hA with h | h
          · exact h
          · exact absurd h.2 (by decide)
        have hj : j < L.length := lt_of_some hnl hg (by decide)
        refine getc_bind (fun peek20 j2 hg2 => ?_)
        cases peek20 with
        | none => simp only []; exact mpe_bind_ht _
        | some q =>
          simp only [pure_bind]
          have hjj : j < j2 := (hg2.char q rfl).1
          refine HT.ite (fun hq => ?_) (fun hq => ?_)
          · -- `<<-`
            have hM : Mid L i j2 (st.ret ++ ['<'] ++ ['<'] ++ [q]) :=
              (sp_getc hsp2 (by omega) hg2).elim Or.inl (fun h => Or.inr h.1)
            refine HT.ite (fun _ => ?_) (fun _ => ?_) <;>
              exact HT.pure (fun l e h => ⟨j2, ⟨by omega, hM, rfl⟩, h⟩)
          · obtain ⟨a1, a2, a3, a4⟩ := sp_back hsp2 (by omega) hj hg2
            refine ungetc_bind a2 ?_
            refine HT.ite (fun _ => ?_) (fun _ => ?_) <;>
              exact HT.pure (fun l e h => ⟨j2 - 1, ⟨by omega, Or.inl a1, rfl⟩, h⟩)
      · refine HT.pure (fun l e h => ⟨j, ⟨by omega, ?_, rfl, fun hp => lt_of_some hnl hg hp⟩, h⟩)
        exact hA
  · repeat' (first | exact hnext _ rfl rfl | c_step)

/-- **`csC`** -/
theorem csC_tt (hnl : NL L) (P : CSParams) (b : Bool) (st : CSState) (c : Char) {i k : Nat}
    (hP : Pend L i k st.ret c) (hlt : c ≠ '\n' → k < L.length) (hik : i ≤ k) :
    HT (Tp L ps k) (csC P b st c)
      (fun r l e => ∃ k', (i ≤ k' ∧ PQ L i st.count r k') ∧ Tp L ps k' l e) ET := by
  rw [csC_eq]
  refine csChead_walk P b st c ?_ ?_
  · intro s' h1 h2
    refine HT.pure (fun l e h => ⟨k, ⟨hik, ?_, h2⟩, h⟩)
    show Mid L i k s'.ret
    rw [h1]; exact hP.mid
  · intro s' h1 h2
    have := csCtail_tt (ps := ps) hnl P b s' c (i := i) (k := k) (by rw [h1]; exact hP) hlt hik
    rw [h2] at this
    exact this

/-! ## `csD` -/

/-! ## `csPre` -/

/-- result of the first half of an iteration, at cursor `k` -/
def PreQ (L : Str) (i : Nat) (r : Step CSState) (k : Nat) : Prop :=
  match r with
  | .cont s => Mid L i k s.ret ∧ s.count ≠ 0
  | .done ret => Sp L i k ret ∧ k < L.length
  | .next s c => (Sp L i k s.ret ∨ (Dm L k ∧ c = '\n')) ∧ s.count ≠ 0 ∧ (c ≠ '\n' → k < L.length)

/-- **`csPre`** -/
theorem csPre_tt (hnl : NL L) (P : CSParams) (hP : CSGood P) (b : Bool) (st : CSState) {i k : Nat}
    (hM : Mid L i k st.ret) (hcnt : st.count ≠ 0) (hik : i ≤ k) (hiL : i < L.length) :
    HT (Tp L ps k) (csPre P b st)
      (fun r l e => ∃ k', (i ≤ k' ∧ PreQ L i r k') ∧ Tp L ps k' l e) ET := by
  unfold csPre
  refine HT.bind (csA_tt hnl P st hM hik) (fun r1 => ?_)
  refine HT.pre_exists (fun k1 => HT.pre_pure (fun h1 => ?_))
  obtain ⟨hk1, hq1⟩ := h1
  cases r1 with
  | cont s => exact HT.pure (fun l e h => ⟨k1, ⟨by omega, hq1.1, by rw [hq1.2]; exact hcnt⟩, h⟩)
  | done r => exact hq1.elim
  | next s1 c1 =>
    simp only []
    obtain ⟨p1, p2, p3⟩ := hq1
    refine HT.bind (csB_tt hnl b s1 c1 p1 p3 (by omega) hiL) (fun r2 => ?_)
    refine HT.pre_exists (fun k2 => HT.pre_pure (fun h2 => ?_))
    obtain ⟨hk2, hq2⟩ := h2
    rw [p2] at hq2
    cases r2 with
    | cont s => exact HT.pure (fun l e h => ⟨k2, ⟨hk2, hq2.1, by rw [hq2.2]; exact hcnt⟩, h⟩)
    | done r => exact hq2.elim
    | next s2 c2 =>
      simp only []
      obtain ⟨q1, q2, q3⟩ := hq2
      refine HT.bind (csC_tt hnl P b s2 c2 q1 q3 hk2) (fun r3 => ?_)
      refine HT.pre_exists (fun k3 => HT.pre_pure (fun h3 => ?_))
      obtain ⟨hk3, hq3⟩ := h3
      rw [q2] at hq3
      cases r3 with
      | cont s => exact HT.pure (fun l e h => ⟨k3, ⟨hk3, hq3.1, by rw [hq3.2]; exact hcnt⟩, h⟩)
      | done r => exact hq3.elim
      | next s3 c3 =>
        simp only []
        obtain ⟨t1, t2, t3⟩ := hq3
        rw [csD_pure]
        refine HT.pure (fun l e h => ⟨k3, ⟨hk3, ?_⟩, h⟩)
        have hr := csDStep_R P s3 c3
        generalize csDStep P s3 c3 = r at hr
        cases r with
        | cont s => exact hr.elim
        | done ret =>
          obtain ⟨e1, e2⟩ := hr
          have hc : c3 = P.close := e2 (by rw [t2]; exact hcnt)
          have hcn : c3 ≠ '\n' := by rw [hc]; exact hP.1
          refine ⟨?_, t3 hcn⟩
          rw [e1]
          rcases t1 with h | h
          · exact h
          · exact absurd h.2 hcn
        | next s c' =>
          obtain ⟨rfl, e1, e2⟩ := hr
          refine ⟨?_, e2, t3⟩
          rw [e1]; exact t1

/-! ## `csPost` -/

/-- **`csPost`** -/
theorem csPost_tt {pmp : MPParams → M Str} {pcs : CSParams → M Str} (ih : ScanIH L ps pmp pcs)
    (P : CSParams) (st : CSState) (c : Char) {k : Nat} (hlt : c ≠ '\n' → k < L.length) :
    HT (Tp L ps k) (csPost pmp pcs P st c)
      (fun s' l e => ∃ k'', PostR L k c st.ret st.count s'.ret s'.count k'' ∧ Tp L ps k'' l e)
      ET := by
  unfold csPost
  simp only []
  have recq : ∀ (hc : c ≠ '\n') (f : Str → CSState), (∀ r, (f r).ret = st.ret ++ r) →
      ∀ r j, k ≤ j → j < L.length → Sp L k j r → ∀ l e, Tp L ps j l e →
        ∃ k'', PostR L k c st.ret st.count (f r).ret (f r).count k'' ∧ Tp L ps k'' l e := by
    intro hc f hf r j h1 h2 h3 l e h
    exact ⟨j, ⟨h1, Or.inr ⟨hc, h2, r, hf r, h3⟩⟩, h⟩
  refine keep_bind (v_shellquote c) (fun b hb => ?_)
  subst hb
  refine HT.ite (fun hq => ?_) (fun _ => ?_)
  · have hc := quote_ne_nl hq
    exact rec_leaf_pop (ih.pmp k _ (hlt hc) (mpgood (c := c) (o := c) rfl rfl hc hc))
      (recq hc _ (fun r => rfl))
  refine HT.ite (fun hd => ?_) (fun _ => ?_)
  · have hc : c ≠ '\n' := by
      simp only [Bool.and_eq_true] at hd
      exact dolOpen_ne_nl hd.2
    have hk := hlt hc
    refine HT.ite (fun _ => ?_) (fun _ => ?_)
    · refine HT.ite (fun _ => ?_) (fun _ => ?_)
      · exact rec_leaf (ih.pcs k _ hk (csgood (c := ')') (o := '(') rfl rfl (by decide) (by decide)))
          (recq hc _ (fun r => rfl))
      refine HT.ite (fun _ => ?_) (fun _ => ?_)
      · exact rec_leaf (ih.pmp k _ hk (mpgood (c := '}') (o := '{') rfl rfl (by decide) (by decide)))
          (recq hc _ (fun r => rfl))
      · exact rec_leaf (ih.pmp k _ hk (mpgood (c := ']') (o := '[') rfl rfl (by decide) (by decide)))
          (recq hc _ (fun r => rfl))
    · refine HT.ite (fun _ => ?_) (fun _ => ?_)
      · exact rec_leaf (ih.pcs k _ hk (csgood (c := ')') (o := '(') rfl rfl (by decide) (by decide)))
          (recq hc _ (fun r => rfl))
      refine HT.ite (fun _ => ?_) (fun _ => ?_)
      · exact rec_leaf (ih.pmp k _ hk (mpgood (c := '}') (o := '{') rfl rfl (by decide) (by decide)))
          (recq hc _ (fun r => rfl))
      · exact rec_leaf (ih.pmp k _ hk (mpgood (c := ']') (o := '[') rfl rfl (by decide) (by decide)))
          (recq hc _ (fun r => rfl))
  · exact HT.pure (fun l e h => ⟨k, ⟨Nat.le_refl _, Or.inl ⟨rfl, rfl, rfl⟩⟩, h⟩)

end

end Bashlex.C04.TTP
