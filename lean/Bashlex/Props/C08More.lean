/-
  C08: more all-length rejection families, and the text-level form of `C08_accept_derivable`.
  Index by file:
  * C08/Balance.lean  -- `valid_weight`, `balance_ok` (kernel-decided on the grammar),
    `sentence_balanced`, **`C08_unclosed_never_accepted`**: every sentence has #`(` ≤ #`)`,
    #`{` = #`}`, #`if` = #`fi`, #`case` = #`esac`, #`do` = #`done`, #`[[` = #`]]`,
    #`if`+#`elif` = #`then`, #`while`+#`until` ≤ #`do`, #`case` ≤ #`in`; so a token stream that
    meets `$end` with an opener unclosed is never accepted (any token source, all lengths).
  * C08/Adjacent.lean -- FIRST/LAST/nullable certificates checked by the kernel (`cert_ok`),
    `valid_noBad`, **`C08_adjacent_never_accepted`**: no accepted stream holds two ADJACENT
    control operators of `badPairs` (`& ;`, `& &`, `; |`, `&& ;`, `| |` … 32 pairs), wherever
    they stand -- covers the pairs on which the engine reduces first.  `; ;`, `; &`, `; &&`,
    `; ||` are NOT in the list: the grammar derives them adjacent (FIRST/LAST computation), so
    their rejection in `a; ;` is context-dependent and not proved.
  * here -- `RunSentence.clean`, **`C08_parts_clean`**: every run that returned a part consumed a
    token stream that is balanced in every family of `balanceFamilies` and free of the adjacent
    pairs of `badPairs` (with `C08_accept_derivable`: this holds of every part `parse` returns).
  * Props/C08Text.lean -- `LogLink` (HYPOTHESIS), `RunText`, `PartsText`: what
    **`C08_accept_text_conditional`** is stated with; the unconditional
    form is `C08_accept_text_full` (same file).
  * C08/Text.lean -- `Trigger`, `unterminated_trigger`: the text-level chain, generic in what opens
    the unterminated construct.
  * C08/Brace.lean -- `plainScan_br`, `trigger_brace`, **`C08_unterminated_brace`**: `w${u` with `u`
    free of `} { \ $`, quotes and the `dolbrace` operator characters raises "… matching '}'".
  * C08/Arith.lean -- `plainScan_ar`, `run_parseComsub_paren`, `trigger_arith`,
    **`C08_unterminated_arith`**: `w$((u` with `u` free of `) \ $` and quotes (any number of `(`)
    raises "… matching ')'" (`_parse_comsub` hands `$((` over to `_parse_matched_pair`).
  Not proved: the general `$(…`
        (the reserved-word / here-document state machine of `_parse_comsub`: `csB` peeks the
        tape, `csC` compares the last word with `case`/`esac`/`do`; only `csA_eof` is proved);
        `a; ;` (context-dependent, see Adjacent.lean).
-/
import Bashlex.Props.C08.Adjacent
import Bashlex.Props.C08
import Bashlex.Props.C08.Balance
import Bashlex.Props.C08Text
import Bashlex.Props.C08.Text
import Bashlex.Props.C08.Brace
import Bashlex.Props.C08.Arith

namespace Bashlex.C08
open Bashlex Bashlex.M Bashlex.LR

theorem RunSentence.clean {s : Str} {o : Opts} {t t' : List Char} {n : Node}
    (h : RunSentence s o t n t') : ∃ m tr c b l' e',
      topRun s o t = (.ok (.accepted (.node m) tr c b, l'), e') ∧
      (∀ f ∈ balanceFamilies, wsum (famW f) c ≤ 0) ∧ NoBad badPairs c := by
  obtain ⟨m, tr, c, b, l', e', h1, _, _, h4, h5, pre, h6, h7⟩ := h
  have hs : Sentence c := ⟨tr, pre, h4, h5, h6, h7⟩
  exact ⟨m, tr, c, b, l', e', h1, fun f hf => sentence_balanced hs hf, sentence_noBad hs⟩

theorem tiling_clean {s : Str} {o : Opts} {i : Nat} {t : List Char} {ps : List Node}
    (ht : Tiling s o i t ps) : ∀ part ∈ ps, ∃ (i : Nat) (t : List Char) (n m : Node) (tr : Tree)
      (c : List Nat) (b : Bool) (l' : Local) (e' : Env),
      part = n.shift i ∧
      topRun (s.drop i) o t = (.ok (.accepted (.node m) tr c b, l'), e') ∧
      (∀ f ∈ balanceFamilies, wsum (famW f) c ≤ 0) ∧ NoBad badPairs c := by
  induction ht with
  | done _ => intro part hp; cases hp
  | stop _ => intro part hp; cases hp
  | @step i t t' n rest hrs _ ih =>
    intro part hp
    rcases List.mem_cons.mp hp with rfl | hp
    · obtain ⟨m, tr, c, b, l', e', h1, h2, h3⟩ := hrs.clean
      exact ⟨i, t, n, m, tr, c, b, l', e', rfl, h1, h2, h3⟩
    · exact ih part hp

/-- **C08_parts_clean**: for every part `parse` returns there is a run (over a suffix of the
    input) whose engine accepted a balanced, adjacency-free token stream and returned that part -/
theorem C08_parts_clean (s : Str) (o : Opts) (parts : List Node)
    (h : (parse s o).1 = .parts parts) : ∀ part ∈ parts, ∃ (i : Nat) (t : List Char) (n m : Node)
      (tr : Tree) (c : List Nat) (b : Bool) (l' : Local) (e' : Env),
      part = n.shift i ∧
      topRun (s.drop i) o t = (.ok (.accepted (.node m) tr c b, l'), e') ∧
      (∀ f ∈ balanceFamilies, wsum (famW f) c ≤ 0) ∧ NoBad badPairs c :=
  tiling_clean (C08_accept_derivable s o parts h)

end Bashlex.C08

#print axioms Bashlex.C08.balance_ok
#print axioms Bashlex.C08.sentence_balanced
#print axioms Bashlex.C08.C08_unclosed_never_accepted
#print axioms Bashlex.C08.cert_ok
#print axioms Bashlex.C08.valid_noBad
#print axioms Bashlex.C08.C08_adjacent_never_accepted
#print axioms Bashlex.C08.unterminated_trigger
#print axioms Bashlex.C08.C08_unterminated_brace
#print axioms Bashlex.C08.C08_unterminated_arith
#print axioms Bashlex.C08.C08_parts_clean
