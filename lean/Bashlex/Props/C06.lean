/-
  Property C06 at model level: "the value recorded for a word is the word's source text after
  shell quote removal".

  The statement is FALSE of bashlex in general: `_expandwordinternal` strips quotes without
  keeping a quote state (every `"` goes, every `'` goes unless the word starts with `"`, every
  backslash goes and protects the next character, a word that starts and ends with `'` is cut
  to `string[1:-1]`).  This file states exactly where that coincides with quote removal.

    C06/Strip.lean   `stripPure`: the expander's scan as a pure function;
                     `expandwordinternal_plain`: on words without expansion characters
                     `_expandwordinternal` *equals* `pure ([], stripPure …)` (or the IndexError
                     of a final escape character) — for every nested parser, state, environment
    C06/Plain.lean   `C06_plain`: `stripPure t = quoteRemove t` for balanced words without the
                     deviation features K1…K5 (of `Spec.quoteFeatures`), K8, K9 (new, below)
    C06/Word.lean    `expandword_plain_run`: `parser._expandword` on such tokens
    C06/Param.lean   `C06_param`: the same for words with `$name`, `$1`, `$?`, `${…}` (value; the
                     parts are only shown to be parameter nodes over quote-free text, enough to
                     make the specification's `verbatimOf` irrelevant)

  Exclusions, each decidable, each necessary (kernel-checked witnesses below; all witnesses were
  also run through the Python implementation, `subst._expandwordinternal`):
    K1  'a'b'c'      value a'b'c   quote removal abc      (starts and ends with ')
    K2  a'b\c'       value abc     quote removal ab\c     (\ or " inside '…')
    K3  "a"'b'       value a'b'    quote removal ab       (starts with ", later a ')
    K4  a"'"         value a       quote removal a'       (' inside "…", word not starting with ")
    K5  "\a"         value a       quote removal \a       (\ before an ordinary character in "…")
    K8  "a\<nl>b"    value a<nl>b  quote removal ab       (NEW: backslash-newline outside '…';
                     unreachable through the tokenizer, which deletes line continuations, and
                     covered by the context `+cont` of the executable spec)
    K9  a\           IndexError    quote removal a        (NEW: final unquoted backslash;
                     unreachable through the tokenizer, whose input always ends in a newline)
    QUOTED flag: a token whose value starts with " but whose flags lack QUOTED gets
                     qdoublequotes = False:  "a'b" ↦ ab instead of a'b
    K7′ (words with parameters; generalises K7, which `Spec.featGo` never sets — its
        `verbatimOpen` argument is unused and it scans *through* `${…}`): a quote character or
        backslash inside a `${…}` the expander copies.
        ${a'}'\b'${c'}  value ${a'}b${c'}  quote removal (braces verbatim) ${a'}\b${c'}, and
        `quoteFeatures` reports NO feature: the executable spec yields the untagged signature
        `value-mismatch` on  echo ${a'}'\b'${c'}  (confirmed on the Python implementation).
-/
import Bashlex.Props.C06.Param

namespace Bashlex.C06
open Bashlex Bashlex.Spec Bashlex.M

/-- all hypotheses of `C06_plain` on the source text of a word -/
def PlainOK (t : Str) : Bool :=
  noExp t && Balanced t && noK (quoteFeatures t) && !k8 t && !k9 t

theorem C06_plain' (t : Str) (h : PlainOK t = true) :
    stripPure t (t.head? == some '"') = some (quoteRemove (fun _ => false) t) := by
  simp only [PlainOK, Bool.and_eq_true, Bool.not_eq_true'] at h
  obtain ⟨⟨⟨⟨h1, h2⟩, h3⟩, h4⟩, h5⟩ := h
  exact C06_plain t h2 h3 h4 h5

/-- **C06_total**: `parser._expandword` on a token whose value satisfies `PlainOK` and whose
    QUOTED flag is consistent, in a parser whose expansion limit is not -1: returns — without
    exception, without running out of fuel, without touching the parser state or the environment
    — the word node whose value is the quote-removed source. -/
theorem C06_total (np : NestedParse) (tok : Token) (h : PlainOK tok.valueStr = true)
    (hq : QuotedOK tok) (l : Local) (e : Env) (hl : l.limit ≠ some (-1)) :
    (expandword np tok).run l e =
      (.ok (.word (tok.lexpos, tok.endlexpos) (quoteRemove (fun _ => false) tok.valueStr) [], l), e) := by
  have hn : noExp tok.valueStr = true := by
    simp only [PlainOK, Bool.and_eq_true] at h; exact h.1.1.1.1
  exact expandword_plain_run np tok _ hn hq (C06_plain' _ h) l e hl

/-- **C06_partial** (the `Sat` reading, with the precondition on the state spelled out) -/
theorem C06_partial (np : NestedParse) (tok : Token) (h : PlainOK tok.valueStr = true)
    (hq : QuotedOK tok) : ∀ l e, l.limit ≠ some (-1) →
      match (expandword np tok).run l e with
      | (.ok (n, _), _) => ∃ pos, n = .word pos (quoteRemove (fun _ => false) tok.valueStr) []
      | (.error _, _) => False := by
  intro l e hl
  rw [C06_total np tok h hq l e hl]
  exact ⟨_, rfl⟩

/-- for every state (limit -1 included: then the node carries the raw token value) -/
theorem C06_partial_sat (np : NestedParse) (tok : Token) (h : PlainOK tok.valueStr = true)
    (hq : QuotedOK tok) :
    Sat (expandword np tok) (fun n => ∃ pos,
      n = .word pos (quoteRemove (fun _ => false) tok.valueStr) [] ∨ n = .word pos tok.valueStr [])
      (fun _ => False) := by
  intro l e
  by_cases hl : l.limit = some (-1)
  · have : (expandword np tok).run l e =
        (.ok (.word (tok.lexpos, tok.endlexpos) tok.valueStr [], l), e) := by
      unfold expandword
      rw [run_get_bind]
      simp [hl]
      rfl
    rw [this]
    exact ⟨_, Or.inr rfl⟩
  · rw [C06_total np tok h hq l e hl]
    exact ⟨_, Or.inl rfl⟩

/-! ### non-vacuity: every exclusion is necessary, and the hypotheses are satisfiable -/

/-- the flags of `quoteFeatures` as a list K1…K7 -/
def feats (t : Str) : List Bool :=
  let f := quoteFeatures t; [f.k1, f.k2, f.k3, f.k4, f.k5, f.k6, f.k7]

/-- what the expander computes (with `qdoublequotes` as `_expandword` sets it) differs from
    quote removal, while `t` is balanced, has no expansion character, and its features are `fs`,
    `k8`, `k9` -/
def Deviates (t : Str) (fs : List Bool) (f8 f9 : Bool) : Bool :=
  noExp t && Balanced t && feats t == fs && k8 t == f8 && k9 t == f9 &&
  stripPure t (t.head? == some '"') != some (quoteRemove (fun _ => false) t)

-- K1 only:  'a'b'c'  ↦  a'b'c  ≠  abc
example : Deviates "'a'b'c'".toList [true, false, false, false, false, false, false] false false = true := by decide +kernel
-- K2 only:  a'b\c'  ↦  abc  ≠  ab\c
example : Deviates "a'b\\c'".toList [false, true, false, false, false, false, false] false false = true := by decide +kernel
-- K2 only:  a'"'  ↦  a  ≠  a"
example : Deviates "a'\"'".toList [false, true, false, false, false, false, false] false false = true := by decide +kernel
-- K3 only:  "a"'b'  ↦  a'b'  ≠  ab
example : Deviates "\"a\"'b'".toList [false, false, true, false, false, false, false] false false = true := by decide +kernel
-- K4 only:  a"'"  ↦  a  ≠  a'
example : Deviates "a\"'\"".toList [false, false, false, true, false, false, false] false false = true := by decide +kernel
-- K5 only:  "\a"  ↦  a  ≠  \a
example : Deviates "\"\\a\"".toList [false, false, false, false, true, false, false] false false = true := by decide +kernel
-- K8 only (NEW):  "a\<newline>b"  ↦  a<newline>b  ≠  ab      and unquoted  a\<newline>b
example : Deviates "\"a\\\nb\"".toList [false, false, false, false, false, false, false] true false = true := by decide +kernel
example : Deviates "a\\\nb".toList [false, false, false, false, false, false, false] true false = true := by decide +kernel
-- K9 only (NEW):  a\  ↦  IndexError,  quote removal gives a
example : Deviates "a\\".toList [false, false, false, false, false, false, false] false true = true := by decide +kernel
example : stripPure "a\\".toList false = none := by decide +kernel

-- the QUOTED hypothesis is necessary:  "a'b"  with qdoublequotes = False  ↦  ab  ≠  a'b
example : PlainOK "\"a'b\"".toList = true ∧
    stripPure "\"a'b\"".toList false ≠ some (quoteRemove (fun _ => false) "\"a'b\"".toList) := by decide +kernel

-- the hypotheses are satisfiable by non-trivial words
--   "a\"b 'c' \\"d\ e   ↦   a"b 'c' \d e
example : PlainOK "\"a\\\"b 'c' \\\\\"d\\ e".toList = true ∧
    quoteRemove (fun _ => false) "\"a\\\"b 'c' \\\\\"d\\ e".toList = "a\"b 'c' \\d e".toList := by decide +kernel
--   x'a b'"c\"d"\'e   ↦   xa bc"d'e
example : PlainOK "x'a b'\"c\\\"d\"\\'e".toList = true ∧
    quoteRemove (fun _ => false) "x'a b'\"c\\\"d\"\\'e".toList = "xa bc\"d'e".toList := by decide +kernel
--   'a "b" \c'   ↦   a "b" \c      (wholly single-quoted: K2 does not apply)
example : PlainOK "'a \"b\" \\c'".toList = true ∧
    quoteRemove (fun _ => false) "'a \"b\" \\c'".toList = "a \"b\" \\c".toList := by decide +kernel


/-! ### words with parameters -/

/-- **C06_param_spec**: link to the executable specification.  When the text of the source `s`
    under the token's span is the token's value (no line continuation inside the word), the
    clause `Spec.wordViol` of property C06 holds of the node `_expandword` returns (or, expansion
    limit -1, the node carries the raw token value and never reaches a tree). -/
theorem C06_param_spec (np : NestedParse) (tok : Token) (h : ParamOK tok.valueStr = true)
    (hq : QuotedOK tok) (s : Str) (ctx : String)
    (hs : Str.slice s tok.lexpos tok.endlexpos = tok.valueStr) :
    Sat (expandword np tok) (fun n =>
      wordViol s ctx n = [] ∨ n = .word (tok.lexpos, tok.endlexpos) tok.valueStr []) := by
  refine Sat.weaken (C06_param np tok h hq) ?_ (fun _ h => h)
  rintro n ⟨v, parts, rfl, ⟨_, hv⟩ | ⟨rfl, rfl⟩⟩
  · left
    simp only [wordViol, hs]
    rw [← hv s]
    simp
  · right; rfl

--   a"$foo"${x:-y}'$1 z'\$q$   ↦   a$foo${x:-y}$1 z$q$
example : ParamOK "a\"$foo\"${x:-y}'$1 z'\\$q$".toList = true ∧
    quoteRemove (fun _ => false) "a\"$foo\"${x:-y}'$1 z'\\$q$".toList =
      "a$foo${x:-y}$1 z$q$".toList := by decide +kernel
--   "${HOME}/$1"   ↦   ${HOME}/$1
example : ParamOK "\"${HOME}/$1\"".toList = true ∧
    quoteRemove (fun _ => false) "\"${HOME}/$1\"".toList = "${HOME}/$1".toList := by decide +kernel

-- K7′ is necessary, even against quote removal with the braces verbatim, and K1…K7 do not see it:
--   ${a'}'\b'${c'}   ↦   ${a'}b${c'}   ≠   ${a'}\b${c'}
example :
    let t := "${a'}'\\b'${c'}".toList
    (alphaOK t && Balanced t && feats t == [false, false, false, false, false, false, false] &&
     !k8 t && !k9 t && k7x t &&
     stripX t false != some (quoteRemove
       (verbatimOf 0 t [.parameter (0, 5) "a'".toList, .parameter (9, 14) "c'".toList]) t)) = true := by
  decide +kernel
-- … and against plain quote removal:   ${a'}'}   ↦   ${a'}}   ≠   ${a}}
example :
    let t := "${a'}'}".toList
    (alphaOK t && Balanced t && feats t == [false, false, false, false, false, false, false] &&
     !k8 t && !k9 t && k7x t &&
     stripX t false != some (quoteRemove (fun _ => false) t)) = true := by
  decide +kernel

end Bashlex.C06

#print axioms Bashlex.C06.expandwordinternal_plain
#print axioms Bashlex.C06.C06_plain
#print axioms Bashlex.C06.C06_total
#print axioms Bashlex.C06.C06_partial
#print axioms Bashlex.C06.C06_partial_sat
#print axioms Bashlex.C06.contGo_hasContinuation
#print axioms Bashlex.C06.sat_expandwordinternal_param
#print axioms Bashlex.C06.C06_param
#print axioms Bashlex.C06.C06_param_spec
