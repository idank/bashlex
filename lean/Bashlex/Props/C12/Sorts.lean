/-
  C12: sorts of semantic values, the abstract type-checker `absAction` for the semantic actions,
  and the definition of the grammar obligation (`grammarCheck`, `accSort`); it is decided by the
  kernel on the generated tables in `Grammar.lean`.
-/
import Bashlex.Props.C12.Tree
import Bashlex.LR.Exact

namespace Bashlex.C12
open Bashlex Bashlex.Spec Bashlex.Node

/-! ## tokens -/

/-- token types whose tokens carry a non-empty string value (everything but words, numbers, EOF) -/
def resOK (ty : TokType) : Bool :=
  !(ty == .WORD || ty == .ASSIGNMENT_WORD || ty == .NUMBER || ty == .EOF)

/-- the facts relating a token's type and value that the schema needs -/
def valOK (ty : TokType) (v : TVal) : Prop :=
  (resOK ty = true → ∃ s, v = .str s ∧ s ≠ [] ∧ ∀ s', ty.strValueChars = some s' → s' = s) ∧
  (ty = .NUMBER → ∃ k, v = .int k)

def TokWF (t : Token) : Prop := ∀ ty, t.ttype = some ty → valOK ty t.value

def opIn (ops : List Str) (ty : TokType) : Bool :=
  match ty.strValueChars with
  | some s => ops.contains s
  | none => false

def isListOp (ty : TokType) : Bool := opIn listOps ty
def isPipeOp (ty : TokType) : Bool := opIn pipeOps ty
def isRedirOp (ty : TokType) : Bool := opIn redirOps ty
def isHereOp (ty : TokType) : Bool := ty == .LESS_LESS || ty == .LESS_LESS_MINUS

/-! ## classes of nodes -/

inductive NCls where
  | top        -- command-like or a list (what a parser returns; `compound_list`)
  | pc         -- `pipeline_command`: a command or a pipeline node
  | cmd        -- `command`: command-like, not a pipeline
  | compound | unimpl | func | redirect
  | semiOp     -- the operator node `;` of `list_terminator`
  deriving DecidableEq, Repr

def NCls.le : NCls → NCls → Bool
  | c, .top => !(c == .redirect || c == .semiOp)
  | c, .pc => c == .pc || c == .cmd || c == .compound || c == .unimpl || c == .func
  | c, .cmd => c == .cmd || c == .compound || c == .unimpl || c == .func
  | c, d => c == d

inductive LCls where
  | words | cmdparts | redirects | ifparts | caseparts | patparts | altOp | altPipe
  deriving DecidableEq, Repr

inductive Srt where
  | none
  | tok (ty : Option TokType)
  | node (c : NCls)
  | optNode (c : NCls)
  | nodes (k : LCls)
  deriving DecidableEq, Repr

def isWordN : Node → Bool | .word .. => true | _ => false
def isCmdPart : Node → Bool | .word .. | .assignment .. | .redirect .. => true | _ => false
def isRedirect : Node → Bool | .redirect .. => true | _ => false
def isResWord : Node → Bool | .reservedword .. => true | _ => false
def isListN : Node → Bool | .list .. => true | _ => false
def isUnimpl : Node → Bool | .unimplemented .. => true | _ => false
def isFunction : Node → Bool | .function .. => true | _ => false
def isPipeline : Node → Bool | .pipeline .. => true | _ => false
def isBarWord : Node → Bool | .reservedword _ w => w == ['|'] | _ => false

/-- the shapes of the parts of a pipeline node bashlex builds: a proper alternation, or a `!`
    followed by nothing / a `;` operator / an alternation / another `!`… -/
def BangTail (r : List Node) : Prop :=
  r = [] ∨ (∃ p, r = [.operator p [';']]) ∨ alternates isPipe false r = true ∨
  (∃ b r', r = b :: r' ∧ isBang b = true)

def PipeBody (l : List Node) : Prop :=
  (alternates isPipe false l = true ∧ 3 ≤ l.length) ∨
  (∃ b r, l = b :: r ∧ isBang b = true ∧ BangTail r)

/-- command-like, not a pipeline -/
def CmdNP (n : Node) : Prop := isCommandLike n = true ∧ isPipeline n = false

def InCls : NCls → Node → Prop
  | .top, n => TreeOK n ∧ (isCommandLike n = true ∨ isListN n = true)
  | .pc, n => TreeOK n ∧ (CmdNP n ∨ ∃ p parts, n = .pipeline p parts ∧ PipeBody parts)
  | .cmd, n => TreeOK n ∧ CmdNP n
  | .compound, n => TreeOK n ∧ isCompound n = true
  | .unimpl, n => TreeOK n ∧ isUnimpl n = true
  | .func, n => TreeOK n ∧ isFunction n = true
  | .redirect, n => TreeOK n ∧ isRedirect n = true
  | .semiOp, n => ∃ p, n = .operator p [';']

/-- `x (sep x)*` -/
inductive Alt (X S : Node → Prop) : List Node → Prop
  | single {a} : X a → Alt X S [a]
  | cons {a b rest} : X a → S b → Alt X S rest → Alt X S (a :: b :: rest)

def IfPart (n : Node) : Prop :=
  TreeOK n ∧ (isResWord n = true ∨ isCommandLike n = true ∨ isListN n = true)

def InL : LCls → List Node → Prop
  | .words, l => ∀ n, n ∈ l → TreeOK n ∧ isWordN n = true
  | .cmdparts, l => l ≠ [] ∧ ∀ n, n ∈ l → TreeOK n ∧ isCmdPart n = true
  | .redirects, l => ∀ n, n ∈ l → TreeOK n ∧ isRedirect n = true
  | .ifparts, l => ∀ n, n ∈ l → IfPart n
  | .caseparts, l => ∀ n, n ∈ l → TreeOK n ∧ (isResWord n = true ∨ isCompound n = true)
  | .patparts, l => ∀ n, n ∈ l → TreeOK n ∧ (isWordN n = true ∨ isBarWord n = true)
  | .altOp, l => Alt (InCls .pc) (fun n => TreeOK n ∧ isOperator n = true) l
  | .altPipe, l => Alt (InCls .cmd) (fun n => TreeOK n ∧ isPipe n = true) l

def HasSort : Srt → SVal → Prop
  | .none, v => v = .none
  | .tok ty, v => ∃ t, v = .tok t ∧ t.ttype = ty ∧ TokWF t
  | .node c, v => ∃ n, v = .node n ∧ InCls c n
  | .optNode c, v => v = .none ∨ ∃ n, v = .node n ∧ InCls c n
  | .nodes k, v => ∃ l, v = .nodes l ∧ InL k l

/-! ## sorts of grammar symbols (by name) -/

def sortOfNT (name : String) : Srt :=
  match name with
  | "S'" => .optNode .top
  | "inputunit" => .optNode .top
  | "word_list" => .nodes .words
  | "redirection" => .node .redirect
  | "simple_command_element" => .nodes .cmdparts
  | "redirection_list" => .nodes .redirects
  | "simple_command" => .nodes .cmdparts
  | "command" => .node .cmd
  | "shell_command" => .node .compound
  | "for_command" => .node .compound
  | "arith_for_command" => .node .unimpl
  | "select_command" => .node .unimpl
  | "case_command" => .node .compound
  | "function_def" => .node .func
  | "function_body" => .node .compound
  | "subshell" => .node .compound
  | "coproc" => .node .unimpl
  | "if_command" => .node .compound
  | "group_command" => .node .compound
  | "arith_command" => .node .unimpl
  | "cond_command" => .node .unimpl
  | "elif_clause" => .nodes .ifparts
  | "case_clause" => .nodes .caseparts
  | "pattern_list" => .node .compound
  | "case_clause_sequence" => .nodes .caseparts
  | "pattern" => .nodes .patparts
  | "list" => .node .top
  | "compound_list" => .node .top
  | "list0" => .node .top
  | "list1" => .nodes .altOp
  | "simple_list_terminator" => .none
  | "list_terminator" => .optNode .semiOp
  | "newline_list" => .none
  | "simple_list" => .node .top
  | "simple_list1" => .nodes .altOp
  | "pipeline_command" => .node .pc
  | "pipeline" => .nodes .altPipe
  | "timespec" => .node .unimpl
  | "empty" => .none
  | _ => .none

def tokTypeOfName (name : String) : Option TokType :=
  TokType.all.find? (fun t => t.yaccName == name)

def sortOfSymbol (sym : Nat) : Srt :=
  if sym < Gen.termNames.length then .tok (tokTypeOfName (Gen.termNames.getD sym ""))
  else sortOfNT (Gen.ntNames.getD (sym - Gen.termNames.length) "")

/-! ## the abstract type-checker -/

def okTok (f : TokType → Bool) : Srt → Bool
  | .tok (some ty) => f ty
  | _ => false

def isNodeLe (d : NCls) : Srt → Bool
  | .node c => c.le d
  | _ => false

/-- a token that `_makeparts` turns into a word or a non-empty reserved word -/
def partTok (ty : TokType) : Bool := resOK ty || ty == .WORD

def ifPartSort : Srt → Bool
  | .none => true
  | .tok (some ty) => resOK ty
  | .node c => c.le .top
  | .nodes .ifparts => true
  | _ => false

def forPartSort : Srt → Bool
  | .none => true
  | .tok (some ty) => partTok ty
  | .node c => c.le .top
  | .nodes .words => true
  | .optNode .semiOp => true
  | _ => false

def casePartSort : Srt → Bool
  | .none => true
  | .tok (some ty) => partTok ty
  | .nodes .caseparts => true
  | _ => false

def funcPartSort : Srt → Bool
  | .none => true
  | .tok (some ty) => partTok ty
  | _ => false

def anyPartSort : Srt → Bool
  | .tok none => false
  | .tok (some ty) => partTok ty
  | _ => true

def absJoin (k : LCls) (elem : NCls) (sep : TokType → Bool) : List Srt → Option Srt
  | [.node c] => if c.le elem then some (.nodes k) else none
  | .nodes k1 :: .tok (some ty) :: rest =>
    if k1 == k && sep ty && rest.getLast? == some (.nodes k) then some (.nodes k) else none
  | _ => none

def absRedirIn (s : Srt) : Bool := okTok (fun ty => ty == .NUMBER || ty == .REDIR_WORD) s

def absUnimpl (sorts : List Srt) : Option Srt :=
  if sorts.all anyPartSort then some (.node .unimpl) else none

def bodyOK (s : Srt) : Bool := s == .none || isNodeLe .top s

def absGroup : List Srt → Option Srt
  | [l, .node c, r] => if okTok resOK l && c.le .top && okTok resOK r then some (.node .compound) else none
  | _ => none

def absAction (fname : String) (sorts : List Srt) : Option Srt :=
  match fname with
  | "p_inputunit" =>
    match sorts.head? with
    | some (.node c) | some (.optNode c) => if c.le .top then some (.optNode .top) else none
    | _ => some (.optNode .top)
  | "p_word_list" =>
    match sorts with
    | [.tok _] => some (.nodes .words)
    | [.nodes .words, .tok _] => some (.nodes .words)
    | _ => none
  | "p_redirection_heredoc" =>
    match sorts with
    | [op, .tok _] => if okTok isHereOp op then some (.node .redirect) else none
    | [i, op, .tok _] => if absRedirIn i && okTok isHereOp op then some (.node .redirect) else none
    | _ => none
  | "p_redirection" =>
    let outOK := okTok (fun ty => ty == .WORD || ty == .NUMBER || ty == .DASH)
    match sorts with
    | [op, o] => if okTok isRedirOp op && outOK o then some (.node .redirect) else none
    | [i, op, o] =>
      if absRedirIn i && okTok isRedirOp op && outOK o then some (.node .redirect) else none
    | _ => none
  | "p_simple_command_element" =>
    match sorts with
    | [.node .redirect] => some (.nodes .cmdparts)
    | [.tok _] => some (.nodes .cmdparts)
    | _ => none
  | "p_redirection_list" =>
    match sorts with
    | [.node .redirect] => some (.nodes .redirects)
    | [.nodes .redirects, .node .redirect] => some (.nodes .redirects)
    | _ => none
  | "p_simple_command" =>
    match sorts with
    | [.nodes .cmdparts] => some (.nodes .cmdparts)
    | [.nodes .cmdparts, .nodes .cmdparts] => some (.nodes .cmdparts)
    | _ => none
  | "p_command" =>
    match sorts with
    | [.node c] => if c.le .cmd then some (.node .cmd) else none
    | [.node _, .nodes .redirects] => some (.node .cmd)
    | [.nodes .cmdparts] => some (.node .cmd)
    | _ => none
  | "p_shell_command" =>
    match sorts with
    | [.node _] => some (.node .compound)
    | _ => if sorts.length != 1 && sorts.all ifPartSort then some (.node .compound) else none
  | "p_for_command" =>
    if sorts.all forPartSort && (sorts.filter (· == .optNode .semiOp)).length ≤ 1 then
      some (.node .compound) else none
  | "p_arith_for_command" => absUnimpl sorts
  | "p_select_command" => absUnimpl sorts
  | "p_case_command" => if sorts.all casePartSort then some (.node .compound) else none
  | "p_function_def" =>
    if sorts.dropLast.all funcPartSort && sorts.getLast? == some (.node .compound) &&
        sorts.contains (.tok (some .WORD)) then some (.node .func) else none
  | "p_function_body" =>
    match sorts with
    | [.node _] => some (.node .compound)
    | [.node _, .nodes .redirects] => some (.node .compound)
    | _ => none
  | "p_subshell" => absGroup sorts
  | "p_group_command" => absGroup sorts
  | "p_coproc" => absUnimpl sorts
  | "p_if_command" => if sorts.all ifPartSort then some (.node .compound) else none
  | "p_arith_command" => absUnimpl sorts
  | "p_cond_command" => absUnimpl sorts
  | "p_elif_clause" => if sorts.all ifPartSort then some (.nodes .ifparts) else none
  | "p_case_clause" =>
    match sorts with
    | [.node .compound] => some (.nodes .caseparts)
    | [.nodes .caseparts, .node .compound] => some (.nodes .caseparts)
    | _ => none
  | "p_pattern_list" =>
    match sorts with
    | [_, .nodes .patparts, r, b] => if okTok resOK r && bodyOK b then some (.node .compound) else none
    | [_, l, .nodes .patparts, r, b] =>
      if okTok resOK l && okTok resOK r && bodyOK b then some (.node .compound) else none
    | _ => none
  | "p_case_clause_sequence" =>
    match sorts with
    | [.node .compound, s] => if okTok resOK s then some (.nodes .caseparts) else none
    | [.nodes .caseparts, .node .compound, s] => if okTok resOK s then some (.nodes .caseparts) else none
    | _ => none
  | "p_pattern" =>
    match sorts with
    | [.tok _] => some (.nodes .patparts)
    | [.nodes .patparts, .tok (some .BAR), .tok _] => some (.nodes .patparts)
    | _ => none
  | "p_list" =>
    match sorts with
    | [_, .node .top] => some (.node .top)
    | _ => none
  | "p_compound_list" =>
    match sorts with
    | [.node .top] => some (.node .top)
    | [_, .nodes .altOp] => some (.node .top)
    | _ => none
  | "p_list0" =>
    match sorts with
    | .nodes .altOp :: .tok (some ty) :: _ => if isListOp ty then some (.node .top) else none
    | _ => none
  | "p_list1" => absJoin .altOp .pc isListOp sorts
  | "p_simple_list_terminator" => some .none
  | "p_list_terminator" => some (.optNode .semiOp)
  | "p_newline_list" => some .none
  | "p_simple_list" =>
    match sorts with
    | [.nodes .altOp] => some (.node .top)
    | [.nodes .altOp, .tok (some ty)] => if isListOp ty then some (.node .top) else none
    | _ => none
  | "p_simple_list1" => absJoin .altOp .pc isListOp sorts
  | "p_pipeline_command" =>
    match sorts with
    | [.nodes .altPipe] => some (.node .pc)
    | [_, .node .pc] => some (.node .pc)
    | [_, .optNode .semiOp] => some (.node .pc)
    | _ => none
  | "p_pipeline" => absJoin .altPipe .cmd isPipeOp sorts
  | "p_timespec" => absUnimpl sorts
  | "p_empty" => some .none
  | _ => none

/-! ## the grammar obligation -/

/-- every production's action, applied to values of the sorts of its right-hand side, yields a
    value of the sort of its left-hand side (production 0, the augmented start, has no action) -/
def grammarCheck : Bool :=
  (List.zip Gen.prodFuncs Gen.prodTable).all fun (f, (lhs, rhs)) =>
    f == "" || absAction f (rhs.map sortOfSymbol) == some (sortOfSymbol lhs)

/-- symbols at which the parser may accept -/
def accSort (σ : Srt) : Bool := σ == .optNode .top || σ == .node .top

end Bashlex.C12
