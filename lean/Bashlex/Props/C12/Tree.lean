/-
  C12: the target predicate on trees (`TreeOK`: every schema violation of every node is
  a known one), its characterisation by children, and its invariance under the span-only tree
  transformations of the model (`mapPos`/`shift`, `resolve`).
-/
import Bashlex.Spec.Tree
import Bashlex.Model.Parse
import Bashlex.Proofs.NodeResolve

namespace Bashlex.C12
open Bashlex Bashlex.Spec Bashlex.Node
set_option linter.unusedSimpArgs false

/-! ## known violations -/

/-- the signature `localSchemaViol` gives to a pipeline whose parts do not alternate -/
def pipeSig (ks : List String) : String := s!"pipeline-not-alternating:{ks}"

/-- signatures of genuine schema defects of bashlex (each with a witness input):
    * `"! ;"`     → `pipeline-not-alternating:[operator]`   (`BANG list_terminator`, terminator `;`)
    * `"!\n\n"`   → `pipeline-bang-without-command`          (`BANG list_terminator`, terminator newline)
    (`time ;` / `time` + newline give the same two with `proceedonerror`) -/
def C12_known : List String :=
  ["pipeline-bang-without-command", "pipeline-not-alternating:[operator]"]

/-- the open family of signatures of a *repeated* `!` (or `time`): the parts after the first `!`
    start with another `!`; witness `"! ! a"` → `pipeline-not-alternating:[reservedword, command]`,
    `"! ! ! a | b"` → `…:[reservedword, reservedword, command, pipe, command]`, … -/
def MultiBang (v : String) : Prop :=
  ∃ (b : Node) (r : List Node), isBang b = true ∧ v = pipeSig ((b :: r).map Node.kind)

def Known (v : String) : Prop := v ∈ C12_known ∨ MultiBang v

/-- a pending here-document redirect has a here-document operator as its type (needed when
    `resolve` attaches the body) -/
def hidOK : Node → Prop
  | .redirect _ _ ty _ _ _ (some _) => ty = ['<', '<'] ∨ ty = ['<', '<', '-']
  | _ => True

def IsPipelineNode (m : Node) : Prop := ∃ p ps, m = .pipeline p ps

/-- only pipeline nodes may violate their schema, and then only in the known ways -/
def ViolOK (m : Node) : Prop :=
  localSchemaViol m = [] ∨ (IsPipelineNode m ∧ ∀ v ∈ localSchemaViol m, Known v)

def LocalOK (m : Node) : Prop := ViolOK m ∧ hidOK m

theorem ViolOK.known {m : Node} (h : ViolOK m) : ∀ v ∈ localSchemaViol m, Known v := by
  rcases h with h | h
  · rw [h]; intro v hv; cases hv
  · exact h.2

/-- a non-pipeline node whose violations are among those of a conformant non-pipeline node -/
theorem violOK_of_sub {m m' : Node} (hm : ViolOK m) (hnp : ¬ IsPipelineNode m)
    (hsub : ∀ v, v ∈ localSchemaViol m' → v ∈ localSchemaViol m) : ViolOK m' := by
  rcases hm with h | h
  · left
    rw [h] at hsub
    exact List.eq_nil_iff_forall_not_mem.mpr (fun v hv => by cases hsub v hv)
  · exact absurd h.1 hnp

theorem bad_nil {c : Prop} [Decidable c] {sig : Viol} :
    (if c then [] else [sig]) = ([] : List Viol) ↔ c := by
  by_cases h : c <;> simp [h]

/-- a node that is not a pipeline conforms iff it has no violation -/
theorem localOK_iff_nil {n : Node} (hnp : ¬ IsPipelineNode n) :
    LocalOK n ↔ localSchemaViol n = [] ∧ hidOK n :=
  and_congr_left fun _ => ⟨fun h => h.resolve_right fun h' => hnp h'.1, Or.inl⟩

/-- what the schema asks of a redirect, slot by slot -/
theorem localOK_redirect_iff {p inp ty o oa h hid} : LocalOK (.redirect p inp ty o oa h hid) ↔
    redirOps.contains ty = true ∧ (∀ s, inp = .str s → s ≠ []) ∧
    ((∃ q s ps, o = some (.word q s ps) ∧ oa = .none) ∨
      (o = none ∧ ((∃ k, oa = .num k) ∨ oa = .str ['-']))) ∧
    (∀ b, h = some b → isHeredoc b = true ∧ (ty = ['<', '<'] ∨ ty = ['<', '<', '-'])) ∧
    (hid ≠ none → ty = ['<', '<'] ∨ ty = ['<', '<', '-']) := by
  rw [localOK_iff_nil (by rintro ⟨_, _, h⟩; cases h)]
  simp only [localSchemaViol, List.append_eq_nil_iff, bad_nil, and_assoc]
  refine and_congr_right fun _ => and_congr ?_ (and_congr ?_ (and_congr ?_ ?_))
  · cases inp <;> simp
  · constructor
    · intro hm
      split at hm
      · exact Or.inl ⟨_, _, _, rfl, rfl⟩
      · exact Or.inr ⟨rfl, Or.inl ⟨_, rfl⟩⟩
      · exact Or.inr ⟨rfl, Or.inr (by rw [eq_of_beq hm])⟩
      · cases hm
    · rintro (⟨q, s, ps, rfl, rfl⟩ | ⟨rfl, ⟨k, rfl⟩ | rfl⟩) <;> rfl
  · cases h with
    | none => simp
    | some b => cases b <;> simp [isHeredoc]
  · cases hid <;> simp [hidOK]

/-- every node of the tree conforms to the schema of its kind, up to known violations -/
def TreeOK (n : Node) : Prop := ∀ m ∈ n.preorder, LocalOK m

theorem schemaOK_of_treeOK {n : Node} (h : TreeOK n) : ∀ v ∈ schemaOK n, Known v := by
  intro v hv
  unfold schemaOK at hv
  simp only [Bool.false_eq_true, if_false] at hv
  obtain ⟨l, hl, hvl⟩ := List.mem_flatten.mp hv
  obtain ⟨m, hm, rfl⟩ := List.mem_map.mp hl
  exact (h m hm).1.known v hvl

/-! ## children -/

theorem treeOK_iff {n : Node} : TreeOK n ↔ LocalOK n ∧ ∀ c, c ∈ n.children → TreeOK c :=
  Node.forall_preorder_iff

theorem localOK_of_nil {n : Node} (h : localSchemaViol n = []) (hh : hidOK n) : LocalOK n :=
  ⟨Or.inl h, hh⟩

theorem treeOK_mk {n : Node} (h : LocalOK n) (hc : ∀ c, c ∈ n.children → TreeOK c) : TreeOK n :=
  treeOK_iff.mpr ⟨h, hc⟩

theorem tk_heredoc {p v} : TreeOK (.heredoc p v) :=
  treeOK_mk (localOK_of_nil rfl trivial) (fun _ hc => nomatch hc)

theorem TreeOK.local {n : Node} (h : TreeOK n) : LocalOK n := (treeOK_iff.mp h).1
theorem TreeOK.child {n c : Node} (h : TreeOK n) (hc : c ∈ n.children) : TreeOK c :=
  (treeOK_iff.mp h).2 c hc

/-! ## what a parent looks at in a child: `norm` -/

/-- a node stripped of everything `localSchemaViol` of its *parent* does not inspect -/
def norm : Node → Node
  | operator _ _ => operator (0, 0) []
  | reservedword _ w => reservedword (0, 0) w
  | pipe _ _ => pipe (0, 0) []
  | list _ _ => list (0, 0) []
  | pipeline _ _ => pipeline (0, 0) []
  | compound _ _ _ => compound (0, 0) [] []
  | ifN _ _ => ifN (0, 0) []
  | forN _ _ => forN (0, 0) []
  | whileN _ _ => whileN (0, 0) []
  | untilN _ _ => untilN (0, 0) []
  | caseN _ _ => caseN (0, 0) []
  | pattern _ _ => pattern (0, 0) []
  | command _ _ => command (0, 0) []
  | function _ _ _ _ => function (0, 0) 0 0 []
  | redirect _ _ _ _ _ _ _ => redirect (0, 0) .none [] none .none none none
  | word _ _ _ => word (0, 0) [] []
  | assignment _ _ _ => assignment (0, 0) [] []
  | parameter _ _ => parameter (0, 0) []
  | tilde _ _ => tilde (0, 0) []
  | heredoc _ _ => heredoc (0, 0) []
  | commandsubstitution _ _ => commandsubstitution (0, 0) (operator (0, 0) [])
  | processsubstitution _ _ => processsubstitution (0, 0) (operator (0, 0) [])
  | unimplemented _ _ => unimplemented (0, 0) []

/-- the node with its own span erased and its children replaced by their `norm` -/
def norm1 : Node → Node
  | operator _ a => operator (0, 0) a
  | reservedword _ a => reservedword (0, 0) a
  | pipe _ a => pipe (0, 0) a
  | list _ ps => list (0, 0) (ps.map norm)
  | pipeline _ ps => pipeline (0, 0) (ps.map norm)
  | compound _ l r => compound (0, 0) (l.map norm) (r.map norm)
  | ifN _ ps => ifN (0, 0) (ps.map norm)
  | forN _ ps => forN (0, 0) (ps.map norm)
  | whileN _ ps => whileN (0, 0) (ps.map norm)
  | untilN _ ps => untilN (0, 0) (ps.map norm)
  | caseN _ ps => caseN (0, 0) (ps.map norm)
  | pattern _ ps => pattern (0, 0) (ps.map norm)
  | command _ ps => command (0, 0) (ps.map norm)
  | function _ a b ps => function (0, 0) a b (ps.map norm)
  | redirect _ i t o oa h hid => redirect (0, 0) i t (o.map norm) oa (h.map norm) hid
  | word _ _ ps => word (0, 0) [] (ps.map norm)
  | assignment _ _ ps => assignment (0, 0) [] (ps.map norm)
  | parameter _ _ => parameter (0, 0) []
  | tilde _ _ => tilde (0, 0) []
  | heredoc _ _ => heredoc (0, 0) []
  | commandsubstitution _ c => commandsubstitution (0, 0) (norm c)
  | processsubstitution _ c => processsubstitution (0, 0) (norm c)
  | unimplemented _ ps => unimplemented (0, 0) (ps.map norm)

theorem all_norm {P : Node → Bool} (hP : ∀ a, P (norm a) = P a) (ps : List Node) :
    (ps.map norm).all P = ps.all P := by
  induction ps with
  | nil => rfl
  | cons a as ih => simp [List.all_cons, hP, ih]

theorem isCommandLike_norm (a : Node) : isCommandLike (norm a) = isCommandLike a := by
  cases a <;> rfl
theorem isOperator_norm (a : Node) : isOperator (norm a) = isOperator a := by cases a <;> rfl
theorem isPipe_norm (a : Node) : isPipe (norm a) = isPipe a := by cases a <;> rfl
theorem isBang_norm (a : Node) : isBang (norm a) = isBang a := by cases a <;> rfl
theorem kind_norm (a : Node) : (norm a).kind = a.kind := by cases a <;> rfl

theorem map_kind_norm (ps : List Node) : (ps.map norm).map Node.kind = ps.map Node.kind := by
  simp [List.map_map, Function.comp_def, kind_norm]

theorem alternates_norm {isSep : Node → Bool} (hS : ∀ a, isSep (norm a) = isSep a) (t : Bool) :
    ∀ ps : List Node, alternates isSep t (ps.map norm) = alternates isSep t ps
  | [] => rfl
  | [a] => by simp [alternates, isCommandLike_norm]
  | a :: b :: rest => by
    have ih := alternates_norm hS t rest
    simp only [List.map_cons, alternates, isCommandLike_norm, hS, ih]
    cases rest <;> simp

/-- `localSchemaViol` looks at a node's own attributes and at the `norm` of its children only -/
theorem localSchemaViol_norm1 (n : Node) : localSchemaViol (norm1 n) = localSchemaViol n := by
  cases n with
  | operator p a => rfl
  | reservedword p a => rfl
  | pipe p a => rfl
  | parameter p a => rfl
  | tilde p a => rfl
  | heredoc p a => rfl
  | list p ps =>
    simp only [norm1, localSchemaViol, alternates_norm isOperator_norm, List.length_map]
  | pipeline p ps =>
    cases ps with
    | nil => rfl
    | cons b rest =>
      simp only [norm1, List.map_cons, localSchemaViol, isBang_norm, List.isEmpty_map,
        alternates_norm isPipe_norm, map_kind_norm, List.length_cons, List.length_map]
      have h2 := alternates_norm isPipe_norm false (b :: rest)
      simp only [List.map_cons] at h2
      simp only [kind_norm, h2]
  | command p ps =>
    simp only [norm1, localSchemaViol, List.isEmpty_map]
    rw [all_norm (fun a => by cases a <;> rfl)]
  | compound p l r =>
    simp only [norm1, localSchemaViol, List.isEmpty_map]
    rw [all_norm (fun a => by cases a <;> rfl), all_norm (fun a => by cases a <;> rfl)]
  | ifN p ps =>
    simp only [norm1, localSchemaViol, List.isEmpty_map]
    rw [all_norm (fun a => by cases a <;> rfl)]; rfl
  | whileN p ps =>
    simp only [norm1, localSchemaViol, List.isEmpty_map]
    rw [all_norm (fun a => by cases a <;> rfl)]; rfl
  | untilN p ps =>
    simp only [norm1, localSchemaViol, List.isEmpty_map]
    rw [all_norm (fun a => by cases a <;> rfl)]; rfl
  | forN p ps =>
    simp only [norm1, localSchemaViol, List.isEmpty_map]
    rw [all_norm (fun a => by cases a <;> rfl)]
  | caseN p ps =>
    simp only [norm1, localSchemaViol, List.isEmpty_map]
    rw [all_norm (fun a => by cases a <;> rfl)]
  | pattern p ps =>
    simp only [norm1, localSchemaViol, List.isEmpty_map]
    rw [all_norm (fun a => by cases a <;> rfl)]
  | function p a b ps =>
    simp only [norm1, localSchemaViol, List.getElem?_map]
    rw [all_norm (fun a => by cases a <;> rfl)]
    congr 1
    congr 1
    · cases ps[a]? with
      | none => rfl
      | some x => cases x <;> rfl
    · cases ps[b]? with
      | none => rfl
      | some x => cases x <;> rfl
  | redirect p i t o oa h hid =>
    simp only [norm1, localSchemaViol]
    congr 1
    · congr 1
      cases o with
      | none => rfl
      | some a => cases a <;> cases oa <;> rfl
    · cases h with
      | none => rfl
      | some b => cases b <;> rfl
  | word p w ps =>
    simp only [norm1, localSchemaViol]
    rw [all_norm (fun a => by cases a <;> rfl)]
  | assignment p w ps =>
    simp only [norm1, localSchemaViol]
    rw [all_norm (fun a => by cases a <;> rfl)]
  | commandsubstitution p c =>
    simp only [norm1, localSchemaViol, isCommandLike_norm]
    cases c <;> rfl
  | processsubstitution p c =>
    simp only [norm1, localSchemaViol, isCommandLike_norm]
    cases c <;> rfl
  | unimplemented p ps =>
    simp only [norm1, localSchemaViol, List.isEmpty_map]

theorem hidOK_norm1 (n : Node) : hidOK (norm1 n) ↔ hidOK n := by
  cases n <;> simp [norm1, hidOK]
  case redirect p i t o oa h hid => cases hid <;> simp [hidOK]

theorem isPipelineNode_norm1 (n : Node) : IsPipelineNode (norm1 n) ↔ IsPipelineNode n := by
  unfold IsPipelineNode
  cases n <;> simp [norm1]

theorem localOK_norm1 (n : Node) : LocalOK (norm1 n) ↔ LocalOK n := by
  unfold LocalOK ViolOK; rw [localSchemaViol_norm1, hidOK_norm1, isPipelineNode_norm1]

theorem localOK_of_norm1_eq {n n' : Node} (h : norm1 n' = norm1 n) (hn : LocalOK n) : LocalOK n' := by
  rw [← localOK_norm1] at hn ⊢; rw [h]; exact hn

/-! ## `mapPos` / `shift` -/

theorem norm_mapPos (f : Span → Span) (a : Node) : norm (mapPos f a) = norm a := by
  cases a <;> simp [mapPos, norm]

theorem norm1_mapPos (f : Span → Span) (n : Node) : norm1 (mapPos f n) = norm1 n := by
  cases n <;>
    simp [mapPos, norm1, mapPosL_eq, mapPosO_eq, List.map_map, Function.comp_def, norm_mapPos,
      Option.map_map]

theorem preorder_mapPos (f : Span → Span) :
    (n : Node) → (mapPos f n).preorder = n.preorder.map (mapPos f) :=
  Node.preorder_mapPos_eq f

theorem preorderL_mapPos (f : Span → Span) :
    (l : List Node) → preorderL (mapPosL f l) = (preorderL l).map (mapPos f) :=
  Node.preorderL_mapPos_eq f

theorem preorderO_mapPos (f : Span → Span) :
    (o : Option Node) → preorderO (mapPosO f o) = (preorderO o).map (mapPos f) :=
  Node.preorderO_mapPos_eq f

theorem localOK_mapPos (f : Span → Span) {n : Node} (h : LocalOK n) : LocalOK (mapPos f n) :=
  localOK_of_norm1_eq (norm1_mapPos f n) h

theorem treeOK_mapPos (f : Span → Span) {n : Node} (h : TreeOK n) : TreeOK (mapPos f n) := by
  intro m hm
  rw [preorder_mapPos] at hm
  obtain ⟨m', hm', rfl⟩ := List.mem_map.mp hm
  exact localOK_mapPos f (h m' hm')

theorem treeOK_shift (k : Nat) {n : Node} (h : TreeOK n) : TreeOK (n.shift k) :=
  treeOK_mapPos _ h

theorem norm_shift (k : Nat) (n : Node) : norm (n.shift k) = norm n := norm_mapPos _ n

/-! ## `resolve` -/

theorem norm_resolve (st : List RedirCell) (a : Node) : norm (resolve st a) = norm a := by
  cases a with
  | redirect p i t o oa h hid =>
    cases hid with
    | none => simp [resolve, norm]
    | some id => simp only [resolve]; cases st[id]? <;> simp [norm]
  | _ => simp [resolve, norm]

/-- resolving a pending redirect keeps it conformant: the body is a `heredoc` node and the type
    is a here-document operator -/
theorem localOK_resolve_redirect (st : List RedirCell) {p i t o oa h hid}
    (hn : LocalOK (redirect p i t o oa h hid)) : LocalOK (resolve st (redirect p i t o oa h hid)) := by
  obtain ⟨h1, h2, h3, h4, h5⟩ := localOK_redirect_iff.mp hn
  rw [resolve_redirect]
  cases hc : hid.bind (st[·]?) with
  | some cell =>
    show LocalOK (redirect cell.pos i t o oa (cell.heredoc.map fun (p, v) => Node.heredoc p v) none)
    rw [localOK_redirect_iff]
    refine ⟨h1, h2, h3, fun b hb => ?_, fun h => absurd rfl h⟩
    cases hh : cell.heredoc with
    | none => simp [hh] at hb
    | some v =>
      simp [hh] at hb; subst hb
      exact ⟨rfl, h5 (by rintro rfl; cases hc)⟩
  | none =>
    show LocalOK (redirect p i t o oa h none)
    rw [localOK_redirect_iff]
    exact ⟨h1, h2, h3, h4, fun h => absurd rfl h⟩

theorem treeOK_resolve (st : List RedirCell) : (n : Node) → TreeOK n → TreeOK (resolve st n) := by
  refine resolve_induction (R := fun n n' => TreeOK n → TreeOK n') ?_ ?_ ?_
  · intro n hd ih h
    rw [treeOK_iff] at h ⊢
    refine ⟨localOK_of_norm1_eq ?_ h.1, ?_⟩
    · cases n <;> simp [C03.descends] at hd <;>
        simp [Node.map1, norm1, List.map_map, Function.comp_def, norm_resolve]
    · rw [Node.children_map1]
      intro c hc
      obtain ⟨c0, hc0, rfl⟩ := List.mem_map.mp hc
      exact ih c0 hc0 (h.2 c0 hc0)
  · intro p i t o oa hd hid h
    rw [treeOK_iff] at h ⊢
    refine ⟨localOK_resolve_redirect st h.1, fun c hc => ?_⟩
    rw [resolve_redirect] at hc
    split at hc
    · rename_i cell _
      simp only [children, List.mem_append, Option.mem_toList] at hc
      rcases hc with hc | hc
      · exact h.2 c (by simp [children, hc])
      · cases hh : cell.heredoc with
        | none => simp [hh] at hc
        | some b => simp [hh] at hc; subst hc; exact tk_heredoc
    · exact h.2 c (by simpa [children] using hc)
  · intro n _ _ h; exact h

theorem treeOKL_resolve (st : List RedirCell) :
    (l : List Node) → (∀ c, c ∈ l → TreeOK c) → ∀ c, c ∈ resolveL st l → TreeOK c := by
  intro l h c hc
  rw [resolveL_eq] at hc
  obtain ⟨c0, hc0, rfl⟩ := List.mem_map.mp hc
  exact treeOK_resolve st c0 (h c0 hc0)

end Bashlex.C12
