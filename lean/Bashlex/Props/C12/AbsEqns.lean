/-
  Characteristic equations of `absAction`: one per semantic action, stating what the dispatch on
  the action's name returns for that name.  A lemma about one action starts with
  `rw [absAction_p_x] at h` instead of unfolding the whole dispatch.
-/
import Bashlex.Props.C12.Sorts

namespace Bashlex.C12
open Bashlex Bashlex.Spec Bashlex.Node

theorem absAction_p_inputunit (sorts : List Srt) :
    absAction "p_inputunit" sorts =
    (match sorts.head? with
    | some (.node c) | some (.optNode c) => if c.le .top then some (.optNode .top) else none
    | _ => some (.optNode .top)) := by rfl

theorem absAction_p_word_list (sorts : List Srt) :
    absAction "p_word_list" sorts =
    (match sorts with
    | [.tok _] => some (.nodes .words)
    | [.nodes .words, .tok _] => some (.nodes .words)
    | _ => none) := by rfl

theorem absAction_p_redirection_heredoc (sorts : List Srt) :
    absAction "p_redirection_heredoc" sorts =
    (match sorts with
    | [op, .tok _] => if okTok isHereOp op then some (.node .redirect) else none
    | [i, op, .tok _] => if absRedirIn i && okTok isHereOp op then some (.node .redirect) else none
    | _ => none) := by rfl

theorem absAction_p_redirection (sorts : List Srt) :
    absAction "p_redirection" sorts =
    (match sorts with
    | [op, o] =>
      if okTok isRedirOp op && okTok (fun ty => ty == .WORD || ty == .NUMBER || ty == .DASH) o then
        some (.node .redirect) else none
    | [i, op, o] =>
      if absRedirIn i && okTok isRedirOp op &&
          okTok (fun ty => ty == .WORD || ty == .NUMBER || ty == .DASH) o then
        some (.node .redirect) else none
    | _ => none) := by rfl

theorem absAction_p_simple_command_element (sorts : List Srt) :
    absAction "p_simple_command_element" sorts =
    (match sorts with
    | [.node .redirect] => some (.nodes .cmdparts)
    | [.tok _] => some (.nodes .cmdparts)
    | _ => none) := by rfl

theorem absAction_p_redirection_list (sorts : List Srt) :
    absAction "p_redirection_list" sorts =
    (match sorts with
    | [.node .redirect] => some (.nodes .redirects)
    | [.nodes .redirects, .node .redirect] => some (.nodes .redirects)
    | _ => none) := by rfl

theorem absAction_p_simple_command (sorts : List Srt) :
    absAction "p_simple_command" sorts =
    (match sorts with
    | [.nodes .cmdparts] => some (.nodes .cmdparts)
    | [.nodes .cmdparts, .nodes .cmdparts] => some (.nodes .cmdparts)
    | _ => none) := by rfl

theorem absAction_p_command (sorts : List Srt) :
    absAction "p_command" sorts =
    (match sorts with
    | [.node c] => if c.le .cmd then some (.node .cmd) else none
    | [.node _, .nodes .redirects] => some (.node .cmd)
    | [.nodes .cmdparts] => some (.node .cmd)
    | _ => none) := by rfl

theorem absAction_p_shell_command (sorts : List Srt) :
    absAction "p_shell_command" sorts =
    (match sorts with
    | [.node _] => some (.node .compound)
    | _ =>
      if sorts.length != 1 && sorts.all ifPartSort then some (.node .compound) else none) := by rfl

theorem absAction_p_for_command (sorts : List Srt) :
    absAction "p_for_command" sorts =
    (if sorts.all forPartSort && (sorts.filter (· == .optNode .semiOp)).length ≤ 1 then
      some (.node .compound) else none) := by rfl

theorem absAction_p_arith_for_command (sorts : List Srt) :
    absAction "p_arith_for_command" sorts = absUnimpl sorts := by rfl

theorem absAction_p_select_command (sorts : List Srt) :
    absAction "p_select_command" sorts = absUnimpl sorts := by rfl

theorem absAction_p_case_command (sorts : List Srt) :
    absAction "p_case_command" sorts =
    (if sorts.all casePartSort then some (.node .compound) else none) := by rfl

theorem absAction_p_function_def (sorts : List Srt) :
    absAction "p_function_def" sorts =
    (if sorts.dropLast.all funcPartSort && sorts.getLast? == some (.node .compound) &&
        sorts.contains (.tok (some .WORD)) then some (.node .func) else none) := by rfl

theorem absAction_p_function_body (sorts : List Srt) :
    absAction "p_function_body" sorts =
    (match sorts with
    | [.node _] => some (.node .compound)
    | [.node _, .nodes .redirects] => some (.node .compound)
    | _ => none) := by rfl

theorem absAction_p_subshell (sorts : List Srt) :
    absAction "p_subshell" sorts = absGroup sorts := by rfl

theorem absAction_p_group_command (sorts : List Srt) :
    absAction "p_group_command" sorts = absGroup sorts := by rfl

theorem absAction_p_coproc (sorts : List Srt) :
    absAction "p_coproc" sorts = absUnimpl sorts := by rfl

theorem absAction_p_if_command (sorts : List Srt) :
    absAction "p_if_command" sorts =
    (if sorts.all ifPartSort then some (.node .compound) else none) := by rfl

theorem absAction_p_arith_command (sorts : List Srt) :
    absAction "p_arith_command" sorts = absUnimpl sorts := by rfl

theorem absAction_p_cond_command (sorts : List Srt) :
    absAction "p_cond_command" sorts = absUnimpl sorts := by rfl

theorem absAction_p_elif_clause (sorts : List Srt) :
    absAction "p_elif_clause" sorts =
    (if sorts.all ifPartSort then some (.nodes .ifparts) else none) := by rfl

theorem absAction_p_case_clause (sorts : List Srt) :
    absAction "p_case_clause" sorts =
    (match sorts with
    | [.node .compound] => some (.nodes .caseparts)
    | [.nodes .caseparts, .node .compound] => some (.nodes .caseparts)
    | _ => none) := by rfl

theorem absAction_p_pattern_list (sorts : List Srt) :
    absAction "p_pattern_list" sorts =
    (match sorts with
    | [_, .nodes .patparts, r, b] =>
      if okTok resOK r && bodyOK b then some (.node .compound) else none
    | [_, l, .nodes .patparts, r, b] =>
      if okTok resOK l && okTok resOK r && bodyOK b then some (.node .compound) else none
    | _ => none) := by rfl

theorem absAction_p_case_clause_sequence (sorts : List Srt) :
    absAction "p_case_clause_sequence" sorts =
    (match sorts with
    | [.node .compound, s] => if okTok resOK s then some (.nodes .caseparts) else none
    | [.nodes .caseparts, .node .compound, s] =>
      if okTok resOK s then some (.nodes .caseparts) else none
    | _ => none) := by rfl

theorem absAction_p_pattern (sorts : List Srt) :
    absAction "p_pattern" sorts =
    (match sorts with
    | [.tok _] => some (.nodes .patparts)
    | [.nodes .patparts, .tok (some .BAR), .tok _] => some (.nodes .patparts)
    | _ => none) := by rfl

theorem absAction_p_list (sorts : List Srt) :
    absAction "p_list" sorts =
    (match sorts with
    | [_, .node .top] => some (.node .top)
    | _ => none) := by rfl

theorem absAction_p_compound_list (sorts : List Srt) :
    absAction "p_compound_list" sorts =
    (match sorts with
    | [.node .top] => some (.node .top)
    | [_, .nodes .altOp] => some (.node .top)
    | _ => none) := by rfl

theorem absAction_p_list0 (sorts : List Srt) :
    absAction "p_list0" sorts =
    (match sorts with
    | .nodes .altOp :: .tok (some ty) :: _ => if isListOp ty then some (.node .top) else none
    | _ => none) := by rfl

theorem absAction_p_list1 (sorts : List Srt) :
    absAction "p_list1" sorts = absJoin .altOp .pc isListOp sorts := by rfl

theorem absAction_p_simple_list_terminator (sorts : List Srt) :
    absAction "p_simple_list_terminator" sorts = some .none := by rfl

theorem absAction_p_list_terminator (sorts : List Srt) :
    absAction "p_list_terminator" sorts = some (.optNode .semiOp) := by rfl

theorem absAction_p_newline_list (sorts : List Srt) :
    absAction "p_newline_list" sorts = some .none := by rfl

theorem absAction_p_simple_list (sorts : List Srt) :
    absAction "p_simple_list" sorts =
    (match sorts with
    | [.nodes .altOp] => some (.node .top)
    | [.nodes .altOp, .tok (some ty)] => if isListOp ty then some (.node .top) else none
    | _ => none) := by rfl

theorem absAction_p_simple_list1 (sorts : List Srt) :
    absAction "p_simple_list1" sorts = absJoin .altOp .pc isListOp sorts := by rfl

theorem absAction_p_pipeline_command (sorts : List Srt) :
    absAction "p_pipeline_command" sorts =
    (match sorts with
    | [.nodes .altPipe] => some (.node .pc)
    | [_, .node .pc] => some (.node .pc)
    | [_, .optNode .semiOp] => some (.node .pc)
    | _ => none) := by rfl

theorem absAction_p_pipeline (sorts : List Srt) :
    absAction "p_pipeline" sorts = absJoin .altPipe .cmd isPipeOp sorts := by rfl

theorem absAction_p_timespec (sorts : List Srt) :
    absAction "p_timespec" sorts = absUnimpl sorts := by rfl

theorem absAction_p_empty (sorts : List Srt) :
    absAction "p_empty" sorts = some .none := by rfl

end Bashlex.C12
