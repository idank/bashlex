/-
  C12: the grammar obligation and the accept entries, decided by the kernel on the
  generated tables (re-checked whenever the grammar changes).
-/
import Bashlex.Props.C12.Sorts
import Bashlex.Model.Parse
import Bashlex.Props.Lex
import Bashlex.LR.Real

namespace Bashlex.C12
open Bashlex Bashlex.LR

/-! ## the value invariant of the LR engine -/

def VI (sym : Nat) (v : SVal) : Prop := HasSort (sortOfSymbol sym) v
def AccSym (sym : Nat) : Prop := accSort (sortOfSymbol sym) = true

/-- the grammar obligation, checked by the kernel on the generated tables -/
theorem grammar_ok : grammarCheck = true := by decide +kernel

/-- the `accept` entries of the generated action table sit in states entered on a symbol at which
    accepting is fine (`inputunit`) -/
theorem accept_ok : realRaw.checkAccept (fun s => accSort (sortOfSymbol s)) = true :=
  Raw.checkAccept_mono (fun s hs => by rw [beq_iff_eq] at hs; subst hs; decide +kernel)
    real_acceptSym

theorem prodFuncs_length : Gen.prodFuncs.length = Gen.prodTable.length := by decide +kernel

/-- production `p` of the tables, with its action's name, is an entry of the list the grammar
    checks sweep -/
theorem prod_mem {p lhs : Nat} {rhs : List Nat} (hp : Gen.prodTable[p]? = some (lhs, rhs)) :
    (Gen.prodFuncs.getD p "", (lhs, rhs)) ∈ List.zip Gen.prodFuncs Gen.prodTable := by
  have hlt : p < Gen.prodFuncs.length := by
    rw [prodFuncs_length]
    exact (List.getElem?_eq_some_iff.mp hp).1
  have hf : Gen.prodFuncs[p]? = some (Gen.prodFuncs.getD p "") := by
    simp [List.getD_eq_getElem?_getD, List.getElem?_eq_getElem hlt]
  exact List.mem_of_getElem? (List.getElem?_zip_eq_some.mpr ⟨hf, hp⟩)

/-- what a sweep over the productions has checked holds of each production -/
theorem forall_prods {P : String × Nat × List Nat → Bool}
    (h : (List.zip Gen.prodFuncs Gen.prodTable).all P = true)
    {p lhs : Nat} {rhs : List Nat} (hp : Gen.prodTable[p]? = some (lhs, rhs)) :
    P (Gen.prodFuncs.getD p "", (lhs, rhs)) = true :=
  List.all_eq_true.mp h _ (prod_mem hp)

/-- the sort obligation at one production -/
theorem grammar_at {p lhs : Nat} {rhs : List Nat} (hp : Gen.prodTable[p]? = some (lhs, rhs)) :
    Gen.prodFuncs.getD p "" = "" ∨
      absAction (Gen.prodFuncs.getD p "") (rhs.map sortOfSymbol) = some (sortOfSymbol lhs) := by
  simpa [grammarCheck] using forall_prods grammar_ok hp

theorem tok_sorts : ∀ ty : TokType, sortOfSymbol ty.sym = .tok (some ty) := by
  have h : TokType.all.all (fun ty => sortOfSymbol ty.sym == .tok (some ty)) = true := by
    decide +kernel
  exact fun ty => eq_of_beq (List.all_eq_true.mp h ty (Props.Lex.tokType_all_complete ty))

theorem err_sort : sortOfSymbol 1 = .tok none := by decide +kernel

end Bashlex.C12
