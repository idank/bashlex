/-
  C12: "constructor lemmas" — `TreeOK` of a node from facts about its parts — and basic
  facts about the classes of `Sorts.lean`.
-/
import Bashlex.Props.C12.Sorts

namespace Bashlex.C12
open Bashlex Bashlex.Spec Bashlex.Node

theorem isEmpty_false {α} {l : List α} (h : l ≠ []) : l.isEmpty = false := by
  cases l with
  | nil => exact absurd rfl h
  | cons _ _ => rfl

/-- a check of `localSchemaViol` that passes contributes no violation -/
theorem noViol {b : Bool} {sig : Viol} (h : b = true) : (if b then [] else [sig]) = ([] : List Viol) :=
  if_pos h

/-- a check `F` passes on every member of a list whose members are of a class that implies `F` -/
theorem all_of_class {P : Node → Prop} {F : Node → Bool} {l : List Node} (h : ∀ c, c ∈ l → P c)
    (hF : ∀ c, P c → F c = true) : l.all F = true :=
  List.all_eq_true.mpr fun c hc => hF c (h c hc)

/-! ### leaves -/

theorem tk_operator {p op} (h : listOps.contains op = true) : TreeOK (.operator p op) :=
  treeOK_mk (localOK_of_nil (noViol h) trivial) (fun _ hc => nomatch hc)

theorem tk_reservedword {p w} (h : w ≠ []) : TreeOK (.reservedword p w) :=
  treeOK_mk (localOK_of_nil (noViol (by rw [isEmpty_false h]; rfl)) trivial) (fun _ hc => nomatch hc)

theorem tk_pipe {p w} (h : pipeOps.contains w = true) : TreeOK (.pipe p w) :=
  treeOK_mk (localOK_of_nil (noViol h) trivial) (fun _ hc => nomatch hc)

theorem tk_parameter {p v} : TreeOK (.parameter p v) :=
  treeOK_mk (localOK_of_nil rfl trivial) (fun _ hc => nomatch hc)

theorem tk_tilde {p v} : TreeOK (.tilde p v) :=
  treeOK_mk (localOK_of_nil rfl trivial) (fun _ hc => nomatch hc)

/-! ### inner nodes

The check `localSchemaViol` makes of the children of a node is an anonymous `match` on the child;
each lemma below shows, constructor by constructor, that the class its hypothesis gives the
children implies that check. -/

theorem tk_list {p ps} (h1 : alternates isOperator true ps = true) (h2 : 2 ≤ ps.length)
    (hc : ∀ c, c ∈ ps → TreeOK c) : TreeOK (.list p ps) :=
  treeOK_mk (localOK_of_nil (noViol (by rw [h1, decide_eq_true h2]; rfl)) trivial) hc

theorem tk_command {p ps} (hne : ps ≠ []) (hc : ∀ c, c ∈ ps → TreeOK c ∧ isCmdPart c = true) :
    TreeOK (.command p ps) := by
  refine treeOK_mk (localOK_of_nil ?_ trivial) (fun c h => (hc c h).1)
  refine noViol (Bool.and_eq_true_iff.mpr ⟨by rw [isEmpty_false hne]; rfl, all_of_class hc ?_⟩)
  rintro c ⟨-, h⟩
  cases c <;> first | rfl | cases h

def compElem : Node → Bool
  | .reservedword .. | .list .. | .ifN .. | .forN .. | .whileN .. | .untilN .. | .caseN ..
  | .pattern .. => true
  | c => isCommandLike c

theorem tk_compound {p l r} (hne : l ≠ []) (hl : ∀ c, c ∈ l → TreeOK c ∧ compElem c = true)
    (hr : ∀ c, c ∈ r → TreeOK c ∧ isRedirect c = true) : TreeOK (.compound p l r) := by
  refine treeOK_mk (localOK_of_nil ?_ trivial) ?_
  · simp only [localSchemaViol]
    rw [isEmpty_false hne, noViol (all_of_class hl ?_), noViol (all_of_class hr ?_)]
    · rfl
    · rintro c ⟨-, h⟩
      cases c <;> first | rfl | cases h
    · rintro c ⟨-, h⟩
      cases c <;> first | rfl | cases h
  · intro c hc
    rcases List.mem_append.mp hc with hc | hc
    · exact (hl c hc).1
    · exact (hr c hc).1

/-- a non-empty list of parts, each of a class that implies the check `F` -/
theorem parts_check {P : Node → Prop} {F : Node → Bool} {ps : List Node} (hne : ps ≠ [])
    (hc : ∀ c, c ∈ ps → P c) (hF : ∀ c, P c → F c = true) : (!ps.isEmpty && ps.all F) = true := by
  rw [isEmpty_false hne, all_of_class hc hF]; rfl

theorem tk_if {p ps} (hne : ps ≠ []) (hc : ∀ c, c ∈ ps → IfPart c) : TreeOK (.ifN p ps) := by
  refine treeOK_mk (localOK_of_nil (noViol (parts_check hne hc ?_)) trivial) (fun c h => (hc c h).1)
  rintro c ⟨-, h | h | h⟩ <;> cases c <;> first | rfl | cases h

theorem tk_while {p ps} (hne : ps ≠ []) (hc : ∀ c, c ∈ ps → IfPart c) : TreeOK (.whileN p ps) := by
  refine treeOK_mk (localOK_of_nil (noViol (parts_check hne hc ?_)) trivial) (fun c h => (hc c h).1)
  rintro c ⟨-, h | h | h⟩ <;> cases c <;> first | rfl | cases h

theorem tk_until {p ps} (hne : ps ≠ []) (hc : ∀ c, c ∈ ps → IfPart c) : TreeOK (.untilN p ps) := by
  refine treeOK_mk (localOK_of_nil (noViol (parts_check hne hc ?_)) trivial) (fun c h => (hc c h).1)
  rintro c ⟨-, h | h | h⟩ <;> cases c <;> first | rfl | cases h

def ForPart (c : Node) : Prop :=
  TreeOK c ∧ (isResWord c = true ∨ isWordN c = true ∨ isCommandLike c = true ∨ isListN c = true)

theorem tk_for {p ps} (hne : ps ≠ []) (hc : ∀ c, c ∈ ps → ForPart c) : TreeOK (.forN p ps) := by
  refine treeOK_mk (localOK_of_nil (noViol (parts_check hne hc ?_)) trivial) (fun c h => (hc c h).1)
  rintro c ⟨-, h | h | h | h⟩ <;> cases c <;> first | rfl | cases h

def CasePart (c : Node) : Prop :=
  TreeOK c ∧ (isResWord c = true ∨ isWordN c = true ∨ isCompound c = true)

theorem casePart_check (c : Node) : CasePart c →
    (match c with | .reservedword .. | .word .. | .compound .. => true | _ => false) = true := by
  rintro ⟨-, h | h | h⟩ <;> cases c <;> first | rfl | cases h

theorem tk_case {p ps} (hne : ps ≠ []) (hc : ∀ c, c ∈ ps → CasePart c) : TreeOK (.caseN p ps) :=
  treeOK_mk (localOK_of_nil (noViol (parts_check hne hc casePart_check)) trivial)
    (fun c h => (hc c h).1)

theorem tk_pattern {p ps} (hne : ps ≠ [])
    (hc : ∀ c, c ∈ ps → TreeOK c ∧ (isWordN c = true ∨ isBarWord c = true)) :
    TreeOK (.pattern p ps) := by
  refine treeOK_mk (localOK_of_nil (noViol (parts_check hne hc ?_)) trivial) (fun c h => (hc c h).1)
  rintro c ⟨-, h | h⟩ <;> cases c <;> first | rfl | exact h | cases h

theorem tk_function {p ni bi ps} (hn : ∃ c, ps[ni]? = some c ∧ isWordN c = true)
    (hb : ∃ c, ps[bi]? = some c ∧ isCompound c = true) (hc : ∀ c, c ∈ ps → CasePart c) :
    TreeOK (.function p ni bi ps) := by
  refine treeOK_mk (localOK_of_nil ?_ trivial) (fun c h => (hc c h).1)
  obtain ⟨cn, hcn, hwn⟩ := hn
  obtain ⟨cb, hcb, hwb⟩ := hb
  simp only [localSchemaViol]
  rw [hcn, hcb, noViol (all_of_class hc ?_)]
  · cases cn <;> cases hwn
    cases cb <;> first | rfl | cases hwb
  · exact casePart_check

def isWordPart : Node → Bool
  | .parameter .. | .tilde .. | .commandsubstitution .. | .processsubstitution .. => true
  | _ => false

theorem wordPart_check (c : Node) : TreeOK c ∧ isWordPart c = true →
    (match c with
      | .parameter .. | .tilde .. | .commandsubstitution .. | .processsubstitution .. => true
      | _ => false) = true := by
  rintro ⟨-, h⟩
  cases c <;> first | rfl | cases h

theorem tk_word {p w ps} (hc : ∀ c, c ∈ ps → TreeOK c ∧ isWordPart c = true) :
    TreeOK (.word p w ps) :=
  treeOK_mk (localOK_of_nil (noViol (all_of_class hc wordPart_check)) trivial)
    (fun c h => (hc c h).1)

theorem tk_assignment {p w ps} (hc : ∀ c, c ∈ ps → TreeOK c ∧ isWordPart c = true) :
    TreeOK (.assignment p w ps) :=
  treeOK_mk (localOK_of_nil (noViol (all_of_class hc wordPart_check)) trivial)
    (fun c h => (hc c h).1)

theorem tk_unimplemented {p ps} (hne : ps ≠ []) (hc : ∀ c, c ∈ ps → TreeOK c) :
    TreeOK (.unimplemented p ps) :=
  treeOK_mk (localOK_of_nil (noViol (by rw [isEmpty_false hne]; rfl)) trivial) hc

theorem top_check (c : Node) : InCls .top c →
    (isCommandLike c || (match c with | .list .. => true | _ => false)) = true := by
  rintro ⟨-, h | h⟩
  · rw [h]; rfl
  · cases c <;> first | rfl | cases h

theorem tk_cmdsub {p c} (h : InCls .top c) : TreeOK (.commandsubstitution p c) :=
  treeOK_mk (localOK_of_nil (noViol (top_check c h)) trivial)
    (fun _ hc => List.mem_singleton.mp hc ▸ h.1)

theorem tk_procsub {p c} (h : InCls .top c) : TreeOK (.processsubstitution p c) :=
  treeOK_mk (localOK_of_nil (noViol (top_check c h)) trivial)
    (fun _ hc => List.mem_singleton.mp hc ▸ h.1)

/-- a redirect without here-document body -/
theorem tk_redirect {p inp ty o oa hid} (hty : redirOps.contains ty = true)
    (hinp : ∀ s, inp = .str s → s ≠ [])
    (hout : (∃ w, o = some w ∧ isWordN w = true ∧ TreeOK w ∧ oa = .none) ∨
            (o = none ∧ ((∃ k, oa = .num k) ∨ oa = .str ['-'])))
    (hhid : hid ≠ none → ty = ['<', '<'] ∨ ty = ['<', '<', '-']) :
    TreeOK (.redirect p inp ty o oa none hid) := by
  refine treeOK_mk (localOK_redirect_iff.mpr ⟨hty, hinp, ?_, (fun _ hb => by cases hb), hhid⟩) ?_
  · refine hout.imp ?_ id
    rintro ⟨w, rfl, hw, _, rfl⟩
    cases w <;> first | exact ⟨_, _, _, rfl, rfl⟩ | cases hw
  · intro c hc
    rcases hout with ⟨w, rfl, _, hw, _⟩ | ⟨rfl, _⟩
    · cases List.mem_singleton.mp hc; exact hw
    · cases hc

/-! ### pipelines -/

theorem isBang_not_commandLike {b : Node} (h : isBang b = true) : isCommandLike b = false := by
  cases b <;> simp_all [isBang, isCommandLike]

theorem alternates_ne_nil {isSep : Node → Bool} {t : Bool} {l : List Node}
    (h : alternates isSep t l = true) : l ≠ [] := by
  intro hl; subst hl; simp [alternates] at h

theorem alternates_head {isSep : Node → Bool} {t : Bool} {a : Node} {l : List Node}
    (h : alternates isSep t (a :: l) = true) : isCommandLike a = true := by
  cases l with
  | nil => simpa [alternates] using h
  | cons b rest =>
    simp only [alternates, Bool.and_eq_true] at h
    exact h.1.1

theorem pipeSig_operator (p : Span) :
    pipeSig ([Node.operator p [';']].map Node.kind) = "pipeline-not-alternating:[operator]" := by
  show pipeSig ["operator"] = _
  decide

theorem tk_pipeline {p ps} (hb : PipeBody ps) (hc : ∀ c, c ∈ ps → TreeOK c) :
    TreeOK (.pipeline p ps) := by
  refine treeOK_mk ⟨Or.inr ⟨⟨_, _, rfl⟩, ?_⟩, trivial⟩ (by simpa [children] using hc)
  rcases hb with ⟨halt, hlen⟩ | ⟨b, r, rfl, hbang, htail⟩
  · cases ps with
    | nil => simp at hlen
    | cons b rest =>
      have hcl := alternates_head halt
      have hnb : isBang b = false := by
        cases hb : isBang b with
        | false => rfl
        | true => rw [isBang_not_commandLike hb] at hcl; cases hcl
      intro v hv
      simp only [localSchemaViol, hnb, halt] at hv
      simp only [List.length_cons] at hlen
      simp at hv
      omega
  · intro v hv
    simp only [localSchemaViol, hbang, if_true] at hv
    rcases htail with rfl | ⟨q, rfl⟩ | halt | ⟨b', r', rfl, hb'⟩
    · simp at hv
      subst hv
      exact Or.inl (by simp [C12_known])
    · have : alternates isPipe false [Node.operator q [';']] = false := rfl
      simp only [List.isEmpty_cons, this] at hv
      simp at hv
      subst hv
      left
      show pipeSig ([Node.operator q [';']].map Node.kind) ∈ C12_known
      rw [pipeSig_operator]; simp [C12_known]
    · simp only [isEmpty_false (alternates_ne_nil halt), halt] at hv
      simp at hv
    · simp only [List.isEmpty_cons, Bool.false_eq_true, if_false] at hv
      split at hv
      · simp at hv
      · simp only [List.mem_singleton] at hv
        subst hv
        exact Or.inr ⟨b', r', hb', rfl⟩

/-! ### classes -/

theorem InCls.tree {c : NCls} {n : Node} (h : InCls c n) : TreeOK n := by
  cases c with
  | semiOp =>
    obtain ⟨p, rfl⟩ := h
    exact tk_operator (by decide)
  | _ => exact h.1

theorem CmdNP.of_kind {m : Node}
    (h : isCompound m = true ∨ isUnimpl m = true ∨ isFunction m = true) : CmdNP m := by
  rcases h with h | h | h <;> cases m <;> first | exact ⟨rfl, rfl⟩ | cases h

theorem pc_commandLike {n : Node} (h : InCls .pc n) : isCommandLike n = true := by
  obtain ⟨_, h | ⟨p, parts, rfl, _⟩⟩ := h
  · exact h.1
  · rfl

/-- `compound`, `unimpl`, `func` ≤ `cmd` ≤ `pc` ≤ `top`; `redirect` and `semiOp` are isolated -/
theorem InCls.le_sound {c d : NCls} {n : Node} (hle : c.le d = true) (h : InCls c n) :
    InCls d n := by
  have cmd_pc : InCls .cmd n → InCls .pc n := fun h => ⟨h.1, Or.inl h.2⟩
  have pc_top : InCls .pc n → InCls .top n := fun h => ⟨h.1, Or.inl (pc_commandLike h)⟩
  have to_cmd : c.le .cmd = true → InCls .cmd n := fun hle => by
    cases c <;> first
      | exact h
      | exact ⟨h.1, .of_kind (.inl h.2)⟩
      | exact ⟨h.1, .of_kind (.inr (.inl h.2))⟩
      | exact ⟨h.1, .of_kind (.inr (.inr h.2))⟩
      | cases hle
  cases d with
  | top => cases c <;> first | exact h | exact pc_top h | exact pc_top (cmd_pc (to_cmd rfl)) | cases hle
  | pc => cases c <;> first | exact h | exact cmd_pc (to_cmd rfl) | cases hle
  | cmd => exact to_cmd hle
  | _ => cases c <;> first | exact h | cases hle

theorem InCls.top_of_le {c : NCls} {n : Node} (hle : c.le .top = true) (h : InCls c n) :
    InCls .top n := InCls.le_sound hle h

theorem Alt.mem {X S : Node → Prop} {l : List Node} (h : Alt X S l) :
    ∀ n, n ∈ l → X n ∨ S n := by
  induction h with
  | single hx => intro n hn; simp at hn; subst hn; exact Or.inl hx
  | cons hx hs _ ih =>
    intro n hn
    simp only [List.mem_cons] at hn
    rcases hn with rfl | rfl | hn
    · exact Or.inl hx
    · exact Or.inr hs
    · exact ih n hn

theorem Alt.append {X S : Node → Prop} {l r : List Node} {b : Node} (hl : Alt X S l) (hb : S b)
    (hr : Alt X S r) : Alt X S (l ++ b :: r) := by
  induction hl with
  | single hx => exact .cons hx hb hr
  | cons hx hs _ ih => exact .cons hx hs ih

theorem Alt.ne_nil {X S : Node → Prop} {l : List Node} (h : Alt X S l) : l ≠ [] := by
  cases h <;> simp

theorem Alt.length {X S : Node → Prop} {l : List Node} (h : Alt X S l) :
    l.length = 1 ∨ 3 ≤ l.length := by
  cases h with
  | single _ => left; rfl
  | cons _ _ hr =>
    right
    have := hr.ne_nil
    cases hr <;> simp

theorem Alt.alternates {X S : Node → Prop} {isSep : Node → Bool} {l : List Node}
    (hX : ∀ a, X a → isCommandLike a = true) (hS : ∀ b, S b → isSep b = true) (h : Alt X S l) :
    alternates isSep false l = true := by
  induction h with
  | single hx => simpa [Spec.alternates] using hX _ hx
  | cons hx hs hr ih =>
    simp only [Spec.alternates, hX _ hx, hS _ hs, Bool.true_and, isEmpty_false hr.ne_nil]
    simpa using ih

/-- an alternation without trailing separator is one where a trailing separator is allowed -/
theorem alternates_weaken {isSep : Node → Bool} :
    ∀ l : List Node, alternates isSep false l = true → alternates isSep true l = true
  | [], h => by simp [alternates] at h
  | [a], h => by simpa [alternates] using h
  | a :: b :: rest, h => by
    simp only [alternates, Bool.and_eq_true] at h ⊢
    refine ⟨h.1, ?_⟩
    cases rest with
    | nil => simp
    | cons c cs =>
      simp only [List.isEmpty_cons] at h ⊢
      exact alternates_weaken (c :: cs) (by simpa using h.2)

theorem alternates_snoc {isSep : Node → Bool} {b : Node} (hb : isSep b = true) :
    ∀ l : List Node, alternates isSep false l = true → alternates isSep true (l ++ [b]) = true
  | [], h => by simp [alternates] at h
  | [a], h => by simpa [alternates, hb] using h
  | a :: c :: rest, h => by
    simp only [alternates, Bool.and_eq_true] at h
    cases rest with
    | nil => simp at h
    | cons d ds =>
      simp only [List.isEmpty_cons] at h
      have ih := alternates_snoc hb (d :: ds) (by simpa using h.2)
      simp only [List.cons_append, alternates, h.1.1, h.1.2, Bool.true_and]
      simpa using ih

theorem InL.tree {k : LCls} {l : List Node} (h : InL k l) : ∀ n, n ∈ l → TreeOK n := by
  cases k with
  | words => exact fun n hn => (h n hn).1
  | cmdparts => exact fun n hn => (h.2 n hn).1
  | redirects => exact fun n hn => (h n hn).1
  | ifparts => exact fun n hn => (h n hn).1
  | caseparts => exact fun n hn => (h n hn).1
  | patparts => exact fun n hn => (h n hn).1
  | altOp =>
    intro n hn
    rcases Alt.mem h n hn with hx | hx
    · exact hx.tree
    · exact hx.1
  | altPipe =>
    intro n hn
    rcases Alt.mem h n hn with hx | hx
    · exact hx.tree
    · exact hx.1

end Bashlex.C12
