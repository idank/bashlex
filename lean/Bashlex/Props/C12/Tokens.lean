/-
  C12: the real tokenizer delivers only tokens whose value fits their type (`TokWF`).
  What `readtokenMeta`, `specialcasetokens` and `finishWord` can deliver is listed in
  `Proofs/TokShape.lean`; here `TokWF` is checked on those lists, and `readtoken` / `nextToken`
  are its walk for any predicate on bare types and tokens (`Shape.sat_nextToken_of`).
-/
import Bashlex.Props.C12.Sorts
import Bashlex.Proofs.TokShape

namespace Bashlex.C12
open Bashlex Bashlex.M
set_option linter.tactic.unusedName false

/-- token types `_readtoken` may return bare: their enum value is their spelling -/
def bareOK (ty : TokType) : Bool := ty.strValueChars.isSome

theorem valOK_bare {ty : TokType} (h : bareOK ty = true) : valOK ty ty.enumValue := by
  cases ty <;> first | (exfalso; revert h; decide) | (refine ⟨fun _ => ⟨_, rfl, (by decide), ?_⟩, fun h => (by cases h)⟩; intro s' hs'; cases hs'; rfl)

theorem bareOK_ofChar {c : Char} {t : TokType} (h : TokType.ofChar c = some t) : bareOK t = true := by
  unfold TokType.ofChar at h
  split at h <;> first | (cases h; rfl) | cases h

theorem sat_tokentypeOfChar (c : Char) : Sat (tokentypeOfChar c) (fun t => bareOK t = true) :=
  (Shape.sat_tokentypeOfChar c).weaken (fun _ h => bareOK_ofChar h) (fun _ h => h)

theorem sat_readtokenMeta (c : Char) :
    Sat (readtokenMeta c) (fun r => ∀ t, r = some t → bareOK t = true) := by
  have hops : ∀ t, t ∈ Shape.metaOps → bareOK t = true := by decide
  exact (Shape.sat_readtokenMeta c).weaken
    (fun r h t ht => (h t ht).elim (hops t) bareOK_ofChar) (fun _ h => h)

theorem sat_createtoken {ty : TokType} {v : TVal} {flags : WordFlags} :
    Sat (createtoken ty v flags) (fun t => t.ttype = some ty ∧ t.value = v) :=
  Shape.sat_createtoken.weaken (fun _ h => ⟨h.1, h.2.1⟩) (fun _ h => h)

theorem tokWF_mk {t : Token} {ty : TokType} {v : TVal} (h : t.ttype = some ty ∧ t.value = v)
    (hv : valOK ty v) : TokWF t := by
  intro ty' hty'
  rw [h.1] at hty'
  cases hty'
  rw [h.2]; exact hv

theorem sat_createtoken_wf {ty : TokType} {v : TVal} {flags : WordFlags} (hv : valOK ty v) :
    Sat (createtoken ty v flags) TokWF :=
  sat_createtoken.weaken (fun _ h => tokWF_mk h hv) (fun _ h => h)

theorem valOK_number (k : Nat) : valOK .NUMBER (.int k) :=
  ⟨fun h => (by cases h), fun _ => ⟨k, rfl⟩⟩

theorem valOK_special {ty : TokType} {s : Str}
    (h : s ≠ [] ∧ resOK ty = true ∧ ty.strValueChars = none) : valOK ty (.str s) := by
  obtain ⟨hne, hres, hnone⟩ := h
  refine ⟨fun _ => ⟨s, rfl, hne, fun s' hs' => by rw [hnone] at hs'; cases hs'⟩, fun h => ?_⟩
  subst h; cases hres

theorem mem_of_lookup {α β} [BEq α] [LawfulBEq α] {k : α} {v : β} :
    ∀ {l : List (α × β)}, l.lookup k = some v → (k, v) ∈ l := by
  intro l
  induction l with
  | nil => intro h; cases h
  | cons kv rest ih =>
    intro h
    obtain ⟨k', v'⟩ := kv
    simp only [List.lookup] at h
    split at h
    · rename_i heq
      cases h
      have : k = k' := by simpa using heq
      subst this
      exact List.mem_cons_self
    · exact List.mem_cons_of_mem _ (ih h)

theorem valOK_lookup {s : Str} {ty : TokType}
    (h : List.lookup s reservedFirstCommandChars = some ty) : valOK ty (.str s) := by
  have hmem := mem_of_lookup h
  have hall : ∀ kv, kv ∈ reservedFirstCommandChars →
      (kv.2.strValueChars = none ∨ kv.2.strValueChars = some kv.1) ∧ kv.1 ≠ [] ∧ kv.2 ≠ .NUMBER := by
    decide
  obtain ⟨h1, h2, h3⟩ := hall _ hmem
  refine ⟨fun _ => ⟨s, rfl, h2, fun s' hs' => ?_⟩, fun h => absurd h h3⟩
  rcases h1 with h1 | h1
  · rw [h1] at hs'; cases hs'
  · rw [h1] at hs'; cases hs'; rfl

theorem tokWF_wordlike {t : Token} (h : t.ttype = some .WORD ∨ t.ttype = some .ASSIGNMENT_WORD) :
    TokWF t := by
  intro ty hty
  rcases h with h | h <;> (rw [h] at hty; cases hty; exact ⟨fun h => (by cases h), fun h => (by cases h)⟩)

/-- close a block whose leaves are calls of a join point `k` (already specified) -/
macro "jp_leafs" k:term "," h:term : tactic => `(tactic| repeat' (first
  | (refine $k () _ ?_; first | exact $h | exact Or.inr rfl)
  | exact $k ()
  | refine Sat.ite (fun _ => ?_) (fun _ => ?_)
  | exact Sat.foreign trivial
  | refine Sat.bind_any (fun _ => ?_)))

theorem sat_finishWord (st : RWState) : Sat (finishWord st) TokWF := by
  refine (Shape.sat_finishWord st).weaken (fun tok h => ?_) (fun _ h => h)
  have hspecial : ∀ p, p ∈ Shape.specialTokens → p.2 ≠ [] ∧ resOK p.1 = true ∧ p.1.strValueChars = none := by
    decide
  rcases h with ⟨-, hty, hv, -⟩ | ⟨ty, hty, h, hv, -⟩ | ⟨-, l, asg, t0, hty, -, -, rfl⟩
  · exact tokWF_mk ⟨hty, hv⟩ (valOK_number _)
  · rcases hty with hty | ⟨hty, -, -⟩
    · exact tokWF_mk ⟨h, hv⟩ (valOK_special (hspecial _ hty))
    · exact tokWF_mk ⟨h, hv⟩ (valOK_lookup hty)
  · exact tokWF_wordlike ((Shape.fwToken_ttype st l asg t0).imp (fun h => h.trans hty) id)

theorem sat_readtokenword (c : Char) : Sat (readtokenword c) TokWF := by
  unfold readtokenword
  exact Sat.bind_any (fun _ => Sat.bind_any (fun st => sat_finishWord st))

theorem tokWF_eof : TokWF { ttype := some TokType.EOF, value := .none } := by
  intro ty hty; cases hty; exact ⟨fun h => (by cases h), fun h => (by cases h)⟩

theorem sat_nextToken : Sat nextToken TokWF :=
  Shape.sat_nextToken_of (B := fun ty => bareOK ty = true)
    (Shape.sat_readtoken_of tokWF_eof sat_tokentypeOfChar sat_readtokenMeta sat_readtokenword)
    (fun _ h => sat_createtoken_wf (valOK_bare h))

end Bashlex.C12
