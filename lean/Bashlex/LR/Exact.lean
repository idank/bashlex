/-
  The refinements of `run_sound`, each an instance of `run_val` (`LR/Sound.lean`): exactness of
  acceptance, which symbol is accepted, and an error function that never returns.
-/
import Bashlex.LR.Sound

namespace Bashlex.LR
open Bashlex
set_option linter.unusedSimpArgs false

variable {V : Type}

/-! ## exactness of acceptance

With tables in which the accepting symbols have a goto only from the start state (and the accept
action sits one goto away from it), an accepted run has consumed *exactly* the yield of the
returned derivation tree after the leading NEWLINEs — nothing is left below it on the stack.
Together with `run_sound` this is the (⇒) direction of C09 and the token-level statement of C08,
for every token source. -/

/-- semantic actions raise YaccAccept only in productions whose left-hand side is in `A` -/
def AcceptsOnly (T : Tables) (H : Hooks V) (A : Nat → Prop) (E : Exn → Prop) : Prop :=
  ∀ p lhs rhs args, T.prods[p]? = some (lhs, rhs) →
    M.Sat (H.act p args) (fun r => r.2 = true → A lhs) E

def GoodExact (T : Tables) (VI : Nat → V → Prop) : Res V → Prop
  | .accepted v tr c _ => (Tree.Valid T tr ∧ ∃ pre, c = pre ++ tr.yield ∧ pre.all (· == T.nlTok)) ∧
      VI tr.root v
  | .blank _ c => c.all (· == T.nlTok)

/-- `run_sound` with exactness: under `AccOK`, what was consumed is the leading NEWLINEs followed
    by the yield of the accepted tree -/
theorem run_sound_exact {T reach acc} (h : WF T reach acc) {A : Nat → Prop} (hx : AccOK T reach A) (H : Hooks V) {VI E}
    (hH : HooksRaise T H VI E) (hA : AcceptsOnly T H A E) (fuel : Nat) :
    M.Sat (run T H fuel) (GoodExact T VI) (EngineExn E) :=
  (run_val (A' := fun _ => True) h (fun _ _ => trivial) (fun _ _ _ _ => trivial)
    ⟨hH.next.weaken (fun _ hv => ⟨hv, trivial⟩) (fun _ hx => hx),
     fun p lhs rhs args hp _ ha => (hH.act p lhs rhs args hp ha).and (hA p lhs rhs args hp),
     fun la (_ : True) => hH.onError la⟩ fuel).weaken (fun res hg => by
    cases res with
    | accepted v tr cs b =>
      obtain ⟨hv, ⟨pre, front, hc, hpre, hf⟩, hvi, _⟩ := hg
      exact ⟨⟨hv, pre, by simpa [hf hx] using hc, hpre⟩, hvi⟩
    | blank n cs => exact hg) ValExn.engineExn

/-! ## which symbol is accepted

The engine accepts either because a semantic action asked for it (YaccAccept) or through the
`accept` entry of the action table.  If both can only happen at symbols satisfying `A`, then the
root of every accepted tree satisfies `A`. -/

/-- as `HooksRaise`, and an action that raises YaccAccept does so only for a left-hand side in `A` -/
structure HooksAcc (T : Tables) (H : Hooks V) (VI : Nat → V → Prop) (A : Nat → Prop)
    (E : Exn → Prop) : Prop where
  next : M.Sat H.next (fun la => VI la.1 la.2) E
  act : ∀ p lhs rhs args, T.prods[p]? = some (lhs, rhs) → Forall2 VI rhs args →
      M.Sat (H.act p args) (fun r => VI lhs r.1 ∧ (r.2 = true → A lhs)) E
  onError : ∀ la, M.Sat (H.onError la) (fun _ => True) E

theorem HooksAcc.toRaise {T : Tables} {H : Hooks V} {VI A E} (h : HooksAcc T H VI A E) :
    HooksRaise T H VI E :=
  ⟨h.next, fun p lhs rhs args hp ha => (h.act p lhs rhs args hp ha).weaken (fun _ h => h.1)
    (fun _ h => h), h.onError⟩

/-- what a normal return guarantees about the accepted value and the root symbol -/
def GoodAcc (VI : Nat → V → Prop) (A : Nat → Prop) : Res V → Prop
  | .accepted v tr _ _ => VI tr.root v ∧ A tr.root
  | .blank _ _ => True

theorem HooksAcc.toVal {T : Tables} {reach : Nat → Prop} {H : Hooks V} {VI A E}
    (hH : HooksAcc T H VI A E) : HooksVal T reach H VI (fun _ => True) A True E :=
  ⟨hH.next.weaken (fun _ hv => ⟨hv, trivial⟩) (fun _ hx => hx),
   fun p lhs rhs args hp _ ha => hH.act p lhs rhs args hp ha, fun la _ => hH.onError la⟩

/-- accepted roots satisfy `A` -/
theorem run_sound_acc {T reach acc} (h : WF T reach acc) {A : Nat → Prop}
    (hA : ∀ s la, reach s → T.action s la = some .accept → A (acc s))
    (H : Hooks V) {VI E} (hH : HooksAcc T H VI A E) (fuel : Nat) :
    M.Sat (run T H fuel) (GoodAcc VI A) (EngineExn E) :=
  (run_val h (fun _ hx => hx) hA hH.toVal fuel).weaken (fun res hg => by
    cases res with
    | accepted v tr cs b => exact hg.2.2
    | blank n cs => trivial) ValExn.engineExn

/-! ## an error function that never returns

bashlex's `p_error` always raises: `run_val` with `NM := False`.  The engine itself adds no
exception but running out of fuel; the marker of the unmodelled PLY error recovery is
unreachable. -/

/-- like `HooksRaise`, but the error function never returns -/
structure HooksRaise' (T : Tables) (reach : Nat → Prop) (H : Hooks V) (VI : Nat → V → Prop)
    (LA : Nat × V → Prop) (E : Exn → Prop) : Prop where
  /-- `LA`: what is known of a look-ahead beyond the value invariant of its symbol -/
  next : M.Sat H.next (fun la => VI la.1 la.2 ∧ LA la) E
  /-- only for productions whose left-hand side has a goto from a reachable state (the engine
      reduces by no other: this excludes the augmented production `S' → inputunit`) -/
  act : ∀ p lhs rhs args, T.prods[p]? = some (lhs, rhs) →
      (∃ s t, reach s ∧ T.goto s lhs = some t) → Forall2 VI rhs args →
      M.Sat (H.act p args) (fun r => VI lhs r.1) E
  onError : ∀ la, LA la → M.Sat (H.onError la) (fun _ => False) E

/-- the only exception the engine itself adds -/
def EngineExn' (E : Exn → Prop) (x : Exn) : Prop := E x ∨ x = .outOfFuel "LRParser.parse"

/-- `run_sound` for an error function that never returns: the engine adds nothing but running
    out of its fuel -/
theorem run_sound' {T reach acc} (h : WF T reach acc) (H : Hooks V) {VI LA E}
    (hH : HooksRaise' T reach H VI LA E) (fuel : Nat) :
    M.Sat (run T H fuel) (Good T VI) (EngineExn' E) :=
  (run_val (A := fun _ => True) (A' := fun _ => True) (NM := False) h (fun _ hx => hx)
    (fun _ _ _ _ => trivial)
    ⟨hH.next, fun p lhs rhs args hp hg ha => (hH.act p lhs rhs args hp hg ha).weaken
      (fun _ hv => ⟨hv, fun _ => trivial⟩) (fun _ hx => hx), hH.onError⟩ fuel).weaken
    (fun _ => good_of_val)
    (fun _ hx => hx.imp_right (Or.elim · id (fun h => h.1.elim)))

end Bashlex.LR
