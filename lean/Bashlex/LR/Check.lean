/-
  A boolean well-formedness check for LR tables given as rows of encoded entries (the form
  `tools/extract.py` emits), and the proof that the check implies `WF`.
  The certificates (reachable states, accessing symbols, predecessor lists, reduce lists) are
  untrusted: the check validates what it uses.
-/
import Bashlex.LR.Sound
import Bashlex.LR.Exact
import Bashlex.LR.RealTables

namespace Bashlex.LR
set_option linter.unusedSimpArgs false

namespace Raw

/-- boolean version of `BackOK` -/
def backOK (R : Raw) : List Nat → Nat → Nat → Bool
  | [], s, lhs => R.nTerms ≤ lhs && (R.goto s lhs).isSome
  | x :: xs, s, lhs =>
    s != 0 && R.accOf s == x &&
    (R.predsOf s).all fun s' => if R.toTables.edge s' x == some s then backOK R xs s' lhs else true

def checkRed (R : Raw) (s p : Nat) : Bool :=
  match R.prods[p]? with
  | none => false
  | some (lhs, rhs) => backOK R rhs.reverse s lhs

/-- target `t` of an edge from `s` labelled `X` is fine -/
def checkEdge (R : Raw) (s X t : Nat) : Bool :=
  R.reach.contains t && R.accOf t == X && t != 0 && (R.predsOf t).contains s

def checkActionEntry (R : Raw) (s e : Nat) : Bool :=
  let la := e / 4096
  match decodeAct (e % 4096) with
  | .shift t => la < R.nTerms && checkEdge R s la t
  | .reduce p => checkRed R s p
  | .accept => s != 0

def checkGotoEntry (R : Raw) (s e : Nat) : Bool :=
  checkEdge R s (e / 4096) (e % 4096)

def checkState (R : Raw) (s : Nat) : Bool :=
  (R.actionRow s).all (checkActionEntry R s) && (R.gotoRow s).all (checkGotoEntry R s) &&
  (match R.dfltOf s with | none => true | some p => checkRed R s p)

/-- every shift entry anywhere is on a terminal -/
def checkShiftTerm (R : Raw) : Bool :=
  R.actionRows.all fun row => row.all fun e =>
    match decodeAct (e % 4096) with
    | .shift _ => e / 4096 < R.nTerms
    | _ => true

def check (R : Raw) : Bool :=
  R.reach.contains 0 && R.reach.all (checkState R) && checkShiftTerm R &&
  (R.actionRow 0).all (fun e => decodeAct (e % 4096) != .accept)

end Raw

/-! ### soundness of the check -/

theorem rowLookup_mem {row : List Nat} {k v : Nat} (h : rowLookup row k = some v) :
    ∃ e, e ∈ row ∧ e / 4096 = k ∧ e % 4096 = v := by
  unfold rowLookup at h
  cases hf : row.find? (fun e => e / 4096 == k) with
  | none => simp [hf] at h
  | some e =>
    simp [hf] at h
    refine ⟨e, List.mem_of_find?_eq_some hf, ?_, h⟩
    have := List.find?_some hf
    simpa using this

namespace Raw

theorem action_mem {R : Raw} {s la : Nat} {a : Act} (h : R.action s la = some a) :
    ∃ e, e ∈ R.actionRow s ∧ e / 4096 = la ∧ decodeAct (e % 4096) = a := by
  unfold action at h
  cases hl : rowLookup (R.actionRow s) la with
  | none => simp [hl] at h
  | some v =>
    simp [hl] at h
    obtain ⟨e, he, hk, hv⟩ := rowLookup_mem hl
    exact ⟨e, he, hk, by rw [hv]; exact h⟩

theorem goto_mem {R : Raw} {s X t : Nat} (h : R.goto s X = some t) :
    ∃ e, e ∈ R.gotoRow s ∧ e / 4096 = X ∧ e % 4096 = t :=
  rowLookup_mem h

/-- from a passed check: every edge out of a reachable state is fine -/
theorem edge_ok {R : Raw} (hc : R.check = true) {s X t : Nat} (hs : s ∈ R.reach)
    (he : R.toTables.edge s X = some t) : checkEdge R s X t = true := by
  unfold check at hc
  simp only [Bool.and_eq_true, List.all_eq_true] at hc
  obtain ⟨⟨⟨_, hst⟩, _⟩, _⟩ := hc
  have hstate := hst s hs
  unfold checkState at hstate
  simp only [Bool.and_eq_true, List.all_eq_true] at hstate
  obtain ⟨⟨hact, hgoto⟩, _⟩ := hstate
  unfold Tables.edge at he
  simp only [toTables] at he
  by_cases hX : X < R.nTerms
  · -- terminal: shift
    simp only [hX, if_true] at he
    cases hact' : R.action s X with
    | none => simp [hact'] at he
    | some a =>
      cases a with
      | shift t' =>
        simp only [hact'] at he
        cases he
        obtain ⟨e, hmem, hk, hd⟩ := action_mem hact'
        have := hact e hmem
        unfold checkActionEntry at this
        simp only [hd, hk, Bool.and_eq_true] at this
        exact this.2
      | reduce p => simp [hact'] at he
      | accept => simp [hact'] at he
  · simp only [hX, if_false] at he
    obtain ⟨e, hmem, hk, hv⟩ := goto_mem he
    have := hgoto e hmem
    unfold checkGotoEntry at this
    rw [hk, hv] at this
    exact this

theorem backOK_sound {R : Raw} (hc : R.check = true) :
    ∀ (xs : List Nat) (s lhs : Nat), backOK R xs s lhs = true →
      BackOK R.toTables (· ∈ R.reach) R.accOf s xs lhs := by
  intro xs
  induction xs with
  | nil =>
    intro s lhs h
    unfold backOK at h
    simp only [Bool.and_eq_true, decide_eq_true_eq] at h
    obtain ⟨hl, hg⟩ := h
    obtain ⟨t, ht⟩ := Option.isSome_iff_exists.mp hg
    refine .base s lhs t ?_ hl
    have : ¬ lhs < R.nTerms := Nat.not_lt.mpr hl
    simp [Tables.edge, toTables, this, ht]
  | cons x xs ih =>
    intro s lhs h
    unfold backOK at h
    simp only [Bool.and_eq_true, bne_iff_ne, ne_eq, beq_iff_eq, List.all_eq_true] at h
    obtain ⟨⟨hs0, hacc⟩, hall⟩ := h
    refine .step s x xs lhs hs0 hacc ?_
    intro s' hr' hedge
    have hce := edge_ok hc hr' hedge
    unfold checkEdge at hce
    simp only [Bool.and_eq_true, List.contains_iff_mem] at hce
    have hmem : s' ∈ R.predsOf s := by
      have := hce.2
      simpa using this
    have := hall s' hmem
    simp only [hedge, beq_self_eq_true, if_true] at this
    exact ih s' lhs this

theorem checkRed_sound {R : Raw} (hc : R.check = true) {s p : Nat} (h : checkRed R s p = true) :
    ∃ lhs rhs, R.toTables.prods[p]? = some (lhs, rhs) ∧
      BackOK R.toTables (· ∈ R.reach) R.accOf s rhs.reverse lhs := by
  unfold checkRed at h
  cases hp : R.prods[p]? with
  | none => simp [hp] at h
  | some pr =>
    obtain ⟨lhs, rhs⟩ := pr
    simp only [hp] at h
    exact ⟨lhs, rhs, hp, backOK_sound hc _ _ _ h⟩

/-- **the check implies well-formedness** -/
theorem check_sound {R : Raw} (hc : R.check = true) :
    WF R.toTables (· ∈ R.reach) R.accOf := by
  have hc' := hc
  unfold check at hc'
  simp only [Bool.and_eq_true, List.all_eq_true, List.contains_iff_mem] at hc'
  obtain ⟨⟨⟨h0, hst⟩, hshift⟩, hacc0⟩ := hc'
  refine ⟨by simpa using h0, ?_, ?_, ?_, ?_, ?_⟩
  · intro s X t hs he
    have := edge_ok hc hs he
    unfold checkEdge at this
    simp only [Bool.and_eq_true, List.contains_iff_mem, beq_iff_eq, bne_iff_ne, ne_eq] at this
    exact ⟨by simpa using this.1.1.1, this.1.1.2, this.1.2⟩
  · intro s la p hs hact
    obtain ⟨e, hmem, hk, hd⟩ := action_mem (R := R) hact
    have hstate := hst s hs
    unfold checkState at hstate
    simp only [Bool.and_eq_true, List.all_eq_true] at hstate
    have := hstate.1.1 e hmem
    unfold checkActionEntry at this
    simp only [hd] at this
    exact checkRed_sound hc this
  · intro s p hs hd
    have hstate := hst s hs
    unfold checkState at hstate
    simp only [Bool.and_eq_true, List.all_eq_true] at hstate
    have := hstate.2
    have hd' : R.dfltOf s = some p := hd
    simp only [hd'] at this
    exact checkRed_sound hc this
  · intro s la t hact
    obtain ⟨e, hmem, hk, hd⟩ := action_mem (R := R) hact
    unfold checkShiftTerm at hshift
    simp only [List.all_eq_true] at hshift
    have hrow : R.actionRow s ∈ R.actionRows ∨ R.actionRow s = [] := by
      unfold actionRow
      by_cases hlt : s < R.actionRows.length
      · left; simp [List.getD_eq_getElem?_getD, List.getElem?_eq_getElem hlt]
      · right; simp [List.getD_eq_getElem?_getD, List.getElem?_eq_none (Nat.le_of_not_lt hlt)]
    rcases hrow with hrow | hrow
    · have := hshift _ hrow e hmem
      simp only [hd, decide_eq_true_eq] at this
      rw [← hk]; exact this
    · rw [hrow] at hmem; cases hmem
  · intro la hact
    obtain ⟨e, hmem, hk, hd⟩ := action_mem (R := R) hact
    have := hacc0 e hmem
    simp [hd] at this

end Raw
end Bashlex.LR

namespace Bashlex.LR
set_option linter.unusedSimpArgs false

namespace Raw

/-- boolean check for `AccOK`: the accepting symbols `A` have a goto only from state 0 and every
    state holding the accept action is entered only from state 0 -/
def checkAcc (R : Raw) (A : List Nat) : Bool :=
  R.reach.all fun s =>
    (R.gotoRow s).all (fun e => !(A.contains (e / 4096)) || s == 0) &&
    ((R.actionRow s).all (fun e => decodeAct (e % 4096) != .accept) || (R.predsOf s).all (· == 0))

theorem checkAcc_sound {R : Raw} {A : List Nat} (hc : R.check = true) (ha : R.checkAcc A = true) :
    AccOK R.toTables (· ∈ R.reach) (· ∈ A) := by
  unfold checkAcc at ha
  simp only [List.all_eq_true, Bool.and_eq_true] at ha
  refine ⟨?_, ?_⟩
  · intro s lhs t hs hA hg
    obtain ⟨e, hmem, hk, _⟩ := goto_mem (R := R) hg
    have := (ha s hs).1 e hmem
    simp only [Bool.or_eq_true, Bool.not_eq_true', beq_iff_eq] at this
    rcases this with h | h
    · rw [hk] at h
      have : A.contains lhs = true := by simpa using hA
      rw [this] at h; cases h
    · exact h
  · intro s la hs hact s' hs' X hedge
    obtain ⟨e, hmem, _, hd⟩ := action_mem (R := R) hact
    have h2 := (ha s hs).2
    simp only [Bool.or_eq_true, List.all_eq_true] at h2
    rcases h2 with h | h
    · have := h e hmem
      simp [hd] at this
    · have hce := edge_ok hc hs' hedge
      unfold checkEdge at hce
      simp only [Bool.and_eq_true, List.contains_iff_mem] at hce
      have hmem' : s' ∈ R.predsOf s := by simpa using hce.2
      have := h s' hmem'
      simpa using this

end Raw
end Bashlex.LR

/-! ### the accept entries of tables given in `Raw` form (for `run_sound_acc`) -/

namespace Bashlex.LR
open Bashlex


/-- every `accept` entry in the row of a reachable state sits in a state whose accessing symbol
    satisfies `okSym` -/
def Raw.checkAccept (R : Raw) (okSym : Nat → Bool) : Bool :=
  R.reach.all fun s => (R.actionRow s).all fun e =>
    decodeAct (e % 4096) != .accept || okSym (R.accOf s)

theorem Raw.checkAccept_sound {R : Raw} {okSym : Nat → Bool} (hc : R.checkAccept okSym = true) :
    ∀ s la, s ∈ R.reach → R.toTables.action s la = some .accept → okSym (R.accOf s) = true := by
  intro s la hs hact
  obtain ⟨e, hmem, _, hd⟩ := Raw.action_mem (R := R) hact
  unfold Raw.checkAccept at hc
  simp only [List.all_eq_true] at hc
  have := hc s hs e hmem
  simpa [hd] using this

end Bashlex.LR
