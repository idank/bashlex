/-
  `Raw.check` in a form the kernel evaluates faster, and the proof that it implies `Raw.check`.
  The certificates are packed into numbers (`LR/Pack.lean`): the reachable states as a mask, the
  accessing symbols as 16-bit fields, the predecessor lists as 512-bit masks, and (for the backward
  walk, which fetches them at every step) as a table in blocks, like the goto rows; the rows are walked
  once, with their index, instead of being fetched by `getD` for every reachable state; what is
  asked of every production reduced in a reachable state goes through one iterator (`forallRed`:
  a production is looked at once per run of equal reduce entries of a row), and the backward walk
  follows every listed predecessor instead of looking the edge up first.
-/
import Bashlex.LR.Check
import Bashlex.LR.Pack

namespace Bashlex.LR
namespace Raw

structure Packed where
  reachM : Nat
  accP : Nat
  predP : Nat
  predB : List (List (List Nat))
  gotoB : List (List (List Nat))

def packed (R : Raw) : Packed :=
  { reachM := mask R.reach, accP := pack 16 R.acc, predP := pack 512 (R.preds.map mask),
    predB := tab R.preds, gotoB := tab R.gotoRows }

/-- `R.predsOf`, `R.goto` read from the tables in blocks -/
def Packed.preds (p : Packed) (s : Nat) : List Nat := tabGet p.predB [] s
def Packed.goto (p : Packed) (s X : Nat) : Option Nat := rowLookup (tabGet p.gotoB [] s) X

theorem packed_preds (R : Raw) (s : Nat) : R.packed.preds s = R.predsOf s := tabGet_tab ..
theorem packed_goto (R : Raw) (s X : Nat) : R.packed.goto s X = R.goto s X :=
  congrArg (rowLookup · X) (tabGet_tab ..)

/-- `checkEdge` on the packed certificates -/
def edgeP (p : Packed) (s X t : Nat) : Bool :=
  p.reachM.testBit t && row 16 p.accP t == X && t != 0 && (row 512 p.predP t).testBit s

/-- the shift and accept entries of `checkActionEntry` -/
def actEntryP (R : Raw) (p : Packed) (s e : Nat) : Bool :=
  match decodeAct (e % 4096) with
  | .shift t => e / 4096 < R.nTerms && edgeP p s (e / 4096) t
  | .reduce _ => true
  | .accept => s != 0

/-- `backOK` with the accessing symbol, the predecessors and the goto read from the packed tables
    and without the test `edge s' x = some s` on the predecessors: every listed predecessor is
    followed -/
def backP (R : Raw) (p : Packed) : List Nat → Nat → Nat → Bool
  | [], s, lhs => R.nTerms ≤ lhs && (p.goto s lhs).isSome
  | x :: xs, s, lhs =>
    s != 0 && row 16 p.accP s == x && (p.preds s).all fun s' => backP R p xs s' lhs

def checkRedP (R : Raw) (p : Packed) (s q : Nat) : Bool :=
  match R.prods[q]? with
  | none => false
  | some (lhs, rhs) => backP R p rhs.reverse s lhs

/-- `ok q` for the production `q` of every reduce entry of a row; `last` is the production of the
    previous reduce entry, which has been checked -/
def redRowOk (ok : Nat → Bool) : Option Nat → List Nat → Bool
  | _, [] => true
  | last, e :: es =>
    match decodeAct (e % 4096) with
    | .reduce q => (last == some q || ok q) && redRowOk ok (some q) es
    | _ => redRowOk ok last es

/-- `ok s row` for the rows of the states in `m`, numbered from `s` -/
def rowsAll (m : Nat) (ok : Nat → List Nat → Bool) : Nat → List (List Nat) → Bool
  | _, [] => true
  | s, r :: rs => (!m.testBit s || ok s r) && rowsAll m ok (s + 1) rs

/-- `ok s q` for every reachable state `s` and every production `q` reduced there, on a look-ahead
    or by default -/
def forallRed (R : Raw) (ok : Nat → Nat → Bool) : Bool :=
  rowsAll R.packed.reachM (fun s r => redRowOk (ok s) none r) 0 R.actionRows &&
  R.dflt.all fun d => !R.packed.reachM.testBit d.1 || ok d.1 d.2

def checkP (R : Raw) : Bool :=
  R.acc.all (fun a => decide (a < 2 ^ 16)) && R.reach.contains 0 &&
  rowsAll R.packed.reachM (fun s r => r.all (actEntryP R R.packed s)) 0 R.actionRows &&
  forallRed R (checkRedP R R.packed) &&
  rowsAll R.packed.reachM (fun s r => r.all fun e => edgeP R.packed s (e / 4096) (e % 4096)) 0
    R.gotoRows &&
  checkShiftTerm R && (R.actionRow 0).all (fun e => decodeAct (e % 4096) != .accept)

theorem rowsAll_getD {m : Nat} {ok : Nat → List Nat → Bool} (hnil : ∀ s, ok s [] = true) :
    ∀ (rs : List (List Nat)) (s : Nat), rowsAll m ok s rs = true →
      ∀ i, m.testBit (s + i) = true → ok (s + i) (rs.getD i []) = true
  | [], _, _, i, _ => by rw [List.getD_nil]; exact hnil _
  | r :: rs, s, h, i, hi => by
    unfold rowsAll at h
    rw [Bool.and_eq_true] at h
    cases i with
    | zero =>
      rw [Nat.add_zero] at hi ⊢
      rw [hi] at h
      simpa using h.1
    | succ i =>
      rw [List.getD_cons_succ, ← Nat.add_assoc, Nat.add_right_comm]
      exact rowsAll_getD hnil rs (s + 1) h.2 i (by rw [Nat.add_right_comm, Nat.add_assoc]; exact hi)

theorem mem_reach_bit {R : Raw} {s : Nat} (hs : s ∈ R.reach) :
    R.packed.reachM.testBit (0 + s) = true := by
  rw [Nat.zero_add]
  show (mask R.reach).testBit s = true
  rw [testBit_mask]
  exact List.contains_iff_mem.mpr hs

theorem accP_row {R : Raw} (hacc : R.acc.all (fun a => decide (a < 2 ^ 16)) = true) (t : Nat) :
    row 16 R.packed.accP t = R.accOf t :=
  row_pack_lt hacc t

theorem edgeP_sound {R : Raw} (hacc : R.acc.all (fun a => decide (a < 2 ^ 16)) = true) {s X t : Nat}
    (h : edgeP R.packed s X t = true) : checkEdge R s X t = true := by
  unfold edgeP at h
  rw [accP_row hacc] at h
  unfold packed at h
  unfold checkEdge
  simp only [Bool.and_eq_true, testBit_mask, testBit_row_pack] at h ⊢
  obtain ⟨⟨⟨h1, h2⟩, h3⟩, h4⟩ := h
  refine ⟨⟨⟨h1, h2⟩, h3⟩, ?_⟩
  have hm : (R.preds.map mask).getD t 0 = mask (R.predsOf t) := by
    unfold predsOf
    simp only [List.getD_eq_getElem?_getD, List.getElem?_map]
    cases R.preds[t]? <;> rfl
  rw [hm, testBit_mask] at h4
  exact h4.2

theorem backP_sound {R : Raw} (hacc : R.acc.all (fun a => decide (a < 2 ^ 16)) = true) :
    ∀ (xs : List Nat) (s lhs : Nat), backP R R.packed xs s lhs = true → backOK R xs s lhs = true
  | [], s, lhs, h => by
    unfold backP at h
    rwa [packed_goto] at h
  | x :: xs, s, lhs, h => by
    unfold backP at h
    unfold backOK
    rw [accP_row hacc, packed_preds] at h
    simp only [Bool.and_eq_true, List.all_eq_true] at h ⊢
    refine ⟨h.1, fun s' hs' => ?_⟩
    split
    · exact backP_sound hacc xs s' lhs (h.2 s' hs')
    · rfl

theorem checkRedP_sound {R : Raw} (hacc : R.acc.all (fun a => decide (a < 2 ^ 16)) = true) {s q : Nat}
    (h : checkRedP R R.packed s q = true) : checkRed R s q = true := by
  unfold checkRedP at h
  unfold checkRed
  cases hq : R.prods[q]? with
  | none => rw [hq] at h; exact h
  | some pr => rw [hq] at h; exact backP_sound hacc _ _ _ h

theorem redRowOk_sound {ok : Nat → Bool} : ∀ (es : List Nat) (last : Option Nat),
    (∀ q, last = some q → ok q = true) → redRowOk ok last es = true →
    ∀ e ∈ es, ∀ q, decodeAct (e % 4096) = .reduce q → ok q = true
  | [], _, _, _, e, he, _, _ => by cases he
  | e0 :: es, last, hl, h, e, he, q, hp => by
    unfold redRowOk at h
    cases hd : decodeAct (e0 % 4096) with
    | reduce p0 =>
      rw [hd] at h
      simp only [Bool.and_eq_true, Bool.or_eq_true, beq_iff_eq] at h
      have hp0 : ok p0 = true := h.1.elim (fun hq => hl p0 hq) id
      rcases List.mem_cons.mp he with rfl | he
      · rw [hd] at hp
        cases hp
        exact hp0
      · exact redRowOk_sound es (some p0) (fun q hq => by cases hq; exact hp0) h.2 e he q hp
    | shift t =>
      rw [hd] at h
      rcases List.mem_cons.mp he with rfl | he
      · rw [hd] at hp; cases hp
      · exact redRowOk_sound es last hl h e he q hp
    | accept =>
      rw [hd] at h
      rcases List.mem_cons.mp he with rfl | he
      · rw [hd] at hp; cases hp
      · exact redRowOk_sound es last hl h e he q hp

theorem forallRed_sound {R : Raw} {ok : Nat → Nat → Bool} (h : forallRed R ok = true) {s : Nat}
    (hs : s ∈ R.reach) :
    (∀ e ∈ R.actionRow s, ∀ q, decodeAct (e % 4096) = .reduce q → ok s q = true) ∧
    (∀ q, R.dfltOf s = some q → ok s q = true) := by
  unfold forallRed at h
  rw [Bool.and_eq_true] at h
  have hbit := mem_reach_bit hs
  constructor
  · have hA := rowsAll_getD (fun _ => rfl) _ 0 h.1 s hbit
    rw [Nat.zero_add] at hA
    exact redRowOk_sound _ none (fun q hq => by cases hq) hA
  · intro q hq
    unfold dfltOf at hq
    obtain ⟨d, hd, rfl⟩ := Option.map_eq_some_iff.mp hq
    have hds : d.1 = s := by simpa using List.find?_some hd
    have := List.all_eq_true.mp h.2 d (List.mem_of_find?_eq_some hd)
    rw [hds] at this
    rw [Nat.zero_add] at hbit
    simpa [hbit] using this

/-- **the packed check implies the check** -/
theorem checkP_sound {R : Raw} (h : R.checkP = true) : R.check = true := by
  unfold checkP at h
  simp only [Bool.and_eq_true] at h
  obtain ⟨⟨⟨⟨⟨⟨hacc, h0⟩, hA⟩, hF⟩, hG⟩, hS⟩, hI⟩ := h
  unfold check
  simp only [Bool.and_eq_true]
  refine ⟨⟨⟨h0, ?_⟩, hS⟩, hI⟩
  rw [List.all_eq_true]
  intro s hs
  have hbit := mem_reach_bit hs
  have hA' := rowsAll_getD (fun _ => rfl) _ 0 hA s hbit
  have hG' := rowsAll_getD (fun _ => rfl) _ 0 hG s hbit
  rw [Nat.zero_add] at hA' hG'
  simp only [List.all_eq_true] at hA' hG'
  have hF' := forallRed_sound hF hs
  unfold checkState
  simp only [Bool.and_eq_true, List.all_eq_true]
  refine ⟨⟨fun e he => ?_, fun e he => edgeP_sound hacc (hG' e he)⟩, ?_⟩
  · have h1 := hA' e he
    unfold actEntryP at h1
    unfold checkActionEntry
    cases hd : decodeAct (e % 4096) with
    | shift t =>
      rw [hd] at h1
      simp only [Bool.and_eq_true] at h1 ⊢
      exact ⟨h1.1, edgeP_sound hacc h1.2⟩
    | reduce q => exact checkRedP_sound hacc (hF'.1 e he q hd)
    | accept => rw [hd] at h1; exact h1
  · cases hq : R.dfltOf s with
    | none => rfl
    | some q => exact checkRedP_sound hacc (hF'.2 q hq)

/-! ### the checks on the accept entries, rows walked once -/

def checkAccP (R : Raw) (A : List Nat) : Bool :=
  rowsAll R.packed.reachM (fun s r => r.all fun e => !(A.contains (e / 4096)) || s == 0) 0
    R.gotoRows &&
  rowsAll R.packed.reachM (fun s r => r.all (fun e => decodeAct (e % 4096) != .accept) ||
    (R.predsOf s).all (· == 0)) 0 R.actionRows

theorem checkAccP_sound {R : Raw} {A : List Nat} (h : R.checkAccP A = true) :
    R.checkAcc A = true := by
  unfold checkAccP at h
  rw [Bool.and_eq_true] at h
  unfold checkAcc
  rw [List.all_eq_true]
  intro s hs
  have hG := rowsAll_getD (fun _ => rfl) _ 0 h.1 s (mem_reach_bit hs)
  have hA := rowsAll_getD (fun _ => rfl) _ 0 h.2 s (mem_reach_bit hs)
  rw [Nat.zero_add] at hG hA
  rw [Bool.and_eq_true]
  exact ⟨hG, hA⟩

def checkAcceptP (R : Raw) (okSym : Nat → Bool) : Bool :=
  rowsAll R.packed.reachM (fun s r => r.all (fun e => decodeAct (e % 4096) != .accept) ||
    okSym (R.accOf s)) 0 R.actionRows

theorem checkAcceptP_sound {R : Raw} {okSym : Nat → Bool} (h : R.checkAcceptP okSym = true) :
    R.checkAccept okSym = true := by
  unfold checkAccept
  simp only [List.all_eq_true]
  intro s hs e he
  have hA := rowsAll_getD (fun _ => rfl) _ 0 h s (mem_reach_bit hs)
  rw [Nat.zero_add, Bool.or_eq_true, List.all_eq_true] at hA
  rcases hA with hA | hA
  · rw [hA e he]; rfl
  · rw [hA, Bool.or_true]

theorem checkAccept_mono {R : Raw} {ok ok' : Nat → Bool} (h : ∀ s, ok s = true → ok' s = true)
    (hc : R.checkAccept ok = true) : R.checkAccept ok' = true := by
  unfold checkAccept at hc ⊢
  simp only [List.all_eq_true, Bool.or_eq_true] at hc ⊢
  exact fun s hs e he => (hc s hs e he).imp id (h _)

end Raw
end Bashlex.LR
