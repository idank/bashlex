/-
  Tables of small numbers packed into one number, for checks that the kernel evaluates: on lists
  every `getD`, `set` and `contains` is a walk, one unfolding per cell, while shifts and masks on
  literals are one step each.  `mask l` is the set `l` as bits; `pack w M` holds `M[x] % 2^w` in
  bits `w*x .. w*x+w-1`, and `row w F x` reads that field.  A table of lists stays a list, cut into
  blocks of 16 (`tab`, `tabGet`).
-/
namespace Bashlex.LR

def row (w F x : Nat) : Nat := (F >>> (w * x)) % 2 ^ w

def pack (w : Nat) : List Nat → Nat
  | [] => 0
  | m :: M => m % 2 ^ w ||| pack w M <<< w

def mask (l : List Nat) : Nat := l.foldl (fun m a => m ||| 2 ^ a) 0

theorem testBit_row (w F x a : Nat) :
    (row w F x).testBit a = (decide (a < w) && F.testBit (w * x + a)) := by
  simp only [row, Nat.testBit_mod_two_pow, Nat.testBit_shiftRight]

theorem testBit_row_pack (w : Nat) : ∀ (M : List Nat) (x a : Nat),
    (row w (pack w M) x).testBit a = (decide (a < w) && (M.getD x 0).testBit a)
  | [], x, a => by simp [row, pack]
  | m :: M, 0, a => by
    rw [testBit_row]
    simp only [pack, Nat.testBit_or, Nat.testBit_mod_two_pow, Nat.testBit_shiftLeft,
      List.getD_cons_zero, Nat.mul_zero, Nat.zero_add]
    by_cases ha : a < w
    · have : ¬ w ≤ a := by omega
      simp [ha, this]
    · simp [ha]
  | m :: M, x + 1, a => by
    have ih := testBit_row_pack w M x a
    rw [testBit_row] at ih ⊢
    simp only [pack, Nat.testBit_or, Nat.testBit_mod_two_pow, Nat.testBit_shiftLeft,
      List.getD_cons_succ, Nat.mul_succ]
    rw [← ih]
    by_cases ha : a < w
    · have h1 : ¬ w * x + w + a < w := by omega
      have h2 : w * x + w + a ≥ w := by omega
      have h3 : w * x + w + a - w = w * x + a := by omega
      simp [ha, h1, h2, h3]
    · simp [ha]

theorem row_pack (w : Nat) (M : List Nat) (x : Nat) : row w (pack w M) x = M.getD x 0 % 2 ^ w :=
  Nat.eq_of_testBit_eq fun a => by rw [testBit_row_pack, Nat.testBit_mod_two_pow]

/-- a table of fields that fit is read back exactly -/
theorem row_pack_lt {w : Nat} {M : List Nat} (h : M.all (fun a => decide (a < 2 ^ w)) = true)
    (x : Nat) : row w (pack w M) x = M.getD x 0 := by
  have hlt : M.getD x 0 < 2 ^ w := by
    rw [List.getD_eq_getElem?_getD]
    cases hg : M[x]? with
    | none => exact Nat.two_pow_pos w
    | some a => exact of_decide_eq_true (List.all_eq_true.mp h a (List.mem_of_getElem? hg))
  rw [row_pack, Nat.mod_eq_of_lt hlt]

theorem testBit_mask (l : List Nat) (t : Nat) : (mask l).testBit t = l.contains t := by
  have key : ∀ (l : List Nat) (m : Nat),
      (l.foldl (fun m a => m ||| 2 ^ a) m).testBit t = (m.testBit t || l.contains t) := by
    intro l
    induction l with
    | nil => intro m; simp
    | cons a l ih =>
      intro m
      rw [List.foldl_cons, ih, Nat.testBit_or, Nat.testBit_two_pow, List.contains_cons, Bool.or_assoc]
      congr 2
      simp only [eq_comm (a := a)]
      rfl
  simpa [mask] using key l 0

/-- `l` cut into `f` blocks of `n` entries -/
def blocks {α : Type} (n : Nat) : Nat → List α → List (List α)
  | 0, _ => []
  | f + 1, l => l.take n :: blocks n f (l.drop n)

/-- a table in blocks of 16: entry `i` is reached in `i / 16 + i % 16` steps instead of `i` -/
def tab {α : Type} (l : List α) : List (List α) := blocks 16 (l.length / 16 + 1) l

def tabGet {α : Type} (B : List (List α)) (d : α) (i : Nat) : α :=
  (B.getD (i / 16) []).getD (i % 16) d

theorem getD_blocks {α : Type} {n : Nat} (hn : 0 < n) (d : α) : ∀ (f : Nat) (l : List α) (i : Nat),
    l.length ≤ n * f → ((blocks n f l).getD (i / n) []).getD (i % n) d = l.getD i d
  | 0, l, i, h => by
    have : l = [] := List.eq_nil_of_length_eq_zero (by omega)
    subst this
    simp [blocks]
  | f + 1, l, i, h => by
    unfold blocks
    by_cases hi : i < n
    · rw [Nat.div_eq_of_lt hi, Nat.mod_eq_of_lt hi, List.getD_cons_zero]
      simp only [List.getD_eq_getElem?_getD, List.getElem?_take_of_lt hi]
    · have hge : n ≤ i := Nat.le_of_not_lt hi
      have h1 : i / n = (i - n) / n + 1 := by
        conv => lhs; rw [← Nat.sub_add_cancel hge]
        exact Nat.add_div_right _ hn
      have h2 : i % n = (i - n) % n := by
        conv => lhs; rw [← Nat.sub_add_cancel hge]
        exact Nat.add_mod_right _ _
      rw [h1, h2, List.getD_cons_succ,
        getD_blocks hn d f (l.drop n) (i - n) (by rw [List.length_drop, Nat.mul_succ] at *; omega)]
      simp only [List.getD_eq_getElem?_getD, List.getElem?_drop, Nat.add_sub_cancel' hge]

theorem tabGet_tab {α : Type} (l : List α) (d : α) (i : Nat) : tabGet (tab l) d i = l.getD i d :=
  getD_blocks (by decide) d _ l i (by omega)

end Bashlex.LR
