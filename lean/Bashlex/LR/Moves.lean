/-
  The engine's own invariant and the one walk through `LR.step`.

  `WF` is the well-formedness of the tables; along a stack that is a path of the automaton
  carrying valid trees (`StackOK`) a reduction pops exactly its right-hand side (`pop_of_back`).

  A client gives a judgement `SI cs stk la l e` on what the engine holds (the terminals consumed,
  the stack WITH its states and ghost trees, the look-ahead) and on the parser state, and shows it
  closed under each thing a step can do (`Moves`: one field per exit of `step`; `SI'` is what holds
  after the step, so that a variant can be stated).  Every field is told what the tables say at
  that exit and that the stack is `StackOK`.  `step_moves` is the only proof that unfolds
  `step`/`doReduce`; `run_moves` is the loop; `Moves.of_sat`/`run_moves_sat` are the reading for a
  judgement that does not mention the parser state.
-/
import Bashlex.LR.Engine
import Bashlex.Proofs.HoareS

namespace Bashlex.LR
open Bashlex
set_option linter.unusedSimpArgs false

namespace Tree
theorem yields_append (a b : List Tree) : yields (a ++ b) = yields a ++ yields b := by
  induction a with
  | nil => simp [yields]
  | cons k ks ih => simp [yields, ih, List.append_assoc]
end Tree

/-- well-formedness of the tables, stated per backward path: from a state that reduces `p`,
    *every* backward path through reachable states spells `rhs(p)` reversed and ends in a state
    with a goto on `lhs(p)` -/
inductive BackOK (T : Tables) (reach : Nat → Prop) (acc : Nat → Nat) : Nat → List Nat → Nat → Prop
  | base (s lhs t) : T.edge s lhs = some t → T.nTerms ≤ lhs → BackOK T reach acc s [] lhs
  | step (s x xs lhs) : s ≠ 0 → acc s = x →
      (∀ s', reach s' → T.edge s' x = some s → BackOK T reach acc s' xs lhs) →
      BackOK T reach acc s (x :: xs) lhs

/-- what `Raw.check` decides of the tables: `reach` is closed under the edges and `acc` names the
    symbol on every edge into a state, each reduction is `BackOK`, only terminals are shifted, and
    state 0 does not accept -/
structure WF (T : Tables) (reach : Nat → Prop) (acc : Nat → Nat) : Prop where
  reach0 : reach 0
  closed : ∀ s X t, reach s → T.edge s X = some t → reach t ∧ acc t = X ∧ t ≠ 0
  redAct : ∀ s la p, reach s → T.action s la = some (.reduce p) →
      ∃ lhs rhs, T.prods[p]? = some (lhs, rhs) ∧ BackOK T reach acc s rhs.reverse lhs
  redDflt : ∀ s p, reach s → T.dflt s = some p →
      ∃ lhs rhs, T.prods[p]? = some (lhs, rhs) ∧ BackOK T reach acc s rhs.reverse lhs
  shiftTerm : ∀ s la t, T.action s la = some (.shift t) → la < T.nTerms
  acceptNotInit : ∀ la, T.action 0 la ≠ some .accept

variable {V : Type}

/-- the states on the stack are a path of the automaton from state 0, spelled by the roots of the
    trees -/
def PathOK (T : Tables) (reach : Nat → Prop) : Stack V → Prop
  | [] => True
  | e :: rest => reach e.state ∧ T.edge (topState rest) e.tree.root = some e.state ∧ PathOK T reach rest

/-- the terminals under the trees on the stack, bottom first -/
def forestYield : Stack V → List Nat
  | [] => []
  | e :: rest => forestYield rest ++ e.tree.yield

/-- every tree on the stack is a derivation tree of the grammar -/
def AllValid (T : Tables) : Stack V → Prop
  | [] => True
  | e :: rest => Tree.Valid T e.tree ∧ AllValid T rest

theorem reach_top {T reach acc} (h : WF T reach acc) {stk : Stack V} (hp : PathOK T reach stk) :
    reach (topState stk) := by
  cases stk with
  | nil => exact h.reach0
  | cons x r => exact hp.1

/-- key lemma: `BackOK` along a path-shaped stack pops exactly the right-hand side -/
theorem pop_of_back {T reach acc} (h : WF T reach acc) :
    ∀ (xs : List Nat) (stk : Stack V) (lhs : Nat),
      PathOK T reach stk → AllValid T stk →
      BackOK T reach acc (topState stk) xs lhs →
      ∃ es rest t, popN xs.length stk = some (es, rest) ∧
        es.map (fun e => e.tree.root) = xs.reverse ∧ (∀ e, e ∈ es → Tree.Valid T e.tree) ∧
        PathOK T reach rest ∧ AllValid T rest ∧
        T.goto (topState rest) lhs = some t ∧ T.nTerms ≤ lhs ∧
        forestYield stk = forestYield rest ++ Tree.yields (es.map (·.tree)) ∧
        (∀ e, e ∈ es → e ∈ stk) ∧ (∀ e, e ∈ rest → e ∈ stk) := by
  intro xs
  induction xs with
  | nil =>
    intro stk lhs hp hv hb
    cases hb with
    | base s lhs t he hl =>
      refine ⟨[], stk, t, rfl, rfl, by simp, hp, hv, ?_, hl, by simp [Tree.yields], by simp, fun _ h => h⟩
      have : ¬ lhs < T.nTerms := Nat.not_lt.mpr hl
      simpa [Tables.edge, this] using he
  | cons x xs ih =>
    intro stk lhs hp hv hb
    cases hb with
    | step s x xs lhs hne hacc hall =>
      cases stk with
      | nil => exact absurd rfl hne
      | cons top rest =>
        simp only [topState] at hacc hall hne
        obtain ⟨hrs, hedge, hprest⟩ := hp
        obtain ⟨hvt, hvrest⟩ := hv
        have hroot : top.tree.root = x := by
          have := (h.closed _ _ _ (reach_top h hprest) hedge).2.1
          rw [← this]; exact hacc
        have hb' := hall (topState rest) (reach_top h hprest) (by rw [← hroot]; exact hedge)
        obtain ⟨es, rest', t', hpop, hroots, hvl, hp', hv', hg, hl, hy, hmes, hmrest⟩ :=
          ih rest lhs hprest hvrest hb'
        refine ⟨es ++ [top], rest', t', ?_, ?_, ?_, hp', hv', hg, hl, ?_, ?_, ?_⟩
        · simp [popN, hpop]
        · simp [hroots, hroot]
        · intro k hk
          rcases List.mem_append.mp hk with hk | hk
          · exact hvl k hk
          · simp at hk; subst hk; exact hvt
        · simp [forestYield, hy, Tree.yields_append, Tree.yields, List.append_assoc]
        · intro e he
          rcases List.mem_append.mp he with he | he
          · exact List.mem_cons_of_mem _ (hmes e he)
          · simp at he; subst he; exact List.mem_cons_self
        · intro e he; exact List.mem_cons_of_mem _ (hmrest e he)

/-- what the engine keeps of its stack whatever the hooks do; every field of `Moves` is told it -/
def StackOK (T : Tables) (reach : Nat → Prop) (stk : Stack V) : Prop :=
  PathOK T reach stk ∧ AllValid T stk

theorem StackOK.nil_of_top0 {T reach acc} (h : WF T reach acc) {stk : Stack V}
    (hs : StackOK T reach stk) (h0 : topState stk = 0) : stk = [] := by
  cases stk with
  | nil => rfl
  | cons top rest => exact absurd h0 (h.closed _ _ _ (reach_top h hs.1.2.2) hs.1.2.1).2.2

theorem StackOK.drop {T : Tables} {reach : Nat → Prop} : ∀ {pre rest : Stack V},
    StackOK T reach (pre ++ rest) → StackOK T reach rest
  | [], _, hs => hs
  | _ :: pre, _, hs => StackOK.drop (pre := pre) ⟨hs.1.2.2, hs.2.2⟩

/-- the accessing symbol of the top state is the root of the top tree -/
theorem StackOK.acc_top {T reach acc} (h : WF T reach acc) {top : Entry V} {rest : Stack V}
    (hs : StackOK T reach (top :: rest)) : acc top.state = top.tree.root :=
  (h.closed _ _ _ (reach_top h hs.1.2.2) hs.1.2.1).2.1

theorem popN_eq : ∀ (n : Nat) (stk : Stack V) (es : List (Entry V)) (rest : Stack V),
    popN n stk = some (es, rest) → stk = es.reverse ++ rest := by
  intro n
  induction n with
  | zero => intro stk es rest h; simp [popN] at h; obtain ⟨rfl, rfl⟩ := h; rfl
  | succ k ih =>
    intro stk es rest h
    cases stk with
    | nil => simp [popN] at h
    | cons x st =>
      simp only [popN, Option.map_eq_some_iff] at h
      obtain ⟨⟨es', r'⟩, hp, heq⟩ := h
      simp only [Prod.mk.injEq] at heq
      obtain ⟨rfl, rfl⟩ := heq
      have := ih st es' r' hp
      simp [this]

/-- why the engine reduces by `p` in state `s` -/
def RedAt (T : Tables) (s : Nat) (la : Option (Nat × V)) (p : Nat) : Prop :=
  T.dflt s = some p ∨ ∃ x, la = some x ∧ T.action s x.1 = some (.reduce p)

/-- closure of `SI` under the exits of `step`; `Fin`/`Blank` are what the two returns establish -/
structure Moves (T : Tables) (reach : Nat → Prop) (H : Hooks V)
    (SI SI' : List Nat → Stack V → Option (Nat × V) → Local → Env → Prop)
    (Fin : List Nat → Tree → V → Local → Env → Prop) (Blank : List Nat → Local → Env → Prop)
    (E : Exn → Prop) : Prop where
  next : ∀ cs stk, StackOK T reach stk →
    M.SatS H.next (SI cs stk none) (fun la => SI cs stk (some la)) E
  blank : ∀ cs la l e, la.1 = T.endTok ∨ T.action 0 la.1 = some .accept →
    SI cs [] (some la) l e → Blank cs l e
  shiftNl : ∀ cs la t l e, T.action 0 la.1 = some (.shift t) → la.1 = T.nlTok →
    SI cs [] (some la) l e → SI' (cs ++ [la.1]) [] none l e
  shift : ∀ cs stk la t l e, StackOK T reach stk →
    T.action (topState stk) la.1 = some (.shift t) → SI cs stk (some la) l e →
    SI' (cs ++ [la.1]) ({ state := t, tree := .leaf la.1, val := la.2 } :: stk) none l e
  reduce : ∀ cs p lhs (es : List (Entry V)) (rest : Stack V) t la, StackOK T reach (es.reverse ++ rest) →
    T.prods[p]? = some (lhs, es.map (·.tree.root)) → T.goto (topState rest) lhs = some t →
    RedAt T (topState (es.reverse ++ rest)) la p →
    M.SatS (H.act p (es.map (·.val))) (SI cs (es.reverse ++ rest) la)
      (fun r l e =>
        if r.2 = true then Fin cs (.node p lhs (es.map (·.tree))) r.1 l e
        else SI' cs ({ state := t, tree := .node p lhs (es.map (·.tree)), val := r.1 } :: rest) la l e) E
  accept : ∀ cs (top : Entry V) (rest : Stack V) la l e, StackOK T reach (top :: rest) →
    T.action top.state la.1 = some .accept → SI cs (top :: rest) (some la) l e →
    Fin cs top.tree top.val l e
  /-- if the error function returns, the engine raises `NotModelled` -/
  onError : ∀ cs stk la, StackOK T reach stk → T.action (topState stk) la.1 = none →
    M.SatS (H.onError la) (SI cs stk (some la))
      (fun _ _ _ => E (.foreign "NotModelled" "LRParser.parse(error recovery)")) E

/-- the invariant of `step_moves`: the engine's part and the client's `SI` of the configuration -/
def InvM (T : Tables) (reach : Nat → Prop)
    (SI : List Nat → Stack V → Option (Nat × V) → Local → Env → Prop) (c : Cfg V)
    (l : Local) (e : Env) : Prop :=
  StackOK T reach c.stack ∧ SI c.consumed c.stack c.la l e

/-- the post-condition of `run_moves`: the engine's part (the returned tree is valid) and the
    client's `Fin` or `Blank` -/
def GoodM (T : Tables) (Fin : List Nat → Tree → V → Local → Env → Prop)
    (Blank : List Nat → Local → Env → Prop) : Res V → Local → Env → Prop
  | .accepted v tr cs _, l, e => Tree.Valid T tr ∧ Fin cs tr v l e
  | .blank _ cs, l, e => Blank cs l e

theorem doReduce_moves {T reach acc} (h : WF T reach acc) {H : Hooks V} {SI SI' Fin Blank E}
    (hH : Moves T reach H SI SI' Fin Blank E) (c : Cfg V) (p : Nat)
    (hla : RedAt T (topState c.stack) c.la p)
    (hb : ∃ lhs rhs, T.prods[p]? = some (lhs, rhs) ∧
          BackOK T reach acc (topState c.stack) rhs.reverse lhs) :
    M.SatS (doReduce T H c p) (InvM T reach SI c)
      (fun r l e => Sum.elim (fun c' => InvM T reach SI' c' l e) (fun res => GoodM T Fin Blank res l e) r)
      E := by
  intro l0 e0 ⟨hok, hsi⟩
  obtain ⟨lhs, rhs, hprod, hback⟩ := hb
  obtain ⟨es, rest, t, hpop, hroots, hvl, hp', hv', hg, hl, -, -, -⟩ :=
    pop_of_back h rhs.reverse c.stack lhs hok.1 hok.2 hback
  simp only [List.length_reverse] at hpop
  have hroots' : es.map (fun e => e.tree.root) = rhs := by simpa using hroots
  have hstk : c.stack = es.reverse ++ rest := popN_eq _ _ _ _ hpop
  have hvalid : Tree.Valid T (Tree.node p lhs (es.map (·.tree))) := by
    refine .node p lhs _ rhs hprod ?_ ?_
    · simpa [List.map_map, Function.comp_def] using hroots
    · intro k hk
      obtain ⟨e, he, rfl⟩ := List.mem_map.mp hk
      exact hvl e he
  have hnt : ¬ lhs < T.nTerms := Nat.not_lt.mpr hl
  have hact := hH.reduce c.consumed p lhs es rest t c.la (hstk ▸ hok) (hroots' ▸ hprod) hg
    (hstk ▸ hla)
  have key : M.SatS (doReduce T H c p) (SI c.consumed (es.reverse ++ rest) c.la)
      (fun r l e => Sum.elim (fun c' => InvM T reach SI' c' l e) (fun res => GoodM T Fin Blank res l e) r)
      E := by
    unfold doReduce
    simp only [hprod, hpop]
    refine M.SatS.bind hact ?_
    rintro ⟨v, accept⟩
    simp only [hg]
    by_cases hacc : accept = true
    · simp only [hacc, if_true]
      exact M.SatS.pure (fun l e hf => ⟨hvalid, hf⟩)
    · simp only [hacc]
      refine M.SatS.pure (fun l e hf => ?_)
      simp only [Bool.false_eq_true, if_false] at hf
      refine ⟨⟨⟨?_, ?_, hp'⟩, ⟨hvalid, hv'⟩⟩, hf⟩
      · have hedge : T.edge (topState rest) lhs = some t := by simp [Tables.edge, hnt, hg]
        exact (h.closed _ _ _ (reach_top h hp') hedge).1
      · simp [Tree.root, Tables.edge, hnt, hg]
  exact key l0 e0 (hstk ▸ hsi)

theorem step_moves {T reach acc} (h : WF T reach acc) {H : Hooks V} {SI SI' Fin Blank E}
    (hH : Moves T reach H SI SI' Fin Blank E) (c : Cfg V) :
    M.SatS (step T H c) (InvM T reach SI c)
      (fun r l e => Sum.elim (fun c' => InvM T reach SI' c' l e) (fun res => GoodM T Fin Blank res l e) r)
      E := by
  intro l0 e0 hinv
  have hok := hinv.1
  have hr := reach_top h hok.1
  have key : M.SatS (step T H c) (InvM T reach SI c)
      (fun r l e => Sum.elim (fun c' => InvM T reach SI' c' l e) (fun res => GoodM T Fin Blank res l e) r)
      E := by
    unfold step
    simp only
    cases hd : T.dflt (topState c.stack) with
    | some p => exact doReduce_moves h hH c p (Or.inl hd) (h.redDflt _ p hr hd)
    | none =>
      simp only
      refine M.SatS.bind (Q := fun la l e => InvM T reach SI { c with la := some la } l e) ?_ ?_
      · cases hla : c.la with
        | some la => exact M.SatS.pure (fun l e hi => ⟨hi.1, by have := hi.2; rwa [hla] at this⟩)
        | none =>
          refine ((hH.next c.consumed c.stack hok).post (fun _ _ _ hq => ⟨hok, hq⟩)).pre ?_
          intro l e hi; have := hi.2; rwa [hla] at this
      rintro ⟨la, lv⟩
      simp only
      split
      · rename_i hcond
        simp only [Bool.and_eq_true, beq_iff_eq] at hcond
        have hnil := hok.nil_of_top0 h hcond.1.1
        refine M.SatS.pure (fun l e hi => ?_)
        have hsi := hi.2
        simp only [hnil] at hsi
        exact hH.blank _ _ l e (Or.inl hcond.1.2) hsi
      · cases hact : T.action (topState c.stack) la with
        | none =>
          simp only
          refine M.SatS.bind ((hH.onError c.consumed c.stack (la, lv) hok hact).pre
            (fun _ _ hi => hi.2)) ?_
          intro _
          exact M.SatS.raise_of_pre fun _ _ h => h
        | some a =>
          cases a with
          | shift t =>
            have hla := h.shiftTerm _ _ _ hact
            simp only
            split
            · rename_i hnlc
              simp only [Bool.and_eq_true, beq_iff_eq] at hnlc
              have hnil := hok.nil_of_top0 h hnlc.1
              refine M.SatS.pure (fun l e hi => ⟨hok, ?_⟩)
              have hsi := hi.2
              simp only [hnil] at hsi ⊢
              exact hH.shiftNl _ _ t l e (by simpa [hnil, topState] using hact) hnlc.2 hsi
            · refine M.SatS.pure (fun l e hi => ⟨⟨⟨?_, ?_, hok.1⟩, ⟨.leaf _ hla, hok.2⟩⟩, ?_⟩)
              · have hedge : T.edge (topState c.stack) la = some t := by
                  simp [Tables.edge, hla, hact]
                exact (h.closed _ _ _ hr hedge).1
              · simp [Tree.root, Tables.edge, hla, hact]
              · exact hH.shift _ _ (la, lv) t l e hok hact hi.2
          | reduce p =>
            exact doReduce_moves h hH _ p (Or.inr ⟨(la, lv), rfl, hact⟩) (h.redAct _ _ p hr hact)
          | accept =>
            simp only
            split
            · rename_i top rest hstk
              have hstk' : c.stack = top :: rest := hstk
              refine M.SatS.pure (fun l e hi => ?_)
              have hsi := hi.2
              simp only [hstk'] at hsi
              rw [hstk'] at hok hact
              exact ⟨hok.2.1, hH.accept _ top rest (la, lv) l e hok hact hsi⟩
            · rename_i hstk
              have hstk' : c.stack = [] := hstk
              refine M.SatS.pure (fun l e hi => ?_)
              have hsi := hi.2
              simp only [hstk'] at hsi
              rw [hstk'] at hact
              exact hH.blank _ (la, lv) l e (Or.inr hact) hsi
  exact key l0 e0 hinv

/-- the engine, for every token source and every family of semantic actions: started in a state
    satisfying `SI [] [] none`, a normal return gives a valid derivation tree with `Fin`, or
    `Blank`; the exceptions are those of the hooks and running out of fuel -/
theorem run_moves {T reach acc} (h : WF T reach acc) {H : Hooks V} {SI Fin Blank E}
    (hH : Moves T reach H SI SI Fin Blank E) (hfuel : E (.outOfFuel "LRParser.parse")) (fuel : Nat) :
    M.SatS (run T H fuel) (SI [] [] none) (GoodM T Fin Blank) E := by
  unfold run
  exact (M.SatS.loop (I := InvM T reach SI) (R := GoodM T Fin Blank) hfuel
    (fun s => step_moves h hH s) fuel {}).pre (fun l e hsi => ⟨⟨True.intro, True.intro⟩, hsi⟩)

/-! ## judgements that do not mention the parser state -/

theorem Moves.of_sat {T : Tables} {reach : Nat → Prop} {H : Hooks V}
    {SI SI' : List Nat → Stack V → Option (Nat × V) → Prop} {Fin : List Nat → Tree → V → Prop}
    {Blank : List Nat → Prop} {E : Exn → Prop}
    (next : ∀ cs stk, StackOK T reach stk → SI cs stk none →
      M.Sat H.next (fun la => SI cs stk (some la)) E)
    (blank : ∀ cs la, la.1 = T.endTok ∨ T.action 0 la.1 = some .accept → SI cs [] (some la) →
      Blank cs)
    (shiftNl : ∀ cs la t, T.action 0 la.1 = some (.shift t) → la.1 = T.nlTok →
      SI cs [] (some la) → SI' (cs ++ [la.1]) [] none)
    (shift : ∀ cs stk la t, StackOK T reach stk →
      T.action (topState stk) la.1 = some (.shift t) → SI cs stk (some la) →
      SI' (cs ++ [la.1]) ({ state := t, tree := .leaf la.1, val := la.2 } :: stk) none)
    (reduce : ∀ cs p lhs (es : List (Entry V)) (rest : Stack V) t la,
      StackOK T reach (es.reverse ++ rest) →
      T.prods[p]? = some (lhs, es.map (·.tree.root)) → T.goto (topState rest) lhs = some t →
      RedAt T (topState (es.reverse ++ rest)) la p → SI cs (es.reverse ++ rest) la →
      M.Sat (H.act p (es.map (·.val)))
        (fun r =>
          if r.2 = true then Fin cs (.node p lhs (es.map (·.tree))) r.1
          else SI' cs ({ state := t, tree := .node p lhs (es.map (·.tree)), val := r.1 } :: rest) la) E)
    (accept : ∀ cs (top : Entry V) (rest : Stack V) la, StackOK T reach (top :: rest) →
      T.action top.state la.1 = some .accept → SI cs (top :: rest) (some la) →
      Fin cs top.tree top.val)
    (onError : ∀ cs stk la, StackOK T reach stk → T.action (topState stk) la.1 = none →
      SI cs stk (some la) → M.Sat (H.onError la)
        (fun _ => E (.foreign "NotModelled" "LRParser.parse(error recovery)")) E) :
    Moves T reach H (fun cs stk la _ _ => SI cs stk la) (fun cs stk la _ _ => SI' cs stk la)
      (fun cs tr v _ _ => Fin cs tr v) (fun cs _ _ => Blank cs) E where
  next cs stk hok := M.SatS.of_sat_of (next cs stk hok)
  blank cs la _ _ := blank cs la
  shiftNl cs la t _ _ := shiftNl cs la t
  shift cs stk la t _ _ := shift cs stk la t
  reduce cs p lhs es rest t la hok hp hg hr := M.SatS.of_sat_of (reduce cs p lhs es rest t la hok hp hg hr)
  accept cs top rest la _ _ := accept cs top rest la
  onError cs stk la hok ha := M.SatS.of_sat_of (onError cs stk la hok ha)

/-- what a normal return guarantees, state-free -/
def GoodM₀ (T : Tables) (Fin : List Nat → Tree → V → Prop) (Blank : List Nat → Prop) : Res V → Prop
  | .accepted v tr cs _ => Tree.Valid T tr ∧ Fin cs tr v
  | .blank _ cs => Blank cs

theorem run_moves_sat {T reach acc} (h : WF T reach acc) {H : Hooks V}
    {SI : List Nat → Stack V → Option (Nat × V) → Prop} {Fin : List Nat → Tree → V → Prop}
    {Blank : List Nat → Prop} {E : Exn → Prop}
    (hH : Moves T reach H (fun cs stk la _ _ => SI cs stk la) (fun cs stk la _ _ => SI cs stk la)
      (fun cs tr v _ _ => Fin cs tr v) (fun cs _ _ => Blank cs) E)
    (hfuel : E (.outOfFuel "LRParser.parse")) (h0 : SI [] [] none) (fuel : Nat) :
    M.Sat (run T H fuel) (GoodM₀ T Fin Blank) E :=
  M.SatS.to_sat ((run_moves h hH hfuel fuel).weaken (fun _ _ _ => h0)
    (fun res _ _ hg => by cases res <;> exact hg) (fun _ hx => hx))

end Bashlex.LR
