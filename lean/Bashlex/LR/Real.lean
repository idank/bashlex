/-
  Well-formedness of the tables bashlex actually runs with (`realRaw`, `realTables` of
  `LR/RealTables.lean`, regenerated from /repo on every check run), kernel-evaluated: `real_check`,
  `real_WF`, `real_checkAcc`, `real_AccOK`.  The instances of T1 for these tables are `C09_sound`,
  `C09_exact` of `Props/C09.lean`.
-/
import Bashlex.LR.CheckP

namespace Bashlex.LR
open Bashlex

theorem real_symbols : Gen.termNames[realRaw.endTok]? = some "$end" ∧
    Gen.termNames[realRaw.nlTok]? = some "NEWLINE" := by decide

theorem real_checkP : realRaw.checkP = true := by decide +kernel

/-- the regenerated tables pass the well-formedness check (kernel evaluation, on the packed form
    of the check) -/
theorem real_check : realRaw.check = true := Raw.checkP_sound real_checkP

theorem real_WF : WF realTables (· ∈ realRaw.reach) realRaw.accOf :=
  Raw.check_sound real_check

/-- the symbols a semantic action may accept at: `inputunit` and `simple_list` (by name) -/
def acceptSyms : List Nat :=
  (Gen.ntNames.zipIdx.filter fun (n, _) => n == "inputunit" || n == "simple_list").map fun (_, i) =>
    Gen.termNames.length + i

theorem real_checkAcc : realRaw.checkAcc acceptSyms = true :=
  Raw.checkAccP_sound (by decide +kernel)

theorem real_AccOK : AccOK realTables (· ∈ realRaw.reach) (· ∈ acceptSyms) :=
  Raw.checkAcc_sound real_check real_checkAcc

/-- the `accept` entries of the action table sit in the state entered on `inputunit` -/
theorem real_acceptSym : realRaw.checkAccept
    (fun s => s == Gen.termNames.length + Gen.ntNames.idxOf "inputunit") = true :=
  Raw.checkAcceptP_sound (by decide +kernel)

end Bashlex.LR
