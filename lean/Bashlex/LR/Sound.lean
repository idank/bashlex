/-
  T1: safety and soundness of the LR engine from a well-formedness property of the tables,
  for every token source and every family of semantic actions.

  One instance of `Moves` (`moves_val`) for the judgement "every value on the stack satisfies the
  invariant `VI` of its symbol, and the terminals consumed are leading NEWLINEs followed by the
  yields of the stack" serves `run_sound` and, in `LR/Exact.lean`, its exact form, the form that
  tracks the accepted symbol and the form for an error function that never returns: `HooksVal` has
  a parameter for each of these refinements.
-/
import Bashlex.LR.Moves

namespace Bashlex.LR
open Bashlex
set_option linter.unusedSimpArgs false

variable {V : Type}

/-- pointwise relation between two lists of equal length -/
inductive Forall2 {α β : Type} (R : α → β → Prop) : List α → List β → Prop
  | nil : Forall2 R [] []
  | cons {a b l₁ l₂} : R a b → Forall2 R l₁ l₂ → Forall2 R (a :: l₁) (b :: l₂)

theorem forall2_length {α β} {R : α → β → Prop} {l₁ : List α} {l₂ : List β}
    (h : Forall2 R l₁ l₂) : l₁.length = l₂.length := by
  induction h with
  | nil => rfl
  | cons _ _ ih => simp [ih]

theorem forall2_imp {α β} {R S : α → β → Prop} (hRS : ∀ a b, R a b → S a b) {l₁ : List α}
    {l₂ : List β} (h : Forall2 R l₁ l₂) : Forall2 S l₁ l₂ := by
  induction h with
  | nil => exact .nil
  | cons h1 _ ih => exact .cons (hRS _ _ h1) ih

theorem forall2_snoc {α β} {R : α → β → Prop} {l₁ : List α} {l₂ : List β} {a : α} {b : β}
    (h : Forall2 R l₁ l₂) (hab : R a b) : Forall2 R (l₁ ++ [a]) (l₂ ++ [b]) := by
  induction h with
  | nil => exact .cons hab .nil
  | cons h1 _ ih => exact .cons h1 ih

theorem forall2_map_left {α β γ} {R : β → γ → Prop} {f : α → β} :
    ∀ {l₁ : List α} {l₂ : List γ}, Forall2 (fun a c => R (f a) c) l₁ l₂ → Forall2 R (l₁.map f) l₂ := by
  intro l₁ l₂ h
  induction h with
  | nil => exact .nil
  | cons h1 _ ih => exact .cons h1 ih

theorem forall2_of_entries {VI : Nat → V → Prop} :
    ∀ (es : List (Entry V)) (rhs : List Nat), es.map (fun e => e.tree.root) = rhs →
      (∀ e, e ∈ es → VI e.tree.root e.val) → Forall2 VI rhs (es.map (·.val)) := by
  intro es
  induction es with
  | nil => intro rhs h _; simp at h; subst h; exact .nil
  | cons e es ih =>
    intro rhs h hv
    cases rhs with
    | nil => simp at h
    | cons x xs =>
      simp only [List.map_cons, List.cons.injEq] at h
      refine .cons ?_ (ih xs h.2 (fun e' he' => hv e' (List.mem_cons_of_mem _ he')))
      rw [← h.1]; exact hv e List.mem_cons_self

/-- invariant of the engine configuration -/
def Inv (T : Tables) (reach : Nat → Prop) (VI : Nat → V → Prop) (c : Cfg V) : Prop :=
  (PathOK T reach c.stack ∧ AllValid T c.stack ∧
   (∃ pre, c.consumed = pre ++ forestYield c.stack ∧ pre.all (· == T.nlTok))) ∧
  (∀ e, e ∈ c.stack → VI e.tree.root e.val) ∧ (∀ la, c.la = some la → VI la.1 la.2)

/-- what a normal return of the engine guarantees -/
def Good (T : Tables) (VI : Nat → V → Prop) : Res V → Prop
  | .accepted v tr c _ => (Tree.Valid T tr ∧ ∃ pre front, c = pre ++ front ++ tr.yield ∧
        pre.all (· == T.nlTok)) ∧ VI tr.root v
  | .blank _ c => c.all (· == T.nlTok)

/-- the hooks respect the value invariant `VI` and raise only exceptions satisfying `E`: what
    `run_sound` asks of them (`HooksVal`, below, with nothing more known) -/
structure HooksRaise (T : Tables) (H : Hooks V) (VI : Nat → V → Prop) (E : Exn → Prop) : Prop where
  /-- tokens delivered satisfy the invariant of their terminal -/
  next : M.Sat H.next (fun la => VI la.1 la.2) E
  /-- a semantic action applied to right-hand-side values satisfying their invariants returns a
      value satisfying the invariant of the left-hand side -/
  act : ∀ p lhs rhs args, T.prods[p]? = some (lhs, rhs) → Forall2 VI rhs args →
      M.Sat (H.act p args) (fun r => VI lhs r.1) E
  onError : ∀ la, M.Sat (H.onError la) (fun _ => True) E

/-- exceptions the engine itself may add: running out of fuel, and the unmodelled error
    recovery (reached only if the error function returns, which bashlex's never does).
    In particular no KeyError / IndexError (missing goto, stack underflow, bad production). -/
def EngineExn (E : Exn → Prop) (x : Exn) : Prop :=
  E x ∨ x = .outOfFuel "LRParser.parse" ∨ x = .foreign "NotModelled" "LRParser.parse(error recovery)"


theorem forestYield_append (es : List (Entry V)) (rest : Stack V) :
    forestYield (es.reverse ++ rest) = forestYield rest ++ Tree.yields (es.map (·.tree)) := by
  induction es generalizing rest with
  | nil => simp [Tree.yields]
  | cons x es ih => simp [ih, forestYield, Tree.yields, List.append_assoc]

/-- extra well-formedness used for exactness; `A` = symbols a semantic action may accept at -/
structure AccOK (T : Tables) (reach : Nat → Prop) (A : Nat → Prop) : Prop where
  acceptGoto : ∀ s lhs t, reach s → A lhs → T.goto s lhs = some t → s = 0
  acceptState : ∀ s la, reach s → T.action s la = some .accept →
      ∀ s', reach s' → ∀ X, T.edge s' X = some s → s' = 0

/-- `HooksRaise` with three things more said.  `LA`: what else is known of a look-ahead;
    `A`: the symbols at which a semantic action may accept; `NM`: whether the error function may
    return (the engine then raises `NotModelled`) -/
structure HooksVal (T : Tables) (reach : Nat → Prop) (H : Hooks V) (VI : Nat → V → Prop)
    (LA : Nat × V → Prop) (A : Nat → Prop) (NM : Prop) (E : Exn → Prop) : Prop where
  next : M.Sat H.next (fun la => VI la.1 la.2 ∧ LA la) E
  /-- only for productions whose left-hand side has a goto from a reachable state (the engine
      reduces by no other: this excludes the augmented production `S' → inputunit`) -/
  act : ∀ p lhs rhs args, T.prods[p]? = some (lhs, rhs) →
    (∃ s t, reach s ∧ T.goto s lhs = some t) → Forall2 VI rhs args →
    M.Sat (H.act p args) (fun r => VI lhs r.1 ∧ (r.2 = true → A lhs)) E
  onError : ∀ la, LA la → M.Sat (H.onError la) (fun _ => NM) E

/-- the exceptions of the hooks, running out of fuel, and (if the error function may return)
    the unmodelled error recovery -/
def ValExn (NM : Prop) (E : Exn → Prop) (x : Exn) : Prop :=
  E x ∨ x = .outOfFuel "LRParser.parse" ∨
    (NM ∧ x = .foreign "NotModelled" "LRParser.parse(error recovery)")

theorem ValExn.engineExn {E : Exn → Prop} (x : Exn) (h : ValExn True E x) : EngineExn E x :=
  h.imp_right (Or.imp_right And.right)

/-- `Inv` without the part the engine keeps by itself -/
def ValSI (T : Tables) (VI : Nat → V → Prop) (LA : Nat × V → Prop) (cs : List Nat)
    (stk : Stack V) (la : Option (Nat × V)) : Prop :=
  (∃ pre, cs = pre ++ forestYield stk ∧ pre.all (· == T.nlTok)) ∧
  (∀ e, e ∈ stk → VI e.tree.root e.val) ∧ (∀ x, la = some x → VI x.1 x.2 ∧ LA x)

/-- an accepted value: the consumed terminals end in the yield of its tree (and, under `X`,
    nothing lies between the leading NEWLINEs and that yield); the root satisfies `A` -/
def ValFin (T : Tables) (VI : Nat → V → Prop) (A : Nat → Prop) (X : Prop) (cs : List Nat)
    (tr : Tree) (v : V) : Prop :=
  (∃ pre front, cs = pre ++ front ++ tr.yield ∧ pre.all (· == T.nlTok) ∧ (X → front = [])) ∧
  VI tr.root v ∧ A tr.root

/-- `A`: where an action may accept; `A'`: what is claimed of the root of an accepted tree (the
    `accept` entries of the table sit in states whose accessing symbol is in `A'`) -/
theorem moves_val {T reach acc} (h : WF T reach acc) {A A' : Nat → Prop} (hAA : ∀ x, A x → A' x)
    (hA : ∀ s la, reach s → T.action s la = some .accept → A' (acc s))
    {H : Hooks V} {VI LA NM E} (hH : HooksVal T reach H VI LA A NM E) :
    Moves T reach H (fun cs stk la _ _ => ValSI T VI LA cs stk la)
      (fun cs stk la _ _ => ValSI T VI LA cs stk la)
      (fun cs tr v _ _ => ValFin T VI A' (AccOK T reach A) cs tr v)
      (fun cs _ _ => cs.all (· == T.nlTok) = true) (ValExn NM E) := by
  refine Moves.of_sat ?_ ?_ ?_ ?_ ?_ ?_ ?_
  · rintro cs stk _ ⟨hpre, hvi, _⟩
    exact hH.next.weaken (fun la hla => ⟨hpre, hvi, fun x hx => by cases hx; exact hla⟩)
      (fun _ => Or.inl)
  · rintro cs la _ ⟨⟨pre, hc, hpre⟩, _, _⟩
    simp only [forestYield, List.append_nil] at hc; rw [hc]; exact hpre
  · rintro cs la t _ hnl ⟨⟨pre, hc, hpre⟩, _, _⟩
    simp only [forestYield, List.append_nil] at hc
    exact ⟨⟨cs ++ [la.1], by simp [forestYield], by simp [hc, List.all_append, hpre, hnl]⟩,
      nofun, nofun⟩
  · rintro cs stk la t _ _ ⟨⟨pre, hc, hpre⟩, hvi, hla⟩
    refine ⟨⟨pre, by simp [forestYield, Tree.yield, hc, List.append_assoc], hpre⟩,
      fun e he => ?_, nofun⟩
    rcases List.mem_cons.mp he with rfl | he
    · exact (hla la rfl).1
    · exact hvi e he
  · rintro cs p lhs es rest t la hok hprod hg _ ⟨⟨pre, hc, hpre⟩, hvi, hla⟩
    have hrest : StackOK T reach rest := hok.drop
    have hargs := forall2_of_entries (VI := VI) es _ rfl (fun e he => hvi e (by simp [he]))
    refine (hH.act p lhs _ _ hprod ⟨_, t, reach_top h hrest.1, hg⟩ hargs).weaken ?_
      (fun _ => Or.inl)
    rintro ⟨v, b⟩ ⟨hv, hb⟩
    cases b with
    | true =>
      refine ⟨⟨pre, forestYield rest, ?_, hpre, fun hx => ?_⟩, hv, hAA _ (hb rfl)⟩
      · simp [hc, forestYield_append, Tree.yield, List.append_assoc]
      · -- an action accepts only at a symbol with a goto from state 0 alone
        rw [hrest.nil_of_top0 h (hx.acceptGoto _ _ _ (reach_top h hrest.1) (hb rfl) hg)]; rfl
    | false =>
      refine ⟨⟨pre, ?_, hpre⟩, fun e he => ?_, hla⟩
      · simp [hc, forestYield_append, forestYield, Tree.yield, List.append_assoc]
      · rcases List.mem_cons.mp he with rfl | he
        · exact hv
        · exact hvi e (by simp [he])
  · rintro cs top rest la hok hact ⟨⟨pre, hc, hpre⟩, hvi, _⟩
    have hrest : StackOK T reach rest := ⟨hok.1.2.2, hok.2.2⟩
    refine ⟨⟨pre, forestYield rest, by simp [hc, forestYield, List.append_assoc], hpre,
      fun hx => ?_⟩, hvi top List.mem_cons_self, hok.acc_top h ▸ hA _ _ hok.1.1 hact⟩
    rw [hrest.nil_of_top0 h
      (hx.acceptState _ _ hok.1.1 hact _ (reach_top h hrest.1) _ hok.1.2.1)]; rfl
  · rintro cs stk la _ _ ⟨_, _, hla⟩
    exact (hH.onError la (hla la rfl).2).weaken (fun _ hnm => Or.inr (Or.inr ⟨hnm, rfl⟩))
      (fun _ => Or.inl)

theorem run_val {T reach acc} (h : WF T reach acc) {A A' : Nat → Prop} (hAA : ∀ x, A x → A' x)
    (hA : ∀ s la, reach s → T.action s la = some .accept → A' (acc s))
    {H : Hooks V} {VI LA NM E} (hH : HooksVal T reach H VI LA A NM E) (fuel : Nat) :
    M.Sat (run T H fuel)
      (GoodM₀ T (ValFin T VI A' (AccOK T reach A)) (fun cs => cs.all (· == T.nlTok) = true))
      (ValExn NM E) :=
  run_moves_sat h (moves_val h hAA hA hH) (Or.inr (Or.inl rfl))
    ⟨⟨[], by simp [forestYield], by simp⟩, nofun, nofun⟩ fuel

theorem good_of_val {T : Tables} {VI : Nat → V → Prop} {A : Nat → Prop} {X : Prop} {res : Res V}
    (hg : GoodM₀ T (ValFin T VI A X) (fun cs => cs.all (· == T.nlTok) = true) res) :
    Good T VI res := by
  cases res with
  | accepted v tr cs b =>
    obtain ⟨hv, ⟨pre, front, hc, hpre, _⟩, hvi, _⟩ := hg
    exact ⟨⟨hv, pre, front, hc, hpre⟩, hvi⟩
  | blank n cs => exact hg

theorem HooksRaise.toVal {T : Tables} {reach : Nat → Prop} {H : Hooks V} {VI E}
    (hH : HooksRaise T H VI E) :
    HooksVal T reach H VI (fun _ => True) (fun _ => True) True E :=
  ⟨hH.next.weaken (fun _ hv => ⟨hv, trivial⟩) (fun _ hx => hx),
   fun p lhs rhs args hp _ ha => (hH.act p lhs rhs args hp ha).weaken
     (fun _ hv => ⟨hv, fun _ => trivial⟩) (fun _ hx => hx),
   fun la _ => hH.onError la⟩

theorem step_sat {T reach acc} (h : WF T reach acc)
    (H : Hooks V) {VI E} (hH : HooksRaise T H VI E) (c : Cfg V) (hinv : Inv T reach VI c) :
    M.Sat (step T H c)
      (Sum.elim (Inv T reach VI) (Good T VI)) (EngineExn E) := by
  obtain ⟨⟨hp, hv, hcs⟩, hvi, hla⟩ := hinv
  refine M.SatS.to_sat ((step_moves h
    (moves_val (A' := fun _ => True) h (fun _ hx => hx) (fun _ _ _ _ => trivial) hH.toVal) c).weaken
    (fun _ _ _ => ⟨⟨hp, hv⟩, hcs, hvi, fun x hx => ⟨hla x hx, trivial⟩⟩) ?_ ValExn.engineExn)
  rintro (c' | res) _ _ hg
  · obtain ⟨⟨hp', hv'⟩, hcs', hvi', hla'⟩ := hg
    exact ⟨⟨hp', hv', hcs'⟩, hvi', fun x hx => (hla' x hx).1⟩
  · exact good_of_val (by cases res <;> exact hg)

/-- **soundness and safety of the engine**, for every token source and every family of semantic actions:
    a normal return of the engine is `Good` (the returned derivation tree is valid for the
    declared grammar, its yield is a suffix of the consumed terminals after the leading
    NEWLINEs, and the returned value satisfies the value invariant of the tree's root symbol
    whenever tokens and actions respect the invariant), and the only exceptions are those of
    the hooks, running out of fuel, or the unmodelled error recovery — never an internal
    KeyError/IndexError of the engine. -/
theorem run_sound {T reach acc} (h : WF T reach acc) (H : Hooks V) {VI E}
    (hH : HooksRaise T H VI E) (fuel : Nat) :
    M.Sat (run T H fuel) (Good T VI) (EngineExn E) :=
  (run_val h (fun _ hx => hx) (fun _ _ _ _ => trivial) hH.toVal fuel).weaken (fun _ => good_of_val) ValExn.engineExn

end Bashlex.LR
