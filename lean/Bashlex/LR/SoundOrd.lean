/-
  T1-ord: a variant of `run_sound` (LR/Sound.lean) whose value invariant is *relational*: it
  speaks about the whole list of (grammar symbol, semantic value) pairs on the stack, the
  look-ahead, and the state of the parser object (`Local`, `Env`), instead of one stack entry
  at a time.  This is what ordered / disjoint spans along the stack need ("a new token starts at
  or after the end of everything on the stack"), and what invariants relating values to the
  parser's mutable state need (the redirect store).

  The client supplies `SI vs la l e` and shows it closed under the engine's moves:
    next     fetching the look-ahead,
    shift    pushing the look-ahead (and dropping a NEWLINE shifted in state 0),
    act      replacing the right-hand side `args` on top of `rest` by the action's result.
  The reduce obligation additionally receives what the tables say at that point
  (`RestHint`, `LaHint`), so that table facts decided by the kernel can be used by the client:
    * below the popped right-hand side the stack is empty, or its top state is non-initial and
      has a goto on the left-hand side;
    * the reduction is a default reduction, or the look-ahead is present and the action table
      reduces `p` on it.

  Generic in the tables, the hooks, the value type and `SI`.

  The hooks that are told most (`HooksOrdC`) give an instance of `Moves` (`moves_ordC`).  They are
  `HooksOrd` with four things handed to the client that the engine knows at a move and a
  relational invariant cannot see:

    consumed  the invariant is INDEXED by the engine's ghost `consumed` (the terminals shifted so
              far); `Fin` / `Blank` are told what the returned `Res` carries;
    shiftNl   the look-ahead dropped in state 0 is the NEWLINE terminal (`la.1 = T.nlTok`);
    accept    the `accept` entry of the action table is consulted in a state whose accessing
              symbol -- the symbol of the top stack entry -- satisfies `A` (for the real tables:
              it is `inputunit`);
    blank     the "everything is a newline" return of the engine (`Res.blank`) is reported
              together with the invariant it was taken in: an empty stack and the look-ahead
              just read (the end-of-input terminal).

  Needed by invariants that account for *every* consumed token (C05, C08): a token dropped without
  a stack entry must be known to be a NEWLINE, the value returned by the `accept` entry must be
  known to sit on an otherwise irrelevant stack, and a parser run that returns `None` ends the
  loop of `parse`: without `blank` nothing is known of the text such a run consumed.
  `run_sound_ordC` is that instance of `run_moves`; `run_sound_ordB` forgets `consumed`,
  `run_sound_ordH` forgets `blank` as well.
  `run_sound_ord` forgets the hints.
  The suffixes of `HooksOrd_`, `run_sound_ord_` and `Good_` say how much is told: `C` consumed (all
  four), `B` blank (all but `consumed`), `H` hints (`shiftNl`, `accept` and the two hints of `act`),
  none or `O` nothing; `R` (`HooksOrdR`, last section) is "relative to another invariant".

  Invariants go side by side (last section): hooks for `C` and hooks for `SI` relative to `C`
  (`HooksOrdR`) are hooks for `SI ∧ C` (`HooksOrd.and`, `HooksOrdH.and`); for an entry-wise
  invariant (`SIpt`) only the token source, the actions and the accepted entry are to be looked
  at (`HooksOrdR.pointwise`).
-/
import Bashlex.LR.Sound
import Bashlex.Proofs.HoareS

namespace Bashlex.LR
open Bashlex

variable {V : Type}

/-- the stack as the list of (grammar symbol, semantic value) pairs, bottom first -/
def symVals (stk : Stack V) : List (Nat × V) := stk.reverse.map (fun e => (e.tree.root, e.val))

theorem symVals_nil : symVals ([] : Stack V) = [] := rfl

theorem symVals_cons (x : Entry V) (stk : Stack V) :
    symVals (x :: stk) = symVals stk ++ [(x.tree.root, x.val)] := by
  simp [symVals]

theorem symVals_append (es : List (Entry V)) (rest : Stack V) :
    symVals (es.reverse ++ rest) = symVals rest ++ es.map (fun e => (e.tree.root, e.val)) := by
  simp [symVals]

/-- what the tables say about the stack below a popped right-hand side -/
def RestHint (T : Tables) (rest : List (Nat × V)) (lhs : Nat) : Prop :=
  rest = [] ∨ ∃ s t, s ≠ 0 ∧ T.goto s lhs = some t

/-- what the tables say about the look-ahead at a reduction by `p` -/
def LaHint (T : Tables) (la : Option (Nat × V)) (p : Nat) : Prop :=
  (∃ s, T.dflt s = some p) ∨ ∃ x s, la = some x ∧ T.action s x.1 = some (.reduce p)

/-- closure of a relational stack invariant under the engine's moves -/
structure HooksOrd (T : Tables) (H : Hooks V)
    (SI : List (Nat × V) → Option (Nat × V) → Local → Env → Prop)
    (Fin : V → Local → Env → Prop) (E : Exn → Prop) : Prop where
  next : ∀ vs, M.SatS H.next (SI vs none) (fun la => SI vs (some la)) E
  shift : ∀ vs la l e, SI vs (some la) l e → SI (vs ++ [la]) none l e
  /-- a NEWLINE shifted in state 0 is not pushed -/
  shiftNl : ∀ la l e, SI [] (some la) l e → SI [] none l e
  act : ∀ p lhs rhs rest args la, T.prods[p]? = some (lhs, rhs) → args.map (·.1) = rhs →
      RestHint T rest lhs → LaHint T la p →
      M.SatS (H.act p (args.map (·.2))) (SI (rest ++ args) la)
        (fun r l e => if r.2 = true then Fin r.1 l e else SI (rest ++ [(lhs, r.1)]) la l e) E
  /-- the `accept` entry of the action table returns the top of the stack -/
  accept : ∀ vs x la l e, SI (vs ++ [x]) la l e → Fin x.2 l e
  onError : ∀ la, M.Sat (H.onError la) (fun _ => True) E

/-- what a normal return of the engine guarantees: `Fin` of an accepted value, nothing of the
    all-newline return -/
def GoodO (Fin : V → Local → Env → Prop) : Res V → Local → Env → Prop
  | .accepted v _ _ _, l, e => Fin v l e
  | .blank _ _, _, _ => True

/-- what a normal return of the engine guarantees, the all-newline return included (`Blank`),
    both told `consumed` -/
def GoodC (Fin : List Nat → V → Local → Env → Prop) (Blank : List Nat → Local → Env → Prop) :
    Res V → Local → Env → Prop
  | .accepted v _ cs _, l, e => Fin cs v l e
  | .blank _ cs, l, e => Blank cs l e

/-- closure of a relational stack invariant under the engine's moves, told everything: the hints,
    `consumed` (an index of `SI`, `Fin`, `Blank`) and the all-newline return (`blank`) -/
structure HooksOrdC (T : Tables) (H : Hooks V)
    (SI : List Nat → List (Nat × V) → Option (Nat × V) → Local → Env → Prop)
    (Fin : List Nat → V → Local → Env → Prop) (Blank : List Nat → Local → Env → Prop) (E : Exn → Prop)
    (A : Nat → Prop) : Prop where
  next : ∀ cs vs, M.SatS H.next (SI cs vs none) (fun la => SI cs vs (some la)) E
  shift : ∀ cs vs la l e, SI cs vs (some la) l e → SI (cs ++ [la.1]) (vs ++ [la]) none l e
  /-- a NEWLINE shifted in state 0 is not pushed -/
  shiftNl : ∀ cs la l e, la.1 = T.nlTok → SI cs [] (some la) l e → SI (cs ++ [la.1]) [] none l e
  act : ∀ cs p lhs rhs rest args la, T.prods[p]? = some (lhs, rhs) → args.map (·.1) = rhs →
      RestHint T rest lhs → LaHint T la p →
      M.SatS (H.act p (args.map (·.2))) (SI cs (rest ++ args) la)
        (fun r l e => if r.2 = true then Fin cs r.1 l e else SI cs (rest ++ [(lhs, r.1)]) la l e) E
  /-- the `accept` entry of the action table returns the top of the stack -/
  accept : ∀ cs vs x (la : Nat × V) l e, A x.1 → (∃ s, T.action s la.1 = some .accept) →
    SI cs (vs ++ [x]) (some la) l e → Fin cs x.2 l e
  onError : ∀ la, M.Sat (H.onError la) (fun _ => True) E
  /-- the "everything is a newline" return happens on an empty stack, with the end-of-input
      look-ahead (or, never for the real tables, at an `accept` entry of state 0) -/
  blank : ∀ cs la l e, (la.1 = T.endTok ∨ T.action 0 la.1 = some .accept) → SI cs [] (some la) l e →
    Blank cs l e

/-- the invariant reads the stack through `symVals`; `RestHint` and `LaHint` are what is left of
    `StackOK` and `RedAt` there -/
theorem moves_ordC {T reach acc} (h : WF T reach acc) {A : Nat → Prop}
    (hA : ∀ s la, reach s → T.action s la = some .accept → A (acc s))
    {H : Hooks V} {SI Fin Blank E} (hH : HooksOrdC T H SI Fin Blank E A) {E' : Exn → Prop}
    (hE : ∀ x, E x → E' x) (hNM : E' (.foreign "NotModelled" "LRParser.parse(error recovery)")) :
    Moves T reach H (fun cs stk la => SI cs (symVals stk) la)
      (fun cs stk la => SI cs (symVals stk) la) (fun cs _ v => Fin cs v) Blank E' where
  next cs stk _ := (hH.next cs (symVals stk)).weaken (fun _ _ hp => hp) (fun _ _ _ hq => hq) hE
  blank cs la l e hla hsi := hH.blank cs la l e hla hsi
  shiftNl cs la _ l e _ hnl hsi := hH.shiftNl cs la l e hnl hsi
  shift cs stk la t l e _ _ hsi := by
    rw [symVals_cons]; exact hH.shift cs _ la l e hsi
  reduce cs p lhs es rest t la hok hprod hg hred := by
    have hrest : RestHint T (symVals rest) lhs := by
      cases rest with
      | nil => exact Or.inl rfl
      | cons x r =>
        have hr : StackOK T reach (x :: r) := hok.drop
        exact Or.inr ⟨x.state, t, (h.closed _ _ _ (reach_top h hr.1.2.2) hr.1.2.1).2.2, hg⟩
    have hla : LaHint T la p := hred.elim (fun hd => Or.inl ⟨_, hd⟩)
      (fun ⟨x, hx, ha⟩ => Or.inr ⟨x, _, hx, ha⟩)
    have hact := hH.act cs p lhs _ (symVals rest) (es.map fun e => (e.tree.root, e.val)) la hprod
      (by simp [List.map_map, Function.comp_def]) hrest hla
    simp only [List.map_map, Function.comp_def] at hact
    simp only [symVals_append, symVals_cons]
    exact hact.weaken (fun _ _ hp => hp) (fun _ _ _ hq => hq) hE
  accept cs top rest la l e hok hact hsi := by
    rw [symVals_cons] at hsi
    exact hH.accept cs _ (top.tree.root, top.val) la l e (hok.acc_top h ▸ hA _ _ hok.1.1 hact)
      ⟨_, hact⟩ hsi
  onError _ _ la _ _ := M.SatS.of_sat ((hH.onError la).weaken (fun _ _ => hNM) hE) _

/-- **run_sound_ord over `HooksOrdC`**: `run_moves` at `moves_ordC` -/
theorem run_sound_ordC {T reach acc} (h : WF T reach acc) {A : Nat → Prop}
    (hA : ∀ s la, reach s → T.action s la = some .accept → A (acc s))
    (H : Hooks V) {SI Fin Blank E} (hH : HooksOrdC T H SI Fin Blank E A) (fuel : Nat) :
    M.SatS (run T H fuel) (SI [] [] none) (GoodC Fin Blank) (EngineExn E) :=
  (run_moves h (moves_ordC (E' := EngineExn E) h hA hH (fun _ => Or.inl) (Or.inr (Or.inr rfl)))
    (Or.inr (Or.inl rfl)) fuel).post (fun res _ _ hg => by
    cases res with
    | accepted => exact hg.2
    | blank => exact hg)

/-! ## without `consumed` -/

/-- `GoodC` without `consumed` -/
def GoodB (Fin : V → Local → Env → Prop) (Blank : Local → Env → Prop) : Res V → Local → Env → Prop
  | .accepted v _ _ _, l, e => Fin v l e
  | .blank _ _, l, e => Blank l e

/-- `HooksOrdC` without `consumed`: the hints and the all-newline return -/
structure HooksOrdB (T : Tables) (H : Hooks V)
    (SI : List (Nat × V) → Option (Nat × V) → Local → Env → Prop)
    (Fin : V → Local → Env → Prop) (Blank : Local → Env → Prop) (E : Exn → Prop)
    (A : Nat → Prop) : Prop where
  next : ∀ vs, M.SatS H.next (SI vs none) (fun la => SI vs (some la)) E
  shift : ∀ vs la l e, SI vs (some la) l e → SI (vs ++ [la]) none l e
  /-- a NEWLINE shifted in state 0 is not pushed -/
  shiftNl : ∀ la l e, la.1 = T.nlTok → SI [] (some la) l e → SI [] none l e
  act : ∀ p lhs rhs rest args la, T.prods[p]? = some (lhs, rhs) → args.map (·.1) = rhs →
      RestHint T rest lhs → LaHint T la p →
      M.SatS (H.act p (args.map (·.2))) (SI (rest ++ args) la)
        (fun r l e => if r.2 = true then Fin r.1 l e else SI (rest ++ [(lhs, r.1)]) la l e) E
  /-- the `accept` entry of the action table returns the top of the stack -/
  accept : ∀ vs x (la : Nat × V) l e, A x.1 → (∃ s, T.action s la.1 = some .accept) →
    SI (vs ++ [x]) (some la) l e → Fin x.2 l e
  onError : ∀ la, M.Sat (H.onError la) (fun _ => True) E
  /-- the "everything is a newline" return happens on an empty stack, with the end-of-input
      look-ahead (or, never for the real tables, at an `accept` entry of state 0) -/
  blank : ∀ la l e, (la.1 = T.endTok ∨ T.action 0 la.1 = some .accept) → SI [] (some la) l e →
    Blank l e

theorem HooksOrdB.toC {T : Tables} {H : Hooks V} {SI Fin Blank E A}
    (hH : HooksOrdB T H SI Fin Blank E A) :
    HooksOrdC T H (fun _ => SI) (fun _ => Fin) (fun _ => Blank) E A :=
  ⟨fun _ => hH.next, fun _ => hH.shift, fun _ => hH.shiftNl, fun _ => hH.act, fun _ => hH.accept,
    hH.onError, fun _ => hH.blank⟩

/-- **run_sound_ord over `HooksOrdB`** -/
theorem run_sound_ordB {T reach acc} (h : WF T reach acc) {A : Nat → Prop}
    (hA : ∀ s la, reach s → T.action s la = some .accept → A (acc s))
    (H : Hooks V) {SI Fin Blank E} (hH : HooksOrdB T H SI Fin Blank E A) (fuel : Nat) :
    M.SatS (run T H fuel) (SI [] none) (GoodB Fin Blank) (EngineExn E) :=
  (run_sound_ordC h hA H hH.toC fuel).weaken (fun _ _ h => h)
    (fun res _ _ h => by cases res <;> exact h) (fun _ h => h)

/-- hooks for an invariant indexed by `consumed` are hooks for "the invariant holds for some
    `consumed`" -/
theorem HooksOrdC.forget {T : Tables} {H : Hooks V} {SI Fin Blank E A}
    (hH : HooksOrdC T H SI Fin Blank E A) :
    HooksOrdB T H (fun vs la l e => ∃ cs, SI cs vs la l e) (fun v l e => ∃ cs, Fin cs v l e)
      (fun l e => ∃ cs, Blank cs l e) E A :=
  ⟨fun vs l e ⟨cs, h⟩ => (hH.next cs vs).post (fun _ _ _ h => ⟨cs, h⟩) l e h,
   fun vs la l e ⟨cs, h⟩ => ⟨_, hH.shift cs vs la l e h⟩,
   fun la l e hla ⟨cs, h⟩ => ⟨_, hH.shiftNl cs la l e hla h⟩,
   fun p lhs rhs rest args la hp ha hr hl l e ⟨cs, h⟩ =>
     (hH.act cs p lhs rhs rest args la hp ha hr hl).post
       (fun r _ _ h => by
         cases hr : r.2 <;> simp only [hr, if_true, Bool.false_eq_true, if_false] at h ⊢ <;>
           exact ⟨cs, h⟩) l e h,
   fun vs x la l e hA hacc ⟨cs, h⟩ => ⟨cs, hH.accept cs vs x la l e hA hacc h⟩,
   hH.onError,
   fun la l e hla ⟨cs, h⟩ => ⟨cs, hH.blank cs la l e hla h⟩⟩

/-! ## without `consumed` and `blank` -/

/-- `HooksOrdB` without `blank`: the hints only -/
structure HooksOrdH (T : Tables) (H : Hooks V)
    (SI : List (Nat × V) → Option (Nat × V) → Local → Env → Prop)
    (Fin : V → Local → Env → Prop) (E : Exn → Prop) (A : Nat → Prop) : Prop where
  next : ∀ vs, M.SatS H.next (SI vs none) (fun la => SI vs (some la)) E
  shift : ∀ vs la l e, SI vs (some la) l e → SI (vs ++ [la]) none l e
  /-- a NEWLINE shifted in state 0 is not pushed -/
  shiftNl : ∀ la l e, la.1 = T.nlTok → SI [] (some la) l e → SI [] none l e
  act : ∀ p lhs rhs rest args la, T.prods[p]? = some (lhs, rhs) → args.map (·.1) = rhs →
      RestHint T rest lhs → LaHint T la p →
      M.SatS (H.act p (args.map (·.2))) (SI (rest ++ args) la)
        (fun r l e => if r.2 = true then Fin r.1 l e else SI (rest ++ [(lhs, r.1)]) la l e) E
  /-- the `accept` entry of the action table returns the top of the stack -/
  accept : ∀ vs x la l e, A x.1 → SI (vs ++ [x]) la l e → Fin x.2 l e
  onError : ∀ la, M.Sat (H.onError la) (fun _ => True) E

theorem HooksOrdH.toB {T : Tables} {H : Hooks V} {SI Fin E A} (hH : HooksOrdH T H SI Fin E A) :
    HooksOrdB T H SI Fin (fun _ _ => True) E A :=
  ⟨hH.next, hH.shift, hH.shiftNl, hH.act, fun vs x la l e hA _ h => hH.accept vs x (some la) l e hA h,
    hH.onError, fun _ _ _ _ _ => trivial⟩

/-- **run_sound_ord over `HooksOrdH`** -/
theorem run_sound_ordH {T reach acc} (h : WF T reach acc) {A : Nat → Prop}
    (hA : ∀ s la, reach s → T.action s la = some .accept → A (acc s))
    (H : Hooks V) {SI Fin E} (hH : HooksOrdH T H SI Fin E A) (fuel : Nat) :
    M.SatS (run T H fuel) (SI [] none) (GoodO Fin) (EngineExn E) :=
  (run_sound_ordB h hA H hH.toB fuel).weaken (fun _ _ h => h)
    (fun res _ _ h => by cases res <;> exact h) (fun _ h => h)

/-! ## without hints -/

theorem HooksOrd.toH {T : Tables} {H : Hooks V} {SI Fin E} {A : Nat → Prop}
    (hH : HooksOrd T H SI Fin E) : HooksOrdH T H SI Fin E A :=
  ⟨hH.next, hH.shift, fun la l e _ h => hH.shiftNl la l e h, hH.act,
    fun vs x la l e _ h => hH.accept vs x la l e h, hH.onError⟩

/-- **run_sound_ord**: for every token source and every family of semantic actions respecting a
    relational stack invariant `SI` (closed under the engine's moves, `HooksOrd`), a normal
    return of the engine started in a state satisfying `SI [] none` yields an accepted value
    satisfying `Fin` (in the final state); the only exceptions are those of the hooks, running
    out of fuel, or the unmodelled error recovery. -/
theorem run_sound_ord {T reach acc} (h : WF T reach acc) (H : Hooks V) {SI Fin E}
    (hH : HooksOrd T H SI Fin E) (fuel : Nat) :
    M.SatS (run T H fuel) (SI [] none) (GoodO Fin) (EngineExn E) :=
  run_sound_ordH (A := fun _ => True) h (fun _ _ _ _ => trivial) H hH.toH fuel

/-! ## invariants side by side

Hooks for `C`, and hooks for `SI` that may assume `C` of the state a move starts from, are hooks
for `SI ∧ C`: a pass states only its own component, relative to the passes it needs. -/

/-- closure of `SI` under the engine's moves from states in which `C` holds as well -/
structure HooksOrdR (T : Tables) (H : Hooks V)
    (C SI : List (Nat × V) → Option (Nat × V) → Local → Env → Prop)
    (Fin : V → Local → Env → Prop) (E : Exn → Prop) (A : Nat → Prop) : Prop where
  next : ∀ vs, M.SatS H.next (fun l e => SI vs none l e ∧ C vs none l e)
    (fun la => SI vs (some la)) E
  shift : ∀ vs la l e, C vs (some la) l e → SI vs (some la) l e → SI (vs ++ [la]) none l e
  shiftNl : ∀ la l e, SI [] (some la) l e → SI [] none l e
  act : ∀ p lhs rhs rest args la, T.prods[p]? = some (lhs, rhs) → args.map (·.1) = rhs →
      RestHint T rest lhs → LaHint T la p →
      M.SatS (H.act p (args.map (·.2)))
        (fun l e => SI (rest ++ args) la l e ∧ C (rest ++ args) la l e)
        (fun r l e => if r.2 = true then Fin r.1 l e else SI (rest ++ [(lhs, r.1)]) la l e) E
  accept : ∀ vs x la l e, A x.1 → SI (vs ++ [x]) la l e → Fin x.2 l e

section
variable {T : Tables} {H : Hooks V}
  {C SI : List (Nat × V) → Option (Nat × V) → Local → Env → Prop}
  {FinC Fin : V → Local → Env → Prop} {E : Exn → Prop} {A : Nat → Prop}

/-- the post-condition of a reduction, for two invariants at once -/
theorem actPost_and {b : Bool} {P P' Q Q' : Prop}
    (h : (if b = true then P else Q) ∧ (if b = true then P' else Q')) :
    if b = true then P ∧ P' else Q ∧ Q' := by
  cases b
  · exact h
  · exact h

theorem HooksOrdH.and (hC : HooksOrdH T H C FinC E A) (hS : HooksOrdR T H C SI Fin E A) :
    HooksOrdH T H (fun vs la l e => SI vs la l e ∧ C vs la l e)
      (fun v l e => Fin v l e ∧ FinC v l e) E A where
  next vs := M.SatS.and (hS.next vs) (M.SatS.pre (hC.next vs) (fun _ _ h => h.2))
  shift vs la l e h := ⟨hS.shift vs la l e h.2 h.1, hC.shift vs la l e h.2⟩
  shiftNl la l e hla h := ⟨hS.shiftNl la l e h.1, hC.shiftNl la l e hla h.2⟩
  act p lhs rhs rest args la hp ha hr hl :=
    M.SatS.post (M.SatS.and (hS.act p lhs rhs rest args la hp ha hr hl)
      (M.SatS.pre (hC.act p lhs rhs rest args la hp ha hr hl) (fun _ _ h => h.2)))
      (fun _ _ _ h => actPost_and h)
  accept vs x la l e hA h := ⟨hS.accept vs x la l e hA h.1, hC.accept vs x la l e hA h.2⟩
  onError := hC.onError

theorem HooksOrd.and (hC : HooksOrd T H C FinC E) (hS : HooksOrdR T H C SI Fin E (fun _ => True)) :
    HooksOrd T H (fun vs la l e => SI vs la l e ∧ C vs la l e)
      (fun v l e => Fin v l e ∧ FinC v l e) E where
  next vs := M.SatS.and (hS.next vs) (M.SatS.pre (hC.next vs) (fun _ _ h => h.2))
  shift vs la l e h := ⟨hS.shift vs la l e h.2 h.1, hC.shift vs la l e h.2⟩
  shiftNl la l e h := ⟨hS.shiftNl la l e h.1, hC.shiftNl la l e h.2⟩
  act p lhs rhs rest args la hp ha hr hl :=
    M.SatS.post (M.SatS.and (hS.act p lhs rhs rest args la hp ha hr hl)
      (M.SatS.pre (hC.act p lhs rhs rest args la hp ha hr hl) (fun _ _ h => h.2)))
      (fun _ _ _ h => actPost_and h)
  accept vs x la l e h := ⟨hS.accept vs x la l e trivial h.1, hC.accept vs x la l e h.2⟩
  onError := hC.onError

/-- hooks for an equivalent invariant and a weaker final condition -/
theorem HooksOrd.of_iff {SI' : List (Nat × V) → Option (Nat × V) → Local → Env → Prop}
    {Fin' : V → Local → Env → Prop} (h : HooksOrd T H SI Fin E)
    (hi : ∀ vs la l e, SI' vs la l e ↔ SI vs la l e) (hf : ∀ v l e, Fin v l e → Fin' v l e) :
    HooksOrd T H SI' Fin' E where
  next vs := M.SatS.weaken (h.next vs) (fun _ _ => (hi _ _ _ _).mp) (fun _ _ _ => (hi _ _ _ _).mpr)
    (fun _ h => h)
  shift vs la l e hs := (hi _ _ _ _).mpr (h.shift vs la l e ((hi _ _ _ _).mp hs))
  shiftNl la l e hs := (hi _ _ _ _).mpr (h.shiftNl la l e ((hi _ _ _ _).mp hs))
  act p lhs rhs rest args la hp ha hr hl :=
    M.SatS.weaken (h.act p lhs rhs rest args la hp ha hr hl) (fun _ _ => (hi _ _ _ _).mp)
      (fun r l e hq => by
        cases hb : r.2
        · simp only [hb] at hq ⊢; exact (hi _ _ _ _).mpr hq
        · simp only [hb, if_true] at hq ⊢; exact hf _ _ _ hq) (fun _ h => h)
  accept vs x la l e hs := hf _ _ _ (h.accept vs x la l e ((hi _ _ _ _).mp hs))
  onError := h.onError

/-- hooks relative to nothing are hooks -/
theorem HooksOrdR.toOrd (hS : HooksOrdR T H (fun _ _ _ _ => True) SI Fin E (fun _ => True))
    (onError : ∀ la, M.Sat (H.onError la) (fun _ => True) E) : HooksOrd T H SI Fin E where
  next vs := M.SatS.pre (hS.next vs) (fun _ _ h => ⟨h, trivial⟩)
  shift vs la l e h := hS.shift vs la l e trivial h
  shiftNl := hS.shiftNl
  act p lhs rhs rest args la hp ha hr hl :=
    M.SatS.pre (hS.act p lhs rhs rest args la hp ha hr hl) (fun _ _ h => ⟨h, trivial⟩)
  accept vs x la l e h := hS.accept vs x la l e trivial h
  onError := onError

/-- an entry-wise invariant: a state invariant, and an invariant of each entry of the stack and
    of the look-ahead -/
def SIpt (P : Local → Env → Prop) (VI : Nat × V → Prop) (vs : List (Nat × V))
    (la : Option (Nat × V)) (l : Local) (e : Env) : Prop :=
  P l e ∧ (∀ x ∈ vs, VI x) ∧ ∀ x, la = some x → VI x

/-- hooks for an entry-wise invariant: only the token source, the actions and the accepted entry
    are to be looked at -/
theorem HooksOrdR.pointwise {P : Local → Env → Prop} {VI : Nat × V → Prop}
    (next : ∀ vs, M.SatS H.next (fun l e => P l e ∧ C vs none l e) (fun la l e => P l e ∧ VI la) E)
    (act : ∀ p lhs rhs rest (args : List (Nat × V)) la, T.prods[p]? = some (lhs, rhs) →
      args.map (·.1) = rhs → (∀ x ∈ args, VI x) →
      M.SatS (H.act p (args.map (·.2))) (fun l e => P l e ∧ C (rest ++ args) la l e)
        (fun r l e => if r.2 = true then Fin r.1 l e else P l e ∧ VI (lhs, r.1)) E)
    (accept : ∀ x l e, A x.1 → P l e → VI x → Fin x.2 l e) :
    HooksOrdR T H C (SIpt P VI) Fin E A where
  next vs := M.SatS.intro_state fun l e h =>
    M.SatS.weaken (next vs) (by rintro _ _ ⟨rfl, rfl⟩; exact ⟨h.1.1, h.2⟩)
      (fun la _ _ h' => ⟨h'.1, h.1.2.1, fun x hx => by cases hx; exact h'.2⟩) (fun _ h => h)
  shift vs la l e _ h := ⟨h.1, fun x hx => by
    rcases List.mem_append.mp hx with hx | hx
    · exact h.2.1 x hx
    · rw [List.mem_singleton.mp hx]; exact h.2.2 _ rfl, fun x hx => by cases hx⟩
  shiftNl la l e h := ⟨h.1, h.2.1, fun x hx => by cases hx⟩
  act p lhs rhs rest args la hp ha _ _ := M.SatS.intro_state fun l e h =>
    M.SatS.weaken (act p lhs rhs rest args la hp ha
        (fun x hx => h.1.2.1 x (List.mem_append_right _ hx)))
      (by rintro _ _ ⟨rfl, rfl⟩; exact ⟨h.1.1, h.2⟩)
      (fun r _ _ h' => by
        by_cases h2 : r.2 = true
        · simp only [h2, if_true] at h' ⊢; exact h'
        · simp only [h2] at h' ⊢
          refine ⟨h'.1, fun x hx => ?_, h.1.2.2⟩
          rcases List.mem_append.mp hx with hx | hx
          · exact h.1.2.1 x (List.mem_append_left _ hx)
          · rw [List.mem_singleton.mp hx]; exact h'.2) (fun _ h => h)
  accept vs x la l e hA h := accept x l e hA h.1 (h.2.1 x (List.mem_append_right _ (by simp)))

end

end Bashlex.LR
