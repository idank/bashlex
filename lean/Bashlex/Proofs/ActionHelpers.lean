/-
  The helper functions of the semantic actions (`Model/Actions.lean`), each characterised once:
  what it returns, for any state predicate `P` that the programs it calls keep and any exception
  predicate `E` -- so the same lemma serves the state-agnostic passes (`Sat`, at `P := True`)
  and the passes that carry a store invariant (`Keeps`).  A pass derives what it needs of a
  helper's result from the characterisation by reasoning about lists, without walking the helper.
-/
import Bashlex.Proofs.ActionEqns
import Bashlex.Proofs.HoareS
import Bashlex.LR.Sound

namespace Bashlex
open Bashlex.M Bashlex.LR

namespace M

theorem Keeps.to_sat {α : Type} {m : M α} {Φ : α → Prop} {E : Exn → Prop}
    (h : Keeps (fun _ _ => True) m Φ E) : Sat m Φ E :=
  SatS.to_sat (h.post (fun _ _ _ h => h.2))

theorem Sat.keeps {α : Type} {m : M α} {Φ : α → Prop} {E : Exn → Prop} (h : Sat m Φ E) :
    Keeps (fun _ _ => True) m Φ E :=
  (SatS.of_sat h _).post (fun _ _ _ h => ⟨True.intro, h⟩)

end M

/-! ## `_makeparts` -/

/-- the parts `_makeparts` produces for one right-hand-side value; `W t w`: what is known of the
    node `w` that `expandword` returns for the token `t` -/
def ChunkOf (W : Token → Node → Prop) (a : SVal) (chunk : List Node) : Prop :=
  match a with
  | .node n => chunk = [n]
  | .nodes l => chunk = l
  | .tok t =>
    if t.is .WORD = true then ∃ w, chunk = [w] ∧ W t w
    else chunk = [.reservedword (t.lexpos, t.endlexpos) (tvalStr t.value)]
  | .none => chunk = []

/-- `_makeparts` returns the chunks of its arguments, concatenated -/
theorem keeps_makeparts_chunks {P : Local → Env → Prop} {E : Exn → Prop}
    {W : Token → Node → Prop} {np : NestedParse} {args : List SVal}
    (hW : ∀ t, SVal.tok t ∈ args → t.is .WORD = true → Keeps P (expandword np t) (W t) E) :
    Keeps P (makeparts ⟨np, args⟩)
      (fun parts => ∃ chunks, parts = chunks.flatten ∧ Forall2 (ChunkOf W) args chunks) E := by
  unfold makeparts
  simp only [bind_pure]
  refine Keeps.forIn_list
    (I := fun rest acc => ∃ done chunks, args = done ++ rest ∧ acc = chunks.flatten ∧
      Forall2 (ChunkOf W) done chunks) ?_ ?_ args [] ⟨[], [], rfl, rfl, .nil⟩
  · rintro a rest b ⟨done, chunks, hargs, rfl, hf⟩
    have hnext : ∀ chunk, ChunkOf W a chunk → ∃ done' chunks', args = done' ++ rest ∧
        chunks.flatten ++ chunk = chunks'.flatten ∧ Forall2 (ChunkOf W) done' chunks' :=
      fun chunk hc =>
        ⟨done ++ [a], chunks ++ [chunk], by simp [hargs], by simp, forall2_snoc hf hc⟩
    split
    · exact Keeps.pure (hnext _ rfl)
    · exact Keeps.pure (hnext _ rfl)
    · rename_i t
      split
      · rename_i hw
        refine Keeps.bind (hW t (by simp [hargs]) hw) (fun w hw' => Keeps.pure (hnext [w] ?_))
        simp only [ChunkOf, hw, if_true]
        exact ⟨w, rfl, hw'⟩
      · rename_i hw
        exact Keeps.pure (hnext _ (by simp [ChunkOf, hw]))
    · exact Keeps.pure (by simpa using hnext [] rfl)
  · rintro b ⟨done, chunks, hargs, rfl, hf⟩
    simp only [List.append_nil] at hargs
    subst hargs
    exact ⟨chunks, rfl, hf⟩

/-! ## `joinLists` on the two forms of its arguments -/

theorem forall2_getLast {α β} {R : α → β → Prop} :
    ∀ {l₁ : List α} {l₂ : List β}, Forall2 R l₁ l₂ → ∀ a, l₁.getLast? = some a →
      ∃ b, l₂.getLast? = some b ∧ R a b := by
  intro l₁ l₂ h
  induction h with
  | nil => intro a ha; simp at ha
  | @cons x y xs ys hxy hrest ih =>
    intro a ha
    cases hrest with
    | nil =>
      simp at ha; subst ha
      exact ⟨y, by simp, hxy⟩
    | @cons x' y' xs' ys' h1 h2 =>
      have : (x' :: xs').getLast? = some a := by simpa [List.getLast?_cons_cons] using ha
      obtain ⟨b, hb, hr⟩ := ih a this
      exact ⟨b, by simpa [List.getLast?_cons_cons] using hb, hr⟩

theorem slice_last {np : NestedParse} {args : List SVal} {v : SVal} (h : args.getLast? = some v) :
    PCtx.slice ⟨np, args⟩ (PCtx.len ⟨np, args⟩ - 1) = v := by
  simp only [PCtx.slice, PCtx.len, Nat.add_sub_cancel]
  rw [List.getLast?_eq_getElem?] at h
  simp [List.getD_eq_getElem?_getD, h]

theorem joinLists_single (np : NestedParse) (n : Node) (mk : Span → Str → Node) (site : String) :
    joinLists ⟨np, [.node n]⟩ mk site = pure (.nodes [n]) := by
  simp [joinLists, PCtx.len, PCtx.nodeAt, PCtx.slice]

theorem joinLists_join (np : NestedParse) (l r : List Node) (t : Token) (mid : List SVal)
    (mk : Span → Str → Node) (site : String) :
    joinLists ⟨np, .nodes l :: .tok t :: (mid ++ [.nodes r])⟩ mk site =
      pure (.nodes (l ++ mk (t.lexpos, t.endlexpos) t.valueStr :: r)) := by
  have hlast : (SVal.nodes l :: SVal.tok t :: (mid ++ [SVal.nodes r])).getLast? =
      some (.nodes r) := List.getLast?_eq_some_iff.mpr ⟨.nodes l :: .tok t :: mid, rfl⟩
  have hlen : ¬ (PCtx.len ⟨np, SVal.nodes l :: SVal.tok t :: (mid ++ [SVal.nodes r])⟩ == 2) = true := by
    simp [PCtx.len]
  unfold joinLists
  simp only [hlen, if_false, Bool.false_eq_true]
  simp only [PCtx.nodesAt, slice_last hlast]
  simp [PCtx.slice, PCtx.strAt, PCtx.tokAt, PCtx.lexspan, SVal.lexspan]

/-! ## `handleAssert`, `addRedirects` -/

theorem keeps_handleAssert_true {P : Local → Env → Prop} {E : Exn → Prop}
    (hA : E (.foreign "AssertionError" "handleAssert")) (b : Bool) :
    Keeps P (handleAssert b) (fun _ => b = true) E := by
  unfold handleAssert
  split
  · exact Keeps.pure ‹_›
  · exact Keeps.foreign hA

/-- `addRedirects` returns the compound with the redirects appended, ending where `nodePos`
    says the last of them ends (`N`: what is known of that position), which is beyond its
    start; the `IndexError` is out of reach when there are redirects to add -/
theorem keeps_addRedirects_eq {P : Local → Env → Prop} {E : Exn → Prop} {n : Node}
    {reds : List Node} {N : Node → Span → Prop}
    (hN : ∀ pos l r last, n = .compound pos l r → (r ++ reds).getLast? = some last →
      Keeps P (nodePos last) (N last) E)
    (hA : E (.foreign "AssertionError" "handleAssert"))
    (hI : reds ≠ [] ∨ E (.foreign "IndexError" "p_command")) :
    Keeps P (addRedirects n reds) (fun n' => ∃ pos l r last sp, n = .compound pos l r ∧
      (r ++ reds).getLast? = some last ∧ N last sp ∧ pos.1 < sp.2 ∧
      n' = .compound (pos.1, sp.2) l (r ++ reds)) E := by
  unfold addRedirects
  refine Keeps.bind (keeps_handleAssert_true hA _) (fun u hu => ?_)
  split
  · rename_i pos l r
    simp only []
    split
    · rename_i hnone
      rcases hI with hne | hE
      · exact absurd (List.append_eq_nil_iff.mp (List.getLast?_eq_none_iff.mp hnone)).2 hne
      · exact Keeps.foreign hE
    · rename_i last hlast
      refine Keeps.bind (hN pos l r last rfl hlast) (fun sp hsp => ?_)
      refine Keeps.bind (keeps_handleAssert_true hA _) (fun v hlt => Keeps.pure ?_)
      exact ⟨pos, l, r, last, sp, rfl, hlast, hsp, by simpa using hlt, rfl⟩
  · exact Keeps.foreign hA

/-! ## `fix` of `p_for_command` -/

/-- what `fix` does to a node: nothing, or an operator `;` becomes the reserved word at its place -/
def FixRel (a b : Node) : Prop :=
  b = a ∨ ∃ pos, a = .operator pos [';'] ∧ b = .reservedword pos [';']

theorem forall2_refl {α : Type} {R : α → α → Prop} (h : ∀ a, R a a) : ∀ l, Forall2 R l l
  | [] => .nil
  | a :: l => .cons (h a) (forall2_refl h l)

theorem fix_rel : ∀ l : List Node, Forall2 FixRel l (actionCore.fix l)
  | [] => .nil
  | n :: ns => by
    cases n with
    | operator pos op =>
      simp only [actionCore.fix]
      split
      · rename_i h
        cases (by simpa using h : op = [';'])
        exact .cons (Or.inr ⟨pos, rfl, rfl⟩) (forall2_refl (R := FixRel) (fun _ => Or.inl rfl) ns)
      · exact .cons (Or.inl rfl) (fix_rel ns)
    | _ => exact .cons (Or.inl rfl) (fix_rel ns)

/-! ## `p_elif_clause`: the loop in closed form -/

/-- a loop that appends one chunk per element returns the chunks, concatenated -/
theorem forIn_chunks {α β γ : Type} {body : α → List β → M (ForInStep (List β))} (f : α → List β)
    (hb : ∀ a s, body a s = pure (.yield (s ++ f a))) (k : List β → M γ) :
    ∀ (l : List α) (init : List β), (forIn l init body >>= k) = k (init ++ l.flatMap f)
  | [], init => by simp
  | a :: l, init => by
    simp only [List.forIn_cons, hb, pure_bind]
    rw [forIn_chunks f hb k l]
    simp

/-- the parts `p_elif_clause` makes of one right-hand-side value -/
def elifChunk : SVal → List Node
  | .node n => [n]
  | .nodes l => l
  | .tok t => [.reservedword (t.lexpos, t.endlexpos) (tvalStr t.value)]
  | .none => [.reservedword (0, 0) "None".toList]

theorem actionCore_elif (np : NestedParse) (args : List SVal) :
    actionCore np "p_elif_clause" args = pure (.nodes (args.flatMap elifChunk), false) := by
  rw [actionCore_p_elif_clause]
  exact forIn_chunks elifChunk (fun a s => by cases a <;> rfl) _ args []

end Bashlex
