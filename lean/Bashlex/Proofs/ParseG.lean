/-
  The loop of `parse` over any run function.  `parse` runs the parser over the whole input and then,
  while the index is inside the input, over the suffix `s.drop index`, moving each result by
  `index`; nothing in that loop depends on what a run does.  So it is written once over a run
  function (`parseG`; `parse s o` is `parseG` at `runParser · o ·`), and two facts are proved of it:
  the parts are a chain of runs (`parseG_chain`: whatever holds of every run's result holds part by
  part, with the index each part's run started at), and two run functions whose results differ by a
  map on trees that commutes with `shift` and keeps the restart index give parts that differ by
  that map (`parseG_map`; the same results, the same parts: `parseG_congr`).
-/
import Bashlex.Model.Parse
import Bashlex.Proofs.NodeTree

namespace Bashlex

abbrev RunFn := Str → List Char → Except Exn (Option Node) × List Char

/-- `parseLoop`, over any run function -/
def parseLoopG (run : RunFn) (s : Str) :
    Nat → Nat → List Node → List Char → Except Exn (List Node) × List Char
  | 0, _, _, touched => (.error (.outOfFuel "parse"), touched)
  | fuel + 1, index, parts, touched =>
    if index < s.length then
      match run (s.drop index) touched with
      | (.error e, t) => (.error e, t)
      | (.ok none, t) => (.ok parts, t)
      | (.ok (some part), t) =>
        let part := part.shift index
        parseLoopG run s fuel (max (nextIndex part) (index + 1)) (parts ++ [part]) t
    else (.ok parts, touched)

/-- `parse`, over any run function -/
def parseG (run : RunFn) (s : Str) : Outcome × List Char :=
  match run s [] with
  | (.error e, t) => (.exn e, t)
  | (.ok none, t) => (.parts [], t)
  | (.ok (some first), t) =>
    match parseLoopG run s (s.length + 1) (max (nextIndex first) 1) [first] t with
    | (.error e, t) => (.exn e, t)
    | (.ok parts, t) => (.parts parts, t)

theorem parseLoop_eq_G (s : Str) (o : Opts) : ∀ fuel i ps t,
    parseLoop s o fuel i ps t = parseLoopG (runParser · o ·) s fuel i ps t := by
  intro fuel
  induction fuel with
  | zero => intros; rfl
  | succ fuel ih =>
    intro i ps t
    simp only [parseLoop, parseLoopG, ih]
    -- the two sides differ in the auxiliary matcher only; `rfl` on the run itself would unfold it
    generalize runParser (s.drop i) o t = x
    rcases x with ⟨_ | _ | _, _⟩ <;> rfl

theorem parse_eq_G (s : Str) (o : Opts) : parse s o = parseG (runParser · o ·) s := by
  simp only [parse, parseG, parseLoop_eq_G]
  generalize runParser s o [] = x
  rcases x with ⟨_ | _ | first, t⟩
  · rfl
  · rfl
  · simp only []
    generalize parseLoopG (runParser · o ·) s (s.length + 1) (max (nextIndex first) 1) [first] t = y
    rcases y with ⟨_ | _, _⟩ <;> rfl

/-- the parts from index `i` on: each is the result `n` of a run over `s.drop i` (`R i n`), moved
    by `i`; the next run starts at `max (nextIndex part) (i + 1)`; the chain ends at the end of the
    input, or with a run that returns `None` (`N i`) -/
inductive PartsOf (R : Nat → Node → Prop) (N : Nat → Prop) (len : Nat) : Nat → List Node → Prop
  | done (i : Nat) : len ≤ i → PartsOf R N len i []
  | stop (i : Nat) : N i → PartsOf R N len i []
  | cons {i : Nat} {n : Node} {rest : List Node} : i ≤ len → R i n →
      PartsOf R N len (max (nextIndex (n.shift i)) (i + 1)) rest →
      PartsOf R N len i (n.shift i :: rest)

theorem PartsOf.mem {R : Nat → Node → Prop} {N : Nat → Prop} {len : Nat} :
    ∀ {i : Nat} {ps : List Node}, PartsOf R N len i ps → ∀ part ∈ ps,
      ∃ k n, i ≤ k ∧ k ≤ len ∧ part = n.shift k ∧ R k n := by
  intro i ps h
  induction h with
  | done | stop => intro _ hp; cases hp
  | @cons i n rest hi hrun _ ih =>
    intro part hp
    rcases List.mem_cons.mp hp with rfl | hp
    · exact ⟨i, n, Nat.le_refl i, hi, rfl, hrun⟩
    · obtain ⟨k, m, h1, h2⟩ := ih part hp
      exact ⟨k, m, by have := Nat.le_max_right (nextIndex (n.shift i)) (i + 1); omega, h2⟩

section
variable {run : RunFn} {R : Nat → Node → Prop} {N : Nat → Prop} {s : Str}

theorem parseLoopG_chain
    (hR : ∀ i t n, i ≤ s.length → (run (s.drop i) t).1 = .ok (some n) → R i n)
    (hN : ∀ i t, (run (s.drop i) t).1 = .ok none → N i) :
    ∀ (fuel index : Nat) (acc : List Node) (t : List Char) (ps : List Node),
      (parseLoopG run s fuel index acc t).1 = .ok ps →
      ∃ rest, ps = acc ++ rest ∧ PartsOf R N s.length index rest := by
  intro fuel
  induction fuel with
  | zero => intro index acc t ps h; cases h
  | succ fuel ih =>
    intro index acc t ps h
    unfold parseLoopG at h
    split at h
    · rename_i hidx
      have hr := hR index t
      have hn := hN index t
      rcases hrun : run (s.drop index) t with ⟨r, t'⟩
      rw [hrun] at h hr hn
      rcases r with e | _ | part
      · cases h
      · cases h; exact ⟨[], by simp, .stop _ (hn rfl)⟩
      · obtain ⟨rest, hps, hrest⟩ := ih _ _ _ ps h
        exact ⟨part.shift index :: rest, by simp [hps],
          .cons (Nat.le_of_lt hidx) (hr part (Nat.le_of_lt hidx) rfl) hrest⟩
    · cases h; exact ⟨[], by simp, .done _ (by omega)⟩

/-- **the parts are a chain of runs** -/
theorem parseG_chain
    (hR : ∀ i t n, i ≤ s.length → (run (s.drop i) t).1 = .ok (some n) → R i n)
    (hN : ∀ i t, (run (s.drop i) t).1 = .ok none → N i)
    {ps : List Node} (h : (parseG run s).1 = .parts ps) : PartsOf R N s.length 0 ps := by
  unfold parseG at h
  have hr := hR 0 []
  have hn := hN 0 []
  simp only [List.drop_zero] at hr hn
  rcases hrun : run s [] with ⟨r, t⟩
  rw [hrun] at h hr hn
  rcases r with e | _ | first
  · cases h
  · cases h; exact .stop 0 (hn rfl)
  · simp only [] at h
    rcases hl : parseLoopG run s (s.length + 1) (max (nextIndex first) 1) [first] t with ⟨r2, t2⟩
    rw [hl] at h
    cases r2 with
    | error e => cases h
    | ok ps' =>
      cases h
      obtain ⟨rest, rfl, hrest⟩ := parseLoopG_chain hR hN _ _ _ _ ps (by rw [hl])
      have := PartsOf.cons (N := N) (Nat.zero_le _) (hr first (Nat.zero_le _) rfl)
        (by rw [Node.shift_zero]; simpa using hrest)
      rwa [Node.shift_zero] at this

theorem parse_chain (s : Str) (o : Opts)
    (hR : ∀ i t n, i ≤ s.length → (runParser (s.drop i) o t).1 = .ok (some n) → R i n)
    (hN : ∀ i t, (runParser (s.drop i) o t).1 = .ok none → N i)
    {ps : List Node} (h : (parse s o).1 = .parts ps) : PartsOf R N s.length 0 ps := by
  rw [parse_eq_G] at h
  exact parseG_chain (run := fun s' t => runParser s' o t) hR hN h

/-- a property of every run's result, moved to where the run started, holds of all parts -/
theorem parse_parts (Q : Node → Prop) (s : Str) (o : Opts)
    (hrun : ∀ i t p, i ≤ s.length → (runParser (s.drop i) o t).1 = .ok (some p) → Q (p.shift i))
    (ps : List Node) (h : (parse s o).1 = .parts ps) : ∀ n ∈ ps, Q n := by
  intro n hn
  obtain ⟨k, m, _, _, rfl, q⟩ := (parse_chain (R := fun i p => Q (p.shift i)) (N := fun _ => True)
    s o hrun (fun _ _ _ => trivial) h).mem n hn
  exact q

end

section
variable {run₁ run₂ : RunFn} {s : Str} {f : Node → Node}

theorem parseLoopG_prefix : ∀ (fuel i : Nat) (acc : List Node) (t : List Char) (out : List Node),
    (parseLoopG run₁ s fuel i acc t).1 = .ok out → acc <+: out := by
  intro fuel i acc t out h
  obtain ⟨rest, rfl, -⟩ := parseLoopG_chain (R := fun _ _ => True) (N := fun _ => True)
    (fun _ _ _ _ _ => trivial) (fun _ _ _ => trivial) fuel i acc t out h
  exact List.prefix_append _ _

/-- two run functions whose results differ by a map `f` on trees that commutes with `shift` give
    parts that differ by `f`, provided `f` keeps the index at which `parse` restarts -/
theorem parseLoopG_map (hsh : ∀ n i, f (Node.shift i n) = Node.shift i (f n))
    (h : ∀ s' t₁ t₂ r, (run₁ s' t₁).1 = .ok r → (run₂ s' t₂).1 = .ok (r.map f)) :
    ∀ (fuel i : Nat) (acc : List Node) (t₁ t₂ : List Char) (out : List Node),
      (parseLoopG run₁ s fuel i acc t₁).1 = .ok out → (∀ p ∈ out, nextIndex (f p) = nextIndex p) →
      (parseLoopG run₂ s fuel i (acc.map f) t₂).1 = .ok (out.map f) := by
  intro fuel
  induction fuel with
  | zero => intro i acc t₁ t₂ out hl; cases hl
  | succ fuel ih =>
    intro i acc t₁ t₂ out hl hst
    unfold parseLoopG at hl ⊢
    split at hl
    · rename_i hlt
      rw [if_pos hlt]
      have h2 := h (s.drop i) t₁ t₂
      rcases hr : run₁ (s.drop i) t₁ with ⟨r, t'⟩
      rw [hr] at hl h2
      rcases r with e | v
      · cases hl
      · have h3 := h2 v rfl
        rcases hr2 : run₂ (s.drop i) t₂ with ⟨r2, t2'⟩
        rw [hr2] at h3
        cases h3
        cases v with
        | none => cases hl; rfl
        | some part =>
          have hmem : part.shift i ∈ out := (parseLoopG_prefix _ _ _ _ _ hl).subset (by simp)
          have := ih _ _ t' t2' out hl hst
          simp only [Option.map, ← hsh, hst _ hmem]
          simpa using this
    · rename_i hlt
      rw [if_neg hlt]; cases hl; rfl

theorem parseG_map (hsh : ∀ n i, f (Node.shift i n) = Node.shift i (f n))
    (h : ∀ s' t₁ t₂ r, (run₁ s' t₁).1 = .ok r → (run₂ s' t₂).1 = .ok (r.map f))
    {ps : List Node} (hp : (parseG run₁ s).1 = .parts ps)
    (hst : ∀ p ∈ ps, nextIndex (f p) = nextIndex p) : (parseG run₂ s).1 = .parts (ps.map f) := by
  unfold parseG at hp ⊢
  have h2 := h s [] []
  rcases hr : run₁ s [] with ⟨r, t⟩
  rw [hr] at hp h2
  rcases r with e | v
  · cases hp
  · have h3 := h2 v rfl
    rcases hr2 : run₂ s [] with ⟨r2, t2⟩
    rw [hr2] at h3
    cases h3
    cases v with
    | none => cases hp; rfl
    | some first =>
      simp only [Option.map] at hp ⊢
      rcases hl : parseLoopG run₁ s (s.length + 1) (max (nextIndex first) 1) [first] t with ⟨r3, t3⟩
      rw [hl] at hp
      cases r3 with
      | error e => cases hp
      | ok out =>
        cases hp
        have hl' : (parseLoopG run₁ s (s.length + 1) (max (nextIndex first) 1) [first] t).1 = .ok ps := by
          rw [hl]
        have hmem : first ∈ ps := (parseLoopG_prefix _ _ _ _ _ hl').subset (by simp)
        have := parseLoopG_map hsh h _ _ _ t t2 ps hl' hst
        rw [hst _ hmem]
        rcases hl2 : parseLoopG run₂ s (s.length + 1) (max (nextIndex first) 1) [f first] t2 with ⟨r4, t4⟩
        rw [List.map_cons, List.map_nil, hl2] at this
        cases this
        rfl

/-- **if every result of `run₁` is a result of `run₂`** (whatever the two syntax tables hold),
    **the parts over `run₁` are the parts over `run₂`**: the case `f = id` -/
theorem parseG_congr (h : ∀ s' t₁ t₂ r, (run₁ s' t₁).1 = .ok r → (run₂ s' t₂).1 = .ok r)
    {ps : List Node} (hp : (parseG run₁ s).1 = .parts ps) : (parseG run₂ s).1 = .parts ps := by
  have := parseG_map (f := id) (fun _ _ => rfl) (by simpa using h) hp (fun _ _ => rfl)
  simpa using this

end
end Bashlex
