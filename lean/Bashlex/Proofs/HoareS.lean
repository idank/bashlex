/-
  The program logic of the model monad `M`.

  `SatS m P Q E`: from every local state / environment satisfying `P`, a normal return of `m`
  satisfies `Q` (of the result and the final state / environment) and an exception satisfies `E`.
  Every other judgement about the single runs of a program is this one with `P`, `Q`, `E`
  specialised or with the arguments in another order: `Keeps` and `M.Sat` below, `C11.HT`,
  `C11.SatI`, `C03.Tok.SatW`, ...  Each says so in a lemma `…_iff_satS` next to its definition (that
  of `Sat`, which is defined in `Proofs/Hoare.lean`, is here), and its rules are the rules proved
  here, instantiated.
  `Keeps P m Φ E`: the case `SatS m P (fun a l e => P l e ∧ Φ a) E` of code that maintains a state
  predicate `P` (`Keeps.bind`, `Keeps.ite`, `Keeps.forIn_list`, ...).
  `Sat m R E`: the case `SatS m (fun _ _ => True) (fun a _ _ => R a) E`.
-/
import Bashlex.Proofs.Hoare

namespace Bashlex
namespace M

theorem run_get (l : Local) (e : Env) : (get : M Local).run l e = (.ok (l, l), e) := rfl
theorem run_getThe (l : Local) (e : Env) : (getThe Local : M Local).run l e = (.ok (l, l), e) := rfl
theorem run_set (l0 l : Local) (e : Env) : (set l0 : M Unit).run l e = (.ok ((), l0), e) := rfl
theorem run_modify (f : Local → Local) (l : Local) (e : Env) :
    (modify f : M Unit).run l e = (.ok ((), f l), e) := rfl

/-- an environment query leaves the local state alone; the environment moves by `Env.answer` -/
theorem run_ask (q : Query) (l : Local) (e : Env) :
    (M.ask q).run l e = (.ok ((e.answer q).1, l), (e.answer q).2) := rfl

def SatS {α : Type} (m : M α) (P : Local → Env → Prop) (Q : α → Local → Env → Prop)
    (E : Exn → Prop := fun _ => True) : Prop :=
  ∀ l e, P l e → match m.run l e with
    | (.ok (a, l'), e') => Q a l' e'
    | (.error x, _) => E x

/-- what a normal return tells -/
theorem SatS.ok {α : Type} {m : M α} {P : Local → Env → Prop} {Q : α → Local → Env → Prop}
    {E : Exn → Prop} (h : SatS m P Q E) {l e a l' e'} (hp : P l e)
    (hr : m.run l e = (.ok (a, l'), e')) : Q a l' e' := by
  have := h l e hp; rw [hr] at this; exact this

theorem SatS.err {α : Type} {m : M α} {P : Local → Env → Prop} {Q : α → Local → Env → Prop}
    {E : Exn → Prop} (h : SatS m P Q E) {l e x e'} (hp : P l e)
    (hr : m.run l e = (.error x, e')) : E x := by
  have := h l e hp; rw [hr] at this; exact this

/-- with the exceptions unconstrained, the judgement speaks of the normal returns only (the form
    in which `C10.KeepsEol`, `C03.RE.KeepsQ`, `C16.NoRet` are written) -/
theorem SatS.iff_ok {α : Type} {m : M α} {P : Local → Env → Prop}
    {Q : α → Local → Env → Prop} :
    SatS m P Q ↔ ∀ l e a l' e', P l e → m.run l e = (.ok (a, l'), e') → Q a l' e' := by
  constructor
  · intro h l e a l' e' hp hr; exact h.ok hp hr
  · intro h l e hp
    rcases hr : m.run l e with ⟨r, e'⟩
    cases r with
    | error x => exact True.intro
    | ok v => exact h l e v.1 v.2 e' hp hr

/-! ### consequence -/

theorem SatS.weaken {α : Type} {m : M α} {P P' : Local → Env → Prop}
    {Q Q' : α → Local → Env → Prop} {E F : Exn → Prop} (hm : SatS m P Q E)
    (hP : ∀ l e, P' l e → P l e) (hQ : ∀ a l e, Q a l e → Q' a l e) (hE : ∀ x, E x → F x) :
    SatS m P' Q' F := by
  intro l e hp
  have h1 := hm l e (hP l e hp)
  rcases hr : m.run l e with ⟨r, e'⟩
  rw [hr] at h1
  cases r with
  | ok v => exact hQ _ _ _ h1
  | error x => exact hE _ h1

theorem SatS.post {α : Type} {m : M α} {P : Local → Env → Prop}
    {Q Q' : α → Local → Env → Prop} {E : Exn → Prop} (hm : SatS m P Q E)
    (hQ : ∀ a l e, Q a l e → Q' a l e) : SatS m P Q' E :=
  hm.weaken (fun _ _ h => h) hQ (fun _ h => h)

theorem SatS.pre {α : Type} {m : M α} {P P' : Local → Env → Prop}
    {Q : α → Local → Env → Prop} {E : Exn → Prop} (hm : SatS m P Q E)
    (hP : ∀ l e, P' l e → P l e) : SatS m P' Q E :=
  hm.weaken hP (fun _ _ _ h => h) (fun _ h => h)

/-- a pure side condition of the precondition can be moved into the context -/
theorem SatS.assume {α : Type} {m : M α} {P : Local → Env → Prop} {C : Prop}
    {Q : α → Local → Env → Prop} {E : Exn → Prop} (h : C → SatS m P Q E) :
    SatS m (fun l e => C ∧ P l e) Q E := by
  intro l e hp; exact h hp.1 l e hp.2

/-- an existential of the precondition can be moved into the context -/
theorem SatS.exists_pre {α ι : Type} {m : M α} {P : ι → Local → Env → Prop}
    {Q : α → Local → Env → Prop} {E : Exn → Prop} (h : ∀ i, SatS m (P i) Q E) :
    SatS m (fun l e => ∃ i, P i l e) Q E := by
  intro l e ⟨i, hp⟩; exact h i l e hp

/-- reasoning from a fixed initial state -/
theorem SatS.intro_state {α : Type} {m : M α} {P : Local → Env → Prop}
    {Q : α → Local → Env → Prop} {E : Exn → Prop}
    (h : ∀ l0 e0, P l0 e0 → SatS m (fun l e => l = l0 ∧ e = e0) Q E) : SatS m P Q E := by
  intro l e hp
  exact h l e hp l e ⟨rfl, rfl⟩

/-- two facts about the same program, each with its own exceptions -/
theorem SatS.both {α : Type} {m : M α} {P : Local → Env → Prop}
    {Q R : α → Local → Env → Prop} {E F : Exn → Prop}
    (h1 : SatS m P Q E) (h2 : SatS m P R F) :
    SatS m P (fun a l e => Q a l e ∧ R a l e) (fun x => E x ∧ F x) := by
  intro l e hp
  have a1 := h1 l e hp
  have a2 := h2 l e hp
  rcases hr : m.run l e with ⟨r, e'⟩
  rw [hr] at a1 a2
  cases r <;> exact ⟨a1, a2⟩

theorem SatS.and {α : Type} {m : M α} {P : Local → Env → Prop}
    {Q R : α → Local → Env → Prop} {E : Exn → Prop}
    (h1 : SatS m P Q E) (h2 : SatS m P R E) : SatS m P (fun a l e => Q a l e ∧ R a l e) E :=
  (h1.both h2).weaken (fun _ _ h => h) (fun _ _ _ h => h) (fun _ h => h.1)

/-! ### the monad operations -/

theorem SatS.pure {α : Type} {P : Local → Env → Prop} {Q : α → Local → Env → Prop}
    {E : Exn → Prop} {a : α} (h : ∀ l e, P l e → Q a l e) : SatS (Pure.pure a : M α) P Q E := by
  intro l e hp; rw [run_pure]; exact h l e hp

theorem SatS.raise {α : Type} {P : Local → Env → Prop} {Q : α → Local → Env → Prop}
    {E : Exn → Prop} {x : Exn} (h : E x) : SatS (M.raise x : M α) P Q E := by
  intro l e _; rw [run_raise]; exact h

theorem SatS.foreign {α : Type} {P : Local → Env → Prop} {Q : α → Local → Env → Prop}
    {E : Exn → Prop} {a b : String} (h : E (.foreign a b)) : SatS (M.foreign a b : M α) P Q E :=
  SatS.raise h

/-- a raise that the pre-condition allows -/
theorem SatS.raise_of_pre {α : Type} {P : Local → Env → Prop} {Q : α → Local → Env → Prop}
    {E : Exn → Prop} {x : Exn} (h : ∀ l e, P l e → E x) : SatS (M.raise x : M α) P Q E :=
  fun l e hp => SatS.raise (Q := Q) (h l e hp) l e hp

theorem SatS.bind {α β : Type} {m : M α} {f : α → M β} {P : Local → Env → Prop}
    {Q : α → Local → Env → Prop} {R : β → Local → Env → Prop} {E : Exn → Prop}
    (hm : SatS m P Q E) (hf : ∀ a, SatS (f a) (Q a) R E) : SatS (m >>= f) P R E := by
  intro l e hp
  rw [run_bind]
  have h1 := hm l e hp
  rcases h : m.run l e with ⟨r, e'⟩
  rw [h] at h1
  cases r with
  | ok v =>
    obtain ⟨a, l'⟩ := v
    exact hf a l' e' h1
  | error x => exact h1

theorem SatS.ite {α : Type} {c : Prop} [Decidable c] {a b : M α} {P : Local → Env → Prop}
    {Q : α → Local → Env → Prop} {E : Exn → Prop}
    (ha : c → SatS a P Q E) (hb : ¬ c → SatS b P Q E) : SatS (if c then a else b) P Q E := by
  split
  · exact ha ‹_›
  · exact hb ‹_›

theorem SatS.map {α β : Type} {m : M α} {f : α → β} {P : Local → Env → Prop}
    {Q : β → Local → Env → Prop} {E : Exn → Prop}
    (h : SatS m P (fun a l e => Q (f a) l e) E) : SatS (f <$> m) P Q E := by
  rw [map_eq_pure_bind]
  exact SatS.bind h (fun a => SatS.pure (fun _ _ h => h))

theorem SatS.get {P : Local → Env → Prop} {E : Exn → Prop} :
    SatS (get : M Local) P (fun a l e => a = l ∧ P l e) E := by
  intro l e hp; exact ⟨rfl, hp⟩

theorem SatS.getThe {P : Local → Env → Prop} {E : Exn → Prop} :
    SatS (getThe Local : M Local) P (fun a l e => a = l ∧ P l e) E := by
  intro l e hp; exact ⟨rfl, hp⟩

theorem SatS.set {P : Local → Env → Prop} {E : Exn → Prop} {l0 : Local} :
    SatS (set l0 : M Unit) P (fun _ l e => l = l0 ∧ ∃ l1, P l1 e) E := by
  intro l e hp; exact ⟨rfl, l, hp⟩

theorem SatS.modify {P : Local → Env → Prop} {E : Exn → Prop} {f : Local → Local} :
    SatS (modify f : M Unit) P (fun _ l e => ∃ l1, l = f l1 ∧ P l1 e) E := by
  intro l e hp; exact ⟨l, rfl, hp⟩

theorem SatS.ask {P : Local → Env → Prop} {E : Exn → Prop} (q : Query) :
    SatS (M.ask q) P (fun a l e' => ∃ e, P l e ∧ a = (e.answer q).1 ∧ e' = (e.answer q).2) E := by
  intro l e hp; rw [run_ask]; exact ⟨e, hp, rfl, rfl⟩

/-! ### loops -/

theorem SatS.loop {σ α : Type} {site : String} {body : σ → M (σ ⊕ α)}
    {I : σ → Local → Env → Prop} {R : α → Local → Env → Prop} {E : Exn → Prop}
    (hfuel : E (.outOfFuel site))
    (hbody : ∀ s, SatS (body s) (I s) (fun r l e => Sum.elim (fun s' => I s' l e) (fun a => R a l e) r) E) :
    ∀ fuel s, SatS (M.loop site body fuel s) (I s) R E := by
  intro fuel
  induction fuel with
  | zero => intro s; exact SatS.raise hfuel
  | succ n ih =>
    intro s
    show SatS (body s >>= _) (I s) R E
    refine SatS.bind (hbody s) ?_
    intro r
    cases r with
    | inl s' => exact ih s'
    | inr a => exact SatS.pure (fun _ _ h => h)

/-- `for x in l do …` over a list, with an invariant indexed by the elements still to visit -/
theorem SatS.forIn_list {α β : Type} {f : α → β → M (ForInStep β)}
    {R : β → Local → Env → Prop} {E : Exn → Prop} (I : List α → β → Local → Env → Prop)
    (hstep : ∀ a rest b, SatS (f a b) (I (a :: rest) b)
      (fun r l e => match r with | .yield b' => I rest b' l e | .done b' => R b' l e) E)
    (hdone : ∀ b l e, I [] b l e → R b l e) :
    ∀ (xs : List α) (b : β), SatS (forIn xs b f) (I xs b) R E := by
  intro xs
  induction xs with
  | nil => intro b; rw [List.forIn_nil]; exact SatS.pure (hdone b)
  | cons a rest ih =>
    intro b
    rw [List.forIn_cons]
    refine SatS.bind (hstep a rest b) ?_
    intro r
    cases r with
    | done b' => exact SatS.pure (fun _ _ h => h)
    | yield b' => exact ih b'

/-- the loop rule for a body that keeps a state predicate `I`: the loop invariant is `I` together
    with a predicate `J` of the loop variable (the form the invariant logics `Keeps`, `C11.SatI`,
    `C03.Tok.SatW` use) -/
theorem SatS.loop_keep {σ α : Type} {site : String} {body : σ → M (σ ⊕ α)}
    {I : Local → Env → Prop} (J : σ → Prop) {φ : α → Prop} {E : Exn → Prop}
    (hfuel : E (.outOfFuel site))
    (hbody : ∀ s, J s → SatS (body s) I (fun r l e => Sum.elim J φ r ∧ I l e) E) :
    ∀ fuel s, J s → SatS (M.loop site body fuel s) I (fun a l e => φ a ∧ I l e) E :=
  fun fuel s hs =>
    (SatS.loop (I := fun s l e => J s ∧ I l e) hfuel (fun s => SatS.assume (fun hs =>
      (hbody s hs).post (fun r _ _ h => by cases r <;> exact h))) fuel s).pre (fun _ _ h => ⟨hs, h⟩)

/-- the same for `forIn` over a list -/
theorem SatS.forIn_keep {α β : Type} {f : α → β → M (ForInStep β)} {I : Local → Env → Prop}
    {ρ : β → Prop} {E : Exn → Prop} (J : List α → β → Prop)
    (hstep : ∀ a rest b, J (a :: rest) b → SatS (f a b) I
      (fun r l e => (match r with | .yield b' => J rest b' | .done b' => ρ b') ∧ I l e) E)
    (hdone : ∀ b, J [] b → ρ b) :
    ∀ (xs : List α) (b : β), J xs b → SatS (forIn xs b f) I (fun b l e => ρ b ∧ I l e) E :=
  fun xs b hb =>
    (SatS.forIn_list (I := fun xs b l e => J xs b ∧ I l e) (fun a rest b => SatS.assume (fun hj =>
      (hstep a rest b hj).post (fun r _ _ h => by cases r <;> exact h)))
      (fun b _ _ h => ⟨hdone b h.1, h.2⟩) xs b).pre (fun _ _ h => ⟨hb, h⟩)

/-! ### code that maintains a state predicate -/

/-- `Keeps P m Φ`: `m` maintains the state predicate `P`, and its result satisfies `Φ`
    (the shape of most lemmas about code that only reads the state) -/
def Keeps {α : Type} (P : Local → Env → Prop) (m : M α) (Φ : α → Prop)
    (E : Exn → Prop := fun _ => True) : Prop :=
  SatS m P (fun a l e => P l e ∧ Φ a) E

theorem keeps_iff_satS {α : Type} {P : Local → Env → Prop} {m : M α} {Φ : α → Prop}
    {E : Exn → Prop} : Keeps P m Φ E ↔ SatS m P (fun a l e => P l e ∧ Φ a) E := Iff.rfl

theorem Keeps.pure {α : Type} {P : Local → Env → Prop} {Φ : α → Prop} {E : Exn → Prop} {a : α}
    (h : Φ a) : Keeps P (Pure.pure a : M α) Φ E :=
  SatS.pure (fun _ _ hp => ⟨hp, h⟩)

theorem Keeps.raise {α : Type} {P : Local → Env → Prop} {Φ : α → Prop} {E : Exn → Prop} {x : Exn}
    (h : E x) : Keeps P (M.raise x : M α) Φ E := SatS.raise h

theorem Keeps.foreign {α : Type} {P : Local → Env → Prop} {Φ : α → Prop} {E : Exn → Prop}
    {a b : String} (h : E (.foreign a b)) : Keeps P (M.foreign a b : M α) Φ E := SatS.raise h

theorem Keeps.bind {α β : Type} {P : Local → Env → Prop} {m : M α} {f : α → M β}
    {Φ : α → Prop} {Ψ : β → Prop} {E : Exn → Prop}
    (hm : Keeps P m Φ E) (hf : ∀ a, Φ a → Keeps P (f a) Ψ E) : Keeps P (m >>= f) Ψ E :=
  SatS.bind hm (fun a => (SatS.assume (hf a)).pre (fun _ _ => And.symm))

theorem Keeps.weaken {α : Type} {P : Local → Env → Prop} {m : M α} {Φ Ψ : α → Prop}
    {E : Exn → Prop} (hm : Keeps P m Φ E) (h : ∀ a, Φ a → Ψ a) : Keeps P m Ψ E :=
  SatS.post hm (fun a _ _ hp => ⟨hp.1, h a hp.2⟩)

theorem Keeps.ite {α : Type} {c : Prop} [Decidable c] {P : Local → Env → Prop} {a b : M α}
    {Φ : α → Prop} {E : Exn → Prop} (ha : c → Keeps P a Φ E) (hb : ¬ c → Keeps P b Φ E) :
    Keeps P (if c then a else b) Φ E := SatS.ite ha hb

theorem Keeps.map {α β : Type} {P : Local → Env → Prop} {m : M α} {f : α → β} {Φ : β → Prop}
    {E : Exn → Prop} (h : Keeps P m (fun a => Φ (f a)) E) : Keeps P (f <$> m) Φ E := SatS.map h

/-- reading the state: the result is a state satisfying `P` (for some environment) -/
theorem Keeps.get {P : Local → Env → Prop} {E : Exn → Prop} :
    Keeps P (get : M Local) (fun l => ∃ e, P l e) E :=
  SatS.get.post (fun _ _ e h => ⟨h.2, e, h.1 ▸ h.2⟩)

theorem Keeps.getThe {P : Local → Env → Prop} {E : Exn → Prop} :
    Keeps P (getThe Local : M Local) (fun l => ∃ e, P l e) E :=
  SatS.getThe.post (fun _ _ e h => ⟨h.2, e, h.1 ▸ h.2⟩)

theorem Keeps.modify {P : Local → Env → Prop} {E : Exn → Prop} {f : Local → Local}
    (h : ∀ l e, P l e → P (f l) e) : Keeps P (modify f : M Unit) (fun _ => True) E :=
  SatS.modify.post (fun _ _ e hq => by
    obtain ⟨l1, rfl, hp⟩ := hq
    exact ⟨h l1 e hp, True.intro⟩)

theorem Keeps.loop {σ α : Type} {P : Local → Env → Prop} {site : String} {body : σ → M (σ ⊕ α)}
    {I : σ → Prop} {R : α → Prop} {E : Exn → Prop} (hfuel : E (.outOfFuel site))
    (hbody : ∀ s, I s → Keeps P (body s) (Sum.elim I R) E) :
    ∀ fuel s, I s → Keeps P (M.loop site body fuel s) R E :=
  fun fuel s hs =>
    (SatS.loop_keep I hfuel (fun s hs => (hbody s hs).post (fun _ _ _ => And.symm)) fuel s hs).post
      (fun _ _ _ => And.symm)

theorem Keeps.forIn_list {α β : Type} {P : Local → Env → Prop} {f : α → β → M (ForInStep β)}
    {R : β → Prop} {E : Exn → Prop} (I : List α → β → Prop)
    (hstep : ∀ a rest b, I (a :: rest) b →
      Keeps P (f a b) (fun r => match r with | .yield b' => I rest b' | .done b' => R b') E)
    (hdone : ∀ b, I [] b → R b) :
    ∀ (xs : List α) (b : β), I xs b → Keeps P (forIn xs b f) R E :=
  fun xs b hb =>
    (SatS.forIn_keep I (fun a rest b hi => (hstep a rest b hi).post (fun _ _ _ => And.symm)) hdone
      xs b hb).post (fun _ _ _ => And.symm)

/-! ### the state-agnostic judgement `Sat` -/

/-- a state-agnostic fact can be used wherever a state-aware one is expected -/
theorem SatS.of_sat {α : Type} {m : M α} {R : α → Prop} {E : Exn → Prop} (h : Sat m R E)
    (P : Local → Env → Prop) : SatS m P (fun a _ _ => R a) E := by
  intro l e _
  have h1 := h l e
  rcases hr : m.run l e with ⟨r, e'⟩
  rw [hr] at h1
  cases r with
  | ok v => exact h1
  | error x => exact h1

/-- the state-agnostic reading of a state-aware fact with a trivial precondition -/
theorem SatS.to_sat {α : Type} {m : M α} {R : α → Prop} {E : Exn → Prop}
    (h : SatS m (fun _ _ => True) (fun a _ _ => R a) E) : Sat m R E := by
  intro l e
  have h1 := h l e True.intro
  rcases hr : m.run l e with ⟨r, e'⟩
  rw [hr] at h1
  cases r with
  | ok v => exact h1
  | error x => exact h1

theorem sat_iff_satS {α : Type} {m : M α} {R : α → Prop} {E : Exn → Prop} :
    Sat m R E ↔ SatS m (fun _ _ => True) (fun a _ _ => R a) E :=
  ⟨fun h => SatS.of_sat h _, SatS.to_sat⟩

/-- `SatS.of_sat` below a pure hypothesis, which becomes the pre-condition -/
theorem SatS.of_sat_of {α : Type} {m : M α} {C : Prop} {R : α → Prop} {E : Exn → Prop}
    (h : C → Sat m R E) : SatS m (fun _ _ => C) (fun a _ _ => R a) E :=
  fun l e hc => SatS.of_sat (h hc) (fun _ _ => C) l e hc

theorem Sat.pure {α : Type} {P : α → Prop} {E : Exn → Prop} {a : α} (h : P a) :
    Sat (Pure.pure a : M α) P E :=
  SatS.to_sat (SatS.pure (fun _ _ _ => h))

theorem Sat.raise {α : Type} {P : α → Prop} {E : Exn → Prop} {x : Exn} (h : E x) :
    Sat (M.raise x : M α) P E :=
  SatS.to_sat (SatS.raise h)

theorem Sat.foreign {α : Type} {P : α → Prop} {E : Exn → Prop} {a b : String}
    (h : E (.foreign a b)) : Sat (M.foreign a b : M α) P E :=
  Sat.raise h

theorem Sat.bind {α β : Type} {m : M α} {f : α → M β} {P : α → Prop} {R : β → Prop}
    {E : Exn → Prop} (hm : Sat m P E) (hf : ∀ a, P a → Sat (f a) R E) : Sat (m >>= f) R E :=
  SatS.to_sat (SatS.bind (SatS.of_sat hm _) (fun a => SatS.of_sat_of (hf a)))

theorem Sat.weaken {α : Type} {m : M α} {P R : α → Prop} {E F : Exn → Prop} (hm : Sat m P E)
    (h : ∀ a, P a → R a) (hE : ∀ x, E x → F x) : Sat m R F :=
  SatS.to_sat ((SatS.of_sat hm _).weaken (fun _ _ h => h) (fun a _ _ => h a) hE)

theorem Sat.trivial {α : Type} (m : M α) : Sat m (fun _ => True) (fun _ => True) := by
  intro l e
  rcases m.run l e with ⟨r, e'⟩
  cases r <;> exact True.intro

theorem Sat.loop {σ α : Type} {site : String} {body : σ → M (σ ⊕ α)} {I : σ → Prop} {R : α → Prop}
    {E : Exn → Prop} (hfuel : E (.outOfFuel site))
    (hbody : ∀ s, I s → Sat (body s) (Sum.elim I R) E) :
    ∀ fuel s, I s → Sat (M.loop site body fuel s) R E :=
  fun fuel s hs => SatS.to_sat
    ((SatS.loop (I := fun s _ _ => I s) (R := fun a _ _ => R a) hfuel
      (fun s => SatS.of_sat_of (hbody s)) fuel s).pre (fun _ _ _ => hs))

theorem Sat.ok {α : Type} {m : M α} {P : α → Prop} {E : Exn → Prop} (h : Sat m P E)
    {l e a l' e'} (hr : m.run l e = (.ok (a, l'), e')) : P a :=
  (SatS.of_sat h (fun _ _ => True)).ok True.intro hr

theorem Sat.err {α : Type} {m : M α} {P : α → Prop} {E : Exn → Prop} (h : Sat m P E)
    {l e x e'} (hr : m.run l e = (.error x, e')) : E x :=
  (SatS.of_sat h (fun _ _ => True)).err True.intro hr

theorem Sat.and {α : Type} {m : M α} {P R : α → Prop} {E : Exn → Prop}
    (h1 : Sat m P E) (h2 : Sat m R E) : Sat m (fun a => P a ∧ R a) E :=
  SatS.to_sat (SatS.and (SatS.of_sat h1 _) (SatS.of_sat h2 _))

/-- bind with nothing known about the first computation -/
theorem Sat.bind_any {α β : Type} {m : M α} {f : α → M β} {R : β → Prop}
    (hf : ∀ a, Sat (f a) R) : Sat (m >>= f) R :=
  Sat.bind (Sat.trivial m) (fun a _ => hf a)

/-- continuation-style bind: convenient with `apply` (no intermediate assertion to supply) -/
theorem Sat.bind' {α β : Type} {m : M α} {f : α → M β} {R : β → Prop} {E : Exn → Prop}
    (hm : Sat m (fun a => Sat (f a) R E) E) : Sat (m >>= f) R E :=
  Sat.bind hm (fun _ h => h)

theorem Sat.map {α β : Type} {m : M α} {f : α → β} {P : β → Prop} {E : Exn → Prop}
    (h : Sat m (fun a => P (f a)) E) : Sat (f <$> m) P E :=
  SatS.to_sat (SatS.map (SatS.of_sat h _))

theorem Sat.ite {α : Type} {c : Prop} [Decidable c] {a b : M α} {P : α → Prop} {E : Exn → Prop}
    (ha : c → Sat a P E) (hb : ¬ c → Sat b P E) : Sat (if c then a else b) P E :=
  SatS.to_sat (SatS.ite (fun hc => SatS.of_sat (ha hc) _) (fun hc => SatS.of_sat (hb hc) _))

theorem Sat.get {P : Local → Prop} {E : Exn → Prop} (h : ∀ l, P l) :
    Sat (get : M Local) P E :=
  SatS.to_sat (SatS.get.post (fun a _ _ _ => h a))

theorem Sat.getThe {P : Local → Prop} {E : Exn → Prop} (h : ∀ l, P l) :
    Sat (getThe Local : M Local) P E :=
  SatS.to_sat (SatS.getThe.post (fun a _ _ _ => h a))

theorem Sat.set {P : Unit → Prop} {E : Exn → Prop} {l : Local} (h : P ()) :
    Sat (set l : M Unit) P E :=
  SatS.to_sat (SatS.set.post (fun _ _ _ _ => h))

theorem Sat.modify {P : Unit → Prop} {E : Exn → Prop} {f : Local → Local} (h : P ()) :
    Sat (modify f : M Unit) P E :=
  SatS.to_sat (SatS.modify.post (fun _ _ _ _ => h))

theorem Sat.unit {m : M Unit} : Sat m (fun _ => True) := Sat.trivial m

/-- `for x in l do …` over a list (`forIn`), with an invariant indexed by the elements still to
    be visited -/
theorem Sat.forIn_list {α β : Type} {f : α → β → M (ForInStep β)} {R : β → Prop}
    {E : Exn → Prop} (I : List α → β → Prop)
    (hstep : ∀ a rest b, I (a :: rest) b →
      Sat (f a b) (fun r => match r with | .yield b' => I rest b' | .done b' => R b') E)
    (hdone : ∀ b, I [] b → R b) :
    ∀ (l : List α) (b : β), I l b → Sat (forIn l b f) R E :=
  fun xs b hb => SatS.to_sat
    ((SatS.forIn_list (I := fun xs b _ _ => I xs b) (R := fun b _ _ => R b)
      (fun a rest b => SatS.of_sat_of (hstep a rest b)) (fun b _ _ => hdone b) xs b).pre
      (fun _ _ _ => hb))

/-! ### state-agnostic facts joined to state-aware ones -/

theorem SatS.and_sat {α : Type} {m : M α} {P : Local → Env → Prop}
    {Q : α → Local → Env → Prop} {R : α → Prop} {E : Exn → Prop}
    (h1 : SatS m P Q E) (h2 : Sat m R (fun _ => True)) :
    SatS m P (fun a l e => Q a l e ∧ R a) E :=
  (h1.both (SatS.of_sat h2 P)).weaken (fun _ _ h => h) (fun _ _ _ h => h) (fun _ h => h.1)

/-- a state-agnostic fact about a computation that maintains `P` -/
theorem Keeps.and_sat {α : Type} {P : Local → Env → Prop} {m : M α} {Φ Ψ : α → Prop}
    {E : Exn → Prop} (h1 : Keeps P m Φ E) (h2 : Sat m Ψ (fun _ => True)) :
    Keeps P m (fun a => Φ a ∧ Ψ a) E :=
  SatS.post (SatS.and_sat h1 h2) (fun _ _ _ h => ⟨h.1.1, h.1.2, h.2⟩)

end M
end Bashlex
