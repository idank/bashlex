/-
  The tokenizer, walked once for every closed predicate (`Proofs/Closed.lean`).

  `wk_f` says that the body of `f` keeps `X`: its hypotheses are `X` of the callees that write a
  field of `Local.stable` or can reach a raise site of `Sites` (the functions that only move the
  tape need `TapeAtoms` and nothing else), and `X` of the sites in the body itself.
-/
import Bashlex.Proofs.Closed
import Bashlex.Proofs.TokForms

namespace Bashlex
open Bashlex.M Bashlex.C04.TTP

set_option hygiene false in
macro_rules | `(tactic| wk_atom) => `(tactic| first
  | exact At.getc _ | exact At.ungetc _ | exact At.bumpIdx | exact Ap.recordpos _
  | exact Ap.createtoken _ _ _ | exact Ad.push _ | exact Ad.pop)

/-! The order of the lemmas keeps the table of callees short where the proofs are long: a walk
    searches the whole table at every `match` of its program. -/

/-! ### what reads or writes the scratch fields: words and operators -/

section
variable {X : ∀ {α : Type}, M α → Prop} {XA : ∀ {α : Type}, Local → M α → Prop}
  (C : Closed tokSite X XA) (At : TapeAtoms X)
include C At
set_option hygiene false

macro_rules | `(tactic| wk_atom) => `(tactic| exact wk_shellmeta C.builds _)

omit At in
theorem wk_specialcasetokens (s : Str) : X (specialcasetokens s) := by
  unfold specialcasetokens; (try simp only []); wk_walk
macro_rules | `(tactic| wk_atom) => `(tactic| exact wk_specialcasetokens C _)

omit At in
theorem wk_fwEnd (fn : Bool) (tok : Token) : X (fwEnd fn tok) := by
  unfold fwEnd; wk_walk
macro_rules | `(tactic| wk_atom) => `(tactic| exact wk_fwEnd C _ _)

omit At in
theorem wk_fwWord (hx : ∀ {α : Type}, X (M.foreign "TypeError" "_readtokenword" : M α))
    (h₁ : ∀ s, X (isAssignment s)) (st : RWState) (tok : Token) : X (fwWord st tok) := by
  unfold fwWord; (try simp only []); wk_walk

omit At in
theorem wk_finishWord (Ap : PosAtoms X) (st : RWState) (h₁ : ∀ tok, X (fwWord st tok)) :
    X (finishWord st) := by
  rw [finishWord_eq]; unfold fwHead; (try simp only []); wk_walk

theorem wk_readtokenMetaRest (c : Char) (h₁ : X (tokentypeOfChar c)) (peek : Option Char) :
    X (readtokenMetaRest c peek) := by
  unfold readtokenMetaRest; (try simp only []); wk_walk

theorem wk_readtokenMeta (c : Char) (h₁ : X (tokentypeOfChar c)) : X (readtokenMeta c) := by
  have h₂ := wk_readtokenMetaRest C At c h₁
  rw [readtokenMeta_cut]; (try simp only []); wk_walk

omit At in
theorem wk_readtokenFrom (Ap : PosAtoms X) (h₁ : ∀ c, X (readtokenMeta c))
    (h₂ : ∀ c, X (readtokenword c)) (h₃ : X gatherheredocuments) (h₄ : ∀ c, X (tokentypeOfChar c))
    (c : Char) : X (readtokenFrom c) := by
  unfold readtokenFrom; (try simp only []); wk_walk

omit At in
theorem wk_nextToken (Ap : PosAtoms X) (h₁ : X readtoken) : X nextToken := by
  unfold nextToken; (try simp only []); wk_walk

end

/-! ### what never looks at the parser object itself: reading characters -/

section
variable {X : ∀ {α : Type}, M α → Prop} (C : Builds tokSite X) (At : TapeAtoms X)
include C At
set_option hygiene false

omit At in
theorem wk_matchedPairError {α : Type} (c : Char) : X (matchedPairError c : M α) := by
  unfold matchedPairError; wk_walk
macro_rules | `(tactic| wk_atom) => `(tactic| exact wk_matchedPairError C _)

theorem wk_peekc (rqn : Bool) : X (peekc rqn) := by
  unfold peekc; (try simp only []); wk_walk
macro_rules | `(tactic| wk_atom) => `(tactic| exact wk_peekc C At _)

theorem wk_readline (b : Bool) : X (readline b) := by
  unfold readline; (try simp only []); wk_walk
macro_rules | `(tactic| wk_atom) => `(tactic| exact wk_readline C At _)

theorem wk_discardUntil (c : Char) : X (discardUntil c) := by
  unfold discardUntil; (try simp only []); wk_walk
macro_rules | `(tactic| wk_atom) => `(tactic| exact wk_discardUntil C At _)

end

/-! ### the here-document reader -/

section
variable {X : ∀ {α : Type}, M α → Prop} {XA : ∀ {α : Type}, Local → M α → Prop}
  (C : Closed tokSite X XA) (At : TapeAtoms X)
include C At
set_option hygiene false

macro_rules | `(tactic| wk_atom) => `(tactic| exact wk_peekc C.builds At _)
macro_rules | `(tactic| wk_atom) => `(tactic| exact wk_readline C.builds At _)
macro_rules | `(tactic| wk_atom) => `(tactic| exact wk_loopFuel C.builds)

theorem wk_makeheredoc
    (h₁ : ∀ {l0 : Local} (i : Nat) (c : RedirCell),
      XA l0 (MonadStateOf.set { l0 with store := l0.store.set i c } : M Unit))
    (hx : ∀ {α : Type}, X (M.foreign "IndexError" "makeheredoc" : M α)) (id : Nat) (kill : Bool) :
    X (makeheredoc id kill) := by
  unfold makeheredoc; (try simp only []); wk_walk

theorem wk_gatherheredocuments
    (hx : X (M.raise (.outOfFuel "gatherheredocuments") : M Unit)) (h₁ : X optStrict)
    (h₂ : ∀ id kill, X (makeheredoc id kill))
    (h₃ : ∀ rest, X (modify fun l => { l with redirstack := rest } : M Unit)) :
    X gatherheredocuments := by
  unfold gatherheredocuments; (try simp only []); wk_walk

end

/-! ### what never looks at the parser object itself: the scanners and the loops -/

section
variable {X : ∀ {α : Type}, M α → Prop} (C : Builds tokSite X) (At : TapeAtoms X)
include C At
set_option hygiene false

theorem wk_mpPre (P : MPParams) (lfc : Bool) (st : MPState) : X (mpPre P lfc st) := by
  rw [mpPre_eq]; simp only []; wk_walk
macro_rules | `(tactic| wk_atom) => `(tactic| exact wk_mpPre C At _ _ _)

theorem wk_rwTail (h₁ : X currentDelimiter) (st : RWState) : X (rwTail st) := by
  unfold rwTail; (try simp only []); wk_walk
macro_rules | `(tactic| wk_atom) => `(tactic| exact wk_rwTail C At (by assumption) _)

theorem wk_rwBreak (h₁ : X currentDelimiter) (st : RWState) (c : Char) (gotonext : Bool) : X (rwBreak st c gotonext) := by
  unfold rwBreak; (try simp only []); wk_walk
macro_rules | `(tactic| wk_atom) => `(tactic| exact wk_rwBreak C At (by assumption) _ _ _)

omit At in
theorem wk_rwCond (cd peek : Option Char) : X (rwCond cd peek) := by
  unfold rwCond; (try simp only []); wk_walk
macro_rules | `(tactic| wk_atom) => `(tactic| exact wk_rwCond C _ _)

theorem wk_csBpeek (b : Bool) (st : CSState) (c : Char) : X (csBpeek b st c) := by
  unfold csBpeek; (try simp only []); wk_walk

omit At in
theorem wk_csD (P : CSParams) (st : CSState) (c : Char) : X (csD P st c) := by
  unfold csD; (try simp only []); wk_walk
macro_rules | `(tactic| wk_atom) => `(tactic| exact wk_csBpeek C At _ _ _)
macro_rules | `(tactic| wk_atom) => `(tactic| exact wk_csD C _ _ _)

omit At in
theorem wk_isAssignment (hx : ∀ {α : Type}, X (M.foreign "IndexError" "_is_assignment" : M α))
    (s : Str) : X (isAssignment s) := by
  unfold isAssignment; (try simp only []); wk_walk

omit At in
theorem wk_mpInit (hx : ∀ {α : Type}, X (M.foreign "TypeError" "_parse_matched_pair" : M α))
    (P : MPParams) : X (mpInit P) := by
  unfold mpInit; (try simp only []); wk_walk

omit At in
theorem wk_handledollarword {pmp : MPParams → M Str} {pcs : CSParams → M Str}
    (hx : ∀ {α : Type}, X (M.foreign "UnboundLocalError" "handledollarword" : M α))
    (hx' : ∀ {α : Type}, X (M.foreign "AssertionError" "handledollarword" : M α))
    (h₁ : ∀ P, X (pmp P)) (h₂ : ∀ P, X (pcs P)) (P : MPParams) (rdquote : Bool) (c : Char) :
    X (handledollarword pmp pcs P rdquote c) := by
  unfold handledollarword; (try simp only []); wk_walk

omit At in
theorem wk_mpPost {pmp : MPParams → M Str} {pcs : CSParams → M Str} (Ad : DelimAtoms X)
    (h₁ : ∀ P rdquote c, X (handledollarword pmp pcs P rdquote c))
    (h₂ : ∀ P, X (pmp P)) (P : MPParams) (rdquote : Bool)
    (st : MPState) (c : Char) : X (mpPost pmp pcs P rdquote st c) := by
  unfold mpPost; (try simp only []); wk_walk

omit At in
theorem wk_csDelimMatches (hx : ∀ {α : Type}, X (M.foreign "IndexError" "_parse_comsub" : M α))
    (st : CSState) : X (csDelimMatches st) := by
  unfold csDelimMatches; (try simp only []); wk_walk

omit At in
theorem wk_csA3 (st : CSState) (c : Char) : X (csA3 st c) := by
  unfold csA3; (try simp only []); wk_walk

omit At in
theorem wk_csA2 (h₁ : ∀ st, X (csDelimMatches st)) (P : CSParams) (st : CSState) (c : Char) :
    X (csA2 P st c) := by
  have h₂ := wk_csA3 C
  unfold csA2; (try simp only []); wk_walk

theorem wk_csA (h₁ : ∀ st, X (csDelimMatches st)) (P : CSParams) (st : CSState) : X (csA P st) := by
  have h₂ := wk_csA2 C h₁
  rw [csA_eq]; unfold csArest; (try simp only []); wk_walk

theorem wk_csBmid (b : Bool) (st : CSState) (c : Char) : X (csBmid b st c) := by
  unfold csBmid; (try simp only []); wk_walk

theorem wk_csB (hx : ∀ {α : Type}, X (M.foreign "UnboundLocalError" "_parse_comsub" : M α))
    (b : Bool) (st : CSState) (c : Char) : X (csB b st c) := by
  have h₁ := wk_csBmid C At
  rw [csB_eq]; unfold csBhead; (try simp only []); wk_walk

theorem wk_csCtail (hx : ∀ {α : Type}, X (M.foreign "UnboundLocalError" "_parse_comsub" : M α))
    (P : CSParams) (b : Bool) (st : CSState) (c : Char) : X (csCtail P b st c) := by
  unfold csCtail; (try simp only []); wk_walk

theorem wk_csC (hx : ∀ {α : Type}, X (M.foreign "UnboundLocalError" "_parse_comsub" : M α))
    (P : CSParams) (b : Bool) (st : CSState) (c : Char) : X (csC P b st c) := by
  have h₁ := wk_csCtail C At hx
  rw [csC_eq]; unfold csChead; (try simp only []); wk_walk

omit At in
theorem wk_csPre (h₁ : ∀ P st, X (csA P st)) (h₂ : ∀ b st c, X (csB b st c))
    (h₃ : ∀ P b st c, X (csC P b st c)) (P : CSParams) (b : Bool) (st : CSState) :
    X (csPre P b st) := by
  unfold csPre; (try simp only []); wk_walk

omit At in
theorem wk_csPost {pmp : MPParams → M Str} {pcs : CSParams → M Str} (Ad : DelimAtoms X)
    (h₁ : ∀ P, X (pmp P)) (h₂ : ∀ P, X (pcs P)) (P : CSParams)
    (st : CSState) (c : Char) : X (csPost pmp pcs P st c) := by
  unfold csPost; (try simp only []); wk_walk

/-- the two mutually recursive scanners, by induction on the depth fuel -/

theorem wk_pmp_pcs (h₁ : ∀ P, X (mpInit P))
    (h₂ : ∀ {pmp : MPParams → M Str} {pcs : CSParams → M Str}, (∀ P, X (pmp P)) → (∀ P, X (pcs P)) →
      ∀ P rdquote st c, X (mpPost pmp pcs P rdquote st c))
    (h₃ : ∀ P b st, X (csPre P b st))
    (h₄ : ∀ {pmp : MPParams → M Str} {pcs : CSParams → M Str}, (∀ P, X (pmp P)) → (∀ P, X (pcs P)) →
      ∀ P st c, X (csPost pmp pcs P st c)) :
    ∀ fuel, (∀ P, X (parseMatchedPair fuel P)) ∧ (∀ P, X (parseComsub fuel P)) := by
  intro fuel
  induction fuel with
  | zero =>
    refine ⟨fun P => ?_, fun P => ?_⟩
    · unfold parseMatchedPair; wk_walk
    · unfold parseComsub; wk_walk
  | succ fuel ih =>
    obtain ⟨hpmp, hpcs⟩ := ih
    have h₂ := h₂ hpmp hpcs
    have h₄ := h₄ hpmp hpcs
    have h₅ := hpmp
    refine ⟨fun P => ?_, fun P => ?_⟩
    · unfold parseMatchedPair; (try simp only []); wk_walk
    · unfold parseComsub; (try simp only []); wk_walk

omit At in
theorem wk_handleshellquote (Ad : DelimAtoms X) (h₁ : ∀ fuel P, X (parseMatchedPair fuel P))
    (st : RWState) (c : Char) : X (handleshellquote st c) := by
  unfold handleshellquote; (try simp only []); wk_walk

theorem wk_handleshellexp (Ad : DelimAtoms X) (h₁ : ∀ fuel P, X (parseMatchedPair fuel P))
    (h₂ : ∀ fuel P, X (parseComsub fuel P)) (st : RWState) (c : Char) (cd : Option Char) :
    X (handleshellexp st c cd) := by
  unfold handleshellexp; (try simp only []); wk_walk

theorem wk_readtokenwordStep (h₁ : ∀ st c, X (handleshellquote st c))
    (h₂ : ∀ st c cd, X (handleshellexp st c cd)) (h₃ : X currentDelimiter)
    (st : RWState) : X (readtokenwordStep st) := by
  rw [readtokenwordStep_eq]; (try simp only []); wk_walk

omit At in
theorem wk_tokentypeOfChar (hx : ∀ {α : Type}, X (M.foreign "ValueError" "_readtoken" : M α))
    (c : Char) : X (tokentypeOfChar c) := by
  unfold tokentypeOfChar; (try simp only []); wk_walk

omit At in
theorem wk_readtokenword (h₁ : ∀ st, X (readtokenwordStep st)) (h₂ : ∀ st, X (finishWord st))
    (c : Char) : X (readtokenword c) := by
  unfold readtokenword; (try simp only []); wk_walk

theorem wk_readtoken (h₁ : ∀ c, X (readtokenFrom c)) : X readtoken := by
  rw [readtoken_cut]; (try simp only []); wk_walk

end

/-! ### the tokenizer for a predicate that holds of every site of `Sites`

Such a predicate has the whole tokenizer from its atoms, by the chain of `wk_` lemmas below.  One
whose exceptions exclude a site of `Sites` proves `X` of the function that holds the site in its
own logic, from the fact about a parameter or a loop state that makes the site unreachable
(`t1_walk`, `Props/C01/TightTok.lean`), and hands it to the `wk_` lemmas of the callers as their
`h₁` ..; `ScanWorld.pmp_pcs` shows the order of the chain. -/

/-- what the walk of the scanners and of the loop of `_readtokenword` asks -/
structure ScanWorld (X : ∀ {α : Type}, M α → Prop) : Prop where
  tape : TapeAtoms X
  delim : DelimAtoms X
  current : X currentDelimiter
  sites : Sites X

/-- all the walk asks; `_is_assignment` and `gatherheredocuments` as wholes, since their raise
    sites and writes are excluded or allowed by facts about the state -/
structure TokWorld (X : ∀ {α : Type}, M α → Prop) : Prop extends ScanWorld X where
  pos : PosAtoms X
  isAssignment : ∀ s, X (isAssignment s)
  gather : X gatherheredocuments

namespace ScanWorld
variable {X : ∀ {α : Type}, M α → Prop} (C : Builds tokSite X) (W : ScanWorld X)
include C W

theorem mpInit (P : MPParams) : X (mpInit P) := wk_mpInit C W.sites.pmpType P

theorem pmp_pcs (fuel : Nat) :
    (∀ P, X (parseMatchedPair fuel P)) ∧ (∀ P, X (parseComsub fuel P)) :=
  wk_pmp_pcs C W.tape (W.mpInit C)
    (fun hpmp hpcs => wk_mpPost C W.delim
      (wk_handledollarword C W.sites.hdwUnbound W.sites.hdwAssert hpmp hpcs) hpmp)
    (wk_csPre C (wk_csA C W.tape (wk_csDelimMatches C W.sites.comsubIndex))
      (wk_csB C W.tape W.sites.comsubUnbound) (wk_csC C W.tape W.sites.comsubUnbound))
    (fun hpmp hpcs => wk_csPost C W.delim hpmp hpcs) fuel

theorem parseMatchedPair (fuel : Nat) (P : MPParams) : X (parseMatchedPair fuel P) :=
  (W.pmp_pcs C fuel).1 P
theorem parseComsub (fuel : Nat) (P : CSParams) : X (parseComsub fuel P) :=
  (W.pmp_pcs C fuel).2 P

theorem handleshellquote (st : RWState) (c : Char) : X (handleshellquote st c) :=
  wk_handleshellquote C W.delim (W.parseMatchedPair C) st c

theorem handleshellexp (st : RWState) (c : Char) (cd : Option Char) : X (handleshellexp st c cd) :=
  wk_handleshellexp C W.tape W.delim (W.parseMatchedPair C) (W.parseComsub C) st c cd

theorem readtokenwordStep (st : RWState) : X (readtokenwordStep st) :=
  wk_readtokenwordStep C W.tape (W.handleshellquote C) (W.handleshellexp C) W.current st

theorem tokentypeOfChar (c : Char) : X (tokentypeOfChar c) :=
  wk_tokentypeOfChar C W.sites.readtokenValue c

omit C in
theorem readtokenMeta {XA : ∀ {α : Type}, Local → M α → Prop} (C : Closed tokSite X XA) (c : Char) :
    X (readtokenMeta c) :=
  wk_readtokenMeta C W.tape c (W.tokentypeOfChar C.builds c)

end ScanWorld

namespace TokWorld
variable {X : ∀ {α : Type}, M α → Prop} {XA : ∀ {α : Type}, Local → M α → Prop}
  (C : Closed tokSite X XA) (W : TokWorld X)
include C W

theorem finishWord (st : RWState) : X (finishWord st) :=
  wk_finishWord C W.pos st (wk_fwWord C W.sites.rtwType W.isAssignment st)

theorem readtokenword (c : Char) : X (readtokenword c) :=
  wk_readtokenword C.builds (W.readtokenwordStep C.builds) (W.finishWord C) c

theorem readtokenFrom (c : Char) : X (readtokenFrom c) :=
  wk_readtokenFrom C W.pos (W.readtokenMeta C) (W.readtokenword C) W.gather
    (W.tokentypeOfChar C.builds) c

theorem readtoken : X readtoken := wk_readtoken C.builds W.tape (W.readtokenFrom C)

theorem nextToken : X nextToken := wk_nextToken C W.pos (W.readtoken C)

end TokWorld

end Bashlex
