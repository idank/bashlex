/-
  The parametric actions, second part: lists, clauses, groups, and the actions that only pass an
  argument on.
-/
import Bashlex.Proofs.ActParam

namespace Bashlex.ActParam
open Bashlex Bashlex.LR

variable {R : ValRel} (L : ActLogic R) {np₁ np₂ : NestedParse} {a₁ a₂ : List SVal}

/-! ## compound commands -/

theorem act_function_body (h : ArgsR R a₁ a₂) :
    L.J (actionCore np₁ "p_function_body" a₁) (actionCore np₂ "p_function_body" a₂) R.Res := by
  simp only [actionCore_p_function_body, len_eq (np₁ := np₁) (np₂ := np₂) h]
  refine L.bind (J_nodeAt L h _ _) fun n n' hn => ?_
  rw [R.isCompound hn]
  refine L.bind (J_assert L _) fun _ _ _ => ?_
  refine ite_same (P := (L.J · · R.Res)) (fun _ => ?_)
    (fun _ => J_ret L (v := .node _) (v' := .node _) hn)
  refine L.bind (J_nodesAt L h _ _) fun r r' hr => ?_
  refine L.bind (J_addRedirects L hn hr) fun m m' hm => ?_
  exact J_ret L (v := .node _) (v' := .node _) hm

/-- `p_subshell`, `p_group_command` -/
theorem act_group {fname : String}
    (hcore : ∀ np args, actionCore np fname args = (do
      let l ← reservedAt ⟨np, args⟩ 1
      let r ← reservedAt ⟨np, args⟩ 3
      let mid ← PCtx.nodeAt ⟨np, args⟩ 2 "_partsspan"
      let parts := [l, mid, r]
      pure (.node (.compound (← partsspan parts) parts []), false)))
    (h : ArgsR R a₁ a₂) (hp : ArgsP R a₁) :
    L.J (actionCore np₁ fname a₁) (actionCore np₂ fname a₂) R.Res := by
  rw [hcore, hcore]
  refine L.bind (J_reservedAt L h hp 1) fun l l' hl => ?_
  refine L.bind (J_reservedAt L h hp 3) fun r r' hr => ?_
  refine L.bind (J_nodeAt L h _ _) fun m m' hm => ?_
  have hps : Forall2 R.N [l, m, r] [l', m', r'] := .cons hl (.cons hm (.cons hr .nil))
  refine L.bind (J_partsspan L hps) fun sp sp' hsp => ?_
  exact J_ret L (v := .node _) (v' := .node _) (R.compound hsp hps .nil)

/-- `p_if_command`, `p_case_command`: one compound node around all the parts -/
theorem act_mkCompound {fname : String} (inner : Span → List Node → Node)
    (hin : ∀ {p q l l'}, R.Sp p q → Forall2 R.N l l' → R.N (inner p l) (inner q l'))
    (hcore : ∀ np args, actionCore np fname args = (do
      let parts ← makeparts ⟨np, args⟩
      pure (← mkCompound1 inner parts, false)))
    (hW : WordJ L np₁ np₂) (h : ArgsR R a₁ a₂) (hp : ArgsP R a₁) :
    L.J (actionCore np₁ fname a₁) (actionCore np₂ fname a₂) R.Res := by
  rw [hcore, hcore]
  refine L.bind (J_makeparts L hW h hp) fun l l' hl => ?_
  exact J_ret_bind L (J_mkCompound1 L inner hin hl)

/-! ## clauses -/

theorem act_elif_clause (h : ArgsR R a₁ a₂) (hp : ArgsP R a₁)
    (hz : R.Sp (0, 0) (0, 0) ∨ ∀ v ∈ a₁, v ≠ .none) :
    L.J (actionCore np₁ "p_elif_clause" a₁) (actionCore np₂ "p_elif_clause" a₂) R.Res := by
  simp only [actionCore_p_elif_clause]
  refine L.bind (V := Forall2 R.N) ?_ fun l l' hl => J_ret L (v := .nodes _) (v' := .nodes _) hl
  refine L.forIn_list (A := fun v v' => R.S v v' ∧ (∀ t, v = .tok t → R.P t) ∧
    (R.Sp (0, 0) (0, 0) ∨ v ≠ .none)) (I := Forall2 R.N) ?_ ?_ _ _ .nil
  · intro v v' s s' hv hs
    rcases S_cases hv.1 with
      ⟨rfl, rfl⟩ | ⟨t, t', rfl, rfl, ht⟩ | ⟨_, _, rfl, rfl, hn⟩ | ⟨_, _, rfl, rfl, hl⟩
    · have h0 : R.Sp (0, 0) (0, 0) := hv.2.2.resolve_right (fun h => h rfl)
      exact L.pure (forall2_append hs (.cons (R.reserved _ h0) .nil))
    · simp only [R.tValue ht]
      exact L.pure (forall2_append hs (.cons (R.reserved _ (R.tSpan ht (hv.2.1 t rfl))) .nil))
    · exact L.pure (forall2_append hs (.cons hn .nil))
    · exact L.pure (forall2_append hs hl)
  · induction h with
    | nil => exact .nil
    | cons h1 _ ih =>
      refine .cons ⟨h1, hp _ List.mem_cons_self, hz.imp_right fun h => h _ List.mem_cons_self⟩
        (ih (fun v hv => hp v (List.mem_cons_of_mem _ hv))
          (hz.imp_right fun h v hv => h v (List.mem_cons_of_mem _ hv)))

/-- `p_redirection_list`-like: one node, or a list and one more node -/
theorem act_case_clause (h : ArgsR R a₁ a₂) :
    L.J (actionCore np₁ "p_case_clause" a₁) (actionCore np₂ "p_case_clause" a₂) R.Res := by
  simp only [actionCore_p_case_clause, len_eq (np₁ := np₁) (np₂ := np₂) h]
  refine ite_same (P := (L.J · · R.Res)) (fun _ => ?_) (fun _ => ?_)
  · refine L.bind (J_nodeAt L h _ _) fun n n' hn => ?_
    exact J_ret L (v := .nodes _) (v' := .nodes _) (.cons hn .nil)
  · refine L.bind (J_nodesAt L h _ _) fun l l' hl => ?_
    refine L.bind (J_nodeAt L h _ _) fun n n' hn => ?_
    exact J_ret L (v := .nodes _) (v' := .nodes _) (forall2_append hl (.cons hn .nil))

theorem act_case_clause_sequence (h : ArgsR R a₁ a₂) (hp : ArgsP R a₁) :
    L.J (actionCore np₁ "p_case_clause_sequence" a₁) (actionCore np₂ "p_case_clause_sequence" a₂)
      R.Res := by
  simp only [actionCore_p_case_clause_sequence, len_eq (np₁ := np₁) (np₂ := np₂) h]
  refine ite_same (P := (L.J · · R.Res)) (fun _ => ?_) (fun _ => ?_)
  · refine L.bind (J_nodeAt L h _ _) fun n n' hn => ?_
    refine L.bind (J_reservedAt L h hp _) fun r r' hr => ?_
    exact J_ret L (v := .nodes _) (v' := .nodes _) (.cons hn (.cons hr .nil))
  · refine L.bind (J_nodesAt L h _ _) fun l l' hl => ?_
    refine L.bind (J_nodeAt L h _ _) fun n n' hn => ?_
    refine L.bind (J_reservedAt L h hp _) fun r r' hr => ?_
    exact J_ret L (v := .nodes _) (v' := .nodes _) (forall2_append hl (.cons hn (.cons hr .nil)))

/-- a compound node around the parts of a pattern list -/
theorem J_fin_compound {l l' : List Node} (hl : Forall2 R.N l l') : L.J
    (do pure (SVal.node (.compound (← partsspan l) l []), false) : M (SVal × Bool))
    (do pure (SVal.node (.compound (← partsspan l') l' []), false) : M (SVal × Bool)) R.Res := by
  refine L.bind (J_partsspan L hl) fun sp sp' hsp => ?_
  exact J_ret L (v := .node _) (v' := .node _) (R.compound hsp hl .nil)

/-- the optional last part of a pattern list -/
theorem opt_part {base base' : List Node} (hb : Forall2 R.N base base') {v v' : SVal}
    (hv : R.S v v') :
    Forall2 R.N (match (generalizing := false) v with | .node n => base ++ [n] | _ => base)
      (match (generalizing := false) v' with | .node n => base' ++ [n] | _ => base') := by
  rcases S_cases hv with ⟨rfl, rfl⟩ | ⟨_, _, rfl, rfl, _⟩ | ⟨_, _, rfl, rfl, hn⟩ | ⟨_, _, rfl, rfl, _⟩
  · exact hb
  · exact hb
  · exact forall2_append hb (.cons hn .nil)
  · exact hb

theorem act_pattern_list (h : ArgsR R a₁ a₂) (hp : ArgsP R a₁) :
    L.J (actionCore np₁ "p_pattern_list" a₁) (actionCore np₂ "p_pattern_list" a₂) R.Res := by
  simp only [actionCore_p_pattern_list, pure_bind, len_eq (np₁ := np₁) (np₂ := np₂) h]
  refine ite_same (P := (L.J · · _)) (fun _ => ?_) (fun _ => ?_)
  · refine L.bind (J_nodesAt L h _ _) fun pat pat' hpat => ?_
    refine L.bind (J_partsspan L hpat) fun sp sp' hsp => ?_
    refine L.bind (J_reservedAt L h hp 3) fun r r' hr => ?_
    exact J_fin_compound L
      (opt_part (.cons (R.pattern hsp hpat) (.cons hr .nil)) (slice_rel h 4))
  · refine L.bind (J_nodesAt L h _ _) fun pat pat' hpat => ?_
    refine L.bind (J_reservedAt L h hp 2) fun l l' hl => ?_
    refine L.bind (J_partsspan L hpat) fun sp sp' hsp => ?_
    refine L.bind (J_reservedAt L h hp 4) fun r r' hr => ?_
    exact J_fin_compound L
      (opt_part (.cons hl (.cons (R.pattern hsp hpat) (.cons hr .nil))) (slice_rel h 5))

theorem act_pattern (hW : WordJ L np₁ np₂) (h : ArgsR R a₁ a₂) (hp : ArgsP R a₁) :
    L.J (actionCore np₁ "p_pattern" a₁) (actionCore np₂ "p_pattern" a₂) R.Res := by
  simp only [actionCore_p_pattern, len_eq (np₁ := np₁) (np₂ := np₂) h]
  refine ite_same (P := (L.J · · R.Res)) (fun _ => ?_) (fun _ => ?_)
  · refine L.bind (J_tokAt L h hp _) fun t t' ht => ?_
    refine L.bind (hW t t' ht.1 ht.2.1) fun w w' hw => ?_
    exact J_ret L (v := .nodes _) (v' := .nodes _) (.cons (R.wN hw) .nil)
  · refine L.bind (J_nodesAt L h _ _) fun l l' hl => ?_
    refine L.bind (J_reservedAt L h hp 2) fun r r' hr => ?_
    refine L.bind (J_tokAt L h hp _) fun t t' ht => ?_
    refine L.bind (hW t t' ht.1 ht.2.1) fun w w' hw => ?_
    exact J_ret L (v := .nodes _) (v' := .nodes _)
      (forall2_append hl (.cons hr (.cons (R.wN hw) .nil)))

/-! ## lists -/

theorem act_list (h : ArgsR R a₁ a₂) :
    L.J (actionCore np₁ "p_list" a₁) (actionCore np₂ "p_list" a₂) R.Res := by
  simp only [actionCore_p_list]
  exact J_ret L (slice_rel h 2)

/-- the only node of a list, or an `IndexError` -/
theorem J_head_or_fail {l l' : List Node} (hl : Forall2 R.N l l') (site : String) : L.J
    (match l.head? with
      | some n => pure (SVal.node n, false)
      | none => M.foreign "IndexError" site : M (SVal × Bool))
    (match l'.head? with
      | some n => pure (SVal.node n, false)
      | none => M.foreign "IndexError" site : M (SVal × Bool)) R.Res := by
  cases hl with
  | nil => exact L.foreign _ _
  | cons hn _ => exact J_ret L (v := .node _) (v' := .node _) hn

theorem J_fin_list {l l' : List Node} (hl : Forall2 R.N l l') : L.J
    (do pure (SVal.node (.list (← partsspan l) l), false) : M (SVal × Bool))
    (do pure (SVal.node (.list (← partsspan l') l'), false) : M (SVal × Bool)) R.Res := by
  refine L.bind (J_partsspan L hl) fun sp sp' hsp => ?_
  exact J_ret L (v := .node _) (v' := .node _) (R.list hsp hl)

theorem act_compound_list (h : ArgsR R a₁ a₂) :
    L.J (actionCore np₁ "p_compound_list" a₁) (actionCore np₂ "p_compound_list" a₂) R.Res := by
  simp only [actionCore_p_compound_list, len_eq (np₁ := np₁) (np₂ := np₂) h]
  refine ite_same (P := (L.J · · R.Res)) (fun _ => J_ret L (slice_rel h 1)) (fun _ => ?_)
  refine L.bind (J_nodesAt L h _ _) fun l l' hl => ?_
  rw [← forall2_length hl]
  exact ite_same (P := (L.J · · R.Res)) (fun _ => J_fin_list L hl) (fun _ => J_head_or_fail L hl _)

theorem act_list0 (h : ArgsR R a₁ a₂) (hp : ArgsP R a₁) :
    L.J (actionCore np₁ "p_list0" a₁) (actionCore np₂ "p_list0" a₂) R.Res := by
  simp only [actionCore_p_list0, isTok_eq (np₁ := np₁) (np₂ := np₂) h]
  refine L.bind (J_nodesAt L h _ _) fun l l' hl => ?_
  rw [← forall2_length hl]
  refine ite_same (P := (L.J · · R.Res)) (fun _ => ?_) (fun _ => J_head_or_fail L hl _)
  refine L.bind (J_operatorAt L h hp 2) fun o o' ho => ?_
  exact J_fin_list L (forall2_append hl (.cons ho .nil))

/-- `p_list1`, `p_simple_list1`, `p_pipeline` -/
theorem act_join {fname : String} (mk : Span → Str → Node)
    (hmk : ∀ {p q} (s : Str), R.Sp p q → R.N (mk p s) (mk q s)) (site : String)
    (hcore : ∀ np args, actionCore np fname args =
      (do pure (← joinLists ⟨np, args⟩ mk site, false)))
    (h : ArgsR R a₁ a₂) (hp : ArgsP R a₁) :
    L.J (actionCore np₁ fname a₁) (actionCore np₂ fname a₂) R.Res := by
  rw [hcore, hcore]
  exact J_ret_bind L (J_joinLists L mk hmk site h hp)

/-- `p_simple_list_terminator`, `p_newline_list`, `p_empty` -/
theorem act_none {fname : String}
    (hcore : ∀ np args, actionCore np fname args = pure (.none, false)) :
    L.J (actionCore np₁ fname a₁) (actionCore np₂ fname a₂) R.Res := by
  rw [hcore, hcore]
  exact J_ret L (v := .none) (v' := .none) trivial

end Bashlex.ActParam
