/-
  The parametric actions, first part: the actions that look at the state, expand words, build
  redirects, or take a node apart.
-/
import Bashlex.Proofs.ActParam

namespace Bashlex.ActParam
open Bashlex Bashlex.LR

variable {R : ValRel} (L : ActLogic R) {np₁ np₂ : NestedParse} {a₁ a₂ : List SVal}

/-! ## the state: `p_inputunit`, `p_simple_list`, `p_redirection_heredoc` -/

theorem act_inputunit (h : ArgsR R a₁ a₂) :
    L.J (actionCore np₁ "p_inputunit" a₁) (actionCore np₂ "p_inputunit" a₂) R.Res := by
  rw [actionCore_p_inputunit, actionCore_p_inputunit]
  show L.J (iuThen _) (iuThen _) _
  refine L.inputunit ?_
  rcases S_cases (slice_rel (np₁ := np₁) (np₂ := np₂) h 1) with
    ⟨e, e'⟩ | ⟨_, _, e, e', _⟩ | ⟨_, _, e, e', hn⟩ | ⟨_, _, e, e', _⟩ <;> rw [e, e']
  · exact L.pure ⟨trivial, rfl⟩
  · exact L.pure ⟨trivial, rfl⟩
  · exact L.pure ⟨hn, rfl⟩
  · exact L.pure ⟨trivial, rfl⟩

/-- the tail of `p_simple_list` -/
theorem J_accept {v v' : SVal} (hv : R.S v v') (b : Bool) : L.J
    (do let l ← get
        pure (v, b && l.ps.cmdsubst &&
          (match l.eofToken with
           | some e => decide ({ l.currentToken with pos := none } = e)
           | none => false)) : M (SVal × Bool))
    (do let l ← get
        pure (v', b && l.ps.cmdsubst &&
          (match l.eofToken with
           | some e => decide ({ l.currentToken with pos := none } = e)
           | none => false)) : M (SVal × Bool)) R.Res := by
  show L.J (accFlag b >>= fun a => pure (v, a)) (accFlag b >>= fun a => pure (v', a)) _
  exact L.bind (L.accept b) fun a a' ha => L.pure ⟨hv, ha.symm⟩

/-- the here-document reader is a parameter, like word expansion -/
theorem act_simple_list
    (hG : L.J gatherheredocuments gatherheredocuments (fun _ _ => True))
    (h : ArgsR R a₁ a₂) (hp : ArgsP R a₁) :
    L.J (actionCore np₁ "p_simple_list" a₁) (actionCore np₂ "p_simple_list" a₂) R.Res := by
  simp only [actionCore_p_simple_list, pure_bind, len_eq (np₁ := np₁) (np₂ := np₂) h]
  refine L.bind hG fun _ _ _ => ?_
  refine L.bind (J_nodesAt L h _ _) fun l l' hl => ?_
  rw [← forall2_length hl]
  refine ite_same (P := (L.J · · _)) (fun _ => ite_same (P := (L.J · · _)) (fun _ => ?_)
    (fun _ => ?_)) (fun _ => ?_)
  · refine L.bind (J_operatorAt L h hp 2) fun o o' ho => ?_
    have hps := forall2_append hl (.cons ho .nil)
    refine L.bind (J_partsspan L hps) fun sp sp' hsp => ?_
    exact J_accept L (v := .node _) (v' := .node _) (R.list hsp hps) _
  · refine L.bind (J_partsspan L hl) fun sp sp' hsp => ?_
    exact J_accept L (v := .node _) (v' := .node _) (R.list hsp hl) _
  · cases hl with
    | nil => exact L.bindNever (L.foreign _ _)
    | cons hn hr =>
      cases hr with
      | nil => exact J_accept L (v := .node _) (v' := .node _) hn _
      | cons _ _ => exact L.bindNever (L.foreign _ _)

/-- `p[n-1]` is checked to be a token; with three or four symbols that covers every span read -/
theorem span_last {n : Nat} {w : Token} (hz : R.Sp (0, 0) (0, 0) ∨ PCtx.len ⟨np₁, a₁⟩ = n + 1)
    (hw : PCtx.slice ⟨np₁, a₁⟩ (PCtx.len ⟨np₁, a₁⟩ - 1) = .tok w) :
    R.Sp (0, 0) (0, 0) ∨ ∃ t, PCtx.slice ⟨np₁, a₁⟩ n = .tok t := by
  rcases hz with hz | hz
  · exact Or.inl hz
  · rw [hz] at hw; exact Or.inr ⟨w, hw⟩

theorem span_last' {w : Token}
    (hz : R.Sp (0, 0) (0, 0) ∨ PCtx.len ⟨np₁, a₁⟩ = 3 ∨ PCtx.len ⟨np₁, a₁⟩ = 4)
    (hw : PCtx.slice ⟨np₁, a₁⟩ (PCtx.len ⟨np₁, a₁⟩ - 1) = .tok w)
    (h3 : ¬ (PCtx.len ⟨np₁, a₁⟩ == 3) = true) :
    R.Sp (0, 0) (0, 0) ∨ ∃ t, PCtx.slice ⟨np₁, a₁⟩ 3 = .tok t := by
  refine span_last (n := 3) ?_ hw
  rcases hz with hz | hz | hz
  · exact Or.inl hz
  · exact absurd (by simp [hz]) h3
  · exact Or.inr hz

theorem act_redirection_heredoc (h : ArgsR R a₁ a₂) (hp : ArgsP R a₁)
    (hz : R.Sp (0, 0) (0, 0) ∨ PCtx.len ⟨np₁, a₁⟩ = 3 ∨ PCtx.len ⟨np₁, a₁⟩ = 4) :
    L.J (actionCore np₁ "p_redirection_heredoc" a₁) (actionCore np₂ "p_redirection_heredoc" a₂)
      R.Res := by
  simp only [actionCore_p_redirection_heredoc, pure_bind, len_eq (np₁ := np₁) (np₂ := np₂) h,
    isTok_eq (np₁ := np₁) (np₂ := np₂) h]
  refine L.bind (J_tokAt L h hp _) fun w w' hw => ?_
  rw [T_valueStr hw.1]
  have fin : ∀ (input : RedirIn) (type : Str) {pos pos' : Span} (k : Bool), R.Sp pos pos' → L.J
      (do let l ← get
          set { l with store := l.store ++ [({ pos := pos, delim := w.valueStr } : RedirCell)],
                       redirstack := l.redirstack ++ [(l.store.length, k)] }
          pure (SVal.node (.redirect pos input type
            (some (.word (w.lexpos, w.endlexpos) w.valueStr [])) .none none (some l.store.length)),
            false) : M (SVal × Bool))
      (do let l ← get
          set { l with store := l.store ++ [({ pos := pos', delim := w.valueStr } : RedirCell)],
                       redirstack := l.redirstack ++ [(l.store.length, k)] }
          pure (SVal.node (.redirect pos' input type
            (some (.word (w'.lexpos, w'.endlexpos) w.valueStr [])) .none none (some l.store.length)),
            false) : M (SVal × Bool)) R.Res := by
    intro input type pos pos' k hpos
    show L.J (pushCell { pos := pos, delim := w.valueStr } k >>= fun id => pure (SVal.node
        (.redirect pos input type (some (.word (w.lexpos, w.endlexpos) w.valueStr [])) .none none
          (some id)), false))
      (pushCell { pos := pos', delim := w.valueStr } k >>= fun id => pure (SVal.node
        (.redirect pos' input type (some (.word (w'.lexpos, w'.endlexpos) w.valueStr [])) .none none
          (some id)), false)) _
    refine L.bind (L.push _ k hpos) fun id _ hid => ?_
    subst hid
    exact J_ret L (v := .node _) (v' := .node _)
      (R.redirect hpos (R.wordLeaf _ (R.tSpan hw.1 hw.2.1)))
  refine ite_same (P := (L.J · · _)) (fun h3 => ?_) (fun h3 => ?_)
  · refine L.bind (J_strAt_span L h hp 1) fun s _ hs => ?_
    obtain ⟨rfl, h1⟩ := hs
    have h2 := span_last (R := R) (n := 2) (Or.inr (by simpa using h3)) hw.2.2
    exact fin _ _ _ (R.pair h1 (lexspan_rel h hp 2 h2))
  · refine L.bind (J_tokAt L h hp 1) fun t t' ht => ?_
    refine L.bind (J_strAt L h 2) fun s _ hs => ?_
    obtain ⟨rfl, -⟩ := hs
    rw [R.tValue ht.1]
    exact fin _ _ _ (R.pair (lexspan_rel h hp 1 (Or.inr ⟨t, ht.2.2⟩))
      (lexspan_rel h hp 3 (span_last' hz hw.2.2 h3)))

/-! ## word expansion -/

theorem act_word_list (hW : WordJ L np₁ np₂) (h : ArgsR R a₁ a₂) (hp : ArgsP R a₁) :
    L.J (actionCore np₁ "p_word_list" a₁) (actionCore np₂ "p_word_list" a₂) R.Res := by
  simp only [actionCore_p_word_list, len_eq (np₁ := np₁) (np₂ := np₂) h]
  refine ite_same (P := (L.J · · R.Res)) (fun _ => ?_) (fun _ => ?_)
  · refine L.bind (J_tokAt L h hp _) fun t t' ht => ?_
    refine L.bind (hW t t' ht.1 ht.2.1) fun w w' hw => ?_
    exact J_ret L (v := .nodes _) (v' := .nodes _) (.cons (R.wN hw) .nil)
  · refine L.bind (J_nodesAt L h _ _) fun l l' hl => ?_
    refine L.bind (J_tokAt L h hp _) fun t t' ht => ?_
    refine L.bind (hW t t' ht.1 ht.2.1) fun w w' hw => ?_
    exact J_ret L (v := .nodes _) (v' := .nodes _) (forall2_append hl (.cons (R.wN hw) .nil))

theorem act_simple_command_element (hW : WordJ L np₁ np₂) (h : ArgsR R a₁ a₂) (hp : ArgsP R a₁) :
    L.J (actionCore np₁ "p_simple_command_element" a₁)
      (actionCore np₂ "p_simple_command_element" a₂) R.Res := by
  simp only [actionCore_p_simple_command_element]
  have key : L.J
      (do let t ← PCtx.tokAt ⟨np₁, a₁⟩ 1
          let w ← expandword np₁ t
          if t.is .ASSIGNMENT_WORD then
            match w with
            | .word pos s parts => pure (SVal.nodes [.assignment pos s parts], false)
            | _ => pure (SVal.nodes [w], false)
          else pure (SVal.nodes [w], false) : M (SVal × Bool))
      (do let t ← PCtx.tokAt ⟨np₂, a₂⟩ 1
          let w ← expandword np₂ t
          if t.is .ASSIGNMENT_WORD then
            match w with
            | .word pos s parts => pure (SVal.nodes [.assignment pos s parts], false)
            | _ => pure (SVal.nodes [w], false)
          else pure (SVal.nodes [w], false) : M (SVal × Bool)) R.Res := by
    refine L.bind (J_tokAt L h hp _) fun t t' ht => ?_
    refine L.bind (hW t t' ht.1 ht.2.1) fun w w' hw => ?_
    rw [T_is ht.1]
    have plain : L.J (pure (SVal.nodes [w], false) : M (SVal × Bool)) (pure (SVal.nodes [w'], false))
        R.Res := J_ret L (v := .nodes _) (v' := .nodes _) (.cons (R.wN hw) .nil)
    refine ite_same (P := (L.J · · R.Res)) (fun _ => ?_) (fun _ => plain)
    by_cases hw1 : isWord w = true
    · cases w <;> first | cases hw1 | skip
      obtain ⟨q, s', ps', rfl, hn⟩ := R.wAssign hw
      exact J_ret L (v := .nodes _) (v' := .nodes _) (.cons hn .nil)
    · have hw2 : isWord w' = true → False := fun h2 => hw1 (R.isWord (R.wN hw) ▸ h2)
      cases w <;> first | exact absurd rfl hw1 | skip <;>
        cases w' <;> first | exact (hw2 rfl).elim | exact plain
  rcases S_cases (slice_rel (np₁ := np₁) (np₂ := np₂) h 1) with
    ⟨e, e'⟩ | ⟨_, _, e, e', _⟩ | ⟨n, n', e, e', hn⟩ | ⟨_, _, e, e', _⟩ <;> rw [e, e']
  · exact key
  · exact key
  · exact J_ret L (v := .nodes _) (v' := .nodes _) (.cons hn .nil)
  · exact key

theorem act_redirection (hW : WordJ L np₁ np₂) (h : ArgsR R a₁ a₂) (hp : ArgsP R a₁)
    (hz : R.Sp (0, 0) (0, 0) ∨ PCtx.len ⟨np₁, a₁⟩ = 3 ∨ PCtx.len ⟨np₁, a₁⟩ = 4) :
    L.J (actionCore np₁ "p_redirection" a₁) (actionCore np₂ "p_redirection" a₂) R.Res := by
  simp only [actionCore_p_redirection, pure_bind, len_eq (np₁ := np₁) (np₂ := np₂) h]
  refine L.bind (J_tokAt L h hp _) fun o o' ho => ?_
  rw [T_is ho.1, R.tValue ho.1]
  have fin : ∀ {on on' : Option Node} (oa : RedirIn), OptRel R.N on on' → L.J
      (if (PCtx.len ⟨np₁, a₁⟩ == 3) = true then do
          let s ← PCtx.strAt ⟨np₁, a₁⟩ 1
          pure (SVal.node (.redirect ((PCtx.lexspan ⟨np₁, a₁⟩ 1).1, (PCtx.lexspan ⟨np₁, a₁⟩ 2).2)
            .none s on oa none none), false)
        else do
          let t1 ← PCtx.tokAt ⟨np₁, a₁⟩ 1
          let s ← PCtx.strAt ⟨np₁, a₁⟩ 2
          pure (SVal.node (.redirect ((PCtx.lexspan ⟨np₁, a₁⟩ 1).1, (PCtx.lexspan ⟨np₁, a₁⟩ 3).2)
            (match t1.value with | .int k => RedirIn.num k | .str s => .str s | .none => .none)
            s on oa none none), false) : M (SVal × Bool))
      (if (PCtx.len ⟨np₁, a₁⟩ == 3) = true then do
          let s ← PCtx.strAt ⟨np₂, a₂⟩ 1
          pure (SVal.node (.redirect ((PCtx.lexspan ⟨np₂, a₂⟩ 1).1, (PCtx.lexspan ⟨np₂, a₂⟩ 2).2)
            .none s on' oa none none), false)
        else do
          let t1 ← PCtx.tokAt ⟨np₂, a₂⟩ 1
          let s ← PCtx.strAt ⟨np₂, a₂⟩ 2
          pure (SVal.node (.redirect ((PCtx.lexspan ⟨np₂, a₂⟩ 1).1, (PCtx.lexspan ⟨np₂, a₂⟩ 3).2)
            (match t1.value with | .int k => RedirIn.num k | .str s => .str s | .none => .none)
            s on' oa none none), false) : M (SVal × Bool)) R.Res := by
    intro on on' oa hon
    refine ite_same (P := (L.J · · R.Res)) (fun h3 => ?_) (fun h3 => ?_)
    · refine L.bind (J_strAt_span L h hp 1) fun s _ hs => ?_
      obtain ⟨rfl, h1⟩ := hs
      have h2 := span_last (R := R) (n := 2) (Or.inr (by simpa using h3)) ho.2.2
      exact J_ret L (v := .node _) (v' := .node _)
        (R.redirect (R.pair h1 (lexspan_rel h hp 2 h2)) hon)
    · refine L.bind (J_tokAt L h hp 1) fun t t' ht => ?_
      refine L.bind (J_strAt L h 2) fun s _ hs => ?_
      obtain ⟨rfl, -⟩ := hs
      rw [R.tValue ht.1]
      exact J_ret L (v := .node _) (v' := .node _)
        (R.redirect (R.pair (lexspan_rel h hp 1 (Or.inr ⟨t, ht.2.2⟩))
          (lexspan_rel h hp 3 (span_last' hz ho.2.2 h3))) hon)
  refine ite_same (P := (L.J · · _)) (fun _ => ?_) (fun _ => fin _ trivial)
  refine L.bind (hW o o' ho.1 ho.2.1) fun w w' hw => ?_
  exact fin _ (R.wN hw)

/-! ## lists of redirects, simple commands, commands -/

theorem act_redirection_list (h : ArgsR R a₁ a₂) :
    L.J (actionCore np₁ "p_redirection_list" a₁) (actionCore np₂ "p_redirection_list" a₂)
      R.Res := by
  simp only [actionCore_p_redirection_list, len_eq (np₁ := np₁) (np₂ := np₂) h]
  refine ite_same (P := (L.J · · R.Res)) (fun _ => ?_) (fun _ => ?_)
  · refine L.bind (J_nodeAt L h _ _) fun n n' hn => ?_
    exact J_ret L (v := .nodes _) (v' := .nodes _) (.cons hn .nil)
  · refine L.bind (J_nodesAt L h _ _) fun l l' hl => ?_
    refine L.bind (J_nodeAt L h _ _) fun n n' hn => ?_
    exact J_ret L (v := .nodes _) (v' := .nodes _) (forall2_append hl (.cons hn .nil))

theorem act_simple_command (h : ArgsR R a₁ a₂) :
    L.J (actionCore np₁ "p_simple_command" a₁) (actionCore np₂ "p_simple_command" a₂) R.Res := by
  simp only [actionCore_p_simple_command, len_eq (np₁ := np₁) (np₂ := np₂) h]
  refine ite_same (P := (L.J · · R.Res)) (fun _ => ?_) (fun _ => J_ret L (slice_rel h 1))
  refine L.bind (J_nodesAt L h _ _) fun l l' hl => ?_
  refine L.bind (J_nodesAt L h _ _) fun r r' hr => ?_
  exact J_ret L (v := .nodes _) (v' := .nodes _) (forall2_append hl hr)

theorem act_command (h : ArgsR R a₁ a₂) :
    L.J (actionCore np₁ "p_command" a₁) (actionCore np₂ "p_command" a₂) R.Res := by
  simp only [actionCore_p_command, len_eq (np₁ := np₁) (np₂ := np₂) h]
  have key : L.J
      (do let parts ← PCtx.nodesAt ⟨np₁, a₁⟩ 1 "_partsspan"
          pure (SVal.node (.command (← partsspan parts) parts), false) : M (SVal × Bool))
      (do let parts ← PCtx.nodesAt ⟨np₂, a₂⟩ 1 "_partsspan"
          pure (SVal.node (.command (← partsspan parts) parts), false) : M (SVal × Bool)) R.Res := by
    refine L.bind (J_nodesAt L h _ _) fun l l' hl => ?_
    refine L.bind (J_partsspan L hl) fun sp sp' hsp => ?_
    exact J_ret L (v := .node _) (v' := .node _) (R.command hsp hl)
  rcases S_cases (slice_rel (np₁ := np₁) (np₂ := np₂) h 1) with
    ⟨e, e'⟩ | ⟨_, _, e, e', _⟩ | ⟨n, n', e, e', hn⟩ | ⟨_, _, e, e', _⟩ <;> rw [e, e']
  · exact key
  · exact key
  · refine ite_same (P := (L.J · · R.Res)) (fun _ => ?_)
      (fun _ => J_ret L (v := .node _) (v' := .node _) hn)
    refine L.bind (J_nodesAt L h _ _) fun r r' hr => ?_
    refine L.bind (J_addRedirects L hn hr) fun m m' hm => ?_
    exact J_ret L (v := .node _) (v' := .node _) hm
  · exact key

/-! ## compound commands made of all the parts -/

theorem act_shell_command (hW : WordJ L np₁ np₂) (h : ArgsR R a₁ a₂) (hp : ArgsP R a₁) :
    L.J (actionCore np₁ "p_shell_command" a₁) (actionCore np₂ "p_shell_command" a₂) R.Res := by
  simp only [actionCore_p_shell_command, len_eq (np₁ := np₁) (np₂ := np₂) h]
  refine ite_same (P := (L.J · · R.Res)) (fun _ => ?_) (fun _ => ?_)
  · refine L.bind (J_nodeAt L h _ _) fun n n' hn => ?_
    rw [R.isCompound hn]
    refine L.bind (J_assert L _) fun _ _ _ => ?_
    exact J_ret L (v := .node _) (v' := .node _) hn
  · refine L.bind (J_makeparts L hW h hp) fun l l' hl => ?_
    have other : ∀ {m : M (SVal × Bool)}, m = M.foreign "AttributeError" "p_shell_command" →
        L.J (M.foreign "AttributeError" "p_shell_command" : M (SVal × Bool)) m R.Res := by
      rintro _ rfl; exact L.foreign _ _
    rcases forall2_ends hl with ⟨rfl, rfl⟩ | ⟨a, b, _, _, e1, e2, hab, _, _, _⟩
    · exact L.foreign _ _
    · rw [e1, e2]
      by_cases ha : isReserved a = true
      · cases a <;> first | cases ha | skip
        obtain ⟨q, rfl⟩ := R.reservedInv hab
        simp only []
        refine L.bind (J_partsspan L hl) fun sp sp' hsp => ?_
        refine ite_same (P := (L.J · · R.Res)) (fun _ => ?_) (fun _ => ?_)
        · exact J_ret L (v := .node _) (v' := .node _)
            (R.compound hsp (.cons (R.whileN hsp hl) .nil) .nil)
        · refine ite_same (P := (L.J · · R.Res)) (fun _ => ?_) (fun _ => L.foreign _ _)
          exact J_ret L (v := .node _) (v' := .node _)
            (R.compound hsp (.cons (R.untilN hsp hl) .nil) .nil)
      · have hb : isReserved b = true → False := fun h2 => ha (R.isReserved hab ▸ h2)
        cases a <;> first | exact absurd rfl ha | skip <;>
          cases b <;> first | exact (hb rfl).elim | exact L.foreign _ _

/-- `p_for_command` turns the first `;` operator into a reserved word -/
theorem fix_rel : ∀ {l l' : List Node}, Forall2 R.N l l' →
    Forall2 R.N (actionCore.fix l) (actionCore.fix l') := by
  intro l l' h
  induction h with
  | nil => exact .nil
  | @cons a b t t' hab ht ih =>
    by_cases ha : isOperator a = true
    · cases a <;> first | cases ha | skip
      obtain ⟨q, rfl, hq⟩ := R.operatorInv hab
      simp only [actionCore.fix]
      refine ite_same (P := Forall2 R.N) (fun _ => .cons (R.reserved _ hq) ht)
        (fun _ => .cons hab ih)
    · have hb : isOperator b = true → False := fun h2 => ha (R.isOperator hab ▸ h2)
      cases a <;> first | exact absurd rfl ha | skip <;>
        cases b <;> first | exact (hb rfl).elim | exact .cons hab ih

theorem act_for_command (hW : WordJ L np₁ np₂) (h : ArgsR R a₁ a₂) (hp : ArgsP R a₁) :
    L.J (actionCore np₁ "p_for_command" a₁) (actionCore np₂ "p_for_command" a₂) R.Res := by
  simp only [actionCore_p_for_command]
  refine L.bind (J_makeparts L hW h hp) fun l l' hl => ?_
  exact J_ret_bind L (J_mkCompound1 L .forN R.forN (fix_rel hl))

theorem act_function_def (hW : WordJ L np₁ np₂) (h : ArgsR R a₁ a₂) (hp : ArgsP R a₁) :
    L.J (actionCore np₁ "p_function_def" a₁) (actionCore np₂ "p_function_def" a₂) R.Res := by
  rw [actionCore_p_function_def, actionCore_p_function_def]
  simp only []
  refine L.bind (J_makeparts L hW h hp) fun l l' hl => ?_
  have hidx : ∀ lam : Node → Bool, (∀ n, lam n = isWord n) → l'.findIdx? lam = l.findIdx? lam :=
    fun lam e => forall2_findIdx? (fun a b hab => by rw [e, e, R.isWord hab]) hl
  rw [hidx _ (fun n => by cases n <;> rfl), ← forall2_length hl]
  cases hl with
  | nil => exact L.bindNever (L.foreign _ _)
  | cons hab ht =>
    simp only [List.isEmpty_cons]
    refine L.bind (J_partsspan L (.cons hab ht)) fun sp sp' hsp => ?_
    exact J_ret L (v := .node _) (v' := .node _) (R.function _ _ hsp (.cons hab ht))

/-! ## the constructs bashlex does not implement -/

theorem act_notImplemented {fname ty : String}
    (hcore : ∀ np args, actionCore np fname args =
      (do pure (← handleNotImplemented ⟨np, args⟩ ty, false)))
    (hW : WordJ L np₁ np₂) (h : ArgsR R a₁ a₂) (hp : ArgsP R a₁) :
    L.J (actionCore np₁ fname a₁) (actionCore np₂ fname a₂) R.Res := by
  rw [hcore, hcore]
  exact J_ret_bind L (J_handleNotImplemented L hW h hp ty)

/-! ## `p_list_terminator`, `p_pipeline_command` -/

/-- the span of the token is read only when its value is `;`: the EOF token (no value, no span)
    is not asked for its span -/
theorem act_list_terminator (h : ArgsR R a₁ a₂)
    (hv : ∀ t, SVal.tok t ∈ a₁ → t.value ≠ .none → R.P t) :
    L.J (actionCore np₁ "p_list_terminator" a₁) (actionCore np₂ "p_list_terminator" a₂) R.Res := by
  simp only [actionCore_p_list_terminator]
  have hn : L.J (pure (SVal.none, false) : M (SVal × Bool)) (pure (SVal.none, false)) R.Res :=
    J_ret L (v := .none) (v' := .none) trivial
  rcases S_cases (slice_rel (np₁ := np₁) (np₂ := np₂) h 1) with
    ⟨e, e'⟩ | ⟨t, t', e, e', hT⟩ | ⟨_, _, e, e', _⟩ | ⟨_, _, e, e', _⟩
  · rw [e, e']; exact hn
  · unfold PCtx.lexspan
    rw [e, e']
    simp only [R.tValue hT]
    refine ite_same (P := (L.J · · R.Res)) (fun hc => ?_) (fun _ => hn)
    have hP : R.P t := hv t (slice_mem e (fun h => by cases h))
      (by intro h0; rw [h0] at hc; exact absurd hc (by decide))
    exact J_ret L (v := .node _) (v' := .node _) (R.operator _ (R.tSpan hT hP))
  · rw [e, e']; exact hn
  · rw [e, e']; exact hn

/-- the `BANG …` branch of `p_pipeline_command` -/
def pcBang (bang : Node) (v : SVal) : M (SVal × Bool) :=
  match v with
  | .none => pure (.node (.pipeline bang.pos [bang]), false)
  | .node (.pipeline _ parts) =>
    match (bang :: parts).getLast? with
    | some b => do
      let q ← nodePos b
      pure (.node (.pipeline (bang.pos.1, q.2) (bang :: parts)), false)
    | none => M.foreign "IndexError" "p_pipeline_command"
  | .node n => do
    let q ← nodePos n
    pure (.node (.pipeline (bang.pos.1, q.2) [bang, n]), false)
  | _ => M.foreign "AttributeError" "p_pipeline_command"

theorem pcBang_node (bang : Node) {n : Node} (hn : ¬ isPipeline n = true) :
    pcBang bang (.node n) = (do
      let q ← nodePos n
      pure (.node (.pipeline (bang.pos.1, q.2) [bang, n]), false)) := by
  cases n <;> first | rfl | exact absurd rfl hn

theorem J_pcBang {p p' : Span} (hp : R.Sp p p') {v v' : SVal} (hv : R.S v v') :
    L.J (pcBang (.reservedword p ['!']) v) (pcBang (.reservedword p' ['!']) v') R.Res := by
  have hb : R.N (.reservedword p ['!']) (.reservedword p' ['!']) := R.reserved _ hp
  rcases S_cases hv with ⟨rfl, rfl⟩ | ⟨_, _, rfl, rfl, _⟩ | ⟨n, n', rfl, rfl, hn⟩ | ⟨_, _, rfl, rfl, _⟩
  · exact J_ret L (v := .node _) (v' := .node _) (R.pipeline hp (.cons hb .nil))
  · exact L.foreign _ _
  · by_cases hk : isPipeline n = true
    · cases n <;> first | cases hk | skip
      obtain ⟨q, l', rfl, hl⟩ := R.pipelineInv hn
      simp only [pcBang]
      have hbl : Forall2 R.N _ _ := .cons hb hl
      rcases forall2_ends hbl with ⟨e, _⟩ | ⟨_, _, c, d, _, _, _, e3, e4, hcd⟩
      · cases e
      · rw [e3, e4]
        refine L.bind (L.nodePos hcd) fun q q' hq => ?_
        exact J_ret L (v := .node _) (v' := .node _) (R.pipeline (R.pair hp hq) hbl)
    · have hk' : ¬ isPipeline n' = true := fun h2 => hk (R.isPipeline hn ▸ h2)
      rw [pcBang_node _ hk, pcBang_node _ hk']
      refine L.bind (L.nodePos hn) fun q q' hq => ?_
      exact J_ret L (v := .node _) (v' := .node _)
        (R.pipeline (R.pair hp hq) (.cons hb (.cons hn .nil)))
  · exact L.foreign _ _

/-- with more than one symbol the span of `!` is read, without a check that `p[1]` is a token: the
    two spans are asked for -/
theorem act_pipeline_command (h : ArgsR R a₁ a₂)
    (h1 : ¬ (PCtx.len ⟨np₁, a₁⟩ == 2) = true →
      R.Sp (PCtx.lexspan ⟨np₁, a₁⟩ 1) (PCtx.lexspan ⟨np₂, a₂⟩ 1)) :
    L.J (actionCore np₁ "p_pipeline_command" a₁) (actionCore np₂ "p_pipeline_command" a₂)
      R.Res := by
  simp only [actionCore_p_pipeline_command, len_eq (np₁ := np₁) (np₂ := np₂) h]
  refine ite_same (P := (L.J · · R.Res)) (fun _ => ?_) (fun h2 => ?_)
  · refine L.bind (J_nodesAt L h _ _) fun l l' hl => ?_
    have hgen : ∀ {l l' : List Node}, Forall2 R.N l l' → L.J
        (match l.head?, l.getLast? with
          | some a, some b => (do
            pure (SVal.node (.pipeline ((← nodePos a).1, (← nodePos b).2) l), false) :
              M (SVal × Bool))
          | _, _ => M.foreign "IndexError" "p_pipeline_command")
        (match l'.head?, l'.getLast? with
          | some a, some b => (do
            pure (SVal.node (.pipeline ((← nodePos a).1, (← nodePos b).2) l'), false) :
              M (SVal × Bool))
          | _, _ => M.foreign "IndexError" "p_pipeline_command") R.Res := by
      intro l l' hl
      rcases forall2_ends hl with ⟨rfl, rfl⟩ | ⟨a, b, c, d, e1, e2, hab, e3, e4, hcd⟩
      · exact L.foreign _ _
      · rw [e1, e2, e3, e4]
        refine L.bind (L.nodePos hab) fun p p' hp => ?_
        refine L.bind (L.nodePos hcd) fun q q' hq => ?_
        exact J_ret L (v := .node _) (v' := .node _) (R.pipeline (R.pair hp hq) hl)
    cases hl with
    | nil => exact hgen .nil
    | cons hn hr =>
      cases hr with
      | nil => exact J_ret L (v := .node _) (v' := .node _) hn
      | cons hm hr2 => exact hgen (.cons hn (.cons hm hr2))
  · show L.J (pcBang _ _) (pcBang _ _) _
    exact J_pcBang L (h1 h2) (slice_rel h 2)

end Bashlex.ActParam
