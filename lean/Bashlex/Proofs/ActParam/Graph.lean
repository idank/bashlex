/-
  The value relation "the second value is the first under a span map `φ`": spans by `φ`, nodes by
  `Node.mapPos φ`, tokens by `pos.map φ`.  `φ` acts on starts and ends separately; it need not fix
  `(0, 0)`: `P` names the tokens whose span it moves.
-/
import Bashlex.Proofs.ActParam

namespace Bashlex.ActParam
open Bashlex Bashlex.LR

/-- a semantic value under a span map -/
def mapSVal (φ : Span → Span) : SVal → SVal
  | .none => .none
  | .tok t => .tok { t with pos := t.pos.map φ }
  | .node n => .node (n.mapPos φ)
  | .nodes l => .nodes (Node.mapPosL φ l)

theorem forall2_mapPosL {φ : Span → Span} {l l' : List Node} :
    Forall2 (fun a b => b = Node.mapPos φ a) l l' ↔ l' = Node.mapPosL φ l := by
  constructor
  · intro h
    induction h with
    | nil => rfl
    | cons h1 _ ih => rw [h1, ih]; rfl
  · rintro rfl
    induction l with
    | nil => exact .nil
    | cons a l ih => exact .cons rfl ih

/-- `Q`: a fact about each token of the first run that is known of the arguments and wanted again
    of every token in the result, since word expansion is natural only for such tokens (for an
    insertion into the text: the token lies on one side of the insertion point, `C14I.WordNat`);
    `P`: the tokens whose span `φ` moves -/
def graphRel (φ : Span → Span) (Q P : Token → Prop)
    (hc : ∀ p q : Span, ((φ p).1, (φ q).2) = φ (p.1, q.2))
    (hsp : ∀ t : Token, Q t → P t →
      (({ t with pos := t.pos.map φ } : Token).lexpos, ({ t with pos := t.pos.map φ } : Token).endlexpos)
        = φ (t.lexpos, t.endlexpos)) : ValRel where
  Sp p q := q = φ p
  T t t' := t' = { t with pos := t.pos.map φ } ∧ Q t
  N a b := b = a.mapPos φ
  W a b := b = a.mapPos φ
  P := P
  pair := by rintro p _ q _ rfl rfl; exact hc p q
  tValue := by rintro t _ ⟨rfl, _⟩; rfl
  tType := by rintro t _ ⟨rfl, _⟩; rfl
  tSpan := by rintro t _ ⟨rfl, hq⟩ hp; exact hsp t hq hp
  wN := id
  wAssign := by rintro p s ps _ rfl; exact ⟨_, _, _, rfl, rfl⟩
  operator := by rintro p _ s rfl; rfl
  reserved := by rintro p _ s rfl; rfl
  pipe := by rintro p _ s rfl; rfl
  wordLeaf := by rintro p _ s rfl; rfl
  redirect := by
    rintro p _ i t o o' oa hid rfl ho
    cases o <;> cases o' <;> first | exact ho.elim | rfl | (cases ho; rfl)
  command := by rintro p _ l l' rfl hl; rw [forall2_mapPosL.1 hl]; rfl
  compound := by
    rintro p _ l l' r r' rfl hl hr; rw [forall2_mapPosL.1 hl, forall2_mapPosL.1 hr]; rfl
  whileN := by rintro p _ l l' rfl hl; rw [forall2_mapPosL.1 hl]; rfl
  untilN := by rintro p _ l l' rfl hl; rw [forall2_mapPosL.1 hl]; rfl
  forN := by rintro p _ l l' rfl hl; rw [forall2_mapPosL.1 hl]; rfl
  caseN := by rintro p _ l l' rfl hl; rw [forall2_mapPosL.1 hl]; rfl
  ifN := by rintro p _ l l' rfl hl; rw [forall2_mapPosL.1 hl]; rfl
  unimplemented := by rintro p _ l l' rfl hl; rw [forall2_mapPosL.1 hl]; rfl
  function := by rintro p _ l l' a b rfl hl; rw [forall2_mapPosL.1 hl]; rfl
  pattern := by rintro p _ l l' rfl hl; rw [forall2_mapPosL.1 hl]; rfl
  list := by rintro p _ l l' rfl hl; rw [forall2_mapPosL.1 hl]; rfl
  pipeline := by rintro p _ l l' rfl hl; rw [forall2_mapPosL.1 hl]; rfl
  compoundInv := by
    rintro p l r _ rfl
    exact ⟨_, _, _, rfl, rfl, forall2_mapPosL.2 rfl, forall2_mapPosL.2 rfl⟩
  pipelineInv := by rintro p l _ rfl; exact ⟨_, _, rfl, forall2_mapPosL.2 rfl⟩
  reservedInv := by rintro p w _ rfl; exact ⟨_, rfl⟩
  operatorInv := by rintro p o _ rfl; exact ⟨_, rfl, rfl⟩
  isCompound := by rintro a _ rfl; cases a <;> rfl
  isPipeline := by rintro a _ rfl; cases a <;> rfl
  isReserved := by rintro a _ rfl; cases a <;> rfl
  isOperator := by rintro a _ rfl; cases a <;> rfl
  isWord := by rintro a _ rfl; cases a <;> rfl

variable {φ : Span → Span} {Q P : Token → Prop} {hc hsp}

/-- `S` of a graph relation is the graph of `mapSVal` -/
theorem graphRel_S {v v' : SVal} :
    (graphRel φ Q P hc hsp).S v v' ↔ v' = mapSVal φ v ∧ ∀ t, v = .tok t → Q t := by
  constructor
  · intro h
    rcases S_cases h with ⟨rfl, rfl⟩ | ⟨t, _, rfl, rfl, rfl, hq⟩ | ⟨a, _, rfl, rfl, rfl⟩ |
      ⟨l, l', rfl, rfl, hl⟩
    · exact ⟨rfl, fun t ht => by cases ht⟩
    · exact ⟨rfl, fun t ht => by cases ht; exact hq⟩
    · exact ⟨rfl, fun t ht => by cases ht⟩
    · exact ⟨by rw [forall2_mapPosL.1 hl]; rfl, fun t ht => by cases ht⟩
  · rintro ⟨rfl, hq⟩
    cases v with
    | none => trivial
    | tok t => exact ⟨rfl, hq t rfl⟩
    | node a => exact rfl
    | nodes l => exact forall2_mapPosL.2 rfl

theorem graphRel_args {args : List SVal} (hq : ∀ a ∈ args, ∀ t, a = .tok t → Q t) :
    ArgsR (graphRel φ Q P hc hsp) args (args.map (mapSVal φ)) := by
  induction args with
  | nil => exact .nil
  | cons a t ih =>
    exact .cons (graphRel_S.2 ⟨rfl, hq a List.mem_cons_self⟩)
      (ih fun a ha => hq a (List.mem_cons_of_mem _ ha))

end Bashlex.ActParam
