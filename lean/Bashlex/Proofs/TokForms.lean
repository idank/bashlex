/-
  Staged forms of the tokenizer functions with many independent conditionals.

  `_parse_matched_pair`'s loop body and the end of `_readtokenword` decide a dozen things that do
  not touch the parser state.  Unfolded as they stand, a proof that follows their control flow
  meets every combination of those decisions (over a hundred paths each).  Here the decisions are
  collected in pure functions (`mpStep`, `fwToken`), and the model's functions are shown equal to
  "the effects, then the pure function":

  * `mpPre_eq`:      `mpPre` = `_getc`, the end-of-input error, `pure (mpStep ..)`; what the step does
                     to `ret` and the counter is `mpStep_R`;
  * `finishWord_eq`: `finishWord` = `fwHead` (NUMBER, `in`/`do`/`esac`, reserved words: the model's
                     text) followed by `fwWord` (one exception, one state update, `pure (fwToken ..)`);
  * `readtokenwordStep_eq`: one iteration of `_readtokenword`'s loop = the dispatch on the character
                     in hand, then `rwBreak` (`if not gotonext:`), then `rwTail` (the next `_getc`).

  The pure functions are written in the model's own words: the text of the model is instantiated at
  the identity monad, and `ite_pure` moves `pure` out of the conditionals.

  `_parse_comsub`'s iteration asks for syntax classes and looks ahead between its decisions, so it
  has no such form.  Its pieces `csA`, `csB`, `csC` (and `readtokenMeta`, `_readtoken`) are cut at
  their join points instead: each block after the first is a function of its own with the model's
  text (`csA2`, `csA3`, `csBmid`, `csBpeek`, `csCtail`, ..), so that a walk through a block ends at
  a call of the next one instead of repeating it on every path.
-/
import Bashlex.Proofs.Hoare
import Bashlex.Model.Tokenizer

namespace Bashlex
open Bashlex.M

/-- the end of `mpStepM`: backslash, the state of `${…}` -/
def mpTailM {m : Type → Type} [Monad m] (P : MPParams) (st : MPState) (c : Char) : m (Step MPState) := do
  let mut st := st
  if c == '\\' then st := { st with passnextchar := true }
  if P.dolbrace then
    if st.dolbracestate == .param then
      if st.ret.length > 1 then
        if c == '%' || c == '#' || c == '^' || c == ',' then st := { st with dolbracestate := .quote }
        else if c == '/' then st := { st with dolbracestate := .quote2 }
      else if isDolOp c then st := { st with dolbracestate := .op }
    if st.dolbracestate == .op && isDolOp c then st := { st with dolbracestate := .word }
  if st.dolbracestate.notInQuote2 && P.dquote && P.dolbrace && c == '\'' then
    return .cont st
  return .next st c

/-- what `mpPre` does with the character it has read -/
def mpStepM {m : Type → Type} [Monad m] (P : MPParams) (lookforcomments : Bool) (st : MPState) (c : Char) :
    m (Step MPState) := do
  let mut st := st
  if st.insidecomment then
    st := { st with ret := st.ret ++ [c] }
    if c == '\n' then st := { st with insidecomment := false }
    return .cont st
  else if lookforcomments && !st.insidecomment && c == '#' &&
      (st.ret.isEmpty || st.ret.getLast? == some '\n' || (st.ret.getLast?.map shellblank).getD false) then
    st := { st with insidecomment := true }
  if st.passnextchar then
    return .cont { st with passnextchar := false, ret := st.ret ++ [c] }
  else if c == P.close then
    st := { st with count := st.count - 1 }
  else if P.opn != P.close && st.sawdollar && P.opn == '{' && c == P.opn then
    st := { st with count := st.count + 1 }
  else if !P.firstclose && c == P.opn then
    st := { st with count := st.count + 1 }
  st := { st with ret := st.ret ++ [c] }
  if st.count == 0 then return .done st.ret
  if P.opn == '\'' then
    if P.allowesc && c == '\\' then st := { st with passnextchar := true }
    return .cont st
  mpTailM P st c

/-- first half of `mpPre_eq`: after the character is read, the text of `mpPre` is `mpStepM` (its
    own text at any monad); the second half, `mpStepM_pure`, makes that `pure (mpStep ..)` -/
theorem mpPre_eq0 (P : MPParams) (lfc : Bool) (st : MPState) :
    mpPre P lfc st = (do
      let c0 ← getc (P.doublequotes != some '\'' && !st.passnextchar)
      let c ← match c0 with
        | none => matchedPairError P.close
        | some c => pure c
      mpStepM P lfc st c) := by
  unfold mpPre mpStepM mpTailM
  rfl

theorem ite_pure {m : Type → Type} [Monad m] {α : Type} (c : Prop) [Decidable c] (a b : α) :
    (if c then (pure a : m α) else pure b) = pure (if c then a else b) := by
  split <;> rfl

/-- the end of the step: it touches `passnextchar` and the state of `${…}` only -/
def mpStepTail (P : MPParams) (st : MPState) (c : Char) : Step MPState :=
  Id.run (mpTailM P st c)

def mpStep (P : MPParams) (lfc : Bool) (st : MPState) (c : Char) : Step MPState :=
  Id.run (mpStepM P lfc st c)

theorem mpTailM_pure {m : Type → Type} [Monad m] (P : MPParams) (st : MPState) (c : Char) :
    (mpTailM P st c : m _) = pure (mpStepTail P st c) := by
  unfold mpStepTail mpTailM
  simp only [ite_pure]
  rfl

theorem mpStepM_pure {m : Type → Type} [Monad m] (P : MPParams) (lfc : Bool) (st : MPState) (c : Char) :
    (mpStepM P lfc st c : m _) = pure (mpStep P lfc st c) := by
  unfold mpStep mpStepM
  simp only [mpTailM_pure, ite_pure]
  rfl

/-! ### what the step does to `ret` and the counter -/

/-- the state keeps `ret` and `count` -/
abbrev MKeep (st : MPState) (c : Char) (r : Step MPState) : Prop :=
  match r with
  | .cont s => s.ret = st.ret ∧ s.count = st.count
  | .next s c' => c' = c ∧ s.ret = st.ret ∧ s.count = st.count
  | .done _ => False

/-- what one iteration does to the state: the character is appended; the scan ends on the
    closing character only -/
abbrev MPreR (P : MPParams) (st : MPState) (c : Char) (r : Step MPState) : Prop :=
  match r with
  | .cont s => s.ret = st.ret ++ [c] ∧ (st.count ≠ 0 → s.count ≠ 0)
  | .next s c' => c' = c ∧ s.ret = st.ret ++ [c] ∧ (st.count ≠ 0 → s.count ≠ 0)
  | .done r => r = st.ret ++ [c] ∧ (st.count ≠ 0 → c = P.close)

theorem mkeep_mpre {P : MPParams} {st st1 : MPState} {c : Char} {r : Step MPState}
    (h : MKeep st1 c r) (h1 : st1.ret = st.ret ++ [c]) (h2 : st.count ≠ 0 → st1.count ≠ 0) :
    MPreR P st c r := by
  cases r with
  | cont s => exact ⟨h.1.trans h1, fun h0 => by rw [h.2]; exact h2 h0⟩
  | next s c' => exact ⟨h.1, h.2.1.trans h1, fun h0 => by rw [h.2.2]; exact h2 h0⟩
  | done r => exact h.elim

/-- join point by join point: every stage keeps `ret` and `count` -/
theorem mpStepTail_keep (P : MPParams) (st : MPState) (c : Char) : MKeep st c (mpStepTail P st c) := by
  unfold mpStepTail mpTailM
  extract_lets st0 jp2 jp1 jp0 st1
  have k2 : ∀ s : MPState, s.ret = st.ret ∧ s.count = st.count → MKeep st c (jp2 () s).run := by
    intro s hs
    simp only [jp2]
    split
    · exact hs
    · exact ⟨rfl, hs⟩
  have k1 : ∀ s : MPState, s.ret = st.ret ∧ s.count = st.count → MKeep st c (jp1 () s).run := by
    intro s hs
    simp only [jp1]
    split <;> exact k2 _ hs
  have k0 : ∀ s : MPState, s.ret = st.ret ∧ s.count = st.count → MKeep st c (jp0 () s).run := by
    intro s hs
    simp only [jp0]
    repeat' split
    all_goals first | exact k1 _ hs | exact k2 _ hs
  split <;> exact k0 _ ⟨rfl, rfl⟩

/-- the one fact about the step: the tail is opaque here (`mpStepTail_keep`) -/
theorem mpStep_R (P : MPParams) (lfc : Bool) (st : MPState) (c : Char) :
    MPreR P st c (mpStep P lfc st c) := by
  unfold mpStep mpStepM
  extract_lets st0 jp3 jp2 jp1 st1 jp st2 st3
  have k2 : ∀ s : MPState, s.ret = st.ret → (s.count = 0 → st.count ≠ 0 → c = P.close) →
      MPreR P st c (jp2 () s).run := by
    intro s h1 h2
    simp only [jp2, jp3]
    split
    · rename_i h0
      exact ⟨by rw [h1], h2 (by simpa using h0)⟩
    · rename_i h0
      have hc : st.count ≠ 0 → s.count ≠ 0 := fun _ => by simpa using h0
      split
      · split <;> exact ⟨by rw [h1], hc⟩
      · exact mkeep_mpre (mpStepTail_keep P _ c) (by rw [h1]) hc
  have k1 : ∀ s : MPState, s.ret = st.ret → s.count = st.count → MPreR P st c (jp1 () s).run := by
    intro s h1 h2
    simp only [jp1]
    split
    · exact ⟨by rw [h1], fun h => by rw [h2]; exact h⟩
    split
    · rename_i hc
      exact k2 _ h1 (fun _ _ => by simpa using hc)
    split
    · exact k2 _ h1 (fun h => absurd h (Nat.succ_ne_zero _))
    split
    · exact k2 _ h1 (fun h => absurd h (Nat.succ_ne_zero _))
    · exact k2 _ h1 (fun h h' => absurd (h2 ▸ h) h')
  split
  · split <;> exact ⟨rfl, fun h => h⟩
  · split <;> exact k1 _ rfl rfl

/-! ## `finishWord` -/

/-- `{name}` directly before a redirection operator -/
def fwBraceRedir (st : RWState) : Bool :=
  st.tokenword.head? == some '{' && st.tokenword.getLast? == some '}' &&
    (st.c == some '<' || st.c == some '>')

/-- the WORD token: flags, REDIR_WORD, ASSIGNMENT_WORD -/
def fwToken (st : RWState) (l : Local) (asg : Bool) (tok : Token) : Token := Id.run do
  let mut tok := tok
  if st.dollarPresent then tok := { tok with flags := addFlag tok.flags .HASDOLLAR }
  if st.quoted then tok := { tok with flags := addFlag tok.flags .QUOTED }
  if asg then
    tok := { tok with flags := addFlag tok.flags .ASSIGNMENT }
    if assignmentAcceptable l l.lastReadToken then
      tok := { tok with flags := addFlag tok.flags .NOSPLIT }
      if l.ps.compassign then tok := { tok with flags := addFlag tok.flags .NOGLOB }
  if fwBraceRedir st then
    if legalIdentifier (st.tokenword.drop 1) then
      tok := { tok with value := .str (st.tokenword.drop 1), ttype := some .REDIR_WORD }
    return tok
  if tok.flags.contains .ASSIGNMENT && tok.flags.contains .NOSPLIT then
    tok := { tok with ttype := some .ASSIGNMENT_WORD }
  return tok

/-- the last step of `finishWord`: after `function`, an opening brace is allowed -/
def fwEnd (fn : Bool) (tok : Token) : M Token := do
  (if fn then modify fun l => { l with ps := { l.ps with allowopnbrc := true } } else pure ())
  pure tok

/-- the end of `finishWord`, after the WORD token has been created: one possible exception, one
    possible state update, and the pure `fwToken` -/
def fwWord (st : RWState) (tok : Token) : M Token := do
  (if st.compoundAssignment then M.foreign "TypeError" "_readtokenword" else pure ())
  let l ← get
  let asg ← isAssignment st.tokenword
  fwEnd (!fwBraceRedir st && l.lastReadToken.is .FUNCTION) (fwToken st l asg tok)

/-- `finishWord` up to the creation of the WORD token -/
def fwHead (wordK : Token → M Token) (st : RWState) : M Token := do
  recordpos
  let tokenword := st.tokenword
  let cIsRedir := st.c == some '<' || st.c == some '>'
  let l ← get
  if st.allDigit && (cIsRedir || l.lastReadToken.is .LESS_AND || l.lastReadToken.is .GREATER_AND)
      && legalNumber tokenword then
    return ← createtoken .NUMBER (.int (digitsToNat tokenword))
  match ← specialcasetokens tokenword with
  | some ty => return ← createtoken ty (.str tokenword)
  | none => pure ()
  let l ← get
  if !st.dollarPresent && !st.quoted && reservedWordAcceptable l l.lastReadToken then
    match reservedFirstCommandChars.lookup tokenword with
    | some ttype =>
      let ps := l.ps
      if ps.casepat && ttype != .ESAC then pure ()
      else if ttype == .TIME && !timeCommandAcceptable then pure ()
      else if ttype == .ESAC then set { l with ps := { ps with casepat := false, casestmt := false } }
      else if ttype == .CASE then set { l with ps := { ps with casestmt := true } }
      else if ttype == .COND_END then set { l with ps := { ps with condcmd := false, condexpr := false } }
      else if ttype == .COND_START then set { l with ps := { ps with condcmd := true } }
      else if ttype == .LEFT_CURLY then set { l with openBraceCount := l.openBraceCount + 1 }
      else if ttype == .RIGHT_CURLY && l.openBraceCount != 0 then
        set { l with openBraceCount := l.openBraceCount - 1 }
      return ← createtoken ttype (.str tokenword)
    | none => pure ()
  let tok ← createtoken .WORD (.str tokenword) []
  wordK tok

/-- the model's text for the end of `finishWord` -/
def fwWordModel (st : RWState) (tok : Token) : M Token := do
  let tokenword := st.tokenword
  let cIsRedir := st.c == some '<' || st.c == some '>'
  let mut tok := tok
  if st.dollarPresent then tok := { tok with flags := addFlag tok.flags .HASDOLLAR }
  if st.quoted then tok := { tok with flags := addFlag tok.flags .QUOTED }
  if st.compoundAssignment then M.foreign "TypeError" "_readtokenword"
  let l ← get
  if ← isAssignment tokenword then
    tok := { tok with flags := addFlag tok.flags .ASSIGNMENT }
    if assignmentAcceptable l l.lastReadToken then
      tok := { tok with flags := addFlag tok.flags .NOSPLIT }
      if l.ps.compassign then tok := { tok with flags := addFlag tok.flags .NOGLOB }
  let _ := commandTokenPosition l l.lastReadToken
  if tokenword.head? == some '{' && tokenword.getLast? == some '}' && cIsRedir then
    if legalIdentifier (tokenword.drop 1) then
      tok := { tok with value := .str (tokenword.drop 1), ttype := some .REDIR_WORD }
    return tok
  if tok.flags.contains .ASSIGNMENT && tok.flags.contains .NOSPLIT then
    tok := { tok with ttype := some .ASSIGNMENT_WORD }
  if l.lastReadToken.is .FUNCTION then
    modify fun l => { l with ps := { l.ps with allowopnbrc := true } }
  return tok

theorem foreign_bind {α β : Type} (a b : String) (k : α → M β) :
    (M.foreign a b >>= k) = M.foreign a b := rfl

theorem fwEnd_def (fn : Bool) (tok : Token) :
    fwEnd fn tok = if fn = true then (do
      modify fun l => { l with ps := { l.ps with allowopnbrc := true } }
      pure tok) else pure tok := by
  cases fn <;> rfl

theorem ite_fwEnd (c : Prop) [Decidable c] (fn : Bool) (a b : Token) :
    (if c then fwEnd fn a else fwEnd fn b) = fwEnd fn (if c then a else b) := by
  split <;> rfl

theorem fwWordModel_eq (st : RWState) (tok : Token) : fwWordModel st tok = fwWord st tok := by
  unfold fwWordModel fwWord fwToken fwBraceRedir fwEnd
  cases st.compoundAssignment
  · cases st.dollarPresent <;> cases st.quoted <;>
    simp only [Bool.false_eq_true, if_false, if_true, pure_bind] <;>
    refine congrArg _ (funext fun l => congrArg _ (funext fun asg => ?_)) <;>
    generalize (st.tokenword.head? == some '{' && st.tokenword.getLast? == some '}' &&
      (st.c == some '<' || st.c == some '>')) = br <;>
    cases br <;>
    simp only [Bool.false_eq_true, if_false, if_true, Bool.not_false, Bool.not_true, Bool.true_and,
      Bool.false_and, Id.run, ← fwEnd_def, ite_fwEnd, ite_pure]
    all_goals rfl
  · simp only [if_true, foreign_bind]
    cases st.dollarPresent <;> cases st.quoted <;> rfl

/-- `finishWord` in stages -/
theorem finishWord_eq (st : RWState) : finishWord st = fwHead (fwWord st) st := by
  have h0 : finishWord st = fwHead (fwWordModel st) st := by
    unfold finishWord fwHead fwWordModel
    rfl
  rw [h0]
  exact congrArg (fwHead · st) (funext (fwWordModel_eq st))

theorem mpPre_eq (P : MPParams) (lfc : Bool) (st : MPState) :
    mpPre P lfc st = (do
      let c0 ← getc (P.doublequotes != some '\'' && !st.passnextchar)
      let c ← match c0 with
        | none => matchedPairError P.close
        | some c => pure c
      pure (mpStep P lfc st c)) := by
  rw [mpPre_eq0]
  simp only [mpStepM_pure]

/-! ## `readtokenMeta`, `_readtoken`, cut at their join points -/

/-- `readtokenMeta` when no two-character operator was found, from `self._ungetc(peek_char)` on -/
def readtokenMetaRest (character : Char) (peek : Option Char) : M (Option TokType) := do
  ungetc peek
  let l ← get
  if character == ')' && l.lastReadToken.value == .str ['('] && l.tokenBeforeThat.is .WORD then
    modify fun l => { l with ps := { l.ps with allowopnbrc := true } }
  let l ← get
  if character == '(' && !l.ps.casepat then
    set { l with ps := { l.ps with subshell := true } }
  else if l.ps.casepat && character == ')' then
    set { l with ps := { l.ps with casepat := false } }
  else if l.ps.subshell && character == ')' then
    set { l with ps := { l.ps with subshell := false } }
  if !(character == '<' || character == '>') || peek != some '(' then
    return some (← tokentypeOfChar character)
  return none

theorem readtokenMeta_cut (character : Char) :
    readtokenMeta character = (do
      modify fun l => { l with ps := { l.ps with assignok := false } }
      let peek ← getc true
      if peek == some character then
        if character == '<' then
          let p ← getc
          if p == some '-' then return some .LESS_LESS_MINUS
          else if p == some '<' then return some .LESS_LESS_LESS
          else
            ungetc p
            return some .LESS_LESS
        else if character == '>' then return some .GREATER_GREATER
        else if character == ';' then
          modify fun l => { l with ps := { l.ps with casepat := true } }
          let p ← getc
          if p == some '&' then return some .SEMI_SEMI_AND
          else
            ungetc p
            return some .SEMI_SEMI
        else if character == '&' then return some .AND_AND
        else if character == '|' then return some .OR_OR
      else if character == '<' && peek == some '&' then return some .LESS_AND
      else if character == '>' && peek == some '&' then return some .GREATER_AND
      else if character == '<' && peek == some '>' then return some .LESS_GREATER
      else if character == '>' && peek == some '|' then return some .GREATER_BAR
      else if character == '&' && peek == some '>' then
        let p ← getc
        if p == some '>' then return some .AND_GREATER_GREATER
        else
          ungetc p
          return some .AND_GREATER
      else if character == '|' && peek == some '&' then return some .BAR_AND
      else if character == ';' && peek == some '&' then return some .SEMI_AND
      readtokenMetaRest character peek) := by
  unfold readtokenMeta readtokenMetaRest
  rfl

/-- `_readtoken` from `self._recordpos(1)` on, `character` being the first character of the token
    (a comment has been replaced by its newline) -/
def readtokenFrom (character : Char) : M (TokType ⊕ Token) := do
  recordpos 1
  if character == '\n' then
    gatherheredocuments
    modify fun l => { l with ps := { l.ps with assignok := false } }
    return .inl (← tokentypeOfChar character)
  if (← get).ps.regexp then
    return .inr (← readtokenword character)
  if (← shellmeta character) && !(← get).ps.dblparen then
    match ← readtokenMeta character with
    | some t => return .inl t
    | none => pure ()
  let l ← get
  if character == '-' && (l.lastReadToken.is .LESS_AND || l.lastReadToken.is .GREATER_AND) then
    return .inl (← tokentypeOfChar character)
  return .inr (← readtokenword character)

theorem readtoken_cut : readtoken = (do
    let fuel ← loopFuel
    let c0 ← getc true
    let c1 ← M.loop "_readtoken" (fun (c : Option Char) => do
      match c with
      | some ch => if shellblank ch then return .inl (← getc true) else return .inr c
      | none => return .inr c) fuel c0
    let mut character ← match c1 with
      | none => return .inr { ttype := some .EOF, value := .none }
      | some ch => pure ch
    if character == '#' then
      discardUntil '\n'
      let _ ← getc false
      character := '\n'
    readtokenFrom character) := by
  unfold readtoken readtokenFrom
  rfl

end Bashlex

namespace Bashlex.C04.TTP
open Bashlex Bashlex.M

/-! ## one iteration of `_readtokenword`'s loop, cut at its two join points -/

/-- the end of an iteration: read the next character -/
def rwTail (st : RWState) : M (RWState ⊕ RWState) := do
  let cd ← currentDelimiter
  let nc ← getc (cd != some '\'' && !st.passNext)
  return .inl { st with c := nc }

/-- `if not gotonext:` -/
def rwBreak (st : RWState) (c : Char) (gotonext : Bool) : M (RWState ⊕ RWState) :=
  if !gotonext then do
    if ← shellbreak c then
      ungetc (some c)
      return .inr { st with c := some c }
    else rwTail (handleescapedchar st c)
  else rwTail st

/-- the condition of the `elif` after a backslash: outside quotes and in backquotes always, in
    double quotes if the next character is special there -/
def rwCond (cd peek : Option Char) : M Bool := do
  if cd.isNone || cd == some '`' then pure true
  else if cd == some '"' then
    match peek with
    | none => pure false
    | some p => pure (← syn p).dquote
  else pure false

theorem readtokenwordStep_eq (st : RWState) : readtokenwordStep st =
    (match st.c with
    | none => pure (.inr st)
    | some c0 =>
      if st.passNext then rwTail (handleescapedchar { st with passNext := false } c0)
      else do
        let cd ← currentDelimiter
        if c0 == '\\' then do
          let peek ← getc false
          if peek == some '\n' then rwBreak st '\n' true
          else do
            ungetc peek
            let cond ← rwCond cd peek
            if cond then
              rwBreak (handleescapedchar { st with passNext := true, quoted := true } c0) c0 true
            else rwBreak st c0 false
        else do
          if ← shellquote c0 then do
            let st ← handleshellquote st c0
            rwBreak st c0 true
          else do
            if ← shellexp c0 then do
              let x ← handleshellexp st c0 cd
              rwBreak x.1 c0 (!x.2)
            else rwBreak st c0 false) := by
  unfold readtokenwordStep rwBreak rwTail rwCond
  rfl


/-! ## `csA`, `csB`, `csC` of `_parse_comsub`, cut at their join points; `csD` is pure -/

/-- `csA` from the test for a comment or here-document on: no effect -/
def csA3 (st : CSState) (c : Char) : M (Step CSState) := do
  let mut st := st
  if st.insidecomment || st.insideheredoc then
    st := { st with ret := st.ret ++ [c] }
    if st.insidecomment && c == '\n' then st := { st with insidecomment := false }
    return .cont st
  if st.passnextchar then
    return .cont { st with passnextchar := false, ret := st.ret ++ [c] }
  return .next st c

/-- `csA` from the test for the closing character inside a here-document on -/
def csA2 (P : CSParams) (st : CSState) (c : Char) : M (Step CSState) := do
  let mut st := st
  if st.insideheredoc && c == P.close && st.count == 1 then
    if ← csDelimMatches st then st := csEndHeredoc st
  csA3 st c

/-- `csA` after its `_getc` -/
def csArest (P : CSParams) (st : CSState) (c : Char) : M (Step CSState) := do
  let mut st := st
  if c == '\n' then
    if st.readingheredocdelim && !st.heredelim.isEmpty then
      st := { st with readingheredocdelim := false, insideheredoc := true,
                      lexfirstind := (st.ret.length : Int) + 1 }
    else if st.insideheredoc then
      if ← csDelimMatches st then st := csEndHeredoc st
      else st := { st with lexfirstind := (st.ret.length : Int) + 1 }
  csA2 P st c

theorem csA_eq (P : CSParams) (st : CSState) : csA P st = (do
    let c0 ← getc (P.doublequotes != some '\'' && !st.insidecomment && !st.passnextchar)
    let c ← match c0 with
      | none => matchedPairError P.close
      | some c => pure c
    csArest P st c) := by
  unfold csA csArest csA2 csA3
  rfl

/-- `csB` from the `not reservedwordok and checkcase` block on: the look-ahead for `;;`, `&&`, `||` -/
def csBpeek (checkcase : Bool) (st : CSState) (c : Char) : M (Step CSState) := do
  let mut st := st
  if !st.reservedwordok && checkcase && !st.insidecomment && ((← shellmeta c) || c == '\n') then
    st := { st with ret := st.ret ++ [c] }
    let peek ← getc true
    if some c == peek && isAndOrSemi c then
      return .cont { st with ret := st.ret ++ [c], reservedwordok := true, lexrwlen := 0 }
    else if c == '\n' || isAndOrSemi c then
      ungetc peek
      return .cont { st with reservedwordok := true, lexrwlen := 0 }
    else
      st := { st with ret := pyDropLastN st.ret 1 }
      ungetc peek
  return .next st c

/-- `csB` from the test for a blank on -/
def csBmid (checkcase : Bool) (st : CSState) (c : Char) : M (Step CSState) := do
  let mut st := st
  if shellblank c && !st.readingheredocdelim && st.lexrwlen == 0 then
    return .cont { st with ret := st.ret ++ [c] }
  if st.readingheredocdelim then
    if st.lexfirstind == -1 && !(← shellbreak c) then
      st := { st with lexfirstind := (st.ret.length : Int) }
    else if st.lexfirstind ≥ 0 && !st.passnextchar && (← shellbreak c) then
      if st.heredelim.isEmpty then
        let nestret := pySliceFromInt st.ret st.lexfirstind
        st := { st with heredelim := removequotes nestret }
      if c == '\n' then
        st := { st with insideheredoc := true, readingheredocdelim := false,
                        lexfirstind := (st.ret.length : Int) + 1 }
      else
        st := { st with lexfirstind := -1 }
  csBpeek checkcase st c

/-- `csB`: the word bookkeeping, then `csBmid` -/
def csBhead (checkcase : Bool) (st : CSState) (c : Char) : M (Step CSState) := do
  let mut st := st
  if ← shellbreak c then
    st := { st with insideword := false }
  else
    if st.insideword then
      match st.lexwlen with
      | none => M.foreign "UnboundLocalError" "_parse_comsub"
      | some n => st := { st with lexwlen := some (n + 1) }
    else
      st := { st with insideword := true, lexwlen := some 0 }
  csBmid checkcase st c

theorem csB_eq (b : Bool) (st : CSState) (c : Char) : csB b st c = csBhead b st c := by
  unfold csB csBhead csBmid csBpeek
  rfl

/-- `csC` from the `<` / `#` block on: the look-aheads for `<<`, `<<-` -/
def csCtail (P : CSParams) (checkcase : Bool) (st : CSState) (c : Char) : M (Step CSState) := do
  let checkcomment := checkcase
  let mut st := st
  if !st.insidecomment && checkcase && c == '<' then
    st := { st with ret := st.ret ++ [c] }
    let peek0 ← getc true
    let peek ← match peek0 with
      | none => matchedPairError P.close
      | some p => pure p
    if peek == c then
      st := { st with ret := st.ret ++ [peek] }
      let peek20 ← getc true
      let peek2 ← match peek20 with
        | none => matchedPairError P.close
        | some p => pure p
      if peek2 == '-' then
        st := { st with ret := st.ret ++ [peek2], stripdoc := true }
      else
        ungetc (some peek2)
      if peek2 != '<' then
        st := { st with readingheredocdelim := true, lexfirstind := -1 }
      return .cont st
    else
      return .next st peek
  else if checkcomment && !st.insidecomment && c == '#' then
    let b ← (do
      if st.reservedwordok && st.lexrwlen == 0 then pure true
      else if st.insideword then pure true
      else match st.lexwlen with
        | none => M.foreign "UnboundLocalError" "_parse_comsub"
        | some n => pure (n == 0) : M Bool)
    if b then st := { st with insidecomment := true }
  return .next st c

/-- `csC`: the `if reservedwordok:` block, then `csCtail` -/
def csChead (P : CSParams) (checkcase : Bool) (st : CSState) (c : Char) : M (Step CSState) := do
  let checkcomment := checkcase
  let mut st := st
  if st.reservedwordok then
    if isLowerAscii c then
      return .cont { st with ret := st.ret ++ [c], lexrwlen := st.lexrwlen + 1 }
    else if st.lexrwlen == 4 && (← shellbreak c) then
      if pyLastN st.ret 4 == ['c', 'a', 's', 'e'] then st := { st with insidecase := true }
      else if pyLastN st.ret 4 == ['e', 's', 'a', 'c'] then st := { st with insidecase := false }
      st := { st with reservedwordok := false }
    else if checkcomment && c == '#' &&
        (st.lexrwlen == 0 || (st.insideword && st.lexwlen == some 0)) then
      pure ()
    else if !st.insidecase && (shellblank c || c == '\n') && st.lexrwlen == 2 &&
        pyLastN st.ret 2 == ['d', 'o'] then
      st := { st with lexrwlen := 0 }
    else if st.insidecase && c != '\n' then
      st := { st with reservedwordok := false }
    else if !(← shellbreak c) then
      st := { st with reservedwordok := false }
  csCtail P checkcase st c

theorem csC_eq (P : CSParams) (b : Bool) (st : CSState) (c : Char) : csC P b st c = csChead P b st c := by
  unfold csC csChead csCtail
  rfl

/-- what `csD` does: the character is appended; the scan ends on the closing character only -/
abbrev CDR (P : CSParams) (st : CSState) (c : Char) (r : Step CSState) : Prop :=
  match r with
  | .done ret => ret = st.ret ++ [c] ∧ (st.count ≠ 0 → c = P.close)
  | .next s c' => c' = c ∧ s.ret = st.ret ++ [c] ∧ s.count ≠ 0
  | .cont _ => False

/-- `csD` as a pure function -/
def csDStep (P : CSParams) (st : CSState) (c : Char) : Step CSState := Id.run do
  let mut st := st
  if c == P.close && !st.insidecase then
    st := { st with count := st.count - 1 }
  else if !P.firstclose && !st.insidecase && c == P.opn then
    st := { st with count := st.count + 1 }
  st := { st with ret := st.ret ++ [c] }
  if st.count == 0 then return .done st.ret
  if c == '\\' then st := { st with passnextchar := true }
  return .next st c

theorem csD_pure (P : CSParams) (st : CSState) (c : Char) : csD P st c = pure (csDStep P st c) := by
  unfold csD csDStep
  simp only [ite_pure]
  rfl

theorem csDStep_R (P : CSParams) (st : CSState) (c : Char) : CDR P st c (csDStep P st c) := by
  unfold csDStep
  extract_lets st0 jp1 jp0 st1 st2
  have k0 : ∀ s : CSState, s.ret = st.ret → (s.count = 0 → st.count ≠ 0 → c = P.close) →
      CDR P st c (jp0 () s).run := by
    intro s h1 h2
    simp only [jp0, jp1]
    split
    · rename_i h0
      exact ⟨by rw [h1], h2 (by simpa using h0)⟩
    · rename_i h0
      split <;> exact ⟨rfl, by rw [h1], by simpa using h0⟩
  split
  · rename_i hc
    simp only [Bool.and_eq_true, beq_iff_eq] at hc
    exact k0 _ rfl (fun _ _ => hc.1)
  split
  · exact k0 _ rfl (fun h => absurd h (Nat.succ_ne_zero _))
  · exact k0 _ rfl (fun h h' => absurd h h')

end Bashlex.C04.TTP
