/-
  The semantic actions (`Model/Actions.lean`) walked once, for every predicate `X` on programs that
  survives `pure`, `bind` and reading the local state (`Reads` of `Proofs/Closed.lean`; every
  `Closed` predicate is one).
  What an action does beyond that is asked of `X`: the foreign exceptions the actions raise
  themselves (`actionSite`), `expandword` on the tokens among the arguments (so a fact about the
  arguments reaches the nested parser), `handleNotImplemented` (it asks for an option), and the three
  writes, each under the name of its action: the `eoftoken` flag (`p_inputunit`),
  `gatherheredocuments` (`p_simple_list`), the new pending here-document (`p_redirection_heredoc`).
  Last, the value: an action returns a token only if it hands on one of its arguments (`nt_action`).
-/
import Bashlex.Proofs.Closed
import Bashlex.Proofs.Hoare
import Bashlex.Model.Actions

namespace Bashlex
open Bashlex.M

/-- the sites at which the actions and their helpers raise a foreign exception -/
def actionSite (a b : String) : Bool :=
  a == "AttributeError" || a == "TypeError" || a == "NotModelled" ||
  (a == "IndexError" && ["_partsspan", "p_command", "p_function_def", "p_compound_list", "p_list0",
    "p_pipeline_command"].contains b) ||
  (a == "AssertionError" && ["handleAssert", "p_shell_command", "p_simple_list"].contains b)

section
variable {X : ∀ {α : Type}, M α → Prop} {XA : ∀ {α : Type}, Local → M α → Prop}
variable (C : Reads X XA)
include C

theorem rd_nodePos (n : Node) : X (nodePos n) := by
  unfold nodePos; split
  · exact C.get_bind fun _ => C.forget (by split <;> exact C.pure _)
  · exact C.pure _

variable (hF : ∀ {α : Type} {a b : String}, actionSite a b = true → X (M.foreign a b : M α))
include hF

theorem rd_tokAt (p : PCtx) (i : Nat) : X (p.tokAt i) := by
  unfold PCtx.tokAt; split
  · exact C.pure _
  · exact hF rfl

theorem rd_strAt (p : PCtx) (i : Nat) : X (p.strAt i) :=
  C.bind (rd_tokAt C hF p i) fun _ => C.pure _

theorem rd_nodeAt (p : PCtx) (i : Nat) (s : String) : X (p.nodeAt i s) := by
  unfold PCtx.nodeAt; split
  · exact C.pure _
  · exact hF rfl

theorem rd_nodesAt (p : PCtx) (i : Nat) (s : String) : X (p.nodesAt i s) := by
  unfold PCtx.nodesAt; split
  · exact C.pure _
  · exact hF rfl

theorem rd_partsspan (l : List Node) : X (partsspan l) := by
  unfold partsspan; split
  · exact C.bind (rd_nodePos C _) fun _ => C.bind (rd_nodePos C _) fun _ => C.pure _
  · exact hF rfl

theorem rd_reservedAt (p : PCtx) (i : Nat) : X (reservedAt p i) :=
  C.bind (rd_strAt C hF p i) fun _ => C.pure _

theorem rd_operatorAt (p : PCtx) (i : Nat) : X (operatorAt p i) :=
  C.bind (rd_strAt C hF p i) fun _ => C.pure _

theorem rd_handleAssert (b : Bool) : X (handleAssert b) := by
  unfold handleAssert; split
  · exact C.pure _
  · exact hF rfl

theorem rd_addRedirects (n : Node) (r : List Node) : X (addRedirects n r) := by
  unfold addRedirects
  refine C.bind (rd_handleAssert C hF _) fun _ => ?_
  split
  · extract_lets r'
    split
    · exact hF rfl
    · exact C.bind (rd_nodePos C _) fun _ => C.bind (rd_handleAssert C hF _) fun _ => C.pure _
  · exact hF rfl

theorem rd_mkCompound1 (inner : Span → List Node → Node) (l : List Node) : X (mkCompound1 inner l) :=
  C.bind (rd_partsspan C hF l) fun _ => C.pure _

theorem rd_joinLists (p : PCtx) (mk : Span → Str → Node) (s : String) : X (joinLists p mk s) :=
  C.ite (fun _ => C.bind (rd_nodeAt C hF _ _ _) fun _ => C.pure _)
    (fun _ => C.bind (rd_nodesAt C hF _ _ _) fun _ => C.bind (rd_nodesAt C hF _ _ _) fun _ =>
      C.bind (rd_strAt C hF _ _) fun _ => C.pure _)

variable {np : NestedParse} {args : List SVal}

omit C in
/-- the token at a position is one of the arguments: what is known of them reaches the continuation -/
theorem rd_tokAt_bind {β : Type} {k : Token → M β} (i : Nat)
    (hk : ∀ t, SVal.tok t ∈ args → X (k t)) : X (PCtx.tokAt ⟨np, args⟩ i >>= k) := by
  unfold PCtx.tokAt PCtx.slice
  simp only [List.getD_eq_getElem?_getD]
  -- what follows a raise is dead code: `M.foreign a b >>= k` reduces to `M.foreign a b`
  cases hx : args[i - 1]? with
  | none => exact hF rfl
  | some a =>
    cases a with
    | tok t => simp only [Option.getD_some, pure_bind]; exact hk t (List.mem_of_getElem? hx)
    | _ => exact hF rfl

variable (hW : ∀ t, SVal.tok t ∈ args → X (expandword np t))
include hW

omit hF in
theorem rd_makeparts : X (makeparts ⟨np, args⟩) := by
  unfold makeparts; simp only [bind_pure]
  refine C.forIn_mem _ _ (fun a ha b => ?_)
  cases a with
  | tok t =>
    simp only []
    exact C.ite (fun _ => C.bind (hW t ha) fun _ => C.pure _) (fun _ => C.pure _)
  | _ => simp only []; exact C.pure _

/-- for the predicates that let `proceed` be asked -/
theorem rd_handleNotImplemented (hop : X optProceed)
    (hni : ∀ {α : Type} (s : String), X (M.raise (.notImplemented s) : M α)) (ty : String) :
    X (handleNotImplemented ⟨np, args⟩ ty) :=
  C.bind hop fun _ => C.ite
    (fun _ => C.bind (rd_makeparts C hW) fun _ => C.bind (rd_partsspan C hF _) fun _ => C.pure _)
    (fun _ => hni _)

theorem rd_actionCore (hNI : ∀ ty, X (handleNotImplemented ⟨np, args⟩ ty)) (fname : String)
    (heof : fname = "p_inputunit" →
      X (modify fun l => { l with ps := { l.ps with eoftoken := true } } : M Unit))
    (hg : fname = "p_simple_list" → X gatherheredocuments)
    (hpush : fname = "p_redirection_heredoc" → ∀ {β : Type} {k : Unit → M β} (l0 : Local)
      (cell : RedirCell) (kill : Bool), X (k ()) →
      XA l0 ((MonadStateOf.set { l0 with
          store := l0.store ++ [cell]
          redirstack := l0.redirstack ++ [(l0.store.length, kill)] } : M Unit) >>= k)) :
    X (actionCore np fname args) := by
  have pr : ∀ {α : Type} {a : α}, X (Pure.pure a : M α) := C.pure _
  have tok := rd_tokAt C hF ⟨np, args⟩
  have strAt := rd_strAt C hF ⟨np, args⟩
  have nodeAt := rd_nodeAt C hF ⟨np, args⟩
  have nodesAt := rd_nodesAt C hF ⟨np, args⟩
  have res := rd_reservedAt C hF ⟨np, args⟩
  have span := rd_partsspan C hF
  have parts := rd_makeparts C hW
  have notImpl : ∀ ty, X (handleNotImplemented ⟨np, args⟩ ty >>= fun v => Pure.pure (v, false)) :=
    fun ty => C.bind (hNI ty) fun _ => pr
  have joined : ∀ mk s, X (joinLists ⟨np, args⟩ mk s >>= fun v => Pure.pure (v, false)) :=
    fun mk s => C.bind (rd_joinLists C hF _ mk s) fun _ => pr
  have fin : ∀ {α : Type} {k : Local → α},
      X ((MonadState.get : M Local) >>= fun l => Pure.pure (k l)) :=
    C.get_bind fun _ => C.forget pr
  have tw : ∀ i {k : Token → Node → M (SVal × Bool)}, (∀ t w, X (k t w)) →
      X (PCtx.tokAt ⟨np, args⟩ i >>= fun t => expandword np t >>= fun w => k t w) :=
    fun i _ hk => rd_tokAt_bind hF i fun t ht => C.bind (hW t ht) fun w => hk t w
  unfold actionCore
  dsimp only
  split
  case h_1 => -- p_inputunit
    refine C.get_bind fun _ => C.forget (C.ite
      (fun _ => C.bind (heof rfl) fun _ => ?_) (fun _ => ?_)) <;>
    (split <;> exact pr)
  case h_2 => -- p_word_list
    exact C.ite (fun _ => tw _ fun _ _ => pr)
      (fun _ => C.bind (nodesAt _ _) fun _ => tw _ fun _ _ => pr)
  case h_3 => -- p_redirection_heredoc
    refine C.bind (tok _) fun wtok => C.ite
      (fun _ => C.bind (strAt _) fun _ => C.bind pr fun _ => ?_)
      (fun _ => C.bind (tok _) fun _ => C.bind (strAt _) fun _ => C.bind pr fun _ => ?_) <;>
    exact C.get_bind fun l0 => hpush rfl l0 _ _ pr
  case h_4 => -- p_redirection
    refine rd_tokAt_bind hF _ fun otok ht => C.ite
      (fun _ => C.bind (hW otok ht) fun _ => C.bind pr fun _ => ?_)
      (fun _ => C.bind pr fun _ => ?_) <;>
    exact C.ite (fun _ => C.bind (strAt _) fun _ => pr)
      (fun _ => C.bind (tok _) fun _ => C.bind (strAt _) fun _ => pr)
  case h_5 => -- p_simple_command_element
    split
    · exact pr
    · refine tw _ fun t w => C.ite (fun _ => ?_) (fun _ => pr)
      split <;> exact pr
  case h_6 => -- p_redirection_list
    exact C.ite (fun _ => C.bind (nodeAt _ _) fun _ => pr)
      (fun _ => C.bind (nodesAt _ _) fun _ => C.bind (nodeAt _ _) fun _ => pr)
  case h_7 => -- p_simple_command
    exact C.ite (fun _ => C.bind (nodesAt _ _) fun _ => C.bind (nodesAt _ _) fun _ => pr) (fun _ => pr)
  case h_8 => -- p_command
    split
    · exact C.ite (fun _ => C.bind (nodesAt _ _) fun _ => C.bind (rd_addRedirects C hF _ _) fun _ => pr)
        (fun _ => pr)
    · exact C.bind (nodesAt _ _) fun _ => C.bind (span _) fun _ => pr
  case h_9 => -- p_shell_command
    refine C.ite (fun _ => C.bind (nodeAt _ _) fun _ => C.bind (rd_handleAssert C hF _) fun _ => pr)
      (fun _ => C.bind parts fun _ => ?_)
    split
    · exact C.bind (span _) fun _ => C.ite (fun _ => pr)
        (fun _ => C.ite (fun _ => pr) (fun _ => hF rfl))
    · exact hF rfl
  case h_10 => exact C.bind parts fun _ => C.bind (rd_mkCompound1 C hF _ _) fun _ => pr -- p_for_command
  case h_11 => exact notImpl _ -- p_arith_for_command
  case h_12 => exact notImpl _ -- p_select_command
  case h_13 => exact C.bind parts fun _ => C.bind (rd_mkCompound1 C hF _ _) fun _ => pr -- p_case_command
  case h_14 => -- p_function_def
    exact C.bind parts fun _ => C.ite
      (fun _ => C.bind (hF rfl) fun _ => C.bind (span _) fun _ => pr)
      (fun _ => C.bind (span _) fun _ => pr)
  case h_15 => -- p_function_body
    exact C.bind (nodeAt _ _) fun _ => C.bind (rd_handleAssert C hF _) fun _ => C.ite
      (fun _ => C.bind (nodesAt _ _) fun _ => C.bind (rd_addRedirects C hF _ _) fun _ => pr) (fun _ => pr)
  case h_16 => -- p_subshell
    exact C.bind (res _) fun _ => C.bind (res _) fun _ => C.bind (nodeAt _ _) fun _ =>
      C.bind (span _) fun _ => pr
  case h_17 => -- p_group_command
    exact C.bind (res _) fun _ => C.bind (res _) fun _ => C.bind (nodeAt _ _) fun _ =>
      C.bind (span _) fun _ => pr
  case h_18 => exact notImpl _ -- p_coproc
  case h_19 => exact C.bind parts fun _ => C.bind (rd_mkCompound1 C hF _ _) fun _ => pr -- p_if_command
  case h_20 => exact notImpl _ -- p_arith_command
  case h_21 => exact notImpl _ -- p_cond_command
  case h_22 => exact C.bind (C.forIn (fun a _ => by split <;> exact pr) _ _) fun _ => pr -- p_elif_clause
  case h_23 => -- p_case_clause
    exact C.ite (fun _ => C.bind (nodeAt _ _) fun _ => pr)
      (fun _ => C.bind (nodesAt _ _) fun _ => C.bind (nodeAt _ _) fun _ => pr)
  case h_24 => -- p_pattern_list
    exact C.ite
      (fun _ => C.bind (nodesAt _ _) fun _ => C.bind (span _) fun _ => C.bind (res _) fun _ =>
        C.bind pr fun _ => C.bind (span _) fun _ => pr)
      (fun _ => C.bind (nodesAt _ _) fun _ => C.bind (res _) fun _ => C.bind (span _) fun _ =>
        C.bind (res _) fun _ => C.bind pr fun _ => C.bind (span _) fun _ => pr)
  case h_25 => -- p_case_clause_sequence
    exact C.ite (fun _ => C.bind (nodeAt _ _) fun _ => C.bind (res _) fun _ => pr)
      (fun _ => C.bind (nodesAt _ _) fun _ => C.bind (nodeAt _ _) fun _ => C.bind (res _) fun _ => pr)
  case h_26 => -- p_pattern
    exact C.ite (fun _ => tw _ fun _ _ => pr)
      (fun _ => C.bind (nodesAt _ _) fun _ => C.bind (res _) fun _ => tw _ fun _ _ => pr)
  case h_27 => exact pr -- p_list
  case h_28 => -- p_compound_list
    refine C.ite (fun _ => pr) (fun _ => C.bind (nodesAt _ _) fun _ =>
      C.ite (fun _ => C.bind (span _) fun _ => pr) (fun _ => ?_))
    split
    · exact pr
    · exact hF rfl
  case h_29 => -- p_list0
    refine C.bind (nodesAt _ _) fun _ => C.ite
      (fun _ => C.bind (rd_operatorAt C hF _ _) fun _ => C.bind (span _) fun _ => pr) (fun _ => ?_)
    split
    · exact pr
    · exact hF rfl
  case h_30 => exact joined _ _ -- p_list1
  case h_31 => exact pr -- p_simple_list_terminator
  case h_32 => -- p_list_terminator
    split
    · exact C.ite (fun _ => pr) (fun _ => pr)
    · exact pr
  case h_33 => exact pr -- p_newline_list
  case h_34 => -- p_simple_list
    refine C.bind (hg rfl) fun _ => C.bind (nodesAt _ _) fun l1 => C.ite
      (fun _ => C.ite
        (fun _ => C.bind (rd_operatorAt C hF _ _) fun _ => C.bind pr fun _ => C.bind (span _) fun _ =>
          C.bind pr fun _ => fin)
        (fun _ => C.bind pr fun _ => C.bind (span _) fun _ => C.bind pr fun _ => fin))
      (fun _ => ?_)
    split
    · exact C.bind pr fun _ => fin
    · exact C.bind (hF rfl) fun _ => fin
  case h_35 => exact joined _ _ -- p_simple_list1
  case h_36 => -- p_pipeline_command
    refine C.ite (fun _ => C.bind (nodesAt _ _) fun l => ?_) (fun _ => ?_)
    · split
      · exact pr
      · split
        · exact C.bind (rd_nodePos C _) fun _ => C.bind (rd_nodePos C _) fun _ => pr
        · exact hF rfl
    · split
      · exact pr
      · split
        · exact C.bind (rd_nodePos C _) fun _ => pr
        · exact hF rfl
      · exact C.bind (rd_nodePos C _) fun _ => pr
      · exact hF rfl
  case h_37 => exact joined _ _ -- p_pipeline
  case h_38 => exact notImpl _ -- p_timespec
  case h_39 => exact pr -- p_empty
  case h_40 => exact hF rfl -- any other name

/-- `action` is `actionCore` followed by the check that only an accepting action returns the
    accept flag; its failure is one more foreign raise of `actionSite` -/
theorem rd_action (hNI : ∀ ty, X (handleNotImplemented ⟨np, args⟩ ty)) (fname : String)
    (heof : fname = "p_inputunit" →
      X (modify fun l => { l with ps := { l.ps with eoftoken := true } } : M Unit))
    (hg : fname = "p_simple_list" → X gatherheredocuments)
    (hpush : fname = "p_redirection_heredoc" → ∀ {β : Type} {k : Unit → M β} (l0 : Local)
      (cell : RedirCell) (kill : Bool), X (k ()) →
      XA l0 ((MonadStateOf.set { l0 with
          store := l0.store ++ [cell]
          redirstack := l0.redirstack ++ [(l0.store.length, kill)] } : M Unit) >>= k)) :
    X (action np fname args) :=
  C.bind (rd_actionCore C hF hW hNI fname heof hg hpush) fun _ => C.ite (fun _ => hF rfl) (fun _ => C.pure _)

end
/-! ### the value an action returns

An action returns a token only if it hands on one of its arguments (`p[0] = p[i]`): whatever is
known of the tokens on the LR stack holds of the value pushed. -/

/-- `v`, if it is a token, is one of `args` -/
def NT (args : List SVal) (v : SVal) : Prop := ∀ t, v = .tok t → SVal.tok t ∈ args

section
variable {args : List SVal}

theorem nt_node {n : Node} : NT args (.node n) := fun _ h => by cases h
theorem nt_nodes {l : List Node} : NT args (.nodes l) := fun _ h => by cases h
theorem nt_none : NT args .none := fun _ h => by cases h

theorem nt_slice (np : NestedParse) (i : Nat) : NT args (PCtx.slice ⟨np, args⟩ i) := by
  unfold PCtx.slice
  simp only [List.getD_eq_getElem?_getD]
  cases hx : args[i - 1]? with
  | none => exact nt_none
  | some a => intro t ht; cases ht; exact List.mem_of_getElem? hx

/-- the helpers that return a value: known callees of `v_walk` (extended below) -/
syntax "v_atom" : tactic
macro_rules | `(tactic| v_atom) => `(tactic| fail)

/-- walk towards a fact about the returned value; values of type `SVal` bound on the way carry
    `NT args`, the leaves are left over -/
macro "v_walk" : tactic => `(tactic| repeat' (first
  | with_reducible v_atom
  | with_reducible exact Sat.foreign trivial
  | with_reducible exact Sat.raise trivial
  | with_reducible refine Sat.ite (fun _ => ?_) (fun _ => ?_)
  | with_reducible refine Sat.bind (P := NT args) ?_ (fun _ _ => ?_)
  | with_reducible refine Sat.bind_any (fun _ => ?_)
  | with_reducible refine Sat.pure ?_
  | (show Sat _ _ _; split)))

macro "v_leaf" : tactic => `(tactic| first
  | exact nt_node
  | exact nt_nodes
  | exact nt_none
  | exact nt_slice _ _
  | assumption)

theorem nt_handleNotImplemented (p : PCtx) (ty : String) :
    Sat (handleNotImplemented p ty) (NT args) := by
  unfold handleNotImplemented
  v_walk
  all_goals v_leaf
macro_rules | `(tactic| v_atom) => `(tactic| exact nt_handleNotImplemented _ _)

theorem nt_mkCompound1 (inner : Span → List Node → Node) (parts : List Node) :
    Sat (mkCompound1 inner parts) (NT args) := by
  unfold mkCompound1
  v_walk
  all_goals v_leaf
macro_rules | `(tactic| v_atom) => `(tactic| exact nt_mkCompound1 _ _)

theorem nt_joinLists (p : PCtx) (mk : Span → Str → Node) (s : String) :
    Sat (joinLists p mk s) (NT args) := by
  unfold joinLists
  v_walk
  all_goals v_leaf
macro_rules | `(tactic| v_atom) => `(tactic| exact nt_joinLists _ _ _)

theorem nt_actionCore (np : NestedParse) (fname : String) :
    Sat (actionCore np fname args) (fun r => NT args r.1) := by
  unfold actionCore
  simp only []
  split
  all_goals v_walk
  all_goals (show NT args _; v_leaf)

theorem nt_action (np : NestedParse) (fname : String) :
    Sat (action np fname args) (fun r => NT args r.1) := by
  unfold action
  refine Sat.bind (nt_actionCore np fname) (fun r hr => ?_)
  split
  · exact Sat.foreign trivial
  · exact Sat.pure hr

end

end Bashlex
