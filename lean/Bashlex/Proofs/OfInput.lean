/-
  What `Tape.ofInput s` is: `s` with cursor 0 if `s` is empty or ends in a newline, else `s` and one
  added newline (`ofInput_cases`, and the two equations by the last character), and what follows.
-/
import Bashlex.Model.Monad

namespace Bashlex.Tape

theorem ofInput_of_newline {s : Str} (h : s.getLast? = some '\n') : ofInput s = { line := s } := by
  unfold ofInput; rw [h]; rfl

theorem ofInput_of_ne {s : Str} {c : Char} (h : s.getLast? = some c) (hc : c ≠ '\n') :
    ofInput s = { line := s ++ ['\n'], added := true } := by
  unfold ofInput; rw [h]; simp [hc]

theorem ofInput_cases (s : Str) :
    (∀ c, s.getLast? = some c → c = '\n') ∧ ofInput s = { line := s } ∨
    (∃ c, s.getLast? = some c ∧ c ≠ '\n') ∧ ofInput s = { line := s ++ ['\n'], added := true } := by
  cases hl : s.getLast? with
  | none => exact .inl ⟨nofun, by rw [List.getLast?_eq_none_iff.1 hl]; rfl⟩
  | some c =>
    by_cases hc : c = '\n'
    · exact .inl ⟨fun d hd => hc ▸ (Option.some.inj hd).symm, ofInput_of_newline (hc ▸ hl)⟩
    · exact .inr ⟨⟨c, rfl, hc⟩, ofInput_of_ne hl hc⟩

theorem ofInput_idx (s : Str) : (ofInput s).idx = 0 := by
  rcases ofInput_cases s with ⟨_, h⟩ | ⟨_, h⟩ <;> rw [h]

theorem ofInput_source (s : Str) : (ofInput s).source = s := by
  rcases ofInput_cases s with ⟨_, h⟩ | ⟨_, h⟩ <;> rw [h] <;> simp [source]

theorem ofInput_line (s : Str) : (ofInput s).line = s ∨ (ofInput s).line = s ++ ['\n'] := by
  rcases ofInput_cases s with ⟨_, h⟩ | ⟨_, h⟩ <;> rw [h]
  · exact .inl rfl
  · exact .inr rfl

theorem ofInput_length_le (s : Str) : (ofInput s).line.length ≤ s.length + 1 := by
  rcases ofInput_line s with h | h <;> rw [h] <;> simp

theorem ofInput_getElem? (s : Str) {i : Nat} (hi : i < s.length) :
    (ofInput s).line[i]? = s[i]? := by
  rcases ofInput_line s with h | h <;> rw [h]
  exact List.getElem?_append_left hi

/-- the tape ends in a newline, unless it is empty -/
theorem ofInput_getLast? (s : Str) {c : Char} (h : (ofInput s).line.getLast? = some c) :
    c = '\n' := by
  rcases ofInput_cases s with ⟨hs, e⟩ | ⟨_, e⟩ <;> rw [e] at h
  · exact hs c h
  · simpa using h.symm

end Bashlex.Tape
