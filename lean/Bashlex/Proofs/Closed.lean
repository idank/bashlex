/-
  Predicates on programs that are closed under the way the parser's code is built.

  Tokenizer, word expansion and semantic actions are put together from a dozen functions that
  touch the tape, the recorded positions, the delimiter stack and the pending here-documents (the
  atoms) by `pure`, `bind`, conditionals, fuel loops and `for` loops, queries that are not options,
  raise sites, and writes to the scratch fields of the parser object (the parser-state flags, the
  two counters, the four token slots).  `Closed site X XA` says that the predicate `X` on programs
  survives these constructions; `XA l0 m` is `X m` "knowing that the local state is `l0`", the form
  a `set` needs after the `get` it belongs to.

  Two weaker notions serve predicates that are not closed under all of it.  `Reads X XA`: built by
  `pure`, `bind` and reading the state alone, as the semantic actions are once their callees are
  given.  `Builds site X`: built by `pure`, `bind`, the raise sites and the readers of tape and
  syntax table, never looking at the parser object itself, as most of the tokenizer is once the
  callees that do look are given; the diagonal of a two-run relation qualifies, which a `get`
  would break.  A closed predicate has both (`Closed.toReads`, `Closed.builds`).

  One walk per function of the model (`ClosedTok.lean`, `ClosedExpand.lean`, `ClosedActions.lean`)
  then proves `X` of it for every closed `X` at once: "keeps the invariant `I` and raises only `E`"
  for every `I` that reads `Local.stable` only, "the outcome does not depend on an option", "asks
  for an option only before a certain error", ...  What a predicate cannot have for free is asked
  of it as a hypothesis: the atoms (`TapeAtoms`, `PosAtoms`, `DelimAtoms`, the three writes to the
  pending here-documents; a predicate that allows the writes inside them has the bundles by
  `TapeAtoms.of_writes`, `PosAtoms.of_writes`, `DelimAtoms.of_writes`), the raise
  sites that some exception discipline excludes (`Sites`, or a hypothesis `hx` of the one lemma
  whose function contains the site), and the callees whose own lemma has such a hypothesis.

  The instance behind "keeps the invariant `I` and raises only `E`" is `C11.HT.closed`
  (`Props/C11/Hoare.lean`): `X m := HT I m (fun _ => I) E`, `XA l0 m` the same triple with `l = l0`
  added to the pre-condition (`HTQAt`), each field a rule of that logic.  A function that moves from
  one assertion to another is not covered by a closed predicate: it is walked forward in `HT` itself,
  by `ht_step` (`Props/C01/TightState.lean`), which takes the closed part from here.
-/
import Bashlex.Proofs.HoareS
import Bashlex.Model.Tokenizer

namespace Bashlex
open Bashlex.M

/-- what the code outside the atoms never writes.  Left out, and so free to be written, are the
    scratch fields: the two counters, the four token slots, and all parser-state flags except
    `regexp`, `dblparen` and `cmdsubst` (these three are kept) -/
def Local.stable (l : Local) :=
  (l.tape, l.opts, l.eolLookahead, l.dstack, l.positions, l.eofToken, l.redirstack, l.store,
    l.limit, l.ps.regexp, l.ps.dblparen, l.ps.cmdsubst)

/-- the queries that do not read an option -/
def Query.plain : Query → Bool
  | .optStrict => false
  | .optProceed => false
  | _ => true

/-- the raise sites of the tokenizer that no exception discipline excludes: `ParsingError`, the
    fuel markers of its loops but the one of `gatherheredocuments` (whose fuel is proved to
    suffice), and the assertion in `ParsingError.__init__` -/
def tokSite : Exn → Bool
  | .parsing _ _ _ => true
  | .notImplemented _ => false
  | .outOfFuel s =>
    ["readline", "makeheredoc", "_parse_matched_pair", "_parse_comsub", "_readtokenword",
      "_discard_until", "_readtoken"].contains s
  | .foreign a b => a == "AssertionError" && b == "ParsingError.__init__"

/-- the raise sites of word expansion: `NotImplementedError` (arithmetic), the loop of
    `_expandwordinternal` and every foreign exception but the one of `_extractcommandsubst` (a
    hypothesis `hx` of the expansion lemmas) -/
def expandSite : Exn → Bool
  | .notImplemented _ => true
  | .outOfFuel s => s == "_expandwordinternal"
  | .foreign a b =>
    [("AssertionError", "visitnode"), ("AttributeError", "_recursiveparse"),
      ("IndexError", "_expandword"), ("IndexError", "_expandwordinternal"),
      ("IndexError", "_parsedolparen")].contains (a, b)
  | _ => false

/-- the raise sites of tokenizer and word expansion (the semantic actions list theirs beside
    their walk) -/
def walkSite (x : Exn) : Bool := tokSite x || expandSite x

theorem tokSite_mkParsingError (m : String) (s : Str) (p : Int) :
    tokSite (mkParsingError m s p) = true := by
  unfold mkParsingError; split <;> rfl

theorem walkSite_mkParsingError (m : String) (s : Str) (p : Int) :
    walkSite (mkParsingError m s p) = true := by
  unfold walkSite; rw [tokSite_mkParsingError]; rfl

/-- closed under sequencing -/
structure Binds (X : ∀ {α : Type}, M α → Prop) : Prop where
  pure : ∀ {α : Type} (a : α), X (Pure.pure a : M α)
  bind : ∀ {α β : Type} {m : M α} {f : α → M β}, X m → (∀ a, X (f a)) → X (m >>= f)

/-- closed under sequencing and reading the state -/
structure Reads (X : ∀ {α : Type}, M α → Prop) (XA : ∀ {α : Type}, Local → M α → Prop) : Prop
    extends Binds X where
  get_bind : ∀ {β : Type} {f : Local → M β}, (∀ l0, XA l0 (f l0)) →
    X ((MonadState.get : M Local) >>= f)
  forget : ∀ {α : Type} {l0 : Local} {m : M α}, X m → XA l0 m

/-- closed under sequencing, raising at a listed site, and the readers of the tape and of the
    syntax table: what the code is built from that never looks at the parser object itself -/
structure Builds (site : Exn → Bool) (X : ∀ {α : Type}, M α → Prop) : Prop extends Binds X where
  raise : ∀ {α : Type} {x : Exn}, site x = true → X (M.raise x : M α)
  syn : ∀ c, X (syn c)
  curIdx : X curIdx
  tapeSource : X tapeSource
  tapeLine : X tapeLine
  tapeAdded : X tapeAdded

/-- closed under everything the code outside the atoms is built from.  `raise`, `ask`, `modify`
    speak of `X`.  The other three are the forms the same steps take after a `get` has fixed the
    state to `l0`: `set_bind` is the write that belongs to that `get` (from then on the state is no
    longer `l0`, so the rest `k ()` is asked of `X`), `ask_bind` a query in between (the state is
    still `l0`), `bindA` any other statement followed by a rest that does not use `l0`. -/
structure Closed (site : Exn → Bool) (X : ∀ {α : Type}, M α → Prop)
    (XA : ∀ {α : Type}, Local → M α → Prop) : Prop extends Reads X XA where
  raise : ∀ {α : Type} {x : Exn}, site x = true → X (M.raise x : M α)
  ask : ∀ {q : Query}, q.plain = true → X (M.ask q)
  modify : ∀ {f : Local → Local}, (∀ l, (f l).stable = l.stable) → X (modify f : M Unit)
  set_bind : ∀ {β : Type} {l0 l1 : Local} {k : Unit → M β}, l1.stable = l0.stable → X (k ()) →
    XA l0 ((MonadStateOf.set l1 : M Unit) >>= k)
  bindA : ∀ {α β : Type} {l0 : Local} {m : M α} {k : α → M β}, XA l0 m → (∀ a, X (k a)) →
    XA l0 (m >>= k)
  ask_bind : ∀ {β : Type} {l0 : Local} {q : Query} {k : Answer q → M β}, q.plain = true →
    (∀ a, XA l0 (k a)) → XA l0 (M.ask q >>= k)

set_option linter.unusedSectionVars false

namespace Binds
variable {X : ∀ {α : Type}, M α → Prop} (C : Binds X)
include C
variable {α β γ : Type}

theorem ite {c : Prop} [Decidable c] {a b : M α} (ha : c → X a) (hb : ¬ c → X b) :
    X (if c then a else b) := by
  split
  · exact ha ‹_›
  · exact hb ‹_›

theorem foreign_bind {a b : String} {k : α → M β} (h : X (M.foreign a b : M β)) :
    X ((M.foreign a b : M α) >>= k) := h

theorem map {m : M α} {f : α → β} (h : X m) : X (f <$> m) := by
  rw [map_eq_pure_bind]; exact C.bind h (fun _ => C.pure _)

theorem loop {σ : Type} {s : String} {body : σ → M (σ ⊕ α)}
    (hfuel : X (M.raise (.outOfFuel s) : M α)) (h : ∀ st, X (body st)) :
    ∀ fuel st, X (M.loop s body fuel st)
  | 0, _ => hfuel
  | fuel + 1, st => by
    show X (body st >>= _)
    refine C.bind (h st) (fun r => ?_)
    cases r with
    | inl st' => exact loop hfuel h fuel st'
    | inr a => exact C.pure a

theorem forIn_mem {f : γ → β → M (ForInStep β)} :
    ∀ (l : List γ) (b : β), (∀ a ∈ l, ∀ b, X (f a b)) → X (forIn l b f)
  | [], b, _ => by rw [List.forIn_nil]; exact C.pure b
  | a :: rest, b, h => by
    rw [List.forIn_cons]
    refine C.bind (h a (List.mem_cons_self ..) b) (fun r => ?_)
    cases r with
    | done b' => exact C.pure b'
    | yield b' => exact forIn_mem rest b' (fun a ha => h a (List.mem_cons_of_mem _ ha))

theorem forIn {f : γ → β → M (ForInStep β)} (h : ∀ a b, X (f a b)) (l : List γ) (b : β) :
    X (forIn l b f) :=
  C.forIn_mem l b (fun a _ => h a)

end Binds

namespace Reads
variable {X : ∀ {α : Type}, M α → Prop} {XA : ∀ {α : Type}, Local → M α → Prop} (C : Reads X XA)
include C
variable {α β : Type}

theorem iteA {l0 : Local} {c : Prop} [Decidable c] {a b : M α} (ha : c → XA l0 a)
    (hb : ¬ c → XA l0 b) : XA l0 (if c then a else b) := by
  split
  · exact ha ‹_›
  · exact hb ‹_›

theorem pure_bindA {l0 : Local} {a : α} {k : α → M β} (h : XA l0 (k a)) :
    XA l0 ((Pure.pure a : M α) >>= k) := by
  have : ((Pure.pure a : M α) >>= k) = k a := by simp
  rw [this]; exact h

theorem get : X (MonadState.get : M Local) := by
  have : (MonadState.get : M Local) = MonadState.get >>= Pure.pure := by simp
  rw [this]; exact C.get_bind (fun _ => C.forget (C.pure _))

end Reads

theorem Builds.foreign {site : Exn → Bool} {X : ∀ {α : Type}, M α → Prop} (C : Builds site X)
    {α : Type} {a b : String} (h : site (.foreign a b) = true) : X (M.foreign a b : M α) :=
  C.raise h

namespace Closed
variable {site : Exn → Bool} {X : ∀ {α : Type}, M α → Prop}
  {XA : ∀ {α : Type}, Local → M α → Prop} (C : Closed site X XA)
include C
variable {α β : Type}

/-- a predicate closed for more raise sites is closed for fewer -/
theorem mono {site' : Exn → Bool} (h : ∀ x, site' x = true → site x = true) : Closed site' X XA :=
  { C with raise := fun hx => C.raise (h _ hx) }

omit C in
/-- the walks of `ClosedTok.lean` are stated for `tokSite`, those of `ClosedExpand.lean` for
    `walkSite`: a predicate closed for the sites of both has the tokenizer's walk by this -/
theorem tok (C : Closed walkSite X XA) : Closed tokSite X XA :=
  C.mono (fun x h => by unfold walkSite; rw [h]; rfl)

theorem foreign {a b : String} (h : site (.foreign a b) = true) : X (M.foreign a b : M α) :=
  C.raise h

omit C in
/-- an intersection of closed predicates is closed -/
theorem all {ι : Type} {X : ι → ∀ {α : Type}, M α → Prop}
    {XA : ι → ∀ {α : Type}, Local → M α → Prop} (h : ∀ i, Closed site (X i) (XA i)) :
    Closed site (fun {α} (m : M α) => ∀ i, X i m) (fun {α} l0 (m : M α) => ∀ i, XA i l0 m) where
  pure a i := (h i).pure a
  bind hm hf i := (h i).bind (hm i) (fun a => hf a i)
  get_bind hf i := (h i).get_bind (fun l0 => hf l0 i)
  forget hm i := (h i).forget (hm i)
  raise hx i := (h i).raise hx
  ask hq i := (h i).ask hq
  modify hf i := (h i).modify hf
  set_bind hl hk i := (h i).set_bind hl (hk i)
  bindA hm hk i := (h i).bindA (hm i) (fun a => hk a i)
  ask_bind hq hk i := (h i).ask_bind hq (fun a => hk a i)

end Closed

/-! ### what is asked of a predicate beyond closure -/

/-- the functions that move the tape -/
structure TapeAtoms (X : ∀ {α : Type}, M α → Prop) : Prop where
  getc : ∀ rqn, X (getc rqn)
  ungetc : ∀ c, X (ungetc c)
  bumpIdx : X bumpIdx

/-- the functions that write the recorded positions -/
structure PosAtoms (X : ∀ {α : Type}, M α → Prop) : Prop where
  recordpos : ∀ rel, X (recordpos rel)
  createtoken : ∀ ty v fl, X (createtoken ty v fl)

/-- the functions that write the delimiter stack -/
structure DelimAtoms (X : ∀ {α : Type}, M α → Prop) : Prop where
  push : ∀ c, X (pushDelimiter c)
  pop : X popDelimiter

/-- the foreign raise sites of the tokenizer that facts about parameters and loop states exclude
    (the sites inside `_getc`, `makeheredoc`, `_pop_delimiter`, `_createtoken`, `_is_assignment`,
    excluded by facts about the state, are left to whoever supplies these functions) -/
structure Sites (X : ∀ {α : Type}, M α → Prop) : Prop where
  pmpType : ∀ {α : Type}, X (M.foreign "TypeError" "_parse_matched_pair" : M α)
  hdwUnbound : ∀ {α : Type}, X (M.foreign "UnboundLocalError" "handledollarword" : M α)
  hdwAssert : ∀ {α : Type}, X (M.foreign "AssertionError" "handledollarword" : M α)
  comsubIndex : ∀ {α : Type}, X (M.foreign "IndexError" "_parse_comsub" : M α)
  comsubUnbound : ∀ {α : Type}, X (M.foreign "UnboundLocalError" "_parse_comsub" : M α)
  rtwType : ∀ {α : Type}, X (M.foreign "TypeError" "_readtokenword" : M α)
  readtokenValue : ∀ {α : Type}, X (M.foreign "ValueError" "_readtoken" : M α)

theorem Sites.of_foreign {X : ∀ {α : Type}, M α → Prop}
    (h : ∀ {α : Type} (a b : String), X (M.foreign a b : M α)) : Sites X :=
  ⟨h _ _, h _ _, h _ _, h _ _, h _ _, h _ _, h _ _⟩

/-! ### the walk -/

/-- what is known of the callees: each walked function adds its lemma `wk_f`.  The table finds a
    lemma's own hypotheses by NAME (`hygiene false`), so every `wk_f` calls them the same: `h₁` ..
    `h₅` what is assumed of callees, `hx`, `hx'` what is assumed of raise sites; anything else is
    found by `assumption`.  A section's walks have `C : Closed ..` or `C : Builds ..` in the context:
    a lemma stated for `Builds` that both kinds call is entered twice, as `exact wk_f C _` and as
    `exact wk_f C.builds _` (the one that does not typecheck fails).  (The `of_writes` lemmas below
    are not walked and call the writes they assume `hw₁`, `hw₂`.) -/
syntax "wk_atom" : tactic
set_option hygiene false in
macro_rules | `(tactic| wk_atom) => `(tactic| first
  | assumption | apply hx | apply hx' | apply h₁ | apply h₂ | apply h₃ | apply h₄ | apply h₅)

set_option hygiene false in
/-- One step of the walk through a program, for a goal `X prog` or `XA l0 prog` and `C : Closed _ X XA`
    (or `Builds _ X`, `Reads X XA`: the rules they lack fail) in the context.  The rules of `Closed` in the order in which a program is read: what closes a
    leaf, what opens a conditional, the state (`get`, then under `XA` the `set`/`ask` that may use
    the state read, a write being allowed when `Local.stable` is unchanged by `rfl`), the raise
    sites (allowed by `rfl`), loops, the binds, a `match` (`split`), and only then the callees
    (`wk_atom`: the table is long, and it also holds the hypotheses about excluded sites), and
    giving up the knowledge of the state. -/
macro "wk_step" : tactic => `(tactic| first
  | with_reducible exact C.pure _
  | with_reducible refine C.ite (fun _ => ?_) (fun _ => ?_)
  | with_reducible refine C.iteA (fun _ => ?_) (fun _ => ?_)
  | with_reducible refine C.pure_bindA ?_
  | with_reducible refine C.get_bind (fun _ => ?_)
  | ((with_reducible refine C.modify ?_); exact fun _ => rfl)
  | ((with_reducible refine C.set_bind ?_ ?_); focus exact rfl)
  | ((with_reducible refine C.ask_bind ?_ (fun _ => ?_)); focus exact rfl)
  | ((with_reducible refine C.ask ?_); exact rfl)
  | ((with_reducible refine C.raise ?_);
      first | exact rfl | exact tokSite_mkParsingError _ _ _ | exact walkSite_mkParsingError _ _ _)
  | ((with_reducible refine C.foreign ?_); exact rfl)
  | ((with_reducible refine C.foreign_bind ?_); with_reducible wk_atom)
  | ((with_reducible refine C.loop ?_ (fun _ => ?_) _ _);
      focus first | exact C.raise rfl | with_reducible wk_atom)
  | with_reducible refine C.forIn (fun _ _ => ?_) _ _
  | with_reducible refine C.map ?_
  | with_reducible refine C.bind ?_ (fun _ => ?_)
  | ((with_reducible refine C.forget ?_); with_reducible refine C.get_bind (fun _ => ?_))
  | with_reducible refine C.bindA ?_ (fun _ => ?_)
  | split
  | with_reducible wk_atom
  | ((with_reducible refine C.forget ?_); with_reducible wk_atom)
  | with_reducible refine C.forget ?_)

/-- A lemma `wk_f` is `unfold f; (try simp only []); wk_walk`.  The `simp only []` inlines what the
    `do` notation leaves between the binds (the join points `have __do_jp := ..`, `let`s, a `match`
    on a tuple just built), so that every step finds a bind, an `if` or a `match` on a variable at
    the head; it fails where there is nothing to inline, hence `try`. -/
macro "wk_walk" : tactic => `(tactic| repeat' wk_step)

/-! ### reading the tape, the syntax table and the fuel -/

section
variable {site : Exn → Bool} {X : ∀ {α : Type}, M α → Prop}
  {XA : ∀ {α : Type}, Local → M α → Prop} (C : Closed site X XA)
include C
set_option hygiene false

theorem wk_curIdx : X curIdx := by unfold curIdx; wk_walk
theorem wk_tapeSource : X tapeSource := by unfold tapeSource; wk_walk
theorem wk_tapeLine : X tapeLine := by unfold tapeLine; wk_walk
theorem wk_tapeAdded : X tapeAdded := by unfold tapeAdded; wk_walk
theorem wk_currentDelimiter : X currentDelimiter := by unfold currentDelimiter; wk_walk
macro_rules | `(tactic| wk_atom) => `(tactic| exact wk_curIdx C)
macro_rules | `(tactic| wk_atom) => `(tactic| exact wk_tapeSource C)
macro_rules | `(tactic| wk_atom) => `(tactic| exact wk_tapeLine C)
macro_rules | `(tactic| wk_atom) => `(tactic| exact wk_tapeAdded C)
macro_rules | `(tactic| wk_atom) => `(tactic| exact wk_currentDelimiter C)

/-- a closed predicate has what `Builds` asks: the readers are a `get` and a plain query -/
theorem Closed.builds : Builds site X where
  pure := C.pure
  bind := C.bind
  raise := C.raise
  syn _ := C.ask rfl
  curIdx := wk_curIdx C
  tapeSource := wk_tapeSource C
  tapeLine := wk_tapeLine C
  tapeAdded := wk_tapeAdded C

end

section
variable {site : Exn → Bool} {X : ∀ {α : Type}, M α → Prop} (C : Builds site X)
include C
set_option hygiene false

macro_rules | `(tactic| wk_atom) => `(tactic| exact C.curIdx)
macro_rules | `(tactic| wk_atom) => `(tactic| exact C.tapeSource)
macro_rules | `(tactic| wk_atom) => `(tactic| exact C.tapeLine)
macro_rules | `(tactic| wk_atom) => `(tactic| exact C.tapeAdded)
macro_rules | `(tactic| wk_atom) => `(tactic| exact C.syn _)

theorem wk_shellmeta (c : Char) : X (shellmeta c) := by unfold shellmeta; wk_walk
theorem wk_shellquote (c : Char) : X (shellquote c) := by unfold shellquote; wk_walk
theorem wk_shellexp (c : Char) : X (shellexp c) := by unfold shellexp; wk_walk
theorem wk_shellbreak (c : Char) : X (shellbreak c) := by unfold shellbreak; wk_walk
macro_rules | `(tactic| wk_atom) => `(tactic| exact wk_shellmeta C _)
macro_rules | `(tactic| wk_atom) => `(tactic| exact wk_shellquote C _)
macro_rules | `(tactic| wk_atom) => `(tactic| exact wk_shellexp C _)
macro_rules | `(tactic| wk_atom) => `(tactic| exact wk_shellbreak C _)

theorem wk_loopFuel : X loopFuel := C.pure _
theorem wk_depthFuel : X depthFuel := C.pure _
macro_rules | `(tactic| wk_atom) => `(tactic| exact wk_loopFuel C)
macro_rules | `(tactic| wk_atom) => `(tactic| exact wk_depthFuel C)

end

/-! ### the atoms of a predicate that allows their writes

The seven functions that write a field of `Local.stable`, for a closed predicate that survives
these writes (each right after the `get` it belongs to) and the raise sites inside them. -/

section
variable {site : Exn → Bool} {X : ∀ {α : Type}, M α → Prop}
  {XA : ∀ {α : Type}, Local → M α → Prop} (C : Closed site X XA)
include C

theorem TapeAtoms.of_writes (hx : ∀ {α : Type}, X (M.foreign "IndexError" "_getc" : M α))
    (hw₁ : ∀ {l : Local} (t : Option Tape), XA l (MonadStateOf.set { l with tape := t } : M Unit))
    (hw₂ : ∀ {l : Local} (c : Option Char),
      XA l (MonadStateOf.set { l with eolLookahead := c } : M Unit)) : TapeAtoms X := by
  refine ⟨fun rqn => ?_, fun c => ?_, ?_⟩
  · unfold Bashlex.getc
    refine C.get_bind fun l => ?_
    split
    · exact C.bindA (hw₂ _) fun _ => C.pure _
    split
    · refine C.ask_bind rfl fun r => C.forget ?_
      split
      · exact C.pure _
      · exact hx
    · split
      · exact C.bindA (hw₁ _) fun _ => C.pure _
      · exact C.forget hx
  · unfold Bashlex.ungetc
    refine C.get_bind fun l => ?_
    split
    · refine C.ask_bind rfl fun moved => ?_
      split
      · exact hw₂ _
      · exact C.forget (C.pure _)
    · split
      split
      · exact hw₁ _
      · exact hw₂ _
  · unfold Bashlex.bumpIdx
    refine C.get_bind fun l => ?_
    split
    · exact C.forget (C.ask rfl)
    · exact hw₁ _

theorem PosAtoms.of_writes (hx : ∀ {α : Type}, X (M.foreign "AssertionError" "_createtoken" : M α))
    (hx' : ∀ {α : Type}, X (M.foreign "AssertionError" "token.__init__" : M α))
    (hw₁ : ∀ i : Nat, X (modify fun l => { l with positions := l.positions ++ [i] } : M Unit))
    (hw₂ : ∀ {l : Local} (ps : List Nat),
      XA l (MonadStateOf.set { l with positions := ps } : M Unit)) : PosAtoms X := by
  refine ⟨fun rel => ?_, fun ty v fl => ?_⟩
  · unfold Bashlex.recordpos
    exact C.bind (wk_curIdx C) fun _ => hw₁ _
  · unfold Bashlex.createtoken
    exact C.get_bind fun l => C.iteA (fun _ => C.forget hx) fun _ =>
      C.bindA (hw₂ _) fun _ => C.ite (fun _ => hx') fun _ => C.pure _

theorem DelimAtoms.of_writes (hx : ∀ {α : Type}, X (M.foreign "IndexError" "_pop_delimiter" : M α))
    (hw₁ : ∀ c : Char, X (modify fun l => { l with dstack := l.dstack ++ [c] } : M Unit))
    (hw₂ : ∀ {l : Local} (d : List Char),
      XA l (MonadStateOf.set { l with dstack := d } : M Unit)) : DelimAtoms X := by
  refine ⟨hw₁, ?_⟩
  unfold popDelimiter
  exact C.get_bind fun l => C.iteA (fun _ => C.forget hx) fun _ => hw₂ _

end

end Bashlex
