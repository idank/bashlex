/-
  Running a program of the model monad `M` (`run_pure`, `run_bind`, `run_raise`; `Q` is a lawful
  monad), and the state-agnostic judgement about its runs:
  `Sat m P E`: whenever `m` returns normally (in any local state and environment), its result
  satisfies `P`, and an exception it raises satisfies `E`.  Enough to carry invariants through the
  LR engine for *arbitrary* token sources and semantic actions.
  `Sat` is the judgement `SatS` of `Proofs/HoareS.lean` with no pre-condition and a post-condition
  blind to the state; its rules stand there, with the rules of `SatS` of which they are instances.
-/
import Bashlex.Model.Monad

namespace Bashlex

namespace Q
theorem run_bind {α β : Type} (m : Q α) (f : α → Q β) (e : Env) :
    Q.run (Q.bind m f) e = Q.run (f (Q.run m e).1) (Q.run m e).2 := by
  induction m generalizing e with
  | pure a => rfl
  | ask q k ih => simp only [Q.bind, Q.run]; exact ih _ _

theorem bind_pure' {α : Type} (x : Q α) : Q.bind x Q.pure = x := by
  induction x with
  | pure a => rfl
  | ask q k ih => simp only [Q.bind]; congr; funext a; exact ih a

theorem bind_assoc' {α β γ : Type} (x : Q α) (f : α → Q β) (g : β → Q γ) :
    Q.bind (Q.bind x f) g = Q.bind x (fun a => Q.bind (f a) g) := by
  induction x with
  | pure a => rfl
  | ask q k ih => simp only [Q.bind]; congr; funext a; exact ih a

/-- `Q` is a lawful monad, hence so is `M` (`pure_bind`, `bind_assoc` are available to `simp`) -/
instance : LawfulMonad Q := LawfulMonad.mk'
  (id_map := fun x => bind_pure' x)
  (pure_bind := fun _ _ => rfl)
  (bind_assoc := fun x f g => bind_assoc' x f g)
end Q

namespace M

/-! `M.run m l e`: the result of running `m`, as `Except` with the final local state, and the final
    environment.  Its equations: -/

theorem run_pure {α : Type} (a : α) (l : Local) (e : Env) :
    (pure a : M α).run l e = (.ok (a, l), e) := rfl

theorem run_bind {α β : Type} (m : M α) (f : α → M β) (l : Local) (e : Env) :
    (m >>= f).run l e =
      match m.run l e with
      | (.ok (a, l'), e') => (f a).run l' e'
      | (.error x, e') => (.error x, e') := by
  show Q.run (Q.bind (m l) _) e = _
  rw [Q.run_bind]
  show _ = match Q.run (m l) e with
      | (.ok (a, l'), e') => (f a).run l' e'
      | (.error x, e') => (.error x, e')
  rcases h : Q.run (m l) e with ⟨r, e'⟩
  cases r with
  | ok v => obtain ⟨a, l'⟩ := v; rfl
  | error x => rfl

theorem run_raise {α : Type} (x : Exn) (l : Local) (e : Env) :
    (M.raise x : M α).run l e = (.error x, e) := rfl

/-- `Sat m P E`: in any local state and environment, a normal return of `m` satisfies `P` and an
    exception raised by `m` satisfies `E` -/
def Sat {α : Type} (m : M α) (P : α → Prop) (E : Exn → Prop := fun _ => True) : Prop :=
  ∀ l e, match m.run l e with
    | (.ok (a, _), _) => P a
    | (.error x, _) => E x

end M
end Bashlex
