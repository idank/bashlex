/-
  Word expansion, walked once (`Proofs/Closed.lean`).  Below `expandword` nothing looks at the
  parser object, so those six lemmas ask `Builds` only (a predicate like "returns leaving state
  and environment alone" has that, and is not `Closed`); `expandword` itself reads the limit.
  What is asked besides: `X` of the nested parser (`h₁`), and of the one raise site that an
  exception discipline excludes, `IndexError` in `_extractcommandsubst` (`hx`).
  Last, the nesting depth (`Reads.parserRun`), for a predicate closed under `pure`, `bind` and reading the state
  (`Proofs/Closed.lean`): one induction on the depth of `parserRun` (`Proofs/ParserLift.lean`).
-/
import Bashlex.Proofs.Closed
import Bashlex.Model.Subst
import Bashlex.Proofs.ParserLift

namespace Bashlex
open Bashlex.M

section
variable {X : ∀ {α : Type}, M α → Prop} (C : Builds walkSite X) {np : NestedParse}
include C
set_option hygiene false

theorem wk_adjustpositions (n : Node) (b l : Nat) : X (adjustpositions n b l) := by
  unfold adjustpositions; wk_walk
macro_rules | `(tactic| wk_atom) => `(tactic| exact wk_adjustpositions C _ _ _)

theorem wk_recursiveparse (h₁ : ∀ s b, X (np s b)) (base : Str) (i : Nat) (b : Bool) :
    X (recursiveparse np base i b) := by
  unfold recursiveparse; (try simp only []); wk_walk

theorem wk_parsedolparen (h₁ : ∀ s b, X (np s b)) (base : Str) (i : Nat) :
    X (parsedolparen np base i) := by
  have h₂ := wk_recursiveparse C h₁
  unfold parsedolparen; (try simp only []); wk_walk

theorem wk_paramexpand (h₁ : ∀ s b, X (np s b))
    (hx : ∀ {α : Type}, X (M.foreign "IndexError" "_extractcommandsubst" : M α)) (s : Str) (i : Nat) :
    X (paramexpand np s i) := by
  have h₂ := wk_parsedolparen C h₁
  unfold paramexpand; (try simp only []); wk_walk

theorem wk_expandStep (h₁ : ∀ s b, X (np s b))
    (hx : ∀ {α : Type}, X (M.foreign "IndexError" "_extractcommandsubst" : M α))
    (tok : Token) (s : Str) (qd : Bool) (st : ExpSt) : X (expandStep np tok s qd st) := by
  have h₂ := wk_parsedolparen C h₁
  have h₃ := wk_paramexpand C h₁ hx
  have h₄ := wk_recursiveparse C h₁
  unfold expandStep; (try simp only []); wk_walk

theorem wk_expandwordinternal (h₁ : ∀ s b, X (np s b))
    (hx : ∀ {α : Type}, X (M.foreign "IndexError" "_extractcommandsubst" : M α))
    (tok : Token) (qd : Bool) : X (expandwordinternal np tok qd) := by
  have h₂ := wk_expandStep C h₁ hx
  unfold expandwordinternal; (try simp only []); wk_walk

end

section
variable {X : ∀ {α : Type}, M α → Prop} {XA : ∀ {α : Type}, Local → M α → Prop}
  (C : Closed walkSite X XA) {np : NestedParse}
include C
set_option hygiene false

theorem wk_expandword (h₁ : ∀ s b, X (np s b))
    (hx : ∀ {α : Type}, X (M.foreign "IndexError" "_extractcommandsubst" : M α))
    (tok : Token) : X (expandword np tok) := by
  have h₂ := wk_expandwordinternal C.builds h₁ hx
  unfold expandword; (try simp only []); wk_walk

end

/-- `parserRun d` has `X` for every depth, given `X` of the engine's run over a nested parser that
    has `X`.  `Reads` is enough for a level itself (a bind, and a `get` for the result).  The nested
    parser replaces the whole state and restores it afterwards, which no closure rule covers (the
    strongest, `Closed.set_bind`, allows a write that keeps `Local.stable`): that `X` passes from a
    run to its wrapper (`hnp`) is asked of the predicate, like the out-of-fuel marker of depth 0. -/
theorem Reads.parserRun {X : ∀ {α : Type}, M α → Prop} {XA : ∀ {α : Type}, Local → M α → Prop}
    (C : Reads X XA) (hnp : ∀ rec, X rec → ∀ s b, X (C03.npOf rec s b))
    (zero : X (M.raise (.outOfFuel "nesting") : M (Option Node)))
    (run : ∀ np : NestedParse, (∀ s b, X (np s b)) →
      X (LR.run LR.realTables (lrHooks np) 1073741824)) : ∀ d, X (parserRun d) :=
  parserRun_ind (J := fun _ m => X m) zero fun _ ih => by
    unfold C16.level
    refine C.bind (run _ (hnp _ ih)) (fun res => C.get_bind (fun l => C.forget ?_))
    split <;> exact C.pure _

end Bashlex
