/-
  `resolve` through `children`: on the kinds it descends into it is one layer `map1` of itself,
  on a redirect it is one step on the store, every other node it returns unchanged.  A fact
  `R n (resolve st n)` is proved from these three cases (`resolve_induction`).  Last, the trees it
  returns unchanged and in which `_endfinder` finds nothing (`Node.Settled`).
-/
import Bashlex.Model.Parse
import Bashlex.Proofs.NodeTree

namespace Bashlex

namespace C03

/-- the kinds `resolve` descends into -/
def descends : Node → Bool
  | .list .. | .pipeline .. | .compound .. | .ifN .. | .forN .. | .whileN .. | .untilN ..
  | .caseN .. | .pattern .. | .command .. | .function .. | .unimplemented .. => true
  | _ => false

end C03

open Node C03

theorem resolveL_eq (st : List RedirCell) (l : List Node) : resolveL st l = l.map (resolve st) := by
  induction l with
  | nil => rfl
  | cons a l ih => simp [resolveL, ih]

variable {st : List RedirCell}

theorem resolve_of_descends {n : Node} (h : descends n = true) :
    resolve st n = map1 (fun p => p) (resolve st) n := by
  cases n <;> simp [descends] at h <;> simp [resolve, map1, resolveL_eq]

/-- a leaf of `resolve`, not of the tree: a kind it does not enter (a word keeps its parts as they
    are; no redirect stands below one) -/
theorem resolve_of_leaf {n : Node} (h : descends n = false) (hr : n.kind ≠ "redirect") :
    resolve st n = n := by
  cases n <;> simp [descends, Node.kind] at h hr <;> simp [resolve]

/-- the step on a redirect: the cell of a pending one gives the span and the body -/
theorem resolve_redirect (p i t o oa h hid) :
    resolve st (.redirect p i t o oa h hid) =
      match hid.bind (st[·]?) with
      | some c => .redirect c.pos i t o oa (c.heredoc.map fun (p, v) => Node.heredoc p v) none
      | none => .redirect p i t o oa h none := by
  cases hid with
  | none => rfl
  | some id => simp only [resolve, Option.bind_some]; cases st[id]? <;> rfl

theorem kind_ne_redirect_of_descends {n : Node} (h : descends n = true) : n.kind ≠ "redirect" := by
  cases n <;> simp [descends] at h <;> simp [Node.kind]

theorem eq_redirect_of_kind {n : Node} (h : n.kind = "redirect") :
    ∃ p i t o oa hd hid, n = .redirect p i t o oa hd hid := by
  cases n <;> simp [Node.kind] at h
  exact ⟨_, _, _, _, _, _, _, rfl⟩

/-- the three things `resolve` does -/
theorem resolve_induction {R : Node → Node → Prop}
    (desc : ∀ n, descends n = true → (∀ c ∈ n.children, R c (resolve st c)) →
      R n (map1 (fun p => p) (resolve st) n))
    (redir : ∀ p i t o oa h hid,
      R (.redirect p i t o oa h hid) (resolve st (.redirect p i t o oa h hid)))
    (leaf : ∀ n, descends n = false → n.kind ≠ "redirect" → R n n) (n : Node) :
    R n (resolve st n) := by
  induction n using children_induction with
  | hP n ih =>
    cases hd : descends n with
    | true => rw [resolve_of_descends hd]; exact desc n hd ih
    | false =>
      by_cases hr : n.kind = "redirect"
      · obtain ⟨p, i, t, o, oa, h, hid, rfl⟩ := eq_redirect_of_kind hr
        exact redir ..
      · rw [resolve_of_leaf hd hr]; exact leaf n hd hr

theorem descends_map1 (φ : Span → Span) (r : Node → Node) (n : Node) :
    descends (map1 φ r n) = descends n := by
  cases n <;> rfl

theorem descends_mapPos (f : Span → Span) (n : Node) : descends (mapPos f n) = descends n := by
  cases n <;> rfl

/-! ## trees in which the two passes after the engine have nothing to do

  `parse` sends every part through `resolve` (which fills in the redirects that wait for a
  here-document) and `_endfinder` (which looks for here-document bodies).  `Settled n` says that the
  tree `n` holds neither; then `resolve` returns it unchanged and the next parser run starts at the
  end of its span.  The predicate is one "of every node of the tree", so for a given tree it is
  checked node by node, through `children`. -/

namespace Node

/-- neither a here-document body nor a redirect still waiting for one -/
def Quiet : Node → Prop
  | heredoc _ _ => False
  | redirect _ _ _ _ _ _ (some _) => False
  | _ => True

def Settled (n : Node) : Prop := ∀ m ∈ n.preorder, m.Quiet

theorem settled_iff {n : Node} : n.Settled ↔ n.Quiet ∧ ∀ c ∈ n.children, c.Settled :=
  forall_preorder_iff

theorem Settled.of_children {n : Node} (hq : n.Quiet) (hc : ∀ c ∈ n.children, c.Settled) :
    n.Settled :=
  settled_iff.mpr ⟨hq, hc⟩

theorem Settled.leaf {n : Node} (hq : n.Quiet) (hc : n.children = []) : n.Settled :=
  .of_children hq (by rw [hc]; exact fun _ h => nomatch h)

theorem Settled.resolve {n : Node} (h : n.Settled) (st : List RedirCell) : resolve st n = n := by
  induction n using children_induction with
  | hP n ih =>
    obtain ⟨hq, hc⟩ := settled_iff.mp h
    cases hd : descends n with
    | true =>
      rw [resolve_of_descends hd,
        map1_congr (ψ := fun p => p) (s := fun c => c) rfl fun c hm => ih c hm (hc c hm), map1_id]
    | false =>
      by_cases hr : n.kind = "redirect"
      · obtain ⟨p, i, t, o, oa, hh, hid, rfl⟩ := eq_redirect_of_kind hr
        cases hid with
        | none => rfl
        | some id => exact hq.elim
      · exact resolve_of_leaf hd hr

theorem Settled.lastHeredocEnd {n : Node} (h : n.Settled) : n.lastHeredocEnd = none := by
  unfold Node.lastHeredocEnd
  rw [List.filterMap_eq_nil_iff.mpr]
  intro m hm
  have := h m hm
  cases m with
  | heredoc p v => exact this.elim
  | _ => rfl

theorem Settled.nextIndex {n : Node} (h : n.Settled) : nextIndex n = n.pos.2 := by
  unfold Bashlex.nextIndex
  rw [h.lastHeredocEnd]

end Node

end Bashlex
