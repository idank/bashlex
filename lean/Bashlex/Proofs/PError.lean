/-
  The parser's error function `p_error` and the error hook the engine is given (`lrHooks`) never
  return.  Said once in `SatS`, for any pre- and post-condition; the other judgements about single
  runs read it through their bridges (`SatS.to_sat`, `HT_iff_satS`, ...).
-/
import Bashlex.Proofs.HoareS
import Bashlex.Model.Parse

namespace Bashlex.M
open Bashlex

/-- `p_error` never returns: it raises a `ParsingError`, from any state, towards any post-condition -/
theorem satS_pError {P : Local → Env → Prop} {Q : Unit → Local → Env → Prop} {E : Exn → Prop}
    (hE : ∀ m s p, E (mkParsingError m s p)) (t : Token) : SatS (pError t) P Q E := by
  unfold pError
  refine SatS.bind (Q := fun _ _ _ => True) ?_ (fun src => ?_)
  · unfold tapeSource
    refine SatS.bind SatS.get (fun l => ?_)
    split
    · exact (SatS.ask _).post (fun _ _ _ _ => trivial)
    · exact SatS.pure (fun _ _ _ => trivial)
  · split <;> exact SatS.raise (hE _ _ _)

/-- the error function the engine is given is `p_error` on a token, and the model's assertion for
    anything else in the look-ahead slot -/
theorem satS_onError_of {np : NestedParse} {P : Local → Env → Prop}
    {Q : Unit → Local → Env → Prop} {E : Exn → Prop} {la : Nat × SVal}
    (hp : ∀ t, la.2 = .tok t → SatS (pError t) P Q E)
    (hx : E (.foreign "AssertionError" "p_error")) : SatS ((lrHooks np).onError la) P Q E := by
  obtain ⟨sym, v⟩ := la
  show SatS (match v with
    | .tok t => pError t
    | _ => M.foreign "AssertionError" "p_error") _ _ _
  split
  · exact hp _ rfl
  · exact SatS.foreign hx

/-- so it never returns either -/
theorem satS_onError {np : NestedParse} {P : Local → Env → Prop} {Q : Unit → Local → Env → Prop}
    {E : Exn → Prop} (hE : ∀ m s p, E (mkParsingError m s p))
    (hx : E (.foreign "AssertionError" "p_error")) (la : Nat × SVal) :
    SatS ((lrHooks np).onError la) P Q E :=
  satS_onError_of (fun t _ => satS_pError hE t) hx

end Bashlex.M
