/-
  Characteristic equations of `actionCore`: one per semantic action, stating what the dispatch on
  the action's name returns for that name (`p` written out as `⟨np, args⟩`).  A lemma about one
  action starts with `rw [actionCore_p_x]` instead of unfolding the whole dispatch.
-/
import Bashlex.Model.Actions

namespace Bashlex

/-- The `if` without `else` elaborates to a join point (`have __do_jp := …`): after the `rw`,
    `simp only []` inlines it. -/
theorem actionCore_p_inputunit (np : NestedParse) (args : List SVal) :
    actionCore np "p_inputunit" args = (do
      if (← get).ps.cmdsubst then modify fun l => { l with ps := { l.ps with eoftoken := true } }
      match PCtx.slice ⟨np, args⟩ 1 with
      | .node n => pure (.node n, true)
      | _ => pure (.none, false)) := by rfl

theorem actionCore_p_word_list (np : NestedParse) (args : List SVal) :
    actionCore np "p_word_list" args = (do
      if PCtx.len ⟨np, args⟩ == 2 then
        pure (.nodes [← expandword np (← PCtx.tokAt ⟨np, args⟩ 1)], false)
      else
        pure (.nodes ((← PCtx.nodesAt ⟨np, args⟩ 1 "p_word_list") ++
                     [← expandword np (← PCtx.tokAt ⟨np, args⟩ 2)]), false)) := by rfl

theorem actionCore_p_redirection_heredoc (np : NestedParse) (args : List SVal) :
    actionCore np "p_redirection_heredoc" args = (do
      let n := PCtx.len ⟨np, args⟩
      let wtok ← PCtx.tokAt ⟨np, args⟩ (n - 1)
      let output := Node.word (wtok.lexpos, wtok.endlexpos) wtok.valueStr []
      let (input, type, pos) ←
        if n == 3 then
          pure (RedirIn.none, ← PCtx.strAt ⟨np, args⟩ 1,
                ((PCtx.lexspan ⟨np, args⟩ 1).1, (PCtx.lexspan ⟨np, args⟩ 2).2))
        else do
          let t1 ← PCtx.tokAt ⟨np, args⟩ 1
          let inp := match t1.value with
            | .int k => RedirIn.num k | .str s => .str s | .none => .none
          pure (inp, ← PCtx.strAt ⟨np, args⟩ 2,
                ((PCtx.lexspan ⟨np, args⟩ 1).1, (PCtx.lexspan ⟨np, args⟩ 3).2))
      let l ← get
      let id := l.store.length
      let kill := !(PCtx.isTok ⟨np, args⟩ (n - 2) .LESS_LESS)
      let cell : RedirCell := { pos := pos, delim := wtok.valueStr }
      set { l with store := l.store ++ [cell], redirstack := l.redirstack ++ [(id, kill)] }
      pure (.node (.redirect pos input type (some output) .none none (some id)), false)) := by rfl

theorem actionCore_p_redirection (np : NestedParse) (args : List SVal) :
    actionCore np "p_redirection" args = (do
      let n := PCtx.len ⟨np, args⟩
      let oi := n - 1
      let otok ← PCtx.tokAt ⟨np, args⟩ oi
      let (outNode, outAlt) ←
        if otok.is .WORD then pure (some (← expandword np otok), RedirIn.none)
        else
          pure (none,
                match otok.value with | .int k => RedirIn.num k | .str s => .str s | .none => .none)
      if n == 3 then
        pure (.node (.redirect ((PCtx.lexspan ⟨np, args⟩ 1).1, (PCtx.lexspan ⟨np, args⟩ 2).2)
                      .none (← PCtx.strAt ⟨np, args⟩ 1) outNode outAlt none none), false)
      else
        let t1 ← PCtx.tokAt ⟨np, args⟩ 1
        let inp := match t1.value with | .int k => RedirIn.num k | .str s => .str s | .none => .none
        pure (.node (.redirect ((PCtx.lexspan ⟨np, args⟩ 1).1, (PCtx.lexspan ⟨np, args⟩ 3).2)
                      inp (← PCtx.strAt ⟨np, args⟩ 2) outNode outAlt none none), false)) := by rfl

theorem actionCore_p_simple_command_element (np : NestedParse) (args : List SVal) :
    actionCore np "p_simple_command_element" args = (do
      match PCtx.slice ⟨np, args⟩ 1 with
      | .node n => pure (.nodes [n], false)
      | _ =>
        let t ← PCtx.tokAt ⟨np, args⟩ 1
        let w ← expandword np t
        if t.is .ASSIGNMENT_WORD then
          match w with
          | .word pos s parts => pure (.nodes [.assignment pos s parts], false)
          | _ => pure (.nodes [w], false)
        else pure (.nodes [w], false)) := by rfl

theorem actionCore_p_redirection_list (np : NestedParse) (args : List SVal) :
    actionCore np "p_redirection_list" args = (do
      if PCtx.len ⟨np, args⟩ == 2 then
        pure (.nodes [← PCtx.nodeAt ⟨np, args⟩ 1 "p_redirection_list"], false)
      else
        pure (.nodes ((← PCtx.nodesAt ⟨np, args⟩ 1 "p_redirection_list") ++
                     [← PCtx.nodeAt ⟨np, args⟩ 2 "p_redirection_list"]), false)) := by rfl

theorem actionCore_p_simple_command (np : NestedParse) (args : List SVal) :
    actionCore np "p_simple_command" args = (do
      if PCtx.len ⟨np, args⟩ == 3 then
        pure (.nodes ((← PCtx.nodesAt ⟨np, args⟩ 1 "p_simple_command") ++
                     (← PCtx.nodesAt ⟨np, args⟩ 2 "p_simple_command")), false)
      else pure (PCtx.slice ⟨np, args⟩ 1, false)) := by rfl

theorem actionCore_p_command (np : NestedParse) (args : List SVal) :
    actionCore np "p_command" args = (do
      match PCtx.slice ⟨np, args⟩ 1 with
      | .node n =>
        if PCtx.len ⟨np, args⟩ == 3 then
          pure (.node (← addRedirects n (← PCtx.nodesAt ⟨np, args⟩ 2 "p_command")), false)
        else pure (.node n, false)
      | _ =>
        let parts ← PCtx.nodesAt ⟨np, args⟩ 1 "_partsspan"
        pure (.node (.command (← partsspan parts) parts), false)) := by rfl

theorem actionCore_p_shell_command (np : NestedParse) (args : List SVal) :
    actionCore np "p_shell_command" args = (do
      if PCtx.len ⟨np, args⟩ == 2 then
        let n ← PCtx.nodeAt ⟨np, args⟩ 1 "p_shell_command"
        handleAssert (isCompound n)
        pure (.node n, false)
      else
        let parts ← makeparts ⟨np, args⟩
        match parts.head? with
        | some (.reservedword _ w) =>
          let sp ← partsspan parts
          if w == "while".toList then pure (.node (.compound sp [.whileN sp parts] []), false)
          else if w == "until".toList then pure (.node (.compound sp [.untilN sp parts] []), false)
          else M.foreign "AssertionError" "p_shell_command"
        | _ => M.foreign "AttributeError" "p_shell_command") := by rfl

theorem actionCore_p_for_command (np : NestedParse) (args : List SVal) :
    actionCore np "p_for_command" args = (do
      let parts ← makeparts ⟨np, args⟩
      pure (← mkCompound1 .forN (actionCore.fix parts), false)) := by rfl

theorem actionCore_p_arith_for_command (np : NestedParse) (args : List SVal) :
    actionCore np "p_arith_for_command" args = (do
      pure (← handleNotImplemented ⟨np, args⟩ "arithmetic for", false)) := by rfl

theorem actionCore_p_select_command (np : NestedParse) (args : List SVal) :
    actionCore np "p_select_command" args = (do
      pure (← handleNotImplemented ⟨np, args⟩ "select command", false)) := by rfl

theorem actionCore_p_case_command (np : NestedParse) (args : List SVal) :
    actionCore np "p_case_command" args = (do
      let parts ← makeparts ⟨np, args⟩
      pure (← mkCompound1 .caseN parts, false)) := by rfl

/-- As for `p_inputunit`, `simp only []` after the `rw` inlines the join point of the first `if`. -/
theorem actionCore_p_function_def (np : NestedParse) (args : List SVal) :
    actionCore np "p_function_def" args = (do
      let parts ← makeparts ⟨np, args⟩
      if parts.isEmpty then M.foreign "IndexError" "p_function_def"
      let bodyIdx := parts.length - 1
      let nameIdx :=
        match parts.findIdx? (fun n => match n with | .word .. => true | _ => false) with
        | some i => i
        | none => bodyIdx
      pure (.node (.function (← partsspan parts) nameIdx bodyIdx parts), false)) := by rfl

theorem actionCore_p_function_body (np : NestedParse) (args : List SVal) :
    actionCore np "p_function_body" args = (do
      let n ← PCtx.nodeAt ⟨np, args⟩ 1 "p_function_body"
      handleAssert (isCompound n)
      if PCtx.len ⟨np, args⟩ == 3 then
        pure (.node (← addRedirects n (← PCtx.nodesAt ⟨np, args⟩ 2 "p_function_body")),
              false)
      else pure (.node n, false)) := by rfl

theorem actionCore_p_subshell (np : NestedParse) (args : List SVal) :
    actionCore np "p_subshell" args = (do
      let l ← reservedAt ⟨np, args⟩ 1
      let r ← reservedAt ⟨np, args⟩ 3
      let mid ← PCtx.nodeAt ⟨np, args⟩ 2 "_partsspan"
      let parts := [l, mid, r]
      pure (.node (.compound (← partsspan parts) parts []), false)) := by rfl

theorem actionCore_p_group_command (np : NestedParse) (args : List SVal) :
    actionCore np "p_group_command" args = (do
      let l ← reservedAt ⟨np, args⟩ 1
      let r ← reservedAt ⟨np, args⟩ 3
      let mid ← PCtx.nodeAt ⟨np, args⟩ 2 "_partsspan"
      let parts := [l, mid, r]
      pure (.node (.compound (← partsspan parts) parts []), false)) := by rfl

theorem actionCore_p_coproc (np : NestedParse) (args : List SVal) :
    actionCore np "p_coproc" args = (do
      pure (← handleNotImplemented ⟨np, args⟩ "coproc", false)) := by rfl

theorem actionCore_p_if_command (np : NestedParse) (args : List SVal) :
    actionCore np "p_if_command" args = (do
      let parts ← makeparts ⟨np, args⟩
      pure (← mkCompound1 .ifN parts, false)) := by rfl

theorem actionCore_p_arith_command (np : NestedParse) (args : List SVal) :
    actionCore np "p_arith_command" args = (do
      pure (← handleNotImplemented ⟨np, args⟩ "arithmetic command", false)) := by rfl

theorem actionCore_p_cond_command (np : NestedParse) (args : List SVal) :
    actionCore np "p_cond_command" args = (do
      pure (← handleNotImplemented ⟨np, args⟩ "cond command", false)) := by rfl

theorem actionCore_p_elif_clause (np : NestedParse) (args : List SVal) :
    actionCore np "p_elif_clause" args = (do
      let mut parts : List Node := []
      for a in args do
        match a with
        | .node n => parts := parts ++ [n]
        | .nodes l => parts := parts ++ l
        | .tok t => parts := parts ++ [.reservedword (t.lexpos, t.endlexpos) (tvalStr t.value)]
        | .none => parts := parts ++ [.reservedword (0, 0) "None".toList]
      pure (.nodes parts, false)) := by rfl

theorem actionCore_p_case_clause (np : NestedParse) (args : List SVal) :
    actionCore np "p_case_clause" args = (do
      if PCtx.len ⟨np, args⟩ == 2 then
        pure (.nodes [← PCtx.nodeAt ⟨np, args⟩ 1 "p_case_clause"], false)
      else
        pure (.nodes ((← PCtx.nodesAt ⟨np, args⟩ 1 "p_case_clause") ++
                     [← PCtx.nodeAt ⟨np, args⟩ 2 "p_case_clause"]), false)) := by rfl

theorem actionCore_p_pattern_list (np : NestedParse) (args : List SVal) :
    actionCore np "p_pattern_list" args = (do
      let parts ←
        if PCtx.len ⟨np, args⟩ == 5 then do
          let pat ← PCtx.nodesAt ⟨np, args⟩ 2 "_partsspan"
          let base := [Node.pattern (← partsspan pat) pat, ← reservedAt ⟨np, args⟩ 3]
          pure (match PCtx.slice ⟨np, args⟩ 4 with | .node n => base ++ [n] | _ => base)
        else do
          let pat ← PCtx.nodesAt ⟨np, args⟩ 3 "_partsspan"
          let base := [← reservedAt ⟨np, args⟩ 2, Node.pattern (← partsspan pat) pat,
                       ← reservedAt ⟨np, args⟩ 4]
          pure (match PCtx.slice ⟨np, args⟩ 5 with | .node n => base ++ [n] | _ => base)
      pure (.node (.compound (← partsspan parts) parts []), false)) := by rfl

theorem actionCore_p_case_clause_sequence (np : NestedParse) (args : List SVal) :
    actionCore np "p_case_clause_sequence" args = (do
      if PCtx.len ⟨np, args⟩ == 3 then
        pure (.nodes [← PCtx.nodeAt ⟨np, args⟩ 1 "p_case_clause_sequence",
                      ← reservedAt ⟨np, args⟩ 2], false)
      else
        pure (.nodes ((← PCtx.nodesAt ⟨np, args⟩ 1 "p_case_clause_sequence") ++
                     [← PCtx.nodeAt ⟨np, args⟩ 2 "p_case_clause_sequence",
                      ← reservedAt ⟨np, args⟩ 3]), false)) := by rfl

theorem actionCore_p_pattern (np : NestedParse) (args : List SVal) :
    actionCore np "p_pattern" args = (do
      if PCtx.len ⟨np, args⟩ == 2 then
        pure (.nodes [← expandword np (← PCtx.tokAt ⟨np, args⟩ 1)], false)
      else
        let l ← PCtx.nodesAt ⟨np, args⟩ 1 "p_pattern"
        let r ← reservedAt ⟨np, args⟩ 2
        pure (.nodes (l ++ [r, ← expandword np (← PCtx.tokAt ⟨np, args⟩ 3)]),
              false)) := by rfl

theorem actionCore_p_list (np : NestedParse) (args : List SVal) :
    actionCore np "p_list" args = pure (PCtx.slice ⟨np, args⟩ 2, false) := by rfl

theorem actionCore_p_compound_list (np : NestedParse) (args : List SVal) :
    actionCore np "p_compound_list" args = (do
      if PCtx.len ⟨np, args⟩ == 2 then pure (PCtx.slice ⟨np, args⟩ 1, false)
      else
        let parts ← PCtx.nodesAt ⟨np, args⟩ 2 "p_compound_list"
        if parts.length > 1 then pure (.node (.list (← partsspan parts) parts), false)
        else match parts.head? with
          | some n => pure (.node n, false)
          | none => M.foreign "IndexError" "p_compound_list") := by rfl

theorem actionCore_p_list0 (np : NestedParse) (args : List SVal) :
    actionCore np "p_list0" args = (do
      let parts ← PCtx.nodesAt ⟨np, args⟩ 1 "p_list0"
      if parts.length > 1 || !(PCtx.isTok ⟨np, args⟩ 2 .NEWLINE) then
        let parts := parts ++ [← operatorAt ⟨np, args⟩ 2]
        pure (.node (.list (← partsspan parts) parts), false)
      else match parts.head? with
        | some n => pure (.node n, false)
        | none => M.foreign "IndexError" "p_list0") := by rfl

theorem actionCore_p_list1 (np : NestedParse) (args : List SVal) :
    actionCore np "p_list1" args = (do
      pure (← joinLists ⟨np, args⟩ .operator "p_list1", false)) := by rfl

theorem actionCore_p_simple_list_terminator (np : NestedParse) (args : List SVal) :
    actionCore np "p_simple_list_terminator" args = pure (.none, false) := by rfl

theorem actionCore_p_list_terminator (np : NestedParse) (args : List SVal) :
    actionCore np "p_list_terminator" args = (do
      match PCtx.slice ⟨np, args⟩ 1 with
      | .tok t =>
        if t.value == .str [';'] then
          pure (.node (.operator (PCtx.lexspan ⟨np, args⟩ 1) [';']), false)
        else pure (.none, false)
      | _ => pure (.none, false)) := by rfl

theorem actionCore_p_newline_list (np : NestedParse) (args : List SVal) :
    actionCore np "p_newline_list" args = pure (.none, false) := by rfl

theorem actionCore_p_simple_list (np : NestedParse) (args : List SVal) :
    actionCore np "p_simple_list" args = (do
      gatherheredocuments
      let l1 ← PCtx.nodesAt ⟨np, args⟩ 1 "p_simple_list"
      let v ←
        if PCtx.len ⟨np, args⟩ == 3 || l1.length > 1 then do
          let parts ←
            if PCtx.len ⟨np, args⟩ == 3 then pure (l1 ++ [← operatorAt ⟨np, args⟩ 2])
            else pure l1
          pure (SVal.node (.list (← partsspan parts) parts))
        else match l1 with
          | [n] => pure (SVal.node n)
          | _ => M.foreign "AssertionError" "p_simple_list"
      let l ← get
      let accept := PCtx.len ⟨np, args⟩ == 2 && l.ps.cmdsubst &&
        (match l.eofToken with
         | some e => decide ({ l.currentToken with pos := none } = e)
         | none => false)
      pure (v, accept)) := by rfl

theorem actionCore_p_simple_list1 (np : NestedParse) (args : List SVal) :
    actionCore np "p_simple_list1" args = (do
      pure (← joinLists ⟨np, args⟩ .operator "p_simple_list1", false)) := by rfl

theorem actionCore_p_pipeline_command (np : NestedParse) (args : List SVal) :
    actionCore np "p_pipeline_command" args = (do
      if PCtx.len ⟨np, args⟩ == 2 then
        let l ← PCtx.nodesAt ⟨np, args⟩ 1 "p_pipeline_command"
        match l with
        | [n] => pure (.node n, false)
        | _ =>
          match l.head?, l.getLast? with
          | some a, some b =>
            pure (.node (.pipeline ((← nodePos a).1, (← nodePos b).2) l), false)
          | _, _ => M.foreign "IndexError" "p_pipeline_command"
      else
        let bang := Node.reservedword (PCtx.lexspan ⟨np, args⟩ 1) ['!']
        match PCtx.slice ⟨np, args⟩ 2 with
        | .none => pure (.node (.pipeline bang.pos [bang]), false)
        | .node (.pipeline _ parts) =>
          let parts := bang :: parts
          match parts.getLast? with
          | some b => pure (.node (.pipeline (bang.pos.1, (← nodePos b).2) parts), false)
          | none => M.foreign "IndexError" "p_pipeline_command"
        | .node n => pure (.node (.pipeline (bang.pos.1, (← nodePos n).2) [bang, n]), false)
        | _ => M.foreign "AttributeError" "p_pipeline_command") := by rfl

theorem actionCore_p_pipeline (np : NestedParse) (args : List SVal) :
    actionCore np "p_pipeline" args = (do
      pure (← joinLists ⟨np, args⟩ .pipe "p_pipeline", false)) := by rfl

theorem actionCore_p_timespec (np : NestedParse) (args : List SVal) :
    actionCore np "p_timespec" args = (do
      pure (← handleNotImplemented ⟨np, args⟩ "time command", false)) := by rfl

theorem actionCore_p_empty (np : NestedParse) (args : List SVal) :
    actionCore np "p_empty" args = pure (.none, false) := by rfl

theorem actionCore_other (np : NestedParse) (fname : String) (args : List SVal)
    (h : fname ∉
      ["p_inputunit", "p_word_list", "p_redirection_heredoc", "p_redirection",
       "p_simple_command_element", "p_redirection_list", "p_simple_command", "p_command",
       "p_shell_command", "p_for_command", "p_arith_for_command", "p_select_command",
       "p_case_command", "p_function_def", "p_function_body", "p_subshell", "p_group_command",
       "p_coproc", "p_if_command", "p_arith_command", "p_cond_command", "p_elif_clause",
       "p_case_clause", "p_pattern_list", "p_case_clause_sequence", "p_pattern", "p_list",
       "p_compound_list", "p_list0", "p_list1", "p_simple_list_terminator", "p_list_terminator",
       "p_newline_list", "p_simple_list", "p_simple_list1", "p_pipeline_command", "p_pipeline",
       "p_timespec", "p_empty"]) :
    actionCore np fname args = M.foreign "NotModelled" ("action " ++ fname) := by
  simp only [List.mem_cons, List.not_mem_nil, or_false, not_or] at h
  unfold actionCore
  split
  -- in every arm but the last `h` denies `"p_x" = "p_x"`
  all_goals first | simp only [not_true_eq_false, false_and, and_false] at h | rfl

/-- a production without action: the engine passes the empty name -/
theorem PCtx.lexspan_tok {p : PCtx} {i : Nat} {t : Token} (h : p.slice i = .tok t) :
    p.lexspan i = (t.lexpos, t.endlexpos) := by
  unfold PCtx.lexspan; rw [h]; rfl

theorem actionCore_unknown (np : NestedParse) (args : List SVal) :
    actionCore np "" args = M.foreign "NotModelled" ("action " ++ "") :=
  actionCore_other np "" args (by decide)

end Bashlex
