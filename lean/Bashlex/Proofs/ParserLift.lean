/-
  The recursion of `parserRun` on the nesting depth, made explicit once: `parserRun (d + 1)` is
  `C16.level (C03.npOf (parserRun d))` (`parserRun_level`).  A judgement on `M (Option Node)` that
  holds of the raise at depth 0 and passes from `rec` to `level (npOf rec)` holds of every
  `parserRun d` (`parserRun_ind`; as a tactic: `induction d using parserRun_ind`, which leaves the
  step about `C16.level (C03.npOf (parserRun d))`).  For the Hoare judgement `SatS` the two halves of that step are
  rules: `SatS.npOf` (the nested parser is its recursive call started in `nestedInit`, with only
  the parser-state flags copied back) and `SatS.level` (the engine's result, then `resolve` over the
  final store); `Sat` is their state-free reading.  A triple for `parserRun maxDepth` is read at the
  entry points through `runParser_sat_ok`/`runParser_sat_error`; the exceptions of `parse` and
  `parsesingle` are those of some `runParser` (`parse_error`, `parsesingle_error`: the loop of
  `parse` has fuel for every index).  The token loop of `split` is walked once (`splitBody_sat`,
  `splitM_sat`).
-/
import Bashlex.Proofs.QCongr -- for `runParserEnv`, `runParser_eq`
import Bashlex.Proofs.HoareS

namespace Bashlex
open Bashlex.M

namespace C16

/-- the state a nested parser starts in -/
def nestedInit (outer : Local) (string : Str) (dolparen : Bool) : Local :=
  { tape := some (Tape.ofInput string), opts := some (true, false)
    lastReadToken := outer.lastReadToken, tokenBeforeThat := outer.tokenBeforeThat
    twoTokensAgo := outer.twoTokensAgo
    ps := if dolparen then { outer.ps with cmdsubst := true, eoftoken := true } else outer.ps
    eofToken := if dolparen then some rparenEofToken else none
    limit := outer.limit.map (· - 1) }

/-- the body of `parserRun (depth + 1)` -/
def level (np : NestedParse) : M (Option Node) := do
  let res ← LR.run LR.realTables (lrHooks np) 1073741824
  let store := (← get).store
  match res with
  | .accepted (.node n) _ _ _ => pure (some (resolve store n))
  | _ => pure none

end C16

namespace C03

/-- the nested-parser wrapper of `parserRun` (`_recursiveparse` creating a fresh `_parser`) -/
def npOf (run : M (Option Node)) : NestedParse := fun string dolparen => do
  let outer ← get
  let ps := if dolparen then { outer.ps with cmdsubst := true, eoftoken := true } else outer.ps
  set ({ tape := some (Tape.ofInput string), opts := some (true, false)
         lastReadToken := outer.lastReadToken, tokenBeforeThat := outer.tokenBeforeThat
         twoTokensAgo := outer.twoTokensAgo, ps := ps
         eofToken := if dolparen then some rparenEofToken else none
         limit := outer.limit.map (· - 1) } : Local)
  let r ← run
  let inner ← get
  set { outer with ps := inner.ps }
  pure r

theorem npOf_run (rec : M (Option Node)) (s : Str) (b : Bool) (l : Local) (e : Env) :
    (npOf rec s b).run l e =
      match rec.run (C16.nestedInit l s b) e with
      | (.ok (r, l'), e') => (.ok (r, { l with ps := l'.ps }), e')
      | (.error x, e') => (.error x, e') := by
  unfold npOf C16.nestedInit
  simp only [M.run_bind, M.run_get, M.run_set]
  generalize M.run rec _ e = x
  rcases x with ⟨r, e'⟩
  cases r with
  | error x => rfl
  | ok v => obtain ⟨r, l'⟩ := v; rfl

/-- an exception of the nested parser is one of its recursive call -/
theorem npOf_error {rec : M (Option Node)} {s : Str} {b : Bool} {l : Local} {e e' : Env} {x : Exn}
    (h : (npOf rec s b).run l e = (.error x, e')) :
    rec.run (C16.nestedInit l s b) e = (.error x, e') := by
  rw [npOf_run] at h
  rcases hr : rec.run (C16.nestedInit l s b) e with ⟨r, e2⟩
  rw [hr] at h
  cases r with
  | ok v => cases h
  | error y => cases h; rfl

end C03

-- The triples are used through their rules only.  Were `M.run` (and the entry points) left
-- reducible here, every application of a lemma about a concrete program would be unfolded into
-- that program whenever the elaborator normalises its type.
attribute [local irreducible] M.run runParser parse parsesingle split

theorem parserRun_level (d : Nat) :
    parserRun (d + 1) = C16.level (C03.npOf (parserRun d)) := rfl

/-- induction on the nesting depth, for any judgement on parser runs -/
theorem parserRun_ind {J : Nat → M (Option Node) → Prop}
    (zero : J 0 (M.raise (.outOfFuel "nesting")))
    (succ : ∀ d, J d (parserRun d) → J (d + 1) (C16.level (C03.npOf (parserRun d)))) :
    ∀ d, J d (parserRun d)
  | 0 => zero
  | d + 1 => succ d (parserRun_ind zero succ d)

namespace M

/-- the nested parser: its recursive call from `nestedInit`, only the flags copied back -/
theorem SatS.npOf {rec : M (Option Node)} {s : Str} {b : Bool} {P : Local → Env → Prop}
    {Q : Option Node → Local → Env → Prop} {E : Exn → Prop}
    (h : ∀ l e, P l e → SatS rec (fun l0 e0 => l0 = C16.nestedInit l s b ∧ e0 = e)
      (fun r li e' => Q r { l with ps := li.ps } e') E) :
    SatS (C03.npOf rec s b) P Q E := by
  intro l e hp
  have h1 := h l e hp _ _ ⟨rfl, rfl⟩
  rw [C03.npOf_run]
  rcases hr : rec.run (C16.nestedInit l s b) e with ⟨r, e'⟩
  rw [hr] at h1
  cases r with
  | error x => exact h1
  | ok v => exact h1

/-- a fact about the result alone, from a precondition that `nestedInit` establishes -/
theorem SatS.npOf_result {rec : M (Option Node)} {s : Str} {b : Bool} {Pin : Local → Env → Prop}
    {Φ : Option Node → Prop} {E : Exn → Prop} (h : SatS rec Pin (fun r _ _ => Φ r) E)
    (hin : ∀ l e, Pin (C16.nestedInit l s b) e) :
    SatS (C03.npOf rec s b) (fun _ _ => True) (fun r _ _ => Φ r) E :=
  SatS.npOf fun l e _ => h.pre (fun _ _ hh => hh.1 ▸ hh.2 ▸ hin l e)

/-- one level: what the engine guarantees of an accepted node is carried over `resolve` -/
theorem SatS.level {np : NestedParse} {P : Local → Env → Prop}
    {R : LR.Res SVal → Local → Env → Prop} {Q : Option Node → Local → Env → Prop}
    {E : Exn → Prop}
    (hrun : SatS (LR.run LR.realTables (lrHooks np) 1073741824) P R E)
    (hsome : ∀ n a b c l e, R (.accepted (.node n) a b c) l e → Q (some (resolve l.store n)) l e)
    (hnone : ∀ res l e, R res l e → Q none l e) :
    SatS (C16.level np) P Q E := by
  -- the engine's run as a variable: a triple over a concrete program is unfolded, and the program
  -- reduced into, by every step that looks at it
  unfold C16.level
  generalize LR.run LR.realTables (lrHooks np) 1073741824 = m at hrun ⊢
  refine SatS.bind hrun (fun res => ?_)
  refine SatS.bind SatS.get (fun l => ?_)
  split
  · exact SatS.pure (by rintro l' e' ⟨rfl, h⟩; exact hsome _ _ _ _ _ _ h)
  · exact SatS.pure (by rintro l' e' ⟨rfl, h⟩; exact hnone _ _ _ h)

/-- every nesting depth, for a family of triples (index `ι`: an input, a ghost, ...) whose
    postcondition and exceptions may depend on the depth -/
theorem SatS.parserRun {ι : Type} {P : ι → Local → Env → Prop}
    {Q : Nat → ι → Option Node → Local → Env → Prop} {E : Nat → ι → Exn → Prop}
    (zero : ∀ i, E 0 i (.outOfFuel "nesting"))
    (succ : ∀ d, (∀ i, SatS (Bashlex.parserRun d) (P i) (Q d i) (E d i)) →
      ∀ i, SatS (C16.level (C03.npOf (Bashlex.parserRun d))) (P i) (Q (d + 1) i) (E (d + 1) i)) :
    ∀ d i, SatS (Bashlex.parserRun d) (P i) (Q d i) (E d i) :=
  parserRun_ind (J := fun d m => ∀ i, SatS m (P i) (Q d i) (E d i))
    (fun i => SatS.raise (zero i)) succ

theorem Sat.npOf {rec : M (Option Node)} {s : Str} {b : Bool} {Φ : Option Node → Prop}
    {E : Exn → Prop} (h : Sat rec Φ E) : Sat (C03.npOf rec s b) Φ E :=
  SatS.to_sat (SatS.npOf fun _ _ _ => SatS.of_sat h _)

theorem Sat.level {np : NestedParse} {R : LR.Res SVal → Prop} {Φ : Option Node → Prop}
    {E : Exn → Prop} (hrun : Sat (LR.run LR.realTables (lrHooks np) 1073741824) R E)
    (hsome : ∀ n a b c st, R (.accepted (.node n) a b c) → Φ (some (resolve st n)))
    (hnone : ∀ res, R res → Φ none) : Sat (C16.level np) Φ E := by
  unfold C16.level
  generalize LR.run LR.realTables (lrHooks np) 1073741824 = m at hrun ⊢
  refine Sat.bind hrun (fun res hres => ?_)
  refine Sat.bind (P := fun _ => True) (Sat.get fun _ => True.intro) (fun l _ => ?_)
  split
  · exact Sat.pure (hsome _ _ _ _ _ hres)
  · exact Sat.pure (hnone _ hres)

theorem Sat.parserRun {Φ : Option Node → Prop} {E : Exn → Prop} (zero : E (.outOfFuel "nesting"))
    (succ : ∀ d, Sat (Bashlex.parserRun d) Φ E →
      Sat (C16.level (C03.npOf (Bashlex.parserRun d))) Φ E) :
    ∀ d, Sat (Bashlex.parserRun d) Φ E :=
  parserRun_ind (J := fun _ m => Sat m Φ E) (Sat.raise zero) succ

end M

/-! ## the entry points -/

/-- a triple read at one run, when only the result of the run is known -/
theorem M.SatS.run_map_ok {α : Type} {m : M α} {P : Local → Env → Prop} {Φ : α → Prop}
    {E : Exn → Prop} (h : SatS m P (fun r _ _ => Φ r) E) {l : Local} {e : Env} (hP : P l e)
    {r : α} (hr : (m.run l e).1.map (·.1) = .ok r) : Φ r := by
  have h1 := h l e hP
  rcases hx : m.run l e with ⟨x, e'⟩
  rw [hx] at h1 hr
  cases x with
  | error y => cases hr
  | ok v => cases hr; exact h1

theorem M.SatS.run_map_error {α : Type} {m : M α} {P : Local → Env → Prop}
    {Q : α → Local → Env → Prop} {E : Exn → Prop} (h : SatS m P Q E) {l : Local} {e : Env}
    (hP : P l e) {x : Exn} (hr : (m.run l e).1.map (·.1) = .error x) : E x := by
  have h1 := h l e hP
  rcases hx : m.run l e with ⟨y, e'⟩
  rw [hx] at h1 hr
  cases y with
  | error y => cases hr; exact h1
  | ok v => cases hr

/-- a triple for `parserRun maxDepth` read at a top-level run (through `runParser_eq`, so that
    `runParser` is never unfolded) -/
theorem runParser_sat_ok {P : Local → Env → Prop} {Φ : Option Node → Prop}
    {E : Exn → Prop} (h : SatS (parserRun maxDepth) P (fun r _ _ => Φ r) E) {s : Str} {o : Opts}
    {t : List Char} (hP : P { limit := o.limit } (runParserEnv s o t)) {r : Option Node}
    (hr : (runParser s o t).1 = .ok r) : Φ r := by
  rw [runParser_eq] at hr
  generalize parserRun maxDepth = m at h hr
  exact h.run_map_ok hP hr

theorem runParser_sat_error {P : Local → Env → Prop} {Q : Option Node → Local → Env → Prop}
    {E : Exn → Prop} (h : SatS (parserRun maxDepth) P Q E) {s : Str} {o : Opts} {t : List Char}
    (hP : P { limit := o.limit } (runParserEnv s o t)) {x : Exn}
    (hr : (runParser s o t).1 = .error x) : E x := by
  rw [runParser_eq] at hr
  generalize parserRun maxDepth = m at h hr
  exact h.run_map_error hP hr

/-- where the loop of `parse` takes its errors from: a run over a suffix; it runs out of fuel
    only if it was given less than there are indices left -/
theorem parseLoop_error (s : Str) (o : Opts) :
    ∀ (fuel index : Nat) (parts : List Node) (t : List Char) (x : Exn),
      (parseLoop s o fuel index parts t).1 = .error x →
      (x = .outOfFuel "parse" ∧ fuel ≤ s.length + 1 - index) ∨
        ∃ i t, index ≤ i ∧ i < s.length ∧ (runParser (s.drop i) o t).1 = .error x := by
  intro fuel
  induction fuel with
  | zero => intro index parts t x h; cases h; exact Or.inl ⟨rfl, Nat.zero_le _⟩
  | succ fuel ih =>
    intro index parts t x h
    unfold parseLoop at h
    split at h
    · rename_i hidx
      rcases hr : runParser (s.drop index) o t with ⟨r, t'⟩
      rw [hr] at h
      cases r with
      | error e => cases h; exact Or.inr ⟨index, t, Nat.le_refl _, hidx, by rw [hr]⟩
      | ok v =>
        cases v with
        | none => cases h
        | some part =>
          have := Nat.le_max_right (nextIndex (part.shift index)) (index + 1)
          rcases ih _ _ _ x h with ⟨hx, hf⟩ | ⟨i, t, hi, hlt, h⟩
          · exact Or.inl ⟨hx, by omega⟩
          · exact Or.inr ⟨i, t, by omega, hlt, h⟩
    · cases h

/-- an exception of `parse` is that of its first run or of a run over a proper suffix (the loop
    has fuel for every index) -/
theorem parse_error {s : Str} {o : Opts} {x : Exn} (h : (parse s o).1 = .exn x) :
    (runParser s o []).1 = .error x ∨
      ∃ i t, 0 < i ∧ i < s.length ∧ (runParser (s.drop i) o t).1 = .error x := by
  unfold parse at h
  rcases hr : runParser s o [] with ⟨r, t⟩
  rw [hr] at h
  cases r with
  | error e => cases h; exact Or.inl rfl
  | ok v =>
    cases v with
    | none => cases h
    | some first =>
      simp only [] at h
      rcases hl : parseLoop s o (s.length + 1) (max (nextIndex first) 1) [first] t with ⟨r2, t2⟩
      rw [hl] at h
      cases r2 with
      | ok ps => cases h
      | error e =>
        cases h
        have := Nat.le_max_right (nextIndex first) 1
        rcases parseLoop_error s o _ _ _ _ x (by rw [hl]) with ⟨_, hf⟩ | ⟨i, t, hi, hlt, h⟩
        · omega
        · exact Or.inr ⟨i, t, by omega, hlt, h⟩

theorem parsesingle_error {s : Str} {o : Opts} {x : Exn} (h : (parsesingle s o).1 = .exn x) :
    (runParser s o []).1 = .error x := by
  unfold parsesingle at h
  rcases hr : runParser s o [] with ⟨r, t⟩
  rw [hr] at h
  cases r with
  | error e => cases h; rfl
  | ok v => cases h

theorem parsesingle_result {s : Str} {o : Opts} {r : Option Node}
    (h : (parsesingle s o).1 = .single r) : (runParser s o []).1 = .ok r := by
  unfold parsesingle at h
  rcases hr : runParser s o [] with ⟨r', t⟩
  rw [hr] at h
  cases r' with
  | error e => cases h
  | ok v => cases h; rfl

/-- what holds of the errors of all runs over suffixes holds of every exception of `parse` -/
theorem parse_error_of {E : Exn → Prop} {s : Str} {o : Opts}
    (hrun : ∀ i t x, (runParser (s.drop i) o t).1 = .error x → E x) {x : Exn}
    (h : (parse s o).1 = .exn x) : E x := by
  rcases parse_error h with h | ⟨i, _, _, _, h⟩
  · exact hrun 0 _ _ h
  · exact hrun i _ _ h

/-! ## `split` -/

/-- one iteration of the token loop of `split`: from `I`, `token()` leads to `J t`; the loop is
    left in `R`, or goes on in `K`, after the expansion of a word (the token is not EOF then).  The
    index error of `value[0]` is raised on a QUOTED token with an empty value. -/
theorem splitBody_sat {I K R : Local → Env → Prop} {J : Token → Local → Env → Prop}
    {E : Exn → Prop} {np : NestedParse} (hnext : SatS nextToken I J E)
    (hstop : ∀ t l e, J t l e → R l e)
    (hexp : ∀ t dq, t.is .EOF = false → SatS (expandwordinternal np t dq) (J t) (fun _ => K) E)
    (hother : ∀ t l e, t.is .EOF = false → J t l e → K l e)
    (hidx : ∀ t l e, J t l e → t.flags.contains .QUOTED → t.valueStr.head? = none →
      E (.foreign "IndexError" "split"))
    (s line : Str) (added : Bool) (acc : List Str) :
    SatS (do
        let t ← nextToken
        if t.is .EOF || (added && t.lexpos + 1 == line.length) then return .inr acc
        if t.is .WORD || t.is .ASSIGNMENT_WORD then
          let quoted := t.flags.contains .QUOTED
          let doublequoted ←
            if quoted then
              match t.valueStr.head? with
              | none => M.foreign "IndexError" "split"
              | some c => pure (c == '"')
            else pure false
          let (_, w) ← expandwordinternal np t doublequoted
          return .inl (acc ++ [w])
        else
          return .inl (acc ++ [Str.slice s t.lexpos t.endlexpos]) : M (List Str ⊕ List Str))
      I (fun r l e => Sum.elim (fun _ => K l e) (fun _ => R l e) r) E := by
  refine SatS.bind hnext fun t => ?_
  refine SatS.ite (fun _ => SatS.pure (hstop t)) fun hc => ?_
  have heof : t.is .EOF = false := by
    cases h : t.is .EOF with
    | false => rfl
    | true => simp [h] at hc
  refine SatS.ite (fun _ => ?_) (fun _ => SatS.pure (hother t · · heof))
  have hrest : ∀ dq, SatS (pure dq >>= fun dq => (do
        let (_, w) ← expandwordinternal np t dq
        return .inl (acc ++ [w]) : M (List Str ⊕ List Str))) (J t)
      (fun r l e => Sum.elim (fun _ => K l e) (fun _ => R l e) r) E :=
    fun dq => SatS.bind (Q := fun _ => J t) (SatS.pure fun _ _ h => h) fun dq =>
      SatS.bind (hexp t dq heof) fun _ => SatS.pure fun _ _ h => h
  refine SatS.ite (fun hq => ?_) (fun _ => hrest _)
  split
  · rename_i hnone
    exact SatS.bind (Q := fun _ _ _ => False)
      (SatS.raise_of_pre fun l e hj => hidx t l e hj hq hnone) fun _ _ _ h => h.elim
  · exact hrest _

/-- the token loop of `split`, whose nested parser is the one of `parserRun` at full depth, keeps
    a state invariant `I` that its two readers, `token()` and the expansion of a word keep; `T` is
    what is known of a delivered token -/
theorem splitM_sat {I : Local → Env → Prop} {T : Token → Prop} {E : Exn → Prop} (s : Str)
    (hline : SatS tapeLine I (fun _ => I) E) (hadded : SatS tapeAdded I (fun _ => I) E)
    (hnext : SatS nextToken I (fun t l e => T t ∧ I l e) E)
    (hexp : ∀ t dq, T t →
      SatS (expandwordinternal (C03.npOf (parserRun maxDepth)) t dq) I (fun _ => I) E)
    (hidx : ∀ t, T t → t.flags.contains .QUOTED → t.valueStr.head? = none →
      E (.foreign "IndexError" "split"))
    (hfuel : E (.outOfFuel "split")) :
    SatS (splitM s) I (fun _ => I) E :=
  SatS.bind hline fun line => SatS.bind hadded fun added =>
    SatS.loop (I := fun _ => I) hfuel (fun acc =>
      splitBody_sat (K := I) (R := I) hnext (fun _ _ _ h => h.2)
        (fun t dq _ => SatS.assume (hexp t dq)) (fun _ _ _ _ h => h.2)
        (fun t _ _ h => hidx t h.1) s line added acc) _ _

/-- a triple for `splitM` read at `split` -/
theorem split_sat_error {P : Local → Env → Prop} {Q : List Str → Local → Env → Prop}
    {E : Exn → Prop} {s : Str} (h : SatS (splitM s) P Q E) (hP : P {} { tape := Tape.ofInput s })
    {x : Exn} (hx : (split s).1 = .exn x) : E x := by
  have h1 := h _ _ hP
  unfold split at hx
  simp only [] at hx
  rcases hr : (splitM s).run {} { tape := Tape.ofInput s } with ⟨r, e'⟩
  rw [hr] at h1 hx
  cases r with
  | error y => cases hx; exact h1
  | ok v => cases hx

end Bashlex
