/-
  What the tokenizer can deliver, once: the types `readtokenMeta` can return, the (type, spelling)
  pairs of `_specialcasetokens`, and the three shapes (`FWShape`; reserved words from two sources)
  of the token `finishWord` builds.  The facts the properties need about delivered tokens (type
  and value fit together, no EOF, no NEWLINE, an operator ends the word before it, ...) are
  consequences by inspection of these finite lists and of the pure `fwToken`.
-/
import Bashlex.Proofs.HoareS
import Bashlex.Proofs.TokForms

namespace Bashlex.Shape
open Bashlex Bashlex.M

/-- walk towards the `pure` leaves; the guards of the conditionals are kept -/
macro "shape_walk" : tactic => `(tactic| repeat' (first
  | with_reducible refine Sat.ite (fun h => ?_) (fun h => ?_)
  | with_reducible exact Sat.foreign trivial
  | with_reducible exact Sat.raise trivial
  | with_reducible refine Sat.bind_any (fun _ => ?_)
  | with_reducible refine Sat.pure ?_))

theorem sat_createtoken {ty : TokType} {v : TVal} {flags : WordFlags} :
    Sat (createtoken ty v flags) (fun t => t.ttype = some ty ∧ t.value = v ∧ t.flags = flags) := by
  unfold createtoken
  shape_walk
  all_goals exact ⟨rfl, rfl, rfl⟩

/-- the answers of `_specialcasetokens`, with the spelling that triggers each -/
def specialTokens : List (TokType × Str) :=
  [(.IN, "in".toList), (.DO, "do".toList), (.ESAC, "esac".toList), (.LEFT_CURLY, "{".toList),
   (.RIGHT_CURLY, "}".toList), (.TIMEOPT, "-p".toList), (.TIMEIGN, "--".toList),
   (.COND_END, "]]".toList)]

theorem sat_specialcasetokens (s : Str) :
    Sat (specialcasetokens s) (fun r => ∀ ty, r = some ty → (ty, s) ∈ specialTokens) := by
  unfold specialcasetokens
  shape_walk
  all_goals intro ty hty; cases hty
  all_goals simp_all [specialTokens]

/-- the operators of more than one character -/
def metaOps : List TokType :=
  [.LESS_LESS_MINUS, .LESS_LESS_LESS, .LESS_LESS, .GREATER_GREATER, .SEMI_SEMI_AND, .SEMI_SEMI,
   .AND_AND, .OR_OR, .LESS_AND, .GREATER_AND, .LESS_GREATER, .GREATER_BAR, .AND_GREATER_GREATER,
   .AND_GREATER, .BAR_AND, .SEMI_AND]

theorem sat_tokentypeOfChar (c : Char) :
    Sat (tokentypeOfChar c) (fun t => TokType.ofChar c = some t) := by
  unfold tokentypeOfChar
  split
  · exact Sat.pure ‹_›
  · exact Sat.foreign trivial

/-- `readtokenMeta` returns an operator of several characters or the type of its character -/
theorem sat_readtokenMeta (c : Char) :
    Sat (readtokenMeta c) (fun r => ∀ t, r = some t → t ∈ metaOps ∨ TokType.ofChar c = some t) := by
  unfold readtokenMeta
  repeat' (first
    | with_reducible refine Sat.ite (fun _ => ?_) (fun _ => ?_)
    | with_reducible refine Sat.bind (sat_tokentypeOfChar c) (fun _ h => ?_)
    | with_reducible refine Sat.bind_any (fun _ => ?_)
    | with_reducible refine Sat.pure ?_)
  all_goals intro t ht; cases ht
  all_goals first | exact Or.inr ‹_› | exact Or.inl (by decide)

theorem sat_isAssignment (v : Str) : Sat (isAssignment v) (fun _ => v ≠ []) := by
  unfold isAssignment
  split
  · exact Sat.foreign trivial
  · shape_walk
    all_goals exact List.cons_ne_nil _ _

/-- the token `finishWord` builds: a NUMBER; a reserved word, from `_specialcasetokens` or from the
    table of reserved words, spelt as in the input; or a word, with type and flags from `fwToken` -/
def FWShape (st : RWState) (tok : Token) : Prop :=
  (legalNumber st.tokenword = true ∧ tok.ttype = some .NUMBER ∧
    tok.value = .int (digitsToNat st.tokenword) ∧ tok.flags = []) ∨
  (∃ ty, ((ty, st.tokenword) ∈ specialTokens ∨
      (reservedFirstCommandChars.lookup st.tokenword = some ty ∧ st.dollarPresent = false ∧
        st.quoted = false)) ∧
    tok.ttype = some ty ∧ tok.value = .str st.tokenword ∧ tok.flags = []) ∨
  (st.tokenword ≠ [] ∧ ∃ l asg t0, t0.ttype = some .WORD ∧ t0.value = .str st.tokenword ∧
    t0.flags = [] ∧ tok = fwToken st l asg t0)

/-! `fwToken` changes the flags and, for an assignment where one is accepted, the type; value and
position are the word's (`legalIdentifier` is constantly false: REDIR_WORD is never built). -/

theorem fwToken_value (st : RWState) (l : Local) (asg : Bool) (t0 : Token) :
    (fwToken st l asg t0).value = t0.value := by
  unfold fwToken
  simp only [Id.run, legalIdentifier, Bool.false_eq_true, if_false, pure, apply_ite Token.value, ite_self]

theorem fwToken_pos (st : RWState) (l : Local) (asg : Bool) (t0 : Token) :
    (fwToken st l asg t0).pos = t0.pos := by
  unfold fwToken
  simp only [Id.run, legalIdentifier, Bool.false_eq_true, if_false, pure, apply_ite Token.pos, ite_self]

theorem ite_ind {α : Type} (P : α → Prop) {c : Prop} [Decidable c] {a b : α} (ha : P a) (hb : P b) :
    P (if c then a else b) := by
  split <;> assumption

theorem fwToken_ttype (st : RWState) (l : Local) (asg : Bool) (t0 : Token) :
    (fwToken st l asg t0).ttype = t0.ttype ∨ (fwToken st l asg t0).ttype = some .ASSIGNMENT_WORD := by
  unfold fwToken
  simp only [Id.run, legalIdentifier, Bool.false_eq_true, if_false, pure]
  repeat' (first
    | refine ite_ind (fun t : Token => t.ttype = t0.ttype ∨ t.ttype = some .ASSIGNMENT_WORD) ?_ ?_
    | exact Or.inl rfl
    | exact Or.inr rfl)

theorem sat_fwWord (st : RWState) (t0 : Token) :
    Sat (fwWord st t0) (fun tok => st.tokenword ≠ [] ∧ ∃ l asg, tok = fwToken st l asg t0) := by
  unfold fwWord fwEnd
  exact Sat.bind_any (fun _ => Sat.bind_any (fun l => Sat.bind (sat_isAssignment _) (fun asg hne =>
    Sat.bind_any (fun _ => Sat.pure ⟨hne, l, asg, rfl⟩))))

theorem sat_finishWord (st : RWState) : Sat (finishWord st) (FWShape st) := by
  rw [finishWord_eq]
  unfold fwHead
  refine Sat.bind_any (fun _ => Sat.bind_any (fun l => Sat.ite (fun h => ?_) (fun _ => ?_)))
  · refine sat_createtoken.weaken (fun t ht => Or.inl ⟨?_, ht⟩) (fun _ h => h)
    simp only [Bool.and_eq_true] at h
    exact h.2
  refine Sat.bind (sat_specialcasetokens _) (fun r hr => ?_)
  split
  · exact sat_createtoken.weaken (fun t ht => Or.inr (Or.inl ⟨_, Or.inl (hr _ rfl), ht⟩)) (fun _ h => h)
  refine Sat.bind_any (fun l => ?_)
  extract_lets word
  have hword : ∀ u, Sat (word u) (FWShape st) := fun _ =>
    Sat.bind sat_createtoken (fun t0 ht0 => (sat_fwWord st t0).weaken
      (fun tok h => Or.inr (Or.inr ⟨h.1, h.2.elim fun l h => h.elim fun asg h =>
        ⟨l, asg, t0, ht0.1, ht0.2.1, ht0.2.2, h⟩⟩)) (fun _ h => h))
  refine Sat.ite (fun h => ?_) (fun _ => hword ())
  simp only [Bool.and_eq_true, Bool.not_eq_true'] at h
  split
  · rename_i ty hty
    extract_lets reserved
    have hres : ∀ u, Sat (reserved u) (FWShape st) := fun _ =>
      sat_createtoken.weaken
        (fun t ht => Or.inr (Or.inl ⟨ty, Or.inr ⟨hty, h.1.1, h.1.2⟩, ht⟩)) (fun _ h => h)
    repeat' (first
      | exact hres ()
      | with_reducible refine Sat.ite (fun _ => ?_) (fun _ => ?_)
      | with_reducible refine Sat.bind_any (fun _ => ?_))
  · exact hword ()

/-! ### `_readtoken` and `token()` above their leaves

  A state-agnostic fact about delivered tokens needs two leaves only: `_readtoken` returns the EOF
  token, a bare type that `tokentypeOfChar` or `readtokenMeta` delivered, or what `_readtokenword`
  returned; `token()` makes a token of a bare type with `_createtoken` and passes any other on. -/

/-- what `_readtoken` returns: a bare type with `B` or a token with `P` -/
def ReadOf (B : TokType → Prop) (P : Token → Prop) : TokType ⊕ Token → Prop
  | .inl ty => B ty
  | .inr t => P t

variable {B : TokType → Prop} {P : Token → Prop}

theorem sat_readtoken_of (heof : P { ttype := some .EOF, value := .none })
    (hty : ∀ c, Sat (tokentypeOfChar c) B)
    (hmeta : ∀ c, Sat (readtokenMeta c) (fun r => ∀ t, r = some t → B t))
    (hword : ∀ c, Sat (readtokenword c) P) : Sat readtoken (ReadOf B P) := by
  unfold readtoken
  refine Sat.bind_any (fun _ => Sat.bind_any (fun _ => Sat.bind_any (fun c1 => ?_)))
  split
  · exact Sat.pure heof
  rename_i ch
  refine Sat.bind_any (fun character => ?_)
  -- the two join points: after the comment, and after the meta-character block
  extract_lets -underBinder jp1
  have key1 : ∀ r c, Sat (jp1 r c) (ReadOf B P) := by
    intro r c
    simp -zeta only [jp1]
    refine Sat.bind_any (fun _ => ?_)
    have hty : Sat (do let t ← tokentypeOfChar c; pure (Sum.inl t) : M (TokType ⊕ Token))
        (ReadOf B P) := Sat.bind (hty c) (fun t ht => Sat.pure ht)
    have hword : Sat (do let t ← readtokenword c; pure (Sum.inr t) : M (TokType ⊕ Token))
        (ReadOf B P) := Sat.bind (hword c) (fun t ht => Sat.pure ht)
    refine Sat.ite (fun _ => Sat.bind_any (fun _ => Sat.bind_any (fun _ => hty))) (fun _ => ?_)
    refine Sat.bind_any (fun _ => Sat.ite (fun _ => hword) (fun _ => ?_))
    refine Sat.bind_any (fun _ => Sat.bind_any (fun _ => ?_))
    extract_lets -underBinder jp2
    have key2 : ∀ r, Sat (jp2 r) (ReadOf B P) := by
      intro r
      simp -zeta only [jp2]
      exact Sat.bind_any (fun _ => Sat.ite (fun _ => hty) (fun _ => hword))
    refine Sat.ite (fun _ => ?_) (fun _ => key2 ())
    refine Sat.bind (hmeta c) (fun m hm => ?_)
    split
    · exact Sat.pure (hm _ rfl)
    · exact key2 ()
  refine Sat.ite (fun _ => ?_) (fun _ => key1 () _)
  exact Sat.bind_any (fun _ => Sat.bind_any (fun _ => key1 () _))

theorem sat_nextToken_of (hread : Sat readtoken (ReadOf B P))
    (hbare : ∀ ty, B ty → Sat (createtoken ty ty.enumValue) P) : Sat nextToken P := by
  unfold nextToken
  refine Sat.bind_any (fun _ => ?_)
  refine Sat.bind hread (fun r hr => ?_)
  extract_lets -underBinder jp
  have key : ∀ cur, P cur → Sat (jp cur) P := fun cur h =>
    Sat.bind_any (fun _ => Sat.bind_any (fun _ => Sat.pure h))
  split
  · exact Sat.bind_any (fun _ => Sat.bind (hbare _ hr) (fun cur h => key cur h))
  · exact Sat.bind (Sat.pure (P := P) hr) (fun cur h => key cur h)

end Bashlex.Shape
