/-
  The semantic actions are parametric.  For any two-run judgement `J` with the rules of `ActLogic`
  (return, bind, the same exception on both sides, the few places where an action looks at the
  state) and any relation on spans, tokens and nodes that the node constructors respect (`ValRel`),
  related arguments give related results: the actions only move their arguments around, read spans,
  and pair a first start with a last end.

  What a lemma has to know about the arguments of the first run alone is a plain hypothesis:
  `ArgsP` (every token among them may be asked for its span) and, where the program reads a span
  without checking that the position holds a token, that `(0, 0)` is related to itself or a fact
  about the shape of the arguments.  Word expansion and the here-document reader are parameters
  (`WordJ`, `hG`), not rules.

  This file has the two structures and the helpers of `Model/Actions.lean` (`tokAt` … `operatorAt`,
  `partsspan`, `makeparts`, `addRedirects`, `handleNotImplemented`, `joinLists`, `mkCompound1`);
  the actions themselves are in `ActParam/*.lean`.
-/
import Bashlex.Proofs.ActionEqns
import Bashlex.LR.Sound -- for `LR.Forall2`, the relation between two argument lists

namespace Bashlex.ActParam
open Bashlex Bashlex.LR

def isWord : Node → Bool | .word .. => true | _ => false
def isPipeline : Node → Bool | .pipeline .. => true | _ => false
def isReserved : Node → Bool | .reservedword .. => true | _ => false
def isOperator : Node → Bool | .operator .. => true | _ => false

/-- both absent, or both present and related -/
def OptRel {α β : Type} (N : α → β → Prop) : Option α → Option β → Prop
  | none, none => True
  | some a, some b => N a b
  | _, _ => False

/-- a relation on the values the actions handle -/
structure ValRel where
  Sp : Span → Span → Prop
  T : Token → Token → Prop
  N : Node → Node → Prop
  /-- the results of word expansion -/
  W : Node → Node → Prop
  /-- the tokens whose span may be read: all of them, unless a token without a span (EOF) reads as
      `(0, 0)` and `Sp` does not relate `(0, 0)` to itself -/
  P : Token → Prop
  pair : ∀ {p p' q q' : Span}, Sp p p' → Sp q q' → Sp (p.1, q.2) (p'.1, q'.2)
  tValue : ∀ {t t'}, T t t' → t'.value = t.value
  tType : ∀ {t t'}, T t t' → t'.ttype = t.ttype
  tSpan : ∀ {t t'}, T t t' → P t → Sp (t.lexpos, t.endlexpos) (t'.lexpos, t'.endlexpos)
  wN : ∀ {a b}, W a b → N a b
  /-- an expanded ASSIGNMENT_WORD is rebuilt as an assignment -/
  wAssign : ∀ {p s ps b}, W (.word p s ps) b →
    ∃ q s' ps', b = .word q s' ps' ∧ N (.assignment p s ps) (.assignment q s' ps')
  operator : ∀ {p q} (s : Str), Sp p q → N (.operator p s) (.operator q s)
  reserved : ∀ {p q} (s : Str), Sp p q → N (.reservedword p s) (.reservedword q s)
  pipe : ∀ {p q} (s : Str), Sp p q → N (.pipe p s) (.pipe q s)
  /-- a word without parts (the delimiter of a here-document) -/
  wordLeaf : ∀ {p q} (s : Str), Sp p q → N (.word p s []) (.word q s [])
  redirect : ∀ {p q i t o o' oa hid}, Sp p q → OptRel N o o' →
    N (.redirect p i t o oa none hid) (.redirect q i t o' oa none hid)
  command : ∀ {p q l l'}, Sp p q → Forall2 N l l' → N (.command p l) (.command q l')
  compound : ∀ {p q l l' r r'}, Sp p q → Forall2 N l l' → Forall2 N r r' →
    N (.compound p l r) (.compound q l' r')
  whileN : ∀ {p q l l'}, Sp p q → Forall2 N l l' → N (.whileN p l) (.whileN q l')
  untilN : ∀ {p q l l'}, Sp p q → Forall2 N l l' → N (.untilN p l) (.untilN q l')
  forN : ∀ {p q l l'}, Sp p q → Forall2 N l l' → N (.forN p l) (.forN q l')
  caseN : ∀ {p q l l'}, Sp p q → Forall2 N l l' → N (.caseN p l) (.caseN q l')
  ifN : ∀ {p q l l'}, Sp p q → Forall2 N l l' → N (.ifN p l) (.ifN q l')
  unimplemented : ∀ {p q l l'}, Sp p q → Forall2 N l l' →
    N (.unimplemented p l) (.unimplemented q l')
  function : ∀ {p q l l'} (a b : Nat), Sp p q → Forall2 N l l' →
    N (.function p a b l) (.function q a b l')
  pattern : ∀ {p q l l'}, Sp p q → Forall2 N l l' → N (.pattern p l) (.pattern q l')
  list : ∀ {p q l l'}, Sp p q → Forall2 N l l' → N (.list p l) (.list q l')
  pipeline : ∀ {p q l l'}, Sp p q → Forall2 N l l' → N (.pipeline p l) (.pipeline q l')
  compoundInv : ∀ {p l r b}, N (.compound p l r) b →
    ∃ q l' r', b = .compound q l' r' ∧ Sp p q ∧ Forall2 N l l' ∧ Forall2 N r r'
  pipelineInv : ∀ {p l b}, N (.pipeline p l) b → ∃ q l', b = .pipeline q l' ∧ Forall2 N l l'
  reservedInv : ∀ {p w b}, N (.reservedword p w) b → ∃ q, b = .reservedword q w
  operatorInv : ∀ {p o b}, N (.operator p o) b → ∃ q, b = .operator q o ∧ Sp p q
  isCompound : ∀ {a b}, N a b → isCompound b = isCompound a
  isPipeline : ∀ {a b}, N a b → isPipeline b = isPipeline a
  isReserved : ∀ {a b}, N a b → isReserved b = isReserved a
  isOperator : ∀ {a b}, N a b → isOperator b = isOperator a
  isWord : ∀ {a b}, N a b → isWord b = isWord a

/-- semantic values -/
def ValRel.S (R : ValRel) : SVal → SVal → Prop
  | .none, .none => True
  | .tok t, .tok t' => R.T t t'
  | .node a, .node b => R.N a b
  | .nodes l, .nodes l' => Forall2 R.N l l'
  | _, _ => False

/-- value and accept flag of an action -/
def ValRel.Res (R : ValRel) (r₁ r₂ : SVal × Bool) : Prop := R.S r₁.1 r₂.1 ∧ r₂.2 = r₁.2

/-! ## the places where an action looks at the state -/

/-- `p_inputunit`: set `eoftoken` inside a command substitution, then `K` -/
def iuThen {α : Type} (K : M α) : M α := do
  if (← get).ps.cmdsubst then
    modify fun l => { l with ps := { l.ps with eoftoken := true } }
    K
  else K

/-- `p_simple_list`: is this the end of a command substitution (`p.accept()`) -/
def accFlag (b : Bool) : M Bool := do
  let l ← get
  pure (b && l.ps.cmdsubst &&
    (match l.eofToken with
     | some e => decide ({ l.currentToken with pos := none } = e)
     | none => false))

/-- `p_redirection_heredoc`: a new pending here-document; its index in the store -/
def pushCell (c : RedirCell) (kill : Bool) : M Nat := do
  let l ← get
  set { l with store := l.store ++ [c], redirstack := l.redirstack ++ [(l.store.length, kill)] }
  pure l.store.length

/-- a two-run judgement with the rules the actions need -/
structure ActLogic (R : ValRel) where
  J : {α β : Type} → M α → M β → (α → β → Prop) → Prop
  pure : ∀ {α β} {V : α → β → Prop} {a b}, V a b → J (Pure.pure a : M α) (Pure.pure b : M β) V
  bind : ∀ {α β γ δ} {m₁ : M α} {m₂ : M β} {f₁ : α → M γ} {f₂ : β → M δ} {V : α → β → Prop}
    {W : γ → δ → Prop}, J m₁ m₂ V → (∀ a b, V a b → J (f₁ a) (f₂ b) W) → J (m₁ >>= f₁) (m₂ >>= f₂) W
  raise : ∀ {α β} {V : α → β → Prop} (x : Exn), J (M.raise x : M α) (M.raise x : M β) V
  nodePos : ∀ {a b}, R.N a b → J (nodePos a) (nodePos b) R.Sp
  /-- the second assert of `addRedirects` -/
  assertLt : ∀ {p p' q q' : Span}, R.Sp p p' → R.Sp q q' →
    J (handleAssert (decide (p.1 < q.2))) (handleAssert (decide (p'.1 < q'.2))) (fun _ _ => True)
  optProceed : J optProceed optProceed Eq
  inputunit : ∀ {α β} {V : α → β → Prop} {K₁ : M α} {K₂ : M β}, J K₁ K₂ V → J (iuThen K₁) (iuThen K₂) V
  accept : ∀ b, J (accFlag b) (accFlag b) Eq
  push : ∀ {p q} (d : Str) (k : Bool), R.Sp p q →
    J (pushCell { pos := p, delim := d } k) (pushCell { pos := q, delim := d } k) Eq

/-! ## lists -/

theorem forall2_getD {α β} {R : α → β → Prop} {d₁ : α} {d₂ : β} (hd : R d₁ d₂) :
    ∀ {l₁ : List α} {l₂ : List β}, Forall2 R l₁ l₂ → ∀ i, R (l₁.getD i d₁) (l₂.getD i d₂) := by
  intro l₁ l₂ h
  induction h with
  | nil => intro i; simpa using hd
  | cons h1 _ ih => intro i; cases i with
    | zero => simpa using h1
    | succ i => simpa using ih i

theorem forall2_append {α β} {R : α → β → Prop} {l₁ r₁ : List α} {l₂ r₂ : List β}
    (h : Forall2 R l₁ l₂) (h' : Forall2 R r₁ r₂) : Forall2 R (l₁ ++ r₁) (l₂ ++ r₂) := by
  induction h with
  | nil => exact h'
  | cons h1 _ ih => exact .cons h1 ih

/-- the pointwise graph of a function is `map` -/
theorem forall2_graph {α β} {g : α → β} {l : List α} {l' : List β} :
    Forall2 (fun a b => b = g a) l l' ↔ l' = l.map g := by
  constructor
  · intro h
    induction h with
    | nil => rfl
    | cons h1 _ ih => rw [h1, ih]; rfl
  · rintro rfl
    induction l with
    | nil => exact .nil
    | cons a l ih => exact .cons rfl ih

/-- related lists are both empty, or have related heads and related last elements -/
theorem forall2_ends {α β} {R : α → β → Prop} {l₁ : List α} {l₂ : List β} (h : Forall2 R l₁ l₂) :
    (l₁ = [] ∧ l₂ = []) ∨
    ∃ a b c d, l₁.head? = some a ∧ l₂.head? = some b ∧ R a b ∧
      l₁.getLast? = some c ∧ l₂.getLast? = some d ∧ R c d := by
  induction h with
  | nil => exact Or.inl ⟨rfl, rfl⟩
  | @cons a b t₁ t₂ h1 ht ih =>
    refine Or.inr ?_
    rcases ih with ⟨rfl, rfl⟩ | ⟨_, _, c, d, _, _, _, e1, e2, hcd⟩
    · exact ⟨a, b, a, b, rfl, rfl, h1, rfl, rfl, h1⟩
    · refine ⟨a, b, c, d, rfl, rfl, h1, ?_, ?_, hcd⟩
      · rw [List.getLast?_cons, e1]; rfl
      · rw [List.getLast?_cons, e2]; rfl

theorem forall2_findIdx? {α β} {R : α → β → Prop} {p : α → Bool} {q : β → Bool}
    (hpq : ∀ a b, R a b → q b = p a) {l₁ : List α} {l₂ : List β} (h : Forall2 R l₁ l₂) :
    l₂.findIdx? q = l₁.findIdx? p := by
  induction h with
  | nil => rfl
  | cons h1 _ ih => simp only [List.findIdx?_cons, hpq _ _ h1, ih]

/-- a conditional on the same condition in both programs -/
theorem ite_same {α β : Type} {P : α → β → Prop} {c : Prop} [Decidable c] {x₁ y₁ : α} {x₂ y₂ : β}
    (ha : c → P x₁ x₂) (hb : ¬ c → P y₁ y₂) :
    P (if c then x₁ else y₁) (if c then x₂ else y₂) := by
  by_cases hc : c
  · rw [if_pos hc, if_pos hc]; exact ha hc
  · rw [if_neg hc, if_neg hc]; exact hb hc

section
variable {R : ValRel} (L : ActLogic R) {np₁ np₂ : NestedParse} {a₁ a₂ : List SVal}

theorem ActLogic.foreign {α β : Type} {V : α → β → Prop} (a b : String) :
    L.J (M.foreign a b : M α) (M.foreign a b : M β) V := L.raise _

theorem ActLogic.conseq {α β : Type} {m₁ : M α} {m₂ : M β} {V W : α → β → Prop}
    (h : L.J m₁ m₂ V) (hV : ∀ a b, V a b → W a b) : L.J m₁ m₂ W := by
  rw [← bind_pure m₁, ← bind_pure m₂]
  exact L.bind h fun a b hv => L.pure (hV a b hv)

/-- a first computation that returns in neither run -/
theorem ActLogic.bindNever {α β γ δ : Type} {m₁ : M α} {m₂ : M β} {f₁ : α → M γ} {f₂ : β → M δ}
    {W : γ → δ → Prop} (h : L.J m₁ m₂ (fun _ _ => False)) : L.J (m₁ >>= f₁) (m₂ >>= f₂) W :=
  L.bind h fun _ _ h => h.elim

def ForInR {σ τ : Type} (I : σ → τ → Prop) : ForInStep σ → ForInStep τ → Prop
  | .yield s, .yield t => I s t
  | .done s, .done t => I s t
  | _, _ => False

/-- `for x in l do …` over pointwise related lists -/
theorem ActLogic.forIn_list {ι κ σ τ : Type} {f : ι → σ → M (ForInStep σ)}
    {g : κ → τ → M (ForInStep τ)} {A : ι → κ → Prop} {I : σ → τ → Prop}
    (hstep : ∀ a b s t, A a b → I s t → L.J (f a s) (g b t) (ForInR I)) :
    ∀ {l₁ : List ι} {l₂ : List κ}, Forall2 A l₁ l₂ → ∀ s t, I s t →
      L.J (forIn l₁ s f) (forIn l₂ t g) I := by
  intro l₁ l₂ h
  induction h with
  | nil => intro s t hst; rw [List.forIn_nil, List.forIn_nil]; exact L.pure hst
  | cons hab _ ih =>
    intro s t hst
    rw [List.forIn_cons, List.forIn_cons]
    refine L.bind (hstep _ _ s t hab hst) fun r₁ r₂ hr => ?_
    cases r₁ <;> cases r₂ <;> first | exact hr.elim | exact L.pure hr | exact ih _ _ hr

abbrev ArgsR (R : ValRel) := Forall2 R.S

/-- every token among the arguments may have its span read -/
def ArgsP (R : ValRel) (a : List SVal) : Prop := ∀ v ∈ a, ∀ t, v = .tok t → R.P t

/-! ## the accessors of `p` -/

theorem len_eq (h : ArgsR R a₁ a₂) : PCtx.len ⟨np₂, a₂⟩ = PCtx.len ⟨np₁, a₁⟩ := by
  simp [PCtx.len, forall2_length h]

theorem slice_rel (h : ArgsR R a₁ a₂) (i : Nat) :
    R.S (PCtx.slice ⟨np₁, a₁⟩ i) (PCtx.slice ⟨np₂, a₂⟩ i) :=
  forall2_getD (d₁ := SVal.none) (d₂ := SVal.none) trivial h (i - 1)

/-- the inversion of `S`, by the shape of the values -/
theorem S_cases {v v' : SVal} (h : R.S v v') :
    (v = .none ∧ v' = .none) ∨ (∃ t t', v = .tok t ∧ v' = .tok t' ∧ R.T t t') ∨
    (∃ a b, v = .node a ∧ v' = .node b ∧ R.N a b) ∨
    (∃ l l', v = .nodes l ∧ v' = .nodes l' ∧ Forall2 R.N l l') := by
  cases v <;> cases v' <;> first
    | exact h.elim
    | exact Or.inl ⟨rfl, rfl⟩
    | exact Or.inr (Or.inl ⟨_, _, rfl, rfl, h⟩)
    | exact Or.inr (Or.inr (Or.inl ⟨_, _, rfl, rfl, h⟩))
    | exact Or.inr (Or.inr (Or.inr ⟨_, _, rfl, rfl, h⟩))

theorem slice_mem {np : NestedParse} {args : List SVal} {i : Nat} {v : SVal}
    (h : PCtx.slice ⟨np, args⟩ i = v) (hv : v ≠ .none) : v ∈ args := by
  unfold PCtx.slice at h
  simp only [List.getD_eq_getElem?_getD] at h
  cases hh : args[i - 1]? with
  | none => rw [hh] at h; exact absurd h.symm hv
  | some w => rw [hh] at h; cases h; exact List.mem_of_getElem? hh

theorem T_valueStr {t t' : Token} (h : R.T t t') : t'.valueStr = t.valueStr := by
  unfold Token.valueStr; rw [R.tValue h]

theorem T_is {t t' : Token} (h : R.T t t') (ty : TokType) : t'.is ty = t.is ty := by
  unfold Token.is; rw [R.tType h]

theorem isTok_eq (h : ArgsR R a₁ a₂) (i : Nat) (ty : TokType) :
    PCtx.isTok ⟨np₂, a₂⟩ i ty = PCtx.isTok ⟨np₁, a₁⟩ i ty := by
  unfold PCtx.isTok
  rcases S_cases (slice_rel (np₁ := np₁) (np₂ := np₂) h i) with
    ⟨e, e'⟩ | ⟨_, _, e, e', ht⟩ | ⟨_, _, e, e', _⟩ | ⟨_, _, e, e', _⟩ <;> rw [e, e']
  exact T_is ht ty

/-- the token of a terminal position -/
theorem J_tokAt' (h : ArgsR R a₁ a₂) (i : Nat) :
    L.J (PCtx.tokAt ⟨np₁, a₁⟩ i) (PCtx.tokAt ⟨np₂, a₂⟩ i)
      (fun t t' => R.T t t' ∧ PCtx.slice ⟨np₁, a₁⟩ i = .tok t) := by
  unfold PCtx.tokAt
  rcases S_cases (slice_rel (np₁ := np₁) (np₂ := np₂) h i) with
    ⟨e, e'⟩ | ⟨_, _, e, e', ht⟩ | ⟨_, _, e, e', _⟩ | ⟨_, _, e, e', _⟩ <;> rw [e, e']
  · exact L.foreign _ _
  · exact L.pure ⟨ht, rfl⟩
  · exact L.foreign _ _
  · exact L.foreign _ _

/-- … with the right to read its span -/
theorem J_tokAt (h : ArgsR R a₁ a₂) (hp : ArgsP R a₁) (i : Nat) :
    L.J (PCtx.tokAt ⟨np₁, a₁⟩ i) (PCtx.tokAt ⟨np₂, a₂⟩ i)
      (fun t t' => R.T t t' ∧ R.P t ∧ PCtx.slice ⟨np₁, a₁⟩ i = .tok t) :=
  L.conseq (J_tokAt' L h i) fun t _ ht =>
    ⟨ht.1, hp _ (slice_mem ht.2 (fun h => by cases h)) t rfl, ht.2⟩

/-- the text of a terminal position -/
theorem J_strAt (h : ArgsR R a₁ a₂) (i : Nat) :
    L.J (PCtx.strAt ⟨np₁, a₁⟩ i) (PCtx.strAt ⟨np₂, a₂⟩ i)
      (fun s s' => s' = s ∧ ∃ t, PCtx.slice ⟨np₁, a₁⟩ i = .tok t) := by
  unfold PCtx.strAt
  refine L.bind (J_tokAt' L h i) fun t t' ht => ?_
  exact L.pure ⟨T_valueStr ht.1, t, ht.2⟩

theorem J_nodeAt (h : ArgsR R a₁ a₂) (i : Nat) (site : String) :
    L.J (PCtx.nodeAt ⟨np₁, a₁⟩ i site) (PCtx.nodeAt ⟨np₂, a₂⟩ i site) R.N := by
  unfold PCtx.nodeAt
  rcases S_cases (slice_rel (np₁ := np₁) (np₂ := np₂) h i) with
    ⟨e, e'⟩ | ⟨_, _, e, e', _⟩ | ⟨_, _, e, e', hn⟩ | ⟨_, _, e, e', _⟩ <;> rw [e, e']
  · exact L.foreign _ _
  · exact L.foreign _ _
  · exact L.pure hn
  · exact L.foreign _ _

theorem J_nodesAt (h : ArgsR R a₁ a₂) (i : Nat) (site : String) :
    L.J (PCtx.nodesAt ⟨np₁, a₁⟩ i site) (PCtx.nodesAt ⟨np₂, a₂⟩ i site) (Forall2 R.N) := by
  unfold PCtx.nodesAt
  rcases S_cases (slice_rel (np₁ := np₁) (np₂ := np₂) h i) with
    ⟨e, e'⟩ | ⟨_, _, e, e', _⟩ | ⟨_, _, e, e', _⟩ | ⟨_, _, e, e', hl⟩ <;> rw [e, e']
  · exact L.foreign _ _
  · exact L.foreign _ _
  · exact L.foreign _ _
  · exact L.pure hl

/-- the span of a terminal position; where the program does not check that it is one, a missing
    span must be related to a missing span -/
theorem lexspan_rel (h : ArgsR R a₁ a₂) (hp : ArgsP R a₁) (i : Nat)
    (hz : R.Sp (0, 0) (0, 0) ∨ ∃ t, PCtx.slice ⟨np₁, a₁⟩ i = .tok t) :
    R.Sp (PCtx.lexspan ⟨np₁, a₁⟩ i) (PCtx.lexspan ⟨np₂, a₂⟩ i) := by
  unfold PCtx.lexspan
  have hz' : ∀ v, PCtx.slice ⟨np₁, a₁⟩ i = v → (∀ t, v ≠ .tok t) → R.Sp (0, 0) (0, 0) := by
    rintro v hv hne
    rcases hz with hz | ⟨t, ht⟩
    · exact hz
    · exact absurd (hv.symm.trans ht) (hne t)
  rcases S_cases (slice_rel (np₁ := np₁) (np₂ := np₂) h i) with
    ⟨e, e'⟩ | ⟨t₁, t₂, e, e', hT⟩ | ⟨_, _, e, e', _⟩ | ⟨_, _, e, e', _⟩ <;> rw [e, e']
  · exact hz' _ e (fun _ h => by cases h)
  · exact R.tSpan hT (hp _ (slice_mem e (fun h => by cases h)) _ rfl)
  · exact hz' _ e (fun _ h => by cases h)
  · exact hz' _ e (fun _ h => by cases h)

/-- … its span may then be read -/
theorem J_strAt_span (h : ArgsR R a₁ a₂) (hp : ArgsP R a₁) (i : Nat) :
    L.J (PCtx.strAt ⟨np₁, a₁⟩ i) (PCtx.strAt ⟨np₂, a₂⟩ i) (fun s s' => s' = s ∧
      R.Sp (PCtx.lexspan ⟨np₁, a₁⟩ i) (PCtx.lexspan ⟨np₂, a₂⟩ i)) :=
  L.conseq (J_strAt L h i) fun _ _ hs => ⟨hs.1, lexspan_rel h hp i (Or.inr hs.2)⟩

/-- a leaf made from the span and the text of a terminal position (`reservedAt`, `operatorAt`) -/
theorem J_leafAt (mk : Span → Str → Node) (hmk : ∀ {p q} (s : Str), R.Sp p q → R.N (mk p s) (mk q s))
    (h : ArgsR R a₁ a₂) (hp : ArgsP R a₁) (i : Nat) :
    L.J (do let s ← PCtx.strAt ⟨np₁, a₁⟩ i; pure (mk (PCtx.lexspan ⟨np₁, a₁⟩ i) s))
      (do let s ← PCtx.strAt ⟨np₂, a₂⟩ i; pure (mk (PCtx.lexspan ⟨np₂, a₂⟩ i) s)) R.N := by
  refine L.bind (J_strAt_span L h hp i) fun s s' hs => ?_
  obtain ⟨rfl, hsp⟩ := hs
  exact L.pure (hmk _ hsp)

theorem J_reservedAt (h : ArgsR R a₁ a₂) (hp : ArgsP R a₁) (i : Nat) :
    L.J (reservedAt ⟨np₁, a₁⟩ i) (reservedAt ⟨np₂, a₂⟩ i) R.N :=
  J_leafAt L .reservedword R.reserved h hp i

theorem J_operatorAt (h : ArgsR R a₁ a₂) (hp : ArgsP R a₁) (i : Nat) :
    L.J (operatorAt ⟨np₁, a₁⟩ i) (operatorAt ⟨np₂, a₂⟩ i) R.N :=
  J_leafAt L .operator R.operator h hp i

/-! ## spans of nodes, asserts -/

theorem J_partsspan {l l' : List Node} (h : Forall2 R.N l l') :
    L.J (partsspan l) (partsspan l') R.Sp := by
  unfold partsspan
  rcases forall2_ends h with ⟨rfl, rfl⟩ | ⟨a, b, c, d, e1, e2, hab, e3, e4, hcd⟩
  · exact L.foreign _ _
  · rw [e1, e2, e3, e4]
    refine L.bind (L.nodePos hab) fun p p' hp => ?_
    refine L.bind (L.nodePos hcd) fun q q' hq => ?_
    exact L.pure (R.pair hp hq)

theorem J_assert (c : Bool) : L.J (handleAssert c) (handleAssert c) (fun _ _ => True) := by
  unfold handleAssert
  split
  · exact L.pure trivial
  · exact L.foreign _ _

theorem J_addRedirects {n n' : Node} {reds reds' : List Node} (hn : R.N n n')
    (hr : Forall2 R.N reds reds') : L.J (addRedirects n reds) (addRedirects n' reds') R.N := by
  unfold addRedirects
  rw [R.isCompound hn]
  refine L.bind (J_assert L _) fun _ _ _ => ?_
  cases n with
  | compound pos l r =>
    obtain ⟨q, l', r', rfl, hq, hl, hrr⟩ := R.compoundInv hn
    simp only []
    have hall := forall2_append hrr hr
    rcases forall2_ends hall with ⟨e3, e4⟩ | ⟨_, _, c, d, _, _, _, e3, e4, hcd⟩
    · rw [e3, e4]; exact L.foreign _ _
    · rw [e3, e4]
      refine L.bind (L.nodePos hcd) fun p p' hp => ?_
      refine L.bind (L.assertLt hq hp) fun _ _ _ => ?_
      exact L.pure (R.compound (R.pair hq hp) hl hall)
  | _ =>
    have : ∀ m : M Node, (m = M.foreign "AssertionError" "handleAssert") →
        L.J (M.foreign "AssertionError" "handleAssert" : M Node) m R.N := by
      rintro _ rfl; exact L.foreign _ _
    refine this _ ?_
    cases n' <;> first | rfl | (have := R.isCompound hn; simp [Bashlex.isCompound] at this)

theorem J_mkCompound1 (inner : Span → List Node → Node)
    (hin : ∀ {p q l l'}, R.Sp p q → Forall2 R.N l l' → R.N (inner p l) (inner q l'))
    {l l' : List Node} (h : Forall2 R.N l l') :
    L.J (mkCompound1 inner l) (mkCompound1 inner l') R.S := by
  unfold mkCompound1
  refine L.bind (J_partsspan L h) fun sp sp' hsp => ?_
  exact L.pure (R.compound hsp (.cons (hin hsp h) .nil) .nil)

/-! ## helpers that expand words: word expansion is a parameter -/

/-- word expansion in the two runs -/
def WordJ (np₁ np₂ : NestedParse) : Prop :=
  ∀ t t', R.T t t' → R.P t → L.J (expandword np₁ t) (expandword np₂ t') R.W

theorem J_makeparts (hW : WordJ L np₁ np₂) (h : ArgsR R a₁ a₂) (hp : ArgsP R a₁) :
    L.J (makeparts ⟨np₁, a₁⟩) (makeparts ⟨np₂, a₂⟩) (Forall2 R.N) := by
  unfold makeparts
  simp only [bind_pure]
  refine L.forIn_list (A := fun v v' => R.S v v' ∧ ∀ t, v = .tok t → R.P t) (I := Forall2 R.N) ?_
    ?_ _ _ .nil
  · intro v v' s s' hv hs
    rcases S_cases hv.1 with
      ⟨rfl, rfl⟩ | ⟨t, t', rfl, rfl, ht⟩ | ⟨_, _, rfl, rfl, hn⟩ | ⟨_, _, rfl, rfl, hl⟩
    · exact L.pure hs
    · simp only [T_is ht]
      refine ite_same (P := (L.J · · _)) (fun _ => ?_) (fun _ => ?_)
      · refine L.bind (hW t t' ht (hv.2 t rfl)) fun w w' hw => ?_
        exact L.pure (forall2_append hs (.cons (R.wN hw) .nil))
      · rw [R.tValue ht]
        exact L.pure (forall2_append hs (.cons (R.reserved _ (R.tSpan ht (hv.2 t rfl))) .nil))
    · exact L.pure (forall2_append hs (.cons hn .nil))
    · exact L.pure (forall2_append hs hl)
  · clear hW
    induction h with
    | nil => exact .nil
    | cons h1 _ ih =>
      exact .cons ⟨h1, hp _ List.mem_cons_self⟩ (ih fun v hv => hp v (List.mem_cons_of_mem _ hv))

theorem J_handleNotImplemented (hW : WordJ L np₁ np₂) (h : ArgsR R a₁ a₂) (hp : ArgsP R a₁)
    (ty : String) :
    L.J (handleNotImplemented ⟨np₁, a₁⟩ ty) (handleNotImplemented ⟨np₂, a₂⟩ ty) R.S := by
  unfold handleNotImplemented
  refine L.bind L.optProceed fun b _ hb => ?_
  subst hb
  refine ite_same (P := (L.J · · _)) (fun _ => ?_) (fun _ => L.raise _)
  refine L.bind (J_makeparts L hW h hp) fun l l' hl => ?_
  refine L.bind (J_partsspan L hl) fun sp sp' hsp => ?_
  exact L.pure (R.unimplemented hsp hl)

theorem J_joinLists (mk : Span → Str → Node)
    (hmk : ∀ {p q} (s : Str), R.Sp p q → R.N (mk p s) (mk q s)) (site : String)
    (h : ArgsR R a₁ a₂) (hp : ArgsP R a₁) :
    L.J (joinLists ⟨np₁, a₁⟩ mk site) (joinLists ⟨np₂, a₂⟩ mk site) R.S := by
  unfold joinLists
  rw [len_eq (np₁ := np₁) (np₂ := np₂) h]
  refine ite_same (P := (L.J · · _)) (fun _ => ?_) (fun _ => ?_)
  · refine L.bind (J_nodeAt L h _ _) fun n n' hn => ?_
    exact L.pure (.cons hn .nil)
  · refine L.bind (J_nodesAt L h _ _) fun l l' hl => ?_
    refine L.bind (J_nodesAt L h _ _) fun r r' hr => ?_
    refine L.bind (J_strAt_span L h hp 2) fun s s' hs => ?_
    obtain ⟨rfl, hsp⟩ := hs
    exact L.pure (forall2_append (forall2_append hl (.cons (hmk _ hsp) .nil)) hr)

/-! ## results -/

theorem J_ret {v v' : SVal} (h : R.S v v') :
    L.J (pure (v, false) : M (SVal × Bool)) (pure (v', false)) R.Res := L.pure ⟨h, rfl⟩

/-- an action that is a helper followed by `ret` -/
theorem J_ret_bind {m₁ m₂ : M SVal} (h : L.J m₁ m₂ R.S) :
    L.J (do let v ← m₁; pure (v, false)) (do let v ← m₂; pure (v, false)) R.Res :=
  L.bind h fun _ _ hv => J_ret L hv

end

end Bashlex.ActParam
