/-
  Generic theorems about *every* program `p : Q α` (hence about the whole parser model, whose
  only contact with the outside world are the queries of `Q`), proved once by induction over the
  free monad — no walk through the tokenizer's or the LR engine's control flow.

  1. `Q.steps`, `Q.trace`, `Q.asked`: the queries a run actually makes (with the environment each
     was put to / the answer each got).  `Q.replay_trace`, `Q.run_eq_of_trace_eq`: the result of
     a run is a function of its trace alone.

  2. **T6 `Q.run_congr`** (`Q.run_congr_on` for a fixed set of queries): if `R e e'` and, at every
     step of the run from `e`, `R`-related environments give the same answer and `R`-related
     successors, then the two runs have the same trace, the same result and `R`-related final
     environments.  Instances:
     a. `OptField` (a field of `Env` that one query alone reads and no query writes; instances
        `strictField`, `proceedField`), `OptField.run_irrelevant` (+ `_tape`; converse
        `OptField.asked_of_ne`) — **C17**: an option that is not read along the run is irrelevant
        for result, trace, final tape and store.
     b. `Q.run_eqModStore`, `Q.run_touched_irrelevant`, `Q.trace_touched_irrelevant`,
        `Q.tape_touched_irrelevant` — **C18/C19**: answers never depend on `Env.touched`
        (`Env.answer_eqModStore`); `Q.run_touched` gives the final store exactly
        (`foldl addKey` over the keys looked up), with corollaries `Q.touched_prefix` (nothing
        removed), `Q.key_mem_touched` (every key looked up is in), `Q.mem_touched` (nothing else).
     c. `Q.run_prefix` (`Q.run_prefix_idx`, `Q.run_prefix_maxCell`) — **C13**: a run that asks
        none of `.source/.line/.added` and examines only cells `< k` (`Q.maxCell p e ≤ k`) gives the
        same result, trace and final head position on every tape that agrees on the cells `< k`.
        "Examined cell `i`" means: the answer depends on the look-up `line[i]?` — its content *or*
        the fact that it does not exist.  With this reading `_getc`'s test `idx < len(line)` is the
        examination of cell `idx`, and `_ungetc`'s `line != "" and idx != 0 and idx <= len(line)`
        is (for `idx ≠ 0`) the examination of cell `idx-1` (`Tape.ungetc_eq`), so no extra
        hypothesis on lengths is needed.  `_getc`'s fuel `len(line)+1` differs between the two
        tapes; `Tape.getc_agree` shows that any sufficient fuel gives the same answer.
     Also `Q.run_frame`: no run changes the options, the input line or `_added_newline`.

  3. **T7 history independence (C18)**: a `Job` is a program with its own tape/options; a process
     runs a list of jobs threading the shared store (`History.run`).
     `History.results_eq_solo` / `History.result_get`: every call of every history returns what it
     returns as the only call of a fresh process; `History.store_prefix`,
     `History.storeBefore_mono`: the store only grows.

  4. **T7 interleaving independence (C19)**: `Pool` = threads sharing only the store; `Pool.step i`
     lets thread `i` make one query against its own environment with the global store plugged in
     and writes the store back; `Pool.exec` runs an arbitrary schedule `List Nat`.
     `Pool.exec_value` / `Pool.exec_pure`: under every schedule a thread that has returned holds its
     solo result from the fresh store; `Pool.exec_done`: a thread scheduled at least `Job.todo`
     times (a schedule-independent number) has returned; `Pool.exec_all`: if that holds for all
     threads, the list of results is the list of solo results; `Pool.exec_seqSchedule`: such a
     schedule exists; `Pool.exec_store_prefix`: the store only grows.

  5. The same for `M` (`M.run m l e = Q.run (m l) e`) and for the entry points:
     `runParser_opt_irrelevant`, `parsesingle_opt_irrelevant`, `parse_opt_irrelevant` (hypothesis
     on `parseAsked`, the queries of all parser runs of the loop; `parse_strict_irrelevant`,
     `parse_proceed_irrelevant`, ... are the two instances), `runParser_touched_irrelevant`,
     `runParser_store_prefix`, `runParser_prefix`, `parseFrom_touched_irrelevant` (`parse`
     started with any content of `sh_syntaxtab`).

  6. `Examples`: a three-query program on which every hypothesis is discharged by `decide`.
-/
import Bashlex.Proofs.HoareS
import Bashlex.Model.Parse
import Bashlex.Proofs.OfInput

namespace Bashlex

/-! ## 1. Steps, trace, asked -/

namespace Q
variable {α : Type}

/-- the steps of a run: every query made, paired with the environment it was put to -/
def steps : Q α → Env → List (Env × Query)
  | .pure _, _ => []
  | .ask q k, e => (e, q) :: steps (k (e.answer q).1) (e.answer q).2

/-- the queries a run actually makes, each with the answer it got -/
def trace : Q α → Env → List (Σ q : Query, Answer q)
  | .pure _, _ => []
  | .ask q k, e => ⟨q, (e.answer q).1⟩ :: trace (k (e.answer q).1) (e.answer q).2

/-- the queries a run actually makes -/
def asked (p : Q α) (e : Env) : List Query := (trace p e).map (·.1)

@[simp] theorem run_pure' (a : α) (e : Env) : run (.pure a) e = (a, e) := rfl
theorem run_ask (q : Query) (k : Answer q → Q α) (e : Env) :
    run (.ask q k) e = run (k (e.answer q).1) (e.answer q).2 := rfl

@[simp] theorem steps_pure (a : α) (e : Env) : steps (.pure a) e = [] := rfl
@[simp] theorem steps_ask (q : Query) (k : Answer q → Q α) (e : Env) :
    steps (.ask q k) e = (e, q) :: steps (k (e.answer q).1) (e.answer q).2 := rfl
@[simp] theorem trace_pure (a : α) (e : Env) : trace (.pure a) e = [] := rfl
@[simp] theorem trace_ask (q : Query) (k : Answer q → Q α) (e : Env) :
    trace (.ask q k) e = ⟨q, (e.answer q).1⟩ :: trace (k (e.answer q).1) (e.answer q).2 := rfl
@[simp] theorem asked_pure (a : α) (e : Env) : asked (.pure a) e = [] := rfl
@[simp] theorem asked_ask (q : Query) (k : Answer q → Q α) (e : Env) :
    asked (.ask q k) e = q :: asked (k (e.answer q).1) (e.answer q).2 := rfl

theorem asked_eq_steps (p : Q α) : ∀ e, asked p e = (steps p e).map (·.2) := by
  induction p with
  | pure a => intro e; rfl
  | ask q k ih => intro e; simp [ih]

theorem mem_asked_of_mem_steps {p : Q α} {e : Env} {s : Env × Query} (h : s ∈ steps p e) :
    s.2 ∈ asked p e := by
  rw [asked_eq_steps]; exact List.mem_map_of_mem h

/-- replay a program against a recorded list of answers (no environment) -/
def replay : Q α → List (Σ q : Query, Answer q) → Option α
  | .pure a, _ => some a
  | .ask _ _, [] => none
  | .ask q k, ⟨q', a⟩ :: tr => if h : q' = q then replay (k (h ▸ a)) tr else none

/-- the result of a run is a function of its trace alone -/
theorem replay_trace (p : Q α) : ∀ e, replay p (trace p e) = some (run p e).1 := by
  induction p with
  | pure a => intro e; rfl
  | ask q k ih => intro e; simp [replay, run_ask, ih]

theorem run_eq_of_trace_eq {p : Q α} {e e' : Env} (h : trace p e = trace p e') :
    (run p e).1 = (run p e').1 := by
  have h1 := replay_trace p e
  rw [h, replay_trace] at h1
  exact (Option.some.inj h1).symm

/-! ## 2. T6: the congruence theorem -/

/-- **T6.**  Let `R` relate two environments.  If at every step `(s, q)` of the run from `e`
    (environment `s`, query `q`) every `R`-partner of `s` gives the same answer to `q` and the
    successor environments are `R`-related again, then the runs from `e` and from any `R`-partner
    `e'` make the same queries, get the same answers, return the same result, and end in
    `R`-related environments. -/
theorem run_congr (R : Env → Env → Prop) (p : Q α) : ∀ (e e' : Env), R e e' →
    (∀ s ∈ steps p e, ∀ e₂, R s.1 e₂ →
        (s.1.answer s.2).1 = (e₂.answer s.2).1 ∧ R (s.1.answer s.2).2 (e₂.answer s.2).2) →
    (run p e).1 = (run p e').1 ∧ R (run p e).2 (run p e').2 ∧ trace p e = trace p e' := by
  induction p with
  | pure a => intro e e' h _; exact ⟨rfl, h, rfl⟩
  | ask q k ih =>
    intro e e' h hs
    obtain ⟨h1, h2⟩ := hs (e, q) (by simp) e' h
    have h3 := ih (e.answer q).1 (e.answer q).2 (e'.answer q).2 h2
      (fun s hs' => hs s (by simp [hs']))
    simp only [run_ask, trace_ask]
    rw [← h1]
    exact ⟨h3.1, h3.2.1, by rw [h3.2.2]⟩

/-- T6 with the side condition given by a set `S` of queries: `R` is a congruence for the
    queries in `S` and the run asks only queries in `S`. -/
theorem run_congr_on (R : Env → Env → Prop) (S : Query → Prop)
    (hstep : ∀ e e' q, S q → R e e' →
      (e.answer q).1 = (e'.answer q).1 ∧ R (e.answer q).2 (e'.answer q).2)
    (p : Q α) (e e' : Env) (hR : R e e') (hS : ∀ q ∈ asked p e, S q) :
    (run p e).1 = (run p e').1 ∧ R (run p e).2 (run p e').2 ∧ trace p e = trace p e' :=
  run_congr R p e e' hR
    (fun s hs e₂ h => hstep s.1 e₂ s.2 (hS _ (mem_asked_of_mem_steps hs)) h)

end Q

/-! ## What a query does: `Env.answer` by components -/

/-- the key of `sh_syntaxtab` a query looks up -/
def Query.key : Query → Option Char
  | .syntab c => some c
  | _ => none

/-- the growth of the defaultdict on one look-up -/
def addKey (t : List Char) (c : Char) : List Char := if t.contains c then t else t ++ [c]

/-- the answer to a query and the new tape, from the tape and the two options -/
def Query.eval : (q : Query) → Tape → Bool → Bool → Answer q × Tape
  | .getc rqn, t, _, _ =>
    match t.getc rqn (t.line.length + 1) with
    | .ok (c, t') => (.ok c, t')
    | .error () => (.error (), t)
  | .ungetc, t, _, _ => t.ungetc
  | .idx, t, _, _ => (t.idx, t)
  | .bump, t, _, _ => ((), { t with idx := t.idx + 1 })
  | .source, t, _, _ => (t.source, t)
  | .line, t, _, _ => (t.line, t)
  | .added, t, _, _ => (t.added, t)
  | .optStrict, t, s, _ => (s, t)
  | .optProceed, t, _, p => (p, t)
  | .syntab c, t, _, _ => (synClass c, t)

/-- every query: the answer and the new tape are `eval` of tape and options, the options stay,
    the store grows by the key looked up -/
theorem Env.answer_eq (e : Env) (q : Query) :
    e.answer q = ((q.eval e.tape e.strict e.proceed).1,
      { e with tape := (q.eval e.tape e.strict e.proceed).2,
               touched := match q.key with | some c => addKey e.touched c | none => e.touched }) := by
  cases q with
  | getc rqn =>
    simp only [answer, Query.eval, Query.key]
    cases e.tape.getc rqn (e.tape.line.length + 1) <;> rfl
  | syntab c =>
    simp only [answer, Query.eval, Query.key, addKey]
    cases e.touched.contains c <;> rfl
  | _ => rfl

/-! ## 2a. option irrelevance (C17) -/

/-- the environment `runParser` builds -/
def runParserEnv (s : Str) (o : Opts) (t : List Char) : Env :=
  { tape := Tape.ofInput s, strict := o.strict, proceed := o.proceed, touched := t }

/-- An option: a field of `Env` (overwritten by `set`) that the query `q` alone reads and no query
    writes, filled by `runParser` from the field of `Opts` that `setOpts` overwrites. -/
structure OptField where
  q : Query
  set : Bool → Env → Env
  setOpts : Bool → Opts → Opts
  /-- every other query gets the same answer, and `set` commutes with its effect -/
  answer_set : ∀ b e q', q' ≠ q →
    ((set b e).answer q').1 = (e.answer q').1 ∧ ((set b e).answer q').2 = set b (e.answer q').2
  rest_set : ∀ b e, (set b e).tape = e.tape ∧ (set b e).touched = e.touched
  env_setOpts : ∀ b s o t, runParserEnv s (setOpts b o) t = set b (runParserEnv s o t)
  limit_setOpts : ∀ b o, (setOpts b o).limit = o.limit

/-- `strictmode` -/
def strictField : OptField where
  q := .optStrict
  set b e := { e with strict := b }
  setOpts b o := { o with strict := b }
  answer_set b e q' hq := by
    have : q'.eval e.tape b e.proceed = q'.eval e.tape e.strict e.proceed := by
      cases q' <;> first | rfl | exact absurd rfl hq
    rw [Env.answer_eq, Env.answer_eq e, this]; exact ⟨rfl, rfl⟩
  rest_set _ _ := ⟨rfl, rfl⟩
  env_setOpts _ _ _ _ := rfl
  limit_setOpts _ _ := rfl

/-- `proceedonerror` -/
def proceedField : OptField where
  q := .optProceed
  set b e := { e with proceed := b }
  setOpts b o := { o with proceed := b }
  answer_set b e q' hq := by
    have : q'.eval e.tape e.strict b = q'.eval e.tape e.strict e.proceed := by
      cases q' <;> first | rfl | exact absurd rfl hq
    rw [Env.answer_eq, Env.answer_eq e, this]; exact ⟨rfl, rfl⟩
  rest_set _ _ := ⟨rfl, rfl⟩
  env_setOpts _ _ _ _ := rfl
  limit_setOpts _ _ := rfl

namespace OptField
open Q
variable {α : Type} (F : OptField)

/-- **C17.**  A run that never asks `F.q` returns the same result, makes the same queries, and ends
    in the same environment (up to the field itself) whatever the value of the field. -/
theorem run_irrelevant (p : Q α) (e : Env) (b : Bool) (h : F.q ∉ asked p e) :
    (run p (F.set b e)).1 = (run p e).1 ∧ (run p (F.set b e)).2 = F.set b (run p e).2 ∧
    trace p (F.set b e) = trace p e := by
  have := run_congr_on (fun e e' => e' = F.set b e) (fun q => q ≠ F.q)
    (fun e e' q hq hR => by
      subst hR
      exact ⟨(F.answer_set b e q hq).1.symm, (F.answer_set b e q hq).2⟩)
    p e (F.set b e) rfl (fun q hq hq' => h (hq' ▸ hq))
  exact ⟨this.1.symm, this.2.1, this.2.2.symm⟩

/-- same final tape and store -/
theorem run_irrelevant_tape (p : Q α) (e : Env) (b : Bool) (h : F.q ∉ asked p e) :
    (run p (F.set b e)).2.tape = (run p e).2.tape ∧
    (run p (F.set b e)).2.touched = (run p e).2.touched := by
  rw [(F.run_irrelevant p e b h).2.1]; exact F.rest_set b _

/-- converse direction: a run whose result is sensitive to the field reads it -/
theorem asked_of_ne (p : Q α) (e : Env) (b : Bool)
    (h : (run p (F.set b e)).1 ≠ (run p e).1) : F.q ∈ asked p e :=
  Classical.byContradiction fun hn => h (F.run_irrelevant p e b hn).1

end OptField

namespace Q
variable {α : Type}

/-- **C17 (strict).**  A run that never asks `.optStrict` returns the same result, makes the same
    queries, and ends in the same environment (up to the `strict` field itself) whatever the value
    of `strict`. -/
theorem run_strict_irrelevant (p : Q α) (e : Env) (b : Bool) (h : Query.optStrict ∉ asked p e) :
    (run p { e with strict := b }).1 = (run p e).1 ∧
    (run p { e with strict := b }).2 = { (run p e).2 with strict := b } ∧
    trace p { e with strict := b } = trace p e :=
  strictField.run_irrelevant p e b h

/-- **C17 (proceed).** -/
theorem run_proceed_irrelevant (p : Q α) (e : Env) (b : Bool) (h : Query.optProceed ∉ asked p e) :
    (run p { e with proceed := b }).1 = (run p e).1 ∧
    (run p { e with proceed := b }).2 = { (run p e).2 with proceed := b } ∧
    trace p { e with proceed := b } = trace p e :=
  proceedField.run_irrelevant p e b h

theorem run_strict_irrelevant_tape (p : Q α) (e : Env) (b : Bool)
    (h : Query.optStrict ∉ asked p e) :
    (run p { e with strict := b }).2.tape = (run p e).2.tape ∧
    (run p { e with strict := b }).2.touched = (run p e).2.touched :=
  strictField.run_irrelevant_tape p e b h

theorem run_proceed_irrelevant_tape (p : Q α) (e : Env) (b : Bool)
    (h : Query.optProceed ∉ asked p e) :
    (run p { e with proceed := b }).2.tape = (run p e).2.tape ∧
    (run p { e with proceed := b }).2.touched = (run p e).2.touched :=
  proceedField.run_irrelevant_tape p e b h

theorem optStrict_asked_of_ne (p : Q α) (e : Env) (b : Bool)
    (h : (run p { e with strict := b }).1 ≠ (run p e).1) : Query.optStrict ∈ asked p e :=
  strictField.asked_of_ne p e b h

theorem optProceed_asked_of_ne (p : Q α) (e : Env) (b : Bool)
    (h : (run p { e with proceed := b }).1 ≠ (run p e).1) : Query.optProceed ∈ asked p e :=
  proceedField.asked_of_ne p e b h

end Q

/-! ## The tape primitives in terms of cell look-ups `line[i]?` -/

namespace Tape

theorem getc_zero (t : Tape) (rqn : Bool) : t.getc rqn 0 = .ok (none, t) := rfl

/-- one unfolding of `_getc`, with the length test expressed by the look-up `line[idx]?` -/
theorem getc_succ (t : Tape) (rqn : Bool) (f : Nat) :
    t.getc rqn (f + 1) =
      match t.line[t.idx]? with
      | none => .ok (none, t)
      | some c =>
        if (c == '\\' && rqn) = true then
          match t.line[t.idx + 1]? with
          | none => .error ()
          | some d =>
            if (d == '\n') = true then getc { t with idx := t.idx + 2 } rqn f
            else .ok (some c, { t with idx := t.idx + 1 })
        else .ok (some c, { t with idx := t.idx + 1 }) := by
  conv => lhs; unfold getc
  by_cases h : t.idx < t.line.length
  · rw [if_pos h, List.getElem?_eq_getElem h]; rfl
  · rw [if_neg h, List.getElem?_eq_none (Nat.le_of_not_lt h)]

/-- `_getc` moves the head only -/
theorem getc_frame (rqn : Bool) : ∀ (f : Nat) (t : Tape) (c : Option Char) (u : Tape),
    t.getc rqn f = .ok (c, u) → u.line = t.line ∧ u.added = t.added := by
  intro f
  induction f with
  | zero =>
    intro t c u h
    rw [getc_zero] at h
    cases h; exact ⟨rfl, rfl⟩
  | succ f ih =>
    intro t c u h
    rw [getc_succ] at h
    split at h
    · cases h; exact ⟨rfl, rfl⟩
    · split at h
      · split at h
        · cases h
        · split at h
          · exact ih { t with idx := t.idx + 2 } _ _ h
          · cases h; exact ⟨rfl, rfl⟩
      · cases h; exact ⟨rfl, rfl⟩

/-- `_ungetc` in terms of the look-up of the cell before the head -/
theorem ungetc_eq (t : Tape) :
    t.ungetc = if t.idx ≠ 0 ∧ (t.line[t.idx - 1]?).isSome = true
      then (true, { t with idx := t.idx - 1 }) else (false, t) := by
  unfold ungetc
  by_cases h0 : t.idx = 0
  · simp [h0]
  · by_cases h1 : t.idx ≤ t.line.length
    · have h2 : t.idx - 1 < t.line.length := by omega
      have h3 : t.line ≠ [] := by
        intro h; rw [h] at h2; simp at h2
      simp [h0, h1, h2, h3]
    · have h2 : ¬ t.idx - 1 < t.line.length := by omega
      simp [h0, h1, h2]

end Tape

/-! ## Frame: what no query changes -/

namespace Env

/-- no query changes the options, the input line, or `_added_newline` -/
theorem answer_frame (e : Env) (q : Query) :
    (e.answer q).2.strict = e.strict ∧ (e.answer q).2.proceed = e.proceed ∧
    (e.answer q).2.tape.line = e.tape.line ∧ (e.answer q).2.tape.added = e.tape.added := by
  cases q with
  | getc rqn =>
    simp only [answer]
    cases h : e.tape.getc rqn (e.tape.line.length + 1) with
    | error u => exact ⟨rfl, rfl, rfl, rfl⟩
    | ok r =>
      obtain ⟨c, u⟩ := r
      exact ⟨rfl, rfl, Tape.getc_frame rqn _ _ _ _ h⟩
  | ungetc =>
    simp only [answer, Tape.ungetc]
    split <;> simp
  | syntab c =>
    simp only [answer]
    cases e.touched.contains c <;> exact ⟨rfl, rfl, rfl, rfl⟩
  | _ => exact ⟨rfl, rfl, rfl, rfl⟩

end Env

namespace Q
variable {α : Type}

/-- no run changes the options, the input line, or `_added_newline` -/
theorem run_frame (p : Q α) : ∀ e : Env,
    (run p e).2.strict = e.strict ∧ (run p e).2.proceed = e.proceed ∧
    (run p e).2.tape.line = e.tape.line ∧ (run p e).2.tape.added = e.tape.added := by
  induction p with
  | pure a => intro e; exact ⟨rfl, rfl, rfl, rfl⟩
  | ask q k ih =>
    intro e
    rw [run_ask]
    obtain ⟨h1, h2, h3, h4⟩ := ih (e.answer q).1 (e.answer q).2
    obtain ⟨g1, g2, g3, g4⟩ := e.answer_frame q
    exact ⟨h1.trans g1, h2.trans g2, h3.trans g3, h4.trans g4⟩

end Q

/-! ## 2b. the shared table is irrelevant (C18/C19) -/

namespace Env

/-- equal except for the shared store `touched` -/
def EqModStore (e e' : Env) : Prop :=
  e.tape = e'.tape ∧ e.strict = e'.strict ∧ e.proceed = e'.proceed

theorem EqModStore.refl (e : Env) : EqModStore e e := ⟨rfl, rfl, rfl⟩
theorem eqModStore_setTouched (e : Env) (t t' : List Char) :
    EqModStore { e with touched := t } { e with touched := t' } := ⟨rfl, rfl, rfl⟩

/-- **key lemma**: the answer to any query, and its effect on everything but the store,
    do not depend on the store -/
theorem answer_eqModStore {e e' : Env} (h : EqModStore e e') (q : Query) :
    (e.answer q).1 = (e'.answer q).1 ∧ EqModStore (e.answer q).2 (e'.answer q).2 := by
  obtain ⟨h1, h2, h3⟩ := h
  rw [answer_eq, answer_eq e', h1, h2, h3]; exact ⟨rfl, rfl, rfl, rfl⟩

/-- the only effect on the store is the defaultdict's growth by the key looked up -/
theorem answer_touched (e : Env) (q : Query) :
    (e.answer q).2.touched =
      match q.key with
      | some c => addKey e.touched c
      | none => e.touched := by
  rw [answer_eq]

end Env

theorem prefix_addKey (t : List Char) (c : Char) : t <+: addKey t c := by
  unfold addKey; split
  · exact List.prefix_refl t
  · exact List.prefix_append t [c]

theorem mem_addKey_self (t : List Char) (c : Char) : c ∈ addKey t c := by
  unfold addKey; split
  · next h => simpa using h
  · simp

theorem mem_addKey {t : List Char} {c d : Char} (h : d ∈ addKey t c) : d ∈ t ∨ d = c := by
  unfold addKey at h; split at h
  · exact .inl h
  · simpa using h

theorem prefix_foldl_addKey (ks : List Char) : ∀ t : List Char, t <+: ks.foldl addKey t := by
  induction ks with
  | nil => intro t; exact List.prefix_refl t
  | cons c ks ih => intro t; exact List.IsPrefix.trans (prefix_addKey t c) (ih _)

theorem mem_foldl_addKey_of_mem (ks : List Char) :
    ∀ (t : List Char) (c : Char), c ∈ ks → c ∈ ks.foldl addKey t := by
  induction ks with
  | nil => intro t c h; cases h
  | cons d ks ih =>
    intro t c h
    rcases List.mem_cons.1 h with rfl | h
    · exact (prefix_foldl_addKey ks _).subset (mem_addKey_self t c)
    · exact ih _ c h

theorem mem_foldl_addKey (ks : List Char) :
    ∀ (t : List Char) (c : Char), c ∈ ks.foldl addKey t → c ∈ t ∨ c ∈ ks := by
  induction ks with
  | nil => intro t c h; exact .inl h
  | cons d ks ih =>
    intro t c h
    rcases ih _ c h with h | h
    · rcases mem_addKey h with h | rfl
      · exact .inl h
      · exact .inr (List.mem_cons_self ..)
    · exact .inr (List.mem_cons_of_mem _ h)

namespace Q
variable {α : Type}

/-- the keys of `sh_syntaxtab` looked up during a run, in order -/
def keys (p : Q α) (e : Env) : List Char := (asked p e).filterMap Query.key

/-- **C18/C19 core.**  Two environments that differ only in the shared store give the same
    result, the same trace (hence the same keys), and the same final tape. -/
theorem run_eqModStore (p : Q α) {e e' : Env} (h : Env.EqModStore e e') :
    (run p e).1 = (run p e').1 ∧ Env.EqModStore (run p e).2 (run p e').2 ∧
    trace p e = trace p e' :=
  run_congr_on Env.EqModStore (fun _ => True)
    (fun _ _ q _ hR => Env.answer_eqModStore hR q) p e e' h (fun _ _ => trivial)

theorem run_touched_irrelevant (p : Q α) (e : Env) (t t' : List Char) :
    (run p { e with touched := t }).1 = (run p { e with touched := t' }).1 :=
  (run_eqModStore p (e.eqModStore_setTouched t t')).1

theorem trace_touched_irrelevant (p : Q α) (e : Env) (t t' : List Char) :
    trace p { e with touched := t } = trace p { e with touched := t' } :=
  (run_eqModStore p (e.eqModStore_setTouched t t')).2.2

theorem asked_touched_irrelevant (p : Q α) (e : Env) (t t' : List Char) :
    asked p { e with touched := t } = asked p { e with touched := t' } := by
  unfold asked; rw [trace_touched_irrelevant]

theorem keys_touched_irrelevant (p : Q α) (e : Env) (t t' : List Char) :
    keys p { e with touched := t } = keys p { e with touched := t' } := by
  unfold keys; rw [asked_touched_irrelevant]

theorem tape_touched_irrelevant (p : Q α) (e : Env) (t t' : List Char) :
    (run p { e with touched := t }).2.tape = (run p { e with touched := t' }).2.tape :=
  (run_eqModStore p (e.eqModStore_setTouched t t')).2.1.1

/-- the final store, exactly: the initial store grown by the keys looked up, in order -/
theorem run_touched (p : Q α) : ∀ e : Env,
    (run p e).2.touched = (keys p e).foldl addKey e.touched := by
  induction p with
  | pure a => intro e; rfl
  | ask q k ih =>
    intro e
    rw [run_ask, ih, Env.answer_touched]
    unfold keys
    rw [asked_ask, List.filterMap_cons]
    cases q.key <;> rfl

/-- nothing is removed from the store (and the order of old entries is kept) -/
theorem touched_prefix (p : Q α) (e : Env) : e.touched <+: (run p e).2.touched := by
  rw [run_touched]; exact prefix_foldl_addKey _ _

theorem touched_mono (p : Q α) (e : Env) {c : Char} (h : c ∈ e.touched) :
    c ∈ (run p e).2.touched := (touched_prefix p e).subset h

/-- every key looked up is in the final store -/
theorem key_mem_touched (p : Q α) (e : Env) {c : Char} (h : Query.syntab c ∈ asked p e) :
    c ∈ (run p e).2.touched := by
  rw [run_touched]
  refine mem_foldl_addKey_of_mem _ _ _ ?_
  unfold keys
  exact List.mem_filterMap.2 ⟨_, h, rfl⟩

/-- nothing but the keys looked up is added -/
theorem mem_touched (p : Q α) (e : Env) {c : Char} (h : c ∈ (run p e).2.touched) :
    c ∈ e.touched ∨ Query.syntab c ∈ asked p e := by
  rw [run_touched] at h
  rcases mem_foldl_addKey _ _ _ h with h | h
  · exact .inl h
  · refine .inr ?_
    unfold keys at h
    obtain ⟨q, hq, hk⟩ := List.mem_filterMap.1 h
    cases q <;> simp [Query.key] at hk
    subst hk; exact hq

end Q

/-! ## 2c. tape prefix (C13) -/

namespace Tape

/-- 1 + the largest cell `i` whose look-up `line[i]?` (its content, or the fact that it does not
    exist) `_getc` depends on.  Mirrors `Tape.getc`.  (`getc` tests `idx < len(line)`, which is the
    same as `line[idx]?` being `some`; a backslash with `rqn` also looks at `line[idx+1]?`, and
    after backslash-newline the loop goes on from `idx+2`.) -/
def getcCells (t : Tape) (rqn : Bool) : Nat → Nat
  | 0 => t.idx + 1
  | fuel + 1 =>
    match t.line[t.idx]? with
    | none => t.idx + 1
    | some c =>
      if c == '\\' && rqn then
        match t.line[t.idx + 1]? with
        | none => t.idx + 2
        | some d =>
          if d == '\n' then max (t.idx + 2) (getcCells { t with idx := t.idx + 2 } rqn fuel)
          else t.idx + 2
      else t.idx + 1

theorem lt_getcCells (t : Tape) (rqn : Bool) (f : Nat) : t.idx < t.getcCells rqn f := by
  cases f with
  | zero => exact Nat.lt_succ_self _
  | succ f =>
    unfold getcCells
    split
    · exact Nat.lt_succ_self _
    · split
      · split
        · omega
        · split <;> omega
      · exact Nat.lt_succ_self _

/-- the observable part of `_getc`'s result: the character and the new head position -/
def getcObs (r : Except Unit (Option Char × Tape)) : Except Unit (Option Char × Nat) :=
  match r with
  | .ok (c, u) => .ok (c, u.idx)
  | .error () => .error ()

/-- `_getc` on two tapes with the same head whose lines agree on the cells examined: same
    character, same new head.  The fuels may differ; each must be sufficient for its own tape
    (`line.length + 1` always is). -/
theorem getc_agree (k : Nat) (rqn : Bool) : ∀ (f f' : Nat) (t t' : Tape),
    t.idx = t'.idx → (∀ i, i < k → t.line[i]? = t'.line[i]?) →
    t.line.length < f + t.idx → t'.line.length < f' + t'.idx →
    t.getcCells rqn f ≤ k →
    getcObs (t.getc rqn f) = getcObs (t'.getc rqn f') := by
  intro f
  induction f with
  | zero =>
    intro f' t t' hi hl hf hf' hc
    have h0 : t.line[t.idx]? = none := List.getElem?_eq_none (by omega)
    have h1 : t'.line[t'.idx]? = none := by
      rw [← hi, ← hl _ (Nat.lt_of_lt_of_le (lt_getcCells t rqn 0) hc)]; exact h0
    cases f' with
    | zero => simp only [getc_zero, getcObs, hi]
    | succ f' => rw [getc_zero, getc_succ, h1]; simp only [getcObs, hi]
  | succ f ih =>
    intro f' t t' hi hl hf hf' hc
    have hk : t.idx < k := Nat.lt_of_lt_of_le (lt_getcCells t rqn _) hc
    have h01 : t.line[t.idx]? = t'.line[t'.idx]? := by rw [← hi]; exact hl _ hk
    cases f' with
    | zero =>
      have h1 : t'.line[t'.idx]? = none := List.getElem?_eq_none (by omega)
      rw [h1] at h01
      rw [getc_zero, getc_succ, h01]; simp only [getcObs, hi]
    | succ f' =>
      rw [getc_succ, getc_succ, ← h01, ← hi]
      unfold getcCells at hc
      cases h0 : t.line[t.idx]? with
      | none => simp only [getcObs, hi]
      | some c =>
        rw [h0] at hc
        simp only at hc ⊢
        by_cases hb : (c == '\\' && rqn) = true
        · rw [if_pos hb] at hc ⊢
          rw [if_pos hb]
          have hk1 : t.idx + 1 < k := by
            revert hc; split
            · omega
            · split <;> omega
          rw [← hl _ hk1]
          cases h1 : t.line[t.idx + 1]? with
          | none => rfl
          | some d =>
            rw [h1] at hc
            simp only at hc ⊢
            by_cases hd : (d == '\n') = true
            · rw [if_pos hd] at hc ⊢
              rw [if_pos hd]
              exact ih f' { t with idx := t.idx + 2 } { t' with idx := t.idx + 2 } rfl hl
                (by simp only; omega) (by simp only; omega)
                (Nat.le_trans (Nat.le_max_right _ _) hc)
            · rw [if_neg hd, if_neg hd]; rfl
        · rw [if_neg hb, if_neg hb]; rfl

/-- `_ungetc` depends on the cell before the head only (none if the head is at 0) -/
theorem ungetc_agree (k : Nat) (t t' : Tape) (hi : t.idx = t'.idx)
    (hl : ∀ i, i < k → t.line[i]? = t'.line[i]?) (hc : t.idx ≤ k) :
    t.ungetc.1 = t'.ungetc.1 ∧ t.ungetc.2.idx = t'.ungetc.2.idx ∧
    t.ungetc.2.line = t.line ∧ t'.ungetc.2.line = t'.line := by
  rw [ungetc_eq, ungetc_eq, ← hi]
  by_cases h0 : t.idx = 0
  · simp [h0, ← hi]
  · rw [← hl (t.idx - 1) (by omega)]
    by_cases h1 : (t.line[t.idx - 1]?).isSome = true
    · rw [if_pos ⟨h0, h1⟩, if_pos ⟨h0, h1⟩]; exact ⟨rfl, rfl, rfl, rfl⟩
    · rw [if_neg (fun h => h1 h.2), if_neg (fun h => h1 h.2)]; exact ⟨rfl, hi, rfl, rfl⟩

end Tape

/-- queries whose answer depends on the whole line / on `_added_newline` -/
def Query.readsWhole : Query → Bool
  | .source | .line | .added => true
  | _ => false

namespace Env

/-- 1 + the largest cell `i` whose look-up `line[i]?` the answer to `q` in `e` (and the new head
    position) depends on; 0 if none.  `ungetc` moves the head back iff `idx ≠ 0` and cell `idx-1`
    exists (this is what `line != "" and idx != 0 and idx ≤ len(line)` amounts to).
    For the `readsWhole` queries the value 0 is a dummy: they are excluded separately. -/
def cells (e : Env) : Query → Nat
  | .getc rqn => e.tape.getcCells rqn (e.tape.line.length + 1)
  | .ungetc => e.tape.idx
  | _ => 0

/-- same head, lines agree on all cells `< k` (content and existence), same options and store;
    `added` and the rest of the lines are unconstrained -/
def PrefixAgree (k : Nat) (e e' : Env) : Prop :=
  e.tape.idx = e'.tape.idx ∧ (∀ i, i < k → e.tape.line[i]? = e'.tape.line[i]?) ∧
  e.strict = e'.strict ∧ e.proceed = e'.proceed ∧ e.touched = e'.touched

theorem prefixAgree_of_take {k : Nat} {e e' : Env} (hi : e.tape.idx = e'.tape.idx)
    (hl : e.tape.line.take k = e'.tape.line.take k) (hs : e.strict = e'.strict)
    (hp : e.proceed = e'.proceed) (ht : e.touched = e'.touched) : PrefixAgree k e e' := by
  refine ⟨hi, ?_, hs, hp, ht⟩
  intro i h
  have := congrArg (·[i]?) hl
  simpa [List.getElem?_take, h] using this

theorem answer_prefixAgree {k : Nat} {e e' : Env} (h : PrefixAgree k e e') (q : Query)
    (hq : q.readsWhole = false) (hc : e.cells q ≤ k) :
    (e.answer q).1 = (e'.answer q).1 ∧ PrefixAgree k (e.answer q).2 (e'.answer q).2 := by
  obtain ⟨tp, st, pr, tc⟩ := e
  obtain ⟨tp', st', pr', tc'⟩ := e'
  obtain ⟨hi, hl, h2, h3, h4⟩ := h
  simp only at hi hl h2 h3 h4
  subst h2 h3 h4
  cases q with
  | getc rqn =>
    have key := Tape.getc_agree k rqn (tp.line.length + 1) (tp'.line.length + 1) tp tp' hi hl
      (by omega) (by omega) hc
    simp only [answer]
    cases h1 : tp.getc rqn (tp.line.length + 1) with
    | error u =>
      cases h2 : tp'.getc rqn (tp'.line.length + 1) with
      | error u' => exact ⟨rfl, hi, hl, rfl, rfl, rfl⟩
      | ok r' => rw [h1, h2] at key; obtain ⟨c', u'⟩ := r'; cases key
    | ok r =>
      obtain ⟨c, u⟩ := r
      cases h2 : tp'.getc rqn (tp'.line.length + 1) with
      | error u' => rw [h1, h2] at key; cases key
      | ok r' =>
        obtain ⟨c', u'⟩ := r'
        rw [h1, h2] at key
        simp only [Tape.getcObs, Except.ok.injEq, Prod.mk.injEq] at key
        obtain ⟨rfl, hu⟩ := key
        refine ⟨rfl, hu, ?_, rfl, rfl, rfl⟩
        show ∀ i, i < k → u.line[i]? = u'.line[i]?
        rw [(Tape.getc_frame rqn _ _ _ _ h1).1, (Tape.getc_frame rqn _ _ _ _ h2).1]
        exact hl
  | ungetc =>
    obtain ⟨g1, g2, g3, g4⟩ := Tape.ungetc_agree k tp tp' hi hl hc
    refine ⟨g1, g2, ?_, rfl, rfl, rfl⟩
    show ∀ i, i < k → tp.ungetc.2.line[i]? = tp'.ungetc.2.line[i]?
    rw [g3, g4]; exact hl
  | idx => exact ⟨hi, hi, hl, rfl, rfl, rfl⟩
  | bump => exact ⟨rfl, congrArg (· + 1) hi, hl, rfl, rfl, rfl⟩
  | source => cases hq
  | line => cases hq
  | added => cases hq
  | optStrict => exact ⟨rfl, hi, hl, rfl, rfl, rfl⟩
  | optProceed => exact ⟨rfl, hi, hl, rfl, rfl, rfl⟩
  | syntab c =>
    refine ⟨rfl, ?_⟩
    simp only [answer]
    cases tc.contains c <;> exact ⟨hi, hl, rfl, rfl, rfl⟩

end Env

namespace Q
variable {α : Type}

/-- 1 + the largest tape cell examined during the run from `e` (0 if none) -/
def maxCell : Q α → Env → Nat
  | .pure _, _ => 0
  | .ask q k, e => max (e.cells q) (maxCell (k (e.answer q).1) (e.answer q).2)

theorem cells_le_maxCell (p : Q α) : ∀ (e : Env) (s : Env × Query), s ∈ steps p e →
    s.1.cells s.2 ≤ maxCell p e := by
  induction p with
  | pure a => intro e s h; cases h
  | ask q k ih =>
    intro e s h
    rw [steps_ask] at h
    rcases List.mem_cons.1 h with rfl | h
    · exact Nat.le_max_left _ _
    · exact Nat.le_trans (ih _ _ s h) (Nat.le_max_right _ _)

/-- **C13.**  If the run from `e` asks none of `.source`, `.line`, `.added` and examines only
    cells `< k`, then from every `e'` with the same head position, options and store whose line
    agrees with `e`'s on the cells `< k` the run returns the same result, makes the same queries
    with the same answers, and ends with the same head position (and options, store). -/
theorem run_prefix (p : Q α) (k : Nat) (e e' : Env) (h : Env.PrefixAgree k e e')
    (hq : ∀ q ∈ asked p e, q.readsWhole = false) (hk : maxCell p e ≤ k) :
    (run p e).1 = (run p e').1 ∧ Env.PrefixAgree k (run p e).2 (run p e').2 ∧
    trace p e = trace p e' :=
  run_congr (Env.PrefixAgree k) p e e' h (fun s hs _ hR =>
    Env.answer_prefixAgree hR s.2 (hq _ (mem_asked_of_mem_steps hs))
      (Nat.le_trans (cells_le_maxCell p e s hs) hk))

theorem run_prefix_idx (p : Q α) (k : Nat) (e e' : Env) (h : Env.PrefixAgree k e e')
    (hq : ∀ q ∈ asked p e, q.readsWhole = false) (hk : maxCell p e ≤ k) :
    (run p e).2.tape.idx = (run p e').2.tape.idx ∧ (run p e).2.touched = (run p e').2.touched :=
  ⟨(run_prefix p k e e' h hq hk).2.1.1, (run_prefix p k e e' h hq hk).2.1.2.2.2.2⟩

end Q

namespace Q
variable {α : Type}

/-- C13 with `k` instantiated: the result depends only on the cells the run examines -/
theorem run_prefix_maxCell (p : Q α) (e e' : Env) (h : Env.PrefixAgree (maxCell p e) e e')
    (hq : ∀ q ∈ asked p e, q.readsWhole = false) :
    (run p e).1 = (run p e').1 ∧ (run p e).2.tape.idx = (run p e').2.tape.idx :=
  ⟨(run_prefix p _ e e' h hq (Nat.le_refl _)).1, (run_prefix p _ e e' h hq (Nat.le_refl _)).2.1.1⟩

theorem asked_eq_of_eqModStore (p : Q α) {e e' : Env} (h : Env.EqModStore e e') :
    asked p e = asked p e' := by
  unfold asked; rw [(run_eqModStore p h).2.2]

end Q

/-! ## 3. T7: history independence (C18) -/

/-- a call of an entry point made by a process: a program together with the part of its
    environment that is its own (input tape, options).  The field `env.touched` is ignored: the
    process plugs in the current content of the shared store. -/
structure Job where
  {α : Type}
  prog : Q α
  env : Env

namespace Job

/-- the environment builder: own tape and options, the process's store -/
def envAt (j : Job) (store : List Char) : Env := { j.env with touched := store }
/-- result of the call when the shared store holds `store` -/
def result (j : Job) (store : List Char) : j.α := (Q.run j.prog (j.envAt store)).1
/-- the shared store after the call -/
def storeAfter (j : Job) (store : List Char) : List Char := (Q.run j.prog (j.envAt store)).2.touched
/-- result of the call as the first call of a fresh process -/
def solo (j : Job) : j.α := j.result []
/-- number of queries the call makes -/
def todo (j : Job) : Nat := (Q.asked j.prog (j.envAt [])).length

/-- results of jobs of different types, tagged with the type -/
abbrev Val : Type 1 := Σ α : Type, α
def resultVal (j : Job) (store : List Char) : Val := ⟨j.α, j.result store⟩
def soloVal (j : Job) : Val := ⟨j.α, j.solo⟩

/-- **C18, one call.**  The result of a call does not depend on the shared store. -/
theorem result_eq_solo (j : Job) (store : List Char) : j.result store = j.solo :=
  Q.run_touched_irrelevant j.prog j.env store []

theorem prefix_storeAfter (j : Job) (store : List Char) : store <+: j.storeAfter store :=
  Q.touched_prefix j.prog (j.envAt store)

end Job

/-- a process making the calls `js` one after the other, starting with the store `s`: the list
    of results and the final store -/
def History.run : List Job → List Char → List Job.Val × List Char
  | [], s => ([], s)
  | j :: js, s => (j.resultVal s :: (History.run js (j.storeAfter s)).1,
                   (History.run js (j.storeAfter s)).2)

/-- the store at the moment of the `i`-th call -/
def History.storeBefore (js : List Job) (s : List Char) (i : Nat) : List Char :=
  (History.run (js.take i) s).2

/-- **T7 (history independence, C18).**  Every call in every history returns what it returns as
    the only call of a fresh process. -/
theorem History.results_eq_solo (js : List Job) : ∀ s : List Char,
    (History.run js s).1 = js.map Job.soloVal := by
  induction js with
  | nil => intro s; rfl
  | cons j js ih =>
    intro s
    simp only [History.run, List.map_cons, ih]
    unfold Job.resultVal Job.soloVal
    rw [Job.result_eq_solo]

/-- the same, for the `i`-th call -/
theorem History.result_get (js : List Job) (s : List Char) (i : Nat) (j : Job)
    (h : js[i]? = some j) :
    (History.run js s).1[i]? = some j.soloVal ∧
    j.result (History.storeBefore js s i) = j.solo := by
  refine ⟨?_, Job.result_eq_solo _ _⟩
  rw [History.results_eq_solo, List.getElem?_map, h]; rfl

/-- the store only grows along a history (old entries keep their place) -/
theorem History.store_prefix (js : List Job) : ∀ s : List Char, s <+: (History.run js s).2 := by
  induction js with
  | nil => intro s; exact List.prefix_refl s
  | cons j js ih =>
    intro s
    exact List.IsPrefix.trans (j.prefix_storeAfter s) (ih _)

theorem History.storeBefore_mono (js : List Job) (s : List Char) (i : Nat) :
    History.storeBefore js s i <+: History.storeBefore js s (i + 1) := by
  unfold History.storeBefore
  induction js generalizing s i with
  | nil => simp [History.run]
  | cons j js ih =>
    cases i with
    | zero =>
      simp only [List.take_zero, List.take_succ_cons, History.run]
      exact j.prefix_storeAfter s
    | succ i =>
      simp only [List.take_succ_cons, History.run]
      exact ih _ i

/-! ## 4. T7: interleaving independence (C19) -/

namespace Job

/-- the thread has returned -/
def value? : Job → Option Val
  | ⟨.pure a, _⟩ => some ⟨_, a⟩
  | ⟨.ask _ _, _⟩ => none

/-- one query of the thread against its own environment with the global store plugged in;
    returns the thread's new state and the new global store -/
def step : Job → List Char → Job × List Char
  | ⟨.pure a, e⟩, s => (⟨.pure a, e⟩, s)
  | ⟨.ask q k, e⟩, s =>
    (⟨k (({ e with touched := s } : Env).answer q).1, (({ e with touched := s } : Env).answer q).2⟩,
     (({ e with touched := s } : Env).answer q).2.touched)

/-- **key lemma**: a step of a thread, taken against any store, does not change what the thread
    returns when run alone from the fresh store -/
theorem soloVal_step (j : Job) (s : List Char) : (j.step s).1.soloVal = j.soloVal := by
  obtain ⟨p, e⟩ := j
  cases p with
  | pure a => rfl
  | ask q k =>
    have h := Env.answer_eqModStore (e.eqModStore_setTouched s []) q
    simp only [step, soloVal, solo, result, envAt]
    congr 1
    rw [Q.run_ask, h.1]
    refine (Q.run_eqModStore _ ?_).1
    exact ⟨h.2.1, h.2.2.1, h.2.2.2⟩

theorem todo_step (j : Job) (s : List Char) : (j.step s).1.todo = j.todo - 1 := by
  obtain ⟨p, e⟩ := j
  cases p with
  | pure a => rfl
  | ask q k =>
    have h := Env.answer_eqModStore (e.eqModStore_setTouched s []) q
    simp only [step, todo, envAt, Q.asked_ask, List.length_cons, Nat.add_sub_cancel]
    rw [h.1]
    refine congrArg List.length (Q.asked_eq_of_eqModStore _ ?_)
    exact ⟨h.2.1, h.2.2.1, h.2.2.2⟩

theorem prefix_step (j : Job) (s : List Char) : s <+: (j.step s).2 := by
  obtain ⟨p, e⟩ := j
  cases p with
  | pure a => exact List.prefix_refl s
  | ask q k =>
    simp only [step]
    rw [Env.answer_touched]
    cases q.key with
    | none => exact List.prefix_refl s
    | some c => exact prefix_addKey s c

theorem value?_eq_some_iff_todo (j : Job) : j.value?.isSome = true ↔ j.todo = 0 := by
  obtain ⟨p, e⟩ := j
  cases p with
  | pure a => simp [value?, todo]
  | ask q k => simp [value?, todo]

/-- a thread that has returned holds its solo result -/
theorem value?_eq_soloVal (j : Job) (v : Val) (h : j.value? = some v) : v = j.soloVal := by
  obtain ⟨p, e⟩ := j
  cases p with
  | pure a => simp only [value?, Option.some.injEq] at h; subst h; rfl
  | ask q k => simp [value?] at h

end Job

/-- a pool of threads sharing only the store -/
structure Pool where
  jobs : List Job
  store : List Char

namespace Pool

/-- the scheduler picks thread `i`: it makes one query (nothing happens if there is no such
    thread or it has returned) -/
def step (c : Pool) (i : Nat) : Pool :=
  match c.jobs[i]? with
  | none => c
  | some j => { jobs := c.jobs.set i (j.step c.store).1, store := (j.step c.store).2 }

/-- run a schedule -/
def exec (c : Pool) (sched : List Nat) : Pool := sched.foldl step c

@[simp] theorem exec_nil (c : Pool) : c.exec [] = c := rfl
@[simp] theorem exec_cons (c : Pool) (i : Nat) (sched : List Nat) :
    c.exec (i :: sched) = (c.step i).exec sched := rfl

theorem step_jobs_get (c : Pool) (i n : Nat) :
    (c.step i).jobs[n]? =
      if i = n then (c.jobs[n]?).map (fun j => (j.step c.store).1) else c.jobs[n]? := by
  unfold step
  cases h : c.jobs[i]? with
  | none =>
    simp only
    split
    · next hin => subst hin; rw [h]; rfl
    · rfl
  | some j =>
    simp only [List.getElem?_set]
    split
    · next hin =>
      subst hin
      have hlt : i < c.jobs.length := by
        rcases Nat.lt_or_ge i c.jobs.length with h' | h'
        · exact h'
        · rw [List.getElem?_eq_none h'] at h; cases h
      rw [h]; simp [hlt]
    · rfl

theorem step_length (c : Pool) (i : Nat) : (c.step i).jobs.length = c.jobs.length := by
  unfold step
  cases c.jobs[i]? with
  | none => rfl
  | some j => simp

theorem prefix_step (c : Pool) (i : Nat) : c.store <+: (c.step i).store := by
  unfold step
  cases c.jobs[i]? with
  | none => exact List.prefix_refl _
  | some j => exact j.prefix_step c.store

/-- a step changes no thread's solo result -/
theorem step_soloVal (c : Pool) (i n : Nat) :
    ((c.step i).jobs[n]?).map Job.soloVal = (c.jobs[n]?).map Job.soloVal := by
  rw [step_jobs_get]
  split
  · cases c.jobs[n]? with
    | none => rfl
    | some j => simp only [Option.map_some]; rw [Job.soloVal_step]
  · rfl

theorem step_todo (c : Pool) (i n : Nat) :
    ((c.step i).jobs[n]?).map Job.todo =
      (c.jobs[n]?).map (fun j => j.todo - (if i = n then 1 else 0)) := by
  rw [step_jobs_get]
  split
  · cases c.jobs[n]? with
    | none => rfl
    | some j => simp only [Option.map_some]; rw [Job.todo_step]
  · cases c.jobs[n]? <;> rfl

/-- **invariant of every schedule**: what each thread would return alone from the fresh store -/
theorem exec_soloVal (sched : List Nat) : ∀ (c : Pool) (n : Nat),
    ((c.exec sched).jobs[n]?).map Job.soloVal = (c.jobs[n]?).map Job.soloVal := by
  induction sched with
  | nil => intro c n; rfl
  | cons i sched ih => intro c n; rw [exec_cons, ih, step_soloVal]

theorem exec_length (sched : List Nat) : ∀ c : Pool, (c.exec sched).jobs.length = c.jobs.length := by
  induction sched with
  | nil => intro c; rfl
  | cons i sched ih => intro c; rw [exec_cons, ih, step_length]

/-- the store only grows under every schedule -/
theorem exec_store_prefix (sched : List Nat) : ∀ c : Pool, c.store <+: (c.exec sched).store := by
  induction sched with
  | nil => intro c; exact List.prefix_refl _
  | cons i sched ih => intro c; exact List.IsPrefix.trans (c.prefix_step i) (ih _)

/-- progress: thread `n` has as many queries left as it had, minus the times it was scheduled -/
theorem exec_todo (sched : List Nat) : ∀ (c : Pool) (n : Nat),
    ((c.exec sched).jobs[n]?).map Job.todo =
      (c.jobs[n]?).map (fun j => j.todo - sched.count n) := by
  induction sched with
  | nil => intro c n; simp only [exec_nil, List.count_nil, Nat.sub_zero]
  | cons i sched ih =>
    intro c n
    rw [exec_cons, ih]
    have h := step_todo c i n
    cases h1 : (c.step i).jobs[n]? with
    | none =>
      rw [h1] at h
      cases h2 : c.jobs[n]? with
      | none => rfl
      | some j => rw [h2] at h; cases h
    | some j' =>
      rw [h1] at h
      cases h2 : c.jobs[n]? with
      | none => rw [h2] at h; cases h
      | some j =>
        rw [h2] at h
        simp only [Option.map_some, Option.some.injEq] at h ⊢
        rw [h, List.count_cons]
        by_cases hin : i = n
        · simp [hin]; omega
        · simp [hin]

/-- **T7 (interleaving independence, C19).**  Under every schedule, a thread that has returned
    holds exactly the value it returns when run alone from the fresh store. -/
theorem exec_value (c : Pool) (sched : List Nat) (n : Nat) (j' : Job) (v : Job.Val)
    (hj' : (c.exec sched).jobs[n]? = some j') (hv : j'.value? = some v) :
    ∃ j, c.jobs[n]? = some j ∧ v = j.soloVal := by
  have h := exec_soloVal sched c n
  rw [hj'] at h
  cases h2 : c.jobs[n]? with
  | none => rw [h2] at h; cases h
  | some j =>
    rw [h2] at h
    simp only [Option.map_some, Option.some.injEq] at h
    exact ⟨j, rfl, (Job.value?_eq_soloVal j' v hv).trans h⟩

/-- the same without type tags -/
theorem exec_pure {α : Type} (c : Pool) (sched : List Nat) (n : Nat) (a : α) (e' : Env)
    (h : (c.exec sched).jobs[n]? = some ⟨.pure a, e'⟩) :
    ∃ (p : Q α) (e : Env), c.jobs[n]? = some ⟨p, e⟩ ∧
      (Q.run p { e with touched := [] }).1 = a := by
  obtain ⟨j, hj, hv⟩ := exec_value c sched n _ ⟨α, a⟩ h rfl
  obtain ⟨p, e⟩ := j
  simp only [Job.soloVal, Job.solo, Job.result, Job.envAt] at hv
  cases hv
  exact ⟨p, e, hj, rfl⟩

/-- fairness: a schedule that picks thread `n` at least as often as the thread makes queries
    (a number that does not depend on the schedule) lets it return -/
theorem exec_done (c : Pool) (sched : List Nat) (n : Nat) (j : Job) (hj : c.jobs[n]? = some j)
    (hfair : j.todo ≤ sched.count n) :
    ∃ j', (c.exec sched).jobs[n]? = some j' ∧ j'.value? = some j.soloVal := by
  have h := exec_todo sched c n
  have hs := exec_soloVal sched c n
  rw [hj] at h hs
  cases h1 : (c.exec sched).jobs[n]? with
  | none => rw [h1] at h; cases h
  | some j' =>
    rw [h1] at h hs
    simp only [Option.map_some, Option.some.injEq] at h hs
    refine ⟨j', rfl, ?_⟩
    have h0 : j'.todo = 0 := by omega
    have := (Job.value?_eq_some_iff_todo j').2 h0
    cases hv : j'.value? with
    | none => rw [hv] at this; cases this
    | some v => rw [Job.value?_eq_soloVal j' v hv, hs]

/-- **C19, all threads.**  Under a schedule that is long enough for every thread, all threads
    return, and the list of results is the list of solo results: no interleaving is observable. -/
theorem exec_all (c : Pool) (sched : List Nat)
    (hfair : ∀ n j, c.jobs[n]? = some j → j.todo ≤ sched.count n) :
    (c.exec sched).jobs.map Job.value? = c.jobs.map (fun j => some j.soloVal) := by
  apply List.ext_getElem?
  intro n
  rw [List.getElem?_map, List.getElem?_map]
  cases hj : c.jobs[n]? with
  | none =>
    have : (c.exec sched).jobs[n]? = none := by
      rw [List.getElem?_eq_none_iff, exec_length, ← List.getElem?_eq_none_iff]; exact hj
    rw [this]; rfl
  | some j =>
    obtain ⟨j', h1, h2⟩ := exec_done c sched n j hj (hfair n j hj)
    rw [h1]; simp only [Option.map_some, h2]

/-- such a schedule exists: e.g. run the threads to completion one after the other -/
def seqSchedule (js : List Job) : List Nat :=
  go js 0
where
  go : List Job → Nat → List Nat
    | [], _ => []
    | j :: js, i => List.replicate j.todo i ++ go js (i + 1)

theorem seqSchedule_fair (js : List Job) : ∀ n j, js[n]? = some j →
    j.todo ≤ (seqSchedule js).count n := by
  have key : ∀ (js : List Job) (b n : Nat) (j : Job), js[n]? = some j →
      j.todo ≤ (seqSchedule.go js b).count (b + n) := by
    intro js
    induction js with
    | nil => intro b n j h; cases h
    | cons j0 js ih =>
      intro b n j h
      cases n with
      | zero =>
        simp only [List.getElem?_cons_zero, Option.some.injEq] at h
        subst h
        simp [seqSchedule.go, List.count_append]
      | succ n =>
        simp only [List.getElem?_cons_succ] at h
        have := ih (b + 1) n j h
        simp only [seqSchedule.go, List.count_append]
        have e : b + 1 + n = b + (n + 1) := by omega
        rw [e] at this
        omega
  intro n j h
  simpa [seqSchedule] using key js 0 n j h

end Pool

namespace Pool

/-- no interleaving is observable under the sequential schedule (in particular the hypothesis of
    `exec_all` is satisfiable for every pool) -/
theorem exec_seqSchedule (c : Pool) :
    (c.exec (seqSchedule c.jobs)).jobs.map Job.value? = c.jobs.map (fun j => some j.soloVal) :=
  exec_all c _ (seqSchedule_fair c.jobs)

end Pool

/-! ## 5. The model monad `M` and the entry points -/

namespace M
variable {α : Type}

/-- queries made by `m` started in local state `l` and environment `e` -/
def asked (m : M α) (l : Local) (e : Env) : List Query := Q.asked (m l) e
/-- 1 + the largest cell of the caller's input examined -/
def maxCell (m : M α) (l : Local) (e : Env) : Nat := Q.maxCell (m l) e

theorem run_touched_irrelevant (m : M α) (l : Local) (e : Env) (t t' : List Char) :
    (m.run l { e with touched := t }).1 = (m.run l { e with touched := t' }).1 ∧
    (m.run l { e with touched := t }).2.tape = (m.run l { e with touched := t' }).2.tape :=
  ⟨Q.run_touched_irrelevant (m l) e t t', Q.tape_touched_irrelevant (m l) e t t'⟩

theorem touched_prefix (m : M α) (l : Local) (e : Env) : e.touched <+: (m.run l e).2.touched :=
  Q.touched_prefix (m l) e

theorem run_prefix (m : M α) (l : Local) (k : Nat) (e e' : Env) (h : Env.PrefixAgree k e e')
    (hq : ∀ q ∈ asked m l e, q.readsWhole = false) (hk : maxCell m l e ≤ k) :
    (m.run l e).1 = (m.run l e').1 ∧ (m.run l e).2.tape.idx = (m.run l e').2.tape.idx ∧
    (m.run l e).2.touched = (m.run l e').2.touched :=
  ⟨(Q.run_prefix (m l) k e e' h hq hk).1, Q.run_prefix_idx (m l) k e e' h hq hk⟩

end M

/-! ### one top-level parser run: `runParser` -/

/-- the queries one top-level parser run makes -/
def runParserAsked (s : Str) (o : Opts) (t : List Char) : List Query :=
  (parserRun maxDepth).asked { limit := o.limit } (runParserEnv s o t)

theorem runParser_eq (s : Str) (o : Opts) (t : List Char) :
    runParser s o t =
      ((((parserRun maxDepth).run { limit := o.limit } (runParserEnv s o t)).1).map (·.1),
       ((parserRun maxDepth).run { limit := o.limit } (runParserEnv s o t)).2.touched) := rfl

/-- **C17 for one parser run**: if the run does not read an option, its value is irrelevant -/
theorem runParser_opt_irrelevant (F : OptField) (s : Str) (o : Opts) (t : List Char) (b : Bool)
    (h : F.q ∉ runParserAsked s o t) : runParser s (F.setOpts b o) t = runParser s o t := by
  have h1 := F.run_irrelevant (parserRun maxDepth { limit := o.limit }) (runParserEnv s o t) b h
  rw [runParser_eq, runParser_eq, F.env_setOpts, F.limit_setOpts]
  unfold M.run
  rw [h1.1, h1.2.1, (F.rest_set b _).2]

/-- **C18 for one parser run**: the outcome does not depend on the content of `sh_syntaxtab` -/
theorem runParser_touched_irrelevant (s : Str) (o : Opts) (t t' : List Char) :
    (runParser s o t).1 = (runParser s o t').1 := by
  rw [runParser_eq, runParser_eq]
  exact congrArg (Except.map (·.1))
    (M.run_touched_irrelevant (parserRun maxDepth) { limit := o.limit } (runParserEnv s o []) t t').1

theorem runParser_store_prefix (s : Str) (o : Opts) (t : List Char) : t <+: (runParser s o t).2 := by
  rw [runParser_eq]
  exact M.touched_prefix (parserRun maxDepth) { limit := o.limit } (runParserEnv s o t)

/-- **C13 for one parser run**: two inputs whose tapes agree on the cells the run examines
    give the same outcome -/
theorem runParser_prefix (s s' : Str) (o : Opts) (t : List Char) (k : Nat)
    (hl : ∀ i, i < k → (Tape.ofInput s).line[i]? = (Tape.ofInput s').line[i]?)
    (hq : ∀ q ∈ runParserAsked s o t, q.readsWhole = false)
    (hk : (parserRun maxDepth).maxCell { limit := o.limit } (runParserEnv s o t) ≤ k) :
    runParser s o t = runParser s' o t := by
  have h := M.run_prefix (parserRun maxDepth) { limit := o.limit } k (runParserEnv s o t)
    (runParserEnv s' o t)
    ⟨(Tape.ofInput_idx s).trans (Tape.ofInput_idx s').symm, hl, rfl, rfl, rfl⟩ hq hk
  rw [runParser_eq, runParser_eq, h.1, h.2.2]

/-! ### `parsesingle`, `parse` -/

theorem parsesingle_opt_irrelevant (F : OptField) (s : Str) (o : Opts) (b : Bool)
    (h : F.q ∉ runParserAsked s o []) : parsesingle s (F.setOpts b o) = parsesingle s o := by
  unfold parsesingle; rw [runParser_opt_irrelevant F s o [] b h]

theorem parsesingle_strict_irrelevant (s : Str) (o : Opts) (b : Bool)
    (h : Query.optStrict ∉ runParserAsked s o []) :
    parsesingle s { o with strict := b } = parsesingle s o :=
  parsesingle_opt_irrelevant strictField s o b h

theorem parsesingle_proceed_irrelevant (s : Str) (o : Opts) (b : Bool)
    (h : Query.optProceed ∉ runParserAsked s o []) :
    parsesingle s { o with proceed := b } = parsesingle s o :=
  parsesingle_opt_irrelevant proceedField s o b h

/-- the loop of `parse` returns the same parts whatever `sh_syntaxtab` holds when it starts -/
theorem parseLoop_touched_irrelevant (s : Str) (o : Opts) : ∀ (fuel index : Nat) (parts : List Node)
    (t t' : List Char), (parseLoop s o fuel index parts t).1 = (parseLoop s o fuel index parts t').1 := by
  intro fuel
  induction fuel with
  | zero => intro index parts t t'; rfl
  | succ fuel ih =>
    intro index parts t t'
    unfold parseLoop
    split
    · have h := runParser_touched_irrelevant (s.drop index) o t t'
      rcases h1 : runParser (s.drop index) o t with ⟨r, u⟩
      rcases h2 : runParser (s.drop index) o t' with ⟨r', u'⟩
      rw [h1, h2] at h
      simp only at h
      subst h
      cases r with
      | error x => rfl
      | ok n =>
        cases n with
        | none => rfl
        | some part => exact ih _ _ _ _
    · rfl

/-- `bashlex.parse` in a process whose `sh_syntaxtab` already holds the keys `t` -/
def parseFrom (s : Str) (o : Opts) (t : List Char) : Outcome × List Char :=
  match runParser s o t with
  | (.error e, t) => (.exn e, t)
  | (.ok none, t) => (.parts [], t)
  | (.ok (some first), t) =>
    match parseLoop s o (s.length + 1) (max (nextIndex first) 1) [first] t with
    | (.error e, t) => (.exn e, t)
    | (.ok parts, t) => (.parts parts, t)

theorem parseFrom_nil (s : Str) (o : Opts) : parseFrom s o [] = parse s o := rfl

def parsesingleFrom (s : Str) (o : Opts) (t : List Char) : Outcome × List Char :=
  match runParser s o t with
  | (.error e, t) => (.exn e, t)
  | (.ok n, t) => (.single n, t)

theorem parsesingleFrom_nil (s : Str) (o : Opts) : parsesingleFrom s o [] = parsesingle s o := rfl

/-- **C18 for `parse`**: the outcome in any process history is the outcome in a fresh process -/
theorem parseFrom_touched_irrelevant (s : Str) (o : Opts) (t : List Char) :
    (parseFrom s o t).1 = (parse s o).1 := by
  rw [← parseFrom_nil]
  unfold parseFrom
  have h := runParser_touched_irrelevant s o t []
  rcases h1 : runParser s o t with ⟨r, u⟩
  rcases h2 : runParser s o [] with ⟨r', u'⟩
  rw [h1, h2] at h
  simp only at h
  subst h
  cases r with
  | error x => rfl
  | ok n =>
    cases n with
    | none => rfl
    | some first =>
      simp only
      have h3 := parseLoop_touched_irrelevant s o (s.length + 1) (max (nextIndex first) 1) [first] u u'
      rcases h4 : parseLoop s o (s.length + 1) (max (nextIndex first) 1) [first] u with ⟨r1, u1⟩
      rcases h5 : parseLoop s o (s.length + 1) (max (nextIndex first) 1) [first] u' with ⟨r2, u2⟩
      rw [h4, h5] at h3
      simp only at h3
      subst h3
      cases r1 <;> rfl

theorem parsesingleFrom_touched_irrelevant (s : Str) (o : Opts) (t : List Char) :
    (parsesingleFrom s o t).1 = (parsesingle s o).1 := by
  rw [← parsesingleFrom_nil]
  unfold parsesingleFrom
  have h := runParser_touched_irrelevant s o t []
  rcases h1 : runParser s o t with ⟨r, u⟩
  rcases h2 : runParser s o [] with ⟨r', u'⟩
  rw [h1, h2] at h
  simp only at h
  subst h
  cases r <;> rfl

/-- all queries made by the parser runs in the loop of `parse` -/
def parseLoopAsked (s : Str) (o : Opts) : Nat → Nat → List Char → List Query
  | 0, _, _ => []
  | fuel + 1, index, t =>
    if index < s.length then
      runParserAsked (s.drop index) o t ++
        match runParser (s.drop index) o t with
        | (.ok (some part), t') => parseLoopAsked s o fuel (max (nextIndex (part.shift index)) (index + 1)) t'
        | _ => []
    else []

/-- all queries made by all parser runs of `bashlex.parse(s, ...)` -/
def parseAsked (s : Str) (o : Opts) : List Query :=
  runParserAsked s o [] ++
    match runParser s o [] with
    | (.ok (some first), t) => parseLoopAsked s o (s.length + 1) (max (nextIndex first) 1) t
    | _ => []

/-- the loop of `parse` cannot tell the values of an option apart unless a parser run reads it -/
theorem parseLoop_opt_irrelevant (F : OptField) (s : Str) (o : Opts) (b : Bool) :
    ∀ (fuel index : Nat) (parts : List Node) (t : List Char),
    F.q ∉ parseLoopAsked s o fuel index t →
    parseLoop s (F.setOpts b o) fuel index parts t = parseLoop s o fuel index parts t := by
  intro fuel
  induction fuel with
  | zero => intro index parts t _; rfl
  | succ fuel ih =>
    intro index parts t h
    unfold parseLoop
    unfold parseLoopAsked at h
    split
    · next hlt =>
      rw [if_pos hlt, List.mem_append, not_or] at h
      rw [runParser_opt_irrelevant F _ o t b h.1]
      have h2 := h.2
      rcases h1 : runParser (s.drop index) o t with ⟨r, u⟩
      rw [h1] at h2
      cases r with
      | error x => rfl
      | ok n =>
        cases n with
        | none => rfl
        | some part => exact ih _ _ _ h2
    · rfl

/-- **C17 for `parse`**: if no parser run of `parse(s, ...)` reads an option, the outcome is the
    same for the other value -/
theorem parse_opt_irrelevant (F : OptField) (s : Str) (o : Opts) (b : Bool)
    (h : F.q ∉ parseAsked s o) : parse s (F.setOpts b o) = parse s o := by
  unfold parseAsked at h
  rw [List.mem_append, not_or] at h
  unfold parse
  rw [runParser_opt_irrelevant F s o [] b h.1]
  have h2 := h.2
  rcases h1 : runParser s o [] with ⟨r, u⟩
  rw [h1] at h2
  cases r with
  | error x => rfl
  | ok n =>
    cases n with
    | none => rfl
    | some first =>
      simp only
      rw [parseLoop_opt_irrelevant F s o b _ _ _ _ h2]

theorem parse_strict_irrelevant (s : Str) (o : Opts) (b : Bool)
    (h : Query.optStrict ∉ parseAsked s o) : parse s { o with strict := b } = parse s o :=
  parse_opt_irrelevant strictField s o b h

theorem parse_proceed_irrelevant (s : Str) (o : Opts) (b : Bool)
    (h : Query.optProceed ∉ parseAsked s o) : parse s { o with proceed := b } = parse s o :=
  parse_opt_irrelevant proceedField s o b h

/-! ## 6. Examples: the hypotheses are satisfiable -/

namespace Examples

/-- reads a character (removing backslash-newline); for `a` it looks the character up in the
    syntax table and reads the head position, for anything else it reads `strictmode` -/
def demo : Q (Option Char × Bool) :=
  .ask (.getc true) fun c =>
    match c with
    | .ok (some 'a') =>
      .ask (.syntab 'a') fun cls => .ask .idx fun i => .pure (some 'a', cls.brk || i == 3)
    | .ok c => .ask .optStrict fun b => .pure (c, b)
    | .error _ => .pure (none, false)

def env (line : Str) : Env := { tape := Tape.ofInput line }

-- the trace of a three-query run
example : Q.asked demo (env ['a', 'b']) = [.getc true, .syntab 'a', .idx] := by decide
example : Q.asked demo (env ['b']) = [.getc true, .optStrict] := by decide

-- 2a: on input "ab" the option is not read, hence irrelevant ...
example : (Q.run demo { env ['a', 'b'] with strict := false }).1 = (Q.run demo (env ['a', 'b'])).1 :=
  (Q.run_strict_irrelevant demo (env ['a', 'b']) false (by decide)).1
-- ... and on input "b" the results differ, hence it is read
example : Query.optStrict ∈ Q.asked demo (env ['b']) :=
  Q.optStrict_asked_of_ne demo (env ['b']) false (by decide)

-- 2c: on input "\\\nab" the run examines the cells 0, 1, 2 (backslash, newline, `a`) and no more
example : Q.maxCell demo (env ['\\', '\n', 'a', 'b']) = 3 := by decide
example : (Q.run demo (env ['\\', '\n', 'a', 'b'])).1 = (Q.run demo (env ['\\', '\n', 'a'])).1 ∧
    (Q.run demo (env ['\\', '\n', 'a', 'b'])).2.tape.idx =
      (Q.run demo (env ['\\', '\n', 'a'])).2.tape.idx := by
  have h := Q.run_prefix demo 3 (env ['\\', '\n', 'a', 'b']) (env ['\\', '\n', 'a'])
    ⟨rfl, by decide, rfl, rfl, rfl⟩ (by decide) (by decide)
  exact ⟨h.1, h.2.1.1⟩
-- (the two tapes differ from cell 3 on: `b` against the appended newline)
example : (env ['\\', '\n', 'a', 'b']).tape.line[3]? ≠ (env ['\\', '\n', 'a']).tape.line[3]? := by
  decide

-- 2b: the store is irrelevant for the result and grows by the key looked up
example : (Q.run demo { env ['a'] with touched := ['z'] }).1 = (Q.run demo (env ['a'])).1 :=
  Q.run_touched_irrelevant demo (env ['a']) ['z'] []
example : (Q.run demo { env ['a'] with touched := ['z'] }).2.touched = ['z', 'a'] := by decide

-- 3: a history of three calls
def jobs : List Job := [⟨demo, env ['a']⟩, ⟨demo, env ['b']⟩, ⟨Q.query (.syntab 'x'), env []⟩]
example : (History.run jobs ['q']).1 = jobs.map Job.soloVal := History.results_eq_solo jobs _
example : (History.run jobs ['q']).2 = ['q', 'a', 'x'] := by decide

-- 4: a pool of three threads under an unfair-looking but sufficient schedule
def sched : List Nat := [2, 1, 0, 7, 1, 0, 0]
example : ((Pool.mk jobs []).exec sched).jobs.map Job.value? = jobs.map (fun j => some j.soloVal) := by
  refine Pool.exec_all _ _ ?_
  intro n j h
  match n, h with
  | 0, h => cases h; decide
  | 1, h => cases h; decide
  | 2, h => cases h; decide
  | n + 3, h => cases h
example : ((Pool.mk jobs []).exec sched).store = ['x', 'a'] := by decide

end Examples

end Bashlex

/-! ## Axioms -/
section Axioms
open Bashlex
#print axioms Q.replay_trace
#print axioms Q.run_congr
#print axioms Q.run_congr_on
#print axioms OptField.run_irrelevant
#print axioms Q.run_strict_irrelevant
#print axioms Q.run_proceed_irrelevant
#print axioms Q.optStrict_asked_of_ne
#print axioms Q.optProceed_asked_of_ne
#print axioms Q.run_frame
#print axioms Tape.getc_agree
#print axioms Tape.ungetc_agree
#print axioms Q.run_prefix
#print axioms Q.run_prefix_idx
#print axioms Q.run_prefix_maxCell
#print axioms Q.run_eqModStore
#print axioms Q.run_touched_irrelevant
#print axioms Q.run_touched
#print axioms Q.touched_prefix
#print axioms Q.key_mem_touched
#print axioms Q.mem_touched
#print axioms History.results_eq_solo
#print axioms History.result_get
#print axioms History.store_prefix
#print axioms History.storeBefore_mono
#print axioms Job.soloVal_step
#print axioms Pool.exec_value
#print axioms Pool.exec_pure
#print axioms Pool.exec_done
#print axioms Pool.exec_all
#print axioms Pool.exec_seqSchedule
#print axioms Pool.exec_store_prefix
#print axioms M.run_prefix
#print axioms runParser_opt_irrelevant
#print axioms runParser_touched_irrelevant
#print axioms runParser_prefix
#print axioms parsesingle_strict_irrelevant
#print axioms parse_strict_irrelevant
#print axioms parse_proceed_irrelevant
#print axioms parseFrom_touched_irrelevant
#print axioms parsesingleFrom_touched_irrelevant
end Axioms
