import Bashlex.Basic
import Bashlex.Model.Monad
import Bashlex.Model.Ast
import Bashlex.Model.Tokenizer
import Bashlex.Model.Subst
import Bashlex.Model.Actions
import Bashlex.Model.Parse
import Bashlex.LR.Engine
import Bashlex.LR.RealTables
import Bashlex.LR.Sound
import Bashlex.LR.Check
import Bashlex.LR.Real
import Bashlex.Proofs.Hoare
import Bashlex.Proofs.OfInput
import Bashlex.Proofs.TokForms
import Bashlex.Proofs.TokShape
import Bashlex.Proofs.ActionEqns
import Bashlex.Props.C12.AbsEqns
import Bashlex.Serialize
import Bashlex.Spec.PyVal
import Bashlex.Spec.Tree
import Bashlex.Spec.Eval
import Bashlex.Props.C09
import Bashlex.Proofs.QCongr
import Bashlex.Proofs.ClosedExpand
import Bashlex.Props.C15
import Bashlex.Props.C20
import Bashlex.Props.C12.Witness
import Bashlex.Props.C01
import Bashlex.Props.C01.Witness
import Bashlex.Props.C06
import Bashlex.Props.C10
import Bashlex.Props.C13
import Bashlex.Props.C03
import Bashlex.Props.C03.Witness
import Bashlex.Props.C16
import Bashlex.Props.C16.Witness
import Bashlex.Props.C11
import Bashlex.Props.C07
import Bashlex.Props.C07.Witness
import Bashlex.Props.C05
import Bashlex.Props.C05.Witness
import Bashlex.Props.C05.Gaps
import Bashlex.Props.C03Total
import Bashlex.Props.C05Total
import Bashlex.Props.C14
import Bashlex.Props.C04
import Bashlex.Props.C04.Witness
import Bashlex.Props.C16.Stable
import Bashlex.Props.C03.RootEnds
import Bashlex.Props.C05Checked
import Bashlex.Props.C05Token
import Bashlex.Props.C04Total
import Bashlex.Props.C11Total
import Bashlex.Props.C04.Validate
import Bashlex.Props.C05Chars
import Bashlex.Props.C05.TGValidate
import Bashlex.Props.C04Words
import Bashlex.Props.Lex
import Bashlex.Props.C15Gen
import Bashlex.Props.C14More
import Bashlex.Props.C08
import Bashlex.Props.C05Final
import Bashlex.Props.Totals
import Bashlex.Props.C03.RE.Validate
import Bashlex.Props.C02
import Bashlex.Props.C01Engine
import Bashlex.Props.C01Engine.Validate
import Bashlex.Props.ActGen
import Bashlex.Props.C06Split
import Bashlex.Props.Final
import Bashlex.Props.C14Interior
import Bashlex.Props.C01Tight
import Bashlex.Props.C01Loops
import Bashlex.Props.C05Cover
import Bashlex.Props.C05.FValidate2
import Bashlex.Props.C08More
import Bashlex.Props.C14TotalValidate
import Bashlex.Props.C05Cover2
import Bashlex.Props.C05.FValidate3
import Bashlex.Props.HeredocGen
import Bashlex.Props.C08Text
import Bashlex.Props.C01Tight2
import Bashlex.Props.C17Strict
import Bashlex.Props.C17Proceed
import Bashlex.Props.C17Proceed.Examples
import Bashlex.Props.HelpersGen
import Bashlex.Props.C17Strict2
